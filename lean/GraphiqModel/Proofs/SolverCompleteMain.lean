/-
  Proofs/SolverCompleteMain.lean — completeness of the time-reversed solver: after the loop.

  All photon columns are literal; the last `rref` puts the generator `+Z_q` at row `q` (so the two assertions of `solve` hold);
  `inverse_circuit` returns (C11's `STab.inverseCircuit_complete`) gates that only touch
  the emitters with two-qubit gates (`inverseCircuit_gates_ok`), so `_add_gates_from_str` returns; replaying the gates on the
  tableau gives the group of |0…0⟩, whose generators all carry sign `+`, so the final sign loop adds nothing.
  Result: `solve_complete_stabilizer` / `solve_complete_graph`.
-/
import GraphiqModel.Proofs.SolverCompleteInit
import GraphiqModel.Proofs.SolverCompleteInvLoc
import GraphiqModel.Proofs.InnerProductSpec
import GraphiqModel.Proofs.InvTotal
namespace Graphiq.Solver
open Graphiq Graphiq.Cliff PRow STab Tab

/-- independence of the generators over GF(2), stated on the bits: `STab.Indep` (Proofs/CanonShape.lean) with `xb` / `zb`
    unfolded — no non-empty selection of generators multiplies to the identity Pauli string -/
def BitIndep (t : STab) : Prop :=
  ∀ S : Nat → Bool, (∀ j, j < t.n → parityTo t.n (fun i => S i && (t.row i).x j) = false ∧
      parityTo t.n (fun i => S i && (t.row i).z j) = false) → ∀ i, i < t.n → S i = false

/-- linear independence of the symplectic vectors implies independence on the bits -/
theorem linIndep_bits (t : STab) (h : t.LinIndep) : BitIndep t := (STab.linearIndependent_iff_bits t).1 h

/-- the completeness of `inverse_circuit` as a proposition: on every valid stabilizer tableau (real, commuting, INDEPENDENT generators —
    for dependent generators `canonical_form` hits its final assertion) it returns and reaches |0…0⟩.  It is the theorem
    `STab.inverseCircuit_complete` (C11), which the proofs of this chain call directly; only `solve_complete_graph_flag` still
    takes it as a parameter. -/
def InvComplete : Prop :=
  ∀ t : STab, t.Good → BitIndep t → ∃ t' c, t.inverseCircuit = .ok (t', c) ∧ t'.isZero = true

/-! ### the last `rref`: the photon generators sit on the diagonal -/

theorem lit_witness_piv (t : STab) (piv : Nat → Nat) (he : Echelon t piv) (q w : Nat) (hw : w < t.n)
    (hrow : EqOn t.n (t.row w) (Zq q)) : piv w = q := by
  have hl := he.lead w hw
  have := ptype_of_Zq t w q (piv w) hl.1 hrow
  by_cases e : piv w = q
  · exact e
  · rw [if_neg e] at this; exact absurd this hl.2.2

/-- in the echelon gauge with all photon columns literal, generator `q` leads at photon `q` -/
theorem echelon_lit_piv (t : STab) (piv : Nat → Nat) (he : Echelon t piv) (np : Nat) (hnp : np ≤ t.n)
    (hlit : ∀ q, q < np → t.Lit q) : ∀ q, q < np → piv q = q := by
  intro q
  induction q using Nat.strong_induction_on with
  | _ q ih =>
    intro hq
    obtain ⟨w, hw, hrow, _⟩ := hlit q hq
    have hpw := lit_witness_piv t piv he q w hw hrow
    rcases Nat.lt_trichotomy w q with h | h | h
    · have := ih w h (by omega)
      omega
    · rw [← h]; rw [h] at hpw; rw [h]; exact hpw
    · exfalso
      have hs := (he.sorted q w h hw).1
      rw [hpw] at hs
      rcases Nat.lt_or_eq_of_le hs with h2 | h2
      · have h3 := ih (piv q) h2 (by omega)
        have := piv_unique t piv he (piv q) (hlit (piv q) (by omega)) q (piv q) (by omega) (by omega) rfl h3
        omega
      · have := piv_unique t piv he q (hlit q hq) q w (by omega) hw h2 hpw
        omega

theorem echelon_lit_rows (t : STab) (piv : Nat → Nat) (he : Echelon t piv) (np : Nat) (hnp : np ≤ t.n)
    (hlit : ∀ q, q < np → t.Lit q) : ∀ q, q < np → EqOn t.n (t.row q) (Zq q) := by
  intro q hq
  obtain ⟨w, hw, hrow, _⟩ := hlit q hq
  have h1 := echelon_lit_piv t piv he np hnp hlit q hq
  have h2 := lit_witness_piv t piv he q w hw hrow
  have := piv_unique t piv he q (hlit q hq) q w (by omega) hw h1 h2
  subst this; exact hrow

/-! ### replaying the gate list of `inverse_circuit` -/

/-- what `_add_gates_from_str` applies to the tableau for one entry of the list (`CZ` is replayed as `H; CNOT; H`) -/
def expand1 : Gate → List Gate
  | .CZ c t => [.H t, .CNOT c t, .H t]
  | g => [g]

theorem actCirc_expand1 (g : Gate) (a : PRow) : actCirc (expand1 g) a = g.act a := by
  cases g <;> rfl

theorem actCirc_flatMap (gl : List Gate) (a : PRow) : actCirc (gl.flatMap expand1) a = actCirc gl a := by
  induction gl generalizing a with
  | nil => rfl
  | cons g rest ih =>
    rw [List.flatMap_cons, actCirc_app, actCirc_expand1, ih]
    rfl

/-- a returned entry of the replay: the tableau follows the gate (`CZ` as `H; CNOT; H`) -/
theorem gateStep_tracks (t0 : STab) (acc a' : St) (c : List Gate) (g : Gate) (hwf : g.WF t0.n) (htr : Tracks t0 ⟨acc.t, c⟩)
    (h : gateStep acc g = .ok a') : Tracks t0 ⟨a'.t, c ++ expand1 g⟩ := by
  -- a wrapper leaves the tableau alone, then the gate
  have wrap : ∀ (b b1 : St) (l : List Gate) (gs : List Gen) (q : Nat) (G : Gate), G.WF t0.n → Tracks t0 ⟨b.t, l⟩ →
      addOneQubit b gs q = .ok b1 → Tracks t0 ⟨(b1.gate G).t, l ++ [G]⟩ := by
    intro b b1 l gs q G hG tr h1
    show Tracks t0 ⟨(b1.t.applyGate G).norm, l ++ [G]⟩
    rw [(addOneQubit_t b b1 gs q h1).1]
    exact tracks_gate t0 ⟨b.t, l⟩ _ tr (tr.n_eq ▸ hG)
  have cnot : ∀ (b : St) (l : List Gate) (c' t' : Nat), b.np ≤ c' → b.np ≤ t' → (Gate.CNOT c' t').WF t0.n → Tracks t0 ⟨b.t, l⟩ →
      Tracks t0 ⟨(addEmitterCnot b (c' - b.np) (t' - b.np)).t, l ++ [.CNOT c' t']⟩ := by
    intro b l c' t' hc ht hG tr
    show Tracks t0 ⟨(b.t.applyGate (.CNOT (b.np + (c' - b.np)) (b.np + (t' - b.np)))).norm, l ++ [.CNOT c' t']⟩
    rw [Nat.add_sub_cancel' hc, Nat.add_sub_cancel' ht]
    exact tracks_gate t0 ⟨b.t, l⟩ _ tr (tr.n_eq ▸ hG)
  rcases gateStep_of_ok acc a' g h with ⟨q, gs, a1, hw, h1, rfl⟩ | ⟨c', t', rfl, hc, ht, rfl⟩ | ⟨c', t', a1, a3, rfl, hc, ht, h1, h3, rfl⟩
  · have e : expand1 g = [g] := by cases g <;> first | rfl | cases hw
    rw [e]
    exact wrap acc a1 c gs q g hwf htr h1
  · exact cnot acc c c' t' hc ht hwf htr
  · have tr1 := wrap acc a1 c _ t' (.H t') hwf.2.1 htr h1
    have e1 : (a1.gate (.H t')).np = acc.np := (addOneQubit_t acc a1 _ t' h1).2.1
    have tr2 := cnot (a1.gate (.H t')) _ c' t' (e1 ▸ hc) (e1 ▸ ht) hwf tr1
    rw [e1] at tr2
    have tr3 := wrap _ a3 _ _ t' (.H t') hwf.2.1 tr2 h3
    rw [List.append_assoc, List.append_assoc] at tr3
    exact tr3

theorem addGatesFromStr_tracks (t0 : STab) (gl : List Gate) (hwf : ∀ g, g ∈ gl → g.WF t0.n) (acc : St) (c : List Gate)
    (htr : Tracks t0 ⟨acc.t, c⟩) (s' : St) (h : addGatesFromStr acc gl = .ok s') : Tracks t0 ⟨s'.t, c ++ gl.flatMap expand1⟩ := by
  rw [addGatesFromStr_eq] at h
  induction gl generalizing acc c with
  | nil =>
    simp only [List.foldlM, pure, Except.pure] at h
    injection h with h
    subst h
    simpa using htr
  | cons g rest ih =>
    simp only [List.foldlM] at h
    cases h1 : gateStep acc g with
    | error e => rw [h1] at h; simp [bind, Except.bind] at h
    | ok a1 =>
      rw [h1] at h
      simp only [bind, Except.bind] at h
      have := ih (fun g' hg' => hwf g' (List.mem_cons_of_mem _ hg')) a1 (c ++ expand1 g)
        (gateStep_tracks t0 acc a1 c g (hwf g List.mem_cons_self) htr h1) h
      rw [List.flatMap_cons, ← List.append_assoc]; exact this

theorem gateStep_ok (acc : St) (g : Gate) (hok : STab.Gate.okFor acc.np g) : ∃ acc', gateStep acc g = .ok acc' := by
  have wrap : ∀ (b : St) (gs : List Gen) (q : Nat) (G : Gate), ∃ b', (addOneQubit b gs q).map (fun (x : St) => x.gate G) = .ok b' := by
    intro b gs q G
    obtain ⟨b1, h1⟩ := addOneQubit_ok b gs q
    exact ⟨b1.gate G, by rw [h1]; rfl⟩
  cases g with
  | H q => exact wrap acc _ q _
  | P q => exact wrap acc _ q _
  | X q => exact wrap acc _ q _
  | CNOT c t =>
    have hct : acc.np ≤ c ∧ acc.np ≤ t := hok
    exact ⟨addEmitterCnot acc (c - acc.np) (t - acc.np), by unfold gateStep; simp only [if_pos hct]⟩
  | CZ c t =>
    have hct : acc.np ≤ c ∧ acc.np ≤ t := hok
    obtain ⟨a1, h1⟩ := addOneQubit_ok acc [.H] t
    obtain ⟨b', h3⟩ := wrap (addEmitterCnot (a1.gate (.H t)) (c - acc.np) (t - acc.np)) [.H] t (.H t)
    exact ⟨b', by unfold gateStep; simp only [if_pos hct, h1]; exact h3⟩
  | Pdag q => exact absurd hok (by simp [STab.Gate.okFor])
  | Y q => exact absurd hok (by simp [STab.Gate.okFor])
  | Z q => exact absurd hok (by simp [STab.Gate.okFor])
  | I q => exact absurd hok (by simp [STab.Gate.okFor])

theorem addGatesFromStr_ok (np : Nat) (gl : List Gate) (hgl : ∀ g, g ∈ gl → STab.Gate.okFor np g) (acc : St) (hnp : acc.np = np) :
    ∃ s', addGatesFromStr acc gl = .ok s' := by
  rw [addGatesFromStr_eq]
  obtain ⟨s', h, _⟩ := Loop.foldlM_ok (f := gateStep) (l := gl) (fun a => a.np = np)
    (fun a g hg ha => by
      obtain ⟨a', h'⟩ := gateStep_ok a g (ha ▸ hgl g hg)
      exact ⟨a', h', (keeps_gateStep a g a' h').np_eq.trans ha⟩) hnp
  exact ⟨s', h⟩

/-- replaying the gate list of `inverse_circuit` (which ends in |0…0⟩) on the tableau it was synthesised from gives the group of |0…0⟩ -/
theorem replay_zero (n : Nat) (t2 t' t3 : STab) (inv : List Gate) (hn2 : t2.n = n) (hg2 : t2.Good)
    (hic : t2.inverseCircuit = .ok (t', inv)) (hz : t'.isZero = true) (tr3 : Tracks t2 ⟨t3, [] ++ inv.flatMap expand1⟩) :
    SpanEq t3 (STab.zero n) := by
  obtain ⟨hn', hg', _, hfwd, hbwd⟩ := inverseCircuit_tracks t2 t' inv hg2 hic
  have hz' : SpanEq t' (STab.zero n) := by
    have := isZero_spanEq t' hg' hz
    rw [hn', hn2] at this; exact this
  refine ⟨tr3.n_eq.trans hn2, fun b hb => ?_, fun b hb => ?_⟩
  · obtain ⟨a, ha, ea⟩ := tr3.bwd b hb
    rw [List.nil_append, actCirc_flatMap] at ea
    refine hz'.sub b (InSpan.eqv _ _ (hfwd a ha) ?_)
    rw [hn']; exact ea
  · obtain ⟨a, ha, ea⟩ := hbwd b (hz'.sup b hb)
    have := tr3.fwd a ha
    rw [List.nil_append, actCirc_flatMap] at this
    refine InSpan.eqv _ _ this ?_
    rw [tr3.n_eq]; exact ea

/-- on a tableau generating the group of |0…0⟩ every generator has sign `+`, so the final sign loop of `solve` changes nothing -/
theorem signLoop_noop (np ne : Nat) (s3 : St) (hs3 : SpanEq s3.t (STab.zero (np + ne))) :
    (List.range ne).foldlM (fun (acc : St) i =>
      if (acc.t.row (np + i)).r then addOneQubit (acc.gate (.X (np + i))) [.X] (np + i) else .ok acc) s3 = .ok s3 := by
  apply Loop.foldlM_const
  intro i hi
  have hi' : i < ne := List.mem_range.mp hi
  have hrow : s3.t.Spn (s3.t.row (np + i)) := spn_gen s3.t _ (by rw [hs3.n_eq]; exact Nat.add_lt_add_left (List.mem_range.mp hi) np)
  have := ((zero_spn_iff _ _).1 (hs3.sub _ hrow)).2.1
  simp only [this, Bool.false_eq_true, if_false]
  rfl

/-- **completeness of the time-reversed solver model, any stabilizer target** (real, commuting, independent generators on at least one
    qubit, none of whose qubits is a product qubit): `solve` returns, and its final
    working tableau generates exactly the signed group of |0…0⟩ -/
theorem solve_complete_stabilizer (target : STab) (hg : target.Good) (hi : target.LinIndep) (hn : 0 < target.n)
    (hnp : ∀ p, p < target.n → target.NotProd p) :
    ∃ s, solve target = .ok s ∧ SpanEq s.t (STab.zero (target.n + s.ne)) := by
  obtain ⟨ne, hdet⟩ := determineNEmitters_ok target hi hn
  have i0 := rinv_init (fun _ => False) target hg hi ne hdet (fun p hp _ => hnp p hp) (fun _ _ h => h.elim)
  obtain ⟨s1, h1, i1⟩ := photonLoop_ok (fun _ => False) target.n ne target.n (fun _ _ h => h) _ i0
  obtain ⟨t2, brs2, piv2, hr2, he2⟩ := rref_ok_of_indep s1.t i1.indep
  have i2 := i1.cops t2 (rref_cops s1.t t2 brs2 hr2)
  have hn2 : t2.n = target.n + ne := i2.n_eq
  have hle2 : target.n ≤ t2.n := hn2 ▸ Nat.le_add_right _ _
  have hlit2 : ∀ q, q < target.n → t2.Lit q := fun q hq => i2.lit q (Nat.zero_le _) hq
  have hrows := echelon_lit_rows t2 piv2 he2 target.n hle2 hlit2
  obtain ⟨t', inv, hic, hz⟩ := t2.inverseCircuit_complete i2.good (linIndep_bits t2 i2.indep)
  obtain ⟨_, _, hwf, _, _⟩ := inverseCircuit_tracks t2 t' inv i2.good hic
  have hok := inverseCircuit_gates_ok t2 t' inv target.n hle2 i2.good hlit2 hic
  obtain ⟨s3, h3⟩ := addGatesFromStr_ok target.n inv hok { s1 with t := t2 } i1.np_eq
  have tr3 := addGatesFromStr_tracks t2 inv hwf { s1 with t := t2 } [] (tracks_init t2 i2.good) s3 h3
  have hne3' : s3.ne = ne := (keeps_addGatesFromStr _ s3 inv h3).ne_eq.trans i1.ne_eq
  have hs3 : SpanEq s3.t (STab.zero (target.n + ne)) := replay_zero _ t2 t' s3.t inv hn2 i2.good hic hz tr3
  -- the two assertions of `solve`: the photon generators sit on the diagonal
  have hokX : ((List.range target.n).all fun i => (List.range target.n).all fun j => !(t2.row i).x j) = true := by
    simp only [List.all_eq_true, List.mem_range, Bool.not_eq_true']
    intro i hi j hj
    rw [((hrows i hi).1 j (Nat.lt_of_lt_of_le hj hle2)).1]; rfl
  have hokZ : ((List.range target.n).all fun i => (List.range target.n).all fun j => (t2.row i).z j == (i == j)) = true := by
    simp only [List.all_eq_true, List.mem_range]
    intro i hi j hj
    rw [((hrows i hi).1 j (Nat.lt_of_lt_of_le hj hle2)).2]
    show (decide (j = i) == (i == j)) = true
    by_cases e : j = i
    · subst e; simp
    · have : ¬ i = j := fun h => e h.symm
      simp [e, this]
  exact ⟨s3, (solve_ok_iff target s3).2 ⟨ne, s1, t2, brs2, t', inv, s3, hdet, h1, hr2, hic, h3, signLoop_noop target.n ne s3 hs3,
    by rw [hokX, hokZ]; rfl⟩, by rw [hne3']; exact hs3⟩

/-- **completeness on graph targets**: every simple graph on at least one vertex without isolated vertex -/
theorem solve_complete_graph (np : Nat) (adj : Nat → Nat → Bool) (hnp : 0 < np)
    (hsym : ∀ i j, adj i j = adj j i) (hirr : ∀ i, adj i i = false) (hiso : ∀ i, i < np → ∃ j, j < np ∧ adj i j = true) :
    ∃ s, solve (graphSTab np adj) = .ok s ∧ SpanEq s.t (STab.zero (np + s.ne)) :=
  solve_complete_stabilizer (graphSTab np adj) (graphSTab_good np adj hsym) (graph_indep np adj) hnp
    (fun p hp => graph_notProd np adj hirr p hp (hiso p hp))

/-! ### targets with an isolated photon: `solve` raises IndexError (finding D3, as a theorem about the model) -/

/-- any stabilizer target some of whose qubits are isolated `X` product qubits (set `I`, non-empty) while the others are not product
    qubits: the loop raises IndexError at the first isolated photon it meets -/
theorem solve_isolated_raises_stabilizer (I : Nat → Prop) (target : STab) (hg : target.Good) (hi : target.LinIndep) (hn : 0 < target.n)
    (hnp : ∀ p, p < target.n → ¬ I p → target.NotProd p) (hx : ∀ p, p < target.n → I p → target.LitX p)
    (hex : ∃ p, p < target.n ∧ I p) : solve target = .error .index := by
  obtain ⟨ne, hdet⟩ := determineNEmitters_ok target hi hn
  have i0 := rinv_init I target hg hi ne hdet hnp hx
  have h1 := photonLoop_err I target.n ne target.n hex _ i0
  have e0 : (List.range ne).foldl (fun (acc : STab) _ => (acc.insertQubit acc.n).norm) target = withEmitters target ne := rfl
  unfold solve
  rw [hdet]; simp only
  rw [e0, h1]

/-- **every graph with an isolated vertex makes the solver raise IndexError** (D3) -/
theorem solve_isolated_raises_graph (np : Nat) (adj : Nat → Nat → Bool) (hsym : ∀ i j, adj i j = adj j i)
    (hirr : ∀ i, adj i i = false) (hex : ∃ p, p < np ∧ ∀ j, j < np → adj p j = false) :
    solve (graphSTab np adj) = .error .index := by
  have hnp0 : 0 < np := by
    obtain ⟨p0, hp0, _⟩ := hex
    omega
  apply solve_isolated_raises_stabilizer (fun p => ∀ j, j < np → adj p j = false) (graphSTab np adj)
    (graphSTab_good np adj hsym) (graph_indep np adj) hnp0
  · intro p hp hI
    apply graph_notProd np adj hirr p hp
    apply Classical.byContradiction
    intro hno
    apply hI
    intro j hj
    cases h : adj p j
    · rfl
    · exact absurd ⟨j, hj, h⟩ hno
  · intro p hp hI
    exact graph_litX np adj hsym p hp hI
  · exact hex

/-- the empty target: `determine_n_emitters` takes `max` of an empty list (ValueError) -/
theorem solve_empty_raises (adj : Nat → Nat → Bool) : solve (graphSTab 0 adj) = .error .value := rfl

end Graphiq.Solver
