/-
  C14 — exporting a circuit and importing it back yields the same circuit.

  Property theorems only (lemmas live in Proofs/Export.lean).  The objects are those of Model/Export.lean: a circuit is
  a register count triple and an operation list; `seq` is the operation list in the order `sequence()` returns it;
  `toOpenqasm`/`fromOpenqasm` are the exporters/importers at the level of *structured statements* with real gate-name
  strings, `toJson`/`fromJson` the JSON pair.  All finite name tables are the literals regenerated from the repository
  on every run, and every table fact below comes from the kernel evaluation over the whole tables (`Export.name_tables`):
  a changed entry that breaks one of them makes it fail.  Character-level rendering/parsing of the text is tied to the
  implementation by the exact-text correspondence run (and by `readNat_showNat`-style lemmas for the register tokens), not
  by these theorems.
-/
import GraphiqModel.Proofs.Export
namespace Graphiq.C14
open Graphiq Graphiq.Export

/-! ## 1. The regenerated name tables round-trip (kernel-checked over the whole table) -/

/-- JSON: `name_to_class_map(class_to_name_mapping(k)) = k` for every exportable class, no JSON name is empty, the name
    is not the wrapper tag, and `from_json` selects the constructor signature that the class has -/
theorem json_name_table_roundtrip (k : Cls) :
    (classToName k).bind nameToClass = some k ∧ classToName k ≠ some [] ∧
    classToName k ≠ some "one qubit gate wrapper".toList ∧ jsonShape k = k.shape :=
  tbl_json k

/-- openQASM: the gate name each one- and two-qubit class is exported under is read back as that class; exactly the
    identity has the empty name; the idiom names of the classically controlled operations resolve to their classes -/
theorem openqasm_name_table_roundtrip :
    (∀ g : G1, g ≠ .I → (gateName (.g1 g)).bind nameToClass = some (.g1 g)) ∧
    (∀ g : G2, (gateName (.g2 g)).bind nameToClass = some (.g2 g)) ∧
    (∀ g : G1, gateName (.g1 g) = some [] ↔ g = .I) ∧
    nameToClass "classical x".toList = some (.gc .CCNOT) ∧ nameToClass "classical z".toList = some (.gc .CCZ) ∧
    nameToClass "classical reset x".toList = some (.gc .MCR) := by
  refine ⟨fun g hg => ?_, fun g => ?_, fun g => ?_, tbl_classical_x, tbl_classical_z, tbl_classical_reset_x⟩
  · rw [gateName_g1]; exact tbl_g1_roundtrip g hg
  · rw [gateName_g2]; exact (tbl_g2 g).1
  · rw [gateName_g1]; simpa using g1Name_nil_iff g

/-- no exportable class needs an import line, and the header passes the importer's check -/
theorem header_accepted : (∀ k : Cls, importStrings k = []) ∧
    (Gen.header.toList.filter fun c => !isWs c) = "OPENQASM2.0;".toList :=
  ⟨tbl_imports_nil, tbl_header⟩

/-! ## 2. Wrapper names: concatenation, the "already defined" shortcut, and the `sdg|.` tokeniser -/

/-- `single_qubit_wrapper_info` never fails; whether or not its "already defined" shortcut fires, the gate applied is
    called by the concatenation of the component names (nothing is applied iff that name is empty) -/
theorem wrapper_info (gs : List G1) : ∃ i, singleQubitWrapperInfo gs = .ok i ∧ i.multi = false ∧
    i.usage = (if wrapName gs = [] then Usage.empty else Usage.one (wrapName gs)) ∧ i.imports = [] := by
  obtain ⟨i, h1, h2, h3, h4, _⟩ := wrapperInfo_spec gs
  exact ⟨i, h1, h2, h3, h4⟩

/-- the importer's tokenisation `re.findall("sdg|.", name)` recovers the component classes of any wrapper name:
    for every list of non-identity one-qubit classes, tokenising the concatenated name and looking each token up gives
    the list back -/
theorem tokenise_inverts_wrapper_name (gs : List G1) (hI : ∀ g ∈ gs, g ≠ .I) :
    (tokenise (wrapName gs)).map nameToClass = gs.map fun g => some (Cls.g1 g) := by
  unfold wrapName
  rw [tokenise_names gs hI, names_classes gs hI]

/-- a concatenation of two or more gate names is never itself a key of `name_to_class_map`, so the importer takes the
    tokenising branch exactly for genuine composites -/
theorem composite_name_is_not_a_key (gs : List G1) (hI : ∀ g ∈ gs, g ≠ .I) (h2 : 2 ≤ gs.length) :
    nameToClass (wrapName gs) = none :=
  concat_not_a_key gs hI h2

/-! ## 3. openQASM round trip, for every circuit (induction over the operation list) -/

/-- **Round trip through openQASM.**  For every circuit `c` and every operation order `seq` whose operations use only
    registers of `c`: exporting succeeds, importing the exported program succeeds, and the imported circuit has the same
    register counts and — operation by operation, in the same order — the normalised operations of `seq`
    (identities dropped, wrappers reduced to their non-identity classes, a one-class wrapper a plain gate). -/
theorem openqasm_roundtrip (c : Circuit) (seq : List Op) (h : ∀ op ∈ seq, InRange c op) :
    (toOpenqasm c seq).bind fromOpenqasm = .ok { ne := c.ne, np := c.np, nc := c.nc, ops := seq.filterMap normOp } :=
  fromOpenqasm_toOpenqasm c seq h

/-- … hence the same sequence of executed (unwrapped, identity-free) operations, in particular on every register -/
theorem openqasm_roundtrip_same_operations (c c' : Circuit) (seq : List Op) (h : ∀ op ∈ seq, InRange c op)
    (himp : (toOpenqasm c seq).bind fromOpenqasm = .ok c') :
    c'.ne = c.ne ∧ c'.np = c.np ∧ c'.nc = c.nc ∧ flat c'.ops = flat seq ∧
    ∀ r : QReg, (flat c'.ops).filter (fun o => o.qRegs.contains r) = (flat seq).filter (fun o => o.qRegs.contains r) := by
  rw [openqasm_roundtrip c seq h] at himp
  injection himp with himp
  subst himp
  refine ⟨rfl, rfl, rfl, flat_filterMap_normOp seq, fun r => ?_⟩
  show (flat (seq.filterMap normOp)).filter _ = _
  rw [flat_filterMap_normOp]

/-! ## 4. JSON round trip -/

/-- **Round trip through JSON**: same registers and exactly the same operation list (wrappers and identities
    included), for every circuit whose operations use existing registers (a `OneQubitGateWrapper` cannot be
    constructed with an empty list, hence `hw`) -/
theorem json_roundtrip (c : Circuit) (seq : List Op) (h : ∀ op ∈ seq, InRange c op)
    (hw : ∀ op ∈ seq, wrapOK op = true) :
    fromJson (toJson c seq) = .ok { ne := c.ne, np := c.np, nc := c.nc, ops := seq } :=
  fromJson_toJson c seq h hw

/-! ## 5. The text read with standard openQASM 2.0 semantics -/

/-- **composite body order = application order** (the list-reversal lemma behind D21): a wrapper whose `operations` list
    is `gs` acts as `gs` reversed (`OneQubitGateWrapper.unwrap`), and the body of the composite gate it defines lists
    exactly those classes' gate names in that (application) order -/
theorem composite_body_is_application_order (gs : List G1) (q : QReg) :
    (compOf gs).body = ((flat [Op.wrap gs q]).filterMap fun o => match o with | .one g _ => some (g1Name g) | _ => none) := by
  rw [flat_wrap]
  show ((gs.filter (· != .I)).map g1Name).reverse = _
  rw [← List.map_reverse]
  generalize (gs.filter (· != .I)).reverse = l
  induction l with
  | nil => rfl
  | cons g rest ih => simp only [List.map_cons, List.filterMap_cons, ih]

/-- every wrapper with two or more non-identity classes that was added to the circuit has its composite definition in
    the header, and every header entry is a class definition or such a composite -/
theorem header_has_the_composites (c : Circuit) : ∃ defs, headerOf c.ops = .ok ([], defs) ∧ (∀ d ∈ defs, EntryOK d) ∧
    ∀ gs q, Op.wrap gs q ∈ c.ops → 2 ≤ (gs.filter (· != .I)).length → compEntry gs ∈ defs :=
  headerOf_comps c.ops

/-- **standard reading.**  For every circuit and every order `seq` of (some of) its operations, the exported program
    read with standard openQASM 2.0 semantics — a call of a composite gate executes its body in textual order, barriers
    do nothing — is exactly the sequence of the circuit's own primitive operations in application order
    (`stdSpec`: wrappers unwrapped, identities dropped, idioms as measure / conditional gate / reset); `stdOfCircuit`,
    which the driver prints for the correspondence run, computes that same sequence. -/
theorem standard_reading (c : Circuit) (seq : List Op) (hsub : ∀ op ∈ seq, op ∈ c.ops) :
    (∃ p, toOpenqasm c seq = .ok p ∧ qasmStd p = stdSpec seq) ∧ stdOfCircuit seq = .ok (stdSpec seq) :=
  ⟨qasmStd_toOpenqasm c seq hsub, stdOfCircuit_spec seq⟩

/-! ## 6. Text level: register tokens of any length survive the slicing of the parser -/

/-- the importer reads register indices with `int(tok[1:-3])` (single-register and target tokens `<t><n>[0]`) and
    `int(tok[1:-4])` (control token `<t><n>[0],`).  For every register — any number of digits — these recover type and
    index from the token the exporter writes, and `int(str(n)) = n` for the model's printer/reader. -/
theorem register_tokens_roundtrip (q : QReg) :
    regToken 3 (q.render ++ "[0]".toList) = .ok (q.t.ch, q.i) ∧
    regToken 4 (q.render ++ "[0],".toList) = .ok (q.t.ch, q.i) ∧
    regTOfChar q.t.ch = some q.t ∧ readNat (showNat q.i) = some q.i :=
  ⟨regToken_single q, regToken_control q, regTOfChar_ch q.t, readNat_showNat q.i⟩

/-! ## 7. Determinism -/

/-- export is a function of (registers, operations as added, `sequence()` order): the model has no other state.
    (That the *implementation* has none — exporting twice, exporting a deep copy, exporting a rebuilt circuit — is what
    the correspondence run checks; this statement only records that nothing else enters the model.) -/
theorem export_deterministic (c₁ c₂ : Circuit) (s₁ s₂ : List Op) (hc : c₁ = c₂) (hs : s₁ = s₂) :
    toOpenqasm c₁ s₁ = toOpenqasm c₂ s₂ ∧ toJson c₁ s₁ = toJson c₂ s₂ := by
  subst hc; subst hs; exact ⟨rfl, rfl⟩

/-! ## Non-vacuity: a concrete circuit meeting the hypotheses (evaluated by the kernel), and what the theorems give on it -/

/-- H e0; W[H,P†,I,Z] p1; CNOT e0→p1; measure-and-reset e1→p0 (c0); classical CZ; Z-measurement; identity; W[I] -/
def demo : Circuit :=
  { ne := 2, np := 2, nc := 1,
    ops := [.one .H ⟨.e, 0⟩, .wrap [.H, .Sdg, .I, .Z] ⟨.p, 1⟩, .ctrl .CNOT ⟨.e, 0⟩ ⟨.p, 1⟩,
            .cctrl .MCR ⟨.e, 1⟩ ⟨.p, 0⟩ 0, .cctrl .CCZ ⟨.e, 1⟩ ⟨.p, 0⟩ 0, .meas ⟨.e, 0⟩ 0, .one .I ⟨.e, 0⟩,
            .wrap [.I] ⟨.p, 1⟩, .wrap [.S, .I] ⟨.p, 0⟩] }

example : ∀ op ∈ demo.ops, InRange demo op := by decide +kernel
example : ∀ op ∈ demo.ops, wrapOK op = true := by decide +kernel
example : (toOpenqasm demo demo.ops).bind fromOpenqasm =
    .ok { ne := 2, np := 2, nc := 1,
          ops := [.one .H ⟨.e, 0⟩, .wrap [.H, .Sdg, .Z] ⟨.p, 1⟩, .ctrl .CNOT ⟨.e, 0⟩ ⟨.p, 1⟩,
                  .cctrl .MCR ⟨.e, 1⟩ ⟨.p, 0⟩ 0, .cctrl .CCZ ⟨.e, 1⟩ ⟨.p, 0⟩ 0, .meas ⟨.e, 0⟩ 0, .one .S ⟨.p, 0⟩] } := by
  rw [openqasm_roundtrip demo demo.ops (by decide +kernel)]
  decide +kernel
example : fromJson (toJson demo demo.ops) = .ok demo :=
  json_roundtrip demo demo.ops (by decide +kernel) (by decide +kernel)
example : (match toOpenqasm demo demo.ops with
    | .ok p => decide (qasmStd p = stdSpec demo.ops) && !(qasmStd p).isEmpty
    | .error _ => false) = true := by
  obtain ⟨p, hp, hstd⟩ := (standard_reading demo demo.ops (fun _ h => h)).1
  have hne : (stdSpec demo.ops).isEmpty = false := by simp [stdSpec, demo, stdSpecOp]
  rw [hp]
  simp [hstd, hne]
example : ∀ g ∈ [G1.H, G1.Sdg, G1.Z], g ≠ G1.I := by decide +kernel
/-- the text-level parser (regexes, slicing) reads the rendered text of the demo program to the same circuit as the
    statement-level parser of the theorems; register e12 has a two-digit index -/
example : (toOpenqasm demo demo.ops).bind (fun p => fromOpenqasmText p.render) = (toOpenqasm demo demo.ops).bind fromOpenqasm := by
  rw [openqasm_roundtrip demo demo.ops (by decide +kernel)]
  decide +kernel
example : fromOpenqasmText "OPENQASM 2.0;\nqreg e0[1];qreg e1[1];qreg e2[1];qreg e3[1];qreg e4[1];qreg e5[1];qreg e6[1];qreg e7[1];qreg e8[1];qreg e9[1];qreg e10[1];qreg e11[1];qreg e12[1];\nCX e12[0], e3[0];".toList =
    .ok ⟨13, 0, 0, [.ctrl .CNOT ⟨.e, 12⟩ ⟨.e, 3⟩]⟩ := by
  -- the literal is `String.ofList` of its characters to the kernel: read them off instead of decoding its UTF-8 bytes
  rw [String.toList_ofList]
  decide +kernel

end Graphiq.C14
