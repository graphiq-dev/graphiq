/-
  Proofs/LCTotal.lean — a run of `is_lc_equivalent` in closed form (`isLcEquivalent_run`): the echelon matrix of the pivot rows with
  the setting `BasisCtx` of LCTotalBasis (`reduce_run`: none of the three assertions can fire), then the three searches as a
  function of the basis (`search`).  Totality, the search paths, soundness of every `yes`, exhaustiveness of the small search and
  the full-rank shortcut are read off it.
-/
import GraphiqModel.Proofs.LCTotalBasis
namespace Graphiq.LC
open Graphiq

/-- the searches of `is_lc_equivalent` on a solution basis: all combinations below dimension 5, otherwise the random trials or
    the pair sums -/
def search (n : Nat) (mode : Mode) (draws : List Bool) (m : BMat) (colList : List Nat) (basis : List (List Bool))
    (rank : Int) : Except Err EqOut :=
  if basis.length < 5 then
    match (allCoefs basis.length).find? fun c => isValidClifford n (lin (4 * n) basis c) with
    | some c => .ok { sol := some (lin (4 * n) basis c), rank := rank, dim := basis.length, path := "all-combinations" }
    | none => .ok { sol := none, rank := rank, dim := basis.length, path := "all-combinations" }
  else
    match mode with
    | .rand =>
      match randomChecker n m colList (chunk basis.length draws) 0 with
      | .error e => .error e
      | .ok (sol, k) => .ok { sol := sol, rank := rank, dim := basis.length, path := "random", trials := k }
    | .det =>
      match (pairs basis).find? fun p => isValidClifford n (vxor p.1 p.2) with
      | some p => .ok { sol := some (vxor p.1 p.2), rank := rank, dim := basis.length, path := "pair-sums" }
      | none => .ok { sol := none, rank := rank, dim := basis.length, path := "pair-sums" }
    | .other => .error .value

theorem search_ok (n : Nat) (mode : Mode) (draws : List Bool) (m : BMat) (colList : List Nat) (basis : List (List Bool))
    (rank : Int) (out : EqOut) (e : search n mode draws m colList basis rank = .ok out) :
    (out.path = "all-combinations" ∧ out.sol =
        ((allCoefs basis.length).find? fun c => isValidClifford n (lin (4 * n) basis c)).map (lin (4 * n) basis)) ∨
    (out.path = "random" ∧ mode = .rand ∧
        ∃ k, randomChecker n m colList (chunk basis.length draws) 0 = .ok (out.sol, k)) ∨
    (out.path = "pair-sums" ∧ mode = .det ∧ out.sol =
        ((pairs basis).find? fun p => isValidClifford n (vxor p.1 p.2)).map fun p => vxor p.1 p.2) := by
  unfold search at e
  split at e
  · split at e <;> (rename_i hfind; cases e; exact Or.inl ⟨rfl, by rw [hfind]; rfl⟩)
  · cases mode with
    | other => cases e
    | det =>
      simp only [] at e
      split at e <;> (rename_i hfind; cases e; exact Or.inr (Or.inr ⟨rfl, rfl, by rw [hfind]; rfl⟩))
    | rand =>
      simp only [] at e
      split at e
      · cases e
      · rename_i sol k er
        cases e
        exact Or.inr (Or.inl ⟨rfl, rfl, k, er⟩)

theorem randomChecker_total (n : Nat) (m : BMat) (colList : List Nat)
    (h : ∀ bits, ∃ s, vecSolutionFinder m colList bits = .ok s) (ts : List (List Bool)) (k0 : Nat) :
    ∃ r, randomChecker n m colList ts k0 = .ok r := by
  induction ts generalizing k0 with
  | nil => exact ⟨_, rfl⟩
  | cons t rest ih =>
    obtain ⟨s, hs⟩ := h t
    simp only [randomChecker, hs]
    split
    · exact ⟨_, rfl⟩
    · exact ih (k0 + 1)

theorem search_total (n : Nat) (mode : Mode) (hmode : mode ≠ .other) (draws : List Bool) (m : BMat) (colList : List Nat)
    (basis : List (List Bool)) (rank : Int) (h : ∀ bits, ∃ s, vecSolutionFinder m colList bits = .ok s) :
    ∃ out, search n mode draws m colList basis rank = .ok out := by
  unfold search
  split
  · split <;> exact ⟨_, rfl⟩
  · cases mode with
    | other => exact absurd rfl hmode
    | det =>
      simp only []
      split <;> exact ⟨_, rfl⟩
    | rand =>
      simp only []
      obtain ⟨r, hr⟩ := randomChecker_total n m colList h (chunk basis.length draws) 0
      rw [hr]
      exact ⟨_, rfl⟩

theorem BasisCtx.good {m : BMat} {k : Nat} {piv : Nat → Nat} {colList : List Nat} {ainv : BMat}
    (h : BasisCtx m k piv colList ainv) :
    ∀ v ∈ (List.range colList.length).map (basisVec m colList ainv), GoodVec m v := by
  intro v hv
  obtain ⟨i, hi, rfl⟩ := List.mem_map.mp hv
  exact ⟨basisVec_length h i, basisVec_solves h i (List.mem_range.mp hi)⟩

/-- so `_solution_basis_finder` returns them: its reshape, its inverse and its final assertion succeed -/
theorem solutionBasisFinder_of_ctx {m : BMat} {k : Nat} {piv : Nat → Nat} {colList : List Nat} {ainv : BMat}
    (h : BasisCtx m k piv colList ainv) :
    solutionBasisFinder m colList = .ok ((List.range colList.length).map (basisVec m colList ainv)) := by
  unfold solutionBasisFinder
  rw [if_neg (fun hh => hh.2 h.shape), h.hinv]
  simp only []
  rw [if_pos]
  rw [List.all_eq_true]
  intro v hv
  rw [(h.good v hv).1, (solves_iff m v).mpr (h.good v hv).2]
  simp

/-- **the reduction half of `is_lc_equivalent`** on a coefficient matrix whose first row is not zero: the rank `k` is positive,
    the non-zero rows of `row_reduction`'s output are the rows `0 … k-1`, the matrix `m` of those rows is in echelon form and has
    the solutions of `coeff`, and below full rank `_col_finder` and the exact inverse are as `BasisCtx` says -/
theorem reduce_run (coeff z : BMat) (hr : 0 < coeff.r) (hc : 1 < coeff.c) (hne : coeff.f 0 1 = true) :
    ∃ (k : Nat) (piv : Nat → Nat), 0 < k ∧ (rowReduction coeff z).2.2 + 1 = (k : Int) ∧
      nonzeroRows (rowReduction coeff z).1 = List.range k ∧
      (selectRows (rowReduction coeff z).1 (List.range k)).norm.r = k ∧
      (selectRows (rowReduction coeff z).1 (List.range k)).norm.c = coeff.c ∧
      Piv (selectRows (rowReduction coeff z).1 (List.range k)).norm k coeff.c piv ∧
      (∀ i, i < k → ∀ j, j < piv i → (selectRows (rowReduction coeff z).1 (List.range k)).norm.f i j = false) ∧
      (∀ v, SolF (selectRows (rowReduction coeff z).1 (List.range k)).norm v ↔ SolF coeff v) ∧
      (k < coeff.c → ∃ ainv, BasisCtx (selectRows (rowReduction coeff z).1 (List.range k)).norm k piv
        (colFinder (selectRows (rowReduction coeff z).1 (List.range k)).norm) ainv) := by
  obtain ⟨piv, hP, hE, hkr, hnn⟩ := rowReduction_ech coeff z hr (by omega)
  have hspec := fun v => rowReduction_spec coeff z v hr
  have h2 := (hspec fun _ => false).2.1
  generalize hred : (rowReduction coeff z).1 = red at *
  generalize hlast : (rowReduction coeff z).2.2 = last at *
  have hkI : ((last + 1).toNat : Int) = last + 1 := Int.toNat_of_nonneg hnn
  generalize hk : (last + 1).toNat = k at *
  have hkeep : nonzeroRows red = List.range k := nonzeroRows_ech red k piv hP hE hkr
  -- the rank is positive: the first row of the coefficient matrix is not zero
  have hk0 : 0 < k := by
    rcases Nat.eq_zero_or_pos k with e | e
    · exfalso
      have hsol : SolF red (fun j => decide (j = 1)) := by
        intro i hi
        unfold rowDot
        apply parityTo_zero
        intro j hj
        rw [hE.low i (by omega) hi j hj]; rfl
      have := ((hspec _).2.2.mp hsol) 0 hr
      unfold rowDot at this
      rw [parityTo_one coeff.c 1 _ hc (fun j _ hj => by simp [hj]), hne] at this
      simp at this
    · exact e
  obtain ⟨mr, mc, mP, mL⟩ := selectRows_ech red k piv hP hE hkr
  have hsol : ∀ v, SolF (selectRows red (List.range k)).norm v ↔ SolF coeff v := fun v => by
    rw [solF_norm, ← hkeep, selectRows_sol, (hspec v).2.2]
  refine ⟨k, piv, hk0, hkI.symm, hkeep, mr, mc.trans h2, h2 ▸ mP, mL, hsol, fun _ => ?_⟩
  generalize (selectRows red (List.range k)).norm = m at *
  have mP' : Piv m k m.c piv := by rw [mc]; exact mP
  have hkeepc := keepCols_eq_pivots m k piv hk0 mr mP' mL
  -- the pivot-column matrix is upper unitriangular
  have hdf : ∀ i t, t < k → (deleteCols m (colFinder m)).f i t = m.f i (piv t) := by
    intro i t ht
    show m.f i ((keepCols m (colFinder m)).getD t 0) = _
    rw [hkeepc]
    simp [List.getD, ht]
  have hsq : (deleteCols m (colFinder m)).r = (deleteCols m (colFinder m)).c := by
    show m.r = (keepCols m (colFinder m)).length
    rw [hkeepc, mr]; simp
  have huni : UpperUni (deleteCols m (colFinder m)).r (deleteCols m (colFinder m)).f := by
    have hdr : (deleteCols m (colFinder m)).r = k := mr
    rw [hdr]
    refine ⟨fun i hi => ?_, fun i j hji hi => ?_⟩
    · rw [hdf i i hi]; exact mP'.one i hi
    · rw [hdf i j (by omega)]; exact mP'.below j i (by omega) hji (by rw [mr]; exact hi)
  obtain ⟨ainv, hinv⟩ := gf2Inv_total (deleteCols m (colFinder m)) hsq huni
  exact ⟨ainv, hk0, mr, mP', mL, colFinder_exact m k piv hk0 mr mP' mL, hinv⟩

/-- **a run of `is_lc_equivalent`**: on two graphs of the same size `n ≥ 1` the function computes an echelon matrix `m` of
    `k ≥ 1` rows with exactly the solutions of the linear system (the rank is at least 1 because equation `(0, 0)` has the
    coefficient 1 at `b_0`); with `4 n` pivots it answers `no` at once, otherwise none of its three assertions ("The number of
    remaining rows is less than the rank!", "column list is not correct", "solution basis is wrong.") fires, the solution basis is
    the list of spliced vectors of `BasisCtx`, and the answer is that of `search` on it.  (No hypothesis on the adjacency
    matrices: they need not even be symmetric.) -/
theorem isLcEquivalent_run (a b : BMat) (mode : Mode) (draws : List Bool) (hn : 0 < a.r) (hab : a.r = b.r) :
    ∃ (m : BMat) (k : Nat) (piv : Nat → Nat), 0 < k ∧ m.r = k ∧ m.c = 4 * a.r ∧ Piv m k m.c piv ∧
      (∀ i, i < k → ∀ j, j < piv i → m.f i j = false) ∧ (∀ v, SolF m v ↔ SolF (coeffMaker a.r a.f b.f) v) ∧
      ((4 * a.r ≤ k ∧
          isLcEquivalent a b mode draws = .ok { sol := none, rank := k, dim := 0, path := "full-rank" }) ∨
       (k < 4 * a.r ∧ ∃ ainv, BasisCtx m k piv (colFinder m) ainv ∧
          isLcEquivalent a b mode draws = search a.r mode draws m (colFinder m)
            ((List.range (colFinder m).length).map (basisVec m (colFinder m) ainv)) k)) := by
  have hne : (coeffMaker a.r a.f b.f).norm.f 0 1 = true := by
    rw [BMat.norm_agree _ 0 1 (Nat.mul_pos hn hn) (by show 1 < 4 * a.r; omega)]
    show coeffEntry a.f b.f (0 / a.r) (0 % a.r) (1 / 4) (1 % 4) = true
    simp [coeffEntry]
  obtain ⟨k, piv, hk0, hrank, hrows, mr, mc, mP, mL, msol, mctx⟩ := reduce_run (coeffMaker a.r a.f b.f).norm
    { r := (coeffMaker a.r a.f b.f).norm.r, c := (coeffMaker a.r a.f b.f).norm.c, f := fun _ _ => false }
    (Nat.mul_pos hn hn) (by show 1 < 4 * a.r; omega) hne
  have mc' : (selectRows (rowReduction (coeffMaker a.r a.f b.f).norm
      { r := (coeffMaker a.r a.f b.f).norm.r, c := (coeffMaker a.r a.f b.f).norm.c, f := fun _ _ => false }).1
        (List.range k)).norm.c = 4 * a.r := mc
  refine ⟨_, k, piv, hk0, mr, mc', by rw [mc']; exact mP, mL, fun v => (msol v).trans (solF_norm _ v), ?_⟩
  unfold isLcEquivalent
  simp only []
  rw [if_neg (by rw [hab]; simp), hrank, hrows]
  by_cases hfull : 4 * a.r ≤ k
  · exact Or.inl ⟨hfull, by rw [if_pos (by omega)]⟩
  · have hlt : k < 4 * a.r := by omega
    obtain ⟨ainv, hctx⟩ := mctx hlt
    refine Or.inr ⟨hlt, ainv, hctx, ?_⟩
    have hlen := colFinder_length _ k piv hctx.hk hctx.hr hctx.hP hctx.hL
    rw [mc'] at hlen
    rw [if_neg (by omega), if_neg (by simp), if_neg (by omega), solutionBasisFinder_of_ctx hctx]
    -- what is left of the function's body is `search` written out
    rfl

theorem isLcEquivalent_size (a b : BMat) (mode : Mode) (draws : List Bool) (out : EqOut)
    (e : isLcEquivalent a b mode draws = .ok out) : a.r = b.r := by
  apply Decidable.byContradiction
  intro h
  rw [isLcEquivalent, if_pos h] at e
  cases e

/-- **`is_lc_equivalent` is total**: for two graphs on the same `n ≥ 1` vertices, in deterministic or random mode (every value of
    the draws), the model of the whole-graph algorithm returns -/
theorem isLcEquivalent_total (a b : BMat) (mode : Mode) (draws : List Bool) (hn : 0 < a.r) (hab : a.r = b.r)
    (hmode : mode ≠ .other) : ∃ out, isLcEquivalent a b mode draws = .ok out := by
  obtain ⟨m, k, piv, _, _, _, _, _, _, ⟨_, e⟩ | ⟨_, ainv, hctx, e⟩⟩ := isLcEquivalent_run a b mode draws hn hab
  · exact ⟨_, e⟩
  · rw [e]
    exact search_total _ _ hmode _ _ _ _ _ fun bits => by
      unfold vecSolutionFinder
      simp only [hctx.hinv]
      exact ⟨_, rfl⟩

/-- the search path recorded by `isLcEquivalent` is one of four, and the last two tell the mode -/
theorem isLcEquivalent_paths (a b : BMat) (mode : Mode) (draws : List Bool) (out : EqOut) (hn : 0 < a.r)
    (e : isLcEquivalent a b mode draws = .ok out) :
    out.path = "full-rank" ∨ out.path = "all-combinations" ∨ (out.path = "random" ∧ mode = .rand) ∨
      (out.path = "pair-sums" ∧ mode = .det) := by
  obtain ⟨m, k, piv, _, _, _, _, _, _, ⟨_, e'⟩ | ⟨_, ainv, _, e'⟩⟩ :=
    isLcEquivalent_run a b mode draws hn (isLcEquivalent_size a b mode draws out e)
  · rw [e] at e'
    cases e'
    exact Or.inl rfl
  · rw [e] at e'
    rcases search_ok _ _ _ _ _ _ _ out e'.symm with ⟨hp, _⟩ | ⟨hp, hm, _⟩ | ⟨hp, hm, _⟩
    · exact Or.inr (Or.inl hp)
    · exact Or.inr (Or.inr (Or.inl ⟨hp, hm⟩))
    · exact Or.inr (Or.inr (Or.inr ⟨hp, hm⟩))

/-- **soundness of every `yes`, all modes** (all combinations, pair sums, and the random search whatever the draws):
    the returned `Q` has the right length, solves the linear system of `_coeff_maker`, and every 2×2 block is invertible -/
theorem isLcEquivalent_sound_all (a b : BMat) (mode : Mode) (draws : List Bool) (out : EqOut) (q : List Bool)
    (hn : 0 < a.r) (e : isLcEquivalent a b mode draws = .ok out) (hq : out.sol = some q) :
    q.length = 4 * a.r ∧ SolF (coeffMaker a.r a.f b.f) (vget q) ∧ isValidClifford a.r q = true := by
  obtain ⟨m, k, piv, _, _, mc, _, _, hsol, ⟨_, e'⟩ | ⟨_, ainv, hctx, e'⟩⟩ :=
    isLcEquivalent_run a b mode draws hn (isLcEquivalent_size a b mode draws out e)
  · rw [e] at e'; cases e'; cases hq
  · rw [e] at e'
    have fin : ∀ s, GoodVec m s → isValidClifford a.r s = true →
        s.length = 4 * a.r ∧ SolF (coeffMaker a.r a.f b.f) (vget s) ∧ isValidClifford a.r s = true :=
      fun s hg hv => ⟨hg.1.trans mc, (hsol _).mp hg.2, hv⟩
    rcases search_ok _ _ _ _ _ _ _ out e'.symm with ⟨_, hs⟩ | ⟨_, _, k', er⟩ | ⟨_, _, hs⟩
    · obtain ⟨c, hfind, rfl⟩ := Option.map_eq_some_iff.mp (hs.symm.trans hq)
      exact fin _ (mc ▸ goodVec_lin m _ c hctx.good) (by simpa using List.find?_some hfind)
    · rw [hq] at er
      obtain ⟨h1, h2, h3⟩ := randomChecker_sound _ _ _ _ _ _ q er
      exact fin q ⟨h1, h2⟩ h3
    · obtain ⟨p, hfind, rfl⟩ := Option.map_eq_some_iff.mp (hs.symm.trans hq)
      have hm := mem_pairs _ p (List.mem_of_find?_eq_some hfind)
      exact fin _ (goodVec_vxor _ _ _ (hctx.good _ hm.1) (hctx.good _ hm.2)) (by simpa using List.find?_some hfind)

/-- **back substitution in an echelon matrix**: a solution that vanishes on the non-pivot columns vanishes everywhere -/
theorem zero_of_free (m : BMat) (k : Nat) (piv : Nat → Nat) (hkr : k ≤ m.r) (hP : Piv m k m.c piv)
    (hL : ∀ i, i < k → ∀ j, j < piv i → m.f i j = false) (w : Nat → Bool) (hsol : SolF m w)
    (hfree : ∀ j, j < m.c → isPiv k piv j = false → w j = false) : ∀ j, j < m.c → w j = false := by
  -- from the last pivot row upwards: in row `i` only the pivot entry can be multiplied by a non-zero coordinate
  have key : ∀ d i, i < k → k ≤ i + d → w (piv i) = false := by
    intro d
    induction d with
    | zero => intro i h1 h2; omega
    | succ d ih =>
      intro i hi hd
      have hrow := hsol i (by omega)
      unfold rowDot at hrow
      rw [parityTo_one m.c (piv i) _ (hP.bound i hi)] at hrow
      · rw [hP.one i hi] at hrow; simpa using hrow
      · intro l hlc hl
        by_cases hlt : l < piv i
        · rw [hL i hi l hlt]; rfl
        · cases hp : isPiv k piv l
          · rw [hfree l hlc hp]; simp
          · obtain ⟨i', hi', e⟩ := (isPiv_iff k piv l).mp hp
            have : i < i' := by
              rcases Nat.lt_trichotomy i i' with h | h | h
              · exact h
              · subst h; omega
              · have := hP.incr i' i h hi; omega
            rw [← e, ih i' hi' (by omega)]; simp
  intro j hj
  cases hp : isPiv k piv j
  · exact hfree j hj hp
  · obtain ⟨i, hi, e⟩ := (isPiv_iff k piv j).mp hp
    rw [← e]; exact key k i hi (by omega)

/-- **if no combination of the basis vectors is a valid Clifford, no solution of the system is**: a solution and the combination
    with its own free coordinates as coefficients agree on the free columns (unit pattern of the basis), hence everywhere -/
theorem BasisCtx.exhaustive {m : BMat} {k : Nat} {piv : Nat → Nat} {colList : List Nat} {ainv : BMat}
    (h : BasisCtx m k piv colList ainv) (n : Nat) (hc : m.c = 4 * n)
    (hnone : ∀ c ∈ allCoefs colList.length,
      isValidClifford n (lin (4 * n) ((List.range colList.length).map (basisVec m colList ainv)) c) = false)
    (v : List Bool) (hv : SolF m (vget v)) : isValidClifford n v = false := by
  generalize hb : (List.range colList.length).map (basisVec m colList ainv) = basis at hnone
  have hgood : ∀ w ∈ basis, GoodVec m w := hb ▸ h.good
  have hlen : basis.length = colList.length := by rw [← hb]; simp
  -- the coefficients: the values of v on the free columns
  let coef : List Bool := (List.range colList.length).map fun t => vget v (colList.getD t 0)
  have hcl : coef.length = basis.length := by simp [coef, hlen]
  have hmem : coef ∈ allCoefs colList.length := by rw [← hlen, ← hcl]; exact allCoefs_complete coef
  have hcoef : ∀ s, s < colList.length → vget coef s = vget v (colList.getD s 0) := fun s hs' => by
    simp [coef, vget, List.getD, hs']
  have hbget : ∀ s, s < colList.length → basis.getD s [] = basisVec m colList ainv s := fun s hs' => by
    rw [← hb]; simp [List.getD, hs']
  have hu := goodVec_lin m basis coef hgood
  rw [hc] at hu
  -- the difference vanishes on the free columns
  have hfree : ∀ j, j < m.c → isPiv k piv j = false → xor (vget v j) (vget (lin (4 * n) basis coef) j) = false := by
    intro j hj hpj
    have hm : j ∈ colList := by rw [h.hcols]; exact List.mem_filter.mpr ⟨List.mem_range.mpr hj, by rw [hpj]; rfl⟩
    obtain ⟨t, ht, e⟩ := List.getElem_of_mem hm
    have ej : colList.getD t 0 = j := by simp [List.getD, List.getElem?_eq_getElem ht, e]
    rw [lin_vget (4 * n) basis coef j hcl (fun b hb' => by rw [(hgood b hb').1, hc]), hlen]
    have e1 : ∀ s, s < colList.length → (vget coef s && vget (basis.getD s []) j) = (decide (s = t) && vget v j) := by
      intro s hs'
      rw [hcoef s hs', hbget s hs', ← ej, basisVec_unit h s t ht]
      by_cases e2 : s = t
      · subst e2; simp
      · simp [e2]
    rw [parityTo_congr _ _ _ e1, parityTo_single _ t _ ht]
    simp
  have hz := zero_of_free m k piv (by rw [h.hr]; exact Nat.le_refl _) h.hP h.hL _ (solF_xor m _ _ hv hu.2) hfree
  have heq : ∀ j, j < 4 * n → vget (lin (4 * n) basis coef) j = vget v j := by
    intro j hj
    have := hz j (by rw [hc]; exact hj)
    revert this
    cases vget v j <;> cases vget (lin (4 * n) basis coef) j <;> simp
  rw [← isValidClifford_congr n _ _ heq]
  exact hnone coef hmem

/-- **for a solution space of dimension ≤ 4 the search is exhaustive**: when `is_lc_equivalent` answers `no` on the
    all-combinations path, *no* solution of the linear system has all blocks invertible -/
theorem isLcEquivalent_no_small (a b : BMat) (mode : Mode) (draws : List Bool) (out : EqOut)
    (hn : 0 < a.r) (e : isLcEquivalent a b mode draws = .ok out) (hsol : out.sol = none)
    (hp : out.path = "all-combinations") (v : List Bool) (hv : SolF (coeffMaker a.r a.f b.f) (vget v)) :
    isValidClifford a.r v = false := by
  obtain ⟨m, k, piv, _, _, mc, _, _, hs, ⟨_, e'⟩ | ⟨_, ainv, hctx, e'⟩⟩ :=
    isLcEquivalent_run a b mode draws hn (isLcEquivalent_size a b mode draws out e)
  · rw [e] at e'; cases e'; simp at hp
  · rw [e] at e'
    rcases search_ok _ _ _ _ _ _ _ out e'.symm with ⟨_, hfind⟩ | ⟨h, _⟩ | ⟨h, _⟩
    · have hnone := Option.map_eq_none_iff.mp (hfind.symm.trans hsol)
      refine hctx.exhaustive a.r mc (fun c hc => ?_) v ((hs _).mpr hv)
      have := List.find?_eq_none.mp hnone c (by simpa using hc)
      simpa using this
    · rw [h] at hp; simp at hp
    · rw [h] at hp; simp at hp

/-- **the full-rank shortcut is right**: when `is_lc_equivalent` answers `no` because the reduced coefficient matrix has
    rank `4 n`, the zero vector is the only solution of the system, so no valid `Q` exists -/
theorem isLcEquivalent_no_fullrank (a b : BMat) (mode : Mode) (draws : List Bool) (out : EqOut)
    (hn : 0 < a.r) (e : isLcEquivalent a b mode draws = .ok out) (hp : out.path = "full-rank") (v : List Bool)
    (hv : SolF (coeffMaker a.r a.f b.f) (vget v)) : isValidClifford a.r v = false := by
  obtain ⟨m, k, piv, _, mr, mc, hP, hL, hsol, ⟨hfull, _⟩ | ⟨_, ainv, _, e'⟩⟩ :=
    isLcEquivalent_run a b mode draws hn (isLcEquivalent_size a b mode draws out e)
  · apply isValidClifford_zero a.r hn v
    rw [← mc]
    refine zero_of_free m k piv (by omega) hP hL _ ((hsol _).mpr hv) fun j hj hpj => ?_
    -- `k ≥ m.c` strictly increasing pivots below `m.c` leave no column free
    have hlen := length_filter_not (List.range m.c) (isPiv k piv)
    rw [filter_isPiv k m.c piv hP.incr hP.bound] at hlen
    simp only [List.length_map, List.length_range] at hlen
    have hmem : j ∈ (List.range m.c).filter fun j => !isPiv k piv j :=
      List.mem_filter.mpr ⟨List.mem_range.mpr hj, by rw [hpj]; rfl⟩
    have := List.length_pos_of_mem hmem
    omega
  · rw [e] at e'
    rcases search_ok _ _ _ _ _ _ _ out e'.symm with ⟨h, _⟩ | ⟨h, _⟩ | ⟨h, _⟩ <;> (rw [h] at hp; simp at hp)

end Graphiq.LC
