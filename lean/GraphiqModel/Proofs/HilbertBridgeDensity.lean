/-
  Proofs/HilbertBridgeDensity.lean — the executable `DM.pauliMat` / `DM.stabilizerDensity` (`Model/DMSem.lean`: the n-fold
  Kronecker product of one-site Paulis of a row, entry by entry, and `∏_k (1 + (−1)^{r_k} g_k)/2` over ℚ[i]) represent the
  Hilbert-space `pauliMat` / `ρ(t)`:

  * `pauliMat_bare_prod` : the entry of the matrix of a phase-free row is the product of the one-site entries;
  * `rep_pauliMat` : `Rep n (DM.pauliMat n p) (pauliMat n (bare p))`;
  * `rep_stabilizerDensity` : `Rep t.n (DM.stabilizerDensity t) (tabRho t.n t)`.
-/
import GraphiqModel.Proofs.HilbertBridgeMat
namespace Graphiq
namespace Hilbert
open Matrix PRow

/-- `f 0 * f 1 * … * f (m-1)` -/
def prodTo {α : Type} [Mul α] [One α] (m : Nat) (f : Nat → α) : α :=
  match m with
  | 0 => 1
  | k + 1 => prodTo k f * f k

theorem prodTo_congr {α : Type} [Mul α] [One α] (m : Nat) (f g : Nat → α) (h : ∀ k, k < m → f k = g k) :
    prodTo m f = prodTo m g := by
  induction m with
  | zero => rfl
  | succ k ih =>
    show prodTo k f * f k = prodTo k g * g k
    rw [ih (fun j hj => h j (Nat.lt_succ_of_lt hj)), h k (Nat.lt_succ_self k)]

theorem foldl_range_prodTo {α : Type} [Mul α] [One α] (m : Nat) (f : Nat → α) :
    (List.range m).foldl (fun acc k => acc * f k) 1 = prodTo m f := by
  induction m with
  | zero => rfl
  | succ k ih => rw [List.range_succ, List.foldl_append, ih]; rfl

theorem map_prodTo (m : Nat) (f : Nat → GQ) : gqC (prodTo m f) = prodTo m (fun k => gqC (f k)) := by
  induction m with
  | zero => show gqC 1 = 1; simp
  | succ k ih => show gqC (prodTo k f * f k) = _; rw [RingHom.map_mul, ih]; rfl

theorem bare_bare (p : PRow) : bare (bare p) = bare p := rfl

theorem pauliMat_bare_zero (p : PRow) (a b : Bits 0) : pauliMat 0 (bare p) a b = 1 := by
  rw [pauliMat_apply]
  have : a = flip (bare p).x b := by funext j; exact j.elim0
  rw [if_pos this]
  show iPow ((bare p).ph + sumTo 0 _) = 1
  simp [bare, PRow.ph, sumTo, Bool.toInt', iPow_zero]

/-- **entries of a Kronecker product of one-site Paulis**: `⊗_k σ(x_k,z_k)` at `(a,b)` is `∏_k σ(x_k,z_k)(a_k,b_k)` -/
theorem pauliMat_bare_prod : ∀ (n : Nat) (p : PRow) (a b : Bits n),
    pauliMat n (bare p) a b = prodTo n (fun k => sigma (p.x k) (p.z k) (bx a k) (bx b k))
  | 0, p, a, b => pauliMat_bare_zero p a b
  | n + 1, p, a, b => by
    rw [pauliMat_succ, pauliMat_bare_prod n p (initB a) (initB b)]
    show _ = prodTo n _ * sigma (p.x n) (p.z n) (bx a n) (bx b n)
    rw [bx_lastB, bx_lastB]
    show _ * sigma (p.x n) (p.z n) (lastB a) (lastB b) = _
    congr 1
    apply prodTo_congr
    intro k hk
    rw [bx_initB a k hk, bx_initB b k hk]

theorem rep2_pauli1 (x z : Bool) : Rep2 (DM.pauli1 x z) (sigma x z) := by
  cases x <;> cases z
  · rw [sigma_ff]; exact rep2_id2
  · rw [sigma_ft]; exact rep2_sigmaz
  · rw [sigma_tf]; exact rep2_sigmax
  · rw [sigma_tt]; exact rep2_sigmay

/-- the executable Pauli matrix of a row (signs not included) -/
theorem rep_pauliMat (n : Nat) (p : PRow) : Rep n (DM.pauliMat n p) (pauliMat n (bare p)) := by
  refine ⟨rfl, fun a b => ?_⟩
  show gqC (DM.pauliEntry n p (idx n a) (idx n b)) = _
  unfold DM.pauliEntry
  rw [foldl_range_prodTo, map_prodTo, pauliMat_bare_prod]
  apply prodTo_congr
  intro k hk
  rw [b2n_digit n a k hk, b2n_digit n b k hk]
  exact (rep2_pauli1 (p.x k) (p.z k)).2 _ _

theorem pauliMat_sign (n : Nat) (p : PRow) (hp : p.ip = false) :
    pauliMat n p = (if p.r then (-1 : ℂ) else 1) • pauliMat n (bare p) := by
  rw [pauliMat_phase n p]
  congr 1
  have : p.ph = 2 * Bool.toInt' p.r := by unfold PRow.ph; rw [hp]; simp [Bool.toInt']
  rw [this, iPow_two_mul_toInt']

/-- one factor `(1 + (−1)^r g)/2` of `stabilizerDensity` -/
theorem rep_projFactor (n : Nat) (p : PRow) :
    Rep n (Mat.smul (1 / 2) (Mat.add (Mat.smul (if p.r then -1 else 1) (DM.pauliMat n p).norm) (Mat.eye (DM.pow2 n)))).norm
      (proj n { p with ip := false }) := by
  have h := (Rep.smul (1 / 2) (Rep.add (Rep.smul (if p.r then -1 else 1) (rep_pauliMat n p).norm) (Rep.eye n))).norm
  refine h.congr ?_
  unfold proj
  rw [pauliMat_sign n { p with ip := false } rfl, add_comm]
  have hb : bare { p with ip := false } = bare p := rfl
  rw [hb]
  congr 2
  · norm_num
  · cases p.r <;> simp

theorem rep_rhoTo (n : Nat) (row : Nat → PRow) : ∀ m : Nat,
    Rep n ((List.range m).foldl (fun ρ k =>
        (Mat.mul ρ (Mat.smul (1 / 2) (Mat.add (Mat.smul (if (row k).r then -1 else 1) (DM.pauliMat n (row k)).norm)
          (Mat.eye (DM.pow2 n)))).norm).norm) (Mat.eye (DM.pow2 n)))
      (rhoTo n (fun k => { row k with ip := false }) m)
  | 0 => Rep.eye n
  | m + 1 => by
    rw [List.range_succ, List.foldl_append]
    exact (Rep.mul (rep_rhoTo n row m) (rep_projFactor n (row m))).norm

theorem rep_stabilizerDensity (t : Tab) : Rep t.n (DM.stabilizerDensity t) (tabRho t.n t) :=
  rep_rhoTo t.n (fun k => t.row (k + t.n)) t.n

end Hilbert
end Graphiq
