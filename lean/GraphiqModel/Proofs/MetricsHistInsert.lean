/-
  MetricsHistInsert.lean — `insert_at` on the scheduled operation list (C18): a successful `insert_at(op, edges)` inserts the
  operation — without its classical registers: `insert_at` threads the new node on quantum wires only — at some position of a
  suitable schedule of the circuit before.  Proof: take any schedule of the result and remove the new node again; what is left has the
  registers, operation nodes and wires of the original circuit, and a schedule sees nothing else (`Sched.congr`).
-/
import GraphiqModel.Proofs.PrepDepthSched
namespace Graphiq
namespace Metrics
open Dag Relation

/-- the operation as `insert_at` wires it: on its quantum registers only -/
def quantumPart (op : Op) : Op := { op with cregs := [] }

theorem erase_insert_wires {c : Dag} {P : Paths} (g : Good c P) {op : Op} {es : List Edge} (hS : SpliceOK c op es) :
    erasePaths ((Prim.insert op es).wires P c.nodeId) (.op (c.nodeId + 1)) = P := by
  obtain ⟨hother, hsplice⟩ := Prim.insert_wires_spec g.inv hS
  funext k
  unfold erasePaths
  by_cases hk : k ∈ es.map (·.key)
  · obtain ⟨e, he, rfl⟩ := List.mem_map.mp hk
    obtain ⟨l1, l2, h1, h2⟩ := hsplice e he
    have hn1 : NodeId.op (c.nodeId + 1) ∉ l1 ++ [e.src] := by
      intro hm
      apply g.inv.fresh_not_on_path e.key
      rw [h1]
      rcases List.mem_append.mp hm with hm | hm
      · exact List.mem_append.mpr (Or.inl hm)
      · simp at hm; rw [hm]; simp
    rw [h2, h1, show l1 ++ e.src :: NodeId.op (c.nodeId + 1) :: e.dst :: l2 = (l1 ++ [e.src]) ++ NodeId.op (c.nodeId + 1) :: (e.dst :: l2) by simp,
      erase_append_mid hn1]
    simp
  · rw [hother k hk]
    exact List.erase_of_not_mem (g.inv.fresh_not_on_path k)

/-- **`_insert_at` on the schedule**: the result has a schedule `A ++ (new node, op on its quantum registers) :: B` such that `A ++ B`
    is a schedule of the circuit before -/
theorem insertAtCore_sched {c : Dag} {P : Paths} (g : Good c P) {op : Op} (hop : OpWF op) {es : List Edge} (hok : InsertOK c op es) :
    ∃ P' A B, Good (c.insertAt_ op es).1 P' ∧
      Sched (c.insertAt_ op es).1 P' (A ++ (NodeId.op (c.nodeId + 1), quantumPart op) :: B) ∧ Sched c P (A ++ B) := by
  have hS := hok.spliceOK g hop
  rw [insertAt_eq_prim g hS]
  have g' := Prim.good g (p := .insert op es) hS
  have hnodes := Prim.insert_nodes g.inv op es
  have hfresh := g.inv.op_fresh
  have hwnew : (NodeId.op (c.nodeId + 1), op) ∈ ((Prim.insert op es).run c).nodes := by rw [hnodes]; simp
  -- the new node is threaded on quantum wires only
  have hwired : wiredOp ((Prim.insert op es).wires P c.nodeId) (.op (c.nodeId + 1)) op = quantumPart op := by
    unfold wiredOp quantumPart
    congr 1
    apply List.filter_eq_nil_iff.mpr
    intro j _
    simp only [decide_eq_true_eq]
    rw [Prim.mem_insert_wires g.inv hS, hok.keys]
    rintro (h | ⟨_, h⟩)
    · exact g.inv.fresh_not_on_path _ h
    · exact absurd rfl (hop.qregs_quantum _ h)
  obtain ⟨L', hS'⟩ := sched_exists g'
  obtain ⟨A, B, hL', g'', hS''⟩ := removeNode_sched g' hS' hwnew
  obtain ⟨_, _, hregs'', _⟩ := removeOp_good g' (mem_nodeIds.mpr ⟨op, hwnew⟩)
  rw [hwired] at hL'
  -- removing the new node gives back the operation nodes and the wires of `c`
  have hnodes'' : (((Prim.insert op es).run c).removeOp (.op (c.nodeId + 1))).1.nodes = c.nodes := by
    rw [removeOp_nodes g'.inv hwnew, hnodes, List.filter_append, List.filter_eq_self.mpr, List.filter_eq_nil_iff.mpr, List.append_nil]
    · simp
    · intro p hp
      have : p.1 ≠ NodeId.op (c.nodeId + 1) := fun e => hfresh (e ▸ mem_nodeIds.mpr ⟨p.2, hp⟩)
      simpa using this
  rw [erase_insert_wires g hS] at hS''
  exact ⟨_, A, B, g', hL' ▸ hS',
    hS''.congr (fun r => (live_eq_of_regs (hregs''.trans (Prim.insert_regs c op es)) r).symm) (fun i o => by rw [hnodes''])⟩

/-- **`insert_at(op, edges)` on the schedule** (successful call, register prologue included) -/
theorem insertAt_sched {c : Dag} {P : Paths} (g : Good c P) {op : Op} (hop : OpWF op) {es : List Edge} (hok : InsertOK c op es)
    (hsucc : (c.insertAt op es).2 = none) :
    ∃ P' A B n, Good (c.insertAt op es).1 P' ∧ Sched (c.insertAt op es).1 P' (A ++ (n, quantumPart op) :: B) ∧ Sched c P (A ++ B) := by
  obtain ⟨P1, s, _⟩ := ensureRegs_chain g op
  have g1 := s.good g
  have hiff := sched_iff_of_newReg s g
  have hok1 := InsertOK.of_pre g hok
  unfold insertAt at hsucc ⊢
  cases hens : c.ensureRegs op with
  | mk c1 e1 =>
    rw [hens] at hsucc g1 hiff hok1
    simp only at hsucc g1 hiff hok1
    cases e1 with
    | some e => simp at hsucc
    | none =>
      simp only at hsucc ⊢
      by_cases hlen : es.length ≠ op.qregs.length
      · rw [if_pos hlen] at hsucc; simp at hsucc
      · rw [if_neg hlen]
        obtain ⟨P', A, B, g', hS', hS1⟩ := insertAtCore_sched g1 hop hok1
        exact ⟨P', A, B, _, g', hS', (hiff _).mp hS1⟩

end Metrics
end Graphiq
