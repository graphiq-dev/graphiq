/-
  Proofs/InnerProductCirc.lean — a gate list acts on signed groups as an invertible automorphism, so the two overlap
  predicates `Orth` and `OverlapDim` (Proofs/InnerProductSpec.lean) are invariant when the same gate list is applied to
  both states.  Also: `run_circuit` on a Clifford tableau followed by `to_stabilizer()` is row-wise the gate-list action.
  No Mathlib.
-/
import GraphiqModel.Proofs.InnerProductSpec
namespace Graphiq
open PRow Tab STab

/-! ### the gate-list action is an invertible automorphism that fixes `±I` -/

namespace PRow

theorem h_neg (q : Nat) (a : PRow) : h q (neg a) = neg (h q a) := by simp [h, neg]
theorem s_neg (q : Nat) (a : PRow) : s q (neg a) = neg (s q a) := by simp [s, neg]
theorem cnot_neg (c t : Nat) (a : PRow) : cnot c t (neg a) = neg (cnot c t a) := by simp [cnot, neg]

end PRow

theorem Gate.act_neg (g : Gate) (a : PRow) : g.act (PRow.neg a) = PRow.neg (g.act a) := by
  cases g <;> simp only [Gate.act, sdg, zg, xg, yg, cz, h_neg, s_neg, cnot_neg, id]

theorem actCirc_neg (c : List Gate) (a : PRow) : actCirc c (PRow.neg a) = PRow.neg (actCirc c a) := by
  induction c generalizing a with
  | nil => rfl
  | cons g rest ih =>
    show actCirc rest (g.act (PRow.neg a)) = PRow.neg (actCirc rest (g.act a))
    rw [Gate.act_neg, ih]

theorem actCirc_setip (c : List Gate) (a : PRow) : actCirc c { a with ip := false } = { actCirc c a with ip := false } := by
  induction c generalizing a with
  | nil => rfl
  | cons g rest ih =>
    show actCirc rest (g.act { a with ip := false }) = { actCirc rest (g.act a) with ip := false }
    rw [Gate.act_with_ip, ih]

theorem STab.actCirc_ip (c : List Gate) (a : PRow) : (actCirc c a).ip = a.ip := by
  induction c generalizing a with
  | nil => rfl
  | cons g rest ih =>
    show (actCirc rest (g.act a)).ip = _
    rw [ih, Gate.act_ip]

theorem actCirc_one (n : Nat) (c : List Gate) (hc : ∀ g, g ∈ c → g.WF n) : EqOn n (actCirc c PRow.one) PRow.one :=
  (actCirc_isAut1 n c hc).one

theorem actCirc_mul (n : Nat) (c : List Gate) (hc : ∀ g, g ∈ c → g.WF n) (a b : PRow) :
    EqOn n (actCirc c (PRow.mul n a b)) (PRow.mul n (actCirc c a) (actCirc c b)) :=
  (actCirc_isAut1 n c hc).aut.mul a b

theorem revCirc_wf (n : Nat) (c : List Gate) (hc : ∀ g, g ∈ c → g.WF n) : ∀ g, g ∈ revCirc c → g.WF n := by
  intro g hgm
  simp only [revCirc, List.mem_map, List.mem_reverse] at hgm
  obtain ⟨g0, hg0, e⟩ := hgm
  rw [← e]; exact Gate.rev_WF n g0 (hc g0 hg0)

/-- the action is injective (up to `EqOn`): run the reversed list -/
theorem actCirc_inj (n : Nat) (c : List Gate) (hc : ∀ g, g ∈ c → g.WF n) (a b : PRow)
    (h : EqOn n (actCirc c a) (actCirc c b)) : EqOn n a b :=
  ((revCirc_cancel n c hc a).symm.trans (actCirc_congr n _ (revCirc_wf n c hc) _ _ h)).trans (revCirc_cancel n c hc b)

theorem revCirc_cancel_right (n : Nat) (c : List Gate) (hc : ∀ g, g ∈ c → g.WF n) (b : PRow) :
    EqOn n (actCirc c (actCirc (revCirc c) b)) b := by
  apply actCirc_inj n (revCirc c) (revCirc_wf n c hc)
  exact revCirc_cancel n c hc _

theorem actCirc_sprod (n : Nat) (c : List Gate) (hc : ∀ g, g ∈ c → g.WF n) (gens : Nat → PRow) (S : Nat → Bool) (d : Nat) :
    EqOn n (actCirc c (sprod n gens S d)) (sprod n (fun i => actCirc c (gens i)) S d) := by
  induction d with
  | zero => exact actCirc_one n c hc
  | succ k ih =>
    simp only [sprod]
    cases S k
    · exact ih
    · exact (actCirc_mul n c hc _ _).trans (mul_congr n _ _ _ _ (EqOn.refl _ _) ih)

/-! ### `run_circuit` on a Clifford tableau, then `to_stabilizer()` -/

theorem Tab.runCircuit_rows (n : Nat) (c : List Gate) (hc : ∀ g, g ∈ c → g.WF n) (t : Tab) (hn : t.n = n) :
    (t.runCircuit c).n = n ∧ ∀ i, i < 2 * n → EqOn n ((t.runCircuit c).row i) (actCirc c (t.row i)) := by
  induction c generalizing t with
  | nil =>
    refine ⟨hn, fun i _ => ?_⟩
    exact EqOn.refl _ _
  | cons g rest ih =>
    have hrest : ∀ g', g' ∈ rest → g'.WF n := fun g' hg' => hc g' (List.mem_cons_of_mem _ hg')
    have e : t.runCircuit (g :: rest) = ((t.map g.act).norm).runCircuit rest := by
      simp [Tab.runCircuit]
    rw [e]
    have hn1 : ((t.map g.act).norm).n = n := hn
    obtain ⟨h1, h2⟩ := ih hrest _ hn1
    refine ⟨h1, fun i hi => ?_⟩
    have r1 : EqOn n (((t.map g.act).norm).row i) (g.act (t.row i)) := by
      have := Tab.norm_row (t.map g.act) i (by show i < 2 * t.n; rw [hn]; exact hi)
      have hnn : (t.map g.act).n = n := hn
      rw [hnn] at this
      exact this
    exact (h2 i hi).trans (actCirc_congr n rest hrest _ _ r1)

/-- the stabilizer half of `run_circuit(CliffordTableau(b), circ)` is row by row the image of the stabilizer half of `b` -/
theorem ofTab_runCircuit_row (n : Nat) (c : List Gate) (hc : ∀ g, g ∈ c → g.WF n) (t : Tab) (hn : t.n = n) (i : Nat) (hi : i < n) :
    EqOn n ((STab.ofTab (t.runCircuit c)).row i) (actCirc c ((STab.ofTab t).row i)) := by
  obtain ⟨h1, h2⟩ := Tab.runCircuit_rows n c hc t hn
  show EqOn n { ((t.runCircuit c).row (i + (t.runCircuit c).n)) with ip := false }
    (actCirc c { (t.row (i + t.n)) with ip := false })
  rw [actCirc_setip, h1, hn]
  have := h2 (i + n) (by omega)
  exact ⟨this.1, this.2.1, rfl⟩

/-! ### images of signed groups under a gate list -/

/-- the signed group of `T'` is the image of that of `T` under the gate list `c` -/
structure CircImage (n : Nat) (c : List Gate) (T T' : STab) : Prop where
  nT : T.n = n
  nT' : T'.n = n
  wf : ∀ g, g ∈ c → g.WF n
  fwd : ∀ a, T.Spn a → T'.Spn (actCirc c a)
  bwd : ∀ b, T'.Spn b → ∃ a, T.Spn a ∧ EqOn n (actCirc c a) b

theorem circImage_of_rows (n : Nat) (c : List Gate) (hc : ∀ g, g ∈ c → g.WF n) (T T' : STab) (hT : T.n = n) (hT' : T'.n = n)
    (hrow : ∀ i, i < n → EqOn n (T'.row i) (actCirc c (T.row i))) : CircImage n c T T' := by
  have hf := (actCirc_isAut1 n c hc).isHom
  subst hT
  refine ⟨rfl, hT', hc, fun a ha => ?_, fun b hb => ?_⟩
  · unfold Spn
    rw [hT']
    exact InSpan.map hf (fun i hi => InSpan.eqv _ _ (InSpan.gen i hi) (hrow i hi)) ha
  · unfold Spn at hb
    rw [hT'] at hb
    exact InSpan.of_map hf (fun i hi => (hrow i hi).symm) hb

/-- the image relation is symmetric: `T` is the image of `T'` under the reversed list -/
theorem CircImage.rev {n : Nat} {c : List Gate} {T T' : STab} (h : CircImage n c T T') : CircImage n (revCirc c) T' T := by
  refine ⟨h.nT', h.nT, revCirc_wf n c h.wf, ?_, ?_⟩
  · intro b hb
    obtain ⟨a, ha, ea⟩ := h.bwd b hb
    have e : EqOn n a (actCirc (revCirc c) b) :=
      (revCirc_cancel n c h.wf a).symm.trans (actCirc_congr n _ (revCirc_wf n c h.wf) _ _ ea)
    unfold Spn at ha ⊢
    rw [h.nT] at ha ⊢
    exact InSpan.eqv _ _ ha e
  · intro a ha
    exact ⟨actCirc c a, h.fwd a ha, revCirc_cancel n c h.wf a⟩

theorem CircImage.spn_iff {n : Nat} {c : List Gate} {T T' : STab} (h : CircImage n c T T') (a : PRow) :
    T.Spn a ↔ ∃ b, T'.Spn b ∧ EqOn n (actCirc (revCirc c) b) a := by
  refine ⟨fun ha => ⟨actCirc c a, h.fwd a ha, revCirc_cancel n c h.wf a⟩, fun ⟨b, hb, eb⟩ => ?_⟩
  have := h.rev.fwd b hb
  unfold Spn at this ⊢
  rw [h.nT] at this ⊢
  exact InSpan.eqv _ _ this eb

theorem CircImage.congr {n : Nat} {c : List Gate} {T T' U U' : STab} (h : CircImage n c T T') (s : SpanEq T U)
    (s' : SpanEq T' U') : CircImage n c U U' :=
  ⟨s.n_eq ▸ h.nT, s'.n_eq ▸ h.nT', h.wf, fun a ha => s'.sub _ (h.fwd a (s.sup a ha)),
   fun b hb => by
     obtain ⟨a, ha, ea⟩ := h.bwd b (s'.sup b hb)
     exact ⟨a, s.sub a ha, ea⟩⟩

/-! ### invariance of the overlap predicates -/

theorem orth_image {n : Nat} {c : List Gate} {A A' B B' : STab} (hA : CircImage n c A A') (hB : CircImage n c B B')
    (h : Orth A B) : Orth A' B' := by
  obtain ⟨P, pa, pb⟩ := h
  refine ⟨actCirc c P, hA.fwd P pa, ?_⟩
  rw [← actCirc_neg]; exact hB.fwd _ pb

theorem orth_image_iff {n : Nat} {c : List Gate} {A A' B B' : STab} (hA : CircImage n c A A') (hB : CircImage n c B B') :
    Orth A B ↔ Orth A' B' :=
  ⟨orth_image hA hB, orth_image hA.rev hB.rev⟩

theorem overlapBasis_image {n : Nat} {c : List Gate} {A A' B B' : STab} (hA : CircImage n c A A') (hB : CircImage n c B B')
    {d : Nat} {gens : Nat → PRow} (h : IsOverlapBasis A B d gens) :
    IsOverlapBasis A' B' d (fun i => actCirc c (gens i)) := by
  have nA := hA.nT
  have nA' := hA.nT'
  refine ⟨fun i hi => hA.fwd _ (h.memA i hi), fun i hi => hB.fwd _ (h.memB i hi), ?_, ?_⟩
  · intro S hS i hi
    rw [nA'] at hS
    apply h.indep S _ i hi
    rw [nA]
    apply actCirc_inj n c hA.wf
    exact ((actCirc_sprod n c hA.wf gens S d).trans hS).trans (actCirc_one n c hA.wf).symm
  · intro P' pa pb
    obtain ⟨a, ha, ea⟩ := hA.bwd P' pa
    obtain ⟨b, hb, eb⟩ := hB.bwd P' pb
    have eab : EqOn n a b := actCirc_inj n c hA.wf a b (ea.trans eb.symm)
    have hb' : B.Spn a := by
      unfold Spn at hb ⊢
      rw [hB.nT] at hb ⊢
      exact InSpan.eqv _ _ hb eab.symm
    obtain ⟨S, hS⟩ := h.span a ha hb'
    rw [nA] at hS
    refine ⟨S, ?_⟩
    rw [nA']
    exact (ea.symm.trans (actCirc_congr n c hA.wf _ _ hS)).trans (actCirc_sprod n c hA.wf gens S d)

theorem overlapDim_image_iff {n : Nat} {c : List Gate} {A A' B B' : STab} (hA : CircImage n c A A') (hB : CircImage n c B B')
    (d : Nat) : OverlapDim A B d ↔ OverlapDim A' B' d :=
  ⟨fun ⟨_, hg⟩ => ⟨_, overlapBasis_image hA hB hg⟩, fun ⟨_, hg⟩ => ⟨_, overlapBasis_image hA.rev hB.rev hg⟩⟩

theorem STab.IsOverlap.image {n : Nat} {c : List Gate} {A A' B B' : STab} {r : Option Nat}
    (hA : CircImage n c A A') (hB : CircImage n c B B') (h : IsOverlap A B r) : IsOverlap A' B' r := by
  have e : A'.n = A.n := hA.nT'.trans hA.nT.symm
  cases r
  · exact (orth_image_iff hA hB).1 h
  · exact ⟨e ▸ h.1, fun o => h.2.1 ((orth_image_iff hA hB).2 o), e ▸ (overlapDim_image_iff hA hB _).1 h.2.2⟩

/-- same signed group before ⇒ same signed group after (apply to `.rev` for the converse) -/
theorem spanEq_image {n : Nat} {c : List Gate} {A A' B B' : STab} (hA : CircImage n c A A') (hB : CircImage n c B B') :
    SpanEq A B → SpanEq A' B' := by
  intro s
  refine ⟨hA.nT'.trans hB.nT'.symm, fun p hp => ?_, fun p hp => ?_⟩
  · obtain ⟨a, ha, ea⟩ := hA.bwd p hp
    have := hB.fwd a (s.sub a ha)
    unfold Spn at this ⊢
    rw [hB.nT'] at this ⊢
    exact InSpan.eqv _ _ this ea
  · obtain ⟨b, hb, eb⟩ := hB.bwd p hp
    have := hA.fwd b (s.sup b hb)
    unfold Spn at this ⊢
    rw [hA.nT'] at this ⊢
    exact InSpan.eqv _ _ this eb

/-! ### composition and uniqueness of images -/

theorem circImage_comp {n : Nat} {c d : List Gate} {T T' T'' : STab} (h1 : CircImage n c T T') (h2 : CircImage n d T' T'') :
    CircImage n (c ++ d) T T'' := by
  refine ⟨h1.nT, h2.nT', fun g hg => ?_, fun a ha => ?_, fun b hb => ?_⟩
  · rcases List.mem_append.mp hg with h | h
    · exact h1.wf g h
    · exact h2.wf g h
  · rw [actCirc_app]; exact h2.fwd _ (h1.fwd a ha)
  · obtain ⟨a', ha', e'⟩ := h2.bwd b hb
    obtain ⟨a, ha, e⟩ := h1.bwd a' ha'
    refine ⟨a, ha, ?_⟩
    rw [actCirc_app]
    exact (actCirc_congr n d h2.wf _ _ e).trans e'

theorem circImage_unique {n : Nat} {c : List Gate} {T T' T'' : STab} (h1 : CircImage n c T T') (h2 : CircImage n c T T'') :
    SpanEq T' T'' :=
  spanEq_image h1 h2 (SpanEq.refl T)

end Graphiq
