/-
  Proofs/SolverCompleteInit.lean — completeness of the time-reversed solver: the loop invariant holds for the tableau
  `solve` starts from (`target ⊗ |0…0⟩` with `ne = determine_n_emitters(target)` emitters), provided no photon of the target is a
  product qubit; for a graph state this is "no isolated vertex".
-/
import GraphiqModel.Proofs.SolverCompleteLoop
import GraphiqModel.Proofs.HeightGraph
namespace Graphiq.Solver
open Graphiq Graphiq.Cliff PRow STab Tab

/-- the photon part of an element of the group of `target ⊗ |0…0⟩` is an element of the group of `target` -/
theorem spn_withEmitters_restrict (target : STab) (ne : Nat) (a : PRow) (h : (withEmitters target ne).Spn a) :
    ∃ b, target.Spn b ∧ ∀ j, j < target.n → b.x j = a.x j ∧ b.z j = a.z j := by
  have hN : (withEmitters target ne).n = target.n + ne := withEmitters_n target ne
  unfold STab.Spn at h
  induction h with
  | one => exact ⟨PRow.one, InSpan.one, fun _ _ => ⟨rfl, rfl⟩⟩
  | gen i hi =>
    have hr := withEmitters_row target ne i (hN ▸ hi)
    by_cases hlt : i < target.n
    · refine ⟨target.row i, spn_gen target i hlt, fun j hj => ?_⟩
      obtain ⟨e1, e2⟩ := hr.1 j (Nat.lt_of_lt_of_le hj (Nat.le_add_right _ _))
      rw [e1, e2]
      simp [extRow, hlt, PRow.truncCols, hj]
    · refine ⟨PRow.one, InSpan.one, fun j hj => ?_⟩
      obtain ⟨e1, e2⟩ := hr.1 j (Nat.lt_of_lt_of_le hj (Nat.le_add_right _ _))
      rw [e1, e2]
      have : ¬ j = i := fun e => hlt (e ▸ hj)
      simp [extRow, hlt, PRow.one, Zq, this]
  | mul a1 a2 _ _ ih1 ih2 =>
    obtain ⟨b1, hb1, e1⟩ := ih1
    obtain ⟨b2, hb2, e2⟩ := ih2
    refine ⟨PRow.mul target.n b1 b2, InSpan.mul _ _ hb1 hb2, fun j hj => ?_⟩
    rw [PRow.mul_x, PRow.mul_z, PRow.mul_x, PRow.mul_z, (e1 j hj).1, (e1 j hj).2, (e2 j hj).1, (e2 j hj).2]
    exact ⟨rfl, rfl⟩
  | eqv a1 a2 _ hab ih =>
    obtain ⟨b, hb, e⟩ := ih
    refine ⟨b, hb, fun j hj => ?_⟩
    obtain ⟨c1, c2⟩ := hab.1 j (by rw [hN]; exact Nat.lt_of_lt_of_le hj (Nat.le_add_right _ _))
    exact ⟨(e j hj).1.trans c1, (e j hj).2.trans c2⟩

theorem notProd_withEmitters (target : STab) (ne p : Nat) (hp : p < target.n) (h : target.NotProd p) :
    (withEmitters target ne).NotProd p := by
  have hN : (withEmitters target ne).n = target.n + ne := withEmitters_n target ne
  intro a ha hs
  obtain ⟨b, hb, e⟩ := spn_withEmitters_restrict target ne a ha
  have := h b hb (fun j hj hjp => by
    have := hs j (by rw [hN]; omega) hjp
    exact ⟨(e j hj).1.trans this.1, (e j hj).2.trans this.2⟩)
  exact ⟨(e p hp).1.symm.trans this.1, (e p hp).2.symm.trans this.2⟩

/-- **a vertex with a neighbour is not a product qubit of the graph state**.  The X part of a product of graph generators is the
    selection itself, so an element that is trivial off `p` selects no generator other than `p`; the Z bit it would then have at a
    neighbour of `p` rules out `p` too, so it is trivial at `p` as well. -/
theorem graph_notProd (np : Nat) (adj : Nat → Nat → Bool) (hirr : ∀ i, adj i i = false) (p : Nat) (hp : p < np)
    (hnb : ∃ j, j < np ∧ adj p j = true) : (graphSTab np adj).NotProd p := by
  intro a ha hs
  obtain ⟨S, hS⟩ := spn_combo (graphSTab np adj) a ha
  have hn : (graphSTab np adj).n = np := rfl
  rw [hn] at hS hs
  have hX : ∀ j, j < np → (graphSTab np adj).comboX S j = S j := by
    intro j hj
    unfold STab.comboX
    rw [hn, parityTo_one np j _ hj]
    · simp [graphSTab]
    · intro i _ hij
      have : ¬ j = i := fun e => hij e.symm
      simp [graphSTab, this]
  have hSoff : ∀ j, j < np → j ≠ p → S j = false := by
    intro j hj hjp
    rw [← hX j hj, (hS j hj).1]; exact (hs j hj hjp).1
  have hZ : ∀ j, j < np → (graphSTab np adj).comboZ S j = (S p && adj p j) := by
    intro j hj
    unfold STab.comboZ
    rw [hn, parityTo_one np p _ hp]
    · simp [graphSTab, hj]
    · intro i hi hip
      simp [hSoff i hi hip]
  obtain ⟨j0, hj0, hadj⟩ := hnb
  have hj0p : j0 ≠ p := by
    intro e; rw [e, hirr] at hadj; cases hadj
  have hSp : S p = false := by
    have h1 := (hS j0 hj0).2
    rw [hZ j0 hj0, hadj, (hs j0 hj0 hj0p).2] at h1
    simpa using h1
  refine ⟨?_, ?_⟩
  · rw [← (hS p hp).1, hX p hp]; exact hSp
  · rw [← (hS p hp).2, hZ p hp, hSp]; rfl

/-- appending emitters in |0⟩ keeps the column of an isolated photon: the old rows are extended by identities (`withEmitters_row`),
    so row `w` still has the bits of `X_p`, and the new rows `Z_e` are trivial at `p` -/
theorem litX_withEmitters (target : STab) (ne p : Nat) (hp : p < target.n) (h : target.LitX p) :
    (withEmitters target ne).LitX p := by
  have hN : (withEmitters target ne).n = target.n + ne := withEmitters_n target ne
  obtain ⟨w, hw, hrow, hoth⟩ := h
  have hwN : w < target.n + ne := Nat.lt_of_lt_of_le hw (Nat.le_add_right _ _)
  refine ⟨w, hN ▸ hwN, ?_, ?_⟩
  · intro j hj
    rw [hN] at hj
    obtain ⟨e1, e2⟩ := (withEmitters_row target ne w hwN).1 j hj
    rw [e1, e2]
    by_cases hjn : j < target.n
    · obtain ⟨b1, b2⟩ := hrow j hjn
      simp [extRow, hw, PRow.truncCols, hjn, b1, b2]
    · have : ¬ j = p := fun e => hjn (e ▸ hp)
      simp [extRow, hw, PRow.truncCols, hjn, Xq, this]
  · intro k hk hkw
    rw [hN] at hk
    obtain ⟨e1, e2⟩ := (withEmitters_row target ne k hk).1 p (Nat.lt_of_lt_of_le hp (Nat.le_add_right _ _))
    apply PRow.pt_of_bits
    · rw [e1]
      by_cases hkn : k < target.n
      · have := PRow.pt_zero_bits _ _ (hoth k hkn hkw)
        simp [extRow, hkn, PRow.truncCols, hp, this.1]
      · simp [extRow, hkn, Zq]
    · rw [e2]
      by_cases hkn : k < target.n
      · have := PRow.pt_zero_bits _ _ (hoth k hkn hkw)
        simp [extRow, hkn, PRow.truncCols, hp, this.2]
      · have : ¬ p = k := fun e => hkn (e ▸ hp)
        simp [extRow, hkn, Zq, this]

/-- **an isolated vertex of a graph state is the product qubit `X_p`**, alone in its column -/
theorem graph_litX (np : Nat) (adj : Nat → Nat → Bool) (hsym : ∀ i j, adj i j = adj j i) (p : Nat) (hp : p < np)
    (hiso : ∀ j, j < np → adj p j = false) : (graphSTab np adj).LitX p := by
  refine ⟨p, hp, ?_, ?_⟩
  · intro j hj
    have hj' : j < np := hj
    refine ⟨rfl, ?_⟩
    show (decide (j < np) && adj p j) = false
    rw [hiso j hj']; simp
  · intro k hk hkp
    have hk' : k < np := hk
    apply PRow.pt_of_bits
    · show decide (p = k) = false
      have : ¬ p = k := fun e => hkp e.symm
      simp [this]
    · show (decide (p < np) && adj k p) = false
      rw [hsym k p, hiso k hk']; simp

theorem rinv_init (I : Nat → Prop) (target : STab) (hg : target.Good) (hi : target.LinIndep) (ne : Nat)
    (hdet : determineNEmitters target = .ok ne) (hnp : ∀ p, p < target.n → ¬ I p → target.NotProd p)
    (hx : ∀ p, p < target.n → I p → target.LitX p) :
    RInv I target.n ne target.n { np := target.n, ne := ne, t := withEmitters target ne, circ := [] } := by
  obtain ⟨g0, n0⟩ := withEmitters_good target hg ne
  refine ⟨Nat.le_refl _, rfl, rfl, n0, g0, indep_withEmitters target hi ne, ?_, ?_, ?_, ?_⟩
  · intro q h1 h2; omega
  · intro p hp hI; exact notProd_withEmitters target ne p hp (hnp p hp hI)
  · intro p hp hI; exact litX_withEmitters target ne p hp (hx p hp hI)
  · intro k hk; exact cutRank_withEmitters target ne hdet k (by omega)

end Graphiq.Solver
