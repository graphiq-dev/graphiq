/-
  C20 — the single-qubit Clifford library is complete, closed and consistently ordered.

  The gate lists and elementary matrices are regenerated from `graphiq/circuit/ops.py` on every run
  (`Generated/CliffTables.lean`); the first two theorems tie the model to them by kernel evaluation, so every statement
  below is about what the source says today.  Matrices are exact Gaussian-integer matrices (Hadamard times √2); equality
  "up to global phase" is equality up to a scalar (`M2.peq`).
-/
import GraphiqModel.Proofs.Clifford1
import GraphiqModel.Proofs.Pauli
import GraphiqModel.Generated.CliffTables
namespace Graphiq.C20
open Graphiq Graphiq.Cliff

/-- the lists of `local_clifford_composition()` in the source are the model's -/
theorem lists_agree_with_source : Repo.compA = compA ∧ Repo.compB = compB := by decide

/-- the matrices of `local_clifford_to_matrix_map` in the source are the model's (exactly; Hadamard scaled by √2) -/
theorem matrices_agree_with_source :
    Repo.mats.map (·.1) = Gen.all ∧ Repo.mats.all (fun gm => gm.2 == gmat gm.1) = true := by decide

/-- exactly 24 members -/
theorem count_24 : all24.length = 24 := by decide

/-- pairwise inequivalent up to global phase -/
theorem pairwise_inequivalent :
    (List.range 24).all (fun i => (List.range 24).all fun j =>
      i == j || !((prodW all24[i]!).peq (prodW all24[j]!))) = true := by decide +kernel

/-- closed under multiplication: the product of any two members is, up to global phase, a member -/
theorem closed_under_multiplication :
    all24.all (fun g => all24.all fun h => (find ((prodW g).mul (prodW h))).isSome) = true := by
  simp only [List.all_eq_true]
  intro g _ h _
  -- the product of two members is the product of the concatenated word, which `simplify` finds
  obtain ⟨m, hm, _⟩ := simplify_correct (g ++ h)
  rw [← prodW_append]
  exact Option.isSome_iff_exists.mpr ⟨m, hm⟩

/-- **every word** over {I,H,P,X,Y,Z} simplifies to a member whose unitary equals the product of the word up to global phase
    (induction over the word; the kernel-checked step table covers `H` and `P`, the other generators are words in these up to a
    scalar) -/
theorem simplify_total_and_correct (w : List Gen) :
    ∃ m, simplify w = some m ∧ m ∈ all24 ∧ (prodW m).peq (prodW w) = true := simplify_correct w

/-- a (scaled-)unitary that is not a Clifford is rejected: `(3 + 4i·X)` is 5 × a unitary and matches no member -/
theorem non_clifford_rejected : find ⟨⟨3, 0⟩, ⟨0, 4⟩, ⟨0, 4⟩, ⟨3, 0⟩⟩ = none := by decide +kernel

/-- a gate list denotes the matrix product in list order: appending a gate multiplies on the right, i.e. the last listed gate
    acts first on a state vector -/
theorem wrapper_denotes_product (w : List Gen) (g : Gen) : prodW (w ++ [g]) = (prodW w).mul (gmat g) := by
  simp [prodW, List.foldl_append]

/-! ### the stabilizer backend applies the same unitaries: one-qubit bridge between matrices and signed Pauli rows -/

def dag (m : M2) : M2 := ⟨⟨m.a.re, -m.a.im⟩, ⟨m.c.re, -m.c.im⟩, ⟨m.b.re, -m.b.im⟩, ⟨m.d.re, -m.d.im⟩⟩

/-- matrix of the one-qubit signed row `(-1)^r σ(x,z)` with σ(1,1) = Y -/
def pauliMat (x z r : Bool) : M2 :=
  let base : M2 := match x, z with
    | false, false => ⟨1, 0, 0, 1⟩
    | true, false => gmat .X
    | true, true => gmat .Y
    | false, true => gmat .Z
  if r then M2.smul ⟨-1, 0⟩ base else base

/-- row map of each generator on qubit 0, as executed by transformation.py -/
def rowAct : Gen → PRow → PRow
  | .I => id | .H => PRow.h 0 | .P => PRow.s 0 | .X => PRow.xg 0 | .Y => PRow.yg 0 | .Z => PRow.zg 0

def row1 (x z r : Bool) : PRow := ⟨fun _ => x, fun _ => z, r, false⟩

/-- **bridge (kernel, all 6 gates × all 8 signed one-qubit Paulis)**: conjugating the Pauli matrix by the gate's matrix gives
    the matrix of the row the stabilizer backend computes, sign included (`U σ U† = |scale|² · σ'`) -/
theorem rows_match_matrices :
    Gen.all.all (fun g => [false, true].all fun x => [false, true].all fun z => [false, true].all fun r =>
      let p' := rowAct g (row1 x z r)
      ((gmat g).mul (pauliMat x z r)).mul (dag (gmat g))
        == M2.smul (if g == .H then ⟨2, 0⟩ else ⟨1, 0⟩) (pauliMat (p'.x 0) (p'.z 0) p'.r)) = true := by decide +kernel

/-! ### Non-vacuity -/
example : simplify [.H, .P, .H, .X] = some [.P, .H, .P, .I] := by decide +kernel
example : simplify [.Z, .P] = some [.P, .Z] := by decide +kernel

end Graphiq.C20
