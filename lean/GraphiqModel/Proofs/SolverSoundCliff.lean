/-
  Proofs/SolverSoundCliff.lean — `simplify_local_clifford` preserves the tableau action of a one-qubit gate word.

  `Cliff.simplify` (Model/Clifford1.lean) is defined through products of 2×2 Gaussian-integer matrices and equality up to a
  scalar; the tableau semantics of a word is its four-entry table `tblW` (Proofs/SolverSoundLocal.lean).  The bridge is
  conjugation: the table `t` of a word and its matrix `M` satisfy `M · P = ± P' · M` for every Pauli `P`, where `t` sends `P` to
  `± P'` (`Conj`).  This relation is multiplicative, survives a change of scalar, and — `M` being invertible — determines `t`.
-/
import GraphiqModel.Proofs.Clifford1
import GraphiqModel.Proofs.SolverSoundLocal
namespace Graphiq.Solver
open Graphiq Graphiq.Cliff

theorem smul_cancel (k : GI) (hk : 0 < k.norm) (m n : M2) (h : M2.smul k m = M2.smul k n) : m = n := by
  apply M2.ext'
  · exact GI.sub_eq_of_mul k _ _ hk (congrArg M2.a h)
  · exact GI.sub_eq_of_mul k _ _ hk (congrArg M2.b h)
  · exact GI.sub_eq_of_mul k _ _ hk (congrArg M2.c h)
  · exact GI.sub_eq_of_mul k _ _ hk (congrArg M2.d h)

def det (m : M2) : GI := m.a * m.d + ⟨-1, 0⟩ * (m.b * m.c)

def adj (m : M2) : M2 := ⟨m.d, ⟨-1, 0⟩ * m.b, ⟨-1, 0⟩ * m.c, m.a⟩

theorem det_mul (m n : M2) : det (m.mul n) = det m * det n := by
  apply GI.ext' <;> simp only [det, M2.mul, GI.mul_re, GI.mul_im, GI.add_re, GI.add_im] <;> ring

theorem mul_adj (m : M2) : m.mul (adj m) = M2.smul (det m) I2 := by
  apply M2.ext' <;> (apply GI.ext' <;> simp only [M2.smul, M2.mul, adj, det, I2_eq, GI.mul_re, GI.mul_im, GI.add_re, GI.add_im] <;> ring)

theorem mul_right_cancel (m : M2) (hm : 0 < (det m).norm) (n p : M2) (h : n.mul m = p.mul m) : n = p := by
  apply smul_cancel (det m) hm
  have e := congrArg (fun q => q.mul (adj m)) h
  simp only [M2.mul_assoc', mul_adj, mul_smul, M2.mul_I2] at e
  exact e

/-! ### the table of a word is the conjugation action of its matrix -/

/-- the Pauli matrix with bits `(x, z)`: I, Z, X and Y = i·X·Z -/
def pauli : Bool → Bool → M2
  | false, false => I2 | false, true => gmat .Z | true, false => gmat .X | true, true => gmat .Y

def sgn (s : Bool) : GI := if s then ⟨-1, 0⟩ else 1

theorem sgn_xor (s s' : Bool) : sgn (xor s s') = sgn s * sgn s' := by
  cases s <;> cases s' <;> decide

/-- `M · P = ± P' · M` whenever the table sends the Pauli `P` to `± P'` -/
def Conj (M : M2) (t : L1) : Prop :=
  ∀ x z, M.mul (pauli x z) = M2.smul (sgn (t.ap x z).2.2) ((pauli (t.ap x z).1 (t.ap x z).2.1).mul M)

theorem conj_one : Conj I2 L1.one := by
  intro x z
  cases x <;> cases z <;> decide +kernel

theorem conj_gen (g : Gen) : Conj (gmat g) (genTbl g) := by
  intro x z
  cases g <;> cases x <;> cases z <;> decide +kernel

theorem conj_mul (M N : M2) (t u : L1) (hM : Conj M t) (hN : Conj N u) : Conj (M.mul N) (t.comp u) := by
  intro x z
  -- (M N) P = M (± P' N) = ± (M P') N = ± ± (P'' M) N
  rw [M2.mul_assoc', hN x z, mul_smul, ← M2.mul_assoc', hM, smul_mul, smul_smul, M2.mul_assoc']
  simp only [L1.comp, L1.ap_ofFn, sgn_xor]

/-- along the left fold by which `prodW` walks a word, matrix and table stay conjugate -/
theorem conj_foldl (w : List Gen) (M : M2) (t : L1) (h : Conj M t) :
    Conj (w.foldl (fun acc g => acc.mul (gmat g)) M) (t.comp (tblW w)) := by
  induction w generalizing M t with
  | nil => rw [show tblW [] = L1.one from rfl, L1.comp_one]; exact h
  | cons g rest ih =>
    have := ih _ _ (conj_mul M (gmat g) t (genTbl g) h (conj_gen g))
    rwa [L1.comp_assoc] at this

theorem conj_prodW (w : List Gen) : Conj (prodW w) (tblW w) := by
  have := conj_foldl w I2 L1.one conj_one
  rwa [L1.one_comp] at this

theorem det_prodW (w : List Gen) : 0 < (det (prodW w)).norm := by
  have key : ∀ (w : List Gen) (M : M2), 0 < (det M).norm → 0 < (det (w.foldl (fun acc g => acc.mul (gmat g)) M)).norm := by
    intro w
    induction w with
    | nil => exact fun M h => h
    | cons g rest ih =>
      intro M h
      apply ih
      rw [det_mul, GI.norm_mul]
      exact Int.mul_pos h (by cases g <;> decide)
  exact key w I2 (by decide)

/-! ### the conjugation action does not see the scalar -/

theorem conj_of_smul (k k' : GI) (hk : 0 < k.norm) (M M' : M2) (t : L1) (h : M2.smul k' M = M2.smul k M') (hM : Conj M t) :
    Conj M' t := by
  intro x z
  apply smul_cancel k hk
  rw [← smul_mul, ← h, smul_mul, hM x z, smul_comm k, ← mul_smul k, ← h, mul_smul, smul_comm k']

theorem spauli_inj : ∀ x z s x' z' s' : Bool, M2.smul (sgn s) (pauli x z) = M2.smul (sgn s') (pauli x' z') →
    x = x' ∧ z = z' ∧ s = s' := by
  decide

theorem conj_unique (M : M2) (hM : 0 < (det M).norm) (t t' : L1) (h : Conj M t) (h' : Conj M t') : t = t' := by
  apply L1.ext_ap
  intro x z
  have e := (h x z).symm.trans (h' x z)
  rw [← smul_mul, ← smul_mul] at e
  obtain ⟨e1, e2, e3⟩ := spauli_inj _ _ _ _ _ _ (mul_right_cancel M hM _ _ e)
  exact Prod.ext e1 (Prod.ext e2 e3)

theorem peq_smul (M N : M2) (h : M.peq N = true) (i : Nat) (hi : i < 4) :
    M2.smul N.entries[i]! M = M2.smul M.entries[i]! N := by
  unfold M2.peq at h
  simp only [List.all_eq_true, List.mem_range, beq_iff_eq] at h
  apply M2.ext'
  · exact (GI.mul_comm' _ _).trans (h 0 (by omega) i hi)
  · exact (GI.mul_comm' _ _).trans (h 1 (by omega) i hi)
  · exact (GI.mul_comm' _ _).trans (h 2 (by omega) i hi)
  · exact (GI.mul_comm' _ _).trans (h 3 (by omega) i hi)

theorem norm_pos_or_zero (x : GI) : 0 < x.norm ∨ x = ⟨0, 0⟩ := by
  by_cases h : 0 < x.norm
  · exact Or.inl h
  · have h1 := mul_self_nonneg x.re
    have h2 := mul_self_nonneg x.im
    exact Or.inr (GI.eq_zero_of_norm x (by unfold GI.norm at h ⊢; omega))

/-- matrices equal up to a scalar have the same conjugation action: the scalar is an entry of the first row, one of which is
    non-zero -/
theorem conj_of_peq (M N : M2) (hM : 0 < (det M).norm) (h : M.peq N = true) (t : L1) (hc : Conj M t) : Conj N t := by
  rcases norm_pos_or_zero M.a with ha | ha
  · exact conj_of_smul M.a N.a ha M N t (peq_smul M N h 0 (by omega)) hc
  · rcases norm_pos_or_zero M.b with hb | hb
    · exact conj_of_smul M.b N.b hb M N t (peq_smul M N h 1 (by omega)) hc
    · rw [det, ha, hb] at hM
      simp [GI.norm] at hM

/-- **`simplify_local_clifford` returns a word with the same tableau action** (conjugation action on signed Paulis) -/
theorem simplify_tbl (w m : List Gen) (h : simplify w = some m) : tblW m = tblW w := by
  unfold simplify find at h
  have hp : (prodW m).peq (prodW w) = true := by simpa using List.find?_some h
  exact conj_unique (prodW w) (det_prodW w) _ _ (conj_of_peq _ _ (det_prodW m) hp _ (conj_prodW m)) (conj_prodW w)

theorem simplify_isSome (w : List Gen) : ∃ m, simplify w = some m := by
  obtain ⟨m, hm, _⟩ := simplify_correct w
  exact ⟨m, hm⟩

theorem tblW_identityPair : tblW identityPair = L1.one := by decide

end Graphiq.Solver
