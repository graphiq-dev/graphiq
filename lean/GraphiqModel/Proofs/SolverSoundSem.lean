/-
  Proofs/SolverSoundSem.lean — forward semantics of the solver's recorded operations at the level of signed stabilizer
  GROUPS (sets of signed Pauli rows closed under product and row equality), and the "generates the target" predicate
  `GGen` that the solver maintains as an invariant while it walks the protocol backwards.

  * a unitary operation maps a group `S` to its image `img f S` under the row map of the gate;
  * `MeasurementCNOTandReset e → p` with a RANDOM outcome `o` of the Z-measurement of the emitter maps `S` to
    `⟨(-1)^o Z_e, {a ∈ S : a commutes with Z_e}⟩`, then (if `o = 1`) applies X on the photon and X on the emitter (the reset);
  * `GGen c S`: every operation of `c` is well-formed, every measurement met on the way is random, and whatever the outcomes are,
    `c` takes the group `S` to exactly the target group `T0`.
  `Proofs/SolverSoundRefine.lean` shows that `stabRun` (the tableau semantics proved valid in C07/C01) refines this semantics.
-/
import GraphiqModel.Proofs.SolverSoundLocal
namespace Graphiq.Solver
open Graphiq Graphiq.Cliff PRow STab Tab

theorem pset_ext {S T : PSet} (h : ∀ a, S a ↔ T a) : S = T := funext fun a => propext (h a)

/-- the signed group generated by a set -/
inductive Cl (n : Nat) (G : PSet) : PSet
  | one : Cl n G PRow.one
  | base (a : PRow) : G a → Cl n G a
  | mul (a b : PRow) : Cl n G a → Cl n G b → Cl n G (PRow.mul n a b)
  | eqv (a b : PRow) : Cl n G a → EqOn n a b → Cl n G b

/-- a row map that is a Pauli-group automorphism, fixes the identity and keeps the i-phase bit -/
structure GMap (n : Nat) (f : PRow → PRow) : Prop where
  aut : IsAut n f
  one : EqOn n (f PRow.one) PRow.one
  ip : ∀ a, (f a).ip = a.ip

/-- well-formed recorded operation: register indices in range (two-qubit operations then act on distinct qubits) -/
def SOp.WF (np ne : Nat) : SOp → Prop
  | .wrap _ q => q < np + ne
  | .emit e p => e < ne ∧ p < np
  | .cnotEE c t => c < ne ∧ t < ne ∧ c ≠ t
  | .mcr e p => e < ne ∧ p < np

/-- forward row map of a unitary recorded operation (global qubit indices: photons first) -/
def SOp.fwd (np : Nat) : SOp → PRow → PRow
  | .wrap gs q => actW q gs
  | .emit e p => PRow.cnot (np + e) p
  | .cnotEE c t => PRow.cnot (np + c) (np + t)
  | .mcr _ _ => id

/-- the group after a Z-measurement of qubit `e` with random outcome `o` -/
def measPost (n e : Nat) (o : Bool) (S : PSet) : PSet :=
  Cl n (fun b => EqOn n (Zq e o) b ∨ (S b ∧ b.x e = false))

/-- classically controlled X on the photon, then the reset of the emitter (X iff the outcome was 1) -/
def corr (n e p : Nat) (o : Bool) (S : PSet) : PSet :=
  if o then img n (fun a => PRow.xg e (PRow.xg p a)) S else S

/-- `MeasurementCNOTandReset(emitter e → photon p)` with a random measurement outcome `o` (global indices) -/
def mcrPost (n e p : Nat) (o : Bool) (S : PSet) : PSet := corr n e p o (measPost n e o S)

/-- precondition of one forward step: well-formed, and a measurement is random (some element of the group anticommutes with `Z_e`) -/
def gpre (np ne : Nat) (op : SOp) (S : PSet) : Prop :=
  op.WF np ne ∧
  match op with
  | .mcr e _ => ∃ a, S a ∧ a.x (np + e) = true
  | _ => True

/-- one forward step on groups; `o` is the (random) measurement outcome, ignored by unitary operations -/
def gstep (np ne : Nat) (op : SOp) (o : Bool) (S : PSet) : PSet :=
  match op with
  | .wrap gs q => img (np + ne) (actW q gs) S
  | .emit e p => img (np + ne) (PRow.cnot (np + e) p) S
  | .cnotEE c t => img (np + ne) (PRow.cnot (np + c) (np + t)) S
  | .mcr e p => mcrPost (np + ne) (np + e) p o S

/-- `c` (time order) takes the group `S` to exactly `T0`, whatever the measurement outcomes -/
def GGen (np ne : Nat) (T0 : PSet) : List SOp → PSet → Prop
  | [], S => S = T0
  | op :: c, S => gpre np ne op S ∧ ∀ o, GGen np ne T0 c (gstep np ne op o S)

/-! ### basic facts -/

theorem spn_closed (t : STab) : Closed t.n t.Spn := InSpan.closed _ _ _

theorem cl_closed (n : Nat) (G : PSet) : Closed n (Cl n G) :=
  ⟨Cl.one, fun a b ha hb => Cl.mul a b ha hb, fun a b ha hab => Cl.eqv a b ha hab⟩

theorem cl_le (n : Nat) (G S : PSet) (hS : Closed n S) (h : ∀ a, G a → S a) : ∀ a, Cl n G a → S a := by
  intro a ha
  induction ha with
  | one => exact hS.one
  | base a ha => exact h a ha
  | mul a b _ _ iha ihb => exact hS.mul a b iha ihb
  | eqv a b _ hab iha => exact hS.eqv a b iha hab

theorem GMap.comp {n : Nat} {f g : PRow → PRow} (hf : GMap n f) (hg : GMap n g) : GMap n (fun a => f (g a)) :=
  ⟨hf.aut.comp hg.aut, (hf.aut.congr _ _ hg.one).trans hf.one, fun a => (hf.ip _).trans (hg.ip a)⟩

theorem gmap_lift_of (n q : Nat) (t : L1) (ht : t.Fix) (h : IsAut n (lift q t)) : GMap n (lift q t) :=
  ⟨h, lift_one_row n q t ht, fun _ => rfl⟩

theorem gmap_actW (n q : Nat) (hq : q < n) (w : List Gen) : GMap n (actW q w) := by
  have e : actW q w = lift q (tblW w) := funext fun a => actW_eq_lift q w a
  rw [e]
  exact gmap_lift_of n q _ (tblW_fix w) (e ▸ actW_isAut n q hq w)

theorem gmap_xg (n q : Nat) (hq : q < n) : GMap n (PRow.xg q) := by
  have := gmap_actW n q hq [.X]
  exact this

theorem gmap_h (n q : Nat) (hq : q < n) : GMap n (PRow.h q) := gmap_actW n q hq [.H]

theorem gmap_cnot (n c t : Nat) (hc : c < n) (ht : t < n) (hct : c ≠ t) : GMap n (PRow.cnot c t) :=
  ⟨isAut_cnot n c t hc ht hct, Gate.act_one n (.CNOT c t), fun a => Gate.act_ip (.CNOT c t) a⟩

theorem GMap.isHom {n : Nat} {f : PRow → PRow} (hf : GMap n f) : IsHom n n f := hf.aut.isHom hf.one

theorem img_closed (n : Nat) (f : PRow → PRow) (hf : GMap n f) (S : PSet) (hS : Closed n S) : Closed n (img n f S) :=
  hf.isHom.img hS

theorem img_img (n : Nat) (f g : PRow → PRow) (hf : IsAut n f) (S : PSet) :
    img n f (img n g S) = img n (fun a => f (g a)) S := by
  apply pset_ext; intro b
  constructor
  · rintro ⟨a, ⟨a0, ha0, ea⟩, eb⟩
    exact ⟨a0, ha0, (hf.congr _ _ ea).trans eb⟩
  · rintro ⟨a0, ha0, eb⟩
    exact ⟨g a0, ⟨a0, ha0, EqOn.refl _ _⟩, eb⟩

theorem img_congr (n : Nat) (f g : PRow → PRow) (h : ∀ a, f a = g a) (S : PSet) : img n f S = img n g S := by
  have : f = g := funext h
  rw [this]

/-- a map that is the identity up to row equality fixes every group -/
theorem img_id_of (n : Nat) (f : PRow → PRow) (h : ∀ a, EqOn n (f a) a) (S : PSet) (hS : Closed n S) : img n f S = S := by
  apply pset_ext; intro b
  constructor
  · rintro ⟨a, ha, eb⟩; exact hS.eqv a b ha ((h a).symm.trans eb)
  · intro hb; exact ⟨b, hb, h b⟩

/-- two maps that undo each other (up to row equality): the image under the composite is the group itself -/
theorem img_cancel (n : Nat) (f g : PRow → PRow) (hf : IsAut n f) (h : ∀ a, EqOn n (f (g a)) a) (S : PSet) (hS : Closed n S) :
    img n f (img n g S) = S := by
  rw [img_img n f g hf]; exact img_id_of n _ h S hS

/-- the image of the generated group is generated by the images: both inclusions are minimality of `Cl` -/
theorem cl_img (n : Nat) (f : PRow → PRow) (hf : GMap n f) (G : PSet) : img n f (Cl n G) = Cl n (img n f G) := by
  apply pset_ext; intro b
  constructor
  · rintro ⟨a, ha, eb⟩
    exact Cl.eqv _ _ (cl_le n G _ (hf.isHom.preimage (cl_closed n _)) (fun a ha => Cl.base _ ⟨a, ha, EqOn.refl _ _⟩) a ha) eb
  · exact cl_le n _ _ (img_closed n f hf _ (cl_closed n G)) (fun b ⟨a, ha, e⟩ => ⟨a, Cl.base a ha, e⟩) b

theorem cl_congr (n : Nat) (G G' : PSet) (h : ∀ a, G a ↔ G' a) : Cl n G = Cl n G' := by
  rw [pset_ext h]

theorem ggen_cast (np ne : Nat) (T0 : PSet) (c : List SOp) (S S' : PSet) (h : ∀ a, S a ↔ S' a) (hg : GGen np ne T0 c S) :
    GGen np ne T0 c S' := by
  rw [← pset_ext h]; exact hg

theorem spanEq_spn (t t' : STab) (h : SpanEq t t') : t.Spn = t'.Spn :=
  pset_ext fun a => ⟨h.sub a, h.sup a⟩

end Graphiq.Solver
