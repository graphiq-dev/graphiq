/-
  Proofs/SolverCompleteWires.lean — emission structure of the circuit the solver model records: on every photon wire the FIRST operation
  (in time order) is the emission CNOT from an emitter of the circuit; no operation touches a photon before it is emitted.
  Pure bookkeeping of the operation list: what the solver does on a set `A` of qubits (`Quiet`, `Steps`) prepends operations on `A` or
  edits a one-qubit wrapper on a wire of `A`, and after the round of photon `p` nothing ever touches wire `p` again.
  At the end: every recorded operation acts on registers of the circuit (`solve_ops_wf`, read off the soundness invariant).
-/
import GraphiqModel.Proofs.SolverCompleteCount
import GraphiqModel.Proofs.SolverCompleteMain
namespace Graphiq.Solver
open Graphiq Graphiq.Cliff PRow STab

/-- the first operation (time order) on wire `q` -/
def firstOn (np q : Nat) (c : List SOp) : Option SOp := c.find? (fun o => o.touches np q)

theorem firstOn_cons_of_touches (np q : Nat) (o : SOp) (c : List SOp) (h : o.touches np q = true) :
    firstOn np q (o :: c) = some o := by
  unfold firstOn; simp [h]

theorem firstOn_cons_of_not (np q : Nat) (o : SOp) (c : List SOp) (h : o.touches np q = false) :
    firstOn np q (o :: c) = firstOn np q c := by
  unfold firstOn; simp [h]

theorem firstOn_append (np q : Nat) (a b : List SOp) :
    firstOn np q (a ++ b) = (firstOn np q a).or (firstOn np q b) := by
  unfold firstOn; rw [List.find?_append]

/-- `s → s'` leaves the first operation of every photon wire outside `P` alone (and the register counts) -/
structure PhotOK (P : Nat → Prop) (s s' : St) : Prop where
  np_eq : s'.np = s.np
  ne_eq : s'.ne = s.ne
  first : ∀ q, q < s.np → ¬ P q → firstOn s.np q s'.circ = firstOn s.np q s.circ

theorem PhotOK.refl (P : Nat → Prop) (s : St) : PhotOK P s s := ⟨rfl, rfl, fun _ _ _ => rfl⟩

theorem PhotOK.trans {P : Nat → Prop} {a b c : St} (h1 : PhotOK P a b) (h2 : PhotOK P b c) : PhotOK P a c := by
  refine ⟨h2.np_eq.trans h1.np_eq, h2.ne_eq.trans h1.ne_eq, fun q hq hP => ?_⟩
  have := h2.first q (by rw [h1.np_eq]; exact hq) hP
  rw [h1.np_eq] at this
  rw [this]; exact h1.first q hq hP

theorem PhotOK.mono {P Q : Nat → Prop} {a b : St} (hPQ : ∀ q, P q → Q q) (h : PhotOK P a b) : PhotOK Q a b :=
  ⟨h.np_eq, h.ne_eq, fun q hq hQ => h.first q hq (fun hp => hQ (hPQ q hp))⟩

/-- `_add_one_qubit_gate` on wire `q'` edits only wrappers on `q'` -/
theorem photOK_addOneQubit (s s' : St) (gs : List Gen) (q' : Nat) (h : addOneQubit s gs q' = .ok s') :
    PhotOK (fun q => q = q') s s' := by
  obtain ⟨_, e2, e3⟩ := addOneQubit_t s s' gs q' h
  refine ⟨e2, e3, fun q _ hq => ?_⟩
  have hwrap : ∀ g, (SOp.wrap g q').touches s.np q = false := by
    intro g
    show (q' == q) = false
    have : ¬ q' = q := fun e => hq e.symm
    simp [this]
  obtain ⟨g', ⟨pre, old, rest, e, _, _, rfl⟩ | ⟨_, rfl⟩⟩ := addOneQubit_of_ok s s' gs q' h
  · show firstOn s.np q (if g' = identityPair then pre ++ rest else pre ++ SOp.wrap g' q' :: rest) = firstOn s.np q s.circ
    rw [e]
    split
    · rw [firstOn_append, firstOn_append, firstOn_cons_of_not _ _ _ _ (hwrap old)]
    · rw [firstOn_append, firstOn_append, firstOn_cons_of_not _ _ _ _ (hwrap old), firstOn_cons_of_not _ _ _ _ (hwrap g')]
  · split
    · rfl
    · exact firstOn_cons_of_not _ _ _ _ (hwrap g')

theorem emitter_photon_off (np e photon q : Nat) (hq : q < np) (hqp : ¬ q = photon) :
    (np + e == q || photon == q) = false := by
  rw [beq_false_of_ne (Nat.ne_of_gt (Nat.lt_of_lt_of_le hq (Nat.le_add_right np e))), beq_false_of_ne (Ne.symm hqp)]
  rfl

theorem photOK_addEmitterCnot (P : Nat → Prop) (s : St) (c t : Nat) : PhotOK P s (addEmitterCnot s c t) :=
  ⟨rfl, rfl, fun q hq _ => firstOn_cons_of_not s.np q (SOp.cnotEE c t) s.circ
    (emitter_photon_off s.np c (s.np + t) q hq (Nat.ne_of_lt (Nat.lt_of_lt_of_le hq (Nat.le_add_right s.np t))))⟩

theorem photOK_setT (P : Nat → Prop) (s : St) (t : STab) : PhotOK P s { s with t := t } := ⟨rfl, rfl, fun _ _ _ => rfl⟩

theorem Quiet.photOK {A : Nat → Prop} {s s' : St} (h : Quiet A s s') : PhotOK A s s' := by
  induction h with
  | refl => exact PhotOK.refl A s
  | @wrap a a' q gl gs _ hA _ _ _ ha ih =>
    exact (ih.trans (photOK_setT A a _)).trans ((photOK_addOneQubit _ a' gs q ha).mono (fun c (hc : c = q) => hc ▸ hA))
  | cnot c t _ _ _ _ _ _ ih => exact ih.trans (photOK_addEmitterCnot A _ c t)

theorem Steps.photOK {A : Nat → Prop} {s s' : St} {fx : List SOp} (h : Steps A s fx s') : PhotOK A s s' := by
  induction h with
  | refl => exact PhotOK.refl A s
  | tab t' _ _ ih => exact ih.trans (photOK_setT A _ t')
  | quiet _ q ih => exact ih.trans q.photOK
  | @emit a fx e p _ _ _ hA _ ih =>
    exact ih.trans ⟨(emitStep_fixed a e p).np_eq, (emitStep_fixed a e p).ne_eq, fun q hq hnA =>
      firstOn_cons_of_not a.np q (.emit e p) a.circ (emitter_photon_off a.np e p q hq (fun e' => hnA (e' ▸ hA)))⟩
  | @mcr a fx e p _ _ _ hA _ _ ih =>
    exact ih.trans ⟨(mcrStep_fixed a e p).np_eq, (mcrStep_fixed a e p).ne_eq, fun q hq hnA =>
      firstOn_cons_of_not a.np q (.mcr e p) a.circ (emitter_photon_off a.np e p q hq (fun e' => hnA (e' ▸ hA)))⟩

/-- the loop: afterwards every photon wire `q < m` starts with its emission, the others are as before.  Round `p + 1` touches only
    wire `p` (and emitters) and puts the emission first on it; the later rounds leave wire `p` alone. -/
theorem photonLoop_wires (m : Nat) (s s' : St) (hn : s.t.n = s.np + s.ne) (hm : m ≤ s.np)
    (h : photonLoop s ((List.range m).reverse.map (· + 1)) = .ok s') :
    s'.np = s.np ∧ s'.ne = s.ne ∧ (∀ q, q < s.np → m ≤ q → firstOn s.np q s'.circ = firstOn s.np q s.circ) ∧
    (∀ q, q < m → q < s.np → ∃ e, e < s.ne ∧ firstOn s.np q s'.circ = some (.emit e q)) := by
  induction m generalizing s with
  | zero =>
    simp only [List.range_zero, List.reverse_nil, List.map_nil, photonLoop] at h
    injection h with h; rw [← h]
    exact ⟨rfl, rfl, fun _ _ _ => rfl, fun q hq _ => absurd hq (Nat.not_lt_zero q)⟩
  | succ p ih =>
    rw [photonLoop_succ] at h
    cases hr : photonRound s (p + 1) with
    | error e => rw [hr] at h; cases h
    | ok s1 =>
      rw [hr] at h
      obtain ⟨fx, e, a, t', st, _, he, o, rfl⟩ := photonRound_spec s s1 (p + 1) hn ⟨Nat.succ_le_succ (Nat.zero_le p), hm⟩ hr
      simp only [Nat.add_sub_cancel] at st o h ⊢
      have k := st.photOK
      have f := st.fixed
      obtain ⟨j1, j2, j3, j4⟩ := ih _ (by show t'.n = a.np + a.ne; rw [o.n_eq]; exact f.size hn)
        (by show p ≤ a.np; rw [f.np_eq]; exact Nat.le_of_succ_le hm) h
      have e1 : ({ emitStep a e p with t := t' } : St).np = s.np := f.np_eq
      have e2 : ({ emitStep a e p with t := t' } : St).ne = s.ne := f.ne_eq
      rw [e1] at j1 j3 j4
      rw [e2] at j2 j4
      refine ⟨j1, j2, fun q hq hmq => ?_, fun q hqm hq => ?_⟩
      · rw [j3 q hq (Nat.le_of_succ_le hmq)]
        show firstOn s.np q (SOp.emit e p :: a.circ) = _
        rw [firstOn_cons_of_not s.np q (.emit e p) _ (emitter_photon_off s.np e p q hq (Nat.ne_of_gt hmq))]
        exact k.first q hq (fun h => h.elim (Nat.ne_of_gt hmq) (Nat.not_le_of_lt hq))
      · by_cases hqp : q = p
        · subst hqp
          refine ⟨e, he, ?_⟩
          rw [j3 q hq (Nat.le_refl _)]
          exact firstOn_cons_of_touches s.np q (.emit e q) _ (by show (s.np + e == q || q == q) = true; simp)
        · exact j4 q (Nat.lt_of_le_of_ne (Nat.le_of_lt_succ hqm) hqp) hq

/-- **emission structure of the returned circuit** (any stabilizer target without product qubit): `solve` returns, and on every photon
    wire the first operation in time order is the emission CNOT from one of the circuit's emitters; the replayed inverse circuit and
    the sign loop act on emitters only -/
theorem solve_emission_first (target : STab) (hg : target.Good) (hi : target.LinIndep) (hn : 0 < target.n)
    (hnp : ∀ p, p < target.n → target.NotProd p) :
    ∃ s, solve target = .ok s ∧ ∀ p, p < target.n → ∃ e, e < s.ne ∧ firstOn target.n p s.circ = some (.emit e p) := by
  obtain ⟨s, hs, _⟩ := solve_complete_stabilizer target hg hi hn hnp
  refine ⟨s, hs, ?_⟩
  obtain ⟨ne, s1, t2, b, t', inv, s3, h0, h1, h2, h3, h4, h5, _⟩ := (solve_ok_iff target s).1 hs
  have ene : s.ne = ne := Except.ok.inj ((solve_emitter_count target s hs).symm.trans h0)
  have i0 := rinv_init (fun _ => False) target hg hi ne h0 (fun p hp _ => hnp p hp) (fun _ _ h => h.elim)
  obtain ⟨s1', hl1, i1⟩ := photonLoop_ok (fun _ => False) target.n ne target.n (fun _ _ h => h) _ i0
  rw [h1] at hl1
  injection hl1 with e1
  subst e1
  obtain ⟨w1, w2, _, w4⟩ := photonLoop_wires target.n _ s1 i0.n_eq (Nat.le_refl _) h1
  have i2 := i1.cops t2 (rref_cops s1.t t2 b h2)
  have hlit2 : ∀ q, q < target.n → t2.Lit q := fun q hq => i2.lit q (Nat.zero_le _) hq
  have hem := inverseCircuit_gates_on_emitters t2 t' inv target.n (by rw [i2.n_eq]; omega) i2.good hlit2 h3
  obtain ⟨_, _, hwf, _, _⟩ := inverseCircuit_tracks t2 t' inv i2.good h3
  have hn2 : t2.n = s1.np + s1.ne := by rw [i2.n_eq, i1.np_eq, i1.ne_eq]
  have q3 : Quiet (fun c => target.n ≤ c) { s1 with t := t2 } s3 :=
    addGatesFromStr_quiet _ s3 inv hn2 (fun g hgm => ⟨hwf g hgm, hem g hgm⟩) h4
  have k3 := q3.keeps
  have e3 : s3.np = target.n := k3.np_eq.trans i1.np_eq
  have e3' : s3.ne = ne := k3.ne_eq.trans i1.ne_eq
  rw [← e3, ← e3'] at h5
  have q5 := signLoop_quiet s3 s (k3.size hn2) h5
  rw [e3] at q5
  have k := ((photOK_setT (fun c => target.n ≤ c) s1 t2).trans q3.photOK).trans q5.photOK
  intro p hp
  obtain ⟨e, he, hf⟩ := w4 p hp hp
  refine ⟨e, by rw [ene]; exact he, ?_⟩
  have := k.first p (by rw [w1]; exact hp) (by omega)
  rw [w1] at this
  rw [this]; exact hf

theorem ggen_wf (np ne : Nat) (T0 : PSet) (c : List SOp) (S : PSet) (h : GGen np ne T0 c S) : ∀ o, o ∈ c → o.WF np ne := by
  induction c generalizing S with
  | nil => intro o ho; cases ho
  | cons op rest ih =>
    obtain ⟨hpre, hall⟩ := h
    intro o ho
    rcases List.mem_cons.mp ho with e | e
    · rw [e]; exact hpre.1
    · exact ih _ (hall false) o e

/-- every operation of the circuit `solve` records acts on registers of the circuit (emitters `< ne`, photons `< np`, distinct wires
    for two-qubit gates) -/
theorem solve_ops_wf (target : STab) (hg : target.Good) (s : St) (h : solve target = .ok s) :
    ∀ o, o ∈ s.circ → o.WF target.n s.ne :=
  ggen_wf _ _ _ _ _ (solve_inv target hg s h).gen

end Graphiq.Solver
