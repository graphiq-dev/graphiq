/-
  Proofs/StateToGraphCompress.lean — the Hilbert-space identity behind `_density_to_graph_pure` on graph states, for every n:
  with `|0_M⟩` the all-zero state of the qubits other than `i < j`,
      `⟨0_M| ρ_G |0_M⟩ = (4 / 2ⁿ) · ρ_{G[i,j]}`
  where `ρ_G = Hilbert.rho n (graphSTab n A)` is the density matrix of the graph state (`∏ (1 + K_v)/2`, equal to the textbook
  `CZ_E H^{⊗n}|0…0⟩⟨0…0|…`: `rho_graphSTab`) and `ρ_{G[i,j]}` that of the two-vertex graph with an edge iff `A i j`.
  `compress` is the matrix `⟨0_M| · |0_M⟩` (rows/columns of the basis states that vanish outside `i, j`); `P₀ ρ P₀` traced over `M` —
  what `project_and_remove` computes before normalising — is this matrix (the projected qubits are in `|0⟩`).
  Proof: by the entry formula `ρ_G a b = s(a) 2⁻ⁿ s(b)` (`rho_graph_apply`); on a basis state that vanishes outside `i, j` the sign
  `s` only sees the edges joining `i` and `j` (`czSign_emb`), and the two-vertex graph state is the case `n = 2` (`rho2_apply`).
-/
import GraphiqModel.Proofs.StateToGraphDensity
import GraphiqModel.Proofs.StateToGraphHilbert
import GraphiqModel.Proofs.StateToGraphNegativity
namespace Graphiq
open PRow Tab STab S2G Matrix Hilbert

/-- the basis state of `n` qubits that carries the two bits of `a` at the sites `i`, `j` and `0` elsewhere -/
def emb (n i j : Nat) (a : Bits 2) : Bits n := fun k => if k.val = i then a 0 else if k.val = j then a 1 else false

/-- `⟨0_M| M |0_M⟩` for `M` = all sites but `i, j` -/
def compress (n i j : Nat) (M : Matrix (Bits n) (Bits n) ℂ) : Matrix (Bits 2) (Bits 2) ℂ :=
  fun a b => M (emb n i j a) (emb n i j b)

theorem bx_emb (n i j : Nat) (a : Bits 2) (k : Nat) (hk : k < n) :
    bx (emb n i j a) k = if k = i then a 0 else if k = j then a 1 else false := by
  rw [bx_lt _ _ hk]; rfl

theorem emb_inj (n i j : Nat) (hi : i < n) (hj : j < n) (hij : i ≠ j) (a b : Bits 2) (h : emb n i j a = emb n i j b) : a = b := by
  funext s
  have h0 := congrFun h ⟨i, hi⟩
  have h1 := congrFun h ⟨j, hj⟩
  simp only [emb, if_true] at h0
  have hji : ¬ (j = i) := fun e => hij e.symm
  simp only [emb, hji, if_false, if_true] at h1
  have : s = 0 ∨ s = 1 := by
    rcases s with ⟨v, hv⟩
    have : v = 0 ∨ v = 1 := by omega
    rcases this with rfl | rfl
    · exact Or.inl rfl
    · exact Or.inr rfl
  rcases this with rfl | rfl
  · exact h0
  · exact h1

/-- on a basis state that vanishes off the pair only the edges joining `i` and `j` contribute to the sign -/
theorem czSign_emb (n i j : Nat) (hi : i < n) (hj : j < n) (es : List (Nat × Nat))
    (hne : ∀ e, e ∈ es → e.1 ≠ e.2) (a : Bits 2) :
    czSign es (emb n i j a) = if (edgeParity es i j && (a 0 && a 1)) then -1 else 1 := by
  induction es with
  | nil => rw [czSign_nil]; rfl
  | cons e es ih =>
    have he := hne e List.mem_cons_self
    have hb : ∀ k, bx (emb n i j a) k = if k = i then a 0 else if k = j then a 1 else false := by
      intro k
      by_cases hk : k < n
      · exact bx_emb n i j a k hk
      · rw [bx_ge _ _ hk, if_neg (by omega), if_neg (by omega)]
    have step : (bx (emb n i j a) e.1 && bx (emb n i j a) e.2) =
        (decide ((e.1 = i ∧ e.2 = j) ∨ (e.1 = j ∧ e.2 = i)) && (a 0 && a 1)) := by
      rw [hb, hb]
      by_cases h1 : e.1 = i
      · have h4 : ¬ (e.2 = i) := fun h => he (h1.trans h.symm)
        rw [if_pos h1, if_neg h4]
        by_cases h2 : e.2 = j
        · rw [if_pos h2, decide_eq_true (Or.inl ⟨h1, h2⟩), Bool.true_and]
        · rw [if_neg h2, decide_eq_false (by rintro (⟨_, h⟩ | ⟨h, _⟩) <;> omega), Bool.and_false, Bool.false_and]
      · rw [if_neg h1]
        by_cases h3 : e.1 = j
        · have h2 : ¬ (e.2 = j) := fun h => he (h3.trans h.symm)
          rw [if_pos h3, if_neg h2]
          by_cases h4 : e.2 = i
          · rw [if_pos h4, decide_eq_true (Or.inr ⟨h3, h4⟩), Bool.true_and, Bool.and_comm]
          · rw [if_neg h4, decide_eq_false (by rintro (⟨h, _⟩ | ⟨_, h⟩) <;> omega), Bool.and_false, Bool.false_and]
        · rw [if_neg h3, decide_eq_false (by rintro (⟨h, _⟩ | ⟨h, _⟩) <;> omega), Bool.false_and, Bool.false_and]
    rw [czSign_cons, step, edgeParity_cons, ih (fun e' h => hne e' (List.mem_cons_of_mem _ h))]
    cases decide ((e.1 = i ∧ e.2 = j) ∨ (e.1 = j ∧ e.2 = i)) <;> cases edgeParity es i j <;> cases (a 0 && a 1) <;> simp

theorem pairAdj_symm (e : Bool) (i j : Nat) : pairAdj e i j = pairAdj e j i := by
  unfold pairAdj
  rw [Bool.or_comm, Bool.and_comm (i == 0), Bool.and_comm (i == 1)]

theorem pairAdj_irrefl (e : Bool) (i : Nat) : pairAdj e i i = false := by
  cases e <;> cases i <;> simp [pairAdj]

theorem emb_self (a : Bits 2) : emb 2 0 1 a = a := by
  funext k
  rcases k with ⟨v, hv⟩
  have : v = 0 ∨ v = 1 := by omega
  rcases this with rfl | rfl <;> rfl

/-- the two-vertex graph state is `|++⟩⟨++|`, conjugated by `CZ` if there is an edge: entry `(a, b)` is `¼ (−1)^(e a₀a₁) (−1)^(e b₀b₁)` -/
theorem rho2_apply (e : Bool) (a b : Bits 2) :
    rho 2 (graphSTab 2 (pairAdj e)) a b =
      (if (e && (a 0 && a 1)) then -1 else 1) * (1 / 2 : ℂ) ^ 2 * (if (e && (b 0 && b 1)) then -1 else 1) := by
  have hs := fun i j (_ : i < 2) (_ : j < 2) => pairAdj_symm e i j
  have hr := fun i (_ : i < 2) => pairAdj_irrefl e i
  obtain ⟨hne, hA⟩ := edgesOf_spec 2 (pairAdj e) hs hr
  have he : edgeParity (edgesOf 2 (pairAdj e)) 0 1 = e := by
    rw [← hA 0 1 (by decide) (by decide)]; cases e <;> rfl
  rw [rho_graph_apply 2 _ hs hr, ← emb_self a, ← emb_self b,
    czSign_emb 2 0 1 (by decide) (by decide) _ hne, czSign_emb 2 0 1 (by decide) (by decide) _ hne, he,
    emb_self, emb_self]

/-- `⟨0_M| ρ_G |0_M⟩ = (4/2ⁿ) ρ_{G[i,j]}` -/
theorem compress_rho_graph (n : Nat) (A : Adj) (hsym : ∀ i j, i < n → j < n → A i j = A j i) (hirr : ∀ i, i < n → A i i = false)
    (i j : Nat) (hij : i < j) (hj : j < n) :
    compress n i j (rho n (graphSTab n A)) = ((1 / 2 : ℂ) ^ n * 4) • rho 2 (graphSTab 2 (pairAdj (A i j))) := by
  obtain ⟨hne, hA⟩ := edgesOf_spec n A hsym hirr
  ext a b
  show rho n (graphSTab n A) (emb n i j a) (emb n i j b) = ((1 / 2 : ℂ) ^ n * 4) * rho 2 (graphSTab 2 (pairAdj (A i j))) a b
  rw [rho_graph_apply n A hsym hirr, czSign_emb n i j (by omega) hj _ hne,
    czSign_emb n i j (by omega) hj _ hne, ← hA i j (by omega) hj, rho2_apply]
  ring

/-! ### `project_and_remove` as a map on density matrices

  `dmf.project_and_remove(rho, mask)` with `mask[k] = 1` for `k ∉ {i, j}`: `new_rho = P₀ ρ P₀` with `P₀ = ⊗_{k ∉ {i,j}} |0⟩⟨0|_k ⊗ 1`
  (if its trace is 0 the code switches to `1 − P₀`; on graph states the trace is `4/2ⁿ`, see below), `new_rho / tr(new_rho)`, then the
  partial trace over the projected qubits. -/

/-- the basis states that vanish off the pair -/
def offZero (n i j : Nat) (c : Bits n) : Prop := ∀ k : Fin n, k.val ≠ i → k.val ≠ j → c k = false

instance (n i j : Nat) (c : Bits n) : Decidable (offZero n i j c) := by unfold offZero; infer_instance

/-- `P₀ = ⊗_{k ∉ {i,j}} |0⟩⟨0|_k` (identity on the pair) -/
noncomputable def projOff (n i j : Nat) : Matrix (Bits n) (Bits n) ℂ :=
  Matrix.diagonal fun c => if offZero n i j c then 1 else 0

/-- the bits of `a` on the pair, those of `m` elsewhere -/
def comb (n i j : Nat) (a : Bits 2) (m : Bits n) : Bits n := fun k => if k.val = i then a 0 else if k.val = j then a 1 else m k

/-- partial trace over the qubits other than `i, j`: `Σ_m X[(a, m), (b, m)]`, `m` ranging over the bit strings of the traced qubits
    (represented by the `n`-bit strings that vanish on the pair) -/
noncomputable def ptraceOff (n i j : Nat) (X : Matrix (Bits n) (Bits n) ℂ) : Matrix (Bits 2) (Bits 2) ℂ :=
  fun a b => ∑ m : Bits n, if (∀ k : Fin n, (k.val = i ∨ k.val = j) → m k = false) then X (comb n i j a m) (comb n i j b m) else 0

/-- `project_and_remove` on the pair `(i, j)` (the branch with non-zero trace) -/
noncomputable def projectAndRemove (n i j : Nat) (ρ : Matrix (Bits n) (Bits n) ℂ) : Matrix (Bits 2) (Bits 2) ℂ :=
  (Matrix.trace (projOff n i j * ρ * projOff n i j))⁻¹ • ptraceOff n i j (projOff n i j * ρ * projOff n i j)

theorem projOff_sandwich (n i j : Nat) (X : Matrix (Bits n) (Bits n) ℂ) (c d : Bits n) :
    (projOff n i j * X * projOff n i j) c d =
      (if offZero n i j c then 1 else 0) * X c d * (if offZero n i j d then 1 else 0) := by
  unfold projOff
  rw [Matrix.mul_diagonal, Matrix.diagonal_mul]

theorem offZero_comb (n i j : Nat) (a : Bits 2) (m : Bits n) :
    offZero n i j (comb n i j a m) ↔ ∀ k : Fin n, k.val ≠ i → k.val ≠ j → m k = false := by
  unfold offZero comb
  constructor
  · intro h k h1 h2
    have := h k h1 h2
    simpa [h1, h2] using this
  · intro h k h1 h2
    simp [h1, h2, h k h1 h2]

/-- the partial trace of the projected matrix is the compression: `Tr_M (P₀ X P₀) = ⟨0_M| X |0_M⟩` -/
theorem ptraceOff_projOff (n i j : Nat) (X : Matrix (Bits n) (Bits n) ℂ) :
    ptraceOff n i j (projOff n i j * X * projOff n i j) = compress n i j X := by
  ext a b
  unfold ptraceOff
  rw [Finset.sum_eq_single (fun _ => false : Bits n)]
  · have h0 : ∀ k : Fin n, (k.val = i ∨ k.val = j) → (fun _ => false : Bits n) k = false := fun _ _ => rfl
    rw [if_pos h0, projOff_sandwich]
    have e : ∀ c : Bits 2, comb n i j c (fun _ => false) = emb n i j c := fun c => rfl
    have hz : ∀ c : Bits 2, offZero n i j (emb n i j c) := by
      intro c k h1 h2
      simp [emb, h1, h2]
    rw [e a, e b, if_pos (hz a), if_pos (hz b), _root_.one_mul, _root_.mul_one]
    rfl
  · intro m _ hm
    split
    · next hpair =>
      rw [projOff_sandwich]
      have : ¬ offZero n i j (comb n i j a m) := by
        intro h
        apply hm
        funext k
        by_cases hk : k.val = i ∨ k.val = j
        · exact hpair k hk
        · exact (offZero_comb n i j a m).mp h k (fun e => hk (Or.inl e)) (fun e => hk (Or.inr e))
      rw [if_neg this]; simp
    · rfl
  · intro h; exact absurd (Finset.mem_univ _) h

theorem trace_projOff (n i j : Nat) (X : Matrix (Bits n) (Bits n) ℂ) :
    Matrix.trace (ptraceOff n i j (projOff n i j * X * projOff n i j)) = Matrix.trace (compress n i j X) := by
  rw [ptraceOff_projOff]

/-- the trace `np.trace(new_rho)` of the projected `2ⁿ × 2ⁿ` matrix is the trace of the compression -/
theorem trace_projOff_sandwich (n i j : Nat) (hi : i < n) (hj : j < n) (hij : i ≠ j) (X : Matrix (Bits n) (Bits n) ℂ) :
    Matrix.trace (projOff n i j * X * projOff n i j) = Matrix.trace (compress n i j X) := by
  unfold Matrix.trace
  simp only [Matrix.diag_apply, projOff_sandwich]
  have e1 : ∀ c : Bits n, (if offZero n i j c then (1 : ℂ) else 0) * X c c * (if offZero n i j c then 1 else 0) =
      if offZero n i j c then X c c else 0 := by
    intro c; split <;> simp
  rw [Finset.sum_congr rfl (fun c _ => e1 c), ← Finset.sum_filter]
  have himg : (Finset.univ.filter fun c : Bits n => offZero n i j c) = Finset.univ.image (emb n i j) := by
    ext c
    simp only [Finset.mem_filter, Finset.mem_univ, true_and, Finset.mem_image]
    constructor
    · intro h
      refine ⟨fun s => if s.val = 0 then c ⟨i, hi⟩ else c ⟨j, hj⟩, ?_⟩
      funext k
      have hji : ¬ (j = i) := fun e => hij e.symm
      by_cases h1 : k.val = i
      · have : k = ⟨i, hi⟩ := Fin.ext h1
        simp [emb, this]
      · by_cases h2 : k.val = j
        · have : k = ⟨j, hj⟩ := Fin.ext h2
          simp [emb, this, hji]
        · simp [emb, h1, h2, h k h1 h2]
    · rintro ⟨a, rfl⟩ k h1 h2
      simp [emb, h1, h2]
  rw [himg, Finset.sum_image (fun a _ b _ h => emb_inj n i j hi hj hij a b h)]
  rfl

theorem trace_rho_pair (a : Bool) : Matrix.trace (rho 2 (graphSTab 2 (pairAdj a))) = 1 := by
  show Matrix.trace (rhoTo 2 (graphSTab 2 (pairAdj a)).row 2) = 1
  rw [trace_rhoTo_paired 2 (graphSTab 2 (pairAdj a)).row (fun k => Zq k) 2 (by
    intro u v hu hv
    show sp 2 (Zq u) ((graphSTab 2 (pairAdj a)).row v) = decide (v = u)
    have h1 : u = 0 ∨ u = 1 := by omega
    have h2 : v = 0 ∨ v = 1 := by omega
    rcases h1 with rfl | rfl <;> rcases h2 with rfl | rfl <;> cases a <;> decide)]
  norm_num

/-- `project_and_remove(|G⟩⟨G|, all but i, j) = |G[i,j]⟩⟨G[i,j]|`: the trace
    of the projected matrix is `4/2ⁿ ≠ 0` (so the code never takes its `1 − P₀` branch on a graph state), and the normalised partial
    trace is the density matrix of the two-vertex graph with an edge iff `A i j` -/
theorem projectAndRemove_graph (n : Nat) (A : Adj) (hsym : ∀ i j, i < n → j < n → A i j = A j i) (hirr : ∀ i, i < n → A i i = false)
    (i j : Nat) (hij : i < j) (hj : j < n) :
    Matrix.trace (projOff n i j * rho n (graphSTab n A) * projOff n i j) = (1 / 2 : ℂ) ^ n * 4 ∧
    projectAndRemove n i j (rho n (graphSTab n A)) = rho 2 (graphSTab 2 (pairAdj (A i j))) := by
  have hi : i < n := by omega
  have hne : i ≠ j := by omega
  have hc := compress_rho_graph n A hsym hirr i j hij hj
  have htr : Matrix.trace (projOff n i j * rho n (graphSTab n A) * projOff n i j) = (1 / 2 : ℂ) ^ n * 4 := by
    rw [trace_projOff_sandwich n i j hi hj hne, hc, Matrix.trace_smul, trace_rho_pair, smul_eq_mul, _root_.mul_one]
  refine ⟨htr, ?_⟩
  unfold projectAndRemove
  rw [htr, ptraceOff_projOff, hc, smul_smul]
  have : ((1 / 2 : ℂ) ^ n * 4)⁻¹ * ((1 / 2 : ℂ) ^ n * 4) = 1 := by
    apply inv_mul_cancel₀
    apply mul_ne_zero
    · exact pow_ne_zero n (by norm_num)
    · norm_num
  rw [this, one_smul]

/-- index of a two-qubit basis state in the 4×4 matrices: `2·b₀ + b₁` -/
def idx2 (a : Bits 2) : Fin 4 := ⟨2 * (a 0).toNat + (a 1).toNat, by cases a 0 <;> cases a 1 <;> decide⟩

theorem idx2_eq_three (a : Bits 2) : idx2 a = 3 ↔ (a 0 && a 1) = true := by
  cases h0 : a 0 <;> cases h1 : a 1 <;> simp [idx2, h0, h1, Fin.ext_iff]

/-- `rhoEdge = ¼ v vᵀ` with `v = (1, 1, 1, −1)`, `rhoPlus = ¼ v vᵀ` with `v = (1, 1, 1, 1)` -/
theorem rhoPair_eq (e : Bool) :
    (if e then Neg.rhoEdge else Neg.rhoPlus) =
      Matrix.of fun i j => (if (e && decide (i = 3)) then -1 else 1) * (1 / 2) ^ 2 * (if (e && decide (j = 3)) then -1 else 1) := by
  revert e
  decide +kernel

/-- the density matrices of the two two-vertex graph states are `Neg.rhoPlus` and `Neg.rhoEdge`, entry by entry -/
theorem rho2_entries (e : Bool) (a b : Bits 2) :
    rho 2 (graphSTab 2 (pairAdj e)) a b = (((if e then Neg.rhoEdge else Neg.rhoPlus) (idx2 a) (idx2 b) : ℚ) : ℂ) := by
  rw [rho2_apply, rhoPair_eq, Matrix.of_apply]
  simp only [idx2_eq_three, Bool.decide_eq_true]
  have cast_sign : ∀ c : Bool, (((if c then -1 else 1 : ℚ)) : ℂ) = if c then -1 else 1 := by
    intro c
    cases c <;> simp
  push_cast
  rw [cast_sign, cast_sign]

end Graphiq
