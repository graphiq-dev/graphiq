/-
  Proofs/MixtureDMBridgeStab.lean — the executable "stabilizer → density matrix" conversions are the Hilbert-space states:

  * `toC_pauliMat` : `DM.pauliMat n p` (the `np.kron` chain of one-site Paulis of the row's labels, qubit 0 left-most) is
    `Hilbert.pauliMat n (bare p)`;
  * `toC_stabilizerDensity` : `DM.stabilizerDensity t = ∏_k (I + (−1)^{r_k} g_k)/2` is `ρ(STab.ofTab t)`;
  * `toC_mixtureDensity` : `Noise.mixtureDensity n m` is `mixRho n m = Σ_k w_k ρ(T_k)`.
-/
import GraphiqModel.Proofs.MixtureDMBridgeGate
import GraphiqModel.Proofs.HilbertBridgeDensity
namespace Graphiq
namespace MixDM
open Matrix Hilbert Noise DM PRow

/-- **the `np.kron` chain of one-site Paulis is the Pauli string** (labels only; the sign is applied by the caller) -/
theorem toC_pauliMat (n : Nat) (p : PRow) : toC n (DM.pauliMat n p) = Hilbert.pauliMat n (bare p) :=
  (rep_pauliMat n p).toC

/-- **`stabilizerDensity t = ∏_k (I + (−1)^{r_k} g_k)/2` is the state `ρ(T)`** of the stabilizer half of the tableau -/
theorem toC_stabilizerDensity (n : Nat) (t : Tab) (hn : t.n = n) :
    toC n (stabilizerDensity t) = tabRho n t ∧ (stabilizerDensity t).n = 2 ^ n := by
  subst hn
  exact ⟨(rep_stabilizerDensity t).toC, (rep_stabilizerDensity t).1⟩

theorem rep_mixtureFold (n : Nat) : ∀ (m : Mixture) {acc : Mat} {A : HMat n}, MixN n m → Rep n acc A →
    Rep n (m.foldl (fun acc x => (Mat.add acc (Mat.smul x.1 (stabilizerDensity x.2)).norm).norm) acc) (A + mixRho n m)
  | [], _, _, _, ha => ha.congr (add_zero _).symm
  | (w, t) :: rest, _, _, hm, ha => by
    have ht : Rep n (stabilizerDensity t) (tabRho n t) := hm.head ▸ rep_stabilizerDensity t
    refine (rep_mixtureFold n rest hm.tail (ha.add (ht.smul w).norm).norm).congr ?_
    rw [mixRho_cons, add_assoc, Complex.ofReal_ratCast]

/-- **`mixtureDensity n m` is `Σ_k w_k ρ(T_k)`** -/
theorem toC_mixtureDensity (n : Nat) (m : Mixture) (hm : MixN n m) :
    toC n (mixtureDensity n m) = mixRho n m ∧ (mixtureDensity n m).n = 2 ^ n :=
  have h := (rep_mixtureFold n m hm (Rep.zero n)).congr (zero_add _)
  ⟨h.toC, h.1⟩

end MixDM
end Graphiq
