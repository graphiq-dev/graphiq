/-
  MetricsHistEmit.lean — `CircuitEmitterCount` of a circuit built by `add` = the op-list specification `Spec.emitterCount`
  (continuous register numbering: an emitter register is created exactly when an operation names the next free index), C18.
-/
import GraphiqModel.Proofs.Metrics
namespace Graphiq
namespace Metrics
open Dag Relation

theorem nE_addRegs {c : Dag} {P : Paths} (g : Good c P) (rs : List Reg) (hok : (c.addRegs rs).2 = none) :
    (c.addRegs rs).1.nE = rs.foldl (fun n r => if r.ty = .e ∧ r.idx = n then n + 1 else n) c.nE := by
  induction rs generalizing c P with
  | nil => rfl
  | cons r rest ih =>
    unfold addRegs at hok ⊢
    rw [List.foldl_cons]
    by_cases h1 : c.regs r.ty < r.idx
    · rw [addRegIfAbsent_gap h1] at hok; simp at hok
    · by_cases h2 : r.idx = c.regs r.ty
      · rw [addRegIfAbsent_new g.inv h2] at hok ⊢
        simp only at hok ⊢
        have hg := withNewReg_good g h2
        rw [ih hg hok]
        congr 1
        have hnE : (c.withNewReg r).nE = (c.withNewReg r).regs .e := rfl
        rw [hnE, withNewReg_regs]
        by_cases ht : r.ty = .e
        · have : r.idx = c.nE := by rw [h2, ht]; rfl
          simp [ht, this]
          rfl
        · have : RegType.e ≠ r.ty := fun e => ht e.symm
          simp [ht, this]
          rfl
      · have hl : c.live r := by unfold live; omega
        rw [addRegIfAbsent_old g.inv hl] at hok ⊢
        simp only at hok ⊢
        rw [ih g hok]
        congr 1
        by_cases ht : r.ty = .e
        · have : r.idx ≠ c.nE := by
            intro e; apply h2; rw [e, ht]; rfl
          simp [ht, this]
        · simp [ht]

theorem foldl_classical (cs : List Nat) : ∀ n : Nat,
    (cs.map (Reg.mk .c)).foldl (fun n r => if r.ty = .e ∧ r.idx = n then n + 1 else n) n = n := by
  induction cs with
  | nil => intro n; rfl
  | cons j t ih =>
    intro n
    rw [List.map_cons, List.foldl_cons]
    have : ¬ ((Reg.mk .c j).ty = .e ∧ (Reg.mk .c j).idx = n) := by simp
    rw [if_neg this]
    exact ih n

theorem nE_addRegs_classical {c : Dag} {P : Paths} (g : Good c P) (cs : List Nat) (hok : (c.addRegs (cs.map (Reg.mk .c))).2 = none) :
    (c.addRegs (cs.map (Reg.mk .c))).1.nE = c.nE := by
  rw [nE_addRegs g _ hok, foldl_classical]

theorem nE_add {c : Dag} {P : Paths} (g : Good c P) {op : Op} (hop : OpWF op) (hok : (c.add op).2 = none) :
    (c.add op).1.nE = (sortRegs op.qregs).foldl (fun n r => if r.ty = .e ∧ r.idx = n then n + 1 else n) c.nE := by
  obtain ⟨hens, heq⟩ := add_of_ok hok
  obtain ⟨_, s, hl⟩ := ensureRegs_chain g op
  rw [heq, add_eq_prim (s.good g) hop (hl hens)]
  show ((Prim.insert op _).run (c.ensureRegs op).1).regs .e = _
  rw [Prim.insert_regs]
  show (c.ensureRegs op).1.nE = _
  unfold ensureRegs at hens ⊢
  obtain ⟨_, s1, _⟩ := addRegs_chain g (op.cregs.map (Reg.mk .c))
  have hn1 := nE_addRegs_classical g op.cregs
  cases h1 : c.addRegs (op.cregs.map (Reg.mk .c)) with
  | mk c1 e1 =>
    rw [h1] at hens s1 hn1
    cases e1 with
    | some e => simp at hens
    | none =>
      have hq : op.qregs.isEmpty = false := by
        cases hqq : op.qregs with
        | nil => exact absurd hqq hop.qregs_ne
        | cons a t => rfl
      simp only [hq, Bool.false_eq_true, if_false] at hens ⊢
      rw [nE_addRegs (s1.good g) _ hens, hn1 rfl]

/-- **`CircuitEmitterCount` of a circuit built by `add` = `Spec.emitterCount`** (number of emitter registers after adding the
    operation list to `CircuitDAG(ne, …)` under continuous register numbering) -/
theorem emitterCount_build (ne np nc : Nat) (seq : List Op) (hwf : ∀ op ∈ seq, OpWF op) (hok : (build ne np nc seq).2 = none) :
    Metrics.emitterCount (build ne np nc seq).1 = Spec.emitterCount ne seq := by
  obtain ⟨_, h⟩ := build_preserves (R := fun c done => DagInv c ∧ c.nE = Spec.emitterCount ne done)
    ⟨init_good ne np nc, (init_regs ne np nc).1⟩ (by
      rintro c done op ⟨⟨P, g⟩, hn⟩ hop hadd
      obtain ⟨P', s⟩ := add_chain g hop
      refine ⟨⟨P', s.good g⟩, ?_⟩
      rw [nE_add g hop hadd, hn]
      unfold Spec.emitterCount
      rw [List.foldl_append]
      rfl) seq hwf hok
  exact h

end Metrics
end Graphiq
