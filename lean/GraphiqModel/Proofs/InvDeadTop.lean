/-
  Proofs/InvDeadTop.lean — `inverse_circuit` equals `inverse_circuit` without its "Eliminate Zs" block on every real
  commuting input (Proofs/InvDead.lean assembled with the bridge `Canon ⟹ Inv1` of Proofs/InvBridge.lean).
-/
import GraphiqModel.Proofs.InvBridge
import GraphiqModel.Proofs.InvDead
namespace Graphiq
open PRow Tab
namespace STab

/-- `inverse_circuit` with the sixth block ("Eliminate Zs") deleted -/
def inverseCircuitNoElim (t : STab) : Except Err (STab × List Gate) :=
  match t.canonicalForm with
  | .error e => .error e
  | .ok t0 =>
    match invBlock1 t0 with
    | .error e => .error e
    | .ok s1 => .ok ((invRestNoElim t0.n s1).t, (invRestNoElim t0.n s1).circ)

/-- on the canonical form of a state: the state before the sixth block is a fixed point of the sixth block -/
theorem canon_eliminateZs_identity (c : STab) (hc : Canon c) (hg : c.Good) (s1 : InvState) (e : invBlock1 c = .ok s1) :
    (pairsLt c.n).foldl invStep6 (invUpTo5 c.n s1) = invUpTo5 c.n s1 ∧ invRest c.n s1 = invRestNoElim c.n s1 := by
  obtain ⟨k, px, hinv⟩ := canon_inv1 c hc hg
  obtain ⟨s1', e1, hn, hg1, hp1, hl⟩ := invBlock1_returns c k px hinv
  rw [e] at e1
  injection e1 with e1
  subst e1
  rw [← hn] at hl ⊢
  exact ⟨eliminateZs_identity s1 hg1 hp1 hl, invRest_eq_noElim s1 hg1 hp1 hl⟩

/-- **deleting the "Eliminate Zs" block does not change `inverse_circuit`** (tableau, gate list and errors) -/
theorem inverseCircuit_eq_noElim (t : STab) (hg : t.Good) : t.inverseCircuit = t.inverseCircuitNoElim := by
  unfold STab.inverseCircuit inverseCircuitNoElim invBlocks
  cases hc : t.canonicalForm with
  | error e => rfl
  | ok t0 =>
    simp only
    cases hb : invBlock1 t0 with
    | error e => rfl
    | ok s1 =>
      simp only
      obtain ⟨_, g0⟩ := canonicalForm_spanEq t t0 hg hc
      rw [(canon_eliminateZs_identity t0 (canonicalForm_canon t t0 hc) g0 s1 hb).2]

end STab
end Graphiq
