/-
  Proofs/InvClifford.lean — `clifford_from_stabilizer` and `get_clifford_tableau_from_graph`: the Clifford tableau obtained by
  running the synthesised inverse circuit backwards (`P ↔ P_dag`) from `CliffordTableau(n)` (destabilizers `X_i`, stabilizers
  `Z_i`) is a valid tableau (symplectic: row `i` anticommutes exactly with its partner `i ± n`), every row is real, and its
  stabilizer half generates exactly the signed group of the input.
-/
import GraphiqModel.Proofs.InvTotal
import GraphiqModel.Proofs.InnerProduct
import GraphiqModel.Model.Convert
namespace Graphiq
open PRow Tab
namespace STab

/-- `run_circuit(tableau, circ, reverse=True)` runs the reversed list with `P ↔ P_dag` -/
theorem runCircuit_reverse (T : Tab) (c : List Gate) : T.runCircuit c true = T.runCircuit (revCirc c) := by
  simp [Tab.runCircuit, revCirc]

theorem runCircuit_valid (n : Nat) (c : List Gate) (hc : ∀ g, g ∈ c → g.WF n) (T : Tab) (hn : T.n = n) (hv : T.Valid)
    (hr : ∀ i, i < 2 * n → (T.row i).ip = false) :
    (T.runCircuit c).n = n ∧ (T.runCircuit c).Valid ∧ ∀ i, i < 2 * n → ((T.runCircuit c).row i).ip = false := by
  obtain ⟨h1, h2⟩ := Tab.runCircuit_rows n c hc T hn
  refine ⟨h1, ?_, ?_⟩
  · intro i k hi hk
    rw [h1] at hi hk ⊢
    rw [sp_eqOn n _ _ _ _ (h2 i hi) (h2 k hk), STab.actCirc_sp n c hc]
    have := hv i k (by rw [hn]; exact hi) (by rw [hn]; exact hk)
    rw [hn] at this; exact this
  · intro i hi
    rw [(h2 i hi).2.2, actCirc_ip]; exact hr i hi

theorem ket0_rows_real (n : Nat) (i : Nat) : ((Tab.ket0 n).row i).ip = false := by
  simp only [Tab.ket0]
  split <;> rfl

/-- the stabilizer half of `CliffordTableau(n)` is the tableau of |0…0⟩ -/
theorem ofTab_ket0_row (n i : Nat) : (STab.ofTab (Tab.ket0 n)).row i = PRow.Zq i := by
  show { ((Tab.ket0 n).row (i + (Tab.ket0 n).n)) with ip := false } = _
  have : (Tab.ket0 n).n = n := rfl
  rw [this]
  simp only [Tab.ket0]
  rw [if_neg (by omega), show i + n - n = i from by omega]
  rfl

/-- **what `clifford_from_stabilizer` returns** (whenever it returns, on real commuting generators): a tableau of the
    input's size that is valid, all of whose rows are real, and whose stabilizer half generates exactly the signed
    group of the input -/
theorem cliffordFromStabilizer_sound (t : STab) (T : Tab) (hg : t.Good) (h : t.cliffordFromStabilizer = .ok T) :
    T.n = t.n ∧ T.Valid ∧ (∀ i, i < 2 * t.n → (T.row i).ip = false) ∧ SpanEq (STab.ofTab T) t := by
  unfold cliffordFromStabilizer at h
  split at h
  · cases h
  · next t' circ hs =>
    injection h with h
    rw [runCircuit_reverse] at h
    subst h
    have iz := (inverseCircuit_image t t' circ hg hs).rev
    have hrev := iz.wf
    obtain ⟨v1, v2, v3⟩ := runCircuit_valid t.n (revCirc circ) hrev (Tab.ket0 t.n) rfl (ket0_valid t.n)
      (fun i _ => ket0_rows_real t.n i)
    refine ⟨v1, v2, v3, ?_⟩
    -- the stabilizer half is the image of |0…0⟩ under the reversed list, which is the input's group
    have img : CircImage t.n (revCirc circ) (STab.zero t.n) (STab.ofTab ((Tab.ket0 t.n).runCircuit (revCirc circ))) := by
      apply circImage_of_rows t.n (revCirc circ) hrev (STab.zero t.n)
        (STab.ofTab ((Tab.ket0 t.n).runCircuit (revCirc circ))) rfl v1
      intro i hi
      have := ofTab_runCircuit_row t.n (revCirc circ) hrev (Tab.ket0 t.n) rfl i hi
      rw [ofTab_ket0_row t.n i] at this
      exact this
    exact spanEq_image img iz (SpanEq.refl _)

/-- **`clifford_from_stabilizer` returns on every stabilizer state**, with the properties above -/
theorem cliffordFromStabilizer_complete (t : STab) (hg : t.Good) (hi : t.Indep) :
    ∃ T, t.cliffordFromStabilizer = .ok T ∧ T.n = t.n ∧ T.Valid ∧ (∀ i, i < 2 * t.n → (T.row i).ip = false) ∧
      SpanEq (STab.ofTab T) t := by
  obtain ⟨t', circ, hs, _⟩ := inverseCircuit_complete t hg hi
  have e : t.cliffordFromStabilizer = .ok ((Tab.ket0 t.n).runCircuit circ true) := by
    unfold cliffordFromStabilizer; rw [hs]
  exact ⟨_, e, cliffordFromStabilizer_sound t _ hg e⟩

/-- **replaying the inverse circuit of its stabilizer half takes a Clifford tableau to |0…0⟩**: for a valid tableau `T`
    with real rows, `run_circuit(T, circ)` with `(_, circ) = inverse_circuit(T.to_stabilizer())` is again a valid tableau,
    and its stabilizer half generates exactly the signed group of |0…0⟩ -/
theorem runCircuit_inverse_zero (T : Tab) (hv : T.Valid) (hr : ∀ i, i < 2 * T.n → (T.row i).ip = false)
    (hg : (STab.ofTab T).Good) (t' : STab) (circ : List Gate) (h : (STab.ofTab T).inverseCircuit = .ok (t', circ)) :
    (T.runCircuit circ).n = T.n ∧ (T.runCircuit circ).Valid ∧ SpanEq (STab.ofTab (T.runCircuit circ)) (STab.zero T.n) := by
  have iz : CircImage T.n circ (STab.ofTab T) (STab.zero T.n) := inverseCircuit_image _ t' circ hg h
  obtain ⟨v1, v2, _⟩ := runCircuit_valid T.n circ iz.wf T rfl hv hr
  -- the stabilizer half of the replayed tableau and |0…0⟩ are images of the same group under `circ`
  exact ⟨v1, v2, spanEq_image (ofTab_runCircuit_image T.n circ iz.wf T rfl hg).1 iz (SpanEq.refl _)⟩

/-! ### graph states -/

/-- the generators `X_i Z_{N(i)}` of a graph state are real and commute -/
theorem graphSTab_good' (n : Nat) (adj : Nat → Nat → Bool) (hsym : ∀ i j, i < n → j < n → adj i j = adj j i) :
    (graphSTab n adj).Good := by
  constructor
  · intro i _; rfl
  · intro i k hi hk
    have hi' : i < n := hi
    have hk' : k < n := hk
    show sp n _ _ = false
    by_cases e : i = k
    · rw [e]; exact sp_self _ _
    · unfold sp
      rw [parityTo_two n i k _ hi' hk' e]
      · have e' : ¬ (k = i) := fun h => e h.symm
        simp [graphSTab, e, e', hi', hk', hsym k i hk' hi']
      · intro j h1 h2
        simp [graphSTab, h1, h2]

/-- the graph-state tableau is already in `Canon` shape (X block = identity, no Z block) -/
theorem graphSTab_canon (n : Nat) (A : Nat → Nat → Bool) : Canon (graphSTab n A) := by
  refine ⟨n, id, id, ⟨Nat.zero_le _, Nat.le_refl _, fun i _ h => h, fun i _ _ => ?_, fun i m _ _ _ hne => ?_,
    fun i j _ _ hj => ?_, fun i i' _ h _ => h, fun m j h1 h2 _ => ?_⟩,
    ⟨Nat.le_refl _, Nat.le_refl _, fun i h1 h2 => ?_, fun i h1 h2 => ?_, fun i m h1 h2 => ?_,
      fun i j h1 h2 => ?_, fun i i' h1 h2 h3 => ?_, fun m j h1 h2 => ?_⟩⟩
  · show decide (i = i) = true; simp
  · show decide (i = m) = false
    have : ¬ i = m := fun e => hne e.symm
    simp [this]
  · show decide (j = i) = false
    have hj' : j < i := hj
    have : ¬ j = i := by omega
    simp [this]
  · have : m < n := h2
    omega
  all_goals (have : (graphSTab n A).n = n := rfl; omega)

theorem graphSTab_indep (n : Nat) (adj : Nat → Nat → Bool) : (graphSTab n adj).Indep :=
  (graphSTab_canon n adj).indep

/-- **`get_clifford_tableau_from_graph`** (every n, every symmetric adjacency relation): `clifford_from_stabilizer` of the
    graph-state generators `[I | A]` returns a valid tableau with real rows whose stabilizer half generates exactly the
    signed group of the graph state -/
theorem cliffordFromGraph_correct (n : Nat) (adj : Nat → Nat → Bool) (hsym : ∀ i j, i < n → j < n → adj i j = adj j i) :
    ∃ T, (graphSTab n adj).cliffordFromStabilizer = .ok T ∧ T.n = n ∧ T.Valid ∧ (∀ i, i < 2 * n → (T.row i).ip = false) ∧
      SpanEq (STab.ofTab T) (graphSTab n adj) :=
  cliffordFromStabilizer_complete (graphSTab n adj) (graphSTab_good' n adj hsym) (graphSTab_indep n adj)

end STab
end Graphiq
