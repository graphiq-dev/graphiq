/-
  Proofs/LCSeqLoop.lean — the loops of `lc_graph_operations` keep the invariant of Proofs/LCSeqStep.lean: the first `while`
  (`_singles`) with its termination measure, and one step of `_doubles` (the second `while` is in Proofs/LCSeqTerm.lean).
-/
import GraphiqModel.Proofs.LCSeqStep
namespace Graphiq.LC
open Graphiq

/-- number of blocks with `c = 1` -/
def cntC (n : Nat) (q : Nat → Bool) : Nat := countTo n fun m => q (4 * m + 2)

/-! ### the tracked state -/

/-- after the complementations `seq` the matrix `r` is `R(θ, Q)` for the current graph `θ = θ0 * seq` and some valid local Clifford
    `Q` from `θ` to the target `b` with `μ` blocks `c = 1` -/
def Track (n : Nat) (b θ0 : Adj) (r : BMat) (seq : List Nat) (μ : Nat) : Prop :=
  ∃ q : Nat → Bool, LCInv n (applySeq θ0 seq) b q ∧ RRel n r (applySeq θ0 seq) q ∧ (∀ v ∈ seq, v < n) ∧ cntC n q = μ

theorem Track.inv {n : Nat} {b θ0 : Adj} {r : BMat} {seq : List Nat} {μ : Nat} (h : Track n b θ0 r seq μ) :
    ∃ q, LCInv n (applySeq θ0 seq) b q ∧ RRel n r (applySeq θ0 seq) q := by
  obtain ⟨q, hI, hR, _, _⟩ := h
  exact ⟨q, hI, hR⟩

theorem Track.rows {n : Nat} {b θ0 : Adj} {r : BMat} {seq : List Nat} {μ : Nat} (h : Track n b θ0 r seq μ) : r.r = n := by
  obtain ⟨_, _, hR, _, _⟩ := h
  exact hR.hr

theorem Track.cols {n : Nat} {b θ0 : Adj} {r : BMat} {seq : List Nat} {μ : Nat} (h : Track n b θ0 r seq μ) : r.c = n := by
  obtain ⟨_, _, hR, _, _⟩ := h
  exact hR.hc

theorem Track.bound {n : Nat} {b θ0 : Adj} {r : BMat} {seq : List Nat} {μ : Nat} (h : Track n b θ0 r seq μ) : μ ≤ n := by
  obtain ⟨q, _, _, _, hμ⟩ := h
  rw [← hμ]
  exact countTo_le n _

theorem Track.valid {n : Nat} {b θ0 : Adj} {r : BMat} {seq : List Nat} {μ : Nat} (h : Track n b θ0 r seq μ) :
    ∀ v ∈ seq, v < n := by
  obtain ⟨_, _, _, hs, _⟩ := h
  exact hs

/-- **one `_apply_f` at a vertex with `c_v = 1`** (recognised on `R`: a 0 on the diagonal, or an off-diagonal 1 in row `v`)
    is one local complementation; the count of `c = 1` blocks drops by one exactly when `R_vv = 1` -/
theorem Track.step {n : Nat} {b θ0 : Adj} {r : BMat} {seq : List Nat} {μ : Nat} (h : Track n b θ0 r seq μ)
    (hb : Simple n b) (v : Nat) (hv : v < n) (hcv : r.f v v = false ∨ ∃ j, j < n ∧ j ≠ v ∧ r.f v j = true) :
    ∃ μ', Track n b θ0 (applyF r v) (seq ++ [v]) μ' ∧ μ' + (if r.f v v then 1 else 0) = μ := by
  obtain ⟨q, hI, hR, hs, hμ⟩ := h
  have hc : q (4 * v + 2) = true := by
    rcases hcv with h0 | ⟨j, hj, hne, h1⟩
    · exact c_of_diag_zero hI hR v hv h0
    · exact c_of_offdiag hR v j hv hj hne h1
  have hdv : r.f v v = q (4 * v + 3) := by
    rw [hR.hf v v hv hv]; unfold rOf; simp
  refine ⟨cntC n (stepQ q (applySeq θ0 seq) v), ⟨stepQ q (applySeq θ0 seq) v, ?_, ?_, ?_, rfl⟩, ?_⟩
  · rw [applySeq_append]; exact hI.step hb v hv
  · rw [applySeq_append]; exact applyF_tracks n r _ q v hv hI.simple hR hc
  · intro w hw
    rcases List.mem_append.mp hw with hw | hw
    · exact hs w hw
    · rw [List.mem_singleton.mp hw]; exact hv
  · rw [← hμ, hdv]
    unfold cntC
    cases hd : q (4 * v + 3)
    · simp only [Bool.false_eq_true, if_false, Nat.add_zero]
      apply countTo_congr
      intro m _
      rw [stepQ_2]
      by_cases e : m = v
      · subst e; rw [hd]; simp
      · simp [e]
    · simp only [if_true]
      apply countTo_clear n v _ _ hv hc
      · rw [stepQ_2, hc, hd]; simp
      · intro m hm
        rw [stepQ_2]; simp [hm]

/-! ### `_singles` -/

theorem rowIsUnit_false (r : BMat) (i : Nat) (h : rowIsUnit r i = false) : ∃ j, j < r.c ∧ r.f i j ≠ decide (i = j) := by
  unfold rowIsUnit at h
  have : ¬ ((List.range r.c).all fun j => r.f i j == decide (i = j)) = true := by rw [h]; simp
  rw [List.all_eq_true] at this
  apply Classical.byContradiction
  intro hno
  apply this
  intro j hj
  have hj' : j < r.c := List.mem_range.mp hj
  cases e : (r.f i j == decide (i = j))
  · exact absurd ⟨j, hj', by simpa using e⟩ hno
  · rfl

theorem rowIsUnit_true (r : BMat) (i : Nat) (h : rowIsUnit r i = true) (j : Nat) (hj : j < r.c) : r.f i j = decide (i = j) := by
  unfold rowIsUnit at h
  rw [List.all_eq_true] at h
  have := h j (List.mem_range.mpr hj)
  simpa using this

theorem rowIsUnit_of (r : BMat) (i : Nat) (h : ∀ j, j < r.c → r.f i j = decide (i = j)) : rowIsUnit r i = true := by
  unfold rowIsUnit
  rw [List.all_eq_true]
  intro j hj
  rw [h j (List.mem_range.mp hj)]
  simp

/-- the test of `_singles` / `_condition` at `i` -/
def singleTest (r : BMat) (i : Nat) : Bool := r.f i i && !rowIsUnit r i

theorem singleTest_offdiag (r : BMat) (i : Nat) (h : singleTest r i = true) :
    r.f i i = true ∧ ∃ j, j < r.c ∧ j ≠ i ∧ r.f i j = true := by
  unfold singleTest at h
  have h1 : r.f i i = true := by revert h; cases r.f i i <;> simp
  have h2 : rowIsUnit r i = false := by revert h; cases rowIsUnit r i <;> simp
  obtain ⟨j, hj, hne⟩ := rowIsUnit_false r i h2
  refine ⟨h1, j, hj, ?_, ?_⟩
  · intro e; subst e; rw [h1] at hne; simp at hne
  · by_cases e : i = j
    · subst e; rw [h1] at hne; simp at hne
    · simp only [e, decide_false] at hne
      revert hne; cases r.f i j <;> simp

def singlesStep (st : BMat × List Nat) (i : Nat) : BMat × List Nat :=
  if singleTest st.1 i then (applyF st.1 i, st.2 ++ [i]) else st

theorem singles_eq (r : BMat) : singles r = (List.range r.r).foldl singlesStep (r, []) := rfl

theorem condition_eq (r : BMat) : condition r = (List.range r.r).any fun i => singleTest r i := rfl

/-- `_singles` keeps the invariant; every recorded vertex lowers the measure by one; and if nothing was recorded no test fired
    on the initial matrix -/
theorem singles_fold (n : Nat) (b θ0 : Adj) (hb : Simple n b) (seq0 : List Nat) (l : List Nat) :
    ∀ (st : BMat × List Nat) (μ : Nat), (∀ i ∈ l, i < n) → Track n b θ0 st.1 (seq0 ++ st.2) μ →
      ∃ μ', Track n b θ0 (l.foldl singlesStep st).1 (seq0 ++ (l.foldl singlesStep st).2) μ' ∧
        μ' + (l.foldl singlesStep st).2.length = μ + st.2.length ∧ μ' ≤ μ ∧
        (μ' = μ → ∀ i ∈ l, singleTest st.1 i = false) := by
  induction l with
  | nil => intro st μ _ h; exact ⟨μ, h, rfl, Nat.le_refl _, fun _ i hi => by cases hi⟩
  | cons i l ih =>
    intro st μ hl h
    rw [List.foldl_cons]
    have hi : i < n := hl i (by simp)
    have hl' : ∀ j ∈ l, j < n := fun j hj => hl j (List.mem_cons_of_mem _ hj)
    by_cases ht : singleTest st.1 i = true
    · obtain ⟨hd, j, hj, hne, h1⟩ := singleTest_offdiag st.1 i ht
      rw [h.cols] at hj
      obtain ⟨μ1, hT1, hμ1⟩ := h.step hb i hi (Or.inr ⟨j, hj, hne, h1⟩)
      rw [hd] at hμ1
      simp only [if_true] at hμ1
      have e : singlesStep st i = (applyF st.1 i, st.2 ++ [i]) := by unfold singlesStep; rw [if_pos ht]
      rw [e]
      have hT1' : Track n b θ0 (applyF st.1 i, st.2 ++ [i]).1 (seq0 ++ (applyF st.1 i, st.2 ++ [i]).2) μ1 := by
        show Track n b θ0 (applyF st.1 i) (seq0 ++ (st.2 ++ [i])) μ1
        rw [← List.append_assoc]; exact hT1
      obtain ⟨μ', hT', hμ', hle, _⟩ := ih _ μ1 hl' hT1'
      refine ⟨μ', hT', ?_, by omega, fun hh => by omega⟩
      rw [hμ']
      show μ1 + (st.2 ++ [i]).length = μ + st.2.length
      rw [List.length_append, List.length_singleton]
      omega
    · have e : singlesStep st i = st := by unfold singlesStep; rw [if_neg ht]
      rw [e]
      obtain ⟨μ', hT', hμ', hle, hall⟩ := ih st μ hl' h
      refine ⟨μ', hT', hμ', hle, fun hh j hj => ?_⟩
      rcases List.mem_cons.mp hj with hj | hj
      · rw [hj]; revert ht; cases singleTest st.1 i <;> simp
      · exact hall hh j hj

theorem singlesLoop_succ (fuel : Nat) (r : BMat) (acc : List Nat) :
    singlesLoop (fuel + 1) r acc =
      if condition r then singlesLoop fuel (singles r).1 (acc ++ (singles r).2) else .ok (r, acc) := rfl

/-- the first `while`: a returned state satisfies the invariant and `_condition` is false on it -/
theorem singlesLoop_ok (n : Nat) (b θ0 : Adj) (hb : Simple n b) (fuel : Nat) :
    ∀ (r : BMat) (acc : List Nat) (μ : Nat) (r' : BMat) (acc' : List Nat), Track n b θ0 r acc μ →
      singlesLoop fuel r acc = .ok (r', acc') → (∃ μ', Track n b θ0 r' acc' μ') ∧ condition r' = false := by
  induction fuel with
  | zero => intro r acc μ r' acc' _ e; cases e
  | succ k ih =>
    intro r acc μ r' acc' h e
    rw [singlesLoop_succ] at e
    by_cases hc : condition r = true
    · rw [if_pos hc] at e
      have hl : ∀ i ∈ List.range r.r, i < n := fun i hi => by rw [h.rows] at hi; exact List.mem_range.mp hi
      obtain ⟨μ', hT, _⟩ := singles_fold n b θ0 hb acc (List.range r.r) (r, []) μ hl (by simpa using h)
      rw [← singles_eq] at hT
      exact ih _ _ μ' r' acc' hT e
    · rw [if_neg hc] at e
      cases e
      exact ⟨⟨μ, h⟩, by revert hc; cases condition r <;> simp⟩

/-- **the first `while` terminates**: every pass with `_condition` true removes at least one `c = 1` block -/
theorem singlesLoop_terminates (n : Nat) (b θ0 : Adj) (hb : Simple n b) (fuel : Nat) :
    ∀ (r : BMat) (acc : List Nat) (μ : Nat), Track n b θ0 r acc μ → μ < fuel →
      ∃ r' acc', singlesLoop fuel r acc = .ok (r', acc') := by
  induction fuel with
  | zero => intro r acc μ _ hf; omega
  | succ k ih =>
    intro r acc μ h hf
    rw [singlesLoop_succ]
    by_cases hc : condition r = true
    · rw [if_pos hc]
      have hl : ∀ i ∈ List.range r.r, i < n := fun i hi => by rw [h.rows] at hi; exact List.mem_range.mp hi
      obtain ⟨μ', hT, _, hle, hall⟩ := singles_fold n b θ0 hb acc (List.range r.r) (r, []) μ hl (by simpa using h)
      rw [← singles_eq] at hT
      -- `_condition` true: a test fires, so the measure drops
      have hlt : μ' < μ := by
        rcases Nat.lt_or_ge μ' μ with h1 | h1
        · exact h1
        · rw [condition_eq, List.any_eq_true] at hc
          obtain ⟨i, hi, ht⟩ := hc
          rw [hall (by omega) i hi] at ht
          cases ht
      exact ih _ _ μ' hT (by omega)
    · rw [if_neg hc]
      exact ⟨r, acc, rfl⟩

/-! ### `_doubles` -/

def flat3 (d : List (Nat × Nat)) : List Nat := d.flatMap fun p => [p.1, p.2, p.1]

theorem flat3_append (d e : List (Nat × Nat)) : flat3 (d ++ e) = flat3 d ++ flat3 e := by
  unfold flat3; rw [List.flatMap_append]

theorem flat3_single (j k : Nat) : flat3 [(j, k)] = [j, k, j] := rfl

def doublesStep (n : Nat) (acc : Except Err (BMat × List (Nat × Nat))) (j : Nat) : Except Err (BMat × List (Nat × Nat)) :=
  match acc with
  | .error e => .error e
  | .ok st =>
    if !rowIsUnit st.1 j && !st.1.f j j then
      match (List.range n).filter fun k => st.1.f k j with
      | [] => .error .index
      | k :: _ => .ok (applyF (applyF (applyF st.1 j) k) j, st.2 ++ [(j, k)])
    else .ok st

theorem doubles_eq (r : BMat) : doubles r = (List.range r.r).foldl (doublesStep r.r) (.ok (r, [])) := rfl

theorem Track.sym_entry {n : Nat} {b θ0 : Adj} {r : BMat} {seq : List Nat} {μ : Nat} (h : Track n b θ0 r seq μ)
    (j k : Nat) (hj : j < n) (hk : k < n) (hjj : r.f j j = false) (hkj : r.f k j = true) : r.f j k = true := by
  obtain ⟨q, hI, hR⟩ := h.inv
  have hne : k ≠ j := by intro e; subst e; rw [hjj] at hkj; cases hkj
  have hne' : ¬ j = k := fun e => hne e.symm
  have hc := c_of_diag_zero hI hR j hj hjj
  rw [hR.hf k j hk hj] at hkj
  rw [hR.hf j k hj hk]
  unfold rOf at hkj ⊢
  simp only [hne, hne', if_false] at hkj ⊢
  rw [hc, hI.simple.1 j k hj hk]
  revert hkj
  cases q (4 * k + 2) <;> simp

/-- **one step of `_doubles` is three local complementations** `j, k, j` (for `R_jj = 0`, `R_kj = 1`) -/
theorem Track.double {n : Nat} {b θ0 : Adj} {r : BMat} {seq : List Nat} {μ : Nat} (h : Track n b θ0 r seq μ)
    (hb : Simple n b) (j k : Nat) (hj : j < n) (hk : k < n) (hjj : r.f j j = false) (hkj : r.f k j = true) :
    ∃ μ', Track n b θ0 (applyF (applyF (applyF r j) k) j) (seq ++ [j, k, j]) μ' := by
  have hne : k ≠ j := by intro e; subst e; rw [hjj] at hkj; cases hkj
  have hjk := h.sym_entry j k hj hk hjj hkj
  have hr := h.rows
  obtain ⟨μ1, h1, _⟩ := h.step hb j hj (Or.inl hjj)
  have e1 : (applyF r j).f k j = true := by
    rw [applyF_entry n r j k j hr hj hk hj, hkj, hjj]; rfl
  have e1' : (applyF r j).f j k = true := by
    rw [applyF_entry n r j j k hr hj hj hk, hjk, hjj]; rfl
  obtain ⟨μ2, h2, _⟩ := h1.step hb k hk (Or.inr ⟨j, hj, fun e => hne e.symm, e1⟩)
  have hr1 : (applyF r j).r = n := hr
  have e2 : (applyF (applyF r j) k).f j k = true := by
    rw [applyF_entry n _ k j k hr1 hk hj hk, e1']
    cases (applyF r j).f k k <;> simp
  obtain ⟨μ3, h3, _⟩ := h2.step hb j hj (Or.inr ⟨k, hk, hne, e2⟩)
  refine ⟨μ3, ?_⟩
  have : seq ++ [j, k, j] = seq ++ [j] ++ [k] ++ [j] := by simp
  rw [this]; exact h3

theorem beq_identity (r : BMat) (h : r.beq (identM r.r) = true) (i j : Nat) (hi : i < r.r) (hj : j < r.c) :
    r.f i j = decide (i = j) := by
  unfold BMat.beq at h
  rw [Bool.and_eq_true, List.all_eq_true] at h
  have := h.2 i (List.mem_range.mpr hi)
  rw [List.all_eq_true] at this
  have := this j (List.mem_range.mpr hj)
  simpa [identM, idM] using this

theorem doublesLoop_succ (fuel : Nat) (r : BMat) (acc : List (Nat × Nat)) :
    doublesLoop (fuel + 1) r acc =
      if !r.beq (identM r.r) then
        match doubles r with
        | .error e => .error e
        | .ok (r1, d) => doublesLoop fuel r1 (acc ++ d)
      else .ok acc := rfl

/-- the initial state: `_R_matrix(θ, Q)` is `R(θ, Q)` -/
theorem track_init (n : Nat) (a b : Adj) (q : List Bool) (ha : Simple n a)
    (hq : ∀ j k, j < n → k < n → equation n a b (vget q) j k = false) (hv : isValidClifford n q = true) :
    Track n b a (rMatrix n a q).norm [] (cntC n (vget q)) := by
  refine ⟨vget q, ⟨ha, hq, (isValidClifford_iff n q).mp hv⟩, ⟨rfl, rfl, fun i j hi hj => ?_⟩, fun v hv => by simp at hv, rfl⟩
  rw [BMat.norm_agree _ i j hi hj]
  rfl

end Graphiq.LC
