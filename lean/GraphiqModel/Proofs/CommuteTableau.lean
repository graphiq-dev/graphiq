/-
  Proofs/CommuteTableau.lean — tableau level, gate-only circuits: the compile loop's steps for unitary gates on disjoint
  registers commute *literally* (the same table, destabilizers included — not only the same stabilizer group), because
  the row maps commute pointwise (`Local.comm`) and the tabulation `Tab.norm` identifies tables that agree on the first
  `n` sites.  `appT` is the compile step restricted to unitary-gate operations; on gate-only sequences `stabRunFrom` is
  `runSeq appT`.
-/
import GraphiqModel.Proofs.CommuteComplete
namespace Graphiq.Commute
open Graphiq PRow Tab TabSpec
open Graphiq.Wire (Reg RegType SOp Item Kind G1 runSeq)

/-! ## 1. tabulation -/

def Congr (n : Nat) (f : PRow → PRow) : Prop := ∀ a b, EqOn n a b → EqOn n (f a) (f b)

theorem Congr.comp {n : Nat} {f g : PRow → PRow} (hf : Congr n f) (hg : Congr n g) : Congr n (fun p => f (g p)) :=
  fun _ _ h => hf _ _ (hg _ _ h)

theorem map_norm_map_row (t : Tab) (f g : PRow → PRow) (hf : Congr t.n f) (i : Nat) (hi : i < 2 * t.n) :
    EqOn t.n (((t.map g).norm.map f).row i) (f (g (t.row i))) :=
  hf _ _ (Tab.norm_row (t.map g) i hi)

/-- **two gate steps of the compile loop whose row maps commute give literally the same table in both orders** -/
theorem gate_steps_commute (t : Tab) (f g : PRow → PRow) (hf : Congr t.n f) (hg : Congr t.n g)
    (hc : ∀ p, f (g p) = g (f p)) : ((t.map g).norm.map f).norm = ((t.map f).norm.map g).norm := by
  -- stated as an equation so that the kernel never compares the two tabulations
  have hn : ((t.map g).norm.map f).n = t.n := rfl
  refine Tab.norm_congr _ _ rfl ?_
  rw [hn]
  intro i hi
  have e := map_norm_map_row t g f hg i hi
  rw [← hc] at e
  exact (map_norm_map_row t f g hf i hi).trans e.symm

/-! ## 2. the row map of a list of gate primitives -/

theorem congr_rowP (n : Nat) (op : Tab.Op) (h : ∀ j, j ∈ primSupp op → j < n) : Congr n (rowP op) := by
  cases op with
  | h q => exact (isAut_h n q (h q (by simp [primSupp]))).congr
  | s q => exact (isAut_s n q (h q (by simp [primSupp]))).congr
  | sdg q => exact (isAut_sdg n q (h q (by simp [primSupp]))).congr
  | z q => exact (isAut_zg n q (h q (by simp [primSupp]))).congr
  | x q => exact (isAut_xg n q (h q (by simp [primSupp]))).congr
  | y q => exact (isAut_yg n q (h q (by simp [primSupp]))).congr
  | cnot c t => exact cnot_congr n c t (h c (by simp [primSupp])) (h t (by simp [primSupp]))
  | cz c t =>
    have hh := (isAut_h n t (h t (by simp [primSupp]))).congr
    have hc := cnot_congr n c t (h c (by simp [primSupp])) (h t (by simp [primSupp]))
    exact fun a b e => hh _ _ (hc _ _ (hh _ _ e))
  | _ => exact fun a b h => h

theorem congr_rowsP (n : Nat) (l : List Tab.Op) (h : ∀ p, p ∈ l → ∀ j, j ∈ primSupp p → j < n) : Congr n (rowsP l) := by
  induction l with
  | nil => exact fun a b h => h
  | cons a l ih =>
    exact Congr.comp (f := rowsP l) (g := rowP a) (ih (fun p hp => h p (List.mem_cons_of_mem _ hp)))
      (congr_rowP n a (h a List.mem_cons_self))

/-! ## 3. the gate steps of the compile loop -/

/-- unitary-gate circuit operations whose step is `t ↦ (t.map f).norm` with `f` the row map of one API call -/
def cIsGate : COp → Bool
  | .gate1 .. | .pdag .. | .cnot .. | .cz .. => true
  | _ => false

theorem stepOp_gate (np n : Nat) (d : Det) (s : RunState) (op : COp) (hg : cIsGate op = true) (hin : cInRange np n op) :
    stepOp np n d s op = some { s with t := (s.t.map (rowsP (copPrims np op false))).norm } := by
  cases op with
  | gate1 g q =>
    simp only [stepOp]
    rw [if_pos (show qIndex np q < n from hin)]
    cases g <;> rfl
  | pdag q => simp only [stepOp]; rw [if_pos (show qIndex np q < n from hin)]; rfl
  | cnot c t | cz c t => simp only [stepOp]; rw [if_pos (show qIndex np c < n ∧ qIndex np t < n from hin)]; rfl
  | ccx _ _ _ | ccz _ _ _ | mcr _ _ _ | measz _ _ | wrap _ _ => cases hg

def gateDec (ne np : Nat) (a : SOp) : Option Dec :=
  match decode ne np a with
  | some d => if cIsGate (toCOp a) then some d else none
  | none => none

/-- **the compile step of the stabilizer backend on unitary-gate operations** (`none` on everything else) -/
def appT (ne np : Nat) (a : SOp) (s : Option RunState) : Option RunState :=
  match gateDec ne np a with
  | some _ => s.bind fun s => stepOp np (ne + np) .zero s (toCOp a)
  | none => none

theorem appT_none (ne np : Nat) (a : SOp) : appT ne np a none = none := by
  unfold appT; split <;> rfl

theorem appT_undecodable (ne np : Nat) (a : SOp) (h : gateDec ne np a = none) (s : Option RunState) : appT ne np a s = none := by
  unfold appT; rw [h]

theorem gateDec_some {ne np : Nat} {a : SOp} {d : Dec} (h : gateDec ne np a = some d) :
    decode ne np a = some d ∧ cIsGate (toCOp a) = true := by
  unfold gateDec at h
  split at h
  · next d' hd =>
    split at h
    · next hg => cases h; exact ⟨hd, hg⟩
    · cases h
  · cases h

theorem appT_some (ne np : Nat) (a : SOp) (d : Dec) (h : gateDec ne np a = some d) (s : RunState) :
    appT ne np a (some s) = some { s with t := (s.t.map (rowsP (d.prims false))).norm } := by
  obtain ⟨hd, hg⟩ := gateDec_some h
  unfold appT
  rw [h]
  simp only [Option.bind_some]
  rw [stepOp_gate np (ne + np) .zero s (toCOp a) hg (decode_inRange ne np a d hd)]
  rw [← (decode_prims ne np a d hd).1]

def OkT (n : Nat) (s : Option RunState) : Prop := ∀ s', s = some s' → s'.t.n = n

theorem appT_ok (ne np : Nat) (a : SOp) {s : Option RunState} (hs : OkT (ne + np) s) : OkT (ne + np) (appT ne np a s) := by
  intro s' h
  cases hd : gateDec ne np a with
  | none => rw [appT_undecodable ne np a hd] at h; cases h
  | some d =>
    cases s with
    | none => rw [appT_none] at h; cases h
    | some s0 =>
      rw [appT_some ne np a d hd] at h
      cases h
      exact hs s0 rfl

/-- **gate operations on disjoint registers commute literally in the compile loop**: the same run state, table included -/
theorem appT_comm (ne np : Nat) (a b : SOp) (hdis : ∀ r, r ∈ a.regs → r ∉ b.regs) (s : Option RunState)
    (hs : OkT (ne + np) s) : appT ne np a (appT ne np b s) = appT ne np b (appT ne np a s) := by
  cases hda : gateDec ne np a with
  | none => rw [appT_undecodable ne np a hda, appT_undecodable ne np a hda, appT_none]
  | some da =>
    cases hdb : gateDec ne np b with
    | none => rw [appT_undecodable ne np b hdb, appT_undecodable ne np b hdb, appT_none]
    | some db =>
      cases s with
      | none => simp only [appT_none]
      | some s0 =>
        have hn : s0.t.n = ne + np := hs s0 rfl
        have hwa := decode_within ne np a da (gateDec_some hda).1
        have hwb := decode_within ne np b db (gateDec_some hdb).1
        rw [appT_some ne np b db hdb, appT_some ne np a da hda, appT_some ne np a da hda, appT_some ne np b db hdb]
        have hrange : ∀ (d : Dec) (regs : List Reg), d.Within ne np regs →
            ∀ p, p ∈ d.prims false → ∀ j, j ∈ primSupp p → j < s0.t.n := by
          intro d regs hw p hp j hj
          obtain ⟨r, _, hr⟩ := hw.2 false p hp j hj
          rw [hn]; exact regIx_lt hr
        have hfa := congr_rowsP s0.t.n (da.prims false) (hrange da a.regs hwa)
        have hfb := congr_rowsP s0.t.n (db.prims false) (hrange db b.regs hwb)
        have hcomm : ∀ p, rowsP (da.prims false) (rowsP (db.prims false) p) =
            rowsP (db.prims false) (rowsP (da.prims false) p) := by
          apply Local.comm (local_rowsP _) (local_rowsP _)
          rintro j ⟨p, hp, hj⟩ ⟨p', hp', hj'⟩
          obtain ⟨r, hr, hrj⟩ := hwa.2 false p hp j hj
          obtain ⟨r', hr', hrj'⟩ := hwb.2 false p' hp' j hj'
          exact hdis r hr (regIx_inj hrj hrj' ▸ hr')
        have := gate_steps_commute s0.t _ _ hfa hfb hcomm
        simp only [this]

/-! ## 4. `stabRunFrom` on a gate-only sequence is `runSeq appT` -/

theorem runSeq_appT_none (ne np : Nat) (l : List SOp) : runSeq (appT ne np) l none = none :=
  Loop.foldl_inv (· = none) (fun _ a _ h => h ▸ appT_none ne np a) rfl

theorem foldlM_eq_runSeq (ne np : Nat) (l : List SOp) (hl : ∀ a, a ∈ l → (gateDec ne np a).isSome = true) (s : RunState) :
    (l.map toCOp).foldlM (stepOp np (ne + np) .zero) s = runSeq (appT ne np) l (some s) := by
  induction l generalizing s with
  | nil => rfl
  | cons a l ih =>
    obtain ⟨d, hd⟩ := Option.isSome_iff_exists.mp (hl a List.mem_cons_self)
    rw [Wire.runSeq_cons, appT_some ne np a d hd, List.map_cons, List.foldlM_cons]
    have : stepOp np (ne + np) .zero s (toCOp a) = some { s with t := (s.t.map (rowsP (d.prims false))).norm } := by
      have := appT_some ne np a d hd s
      unfold appT at this
      rw [hd] at this
      simpa using this
    rw [this]
    exact ih (fun b hb => hl b (List.mem_cons_of_mem _ hb)) _

theorem stepOp_gate_det (np n : Nat) (d d' : Det) (s : RunState) (op : COp) (hg : cIsGate op = true) :
    stepOp np n d s op = stepOp np n d' s op := by
  cases op with
  | gate1 _ _ | pdag _ | cnot _ _ | cz _ _ => rfl
  | ccx _ _ _ | ccz _ _ _ | mcr _ _ _ | measz _ _ | wrap _ _ => cases hg

theorem foldlM_gate_det (np n : Nat) (d : Det) (ops : List COp) (hg : ∀ op, op ∈ ops → cIsGate op = true) (s : RunState) :
    ops.foldlM (stepOp np n d) s = ops.foldlM (stepOp np n .zero) s :=
  Loop.foldlM_congr (fun op hop s => stepOp_gate_det np n d .zero s op (hg op hop)) s

/-! ## 5. the state type for the instantiated theorems, and gate-only circuits -/

def TSt (ne np : Nat) : Type := { s : Option RunState // OkT (ne + np) s }

def appTG (ne np : Nat) (a : SOp) (s : TSt ne np) : TSt ne np := ⟨appT ne np a s.1, appT_ok ne np a s.2⟩

theorem appTG_comm (ne np : Nat) (a b : SOp) (hd : ∀ r, r ∈ a.regs → r ∉ b.regs) (s : TSt ne np) :
    appTG ne np a (appTG ne np b s) = appTG ne np b (appTG ne np a s) :=
  Subtype.ext (appT_comm ne np a b hd s.1 s.2)

theorem runSeq_appTG_val (ne np : Nat) (l : List SOp) (s : TSt ne np) :
    (runSeq (appTG ne np) l s).1 = runSeq (appT ne np) l s.1 :=
  Wire.runSeq_subtype_val (appT ne np) (fun a _ h => appT_ok ne np a h) l s

/-- every operation of the circuit is a unitary gate (one-qubit gate or wrapper, CNOT, CZ) -/
def GateOnly (c : Wire.Circuit) : Prop :=
  c.NodesSat fun op => match op.kind with
    | .wrapper _ | .base _ | .cnot | .cz => True
    | _ => False

theorem Rewrites.gateOnly {c c' : Wire.Circuit} (hgood : c.Good) (hg : GateOnly c) (h : Wire.Rewrites c c') : GateOnly c' :=
  h.nodesSat hgood hg (fun _ _ => trivial) (fun _ _ _ => trivial)

theorem RewritesStar.gateOnly {c c' : Wire.Circuit} (hgood : c.Good) (hg : GateOnly c) (h : RewritesStar c c') : GateOnly c' :=
  h.nodesSat hgood hg (fun _ _ => trivial) (fun _ _ _ => trivial)

theorem sops_gate_ok (c : Wire.Circuit) (hgood : c.Good) (har : ArityOk c) (hg : GateOnly c) (seq : List Nat) :
    ∀ a, a ∈ c.sops seq → (gateDec c.ne c.np a).isSome = true ∧ cIsGate (toCOp a) = true := by
  intro a ha
  obtain ⟨d, hd⟩ := Option.isSome_iff_exists.mp (sops_ok c hgood har seq a ha).1
  have hgate : cIsGate (toCOp a) = true := by
    obtain ⟨n, op, it, hop, hit, rfl⟩ := mem_sops ha
    obtain ⟨_, _, _, har1⟩ := hgood.2 n op hop
    have hG := hg n op hop
    have hA : ArOp op := har n op hop
    unfold ArOp at hA
    simp only at hG
    cases hk : op.kind with
    | wrapper _ | base _ =>
      obtain ⟨⟨r, hq⟩, _⟩ := har1 (by rw [hk]; rfl)
      simp only [Wire.flatOp, hk, List.mem_map] at hit
      obtain ⟨g, _, rfl⟩ := hit
      simp only [toCOp, hq]
      cases g <;> rfl
    | cnot | cz =>
      rw [hk] at hA
      obtain ⟨r1, r2, hq⟩ := hA
      simp only [Wire.flatOp, hk, List.mem_singleton] at hit
      subst hit
      simp only [toCOp, hq]; rfl
    | measZ | ccnot | ccz | mcr => rw [hk] at hG; exact hG.elim
  refine ⟨?_, hgate⟩
  simp [gateDec, hd, hgate]

theorem stabRun_eq_runSeq (c : Wire.Circuit) (hgood : c.Good) (har : ArityOk c) (hg : GateOnly c) (seq : List Nat)
    (d : Det) (script : List Bool) (ne np : Nat) (hne : ne = c.ne) (hnp : np = c.np) :
    stabRun ne np d script ((c.sops seq).map toCOp) =
      runSeq (appT ne np) (c.sops seq)
        (some { t := Tab.ket0 (ne + np), writes := [], script := script, rand := [], outs := [] }) := by
  subst hne hnp
  have hok := sops_gate_ok c hgood har hg seq
  unfold stabRun stabRunFrom
  rw [foldlM_gate_det _ _ d _ (fun op hop => by
    obtain ⟨a, ha, rfl⟩ := List.mem_map.mp hop
    exact (hok a ha).2)]
  exact foldlM_eq_runSeq c.ne c.np (c.sops seq) (fun a ha => (hok a ha).1) _

/-- **two sane gate-only circuits with the same `flat` compile to literally the same run state** (the same Clifford
    tableau, destabilizer and stabilizer rows and signs, entry by entry), whatever topological orders the two compilations use -/
theorem flat_eq_gate_only_compiled (c c' : Wire.Circuit) (hgood : c.Good) (har : ArityOk c) (hg : GateOnly c)
    (hgood' : c'.Good) (har' : ArityOk c') (hg' : GateOnly c') (hflat : c'.flat = c.flat) (seq seq' : List Nat)
    (hl : c.isLinearExtension seq = true) (hl' : c'.isLinearExtension seq' = true) (d : Det) (script : List Bool) :
    stabRun c'.ne c'.np d script ((c'.sops seq').map toCOp) = stabRun c.ne c.np d script ((c.sops seq).map toCOp) := by
  obtain ⟨hne, hnp⟩ := flat_counts hflat
  rw [hne, hnp, stabRun_eq_runSeq c' hgood' har' hg' seq' d script c.ne c.np hne.symm hnp.symm,
    stabRun_eq_runSeq c hgood har hg seq d script c.ne c.np rfl rfl]
  have e := denote_eq_of_good_flat_eq (appTG c.ne c.np) (appTG_comm c.ne c.np) c c' hgood hgood' hflat seq seq' hl hl'
    ⟨some { t := Tab.ket0 (c.ne + c.np), writes := [], script := script, rand := [], outs := [] },
      fun s' h => by cases h; rfl⟩
  exact (runSeq_appTG_val _ _ _ _).symm.trans ((congrArg Subtype.val e).trans (runSeq_appTG_val _ _ _ _))

end Graphiq.Commute
