/-
  Proofs/HilbertDimCPTP.lean — the density-matrix semantics `dOp` of the tableau API is a family of genuine quantum
  operations: on *every* density matrix (positive semidefinite, trace one — not only on stabilizer states) every in-range
  API call returns a density matrix.  This checks the normalisations and projectors in the definitions of
  `Proofs/HilbertDimHistory.lean` independently of the tableau model.
-/
import GraphiqModel.Proofs.HilbertDimProg
import Mathlib.Analysis.Matrix.Order
namespace Graphiq
namespace Hilbert
open Matrix PRow TabSpec Tab
open scoped ComplexOrder Kronecker

def IsDensity (s : DState) : Prop := s.ρ.PosSemidef ∧ Matrix.trace s.ρ = 1

theorem conj_isDensity (n : Nat) (U ρ : Matrix (Bits n) (Bits n) ℂ) (hU : Uᴴ * U = 1) (hρ : ρ.PosSemidef)
    (ht : Matrix.trace ρ = 1) : (U * ρ * Uᴴ).PosSemidef ∧ Matrix.trace (U * ρ * Uᴴ) = 1 :=
  ⟨hρ.mul_mul_conjTranspose_same U, by rw [trace_conj_unitary U ρ hU, ht]⟩

theorem proj_sandwich_psd (n : Nat) (z : PRow) (hz : z.ip = false) (ρ : Matrix (Bits n) (Bits n) ℂ)
    (hρ : ρ.PosSemidef) : (proj n z * ρ * proj n z).PosSemidef := by
  have := hρ.mul_mul_conjTranspose_same (proj n z)
  rw [proj_hermitian n z hz] at this
  exact this

theorem trace_proj_nonneg (n : Nat) (z : PRow) (hz : z.ip = false) (ρ : Matrix (Bits n) (Bits n) ℂ)
    (hρ : ρ.PosSemidef) : 0 ≤ Matrix.trace (proj n z * ρ) := by
  rw [← trace_proj_sandwich n z hz]
  exact (proj_sandwich_psd n z hz ρ hρ).trace_nonneg

theorem measOutcome_prob_ne_zero (n q : Nat) (o : Bool) (ρ : Matrix (Bits n) (Bits n) ℂ) (ht : Matrix.trace ρ = 1) :
    Matrix.trace (proj n (Zq q (measOutcome n q o ρ)) * ρ) ≠ 0 := by
  have hsum : Matrix.trace (proj n (Zq q false) * ρ) + Matrix.trace (proj n (Zq q true) * ρ) = 1 := by
    rw [← Matrix.trace_add, ← Matrix.add_mul, proj_Zq_add, Matrix.one_mul, ht]
  unfold measOutcome
  by_cases h : Matrix.trace (proj n (Zq q o) * ρ) = 0
  · rw [if_pos h]
    intro h2
    cases o
    · rw [h] at hsum; simp at h2; rw [h2] at hsum; norm_num at hsum
    · rw [h] at hsum; simp at h2; rw [h2] at hsum; norm_num at hsum
  · rw [if_neg h]; exact h

theorem postMeas_isDensity (n q : Nat) (o : Bool) (ρ : Matrix (Bits n) (Bits n) ℂ) (hρ : ρ.PosSemidef)
    (ht : Matrix.trace ρ = 1) : (postMeas n q o ρ).PosSemidef ∧ Matrix.trace (postMeas n q o ρ) = 1 := by
  have hne := measOutcome_prob_ne_zero n q o ρ ht
  have hnn := trace_proj_nonneg n (Zq q (measOutcome n q o ρ)) rfl ρ hρ
  have hpos : 0 < Matrix.trace (proj n (Zq q (measOutcome n q o ρ)) * ρ) := lt_of_le_of_ne hnn (Ne.symm hne)
  have hinv : 0 ≤ (Matrix.trace (proj n (Zq q (measOutcome n q o ρ)) * ρ))⁻¹ := le_of_lt (RCLike.inv_pos_of_pos hpos)
  unfold postMeas
  refine ⟨(proj_sandwich_psd n _ rfl ρ hρ).smul hinv, ?_⟩
  rw [Matrix.trace_smul, trace_proj_sandwich n _ rfl, smul_eq_mul, inv_mul_cancel₀ hne]

theorem ketbra_psd (s : Bool) : (ketbra s).PosSemidef := by
  obtain ⟨hi, hh, _⟩ := bloch_facts false true s rfl
  rw [bloch_Z] at hi hh
  have h := Matrix.posSemidef_conjTranspose_mul_self (ketbra s)
  rw [hh, hi] at h
  exact h

theorem insSite_psd {m : Nat} (q : Nat) (hq : q ≤ m) (A : Matrix (Bits m) (Bits m) ℂ) (u : Matrix Bool Bool ℂ)
    (hA : A.PosSemidef) (hu : u.PosSemidef) : (insSite q A u).PosSemidef := by
  rw [insSite_eq_kronecker q hq]
  exact (hA.kronecker hu).submatrix _

theorem kronB_psd {m n : Nat} (A : Matrix (Bits m) (Bits m) ℂ) (B : Matrix (Bits n) (Bits n) ℂ)
    (hA : A.PosSemidef) (hB : B.PosSemidef) : (kronB A B).PosSemidef := by
  rw [kronB_eq_kronecker]
  exact (hA.kronecker hB).submatrix _

theorem ptraceSite_psd {m : Nat} (q : Nat) (M : Matrix (Bits (m + 1)) (Bits (m + 1)) ℂ) (hM : M.PosSemidef) :
    (ptraceSite q M).PosSemidef := by
  have h : ptraceSite q M = M.submatrix (fun a => insB q a false) (fun a => insB q a false)
      + M.submatrix (fun a => insB q a true) (fun a => insB q a true) := by
    ext a b; rw [ptraceSite_apply]; rfl
  rw [h]
  exact (hM.submatrix _).add (hM.submatrix _)

/-! ### every API call maps density matrices to density matrices -/

/-- the arguments of an API call are in range for `n` qubits (what the `assert`s of the Python check) -/
def OpInB (n : Nat) : Tab.Op → Prop
  | .h q | .s q | .sdg q | .x q | .y q | .z q => q < n
  | .cnot c t | .cz c t => c < n ∧ t < n ∧ c ≠ t
  | .swap a b => a < n ∧ b < n
  | .meas q _ => q < n
  | .resetZ q _ _ | .resetX q _ _ | .resetY q _ _ => q < n
  | .insert p => p ≤ n
  | .add => True
  | .remove q _ => q < n
  | .ptrace _ _ => True

theorem dConj_gate_isDensity (g : Gate) (s : DState) (hs : IsDensity s) (hg : g.WF s.n) :
    IsDensity (dConj (fun n => gateMat n g) s) :=
  conj_isDensity s.n _ s.ρ (gate_unitary s.n g hg).2 hs.1 hs.2

theorem dMeas_isDensity (q : Nat) (o : Bool) (s : DState) (hs : IsDensity s) : IsDensity (dMeas q o s) :=
  postMeas_isDensity s.n q o s.ρ hs.1 hs.2

theorem dResetZ_isDensity (q : Nat) (i o : Bool) (s : DState) (hs : IsDensity s) (hq : q < s.n) :
    IsDensity (dResetZ q i o s) := by
  unfold dResetZ
  split
  · exact dMeas_isDensity q o s hs
  · exact dConj_gate_isDensity (.X q) (dMeas q o s) (dMeas_isDensity q o s hs) hq

theorem dResetZ_n (q : Nat) (i o : Bool) (s : DState) : (dResetZ q i o s).n = s.n := by
  unfold dResetZ
  split <;> rfl

theorem dInsert_isDensity (p : Nat) (s : DState) (hs : IsDensity s) (hp : p ≤ s.n) : IsDensity (dInsert p s) :=
  ⟨insSite_psd p hp s.ρ _ hs.1 (ketbra_psd false), by
    show Matrix.trace (insSite p s.ρ (ketbra false)) = 1
    rw [trace_insSite p hp, hs.2, trace_ketbra, _root_.mul_one]⟩

theorem dRemove_isDensity (q : Nat) (o : Bool) (s : DState) (hs : IsDensity s) (hq : q < s.n) :
    IsDensity (dRemove q o s) ∧ (dRemove q o s).n = s.n - 1 := by
  obtain ⟨n, ρ⟩ := s
  cases n with
  | zero => exact absurd hq (Nat.not_lt_zero _)
  | succ m =>
    have hm := postMeas_isDensity (m + 1) q o ρ hs.1 hs.2
    refine ⟨⟨ptraceSite_psd q _ hm.1, ?_⟩, rfl⟩
    show Matrix.trace (ptraceSite q (postMeas (m + 1) q o ρ)) = 1
    have hq' : q < m + 1 := hq
    rw [trace_ptraceSite q (by omega), hm.2]

open Classical in
theorem dPtraceGo_isDensity (rem : List Nat) : ∀ (os : List Bool) (s : DState), IsDensity s → rem.Pairwise (· > ·) →
    (∀ q, q ∈ rem → q < s.n) → IsDensity (dPtraceGo rem os s) := by
  induction rem with
  | nil => intro os s hs _ _; exact hs
  | cons q rest ih =>
    intro os s hs hpw hlt
    have hp := List.pairwise_cons.mp hpw
    have hq := hlt q List.mem_cons_self
    obtain ⟨h1, h2⟩ := dRemove_isDensity q (os.headD false) s hs hq
    show IsDensity (dPtraceGo rest _ (dRemove q (os.headD false) s))
    apply ih _ _ h1 hp.2
    intro q' hq'
    have := hp.1 q' hq'
    rw [h2]; omega

theorem dOp_isDensity (op : Tab.Op) (s : DState) (hs : IsDensity s) (hb : OpInB s.n op) : IsDensity (dOp op s) := by
  cases op with
  | h q => exact dConj_gate_isDensity (.H q) s hs hb
  | s q => exact dConj_gate_isDensity (.P q) s hs hb
  | sdg q => exact dConj_gate_isDensity (.Pdag q) s hs hb
  | x q => exact dConj_gate_isDensity (.X q) s hs hb
  | y q => exact dConj_gate_isDensity (.Y q) s hs hb
  | z q => exact dConj_gate_isDensity (.Z q) s hs hb
  | cnot c t => exact dConj_gate_isDensity (.CNOT c t) s hs hb
  | cz c t => exact dConj_gate_isDensity (.CZ c t) s hs hb
  | swap a b => exact conj_isDensity s.n _ s.ρ (swap_unitary s.n a b hb.1 hb.2).2 hs.1 hs.2
  | meas q o => exact dMeas_isDensity q o s hs
  | resetZ q i o => exact dResetZ_isDensity q i o s hs hb
  | resetX q i o =>
    have hq : q < (dResetZ q i o s).n := by rw [dResetZ_n]; exact hb
    exact dConj_gate_isDensity (.H q) (dResetZ q i o s) (dResetZ_isDensity q i o s hs hb) hq
  | resetY q i o =>
    have hq : q < (dResetZ q i o s).n := by rw [dResetZ_n]; exact hb
    have h1 := dConj_gate_isDensity (.H q) (dResetZ q i o s) (dResetZ_isDensity q i o s hs hb) hq
    exact dConj_gate_isDensity (.P q) _ h1 hq
  | insert p => exact dInsert_isDensity p s hs hb
  | add => exact dInsert_isDensity s.n s hs (Nat.le_refl _)
  | remove q o => exact (dRemove_isDensity q o s hs hb).1
  | ptrace keep os =>
    exact dPtraceGo_isDensity (removalList s.n keep) os s hs (removalList_desc s.n keep)
      (fun q hq => ((mem_removalList s.n keep q).mp hq).1)

def OpsInB : List Tab.Op → DState → Prop
  | [], _ => True
  | op :: rest, s => OpInB s.n op ∧ OpsInB rest (dOp op s)

theorem dOps_isDensity (ops : List Tab.Op) : ∀ s, IsDensity s → OpsInB ops s → IsDensity (dOps ops s) := by
  induction ops with
  | nil => intro s hs _; exact hs
  | cons op rest ih => intro s hs hb; exact ih _ (dOp_isDensity op s hs hb.1) hb.2

theorem dTensor_isDensity (s1 s2 : DState) (h1 : IsDensity s1) (h2 : IsDensity s2) : IsDensity (dTensor s1 s2) :=
  ⟨kronB_psd _ _ h1.1 h2.1, by
    show Matrix.trace (kronB s1.ρ s2.ρ) = 1
    rw [trace_kronB, h1.2, h2.2, _root_.mul_one]⟩

end Hilbert
end Graphiq
