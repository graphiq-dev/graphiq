/-
  Proofs/CompareRepairExact.lean — exchanges of neighbouring operations on labelled lists; what the converse of
  `isoVia_sound` (Proofs/CompareRepairLin.lean) is built from.

  Two operation lists with the same operation sequence on *every* register (quantum and classical) differ by exchanges of
  neighbouring operations that share no register (`SwapW`, `swapW_of_wires`: the trace-monoid projection lemma on all
  registers); on a node-labelled list such an exchange, the labels travelling with the operations, changes no register
  path (`SwapW.relabel`); two labelled lists with the same operations differ by a relabelling (`exists_relab`).
-/
import GraphiqModel.Proofs.CompareRepairComplete
namespace Graphiq.Compare
open Graphiq Graphiq.Export Graphiq.Trace

/-! ## exchanges of neighbouring operations that share no register at all -/

def disjW (a b : Op) : Bool := (opWires a).all fun w => !(opWires b).contains w

inductive SwapW : List Op → List Op → Prop
  | refl (l : List Op) : SwapW l l
  | swap (pre : List Op) (a b : Op) (post : List Op) (h : disjW a b = true) :
      SwapW (pre ++ a :: b :: post) (pre ++ b :: a :: post)
  | trans {l1 l2 l3 : List Op} : SwapW l1 l2 → SwapW l2 l3 → SwapW l1 l3

theorem SwapW.mem {x y : List Op} (h : SwapW x y) (o : Op) : o ∈ x ↔ o ∈ y := by
  induction h with
  | refl l => exact Iff.rfl
  | swap pre a b post _ => exact ((List.Perm.swap b a post).append_left pre).mem_iff
  | trans _ _ ih1 ih2 => exact ih1.trans ih2

theorem swapW_iff_swapK {l1 l2 : List Op} : SwapW l1 l2 ↔ SwapK opWires l1 l2 := by
  constructor <;> intro h <;> induction h with
  | refl l => exact .refl _
  | swap pre a b post hd => exact .swap pre a b post hd
  | trans _ _ ih1 ih2 => exact .trans ih1 ih2

/-- **projection lemma on all registers**: two operation lists with the same subsequence on every register (quantum or
    classical) differ only by exchanges of neighbouring operations that share no register -/
theorem swapW_of_wires (l1 l2 : List Op) (hw : ∀ w, l1.filter (touches w) = l2.filter (touches w)) : SwapW l1 l2 :=
  swapW_iff_swapK.2 (swapK_of_keys l1 l2 (fun o _ => opWires_ne_nil o) (fun o _ => opWires_ne_nil o) hw)

/-! ## exchanges on labelled lists -/

/-- the operation nodes of `l` on register `w` when the first operation has index `k` -/
def bodyFrom (k : Nat) (l : List Op) (w : Wire) : List Nd :=
  ((l.zipIdx k).filter (fun p => decide (w ∈ opWires p.1))).map (fun p => Nd.op (p.2 + 1))

theorem bodyOf_eq_bodyFrom (l : List Op) (w : Wire) : bodyOf l w = bodyFrom 0 l w := rfl

theorem bodyFrom_nil (k : Nat) (w : Wire) : bodyFrom k [] w = [] := rfl

theorem disjW_not_both {a b : Op} (h : disjW a b = true) (w : Wire) : ¬ (touches w a = true ∧ touches w b = true) := by
  unfold disjW at h
  simp only [List.all_eq_true, Bool.not_eq_true', List.contains_eq_mem, decide_eq_false_iff_not] at h
  rintro ⟨ha, hb⟩
  exact h w ((touches_iff _ _).1 ha) ((touches_iff _ _).1 hb)

/-- **an exchange of neighbours that share no register changes no register path**, when the labels travel with the
    operations -/
theorem SwapW.relabel {l1 l2 : List Op} (h : SwapW l1 l2) : ∀ L1 : List (Nat × Op), L1.map (·.2) = l1 →
    ∃ L2, L2.map (·.2) = l2 ∧ L2.Perm L1 ∧ ∀ w, bodyL L2 w = bodyL L1 w := by
  induction h with
  | refl l => exact fun L1 h1 => ⟨L1, h1, .refl _, fun _ => rfl⟩
  | swap pre a b post hd =>
    intro L1 h1
    obtain ⟨P, R, rfl, rfl, hR⟩ := List.map_eq_append_iff.1 h1
    obtain ⟨x, R', rfl, rfl, hR'⟩ := List.map_eq_cons_iff.1 hR
    obtain ⟨y, Q, rfl, rfl, rfl⟩ := List.map_eq_cons_iff.1 hR'
    refine ⟨P ++ y :: x :: Q, by simp, (List.Perm.swap x y Q).append_left P, fun w => ?_⟩
    have := disjW_not_both hd w
    simp only [bodyL_append, bodyL_cons]
    cases hx : touches w x.2 <;> cases hy : touches w y.2 <;> simp_all
  | trans _ _ ih1 ih2 =>
    intro L1 h1
    obtain ⟨L2, h2, p2, b2⟩ := ih1 L1 h1
    obtain ⟨L3, h3, p3, b3⟩ := ih2 L2 h2
    exact ⟨L3, h3, p3.trans p2, fun w => (b3 w).trans (b2 w)⟩

/-! ## two labellings of one operation list -/

def relab (f : Nat → Nat) (p : Nat × Op) : Nat × Op := (f p.1, p.2)

theorem bodyL_relab (π : Wire → Wire) (f : Nat → Nat) (L : List (Nat × Op)) (w : Wire) :
    bodyL (L.map (relab f)) w = (bodyL L w).map (nodeMap π f) := by
  unfold bodyL
  rw [List.filter_map, List.map_map, List.map_map]
  rfl

theorem exists_relab : ∀ (L L' : List (Nat × Op)), (L.map (·.1)).Nodup → L'.map (·.2) = L.map (·.2) →
    ∃ f, L' = L.map (relab f) := by
  intro L
  induction L with
  | nil => intro L' _ h; exact ⟨id, List.map_eq_nil_iff.1 h⟩
  | cons p L ih =>
    intro L' hn h
    obtain ⟨p', L'', rfl, hp, hL⟩ := List.map_eq_cons_iff.1 h
    simp only [List.map_cons, List.nodup_cons] at hn
    obtain ⟨f, rfl⟩ := ih L'' hn.2 hL
    refine ⟨fun i => if i = p.1 then p'.1 else f i, ?_⟩
    rw [List.map_cons]
    congr 1
    · exact Prod.ext (by simp [relab]) hp
    · apply List.map_congr_left
      intro q hq
      have : q.1 ≠ p.1 := fun e => hn.1 (List.mem_map.2 ⟨q, hq, e⟩)
      simp [relab, this]

theorem bodyL_renOp (W : List Wire) (π : Wire → Wire) (hπ : IsRenaming W π) (L : List (Nat × Op))
    (hL : ∀ p ∈ L, ∀ w ∈ opWires p.2, w ∈ W) (w : Wire) (hw : w ∈ W) :
    bodyL (L.map fun p => (p.1, renOp π p.2)) (π w) = bodyL L w := by
  unfold bodyL
  rw [List.filter_map, List.map_map]
  congr 1
  apply List.filter_congr
  intro p hp
  apply Bool.eq_iff_iff.2
  simp only [Function.comp, touches_iff]
  exact mem_opWires_renOp W π hπ p.2 (hL p hp) w hw

end Graphiq.Compare
