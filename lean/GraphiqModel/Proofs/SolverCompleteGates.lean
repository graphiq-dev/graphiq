/-
  Proofs/SolverCompleteGates.lean — completeness of the time-reversed solver: what tableau gates do to the facts the
  completeness invariant is made of: a gate changes no bit outside its columns, so along gates on columns in `A` (`GVia A`) the
  literal columns and the non-product qubits outside `A` are preserved.
-/
import GraphiqModel.Proofs.SolverCompleteDefs
import GraphiqModel.Proofs.SolverSoundRows
namespace Graphiq
open PRow

namespace STab

theorem gateNorm_n (t : STab) (G : Gate) : ((t.applyGate G).norm).n = t.n := rfl

theorem gateNorm_row (t : STab) (G : Gate) (i : Nat) (hi : i < t.n) :
    EqOn t.n (((t.applyGate G).norm).row i) (G.act (t.row i)) :=
  norm_row (t.applyGate G) i hi

theorem gateNorm_good (t : STab) (G : Gate) (hG : G.WF t.n) (hg : t.Good) : ((t.applyGate G).norm).Good :=
  norm_good _ (applyGate_good t G hG hg)

theorem gateNorm_bits_off (t : STab) (G : Gate) (i j : Nat) (hi : i < t.n) (hj : j < t.n) (hoff : j ∉ G.cols) :
    (((t.applyGate G).norm).row i).x j = (t.row i).x j ∧ (((t.applyGate G).norm).row i).z j = (t.row i).z j := by
  have e := (gateNorm_row t G i hi).1 j hj
  have b := Gate.act_bits_off G (t.row i) j hoff
  exact ⟨e.1.trans b.1, e.2.trans b.2⟩

theorem gateNorm_lit (t : STab) (G : Gate) (hG : G.WF t.n) (q : Nat) (hq : q < t.n) (hoff : q ∉ G.cols) (hl : t.Lit q) :
    ((t.applyGate G).norm).Lit q :=
  (lit_iff_solo _ q).2 (solo_gateNorm rfl (soloPred_Z t.n q) G hG hq hoff ((lit_iff_solo t q).1 hl))

/-- **no element of the stabilizer group is supported exactly on `{p}`**: qubit `p` is entangled with the rest (its reduced state is
    maximally mixed), i.e. it is not an isolated product qubit -/
def NotProd (t : STab) (p : Nat) : Prop :=
  ∀ a, t.Spn a → (∀ j, j < t.n → j ≠ p → a.x j = false ∧ a.z j = false) → a.x p = false ∧ a.z p = false

theorem notProd_spanEq (t t' : STab) (h : SpanEq t t') (p : Nat) (hp : t.NotProd p) : t'.NotProd p := by
  intro a ha hs
  exact hp a (h.sup a ha) (fun j hj hne => hs j (h.n_eq ▸ hj) hne)

theorem gateNorm_notProd (t : STab) (G : Gate) (hG : G.WF t.n) (p : Nat) (hpn : p < t.n) (hoff : p ∉ G.cols)
    (hp : t.NotProd p) : ((t.applyGate G).norm).NotProd p := by
  intro b hb hs
  have hb1 : (t.applyGate G).Spn b := (norm_spanEq (t.applyGate G)).sup b hb
  obtain ⟨a, ha, ea⟩ := applyGate_bwd t G hG b hb1
  have hs' : ∀ j, j < t.n → j ≠ p → (G.act a).x j = false ∧ (G.act a).z j = false := by
    intro j hj hne
    have := hs j hj hne
    exact ⟨((ea.1 j hj).1).trans this.1, ((ea.1 j hj).2).trans this.2⟩
  have hcols : ∀ c, c ∈ G.cols → (G.act a).x c = false ∧ (G.act a).z c = false := by
    intro c hc
    exact hs' c (Gate.cols_lt_of_wf hG c hc) (fun e => hoff (e ▸ hc))
  -- so `a` is trivial on the gate's columns and the gate does nothing to it
  rw [G.act_eq_of_triv a (Gate.act_triv_back t.n G hG a hcols)] at hs' ea
  have hap := hp a ha hs'
  exact ⟨((ea.1 p hpn).1).symm.trans hap.1, ((ea.1 p hpn).2).symm.trans hap.2⟩

/-- `t` is reached from `t0` by re-tabulated gates all of whose columns satisfy `A` -/
inductive GVia (A : Nat → Prop) (t0 : STab) : STab → Prop
  | refl : GVia A t0 t0
  | gate {t : STab} (G : Gate) : GVia A t0 t → G.WF t.n → (∀ c, c ∈ G.cols → A c) → GVia A t0 ((t.applyGate G).norm)

theorem GVia.n_eq {A : Nat → Prop} {t0 t : STab} (h : GVia A t0 t) : t.n = t0.n := by
  induction h with
  | refl => rfl
  | gate G _ _ _ ih => exact ih

theorem GVia.trans {A : Nat → Prop} {t0 t1 t2 : STab} (h1 : GVia A t0 t1) (h2 : GVia A t1 t2) : GVia A t0 t2 := by
  induction h2 with
  | refl => exact h1
  | gate G _ hG hA ih => exact GVia.gate G ih hG hA

theorem GVia.mono {A B : Nat → Prop} {t0 t : STab} (hAB : ∀ c, A c → B c) (h : GVia A t0 t) : GVia B t0 t := by
  induction h with
  | refl => exact GVia.refl
  | gate G _ hG hA ih => exact GVia.gate G ih hG (fun c hc => hAB c (hA c hc))

theorem GVia.one {A : Nat → Prop} (t : STab) (G : Gate) (hG : G.WF t.n) (hA : ∀ c, c ∈ G.cols → A c) :
    GVia A t ((t.applyGate G).norm) := GVia.gate G GVia.refl hG hA

theorem GVia.good {A : Nat → Prop} {t0 t : STab} (h : GVia A t0 t) (hg : t0.Good) : t.Good := by
  induction h with
  | refl => exact hg
  | gate G _ hG _ ih => exact gateNorm_good _ G hG ih

theorem GVia.lit {A : Nat → Prop} {t0 t : STab} (h : GVia A t0 t) (q : Nat) (hq : q < t0.n) (hA : ¬ A q) (hl : t0.Lit q) :
    t.Lit q := by
  induction h with
  | refl => exact hl
  | @gate t G h1 hG hc ih =>
    exact gateNorm_lit t G hG q (h1.n_eq ▸ hq) (fun hm => hA (hc q hm)) ih

theorem GVia.notProd {A : Nat → Prop} {t0 t : STab} (h : GVia A t0 t) (p : Nat) (hp : p < t0.n) (hA : ¬ A p)
    (hnp : t0.NotProd p) : t.NotProd p := by
  induction h with
  | refl => exact hnp
  | @gate t G h1 hG hc ih =>
    exact gateNorm_notProd t G hG p (h1.n_eq ▸ hp) (fun hm => hA (hc p hm)) ih

theorem GVia.bits_off {A : Nat → Prop} {t0 t : STab} (h : GVia A t0 t) (i j : Nat) (hi : i < t0.n) (hj : j < t0.n) (hA : ¬ A j) :
    (t.row i).x j = (t0.row i).x j ∧ (t.row i).z j = (t0.row i).z j := by
  induction h with
  | refl => exact ⟨rfl, rfl⟩
  | @gate t G h1 hG hc ih =>
    have e := gateNorm_bits_off t G i j (h1.n_eq ▸ hi) (h1.n_eq ▸ hj) (fun hm => hA (hc j hm))
    exact ⟨e.1.trans ih.1, e.2.trans ih.2⟩

theorem GVia.ptype_off {A : Nat → Prop} {t0 t : STab} (h : GVia A t0 t) (i j : Nat) (hi : i < t0.n) (hj : j < t0.n) (hA : ¬ A j) :
    t.ptype i j = t0.ptype i j := by
  have e := h.bits_off i j hi hj hA
  rw [ptype_eq, ptype_eq]
  exact PRow.pt_congr _ _ j e.1 e.2

end STab
end Graphiq
