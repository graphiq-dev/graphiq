/-
  Proofs/HilbertState.lean — the unitary of every gate of the model's `Gate` type, the conjugation theorem
  `U P U† = (tableau rule)(P)`, and the density matrix of a stabilizer tableau:

  * `gateMat n g` : the `2^n × 2^n` unitary of `g` (graphiq's density-matrix backend builds the same matrices with
    `get_one_qubit_gate` / `get_two_qubit_controlled_gate` and applies `U ρ U†`);
  * `gate_conj` : `gateMat g * pauliMat p * (gateMat g)ᴴ = pauliMat (g.act p)` for every well-formed gate; `circMat`,
    `circ_conj` : the same for gate lists;
  * `rho n T = ∏_i (1 + P_i)/2` for the generator rows `P_i` of `T`;
    gate covariance, projector, stabilized by the whole group, and independence of the choice of generators.
-/
import GraphiqModel.Proofs.HilbertGates2
import GraphiqModel.Proofs.InverseCircuit
namespace Graphiq
namespace Hilbert
open Matrix PRow

/-! ### the gate unitaries -/

noncomputable def gateMat (n : Nat) : Gate → Matrix (Bits n) (Bits n) ℂ
  | .H q => invSqrt2 • oneQ n q hadM
  | .P q => oneQ n q phaseM
  | .Pdag q => oneQ n q phaseDagM
  | .X q => oneQ n q sigmaX
  | .Y q => oneQ n q sigmaY
  | .Z q => oneQ n q sigmaZ
  | .I _ => 1
  | .CNOT c t => ctrlQ n c t sigmaX
  | .CZ c t => ctrlQ n c t sigmaZ

theorem gate_intertwine (n : Nat) (g : Gate) (hg : g.WF n) (p : PRow) :
    gateMat n g * pauliMat n p = pauliMat n (g.act p) * gateMat n g := by
  cases g with
  | H q =>
    show (invSqrt2 • oneQ n q hadM) * pauliMat n p = pauliMat n (PRow.h q p) * (invSqrt2 • oneQ n q hadM)
    rw [smul_mul_assoc, mul_smul_comm, had_intertwine n q hg]
  | P q => exact phase_intertwine n q hg p
  | Pdag q => exact phaseDag_intertwine n q hg p
  | X q => exact sigmaX_intertwine n q hg p
  | Y q => exact sigmaY_intertwine n q hg p
  | Z q => exact sigmaZ_intertwine n q hg p
  | I q => show 1 * pauliMat n p = pauliMat n p * 1; rw [Matrix.one_mul, Matrix.mul_one]
  | CNOT c t => exact cnot_intertwine n c t hg.1 hg.2.1 hg.2.2 p
  | CZ c t => exact cz_intertwine n c t hg.1 hg.2.1 hg.2.2 p

theorem unitary_of_2x2 (n q : Nat) (hq : q < n) (u : Matrix Bool Bool ℂ) (hu : u * uᴴ = 1 ∧ uᴴ * u = 1) :
    oneQ n q u * (oneQ n q u)ᴴ = 1 ∧ (oneQ n q u)ᴴ * oneQ n q u = 1 :=
  ⟨oneQ_unitary n q hq u hu.1, oneQ_unitary' n q hq u hu.2⟩

theorem unitary_of_hermitian {n : Nat} (U : Matrix (Bits n) (Bits n) ℂ) (hh : Uᴴ = U) (hsq : U * U = 1) :
    U * Uᴴ = 1 ∧ Uᴴ * U = 1 := by
  rw [hh]
  exact ⟨hsq, hsq⟩

theorem unitary_of_hermitian_2x2 (n q : Nat) (hq : q < n) (u : Matrix Bool Bool ℂ) (hh : uᴴ = u) (hsq : u * u = 1) :
    oneQ n q u * (oneQ n q u)ᴴ = 1 ∧ (oneQ n q u)ᴴ * oneQ n q u = 1 := by
  apply unitary_of_hermitian
  · rw [oneQ_conjTranspose, hh]
  · rw [oneQ_mul n q hq, hsq, oneQ_one]

theorem gate_unitary (n : Nat) (g : Gate) (hg : g.WF n) :
    gateMat n g * (gateMat n g)ᴴ = 1 ∧ (gateMat n g)ᴴ * gateMat n g = 1 := by
  cases g with
  | H q =>
    apply unitary_of_hermitian (invSqrt2 • oneQ n q hadM)
    · rw [Matrix.conjTranspose_smul, star_invSqrt2, oneQ_conjTranspose, hadM_conjTranspose]
    · rw [smul_mul_smul_comm, oneQ_mul n q hg, hadM_mul_self, oneQ_smul, oneQ_one, smul_smul, invSqrt2_mul_self]
      norm_num
  | P q => exact unitary_of_2x2 n q hg _ phaseM_unitary
  | Pdag q => exact unitary_of_2x2 n q hg _ phaseDagM_unitary
  | X q => exact unitary_of_hermitian_2x2 n q hg _ sigmaX_conjTranspose sigmaX_mul_self
  | Y q => exact unitary_of_hermitian_2x2 n q hg _ sigmaY_conjTranspose sigmaY_mul_self
  | Z q => exact unitary_of_hermitian_2x2 n q hg _ sigmaZ_conjTranspose sigmaZ_mul_self
  | I q =>
    show (1 : Matrix (Bits n) (Bits n) ℂ) * 1ᴴ = 1 ∧ (1 : Matrix (Bits n) (Bits n) ℂ)ᴴ * 1 = 1
    rw [Matrix.conjTranspose_one, Matrix.one_mul]; exact ⟨rfl, rfl⟩
  | CNOT c t => exact ctrlQ_sigmaX_unitary n c t hg.2.1 hg.2.2
  | CZ c t => exact ctrlQ_sigmaZ_unitary n c t

/-- **Conjugation.**  The row-wise update rule of every gate is conjugation by the gate's unitary, signs included:
    `U P U† = P'` with `P' = g.act P`, for every `n`, every position and every signed Pauli row. -/
theorem gate_conj (n : Nat) (g : Gate) (hg : g.WF n) (p : PRow) :
    gateMat n g * pauliMat n p * (gateMat n g)ᴴ = pauliMat n (g.act p) := by
  rw [gate_intertwine n g hg, Matrix.mul_assoc, (gate_unitary n g hg).1, Matrix.mul_one]

/-! ### circuits -/

/-- the unitary of a gate list (first gate applied first) -/
noncomputable def circMat (n : Nat) : List Gate → Matrix (Bits n) (Bits n) ℂ
  | [] => 1
  | g :: c => circMat n c * gateMat n g

theorem circ_unitary (n : Nat) (c : List Gate) (hc : ∀ g ∈ c, g.WF n) :
    circMat n c * (circMat n c)ᴴ = 1 ∧ (circMat n c)ᴴ * circMat n c = 1 := by
  induction c with
  | nil => simp [circMat]
  | cons g c ih =>
    have hg := gate_unitary n g (hc g List.mem_cons_self)
    have hc' := ih (fun g' h => hc g' (List.mem_cons_of_mem _ h))
    constructor
    · show (circMat n c * gateMat n g) * (circMat n c * gateMat n g)ᴴ = 1
      rw [Matrix.conjTranspose_mul, Matrix.mul_assoc, ← Matrix.mul_assoc (gateMat n g), hg.1, Matrix.one_mul, hc'.1]
    · show (circMat n c * gateMat n g)ᴴ * (circMat n c * gateMat n g) = 1
      rw [Matrix.conjTranspose_mul, Matrix.mul_assoc, ← Matrix.mul_assoc (circMat n c)ᴴ, hc'.2, Matrix.one_mul, hg.2]

theorem circ_conj (n : Nat) (c : List Gate) (hc : ∀ g ∈ c, g.WF n) (p : PRow) :
    circMat n c * pauliMat n p * (circMat n c)ᴴ = pauliMat n (actCirc c p) := by
  induction c generalizing p with
  | nil => simp [circMat, actCirc]
  | cons g c ih =>
    show (circMat n c * gateMat n g) * pauliMat n p * (circMat n c * gateMat n g)ᴴ = pauliMat n (actCirc c (g.act p))
    rw [← ih (fun g' h => hc g' (List.mem_cons_of_mem _ h)), ← gate_conj n g (hc g List.mem_cons_self),
      Matrix.conjTranspose_mul]
    simp only [Matrix.mul_assoc]

/-! ### the stabilizer state -/

/-- `(1 + P)/2` : the projector on the `+1` eigenspace of a Hermitian Pauli -/
noncomputable def proj (n : Nat) (p : PRow) : Matrix (Bits n) (Bits n) ℂ := (1 / 2 : ℂ) • (1 + pauliMat n p)

noncomputable def rhoTo (n : Nat) (row : Nat → PRow) : Nat → Matrix (Bits n) (Bits n) ℂ
  | 0 => 1
  | k + 1 => rhoTo n row k * proj n (row k)

/-- the density matrix `∏_i (1 + P_i)/2` of a stabilizer tableau, as a matrix on `n` qubits (`n = T.n`) -/
noncomputable def rho (n : Nat) (T : STab) : Matrix (Bits n) (Bits n) ℂ := rhoTo n T.row T.n

theorem proj_congr (n : Nat) (a b : PRow) (h : EqOn n a b) : proj n a = proj n b := by
  unfold proj; rw [pauliMat_congr n a b h]

theorem proj_mul_of_fixed (n : Nat) (g : PRow) (M : Matrix (Bits n) (Bits n) ℂ) (h : pauliMat n g * M = M) :
    proj n g * M = M := by
  unfold proj
  rw [smul_mul_assoc, add_mul, Matrix.one_mul, h, ← two_smul ℂ M, smul_smul]
  norm_num

theorem proj_mul_of_neg (n : Nat) (g : PRow) (M : Matrix (Bits n) (Bits n) ℂ) (h : pauliMat n g * M = -M) :
    proj n g * M = 0 := by
  unfold proj
  rw [smul_mul_assoc, add_mul, Matrix.one_mul, h, add_neg_cancel, smul_zero]

theorem rhoTo_congr (n : Nat) (r r' : Nat → PRow) (k : Nat) (h : ∀ i, i < k → EqOn n (r i) (r' i)) :
    rhoTo n r k = rhoTo n r' k := by
  induction k with
  | zero => rfl
  | succ m ih =>
    show rhoTo n r m * proj n (r m) = rhoTo n r' m * proj n (r' m)
    rw [ih (fun i hi => h i (Nat.lt_succ_of_lt hi)), proj_congr n _ _ (h m (Nat.lt_succ_self m))]

theorem rho_norm (T : STab) : rho T.n T.norm = rho T.n T :=
  rhoTo_congr T.n _ _ T.n (fun i hi => STab.norm_row T i hi)

theorem conj_mul_conj {n : Nat} (V A B : Matrix (Bits n) (Bits n) ℂ) (hV : Vᴴ * V = 1) :
    (V * A * Vᴴ) * (V * B * Vᴴ) = V * (A * B) * Vᴴ := by
  simp only [Matrix.mul_assoc]
  rw [← Matrix.mul_assoc Vᴴ V, hV, Matrix.one_mul]

theorem conj_conj {n : Nat} (U V A : Matrix (Bits n) (Bits n) ℂ) : U * (V * A * Vᴴ) * Uᴴ = (U * V) * A * (U * V)ᴴ := by
  rw [Matrix.conjTranspose_mul]
  simp only [Matrix.mul_assoc]

theorem conj_cancel {n : Nat} (U V A : Matrix (Bits n) (Bits n) ℂ) (h : U * V = 1) : U * (V * A * U) * V = A := by
  rw [Matrix.mul_assoc V, ← Matrix.mul_assoc U V, h, Matrix.one_mul, Matrix.mul_assoc, h, Matrix.mul_one]

theorem conj_proj (n : Nat) (U : Matrix (Bits n) (Bits n) ℂ) (hU : U * Uᴴ = 1) (p p' : PRow)
    (h : U * pauliMat n p * Uᴴ = pauliMat n p') : U * proj n p * Uᴴ = proj n p' := by
  unfold proj
  rw [mul_smul_comm, smul_mul_assoc, mul_add, add_mul, Matrix.mul_one, hU, h]

theorem conj_rhoTo (n : Nat) (U : Matrix (Bits n) (Bits n) ℂ) (hU : U * Uᴴ = 1) (hU' : Uᴴ * U = 1)
    (r r' : Nat → PRow) (k : Nat) (h : ∀ i, i < k → U * pauliMat n (r i) * Uᴴ = pauliMat n (r' i)) :
    U * rhoTo n r k * Uᴴ = rhoTo n r' k := by
  induction k with
  | zero => show U * 1 * Uᴴ = 1; rw [Matrix.mul_one, hU]
  | succ m ih =>
    show U * (rhoTo n r m * proj n (r m)) * Uᴴ = rhoTo n r' m * proj n (r' m)
    rw [← ih (fun i hi => h i (Nat.lt_succ_of_lt hi)), ← conj_proj n U hU _ _ (h m (Nat.lt_succ_self m))]
    have e : U * rhoTo n r m * Uᴴ * (U * proj n (r m) * Uᴴ)
        = U * rhoTo n r m * (Uᴴ * U) * proj n (r m) * Uᴴ := by simp only [Matrix.mul_assoc]
    rw [e, hU', Matrix.mul_one]
    simp only [Matrix.mul_assoc]

/-- **Gate covariance.**  `U_g ρ(T) U_g† = ρ(T.applyGate g)`: updating the generator rows by the tableau rule is the
    Hilbert-space evolution of the state. -/
theorem rho_applyGate (T : STab) (g : Gate) (hg : g.WF T.n) :
    gateMat T.n g * rho T.n T * (gateMat T.n g)ᴴ = rho T.n (T.applyGate g) :=
  conj_rhoTo T.n _ (gate_unitary T.n g hg).1 (gate_unitary T.n g hg).2 T.row (fun i => g.act (T.row i)) T.n
    (fun i _ => gate_conj T.n g hg (T.row i))

theorem runCircuit_n (T : STab) (c : List Gate) : (T.runCircuit c).n = T.n := STab.runCircuit_n T c

/-- `run_circuit` tabulates after every gate -/
theorem rho_runCircuit (T : STab) (c : List Gate) (hc : ∀ g ∈ c, g.WF T.n) :
    circMat T.n c * rho T.n T * (circMat T.n c)ᴴ = rho T.n (T.runCircuit c) := by
  induction c generalizing T with
  | nil => show 1 * rho T.n T * 1ᴴ = rho T.n T; simp
  | cons g c ih =>
    have hg := hc g List.mem_cons_self
    have h1 := ih ((T.applyGate g).norm) (fun g' h => hc g' (List.mem_cons_of_mem _ h))
    show (circMat T.n c * gateMat T.n g) * rho T.n T * (circMat T.n c * gateMat T.n g)ᴴ
      = rho T.n (((T.applyGate g).norm).runCircuit c)
    have hn : ((T.applyGate g).norm).n = T.n := rfl
    rw [hn] at h1
    rw [← h1]
    have h2 : rho T.n (T.applyGate g).norm = rho T.n (T.applyGate g) := rho_norm (T.applyGate g)
    rw [h2, ← rho_applyGate T g hg, Matrix.conjTranspose_mul]
    simp only [Matrix.mul_assoc]

theorem commute_proj (n : Nat) (M : Matrix (Bits n) (Bits n) ℂ) (p : PRow)
    (h : M * pauliMat n p = pauliMat n p * M) : M * proj n p = proj n p * M := by
  unfold proj
  rw [mul_smul_comm, smul_mul_assoc, mul_add, add_mul, h, Matrix.mul_one, Matrix.one_mul]

theorem proj_comm (n : Nat) (a b : PRow) (h : pauliMat n a * pauliMat n b = pauliMat n b * pauliMat n a) :
    proj n a * proj n b = proj n b * proj n a :=
  commute_proj n (proj n a) b (commute_proj n (pauliMat n b) a h.symm).symm

theorem pauli_mul_proj (n : Nat) (a : PRow) (ha : a.ip = false) : pauliMat n a * proj n a = proj n a := by
  unfold proj
  rw [mul_smul_comm, mul_add, Matrix.mul_one, pauliMat_sq n a ha, add_comm]

theorem proj_idem (n : Nat) (a : PRow) (ha : a.ip = false) : proj n a * proj n a = proj n a := by
  have h : (1 + pauliMat n a) * proj n a = (2 : ℂ) • proj n a := by
    rw [add_mul, Matrix.one_mul, pauli_mul_proj n a ha, two_smul]
  rw [show proj n a * proj n a = (1 / 2 : ℂ) • ((1 + pauliMat n a) * proj n a) from smul_mul_assoc _ _ _, h, smul_smul]
  norm_num

theorem proj_hermitian (n : Nat) (a : PRow) (ha : a.ip = false) : (proj n a)ᴴ = proj n a := by
  unfold proj
  rw [Matrix.conjTranspose_smul, Matrix.conjTranspose_add, Matrix.conjTranspose_one, pauliMat_hermitian n a ha]
  congr 1
  simp

theorem proj_Zq_add (n q : Nat) : proj n (Zq q false) + proj n (Zq q true) = 1 := by
  have hneg : pauliMat n (Zq q true) = -pauliMat n (Zq q false) := pauliMat_neg n (Zq q false)
  unfold proj
  rw [hneg, ← smul_add]
  have : (1 : Matrix (Bits n) (Bits n) ℂ) + pauliMat n (Zq q false) + (1 + -pauliMat n (Zq q false)) = (2 : ℂ) • 1 := by
    rw [two_smul]; abel
  rw [this, smul_smul]; norm_num

theorem commute_rhoTo (n : Nat) (M : Matrix (Bits n) (Bits n) ℂ) (r : Nat → PRow) (k : Nat)
    (h : ∀ i, i < k → M * proj n (r i) = proj n (r i) * M) : M * rhoTo n r k = rhoTo n r k * M := by
  induction k with
  | zero => show M * 1 = 1 * M; rw [Matrix.mul_one, Matrix.one_mul]
  | succ m ih =>
    show M * (rhoTo n r m * proj n (r m)) = rhoTo n r m * proj n (r m) * M
    rw [← Matrix.mul_assoc, ih (fun i hi => h i (Nat.lt_succ_of_lt hi)), Matrix.mul_assoc,
      h m (Nat.lt_succ_self m), Matrix.mul_assoc]

/-- real, mutually commuting rows `r 0 … r (k-1)` -/
structure GoodTo (n : Nat) (r : Nat → PRow) (k : Nat) : Prop where
  real : ∀ i, i < k → (r i).ip = false
  comm : ∀ i j, i < k → j < k → sp n (r i) (r j) = false

theorem GoodTo.mono {n : Nat} {r : Nat → PRow} {k m : Nat} (h : GoodTo n r k) (hm : m ≤ k) : GoodTo n r m :=
  ⟨fun i hi => h.real i (Nat.lt_of_lt_of_le hi hm),
   fun i j hi hj => h.comm i j (Nat.lt_of_lt_of_le hi hm) (Nat.lt_of_lt_of_le hj hm)⟩

theorem _root_.Graphiq.STab.Good.goodTo {T : STab} (h : T.Good) : GoodTo T.n T.row T.n := ⟨h.real, h.comm⟩

theorem proj_commute_rhoTo (n : Nat) (r : Nat → PRow) (k : Nat) (hg : GoodTo n r (k + 1)) :
    proj n (r k) * rhoTo n r k = rhoTo n r k * proj n (r k) :=
  commute_rhoTo n _ r k (fun i hi => proj_comm n _ _
    (pauliMat_comm n _ _ (hg.comm k i (Nat.lt_succ_self k) (Nat.lt_succ_of_lt hi))))

theorem rhoTo_idem (n : Nat) (r : Nat → PRow) (k : Nat) (hg : GoodTo n r k) :
    rhoTo n r k * rhoTo n r k = rhoTo n r k := by
  induction k with
  | zero => show (1 : Matrix (Bits n) (Bits n) ℂ) * 1 = 1; rw [Matrix.one_mul]
  | succ m ih =>
    show rhoTo n r m * proj n (r m) * (rhoTo n r m * proj n (r m)) = rhoTo n r m * proj n (r m)
    have hc := proj_commute_rhoTo n r m hg
    have e : rhoTo n r m * proj n (r m) * (rhoTo n r m * proj n (r m))
        = rhoTo n r m * (proj n (r m) * rhoTo n r m) * proj n (r m) := by simp only [Matrix.mul_assoc]
    rw [e, hc]
    have e2 : rhoTo n r m * (rhoTo n r m * proj n (r m)) * proj n (r m)
        = (rhoTo n r m * rhoTo n r m) * (proj n (r m) * proj n (r m)) := by simp only [Matrix.mul_assoc]
    rw [e2, ih (hg.mono (Nat.le_succ m)), proj_idem n _ (hg.real m (Nat.lt_succ_self m))]

theorem rhoTo_hermitian (n : Nat) (r : Nat → PRow) (k : Nat) (hg : GoodTo n r k) :
    (rhoTo n r k)ᴴ = rhoTo n r k := by
  induction k with
  | zero => show (1 : Matrix (Bits n) (Bits n) ℂ)ᴴ = 1; exact Matrix.conjTranspose_one
  | succ m ih =>
    show (rhoTo n r m * proj n (r m))ᴴ = rhoTo n r m * proj n (r m)
    rw [Matrix.conjTranspose_mul, ih (hg.mono (Nat.le_succ m)), proj_hermitian n _ (hg.real m (Nat.lt_succ_self m)),
      proj_commute_rhoTo n r m hg]

theorem rho_idem (T : STab) (hg : T.Good) : rho T.n T * rho T.n T = rho T.n T := rhoTo_idem T.n T.row T.n hg.goodTo
theorem rho_hermitian (T : STab) (hg : T.Good) : (rho T.n T)ᴴ = rho T.n T := rhoTo_hermitian T.n T.row T.n hg.goodTo

theorem gen_mul_rhoTo (n : Nat) (r : Nat → PRow) (k : Nat) (hg : GoodTo n r k) (i : Nat) (hi : i < k) :
    pauliMat n (r i) * rhoTo n r k = rhoTo n r k := by
  induction k with
  | zero => omega
  | succ m ih =>
    show pauliMat n (r i) * (rhoTo n r m * proj n (r m)) = rhoTo n r m * proj n (r m)
    by_cases him : i = m
    · subst him
      have hc : pauliMat n (r i) * rhoTo n r i = rhoTo n r i * pauliMat n (r i) :=
        commute_rhoTo n _ r i (fun j hj => commute_proj n _ _
          (pauliMat_comm n _ _ (hg.comm i j (Nat.lt_succ_self i) (Nat.lt_succ_of_lt hj))))
      rw [← Matrix.mul_assoc, hc, Matrix.mul_assoc, pauli_mul_proj n _ (hg.real i (Nat.lt_succ_self i))]
    · rw [← Matrix.mul_assoc, ih (hg.mono (Nat.le_succ m)) (by omega)]

theorem span_mul_rho (T : STab) (hg : T.Good) (a : PRow) (ha : T.Spn a) : pauliMat T.n a * rho T.n T = rho T.n T := by
  unfold STab.Spn at ha
  induction ha with
  | one => rw [pauliMat_one, Matrix.one_mul]
  | gen i hi => exact gen_mul_rhoTo T.n T.row T.n hg.goodTo i hi
  | mul a b _ _ iha ihb => rw [pauliMat_mul, Matrix.mul_assoc, ihb, iha]
  | eqv a b _ hab iha => rw [← pauliMat_congr T.n a b hab]; exact iha

theorem rhoTo_mul_of_fixed (n : Nat) (r : Nat → PRow) (k : Nat) (M : Matrix (Bits n) (Bits n) ℂ)
    (h : ∀ i, i < k → pauliMat n (r i) * M = M) : rhoTo n r k * M = M := by
  induction k with
  | zero => show 1 * M = M; rw [Matrix.one_mul]
  | succ m ih =>
    show rhoTo n r m * proj n (r m) * M = M
    rw [Matrix.mul_assoc, proj_mul_of_fixed n _ M (h m (Nat.lt_succ_self m)), ih (fun i hi => h i (Nat.lt_succ_of_lt hi))]

/-- **Gauge independence.**  Two tableaux (real commuting generators) that generate the same signed group describe
    the same density matrix.  (`B.n = A.n` by `SpanEq`; both sides are matrices on `A.n` qubits.) -/
theorem rho_spanEq (A B : STab) (h : STab.SpanEq A B) (gA : A.Good) (gB : B.Good) : rho A.n A = rho A.n B := by
  have hn : B.n = A.n := h.n_eq.symm
  -- ρ_B ρ_A = ρ_A  and  ρ_A ρ_B = ρ_B
  have h1 : rho A.n B * rho A.n A = rho A.n A := by
    apply rhoTo_mul_of_fixed
    intro i hi
    exact span_mul_rho A gA (B.row i) (h.sup _ (STab.spn_gen B i hi))
  have gB' : GoodTo A.n B.row B.n := by rw [← hn]; exact gB.goodTo
  have h2 : rho A.n A * rho A.n B = rho A.n B := by
    apply rhoTo_mul_of_fixed
    intro i hi
    have hs : B.Spn (A.row i) := h.sub _ (STab.spn_gen A i hi)
    have := span_mul_rho B gB (A.row i) hs
    rw [hn] at this
    exact this
  have hA := rho_hermitian A gA
  have hB : (rho A.n B)ᴴ = rho A.n B := rhoTo_hermitian A.n B.row B.n gB'
  calc rho A.n A = (rho A.n A)ᴴ := hA.symm
    _ = (rho A.n B * rho A.n A)ᴴ := by rw [h1]
    _ = rho A.n A * rho A.n B := by rw [Matrix.conjTranspose_mul, hA, hB]
    _ = rho A.n B := h2

end Hilbert
end Graphiq
