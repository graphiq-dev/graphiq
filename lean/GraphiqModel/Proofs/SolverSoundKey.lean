/-
  Proofs/SolverSoundKey.lean — the two facts about the group semantics on which the solver's soundness rests.

  1. `mcr_key` (the time-reversed measurement): if `+Z_e` is in the group `S` (emitter `e` disentangled in |0⟩), then from
     `CNOT(e→p)·H_e·S` the operation `MeasurementCNOTandReset(e→p)` — Z-measurement of `e` (which is then RANDOM), X on the photon `p`
     if the outcome is 1, reset of `e` to |0⟩ — gives back exactly `S`, for BOTH outcomes.
  2. `ggen_insert` (commutation): a one-qubit gate on qubit `q` can be moved past any recorded operations that do not touch `q`
     (unitaries and measure-and-reset alike) without changing what the circuit generates.
-/
import GraphiqModel.Proofs.SolverSoundSem
namespace Graphiq.Solver
open Graphiq Graphiq.Cliff PRow STab Tab

/-- X on the photon and X on the emitter leave a row alone when it has the same Z-bit on both -/
theorem psi_same (n e p : Nat) (a : PRow) (h : a.z p = a.z e) : EqOn n (PRow.xg e (PRow.xg p a)) a := by
  refine ⟨fun j _ => ⟨by rw [xg_x, xg_x], by rw [xg_z, xg_z]⟩, ?_, by rw [xg_ip, xg_ip]⟩
  rw [xg_r, xg_r, xg_z, h]
  cases a.r <;> cases a.z e <;> rfl

theorem psi_Zq (n e p : Nat) (hep : e ≠ p) : EqOn n (PRow.xg e (PRow.xg p (Zq e true))) (Zq e false) := by
  refine ⟨fun j _ => ⟨by rw [xg_x, xg_x]; rfl, by rw [xg_z, xg_z]; rfl⟩, ?_, by rw [xg_ip, xg_ip]; rfl⟩
  rw [xg_r, xg_r, xg_z]
  have : p ≠ e := Ne.symm hep
  simp [Zq, this]

/-- a row with its Z-bit on column `e` overwritten -/
def setZ (e : Nat) (k : Bool) (g : PRow) : PRow := { g with z := fun j => if j = e then k else g.z j }

theorem trm_bits_x (E p j : Nat) (a : PRow) (hEp : E ≠ p) :
    (PRow.cnot E p (PRow.h E a)).x j = if j = p then xor (a.x p) (a.z E) else if j = E then a.z E else a.x j := by
  have hpE : p ≠ E := fun e => hEp e.symm
  by_cases h1 : j = p
  · subst h1; simp [PRow.cnot, PRow.h, hpE]
  · by_cases h2 : j = E
    · subst h2; simp [PRow.cnot, PRow.h, h1]
    · simp [PRow.cnot, PRow.h, h1, h2]

theorem trm_bits_z (E p j : Nat) (a : PRow) (hEp : E ≠ p) :
    (PRow.cnot E p (PRow.h E a)).z j = if j = E then xor (a.x E) (a.z p) else a.z j := by
  have hpE : p ≠ E := fun e => hEp e.symm
  by_cases h2 : j = E
  · subst h2; simp [PRow.cnot, PRow.h, hpE]
  · simp [PRow.cnot, PRow.h, h2]

theorem cnot_h_x (e p : Nat) (hep : e ≠ p) (g : PRow) : (PRow.cnot e p (PRow.h e g)).x e = g.z e := by
  rw [trm_bits_x e p e g hep, if_neg hep, if_pos rfl]

/-- `CNOT(e→p)·H_e` on a row without support on `e` copies the Z-bit of `p` onto `e` -/
theorem cnot_h_row (n e p : Nat) (hep : e ≠ p) (g : PRow) (hx : g.x e = false) (hz : g.z e = false) :
    EqOn n (PRow.cnot e p (PRow.h e g)) (setZ e (g.z p) g) := by
  refine ⟨fun j _ => ⟨?_, ?_⟩, ?_, rfl⟩
  · rw [trm_bits_x e p j g hep, hz]
    show _ = g.x j
    by_cases e1 : j = p
    · rw [if_pos e1, e1]; exact Bool.xor_false _
    · by_cases e2 : j = e
      · rw [if_neg e1, if_pos e2, e2, hx]
      · rw [if_neg e1, if_neg e2]
  · rw [trm_bits_z e p j g hep, hx]
    show _ = if j = e then g.z p else g.z j
    split
    · exact Bool.false_xor _
    · rfl
  · simp [PRow.cnot, PRow.h, setZ, hx, hz]

theorem setZ_false (n e : Nat) (g : PRow) (hz : g.z e = false) : EqOn n (setZ e false g) g := by
  refine ⟨fun j _ => ⟨rfl, ?_⟩, rfl, rfl⟩
  by_cases e2 : j = e
  · subst e2; simp [setZ, hz]
  · simp [setZ, e2]

theorem gSum_Zq_left (n e : Nat) (g : PRow) (hx : g.x e = false) (hz : g.z e = false) : gSum n (Zq e) g = 0 := by
  unfold gSum
  rw [sumTo_congr n _ (fun _ => 0)]
  · exact sumTo_zero n
  · intro j _
    by_cases e2 : j = e
    · subst e2; simp [Zq, gFun, hx, hz, Bool.toInt']
    · simp [Zq, gFun, e2]

theorem setZ_true_mul (n e : Nat) (g : PRow) (hx : g.x e = false) (hz : g.z e = false) :
    EqOn n (setZ e true g) (PRow.mul n (Zq e) g) := by
  apply eqOn_of
  · intro j _
    refine ⟨by simp [setZ, Zq], ?_⟩
    by_cases e2 : j = e
    · subst e2; simp [setZ, Zq, hz]
    · simp [setZ, Zq, e2]
  · rw [mul_ph, gSum_Zq_left n e g hx hz]
    have hp : (Zq e).ph = 0 := by simp [PRow.ph, Zq, Bool.toInt']
    have h1 : (setZ e true g).ph = g.ph := rfl
    have := ph_range g
    rw [hp, h1]; omega

/-! ### 1. the time-reversed measurement -/

/-- **Key lemma (time-reversed measurement), all sizes, both outcomes.**  Let `S` be a signed group all of whose elements commute
    with `Z_e` and which contains `+Z_e`.  Then in `S' = CNOT(e→p)·H_e·S` the Z-measurement of `e` is random, and
    `MeasurementCNOTandReset(e→p)` with either outcome maps `S'` back to exactly `S`. -/
theorem mcr_key (n e p : Nat) (he : e < n) (hp : p < n) (hep : e ≠ p) (S : PSet) (hS : Closed n S)
    (hx : ∀ a, S a → a.x e = false) (hZ : S (Zq e false)) :
    (∃ a, img n (fun a => PRow.cnot e p (PRow.h e a)) S a ∧ a.x e = true) ∧
    ∀ o, mcrPost n e p o (img n (fun a => PRow.cnot e p (PRow.h e a)) S) = S := by
  constructor
  · refine ⟨_, ⟨Zq e false, hZ, EqOn.refl _ _⟩, ?_⟩
    rw [cnot_h_x e p hep]; simp [Zq]
  intro o
  -- generating set of the post-measurement group, and after the corrections
  let S' : PSet := img n (fun a => PRow.cnot e p (PRow.h e a)) S
  let G : PSet := fun b => EqOn n (Zq e o) b ∨ (S' b ∧ b.x e = false)
  let ψ : PRow → PRow := fun a => PRow.xg e (PRow.xg p a)
  -- facts about the generators
  have inS' : ∀ g, S g → g.z e = false → S' (setZ e (g.z p) g) ∧ (setZ e (g.z p) g).x e = false := by
    intro g hg hz
    exact ⟨⟨g, hg, cnot_h_row n e p hep g (hx g hg) hz⟩, hx g hg⟩
  have setZ_in_S : ∀ g, S g → g.z e = false → S (setZ e (g.z p) g) := by
    intro g hg hz
    cases hk : g.z p
    · exact hS.eqv _ _ hg (setZ_false n e g hz).symm
    · exact hS.eqv _ _ (hS.mul _ _ hZ hg) (setZ_true_mul n e g (hx g hg) hz).symm
  have gen_in_S : ∀ b, S' b → b.x e = false → ∃ g, S g ∧ g.z e = false ∧ EqOn n b (setZ e (g.z p) g) := by
    rintro b ⟨g, hg, eb⟩ hb
    have hz : g.z e = false := by
      rw [← cnot_h_x e p hep g, (eb.1 e he).1]; exact hb
    exact ⟨g, hg, hz, eb.symm.trans (cnot_h_row n e p hep g (hx g hg) hz)⟩
  have setZ_same : ∀ g : PRow, (setZ e (g.z p) g).z p = (setZ e (g.z p) g).z e := by
    intro g
    have : p ≠ e := Ne.symm hep
    simp [setZ, this]
  -- the group after the corrections is generated by `Gc`
  obtain ⟨Gc, hpost, hA, hB, hC⟩ : ∃ Gc : PSet, mcrPost n e p o S' = Cl n Gc ∧ (∀ b, Gc b → S b) ∧ Cl n Gc (Zq e false) ∧
      (∀ g, S g → g.z e = false → Cl n Gc (setZ e (g.z p) g)) := by
    cases o
    · refine ⟨G, rfl, ?_, Cl.base _ (Or.inl (EqOn.refl _ _)), fun g hg hz => Cl.base _ (Or.inr (inS' g hg hz))⟩
      rintro b (hb | ⟨hb, hbx⟩)
      · exact hS.eqv _ _ hZ hb
      · obtain ⟨g, hg, hz, eb⟩ := gen_in_S b hb hbx
        exact hS.eqv _ _ (setZ_in_S g hg hz) eb.symm
    · have hψ : GMap n ψ := (gmap_xg n e he).comp (gmap_xg n p hp)
      refine ⟨img n ψ G, ?_, ?_, ?_, ?_⟩
      · show img n ψ (Cl n G) = Cl n (img n ψ G)
        exact cl_img n ψ hψ G
      · rintro b ⟨a, (ha | ⟨ha, hax⟩), eb⟩
        · exact hS.eqv _ _ hZ (((psi_Zq n e p hep).symm.trans (hψ.aut.congr _ _ ha)).trans eb)
        · obtain ⟨g, hg, hz, ea⟩ := gen_in_S a ha hax
          refine hS.eqv _ _ (setZ_in_S g hg hz) ?_
          exact ((psi_same n e p _ (setZ_same g)).symm.trans (hψ.aut.congr _ _ ea.symm)).trans eb
      · exact Cl.base _ ⟨Zq e true, Or.inl (EqOn.refl _ _), psi_Zq n e p hep⟩
      · intro g hg hz
        exact Cl.base _ ⟨setZ e (g.z p) g, Or.inr (inS' g hg hz), psi_same n e p _ (setZ_same g)⟩
  rw [hpost]
  apply pset_ext; intro g
  constructor
  · exact cl_le n Gc S hS hA g
  · intro hg
    have hcl := cl_closed n Gc
    -- first for elements without a Z on `e`
    have step : ∀ g, S g → g.z e = false → Cl n Gc g := by
      intro g hg hz
      have h1 := hC g hg hz
      cases hk : g.z p
      · rw [hk] at h1; exact hcl.eqv _ _ h1 (setZ_false n e g hz)
      · rw [hk] at h1
        have h2 : Cl n Gc (PRow.mul n (Zq e) g) := hcl.eqv _ _ h1 (setZ_true_mul n e g (hx g hg) hz)
        exact hcl.eqv _ _ (hcl.mul _ _ hB h2) (mul_cancel_left n (Zq e) g rfl)
    cases hz : g.z e
    · exact step g hg hz
    · have hg' : S (PRow.mul n (Zq e) g) := hS.mul _ _ hZ hg
      have hz' : (PRow.mul n (Zq e) g).z e = false := by simp [Zq, hz]
      exact hcl.eqv _ _ (hcl.mul _ _ hB (step _ hg' hz')) (mul_cancel_left n (Zq e) g rfl)

/-! ### 2. a one-qubit gate commutes with every operation that does not touch its qubit -/

theorem img_comm (n : Nat) (f g : PRow → PRow) (hf : IsAut n f) (hg : IsAut n g) (h : ∀ a, f (g a) = g (f a)) (S : PSet) :
    img n f (img n g S) = img n g (img n f S) := by
  rw [img_img n f g hf, img_img n g f hg]
  exact img_congr n _ _ h S

theorem measPost_comm (n q e : Nat) (he : e < n) (hqe : e ≠ q) (t : L1) (ht : t.Fix) (haut : IsAut n (lift q t)) (o : Bool) (S : PSet) :
    measPost n e o (img n (lift q t) S) = img n (lift q t) (measPost n e o S) := by
  have hφ : GMap n (lift q t) := gmap_lift_of n q t ht haut
  unfold measPost
  rw [cl_img n _ hφ]
  apply cl_congr
  intro b
  constructor
  · rintro (hb | ⟨⟨a, ha, eb⟩, hbx⟩)
    · exact ⟨Zq e o, Or.inl (EqOn.refl _ _), (lift_Zq_ne n q e hqe t ht o).trans hb⟩
    · refine ⟨a, Or.inr ⟨ha, ?_⟩, eb⟩
      rw [← lift_x_ne q e hqe t a, (eb.1 e he).1]; exact hbx
  · rintro ⟨a, (ha | ⟨ha, hax⟩), eb⟩
    · exact Or.inl (((lift_Zq_ne n q e hqe t ht o).symm.trans (haut.congr _ _ ha)).trans eb)
    · refine Or.inr ⟨⟨a, ha, eb⟩, ?_⟩
      rw [← (eb.1 e he).1, lift_x_ne q e hqe t a]; exact hax

theorem psi_lift_comm (q e p : Nat) (hqe : e ≠ q) (hqp : p ≠ q) (t : L1) (a : PRow) :
    PRow.xg e (PRow.xg p (lift q t a)) = lift q t (PRow.xg e (PRow.xg p a)) := by
  rw [xg_eq_lift, xg_eq_lift, xg_eq_lift, xg_eq_lift, lift_lift_comm p q hqp, lift_lift_comm e q hqe]

theorem mcrPost_comm (n q e p : Nat) (he : e < n) (hp : p < n) (hqe : e ≠ q) (hqp : p ≠ q) (t : L1) (ht : t.Fix)
    (haut : IsAut n (lift q t)) (o : Bool) (S : PSet) :
    mcrPost n e p o (img n (lift q t) S) = img n (lift q t) (mcrPost n e p o S) := by
  unfold mcrPost
  rw [measPost_comm n q e he hqe t ht haut]
  unfold corr
  cases o
  · rfl
  · simp only [if_true]
    exact img_comm n _ _ ((gmap_xg n e he).comp (gmap_xg n p hp)).aut haut (fun a => psi_lift_comm q e p hqe hqp t a) _

/-- a recorded operation is either unitary, and then one forward step is the image under its row map `SOp.fwd`, or a
    measure-and-reset -/
theorem gstep_cases (np ne : Nat) (op : SOp) (hwf : op.WF np ne) :
    (GMap (np + ne) (op.fwd np) ∧ ∀ o S, gstep np ne op o S = img (np + ne) (op.fwd np) S) ∨
    ∃ e p, op = .mcr e p ∧ e < ne ∧ p < np := by
  cases op with
  | wrap gs q => exact Or.inl ⟨gmap_actW _ q hwf gs, fun _ _ => rfl⟩
  | emit e p =>
    obtain ⟨he, hp⟩ : e < ne ∧ p < np := hwf
    exact Or.inl ⟨gmap_cnot _ _ _ (by omega) (by omega) (by omega), fun _ _ => rfl⟩
  | cnotEE c t =>
    obtain ⟨hc, ht, hct⟩ : c < ne ∧ t < ne ∧ c ≠ t := hwf
    exact Or.inl ⟨gmap_cnot _ _ _ (by omega) (by omega) (by omega), fun _ _ => rfl⟩
  | mcr e p => exact Or.inr ⟨e, p, rfl, hwf⟩

/-- the row map of an operation commutes with a local map on a qubit it does not touch -/
theorem fwd_lift_comm (np q : Nat) (t : L1) (op : SOp) (hnt : op.touches np q = false) (a : PRow) :
    op.fwd np (lift q t a) = lift q t (op.fwd np a) := by
  cases op with
  | wrap gs q' =>
    have hne : q' ≠ q := by simpa [SOp.touches] using hnt
    show actW q' gs (lift q t a) = lift q t (actW q' gs a)
    rw [actW_eq_lift, actW_eq_lift, lift_lift_comm q' q hne]
  | emit e p =>
    have hne : np + e ≠ q ∧ p ≠ q := by simpa [SOp.touches] using hnt
    exact (lift_cnot_comm q (np + e) p (Ne.symm hne.1) (Ne.symm hne.2) t a).symm
  | cnotEE c tg =>
    have hne : np + c ≠ q ∧ np + tg ≠ q := by simpa [SOp.touches] using hnt
    exact (lift_cnot_comm q (np + c) (np + tg) (Ne.symm hne.1) (Ne.symm hne.2) t a).symm
  | mcr e p => rfl

/-- one forward step commutes with a local one-qubit map on an untouched qubit -/
theorem gstep_comm (np ne q : Nat) (t : L1) (ht : t.Fix) (haut : IsAut (np + ne) (lift q t))
    (op : SOp) (hwf : op.WF np ne) (hnt : op.touches np q = false) (o : Bool) (S : PSet) :
    gstep np ne op o (img (np + ne) (lift q t) S) = img (np + ne) (lift q t) (gstep np ne op o S) := by
  rcases gstep_cases np ne op hwf with ⟨hf, hs⟩ | ⟨e, p, rfl, he, hp⟩
  · rw [hs, hs]
    exact img_comm _ _ _ hf.aut haut (fwd_lift_comm np q t op hnt) S
  · have hne : np + e ≠ q ∧ p ≠ q := by simpa [SOp.touches] using hnt
    exact mcrPost_comm (np + ne) q (np + e) p (by omega) (by omega) hne.1 hne.2 t ht haut o S

theorem gpre_comm (np ne q : Nat) (t : L1) (op : SOp) (hnt : op.touches np q = false) (S : PSet)
    (h : gpre np ne op (img (np + ne) (lift q t) S)) : gpre np ne op S := by
  obtain ⟨hwf, hm⟩ := h
  refine ⟨hwf, ?_⟩
  cases op with
  | mcr e p =>
    obtain ⟨he, _⟩ : e < ne ∧ p < np := hwf
    have hne : np + e ≠ q ∧ p ≠ q := by simpa [SOp.touches] using hnt
    obtain ⟨b, ⟨a, ha, eb⟩, hbx⟩ := hm
    refine ⟨a, ha, ?_⟩
    rw [← lift_x_ne q (np + e) hne.1 t a, (eb.1 (np + e) (by omega)).1]; exact hbx
  | wrap _ _ => trivial
  | emit _ _ => trivial
  | cnotEE _ _ => trivial

theorem mcrPost_closed (n e p : Nat) (he : e < n) (hp : p < n) (o : Bool) (S : PSet) : Closed n (mcrPost n e p o S) := by
  unfold mcrPost corr
  cases o
  · exact cl_closed n _
  · exact img_closed n _ ((gmap_xg n e he).comp (gmap_xg n p hp)) _ (cl_closed n _)

/-- a forward step maps signed groups to signed groups -/
theorem gstep_closed (np ne : Nat) (op : SOp) (hwf : op.WF np ne) (o : Bool) (S : PSet) (hS : Closed (np + ne) S) :
    Closed (np + ne) (gstep np ne op o S) := by
  rcases gstep_cases np ne op hwf with ⟨hf, hs⟩ | ⟨e, p, rfl, he, hp⟩
  · rw [hs]; exact img_closed _ _ hf S hS
  · exact mcrPost_closed _ _ _ (by omega) (by omega) o S

/-- **moving a one-qubit gate to its place on the wire**: if the operations of `pre` do not touch qubit `q`, then inserting after them
    something (`Y` instead of `X`) that absorbs a local map on `q` is as good as applying that map first -/
theorem ggen_insert (np ne q : Nat) (T0 : PSet) (t : L1) (ht : t.Fix) (haut : IsAut (np + ne) (lift q t))
    (X Y : List SOp)
    (hXY : ∀ S, Closed (np + ne) S → GGen np ne T0 X (img (np + ne) (lift q t) S) → GGen np ne T0 Y S)
    (pre : List SOp) (hpre : ∀ op, op ∈ pre → op.touches np q = false) :
    ∀ S, Closed (np + ne) S → GGen np ne T0 (pre ++ X) (img (np + ne) (lift q t) S) → GGen np ne T0 (pre ++ Y) S := by
  induction pre with
  | nil => exact hXY
  | cons op rest ih =>
    intro S hS h
    obtain ⟨h1, h2⟩ : gpre np ne op (img (np + ne) (lift q t) S) ∧
        ∀ o, GGen np ne T0 (rest ++ X) (gstep np ne op o (img (np + ne) (lift q t) S)) := h
    have hnt := hpre op List.mem_cons_self
    refine ⟨gpre_comm np ne q t op hnt S h1, fun o => ?_⟩
    apply ih (fun o' ho' => hpre o' (List.mem_cons_of_mem _ ho')) _ (gstep_closed np ne op h1.1 o S hS)
    rw [← gstep_comm np ne q t ht haut op h1.1 hnt o S]
    exact h2 o

end Graphiq.Solver
