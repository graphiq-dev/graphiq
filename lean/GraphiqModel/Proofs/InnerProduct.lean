/-
  Proofs/InnerProduct.lean — `inner_product` (metric.py) computes the stabilizer overlap, at the level of signed groups:
  the value it returns stands in the relation `IsOverlap` to the groups of its two arguments (`innerProduct_isOverlap`).

  Route: the gate list `circ` found for the first state maps its group onto that of |0…0⟩ (tracking invariant, and
  `inverseCircuit_isZero`: the synthesis ends in exactly |0…0⟩) and the group of the second state onto that of the tableau
  `s2` the code brings to canonical form; `IsOverlap` is invariant under this (Proofs/InnerProductCirc.lean); for |0…0⟩
  against a `Canon` tableau it is read off the rows (Proofs/InnerProductCanon.lean); and since the rows of `s1` are the
  `+Z_i`, the scratch row the code accumulates from them is the `+Z`-string of the row under test, so the loop is exactly
  that read-off.
-/
import GraphiqModel.Proofs.InnerProductCirc
import GraphiqModel.Proofs.InnerProductCanon
import GraphiqModel.Proofs.InvBridge
namespace Graphiq
open PRow Tab
namespace STab

/-- the loop body of `inner_product` (the `fun acc i => …` of `STab.innerProduct`, verbatim) -/
def ipStep (n : Nat) (s1 s2 : STab) (acc : Option Nat) (i : Nat) : Option Nat :=
  match acc with
  | none => none
  | some counter =>
    if (List.range n).any fun j => (s2.row i).x j then some (counter + 1)
    else
      let zl := (List.range n).filter fun j => (s2.row i).z j && !(s2.row i).x j
      let scratch := zl.foldl (fun sc idx => PRow.mul n (s1.row idx) sc) PRow.one
      if PRow.beqOn n { scratch with r := false, ip := false } { (s2.row i) with r := false, ip := false }
          && scratch.r != (s2.row i).r then none
      else some counter

/-- what a normal return of `innerProduct` means -/
theorem innerProduct_inv (a b : Tab) (r : Option Nat) (h : STab.innerProduct a b = .ok r) :
    a.n = b.n ∧ ∃ s1 circ s2, (STab.ofTab a).inverseCircuit = .ok (s1, circ) ∧
      (STab.ofTab (b.runCircuit circ)).canonicalForm = .ok s2 ∧
      r = (List.range a.n).foldl (ipStep a.n s1 s2) (some 0) := by
  unfold STab.innerProduct at h
  split at h
  · cases h
  · next hn =>
    have hn : a.n = b.n := Classical.byContradiction hn
    refine ⟨hn, ?_⟩
    simp only at h
    split at h
    · cases h
    · next s1 circ h1 =>
      split at h
      · cases h
      · next s2 h2 =>
        injection h with h
        exact ⟨s1, circ, s2, h1, h2, h.symm⟩

theorem innerProduct_eq (a b : Tab) (s1 s2 : STab) (circ : List Gate) (hn : a.n = b.n)
    (h1 : (STab.ofTab a).inverseCircuit = .ok (s1, circ))
    (h2 : (STab.ofTab (b.runCircuit circ)).canonicalForm = .ok s2) :
    STab.innerProduct a b = .ok ((List.range a.n).foldl (ipStep a.n s1 s2) (some 0)) := by
  unfold STab.innerProduct
  rw [if_neg (by intro hc; exact hc hn)]
  simp only [h1, h2]
  rfl

/-- under "`s1` is the tableau of |0…0⟩" the scratch row is the `+Z`-string of the row under test, so the body only
    looks at the row's sign -/
theorem ipStep_eval (n : Nat) (s1 s2 : STab) (hz : ∀ idx, idx < n → EqOn n (s1.row idx) (PRow.Zq idx))
    (acc : Option Nat) (i : Nat) :
    ipStep n s1 s2 acc i
      = ipSimple (fun i => (List.range n).any fun j => (s2.row i).x j) (fun i => (s2.row i).r) acc i := by
  unfold ipStep ipSimple
  cases acc with
  | none => rfl
  | some counter =>
    simp only
    by_cases hX : ((List.range n).any fun j => (s2.row i).x j) = true
    · rw [if_pos hX, if_pos hX]
    · rw [if_neg hX, if_neg hX]
      have xf : XFree n (s2.row i) := by
        intro j hj
        cases hb : (s2.row i).x j
        · rfl
        · exfalso; apply hX
          simp only [List.any_eq_true, List.mem_range]
          exact ⟨j, hj, hb⟩
      rw [sprod_foldl n s1.row (fun j => (s2.row i).z j && !(s2.row i).x j) n]
      have e1 : EqOn n (sprod n s1.row (fun j => (s2.row i).z j && !(s2.row i).x j) n)
          (zstr n (fun j => (s2.row i).z j && !(s2.row i).x j)) :=
        sprod_eqOn_rows n s1.row (STab.zero n).row _ n hz
      obtain ⟨b1, _, b3, b4⟩ := zstr_bits n (fun j => (s2.row i).z j && !(s2.row i).x j)
      generalize sprod n s1.row (fun j => (s2.row i).z j && !(s2.row i).x j) n = scratch at e1
      have hr : scratch.r = false := by rw [e1.2.1]; exact b3
      have hbeq : PRow.beqOn n { scratch with r := false, ip := false } { (s2.row i) with r := false, ip := false } = true := by
        apply eqOn_beqOn
        refine ⟨fun j hj => ⟨?_, ?_⟩, rfl, rfl⟩
        · show scratch.x j = (s2.row i).x j
          rw [(e1.1 j hj).1, b1 j hj, xf j hj]
        · show scratch.z j = (s2.row i).z j
          rw [(e1.1 j hj).2, b4 j hj, xf j hj]; simp
      rw [hbeq, hr]
      have eb : ∀ x : Bool, (true && (false != x)) = x := by intro x; cases x <;> rfl
      rw [eb]

theorem actCirc_sp (n : Nat) (c : List Gate) (hc : ∀ g, g ∈ c → g.WF n) (x y : PRow) :
    sp n (actCirc c x) (actCirc c y) = sp n x y :=
  (actCirc_isAut1 n c hc).aut.sp x y

/-- the stabilizer half of `run_circuit(b, circ)`: its group is the image of the group of `b`, and it is again a real
    commuting generating set -/
theorem ofTab_runCircuit_image (n : Nat) (circ : List Gate) (wf : ∀ g, g ∈ circ → g.WF n) (b : Tab) (hn : b.n = n)
    (gb : (STab.ofTab b).Good) :
    CircImage n circ (STab.ofTab b) (STab.ofTab (b.runCircuit circ)) ∧ (STab.ofTab (b.runCircuit circ)).Good := by
  have nB : (STab.ofTab b).n = n := hn
  have nB' : (STab.ofTab (b.runCircuit circ)).n = n := (Tab.runCircuit_rows n circ wf b hn).1
  refine ⟨circImage_of_rows n circ wf _ _ nB nB' (fun i hi => ofTab_runCircuit_row n circ wf b hn i hi), ?_⟩
  constructor
  · intro i _; rfl
  · intro i k hi hk
    rw [nB'] at hi hk ⊢
    rw [sp_eqOn _ _ _ _ _ (ofTab_runCircuit_row n circ wf b hn i hi) (ofTab_runCircuit_row n circ wf b hn k hk),
      actCirc_sp n circ wf]
    have := gb.comm i k (by rw [nB]; exact hi) (by rw [nB]; exact hk)
    rw [nB] at this; exact this

theorem inverseCircuit_image (t t' : STab) (circ : List Gate) (hg : t.Good) (h : t.inverseCircuit = .ok (t', circ)) :
    CircImage t.n circ t (STab.zero t.n) := by
  obtain ⟨hn, hgood, hwf, hfwd, hbwd⟩ := inverseCircuit_tracks t t' circ hg h
  have hz := isZero_spanEq t' hgood (inverseCircuit_isZero t t' circ hg h)
  rw [hn] at hz
  exact CircImage.congr ⟨rfl, hn, hwf, hfwd, hbwd⟩ (SpanEq.refl _) hz

/-- what a returning call `inner_product a b = r` did: the synthesis `(s1, circ)` of the first state, the canonical form
    `s2` the code inspects with its `Canon` data `k px pz`, the two group images, and the value of the loop -/
structure IPRun (a b : Tab) (r : Option Nat) where
  s1 : STab
  circ : List Gate
  s2 : STab
  k : Nat
  px : Nat → Nat
  pz : Nat → Nat
  synth : (STab.ofTab a).inverseCircuit = .ok (s1, circ)
  canon : (STab.ofTab (b.runCircuit circ)).canonicalForm = .ok s2
  n2 : s2.n = a.n
  hn : a.n = b.n
  good : s2.Good
  hx : PInv s2.n (xb s2) px 0 k s2.n
  hz : PInv s2.n (zb s2) pz k s2.n s2.n
  imgA : CircImage a.n circ (STab.ofTab a) (STab.zero s2.n)
  imgB : CircImage a.n circ (STab.ofTab b) s2
  val : r = (List.range s2.n).foldl (ipSimple (fun i => decide (i < k)) (fun i => (s2.row i).r)) (some 0)

theorem innerProduct_analysis (a b : Tab) (r : Option Nat) (ga : (STab.ofTab a).Good) (gb : (STab.ofTab b).Good)
    (h : STab.innerProduct a b = .ok r) : Nonempty (IPRun a b r) := by
  obtain ⟨hn, s1, circ, s2, hs, h2, hr⟩ := innerProduct_inv a b r h
  have imgA := inverseCircuit_image _ s1 circ ga hs
  obtain ⟨n1, g1, _⟩ := inverseCircuit_tracks (STab.ofTab a) s1 circ ga hs
  have nA : (STab.ofTab a).n = a.n := rfl
  rw [nA] at n1 imgA
  have wf := imgA.wf
  -- the second state
  obtain ⟨imgB, gB'⟩ := ofTab_runCircuit_image a.n circ wf b hn.symm gb
  have nB' : (STab.ofTab (b.runCircuit circ)).n = a.n := imgB.nT'
  obtain ⟨sc, g2⟩ := canonicalForm_spanEq _ s2 gB' h2
  have n2 : s2.n = a.n := sc.n_eq.symm.trans nB'
  obtain ⟨k, px, pz, hx, hz⟩ := canonicalForm_canon _ s2 h2
  refine ⟨⟨s1, circ, s2, k, px, pz, hs, h2, n2, hn, g2, hx, hz, ?_, imgB.congr (SpanEq.refl _) sc, ?_⟩⟩
  · rw [n2]; exact imgA
  · rw [hr, n2]
    have rows := isZero_rows s1 g1 (inverseCircuit_isZero _ s1 circ ga hs)
    rw [n1] at rows
    apply Loop.foldl_congr
    intro acc i hi
    have hi : i < a.n := List.mem_range.mp hi
    rw [ipStep_eval a.n s1 s2 rows acc i]
    have := canon_hasX s2 k px hx i (by rw [n2]; exact hi)
    rw [n2] at this
    unfold ipSimple
    simp only [this]

/-! ### what the value means -/

section readoff
variable (a b : Tab) (r : Option Nat)
variable (ga : (STab.ofTab a).Good) (gb : (STab.ofTab b).Good) (h : STab.innerProduct a b = .ok r)
include ga gb h

/-- **what `inner_product` returns is the overlap of the two signed groups** -/
theorem innerProduct_isOverlap : IsOverlap (STab.ofTab a) (STab.ofTab b) r := by
  obtain ⟨⟨s1, circ, s2, k, px, pz, _, _, n2, _, g2, hx, hz, iA, iB, hr⟩⟩ := innerProduct_analysis a b r ga gb h
  have spec := ipFold_spec k (fun i => (s2.row i).r) s2.n
  rw [← hr] at spec
  refine (isOverlap_zero_canon s2 k px pz hx hz g2 r ?_).image iA.rev iB.rev
  cases r with
  | none => exact spec.2 rfl
  | some e =>
    obtain ⟨ek, hpos⟩ := spec.1 e rfl
    have := hx.pr_le
    exact ⟨by omega, hpos⟩

/-- the result is `0` exactly when the two groups contain a Pauli with opposite signs -/
theorem innerProduct_none_iff : r = none ↔ Orth (STab.ofTab a) (STab.ofTab b) :=
  (innerProduct_isOverlap a b r ga gb h).none_iff

/-- the result is `1` exactly when the two signed groups coincide -/
theorem innerProduct_one_iff : r = some 0 ↔ SpanEq (STab.ofTab a) (STab.ofTab b) := by
  obtain ⟨⟨s1, circ, s2, k, px, pz, _, _, n2, _, g2, hx, hz, iA, iB, hr⟩⟩ := innerProduct_analysis a b r ga gb h
  have spec := ipFold_spec k (fun i => (s2.row i).r) s2.n
  rw [← hr] at spec
  have hkn : k ≤ s2.n := hx.pr_le
  constructor
  · intro h0
    obtain ⟨ek, hpos⟩ := spec.1 0 h0
    have hk : k = 0 := by
      apply Classical.byContradiction; intro hc
      have : 0 < s2.n := by omega
      omega
    have hpos' : ∀ i, i < s2.n → (s2.row i).r = false := fun i hi => hpos i (by omega) hi
    have s := canon_zero_spanEq s2 k px pz hx hz g2 hk hpos'
    -- pull back along the reversed circuit
    exact spanEq_image iA.rev iB.rev s.symm
  · intro s
    have s' : SpanEq (STab.zero s2.n) s2 := spanEq_image iA iB s
    obtain ⟨hk, hpos⟩ := canon_of_zero s2 k px hx s'.symm
    cases hr' : r with
    | none =>
      obtain ⟨i, _, h2, h3⟩ := spec.2 hr'
      rw [hpos i h2] at h3; cases h3
    | some e =>
      have := (spec.1 e hr').1
      rw [hk] at this
      have : e = 0 := by omega
      rw [this]

end readoff

/-- a non-zero result `2^{-e/2}`: `e` is the number of rows with an x-bit of the canonical form the code inspects, and
    its x-free rows are positive -/
theorem innerProduct_some_rows (a b : Tab) (e : Nat) (ga : (STab.ofTab a).Good) (gb : (STab.ofTab b).Good)
    (h : STab.innerProduct a b = .ok (some e)) :
    ∃ s1 circ s2, (STab.ofTab a).inverseCircuit = .ok (s1, circ) ∧
      (STab.ofTab (b.runCircuit circ)).canonicalForm = .ok s2 ∧
      (∀ i, i < a.n → (((List.range a.n).any fun j => (s2.row i).x j) = true ↔ i < e)) ∧
      (∀ i, e ≤ i → i < a.n → (s2.row i).r = false) := by
  obtain ⟨⟨s1, circ, s2, k, px, pz, hs, hc, n2, _, g2, hx, hz, iA, iB, hr⟩⟩ := innerProduct_analysis a b _ ga gb h
  have spec := ipFold_spec k (fun i => (s2.row i).r) s2.n
  rw [← hr] at spec
  obtain ⟨ek, hpos⟩ := spec.1 e rfl
  have hkn : k ≤ s2.n := hx.pr_le
  have ek : e = k := by omega
  refine ⟨s1, circ, s2, hs, hc, fun i hi => ?_, fun i h1 h2 => hpos i (by omega) (by omega)⟩
  have := canon_hasX s2 k px hx i (by omega)
  rw [n2] at this
  rw [this, ek]
  simp

theorem innerProduct_self_val (a : Tab) (r : Option Nat) (ga : (STab.ofTab a).Good) (h : STab.innerProduct a a = .ok r) :
    r = some 0 :=
  (innerProduct_one_iff a a r ga ga h).2 (SpanEq.refl _)

end STab
end Graphiq
