/-
  Proofs/CommuteGroup.lean — commutation of the C07 group transformers (`specGate`, `specMeasure`) that act on different
  qubits, on the stabilizer group of any valid tableau.

  * `IsTab n g`: the abstract state `g` is the stabilizer group of some valid Clifford tableau on `n` qubits (hence a
    maximal stabilizer group); preserved by gates and Z measurements.
  * `measG n q o H`: the textbook post-measurement group `⟨(-1)^o Z_q⟩ · {h ∈ H : h commutes with Z_q}`; for a *feasible*
    outcome (`(-1)^(1-o) Z_q ∉ H`) C07's `specMeasure q o` is exactly `measG` — also in the deterministic case, by
    maximality (`specMeasure_eq_measG`).
  * gate/gate, gate/measurement, measurement/measurement on different qubits commute, *including feasibility*: an outcome
    pair that is possible in one order is possible in the other (`gate_gate_comm`, `gate_meas_comm`, `meas_meas_comm`).
-/
import GraphiqModel.Proofs.CommuteLocal
namespace Graphiq.Commute
open Graphiq PRow Tab TabSpec Classical

def IsTab (n : Nat) (g : GState) : Prop := ∃ t : Tab, t.Valid ∧ t.StabReal ∧ t.n = n ∧ gstate t = g

theorem IsTab.n_eq {n : Nat} {g : GState} (h : IsTab n g) : g.n = n := by
  obtain ⟨t, _, _, hn, rfl⟩ := h; exact hn

theorem IsTab.stab {n : Nat} {g : GState} (h : IsTab n g) : IsStabGrp n g.G := by
  obtain ⟨t, hv, hr, hn, rfl⟩ := h
  subst hn
  exact grp_isStabGrp t hv hr

theorem IsTab.max {n : Nat} {g : GState} (h : IsTab n g) (P : PRow) (hP : P.ip = false)
    (hc : ∀ a, g.G a → sp n P a = false) : g.G P ∨ g.G (negate P) := by
  obtain ⟨t, hv, hr, hn, rfl⟩ := h
  subst hn
  exact grp_maximal t hv hr P hP (fun i hi => hc _ (grp_gen t i hi))

theorem isTab_gate {n : Nat} {g : GState} (h : IsTab n g) (f : PRow → PRow) (hf : IsAut1 n f) : IsTab n (specGate f g) := by
  obtain ⟨t, hv, hr, hn, rfl⟩ := h
  subst hn
  obtain ⟨r', e⟩ := gate_tracks t f hf hr
  exact ⟨t.map f, map_valid t f hf.aut hv, r', rfl, e⟩

theorem isTab_meas {n : Nat} {g : GState} (h : IsTab n g) (q : Nat) (o : Bool) (hq : q < n) : IsTab n (specMeasure q o g) := by
  obtain ⟨t, hv, hr, hn, rfl⟩ := h
  subst hn
  exact ⟨(t.zMeasure q o).1, zMeasure_valid t q o hq hv, zMeasure_stabReal t q o hq hv hr, zMeasure_n t q o,
    measure_tracks t q o hq hv hr⟩

theorem isTab_ket0 (n : Nat) : IsTab n (gstate (Tab.ket0 n)) := by
  refine ⟨Tab.ket0 n, Tab.ket0_valid n, ?_, rfl, rfl⟩
  intro i h1 _
  have h1' : n ≤ i := h1
  have : ¬ i < n := by omega
  simp [Tab.ket0, this, Zq]

/-! ### the uniform post-measurement group -/

/-- `⟨(-1)^o Z_q⟩ · {h ∈ H : h commutes with Z_q}` -/
def measG (n q : Nat) (o : Bool) (H : PRow → Prop) (P : PRow) : Prop :=
  P.x q = false ∧ (H P ∨ H (PRow.mul n P (Zq q o)))

theorem sp_Zq_left (n q : Nat) (a : PRow) (s : Bool) (hq : q < n) : sp n (Zq q s) a = a.x q := by
  rw [sp_comm]; exact sp_Zq n q a s hq

/-- with a feasible recorded outcome, C07's `specMeasure` is the uniform post-measurement group, in the random *and* in the
    deterministic case -/
theorem specMeasure_eq_measG {n : Nat} {g : GState} (hT : IsTab n g) (q : Nat) (o : Bool) (hq : q < n)
    (hfe : ¬ g.G (Zq q (!o))) : specMeasure q o g = ⟨n, measG n q o g.G⟩ := by
  have hn := hT.n_eq
  have hS := hT.stab
  refine gstate_ext hn ?_
  intro P
  show ((Random g.G q ∧ P.x q = false ∧ (g.G P ∨ g.G (PRow.mul g.n P (Zq q o)))) ∨ (¬ Random g.G q ∧ g.G P)) ↔
    measG n q o g.G P
  rw [hn]
  by_cases hR : Random g.G q
  · constructor
    · rintro (⟨_, h⟩ | ⟨h, _⟩)
      · exact h
      · exact absurd hR h
    · intro h; exact Or.inl ⟨hR, h⟩
  · have hxf : ∀ a, g.G a → a.x q = false := by
      intro a ha
      cases hx : a.x q
      · rfl
      · exact absurd ⟨a, ha, hx⟩ hR
    have hZ : g.G (Zq q o) := by
      rcases hT.max (Zq q o) rfl (fun a ha => by rw [sp_Zq_left n q a o hq]; exact hxf a ha) with h | h
      · exact h
      · rw [negate_Zq] at h; exact absurd h hfe
    constructor
    · rintro (⟨h, _⟩ | ⟨_, h⟩)
      · exact absurd h hR
      · exact ⟨hxf P h, Or.inl h⟩
    · rintro ⟨_, h | h⟩
      · exact Or.inr ⟨hR, h⟩
      · exact Or.inr ⟨hR, hS.eqv _ _ (hS.mul _ _ h hZ) (mul_mul_cancel n P (Zq q o) rfl)⟩

/-! ### the two partial state transformers -/

noncomputable def gateStep (f : PRow → PRow) (s : Option GState) : Option GState := s.map (specGate f)

/-- a Z measurement of `q` whose recorded outcome is `o`: impossible (`none`) when `(-1)^(1-o) Z_q` is a stabilizer -/
noncomputable def measStep (q : Nat) (o : Bool) (s : Option GState) : Option GState :=
  s.bind fun g => if g.G (Zq q (!o)) then none else some (specMeasure q o g)

theorem measStep_some {n : Nat} {g : GState} (hT : IsTab n g) (q : Nat) (o : Bool) (hq : q < n) :
    measStep q o (some g) = if g.G (Zq q (!o)) then none else some ⟨n, measG n q o g.G⟩ := by
  unfold measStep
  simp only [Option.bind_some]
  split
  · rfl
  · next h => rw [specMeasure_eq_measG hT q o hq h]

theorem isTab_measG {n : Nat} {g : GState} (hT : IsTab n g) (q : Nat) (o : Bool) (hq : q < n)
    (hfe : ¬ g.G (Zq q (!o))) : IsTab n ⟨n, measG n q o g.G⟩ := by
  rw [← specMeasure_eq_measG hT q o hq hfe]; exact isTab_meas hT q o hq

/-! ### gate / gate -/

theorem specGate_specGate (f h : PRow → PRow) (s : GState) (hf : ∀ a b, EqOn s.n a b → EqOn s.n (f a) (f b)) :
    specGate f (specGate h s) = specGate (fun p => f (h p)) s := by
  refine gstate_ext rfl ?_
  intro P
  show imageGrp s.n f (imageGrp s.n h s.G) P ↔ imageGrp s.n (fun p => f (h p)) s.G P
  constructor
  · rintro ⟨Q, ⟨R, hR, e1⟩, e2⟩
    exact ⟨R, hR, e2.trans (hf _ _ e1)⟩
  · rintro ⟨R, hR, e⟩
    exact ⟨h R, ⟨R, hR, EqOn.refl _ _⟩, e⟩

theorem gate_gate_comm {n : Nat} (f h : PRow → PRow) (hf : IsAut n f) (hh : IsAut n h) (hc : ∀ p, f (h p) = h (f p))
    (s : Option GState) (hs : ∀ g, s = some g → g.n = n) : gateStep f (gateStep h s) = gateStep h (gateStep f s) := by
  cases s with
  | none => rfl
  | some g =>
    have hn := hs g rfl
    show some (specGate f (specGate h g)) = some (specGate h (specGate f g))
    rw [specGate_specGate f h g (by rw [hn]; exact hf.congr), specGate_specGate h f g (by rw [hn]; exact hh.congr)]
    congr 2
    funext p; exact hc p

/-! ### gate / measurement -/

section GateMeas
variable {n : Nat} {S : Nat → Prop} {f : PRow → PRow}

theorem gate_Zq_iff {g : GState} (hT : IsTab n g) (hf : IsAut1 n f) (hl : Local S f) {q : Nat} (hq : q < n) (hqS : ¬ S q)
    (b : Bool) : (specGate f g).G (Zq q b) ↔ g.G (Zq q b) := by
  have hn := hT.n_eq
  have hfix : ∀ b, EqOn n (f (Zq q b)) (Zq q b) := fun b => hl.fix_Zq hf.one hqS b
  have himg : ∀ b, g.G (Zq q b) → (specGate f g).G (Zq q b) := by
    intro b h
    refine ⟨Zq q b, h, ?_⟩
    rw [hn]; exact (hfix b).symm
  constructor
  · rintro ⟨Q, hQ, e⟩
    rw [hn] at e
    have hS := hT.stab
    have hcomm : ∀ a, g.G a → sp n (Zq q b) a = false := by
      intro a ha
      have h1 : sp n (Zq q b) a = sp n (Zq q b) (f a) := by
        rw [sp_Zq_left n q a b hq, sp_Zq_left n q (f a) b hq, hl.x_off hqS]
      rw [h1, sp_eqOn n _ _ _ _ e (EqOn.refl _ _), hf.aut.sp]
      exact hS.comm Q a hQ ha
    rcases hT.max (Zq q b) rfl hcomm with h | h
    · exact h
    · exfalso
      rw [negate_Zq] at h
      have hS' := (isTab_gate hT f hf).stab
      have h1 : (specGate f g).G (Zq q b) := ⟨Q, hQ, by rw [hn]; exact e⟩
      have h2 := himg _ h
      rw [← negate_Zq] at h2
      exact hS'.not_negate _ h1 h2
  · exact himg b

theorem measG_image (H : PRow → Prop) (hH : ∀ a b, H a → EqOn n a b → H b) (hf : IsAut1 n f) (hl : Local S f) {q : Nat}
    (hq : q < n) (hqS : ¬ S q) (o : Bool) (P : PRow) :
    measG n q o (imageGrp n f H) P ↔ imageGrp n f (measG n q o H) P := by
  have hfix : EqOn n (f (Zq q o)) (Zq q o) := hl.fix_Zq hf.one hqS o
  constructor
  · rintro ⟨hx, ⟨Q, hQ, e⟩ | ⟨Q, hQ, e⟩⟩
    · refine ⟨Q, ⟨?_, Or.inl hQ⟩, e⟩
      rw [← hl.x_off hqS Q, ← (e.1 q hq).1]; exact hx
    · refine ⟨PRow.mul n Q (Zq q o), ⟨?_, Or.inr (hH _ _ hQ (mul_mul_cancel n Q (Zq q o) rfl).symm)⟩, ?_⟩
      · have h1 : (PRow.mul n P (Zq q o)).x q = (f Q).x q := (e.1 q hq).1
        rw [hl.x_off hqS Q] at h1
        simp only [mul_x] at h1 ⊢
        rw [← h1, hx]; simp [Zq]
      · have e1 : EqOn n (f (PRow.mul n Q (Zq q o))) (PRow.mul n (f Q) (Zq q o)) :=
          (hf.aut.mul Q (Zq q o)).trans (mul_congr n _ _ _ _ (EqOn.refl _ _) hfix)
        have e2 : EqOn n (PRow.mul n (f Q) (Zq q o)) (PRow.mul n (PRow.mul n P (Zq q o)) (Zq q o)) :=
          mul_congr n _ _ _ _ e.symm (EqOn.refl _ _)
        exact ((e1.trans e2).trans (mul_mul_cancel n P (Zq q o) rfl)).symm
  · rintro ⟨Q, ⟨hx, hQ⟩, e⟩
    have hxP : P.x q = false := by rw [(e.1 q hq).1, hl.x_off hqS Q]; exact hx
    refine ⟨hxP, ?_⟩
    rcases hQ with hQ | hQ
    · exact Or.inl ⟨Q, hQ, e⟩
    · refine Or.inr ⟨PRow.mul n Q (Zq q o), hQ, ?_⟩
      exact (mul_congr n _ _ _ _ e hfix.symm).trans (hf.aut.mul Q (Zq q o)).symm

/-- **a gate and a Z measurement on a qubit the gate does not touch commute**, feasibility of the outcome included -/
theorem gate_meas_comm (hf : IsAut1 n f) (hl : Local S f) {q : Nat} (hq : q < n) (hqS : ¬ S q) (o : Bool)
    (s : Option GState) (hs : ∀ g, s = some g → IsTab n g) :
    gateStep f (measStep q o s) = measStep q o (gateStep f s) := by
  cases s with
  | none => rfl
  | some g =>
    have hT := hs g rfl
    have hn := hT.n_eq
    have hT' := isTab_gate hT f hf
    show gateStep f (measStep q o (some g)) = measStep q o (some (specGate f g))
    rw [measStep_some hT q o hq, measStep_some hT' q o hq]
    by_cases hfe : g.G (Zq q (!o))
    · rw [if_pos hfe, if_pos ((gate_Zq_iff hT hf hl hq hqS _).mpr hfe)]; rfl
    · rw [if_neg hfe, if_neg (fun h => hfe ((gate_Zq_iff hT hf hl hq hqS _).mp h))]
      show some (specGate f ⟨n, measG n q o g.G⟩) = _
      congr 1
      refine gstate_ext rfl ?_
      intro P
      show imageGrp n f (measG n q o g.G) P ↔ measG n q o (imageGrp g.n f g.G) P
      rw [hn]
      exact (measG_image g.G hT.stab.eqv hf hl hq hqS o P).symm

end GateMeas

/-! ### measurement / measurement -/

section MeasMeas
variable {n : Nat} {H : PRow → Prop}

theorem sp_Zq_Zq (n q q' : Nat) (o o' : Bool) (hq' : q' < n) : sp n (Zq q o) (Zq q' o') = false := by
  rw [sp_Zq n q' _ o' hq']; rfl

theorem mul_Zq_swap (n q q' : Nat) (o o' : Bool) (hq' : q' < n) (P : PRow) :
    EqOn n (PRow.mul n (PRow.mul n P (Zq q o)) (Zq q' o')) (PRow.mul n (PRow.mul n P (Zq q' o')) (Zq q o)) :=
  ((mul_assoc n P _ _).trans (mul_congr n _ _ _ _ (EqOn.refl _ _) (mul_comm n _ _ (sp_Zq_Zq n q q' o o' hq')))).trans
    (mul_assoc n P _ _).symm

/-- measuring `q'` then `q`: the four-term normal form -/
theorem measG_measG (q q' : Nat) (o o' : Bool) (P : PRow) :
    measG n q o (measG n q' o' H) P ↔
      (P.x q = false ∧ P.x q' = false ∧
        (H P ∨ H (PRow.mul n P (Zq q' o')) ∨ H (PRow.mul n P (Zq q o)) ∨
          H (PRow.mul n (PRow.mul n P (Zq q o)) (Zq q' o')))) := by
  have hx : (PRow.mul n P (Zq q o)).x q' = P.x q' := by simp [Zq]
  unfold measG
  rw [hx]
  constructor
  · rintro ⟨h1, ⟨h2, h | h⟩ | ⟨h2, h | h⟩⟩
    · exact ⟨h1, h2, Or.inl h⟩
    · exact ⟨h1, h2, Or.inr (Or.inl h)⟩
    · exact ⟨h1, h2, Or.inr (Or.inr (Or.inl h))⟩
    · exact ⟨h1, h2, Or.inr (Or.inr (Or.inr h))⟩
  · rintro ⟨h1, h2, h | h | h | h⟩
    · exact ⟨h1, Or.inl ⟨h2, Or.inl h⟩⟩
    · exact ⟨h1, Or.inl ⟨h2, Or.inr h⟩⟩
    · exact ⟨h1, Or.inr ⟨h2, Or.inl h⟩⟩
    · exact ⟨h1, Or.inr ⟨h2, Or.inr h⟩⟩

theorem measG_comm (hH : ∀ a b, H a → EqOn n a b → H b) (q q' : Nat) (o o' : Bool) (hq' : q' < n) (P : PRow) :
    measG n q o (measG n q' o' H) P ↔ measG n q' o' (measG n q o H) P := by
  rw [measG_measG q q' o o' P, measG_measG q' q o' o P]
  have e := mul_Zq_swap n q q' o o' hq' P
  constructor
  · rintro ⟨h1, h2, h | h | h | h⟩
    · exact ⟨h2, h1, Or.inl h⟩
    · exact ⟨h2, h1, Or.inr (Or.inr (Or.inl h))⟩
    · exact ⟨h2, h1, Or.inr (Or.inl h)⟩
    · exact ⟨h2, h1, Or.inr (Or.inr (Or.inr (hH _ _ h e)))⟩
  · rintro ⟨h1, h2, h | h | h | h⟩
    · exact ⟨h2, h1, Or.inl h⟩
    · exact ⟨h2, h1, Or.inr (Or.inr (Or.inl h))⟩
    · exact ⟨h2, h1, Or.inr (Or.inl h)⟩
    · exact ⟨h2, h1, Or.inr (Or.inr (Or.inr (hH _ _ h e.symm)))⟩

/-- the outcome pair `(o', o)` is impossible for "measure `q'`, then `q`" -/
def Infeasible2 (n q q' : Nat) (o o' : Bool) (H : PRow → Prop) : Prop :=
  H (Zq q' (!o')) ∨ H (Zq q (!o)) ∨ H (PRow.mul n (Zq q (!o)) (Zq q' o'))

theorem infeasible2_comm (hH : ∀ a b, H a → EqOn n a b → H b) (q q' : Nat) (o o' : Bool) (hq' : q' < n) :
    Infeasible2 n q q' o o' H ↔ Infeasible2 n q' q o' o H := by
  have e : EqOn n (PRow.mul n (Zq q (!o)) (Zq q' o')) (PRow.mul n (Zq q' (!o')) (Zq q o)) := by
    rw [← negate_Zq, ← negate_Zq]
    exact ((mul_negate_left n _ _).trans (negate_congr n _ _ (mul_comm n _ _ (sp_Zq_Zq n q q' o o' hq')))).trans
      (mul_negate_left n _ _).symm
  unfold Infeasible2
  constructor
  · rintro (h | h | h)
    · exact Or.inr (Or.inl h)
    · exact Or.inl h
    · exact Or.inr (Or.inr (hH _ _ h e))
  · rintro (h | h | h)
    · exact Or.inr (Or.inl h)
    · exact Or.inl h
    · exact Or.inr (Or.inr (hH _ _ h e.symm))

theorem measStep_measStep {g : GState} (hT : IsTab n g) (q q' : Nat) (o o' : Bool) (hq : q < n) (hq' : q' < n) :
    measStep q o (measStep q' o' (some g)) =
      if Infeasible2 n q q' o o' g.G then none else some ⟨n, measG n q o (measG n q' o' g.G)⟩ := by
  rw [measStep_some hT q' o' hq']
  by_cases h1 : g.G (Zq q' (!o'))
  · rw [if_pos h1, if_pos (show Infeasible2 n q q' o o' g.G from Or.inl h1)]; rfl
  · rw [if_neg h1, measStep_some (isTab_measG hT q' o' hq' h1) q o hq]
    have hiff : measG n q' o' g.G (Zq q (!o)) ↔ (g.G (Zq q (!o)) ∨ g.G (PRow.mul n (Zq q (!o)) (Zq q' o'))) := by
      unfold measG
      constructor
      · exact fun h => h.2
      · intro h
        refine ⟨?_, h⟩
        simp [Zq]
    by_cases h2 : measG n q' o' g.G (Zq q (!o))
    · rw [if_pos h2, if_pos (show Infeasible2 n q q' o o' g.G from Or.inr (hiff.mp h2))]
    · have h3 : ¬ Infeasible2 n q q' o o' g.G := by
        rintro (h | h)
        · exact h1 h
        · exact h2 (hiff.mpr h)
      rw [if_neg h2, if_neg h3]

/-- **two Z measurements commute**: the same outcome pairs are possible in both orders, and they
    lead to the same stabilizer group -/
theorem meas_meas_comm (q q' : Nat) (o o' : Bool) (hq : q < n) (hq' : q' < n)
    (s : Option GState) (hs : ∀ g, s = some g → IsTab n g) :
    measStep q o (measStep q' o' s) = measStep q' o' (measStep q o s) := by
  cases s with
  | none => rfl
  | some g =>
    have hT := hs g rfl
    have hcl := hT.stab.eqv
    rw [measStep_measStep hT q q' o o' hq hq', measStep_measStep hT q' q o' o hq' hq]
    by_cases h : Infeasible2 n q q' o o' g.G
    · rw [if_pos h, if_pos ((infeasible2_comm hcl q q' o o' hq').mp h)]
    · rw [if_neg h, if_neg (fun h' => h ((infeasible2_comm hcl q q' o o' hq').mpr h'))]
      congr 1
      exact gstate_ext rfl (fun P => measG_comm hcl q q' o o' hq' P)

end MeasMeas

end Graphiq.Commute
