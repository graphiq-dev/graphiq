/-
  Proofs/Circuit.lean — the compile loop of the stabilizer-backend model (`stepOp`): every step keeps the tableau valid
  (`stepOp_ok`), and what a step does to the bookkeeping fields (`stepOp_fields`).
-/
import GraphiqModel.Model.Circuit
import GraphiqModel.Proofs.Tableau
import GraphiqModel.Proofs.Loop
namespace Graphiq
open PRow Tab

theorem gen1_valid (t : Tab) (g : Cliff.Gen) (q : Nat) (hq : q < t.n) (hv : t.Valid) : (gen1 t g q).Valid := by
  cases g with
  | I => exact hv
  | H => exact hGate_valid t q hq hv
  | P => exact sGate_valid t q hq hv
  | X => exact xGate_valid t q hq hv
  | Y => exact yGate_valid t q hq hv
  | Z => exact zGate_valid t q hq hv

theorem gen1_n (t : Tab) (g : Cliff.Gen) (q : Nat) : (gen1 t g q).n = t.n := by
  cases g <;> rfl

theorem gen1_foldl_valid (gs : List Cliff.Gen) (t : Tab) (q : Nat) (hq : q < t.n) (hv : t.Valid) :
    (gs.foldl (fun t g => gen1 t g q) t).Valid ∧ (gs.foldl (fun t g => gen1 t g q) t).n = t.n :=
  Loop.foldl_inv (fun t' : Tab => t'.Valid ∧ t'.n = t.n)
    (fun t' g _ h => ⟨gen1_valid t' g q (h.2 ▸ hq) h.1, (gen1_n t' g q).trans h.2⟩) ⟨hv, rfl⟩

def RunState.Ok (n : Nat) (s : RunState) : Prop := s.t.Valid ∧ s.t.n = n

theorem ok_norm {n : Nat} {t : Tab} (hv : t.Valid) (hn : t.n = n) : t.norm.Valid ∧ t.norm.n = n :=
  ⟨Tab.norm_valid t hv, hn⟩

theorem measure_ok (n : Nat) (s : RunState) (d : Det) (q : Nat) (hq : q < n) (h : s.Ok n) : (s.measure d q).1.Ok n := by
  have ht : (s.measure d q).1.t = (s.t.zMeasure q (s.offer d (s.t.pivot q).isSome).1).1.norm := rfl
  unfold RunState.Ok
  rw [ht]
  exact ok_norm (zMeasure_valid s.t q _ (h.2 ▸ hq) h.1) ((zMeasure_n s.t q _).trans h.2)

theorem condX_ok (n : Nat) (s : RunState) (b : Bool) (q : Nat) (hq : q < n) (h : s.Ok n) : (s.condX b q).Ok n := by
  unfold RunState.condX RunState.Ok
  cases b
  · exact h
  · exact ok_norm (xGate_valid s.t q (h.2 ▸ hq) h.1) h.2

theorem condZ_ok (n : Nat) (s : RunState) (b : Bool) (q : Nat) (hq : q < n) (h : s.Ok n) : (s.condZ b q).Ok n := by
  unfold RunState.condZ RunState.Ok
  cases b
  · exact h
  · exact ok_norm (zGate_valid s.t q (h.2 ▸ hq) h.1) h.2

theorem write_ok (n : Nat) (s : RunState) (c : Nat) (o : Bool) (h : s.Ok n) : (s.write c o).Ok n := h

theorem resetQ_ok (n : Nat) (s : RunState) (d : Det) (q : Nat) (hq : q < n) (h : s.Ok n) : (s.resetQ d q).Ok n := by
  have ht : (s.resetQ d q).t = (s.t.resetZ q false (s.offer d (s.t.pivot q).isSome).1).norm := rfl
  unfold RunState.Ok
  rw [ht]
  exact ok_norm (resetZ_valid s.t q false _ (h.2 ▸ hq) h.1) ((resetZ_n s.t q false _).trans h.2)

/-- argument condition of the quantifier: the two qubits of a unitary two-qubit gate are distinct -/
def COp.WF (np : Nat) : COp → Prop
  | .cnot c t => qIndex np c ≠ qIndex np t
  | .cz c t => qIndex np c ≠ qIndex np t
  | _ => True

theorem stepOp_ok (np n : Nat) (d : Det) (s s' : RunState) (op : COp) (hwf : op.WF np) (h : s.Ok n)
    (hs : stepOp np n d s op = some s') : s'.Ok n := by
  obtain ⟨hv, hn⟩ := h
  cases op with
  | gate1 g q =>
    obtain ⟨hq, hs⟩ := Option.ite_none_right_eq_some.mp hs
    cases hs
    exact ok_norm (gen1_valid s.t g _ (hn ▸ hq) hv) ((gen1_n s.t g _).trans hn)
  | pdag q =>
    obtain ⟨hq, hs⟩ := Option.ite_none_right_eq_some.mp hs
    cases hs
    exact ok_norm (sdgGate_valid s.t _ (hn ▸ hq) hv) hn
  | cnot c t =>
    obtain ⟨hq, hs⟩ := Option.ite_none_right_eq_some.mp hs
    cases hs
    exact ok_norm (cnotGate_valid s.t _ _ (hn ▸ hq.1) (hn ▸ hq.2) hwf hv) hn
  | cz c t =>
    obtain ⟨hq, hs⟩ := Option.ite_none_right_eq_some.mp hs
    cases hs
    exact ok_norm (czGate_valid s.t _ _ (hn ▸ hq.1) (hn ▸ hq.2) hwf hv) hn
  | ccx c t creg =>
    obtain ⟨hq, hs⟩ := Option.ite_none_right_eq_some.mp hs
    cases hs
    exact write_ok n _ _ _ (condX_ok n _ _ _ hq.2 (measure_ok n s d _ hq.1 ⟨hv, hn⟩))
  | ccz c t creg =>
    obtain ⟨hq, hs⟩ := Option.ite_none_right_eq_some.mp hs
    cases hs
    exact write_ok n _ _ _ (condZ_ok n _ _ _ hq.2 (measure_ok n s d _ hq.1 ⟨hv, hn⟩))
  | mcr c t creg =>
    obtain ⟨hq, hs⟩ := Option.ite_none_right_eq_some.mp hs
    cases hs
    exact resetQ_ok n _ d _ hq.1 (write_ok n _ _ _ (condX_ok n _ _ _ hq.2 (measure_ok n s d _ hq.1 ⟨hv, hn⟩)))
  | measz q creg =>
    obtain ⟨hq, hs⟩ := Option.ite_none_right_eq_some.mp hs
    cases hs
    exact write_ok n _ _ _ (measure_ok n s d _ hq ⟨hv, hn⟩)
  | wrap gs q =>
    obtain ⟨hq, hs⟩ := Option.ite_none_right_eq_some.mp hs
    cases hs
    have := gen1_foldl_valid gs.reverse s.t _ (hn ▸ hq) hv
    exact ok_norm this.1 (this.2.trans hn)

theorem stabFold_ok (np n : Nat) (d : Det) (ops : List COp) (hwf : ∀ op, op ∈ ops → op.WF np) (s s' : RunState)
    (h : s.Ok n) (hs : ops.foldlM (stepOp np n d) s = some s') : s'.Ok n :=
  Loop.foldlM_inv (RunState.Ok n) (fun s op s1 ho hs h1 => stepOp_ok np n d s s1 op (hwf op ho) hs h1) h hs

/-- the qubit a circuit operation measures (its control, for the classically controlled operations) -/
def COp.mq (np : Nat) : COp → Option Nat
  | .ccx c _ _ | .ccz c _ _ | .mcr c _ _ => some (qIndex np c)
  | .measz q _ => some (qIndex np q)
  | _ => none

def COp.creg : COp → Nat
  | .ccx _ _ c | .ccz _ _ c | .mcr _ _ c | .measz _ c => c
  | _ => 0

theorem stepOp_fields (np n : Nat) (d : Det) (s s' : RunState) (op : COp) (h : stepOp np n d s op = some s') :
    match op.mq np with
    | none => s'.outs = s.outs ∧ s'.writes = s.writes ∧ s'.rand = s.rand ∧ s'.script = s.script
    | some q => s'.outs = s.outs ++ [(s.measure d q).2] ∧ s'.writes = s.writes ++ [(op.creg, (s.measure d q).2)] ∧
        s'.rand = s.rand ++ [(s.t.pivot q).isSome] := by
  cases op <;> obtain ⟨-, h⟩ := Option.ite_none_right_eq_some.mp h <;> obtain rfl := Option.some.inj h
  case gate1 | pdag | cnot | cz | wrap => exact ⟨rfl, rfl, rfl, rfl⟩
  all_goals exact ⟨rfl, rfl, rfl⟩

end Graphiq
