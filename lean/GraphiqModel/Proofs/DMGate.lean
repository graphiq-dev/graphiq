/-
  Proofs/DMGate.lean — what `DensityMatrixCompiler.compile_one_gate` of the executable model (`Noise.dmGate`) does, stated once
  for both chains that read it (C01: Proofs/DMCompileExec.lean; C06: Proofs/MixtureDMBridgeGate.lean and above).  On a gate it
  is `apply_unitary` with the matrix of the gate table (`dmGate_unitary`), whose entries are analysed once (`rep_gateSMat`),
  hence `dmGate_gate` under `Rep`; on a measuring kind it is the pipeline `dmMeas` (`dmGate_meas`).
  Imports neither `Model/Circuit.lean` nor Proofs/Noise.lean.
-/
import GraphiqModel.Proofs.GateMatDefs
import GraphiqModel.Proofs.HilbertBridgeExec
namespace Graphiq
namespace Noise
open Hilbert Matrix DM

/-- the tableau gate of the kinds that have an entry in `gateSMat` -/
def tableGate (k : Kind) (q1 q2 : Nat) : Option Gate :=
  match k with
  | .h => some (.H q1) | .s => some (.P q1) | .sdg => some (.Pdag q1)
  | .x => some (.X q1) | .y => some (.Y q1) | .z => some (.Z q1)
  | .cnot => some (.CNOT q1 q2) | .cz => some (.CZ q1 q2)
  | _ => none

/-- **a unitary operation of the density-matrix compiler is `apply_unitary` with the matrix of the gate table** -/
theorem dmGate_unitary {np n : Nat} {det : Bool} {op : COp} {s : DmSt} {ρ : Mat} {u : SMat} (hs : s.ρ = some ρ)
    (hu : gateSMat n op.kind (qIndex np op.r1 op.t1) (qIndex np op.r2 op.t2) = some u) :
    dmGate np n det op s = (applyUnitary ρ u).map fun r => { s with ρ := some r } := by
  unfold dmGate
  simp only [hs]
  unfold gateSMat at hu
  cases hk : op.kind <;> simp only [hk] at hu ⊢
  case cnot | cz =>
    split at hu
    · next v hv => rw [hv]; cases hu; rfl
    · cases hu
  all_goals first | (cases hu; rfl) | cases hu

theorem dmGate_skip {np n : Nat} {det : Bool} {op : COp} {s : DmSt}
    (hk : op.kind = .input ∨ op.kind = .output ∨ op.kind = .identity) : dmGate np n det op s = .ok s := by
  unfold dmGate
  rcases hk with hk | hk | hk <;> simp only [hk] <;> cases s.ρ <;> rfl

/-- a returning run on a one-qubit or controlled-pair kind, no condition on the qubits: nothing happened (`Identity`) or one
    `apply_unitary` did -/
theorem dmGate_unitary_inv {np n : Nat} {det : Bool} {op : COp} {s s' : DmSt} {ρ : Mat} (hs : s.ρ = some ρ)
    (hk : op.kind.isOneQubit = true ∨ op.kind.isCtrlPair = true) (h : dmGate np n det op s = .ok s') :
    s' = s ∨ ∃ u r, applyUnitary ρ u = .ok r ∧ s' = { s with ρ := some r } := by
  have uni : ∀ u, (applyUnitary ρ u).map (fun r => ({ s with ρ := some r } : DmSt)) = .ok s' →
      ∃ u r, applyUnitary ρ u = .ok r ∧ s' = { s with ρ := some r } := by
    intro u hm
    cases hu : applyUnitary ρ u with
    | error e => rw [hu] at hm; cases hm
    | ok r => rw [hu] at hm; exact ⟨u, r, hu, (Except.ok.inj hm).symm⟩
  unfold dmGate at h
  simp only [hs] at h
  cases hkk : op.kind <;> simp only [hkk] at h hk
  case identity => exact Or.inl (Except.ok.inj h).symm
  case h | s | sdg | x | y | z => exact Or.inr (uni _ h)
  case cnot | cz =>
    split at h
    · exact Or.inr (uni _ h)
    · cases h
  case param => cases h
  all_goals rcases hk with hk | hk <;> simp [Kind.isOneQubit, Kind.isCtrlPair] at hk

theorem half_conj_had (n q : Nat) (R : DMat n) :
    (((1 / 2 : Rat) : ℝ) : ℂ) • (oneQ n q hadM * R * (oneQ n q hadM)ᴴ) = gateMat n (.H q) * R * (gateMat n (.H q))ᴴ := by
  show _ = (invSqrt2 • oneQ n q hadM) * R * (invSqrt2 • oneQ n q hadM)ᴴ
  rw [Matrix.conjTranspose_smul, star_invSqrt2, smul_mul_assoc, mul_smul_comm, smul_mul_assoc, smul_smul, invSqrt2_mul_self]
  push_cast
  rfl

/-- **the gate table**: the entry of a gate `g` on existing qubits is a matrix representing some `U` with
    `sq · U R U† = U_g R U_g†` for every `R` (`U_g` the unitary of `g`), and its row rule is the tableau rule of `g` -/
theorem rep_gateSMat {n : Nat} {k : Kind} {q1 q2 : Nat} {g : Gate} (hg : tableGate k q1 q2 = some g) (hw : g.WF n) :
    ∃ u U, gateSMat n k q1 q2 = some u ∧ Rep n u.m U ∧ rowGate k q1 q2 = g.act ∧
      ∀ R : DMat n, ((u.sq : ℝ) : ℂ) • (U * R * Uᴴ) = gateMat n g * R * (gateMat n g)ᴴ := by
  have one : ∀ {R : DMat n} {U : DMat n}, ((((1 : Rat) : ℝ)) : ℂ) • (U * R * Uᴴ) = U * R * Uᴴ := by
    intro R U; rw [Rat.cast_one, Complex.ofReal_one, one_smul]
  unfold tableGate at hg
  cases k <;> simp only at hg <;> cases hg
  case h => exact ⟨_, _, rfl, rep_getOneQubitGate n q1 hw _ _ rep2_had2, rfl, half_conj_had n q1⟩
  case s => exact ⟨_, _, rfl, rep_getOneQubitGate n q1 hw _ _ rep2_phase, rfl, fun _ => one⟩
  case sdg => exact ⟨_, _, rfl, rep_getOneQubitGate n q1 hw _ _ rep2_phaseDag, rfl, fun _ => one⟩
  case x => exact ⟨_, _, rfl, rep_getOneQubitGate n q1 hw _ _ rep2_sigmax, rfl, fun _ => one⟩
  case y => exact ⟨_, _, rfl, rep_getOneQubitGate n q1 hw _ _ rep2_sigmay, rfl, fun _ => one⟩
  case z => exact ⟨_, _, rfl, rep_getOneQubitGate n q1 hw _ _ rep2_sigmaz, rfl, fun _ => one⟩
  case cnot =>
    obtain ⟨u, eu, ru⟩ := rep_getTwoQubitControlledGate n q1 q2 hw.1 hw.2.1 hw.2.2 _ _ rep2_sigmax
    exact ⟨⟨1, u⟩, _, by simp only [gateSMat, eu], ru, rfl, fun _ => one⟩
  case cz =>
    obtain ⟨u, eu, ru⟩ := rep_getTwoQubitControlledGate n q1 q2 hw.1 hw.2.1 hw.2.2 _ _ rep2_sigmaz
    exact ⟨⟨1, u⟩, _, by simp only [gateSMat, eu], ru, rfl, fun _ => one⟩

/-- **every gate operation of `compile_one_gate`**, forward and total: on a state representing `R` it returns, leaves the
    classical registers alone, and the new matrix represents `hermitianize(U_g R U_g†)` for the gate `g` of the operation -/
theorem dmGate_gate {np n : Nat} (det : Bool) {op : COp} {g : Gate}
    (hg : tableGate op.kind (qIndex np op.r1 op.t1) (qIndex np op.r2 op.t2) = some g) (hw : g.WF n)
    {s : DmSt} {ρ : Mat} {R : DMat n} (hs : s.ρ = some ρ) (hρ : Rep n ρ R) :
    ∃ ρ', dmGate np n det op s = .ok { s with ρ := some ρ' } ∧ Rep n ρ' (herm (gateMat n g * R * (gateMat n g)ᴴ)) := by
  obtain ⟨u, U, hu, ru, -, hc⟩ := rep_gateSMat hg hw
  obtain ⟨m, e, r⟩ := DMX.rep_applyUnitary u hρ ru
  exact ⟨m, by rw [dmGate_unitary hs hu, e]; rfl, hc R ▸ r⟩

/-! ### the measuring kinds -/

/-- `none` is the NaN matrix -/
theorem dmGate_none {np n : Nat} {det : Bool} {op : COp} {s : DmSt} (hs : s.ρ = none) : dmGate np n det op s = .ok s := by
  unfold dmGate
  simp only [hs]

/-- the Pauli a measuring operation applies to its second qubit when the outcome is 1 (`none`: `MeasurementZ`) -/
def measPauli : Kind → Option Mat
  | .ccnot | .mcr => some Mat.sigmax
  | .ccz => some Mat.sigmaz
  | _ => none

/-- `compile_one_gate` for the four operations with a measurement, in one shape: measure `q1`, apply the Pauli `g` (if any) to
    `q2` when the outcome is 1, optionally reset `q1`, record the outcome at `c` -/
def dmMeas (n q1 q2 c : Nat) (det : Bool) (creg : List Nat) (ρ : Mat) (g : Option Mat) (reset : Bool) : Except Err DmSt :=
  match projectorsZ n q1 with
  | .error e => .error e
  | .ok (p0, p1) =>
    match applyMeasurement ρ p0 p1 det with
    | .error e => .error e
    | .ok (none, o) => .ok { ρ := none, creg := setRec creg c (if o then 1 else 0) }
    | .ok (some ρ1, o) =>
      match (match g with
        | some g => if o then applyUnitary ρ1 ⟨1, getOneQubitGate n q2 g⟩ else .ok ρ1
        | none => .ok ρ1 : Except Err Mat) with
      | .error e => .error e
      | .ok ρ2 =>
        (if reset then applyChannel ρ2 (resetKraus n q1) else .ok ρ2 : Except Err Mat).map
          fun r => { ρ := some r, creg := setRec creg c (if o then 1 else 0) }

theorem dmGate_meas {np n : Nat} {det : Bool} {op : COp} {d : DmSt} {ρ : Mat}
    (hk : op.kind = .measZ ∨ op.kind = .ccnot ∨ op.kind = .ccz ∨ op.kind = .mcr) (hρ : d.ρ = some ρ) :
    dmGate np n det op d = dmMeas n (qIndex np op.r1 op.t1) (qIndex np op.r2 op.t2) op.c det d.creg ρ (measPauli op.kind)
      (op.kind == .mcr) := by
  unfold dmGate dmMeas
  simp only [hρ]
  rcases hk with hk | hk | hk | hk <;> simp only [hk, measPauli]
  · cases projectorsZ n (qIndex np op.r1 op.t1) with
    | error e => rfl
    | ok pp =>
      obtain ⟨p0, p1⟩ := pp
      dsimp only
      cases applyMeasurement ρ p0 p1 det with
      | error e => rfl
      | ok ro => obtain ⟨r, o⟩ := ro; cases r <;> rfl
  · rfl
  · rfl
  · rfl

theorem dmMeas_ok {n q1 q2 c : Nat} {det : Bool} {creg : List Nat} {ρ : Mat} {g : Option Mat} {reset : Bool} {d1 : DmSt}
    (h : dmMeas n q1 q2 c det creg ρ g reset = .ok d1) :
    ∃ p0 p1 r o, projectorsZ n q1 = .ok (p0, p1) ∧ applyMeasurement ρ p0 p1 det = .ok (r, o) ∧
      d1.creg = setRec creg c (if o then 1 else 0) ∧
      match r with
      | none => d1.ρ = none
      | some ρ1 => ∃ ρ2 ρ3,
          (match g with
            | some g => if o then applyUnitary ρ1 ⟨1, getOneQubitGate n q2 g⟩ else .ok ρ1
            | none => .ok ρ1 : Except Err Mat) = .ok ρ2 ∧
          (if reset then applyChannel ρ2 (resetKraus n q1) else .ok ρ2 : Except Err Mat) = .ok ρ3 ∧ d1.ρ = some ρ3 := by
  unfold dmMeas at h
  split at h
  · cases h
  · rename_i p0 p1 hp
    split at h
    · cases h
    · rename_i o ha
      injection h with h; subst h
      exact ⟨p0, p1, none, o, hp, ha, rfl, rfl⟩
    · rename_i ρ1 o ha
      split at h
      · cases h
      · rename_i ρ2 h2
        cases h3 : (if reset then applyChannel ρ2 (resetKraus n q1) else .ok ρ2 : Except Err Mat) with
        | error e => rw [h3] at h; cases h
        | ok ρ3 =>
          rw [h3] at h
          simp only [Except.map] at h
          injection h with h; subst h
          exact ⟨p0, p1, some ρ1, o, hp, ha, rfl, ρ2, ρ3, h2, h3, rfl⟩

end Noise
end Graphiq
