/-
  Proofs/StateToGraphGauge.lean — what a successful `_graph_finder` returns, as a function of the ROW SPACE of `[X | Z]`:
  the Hadamard positions are, in increasing order, the columns that are not the position of the first 1 of a vector of the row space
  of `X` (`graphFinderWith_leads`; pivot columns of an echelon matrix are determined by its row space), and row `j` of `A + D` is the
  transformed Z part of the element of the row space whose transformed X part is `e_j` (`GFSpec.entry`).
  Consequence (n ≥ 1): `stabilizer_to_graph` / `state_to_graph` recover `G` from `|G⟩` presented in ANY generating set — the
  group of `|G⟩` contains an element with X part `e_j` for every `j`, so every column is a lead (no Hadamard), `A + D = A` (no `P_dag`),
  and the canonical forms agree (no `Z`).
-/
import GraphiqModel.Proofs.StateToGraphTotal
namespace Graphiq
open PRow Tab STab S2G

namespace S2G

/-! ### the pivot columns of an echelon matrix are determined by its row space -/

/-- `v` is the combination of the rows of `x` with coefficients `c` (below `n`) -/
def IsCombo (n : Nat) (x : Adj) (v : Nat → Bool) : Prop :=
  ∃ c : Nat → Bool, ∀ j, j < n → v j = parityTo n (fun i => c i && x i j)

/-- `q` is the position of the first 1 of some vector of the row space -/
def IsLead (n : Nat) (x : Adj) (q : Nat) : Prop :=
  ∃ v, IsCombo n x v ∧ v q = true ∧ ∀ j, j < q → v j = false

theorem ech_lead_iff (m : XZ) (r : Nat) (piv : Nat → Nat) (he : Ech m r piv) (q : Nat) (hq : q < m.n) :
    IsLead m.n m.x q ↔ ∃ i, i < r ∧ piv i = q := by
  constructor
  · rintro ⟨v, ⟨c, hc⟩, hv1, hv0⟩
    -- the first pivot row used
    have hex : ∃ i, i < r ∧ c i = true := by
      apply Classical.byContradiction
      intro hno
      have : v q = false := by
        rw [hc q hq]
        apply parityTo_zero
        intro i hi
        by_cases hir : i < r
        · have : c i = false := by
            cases h : c i
            · rfl
            · exact absurd ⟨i, hir, h⟩ hno
          rw [this]; rfl
        · rw [he.below i q (by omega) hi hq]; simp
      rw [this] at hv1; cases hv1
    -- least such index
    have hleast : ∃ k, k < r ∧ c k = true ∧ ∀ i, i < k → c i = false :=
      ⟨Nat.find hex, (Nat.find_spec hex).1, (Nat.find_spec hex).2, fun i hi =>
        Bool.eq_false_iff.mpr fun h => Nat.find_min hex hi ⟨Nat.lt_trans hi (Nat.find_spec hex).1, h⟩⟩
    obtain ⟨k, hk, hck, hmin⟩ := hleast
    have hkn : k < m.n := Nat.lt_of_lt_of_le hk he.r_le
    have hpk := he.piv_lt k hk
    -- the combination has a 1 at `piv k` and zeros before
    have v1 : v (piv k) = true := by
      rw [hc (piv k) hpk]
      have : parityTo m.n (fun i => c i && m.x i (piv k)) = (c k && m.x k (piv k)) := by
        apply parityTo_one m.n k _ hkn
        intro i hi hne
        by_cases h1 : i < k
        · rw [hmin i h1]; rfl
        · have hki : k < i := by omega
          by_cases h2 : i < r
          · rw [he.before i (piv k) h2 (he.mono k i hki h2)]; simp
          · rw [he.below i (piv k) (by omega) hi hpk]; simp
      rw [this, hck, he.one k hk]; rfl
    have v0 : ∀ j, j < piv k → v j = false := by
      intro j hj
      have hjn : j < m.n := by omega
      rw [hc j hjn]
      apply parityTo_zero
      intro i hi
      by_cases h1 : i < k
      · rw [hmin i h1]; rfl
      · by_cases h2 : i < r
        · have : j < piv i := by
            by_cases e : i = k
            · rw [e]; exact hj
            · have := he.mono k i (by omega) h2; omega
          rw [he.before i j h2 this]; simp
        · rw [he.below i j (by omega) hi hjn]; simp
    refine ⟨k, hk, ?_⟩
    -- both `q` and `piv k` are the position of the first 1
    apply Classical.byContradiction
    intro hne
    by_cases hlt : piv k < q
    · have := hv0 (piv k) hlt
      rw [v1] at this; cases this
    · have := v0 q (by omega)
      rw [hv1] at this; cases this
  · rintro ⟨i, hi, e⟩
    have hin : i < m.n := Nat.lt_of_lt_of_le hi he.r_le
    refine ⟨m.x i, ⟨fun k => decide (k = i), fun j _ => (parityTo_single m.n i (fun k => m.x k j) hin).symm⟩, ?_, ?_⟩
    · rw [← e]; exact he.one i hi
    · intro j hj; rw [← e] at hj; exact he.before i j hi hj

theorem isCombo_trans (n : Nat) (x x' : Adj) (h : ∀ i, i < n → IsCombo n x (x' i)) (v : Nat → Bool) (hv : IsCombo n x' v) :
    IsCombo n x v := by
  obtain ⟨c, hc⟩ := hv
  -- as a row space statement, through `BSpan` with a dummy Z part
  have hb : ∀ i, i < n → BSpan n n x x (x' i) (x' i) := by
    intro i hi
    obtain ⟨ci, hci⟩ := h i hi
    exact BSpan.ext _ _ _ _ (BSpan.combo n n x x ci n (Nat.le_refl _)) (fun j hj => ⟨(hci j hj).symm, (hci j hj).symm⟩)
  have h1 : BSpan n n x x (fun j => parityTo n (fun i => c i && x' i j)) (fun j => parityTo n (fun i => c i && x' i j)) :=
    BSpan.mono hb (BSpan.combo n n x' x' c n (Nat.le_refl _))
  obtain ⟨c', hc'⟩ := bspan_coeffs h1
  exact ⟨c', fun j hj => by rw [hc j hj]; exact (hc' j hj).1⟩

theorem isLead_mono (n : Nat) (x x' : Adj) (h : ∀ i, i < n → IsCombo n x (x' i)) (q : Nat) (hq : IsLead n x' q) : IsLead n x q := by
  obtain ⟨v, hv, h1, h0⟩ := hq
  exact ⟨v, isCombo_trans n x x' h v hv, h1, h0⟩

theorem isCombo_of_bspan (n : Nat) (x z x' z' : Adj) (h : ∀ i, i < n → BSpan n n x z (x' i) (z' i)) :
    ∀ i, i < n → IsCombo n x (x' i) := by
  intro i hi
  obtain ⟨c, hc⟩ := bspan_coeffs (h i hi)
  exact ⟨c, fun j hj => (hc j hj).1⟩

theorem isLead_congr (n : Nat) (x z x' z' : Adj) (h1 : ∀ i, i < n → BSpan n n x z (x' i) (z' i))
    (h2 : ∀ i, i < n → BSpan n n x' z' (x i) (z i)) (q : Nat) : IsLead n x q ↔ IsLead n x' q :=
  ⟨isLead_mono n x' x (isCombo_of_bspan n x' z' x z h2) q, isLead_mono n x x' (isCombo_of_bspan n x z x' z' h1) q⟩

theorem isLead_of_unitSpan (n : Nat) (X : Adj) (h : UnitSpan n X) (q : Nat) (hq : q < n) : IsLead n X q := by
  obtain ⟨c, hc⟩ := h q hq
  exact ⟨fun k => decide (k = q), ⟨c, fun k hk => (hc k hk).symm⟩, decide_eq_true rfl,
    fun k hk => decide_eq_false (by omega)⟩

theorem graphFinderWith_hpos (inv : Nat → Adj → Option Adj) (m0 : XZ) (g : GraphFinderOut)
    (e : graphFinderWith inv m0 = .ok g) : g.hpos = positionFinder m0.n m0.norm.rowReduction.1.x := by
  obtain ⟨_, xinv, rank, _, e⟩ := graphFinderWith_ok inv m0 g e
  exact (graphFinderTail_spec _ _ _ _ g e).1

/-- the Hadamard positions of a successful `_graph_finder`: in increasing order, the columns that are not a lead of the row space -/
theorem graphFinderWith_leads (inv : Nat → Adj → Option Adj) (m0 : XZ) (g : GraphFinderOut)
    (e : graphFinderWith inv m0 = .ok g) :
    g.hpos.Pairwise (· < ·) ∧ ∀ q, q ∈ g.hpos ↔ q < m0.n ∧ ¬ IsLead m0.n m0.x q := by
  have hn := (graphFinderWith_ok inv m0 g e).1
  rw [graphFinderWith_hpos inv m0 g e]
  have hred := bequiv_rowReduction m0.norm (norm_pos hn)
  obtain ⟨r, piv, he⟩ := rowReduction_ech m0.norm (norm_pos hn)
  have hb : BEquiv m0 m0.norm.rowReduction.1 := (bequiv_norm m0).trans hred.1
  generalize m0.norm.rowReduction.1 = m1 at hred he hb
  have n1 : m1.n = m0.n := hred.2.trans (norm_n m0)
  rw [← n1]
  refine ⟨(posLoop_sorted m1.x m1.n m1.n).2, fun q => ?_⟩
  rw [positionFinder_ech m1 r piv he q]
  refine and_congr_right fun hq => ?_
  have hbwd := hb.bwd
  have hfwd := hb.fwd
  rw [← n1] at hbwd hfwd
  rw [← isLead_congr m1.n m1.x m1.z m0.x m0.z hbwd hfwd q, ech_lead_iff m1 r piv he q hq]
  exact ⟨fun h ⟨i, hi, e⟩ => h i hi e, fun h i hi e => h ⟨i, hi, e⟩⟩

/-- row `j` of `A + D` is the transformed Z part of the element of the row space with transformed X part `e_j` -/
theorem GFSpec.entry {m0 : XZ} {g : GraphFinderOut} (hs : GFSpec m0 g) {a b : Nat → Bool}
    (hab : BSpan m0.n m0.n m0.x m0.z a b) (j : Nat) (hj : j < m0.n)
    (hu : ∀ k, k < m0.n → hadBits g.hpos a b k = decide (k = j)) (j' : Nat) (hj' : j' < m0.n) :
    xor (g.adj.f j j') (decide (j = j') && g.zdiag.contains j') = hadBits g.hpos b a j' := by
  rw [BSpan.sat (rowEq_linear m0.n g.hpos _) hs.rows hab j' hj',
    parityTo_congr m0.n _ (fun k => decide (k = j) && xor (g.adj.f k j') (decide (k = j') && g.zdiag.contains j'))
      (fun k hk => by rw [hu k hk]),
    parityTo_single m0.n j _ hj]

/-- a successful `_graph_finder` means the rows were linearly independent (for every candidate inverse: the re-check
    `x_inv @ x.T = I` certifies that the X part after the Hadamards is invertible) -/
theorem indep_of_gfspec (m0 : XZ) (g : GraphFinderOut) (hs : GFSpec m0 g) : Indep m0 := by
  -- the X part after the Hadamards spans every unit vector
  have hus : UnitSpan m0.n (fun i k => hadBits g.hpos (m0.x i) (m0.z i) k) := by
    intro j hj
    obtain ⟨a, b, hab, hu⟩ := hs.full j hj
    obtain ⟨c, hc⟩ := bspan_coeffs hab
    refine ⟨c, fun k hk => ?_⟩
    rw [← hu k hk]
    simp only [hadBits]
    split
    · exact ((hc k hk).2).symm
    · exact ((hc k hk).1).symm
  intro v hv
  apply unitSpan_indep m0.n _ hus v
  intro k hk
  simp only [hadBits]
  split
  · exact (hv k hk).2
  · exact (hv k hk).1

end S2G

theorem fullX_of_graph (t : STab) (A : Adj) (hs : SpanEq t (graphSTab t.n A)) : FullX t :=
  fun j hj => ⟨(graphSTab t.n A).row j, hs.sup _ (spn_gen (graphSTab t.n A) j hj), fun _ _ => rfl⟩

theorem graphSTab_spanEq_of_agree (n : Nat) (A B : Adj) (h : ∀ i j, i < n → j < n → B i j = A i j) :
    SpanEq (graphSTab n A) (graphSTab n B) := by
  refine spanEq_of_rows _ _ rfl fun i hi => ⟨fun j hj => ⟨rfl, ?_⟩, rfl, rfl⟩
  show (decide (j < n) && A i j) = (decide (j < n) && B i j)
  rw [h i j hi hj]

/-- what `_graph_finder` returns on a generating set of `|A⟩`: the graph `A`, no Hadamard, no `P_dag` -/
theorem graphFinderWith_gauge (inv : Nat → Adj → Option Adj) (t : STab) (hn : 0 < t.n) (hinv : InvOK inv t.n) (hg : t.Good)
    (A : Adj) (hirr : ∀ i, i < t.n → A i i = false) (hs : SpanEq t (graphSTab t.n A)) :
    ∃ g, graphFinderWith inv (XZ.ofSTab t) = .ok g ∧ g.hpos = [] ∧ g.zdiag = [] ∧
      ∀ i j, i < t.n → j < t.n → g.adj.f i j = A i j := by
  have hfull := fullX_of_graph t A hs
  obtain ⟨g, eg⟩ := graphFinderWith_complete inv (XZ.ofSTab t) hn hinv (comm_ofSTab t hg) (indep_of_fullX t hfull)
  have spec := graphFinderWith_spec inv _ g eg
  have hpos : g.hpos = [] := List.eq_nil_iff_forall_not_mem.mpr fun q hq =>
    have := ((graphFinderWith_leads inv _ g eg).2 q).mp hq
    this.2 (isLead_of_unitSpan t.n _ (unitSpan_of_fullX t hfull) q this.1)
  -- row `j` of `A + D` is the Z part of the generator `K_j` of `|A⟩`
  have key : ∀ j k, j < t.n → k < t.n → xor (g.adj.f j k) (decide (j = k) && g.zdiag.contains k) = A j k := by
    intro j k hj hk
    have hab := spn_bspan t _ (hs.sup _ (spn_gen (graphSTab t.n A) j hj))
    rw [spec.entry hab j hj (fun k _ => by rw [hpos]; rfl) k hk, hpos]
    show (decide (k < t.n) && A j k) = A j k
    simp [hk]
  have hzd : g.zdiag = [] := List.eq_nil_iff_forall_not_mem.mpr fun q hq => by
    have hqn := spec.zdiag_lt q hq
    have := key q q hqn hqn
    rw [hirr q hqn, spec.irrefl q hqn, List.contains_iff_mem.mpr hq] at this
    simp at this
  refine ⟨g, eg, hpos, hzd, fun i j hi hj => ?_⟩
  rw [← key i j hi hj, hzd]
  simp

/-- `stabilizer_to_graph(validate=True)` recovers `G` from `|G⟩` in any generating set -/
theorem stabilizerToGraph_gauge (t : STab) (hn : 0 < t.n) (hg : t.Good) (A : Adj) (hirr : ∀ i, i < t.n → A i i = false)
    (hs : SpanEq t (graphSTab t.n A)) :
    ∃ g, stabilizerToGraph t = .ok g ∧ ∀ i j, i < t.n → j < t.n → g.f i j = A i j := by
  obtain ⟨g, eg, _, _, ga⟩ := graphFinderWith_gauge gf2InvF t hn (gf2InvF_ok t.n) hg A hirr hs
  have gsym := (graphFinder_spec _ g eg).sym
  obtain ⟨ca, e1⟩ := canonicalForm_of_indep t hg (indep_of_fullX t (fullX_of_graph t A hs))
  obtain ⟨cb, e2, _, _⟩ := canonicalForm_graphSTab t.n g.adj.f gsym
  exact ⟨g.adj, (stabilizerToGraph_ok t g.adj).mpr ⟨g, eg, sameStabilizerState_complete _ _ ca cb hg
    (graphSTab_good t.n g.adj.f gsym) e1 e2 (hs.trans (graphSTab_spanEq_of_agree t.n A g.adj.f ga)), rfl⟩, ga⟩

/-- `state_to_graph` on any generating set of `|G⟩` returns `G` and an empty gate list -/
theorem stateToGraph_gauge (t : STab) (hn : 0 < t.n) (hg : t.Good) (A : Adj) (hirr : ∀ i, i < t.n → A i i = false)
    (hs : SpanEq t (graphSTab t.n A)) :
    ∃ g, stateToGraph t = .ok (g, []) ∧ ∀ i j, i < t.n → j < t.n → g.f i j = A i j := by
  obtain ⟨g, eg, hpos, hzd, ga⟩ := graphFinderWith_gauge gf2InvF t hn (gf2InvF_ok t.n) hg A hirr hs
  have spec := graphFinderWith_spec gf2InvF _ g eg
  have AL := graphImage_of_spec t hg.real g spec
  obtain ⟨zs, ez⟩ := phaseCorrection_ok t (indep_of_fullX t (fullX_of_graph t A hs)) _ _ AL
  obtain ⟨c, hc, rfl⟩ := phaseCorrection_spec t _ _ AL zs ez
  refine ⟨g.adj, ?_, ga⟩
  -- the canonical form of the graph-state tableau has the signs `+`, and canonical forms are unique
  obtain ⟨cb, e2, _, r2⟩ := canonicalForm_graphSTab t.n g.adj.f spec.sym
  obtain ⟨s2, g2⟩ := canonicalForm_spanEq _ cb (graphSTab_good t.n g.adj.f spec.sym) e2
  have hspan := hc.span
  rw [hpos, hzd] at hspan
  have hrows := canon_unique c cb hc.canon (canonicalForm_canon _ _ e2) hc.good g2
    ((hspan.symm.trans (hs.trans (graphSTab_spanEq_of_agree t.n A g.adj.f ga))).trans s2)
  have hnil : signFix t.n c = [] := by
    unfold signFix
    rw [List.map_eq_nil_iff, List.filter_eq_nil_iff]
    intro i hi
    have hi' := List.mem_range.mp hi
    rw [(hrows i (hc.n_eq ▸ hi')).2.1, (r2 i hi').2.1]
    exact Bool.false_ne_true
  rw [stateToGraph, stateToGraphWith_eq gf2InvF t g _ eg ez, hnil, hpos, hzd]
  rfl

/-- graph → stabilizer → graph: the tableau `[I | A]` is one generating set of `|G⟩` -/
theorem stateToGraph_graph (n : Nat) (hn : 0 < n) (A : Adj) (hsym : ∀ i j, i < n → j < n → A i j = A j i)
    (hirr : ∀ i, i < n → A i i = false) :
    ∃ g, stateToGraph (graphSTab n A) = .ok (g, []) ∧ ∀ i j, i < n → j < n → g.f i j = A i j :=
  stateToGraph_gauge (graphSTab n A) hn (graphSTab_good n A hsym) A hirr (SpanEq.refl _)

theorem stabilizerToGraph_graph (n : Nat) (hn : 0 < n) (A : Adj) (hsym : ∀ i j, i < n → j < n → A i j = A j i)
    (hirr : ∀ i, i < n → A i i = false) :
    ∃ g, stabilizerToGraph (graphSTab n A) = .ok g ∧ ∀ i j, i < n → j < n → g.f i j = A i j :=
  stabilizerToGraph_gauge (graphSTab n A) hn (graphSTab_good n A hsym) A hirr (SpanEq.refl _)

end Graphiq
