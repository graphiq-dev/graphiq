/-
  Proofs/HilbertDimReset.lean — `reset_z`, `reset_x`, `reset_y` of clifford.py on density matrices, for every size:
  the reset qubit ends in `|i⟩⟨i|` (resp. `(1 ± X)/2`, `(1 ± Y)/2`) as a tensor factor, and the other qubits are left in the
  reduced state of the post-measurement state:

      ρ(reset_z(t, q, i)) = Tr_q( Π ρ(t) Π / tr(Π ρ(t)) ) ⊗_q |i⟩⟨i| .

  The conditional `X` and the `H`, `P` of `reset_x`, `reset_y` act on the factor at `q` only: `gate_conj_site` (a one-qubit gate matrix
  is `1 ⊗_q u`, `oneQ_eq_insSite`, and conjugates the projector of a single-site Pauli into that of its image, `gate_conj`).
-/
import GraphiqModel.Proofs.HilbertDimHistory
namespace Graphiq
namespace Hilbert
open Matrix PRow TabSpec Tab

/-- `get_one_qubit_gate(n, q, u)` is `1 ⊗_q u` -/
theorem oneQ_eq_insSite (m q : Nat) (hq : q ≤ m) (u : Matrix Bool Bool ℂ) : oneQ (m + 1) q u = insSite q 1 u := by
  ext a b
  rw [oneQ_apply, insSite_apply, Matrix.one_apply]
  have key := delB_eq_iff q hq a b
  by_cases h : delB q a = delB q b
  · rw [if_pos (key.mpr h), if_pos h, _root_.one_mul]
  · rw [if_neg (fun h2 => h (key.mp h2)), if_neg h, zero_mul]

theorem xg_Zq_eq (q : Nat) (s : Bool) : PRow.xg q (Zq q s) = Zq q (!s) := by
  show PRow.h q (PRow.s q (PRow.s q (PRow.h q (Zq q s)))) = _
  rw [h_Zq, s_Xq, s_Yq, h_Xq]

/-- a gate on qubit `q` alone (`U = 1 ⊗_q u`) applied to a product state whose factor at `q` is the `+1` state of the single-site
    Pauli `σ`: the factor becomes the `+1` state of the image `τ` of `σ` (the gate commutes with `A ⊗_q 1`, and conjugates the
    projector of `σ` into that of `τ`) -/
theorem gate_conj_site (m q : Nat) (hq : q ≤ m) (g : Gate) (hg : g.WF (m + 1)) (u : Matrix Bool Bool ℂ)
    (hu : gateMat (m + 1) g = insSite q 1 u) (A : Matrix (Bits m) (Bits m) ℂ) (σ τ : PRow) (hτ : g.act σ = τ)
    (hσ : SingleSite (m + 1) q σ) (hτs : SingleSite (m + 1) q τ) :
    gateMat (m + 1) g * insSite q A (site1 σ q) * (gateMat (m + 1) g)ᴴ = insSite q A (site1 τ q) := by
  have split : ∀ ρ, SingleSite (m + 1) q ρ → insSite q A (site1 ρ q) = insSite q A 1 * proj (m + 1) ρ := by
    intro ρ hρ
    rw [proj_singleSite m q hq ρ hρ, insSite_mul q hq, Matrix.mul_one, Matrix.one_mul]
  have comm : gateMat (m + 1) g * insSite q A 1 = insSite q A 1 * gateMat (m + 1) g := by
    rw [hu, insSite_mul q hq, insSite_mul q hq, Matrix.one_mul, Matrix.mul_one, Matrix.one_mul, Matrix.mul_one]
  rw [split σ hσ, split τ hτs, ← Matrix.mul_assoc, comm, Matrix.mul_assoc, Matrix.mul_assoc,
    ← Matrix.mul_assoc (gateMat (m + 1) g), conj_proj (m + 1) _ (gate_unitary (m + 1) g hg).1 σ τ (hτ ▸ gate_conj (m + 1) g hg σ)]

/-! ### resets -/

/-- **`reset_z` on density matrices**: the other qubits are left in the reduced state of the post-measurement state and
    qubit `q` is the tensor factor `|i⟩⟨i|` (`i` the intended state), for every forced / drawn outcome `o` -/
theorem rho_resetZ (m : Nat) (t : Tab) (q : Nat) (i o : Bool) (hm : t.n = m + 1) (hq : q < t.n) (hv : t.Valid)
    (hr : t.StabReal) :
    rho (m + 1) (STab.ofTab (t.resetZ q i o))
      = insSite q (ptraceSite q (postMeas (m + 1) q o (rho (m + 1) (STab.ofTab t)))) (ketbra i) := by
  obtain ⟨t', h'⟩ := removeQubit_total t q o hq hv
  obtain ⟨_, hprod⟩ := rho_removeQubit_measured m t t' q o hm hq hv hr h'
  have hred := rho_removeQubit m t t' q o hm hq hv hr h'
  have pm := (meas_density t q o hq hv hr).2.1
  rw [hm] at pm
  rw [pm, ← hred, resetZ_eq t q i o hr]
  by_cases hs : (t.zMeasure q o).2.1 = i
  · rw [if_pos hs, hprod, hs]
  · rw [if_neg hs]
    have hn1 : (t.zMeasure q o).1.n = m + 1 := (zMeasure_n t q o).trans hm
    have hg := rho_tab_gate (t.zMeasure q o).1 (.X q) (by show q < _; rw [zMeasure_n]; exact hq)
    rw [hn1] at hg
    have hi : (!(t.zMeasure q o).2.1) = i := by revert hs; cases (t.zMeasure q o).2.1 <;> cases i <;> simp
    show rho (m + 1) (STab.ofTab ((t.zMeasure q o).1.map (Gate.X q).act)) = _
    rw [← hg, hprod, ← site1_Zq q, ← site1_Zq q i, ← hi]
    exact gate_conj_site m q (by omega) (.X q) (by show q < m + 1; omega) sigmaX (oneQ_eq_insSite m q (by omega) sigmaX) _ _ _
      (xg_Zq_eq q _) (singleSite_Zq _ q _) (singleSite_Zq _ q _)

theorem rho_resetX (m : Nat) (t : Tab) (q : Nat) (i o : Bool) (hm : t.n = m + 1) (hq : q < t.n) (hv : t.Valid)
    (hr : t.StabReal) :
    rho (m + 1) (STab.ofTab (t.resetX q i o))
      = insSite q (ptraceSite q (postMeas (m + 1) q o (rho (m + 1) (STab.ofTab t)))) (bloch true false i) := by
  have hn1 : (t.resetZ q i o).n = m + 1 := (resetZ_n t q i o).trans hm
  have hg := rho_tab_gate (t.resetZ q i o) (.H q) (by show q < _; rw [resetZ_n]; exact hq)
  rw [hn1] at hg
  have hH : gateMat (m + 1) (.H q) = insSite q 1 (invSqrt2 • hadM) := by
    show invSqrt2 • oneQ (m + 1) q hadM = _
    rw [oneQ_eq_insSite m q (by omega), insSite_smul_right]
  show rho (m + 1) (STab.ofTab ((t.resetZ q i o).map (Gate.H q).act)) = _
  rw [← hg, rho_resetZ m t q i o hm hq hv hr, ← site1_Zq q i, ← site1_Xq q i]
  exact gate_conj_site m q (by omega) (.H q) (by show q < m + 1; omega) _ hH _ _ _ (h_Zq q i) (singleSite_Zq _ q i)
    (singleSite_Xq _ q i)

theorem rho_resetY (m : Nat) (t : Tab) (q : Nat) (i o : Bool) (hm : t.n = m + 1) (hq : q < t.n) (hv : t.Valid)
    (hr : t.StabReal) :
    rho (m + 1) (STab.ofTab (t.resetY q i o))
      = insSite q (ptraceSite q (postMeas (m + 1) q o (rho (m + 1) (STab.ofTab t)))) (bloch true true i) := by
  have hn1 : (t.resetX q i o).n = m + 1 := (resetZ_n t q i o).trans hm
  have hg := rho_tab_gate (t.resetX q i o) (.P q) (by show q < (t.resetZ q i o).n; rw [resetZ_n]; exact hq)
  rw [hn1] at hg
  show rho (m + 1) (STab.ofTab ((t.resetX q i o).map (Gate.P q).act)) = _
  rw [← hg, rho_resetX m t q i o hm hq hv hr, ← site1_Xq q i, ← site1_Yrow q i]
  exact gate_conj_site m q (by omega) (.P q) (by show q < m + 1; omega) phaseM (oneQ_eq_insSite m q (by omega) phaseM) _ _ _
    (s_Xq q i) (singleSite_Xq _ q i) (singleSite_Yrow _ q i)

end Hilbert
end Graphiq
