/-
  Proofs/HilbertBridgeKron.lean — the remaining entrywise primitives of the Hilbert-space reading are Kronecker chains
  (complementing Proofs/HilbertKron.lean, where this is shown for `pauliMat` and `oneQ`; the last qubit is the right-most,
  least significant factor, so by induction qubit 0 is the left-most one as in `reduce(np.kron, …)`):

  * `ket0H_succ`   : `|0…0⟩⟨0…0|` on `n+1` qubits is `|0…0⟩⟨0…0| ⊗ |0⟩⟨0|` (`create_n_product_state`);
  * `twoQ_succ_*`  : the chain with two non-identity factors — both below the last qubit: `twoQ ⊗ 1`; second factor on the
                     last qubit: `oneQ(first) ⊗ v`; first factor on the last qubit: `oneQ(second) ⊗ u`
                     (the two branches `control < target`, `control > target` of `get_two_qubit_controlled_gate`).
-/
import GraphiqModel.Proofs.HilbertBridgeOps
namespace Graphiq
namespace Hilbert
open Matrix

theorem ket0H_succ (n : Nat) (a b : Bits (n + 1)) :
    DMH.ket0H (n + 1) a b = DMH.ket0H n (initB a) (initB b) * ketBra2 false false (lastB a) (lastB b) := by
  have hz : ∀ c : Bits (n + 1), c = (fun _ => false) ↔ initB c = (fun _ => false) ∧ lastB c = false := by
    intro c
    rw [bits_succ_ext c (fun _ => false)]
    rfl
  simp only [DMH.ket0H, ketBra2, Matrix.of_apply, hz a, hz b]
  by_cases h1 : initB a = fun _ => false <;> by_cases h2 : lastB a = false <;>
    by_cases h3 : initB b = fun _ => false <;> by_cases h4 : lastB b = false <;> simp [h1, h2, h3, h4]

theorem off_two_succ_lower {n : Nat} (c t : Nat) (hc : c < n) (ht : t < n) (a b : Bits (n + 1)) :
    (∀ j : Fin (n + 1), j.val ≠ c → j.val ≠ t → a j = b j) ↔
      (∀ j : Fin n, j.val ≠ c → j.val ≠ t → initB a j = initB b j) ∧ lastB a = lastB b := by
  constructor
  · intro h
    exact ⟨fun j h1 h2 => h ⟨j.val, Nat.lt_succ_of_lt j.isLt⟩ h1 h2,
      h ⟨n, Nat.lt_succ_self n⟩ (by simp; omega) (by simp; omega)⟩
  · intro ⟨h1, h2⟩ j hj1 hj2
    by_cases e : j.val = n
    · have : j = ⟨n, Nat.lt_succ_self n⟩ := Fin.ext e
      rw [this]; exact h2
    · have hj' : j.val < n := by have := j.isLt; omega
      exact h1 ⟨j.val, hj'⟩ hj1 hj2

/-- both non-identity factors below the last qubit: `twoQ ⊗ 1` -/
theorem twoQ_succ_lower (n c t : Nat) (hc : c < n) (ht : t < n) (u v : Matrix Bool Bool ℂ) (a b : Bits (n + 1)) :
    twoQ (n + 1) c t u v a b = twoQ n c t u v (initB a) (initB b) * (1 : Matrix Bool Bool ℂ) (lastB a) (lastB b) := by
  simp only [twoQ, Matrix.of_apply, Matrix.one_apply]
  rw [bx_initB a c hc, bx_initB b c hc, bx_initB a t ht, bx_initB b t ht]
  have h := off_two_succ_lower c t hc ht a b
  by_cases h1 : ∀ j : Fin n, j.val ≠ c → j.val ≠ t → initB a j = initB b j
  · by_cases h2 : lastB a = lastB b
    · rw [if_pos (h.mpr ⟨h1, h2⟩), if_pos h1, if_pos h2, _root_.mul_one]
    · rw [if_neg (fun h3 => h2 (h.mp h3).2), if_neg h2, mul_zero]
  · rw [if_neg (fun h3 => h1 (h.mp h3).1), if_neg h1, zero_mul]

theorem off_two_succ_last {n : Nat} (c : Nat) (a b : Bits (n + 1)) :
    (∀ j : Fin (n + 1), j.val ≠ c → j.val ≠ n → a j = b j) ↔ (∀ j : Fin n, j.val ≠ c → initB a j = initB b j) := by
  constructor
  · intro h j hj
    exact h ⟨j.val, Nat.lt_succ_of_lt j.isLt⟩ hj (by have := j.isLt; simp; omega)
  · intro h j hj1 hj2
    have hj' : j.val < n := by have := j.isLt; omega
    exact h ⟨j.val, hj'⟩ hj1

/-- second factor on the last qubit (`control < target = n`): `oneQ(first) ⊗ v` -/
theorem twoQ_succ_target_last (n c : Nat) (hc : c < n) (u v : Matrix Bool Bool ℂ) (a b : Bits (n + 1)) :
    twoQ (n + 1) c n u v a b = oneQ n c u (initB a) (initB b) * v (lastB a) (lastB b) := by
  simp only [twoQ, Matrix.of_apply, oneQ_apply]
  rw [bx_initB a c hc, bx_initB b c hc, bx_lastB, bx_lastB]
  have h := off_two_succ_last c a b
  by_cases h1 : ∀ j : Fin n, j.val ≠ c → initB a j = initB b j
  · rw [if_pos (h.mpr h1), if_pos h1]
  · rw [if_neg (fun h3 => h1 (h.mp h3)), if_neg h1, zero_mul]

/-- first factor on the last qubit (`control = n > target`): `oneQ(second) ⊗ u` -/
theorem twoQ_succ_control_last (n t : Nat) (ht : t < n) (u v : Matrix Bool Bool ℂ) (a b : Bits (n + 1)) :
    twoQ (n + 1) n t u v a b = oneQ n t v (initB a) (initB b) * u (lastB a) (lastB b) := by
  rw [twoQ_comm, twoQ_succ_target_last n t ht]

end Hilbert
end Graphiq
