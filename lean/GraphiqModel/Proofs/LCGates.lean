/-
  Proofs/LCGates.lean — the gates of `converter_gate_list`, without appeal to the validation inside `lc_check`:

  for every local Clifford `Q` that solves the linear system for `(A, B)` with invertible blocks, the gate list built from
  `local_clifford_ops(Q)` runs on the graph state of `A` (no exception), gives a valid tableau with Hermitian stabilizers, and
  every generator `K_k(B)` of the graph state of `B` commutes with all of its stabilizers — hence lies, up to sign, in its
  stabilizer group (`gates_map_state_up_to_signs`): the gates map `|A⟩` to `|B⟩` up to the Pauli-Z corrections that
  `_phase_correction` supplies.
-/
import GraphiqModel.Proofs.LCLocalClifford
import GraphiqModel.Proofs.LCGraphTab
import GraphiqModel.Proofs.TabSpecGroup
import GraphiqModel.Proofs.InnerProductCirc
namespace Graphiq.LC
open Graphiq PRow Tab Graphiq.TabSpec

/-! ### one named gate: on a row, on a tableau -/

theorem gateRow_ip (name : String) (q : Nat) (p : PRow) : (gateRow name q p).ip = p.ip := by
  unfold gateRow
  split <;> rfl

theorem lift_sameBits (n q : Nat) (t : Solver.L1) (p p' : PRow) (h : SameBits n p p') :
    SameBits n (Solver.lift q t p) (Solver.lift q t p') := by
  intro j hj
  by_cases e : j = q
  · subst e
    simp only [Solver.lift_x_self, Solver.lift_z_self, (h j hj).1, (h j hj).2, and_self]
  · simp only [Solver.lift_x_ne q j e, Solver.lift_z_ne q j e]
    exact h j hj

theorem gateRow_sameBits (n : Nat) (name : String) (q : Nat) (p p' : PRow) (h : SameBits n p p') :
    SameBits n (gateRow name q p) (gateRow name q p') := by
  unfold gateRow
  split
  · exact Solver.lift_tH q ▸ lift_sameBits n q _ p p' h
  · exact Solver.lift_tS q ▸ lift_sameBits n q _ p p' h
  · exact Solver.lift_tSdg q ▸ lift_sameBits n q _ p p' h
  · exact Solver.lift_tX q ▸ lift_sameBits n q _ p p' h
  · exact Solver.lift_tY q ▸ lift_sameBits n q _ p p' h
  · exact Solver.lift_tZ q ▸ lift_sameBits n q _ p p' h
  · exact h

def GoodName (name : String) : Prop :=
  name = "I" ∨ name = "H" ∨ name = "P" ∨ name = "P_dag" ∨ name = "X" ∨ name = "Y" ∨ name = "Z"

theorem applyGate_rows (t : Tab) (name : String) (q : Nat) (hq : q < t.n) (hname : GoodName name) :
    ∃ t', applyGate t name q = .ok t' ∧ t'.n = t.n ∧ ∀ r, t'.row r = gateRow name q (t.row r) := by
  unfold applyGate
  rw [if_pos hq]
  rcases hname with h | h | h | h | h | h | h <;> subst h
  · exact ⟨t, rfl, rfl, fun _ => rfl⟩
  · exact ⟨_, rfl, rfl, fun _ => rfl⟩
  · exact ⟨_, rfl, rfl, fun _ => rfl⟩
  · exact ⟨_, rfl, rfl, fun _ => rfl⟩
  · exact ⟨_, rfl, rfl, fun _ => rfl⟩
  · exact ⟨_, rfl, rfl, fun _ => rfl⟩
  · exact ⟨_, rfl, rfl, fun _ => rfl⟩

theorem applyGate_ok (t t1 : Tab) (name : String) (q : Nat) (e : LC.applyGate t name q = .ok t1) :
    GoodName name ∧ q < t.n ∧ t1.n = t.n := by
  unfold LC.applyGate at e
  split at e
  · rename_i hq
    unfold GoodName
    split at e
    case h_8 => cases e
    all_goals
      cases e
      exact ⟨by simp, hq, rfl⟩
  · cases e

/-! ### string-named gates as `Gate`s, and a run of them as `run_circuit` -/

theorem toGate_act (g : String × Nat) : (toGate g).act = gateRow g.1 g.2 := by
  obtain ⟨nm, q⟩ := g
  show (toGate (nm, q)).act = gateRow nm q
  unfold toGate gateRow
  simp only []
  split <;> (try rename_i h) <;> first
    | (subst h; rfl)
    | (split <;> first | rfl | (rename_i h'; exact absurd h' (by assumption)) | (simp_all))

theorem toGate_wf (n : Nat) (g : String × Nat) (hq : g.2 < n) : (toGate g).WF n := by
  unfold toGate
  split <;> first | exact hq | trivial

theorem toGates_wf (n : Nat) (L : List (String × Nat)) (hq : ∀ g, g ∈ L → g.2 < n) : ∀ g, g ∈ L.map toGate → g.WF n := by
  intro g hg
  obtain ⟨g0, h0, rfl⟩ := List.mem_map.mp hg
  exact toGate_wf n g0 (hq g0 h0)

theorem actCirc_toGate (L : List (String × Nat)) (p : PRow) :
    actCirc (L.map toGate) p = L.foldl (fun p g => gateRow g.1 g.2 p) p := by
  unfold actCirc
  rw [List.foldl_map]
  simp only [toGate_act]

theorem applyGate_eq_map (t : Tab) (g : String × Nat) (hname : GoodName g.1) (hq : g.2 < t.n) :
    applyGate t g.1 g.2 = .ok (t.map (toGate g).act) := by
  obtain ⟨t1, e1, n1, r1⟩ := applyGate_rows t g.1 g.2 hq hname
  have hrow : t1.row = (t.map (toGate g).act).row := by
    funext r
    rw [r1 r, toGate_act]; rfl
  cases t1; cases t
  simp only [Tab.map] at hrow n1 ⊢
  subst n1; subst hrow; exact e1

/-- a run succeeds exactly on known names and qubits in range, and is then `run_circuit` on the corresponding `Gate`s -/
theorem runGates_iff (t t' : Tab) (L : List (String × Nat)) :
    runGates t L = .ok t' ↔ (∀ g ∈ L, GoodName g.1 ∧ g.2 < t.n) ∧ t' = t.runCircuit (L.map toGate) := by
  -- `runCircuit` is unfolded once, and `norm_n` rewritten in `ih`: left to unification in the step, either is slow to check
  show _ ↔ _ ∧ t' = (L.map toGate).foldl (fun acc g => (acc.map g.act).norm) t
  induction L generalizing t with
  | nil => exact ⟨fun e => ⟨fun _ h => (nomatch h), (Except.ok.inj e).symm⟩, fun h => h.2 ▸ rfl⟩
  | cons g rest ih =>
    have ih' := ih (t.map (toGate g).act).norm
    rw [Tab.norm_n] at ih'
    simp only [List.forall_mem_cons, List.map_cons, List.foldl_cons]
    constructor
    · intro e
      unfold runGates at e
      split at e
      · cases e
      · rename_i t1 e1
        obtain ⟨hname, hq, _⟩ := applyGate_ok t t1 g.1 g.2 e1
        cases (applyGate_eq_map t g hname hq).symm.trans e1
        exact ⟨⟨⟨hname, hq⟩, (ih'.mp e).1⟩, (ih'.mp e).2⟩
    · intro ⟨⟨⟨hname, hq⟩, h⟩, e⟩
      unfold runGates
      rw [applyGate_eq_map t g hname hq]
      exact ih'.mpr ⟨h, e⟩

theorem runGates_eq_runCircuit (t : Tab) (L : List (String × Nat)) (hL : ∀ g ∈ L, GoodName g.1 ∧ g.2 < t.n) :
    runGates t L = .ok (t.runCircuit (L.map toGate)) :=
  (runGates_iff t _ L).mpr ⟨hL, rfl⟩

theorem runGates_rows (t : Tab) (gates : List (String × Nat)) (hg : ∀ g ∈ gates, GoodName g.1 ∧ g.2 < t.n) :
    ∃ t', runGates t gates = .ok t' ∧ t'.n = t.n ∧ ∀ r, r < 2 * t.n →
      SameBits t.n (t'.row r) (gates.foldl (fun p g => gateRow g.1 g.2 p) (t.row r)) ∧
      (t'.row r).ip = (t.row r).ip := by
  obtain ⟨hn, hrows⟩ := Tab.runCircuit_rows t.n _ (toGates_wf t.n gates fun g h => (hg g h).2) t rfl
  refine ⟨_, (runGates_iff t _ gates).mpr ⟨hg, rfl⟩, hn, fun r hr => ?_⟩
  have h := hrows r hr
  exact ⟨actCirc_toGate gates _ ▸ h.1, h.2.2.trans (STab.actCirc_ip _ _)⟩

/-! ### the gate list of `converter_gate_list` for a valid `Q` -/

/-- the gate list `converter_gate_list` builds from the names of `local_clifford_ops`, numbering the qubits from `k` -/
def gatesFrom (names : List (List String)) (k : Nat) : List (String × Nat) :=
  (names.zipIdx k).flatMap fun (ops, i) => ops.reverse.map fun o => (o, i)

/-- the gate list of `converter_gate_list` before the phase correction -/
def qGates (n : Nat) (v : List Bool) : List (String × Nat) := gatesFrom (localCliffordOps n v) 0

theorem filterMap_range_all_some {α : Type} (f : Nat → Option α) (g : Nat → α) (n : Nat)
    (h : ∀ i, i < n → f i = some (g i)) : (List.range n).filterMap f = (List.range n).map g := by
  induction n with
  | zero => rfl
  | succ n ih =>
    rw [List.range_succ, List.filterMap_append, List.map_append, ih (fun i hi => h i (by omega))]
    simp [h n (by omega)]

theorem blockOps_isSome_of_valid (n : Nat) (v : List Bool) (hv : isValidClifford n v = true) (i : Nat) (hi : i < n) :
    ∃ ops, blockOps (vget v (4 * i)) (vget v (4 * i + 1)) (vget v (4 * i + 2)) (vget v (4 * i + 3)) = some ops := by
  have hd := (isValidClifford_iff n v).mp hv i hi
  unfold detQ at hd
  have := blockOps_complete (vget v (4 * i)) (vget v (4 * i + 1)) (vget v (4 * i + 2)) (vget v (4 * i + 3))
  rw [hd] at this
  exact Option.isSome_iff_exists.mp this

theorem blockOps_names_good (a b c d : Bool) (ops : List String) (h : blockOps a b c d = some ops) :
    ∀ o ∈ ops, GoodName o := by
  cases a <;> cases b <;> cases c <;> cases d <;> simp [blockOps] at h <;> subst h <;> intro o ho <;>
    simp at ho <;> (rcases ho with rfl | rfl | rfl | rfl <;> simp [GoodName]) 

/-- the word of block `i` of a solution vector as `local_clifford_ops` writes it (empty for a singular block) -/
def wordOf (v : List Bool) (i : Nat) : List String :=
  (blockOps (vget v (4 * i)) (vget v (4 * i + 1)) (vget v (4 * i + 2)) (vget v (4 * i + 3))).getD []

theorem wordOf_spec (n : Nat) (v : List Bool) (hv : isValidClifford n v = true) (i : Nat) (hi : i < n) :
    blockOps (vget v (4 * i)) (vget v (4 * i + 1)) (vget v (4 * i + 2)) (vget v (4 * i + 3)) = some (wordOf v i) := by
  obtain ⟨ops, e⟩ := blockOps_isSome_of_valid n v hv i hi
  unfold wordOf
  rw [e]
  rfl

/-- **for a valid `Q` the gate list is the word of every block, qubit by qubit** (no block is skipped, so the enumeration of
    `local_clifford_ops`' output numbers the qubits) -/
theorem qGates_eq (n : Nat) (v : List Bool) (hv : isValidClifford n v = true) :
    qGates n v = (List.range n).flatMap fun i => (wordOf v i).reverse.map fun o => (o, i) := by
  have e : localCliffordOps n v = (List.range n).map (wordOf v) :=
    filterMap_range_all_some _ _ n (wordOf_spec n v hv)
  have hz : ((List.range n).map (wordOf v)).zipIdx = (List.range n).map fun i => (wordOf v i, i) := by
    apply List.ext_getElem
    · simp
    · intro i h1 h2
      simp
  unfold qGates gatesFrom
  rw [e, hz, List.flatMap_map]

theorem qGates_good (n : Nat) (v : List Bool) (hv : isValidClifford n v = true) :
    ∀ g ∈ qGates n v, GoodName g.1 ∧ g.2 < n := by
  intro g hg
  rw [qGates_eq n v hv, List.mem_flatMap] at hg
  obtain ⟨i, hi, hg⟩ := hg
  obtain ⟨o, ho, rfl⟩ := List.mem_map.mp hg
  have hi' := List.mem_range.mp hi
  exact ⟨blockOps_names_good _ _ _ _ _ (wordOf_spec n v hv i hi') o (List.mem_reverse.mp ho), hi'⟩

theorem qGates_act (n : Nat) (v : List Bool) (hv : isValidClifford n v = true) (p : PRow) :
    SameBits n ((qGates n v).foldl (fun p g => gateRow g.1 g.2 p) p) (actQ (vget v) p) := by
  rw [qGates_eq n v hv, List.foldl_flatMap]
  have hstep : ∀ (p' : PRow) (i : Nat), ((wordOf v i).reverse.map fun o => (o, i)).foldl (fun p g => gateRow g.1 g.2 p) p' =
      applyNames (wordOf v i) i p' := fun p' i => by rw [List.foldl_map]; rfl
  simp only [hstep]
  -- after the words of the qubits `< i` exactly those qubits carry the image under `Q`
  have key := Loop.foldl_range (n := n) (f := fun p' i => applyNames (wordOf v i) i p')
    (fun i p' => ∀ j, (j < i → p'.z j = (actQ (vget v) p).z j ∧ p'.x j = (actQ (vget v) p).x j) ∧
      (i ≤ j → p'.z j = p.z j ∧ p'.x j = p.x j))
    (fun i p' hi h j => by
      obtain ⟨a1, a2, a3⟩ := blockOps_action _ _ _ _ _ (wordOf_spec n v hv i hi) i p'
      by_cases e : j = i
      · subst e
        refine ⟨fun _ => ?_, fun h' => by omega⟩
        rw [a1, a2, ((h j).2 (Nat.le_refl _)).1, ((h j).2 (Nat.le_refl _)).2]
        exact ⟨rfl, rfl⟩
      · rw [(a3 j e).1, (a3 j e).2]
        exact ⟨fun h' => (h j).1 (by omega), fun h' => (h j).2 (by omega)⟩)
    (fun j => ⟨fun h' => by omega, fun _ => ⟨rfl, rfl⟩⟩)
  exact fun j hj => ⟨((key j).1 hj).2, ((key j).1 hj).1⟩

theorem sp_image_is_equation (n : Nat) (A B : Adj) (hA : Simple n A) (hB : Simple n B) (v : List Bool)
    (hv : isValidClifford n v = true) (i k : Nat) (hi : i < n) (hk : k < n) :
    sp n (graphGen B k) ((qGates n v).foldl (fun p g => gateRow g.1 g.2 p) (graphGen A i)) =
      equation n A B (vget v) i k := by
  rw [equation_eq_sp n A B hA hB _ i k hi hk]
  exact sp_congr n _ _ _ _ (sameBits_refl n _) (qGates_act n v hv _)

/-- **the gates of a valid `Q` map the graph state of `A` to the graph state of `B` up to signs**: the gate list runs
    without exception on the graph-state tableau of `A`; the result is a valid tableau with Hermitian stabilizers; and every
    generator `K_k(B)` commutes with all of its stabilizers (that is exactly equation `(i, k)` of the linear system), so `K_k(B)`
    or `−K_k(B)` lies in its stabilizer group (maximality of the group of a valid tableau) -/
theorem gates_map_state_up_to_signs (n : Nat) (A B : Adj) (hA : Simple n A) (hB : Simple n B) (v : List Bool)
    (hq : ∀ j k, j < n → k < n → equation n A B (vget v) j k = false) (hv : isValidClifford n v = true) :
    ∃ t, runGates (graphTab n A) (qGates n v) = .ok t ∧ t.n = n ∧ t.Valid ∧ t.StabReal ∧
      ∀ k, k < n → Grp t (graphGen B k) ∨ Grp t (negate (graphGen B k)) := by
  obtain ⟨t, e, hn, hrows⟩ := runGates_rows (graphTab n A) (qGates n v) (qGates_good n v hv)
  have hn' : t.n = n := hn
  obtain ⟨_, hval⟩ := runGates_spec (graphTab n A) t (qGates n v) (graphTab_valid n A hA) e
  have hreal : t.StabReal := by
    intro i h1 h2
    rw [hn'] at h1 h2
    rw [(hrows i h2).2]
    exact graphTab_ip n A i
  refine ⟨t, e, hn', hval, hreal, fun k hk => ?_⟩
  apply grp_maximal t hval hreal (graphGen B k) rfl
  intro i hi
  rw [hn'] at hi ⊢
  have hb := (hrows (i + n) (by show i + n < 2 * n; omega)).1
  have : t.stab i = t.row (i + n) := by show t.row (i + t.n) = _; rw [hn']
  rw [this, sp_congr n _ _ _ _ (sameBits_refl n _) hb, graphTab_stab, sp_image_is_equation n A B hA hB v hv i k hi hk]
  exact hq i k hi hk

end Graphiq.LC
