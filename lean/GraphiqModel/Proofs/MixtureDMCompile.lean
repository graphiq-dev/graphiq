/-
  Proofs/MixtureDMCompile.lean — C06 (c) at the Hilbert-space level for whole circuits, every number of qubits.

  The Hilbert-space semantics `actH` of one compile action (what the density-matrix backend does: a gate is `U ρ U†`, a Pauli
  error `P ρ P†`, depolarizing noise `(1−p) ρ + p/3 (XρX + YρY + ZρZ)`, photon loss `(1−λ) ρ`) and its fold `runH` over an
  action trace;  `compileStab_mixRho`: for a measurement-free circuit on existing qubits with depolarizing
  probabilities in `[0,1]`, whenever `StabilizerCompiler.compile` returns, the placement tree produced a trace `tr` and

      Σ_k w_k ρ(T_k)  =  runH tr |0…0⟩⟨0…0|

  for the mixture `[(w_k, T_k)]` it returns.
-/
import GraphiqModel.Proofs.MixtureDM
namespace Graphiq
namespace MixDM
open Matrix Hilbert Noise

/-! ### Hilbert-space semantics of the compile actions -/

/-- the unitary gate of a measurement-free operation (`none`: measurement, classically controlled, unsupported) -/
def opGate (np : Nat) (op : COp) : Option Gate :=
  match op.kind with
  | .input | .output | .identity => some (.I (qIndex np op.r1 op.t1))
  | .h => some (.H (qIndex np op.r1 op.t1))
  | .s => some (.P (qIndex np op.r1 op.t1))
  | .sdg => some (.Pdag (qIndex np op.r1 op.t1))
  | .x => some (.X (qIndex np op.r1 op.t1))
  | .y => some (.Y (qIndex np op.r1 op.t1))
  | .z => some (.Z (qIndex np op.r1 op.t1))
  | .cnot => some (.CNOT (qIndex np op.r1 op.t1) (qIndex np op.r2 op.t2))
  | .cz => some (.CZ (qIndex np op.r1 op.t1) (qIndex np op.r2 op.t2))
  | _ => none

noncomputable def gateH (np n : Nat) (op : COp) (ρ : HMat n) : HMat n :=
  match opGate np op with
  | some g => conjH (gateMat n g) ρ
  | none => ρ

noncomputable def noiseH (n : Nat) (nm : NoiseM) (q : Nat) (ρ : HMat n) : HMat n :=
  match nm with
  | .depol p _ => depolH n q p ρ
  | .pauli k _ => pauliH n q k ρ
  | .loss r _ => ((1 - r : ℚ) : ℂ) • ρ
  | _ => ρ

noncomputable def actH (np n : Nat) (arr : Array COp) (a : Act) (ρ : HMat n) : HMat n :=
  match a with
  | .gate k => gateH np n (arr.getD k { kind := .identity }) ρ
  | .noise _ _ q nm => noiseH n nm q ρ
  | .replace _ => ρ

/-- an action trace, first action first -/
noncomputable def runH (np n : Nat) (arr : Array COp) : List Act → HMat n → HMat n
  | [], ρ => ρ
  | a :: as, ρ => runH np n arr as (actH np n arr a ρ)

theorem runH_append (np n : Nat) (arr : Array COp) (a b : List Act) (ρ : HMat n) :
    runH np n arr (a ++ b) ρ = runH np n arr b (runH np n arr a ρ) := by
  induction a generalizing ρ with
  | nil => rfl
  | cons x xs ih => exact ih _

theorem runH_foldl (np n : Nat) (arr : Array COp) : ∀ (tr : List Act) (R : HMat n),
    tr.foldl (fun R a => actH np n arr a R) R = runH np n arr tr R
  | [], _ => rfl
  | _ :: as, _ => runH_foldl np n arr as _

/-! ### side conditions -/

/-- measurement-free operation: one-qubit gate or CNOT / CZ -/
def MFree (op : COp) : Prop := op.kind.isOneQubit = true ∨ op.kind.isCtrlPair = true

def ParamOK : NoiseM → Prop
  | .depol p _ => 0 ≤ p ∧ p ≤ 1
  | _ => True

/-- the operations clause (c) speaks about: existing qubits (control ≠ target), no measurement, probabilities in `[0,1]` -/
structure OpOK (n np : Nat) (op : COp) : Prop where
  wf : OpWF n np op
  mfree : MFree op
  p0 : ParamOK op.n0
  p1 : ParamOK op.n1

theorem OpOK.noise {n np : Nat} {op : COp} (h : OpOK n np op) :
    (qIndex np op.r1 op.t1 < n ∧ ParamOK op.n0) ∧
    (op.kind.isCtrlPair = true → qIndex np op.r2 op.t2 < n ∧ ParamOK op.n1) :=
  ⟨⟨h.wf.1, h.p0⟩, fun hc => ⟨h.wf.2.1 (Or.inl hc), h.p1⟩⟩

/-! ### one gate -/

theorem opGate_wf (n np : Nat) (op : COp) (hw : OpWF n np op) (g : Gate) (h : opGate np op = some g) : g.WF n := by
  unfold opGate at h
  cases hk : op.kind <;> simp only [hk] at h <;> first
    | (injection h with h; subst h; exact hw.1)
    | (injection h with h; subst h; trivial)
    | (injection h with h; subst h
       exact ⟨hw.1, hw.2.1 (Or.inl (by simp [hk, Kind.isCtrlPair])), hw.2.2 (by simp [hk, Kind.isCtrlPair])⟩)
    | cases h

/-- **the stabilizer backend on a measurement-free operation**: `Identity` leaves the state alone; a gate of the table maps its
    row rule over every branch when its qubits exist and raises the assertion otherwise -/
theorem stabGate_eq (np n : Nat) (det : Bool) (op : COp) (hf : MFree op) (hk : op.kind ≠ .param) (s : StabSt) :
    ∃ g, opGate np op = some g ∧
      stabGate np n det op s =
        if op.kind = .identity then .ok s
        else if qIndex np op.r1 op.t1 < n ∧ (op.kind.isCtrlPair = true → qIndex np op.r2 op.t2 < n) then
          .ok { s with mix := Mix.mapTab (fun t => t.map g.act) s.mix }
        else .error .assertion := by
  have one : ∀ f : Tab → Tab, stabMap1 n (qIndex np op.r1 op.t1) f s =
      if qIndex np op.r1 op.t1 < n ∧ (false = true → qIndex np op.r2 op.t2 < n) then
        .ok { s with mix := Mix.mapTab f s.mix } else .error .assertion := by
    intro f; unfold stabMap1; simp only [Bool.false_eq_true, false_imp_iff, and_true]
  have two : ∀ f : Tab → Tab, stabMap2 n (qIndex np op.r1 op.t1) (qIndex np op.r2 op.t2) f s =
      if qIndex np op.r1 op.t1 < n ∧ (true = true → qIndex np op.r2 op.t2 < n) then
        .ok { s with mix := Mix.mapTab f s.mix } else .error .assertion := by
    intro f; unfold stabMap2; simp only [true_imp_iff]
  unfold MFree at hf
  unfold stabGate opGate
  cases hkk : op.kind
  case identity => exact ⟨_, rfl, (if_pos rfl).symm⟩
  case h | s | sdg | x | y | z => exact ⟨_, rfl, (one _).trans (if_neg (by decide)).symm⟩
  case cnot | cz => exact ⟨_, rfl, (two _).trans (if_neg (by decide)).symm⟩
  case param => exact absurd hkk hk
  all_goals rcases hf with hf | hf <;> rw [hkk] at hf <;> cases hf

/-- a returning measurement-free operation either left the state alone (`Identity`) or, its qubits existing, mapped the row
    rule of its gate over every branch -/
theorem stabGate_mfree (np n : Nat) (det : Bool) (op : COp) (hf : MFree op) (s s' : StabSt)
    (h : stabGate np n det op s = .ok s') :
    (s' = s ∧ opGate np op = some (.I (qIndex np op.r1 op.t1))) ∨
    ∃ g, opGate np op = some g ∧ s' = { s with mix := Mix.mapTab (fun t => t.map g.act) s.mix } ∧
      ((op.kind.isCtrlPair = true → qIndex np op.r1 op.t1 ≠ qIndex np op.r2 op.t2) → g.WF n) := by
  by_cases hk : op.kind = .param
  · unfold stabGate at h
    simp only [hk] at h
    cases h
  obtain ⟨g, hg, e⟩ := stabGate_eq np n det op hf hk s
  rw [e] at h
  split at h
  · next hi =>
    cases h
    exact Or.inl ⟨rfl, by unfold opGate; rw [hi]⟩
  · split at h
    · next hq =>
      cases h
      refine Or.inr ⟨g, hg, rfl, fun hne => opGate_wf n np op ⟨hq.1, fun hc => ?_, hne⟩ g hg⟩
      rcases hc with hc | hc
      · exact hq.2 hc
      · rcases hf with hf | hf
        · exact absurd ⟨hf, hc⟩ (kind_excl2 _)
        · exact absurd ⟨hf, hc⟩ (kind_excl3 _)
    · cases h

/-- **`StabilizerCompiler.compile_one_gate` on a mixture is `U ρ U†`** for every measurement-free operation -/
theorem stabGate_rho (np n : Nat) (det : Bool) (op : COp) (hf : MFree op)
    (hne : op.kind.isCtrlPair = true → qIndex np op.r1 op.t1 ≠ qIndex np op.r2 op.t2)
    (s s' : StabSt) (hm : MixN n s.mix) (h : stabGate np n det op s = .ok s') :
    mixRho n s'.mix = gateH np n op (mixRho n s.mix) := by
  unfold gateH
  rcases stabGate_mfree np n det op hf s s' h with ⟨rfl, hg⟩ | ⟨g, hg, rfl, hwf⟩
  · rw [hg]
    exact (conjH_one _).symm
  · rw [hg]
    exact mixRho_mapGate n g (hwf hne) _ hm

theorem stabGate_mixRho (np n : Nat) (det : Bool) (op : COp) (hf : MFree op)
    (hne : op.kind.isCtrlPair = true → qIndex np op.r1 op.t1 ≠ qIndex np op.r2 op.t2)
    (s s' : StabSt) (hm : MixN n s.mix) (h : stabGate np n det op s = .ok s') :
    mixRho n s'.mix = gateH np n op (mixRho n s.mix) ∧ MixN n s'.mix :=
  ⟨stabGate_rho np n det op hf hne s s' hm h, stabGate_all (size_closed n) np det op hne s s' hm h⟩

/-! ### one noise application -/

/-- **every additive noise model on a mixture is its channel on `Σ w_k ρ(T_k)`** -/
theorem applyNoise_rho (n q : Nat) (hq : q < n) (nm : NoiseM) (hp : ParamOK nm) (m m' : Mixture) (hm : MixN n m)
    (h : Mix.applyNoise nm q m = .ok m') : mixRho n m' = noiseH n nm q (mixRho n m) := by
  cases nm with
  | none => simp [Mix.applyNoise] at h; subst h; rfl
  | depol p a => exact mixRho_depolarize n q hq p hp.1 hp.2 m m' hm h
  | pauli k a => exact mixRho_pauliError n q hq k m m' hm h
  | loss r a =>
    simp [Mix.applyNoise] at h; subst h
    exact mixRho_photonLoss n r m
  | replace => simp [Mix.applyNoise] at h
  | other => simp [Mix.applyNoise] at h

theorem applyNoise_mixRho (n q : Nat) (hq : q < n) (nm : NoiseM) (hp : ParamOK nm) (m m' : Mixture) (hm : MixN n m)
    (h : Mix.applyNoise nm q m = .ok m') : mixRho n m' = noiseH n nm q (mixRho n m) ∧ MixN n m' :=
  ⟨applyNoise_rho n q hq nm hp m m' hm h, applyNoise_all ((size_closed n).pauli hq) nm m m' hm h⟩

/-! ### actions, traces, the compile loop -/

theorem stabAct_mixRho (np n : Nat) (det : Bool) (arr : Array COp) (s s' : StabSt) (a : Act)
    (ha : ActP (OpOK n np) (fun q nm => q < n ∧ ParamOK nm) arr a)
    (hm : MixN n s.mix) (h : stabAct np n det arr s a = .ok s') :
    mixRho n s'.mix = actH np n arr a (mixRho n s.mix) := by
  cases a with
  | gate k =>
    simp only [stabAct] at h
    show mixRho n s'.mix = gateH np n (arr.getD k { kind := .identity }) (mixRho n s.mix)
    refine stabGate_rho np n det _ ?_ ?_ s s' hm h
    · cases hk : arr[k]? with
      | none => rw [getD_none arr k hk]; exact Or.inl rfl
      | some op => rw [getD_some arr k op hk]; exact (ha op hk).mfree
    · cases hk : arr[k]? with
      | none => rw [getD_none arr k hk]; simp [Kind.isCtrlPair]
      | some op => rw [getD_some arr k op hk]; exact (ha op hk).wf.2.2
  | noise k side q nm =>
    obtain ⟨m', hn, rfl⟩ := stabAct_noise_inv h
    exact applyNoise_rho n q ha.1 nm ha.2 s.mix m' hm hn
  | replace k => simp [stabAct] at h

/-- the initial state of both compilers: `|0…0⟩⟨0…0|` -/
noncomputable def rho0 (n : Nat) : HMat n := rho n (STab.zero n)

theorem mixRho_init (n : Nat) : mixRho n [(1, (Tab.ket0 n).norm)] = rho0 n := by
  rw [mixRho_cons, mixRho_nil, tabRho_norm n _ rfl]
  show ((1 : ℚ) : ℂ) • rho n (STab.ofTab (Tab.ket0 n)) + 0 = rho0 n
  rw [rho_ket0]
  simp [rho0]

/-- **C06 (c), Hilbert level, every circuit and every number of qubits.**  For a measurement-free circuit on existing qubits
    with depolarizing probabilities in `[0,1]` (any Pauli errors, any loss rates, either placement): whenever
    `StabilizerCompiler.compile` returns the mixture `[(w_k, T_k)]`, the placement tree produced a trace `tr`, and

        Σ_k w_k ρ(T_k) = runH tr (|0…0⟩⟨0…0|),

    the result of applying to the initial state, action by action, what the density-matrix backend applies. -/
theorem compileStab_mixRho (ns : Bool) (ne np nc : Nat) (det : Bool) (ops : List COp)
    (hw : ∀ op ∈ ops, OpOK (ne + np) np op) (s : StabSt) (h : compileStab ns ne np nc det ops = .ok s) :
    ∃ tr, compileTrace ns .stab np ops = .ok tr ∧
      mixRho (ne + np) s.mix = runH np (ne + np) ops.toArray tr (rho0 (ne + np)) ∧ MixN (ne + np) s.mix := by
  obtain ⟨_, tr, htr, hrun⟩ := stabGo_run.1 h
  refine ⟨tr, htr, ?_⟩
  have := runActs_sim (actH np (ne + np) ops.toArray) (fun s R => mixRho (ne + np) s.mix = R ∧ MixN (ne + np) s.mix) _
    (fun s s' a R ha hr hs => by
      refine ⟨by rw [stabAct_mixRho np (ne + np) det ops.toArray s s' a ha hr.2 hs, hr.1], ?_⟩
      exact stabAct_all (size_closed (ne + np)) np det ops.toArray s s' a
        (ha.mono (fun _ h => h.wf) (fun _ _ h => h.1)) hr.2 hs)
    tr _ s (rho0 (ne + np))
    (trace_actP (toArray_forall hw) (fun op ho => (hw op ho).noise) htr)
    ⟨mixRho_init _, fun x hx => by simp only [List.mem_singleton] at hx; subst hx; rfl⟩ hrun
  rwa [runH_foldl] at this

/-! ### clause (a) for whole circuits -/

/-- the action trace clause (a) asks for: per operation, the noise that asks for "before", the gate, the noise that asks for
    "after" -/
def wantedAll (np : Nat) : List COp → Nat → List Act
  | [], _ => []
  | op :: rest, k => wanted np op k false ++ [Act.gate k] ++ wanted np op k true ++ wantedAll np rest (k + 1)

theorem traceGo_supported (be : Backend) (np : Nat) : ∀ (ops : List COp) (k : Nat), (∀ op ∈ ops, Supported op) →
    traceGo true be np ops k = .ok (wantedAll np ops k)
  | [], _, _ => rfl
  | op :: rest, k, h => by
    simp only [traceGo, wantedAll]
    rw [placeOp_supported be np op k (h op List.mem_cons_self),
      traceGo_supported be np rest (k + 1) (fun o ho => h o (List.mem_cons_of_mem _ ho))]

end MixDM
end Graphiq
