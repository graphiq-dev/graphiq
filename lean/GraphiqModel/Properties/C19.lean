/-
  C19 — random-search solvers are reproducible and report honest, ordered results.

  Property theorems (helper lemmas live in Proofs/Evo.lean; the model in Model/Evo.lean mirrors
  `RandomSearchSolver.update_hof`, `.tournament_selection`, `EvolutionarySolver.solve`'s generation loop — shared by
  `HybridEvolutionarySolver` — with an explicit heap of mutable circuit objects).

  Reading guide.
  * Everything in §1–§3 is for **all** heaps, halls of fame, populations, configurations (`n_hof`, `n_pop`, `n_stop`,
    tournament size, selection on/off, adaptive on/off), parameter sets (transformations, metric, node count) and draw
    streams; theorems about whole runs are by induction over generations.
  * "Sorted" needs care because `update_hof` compares with `np.isclose`.  Unconditionally, the hall of fame is sorted *up
    to the tolerance between neighbours* (`SortedTol`), and one insertion moves the best score by at most the tolerance.
    The literal reading of the property ("non-decreasing", "never gets worse") is *false* for adversarial scores that
    drift by less than the tolerance per step (`literal_order_refuted`); it is *true at the level of isclose classes*
    whenever `isclose` is an equivalence compatible with `<` on the scores that occur (`Coherent`) — the situation of
    every metric of the library (clusters far narrower than, and much farther apart than, the tolerance).  The driver
    evaluates `coherentOn` on the scores of every replayed run.
  * "Stored score = metric of the stored circuit" is a heap-separation invariant: population circuits are mutated in
    place, so it holds because `update_hof` stores copies and selection deep-copies.  It presupposes that the metric is a
    function of the circuit (forced measurement outcomes); the harness re-evaluates every stored entry.
  * "All settings": `solve` returns exactly on the well-formed configurations — `solve_returns_on_wellformed_configurations`
    (`0 < n_hof ≤ n_pop`, finite metric, valid draws) and `hof_larger_than_population_never_returns` — so the theorems with
    hypothesis `solve … = .ok …` are not vacuous for any such configuration.
  * Beyond the clauses of the property, the same machinery gives: the hall of fame keeps the best of everything evaluated,
    ties are ordered by node count, the tournament winner is the first minimum, `adapt_probabilities` always yields a
    probability vector, `SolverResult.sort_by` is a stable sort of intact rows.
  * Reproducibility: in the model a run *is* a function of the configuration and the consumed draws
    (`run_is_function_of_consumed_draws`).  Independence from the ambient process state (hash order of `set`s) cannot be
    derived for the real transformations; it is the hypothesis of `reproducible_partial`, tested by the harness with
    different `PYTHONHASHSEED`s (see `reproducible_partial`).
-/
import GraphiqModel.Proofs.Evo
namespace Graphiq.C19
open Graphiq Graphiq.Evo

variable {C D : Type}

/-! ## 1. `update_hof` -/

/-- `update_hof` never changes the number of entries and never invents a score: for **every** heap, hall of fame
    (of length `n_hof`) and population, each entry afterwards is an old entry or carries the score of a population
    member. -/
theorem update_hof_keeps_length (t : Tol) (size : C → Nat) (nHof : Nat) (pop : List PopEntry) (h h' : Heap C)
    (hof hof' : List HofEntry) (hlen : hof.length = nHof)
    (hres : updateHof t size nHof h hof pop = .ok (h', hof')) :
    hof'.length = nHof ∧ ∀ x ∈ hof', x ∈ hof ∨ ∃ e ∈ pop, x.score = e.score :=
  updateHof_length_mem t size nHof pop hlen hres

/-- **Order.**  If the hall of fame is ordered up to the isclose tolerance between neighbours, it is so after
    `update_hof`, whatever the population. -/
theorem update_hof_keeps_sorted (P : Params C D) (t : Tol) (nHof : Nat) (pop : List PopEntry) (h h' : Heap C)
    (hof hof' : List HofEntry) (hinv : HofInv P t h hof) (hlen : hof.length = nHof)
    (hpop : ∀ e ∈ pop, PopHonest P h e) (hres : updateHof t P.size nHof h hof pop = .ok (h', hof')) :
    SortedTol t hof' :=
  (updateHof_inv P t nHof pop hinv hpop hres).sorted

/-- **Stores copies.**  After `update_hof` every circuit object referenced by the hall of fame is one it referenced
    before or an object allocated by this call (`circuit.copy()`): it is never an object of the population, the objects
    of different entries are pairwise distinct, and no pre-existing object is modified (`Ext`). -/
theorem update_hof_stores_copies (P : Params C D) (t : Tol) (nHof : Nat) (pop : List PopEntry) (h h' : Heap C)
    (hof hof' : List HofEntry) (hinv : HofInv P t h hof) (hlen : hof.length = nHof)
    (hpop : ∀ e ∈ pop, PopHonest P h e) (hres : updateHof t P.size nHof h hof pop = .ok (h', hof')) :
    Ext h h' ∧ (hofRefs hof').Nodup ∧
    (∀ r ∈ hofRefs hof', r ∈ hofRefs hof ∨ (h.size ≤ r ∧ r < h'.size)) ∧
    (∀ r ∈ hofRefs hof', r ∉ hofRefs hof → r ∉ popRefs pop) := by
  obtain ⟨u2, u4⟩ := updateHof_refs t P.size nHof pop hres
  refine ⟨u2, (updateHof_inv P t nHof pop hinv hpop hres).nodup, u4, ?_⟩
  intro r hr hnew hm
  rcases u4 r hr with hold | ⟨hfresh, _⟩
  · exact hnew hold
  · obtain ⟨e, he, rfl⟩ := mem_popRefs.mp hm
    obtain ⟨c, hc, _⟩ := hpop e he
    have := (Heap.get?_some_iff_lt h e.circ).mp ⟨c, hc⟩
    omega

/-- **Honest.**  If every stored score is the metric of its stored circuit before, and the population's scores are the
    metric of the population's circuits, then every stored score is the metric of its stored circuit afterwards. -/
theorem update_hof_keeps_honest (P : Params C D) (t : Tol) (nHof : Nat) (pop : List PopEntry) (h h' : Heap C)
    (hof hof' : List HofEntry) (hinv : HofInv P t h hof) (hlen : hof.length = nHof)
    (hpop : ∀ e ∈ pop, PopHonest P h e) (hres : updateHof t P.size nHof h hof pop = .ok (h', hof')) :
    ∀ e ∈ hof', HofEntryHonest P h' e :=
  (updateHof_inv P t nHof pop hinv hpop hres).honest

/-- **Best score, one member (unconditional).**  Processing one `(score, circuit)` either keeps the first entry — and then
    `score` is not better than it beyond the tolerance — or makes the new member the first entry — and then `score` is
    smaller than, or isclose to, the old best. -/
theorem update_hof_best_one_member (t : Tol) (size : C → Nat) (nHof : Nat) (h h' : Heap C) (hof hof' : List HofEntry)
    (e : PopEntry) (hlen : hof.length = nHof) (hres : updateHofOne t size nHof h hof e = .ok (h', hof')) :
    ∀ a b, hof[0]? = some a → hof'[0]? = some b →
      (b = a ∧ (e.score.isclose t a.score = true ∨ e.score.lt a.score = false)) ∨
      (b.score = e.score ∧ (e.score.isclose t a.score = true ∨ e.score.lt a.score = true)) :=
  (updateHofOne_head hlen hres).2.2

/-- **Best score never gets worse, and the best entry is at least as good as everything just evaluated** — exact
    statement on isclose classes, for coherent scores. -/
theorem update_hof_best_never_worse (t : Tol) (S : Score → Prop) (hc : Coherent t S) (size : C → Nat) (nHof : Nat)
    (pop : List PopEntry) (h h' : Heap C) (hof hof' : List HofEntry) (hlen : hof.length = nHof)
    (hS : ∀ x ∈ hof, S x.score) (hSp : ∀ e ∈ pop, S e.score)
    (hres : updateHof t size nHof h hof pop = .ok (h', hof')) :
    ∀ a b, hof[0]? = some a → hof'[0]? = some b →
      ClsLe t b.score a.score ∧ ∀ e ∈ pop, ClsLe t b.score e.score :=
  updateHof_head t S hc size nHof pop hlen hS hSp hres

/-- **Ordered by non-decreasing score (class level).**  For coherent scores a tolerance-sorted hall of fame is sorted:
    entry `i` is in a class not above entry `j` for all `i < j`. -/
theorem sorted_means_nondecreasing (t : Tol) (S : Score → Prop) (hc : Coherent t S) (hof : List HofEntry)
    (hS : ∀ e ∈ hof, S e.score) (hs : SortedTol t hof) (i j : Nat) (hij : i < j) (a b : HofEntry)
    (ha : hof[i]? = some a) (hb : hof[j]? = some b) : ClsLe t a.score b.score := by
  obtain ⟨d, rfl⟩ : ∃ d, j = i + d + 1 := ⟨j - i - 1, by omega⟩
  clear hij
  have hSa : S a.score := hS a (List.mem_of_getElem? ha)
  induction d generalizing b with
  | zero => exact (hs i a b ha hb).clsLe hc hSa (hS b (List.mem_of_getElem? hb))
  | succ d ih =>
    obtain ⟨m, hm⟩ : ∃ m, hof[i + d + 1]? = some m :=
      ⟨_, List.getElem?_eq_getElem (by have := (List.getElem?_eq_some_iff.mp hb).1; omega)⟩
    have hSm : S m.score := hS m (List.mem_of_getElem? hm)
    have hSb : S b.score := hS b (List.mem_of_getElem? hb)
    exact ClsLe.trans hc hSa hSm hSb (ih m hm) ((hs (i + d + 1) m b hm hb).clsLe hc hSm hSb)

/-- **The hall of fame keeps the best** (class level, coherent scores, `n_hof > 0`): after `update_hof(population)`
    every population member's score is carried by an entry or the last (worst) entry is not above it — nothing strictly
    better than the worst entry is dropped — and every score kept before is still kept. -/
theorem update_hof_keeps_the_best (t : Tol) (S : Score → Prop) (hc : Coherent t S) (size : C → Nat) (nHof : Nat)
    (hn : 0 < nHof) (pop : List PopEntry) (h h' : Heap C) (hof hof' : List HofEntry) (hlen : hof.length = nHof)
    (hS : ∀ x ∈ hof, S x.score) (hSp : ∀ e ∈ pop, S e.score) (hs : SortedTol t hof)
    (hres : updateHof t size nHof h hof pop = .ok (h', hof')) :
    (∀ e ∈ pop, Kept t hof' e.score) ∧ ∀ s, S s → Kept t hof s → Kept t hof' s :=
  updateHof_kept t S hc size nHof hn pop hlen hS hSp hs hres

/-- **Ties are broken by node count** (coherent scores): if neighbouring entries with isclose scores are ordered by
    the node count of their circuits before `update_hof`, they are afterwards. -/
theorem update_hof_orders_ties_by_node_count (P : Params C D) (t : Tol) (S : Score → Prop) (hc : Coherent t S)
    (nHof : Nat) (pop : List PopEntry) (h h' : Heap C) (hof hof' : List HofEntry) (hinv : HofInv P t h hof)
    (hlen : hof.length = nHof) (hpop : ∀ e ∈ pop, PopHonest P h e) (hS : ∀ x ∈ hof, S x.score)
    (hSp : ∀ e ∈ pop, S e.score) (hst : SizeTie t P.size h hof)
    (hres : updateHof t P.size nHof h hof pop = .ok (h', hof')) : SizeTie t P.size h' hof' :=
  updateHof_sizeTie P t S hc nHof pop hinv hlen hpop hS hSp hst hres

/-! ## 2. `tournament_selection` -/

/-- `min(tourn_pop, key=score)` returns a member of the tournament whose score no member beats. -/
theorem tournament_winner_is_minimal (l : List PopEntry) (b : PopEntry) (h : minByScore l = some b) :
    b ∈ l ∧ ∀ x ∈ l, x.score.lt b.score = false :=
  minByScore_spec h

/-- … and it is the **first** such member (Python's `min` keeps the first minimum): every earlier member of the tournament
    is strictly worse. -/
theorem tournament_winner_is_first_minimum (l : List PopEntry) (b : PopEntry) (h : minByScore l = some b) :
    ∃ i : Nat, l[i]? = some b ∧ (∀ (j : Nat) (x : PopEntry), j < i → l[j]? = some x → b.score.lt x.score = true) ∧
      ∀ x ∈ l, x.score.lt b.score = false :=
  minByScore_first h

/-- **Selection deep-copies.**  With tournament size `k > 0`, the selected population has `n_pop` members; every member
    is a *new* object (allocated by this call), the new objects are pairwise distinct, no pre-existing object is
    modified, each member carries the score of some member of the old population, and — if the old population's scores
    were honest — the new ones are. -/
theorem tournament_selection_deep_copies (P : Params C D) (nPop k : Nat) (hk : k ≠ 0) (h h' : Heap C)
    (pop pop' : List PopEntry) (draws : Nat → List Nat) (hpop : ∀ e ∈ pop, PopHonest P h e)
    (hres : tournamentSelection nPop k h pop draws = .ok (h', pop')) :
    Ext h h' ∧ pop'.length = nPop ∧ (popRefs pop').Nodup ∧ (∀ r ∈ popRefs pop', h.size ≤ r ∧ r < h'.size) ∧
    (∀ a ∈ pop', ∃ b ∈ pop, a.score = b.score) ∧ (∀ a ∈ pop', PopHonest P h' a) := by
  unfold tournamentSelection at hres
  simp only [hk, if_false] at hres
  exact tournamentLoop_fresh P hpop hres

/-! ## 3. The generation loop (`solve`) -/

/-- the state after `__init__` + `population_initialization` satisfies the invariant (every population member is its
    own object; the hall of fame is `n_hof` copies of `(inf, None)`) -/
theorem invariant_initially (P : Params C D) (cfg : Cfg) (tp : TransProbs) (init : List C)
    (hlen : init.length = cfg.nPop) : Inv P cfg (initState cfg tp init) := by
  refine ⟨?_, ?_, ?_, ?_, ?_, ⟨?_, ?_, ?_, ?_⟩⟩
  · simp [initState, hlen]
  · simp [initState]
  · intro e he
    simp only [initState, List.mem_map, List.mem_range] at he
    obtain ⟨j, hj, rfl⟩ := he
    simpa [Heap.size, initState] using hj
  · have : popRefs (initState cfg tp init).pop = List.range init.length := by
      simp [initState, popRefs, List.map_map, Function.comp_def]
    rw [this]; exact List.nodup_range
  · intro r hr
    simp [initState, hofRefs] at hr
  · intro r hr
    simp [initState, hofRefs] at hr
  · simp [initState, hofRefs]
  · intro e he
    simp only [initState, List.mem_replicate] at he
    obtain ⟨_, rfl⟩ := he
    simp [HofEntryHonest]
  · intro j a b ha hb
    simp only [initState, List.getElem?_replicate] at ha hb
    split at ha <;> simp at ha
    split at hb <;> simp at hb
    subst ha; subst hb
    exact Or.inl rfl

/-- **One generation keeps the invariant** (lengths, no dangling or shared objects, hall of fame disjoint from the
    population, stored scores honest, order up to tolerance) — for every configuration, selection on or off, adaptive
    probabilities on or off, and every draw. -/
theorem invariant_generation (P : Params C D) (cfg : Cfg) (dr : Draws D) (g : Nat) (s s' : St C)
    (hinv : Inv P cfg s) (hres : generation P cfg dr g s = .ok s') : Inv P cfg s' :=
  (generation_inv P cfg dr g hinv hres).1

/-- what `update_hof` sees in a generation: the same population objects, mutated in place, each with the metric of *its
    own* circuit as score (no member's score was computed from a circuit that another member's mutation then changed);
    and hall-of-fame objects that survive the generation are bit-for-bit untouched by it. -/
theorem generation_population_scores_honest (P : Params C D) (cfg : Cfg) (dr : Draws D) (g : Nat) (s s' : St C)
    (hinv : Inv P cfg s) (hres : generation P cfg dr g s = .ok s') :
    (∃ h1 pop1, mutatePhase P (dr.mutation g) 0 cfg.nPop s.heap s.pop = .ok (h1, pop1) ∧
      popRefs pop1 = popRefs s.pop ∧ ∀ e ∈ pop1, PopHonest P h1 e) ∧
    (∀ r ∈ hofRefs s.hof, s'.heap.get? r = s.heap.get? r) := by
  obtain ⟨_, h1, pop1, hf⟩ := generation_inv P cfg dr g hinv hres
  exact ⟨⟨h1, pop1, hf.mutated, hf.refs, hf.honest⟩, hf.kept⟩

/-- **Whole run.**  If `solve` returns, the final state satisfies the invariant and the result is `hof[0]`. -/
theorem run_invariant_and_result (P : Params C D) (cfg : Cfg) (dr : Draws D) (tp : TransProbs) (init : List C)
    (hlen : init.length = cfg.nPop) (s : St C) (res : HofEntry)
    (hres : solve P cfg dr tp init = .ok (s, res)) : Inv P cfg s ∧ s.hof[0]? = some res := by
  obtain ⟨hg, h0⟩ := solve_spec P cfg dr tp init hres
  exact ⟨generations_inv P cfg dr cfg.nStop 0 (invariant_initially P cfg tp init hlen) hg, h0⟩

/-- **Honest result.**  The reported score is the metric of the reported circuit (or the result is the initial
    `(inf, None)`), the reported circuit is not an object of the final population, and every entry of the final hall of
    fame has an honest score. -/
theorem result_is_honest (P : Params C D) (cfg : Cfg) (dr : Draws D) (tp : TransProbs) (init : List C)
    (hlen : init.length = cfg.nPop) (s : St C) (res : HofEntry)
    (hres : solve P cfg dr tp init = .ok (s, res)) :
    HofEntryHonest P s.heap res ∧ (∀ r, res.circ = some r → r ∉ popRefs s.pop) ∧
    (∀ e ∈ s.hof, HofEntryHonest P s.heap e) ∧ s.hof.length = cfg.nHof ∧ SortedTol cfg.tol s.hof := by
  obtain ⟨hinv, h0⟩ := run_invariant_and_result P cfg dr tp init hlen s res hres
  have hmem : res ∈ s.hof := List.mem_of_getElem? h0
  refine ⟨hinv.hof.honest res hmem, ?_, hinv.hof.honest, hinv.hofLen, hinv.hof.sorted⟩
  intro r hr
  exact hinv.disjoint r (List.mem_filterMap.mpr ⟨res, hmem, hr⟩)

/-- **The result is the best entry** (class level, coherent scores): no entry of the final hall of fame is in a class
    below the result's. -/
theorem result_is_best_entry (P : Params C D) (cfg : Cfg) (dr : Draws D) (tp : TransProbs) (init : List C)
    (hlen : init.length = cfg.nPop) (S : Score → Prop) (hc : Coherent cfg.tol S) (hm : ∀ c, S (P.metric c))
    (hinf : S Score.inf) (s : St C) (res : HofEntry) (hres : solve P cfg dr tp init = .ok (s, res)) :
    ∀ x ∈ s.hof, ClsLe cfg.tol res.score x.score := by
  obtain ⟨hinv, h0⟩ := run_invariant_and_result P cfg dr tp init hlen s res hres
  have hS := hinv.hof_scores S hm hinf
  intro x hx
  obtain ⟨j, hj⟩ := List.mem_iff_getElem?.mp hx
  by_cases hj0 : j = 0
  · subst hj0
    rw [h0] at hj
    have : x = res := by simpa using hj.symm
    subst this
    exact ClsLe.refl hc (hS x hx)
  · exact sorted_means_nondecreasing cfg.tol S hc s.hof hS hinv.hof.sorted 0 j (by omega) res x h0 hj

/-- **The best score never gets worse from one generation to the next, nor over any number of generations**
    (class level, coherent scores). -/
theorem best_never_gets_worse (P : Params C D) (cfg : Cfg) (dr : Draws D) (S : Score → Prop)
    (hc : Coherent cfg.tol S) (hm : ∀ c, S (P.metric c)) (hinf : S Score.inf) (fuel g : Nat) (s s' : St C)
    (hinv : Inv P cfg s) (hres : generations P cfg dr g fuel s = .ok s') :
    ∀ a b, s.hof[0]? = some a → s'.hof[0]? = some b → ClsLe cfg.tol b.score a.score := by
  intro a b ha hb
  have hSa : S a.score := hinv.hof_scores S hm hinf a (List.mem_of_getElem? ha)
  have hn : 0 < cfg.nHof := by
    rw [← hinv.hofLen]
    exact (List.getElem?_eq_some_iff.mp ha).1
  -- carried along with the invariant: the first entry is not above `a`
  have key := generations_preserves
    (I := fun s1 => Inv P cfg s1 ∧ ∀ b1, s1.hof[0]? = some b1 → ClsLe cfg.tol b1.score a.score)
    (fun g s1 s2 hI hgen => by
      obtain ⟨hinv1, h1⟩ := hI
      obtain ⟨hinv2, _, _, hf⟩ := generation_inv P cfg dr g hinv1 hgen
      refine ⟨hinv2, fun b2 hb2 => ?_⟩
      obtain ⟨b1, hb1⟩ := exists_head s1.hof (by rw [hinv1.hofLen]; exact hn)
      exact ClsLe.trans hc (hinv2.hof_scores S hm hinf b2 (List.mem_of_getElem? hb2))
        (hinv1.hof_scores S hm hinf b1 (List.mem_of_getElem? hb1)) hSa
        (hf.head hinv1 S hc hm hinf b1 b2 hb1 hb2).1 (h1 b1 hb1))
    fuel g ⟨hinv, fun b1 hb1 => by rw [ha] at hb1; cases hb1; exact ClsLe.refl hc hSa⟩ hres
  exact key.2 b hb

/-- **The result is at least as good as every circuit the run ever evaluated** (class level, coherent scores): for
    every generation `g < n_stop` the run passes through a state `m` from which the population, as mutated and scored in
    generation `g`, contains no member in a class below the final result's. -/
theorem result_not_worse_than_anything_evaluated (P : Params C D) (cfg : Cfg) (dr : Draws D) (tp : TransProbs)
    (init : List C) (hlen : init.length = cfg.nPop) (S : Score → Prop) (hc : Coherent cfg.tol S)
    (hm : ∀ c, S (P.metric c)) (hinf : S Score.inf) (s : St C) (res : HofEntry)
    (hres : solve P cfg dr tp init = .ok (s, res)) (g : Nat) (hg : g < cfg.nStop) :
    ∃ m h1 pop1, generations P cfg dr 0 g (initState cfg tp init) = .ok m ∧
      mutatePhase P (dr.mutation g) 0 cfg.nPop m.heap m.pop = .ok (h1, pop1) ∧
      (∀ e ∈ pop1, PopHonest P h1 e) ∧ ∀ e ∈ pop1, ClsLe cfg.tol res.score e.score := by
  obtain ⟨hgens, h0⟩ := solve_spec P cfg dr tp init hres
  obtain ⟨m, m1, hm1, hinvm, hgen, hinvm1, hrest⟩ :=
    generations_at P cfg dr g 0 cfg.nStop (invariant_initially P cfg tp init hlen) hg hgens
  rw [Nat.zero_add] at hgen hrest
  have hinvs := generations_inv P cfg dr _ _ hinvm1 hrest
  -- heads exist because lengths are n_hof throughout and the final head exists
  have hn : 0 < cfg.nHof := by
    rw [← hinvs.hofLen]
    exact (List.getElem?_eq_some_iff.mp h0).1
  obtain ⟨ma, hma⟩ := exists_head m.hof (by rw [hinvm.hofLen]; exact hn)
  obtain ⟨mb, hmb⟩ := exists_head m1.hof (by rw [hinvm1.hofLen]; exact hn)
  obtain ⟨_, h1, pop1, hf⟩ := generation_inv P cfg dr g hinvm hgen
  have hlater := best_never_gets_worse P cfg dr S hc hm hinf _ _ _ _ hinvm1 hrest _ res hmb h0
  refine ⟨m, h1, pop1, hm1, hf.mutated, hf.honest, fun e he => ?_⟩
  exact ClsLe.trans hc (hinvs.hof_scores S hm hinf res (List.mem_of_getElem? h0))
    (hinvm1.hof_scores S hm hinf _ (List.mem_of_getElem? hmb)) (popHonest_scores S hm hf.honest e he) hlater
    ((hf.head hinvm S hc hm hinf _ _ hma hmb).2 e he)

/-- **Whole run: the final hall of fame is sorted by (score class, node count) and keeps the best of everything
    evaluated** (coherent scores): neighbouring entries with isclose scores are ordered by node count, and for every
    generation `g < n_stop` the score of every population member evaluated in generation `g` is carried by a final
    entry, or the final worst entry is not above it. -/
theorem run_keeps_the_best_sorted_by_class_and_size (P : Params C D) (cfg : Cfg) (dr : Draws D) (tp : TransProbs)
    (init : List C) (hlen : init.length = cfg.nPop) (S : Score → Prop) (hc : Coherent cfg.tol S)
    (hm : ∀ c, S (P.metric c)) (hinf : S Score.inf) (hn : 0 < cfg.nHof) (s : St C) (res : HofEntry)
    (hres : solve P cfg dr tp init = .ok (s, res)) :
    SizeTie cfg.tol P.size s.heap s.hof ∧
    ∀ g, g < cfg.nStop → ∃ m h1 pop1, generations P cfg dr 0 g (initState cfg tp init) = .ok m ∧
      mutatePhase P (dr.mutation g) 0 cfg.nPop m.heap m.pop = .ok (h1, pop1) ∧
      ∀ e ∈ pop1, Kept cfg.tol s.hof e.score := by
  obtain ⟨hgens, _⟩ := solve_spec P cfg dr tp init hres
  have hinv0 := invariant_initially P cfg tp init hlen
  refine ⟨generations_sizeTie P cfg dr S hc hm hinf cfg.nStop 0 hinv0 (initState_sizeTie P cfg tp init) hgens, ?_⟩
  intro g hg
  obtain ⟨m, m1, hm1, hinvm, hgen, hinvm1, hrest⟩ := generations_at P cfg dr g 0 cfg.nStop hinv0 hg hgens
  rw [Nat.zero_add] at hgen hrest
  obtain ⟨_, h1, pop1, hf⟩ := generation_inv P cfg dr g hinvm hgen
  refine ⟨m, h1, pop1, hm1, hf.mutated, fun e he => ?_⟩
  exact generations_kept P cfg dr S hc hm hinf hn _ _ hinvm1 hrest e.score (popHonest_scores S hm hf.honest e he)
    ((hf.keeps hinvm S hc hm hinf hn).1 e he)

/-- **`solve` returns on every well-formed configuration**: `0 < n_hof ≤ n_pop`, a metric that never returns `inf`,
    `n_pop` initial circuits and — if selection is active with tournament size `k > 0` — tournament draws that are
    non-empty lists of indices `< n_pop` (what `random.choices(population, k=k)` produces).  So the hypothesis
    `solve … = .ok …` of the theorems of this section is met by all of these, for every transformation, every metric,
    every `n_stop` and every mutation draw; and after each generation the hall of fame holds no empty slot. -/
theorem solve_returns_on_wellformed_configurations (P : Params C D) (cfg : Cfg) (dr : Draws D) (tp : TransProbs)
    (init : List C) (hlen : init.length = cfg.nPop) (hfin : FiniteMetric P) (hn : 0 < cfg.nHof)
    (hle : cfg.nHof ≤ cfg.nPop)
    (hd : cfg.selectionActive = true → cfg.tournamentK ≠ 0 → ∀ g, DrawsValid cfg.nPop (dr.tournament g)) :
    ∃ s res, solve P cfg dr tp init = .ok (s, res) := by
  have hinv0 := invariant_initially P cfg tp init hlen
  obtain ⟨s, hs⟩ := generations_progress P cfg dr hfin hn hle hd cfg.nStop 0 _ hinv0
  have hinv := generations_inv P cfg dr cfg.nStop 0 hinv0 hs
  obtain ⟨res, hres⟩ := exists_head s.hof (by rw [hinv.hofLen]; exact hn)
  exact ⟨s, res, by simp only [solve, hs, hres]⟩

/-- **Boundary of the quantifier "all settings".**  With `n_hof > n_pop` (and `n_stop ≥ 1`) `solve` never returns: the
    code reads `.depth` of a still-empty hall-of-fame slot in `update_logs` during the first generation.  (So every
    theorem above with hypothesis `solve … = .ok …` is about configurations with `n_hof ≤ n_pop` or `n_stop = 0`.) -/
theorem hof_larger_than_population_never_returns (P : Params C D) (cfg : Cfg) (dr : Draws D) (tp : TransProbs)
    (init : List C) (hlt : init.length < cfg.nHof) (hstop : 0 < cfg.nStop) :
    ∀ r, solve P cfg dr tp init ≠ .ok r := by
  intro r hres
  obtain ⟨s, res⟩ := r
  obtain ⟨hg, _⟩ := solve_spec P cfg dr tp init hres
  obtain ⟨k, hk⟩ : ∃ k, cfg.nStop = k + 1 := ⟨cfg.nStop - 1, by omega⟩
  rw [hk] at hg
  obtain ⟨s1, hs1, _⟩ := generations_succ_ok.mp hg
  refine generation_fails_of_hof_gt_pop P cfg dr 0 (initState cfg tp init) (by simp [initState]) ?_ s1 hs1
  simp [initState, hofRefs]
  exact hlt

/-! ## 4. Reproducibility -/

/-- **The run is a function of the configuration and of the draws it consumes**: two draw streams that agree on the
    `n_stop × n_pop` mutation draws and tournament draws give the same final state and result. -/
theorem run_is_function_of_consumed_draws (P : Params C D) (cfg : Cfg) (d1 d2 : Draws D)
    (hag : Draws.AgreeOn cfg d1 d2) (tp : TransProbs) (init : List C) :
    solve P cfg d1 tp init = solve P cfg d2 tp init := by
  unfold solve
  rw [generations_congr P cfg d1 d2 hag cfg.nStop 0 _ (by omega)]

/-- Full statement of reproducibility across processes, in model terms: the transformations / metric may depend on an
    ambient process state `σ` (e.g. the hash seed that fixes `set` iteration order); runs with the same seed (= same draw
    stream) must coincide for all `σ`. -/
def reproducible_statement {Sig : Type} (P : Sig → Params C D) (cfg : Cfg) (dr : Draws D) (tp : TransProbs)
    (init : List C) : Prop :=
  ∀ σ σ', solve (P σ) cfg dr tp init = solve (P σ') cfg dr tp init

/-- **Partial**: reproducibility holds when the transformations, the metric and the node count do not depend on the
    process state.  Missing for the full statement: that the *real* transformations have this independence — they pick
    `candidates[ind]` from lists whose order must not depend on `set` iteration order; this is tested with different
    `PYTHONHASHSEED`s by the harness (and the candidate order of `_select_possible_*` is compared with the model's list
    order on every sampled circuit).  It failed for `remove_op` until /repo 6f7407b (`get_node_exclude_labels` returned
    `list(set(dag.nodes) - excluded)`); violations are reported as `repro:hashseed:candidate-order:<transformation>`. -/
theorem reproducible_partial {Sig : Type} (P : Sig → Params C D) (cfg : Cfg) (dr : Draws D) (tp : TransProbs)
    (init : List C) (hindep : ∀ σ σ', P σ = P σ') : reproducible_statement P cfg dr tp init := by
  intro σ σ'
  rw [hindep σ σ']

/-! ## 5. Candidate lists of the two-qubit insertions -/

/-- `_select_possible_cnot_position` returns exactly the ordered pairs of admissible emitter edges that are not
    incompatible — each once per occurrence, in the nested order of `edge_dict["e"]` (the definition is the two nested
    loops over that *list*; no set is iterated). -/
theorem cnot_positions_characterised (d : DagView) (e e' : Edge) :
    (e, e') ∈ d.selectPossibleCnotPosition ↔
      (e ∈ d.eEdges ∧ d.opOf e.dst ≠ .output) ∧ (e' ∈ d.eEdges ∧ d.opOf e'.dst ≠ .output) ∧
      d.incompatible e e' = false := by
  simp only [DagView.selectPossibleCnotPosition, List.mem_flatMap, List.mem_map, List.mem_filter, Prod.mk.injEq]
  constructor
  · rintro ⟨a, ⟨ha1, ha2⟩, b, ⟨⟨hb1, hb2⟩, hb3⟩, rfl, rfl⟩
    exact ⟨⟨ha1, by simpa using ha2⟩, ⟨hb1, by simpa using hb2⟩, by simpa using hb3⟩
  · rintro ⟨⟨ha1, ha2⟩, ⟨hb1, hb2⟩, hb3⟩
    exact ⟨e, ⟨ha1, by simpa using ha2⟩, e', ⟨⟨hb1, by simpa using hb2⟩, by simpa using hb3⟩, rfl, rfl⟩

/-- `_select_possible_measurement_position`: exactly the pairs (admissible emitter edge, admissible photon edge) that are
    not incompatible, in the nested order of the two `edge_dict` lists. -/
theorem measurement_positions_characterised (d : DagView) (e e' : Edge) :
    (e, e') ∈ d.selectPossibleMeasurementPosition ↔
      (e ∈ d.eEdges ∧ d.opOf e.dst ≠ .output ∧ d.opOf e.dst ≠ .measCnotReset ∧ d.opOf e.src ≠ .input ∧
        d.opOf e.src ≠ .measCnotReset) ∧
      (e' ∈ d.pEdges ∧ d.opOf e'.dst ≠ .measCnotReset ∧ d.opOf e'.src ≠ .input) ∧
      d.incompatible e e' = false := by
  simp only [DagView.selectPossibleMeasurementPosition, List.mem_flatMap, List.mem_map, List.mem_filter, Prod.mk.injEq]
  constructor
  · rintro ⟨a, ⟨ha1, ha2⟩, b, ⟨⟨hb1, hb2⟩, hb3⟩, rfl, rfl⟩
    simp only [Bool.and_eq_true, ne_eq, decide_eq_true_eq] at ha2 hb2
    exact ⟨⟨ha1, by simpa using ha2.1.1.1, by simpa using ha2.1.1.2, by simpa using ha2.1.2, by simpa using ha2.2⟩,
      ⟨hb1, by simpa using hb2.1, by simpa using hb2.2⟩, by simpa using hb3⟩
  · rintro ⟨⟨ha1, ha2, ha3, ha4, ha5⟩, ⟨hb1, hb2, hb3⟩, hb4⟩
    refine ⟨e, ⟨ha1, ?_⟩, e', ⟨⟨hb1, ?_⟩, by simpa using hb4⟩, rfl, rfl⟩
    · simp [ha2, ha3, ha4, ha5]
    · simp [hb2, hb3]

/-! ## 6. `SolverResult.sort_by` -/

/-- sorting a result table by a score column keeps exactly the same rows (every circuit stays with its own properties),
    orders them by non-decreasing key, and is stable -/
theorem solver_result_sort_by (α : Type) (key : α → Score) (rows : List α) :
    (sortRowsBy key rows).Perm rows ∧
    List.Pairwise (fun a b => (key a).le (key b) = true) (sortRowsBy key rows) ∧
    ∀ a b, (key a).le (key b) = true → [a, b].Sublist rows → [a, b].Sublist (sortRowsBy key rows) := by
  unfold sortRowsBy
  have htr : ∀ a b c : α, (key a).le (key b) = true → (key b).le (key c) = true → (key a).le (key c) = true :=
    fun a b c h1 h2 => Score.le_trans h1 h2
  have htot : ∀ a b : α, ((key a).le (key b) || (key b).le (key a)) = true := fun a b => Score.le_total _ _
  refine ⟨List.mergeSort_perm _ _, ?_, ?_⟩
  · exact List.pairwise_mergeSort (le := fun a b => (key a).le (key b)) htr htot rows
  · intro a b hab hsub
    exact List.pair_sublist_mergeSort (le := fun a b => (key a).le (key b)) htr htot hab hsub

/-! ## 7. Transformation probabilities -/

/-- **`adapt_probabilities` always yields a probability vector** with the same transformations in the same order, for
    every `n_stop`, every number of emitters and every positive table; so do the initial tables of both solvers and the
    table of `randomize_circuit`. -/
theorem adapt_probabilities_is_distribution (nStop nEmitter : Nat) (p : TransProbs) (hp : IsDist p) :
    IsDist (adaptProbabilities nStop nEmitter p) ∧ (adaptProbabilities nStop nEmitter p).map (·.1) = p.map (·.1) :=
  adapt_isDist nStop nEmitter p hp.ne_nil hp.1

theorem initial_tables_are_distributions (nEmitter : Nat) :
    IsDist (initTransProbsEvo nEmitter) ∧ IsDist (initTransProbsHybrid nEmitter) ∧ IsDist (randomizeTransProbs nEmitter) := by
  refine ⟨?_, ?_, ?_⟩
  · unfold initTransProbsEvo
    exact (normalize_isDist (PosTable.append_if ⟨by simp, by decide +kernel⟩ _ (by decide +kernel))).1
  · unfold initTransProbsHybrid
    exact (normalize_isDist (PosTable.append_if ⟨by simp, by decide +kernel⟩ _ (by decide +kernel))).1
  · unfold randomizeTransProbs
    exact (normalize_isDist (PosTable.append_if ⟨by simp, by decide +kernel⟩ _ (by decide +kernel))).1

/-- **In every generation of every run `np.random.choice` is handed a probability vector** over the same
    transformations (adaptive probabilities on or off). -/
theorem probabilities_stay_distribution (P : Params C D) (cfg : Cfg) (dr : Draws D) (fuel g : Nat) (s s' : St C)
    (hd : IsDist s.transProbs) (hres : generations P cfg dr g fuel s = .ok s') :
    IsDist s'.transProbs ∧ s'.transProbs.map (·.1) = s.transProbs.map (·.1) := by
  refine generations_preserves
    (I := fun s1 => IsDist s1.transProbs ∧ s1.transProbs.map (·.1) = s.transProbs.map (·.1))
    (fun g s1 s2 hI hgen => ?_) fuel g ⟨hd, rfl⟩ hres
  obtain ⟨hd1, hk1⟩ := hI
  obtain ⟨_, _, _, _, _, _, _, _, _, _, rfl⟩ := generation_ok_iff.mp hgen
  dsimp only
  split
  · obtain ⟨a1, a2⟩ := adapt_isDist cfg.nStop cfg.nEmitter s1.transProbs hd1.ne_nil hd1.1
    exact ⟨a1, a2.trans hk1⟩
  · exact ⟨hd1, hk1⟩

/-- `np.random.choice(len(p), p=p)` as a function of the uniform draw returns a valid index -/
theorem choice_index_valid (p : List Rat) (u : Rat) (hne : p ≠ []) (hpos : 0 < sumQ p) (hu : u < 1) :
    choiceIndex p u < p.length := by
  unfold choiceIndex
  have hne0 : sumQ p ≠ 0 := fun h0 => by
    rw [h0] at hpos
    exact absurd hpos (by decide +kernel)
  have h := choiceIndex_go_lt (sumQ p) u p 0 0 hne (by
    rw [Rat.zero_add, Rat.div_def, Rat.mul_inv_cancel _ hne0]
    exact Rat.not_le.mpr hu)
  simpa using h

/-! ## 8. Non-vacuity: concrete objects satisfying the hypotheses, and the refutation of the literal reading -/

/-- toy instance: a "circuit" is a number, a transformation adds the draw, the metric is `1/(1 + c mod 4)`, the node
    count is the number itself -/
def exP : Params Nat Nat := ⟨fun c d => c + d, fun c => Score.fin (1 / ((c % 4 : Nat) + 1 : Rat)), fun c => c⟩
def exCfg : Cfg :=
  { nHof := 2, nStop := 3, nPop := 3, tournamentK := 2, selectionActive := true, useAdaptProbability := true, nEmitter := 2 }
def exDr : Draws Nat := ⟨fun g j => g + 2 * j + 1, fun g i => [i, (i + g + 1) % 3]⟩
def exRun := solve exP exCfg exDr (initTransProbsEvo 2) [5, 6, 7]

def okWith {α : Type} (r : Except Err α) (f : α → Bool) : Bool :=
  match r with
  | .ok a => f a
  | .error _ => false

/-- a run with selection and adaptive probabilities returns, with a hall of fame of two *different* finite scores held
    in fresh objects (so the hypotheses `solve … = .ok …`, `init.length = n_pop` of §3 are met by a non-trivial run) -/
example : okWith exRun (fun (s, r) => r.score == Score.fin (1 / 4) && s.hof.map (·.score) == [Score.fin (1 / 4), Score.fin (1 / 3)]
    && s.hof.map (·.circ) == [some 11, some 3] && s.pop.map (·.circ) == [12, 13, 14]) = true := by decide +kernel

example : [5, 6, 7].length = exCfg.nPop := rfl

/-- the toy configuration meets the hypotheses of `solve_returns_on_wellformed_configurations` -/
example : FiniteMetric exP ∧ 0 < exCfg.nHof ∧ exCfg.nHof ≤ exCfg.nPop ∧ ∀ g, DrawsValid exCfg.nPop (exDr.tournament g) := by
  refine ⟨fun c => ⟨_, rfl⟩, by decide, by decide, ?_⟩
  intro g i hi
  refine ⟨by simp [exDr], ?_⟩
  intro x hx
  simp only [exDr, List.mem_cons, List.not_mem_nil, or_false] at hx
  have h3 : exCfg.nPop = 3 := rfl
  rcases hx with rfl | rfl
  · exact hi
  · rw [h3]; omega

/-- the scores of the toy metric (and `inf`) are coherent for numpy's tolerances: the hypothesis of the class-level
    theorems is satisfiable by a non-trivial score set -/
def exScores : List Score := [Score.fin 1, Score.fin (1 / 2), Score.fin (1 / 3), Score.fin (1 / 4), Score.inf]

theorem example_scores_coherent : Coherent Tol.numpy (fun a => a ∈ exScores) :=
  coherent_of_discrete Tol.numpy exScores (by decide +kernel) (by decide +kernel)

example : ∀ c, exP.metric c ∈ exScores := by
  intro c
  have h : c % 4 = 0 ∨ c % 4 = 1 ∨ c % 4 = 2 ∨ c % 4 = 3 := by omega
  rcases h with h | h | h | h <;> simp [exP, exScores, h] <;> decide +kernel

/-- the infidelities a pure stabilizer target on `n` qubits can produce (the overlap of two stabilizer states is `0` or
    `2^-k`, `0 ≤ k ≤ n` — cited fact), plus `np.inf` -/
def stabInfidelities (n : Nat) : List Score :=
  (Score.fin 1 :: (List.range (n + 1)).map fun k => Score.fin (1 - 1 / (2 ^ k : Rat))) ++ [Score.inf]

/-- **Where the class-level theorems apply to `Infidelity`**: for stabilizer targets of up to 16 qubits the possible
    scores are coherent for numpy's tolerances … -/
theorem stabilizer_infidelities_coherent_up_to_16_qubits :
    Coherent Tol.numpy (fun a => a ∈ stabInfidelities 16) :=
  -- the smallest gap, `2^-16` between `1 - 2^-16` and `1`, exceeds the tolerance `1e-8 + 1e-5`: no two different
  -- scores are isclose
  coherent_of_discrete Tol.numpy (stabInfidelities 16) (by decide +kernel) (by decide +kernel)

/-- … and from 17 qubits on they are not (`1-2^-16 ≈ 1-2^-17 ≈ 1-2^-18` but `1-2^-16 ≉ 1-2^-18` at `rtol = 1e-5`): there the
    hall of fame of nearly orthogonal circuits can be out of order by design. -/
theorem stabilizer_infidelities_incoherent_from_17_qubits :
    coherentOn Tol.numpy (stabInfidelities 17) = false :=
  -- `1 - 2^-16 ≈ 1 - 2^-17 ≈ 1` but `1 - 2^-16 ≉ 1`
  coherentOn_eq_false Tol.numpy _ (a := Score.fin (1 - 1 / 2 ^ 16)) (b := Score.fin (1 - 1 / 2 ^ 17)) (c := Score.fin 1)
    (by decide +kernel) (by decide +kernel) (by decide +kernel) (by decide +kernel) (by decide +kernel)
    (by decide +kernel)

/-- float-noise neighbours are coherent too: `0.5` and `0.4999999999999999` are one class -/
example : coherentOn Tol.numpy
    [Score.fin (1 / 2), Score.fin (4503599627370495 / 9007199254740992), Score.fin (3 / 4), Score.fin 0, Score.inf] = true := by
  decide +kernel

/-- **The literal reading is refuted** for scores that drift inside the tolerance: starting from the hall of fame
    `[(1, 10 nodes)]`, the population `[(1 + 9·10⁻⁶, 9 nodes), (1 + 18·10⁻⁶, 8 nodes)]` (each isclose to its predecessor
    and smaller) is inserted *in front*: afterwards the best score is `1 + 18·10⁻⁶`, which is larger than, and not
    isclose to, the previous best `1`, and the entries are in strictly decreasing order.  (So "non-decreasing" / "never
    worse" can only be claimed up to the tolerance between neighbours, or on isclose classes.) -/
theorem literal_order_refuted :
    let h : Heap Nat := ⟨#[10, 9, 8]⟩
    let hof : List HofEntry := [⟨Score.fin 1, some 0⟩, ⟨Score.inf, none⟩, ⟨Score.inf, none⟩]
    let pop : List PopEntry := [⟨Score.fin (1 + 9 / 1000000), 1⟩, ⟨Score.fin (1 + 18 / 1000000), 2⟩]
    okWith (updateHof Tol.numpy (fun c : Nat => c) 3 h hof pop) (fun (_, hof') =>
      hof'.map (·.score) == [Score.fin (1 + 18 / 1000000), Score.fin (1 + 9 / 1000000), Score.fin 1] &&
      (Score.fin 1).lt (Score.fin (1 + 18 / 1000000)) &&
      !(Score.fin (1 + 18 / 1000000)).isclose Tol.numpy (Score.fin 1)) = true := by
  decide +kernel

/-- a parameter family whose transformation depends on the process state (shape of the `list(set)` defect) -/
def exFamily (σ : Bool) : Params Nat Nat := ⟨fun c d => if σ then c + d else c + 2 * d, exP.metric, exP.size⟩

/-- reproducibility genuinely needs the independence hypothesis: with a state-dependent transformation the same draws
    give different halls of fame -/
theorem reproducible_statement_needs_independence :
    ¬ reproducible_statement exFamily exCfg exDr (initTransProbsEvo 2) [5, 6, 7] := by
  intro h
  have h1 : okWith (solve (exFamily true) exCfg exDr (initTransProbsEvo 2) [5, 6, 7])
      (fun (s, _) => s.hof.map (·.score) == [Score.fin (1 / 4), Score.fin (1 / 3)]) = true := by decide +kernel
  have h2 : okWith (solve (exFamily false) exCfg exDr (initTransProbsEvo 2) [5, 6, 7])
      (fun (s, _) => s.hof.map (·.score) == [Score.fin (1 / 4), Score.fin (1 / 3)]) = false := by decide +kernel
  rw [h true false] at h1
  rw [h1] at h2
  exact absurd h2 (by decide)

/-- and it is satisfiable: a constant family is reproducible -/
example : reproducible_statement (fun _ : Bool => exP) exCfg exDr (initTransProbsEvo 2) [5, 6, 7] :=
  reproducible_partial _ _ _ _ _ (fun _ _ => rfl)

/-- the hypothesis `IsDist` is met by the solvers' own tables, and adaptation changes them (non-trivially) -/
example : IsDist (initTransProbsEvo 2) ∧
    (adaptProbabilities 10 2 (initTransProbsEvo 2)).map (·.2) = [13 / 60, 13 / 60, 7 / 20, 13 / 60] :=
  ⟨(initial_tables_are_distributions 2).1, by decide +kernel⟩

example : choiceIndex [1 / 4, 1 / 4, 1 / 2] (1 / 2) = 2 := by decide +kernel

/-- a hall of fame satisfying `HofInv` with real content (used by the hypotheses of §1): two entries pointing to two
    different heap objects with honest scores -/
example : HofInv exP Tol.numpy (⟨#[3, 2]⟩ : Heap Nat) [⟨Score.fin (1 / 4), some 0⟩, ⟨Score.fin (1 / 3), some 1⟩] := by
  refine ⟨?_, ?_, ?_, ?_⟩
  · intro r hr; simp [hofRefs] at hr; rcases hr with rfl | rfl <;> simp [Heap.size]
  · simp [hofRefs]
  · intro e he
    simp at he
    rcases he with rfl | rfl
    · exact ⟨3, rfl, by simp [exP]; decide +kernel⟩
    · exact ⟨2, rfl, by simp [exP]; decide +kernel⟩
  · intro j a b ha hb
    match j, ha, hb with
    | 0, ha, hb =>
      simp at ha hb; subst ha; subst hb
      exact Or.inl (by decide +kernel)
    | j + 1, ha, hb => simp at hb

end Graphiq.C19
