/-
  Proofs/SolverCompleteInvLoc.lean — `inverse_circuit` on a tableau whose first `np` columns are *literal* (absorbed photons:
  one generator is exactly `+Z_q`, every other generator is trivial at `q`) only emits gates that the replay of the
  time-reversed solver accepts: `H` / `P` / `X` anywhere, `CNOT` / `CZ` only between columns `≥ np`.  In fact
  (`inverseCircuit_gates_on_emitters`) no gate at all is emitted on a column `< np`.

  Method: a location invariant.  During block 1 (column `j`) every photon column is literal and the literal rows of the
  columns `< j` sit on the diagonal; from then on (blocks 2 to 7) row `q` is `+Z_q` for every `q < np`.  Every row product the
  synthesis performs is between two rows that are non-trivial at a common column, so it never involves a literal row; every
  two-qubit gate is triggered by a bit that a `+Z_q` row does not have.
-/
import GraphiqModel.Proofs.SolverCompleteOps
import GraphiqModel.Proofs.Loop
namespace Graphiq
open PRow
namespace STab

/-- gates the solver's replay accepts: H / P / X anywhere, CNOT / CZ only between columns ≥ np -/
def Gate.okFor (np : Nat) : Gate → Prop
  | .H _ | .P _ | .X _ => True
  | .CNOT c t | .CZ c t => np ≤ c ∧ np ≤ t
  | _ => False

def Gate.onEmitters (np : Nat) (g : Gate) : Prop := ∀ c, c ∈ g.cols → np ≤ c

/-! ### literal columns, with the index of the literal row -/

/-- column `q` is literal and row `i` is its `+Z_q` row -/
def LitAt (n : Nat) (row : Nat → PRow) (q i : Nat) : Prop :=
  i < n ∧ EqOn n (row i) (Zq q) ∧ ∀ k, k < n → k ≠ i → (row k).pt q = 0

theorem lit_iff (t : STab) (q : Nat) : t.Lit q ↔ ∃ i, LitAt t.n t.row q i := Iff.rfl

theorem LitAt.solo {n : Nat} {r : Nat → PRow} {q i : Nat} (h : LitAt n r q i) : SoloAt (fun x => EqOn n x (Zq q)) n r q i := h

theorem LitAt.row_pt {n : Nat} {r : Nat → PRow} {q i : Nat} (h : LitAt n r q i) (j : Nat) (hj : j < n) :
    (r i).pt j = if j = q then 3 else 0 := by
  rw [pt_eqOn n _ _ h.2.1 j hj, pt_Zq]

theorem LitAt.row_x {n : Nat} {r : Nat → PRow} {q i : Nat} (h : LitAt n r q i) (j : Nat) (hj : j < n) :
    (r i).x j = false := (h.2.1.1 j hj).1

theorem LitAt.row_z {n : Nat} {r : Nat → PRow} {q i : Nat} (h : LitAt n r q i) (j : Nat) (hj : j < n) :
    (r i).z j = decide (j = q) := (h.2.1.1 j hj).2

theorem LitAt.unique {n : Nat} {r : Nat → PRow} {q i : Nat} (h : LitAt n r q i) (k : Nat) (hk : k < n)
    (hne : (r k).pt q ≠ 0) : k = i := by
  by_cases e : k = i
  · exact e
  · exact absurd (h.2.2 k hk e) hne

theorem litAt_index_ne {n : Nat} {r : Nat → PRow} {q q' i i' : Nat} (h : LitAt n r q i) (h' : LitAt n r q' i')
    (hq : q < n) (hne : q ≠ q') : i ≠ i' := by
  intro e
  subst e
  have h1 := h.row_pt q hq
  have h2 := h'.row_pt q hq
  rw [if_pos rfl] at h1
  rw [if_neg hne] at h2
  omega

/-! ### the three state operations keep literal columns (`LitAt` is `SoloAt` for the rows that are `+Z_q`) -/

theorem swap_row' (st : InvState) (a b m : Nat) (hm : m < st.t.n) :
    EqOn st.t.n ((st.swap a b).t.row m) (st.t.row (if m = a then b else if m = b then a else m)) := by
  have h := norm_row (st.t.rowSwap a b) m hm
  have e : (st.t.rowSwap a b).row m = st.t.row (if m = a then b else if m = b then a else m) := by
    rw [rowSwap_row]
    split
    · rfl
    · split <;> rfl
  rw [e] at h
  exact h

theorem rsum_row' (st : InvState) (a b m : Nat) (hm : m < st.t.n) :
    EqOn st.t.n ((st.rsum a b).t.row m) (if m = b then stabMul st.t.n (st.t.row a) (st.t.row b) else st.t.row m) := by
  have h := norm_row (st.t.rowSum a b) m hm
  rw [rowSum_row] at h
  exact h

theorem litAt_gate (st : InvState) (g : Gate) (n q i : Nat) (hn : st.t.n = n) (hq : q < n) (hwf : g.WF n)
    (hqc : q ∉ g.cols) (h : LitAt n st.t.row q i) : LitAt n (st.gate g).t.row q i := by
  subst hn
  exact (h.solo.gate (soloPred_Z _ q) g hwf hqc).congr (soloPred_Z _ q) hq (fun m hm => norm_row (st.t.applyGate g) m hm)

theorem litAt_swap (st : InvState) (a b n q i : Nat) (hn : st.t.n = n) (hq : q < n) (ha : a < n) (hb : b < n)
    (h : LitAt n st.t.row q i) :
    LitAt n (st.swap a b).t.row q (if i = a then b else if i = b then a else i) := by
  subst hn
  exact (h.solo.swap a b ha hb).congr (soloPred_Z _ q) hq (fun m hm => norm_row (st.t.rowSwap a b) m hm)

theorem litAt_rsum (st : InvState) (a b n q i : Nat) (hn : st.t.n = n) (hq : q < n) (ha : a < n)
    (hai : a ≠ i) (hbi : b ≠ i) (h : LitAt n st.t.row q i) : LitAt n (st.rsum a b).t.row q i := by
  subst hn
  exact (h.solo.mulInto a b ha hai hbi).congr (soloPred_Z _ q) hq (fun m hm => norm_row (st.t.rowSum a b) m hm)

theorem pt_ne_zero_of_z (p : PRow) (j : Nat) (h : p.z j = true) : p.pt j ≠ 0 := by
  unfold PRow.pt
  rw [h]
  cases p.x j <;> simp

theorem pt_ne_zero_of_x (p : PRow) (j : Nat) (h : p.x j = true) : p.pt j ≠ 0 := by
  unfold PRow.pt
  rw [h]
  cases p.z j <;> simp

theorem z_of_pt_three (p : PRow) (j : Nat) (h : p.pt j = 3) : p.z j = true := by
  unfold PRow.pt at h
  cases hx : p.x j <;> cases hz : p.z j <;> simp [hx, hz] at h ⊢

/-- the clearing loop of block 1 only multiplies rows that are non-trivial at column `j`: literal columns stay literal -/
theorem invClear_keeps (n j : Nat) (hj : j < n) (st : InvState) (hn : st.t.n = n) (hz : (st.t.row j).z j = true) :
    (invClear n j st).t.n = n ∧ (invClear n j st).circ = st.circ ∧
    ∀ q i, q < n → LitAt n st.t.row q i → LitAt n (invClear n j st).t.row q i := by
  have key : ∀ (acc : InvState) (i' : Nat), i' ∈ ((List.range n).filter fun i => j < i) →
      (acc.t.n = n ∧ acc.circ = st.circ ∧ (acc.t.row j).z j = true ∧
        ∀ q i, q < n → LitAt n st.t.row q i → LitAt n acc.t.row q i) →
      ((if (acc.t.row i').z j then acc.rsum j i' else acc).t.n = n ∧
       (if (acc.t.row i').z j then acc.rsum j i' else acc).circ = st.circ ∧
       ((if (acc.t.row i').z j then acc.rsum j i' else acc).t.row j).z j = true ∧
        ∀ q i, q < n → LitAt n st.t.row q i → LitAt n (if (acc.t.row i').z j then acc.rsum j i' else acc).t.row q i) := by
    intro acc i' hi' ⟨h1, h2, h3, h4⟩
    simp only [List.mem_filter, List.mem_range, decide_eq_true_eq] at hi'
    split
    · next hzi =>
      refine ⟨h1, h2, ?_, ?_⟩
      · have e := rsum_row' acc j i' j (h1 ▸ hj)
        rw [if_neg (by omega)] at e
        rw [(e.1 j (h1 ▸ hj)).2]
        exact h3
      · intro q i hq hl
        have hl' := h4 q i hq hl
        have w := hl'.solo.witness_ne (soloPred_Z n q) hj hi'.1 (by omega) hj (pt_ne_zero_of_z _ _ h3) (pt_ne_zero_of_z _ _ hzi)
        exact litAt_rsum acc j i' n q i h1 hq hj w.1 w.2 hl'
    · exact ⟨h1, h2, h3, h4⟩
  have := Loop.foldl_inv (f := fun acc i => if (acc.t.row i).z j then acc.rsum j i else acc)
    (l := (List.range n).filter fun i => j < i) (s := st)
    (fun acc => acc.t.n = n ∧ acc.circ = st.circ ∧ (acc.t.row j).z j = true ∧
      ∀ q i, q < n → LitAt n st.t.row q i → LitAt n acc.t.row q i) key ⟨hn, rfl, hz, fun _ _ _ h => h⟩
  exact ⟨this.1, this.2.1, this.2.2.2⟩

/-- block 1 invariant at column `j`: every photon column is literal, and those left of `j` have their literal row on the
    diagonal -/
def B1 (np n j : Nat) (r : Nat → PRow) : Prop := ∀ q, q < np → ∃ i, LitAt n r q i ∧ (q < j → i = q)

theorem b1_swap (np n j f : Nat) (st : InvState) (hn : st.t.n = n) (hnp : np ≤ n) (hj : j < n) (hjf : j ≤ f) (hf : f < n)
    (hpt : (st.t.row f).pt j ≠ 0) (h : B1 np n j st.t.row) : B1 np n (j + 1) (st.swap j f).t.row := by
  intro q hq
  obtain ⟨i, hi, hiq⟩ := h q hq
  have hs := litAt_swap st j f n q i hn (by omega) hj hf hi
  refine ⟨_, hs, fun hqj => ?_⟩
  by_cases e : q < j
  · have e1 := hiq e
    rw [e1, if_neg (by omega), if_neg (by omega)]
  · have e' : q = j := by omega
    subst e'
    have e2 : f = i := hi.unique f hf hpt
    rw [← e2]
    by_cases e3 : f = q <;> simp [e3]

theorem b1_none (np n j : Nat) (r : Nat → PRow) (hj : j < n)
    (hnone : ∀ k, j ≤ k → k < n → (r k).pt j = 0) (h : B1 np n j r) : B1 np n (j + 1) r := by
  intro q hq
  obtain ⟨i, hi, hiq⟩ := h q hq
  refine ⟨i, hi, fun hqj => ?_⟩
  by_cases e : q < j
  · exact hiq e
  · have e' : q = j := by omega
    subst e'
    have h3 := hi.row_pt q hj
    rw [if_pos rfl] at h3
    by_cases hiq2 : q ≤ i
    · have := hnone i hiq2 hi.1
      omega
    · obtain ⟨i', hi', hii⟩ := h i (by omega)
      have e4 := hii (by omega)
      rw [e4] at hi'
      exact absurd rfl (litAt_index_ne hi hi' hj (by omega))

theorem b1_keeps (np n j : Nat) (r r' : Nat → PRow) (hnp : np ≤ n)
    (hk : ∀ q i, q < n → LitAt n r q i → LitAt n r' q i) (h : B1 np n j r) : B1 np n j r' := by
  intro q hq
  obtain ⟨i, hi, hiq⟩ := h q hq
  exact ⟨i, hk q i (by omega) hi, hiq⟩

/-- one column of block 1; the only gate it can emit is `H j`, and only on an emitter column -/
theorem step1_emit (np n j : Nat) (st st' : InvState) (hn : st.t.n = n) (hnp : np ≤ n) (hj : j < n)
    (hB : B1 np n j st.t.row) (hs : invStep1 n st j = .ok st') :
    st'.t.n = n ∧ B1 np n (j + 1) st'.t.row ∧ (∀ g, g ∈ st'.circ → g ∈ st.circ ∨ (g = .H j ∧ np ≤ j)) := by
  subst hn
  rcases invStep1_cases st.t.n st st' j hs with ⟨f, h1, h2, h3, rfl⟩ | ⟨h0, rfl⟩ | ⟨f, h1, h2, h3, rfl⟩
  · exact ⟨rfl, b1_swap np _ j f st rfl hnp hj h1 h2 h3 hB, fun g hg => Or.inl hg⟩
  · exact ⟨rfl, b1_none np _ j _ hj h0 hB, fun g hg => Or.inl hg⟩
  · have hB1 := b1_swap np _ j f st rfl hnp hj h1 h2 (by rw [← ptype_eq, h3]; decide) hB
    have hzj : ((st.swap j f).t.row j).z j = true := by
      have e := swap_row' st j f j hj
      rw [if_pos rfl] at e
      rw [(e.1 j hj).2]
      exact z_of_pt_three _ _ (by rw [← ptype_eq, h3])
    obtain ⟨k1, k2, k3⟩ := invClear_keeps st.t.n j hj (st.swap j f) rfl hzj
    have hB2 := b1_keeps np _ (j + 1) _ _ hnp k3 hB1
    split
    · next hc =>
      -- the literal row of a photon column `j` acts on nothing right of `j`: the `H` is on an emitter column
      have hjnp : np ≤ j := by
        rcases Nat.lt_or_ge j np with hlt | hge
        · exfalso
          obtain ⟨i, hi, hij⟩ := hB2 j hlt
          have e1 := hij (Nat.lt_succ_self j)
          rw [e1] at hi
          simp only [List.any_eq_true, List.mem_filter, List.mem_range, decide_eq_true_eq, Bool.or_eq_true] at hc
          obtain ⟨k, ⟨hk, hjk⟩, hb⟩ := hc
          have x0 := hi.row_x k hk
          have z0 := hi.row_z k hk
          have : decide (k = j) = false := decide_eq_false (Nat.ne_of_gt hjk)
          rw [this] at z0
          rw [x0, z0] at hb
          simp at hb
        · exact hge
      refine ⟨k1, ?_, ?_⟩
      · intro q hq
        obtain ⟨i, hi, hiq⟩ := hB2 q hq
        exact ⟨i, litAt_gate _ (.H j) _ q i k1 (Nat.lt_of_lt_of_le hq hnp) hj
          (fun h => Nat.not_lt_of_le hjnp (List.mem_singleton.mp h ▸ hq)) hi, hiq⟩
      · intro g hg
        simp only [InvState.gate, List.mem_append, List.mem_singleton] at hg
        rcases hg with hg | hg
        · rw [k2] at hg
          exact Or.inl hg
        · exact Or.inr ⟨hg, hjnp⟩
    · exact ⟨k1, hB2, fun g hg => Or.inl (by rw [k2] at hg; exact hg)⟩

theorem step1_lit (np n j : Nat) (st st' : InvState) (hn : st.t.n = n) (hnp : np ≤ n) (hj : j < n)
    (hB : B1 np n j st.t.row) (hs : invStep1 n st j = .ok st') :
    st'.t.n = n ∧ B1 np n (j + 1) st'.t.row ∧ (∀ g, g ∈ st'.circ → g ∈ st.circ ∨ g = .H j) := by
  obtain ⟨a1, a2, a3⟩ := step1_emit np n j st st' hn hnp hj hB hs
  exact ⟨a1, a2, fun g hg => (a3 g hg).imp id And.left⟩

theorem onEmitters_H (np j : Nat) (h : np ≤ j) : Gate.onEmitters np (.H j) :=
  fun _ hc => List.mem_singleton.mp hc ▸ h

/-- block 1, for any gate predicate that holds of `H j` on emitter columns `j` -/
theorem block1_gen (P : Gate → Prop) (np n : Nat) (hP : ∀ j, np ≤ j → P (.H j)) (hnp : np ≤ n) (m j : Nat) (hjm : j + m = n)
    (st st' : InvState) (hn : st.t.n = n)
    (hB : B1 np n j st.t.row) (hok : ∀ g, g ∈ st.circ → P g)
    (hs : (List.range' j m).foldlM (invStep1 n) st = .ok st') :
    st'.t.n = n ∧ B1 np n n st'.t.row ∧ ∀ g, g ∈ st'.circ → P g := by
  induction m generalizing j st with
  | zero =>
    simp only [List.range', List.foldlM_nil] at hs
    injection hs with hs
    subst hs
    have : j = n := by omega
    subst this
    exact ⟨hn, hB, hok⟩
  | succ m ih =>
    rw [List.range'_succ] at hs
    simp only [List.foldlM_cons] at hs
    cases h1 : invStep1 n st j with
    | error e => rw [h1] at hs; cases hs
    | ok s1 =>
      rw [h1] at hs
      obtain ⟨a1, a2, a3⟩ := step1_emit np n j st s1 hn hnp (by omega) hB h1
      refine ih (j + 1) (by omega) s1 a1 a2 ?_ hs
      intro g hg
      rcases a3 g hg with hg' | hg'
      · exact hok g hg'
      · rw [hg'.1]
        exact hP j hg'.2

theorem block1_lit (np n : Nat) (hnp : np ≤ n) (m j : Nat) (hjm : j + m = n) (st st' : InvState) (hn : st.t.n = n)
    (hB : B1 np n j st.t.row) (hok : ∀ g, g ∈ st.circ → Gate.okFor np g)
    (hs : (List.range' j m).foldlM (invStep1 n) st = .ok st') :
    st'.t.n = n ∧ B1 np n n st'.t.row ∧ ∀ g, g ∈ st'.circ → Gate.okFor np g :=
  block1_gen (Gate.okFor np) np n (fun _ _ => True.intro) hnp m j hjm st st' hn hB hok hs

theorem invBlock1_emit (t0 : STab) (np : Nat) (hnp : np ≤ t0.n) (hlit : ∀ q, q < np → t0.Lit q) (s1 : InvState)
    (h : invBlock1 t0 = .ok s1) :
    s1.t.n = t0.n ∧ B1 np t0.n t0.n s1.t.row ∧ ∀ g, g ∈ s1.circ → Gate.okFor np g ∧ Gate.onEmitters np g := by
  unfold invBlock1 at h
  rw [List.range_eq_range'] at h
  refine block1_gen (fun g => Gate.okFor np g ∧ Gate.onEmitters np g) np t0.n
    (fun j hj => ⟨True.intro, onEmitters_H np j hj⟩) hnp t0.n 0 (by omega) { t := t0, circ := [] } s1 rfl ?_ ?_ h
  · intro q hq
    obtain ⟨i, hi⟩ := hlit q hq
    exact ⟨i, hi, fun h0 => absurd h0 (Nat.not_lt_zero _)⟩
  · intro g hg
    cases hg

theorem invBlock1_lit (t0 : STab) (np : Nat) (hnp : np ≤ t0.n) (hlit : ∀ q, q < np → t0.Lit q) (s1 : InvState)
    (h : invBlock1 t0 = .ok s1) :
    s1.t.n = t0.n ∧ B1 np t0.n t0.n s1.t.row ∧ ∀ g, g ∈ s1.circ → Gate.okFor np g := by
  unfold invBlock1 at h
  rw [List.range_eq_range'] at h
  refine block1_lit np t0.n hnp t0.n 0 (by omega) { t := t0, circ := [] } s1 rfl ?_ ?_ h
  · intro q hq
    obtain ⟨i, hi⟩ := hlit q hq
    exact ⟨i, hi, fun h0 => absurd h0 (Nat.not_lt_zero _)⟩
  · intro g hg
    cases hg

/-! ### blocks 2 to 7: row `q` is `+Z_q` for every photon `q` -/

/-- the invariant of blocks 2 to 7 of `inverse_circuit`: row `q` is `+Z_q` for every photon `q`, and every gate emitted so far is on
    emitter columns.  Not `Solver.RInv` (SolverCompleteLoop), the invariant of the solver's main loop. -/
structure RInv (np n : Nat) (st : InvState) : Prop where
  n_eq : st.t.n = n
  lit : ∀ q, q < np → LitAt n st.t.row q q
  ok : ∀ g, g ∈ st.circ → Gate.okFor np g
  em : ∀ g, g ∈ st.circ → Gate.onEmitters np g

theorem RInv.gate {np n : Nat} {st : InvState} (h : RInv np n st) (hnp : np ≤ n) (g : Gate) (hwf : g.WF n)
    (hok : Gate.okFor np g) (hc : ∀ c, c ∈ g.cols → np ≤ c) : RInv np n (st.gate g) := by
  refine ⟨h.n_eq, fun q hq => ?_, fun g' hg' => ?_, fun g' hg' => ?_⟩
  · exact litAt_gate st g n q q h.n_eq (Nat.lt_of_lt_of_le hq hnp) hwf (fun hm => Nat.not_le_of_lt hq (hc q hm)) (h.lit q hq)
  · simp only [InvState.gate, List.mem_append, List.mem_singleton] at hg'
    rcases hg' with hg' | hg'
    · exact h.ok g' hg'
    · rw [hg']
      exact hok
  · simp only [InvState.gate, List.mem_append, List.mem_singleton] at hg'
    rcases hg' with hg' | hg'
    · exact h.em g' hg'
    · rw [hg']
      exact hc

theorem RInv.rsum {np n : Nat} {st : InvState} (h : RInv np n st) (a b : Nat) (ha : a < n)
    (hpa : np ≤ a) (hpb : np ≤ b) : RInv np n (st.rsum a b) :=
  ⟨h.n_eq, fun q hq => litAt_rsum st a b n q q h.n_eq (Nat.lt_of_lt_of_le hq (Nat.le_trans hpa (Nat.le_of_lt ha))) ha
    (Nat.ne_of_gt (Nat.lt_of_lt_of_le hq hpa)) (Nat.ne_of_gt (Nat.lt_of_lt_of_le hq hpb)) (h.lit q hq), h.ok, h.em⟩

theorem rinv_step2 (np n : Nat) (hnp : np ≤ n) (st : InvState) (jk : Nat × Nat) (h : RInv np n st) (hm : jk ∈ pairsLt n) :
    RInv np n (invStep2 st jk) := by
  have hb := mem_pairsLt _ _ hm
  unfold invStep2
  split
  · next hx =>
    have hj : np ≤ jk.1 := by
      rcases Nat.lt_or_ge jk.1 np with hlt | hge
      · have := (h.lit jk.1 hlt).row_x jk.2 hb.2
        rw [this] at hx
        cases hx
      · exact hge
    have hk : np ≤ jk.2 := Nat.le_trans hj (Nat.le_of_lt hb.1)
    refine h.gate hnp (.CNOT jk.1 jk.2) ⟨Nat.lt_trans hb.1 hb.2, hb.2, Nat.ne_of_lt hb.1⟩ ⟨hj, hk⟩ ?_
    intro c hc
    simp only [Gate.cols, List.mem_cons, List.not_mem_nil, or_false] at hc
    exact hc.elim (fun e => e ▸ hj) (fun e => e ▸ hk)
  · exact h

theorem rinv_step3 (np n : Nat) (hnp : np ≤ n) (st : InvState) (jk : Nat × Nat) (h : RInv np n st) (hm : jk ∈ pairsLt n) :
    RInv np n (invStep3 st jk) := by
  have hb := mem_pairsLt _ _ hm
  unfold invStep3
  split
  · next hx =>
    simp only [Bool.and_eq_true] at hx
    have hj : np ≤ jk.1 := by
      rcases Nat.lt_or_ge jk.1 np with hlt | hge
      · have e := (h.lit jk.1 hlt).row_z jk.2 hb.2
        have : decide (jk.2 = jk.1) = false := decide_eq_false (Nat.ne_of_gt hb.1)
        rw [this, hx.2] at e
        cases e
      · exact hge
    have hk : np ≤ jk.2 := Nat.le_trans hj (Nat.le_of_lt hb.1)
    refine h.gate hnp (.CZ jk.1 jk.2) ⟨Nat.lt_trans hb.1 hb.2, hb.2, Nat.ne_of_lt hb.1⟩ ⟨hj, hk⟩ ?_
    intro c hc
    simp only [Gate.cols, List.mem_cons, List.not_mem_nil, or_false] at hc
    exact hc.elim (fun e => e ▸ hj) (fun e => e ▸ hk)
  · exact h

theorem rinv_step4 (np n : Nat) (hnp : np ≤ n) (st : InvState) (j : Nat) (h : RInv np n st) (hjn : j < n) :
    RInv np n (invStep4 st j) := by
  unfold invStep4
  split
  · next hx =>
    simp only [Bool.and_eq_true] at hx
    have hj : np ≤ j := by
      rcases Nat.lt_or_ge j np with hlt | hge
      · have e := (h.lit j hlt).row_x j hjn
        rw [hx.1] at e
        cases e
      · exact hge
    refine h.gate hnp (.P j) hjn True.intro ?_
    intro c hc
    exact List.mem_singleton.mp hc ▸ hj
  · exact h

theorem rinv_step5 (np n : Nat) (hnp : np ≤ n) (st : InvState) (j : Nat) (h : RInv np n st) (hjn : j < n) :
    RInv np n (invStep5 st j) := by
  unfold invStep5
  split
  · next hx =>
    simp only [Bool.and_eq_true] at hx
    have hj : np ≤ j := by
      rcases Nat.lt_or_ge j np with hlt | hge
      · have e := (h.lit j hlt).row_x j hjn
        rw [hx.1] at e
        cases e
      · exact hge
    refine h.gate hnp (.H j) hjn True.intro ?_
    intro c hc
    exact List.mem_singleton.mp hc ▸ hj
  · exact h

theorem rinv_step6 (np n : Nat) (st : InvState) (jk : Nat × Nat) (h : RInv np n st) (hm : jk ∈ pairsLt n) :
    RInv np n (invStep6 st jk) := by
  have hb := mem_pairsLt _ _ hm
  unfold invStep6
  split
  · next hx =>
    simp only [Bool.and_eq_true] at hx
    have hj : np ≤ jk.1 := by
      rcases Nat.lt_or_ge jk.1 np with hlt | hge
      · have e := (h.lit jk.1 hlt).2.2 jk.2 hb.2 (Nat.ne_of_gt hb.1)
        exact absurd e (pt_ne_zero_of_z _ _ hx.2)
      · exact hge
    exact h.rsum jk.1 jk.2 (Nat.lt_trans hb.1 hb.2) hj (Nat.le_trans hj (Nat.le_of_lt hb.1))
  · exact h

theorem rinv_step7 (np n : Nat) (hnp : np ≤ n) (st : InvState) (i : Nat) (h : RInv np n st) (hi : np ≤ i ∧ i < n) :
    RInv np n (invStep7 st i) := by
  unfold invStep7
  refine h.gate hnp (.X i) hi.2 True.intro ?_
  intro c hc
  exact List.mem_singleton.mp hc ▸ hi.1

theorem invRest_lit (np n : Nat) (hnp : np ≤ n) (s1 : InvState) (h1 : RInv np n s1) : RInv np n (invRest n s1) := by
  unfold invRest
  have lt_of_range : ∀ x, x ∈ List.range n → x < n := fun x hx => List.mem_range.mp hx
  have h2 := Loop.foldl_inv (f := invStep2) (l := pairsLt n) (RInv np n) (fun st jk hm h => rinv_step2 np n hnp st jk h hm) h1
  have h3 := Loop.foldl_inv (f := invStep3) (l := pairsLt n) (RInv np n) (fun st jk hm h => rinv_step3 np n hnp st jk h hm) h2
  have h4 := Loop.foldl_inv (f := invStep4) (l := List.range n) (RInv np n)
    (fun st j hm h => rinv_step4 np n hnp st j h (lt_of_range j hm)) h3
  have h5 := Loop.foldl_inv (f := invStep5) (l := List.range n) (RInv np n)
    (fun st j hm h => rinv_step5 np n hnp st j h (lt_of_range j hm)) h4
  have h6 := Loop.foldl_inv (f := invStep6) (l := pairsLt n) (RInv np n) (fun st jk hm h => rinv_step6 np n st jk h hm) h5
  refine Loop.foldl_inv (f := invStep7) (RInv np n) (fun st i hm h => rinv_step7 np n hnp st i h ?_) h6
  simp only [List.mem_filter, List.mem_range] at hm
  refine ⟨?_, hm.1⟩
  rcases Nat.lt_or_ge i np with hlt | hge
  · have e : (_ : PRow).r = (Zq i).r := (h6.lit i hlt).2.1.2.1
    rw [hm.2] at e
    cases e
  · exact hge

/-- on a tableau whose photon columns are literal, the blocks of `inverse_circuit` emit only gates the solver's replay
    accepts, and the photon columns are still literal at the end -/
theorem invBlocks_rinv (t0 : STab) (np : Nat) (hnp : np ≤ t0.n)
    (hlit : ∀ q, q < np → t0.Lit q) (s : InvState) (h : invBlocks t0 = .ok s) : RInv np t0.n s := by
  unfold invBlocks at h
  split at h
  · cases h
  · next s1 h1 =>
    injection h with h
    subst h
    obtain ⟨a1, a2, a3⟩ := invBlock1_emit t0 np hnp hlit s1 h1
    have r1 : RInv np t0.n s1 := by
      refine ⟨a1, fun q hq => ?_, fun g hg => (a3 g hg).1, fun g hg => (a3 g hg).2⟩
      obtain ⟨i, hi, hiq⟩ := a2 q hq
      rw [hiq (by omega)] at hi
      exact hi
    exact invRest_lit np t0.n hnp s1 r1

theorem invBlocks_gates_ok (t0 : STab) (np : Nat) (hnp : np ≤ t0.n)
    (hlit : ∀ q, q < np → t0.Lit q) (s : InvState) (h : invBlocks t0 = .ok s) :
    (∀ g, g ∈ s.circ → Gate.okFor np g) ∧ (∀ q, q < np → s.t.Lit q) := by
  have r := invBlocks_rinv t0 np hnp hlit s h
  refine ⟨r.ok, fun q hq => ?_⟩
  rw [lit_iff, r.n_eq]
  exact ⟨q, r.lit q hq⟩

theorem invBlocks_gates_on_emitters (t0 : STab) (np : Nat) (hnp : np ≤ t0.n)
    (hlit : ∀ q, q < np → t0.Lit q) (s : InvState) (h : invBlocks t0 = .ok s) :
    ∀ g, g ∈ s.circ → Gate.onEmitters np g :=
  (invBlocks_rinv t0 np hnp hlit s h).em

/-- `canonical_form`, the first step of `inverse_circuit`, keeps the literal photon columns literal (`canonicalForm_lit`), so the
    blocks run on a tableau of the same kind -/
theorem inverseCircuit_lit (t t' : STab) (circ : List Gate) (np : Nat) (hnp : np ≤ t.n) (hg : t.Good)
    (hlit : ∀ q, q < np → t.Lit q) (h : t.inverseCircuit = .ok (t', circ)) :
    ∃ t0 s, np ≤ t0.n ∧ (∀ q, q < np → t0.Lit q) ∧ invBlocks t0 = .ok s ∧ s.circ = circ := by
  obtain ⟨t0, s, hc, hs, _, e2⟩ := inverseCircuit_eq t t' circ h
  have hn : t.n = t0.n := (canonicalForm_spanEq t t0 hg hc).1.n_eq
  exact ⟨t0, s, hn ▸ hnp, fun q hq => canonicalForm_lit t t0 q (Nat.lt_of_lt_of_le hq hnp) (hlit q hq) hc, hs, e2⟩

/-- **`inverse_circuit` on a tableau with literal photon columns returns a gate list the solver's replay accepts** -/
theorem inverseCircuit_gates_ok (t t' : STab) (circ : List Gate) (np : Nat) (hnp : np ≤ t.n) (hg : t.Good)
    (hlit : ∀ q, q < np → t.Lit q) (h : t.inverseCircuit = .ok (t', circ)) :
    ∀ g, g ∈ circ → Gate.okFor np g := by
  obtain ⟨t0, s, hn0, hl0, hs, rfl⟩ := inverseCircuit_lit t t' circ np hnp hg hlit h
  exact (invBlocks_gates_ok t0 np hn0 hl0 s hs).1

/-- **`inverse_circuit` on a tableau with literal photon columns only emits gates on emitter columns**: every column a
    returned gate acts on is `≥ np` -/
theorem inverseCircuit_gates_on_emitters (t t' : STab) (circ : List Gate) (np : Nat) (hnp : np ≤ t.n) (hg : t.Good)
    (hlit : ∀ q, q < np → t.Lit q) (h : t.inverseCircuit = .ok (t', circ)) :
    ∀ g, g ∈ circ → Gate.onEmitters np g := by
  obtain ⟨t0, s, hn0, hl0, hs, rfl⟩ := inverseCircuit_lit t t' circ np hnp hg hlit h
  exact invBlocks_gates_on_emitters t0 np hn0 hl0 s hs

end STab
end Graphiq
