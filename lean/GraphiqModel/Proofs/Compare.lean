/-
  Proofs/Compare.lean — lemmas about the comparison model (C15): the class-relation table; `directL` (soundness, reflexivity,
  symmetry, dependence on the flattened operation list only); the redundancy filters for an arbitrary comparison function;
  the isomorphism check before the repair (what the search returns is checked; a key-respecting isomorphism maps wires to
  wires); the compiled states of the two-qubit unitary witnesses of C15 §3 in the tableau model of C07 (Model/Tableau.lean);
  the projection lemma of trace theory read on operations (equal wire sequences = equal up to exchanges of neighbours on
  disjoint registers); the check with an arbitrary comparison of parallel edges (`isoCheckW`), of which `isoCheck` and
  `isoCheck2` are instances.
-/
import GraphiqModel.Model.Compare
import GraphiqModel.Proofs.Export
import GraphiqModel.Model.Tableau
import GraphiqModel.Proofs.Trace
import Mathlib.Data.List.Perm.Subperm
import Mathlib.Data.List.Nodup
namespace Graphiq.Compare
open Graphiq Graphiq.Export Graphiq.Trace

/-! ## `isinstance` between the 13 operation classes is equality (no class subclasses another) -/

theorem tbl_subclass : ∀ a ∈ Cls.all, ∀ b ∈ Cls.all, (isSubclass a b = true ↔ a = b) := by
  -- the kernel decodes the UTF-8 bytes of every string literal it meets; the keys of the table are replaced by their
  -- character lists first (`String.toList_ofList`, as in `Export.name_tables`)
  simp only [isSubclass, strTbl, Gen.subclass, List.map_cons, List.map_nil]
  conv =>
    pattern (occs := *) String.toList (String.ofList _)
    all_goals rw [String.toList_ofList]
  decide +kernel

theorem isSubclass_iff (a b : Cls) : isSubclass a b = true ↔ a = b :=
  tbl_subclass a (Cls.mem_all a) b (Cls.mem_all b)

/-! ## `direct` -/

theorem opMatchL_dropC (a b : Op) (ha : ∀ gs q, a ≠ .wrap gs q) (h : opMatchL a b = true) : dropC a = dropC b := by
  unfold opMatchL at h
  simp only [Bool.and_eq_true, beq_iff_eq] at h
  obtain ⟨hc, hq⟩ := h
  cases a with
  | wrap gs q => exact absurd rfl (ha gs q)
  | one g q =>
    cases b <;> simp only [opClsMatch, Op.cls, isSubclass_iff, reduceCtorEq, Bool.false_eq_true] at hc
    · simp only [Op.qRegs, List.cons.injEq, and_true] at hq
      injection hc with hc; subst hc; subst hq; rfl
  | ctrl g x y =>
    cases b <;> simp only [opClsMatch, Op.cls, isSubclass_iff, reduceCtorEq, Bool.false_eq_true] at hc
    · simp only [Op.qRegs, List.cons.injEq, and_true] at hq
      injection hc with hc; subst hc; obtain ⟨h1, h2⟩ := hq; subst h1; subst h2; rfl
  | cctrl g x y c =>
    cases b <;> simp only [opClsMatch, Op.cls, isSubclass_iff, reduceCtorEq, Bool.false_eq_true] at hc
    · simp only [Op.qRegs, List.cons.injEq, and_true] at hq
      injection hc with hc; subst hc; obtain ⟨h1, h2⟩ := hq; subst h1; subst h2; rfl
  | meas q c =>
    cases b <;> simp only [opClsMatch, Op.cls, isSubclass_iff, reduceCtorEq, Bool.false_eq_true] at hc
    · simp only [Op.qRegs, List.cons.injEq, and_true] at hq
      subst hq; rfl

theorem walkL_dropC (l1 l2 : List Op) (h1 : ∀ a ∈ l1, ∀ gs q, a ≠ .wrap gs q) (h : walkL l1 l2 = true) :
    l1.map dropC = l2.map dropC := by
  induction l1 generalizing l2 with
  | nil => cases l2 <;> simp_all [walkL]
  | cons a as ih =>
    cases l2 with
    | nil => simp [walkL] at h
    | cons b bs =>
      simp only [walkL, Bool.and_eq_true] at h
      simp only [List.map_cons]
      rw [opMatchL_dropC a b (h1 a (by simp)) h.1, ih bs (fun x hx => h1 x (by simp [hx])) h.2]

theorem flat_no_wrap (ops : List Op) : ∀ a ∈ flat ops, ∀ gs q, a ≠ .wrap gs q := by
  intro a ha gs q heq
  subst heq
  unfold flat at ha
  simp only [List.mem_filter, List.mem_flatMap] at ha
  obtain ⟨⟨o, _, ho⟩, _⟩ := ha
  cases o <;> simp [Op.unwrap] at ho

theorem touches_ofQ (q : QReg) (o : Op) : touches (Wire.ofQ q) o = o.qRegs.contains q := by
  unfold touches opWires
  rw [List.contains_eq_mem, List.contains_eq_mem]
  have inj : ∀ a b : QReg, Wire.ofQ a = Wire.ofQ b → a = b := by
    intro a b h
    cases a with | mk ta ia => cases b with | mk tb ib =>
    cases ta <;> cases tb <;> simp [Wire.ofQ, RT.ofRegT] at h <;> simp [h]
  have hc : ∀ i : Nat, (⟨.c, i⟩ : Wire) ≠ Wire.ofQ q := by
    intro i h; cases q with | mk t i' => cases t <;> simp [Wire.ofQ, RT.ofRegT] at h
  by_cases hm : q ∈ o.qRegs
  · have : Wire.ofQ q ∈ o.qRegs.map Wire.ofQ ++ o.cRegs.map fun i => (⟨.c, i⟩ : Wire) :=
      List.mem_append_left _ (List.mem_map_of_mem hm)
    simp [hm, this]
  · have : ¬ Wire.ofQ q ∈ o.qRegs.map Wire.ofQ ++ o.cRegs.map fun i => (⟨.c, i⟩ : Wire) := by
      intro h
      rcases List.mem_append.1 h with h | h
      · obtain ⟨a, ha, hEq⟩ := List.mem_map.1 h
        exact hm (inj a q hEq ▸ ha)
      · obtain ⟨i, _, hEq⟩ := List.mem_map.1 h
        exact hc i hEq
    simp [hm, this]

theorem mem_allWires_of_qreg (c : Circuit) (q : QReg) (h : q ∈ qregsOf c) : Wire.ofQ q ∈ allWires c := by
  unfold qregsOf at h
  unfold allWires
  rcases List.mem_append.1 h with h | h
  · obtain ⟨i, hi, rfl⟩ := List.mem_map.1 h
    exact List.mem_append_left _ (List.mem_append_right _ (List.mem_map.2 ⟨i, hi, rfl⟩))
  · obtain ⟨i, hi, rfl⟩ := List.mem_map.1 h
    exact List.mem_append_left _ (List.mem_append_left _ (List.mem_map.2 ⟨i, hi, rfl⟩))

/-- **`direct` is sound**: reported equal ⇒ same register counts and, on every quantum register, the same sequence of
    executed operations (up to which classical register records an outcome) -/
theorem directL_sound (c1 c2 : Circuit) (h : directL c1 c2 = true) : wiresEq c1 c2 = true := by
  unfold directL at h
  simp only [Bool.and_eq_true, beq_iff_eq, List.all_eq_true] at h
  obtain ⟨⟨⟨⟨hne, hnp⟩, hnc⟩, _⟩, hw⟩ := h
  unfold wiresEq
  simp only [Bool.and_eq_true, beq_iff_eq, List.all_eq_true, hne, hnp, hnc, true_and]
  intro q hq
  have := hw (Wire.ofQ q) (mem_allWires_of_qreg c1 q hq)
  unfold wireOf
  have hf : ∀ ops : List Op, ops.filter (touches (Wire.ofQ q)) = ops.filter (fun o => o.qRegs.contains q) := by
    intro ops; congr 1; funext o; exact touches_ofQ q o
  rw [hf, hf] at this
  exact walkL_dropC _ _ (fun a ha => flat_no_wrap c1.ops a (List.mem_filter.1 ha).1) this

theorem opMatchL_refl (a : Op) : opMatchL a a = true := by
  unfold opMatchL
  cases a <;> simp [opClsMatch, Op.cls, isSubclass_iff]

theorem walkL_refl (l : List Op) : walkL l l = true := by
  induction l with
  | nil => rfl
  | cons a as ih => simp [walkL, opMatchL_refl, ih]

theorem directL_refl (c : Circuit) : directL c c = true := by
  unfold directL
  simp [walkL_refl]

theorem opMatchL_symm (a b : Op) : opMatchL a b = opMatchL b a := by
  unfold opMatchL
  have hq : (a.qRegs == b.qRegs) = (b.qRegs == a.qRegs) :=
    Bool.eq_iff_iff.2 (by simp only [beq_iff_eq]; exact eq_comm)
  have hc : opClsMatch a b = opClsMatch b a := by
    cases a <;> cases b <;> simp only [opClsMatch, Op.cls] <;>
      (apply Bool.eq_iff_iff.2; simp only [isSubclass_iff]; exact eq_comm)
  rw [hq, hc]

theorem walkL_symm (l1 l2 : List Op) : walkL l1 l2 = walkL l2 l1 := by
  induction l1 generalizing l2 with
  | nil => cases l2 <;> rfl
  | cons a as ih =>
    cases l2 with
    | nil => rfl
    | cons b bs => simp only [walkL, opMatchL_symm a b, ih bs]

theorem directL_symm (c1 c2 : Circuit) : directL c1 c2 = directL c2 c1 := by
  unfold directL
  by_cases hr : c1.ne = c2.ne ∧ c1.np = c2.np ∧ c1.nc = c2.nc
  · obtain ⟨h1, h2, h3⟩ := hr
    have hw : allWires c1 = allWires c2 := by unfold allWires; rw [h1, h2, h3]
    rw [hw]
    simp only [h1, h2, h3, beq_self_eq_true, Bool.true_and]
    have hl : ((flat c1.ops).length == (flat c2.ops).length) = ((flat c2.ops).length == (flat c1.ops).length) :=
      Bool.eq_iff_iff.2 (by simp only [beq_iff_eq]; exact eq_comm)
    rw [hl]
    congr 1
    congr 1
    funext w
    exact walkL_symm _ _
  · have h1 : (c1.ne == c2.ne && c1.np == c2.np && c1.nc == c2.nc) = false := by
      apply Bool.eq_false_iff.2
      intro h
      simp only [Bool.and_eq_true, beq_iff_eq] at h
      exact hr ⟨h.1.1, h.1.2, h.2⟩
    have h2 : (c2.ne == c1.ne && c2.np == c1.np && c2.nc == c1.nc) = false := by
      apply Bool.eq_false_iff.2
      intro h
      simp only [Bool.and_eq_true, beq_iff_eq] at h
      exact hr ⟨h.1.1.symm, h.1.2.symm, h.2.symm⟩
    simp only [h1, h2, Bool.false_and]

/-- `direct` only looks at the flattened circuits: wrapping, re-bracketing and identities are invisible to it -/
theorem directL_flat_congr (c1 c1' c2 : Circuit) (hr : c1.ne = c1'.ne ∧ c1.np = c1'.np ∧ c1.nc = c1'.nc)
    (hf : flat c1.ops = flat c1'.ops) : directL c1 c2 = directL c1' c2 := by
  unfold directL allWires
  rw [hr.1, hr.2.1, hr.2.2, hf]

theorem directL_of_flat_eq (c1 c2 : Circuit) (hr : c1.ne = c2.ne ∧ c1.np = c2.np ∧ c1.nc = c2.nc)
    (hf : flat c1.ops = flat c2.ops) : directL c1 c2 = true :=
  (directL_flat_congr c1 c2 c2 hr hf).trans (directL_refl c2)

/-! ## redundancy filters (any comparison function) -/

theorem removeRedundantWith_append {α : Type} (eq : α → α → Bool) (l : List α) (kept0 : List α) :
    ∃ extra, l.foldl (fun kept x => if kept.any (fun k => eq k x) then kept else kept ++ [x]) kept0 = kept0 ++ extra ∧
      extra.Sublist l ∧ ∀ x ∈ l, x ∈ extra ∨ ∃ k ∈ kept0 ++ extra, eq k x = true := by
  induction l generalizing kept0 with
  | nil => exact ⟨[], by simp, List.Sublist.refl _, by simp⟩
  | cons x rest ih =>
    simp only [List.foldl_cons]
    by_cases hx : kept0.any (fun k => eq k x) = true
    · obtain ⟨extra, h1, h2, h3⟩ := ih kept0
      refine ⟨extra, by simpa [hx] using h1, List.Sublist.cons _ h2, ?_⟩
      intro y hy
      rcases List.mem_cons.1 hy with rfl | hy
      · right
        obtain ⟨k, hk, hkx⟩ := List.any_eq_true.1 hx
        exact ⟨k, List.mem_append_left _ hk, hkx⟩
      · exact h3 y hy
    · obtain ⟨extra, h1, h2, h3⟩ := ih (kept0 ++ [x])
      refine ⟨x :: extra, by simpa [hx] using h1, List.Sublist.cons_cons _ h2, ?_⟩
      intro y hy
      rcases List.mem_cons.1 hy with rfl | hy
      · left; simp
      · rcases h3 y hy with h | ⟨k, hk, hky⟩
        · left; simp [h]
        · right; exact ⟨k, by simpa using hk, hky⟩

theorem removeRedundantWith_spec {α : Type} (eq : α → α → Bool) (l : List α) :
    (removeRedundantWith eq l).Sublist l ∧
    ∀ x ∈ l, x ∈ removeRedundantWith eq l ∨ ∃ k ∈ removeRedundantWith eq l, eq k x = true := by
  obtain ⟨extra, h1, h2, h3⟩ := removeRedundantWith_append eq l []
  unfold removeRedundantWith
  rw [h1]
  simpa using ⟨h2, h3⟩

theorem storage_fold_fst {α : Type} (eq : α → α → Bool) (l : List α) (st : List α) (fl : List Bool) :
    (l.foldl (fun (st : List α × List Bool) x =>
      if false then (st.1 ++ [x], st.2 ++ [true])
      else if st.1.any (fun k => eq k x) then (st.1, st.2 ++ [false])
      else (st.1 ++ [x], st.2 ++ [true])) (st, fl)).1 =
    l.foldl (fun kept x => if kept.any (fun k => eq k x) then kept else kept ++ [x]) st := by
  induction l generalizing st fl with
  | nil => rfl
  | cons x rest ih =>
    simp only [List.foldl_cons, Bool.false_eq_true, if_false]
    by_cases hx : st.any (fun k => eq k x) = true
    · simp only [hx, if_true]; exact ih st _
    · simp only [hx]; exact ih _ _

/-- `CircuitStorage` keeps exactly what `remove_redundant_circuits` would keep with the same comparison -/
theorem storage_eq_removeRedundant {α : Type} (eq : α → α → Bool) (l : List α) :
    (storageAddAll eq false l).1 = removeRedundantWith eq l :=
  storage_fold_fst eq l [] []

theorem removeRedundantWith_fold_pairwise {α : Type} (eq : α → α → Bool) (l : List α) (kept0 : List α)
    (h0 : kept0.Pairwise (fun a b => eq a b = false)) :
    (l.foldl (fun kept x => if kept.any (fun k => eq k x) then kept else kept ++ [x]) kept0).Pairwise
      (fun a b => eq a b = false) := by
  induction l generalizing kept0 with
  | nil => exact h0
  | cons x rest ih =>
    simp only [List.foldl_cons]
    by_cases hx : kept0.any (fun k => eq k x) = true
    · simp only [hx, if_true]; exact ih kept0 h0
    · simp only [hx]
      apply ih
      simp only [Bool.false_eq_true, if_false]
      rw [List.pairwise_append]
      refine ⟨h0, List.pairwise_singleton _ _, ?_⟩
      intro a ha b hb
      rw [List.mem_singleton] at hb
      subst hb
      have := hx
      simp only [List.any_eq_true, not_exists, not_and, Bool.not_eq_true] at this
      exact this a ha

theorem removeRedundantWith_pairwise {α : Type} (eq : α → α → Bool) (l : List α) :
    (removeRedundantWith eq l).Pairwise (fun a b => eq a b = false) :=
  removeRedundantWith_fold_pairwise eq l [] List.Pairwise.nil

/-! ## the isomorphism check before the repair -/

-- results of `circuitIsIsomorphic` are compared with `.ok true` under `decide +kernel` (C15 `iso_witnesses`)
instance : DecidableEq (Except Err Bool) := fun a b =>
  match a, b with
  | .ok x, .ok y => if h : x = y then isTrue (by rw [h]) else isFalse (by intro h'; injection h' with h''; exact h h'')
  | .error x, .error y => if h : x = y then isTrue (by rw [h]) else isFalse (by intro h'; injection h' with h''; exact h h'')
  | .ok _, .error _ => isFalse (by intro h; cases h)
  | .error _, .ok _ => isFalse (by intro h; cases h)

/-- whatever the search does, a positive answer exhibits a map that passes the full check -/
theorem isoGraphs_witness (g1 g2 : MG) (h : isoGraphs g1 g2 = true) :
    ∃ f, isoCheck g1.addControlTarget g2.addControlTarget f = true := by
  unfold isoGraphs at h
  simp only [Bool.and_eq_true, List.any_eq_true] at h
  obtain ⟨_, f, _, hf⟩ := h
  exact ⟨f, hf⟩

def followKey (g : MG) (w : Wire) : Nat → Nd → List Nd
  | 0, n => [n]
  | fuel + 1, n =>
    n :: match g.outEdge n w with
      | some e => followKey g w fuel e.dst
      | none => []

/-- `f` (on nodes) together with `π` (on edge keys) maps the keyed edges of `g1` onto the keyed edges of `g2`.
    This is what `edge_match` before the repair does **not** check: it never looks at the key. -/
structure KeyRespecting (g1 g2 : MG) (f : Nd → Nd) (π : Wire → Wire) : Prop where
  fwd : ∀ e ∈ g1.edges, ∃ e' ∈ g2.edges, e'.src = f e.src ∧ e'.dst = f e.dst ∧ e'.key = π e.key
  bwd : ∀ e' ∈ g2.edges, ∃ e ∈ g1.edges, e'.src = f e.src ∧ e'.dst = f e.dst ∧ e'.key = π e.key
  injN : ∀ a b, f a = f b → a = b
  injK : ∀ a b, π a = π b → a = b

def UniqueOut (g : MG) : Prop := ∀ e ∈ g.edges, ∀ e' ∈ g.edges, e.src = e'.src → e.key = e'.key → e.dst = e'.dst

theorem outEdge_some (g : MG) (n : Nd) (w : Wire) (e : Edge) (h : g.outEdge n w = some e) :
    e ∈ g.edges ∧ e.src = n ∧ e.key = w := by
  unfold MG.outEdge at h
  have hm := List.mem_of_find?_eq_some h
  have hp := List.find?_some h
  simp only [Bool.and_eq_true, beq_iff_eq] at hp
  exact ⟨hm, hp.1, hp.2⟩

theorem outEdge_none (g : MG) (n : Nd) (w : Wire) (h : g.outEdge n w = none) :
    ∀ e ∈ g.edges, ¬ (e.src = n ∧ e.key = w) := by
  unfold MG.outEdge at h
  intro e he hc
  have := List.find?_eq_none.1 h e he
  simp [hc.1, hc.2] at this

theorem outEdge_isSome_of_mem (g : MG) (e : Edge) (he : e ∈ g.edges) : ∃ e', g.outEdge e.src e.key = some e' := by
  cases h : g.outEdge e.src e.key with
  | some e' => exact ⟨e', rfl⟩
  | none => exact absurd ⟨rfl, rfl⟩ (outEdge_none g _ _ h e he)

theorem followKey_map (g1 g2 : MG) (f : Nd → Nd) (π : Wire → Wire) (hk : KeyRespecting g1 g2 f π) (hu : UniqueOut g2)
    (w : Wire) (fuel : Nat) (n : Nd) : followKey g2 (π w) fuel (f n) = (followKey g1 w fuel n).map f := by
  induction fuel generalizing n with
  | zero => rfl
  | succ k ih =>
    simp only [followKey, List.map_cons]
    congr 1
    cases h1 : g1.outEdge n w with
    | some e =>
      obtain ⟨he, hs, hkey⟩ := outEdge_some g1 n w e h1
      obtain ⟨e', he', hs', hd', hk'⟩ := hk.fwd e he
      obtain ⟨e'', h2⟩ := outEdge_isSome_of_mem g2 e' he'
      obtain ⟨he'', hs'', hk''⟩ := outEdge_some g2 _ _ e'' h2
      have hd : e''.dst = e'.dst := hu e'' he'' e' he' hs'' hk''
      rw [hs', hs, hk', hkey] at h2
      simp only [h2, hd, hd']
      exact ih e.dst
    | none =>
      cases h2 : g2.outEdge (f n) (π w) with
      | none => rfl
      | some e' =>
        exfalso
        obtain ⟨he', hs', hk'⟩ := outEdge_some g2 _ _ e' h2
        obtain ⟨e, he, hs, _, hkey⟩ := hk.bwd e' he'
        have h3 : e.src = n := hk.injN _ _ (hs.symm.trans hs')
        have h4 : e.key = w := hk.injK _ _ (hkey.symm.trans hk')
        exact outEdge_none g1 n w h1 e he ⟨h3, h4⟩

/-! ## flattening: wrapping, unwrapping and identities do not change the executed operations -/

theorem flat_unwrap_in_place (pre post : List Op) (gs : List G1) (q : QReg) :
    flat (pre ++ [.wrap gs q] ++ post) = flat (pre ++ Op.unwrap (.wrap gs q) ++ post) := by
  simp only [flat_append]
  congr 2
  rw [flat_wrap]
  simp only [flat, Op.unwrap]
  have : ∀ l : List G1, (l.map fun g => Op.one g q).flatMap Op.unwrap = l.map fun g => Op.one g q := by
    intro l
    induction l with
    | nil => rfl
    | cons g rest ih => simp only [List.map_cons, List.flatMap_cons, Op.unwrap, ih, List.singleton_append]
  rw [this, List.filter_map, ← List.filter_reverse]
  congr 1
  apply List.filter_congr
  intro g _
  cases g <;> rfl

theorem flat_identity_in_place (pre post : List Op) (q : QReg) :
    flat (pre ++ [.one .I q] ++ post) = flat (pre ++ post) := by
  simp only [flat_append]
  have : flat [Op.one .I q] = [] := by simp [flat, Op.unwrap, Op.isIdentity]
  rw [this, List.append_nil]

/-! ## the identity map -/

theorem nodeMatch_refl (a : NOp) : nodeMatch a a = true := by
  cases a with
  | input w => cases w with | mk t i => cases t <;> simp [nodeMatch]
  | output w => cases w with | mk t i => cases t <;> simp [nodeMatch]
  | gate o => cases o <;> simp [nodeMatch]

theorem edgeMatch_refl (es : List Edge) : edgeMatch es es = true := by
  simp [edgeMatch]

theorem applyMap_map {α : Type} (l : List α) (k v : α → Nd) (hinj : ∀ a ∈ l, ∀ b ∈ l, k a = k b → v a = v b) (a : α)
    (ha : a ∈ l) : applyMap (l.map fun a => (k a, v a)) (k a) = some (v a) := by
  unfold applyMap
  cases hf : (l.map fun a => (k a, v a)).find? (fun p => p.1 == k a) with
  | none =>
    exfalso
    have := List.find?_eq_none.1 hf (k a, v a) (List.mem_map_of_mem ha)
    simp at this
  | some p =>
    have hp := List.find?_some hf
    obtain ⟨b, hb, rfl⟩ := List.mem_map.1 (List.mem_of_find?_eq_some hf)
    simp only [beq_iff_eq] at hp
    exact congrArg some (hinj b hb a ha hp)

def pairsOf (ns : List Nd) (φ : Nd → Nd) : List (Nd × Nd) := ns.map fun n => (n, φ n)

theorem applyMap_pairsOf (ns : List Nd) (φ : Nd → Nd) (n : Nd) (h : n ∈ ns) : applyMap (pairsOf ns φ) n = some (φ n) :=
  applyMap_map ns id φ (fun _ _ _ _ h => congrArg φ h) n h

def idMapOf (g : MG) : List (Nd × Nd) := g.nodes.map fun p => (p.1, p.1)

theorem applyMap_id (g : MG) (n : Nd) (h : n ∈ g.nodes.map (·.1)) : applyMap (idMapOf g) n = some n := by
  have e : idMapOf g = pairsOf (g.nodes.map (·.1)) id := by unfold idMapOf pairsOf; rw [List.map_map]; rfl
  rw [e]
  exact applyMap_pairsOf _ id n h

/-! ## compiled states of the unitary witness pairs in the tableau model of C07 -/

/-- index of a quantum register in the compiled state: photons first, then emitters (`reg_to_index_func`) -/
def qIndex (np : Nat) (q : QReg) : Nat := match q.t with | .p => q.i | .e => np + q.i

/-- the tableau operation of a unitary circuit operation (after flattening) -/
def tabOp (np : Nat) : Op → Option Tab.Op
  | .one .H q => some (.h (qIndex np q)) | .one .X q => some (.x (qIndex np q)) | .one .Y q => some (.y (qIndex np q))
  | .one .Z q => some (.z (qIndex np q)) | .one .S q => some (.s (qIndex np q)) | .one .Sdg q => some (.sdg (qIndex np q))
  | .ctrl .CNOT a b => some (.cnot (qIndex np a) (qIndex np b))
  | .ctrl .CZ a b => some (.cz (qIndex np a) (qIndex np b))
  | _ => none

/-- compile a unitary circuit from |0…0⟩ with the verified tableau gates -/
def compileU (c : Circuit) : Option Tab :=
  match (flat c.ops).mapM (tabOp c.np) with
  | none => none
  | some ops => match (Tab.ket0 (c.ne + c.np)).runOps ops with
    | .ok t => some t.norm
    | .error _ => none

/-- is the signed Pauli `p` in the group generated by the two stabilizer rows of a 2-qubit tableau? -/
def inGroup2 (t : Tab) (p : PRow) : Bool :=
  let g1 := t.row 2
  let g2 := t.row 3
  PRow.beqOn 2 p PRow.one || PRow.beqOn 2 p g1 || PRow.beqOn 2 p g2 || PRow.beqOn 2 p (PRow.mul 2 g1 g2)

/-- same stabilizer state (2 qubits): every generator of one is in the group of the other -/
def sameState2 (t1 t2 : Tab) : Bool :=
  inGroup2 t2 (t1.row 2) && inGroup2 t2 (t1.row 3) && inGroup2 t1 (t2.row 2) && inGroup2 t1 (t2.row 3)

/-- exchange the two qubits (the only non-trivial renaming of two emitters) -/
def swapQubits (t : Tab) : Tab := (t.swapGate 0 1).norm

def statesDiffer2 (c1 c2 : Circuit) : Bool :=
  match compileU c1, compileU c2 with
  | some t1, some t2 => !sameState2 t1 t2 && !sameState2 t1 (swapQubits t2)
  | _, _ => false

/-! ## equal wire sequences = equal up to exchanging neighbouring operations on disjoint registers -/

def disjointOps (a b : Op) : Bool := a.qRegs.all fun q => !b.qRegs.contains q

def onReg (q : QReg) (o : Op) : Bool := o.qRegs.contains q

/-- equivalence generated by exchanging two neighbouring operations that share no quantum register (operations on
    disjoint registers commute, so equivalent lists compile to the same state) -/
inductive SwapEquiv : List Op → List Op → Prop
  | refl (l : List Op) : SwapEquiv l l
  | swap (pre : List Op) (a b : Op) (post : List Op) (h : disjointOps a b = true) :
      SwapEquiv (pre ++ a :: b :: post) (pre ++ b :: a :: post)
  | trans {l1 l2 l3 : List Op} : SwapEquiv l1 l2 → SwapEquiv l2 l3 → SwapEquiv l1 l3

theorem qRegs_ne_nil (o : Op) : o.qRegs ≠ [] := by cases o <;> simp [Op.qRegs]

theorem opWires_ne_nil (o : Op) : opWires o ≠ [] := by
  unfold opWires
  have := qRegs_ne_nil o
  cases hq : o.qRegs with
  | nil => exact absurd hq this
  | cons _ _ => simp

theorem exists_wire (o : Op) : ∃ w, w ∈ opWires o := by
  cases hh : opWires o with
  | nil => exact absurd hh (opWires_ne_nil o)
  | cons w _ => exact ⟨w, by simp⟩

/-! The projection lemma of trace theory (Proofs/Trace.lean: elements with an arbitrary notion of the keys they act on): the quantum
    registers give `SwapEquiv`, all registers give `SwapW` (Proofs/CompareRepairExact.lean). -/

theorem swapEquiv_iff_swapK {l1 l2 : List Op} : SwapEquiv l1 l2 ↔ SwapK Op.qRegs l1 l2 := by
  constructor <;> intro h <;> induction h with
  | refl l => exact .refl _
  | swap pre a b post hd => exact .swap pre a b post hd
  | trans _ _ ih1 ih2 => exact .trans ih1 ih2

/-- **wire sequences determine the circuit up to commuting exchanges**: two lists with the same subsequence on every quantum
    register are `SwapEquiv` (every operation acts on a quantum register) -/
theorem swapEquiv_of_wires (l1 l2 : List Op) (hw : ∀ q, l1.filter (onReg q) = l2.filter (onReg q)) : SwapEquiv l1 l2 :=
  swapEquiv_iff_swapK.2 (swapK_of_keys l1 l2 (fun o _ => qRegs_ne_nil o) (fun o _ => qRegs_ne_nil o) hw)

theorem dropC_qRegs (o : Op) : (dropC o).qRegs = o.qRegs := by cases o <;> rfl

theorem filter_map_dropC (l : List Op) (q : QReg) :
    (l.map dropC).filter (onReg q) = (l.filter (fun o => o.qRegs.contains q)).map dropC := by
  induction l with
  | nil => rfl
  | cons o rest ih =>
    simp only [List.map_cons, List.filter_cons, onReg, dropC_qRegs]
    split <;> simp [ih]

theorem mem_qregsOf (c : Circuit) (q : QReg) : q ∈ qregsOf c ↔ q.i < c.nOf q.t := by
  unfold qregsOf Circuit.nOf
  cases q with | mk t i =>
  cases t <;> simp

theorem flat_inRange (c : Circuit) (ops : List Op) (h : ∀ op ∈ ops, InRange c op) : ∀ o ∈ flat ops, ∀ q ∈ o.qRegs, q ∈ qregsOf c := by
  intro o ho q hq
  unfold flat at ho
  obtain ⟨hm, _⟩ := List.mem_filter.1 ho
  obtain ⟨op, hop, hu⟩ := List.mem_flatMap.1 hm
  have hr := (h op hop).1
  rw [mem_qregsOf]
  cases op with
  | wrap gs q' =>
    simp only [Op.unwrap, List.mem_map] at hu
    obtain ⟨g, _, rfl⟩ := hu
    simp only [Op.qRegs, List.mem_singleton] at hq
    subst hq
    exact hr q (by simp [Op.qRegs])
  | one g q' => simp only [Op.unwrap, List.mem_singleton] at hu; subst hu; exact hr q hq
  | ctrl g a b => simp only [Op.unwrap, List.mem_singleton] at hu; subst hu; exact hr q hq
  | cctrl g a b cr => simp only [Op.unwrap, List.mem_singleton] at hu; subst hu; exact hr q hq
  | meas q' cr => simp only [Op.unwrap, List.mem_singleton] at hu; subst hu; exact hr q hq

/-- **`direct` reports equal ⇒ the two circuits are the same up to exchanging neighbouring operations on disjoint
    registers** (and up to which classical register records an outcome) -/
theorem directL_swapEquiv (c1 c2 : Circuit) (h1 : ∀ op ∈ c1.ops, InRange c1 op) (h2 : ∀ op ∈ c2.ops, InRange c2 op)
    (h : directL c1 c2 = true) : SwapEquiv ((flat c1.ops).map dropC) ((flat c2.ops).map dropC) := by
  have hw := directL_sound c1 c2 h
  unfold wiresEq at hw
  simp only [Bool.and_eq_true, beq_iff_eq, List.all_eq_true] at hw
  obtain ⟨⟨⟨hne, hnp⟩, hnc⟩, hwires⟩ := hw
  have hq2 : qregsOf c2 = qregsOf c1 := by unfold qregsOf; rw [hne, hnp]
  apply swapEquiv_of_wires
  intro q
  rw [filter_map_dropC, filter_map_dropC]
  by_cases hq : q ∈ qregsOf c1
  · exact hwires q hq
  · have e1 : (flat c1.ops).filter (fun o => o.qRegs.contains q) = [] := by
      rw [List.filter_eq_nil_iff]
      intro o ho hc
      exact hq (flat_inRange c1 c1.ops h1 o ho q (by simpa using hc))
    have e2 : (flat c2.ops).filter (fun o => o.qRegs.contains q) = [] := by
      rw [List.filter_eq_nil_iff]
      intro o ho hc
      exact hq (hq2 ▸ flat_inRange c2 c2.ops h2 o ho q (by simpa using hc))
    rw [e1, e2]

/-! ## the check with an arbitrary comparison of parallel edges; it is reflexive and symmetric if the comparison is -/

theorem nodupNd_iff (l : List Nd) : nodupNd l = true ↔ l.Nodup := by
  induction l with
  | nil => simp [nodupNd]
  | cons a rest ih => simp [nodupNd, ih]

theorem nodeMatch_symm (a b : NOp) : nodeMatch a b = nodeMatch b a := by
  cases a with
  | input w1 =>
    cases b with
    | input w2 => cases w1 with | mk t1 i1 => cases w2 with | mk t2 i2 => cases t1 <;> cases t2 <;> rfl
    | output _ => rfl
    | gate _ => rfl
  | output w1 =>
    cases b with
    | output w2 => cases w1 with | mk t1 i1 => cases w2 with | mk t2 i2 => cases t1 <;> cases t2 <;> rfl
    | input _ => rfl
    | gate _ => rfl
  | gate o1 =>
    cases b with
    | input _ => rfl
    | output _ => rfl
    | gate o2 =>
      cases o1 <;> cases o2 <;> simp only [nodeMatch] <;>
        (apply Bool.eq_iff_iff.2; simp only [Bool.and_eq_true, beq_iff_eq]; constructor <;> (intro h; exact ⟨h.1.symm, h.2.symm⟩))

theorem edgeMatch_symm (a b : List Edge) : edgeMatch a b = edgeMatch b a := by
  unfold edgeMatch
  congr 1
  funext k
  exact Bool.eq_iff_iff.2 (by simp only [beq_iff_eq]; exact eq_comm)

def mapFn (f : List (Nd × Nd)) (n : Nd) : Nd := (applyMap f n).getD n

def invMap (f : List (Nd × Nd)) (ns : List Nd) : List (Nd × Nd) := ns.map fun n => (mapFn f n, n)

theorem applyMap_invMap (f : List (Nd × Nd)) (ns : List Nd) (hinj : ∀ a ∈ ns, ∀ b ∈ ns, mapFn f a = mapFn f b → a = b)
    (n : Nd) (hn : n ∈ ns) : applyMap (invMap f ns) (mapFn f n) = some n :=
  applyMap_map ns (mapFn f) id hinj n hn

/-- `isoCheck` and `isoCheck2` differ only in how they compare two bundles of parallel edges (`edgeMatch`, `edgeMatch2`);
    what follows is proved once for the check with an arbitrary such comparison `em`.  The instances are definitional
    (`isoCheck_eq`, `isoCheck2_eq`): the lemmas below take `isoCheck … = true` and `isoCheck2 … = true` as they are, but
    `rw` / `simp` with them needs the equation first -/
def isoCheckW (em : List Edge → List Edge → Bool) (g1 g2 : MG) (f : List (Nd × Nd)) : Bool :=
  let ns1 := g1.nodes.map (·.1)
  let ns2 := g2.nodes.map (·.1)
  let img := ns1.map (applyMap f)
  ns1.length == ns2.length &&
  img.all Option.isSome &&
  nodupNd (img.filterMap id) &&
  (img.filterMap id).all (fun m => ns2.contains m) &&
  ns1.all (fun n => match applyMap f n with
    | some m => (match g1.opOf n, g2.opOf m with
      | some a, some b => nodeMatch a b
      | _, _ => false)
    | none => false) &&
  ns1.all (fun u => ns1.all fun v =>
    match applyMap f u, applyMap f v with
    | some u', some v' =>
      let es1 := g1.edgesBetween u v
      let es2 := g2.edgesBetween u' v'
      es1.length == es2.length && em es1 es2
    | _, _ => false)

theorem isoCheck_eq : isoCheck = isoCheckW edgeMatch := rfl
theorem isoCheck2_eq : isoCheck2 = isoCheckW edgeMatch2 := rfl

/-- what a successful check says, as propositions about the node function -/
structure IsoFactsW (em : List Edge → List Edge → Bool) (g1 g2 : MG) (φ : Nd → Nd) : Prop where
  len : (g1.nodes.map (·.1)).length = (g2.nodes.map (·.1)).length
  nodup : ((g1.nodes.map (·.1)).map φ).Nodup
  into : ∀ n ∈ g1.nodes.map (·.1), φ n ∈ g2.nodes.map (·.1)
  nodes : ∀ n ∈ g1.nodes.map (·.1), ∃ a b, g1.opOf n = some a ∧ g2.opOf (φ n) = some b ∧ nodeMatch a b = true
  edges : ∀ u ∈ g1.nodes.map (·.1), ∀ v ∈ g1.nodes.map (·.1),
    (g1.edgesBetween u v).length = (g2.edgesBetween (φ u) (φ v)).length ∧
    em (g1.edgesBetween u v) (g2.edgesBetween (φ u) (φ v)) = true

abbrev IsoFacts2 := IsoFactsW edgeMatch2

section
variable {em : List Edge → List Edge → Bool}

theorem IsoFactsW.perm {g1 g2 : MG} {φ : Nd → Nd} (hf : IsoFactsW em g1 g2 φ) :
    ((g1.nodes.map (·.1)).map φ).Perm (g2.nodes.map (·.1)) := by
  have hsub : (g1.nodes.map (·.1)).map φ ⊆ g2.nodes.map (·.1) := by
    intro m hm
    obtain ⟨n, hn, rfl⟩ := List.mem_map.1 hm
    exact hf.into n hn
  exact (List.subperm_of_subset hf.nodup hsub).perm_of_length_le (by simp [← hf.len])

theorem IsoFactsW.surj {g1 g2 : MG} {φ : Nd → Nd} (hf : IsoFactsW em g1 g2 φ) :
    ∀ m ∈ g2.nodes.map (·.1), ∃ n ∈ g1.nodes.map (·.1), φ n = m := by
  intro m hm
  obtain ⟨n, hn, rfl⟩ := List.mem_map.1 (hf.perm.mem_iff.2 hm)
  exact ⟨n, hn, rfl⟩

theorem IsoFactsW.inj {g1 g2 : MG} {φ : Nd → Nd} (hf : IsoFactsW em g1 g2 φ) :
    ∀ a ∈ g1.nodes.map (·.1), ∀ b ∈ g1.nodes.map (·.1), φ a = φ b → a = b :=
  fun _ ha _ hb hab => List.inj_on_of_nodup_map hf.nodup ha hb hab

theorem isoCheckW_facts (g1 g2 : MG) (f : List (Nd × Nd)) (h : isoCheckW em g1 g2 f = true) :
    (∀ n ∈ g1.nodes.map (·.1), applyMap f n = some (mapFn f n)) ∧ IsoFactsW em g1 g2 (mapFn f) := by
  unfold isoCheckW at h
  simp only [Bool.and_eq_true, List.all_eq_true, beq_iff_eq] at h
  obtain ⟨⟨⟨⟨⟨hlen, hsome⟩, hnd⟩, hinto⟩, hnodes⟩, hedges⟩ := h
  have happ : ∀ n ∈ g1.nodes.map (·.1), applyMap f n = some (mapFn f n) := by
    intro n hn
    have := hsome (applyMap f n) (List.mem_map_of_mem hn)
    unfold mapFn
    cases hm : applyMap f n with
    | none => rw [hm] at this; cases this
    | some m => rfl
  have himg : ((g1.nodes.map (·.1)).map (applyMap f)).filterMap id = (g1.nodes.map (·.1)).map (mapFn f) := by
    rw [List.filterMap_map]
    generalize g1.nodes.map (·.1) = ns at happ
    induction ns with
    | nil => rfl
    | cons n rest ih =>
      have ih' := ih (fun x hx => happ x (by simp [hx]))
      simp only [List.filterMap_cons, Function.comp, id, happ n (by simp), List.map_cons]
      exact congrArg _ ih'
  rw [himg] at hnd hinto
  refine ⟨happ, ⟨hlen, (nodupNd_iff _).1 hnd, ?_, ?_, ?_⟩⟩
  · intro n hn
    have := hinto (mapFn f n) (List.mem_map_of_mem hn)
    simpa using this
  · intro n hn
    have := hnodes n hn
    rw [happ n hn] at this
    cases ha : g1.opOf n with
    | none => simp [ha] at this
    | some a =>
      cases hb : g2.opOf (mapFn f n) with
      | none => simp [ha, hb] at this
      | some b => simp only [ha, hb] at this; exact ⟨a, b, rfl, rfl, this⟩
  · intro u hu v hv
    have := hedges u hu v hv
    rw [happ u hu, happ v hv] at this
    simpa using this

theorem isoCheckW_of_facts (g1 g2 : MG) (f : List (Nd × Nd)) (φ : Nd → Nd)
    (happ : ∀ n ∈ g1.nodes.map (·.1), applyMap f n = some (φ n)) (h : IsoFactsW em g1 g2 φ) : isoCheckW em g1 g2 f = true := by
  have himg : (g1.nodes.map (·.1)).map (applyMap f) = (g1.nodes.map (·.1)).map (fun n => some (φ n)) :=
    List.map_congr_left happ
  have hfm : ((g1.nodes.map (·.1)).map (fun n => some (φ n))).filterMap id = (g1.nodes.map (·.1)).map φ := by
    rw [List.filterMap_map]
    have : (id ∘ fun n => some (φ n)) = fun n => some (φ n) := rfl
    rw [this]
    induction g1.nodes.map (·.1) with
    | nil => rfl
    | cons n rest ih => simp [ih]
  unfold isoCheckW
  simp only [himg, hfm, Bool.and_eq_true, List.all_eq_true, beq_iff_eq]
  refine ⟨⟨⟨⟨⟨h.len, ?_⟩, (nodupNd_iff _).2 h.nodup⟩, ?_⟩, ?_⟩, ?_⟩
  · intro o ho
    obtain ⟨n, _, rfl⟩ := List.mem_map.1 ho
    rfl
  · intro m hm
    obtain ⟨n, hn, rfl⟩ := List.mem_map.1 hm
    simpa using h.into n hn
  · intro n hn
    rw [happ n hn]
    obtain ⟨a, b, ha, hb, hab⟩ := h.nodes n hn
    simp only [ha, hb, hab]
  · intro u hu v hv
    rw [happ u hu, happ v hv]
    have := h.edges u hu v hv
    simp [this.1, this.2]

/-- **the check is reflexive**: on a DAG with distinct node names in which every node carries an operation the identity map
    passes it (so `networkx.is_isomorphic`, which decides existence, answers True for a circuit and its copy) -/
theorem isoCheckW_refl (hem : ∀ es, em es es = true) (g : MG) (hnd : (g.nodes.map (·.1)).Nodup)
    (hop : ∀ n ∈ g.nodes.map (·.1), ∃ o, g.opOf n = some o) : isoCheckW em g g (idMapOf g) = true := by
  apply isoCheckW_of_facts g g _ id (fun n hn => applyMap_id g n hn)
  refine ⟨rfl, by simpa using hnd, fun n hn => hn, ?_, ?_⟩
  · intro n hn
    obtain ⟨o, ho⟩ := hop n hn
    exact ⟨o, o, ho, ho, nodeMatch_refl o⟩
  · intro u _ v _
    exact ⟨rfl, hem _⟩

/-- **the isomorphism relation is symmetric**: if some map passes the check from `g1` to `g2`, the inverse map passes it
    from `g2` to `g1` -/
theorem isoCheckW_symm (hem : ∀ a b, em a b = em b a) (g1 g2 : MG) (f : List (Nd × Nd)) (h : isoCheckW em g1 g2 f = true) :
    isoCheckW em g2 g1 (invMap f (g1.nodes.map (·.1))) = true := by
  obtain ⟨_, hf⟩ := isoCheckW_facts g1 g2 f h
  let ns1 := g1.nodes.map (·.1)
  let ns2 := g2.nodes.map (·.1)
  let φ := mapFn f
  have hinj : ∀ a ∈ ns1, ∀ b ∈ ns1, φ a = φ b → a = b := hf.inj
  have hsurj : ∀ m ∈ ns2, ∃ n ∈ ns1, φ n = m := hf.surj
  let ψ : Nd → Nd := mapFn (invMap f ns1)
  have hψ : ∀ n ∈ ns1, ψ (φ n) = n := by
    intro n hn
    show (applyMap (invMap f ns1) (mapFn f n)).getD _ = n
    rw [applyMap_invMap f ns1 hinj n hn]; rfl
  have happ : ∀ m ∈ ns2, applyMap (invMap f ns1) m = some (ψ m) := by
    intro m hm
    obtain ⟨n, hn, rfl⟩ := hsurj m hm
    rw [hψ n hn]
    exact applyMap_invMap f ns1 hinj n hn
  apply isoCheckW_of_facts g2 g1 _ ψ happ
  refine ⟨hf.len.symm, ?_, ?_, ?_, ?_⟩
  · -- the images of `ns2` under ψ are, in some order, the nodes `ns1`
    have hsub : ns1 ⊆ ns2.map ψ := by
      intro n hn
      exact List.mem_map.2 ⟨φ n, hf.into n hn, hψ n hn⟩
    have hnd1 : ns1.Nodup := List.Nodup.of_map _ hf.nodup
    exact ((List.subperm_of_subset hnd1 hsub).perm_of_length_le (by simp [ns1, ns2, hf.len])).nodup_iff.1 hnd1
  · intro m hm
    obtain ⟨n, hn, rfl⟩ := hsurj m hm
    rw [hψ n hn]; exact hn
  · intro m hm
    obtain ⟨n, hn, rfl⟩ := hsurj m hm
    rw [hψ n hn]
    obtain ⟨a, b, ha, hb, hab⟩ := hf.nodes n hn
    exact ⟨b, a, hb, ha, by rw [nodeMatch_symm]; exact hab⟩
  · intro u' hu' v' hv'
    obtain ⟨u, hu, rfl⟩ := hsurj u' hu'
    obtain ⟨v, hv, rfl⟩ := hsurj v' hv'
    rw [hψ u hu, hψ v hv]
    have := hf.edges u hu v hv
    exact ⟨this.1.symm, by rw [hem]; exact this.2⟩

end

end Graphiq.Compare
