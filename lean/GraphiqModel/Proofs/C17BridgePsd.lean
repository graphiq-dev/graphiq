/-
  Proofs/C17BridgePsd.lean — the exact positive-semidefiniteness test of the model (`DM.psdElim`, symmetric `LDL†`
  elimination over ℚ[i]) decides positive semidefiniteness: on a Hermitian matrix it answers `true` iff the matrix is PSD.

  Pure mathematics first, on `ℕ`-indexed complex entries restricted to an index block `[k, n)`: what one elimination step
  means.  A Hermitian PSD block has a real nonnegative leading entry (`diag_nonneg`); if that entry is 0 the block is PSD iff
  its first row vanishes and the block without its first index is PSD (`step_zero`); if it is `d > 0` the block is PSD iff the
  Schur complement `C' i j = C i j − C i k · conj (C j k) / d` is (`step_pos`, by completing the square:
  `Q(v) = d·|v_k + S/d|² + Q'(v)`).  Then one induction over the elimination steps (`psdElim_iff`), and the statement for a
  matrix given by a representation (`isPsd_rep_iff`).
-/
import GraphiqModel.Proofs.DMSem
import GraphiqModel.Proofs.HilbertBridgeMat
import Mathlib.Analysis.Matrix.Hermitian
import Mathlib.Algebra.BigOperators.Intervals
import Mathlib.Data.Complex.BigOperators
namespace Graphiq
namespace C17B
open Finset

/-- the quadratic form of the block `[k, n)` -/
noncomputable def qf (n k : Nat) (C : Nat → Nat → ℂ) (v : Nat → ℂ) : ℂ :=
  ∑ i ∈ Ico k n, ∑ j ∈ Ico k n, star (v i) * C i j * v j

def BlockHerm (n k : Nat) (C : Nat → Nat → ℂ) : Prop :=
  ∀ i j, k ≤ i → i < n → k ≤ j → j < n → C j i = star (C i j)

structure BlockPSD (n k : Nat) (C : Nat → Nat → ℂ) : Prop where
  herm : BlockHerm n k C
  nonneg : ∀ v : Nat → ℂ, 0 ≤ (qf n k C v).re

theorem qf_congr {n k : Nat} {C : Nat → Nat → ℂ} {v w : Nat → ℂ} (h : ∀ i ∈ Ico k n, v i = w i) : qf n k C v = qf n k C w := by
  unfold qf
  exact sum_congr rfl fun i hi => sum_congr rfl fun j hj => by rw [h i hi, h j hj]

theorem BlockPSD.congr {n k : Nat} {C C' : Nat → Nat → ℂ} (h : BlockPSD n k C)
    (e : ∀ i j, k ≤ i → i < n → k ≤ j → j < n → C' i j = C i j) : BlockPSD n k C' := by
  refine ⟨fun i j h1 h2 h3 h4 => by rw [e j i h3 h4 h1 h2, e i j h1 h2 h3 h4]; exact h.herm i j h1 h2 h3 h4, fun v => ?_⟩
  have : qf n k C' v = qf n k C v := by
    unfold qf
    apply sum_congr rfl
    intro i hi
    apply sum_congr rfl
    intro j hj
    rw [mem_Ico] at hi hj
    rw [e i j hi.1 hi.2 hj.1 hj.2]
  rw [this]; exact h.nonneg v

theorem BlockPSD.diag_nonneg {n k : Nat} {C : Nat → Nat → ℂ} (h : BlockPSD n k C) (hk : k < n) :
    (C k k).im = 0 ∧ 0 ≤ (C k k).re := by
  have hkm : k ∈ Ico k n := mem_Ico.mpr ⟨Nat.le_refl _, hk⟩
  constructor
  · have := h.herm k k (Nat.le_refl _) hk (Nat.le_refl _) hk
    have h2 := congrArg Complex.im this
    simp only [Complex.star_def, Complex.conj_im] at h2
    linarith
  · have := h.nonneg (fun i => if i = k then 1 else 0)
    have e : qf n k C (fun i => if i = k then 1 else 0) = C k k := by
      unfold qf
      rw [sum_eq_single k]
      · rw [sum_eq_single k]
        · simp
        · intro j _ hj; simp [hj]
        · intro hh; exact absurd hkm hh
      · intro i _ hi
        apply sum_eq_zero
        intro j _
        simp [hi]
      · intro hh; exact absurd hkm hh
    rw [e] at this; exact this

theorem BlockPSD.restrict {n k : Nat} {C : Nat → Nat → ℂ} (h : BlockPSD n k C) (hk : k < n) : BlockPSD n (k + 1) C := by
  refine ⟨fun i j h1 h2 h3 h4 => h.herm i j (by omega) h2 (by omega) h4, fun v => ?_⟩
  have := h.nonneg (fun i => if i = k then 0 else v i)
  have e : qf n k C (fun i => if i = k then 0 else v i) = qf n (k + 1) C v := by
    unfold qf
    rw [sum_eq_sum_Ico_succ_bot hk]
    have h0 : ∑ j ∈ Ico k n, star ((fun i => if i = k then (0 : ℂ) else v i) k) * C k j
        * (fun i => if i = k then (0 : ℂ) else v i) j = 0 := by
      apply sum_eq_zero; intro j _; simp
    rw [h0, zero_add]
    apply sum_congr rfl
    intro i hi
    rw [mem_Ico] at hi
    have hik : i ≠ k := by omega
    rw [sum_eq_sum_Ico_succ_bot hk]
    simp only [hik, if_false, if_true, mul_zero, zero_add]
    apply sum_congr rfl
    intro j hj
    rw [mem_Ico] at hj
    have hjk : j ≠ k := by omega
    simp [hjk]
  rw [e] at this; exact this


theorem qf_two (n k : Nat) (C : Nat → Nat → ℂ) (a b : Nat) (ha : a ∈ Ico k n) (hb : b ∈ Ico k n) (hab : a ≠ b) (x y : ℂ) :
    qf n k C (fun i => if i = a then x else if i = b then y else 0)
      = star x * C a a * x + star x * C a b * y + (star y * C b a * x + star y * C b b * y) := by
  unfold qf
  have hba : b ≠ a := fun e => hab e.symm
  rw [sum_eq_add a b hab]
  · rw [sum_eq_add a b hab, sum_eq_add a b hab]
    · simp [hba]
    · intro c _ hc; simp [hc.1, hc.2]
    · intro h; exact absurd ha h
    · intro h; exact absurd hb h
    · intro c _ hc; simp [hc.1, hc.2]
    · intro h; exact absurd ha h
    · intro h; exact absurd hb h
  · intro c _ hc
    apply sum_eq_zero
    intro j _
    simp [hc.1, hc.2]
  · intro h; exact absurd ha h
  · intro h; exact absurd hb h

theorem BlockPSD.zero_row {n k : Nat} {C : Nat → Nat → ℂ} (h : BlockPSD n k C) (hk : k < n) (h0 : C k k = 0)
    (j : Nat) (hkj : k < j) (hj : j < n) : C k j = 0 := by
  by_contra hz
  obtain ⟨z, hzdef⟩ : ∃ z, z = C k j := ⟨_, rfl⟩
  rw [← hzdef] at hz
  have hpos : 0 < Complex.normSq z := Complex.normSq_pos.mpr hz
  obtain ⟨t, ht⟩ : ∃ t : ℝ, t = ((C j j).re + 1) / (2 * Complex.normSq z) := ⟨_, rfl⟩
  have hka : k ∈ Ico k n := mem_Ico.mpr ⟨Nat.le_refl _, hk⟩
  have hja : j ∈ Ico k n := mem_Ico.mpr ⟨by omega, hj⟩
  have key := h.nonneg (fun i => if i = k then -(t : ℂ) * z else if i = j then 1 else 0)
  rw [qf_two n k C k j hka hja (by omega)] at key
  have hjk : C j k = star z := by rw [hzdef]; exact h.herm k j (Nat.le_refl _) hk (by omega) hj
  rw [h0, hjk, ← hzdef] at key
  have hn : star z * z = (Complex.normSq z : ℂ) := by
    rw [Complex.star_def, Complex.normSq_eq_conj_mul_self]
  have e1 : star (-(t : ℂ) * z) * z = -((t : ℂ) * (Complex.normSq z : ℂ)) := by
    rw [star_mul', star_neg, Complex.star_def, Complex.conj_ofReal, ← Complex.star_def, neg_mul, neg_mul, mul_assoc, hn]
  have e2 : star z * (-(t : ℂ) * z) = -((t : ℂ) * (Complex.normSq z : ℂ)) := by
    rw [mul_comm (-(t : ℂ)) z, ← mul_assoc, hn]; ring
  have e : (star (-(t : ℂ) * z) * 0 * (-(t : ℂ) * z) + star (-(t : ℂ) * z) * z * 1
      + (star (1 : ℂ) * star z * (-(t : ℂ) * z) + star (1 : ℂ) * C j j * 1)).re
      = -2 * t * Complex.normSq z + (C j j).re := by
    simp only [mul_zero, zero_mul, zero_add, mul_one, star_one, one_mul]
    rw [e1, e2]
    simp only [Complex.add_re, Complex.neg_re, Complex.mul_re, Complex.ofReal_re, Complex.ofReal_im]
    ring
  rw [e] at key
  have : -2 * t * Complex.normSq z + (C j j).re = -1 := by
    rw [ht]; field_simp; ring
  rw [this] at key
  linarith


theorem qf_split (n k : Nat) (C : Nat → Nat → ℂ) (hk : k < n) (x : ℂ) (w : Nat → ℂ) :
    qf n k C (fun i => if i = k then x else w i)
      = star x * C k k * x + star x * (∑ j ∈ Ico (k + 1) n, C k j * w j)
        + ((∑ i ∈ Ico (k + 1) n, star (w i) * C i k) * x + qf n (k + 1) C w) := by
  unfold qf
  rw [sum_eq_sum_Ico_succ_bot hk]
  congr 1
  · rw [sum_eq_sum_Ico_succ_bot hk]
    simp only [if_true]
    congr 1
    rw [mul_sum]
    apply sum_congr rfl
    intro j hj
    rw [mem_Ico] at hj
    have : j ≠ k := by omega
    simp only [this, if_false]
    ring
  · rw [sum_mul, ← sum_add_distrib]
    apply sum_congr rfl
    intro i hi
    rw [mem_Ico] at hi
    have hik : i ≠ k := by omega
    rw [sum_eq_sum_Ico_succ_bot hk]
    simp only [hik, if_false, if_true]
    congr 1
    apply sum_congr rfl
    intro j hj
    rw [mem_Ico] at hj
    have : j ≠ k := by omega
    simp only [this, if_false]

theorem qf_split_self (n k : Nat) (C : Nat → Nat → ℂ) (hk : k < n) (v : Nat → ℂ) :
    qf n k C v
      = star (v k) * C k k * v k + star (v k) * (∑ j ∈ Ico (k + 1) n, C k j * v j)
        + ((∑ i ∈ Ico (k + 1) n, star (v i) * C i k) * v k + qf n (k + 1) C v) := by
  have hv : v = fun i => if i = k then v k else v i := by
    funext i; split
    · next e => rw [e]
    · rfl
  conv_lhs => rw [hv]
  exact qf_split n k C hk (v k) v

theorem qf_zero_row (n k : Nat) (C : Nat → Nat → ℂ) (hk : k < n) (h0 : C k k = 0)
    (hrow : ∀ j, k < j → j < n → C k j = 0) (hcol : ∀ i, k < i → i < n → C i k = 0) (v : Nat → ℂ) :
    qf n k C v = qf n (k + 1) C v := by
  have s1 : ∑ j ∈ Ico (k + 1) n, C k j * v j = 0 := by
    apply sum_eq_zero; intro j hj; rw [mem_Ico] at hj; rw [hrow j (by omega) hj.2, zero_mul]
  have s2 : ∑ i ∈ Ico (k + 1) n, star (v i) * C i k = 0 := by
    apply sum_eq_zero; intro i hi; rw [mem_Ico] at hi; rw [hcol i (by omega) hi.2, mul_zero]
  rw [qf_split_self n k C hk, s1, s2, h0]
  simp only [mul_zero, zero_mul, zero_add]

theorem qf_schur (n k : Nat) (C : Nat → Nat → ℂ) (c : ℂ) (w : Nat → ℂ) :
    qf n (k + 1) (fun i j => C i j - c * (C i k * star (C j k))) w
      = qf n (k + 1) C w - c * ((∑ i ∈ Ico (k + 1) n, star (w i) * C i k) * (∑ j ∈ Ico (k + 1) n, star (C j k) * w j)) := by
  unfold qf
  rw [sum_mul_sum, mul_sum, ← sum_sub_distrib]
  apply sum_congr rfl
  intro i _
  rw [mul_sum, ← sum_sub_distrib]
  apply sum_congr rfl
  intro j _
  ring


/-! ### one elimination step -/

theorem schur_herm {n k : Nat} {C : Nat → Nat → ℂ} (h : BlockHerm n k C) (c : ℝ) :
    BlockHerm n (k + 1) (fun i j => C i j - ((c : ℝ) : ℂ) * (C i k * star (C j k))) := by
  intro i j h1 h2 h3 h4
  have hcstar : star ((c : ℝ) : ℂ) = ((c : ℝ) : ℂ) := by rw [Complex.star_def, Complex.conj_ofReal]
  show C j i - _ * (C j k * star (C i k)) = star (C i j - _ * (C i k * star (C j k)))
  rw [star_sub, star_mul', star_mul', star_star, hcstar, h i j (by omega) h2 (by omega) h4]
  ring

theorem BlockHerm.sum_col {n k : Nat} {C : Nat → Nat → ℂ} (h : BlockHerm n k C) (hk : k < n) (v : Nat → ℂ) :
    ∑ j ∈ Ico (k + 1) n, star (C j k) * v j = ∑ j ∈ Ico (k + 1) n, C k j * v j := by
  apply sum_congr rfl
  intro j hj
  rw [mem_Ico] at hj
  rw [h k j (Nat.le_refl _) hk (by omega) hj.2, star_star]

theorem BlockHerm.sum_row {n k : Nat} {C : Nat → Nat → ℂ} (h : BlockHerm n k C) (hk : k < n) (v : Nat → ℂ) :
    ∑ i ∈ Ico (k + 1) n, star (v i) * C i k = star (∑ j ∈ Ico (k + 1) n, C k j * v j) := by
  rw [star_sum]
  apply sum_congr rfl
  intro i hi
  rw [mem_Ico] at hi
  rw [h k i (Nat.le_refl _) hk (by omega) hi.2, star_mul']
  ring

/-- completing the square: the quadratic form of a Hermitian block with positive leading entry `d` is
    `d |v_k + S/d|²`, `S = Σ_{j>k} C k j · v_j`, plus the quadratic form of the Schur complement -/
theorem qf_complete_square {n k : Nat} {C : Nat → Nat → ℂ} (h : BlockHerm n k C) (hk : k < n) (d : ℝ) (hd : 0 < d)
    (hkk : C k k = (d : ℂ)) (v : Nat → ℂ) :
    qf n k C v
      = (d : ℂ) * (star (v k + ((1 / d : ℝ) : ℂ) * ∑ j ∈ Ico (k + 1) n, C k j * v j)
          * (v k + ((1 / d : ℝ) : ℂ) * ∑ j ∈ Ico (k + 1) n, C k j * v j))
        + qf n (k + 1) (fun i j => C i j - ((1 / d : ℝ) : ℂ) * (C i k * star (C j k))) v := by
  have hcstar : star (((1 / d : ℝ) : ℂ)) = ((1 / d : ℝ) : ℂ) := by rw [Complex.star_def, Complex.conj_ofReal]
  rw [qf_schur, h.sum_row hk, h.sum_col hk, qf_split_self n k C hk, h.sum_row hk, hkk]
  generalize ∑ j ∈ Ico (k + 1) n, C k j * v j = S
  have hdc : (d : ℂ) * ((1 / d : ℝ) : ℂ) = 1 := by
    rw [← Complex.ofReal_mul, one_div, mul_inv_cancel₀ (ne_of_gt hd)]; simp
  rw [star_add, star_mul', hcstar]
  have e1 : (d : ℂ) * ((star (v k) + ((1 / d : ℝ) : ℂ) * star S) * (v k + ((1 / d : ℝ) : ℂ) * S))
      = star (v k) * (d : ℂ) * v k + ((d : ℂ) * ((1 / d : ℝ) : ℂ)) * (star (v k) * S)
        + ((d : ℂ) * ((1 / d : ℝ) : ℂ)) * (star S * v k)
        + ((d : ℂ) * ((1 / d : ℝ) : ℂ)) * (((1 / d : ℝ) : ℂ) * (star S * S)) := by ring
  rw [e1, hdc]
  ring

theorem BlockPSD.step_zero {n k : Nat} {C : Nat → Nat → ℂ} (hH : BlockHerm n k C) (hk : k < n) (h0 : C k k = 0) :
    BlockPSD n k C ↔ (∀ j, k < j → j < n → C k j = 0) ∧ BlockPSD n (k + 1) C := by
  constructor
  · intro h
    exact ⟨fun j => h.zero_row hk h0 j, h.restrict hk⟩
  · intro ⟨hrow, h⟩
    refine ⟨hH, fun v => ?_⟩
    rw [qf_zero_row n k C hk h0 hrow
      (fun i h1 h2 => (hH k i (Nat.le_refl _) hk (by omega) h2).trans (by rw [hrow i h1 h2, star_zero]))]
    exact h.nonneg v

theorem BlockPSD.step_pos {n k : Nat} {C : Nat → Nat → ℂ} (hH : BlockHerm n k C) (hk : k < n) (d : ℝ) (hd : 0 < d)
    (hkk : C k k = (d : ℂ)) :
    BlockPSD n k C ↔ BlockPSD n (k + 1) (fun i j => C i j - ((1 / d : ℝ) : ℂ) * (C i k * star (C j k))) := by
  constructor
  · intro h
    refine ⟨schur_herm hH _, fun w => ?_⟩
    -- on `x e_k + w` with `x = −S/d` the square vanishes
    obtain ⟨x, hx⟩ : ∃ x : ℂ, x + ((1 / d : ℝ) : ℂ) * ∑ j ∈ Ico (k + 1) n, C k j * w j = 0 := ⟨_, neg_add_cancel _⟩
    have hv : ∀ i ∈ Ico (k + 1) n, (if i = k then x else w i) = w i := fun i hi => if_neg (by rw [mem_Ico] at hi; omega)
    have hS : ∑ j ∈ Ico (k + 1) n, C k j * (if j = k then x else w j) = ∑ j ∈ Ico (k + 1) n, C k j * w j :=
      sum_congr rfl fun j hj => by rw [hv j hj]
    have key := h.nonneg fun i => if i = k then x else w i
    rw [qf_complete_square hH hk d hd hkk] at key
    rw [hS, if_pos rfl, hx, mul_zero, mul_zero, zero_add, qf_congr (w := w) hv] at key
    exact key
  · intro h
    refine ⟨hH, fun v => ?_⟩
    rw [qf_complete_square hH hk d hd hkk v, Complex.add_re, Complex.star_def, ← Complex.normSq_eq_conj_mul_self,
      ← Complex.ofReal_mul, Complex.ofReal_re]
    have := Complex.normSq_nonneg (v k + ((1 / d : ℝ) : ℂ) * ∑ j ∈ Ico (k + 1) n, C k j * v j)
    have := h.nonneg v
    positivity

/-! ### the elimination -/

open Hilbert in
section

theorem gq_eq_zero (a : GQ) (h : gqC a = 0) : a = 0 := gqC_injective (by rw [h, map_zero])

theorem gqC_of_im_zero (x : GQ) (h : x.im = 0) : gqC x = (((x.re : Rat) : ℝ) : ℂ) := by
  apply Complex.ext
  · simp [gqC_re]
  · simp [gqC_im, h]

/-- the matrix after one elimination step with pivot `k` -/
def schurStep (n k : Nat) (a : Nat → Nat → GQ) : Nat → Nat → GQ :=
  Mat.lookupG (Array.ofFn (n := n) fun i => Array.ofFn (n := n) fun j =>
    if k < i.val ∧ k < j.val then a i j - GQ.smul (1 / (a k k).re) (a i k * (a j k).conj) else a i j)

theorem psdElim_succ (fuel n : Nat) (a : Nat → Nat → GQ) :
    DM.psdElim (fuel + 1) n a =
      if (a (n - (fuel + 1)) (n - (fuel + 1))).re < 0 then false
      else if (a (n - (fuel + 1)) (n - (fuel + 1))).re = 0 then
        if (List.range n).all (fun j => j ≤ n - (fuel + 1) || (a (n - (fuel + 1)) j).isZero) then DM.psdElim fuel n a
        else false
      else DM.psdElim fuel n (schurStep n (n - (fuel + 1)) a) := rfl

theorem gqC_schurStep (n k : Nat) (a : Nat → Nat → GQ) (i j : Nat) (hi : k < i) (hin : i < n) (hj : k < j) (hjn : j < n) :
    gqC (schurStep n k a i j)
      = gqC (a i j) - (((1 / (((a k k).re : Rat) : ℝ) : ℝ)) : ℂ) * (gqC (a i k) * star (gqC (a j k))) := by
  unfold schurStep
  rw [Mat.lookupG_ofFn n (fun i' j' => if k < i' ∧ k < j' then a i' j' - GQ.smul (1 / (a k k).re) (a i' k * (a j' k).conj)
      else a i' j') i j hin hjn, if_pos ⟨hi, hj⟩, map_sub, gqC_smul, map_mul, gqC_conj]
  congr 2
  push_cast
  rfl

/-- **the exact PSD test decides positive semidefiniteness of a Hermitian block** -/
theorem psdElim_iff (n : Nat) : ∀ (fuel : Nat) (a : Nat → Nat → GQ), fuel ≤ n →
    BlockHerm n (n - fuel) (fun i j => gqC (a i j)) →
    (DM.psdElim fuel n a = true ↔ BlockPSD n (n - fuel) (fun i j => gqC (a i j)))
  | 0, a, _, hh => by
    refine ⟨fun _ => ⟨hh, fun v => ?_⟩, fun _ => rfl⟩
    unfold qf
    rw [Nat.sub_zero, Finset.Ico_self]
    simp
  | fuel + 1, a, hf, hh => by
    have hk : n - (fuel + 1) < n := by omega
    have hk1 : n - fuel = n - (fuel + 1) + 1 := by omega
    rw [psdElim_succ]
    generalize n - (fuel + 1) = k at hk hk1 hh ⊢
    have him : (a k k).im = 0 := by
      have h2 := congrArg Complex.im (hh k k (Nat.le_refl _) hk (Nat.le_refl _) hk)
      simp only [Complex.star_def, Complex.conj_im, gqC_im] at h2
      have : (((a k k).im : Rat) : ℝ) = 0 := by linarith
      exact_mod_cast this
    have hrest : BlockHerm n (k + 1) (fun i j => gqC (a i j)) := fun i j h1 h2 h3 h4 => hh i j (by omega) h2 (by omega) h4
    by_cases hneg : (a k k).re < 0
    · -- a negative pivot
      rw [if_pos hneg]
      refine ⟨fun h => absurd h Bool.false_ne_true, fun h => ?_⟩
      have h2 := (h.diag_nonneg hk).2
      simp only [gqC_re] at h2
      have : (0 : Rat) ≤ (a k k).re := by exact_mod_cast h2
      exact absurd hneg (not_lt.mpr this)
    rw [if_neg hneg]
    by_cases hd0 : (a k k).re = 0
    · -- a zero pivot: the test asks for a zero row
      rw [if_pos hd0]
      have hakk : gqC (a k k) = 0 := by rw [(GQ.ext' hd0 him : a k k = 0), map_zero]
      have hrow : ((List.range n).all fun j => decide (j ≤ k) || (a k j).isZero) = true
          ↔ ∀ j, k < j → j < n → gqC (a k j) = 0 := by
        rw [List.all_eq_true]
        constructor
        · intro h j h1 h2
          have := h j (List.mem_range.mpr h2)
          simp only [show ¬ j ≤ k by omega, decide_false, Bool.false_or] at this
          rw [(isZero_iff _).1 this, map_zero]
        · intro h j hj
          by_cases hle : j ≤ k
          · simp [hle]
          · rw [(isZero_iff _).2 (gq_eq_zero _ (h j (by omega) (List.mem_range.mp hj)))]; simp
      have ih := psdElim_iff n fuel a (by omega) (by rw [hk1]; exact hrest)
      rw [hk1] at ih
      rw [BlockPSD.step_zero hh hk hakk, ← ih]
      constructor
      · intro he
        split at he
        · next hr => exact ⟨hrow.1 hr, he⟩
        · cases he
      · intro ⟨h1, h2⟩
        rw [if_pos (hrow.2 h1)]; exact h2
    · -- a positive pivot: one elimination step is the Schur complement
      rw [if_neg hd0]
      have hdR : (0 : ℝ) < (((a k k).re : Rat) : ℝ) := by
        exact_mod_cast lt_of_le_of_ne (not_lt.mp hneg) (fun e => hd0 e.symm)
      have hstep : ∀ i j, k + 1 ≤ i → i < n → k + 1 ≤ j → j < n → gqC (schurStep n k a i j)
          = gqC (a i j) - (((1 / (((a k k).re : Rat) : ℝ) : ℝ)) : ℂ) * (gqC (a i k) * star (gqC (a j k))) :=
        fun i j h1 h2 h3 h4 => gqC_schurStep n k a i j (by omega) h2 (by omega) h4
      have hh' : BlockHerm n (k + 1) (fun i j => gqC (schurStep n k a i j)) := by
        intro i j h1 h2 h3 h4
        beta_reduce
        rw [hstep j i h3 h4 h1 h2, hstep i j h1 h2 h3 h4]
        exact schur_herm hh _ i j h1 h2 h3 h4
      have ih := psdElim_iff n fuel (schurStep n k a) (by omega) (by rw [hk1]; exact hh')
      rw [hk1] at ih
      rw [ih, BlockPSD.step_pos hh hk _ hdR (gqC_of_im_zero _ him)]
      exact ⟨fun h => h.congr (fun i j h1 h2 h3 h4 => (hstep i j h1 h2 h3 h4).symm), fun h => h.congr hstep⟩

end

/-! ### from a representation -/

section rep
open Hilbert Matrix
open scoped ComplexOrder

theorem blockHerm_of_rep {n : Nat} {m : Mat} {M : DMat n} (hm : Rep n m M) (hH : M.IsHermitian) :
    BlockHerm (2 ^ n) 0 (fun i j => gqC (m.e i j)) := by
  intro i j _ hi _ hj
  have e1 := hm.2 (bitsOf n j) (bitsOf n i)
  have e2 := hm.2 (bitsOf n i) (bitsOf n j)
  rw [idx_bitsOf n i hi, idx_bitsOf n j hj] at e1 e2
  show gqC (m.e j i) = star (gqC (m.e i j))
  rw [e1, e2]
  exact (hH.apply (bitsOf n j) (bitsOf n i)).symm

theorem qf_rep {n : Nat} {m : Mat} {M : DMat n} (hm : Rep n m M) (v : Nat → ℂ) :
    qf (2 ^ n) 0 (fun i j => gqC (m.e i j)) v = star (fun a => v (idx n a)) ⬝ᵥ (M *ᵥ fun a => v (idx n a)) := by
  unfold qf
  rw [Nat.Ico_zero_eq_range, sum_range_pow]
  unfold dotProduct Matrix.mulVec dotProduct
  apply sum_congr rfl
  intro a _
  rw [sum_range_pow, mul_sum]
  apply sum_congr rfl
  intro b _
  show star (v (idx n a)) * gqC (m.e (idx n a) (idx n b)) * v (idx n b) = star (v (idx n a)) * (M a b * v (idx n b))
  rw [hm.2 a b]
  ring

theorem blockPSD_rep_iff {n : Nat} {m : Mat} {M : DMat n} (hm : Rep n m M) (hH : M.IsHermitian) :
    BlockPSD (2 ^ n) 0 (fun i j => gqC (m.e i j)) ↔ M.PosSemidef := by
  constructor
  · intro hp
    apply Matrix.PosSemidef.of_dotProduct_mulVec_nonneg hH
    intro x
    have hre := hp.nonneg (fun i => x (bitsOf n i))
    rw [qf_rep hm, show (fun a => x (bitsOf n (idx n a))) = x from funext fun a => by rw [bitsOf_idx]] at hre
    rw [Complex.le_def]
    exact ⟨hre, (Matrix.IsHermitian.im_star_dotProduct_mulVec_self hH x).symm⟩
  · intro hM
    refine ⟨blockHerm_of_rep hm hH, fun v => ?_⟩
    rw [qf_rep hm]
    exact (Complex.le_def.mp (hM.dotProduct_mulVec_nonneg fun a => v (idx n a))).1

theorem isHermitian_of_rep {n : Nat} {m : Mat} {M : DMat n} (hm : Rep n m M) (hH : M.IsHermitian) :
    m.isHermitian = true := by
  unfold Mat.isHermitian
  rw [List.all_eq_true]
  intro i hi
  rw [List.all_eq_true]
  intro j hj
  have hi' := List.mem_range.mp hi
  have hj' := List.mem_range.mp hj
  rw [hm.1] at hi' hj'
  rw [beq_iff_eq]
  apply gqC_injective
  have e1 := hm.2 (bitsOf n j) (bitsOf n i)
  have e2 := hm.2 (bitsOf n i) (bitsOf n j)
  rw [idx_bitsOf n i hi', idx_bitsOf n j hj'] at e1 e2
  rw [gqC_conj, e1, e2]
  exact (hH.apply (bitsOf n i) (bitsOf n j)).symm

theorem isHermitian_rep_iff {n : Nat} {m : Mat} {M : DMat n} (hm : Rep n m M) :
    m.isHermitian = true ↔ M.IsHermitian := by
  constructor
  · intro h
    unfold Mat.isHermitian at h
    rw [List.all_eq_true] at h
    apply Matrix.IsHermitian.ext
    intro a b
    have h1 := h (idx n a) (List.mem_range.mpr (by rw [hm.1]; exact idx_lt n a))
    rw [List.all_eq_true] at h1
    have h2 := h1 (idx n b) (List.mem_range.mpr (by rw [hm.1]; exact idx_lt n b))
    rw [beq_iff_eq] at h2
    rw [← hm.2 a b, ← hm.2 b a, h2, gqC_conj]
  · exact isHermitian_of_rep hm

/-- **the model's `is_psd` decides positive semidefiniteness** of the matrix it is given -/
theorem isPsd_rep_iff {n : Nat} {m : Mat} {M : DMat n} (hm : Rep n m M) : DM.isPsd m = true ↔ M.PosSemidef := by
  unfold DM.isPsd
  rw [Bool.and_eq_true, isHermitian_rep_iff hm, hm.1]
  constructor
  · intro ⟨hH, hel⟩
    have hb := blockHerm_of_rep hm hH
    rw [← Nat.sub_self (2 ^ n)] at hb
    have hp := (psdElim_iff (2 ^ n) (2 ^ n) m.e (Nat.le_refl _) hb).1 hel
    rw [Nat.sub_self] at hp
    exact (blockPSD_rep_iff hm hH).1 hp
  · intro hM
    have hp := (blockPSD_rep_iff hm hM.1).2 hM
    rw [← Nat.sub_self (2 ^ n)] at hp
    exact ⟨hM.1, (psdElim_iff (2 ^ n) (2 ^ n) m.e (Nat.le_refl _) hp.herm).2 hp⟩

theorem isPsd_of_rep {n : Nat} {m : Mat} {M : DMat n} (hm : Rep n m M) (hM : M.PosSemidef) : DM.isPsd m = true :=
  (isPsd_rep_iff hm).2 hM

theorem trace_of_rep {n : Nat} {m : Mat} {M : DMat n} (hm : Rep n m M) (ht : Matrix.trace M = 1) : m.trace = 1 := by
  apply gqC_injective
  rw [hm.trace, ht, map_one]

/-- `is_density_matrix` accepts every representation of a PSD matrix of trace 1 -/
theorem isDensityMatrix_of_rep {n : Nat} {m : Mat} {M : DMat n} (hm : Rep n m M) (hM : M.PosSemidef)
    (ht : Matrix.trace M = 1) : DM.isDensityMatrix m = true := by
  unfold DM.isDensityMatrix
  rw [isPsd_of_rep hm hM, trace_of_rep hm ht]
  have h1 : (1 : GQ).re = 1 := rfl
  have h2 : (1 : GQ).im = 0 := rfl
  rw [h1, h2]
  unfold DM.allclose1 DM.isclose0
  simp only [DM.rat_abs_eq, sub_self, abs_zero, Bool.true_and, Bool.and_eq_true, decide_eq_true_eq]
  constructor <;> norm_num

/-- `is_pure` accepts every representation of a projector of trace 1 -/
theorem isPure_of_rep {n : Nat} {m : Mat} {M : DMat n} (hm : Rep n m M) (hp : M * M = M)
    (ht : Matrix.trace M = 1) : DM.isPure m = true := by
  unfold DM.isPure
  have := trace_of_rep (hm.mul hm) (by rw [hp]; exact ht)
  rw [this]
  have h1 : (1 : GQ).re = 1 := rfl
  rw [h1]
  unfold DM.allclose1Tight
  simp only [DM.rat_abs_eq, sub_self, abs_zero, decide_eq_true_eq]
  norm_num

end rep

end C17B
end Graphiq
