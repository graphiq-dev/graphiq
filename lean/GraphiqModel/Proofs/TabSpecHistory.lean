/-
  Proofs/TabSpecHistory.lean — the abstract "group transformer" semantics of the tableau API (`specOp`, `specOps`) and, for each
  primitive of the API (gate, swap, Z measurement, reset, insertion, removal, `norm`), the refinement lemma: the stabilizer group
  of the tableau after the call is the transformer applied to the group before it (all sizes, all outcomes).  The table over
  `Tab.Op` and the induction over histories are not here: `Hilbert.op_tracked`, `Hilbert.history_tracked`
  (Proofs/HilbertDimBorn.lean) carry group, density matrix and Born probability together.
-/
import GraphiqModel.Proofs.TabSpecRemove
namespace Graphiq.TabSpec
open Graphiq PRow Tab STab

/-- abstract state: number of qubits and a set of signed Pauli rows (the stabilizer group) -/
structure GState where
  n : Nat
  G : PRow → Prop

def gstate (t : Tab) : GState := ⟨t.n, Grp t⟩

theorem gstate_ext {a b : GState} (hn : a.n = b.n) (hg : ∀ P, a.G P ↔ b.G P) : a = b := by
  cases a; cases b
  simp only at hn hg
  subst hn
  congr
  exact funext fun P => propext (hg P)

/-! ### the transformers -/

/-- a unitary gate: image of the group under the row automorphism -/
def specGate (f : PRow → PRow) (s : GState) : GState := ⟨s.n, imageGrp s.n f s.G⟩

/-- swap of two qubits: pull back along the exchange of the two sites (signs untouched) -/
def specSwap (a b : Nat) (s : GState) : GState := ⟨s.n, fun P => s.G (PRow.swap a b P)⟩

/-- Z measurement with recorded outcome `o` (used only when the outcome is random):
    random (some element anticommutes with `Z_q`) → `⟨(-1)^o Z_q⟩ · {elements commuting with Z_q}`; deterministic → unchanged -/
def specMeasure (q : Nat) (o : Bool) (s : GState) : GState :=
  ⟨s.n, fun P => (Random s.G q ∧ P.x q = false ∧ (s.G P ∨ s.G (PRow.mul s.n P (Zq q o)))) ∨ (¬ Random s.G q ∧ s.G P)⟩

/-- reset to `|intended⟩` in the Z basis, as coded: the Z measurement with recorded outcome `o`, then conjugation by `X_q`
    unless the outcome equals `intended` (i.e. unless `(-1)^intended Z_q` is in the group after the measurement) -/
def specResetZ (q : Nat) (i o : Bool) (s : GState) : GState :=
  ⟨s.n, fun P =>
    ((specMeasure q o s).G (Zq q i) ∧ (specMeasure q o s).G P) ∨
    (¬ (specMeasure q o s).G (Zq q i) ∧ (specGate (PRow.xg q) (specMeasure q o s)).G P)⟩

/-- insertion of `|0⟩` at position `p`: `{I, Z}_p ⊗ G` with sign `+` -/
def specInsert (p : Nat) (s : GState) : GState := ⟨s.n + 1, fun P => P.x p = false ∧ s.G (P.deleteCol p)⟩

/-- removal of qubit `q`: Z-measure it (outcome `o` if random), keep the elements with an identity on `q`, drop the site -/
def specRemove (q : Nat) (o : Bool) (s : GState) : GState :=
  ⟨s.n - 1, fun P' => (specMeasure q o s).G (P'.insertCol q)⟩

open Classical in
/-- partial trace: remove the listed qubits in order; a drawn outcome is consumed only by a random measurement -/
noncomputable def specPtraceGo : List Nat → List Bool → GState → GState
  | [], _, s => s
  | q :: rest, os, s => specPtraceGo rest (if Random s.G q then os.tail else os) (specRemove q (os.headD false) s)

noncomputable def specPtrace (keep : List Nat) (os : List Bool) (s : GState) : GState :=
  specPtraceGo (removalList s.n keep) os s

/-- **abstract semantics of one API call** (the outcome scripts are part of `Op`) -/
noncomputable def specOp : Tab.Op → GState → GState
  | .h q, s => specGate (PRow.h q) s
  | .s q, s => specGate (PRow.s q) s
  | .sdg q, s => specGate (PRow.sdg q) s
  | .x q, s => specGate (PRow.xg q) s
  | .y q, s => specGate (PRow.yg q) s
  | .z q, s => specGate (PRow.zg q) s
  | .cnot c t, s => specGate (PRow.cnot c t) s
  | .cz c t, s => specGate (PRow.cz c t) s
  | .swap a b, s => specSwap a b s
  | .meas q o, s => specMeasure q o s
  | .resetZ q i o, s => specResetZ q i o s
  | .resetX q i o, s => specGate (PRow.h q) (specResetZ q i o s)
  | .resetY q i o, s => specGate (PRow.s q) (specGate (PRow.h q) (specResetZ q i o s))
  | .insert p, s => specInsert p s
  | .add, s => specInsert s.n s
  | .remove q o, s => specRemove q o s
  | .ptrace keep os, s => specPtrace keep os s

noncomputable def specOps : List Tab.Op → GState → GState
  | [], s => s
  | op :: rest, s => specOps rest (specOp op s)

/-- argument condition: control and target of a two-qubit gate are distinct -/
def OpWF : Tab.Op → Prop
  | .cnot c t => c ≠ t
  | .cz c t => c ≠ t
  | _ => True

/-! ### refinement, one primitive at a time -/

theorem or_and_pos {c A B : Prop} (hc : c) : (c ∧ A) ∨ (¬ c ∧ B) ↔ A :=
  ⟨fun h => h.elim (·.2) (fun h => absurd hc h.1), fun h => Or.inl ⟨hc, h⟩⟩

theorem or_and_neg {c A B : Prop} (hc : ¬ c) : (c ∧ A) ∨ (¬ c ∧ B) ↔ B :=
  ⟨fun h => h.elim (fun h => absurd h.1 hc) (·.2), fun h => Or.inr ⟨hc, h⟩⟩

theorem gate_tracks (t : Tab) (f : PRow → PRow) (hf : IsAut1 t.n f) (hr : t.StabReal) :
    (t.map f).StabReal ∧ gstate (t.map f) = specGate f (gstate t) :=
  ⟨Tab.map_real t f hf.ip hr, gstate_ext rfl (map_grp t f hf)⟩

theorem swap_tracks (t : Tab) (a b : Nat) (ha : a < t.n) (hb : b < t.n) (hr : t.StabReal) :
    (t.swapGate a b).StabReal ∧ gstate (t.swapGate a b) = specSwap a b (gstate t) :=
  ⟨Tab.map_real t _ (fun _ => rfl) hr, gstate_ext rfl (swap_grp t a b ha hb)⟩

theorem zMeasure_stabReal (t : Tab) (q : Nat) (o : Bool) (_hq : q < t.n) (hv : t.Valid) (hr : t.StabReal) :
    (t.zMeasure q o).1.StabReal :=
  Tab.zMeasure_real t q o hv hr

theorem measure_tracks (t : Tab) (q : Nat) (o : Bool) (hq : q < t.n) (hv : t.Valid) (hr : t.StabReal) :
    gstate (t.zMeasure q o).1 = specMeasure q o (gstate t) := by
  cases hp : t.pivot q with
  | some p =>
    have hR : Random (Grp t) q := (random_iff_pivot t q hq).mpr (by rw [hp]; rfl)
    rw [zMeasure_random_eq t q p o hp]
    exact gstate_ext rfl fun P => (measRandom_grp t q p o hv hr hq hp P).trans (or_and_pos hR).symm
  | none =>
    have hR : ¬ Random (Grp t) q := fun h => by
      have := (random_iff_pivot t q hq).mp h
      rw [hp] at this; cases this
    rw [zMeasure_det_eq t q o hp]
    exact gstate_ext rfl fun P => (or_and_neg hR).symm

theorem stabReal_of_grp_sub (t1 : Tab) (H : PRow → Prop) (hreal : ∀ a, H a → a.ip = false)
    (hsub : ∀ P, Grp t1 P → H P) : t1.StabReal := by
  intro i h1 h2
  exact hreal _ (hsub _ (grp_row t1 i h1 h2))

theorem negate_Zq (q : Nat) (s : Bool) : negate (Zq q s) = Zq q (!s) := rfl

theorem measure_leaves_Zq (t : Tab) (q : Nat) (o : Bool) (hq : q < t.n) (hv : t.Valid) (hr : t.StabReal) :
    Grp (t.zMeasure q o).1 (Zq q (t.zMeasure q o).2.1) := by
  cases hp : t.pivot q with
  | some p =>
    have e := zMeasure_random_eq t q p o hp
    rw [e]
    show Grp (t.measRandom q p o) (Zq q o)
    rw [measRandom_grp t q p o hv hr hq hp]
    exact ⟨by simp [Zq], Or.inr (InSpan.eqv _ _ InSpan.one (mul_self t.n (Zq q o) rfl).symm)⟩
  | none =>
    have e := zMeasure_det_eq t q o hp
    rw [e]
    exact measDet_grp_Zq t hv hr q hq hp

theorem measured_Zq_iff (t : Tab) (q : Nat) (i o : Bool) (hq : q < t.n) (hv : t.Valid) (hr : t.StabReal) :
    Grp (t.zMeasure q o).1 (Zq q i) ↔ (t.zMeasure q o).2.1 = i := by
  have hz := measure_leaves_Zq t q o hq hv hr
  have hG := grp_isStabGrp _ (zMeasure_valid t q o hq hv) (zMeasure_stabReal t q o hq hv hr)
  constructor
  · intro h
    by_cases e : (t.zMeasure q o).2.1 = i
    · exact e
    · exfalso
      have e' : (t.zMeasure q o).2.1 = !i := by revert e; cases (t.zMeasure q o).2.1 <;> cases i <;> simp
      rw [e', ← negate_Zq] at hz
      exact hG.not_negate _ h hz
  · intro e; rw [← e]; exact hz

theorem resetZ_tracks (t : Tab) (q : Nat) (i o : Bool) (hq : q < t.n) (hv : t.Valid) (hr : t.StabReal) :
    (t.resetZ q i o).StabReal ∧ gstate (t.resetZ q i o) = specResetZ q i o (gstate t) := by
  have hr1 := zMeasure_stabReal t q o hq hv hr
  have g1 := measure_tracks t q o hq hv hr
  have hn1 : (t.zMeasure q o).1.n = t.n := zMeasure_n t q o
  have hiff := measured_Zq_iff t q i o hq hv hr
  rw [resetZ_eq t q i o hr]
  by_cases hs : (t.zMeasure q o).2.1 = i
  · rw [if_pos hs]
    have hz : (specMeasure q o (gstate t)).G (Zq q i) := by rw [← g1]; exact hiff.mpr hs
    rw [g1]
    exact ⟨hr1, gstate_ext rfl fun P => (or_and_pos hz).symm⟩
  · rw [if_neg hs]
    obtain ⟨r2, g2⟩ := gate_tracks (t.zMeasure q o).1 _ (isAut1_xg _ q (by rw [hn1]; exact hq)) hr1
    have hz : ¬ (specMeasure q o (gstate t)).G (Zq q i) := by rw [← g1]; exact fun h => hs (hiff.mp h)
    refine ⟨r2, ?_⟩
    show gstate ((t.zMeasure q o).1.map (PRow.xg q)) = _
    rw [g2, g1]
    exact gstate_ext rfl fun P => (or_and_neg hz).symm

theorem insert_tracks (t : Tab) (p : Nat) (hp : p ≤ t.n) (hv : t.Valid) (hr : t.StabReal) :
    (t.insertQubit p).StabReal ∧ gstate (t.insertQubit p) = specInsert p (gstate t) :=
  ⟨insert_stabReal t p hp hv hr, gstate_ext rfl (insert_grp t p hp hv hr)⟩

theorem remove_tracks (t t' : Tab) (q : Nat) (o : Bool) (hv : t.Valid) (hr : t.StabReal)
    (h : t.removeQubit? q o = .ok t') :
    t'.Valid ∧ t'.StabReal ∧ gstate t' = specRemove q o (gstate t) := by
  obtain ⟨hq, n', v', r', g⟩ := removeQubit?_grp t t' q o hv hr h
  refine ⟨v', r', gstate_ext n' ?_⟩
  intro P'
  show Grp t' P' ↔ (specMeasure q o (gstate t)).G (P'.insertCol q)
  rw [g, ← measure_tracks t q o hq hv hr]
  rfl

theorem norm_gstate (t : Tab) : gstate t.norm = gstate t := gstate_ext rfl (norm_grp t)

theorem xg_fix (n q : Nat) (P : PRow) (hz : P.z q = false) : EqOn n (PRow.xg q P) P := by
  refine (xg_eqOn n q P).trans ⟨fun j _ => ⟨rfl, rfl⟩, ?_, rfl⟩
  simp [hz]

theorem resetZ_has_Zq (t : Tab) (q : Nat) (i o : Bool) (hq : q < t.n) (hv : t.Valid) (hr : t.StabReal) :
    Grp (t.resetZ q i o) (Zq q i) := by
  have hz := measure_leaves_Zq t q o hq hv hr
  have hn1 : (t.zMeasure q o).1.n = t.n := zMeasure_n t q o
  rw [resetZ_eq t q i o hr]
  by_cases hs : (t.zMeasure q o).2.1 = i
  · rw [if_pos hs, ← hs]; exact hz
  · rw [if_neg hs]
    have hs' : (t.zMeasure q o).2.1 = !i := by revert hs; cases (t.zMeasure q o).2.1 <;> cases i <;> simp
    rw [hs'] at hz
    show Grp ((t.zMeasure q o).1.map (PRow.xg q)) _
    rw [map_grp _ _ (isAut1_xg _ q (by rw [hn1]; exact hq))]
    refine ⟨Zq q (!i), hz, ?_⟩
    have := xg_Zq (t.zMeasure q o).1.n q (!i)
    rw [Bool.not_not] at this
    exact this.symm

/-- on the rows with an identity on `q`, `reset_z(q, intended)` acts like the Z measurement with the drawn / forced outcome `o`
    (the conditional `X_q` is invisible on those rows) -/
theorem resetZ_other_qubits (t : Tab) (q : Nat) (i o : Bool) (hq : q < t.n) (hr : t.StabReal)
    (P : PRow) (hz : P.z q = false) :
    Grp (t.resetZ q i o) P ↔ Grp (t.zMeasure q o).1 P := by
  have hn1 : (t.zMeasure q o).1.n = t.n := zMeasure_n t q o
  have hq1 : q < (t.zMeasure q o).1.n := by rw [hn1]; exact hq
  rw [resetZ_eq t q i o hr]
  by_cases hs : (t.zMeasure q o).2.1 = i
  · rw [if_pos hs]
  · rw [if_neg hs]
    show Grp ((t.zMeasure q o).1.map (PRow.xg q)) P ↔ _
    rw [map_grp _ _ (isAut1_xg _ q hq1)]
    constructor
    · rintro ⟨Q, hQ, e⟩
      have e' : EqOn (t.zMeasure q o).1.n P ({ Q with r := xor Q.r (Q.z q) } : PRow) := e.trans (xg_eqOn _ q Q)
      have qz : Q.z q = false := by rw [← hz]; exact ((e'.1 q hq1).2).symm
      exact InSpan.eqv _ _ hQ (e.trans (xg_fix _ q Q qz)).symm
    · intro h
      exact ⟨P, h, (xg_fix _ q P hz).symm⟩

/-! ### accepted calls and histories -/

theorem applyOp_valid (t t' : Tab) (op : Tab.Op) (out : Option (Bool × Bool)) (hop : OpWF op)
    (hv : t.Valid) (h : t.applyOp op = .ok (t', out)) : t'.Valid := by
  cases op with
  | h q => obtain ⟨hq, rfl⟩ := Tab.applyOp_inv t t' _ out h; exact hGate_valid t q hq hv
  | s q => obtain ⟨hq, rfl⟩ := Tab.applyOp_inv t t' _ out h; exact sGate_valid t q hq hv
  | sdg q => obtain ⟨hq, rfl⟩ := Tab.applyOp_inv t t' _ out h; exact sdgGate_valid t q hq hv
  | x q => obtain ⟨hq, rfl⟩ := Tab.applyOp_inv t t' _ out h; exact xGate_valid t q hq hv
  | y q => obtain ⟨hq, rfl⟩ := Tab.applyOp_inv t t' _ out h; exact yGate_valid t q hq hv
  | z q => obtain ⟨hq, rfl⟩ := Tab.applyOp_inv t t' _ out h; exact zGate_valid t q hq hv
  | cnot c tg => obtain ⟨hb, rfl⟩ := Tab.applyOp_inv t t' _ out h; exact cnotGate_valid t c tg hb.1 hb.2 hop hv
  | cz c tg => obtain ⟨hb, rfl⟩ := Tab.applyOp_inv t t' _ out h; exact czGate_valid t c tg hb.1 hb.2 hop hv
  | swap a b => obtain ⟨hb, rfl⟩ := Tab.applyOp_inv t t' _ out h; exact swapGate_valid t a b hb.1 hb.2 hv
  | meas q o => obtain ⟨hq, rfl⟩ := Tab.applyOp_inv t t' _ out h; exact zMeasure_valid t q o hq hv
  | resetZ q i o => obtain ⟨hq, rfl⟩ := Tab.applyOp_inv t t' _ out h; exact resetZ_valid t q i o hq hv
  | resetX q i o => obtain ⟨hq, rfl⟩ := Tab.applyOp_inv t t' _ out h; exact resetX_valid t q i o hq hv
  | resetY q i o => obtain ⟨hq, rfl⟩ := Tab.applyOp_inv t t' _ out h; exact resetY_valid t q i o hq hv
  | insert p => obtain ⟨hp, rfl⟩ := Tab.applyOp_inv t t' _ out h; exact insertQubit_valid t p hp hv
  | add => obtain rfl := Tab.applyOp_inv t t' _ out h; exact addQubit_valid t hv
  | remove q o => exact removeQubit?_valid t t' q o hv (Tab.applyOp_inv t t' _ out h)
  | ptrace k os => exact partialTrace_valid t t' k os hv (Tab.applyOp_inv t t' _ out h)

/-- a run that a kernel evaluation shows to be accepted has a result (for the examples: the check is `decide +kernel`) -/
theorem exists_ok_of_check {α : Type} (x : Except Err α)
    (h : (match x with | .ok _ => true | .error _ => false) = true) : ∃ a, x = .ok a := by
  cases x with
  | error e => cases h
  | ok a => exact ⟨a, rfl⟩

theorem runOps_cons_ok (t t' : Tab) (op : Tab.Op) (rest : List Tab.Op) (h : t.runOps (op :: rest) = .ok t') :
    ∃ t1 out, t.applyOp op = .ok (t1, out) ∧ t1.runOps rest = .ok t' := by
  simp only [runOps] at h
  split at h
  · next t1 out h1 => exact ⟨t1, out, h1, h⟩
  · cases h

theorem partialTrace_go_total (rem : List Nat) :
    ∀ (t : Tab) (os : List Bool), t.Valid → t.StabReal → rem.Pairwise (· > ·) → (∀ q, q ∈ rem → q < t.n) →
      ∃ t', partialTrace.go t rem os = .ok t' := by
  induction rem with
  | nil => intro t os _ _ _ _; exact ⟨t, rfl⟩
  | cons q rest ih =>
    intro t os hv hr hpw hlt
    have hq : q < t.n := hlt q List.mem_cons_self
    obtain ⟨t1, h1⟩ := removeQubit_total t q (os.headD false) hq hv
    have h1' : t.removeQubit? q (os.headD false) = .ok t1 := by unfold removeQubit?; rw [if_pos hq]; exact h1
    obtain ⟨n1, v1, r1, _⟩ := removeQubit_grp t t1 q _ hq hv hr h1
    have hpw' := List.pairwise_cons.mp hpw
    obtain ⟨t', h'⟩ := ih t1.norm (if (t.pivot q).isSome then os.tail else os) (Tab.norm_valid t1 v1) (norm_stabReal t1 r1)
      hpw'.2 (by
        intro q' hq'
        have := hpw'.1 q' hq'
        show q' < t1.n
        rw [n1]; omega)
    refine ⟨t', ?_⟩
    simp only [partialTrace.go, h1']
    exact h'

def stabRealB (t : Tab) : Bool := (List.range t.n).all fun i => !(t.row (i + t.n)).ip

theorem stabRealB_spec (t : Tab) (h : stabRealB t = true) : t.StabReal := by
  unfold stabRealB at h
  simp only [List.all_eq_true, List.mem_range, Bool.not_eq_true'] at h
  intro i h1 h2
  have := h (i - t.n) (by omega)
  rw [show i - t.n + t.n = i by omega] at this
  exact this

end Graphiq.TabSpec
