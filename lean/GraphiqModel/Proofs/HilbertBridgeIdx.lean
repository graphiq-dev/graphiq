/-
  Proofs/HilbertBridgeIdx.lean — the index bridge between the executable density-matrix model (`Mat`: size `2^n`,
  `Nat` row/column indices, as in numpy) and the Hilbert-space reading (`Matrix (Bits n) (Bits n) ℂ`):

  * `idx n b` : the numpy index of the basis string `b` (big-endian: qubit 0 is the most significant bit, as in the
    `np.kron` chains); `bitsOf n i` its inverse below `2^n`;
  * `testBit_idx` : bit `p` of `idx n b` is `b_(n-1-p)`; `idx_digit` : `(idx b / 2^(n-q-1)) % 2` is `b_q` — the
    expression the executable model uses to read qubit `q` off an index;
  * `sum_range_pow` : a sum over `range (2^n)` is the sum over bit strings;
  * `idx_high_eq_iff`, `idx_low_eq_iff` : equality of the high part `i / 2^m` / low part `i % 2^m` of two indices is
    agreement of the corresponding qubits.
-/
import GraphiqModel.Proofs.HilbertKron
import Mathlib.Algebra.BigOperators.Group.Finset.Basic
namespace Graphiq
namespace Hilbert

/-- the numpy index of a basis string: `Σ_j b_j 2^(n-1-j)` -/
def idx : (n : Nat) → Bits n → Nat
  | 0, _ => 0
  | n + 1, b => 2 * idx n (initB b) + (if lastB b then 1 else 0)

def bitsOf (n i : Nat) : Bits n := fun j => Nat.testBit i (n - 1 - j.val)

theorem idx_lt : ∀ (n : Nat) (b : Bits n), idx n b < 2 ^ n
  | 0, _ => by simp [idx]
  | n + 1, b => by
    have := idx_lt n (initB b)
    simp only [idx]
    rw [pow_succ]
    split <;> omega

theorem testBit_two_mul_add (x : Nat) (l : Bool) (p : Nat) :
    Nat.testBit (2 * x + (if l then 1 else 0)) p = if p = 0 then l else Nat.testBit x (p - 1) := by
  cases p with
  | zero =>
    simp only [Nat.testBit_zero, if_true]
    cases l <;> simp
  | succ k =>
    rw [Nat.testBit_succ]
    have : (2 * x + (if l then 1 else 0)) / 2 = x := by cases l <;> simp <;> omega
    rw [this]; simp

theorem testBit_idx : ∀ (n : Nat) (b : Bits n) (p : Nat), Nat.testBit (idx n b) p = if p < n then bx b (n - 1 - p) else false
  | 0, _, p => by simp [idx]
  | n + 1, b, p => by
    simp only [idx]
    rw [testBit_two_mul_add]
    cases p with
    | zero =>
      simp only [if_true, Nat.zero_lt_succ]
      rw [show n + 1 - 1 - 0 = n by omega, bx_lastB]
    | succ k =>
      simp only [Nat.succ_ne_zero, if_false, Nat.add_sub_cancel]
      rw [testBit_idx n (initB b) k]
      by_cases hk : k < n
      · rw [if_pos hk, if_pos (by omega), bx_initB b _ (by omega)]
        congr 1
        omega
      · rw [if_neg hk, if_neg (by omega)]

theorem bitsOf_idx (n : Nat) (b : Bits n) : bitsOf n (idx n b) = b := by
  funext j
  simp only [bitsOf]
  rw [testBit_idx, if_pos (by have := j.isLt; omega)]
  have : n - 1 - (n - 1 - j.val) = j.val := by have := j.isLt; omega
  rw [this, bx_lt _ _ j.isLt]

theorem idx_injective (n : Nat) : Function.Injective (idx n) := by
  intro a b h
  rw [← bitsOf_idx n a, ← bitsOf_idx n b, h]

theorem idx_bitsOf (n i : Nat) (hi : i < 2 ^ n) : idx n (bitsOf n i) = i := by
  apply Nat.eq_of_testBit_eq
  intro p
  rw [testBit_idx]
  by_cases hp : p < n
  · rw [if_pos hp, bx_lt _ _ (by omega)]
    simp only [bitsOf]
    congr 1
    omega
  · rw [if_neg hp]
    symm
    apply Nat.testBit_lt_two_pow
    exact Nat.lt_of_lt_of_le hi (Nat.pow_le_pow_right (by norm_num) (by omega))

theorem sum_range_pow {M : Type} [AddCommMonoid M] (n : Nat) (f : Nat → M) :
    ∑ i ∈ Finset.range (2 ^ n), f i = ∑ b : Bits n, f (idx n b) := by
  symm
  apply Finset.sum_nbij' (idx n) (bitsOf n)
  · intro b _; exact Finset.mem_range.mpr (idx_lt n b)
  · intro i _; exact Finset.mem_univ _
  · intro b _; exact bitsOf_idx n b
  · intro i hi; exact idx_bitsOf n i (Finset.mem_range.mp hi)
  · intro b _; rfl

/-- the executable model's digit expression reads qubit `q` -/
theorem idx_digit (n : Nat) (b : Bits n) (q : Nat) (hq : q < n) :
    (idx n b / 2 ^ (n - q - 1)) % 2 = if bx b q then 1 else 0 := by
  have h := testBit_idx n b (n - q - 1)
  rw [if_pos (by omega), show n - 1 - (n - q - 1) = q by omega, Nat.testBit_eq_decide_div_mod_eq] at h
  have h2 : idx n b / 2 ^ (n - q - 1) % 2 < 2 := Nat.mod_lt _ (by norm_num)
  cases hb : bx b q
  · rw [hb] at h
    have := of_decide_eq_false h
    simp; omega
  · rw [hb] at h
    have := of_decide_eq_true h
    simp; exact this

theorem idx_high_eq_iff (n : Nat) (a b : Bits n) (q : Nat) (hq : q ≤ n) :
    idx n a / 2 ^ (n - q) = idx n b / 2 ^ (n - q) ↔ ∀ j, j < q → bx a j = bx b j := by
  constructor
  · intro h j hj
    have := congrArg (fun x => Nat.testBit x (q - 1 - j)) h
    simp only [Nat.testBit_div_two_pow, testBit_idx] at this
    rw [if_pos (by omega), if_pos (by omega)] at this
    have e : n - 1 - (q - 1 - j + (n - q)) = j := by omega
    rw [e] at this
    exact this
  · intro h
    apply Nat.eq_of_testBit_eq
    intro p
    simp only [Nat.testBit_div_two_pow, testBit_idx]
    by_cases hp : p + (n - q) < n
    · rw [if_pos hp, if_pos hp]
      exact h _ (by omega)
    · rw [if_neg hp, if_neg hp]

theorem idx_low_eq_iff (n : Nat) (a b : Bits n) (q : Nat) (hq : q ≤ n) :
    idx n a % 2 ^ (n - q) = idx n b % 2 ^ (n - q) ↔ ∀ j, q ≤ j → j < n → bx a j = bx b j := by
  constructor
  · intro h j hj1 hj2
    have := congrArg (fun x => Nat.testBit x (n - 1 - j)) h
    simp only [Nat.testBit_mod_two_pow, testBit_idx] at this
    have hlt : n - 1 - j < n - q := by omega
    rw [if_pos (by omega), if_pos (by omega)] at this
    simp only [hlt, decide_true, Bool.true_and] at this
    have e : n - 1 - (n - 1 - j) = j := by omega
    rw [e] at this
    exact this
  · intro h
    apply Nat.eq_of_testBit_eq
    intro p
    simp only [Nat.testBit_mod_two_pow, testBit_idx]
    by_cases hp : p < n - q
    · simp only [hp, decide_true, Bool.true_and]
      rw [if_pos (by omega), if_pos (by omega)]
      exact h _ (by omega) (by omega)
    · simp [hp]

/-- all qubits other than `q` agree, in terms of the two index parts the executable `get_one_qubit_gate` compares -/
theorem idx_off_site_iff (n : Nat) (a b : Bits n) (q : Nat) (hq : q < n) :
    (idx n a / (2 * 2 ^ (n - q - 1)) = idx n b / (2 * 2 ^ (n - q - 1)) ∧
      idx n a % 2 ^ (n - q - 1) = idx n b % 2 ^ (n - q - 1)) ↔ (∀ j : Fin n, j.val ≠ q → a j = b j) := by
  have e1 : 2 * 2 ^ (n - q - 1) = 2 ^ (n - q) := by
    have : n - q = (n - q - 1) + 1 := by omega
    rw [this, pow_succ, Nat.add_sub_cancel, Nat.mul_comm]
  have e2 : n - q - 1 = n - (q + 1) := by omega
  rw [e1, e2, idx_high_eq_iff n a b q (by omega), idx_low_eq_iff n a b (q + 1) (by omega)]
  constructor
  · intro ⟨h1, h2⟩ j hj
    have := j.isLt
    by_cases hlt : j.val < q
    · have := h1 j.val hlt
      rwa [bx_lt _ _ j.isLt, bx_lt _ _ j.isLt] at this
    · have := h2 j.val (by omega) j.isLt
      rwa [bx_lt _ _ j.isLt, bx_lt _ _ j.isLt] at this
  · intro h
    constructor
    · intro j hj
      have := h ⟨j, by omega⟩ (by simp; omega)
      rwa [bx_lt _ _ (by omega), bx_lt _ _ (by omega)]
    · intro j hj1 hj2
      have := h ⟨j, hj2⟩ (by simp; omega)
      rwa [bx_lt _ _ hj2, bx_lt _ _ hj2]

theorem idx_eq_iff (n : Nat) (a b : Bits n) : idx n a = idx n b ↔ a = b :=
  ⟨fun h => idx_injective n h, fun h => by rw [h]⟩

theorem idx_zero (n : Nat) : idx n (fun _ => false) = 0 := by
  induction n with
  | zero => rfl
  | succ k ih =>
    simp only [idx]
    have e1 : initB (fun _ : Fin (k + 1) => false) = fun _ => false := rfl
    have e2 : lastB (fun _ : Fin (k + 1) => false) = false := rfl
    rw [e1, e2, ih]; rfl

theorem idx_eq_zero_iff (n : Nat) (a : Bits n) : idx n a = 0 ↔ a = fun _ => false := by
  rw [← idx_zero n, idx_eq_iff]

end Hilbert
end Graphiq
