/-
  Proofs/Check.lean — soundness of the validator of Model/Check.lean.
-/
import GraphiqModel.Model.Check
import GraphiqModel.Proofs.StabTableau
namespace Graphiq
open PRow Tab STab

theorem mem_allScripts (m : Nat) (s : List Bool) (h : s.length = m) : s ∈ allScripts m := by
  induction m generalizing s with
  | zero =>
    have : s = [] := List.length_eq_zero_iff.mp h
    subst this; simp [allScripts]
  | succ k ih =>
    cases s with
    | nil => simp at h
    | cons b rest =>
      have hr : rest.length = k := by simpa using h
      simp only [allScripts, List.mem_flatMap]
      refine ⟨rest, ih rest hr, ?_⟩
      cases b <;> simp

theorem isGood_good (t : STab) (h : t.isGood = true) : t.Good := by
  unfold STab.isGood at h
  simp only [List.all_eq_true, List.mem_range, Bool.and_eq_true, Bool.not_eq_true'] at h
  exact ⟨fun i hi => (h i hi).1, fun i k hi hk => (h i hi).2 k hk⟩

theorem sameRows_spec (a b : STab) (h : a.sameRows b = true) : a.n = b.n ∧ ∀ i, i < a.n → EqOn a.n (a.row i) (b.row i) := by
  unfold STab.sameRows at h
  simp only [Bool.and_eq_true, beq_iff_eq, List.all_eq_true, List.mem_range] at h
  exact ⟨h.1, fun i hi => beqOn_eqOn _ _ _ (h.2 i hi)⟩

/-- for concrete two-generator witnesses: the rows of `b` are `g₀ g₁` and `g₁` for the rows `g₀, g₁` of `a` -/
theorem spn_rows_two (a b : STab) (ha : a.n = 2) (hb : b.n = 2)
    (h0 : PRow.beqOn 2 (PRow.mul 2 (a.row 0) (a.row 1)) (b.row 0) = true) (h1 : PRow.beqOn 2 (a.row 1) (b.row 1) = true) :
    ∀ i, i < b.n → a.Spn (b.row i) := by
  intro i hi
  have hi2 : i = 0 ∨ i = 1 := by omega
  unfold Spn
  rw [ha]
  rcases hi2 with rfl | rfl
  · exact InSpan.eqv _ _ (InSpan.mul _ _ (InSpan.gen 0 (by decide)) (InSpan.gen 1 (by decide))) (beqOn_eqOn _ _ _ h0)
  · exact InSpan.eqv _ _ (InSpan.gen 1 (by decide)) (beqOn_eqOn _ _ _ h1)

theorem sameGroup_sound (a b : STab) (h : a.sameGroup b = true) : SpanEq a b := by
  unfold STab.sameGroup at h
  simp only [Bool.and_eq_true] at h
  obtain ⟨⟨ga, gb⟩, hm⟩ := h
  have ga' := isGood_good a ga
  have gb' := isGood_good b gb
  cases ha : a.canonicalForm with
  | error e => rw [ha] at hm; simp at hm
  | ok ca =>
    cases hb : b.canonicalForm with
    | error e => rw [ha, hb] at hm; simp at hm
    | ok cb =>
      rw [ha, hb] at hm
      simp only at hm
      obtain ⟨s1, _⟩ := canonicalForm_spanEq a ca ga' ha
      obtain ⟨s2, _⟩ := canonicalForm_spanEq b cb gb' hb
      obtain ⟨hn, hr⟩ := sameRows_spec ca cb hm
      exact (s1.trans (spanEq_of_rows ca cb hn hr)).trans s2.symm

/-- soundness of the validator: if it accepts, then for EVERY outcome script (one bit per possible draw) the run succeeds and
    the stabilizer half of the final tableau generates exactly the signed group of `graph state ⊗ |0…0⟩` -/
theorem checkGenerates_sound (ne np : Nat) (ops : List COp) (adj : Nat → Nat → Bool)
    (h : checkGenerates ne np ops adj = true) :
    ∀ script : List Bool, script.length = countMeas ops →
      ∃ s, stabRun ne np .prob script ops = some s ∧ SpanEq (STab.ofTab s.t) (targetSTab np ne adj) := by
  intro script hl
  unfold checkGenerates at h
  simp only [List.all_eq_true] at h
  have := h script (mem_allScripts _ script hl)
  unfold checkScript at this
  cases hr : stabRun ne np .prob script ops with
  | none => rw [hr] at this; simp at this
  | some s =>
    rw [hr] at this
    exact ⟨s, rfl, sameGroup_sound _ _ this⟩

end Graphiq
