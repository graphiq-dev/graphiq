/-
  C10 — every alternate-target result generates the relabelled target.

  As for C02, the soundness of the validator applied to every entry the real solver returns is proved: an accepted entry's
  circuit generates, under every combination of measurement outcomes, exactly the target graph state with its vertices renamed by the
  entry's map.  In addition the result assembly of `solve` is modelled (Model/AltTarget.lean) and proved:
    * the duplicate removal (`set_list`, `redundant_indices`, deletion from the back) keeps entries with pairwise different listed
      graphs and loses no listed graph — for every iteration order of the Python sets (`pick`);
    * relabelling by a permutation is an isomorphism, relabelling composes, and the renamed adjacency used here is the matrix
      `Pᵀ A P` of `relabel_module.relabel`;
    * the outer loops with the time-reversed solver, the LC conversion and `get_relabel_map` as parameters: if those parts are
      correct, every returned entry generates its relabelled target and the entries are pairwise different.
    * `alternate_target_result_sound`: with the time-reversed solver (C02 model, `model_solver_generates`) and the LC conversion
      (`lc_check(…, validate=True)` of C09 + `str_to_op`, `Alt.conv_generates`) MODELLED, every entry `solve` returns generates its
      relabelled target under every outcome script and the listed graphs are pairwise different — no hypothesis on the solver, the
      conversion, the LC decision or the explorers; side conditions: simple graphs on `np` vertices, and the relabel maps pass the
      isomorphism test recorded as the specification of networkx `GraphMatcher` (both decidable, evaluated on every observed run).
    * `alternate_target_result_sound_in_orbit` / `explorer_outputs_in_orbit`: the same with "the LC graphs are simple" replaced by "the LC
      graphs lie in the orbit", which C16 proves of the four modelled explorers.
    * when `solve` RETURNS: `alternate_target_returns_if_yes` (every target on ≥ 1 vertex without isolated vertex, explorers in the orbit:
      it returns as soon as `is_lc_equivalent` says yes on every pair it is asked about — the solver returns by C02 completeness, `lc_check` is
      total and validated by C09, `str_to_op` knows every emitted gate name), `alternate_target_returns_partial` (relative to the
      completeness of the LC decision, `lc_decision_complete_statement`) and `alternate_target_total_correct_partial`: relative to C09's single
      remaining hypothesis `shortcut_complete_on_connected_statement` (the pair-sum claim of the literature), `solve` returns AND every entry is right.
  Orbit membership of the listed graph is decided per output by the harness (independent BFS); the explorers are C16.
-/
import GraphiqModel.Properties.C02
import GraphiqModel.Proofs.AltTarget
import GraphiqModel.Proofs.AltTargetLoop
import GraphiqModel.Proofs.AltTargetFinal
import GraphiqModel.Proofs.AltTargetReturns
import GraphiqModel.Proofs.AltTargetReturnsConv
import GraphiqModel.Proofs.LCTotalR
import GraphiqModel.Properties.C09
namespace Graphiq.C10
open Graphiq Graphiq.PRow Graphiq.Tab Graphiq.STab

/-- adjacency of the target with vertex `u` renamed to `perm[u]`: edge `(a, b)` iff some edge `(u, v)` has `perm u = a`, `perm v = b` -/
def relabelAdj (n : Nat) (adj : Nat → Nat → Bool) (perm : List Nat) : Nat → Nat → Bool :=
  Alt.relabelAdj n adj perm

/-- the renamed graph has edge `(perm u, perm v)` whenever the target has `(u, v)` -/
theorem relabel_edge (n : Nat) (adj : Nat → Nat → Bool) (perm : List Nat) (u v : Nat) (hu : u < n) (hv : v < n)
    (h : adj u v = true) : relabelAdj n adj perm (perm.getD u n) (perm.getD v n) = true :=
  (Alt.relabelAdj_iff n adj perm _ _).mpr ⟨u, v, hu, hv, rfl, rfl, h⟩

/-- and, when `perm` is injective on the vertices, only then -/
theorem relabel_edge_iff (n : Nat) (adj : Nat → Nat → Bool) (perm : List Nat)
    (hinj : ∀ u v, u < n → v < n → perm.getD u n = perm.getD v n → u = v) (u v : Nat) (hu : u < n) (hv : v < n) :
    relabelAdj n adj perm (perm.getD u n) (perm.getD v n) = adj u v :=
  Alt.relabelAdj_edge n adj perm hinj u v hu hv

/-- **Soundness of the entry validator**: if the validator accepts an entry's circuit against the renamed adjacency, then under every
    combination of measurement outcomes the circuit leaves the photons exactly in the renamed target's graph state and every emitter in |0⟩ -/
theorem entry_validator_sound (ne np : Nat) (ops : List COp) (adj : Nat → Nat → Bool) (perm : List Nat)
    (h : checkGenerates ne np ops (relabelAdj np adj perm) = true) :
    ∀ script : List Bool, script.length = countMeas ops →
      ∃ s, stabRun ne np .prob script ops = some s ∧
        ∀ p, (STab.ofTab s.t).Spn p ↔ (targetSTab np ne (relabelAdj np adj perm)).Spn p := by
  intro script hl
  obtain ⟨s, hs, _, hiff⟩ := C02.validator_sound ne np ops (relabelAdj np adj perm) h script hl
  exact ⟨s, hs, hiff⟩

/-! ### the duplicate removal of `solve` -/

/-- **duplicate removal** (every list of keys — the listed adjacency matrices —, every entry list of the same length, every
    `pick` that returns a member of its class, i.e. every iteration order of the Python sets): the result consists of entries of
    the input, in their original order, at positions whose keys are pairwise different, and every key of the input is still the key
    of a kept entry -/
theorem dedup_keeps_one_per_key {κ α : Type} [DecidableEq κ] (pick : List Nat → Nat) (keys : List κ) (entries : List α)
    (hlen : entries.length = keys.length) (hpick : ∀ s, s ∈ Alt.setList keys → pick s ∈ s) :
    ∃ T : List (α × Nat), Alt.dedup pick keys entries = T.map Prod.fst ∧ T.Sublist entries.zipIdx ∧
      (∀ x, x ∈ T → entries[x.2]? = some x.1) ∧
      T.Pairwise (fun x y => keys[x.2]? ≠ keys[y.2]?) ∧
      (∀ j, j < keys.length → ∃ x, x ∈ T ∧ keys[x.2]? = keys[j]?) :=
  Alt.dedup_spec pick keys entries hlen hpick

/-- the classes of `set_list` are never empty, so "the first element the set yields" (`list(s)[0]`) — or the smallest, or the
    largest member — is a member: the hypothesis on `pick` is satisfiable for every key list -/
theorem pick_head_is_member {κ : Type} [DecidableEq κ] (keys : List κ) :
    ∀ s, s ∈ Alt.setList keys → s.headD 0 ∈ s := by
  intro s hs
  obtain ⟨a, _, rfl⟩ := Alt.setList_mem keys s hs
  simp [Alt.classOf]

/-- non-vacuity, with a `pick` that is NOT the smallest index (as CPython's `list({1, 8})[0] == 8`): five entries with keys
    a b a c b; the classes are {0,2}, {1,4}, {3}; picking the last member keeps the entries 2, 3, 4 -/
example : Alt.setList ["a", "b", "a", "c", "b"] = [[0, 2], [1, 4], [3]] := by decide
example : Alt.dedup (fun s => s.getLastD 0) ["a", "b", "a", "c", "b"] [10, 11, 12, 13, 14] = [12, 13, 14] := by decide
example : ∀ s, s ∈ Alt.setList ["a", "b", "a", "c", "b"] → (fun s : List Nat => s.getLastD 0) s ∈ s := by decide

/-! ### relabelling -/

/-- **relabelling by a permutation yields an isomorphic graph**: the permutation is an isomorphism from the graph to its renaming
    (bijective on the vertices, `(u, v)` an edge iff `(p u, p v)` is; `isIsoMap` is the specification of C16) -/
theorem relabel_is_isomorphism (n : Nat) (adj : Nat → Nat → Bool) (perm : List Nat) (hp : perm.Perm (List.range n)) :
    isIsoMap n adj (relabelAdj n adj perm) perm = true :=
  Alt.relabelAdj_iso n adj perm hp

/-- **relabelling composes**: renaming by `p` and then by `q` is renaming by `u ↦ q[p[u]]` -/
theorem relabel_composes (n : Nat) (adj : Nat → Nat → Bool) (p q : List Nat) (hp : ∀ u, u < n → p.getD u n < n) (a b : Nat) :
    relabelAdj n (relabelAdj n adj p) q a b = relabelAdj n adj (Alt.compLabels n p q) a b :=
  Alt.relabelAdj_comp n adj p q hp a b

/-- for a permutation, the renamed adjacency used in this file is the matrix `relabel(adj, perm) = Pᵀ A P` of
    `graphiq/utils/relabel_module.py` (model: GraphOps, C16) -/
theorem relabel_is_relabel_module (n : Nat) (adj : Nat → Nat → Bool) (perm : List Nat) (hp : perm.Perm (List.range n))
    (a b : Nat) (ha : a < n) (hb : b < n) :
    decide (relabel n adj perm a b ≠ 0) = relabelAdj n adj perm a b :=
  Alt.relabelAdj_eq_relabel n adj perm hp a b ha hb

/-- non-vacuity: the cyclic shift and its square are permutations; composing the shift with itself -/
example : [1, 2, 0].Perm (List.range 3) ∧ Alt.compLabels 3 [1, 2, 0] [1, 2, 0] = [2, 0, 1] := by decide

/-! ### the outer loops of `solve`, the parts as parameters -/

/-- **every returned entry generates its relabelled target, and the entries are pairwise different** (every number of photons,
    target, list of relabelled targets, orbit explorer, `pick`), provided the parts the loops call are correct:
    `hsolver` — the time-reversed solver's circuit generates the LC graph it was given; `hconv` — appending the conversion gates
    of `lc_check` to a circuit that generates the LC graph gives a circuit that generates the relabelled target; `hmap` — the
    relabel map renames the target into the relabelled target.  Also: nothing but duplicates is removed. -/
theorem solve_result_correct (P : Alt.Parts) (pick : List Nat → Nat) (np : Nat) (target : Nat → Nat → Bool)
    (out : List Alt.Entry)
    (hsolver : ∀ iso lc ne ops, iso ∈ P.isoAdjs → lc ∈ P.lcGraphs iso → P.solver lc = some (ne, ops) →
      Alt.Generates ne np ops lc.f)
    (hconv : ∀ iso lc ne ops gates, iso ∈ P.isoAdjs → lc ∈ P.lcGraphs iso → P.conv lc iso = some gates →
      Alt.Generates ne np ops lc.f → Alt.Generates ne np (ops ++ gates) iso.f)
    (hshape : ∀ iso lc, iso ∈ P.isoAdjs → lc ∈ P.lcGraphs iso → lc.r = np ∧ lc.c = np)
    (hmap : ∀ iso, iso ∈ P.isoAdjs → ∀ a b, a < np → b < np → iso.f a b = relabelAdj np target (P.relabelMap iso) a b)
    (hpick : ∀ keys : List (List Bool), ∀ s, s ∈ Alt.setList keys → pick s ∈ s)
    (h : Alt.solve P pick = .ok out) :
    (∀ e, e ∈ out → ∀ script : List Bool, script.length = countMeas e.ops →
      ∃ s, stabRun e.ne np .prob script e.ops = some s ∧
        ∀ p, (STab.ofTab s.t).Spn p ↔ (targetSTab np e.ne (relabelAdj np target e.map)).Spn p) ∧
    out.Pairwise (fun e e' => e.g.flat ≠ e'.g.flat) ∧
    ∃ es, Alt.allEntries P = .ok es ∧ out.Sublist es ∧ ∀ e, e ∈ es → ∃ e', e' ∈ out ∧ e'.g.flat = e.g.flat := by
  obtain ⟨h1, h2, h3⟩ := Alt.solve_spec P pick np target out hsolver hconv hshape hmap hpick h
  refine ⟨fun e he script hl => ?_, h2, h3⟩
  obtain ⟨s, hs, se⟩ := h1 e he script hl
  exact ⟨s, hs, fun p => ⟨se.sub p, se.sup p⟩⟩

/-- the same with the solver hypothesis in the form of `C02.solver_correct_statement` (which is a statement, not a theorem, of
    C02: it needs a model of the time-reversed solver): if the time-reversed solver is correct for every simple graph, the LC
    graphs are simple, and conversion and maps are correct, then every entry generates its relabelled target and the entries
    are pairwise different -/
theorem solve_correct_if_solver_correct (tsolve : (np : Nat) → (Nat → Nat → Bool) → Option (Nat × List COp))
    (hsol : C02.solver_correct_statement tsolve) (P : Alt.Parts) (pick : List Nat → Nat) (np : Nat)
    (target : Nat → Nat → Bool) (out : List Alt.Entry)
    (huse : ∀ lc, P.solver lc = tsolve np lc.f)
    (hsimple : ∀ iso lc, iso ∈ P.isoAdjs → lc ∈ P.lcGraphs iso →
      (∀ i j, lc.f i j = lc.f j i) ∧ (∀ i, lc.f i i = false) ∧ lc.r = np ∧ lc.c = np)
    (hconv : ∀ iso lc ne ops gates, iso ∈ P.isoAdjs → lc ∈ P.lcGraphs iso → P.conv lc iso = some gates →
      Alt.Generates ne np ops lc.f → Alt.Generates ne np (ops ++ gates) iso.f)
    (hmap : ∀ iso, iso ∈ P.isoAdjs → ∀ a b, a < np → b < np → iso.f a b = relabelAdj np target (P.relabelMap iso) a b)
    (hpick : ∀ keys : List (List Bool), ∀ s, s ∈ Alt.setList keys → pick s ∈ s)
    (h : Alt.solve P pick = .ok out) :
    (∀ e, e ∈ out → ∀ script : List Bool, script.length = countMeas e.ops →
      ∃ s, stabRun e.ne np .prob script e.ops = some s ∧
        ∀ p, (STab.ofTab s.t).Spn p ↔ (targetSTab np e.ne (relabelAdj np target e.map)).Spn p) ∧
    out.Pairwise (fun e e' => e.g.flat ≠ e'.g.flat) := by
  have hsolver : ∀ iso lc ne ops, iso ∈ P.isoAdjs → lc ∈ P.lcGraphs iso → P.solver lc = some (ne, ops) →
      Alt.Generates ne np ops lc.f := by
    intro iso lc ne ops h1 h2 hs
    obtain ⟨s1, s2, _, _⟩ := hsimple iso lc h1 h2
    obtain ⟨ne', ops', e1, e2⟩ := hsol np lc.f s1 s2
    rw [huse lc, e1] at hs
    injection hs with hs
    injection hs with a b
    subst a b
    exact checkGenerates_sound _ _ _ _ e2
  obtain ⟨r1, r2, _⟩ := solve_result_correct P pick np target out hsolver hconv
    (fun iso lc h1 h2 => (hsimple iso lc h1 h2).2.2) hmap hpick h
  exact ⟨r1, r2⟩

/-! ### The parts instantiated: soundness of the result of `AlternateTargetSolver.solve` without hypotheses on the solver or the LC conversion -/

/-- the parts `solve` calls, with the time-reversed solver and the LC conversion MODELLED: `graph_to_circ` is the C02
    solver model on the LC graph's adjacency, the conversion is `lc_check(lc, iso, validate=True)` (C09, repaired `is_lc_equivalent`) followed
    by `str_to_op`.  What remains a parameter is what `solve` gets from its explorers and from networkx: the list of relabelled targets
    (`iso_finder`), the LC graphs per relabelled target (the orbit explorers) and the relabel maps (`get_relabel_map` = `GraphMatcher`). -/
def modelParts (np : Nat) (isoAdjs : List BMat) (lcGraphs : BMat → List BMat) (relabelMap : BMat → List Nat) : Alt.Parts :=
  { isoAdjs := isoAdjs, lcGraphs := lcGraphs, relabelMap := relabelMap,
    solver := fun lc => C02.modelSolver np (Alt.cutAdj np lc.f), conv := Alt.convModel }

/-- **Soundness of the result of `AlternateTargetSolver.solve`** (every number of photons, every target, every list of relabelled targets
    and LC graphs the explorers hand over, every iteration order of the Python sets): whatever `solve` returns, every entry is a circuit
    that — run from all-|0⟩ under EVERY outcome script — leaves the photons exactly in the graph state of the target renamed by the entry's
    map and every emitter in |0⟩, and the listed graphs are pairwise different.
    No hypothesis on the time-reversed solver (C02 `model_solver_generates`: whatever it returns is correct) nor on the LC conversion
    (`Alt.conv_generates`: the gates `lc_check(…, validate=True)` returns are validated by `lc_check` itself, C09 `lcCheckR_sound`; appending
    them to a circuit for `|lc⟩` gives a circuit for `|iso⟩`) — in particular NOT on the LC-equivalence decision nor on the explorers staying
    in the orbit: a wrong LC graph would make `lc_check` fail (`solve` raises), never produce a wrong entry.
    Side conditions, all decidable and evaluated by the harness on every observed run: the graphs are simple graphs on `np` vertices, and
    each relabel map passes the isomorphism test recorded as the specification of networkx `GraphMatcher` (`isIsoMap`). -/
theorem alternate_target_result_sound (pick : List Nat → Nat) (np : Nat) (target : Nat → Nat → Bool) (out : List Alt.Entry)
    (isoAdjs : List BMat) (lcGraphs : BMat → List BMat) (relabelMap : BMat → List Nat)
    (htarget : Simple np target)
    (hgraphs : ∀ iso lc, iso ∈ isoAdjs → lc ∈ lcGraphs iso → lc.r = np ∧ lc.c = np ∧ Simple np lc.f)
    (hmatch : ∀ iso, iso ∈ isoAdjs → isIsoMap np target iso.f (relabelMap iso) = true)
    (hpick : ∀ keys : List (List Bool), ∀ s, s ∈ Alt.setList keys → pick s ∈ s)
    (h : Alt.solve (modelParts np isoAdjs lcGraphs relabelMap) pick = .ok out) :
    (∀ e, e ∈ out → ∀ script : List Bool, script.length = countMeas e.ops →
      ∃ s, stabRun e.ne np .prob script e.ops = some s ∧
        ∀ p, (STab.ofTab s.t).Spn p ↔ (targetSTab np e.ne (relabelAdj np target e.map)).Spn p) ∧
    out.Pairwise (fun e e' => e.g.flat ≠ e'.g.flat) ∧
    ∃ es, Alt.allEntries (modelParts np isoAdjs lcGraphs relabelMap) = .ok es ∧ out.Sublist es ∧
      ∀ e, e ∈ es → ∃ e', e' ∈ out ∧ e'.g.flat = e.g.flat := by
  refine solve_result_correct (modelParts np isoAdjs lcGraphs relabelMap) pick np target out ?_ ?_ ?_ ?_ hpick h
  · -- the time-reversed solver
    intro iso lc ne ops h1 h2 hs
    obtain ⟨_, _, hsimple⟩ := hgraphs iso lc h1 h2
    have hg := C02.model_solver_generates np (Alt.cutAdj np lc.f) (Alt.cutAdj_symm np lc.f hsimple) ne ops hs
    intro script _
    obtain ⟨rs, hrs, se⟩ := hg script
    exact ⟨rs, hrs, se.trans (Alt.targetSTab_congr np ne _ _ (Alt.cutAdj_agree np lc.f))⟩
  · -- the LC conversion
    intro iso lc ne ops gates h1 h2 hc hgen
    obtain ⟨hr, _, hsimple⟩ := hgraphs iso lc h1 h2
    exact Alt.conv_generates np ne lc iso hr hsimple (Alt.simple_of_isIsoMap np target iso.f _ htarget (hmatch iso h1)) gates hc ops hgen
  · intro iso lc h1 h2
    exact ⟨(hgraphs iso lc h1 h2).1, (hgraphs iso lc h1 h2).2.1⟩
  · intro iso h1
    exact Alt.iso_of_isIsoMap np target iso.f (relabelMap iso) (hmatch iso h1)

/-- **the same with the LC graphs coming from the MODELLED orbit explorers** (C16): the side condition "the LC graphs are simple graphs on
    `np` vertices" of `alternate_target_result_sound` is replaced by "every LC graph handed over for `iso` lies in the LC orbit of `iso`" —
    which C16 proves for every graph `rgs_orbit_finder`, `linear_partial_orbit`, `depth_first_orbit` and `lc_orbit_finder` return
    (`explorer_outputs_in_orbit` below), hence for every prefix `[:n_lc]` `solve` takes.  What is left as side condition is only what comes
    from networkx: the relabel maps pass the `GraphMatcher` specification `isIsoMap`. -/
theorem alternate_target_result_sound_in_orbit (pick : List Nat → Nat) (np : Nat) (target : Nat → Nat → Bool) (out : List Alt.Entry)
    (isoAdjs : List BMat) (lcGraphs : BMat → List BMat) (relabelMap : BMat → List Nat)
    (htarget : Simple np target)
    (horbit : ∀ iso lc, iso ∈ isoAdjs → lc ∈ lcGraphs iso → InOrbit np iso.f lc)
    (hmatch : ∀ iso, iso ∈ isoAdjs → isIsoMap np target iso.f (relabelMap iso) = true)
    (hpick : ∀ keys : List (List Bool), ∀ s, s ∈ Alt.setList keys → pick s ∈ s)
    (h : Alt.solve (modelParts np isoAdjs lcGraphs relabelMap) pick = .ok out) :
    (∀ e, e ∈ out → ∀ script : List Bool, script.length = countMeas e.ops →
      ∃ s, stabRun e.ne np .prob script e.ops = some s ∧
        ∀ p, (STab.ofTab s.t).Spn p ↔ (targetSTab np e.ne (relabelAdj np target e.map)).Spn p) ∧
    out.Pairwise (fun e e' => e.g.flat ≠ e'.g.flat) ∧
    ∃ es, Alt.allEntries (modelParts np isoAdjs lcGraphs relabelMap) = .ok es ∧ out.Sublist es ∧
      ∀ e, e ∈ es → ∃ e', e' ∈ out ∧ e'.g.flat = e.g.flat := by
  refine alternate_target_result_sound pick np target out isoAdjs lcGraphs relabelMap htarget ?_ hmatch hpick h
  intro iso lc h1 h2
  have ho := horbit iso lc h1 h2
  exact ⟨ho.1, ho.2.1, ho.simple (Alt.simple_of_isIsoMap np target iso.f _ htarget (hmatch iso h1))⟩

/-- every graph in a prefix `[:n_lc]` of what one of the four modelled explorers returns on a simple `iso` with `np` vertices lies in the LC
    orbit of `iso` (C16): the hypothesis `horbit` of `alternate_target_result_sound_in_orbit` for each way `solve` fills `lc_graphs` -/
theorem explorer_outputs_in_orbit (np nlc : Nat) (iso : BMat) (hr : iso.r = np) (hc : iso.c = np) (hs : Simple np iso.f) :
    (∀ out, rgsOrbitFinder iso = .ok out → ∀ lc ∈ out.take nlc, InOrbit np iso.f lc) ∧
    (∀ out, linearPartialOrbit iso = .ok out → ∀ lc ∈ out.take nlc, InOrbit np iso.f lc) ∧
    (∀ isoTest fuel paths out, depthFirstOrbit isoTest fuel iso = .ok (paths, out) → ∀ lc ∈ out.take nlc, InOrbit np iso.f lc) ∧
    (∀ cfg isoTest fuel draws shuffles out, (∀ s ∈ shuffles, ValidNodes np s) →
      lcOrbitFinder cfg isoTest fuel iso draws shuffles = .ok out → ∀ lc ∈ out.take nlc, InOrbit np iso.f lc) := by
  subst hr
  refine ⟨fun out e lc hl => ?_, fun out e lc hl => ?_, fun isoTest fuel paths out e lc hl => ?_,
    fun cfg isoTest fuel draws shuffles out hv e lc hl => ?_⟩
  · exact rgsOrbitFinder_inOrbit iso out hc hs e lc (List.mem_of_mem_take hl)
  · exact linearPartialOrbit_inOrbit iso out hc hs e lc (List.mem_of_mem_take hl)
  · exact depthFirstOrbit_inOrbit isoTest fuel iso paths out hc hs e lc (List.mem_of_mem_take hl)
  · exact lcOrbitFinder_inOrbit cfg isoTest fuel iso draws shuffles out hc hs hv e lc (List.mem_of_mem_take hl)

/-! ### When does `solve` return? -/

/-- **`solve` returns whenever `is_lc_equivalent` says yes on every pair it is asked about** (every target on ≥ 1 vertex without isolated
    vertex, every list of relabelled targets whose maps pass the `GraphMatcher` specification, every family of LC graphs inside the orbits):
    the time-reversed solver returns on every LC graph (C02 `model_solver_returns`: "no isolated vertex" is inherited along isomorphisms and
    local complementations), `lc_check(…, validate=True)` is total and after a `yes` returns validated gates (C09 `lc_check_total_and_right`:
    neither the assertion of `converter_gate_list` nor the validation warning can fire), `str_to_op` knows every gate name `lc_check` emits
    (`Alt.lcCheckR_names`), and the loops only pass exceptions on.  `hyes` is decidable; the modelled conversion is run by the driver on every
    observed pair and compared with the implementation's.  NOT part of the model: the second, redundant validation inside the same `try`
    (`state_converter_circuit(lc, iso, validate=True)`: the gate list compiled by the stabilizer backend from `|lc⟩`, `Infidelity = 0` asserted) —
    by C09 the gates map `|lc⟩` exactly onto `|iso⟩`, so it can only fail through the compiler or the metric (C01, C18); on the observed runs
    every raise of `solve()` on a connected target is reported as a violation. -/
theorem alternate_target_returns_if_yes (pick : List Nat → Nat) (np : Nat) (target : Nat → Nat → Bool)
    (isoAdjs : List BMat) (lcGraphs : BMat → List BMat) (relabelMap : BMat → List Nat)
    (hnp : 0 < np) (htarget : Simple np target) (hniso : Alt.NoIsolated np target)
    (hshape : ∀ iso, iso ∈ isoAdjs → iso.r = np)
    (horbit : ∀ iso lc, iso ∈ isoAdjs → lc ∈ lcGraphs iso → InOrbit np iso.f lc)
    (hmatch : ∀ iso, iso ∈ isoAdjs → isIsoMap np target iso.f (relabelMap iso) = true)
    (hyes : ∀ iso lc, iso ∈ isoAdjs → lc ∈ lcGraphs iso →
      ∃ out, LC.isLcEquivalentR lc iso .det [] = .ok out ∧ out.sol.isSome = true) :
    ∃ out, Alt.solve (modelParts np isoAdjs lcGraphs relabelMap) pick = .ok out := by
  apply Alt.solve_ok
  intro iso h1 lc h2
  have hsi : Simple np iso.f := Alt.simple_of_isIsoMap np target iso.f _ htarget (hmatch iso h1)
  have hni : Alt.NoIsolated np iso.f := Alt.noIsolated_of_isIsoMap np target iso.f _ hniso (hmatch iso h1)
  have ho := horbit iso lc h1 h2
  have hsl : Simple np lc.f := ho.simple hsi
  have hnl : Alt.NoIsolated np lc.f := Alt.InOrbit.noIsolated hsi hni ho
  constructor
  · -- the time-reversed solver returns
    obtain ⟨ne, ops, e⟩ := C02.model_solver_returns np (Alt.cutAdj np lc.f) hnp (Alt.cutAdj_symm np lc.f hsl)
      (fun i => by
        by_cases hi : i < np
        · rw [Alt.cutAdj_agree np lc.f i i hi hi]; exact hsl.2 i hi
        · simp [Alt.cutAdj, hi])
      (fun i hi => by
        obtain ⟨j, hj, e⟩ := hnl i hi
        exact ⟨j, hj, by rw [Alt.cutAdj_agree np lc.f i j hi hj]; exact e⟩)
    exact ⟨(ne, ops), e⟩
  · -- the conversion returns
    have hr : lc.r = np := ho.1
    have hab : lc.r = iso.r := by rw [hr, hshape iso h1]
    obtain ⟨out, e, hs⟩ := hyes iso lc h1 h2
    cases hsol : out.sol with
    | none => rw [hsol] at hs; cases hs
    | some s =>
      obtain ⟨zs, _, hc⟩ := LC.lcCheckR_of_yes lc iso out s hab (by rw [hr]; exact hsl) (by rw [hshape iso h1]; exact hsi) e hsol
      exact Alt.convModel_isSome lc iso _ (hc true)

/-- "the repaired `is_lc_equivalent` never says no on two graphs of the same LC orbit": the completeness half of C09
    `decides_lc_equivalence_repaired_statement`, which C09 proves relative to the one claim of the literature it leaves unproved, the
    completeness of the pair-sum shortcut on connected graphs (`lc_decision_complete_of_shortcut` below) -/
def lc_decision_complete_statement : Prop :=
  ∀ (a b : BMat) (out : LC.EqOutR), 0 < a.r → a.r = b.r → Simple a.r a.f → Simple b.r b.f →
    LC.isLcEquivalentR a b .det [] = .ok out →
    (∃ vs : List Nat, (∀ v ∈ vs, v < a.r) ∧ EqAdj a.r (applySeq a.f vs) b.f) → out.sol.isSome = true

/-- C09: the completeness of the pair-sum shortcut on connected graphs gives the completeness of the repaired decision -/
theorem lc_decision_complete_of_shortcut (hshort : C09.shortcut_complete_on_connected_statement) : lc_decision_complete_statement := by
  intro a b out hn hab ha hb e horb
  exact (C09.decides_lc_equivalence_repaired_partial hshort a b [] out hn hab ha hb e).2 horb

/-- **relative to the completeness of the LC decision, `solve` returns** for every target on ≥ 1 vertex without isolated vertex when the
    explorers stay in the orbits (C16) and the maps pass the `GraphMatcher` specification: the repaired `is_lc_equivalent` is total (C09)
    and then says yes on every pair of the same orbit (the orbit relation is symmetric, `InOrbit.back`).  Together with
    `alternate_target_result_sound_in_orbit`: it returns, and every entry generates the relabelled target. -/
theorem alternate_target_returns_partial (hdec : lc_decision_complete_statement)
    (pick : List Nat → Nat) (np : Nat) (target : Nat → Nat → Bool)
    (isoAdjs : List BMat) (lcGraphs : BMat → List BMat) (relabelMap : BMat → List Nat)
    (hnp : 0 < np) (htarget : Simple np target) (hniso : Alt.NoIsolated np target)
    (hshape : ∀ iso, iso ∈ isoAdjs → iso.r = np)
    (horbit : ∀ iso lc, iso ∈ isoAdjs → lc ∈ lcGraphs iso → InOrbit np iso.f lc)
    (hmatch : ∀ iso, iso ∈ isoAdjs → isIsoMap np target iso.f (relabelMap iso) = true) :
    ∃ out, Alt.solve (modelParts np isoAdjs lcGraphs relabelMap) pick = .ok out := by
  refine alternate_target_returns_if_yes pick np target isoAdjs lcGraphs relabelMap hnp htarget hniso hshape horbit hmatch ?_
  intro iso lc h1 h2
  have hsi : Simple np iso.f := Alt.simple_of_isIsoMap np target iso.f _ htarget (hmatch iso h1)
  have ho := horbit iso lc h1 h2
  have hsl : Simple np lc.f := ho.simple hsi
  have hr : lc.r = np := ho.1
  have hab : lc.r = iso.r := by rw [hr, hshape iso h1]
  have ha : Simple lc.r lc.f := by rw [hr]; exact hsl
  obtain ⟨out, e⟩ := LC.isLcEquivalentR_total lc iso .det [] hab ha (by decide)
  refine ⟨out, e, hdec lc iso out (by rw [hr]; exact hnp) hab ha (by rw [hshape iso h1]; exact hsi) e ?_⟩
  obtain ⟨vs, hvs, hb⟩ := InOrbit.back hsi ho
  rw [hr]
  exact ⟨vs, hvs, hb⟩

/-- **relative to the completeness of the pair-sum shortcut on connected graphs (C09 `shortcut_complete_on_connected_statement`, Van den Nest et
    al., the single hypothesis C09 leaves), `solve` returns AND is right**: every target on ≥ 1 vertex without isolated vertex, explorers in
    the orbits (C16), maps passing the `GraphMatcher` specification — `solve` returns a list of entries each of which generates, under every
    outcome script, the target renamed by its map, with pairwise different listed graphs -/
theorem alternate_target_total_correct_partial (hshort : C09.shortcut_complete_on_connected_statement)
    (pick : List Nat → Nat) (np : Nat) (target : Nat → Nat → Bool)
    (isoAdjs : List BMat) (lcGraphs : BMat → List BMat) (relabelMap : BMat → List Nat)
    (hnp : 0 < np) (htarget : Simple np target) (hniso : Alt.NoIsolated np target)
    (hshape : ∀ iso, iso ∈ isoAdjs → iso.r = np)
    (horbit : ∀ iso lc, iso ∈ isoAdjs → lc ∈ lcGraphs iso → InOrbit np iso.f lc)
    (hmatch : ∀ iso, iso ∈ isoAdjs → isIsoMap np target iso.f (relabelMap iso) = true)
    (hpick : ∀ keys : List (List Bool), ∀ s, s ∈ Alt.setList keys → pick s ∈ s) :
    ∃ out, Alt.solve (modelParts np isoAdjs lcGraphs relabelMap) pick = .ok out ∧
      (∀ e, e ∈ out → ∀ script : List Bool, script.length = countMeas e.ops →
        ∃ s, stabRun e.ne np .prob script e.ops = some s ∧
          ∀ p, (STab.ofTab s.t).Spn p ↔ (targetSTab np e.ne (relabelAdj np target e.map)).Spn p) ∧
      out.Pairwise (fun e e' => e.g.flat ≠ e'.g.flat) := by
  obtain ⟨out, h⟩ := alternate_target_returns_partial (lc_decision_complete_of_shortcut hshort) pick np target isoAdjs lcGraphs relabelMap
    hnp htarget hniso hshape horbit hmatch
  obtain ⟨h1, h2, _⟩ := alternate_target_result_sound_in_orbit pick np target out isoAdjs lcGraphs relabelMap htarget horbit hmatch hpick h
  exact ⟨out, h, h1, h2⟩

/-! ### Non-vacuity of `solve_result_correct`: one relabelled target (the path 0–1–2 itself), one LC graph, the known circuit -/
def pathB : BMat := (BMat.ofAdj 3 C02.lin3adj)
def demoParts : Alt.Parts :=
  { isoAdjs := [pathB], lcGraphs := fun _ => [pathB, pathB], relabelMap := fun _ => [0, 1, 2],
    solver := fun _ => some (1, C02.lin3ops), conv := fun _ _ => some [] }
set_option maxRecDepth 100000 in
example : Alt.Generates 1 3 C02.lin3ops pathB.f :=
  checkGenerates_sound 1 3 C02.lin3ops C02.lin3adj (by decide +kernel)
/-- the two identical entries are reduced to one -/
example : (match Alt.solve demoParts (fun s => s.headD 0) with | .ok out => out.length | .error _ => 0) = 1 := by
  decide +kernel
/-- a statement about all pairs of vertices of a small graph is decided pair by pair -/
theorem forall_pairs {n : Nat} {P : Nat → Nat → Prop} (h : ∀ i, i < n → ∀ j, j < n → P i j) :
    ∀ i j, i < n → j < n → P i j := fun i j hi hj => h i hi j hj
example : ∀ a b, a < 3 → b < 3 → pathB.f a b = relabelAdj 3 C02.lin3adj [0, 1, 2] a b := forall_pairs (by decide)

/-! ### Non-vacuity of `alternate_target_result_sound`: the path 0–1–2 as target and only relabelled target, the triangle (its local
     complement at vertex 1) as LC graph: the model solver is run on the triangle, `lc_check(triangle, path, validate=True)` succeeds, its
     gates are appended, and one entry is returned -/
def triB : BMat := BMat.ofAdj 3 (fun i j => decide (i ≠ j) && decide (i < 3) && decide (j < 3))
/-- `Alt.convModel` over `lc_check` in the form of Proofs/LCEval.lean, which the kernel evaluates quickly -/
def convModelC (lc iso : BMat) : Option (List COp) :=
  match LC.lcCheckRC lc iso true with
  | .ok (true, gates) => Alt.gatesCOps gates
  | _ => none

theorem convModel_eq_C (a b : BMat) : Alt.convModel a b = convModelC a b := by
  unfold Alt.convModel
  rw [LC.lcCheckR_eq_clip]
  rfl

set_option maxRecDepth 100000 in
theorem solve_triangle : (match Alt.solve (modelParts 3 [pathB] (fun _ => [triB]) (fun _ => [0, 1, 2])) (fun s => s.headD 0) with
    | .ok out => out.map (fun (e : Alt.Entry) => (e.ne, e.ops.length, e.map)) | .error _ => []) = [(1, 15, [0, 1, 2])] := by
  rw [Alt.solve_conv_congr _ convModelC _ convModel_eq_C]
  decide +kernel
set_option maxRecDepth 100000 in
example : (match Alt.solve (modelParts 3 [pathB] (fun _ => [triB]) (fun _ => [0, 1, 2])) (fun s => s.headD 0) with
    | .ok out => out.map (fun (e : Alt.Entry) => (e.ne, e.ops.length, e.map)) | .error _ => []) = [(1, 15, [0, 1, 2])] :=
  solve_triangle
/-- the side conditions hold for this instance -/
example : Simple 3 C02.lin3adj ∧ isIsoMap 3 C02.lin3adj pathB.f [0, 1, 2] = true ∧ triB.r = 3 ∧ triB.c = 3 ∧ Simple 3 triB.f := by
  exact ⟨⟨fun i j _ _ => C02.lin3adj_symm i j, fun i _ => C02.lin3adj_irrefl i⟩, by decide, rfl, rfl,
    ⟨forall_pairs (by decide), by decide⟩⟩

/-- the additional hypotheses of `alternate_target_returns_if_yes` hold for this instance as well: no isolated vertex, the triangle is in the
    LC orbit of the path (complement at vertex 1), and the repaired `is_lc_equivalent` says yes -/
example : Alt.NoIsolated 3 C02.lin3adj ∧ InOrbit 3 pathB.f triB := by
  exact ⟨C02.lin3adj_no_isolated, rfl, rfl, [1], by simp, forall_pairs (by decide)⟩
set_option maxRecDepth 100000 in
example : (match LC.isLcEquivalentR triB pathB .det [] with | .ok out => out.sol.isSome | .error _ => false) = true := by
  -- `solve` returned an entry above, so its conversion `lc_check(triangle, path)` succeeded, and that asks `is_lc_equivalent` first
  have h := solve_triangle
  cases hs : Alt.solve (modelParts 3 [pathB] (fun _ => [triB]) (fun _ => [0, 1, 2])) (fun s => s.headD 0) with
  | error e => rw [hs] at h; cases h
  | ok out =>
    have hne : out ≠ [] := by
      intro h0
      rw [hs, h0] at h
      cases h
    obtain ⟨iso, lc, hiso, hlc, hc⟩ := Alt.conv_isSome_of_solve _ _ out hs hne
    simp only [modelParts, List.mem_singleton] at hiso hlc hc
    subst hiso hlc
    obtain ⟨o, ho, hsol⟩ := Alt.isLc_of_convModel triB pathB hc
    rw [ho]
    exact hsol

/-! ### Non-vacuity: renaming the path 0–1–2 by the permutation [2, 0, 1] gives the path 2–0–1 -/
def path3 : Nat → Nat → Bool := fun i j => (i == 0 && j == 1) || (i == 1 && j == 0) || (i == 1 && j == 2) || (i == 2 && j == 1)
example : (List.range 3).map (fun a => (List.range 3).map fun b => relabelAdj 3 path3 [2, 0, 1] a b)
    = [[false, true, true], [true, false, false], [true, false, false]] := by decide

end Graphiq.C10
