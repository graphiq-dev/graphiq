/-
  Proofs/PauliCols.lean — the column maps of Pauli rows (`insertCol`, `deleteCol`, `swap`, `truncCols`, `shiftCols`) keep the
  phase exponent `gSum` of a product, and with it the symplectic form: `sp` is `gSum` read modulo 2 (`sp_eq_gSum`), so each
  `sp_*` lemma is its `gSum_*` twin in two rewrites.
-/
import GraphiqModel.Proofs.PauliGroup
namespace Graphiq
namespace PRow

theorem sp_eq_gSum (n : Nat) (a b : PRow) : sp n a b = decide (gSum n a b % 2 = 1) := by
  have := gSum_parity n a b
  cases h : sp n a b <;> simp [h, Bool.toInt'] at this ⊢ <;> omega

/-- two one-site Paulis that commute are equal or one of them is the identity: their product picks up no phase -/
theorem gFun_of_comm {x1 z1 x2 z2 : Bool} (h : xor (x1 && z2) (z1 && x2) = false) : gFun x1 z1 x2 z2 = 0 := by
  revert h; cases x1 <;> cases z1 <;> cases x2 <;> cases z2 <;> decide

theorem gSum_insertCol (n k : Nat) (hk : k ≤ n) (a b : PRow) :
    gSum (n + 1) (a.insertCol k) (b.insertCol k) = gSum n a b := by
  unfold gSum
  rw [← sumTo_insert n k (fun j => gFun (a.x j) (a.z j) (b.x j) (b.z j)) hk]
  apply sumTo_congr; intro j _
  simp only [PRow.insertCol]
  by_cases h1 : j < k
  · simp [h1]
  · by_cases h2 : j = k
    · simp [h2, gFun_one_left]
    · simp [h1, h2]

theorem gSum_deleteCol (n k : Nat) (hk : k ≤ n) (a b : PRow) (hg : gFun (a.x k) (a.z k) (b.x k) (b.z k) = 0) :
    gSum n (a.deleteCol k) (b.deleteCol k) = gSum (n + 1) a b := by
  unfold gSum
  rw [← sumTo_delete n k (fun j => gFun (a.x j) (a.z j) (b.x j) (b.z j)) hk hg]
  apply sumTo_congr; intro j _
  simp only [PRow.deleteCol]
  by_cases h1 : j < k <;> simp [h1]

theorem gSum_swap (n a b : Nat) (ha : a < n) (hb : b < n) (u v : PRow) :
    gSum n (PRow.swap a b u) (PRow.swap a b v) = gSum n u v := by
  unfold gSum
  rw [← sumTo_swap n a b (fun j => gFun (u.x j) (u.z j) (v.x j) (v.z j)) ha hb]
  apply sumTo_congr; intro j _
  simp only [PRow.swap]
  by_cases h1 : j = a
  · simp [h1]
  · by_cases h2 : j = b
    · subst h2
      have hba : ¬ (j = a) := h1
      simp [hba]
    · simp [h1, h2]

theorem gSum_split (na nb : Nat) (A B : PRow) :
    gSum (na + nb) A B = gSum na A B + sumTo nb (fun j => gFun (A.x (na + j)) (A.z (na + j)) (B.x (na + j)) (B.z (na + j))) := by
  unfold gSum
  exact sumTo_split na nb _

theorem gSum_trunc_trunc (na nb : Nat) (a b : PRow) :
    gSum (na + nb) (a.truncCols na) (b.truncCols na) = gSum na a b := by
  rw [gSum_split]
  have h2 : sumTo nb (fun j => gFun ((a.truncCols na).x (na + j)) ((a.truncCols na).z (na + j))
      ((b.truncCols na).x (na + j)) ((b.truncCols na).z (na + j))) = 0 := by
    rw [sumTo_congr nb _ (fun _ => 0)]
    · exact sumTo_zero nb
    · intro j _
      have : ¬ (na + j < na) := by omega
      simp [PRow.truncCols, this, gFun_one_left]
  rw [h2]
  have h1 : gSum na (a.truncCols na) (b.truncCols na) = gSum na a b := by
    apply gSum_congr <;> (intro j hj; simp [PRow.truncCols, hj])
  rw [h1]; omega

theorem gSum_shift_shift (na nb : Nat) (a b : PRow) :
    gSum (na + nb) (a.shiftCols na) (b.shiftCols na) = gSum nb a b := by
  rw [gSum_split]
  have h1 : gSum na (a.shiftCols na) (b.shiftCols na) = 0 := by
    unfold gSum
    rw [sumTo_congr na _ (fun _ => 0)]
    · exact sumTo_zero na
    · intro j hj
      simp [PRow.shiftCols, hj, gFun_one_left]
  rw [h1]
  have h2 : sumTo nb (fun j => gFun ((a.shiftCols na).x (na + j)) ((a.shiftCols na).z (na + j))
      ((b.shiftCols na).x (na + j)) ((b.shiftCols na).z (na + j))) = gSum nb a b := by
    unfold gSum
    apply sumTo_congr; intro j _
    have : ¬ (na + j < na) := by omega
    simp [PRow.shiftCols, this]
  rw [h2]; omega

theorem gSum_trunc_shift (na nb : Nat) (a b : PRow) :
    gSum (na + nb) (a.truncCols na) (b.shiftCols na) = 0 := by
  unfold gSum
  rw [sumTo_congr (na + nb) _ (fun _ => 0)]
  · exact sumTo_zero _
  · intro j _
    by_cases h : j < na
    · simp [PRow.truncCols, PRow.shiftCols, h, gFun_one_right]
    · simp [PRow.truncCols, PRow.shiftCols, h, gFun_one_left]

theorem sp_swap (n a b : Nat) (ha : a < n) (hb : b < n) (u v : PRow) :
    sp n (PRow.swap a b u) (PRow.swap a b v) = sp n u v := by
  rw [sp_eq_gSum, sp_eq_gSum, gSum_swap n a b ha hb]

theorem sp_insertCol (n p : Nat) (hp : p ≤ n) (u v : PRow) :
    sp (n + 1) (u.insertCol p) (v.insertCol p) = sp n u v := by
  rw [sp_eq_gSum, sp_eq_gSum, gSum_insertCol n p hp]

theorem sp_deleteCol (n q : Nat) (hq : q ≤ n) (u v : PRow)
    (h : xor (u.x q && v.z q) (u.z q && v.x q) = false) :
    sp n (u.deleteCol q) (v.deleteCol q) = sp (n + 1) u v := by
  rw [sp_eq_gSum, sp_eq_gSum, gSum_deleteCol n q hq u v (gFun_of_comm h)]

theorem sp_trunc_trunc (na nb : Nat) (u v : PRow) :
    sp (na + nb) (u.truncCols na) (v.truncCols na) = sp na u v := by
  rw [sp_eq_gSum, sp_eq_gSum, gSum_trunc_trunc]

theorem sp_shift_shift (na nb : Nat) (u v : PRow) :
    sp (na + nb) (u.shiftCols na) (v.shiftCols na) = sp nb u v := by
  rw [sp_eq_gSum, sp_eq_gSum, gSum_shift_shift]

theorem sp_trunc_shift (na nb : Nat) (u v : PRow) :
    sp (na + nb) (u.truncCols na) (v.shiftCols na) = false := by
  rw [sp_eq_gSum, gSum_trunc_shift]; rfl

end PRow
end Graphiq
