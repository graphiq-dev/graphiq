/-
  Proofs/LCSeqTerm.lean — the second `while` of `lc_graph_operations`, and the function: correctness of the returned sequence and
  termination on a valid solution.  A pass of `_doubles` over a tracked `R` never hits the `IndexError` (`R` is invertible) and keeps
  the invariant; once `_condition` is false (`NoSingles`) it turns the rows `j`, `k` of every pair it records into unit rows and
  keeps unit rows, so it ends with `R = I`: the loop body runs at most once.
-/
import GraphiqModel.Proofs.LCSeqLoop
namespace Graphiq.LC
open Graphiq

/-- `_condition(R)` is false: every row with a 1 on the diagonal is the unit row -/
def NoSingles (n : Nat) (r : BMat) : Prop := ∀ i, i < n → r.f i i = true → ∀ l, l < n → r.f i l = decide (i = l)

theorem noSingles_of_condition (n : Nat) (r : BMat) (hr : r.r = n) (hc : r.c = n) (h : condition r = false) : NoSingles n r := by
  intro i hi hd l hl
  rw [condition_eq] at h
  have hall : ¬ ((List.range r.r).any fun i => singleTest r i) = true := by rw [h]; simp
  rw [List.any_eq_true] at hall
  have ht : singleTest r i = false := by
    cases e : singleTest r i
    · rfl
    · exact absurd ⟨i, List.mem_range.mpr (by rw [hr]; exact hi), e⟩ hall
  unfold singleTest at ht
  rw [hd] at ht
  have hu : rowIsUnit r i = true := by revert ht; cases rowIsUnit r i <;> simp
  exact rowIsUnit_true r i hu l (by rw [hc]; exact hl)

/-- the three `_apply_f` of one double, entrywise (pure matrix algebra over GF(2)):
    for `R_jj = R_kk = 0`, `R_jk = R_kj = 1`:  `R'_il = R_il + R_ik (R_jl + [l = j]) + R_ij (R_kl + [l = k])` -/
theorem triple_entry (n : Nat) (r : BMat) (j k i l : Nat) (hr : r.r = n) (hj : j < n) (hk : k < n) (hi : i < n) (hl : l < n)
    (hne : k ≠ j) (hjj : r.f j j = false) (hkk : r.f k k = false) (hkj : r.f k j = true) (hjk : r.f j k = true) :
    (applyF (applyF (applyF r j) k) j).f i l =
      xor (xor (r.f i l) (r.f i k && xor (r.f j l) (decide (l = j)))) (r.f i j && xor (r.f k l) (decide (l = k))) := by
  have hr1 : (applyF r j).r = n := hr
  have hr2 : (applyF (applyF r j) k).r = n := hr
  have E1 : ∀ x y, x < n → y < n →
      (applyF r j).f x y = xor (r.f x y) (r.f x j && xor (r.f j y) (r.f j j && decide (y = j))) :=
    fun x y hx hy => applyF_entry n r j x y hr hj hx hy
  have E2 : ∀ x y, x < n → y < n → (applyF (applyF r j) k).f x y =
      xor ((applyF r j).f x y) ((applyF r j).f x k && xor ((applyF r j).f k y) ((applyF r j).f k k && decide (y = k))) :=
    fun x y hx hy => applyF_entry n _ k x y hr1 hk hx hy
  have hne' : ¬ j = k := fun e => hne e.symm
  -- the entries of R₁ = f_j(R) that occur
  have a_il : (applyF r j).f i l = xor (r.f i l) (r.f i j && xor (r.f j l) false) := by rw [E1 i l hi hl, hjj]; rfl
  have a_ik : (applyF r j).f i k = xor (r.f i k) (r.f i j) := by rw [E1 i k hi hk, hjk, hjj]; simp
  have a_ij : (applyF r j).f i j = r.f i j := by rw [E1 i j hi hj, hjj]; simp
  have a_kl : (applyF r j).f k l = xor (r.f k l) (r.f j l) := by rw [E1 k l hk hl, hkj, hjj]; simp
  have a_kk : (applyF r j).f k k = true := by rw [E1 k k hk hk, hkk, hkj, hjk, hjj]; rfl
  have a_kj : (applyF r j).f k j = true := by rw [E1 k j hk hj, hkj, hjj]; rfl
  have a_jl : (applyF r j).f j l = r.f j l := by rw [E1 j l hj hl, hjj]; simp
  have a_jk : (applyF r j).f j k = true := by rw [E1 j k hj hk, hjk, hjj]; rfl
  have a_jj : (applyF r j).f j j = false := by rw [E1 j j hj hj, hjj]; rfl
  -- the entries of R₂ = f_k(R₁) that occur
  have b_il : (applyF (applyF r j) k).f i l =
      xor (xor (r.f i l) (r.f i j && r.f j l)) (xor (r.f i k) (r.f i j) && xor (xor (r.f k l) (r.f j l)) (decide (l = k))) := by
    rw [E2 i l hi hl, a_il, a_ik, a_kl, a_kk]; simp
  have b_ij : (applyF (applyF r j) k).f i j = r.f i k := by
    rw [E2 i j hi hj, a_ij, a_ik, a_kj, a_kk]
    simp only [hne', decide_false, Bool.and_false, Bool.xor_false, Bool.and_true]
    cases r.f i j <;> cases r.f i k <;> rfl
  have b_jl : (applyF (applyF r j) k).f j l = xor (r.f k l) (decide (l = k)) := by
    rw [E2 j l hj hl, a_jl, a_jk, a_kl, a_kk]
    cases r.f j l <;> cases r.f k l <;> cases decide (l = k) <;> rfl
  have b_jj : (applyF (applyF r j) k).f j j = true := by
    rw [E2 j j hj hj, a_jj, a_jk, a_kj, a_kk]
    simp [hne']
  rw [applyF_entry n _ j i l hr2 hj hi hl, b_il, b_ij, b_jl, b_jj]
  by_cases e1 : l = j
  · subst e1
    have e2 : ¬ l = k := hne'
    rw [hjj, hkj]
    simp only [e2, decide_false, decide_true]
    cases r.f i l <;> cases r.f i k <;> rfl
  · by_cases e2 : l = k
    · subst e2
      rw [hjk, hkk]
      simp only [e1, decide_false, decide_true]
      cases r.f i l <;> cases r.f i j <;> rfl
    · simp only [e1, e2, decide_false]
      cases r.f i l <;> cases r.f i j <;> cases r.f i k <;> cases r.f j l <;> cases r.f k l <;> rfl

theorem Track.cross {n : Nat} {b θ0 : Adj} {r : BMat} {seq : List Nat} {μ : Nat} (h : Track n b θ0 r seq μ)
    (j k i : Nat) (hj : j < n) (hk : k < n) (hi : i < n) (hjj : r.f j j = false) (hkj : r.f k j = true)
    (hij : i ≠ j) (hik : i ≠ k) : (r.f i k && r.f j i) = (r.f i j && r.f k i) := by
  obtain ⟨q, hI, hR⟩ := h.inv
  have hne : k ≠ j := by intro e; subst e; rw [hjj] at hkj; cases hkj
  have hcj := c_of_diag_zero hI hR j hj hjj
  have hck := c_of_offdiag hR k j hk hj (fun e => hne e.symm) hkj
  rw [hR.hf i k hi hk, hR.hf j i hj hi, hR.hf i j hi hj, hR.hf k i hk hi]
  unfold rOf
  have e1 : ¬ j = i := fun e => hij e.symm
  have e2 : ¬ k = i := fun e => hik e.symm
  simp only [hij, hik, e1, e2, if_false]
  rw [hcj, hck, hI.simple.1 j i hj hi, hI.simple.1 k i hk hi]
  cases q (4 * i + 2) <;> cases applySeq θ0 seq i j <;> cases applySeq θ0 seq i k <;> rfl

/-- **one double, after the singles are exhausted**: rows `j` and `k` become unit rows, unit rows stay, `NoSingles` stays -/
theorem double_noSingles {n : Nat} {b θ0 : Adj} {r : BMat} {seq : List Nat} {μ : Nat} (h : Track n b θ0 r seq μ)
    (hN : NoSingles n r) (j k : Nat) (hj : j < n) (hk : k < n) (hjj : r.f j j = false) (hkj : r.f k j = true) :
    NoSingles n (applyF (applyF (applyF r j) k) j) ∧ (applyF (applyF (applyF r j) k) j).f j j = true ∧
      ∀ i, i < n → r.f i i = true → (applyF (applyF (applyF r j) k) j).f i i = true := by
  have hne : k ≠ j := by intro e; subst e; rw [hjj] at hkj; cases hkj
  have hne' : ¬ j = k := fun e => hne e.symm
  have hkk : r.f k k = false := by
    cases e : r.f k k
    · rfl
    · have := hN k hk e j hj
      rw [hkj] at this
      simp [hne] at this
  have hjk := h.sym_entry j k hj hk hjj hkj
  have F := fun i l hi hl => triple_entry n r j k i l h.rows hj hk hi hl hne hjj hkk hkj hjk
  have rowj : ∀ l, l < n → (applyF (applyF (applyF r j) k) j).f j l = decide (j = l) := by
    intro l hl
    rw [F j l hj hl, hjk, hjj]
    have : decide (l = j) = decide (j = l) := decide_eq_decide.mpr ⟨Eq.symm, Eq.symm⟩
    rw [this]
    cases r.f j l <;> cases decide (j = l) <;> rfl
  have rowk : ∀ l, l < n → (applyF (applyF (applyF r j) k) j).f k l = decide (k = l) := by
    intro l hl
    rw [F k l hk hl, hkk, hkj]
    have : decide (l = k) = decide (k = l) := decide_eq_decide.mpr ⟨Eq.symm, Eq.symm⟩
    rw [this]
    cases r.f k l <;> cases decide (k = l) <;> rfl
  have diag : ∀ i, i < n → i ≠ j → i ≠ k → (applyF (applyF (applyF r j) k) j).f i i = r.f i i := by
    intro i hi hij hik
    rw [F i i hi hi]
    simp only [hij, hik, decide_false, Bool.xor_false]
    rw [h.cross j k i hj hk hi hjj hkj hij hik]
    cases r.f i i <;> cases (r.f i j && r.f k i) <;> rfl
  refine ⟨?_, ?_, ?_⟩
  · intro i hi hd l hl
    by_cases e1 : i = j
    · rw [e1]; exact rowj l hl
    · by_cases e2 : i = k
      · rw [e2]; exact rowk l hl
      · rw [diag i hi e1 e2] at hd
        have hrow := hN i hi hd
        rw [F i l hi hl, hrow k hk, hrow j hj, hrow l hl]
        simp [e1, e2]
  · rw [rowj j hj]; simp
  · intro i hi hd
    have e1 : i ≠ j := by intro e; rw [e, hjj] at hd; cases hd
    have e2 : i ≠ k := by intro e; rw [e, hkk] at hd; cases hd
    rw [diag i hi e1 e2]; exact hd

theorem rowIsUnit_diag (r : BMat) (j : Nat) (hj : j < r.c) (h : r.f j j = false) : rowIsUnit r j = false := by
  cases e : rowIsUnit r j
  · rfl
  · have := rowIsUnit_true r j e j hj
    rw [h] at this
    simp at this

/-- an invertible tracked `R` has a 1 in every column: `k_list` is never empty -/
theorem Track.column {n : Nat} {b θ0 : Adj} {r : BMat} {seq : List Nat} {μ : Nat} (h : Track n b θ0 r seq μ)
    (hb : Simple n b) (j : Nat) (hj : j < n) : ((List.range n).filter fun k => r.f k j) ≠ [] := by
  obtain ⟨q, hI, hR⟩ := h.inv
  obtain ⟨k, hk, hkj⟩ := column_not_zero n _ b q hI hb j hj
  intro e
  have : k ∈ (List.range n).filter fun k => r.f k j := by
    rw [List.mem_filter]
    exact ⟨List.mem_range.mpr hk, by rw [hR.hf k j hk hj]; exact hkj⟩
  rw [e] at this
  cases this

/-- **what one step of `_doubles` does on a tracked `R`**: nothing at a row with a 1 on the diagonal; otherwise it finds a
    `k` with `R_kj = 1` (never an `IndexError`: `R` is invertible) and applies the triple `j, k, j` -/
theorem doublesStep_tracked {n : Nat} {b θ0 : Adj} {st : BMat × List (Nat × Nat)} {seq : List Nat} {μ : Nat}
    (h : Track n b θ0 st.1 seq μ) (hb : Simple n b) (j : Nat) (hj : j < n) :
    (st.1.f j j = true ∧ doublesStep n (.ok st) j = .ok st) ∨
    (st.1.f j j = false ∧ ∃ k, k < n ∧ st.1.f k j = true ∧
      doublesStep n (.ok st) j = .ok (applyF (applyF (applyF st.1 j) k) j, st.2 ++ [(j, k)])) := by
  have hstep : doublesStep n (.ok st) j = (if (!rowIsUnit st.1 j && !st.1.f j j) = true then
      (match (List.range n).filter fun k => st.1.f k j with
        | [] => Except.error Err.index
        | k :: _ => Except.ok (applyF (applyF (applyF st.1 j) k) j, st.2 ++ [(j, k)])) else .ok st) := rfl
  rw [hstep]
  cases hjj : st.1.f j j
  · right
    refine ⟨rfl, ?_⟩
    rw [if_pos (by rw [rowIsUnit_diag st.1 j (by rw [h.cols]; exact hj) hjj]; rfl)]
    cases hf : (List.range n).filter fun k => st.1.f k j with
    | nil => exact absurd hf (h.column hb j hj)
    | cons k t =>
      have hkm : k ∈ (List.range n).filter fun k => st.1.f k j := by rw [hf]; simp
      rw [List.mem_filter] at hkm
      exact ⟨k, List.mem_range.mp hkm.1, hkm.2, rfl⟩
  · left
    refine ⟨rfl, ?_⟩
    rw [if_neg (by simp)]

/-- **one pass of `_doubles` over a tracked `R`** returns and keeps the invariant; and once the singles are exhausted it keeps
    that, keeps the 1s on the diagonal, and leaves a 1 on the diagonal of every visited row -/
theorem doubles_fold_run (n : Nat) (b θ0 : Adj) (hb : Simple n b) (seq0 : List Nat) (l : List Nat) :
    ∀ (st : BMat × List (Nat × Nat)), (∀ j ∈ l, j < n) → (∃ μ, Track n b θ0 st.1 (seq0 ++ flat3 st.2) μ) →
      ∃ st', l.foldl (doublesStep n) (.ok st) = .ok st' ∧ (∃ μ', Track n b θ0 st'.1 (seq0 ++ flat3 st'.2) μ') ∧
        (NoSingles n st.1 → NoSingles n st'.1 ∧ (∀ i, i < n → st.1.f i i = true → st'.1.f i i = true) ∧
          ∀ j ∈ l, st'.1.f j j = true) := by
  induction l with
  | nil => intro st _ h; exact ⟨st, rfl, h, fun hN => ⟨hN, fun _ _ hd => hd, fun j hj => by cases hj⟩⟩
  | cons j l ih =>
    intro st hl ⟨μ, h⟩
    rw [List.foldl_cons]
    have hj : j < n := hl j List.mem_cons_self
    have hl' : ∀ i ∈ l, i < n := fun i hi => hl i (List.mem_cons_of_mem _ hi)
    rcases doublesStep_tracked h hb j hj with ⟨hjj, e⟩ | ⟨hjj, k, hk, hkj, e⟩
    · rw [e]
      obtain ⟨st', e', hT', hrest⟩ := ih st hl' ⟨μ, h⟩
      refine ⟨st', e', hT', fun hN => ?_⟩
      obtain ⟨hN', hd', hl''⟩ := hrest hN
      exact ⟨hN', hd', fun i hi => (List.mem_cons.mp hi).elim (fun e => e ▸ hd' j hj hjj) (hl'' i)⟩
    · rw [e]
      obtain ⟨μ3, h3⟩ := h.double hb j k hj hk hjj hkj
      obtain ⟨st', e', hT', hrest⟩ := ih (applyF (applyF (applyF st.1 j) k) j, st.2 ++ [(j, k)]) hl' ⟨μ3, by
        show Track n b θ0 _ (seq0 ++ flat3 (st.2 ++ [(j, k)])) μ3
        rw [flat3_append, flat3_single, ← List.append_assoc]
        exact h3⟩
      refine ⟨st', e', hT', fun hN => ?_⟩
      obtain ⟨hN3, hj3, hd3⟩ := double_noSingles h hN j k hj hk hjj hkj
      obtain ⟨hN', hd', hl''⟩ := hrest hN3
      exact ⟨hN', fun i hi hd => hd' i hi (hd3 i hi hd),
        fun i hi => (List.mem_cons.mp hi).elim (fun e => e ▸ hd' j hj hj3) (hl'' i)⟩

theorem beq_of_identity (r : BMat) (hc : r.c = r.r) (h : ∀ i j, i < r.r → j < r.r → r.f i j = decide (i = j)) :
    r.beq (identM r.r) = true := by
  unfold BMat.beq
  rw [Bool.and_eq_true, Bool.and_eq_true]
  refine ⟨⟨by simp [identM], by simp [identM, hc]⟩, ?_⟩
  rw [List.all_eq_true]
  intro i hi
  rw [List.all_eq_true]
  intro j hj
  rw [h i j (List.mem_range.mp hi) (by rw [← hc]; exact List.mem_range.mp hj)]
  simp [identM, idM]

/-- the second `while`: when it returns, the complementations recorded so far take the first graph to the target -/
theorem doublesLoop_ok (n : Nat) (b θ0 : Adj) (hb : Simple n b) (seq0 : List Nat) (fuel : Nat) :
    ∀ (r : BMat) (acc d : List (Nat × Nat)), (∃ μ, Track n b θ0 r (seq0 ++ flat3 acc) μ) →
      doublesLoop fuel r acc = .ok d → EqAdj n (applySeq θ0 (seq0 ++ flat3 d)) b ∧ ∀ v ∈ seq0 ++ flat3 d, v < n := by
  induction fuel with
  | zero => intro r acc d _ e; cases e
  | succ k ih =>
    intro r acc d h e
    rw [doublesLoop_succ] at e
    obtain ⟨μ, h⟩ := h
    by_cases hc : (!r.beq (identM r.r)) = true
    · rw [if_pos hc] at e
      cases hd : doubles r with
      | error x => rw [hd] at e; cases e
      | ok res =>
        obtain ⟨r1, d1⟩ := res
        rw [hd] at e
        have e1 : doublesLoop k r1 (acc ++ d1) = .ok d := e
        rw [doubles_eq, h.rows] at hd
        obtain ⟨st', e', ⟨μ', hT⟩, _⟩ := doubles_fold_run n b θ0 hb (seq0 ++ flat3 acc) (List.range n) (r, [])
          (fun i hi => List.mem_range.mp hi) ⟨μ, by simpa [flat3] using h⟩
        rw [hd] at e'
        cases e'
        refine ih r1 (acc ++ d1) d ⟨μ', ?_⟩ e1
        rw [flat3_append, ← List.append_assoc]
        exact hT
    · rw [if_neg hc] at e
      cases e
      have hid : r.beq (identM r.r) = true := by revert hc; cases r.beq (identM r.r) <;> simp
      obtain ⟨q, hI, hR, hs, _⟩ := h
      refine ⟨identity_R_means_done n _ b q hI hb (fun i j hi hj => ?_), hs⟩
      rw [← hR.hf i j hi hj]
      exact beq_identity r hid i j (by rw [hR.hr]; exact hi) (by rw [hR.hc]; exact hj)

/-- **the second `while` runs its body at most once** -/
theorem doublesLoop_terminates (n : Nat) (b θ0 : Adj) (hb : Simple n b) (seq0 : List Nat) (fuel : Nat) (hf : 2 ≤ fuel)
    (r : BMat) (acc : List (Nat × Nat)) (h : ∃ μ, Track n b θ0 r (seq0 ++ flat3 acc) μ) (hN : NoSingles n r) :
    ∃ d, doublesLoop fuel r acc = .ok d := by
  obtain ⟨k, rfl⟩ : ∃ k, fuel = k + 2 := ⟨fuel - 2, by omega⟩
  rw [doublesLoop_succ]
  by_cases hc : (!r.beq (identM r.r)) = true
  · rw [if_pos hc]
    obtain ⟨μ, hT⟩ := h
    have hl : ∀ i ∈ List.range n, i < n := fun i hi => List.mem_range.mp hi
    obtain ⟨st', e, ⟨μ', hT'⟩, hrest⟩ := doubles_fold_run n b θ0 hb (seq0 ++ flat3 acc) (List.range n) (r, []) hl
      ⟨μ, by simpa [flat3] using hT⟩
    obtain ⟨hN', _, hall⟩ := hrest hN
    have hd : doubles r = .ok st' := by rw [doubles_eq, hT.rows]; exact e
    rw [hd]
    obtain ⟨r1, d1⟩ := st'
    show ∃ d, doublesLoop (k + 1) r1 (acc ++ d1) = .ok d
    rw [doublesLoop_succ]
    have hid : r1.beq (identM r1.r) = true := by
      apply beq_of_identity r1 (by rw [hT'.cols, hT'.rows])
      intro i j hi hj
      rw [hT'.rows] at hi hj
      exact hN' i hi (hall i (List.mem_range.mpr hi)) j hj
    rw [hid]
    exact ⟨acc ++ d1, rfl⟩
  · rw [if_neg hc]
    exact ⟨acc, rfl⟩

/-- **`lc_graph_operations` is correct**: for a valid local Clifford `Q` solving the system for `(a, b)`, every sequence the
    R-matrix reduction returns consists of vertices of the graph and, applied to `a` as local complementations, gives `b` -/
theorem lcGraphOperations_correct (fuel n : Nat) (a b : Adj) (q : List Bool) (seq : List Nat) (ha : Simple n a)
    (hb : Simple n b) (hq : ∀ j k, j < n → k < n → equation n a b (vget q) j k = false)
    (hv : isValidClifford n q = true) (e : lcGraphOperations fuel n a q = .ok seq) :
    EqAdj n (applySeq a seq) b ∧ ∀ v ∈ seq, v < n := by
  have h0 := track_init n a b q ha hq hv
  unfold lcGraphOperations at e
  cases hs : singlesLoop fuel (rMatrix n a q).norm [] with
  | error x => rw [hs] at e; cases e
  | ok res =>
    obtain ⟨r, s⟩ := res
    rw [hs] at e
    dsimp only at e
    obtain ⟨⟨μ, h1⟩, _⟩ := singlesLoop_ok n b a hb fuel _ [] _ r s h0 hs
    cases hd : doublesLoop fuel r [] with
    | error x => rw [hd] at e; cases e
    | ok d =>
      rw [hd] at e
      have : seq = s ++ flat3 d := by
        have : Except.ok (s ++ d.flatMap fun p => [p.1, p.2, p.1]) = (Except.ok seq : Except Err (List Nat)) := e
        cases this; rfl
      rw [this]
      exact doublesLoop_ok n b a hb s fuel r [] d ⟨μ, by simpa [flat3] using h1⟩ hd

/-- **`lc_graph_operations` terminates on every valid solution**: `fuel ≥ n + 1` is enough for both loops (the first needs at
    most one pass per block with `c = 1` plus the final test, the second at most one pass plus the final test) -/
theorem lcGraphOperations_terminates (fuel n : Nat) (a b : Adj) (q : List Bool) (hn : 0 < n) (ha : Simple n a)
    (hb : Simple n b) (hq : ∀ j k, j < n → k < n → equation n a b (vget q) j k = false)
    (hv : isValidClifford n q = true) (hf : n + 1 ≤ fuel) : ∃ seq, lcGraphOperations fuel n a q = .ok seq := by
  have h0 := track_init n a b q ha hq hv
  obtain ⟨r, s, hs⟩ := singlesLoop_terminates n b a hb fuel _ [] _ h0 (by have := h0.bound; omega)
  obtain ⟨⟨μ, h1⟩, hc⟩ := singlesLoop_ok n b a hb fuel _ [] _ r s h0 hs
  have hN := noSingles_of_condition n r h1.rows h1.cols hc
  obtain ⟨d, hd⟩ := doublesLoop_terminates n b a hb s fuel (by omega) r [] ⟨μ, by simpa [flat3] using h1⟩ hN
  refine ⟨s ++ d.flatMap fun p => [p.1, p.2, p.1], ?_⟩
  unfold lcGraphOperations
  rw [hs]
  dsimp only
  rw [hd]

end Graphiq.LC
