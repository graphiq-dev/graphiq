/-
  Proofs/CompareRepairSound.lean — from the node bijection to the circuits: if the repaired `circuit_is_isomorphic` reports two
  circuit DAGs isomorphic, a renaming of registers within each type turns the sequence of operations on every register of the
  first into the sequence on the corresponding register of the second (`iso2_sound_graphs`).  The comparison as `compare`
  calls it and as the filters call it is `isoVia ν` for a preparation `ν` of the DAGs; soundness is proved once, for every
  preparation (`isoVia_sound`).  Hence the renamed first circuit and the second differ only by exchanging neighbouring
  operations on disjoint registers (`SwapEquiv`).
-/
import GraphiqModel.Proofs.CompareRepairNorm
import Mathlib.Data.Fintype.Card
namespace Graphiq.Compare
open Graphiq Graphiq.Export

/-! ## renaming operations by a map on registers -/

def renQ (π : Wire → Wire) (q : QReg) : QReg := ⟨q.t, (π (Wire.ofQ q)).i⟩
def renC (π : Wire → Wire) (m : Nat) : Nat := (π ⟨.c, m⟩).i

def renOp (π : Wire → Wire) : Op → Op
  | .one g q => .one g (renQ π q)
  | .wrap gs q => .wrap gs (renQ π q)
  | .ctrl g a b => .ctrl g (renQ π a) (renQ π b)
  | .cctrl g a b m => .cctrl g (renQ π a) (renQ π b) (renC π m)
  | .meas q m => .meas (renQ π q) (renC π m)

theorem renQ_spec (π : Wire → Wire) (q q' : QReg) (ht : (π (Wire.ofQ q)).t = (Wire.ofQ q).t)
    (h : π (Wire.ofQ q) = Wire.ofQ q') : q' = renQ π q := by
  cases q with | mk t i => cases q' with | mk t' i' =>
  unfold renQ
  rw [h] at ht ⊢
  simp only [Wire.ofQ] at ht ⊢
  cases t <;> cases t' <;> simp_all [RT.ofRegT]

theorem renC_spec (π : Wire → Wire) (m m' : Nat) (h : π ⟨.c, m⟩ = ⟨.c, m'⟩) : m' = renC π m := by
  unfold renC; rw [h]

theorem nodeMatch_gate_cases {o1 o2 : Op} (hm : nodeMatch (.gate o1) (.gate o2) = true) :
    (∃ g q q', o1 = .one g q ∧ o2 = .one g q') ∨ (∃ gs q q', o1 = .wrap gs q ∧ o2 = .wrap gs q') ∨
    (∃ g c t c' t', o1 = .ctrl g c t ∧ o2 = .ctrl g c' t') ∨
    (∃ g c t m c' t' m', o1 = .cctrl g c t m ∧ o2 = .cctrl g c' t' m') ∨ (∃ q m q' m', o1 = .meas q m ∧ o2 = .meas q' m') := by
  cases o1 <;> cases o2 <;>
    simp only [nodeMatch, Op.cls, Bool.and_eq_true, beq_iff_eq, Option.some.injEq, Cls.g1.injEq, Cls.g2.injEq, Cls.gc.injEq,
      reduceCtorEq, Bool.false_eq_true, false_and] at hm
  · exact Or.inl ⟨_, _, _, rfl, by rw [hm.1]⟩
  · exact Or.inr (Or.inl ⟨_, _, _, rfl, by rw [hm.2]⟩)
  · exact Or.inr (Or.inr (Or.inl ⟨_, _, _, _, _, rfl, by rw [hm.1]⟩))
  · exact Or.inr (Or.inr (Or.inr (Or.inl ⟨_, _, _, _, _, _, _, rfl, by rw [hm.1]⟩)))
  · exact Or.inr (Or.inr (Or.inr (Or.inr ⟨_, _, _, _, rfl, rfl⟩)))

theorem slotRoles_of_nodeMatch {o1 o2 : Op} (hm : nodeMatch (.gate o1) (.gate o2) = true) : slotRoles o2 = slotRoles o1 := by
  rcases nodeMatch_gate_cases hm with ⟨_, _, _, rfl, rfl⟩ | ⟨_, _, _, rfl, rfl⟩ | ⟨_, _, _, _, _, rfl, rfl⟩ |
    ⟨_, _, _, _, _, _, _, rfl, rfl⟩ | ⟨_, _, _, _, rfl, rfl⟩ <;> rfl

theorem op_of_wires (π : Wire → Wire) (o1 o2 : Op) (hm : nodeMatch (.gate o1) (.gate o2) = true)
    (ht : ∀ w ∈ opWires o1, (π w).t = w.t) (hw : opWires o2 = (opWires o1).map π) : o2 = renOp π o1 := by
  have hq : ∀ q q' : QReg, Wire.ofQ q ∈ opWires o1 → Wire.ofQ q' = π (Wire.ofQ q) → q' = renQ π q :=
    fun q q' hq e => renQ_spec π q q' (ht _ hq) e.symm
  have hc : ∀ m m' : Nat, (⟨.c, m'⟩ : Wire) = π ⟨.c, m⟩ → m' = renC π m := fun m m' e => renC_spec π m m' e.symm
  rcases nodeMatch_gate_cases hm with ⟨_, _, _, rfl, rfl⟩ | ⟨_, _, _, rfl, rfl⟩ | ⟨_, _, _, _, _, rfl, rfl⟩ |
    ⟨_, _, _, _, _, _, _, rfl, rfl⟩ | ⟨_, _, _, _, rfl, rfl⟩ <;>
    simp only [opWires, Op.qRegs, Op.cRegs, List.map_cons, List.map_nil, List.append_nil, List.cons_append, List.nil_append,
      List.cons.injEq, and_true] at hw hq
  · rw [renOp, ← hq _ _ (by simp) hw]
  · rw [renOp, ← hq _ _ (by simp) hw]
  · rw [renOp, ← hq _ _ (by simp) hw.1, ← hq _ _ (by simp) hw.2]
  · rw [renOp, ← hq _ _ (by simp) hw.1, ← hq _ _ (by simp) hw.2.1, ← hc _ _ hw.2.2]
  · rw [renOp, ← hq _ _ (by simp) hw.1, ← hc _ _ hw.2]

/-- **class, register types and the roles of all registers determine the operation** -/
theorem op_of_roles (π : Wire → Wire) (o1 o2 : Op) (hm : nodeMatch (.gate o1) (.gate o2) = true) (hn1 : (opWires o1).Nodup)
    (h : ∀ w ∈ opWires o1, π w ∈ opWires o2 ∧ (π w).t = w.t ∧ role (some (.gate o2)) (π w) = role (some (.gate o1)) w) :
    o2 = renOp π o1 := by
  have hs := slotRoles_of_nodeMatch hm
  apply op_of_wires π o1 o2 hm (fun w hw => (h w hw).2.1)
  apply eq_map_of_slotRole π _ _ (slotRoles o1) (slotRoles_nodup o1) (slotRoles_length o1) (hs ▸ slotRoles_length o2) hn1
  intro w hw
  obtain ⟨a, _, c⟩ := h w hw
  rw [role_eq_slotRole, role_eq_slotRole, hs] at c
  exact ⟨a, c⟩

/-! ## from the node bijection to the operation sequences -/

/-- the graph is a family of register paths over `W`, the operations along the path of `w` are `S w`, and every operation
    node lies on the path of each of its registers -/
def GraphInv (W : List Wire) (g : MG) (S : Wire → List Op) : Prop :=
  ∃ body, Rep0 g W body ∧ (∀ w ∈ W, wireOps g body w = S w) ∧
    (∀ n o, g.opOf n = some (.gate o) → ∀ w' ∈ opWires o, w' ∈ W ∧ n ∈ body w')

theorem OpDag.graphInv {W : List Wire} {g : MG} {L : List (Nat × Op)} (h : OpDag W g L) :
    GraphInv W g (fun w => (L.map (·.2)).filter (touches w)) :=
  ⟨_, h.rep, fun w _ => h.wireOps_eq w, h.onPath⟩

/-- **the normalised DAG (`unwrap_nodes`, `remove_identity`) is a family of register paths carrying the flattened
    operations** -/
theorem normalise_graphInv (W : List Wire) (g : MG) (l : List Op) (h : BuildInv W g l) :
    GraphInv W g.normalise (fun w => (flat l).filter (touches w)) := by
  obtain ⟨L', d, e⟩ := h.opDag.normalise
  rw [canon_ops] at e
  exact e ▸ d.graphInv

/-- **the operations on register `π w` of the second DAG are the renamed operations on register `w` of the first** -/
theorem iso2_ops {W1 W2 : List Wire} {g1 g2 : MG} {L1 L2 : List (Nat × Op)} (d1 : OpDag W1 g1 L1) (d2 : OpDag W2 g2 L2)
    (φ : Nd → Nd) (hf : IsoFacts2 g1.addControlTarget2 g2.addControlTarget2 φ) (w : Wire) (hw : w ∈ W1) :
    (L2.map (·.2)).filter (touches (wireMap φ w)) = ((L1.map (·.2)).filter (touches w)).map (renOp (wireMap φ)) := by
  have r1 := d1.rep.addControlTarget2
  have r2 := d2.rep.addControlTarget2
  -- the walk relabels edges only
  have o1 : g1.addControlTarget2.opOf = g1.opOf := by rw [addControlTarget2_eq g1 _ _ d1.rep]; rfl
  have o2 : g2.addControlTarget2.opOf = g2.opOf := by rw [addControlTarget2_eq g2 _ _ d2.rep]; rfl
  obtain ⟨_, _, _, _, hb, _⟩ := iso2_wires _ _ _ _ _ _ r1 r2 φ hf w hw
  rw [← d2.wireOps_eq, ← d1.wireOps_eq]
  unfold wireOps
  rw [hb, List.filterMap_map, List.map_filterMap]
  apply List.filterMap_congr
  intro n hn
  obtain ⟨id, a, _, ha, _⟩ := d1.rep.bodyOp w hw n hn
  obtain ⟨a', b, ha', hb2, hab⟩ := hf.nodes n (opOf_some_mem _ n _ (o1 ▸ ha))
  rw [o1, ha] at ha'
  injection ha' with ha'
  subst ha'
  obtain ⟨o2', rfl⟩ := nodeMatch_gate a b hab
  rw [o2] at hb2
  have h1 : gateAt g1 n = some a := by unfold gateAt; rw [ha]
  have h2 : gateAt g2 (φ n) = some o2' := by unfold gateAt; rw [hb2]
  simp only [Function.comp, h1, h2, Option.map_some]
  congr 1
  apply op_of_roles (wireMap φ) a o2' hab (d1.rep.wiresNodup n a ha)
  intro w' hw'
  obtain ⟨hw'W, hnw'⟩ := d1.onPath n a ha w' hw'
  obtain ⟨hw2', ht', _, _, hb', hr'⟩ := iso2_wires _ _ _ _ _ _ r1 r2 φ hf w' hw'W
  have hφn : φ n ∈ bodyL L2 (wireMap φ w') := by rw [hb']; exact List.mem_map_of_mem hnw'
  obtain ⟨_, o2'', _, ho2', hin⟩ := d2.rep.bodyOp _ hw2' _ hφn
  rw [hb2] at ho2'
  injection ho2' with ho2'
  injection ho2' with ho2'
  subst ho2'
  refine ⟨hin, ht', ?_⟩
  have := hr' n hnw'
  rw [o1, o2, hb2, ha] at this
  exact this

/-! ## register counts -/

theorem count_eq_of_bijection (t : RT) (n1 n2 : Nat) (π : Wire → Wire) (h1 : ∀ i, i < n1 → ∃ j, j < n2 ∧ π ⟨t, i⟩ = ⟨t, j⟩)
    (hinj : ∀ i, i < n1 → ∀ i', i' < n1 → π ⟨t, i⟩ = π ⟨t, i'⟩ → i = i')
    (hsurj : ∀ j, j < n2 → ∃ i, i < n1 ∧ π ⟨t, i⟩ = ⟨t, j⟩) : n1 = n2 := by
  let f : Fin n1 → Fin n2 := fun i => ⟨Classical.choose (h1 i.1 i.2), (Classical.choose_spec (h1 i.1 i.2)).1⟩
  have hfs : ∀ i : Fin n1, π ⟨t, i.1⟩ = ⟨t, (f i).1⟩ := fun i => (Classical.choose_spec (h1 i.1 i.2)).2
  have hbij : Function.Bijective f := by
    constructor
    · intro a b hab
      have : π ⟨t, a.1⟩ = π ⟨t, b.1⟩ := by rw [hfs a, hfs b, hab]
      exact Fin.ext (hinj a.1 a.2 b.1 b.2 this)
    · intro j
      obtain ⟨i, hi, hπ⟩ := hsurj j.1 j.2
      refine ⟨⟨i, hi⟩, Fin.ext ?_⟩
      have := hfs ⟨i, hi⟩
      rw [hπ] at this
      injection this with _ h
      exact h.symm
  have := Fintype.card_of_bijective hbij
  simpa using this

theorem mem_wiresN_mk (ne np nc : Nat) (t : RT) (i : Nat) :
    (⟨t, i⟩ : Wire) ∈ wiresN ne np nc ↔ i < (match t with | .e => ne | .p => np | .c => nc) := mem_wiresN ne np nc ⟨t, i⟩

theorem counts_eq (ne1 np1 nc1 ne2 np2 nc2 : Nat) (π : Wire → Wire)
    (hinto : ∀ w ∈ wiresN ne1 np1 nc1, π w ∈ wiresN ne2 np2 nc2 ∧ (π w).t = w.t)
    (hinj : ∀ w ∈ wiresN ne1 np1 nc1, ∀ w' ∈ wiresN ne1 np1 nc1, π w = π w' → w = w')
    (hsurj : ∀ w2 ∈ wiresN ne2 np2 nc2, ∃ w ∈ wiresN ne1 np1 nc1, π w = w2) : ne1 = ne2 ∧ np1 = np2 ∧ nc1 = nc2 := by
  have key : ∀ t : RT, (match t with | .e => ne1 | .p => np1 | .c => nc1) = (match t with | .e => ne2 | .p => np2 | .c => nc2) := by
    intro t
    apply count_eq_of_bijection t _ _ π
    · intro i hi
      have hm := (mem_wiresN_mk ne1 np1 nc1 t i).2 hi
      obtain ⟨a, b⟩ := hinto _ hm
      cases hπ : π ⟨t, i⟩ with | mk t' j =>
      rw [hπ] at a b
      simp only at b
      subst b
      exact ⟨j, (mem_wiresN_mk ne2 np2 nc2 t' j).1 a, rfl⟩
    · intro i hi i' hi' h
      have := hinj _ ((mem_wiresN_mk ne1 np1 nc1 t i).2 hi) _ ((mem_wiresN_mk ne1 np1 nc1 t i').2 hi') h
      injection this
    · intro j hj
      obtain ⟨w, hw, hπ⟩ := hsurj _ ((mem_wiresN_mk ne2 np2 nc2 t j).2 hj)
      cases w with | mk t' i =>
      have := (hinto _ hw).2
      rw [hπ] at this
      simp only at this
      subst this
      exact ⟨i, (mem_wiresN_mk ne1 np1 nc1 _ i).1 hw, hπ⟩
  exact ⟨key .e, key .p, key .c⟩

/-- `c2` is `c1` with the registers renamed by `π` within each type, register by register -/
structure RenamedBy (π : Wire → Wire) (c1 c2 : Circuit) : Prop where
  ne : c1.ne = c2.ne
  np : c1.np = c2.np
  nc : c1.nc = c2.nc
  into : ∀ w ∈ wiresN c1.ne c1.np c1.nc, π w ∈ wiresN c1.ne c1.np c1.nc ∧ (π w).t = w.t
  inj : ∀ w ∈ wiresN c1.ne c1.np c1.nc, ∀ w' ∈ wiresN c1.ne c1.np c1.nc, π w = π w' → w = w'
  surj : ∀ w2 ∈ wiresN c1.ne c1.np c1.nc, ∃ w ∈ wiresN c1.ne c1.np c1.nc, π w = w2
  wires : ∀ w ∈ wiresN c1.ne c1.np c1.nc, c2.ops.filter (touches (π w)) = (c1.ops.filter (touches w)).map (renOp π)

/-- **soundness, graph level**: two circuit DAGs (however they were reached) that the repaired comparison reports isomorphic
    have operation lists that are renamings of each other, register by register -/
theorem iso2_sound_graphs {g1 g2 : MG} {ne1 np1 nc1 ne2 np2 nc2 : Nat} {L1 L2 : List (Nat × Op)}
    (d1 : OpDag (wiresN ne1 np1 nc1) g1 L1) (d2 : OpDag (wiresN ne2 np2 nc2) g2 L2) (hiso : isoGraphs2 g1 g2 = true) :
    ne1 = ne2 ∧ np1 = np2 ∧ nc1 = nc2 ∧ ∃ π : Wire → Wire,
      (∀ w ∈ wiresN ne1 np1 nc1, π w ∈ wiresN ne1 np1 nc1 ∧ (π w).t = w.t) ∧
      (∀ w ∈ wiresN ne1 np1 nc1, ∀ w' ∈ wiresN ne1 np1 nc1, π w = π w' → w = w') ∧
      (∀ w2 ∈ wiresN ne1 np1 nc1, ∃ w ∈ wiresN ne1 np1 nc1, π w = w2) ∧
      (∀ w ∈ wiresN ne1 np1 nc1,
        (L2.map (·.2)).filter (touches (π w)) = ((L1.map (·.2)).filter (touches w)).map (renOp π)) := by
  obtain ⟨f, hf⟩ := isoGraphs2_witness g1 g2 hiso
  obtain ⟨_, hfacts⟩ := isoCheckW_facts _ _ f hf
  have r1 := d1.rep.addControlTarget2
  have r2 := d2.rep.addControlTarget2
  let π := wireMap (mapFn f)
  have hW := fun w hw => iso2_wires _ _ _ _ _ _ r1 r2 (mapFn f) hfacts w hw
  have hinj := fun w hw w' hw' => wireMap_inj _ _ _ _ _ _ r1 r2 (mapFn f) hfacts w w' hw hw'
  have hsurj := fun w2 hw2 => wireMap_surj _ _ _ _ _ _ r1 r2 (mapFn f) hfacts w2 hw2
  obtain ⟨e1, e2, e3⟩ := counts_eq ne1 np1 nc1 ne2 np2 nc2 π (fun w hw => ⟨(hW w hw).1, (hW w hw).2.1⟩) hinj hsurj
  have hWeq : wiresN ne2 np2 nc2 = wiresN ne1 np1 nc1 := by rw [e1, e2, e3]
  exact ⟨e1, e2, e3, π, fun w hw => ⟨hWeq ▸ (hW w hw).1, (hW w hw).2.1⟩, hinj, fun w2 hw2 => hsurj w2 (hWeq ▸ hw2),
    fun w hw => iso2_ops d1 d2 (mapFn f) hfacts w hw⟩

/-- `OpOK` in the vocabulary of C14/C15: the registers are in range and pairwise different -/
theorem opOK_iff (c : Circuit) (o : Op) :
    OpOK (wiresN c.ne c.np c.nc) o ↔ InRange c o ∧ (opWires o).Nodup := by
  unfold OpOK InRange
  constructor
  · rintro ⟨h, hn⟩
    refine ⟨⟨?_, ?_⟩, hn⟩
    · intro q hq
      have := (mem_wiresN _ _ _ _).1 (h (Wire.ofQ q) (by unfold opWires; exact List.mem_append_left _ (List.mem_map_of_mem hq)))
      cases q with | mk t i => cases t <;> exact this
    · intro r hr
      exact (mem_wiresN _ _ _ _).1 (h ⟨.c, r⟩ (by unfold opWires; exact List.mem_append_right _ (List.mem_map_of_mem hr)))
  · rintro ⟨⟨hq, hc⟩, hn⟩
    refine ⟨?_, hn⟩
    intro w hw
    unfold opWires at hw
    rcases List.mem_append.1 hw with h | h
    · obtain ⟨q, hq', rfl⟩ := List.mem_map.1 h
      have := hq q hq'
      apply (mem_wiresN _ _ _ _).2
      cases q with | mk t i => cases t <;> exact this
    · obtain ⟨r, hr, rfl⟩ := List.mem_map.1 h
      exact (mem_wiresN _ _ _ _).2 (hc r hr)

/-! ## renaming an operation -/

theorem ofQ_renQ (π : Wire → Wire) (q : QReg) (ht : (π (Wire.ofQ q)).t = (Wire.ofQ q).t) :
    Wire.ofQ (renQ π q) = π (Wire.ofQ q) := by
  unfold renQ
  cases hπ : π (Wire.ofQ q) with | mk t' i' =>
  rw [hπ] at ht
  simp only at ht
  subst ht
  cases q with | mk t i => cases t <;> rfl

structure IsRenaming (W : List Wire) (π : Wire → Wire) : Prop where
  into : ∀ w ∈ W, π w ∈ W
  ty : ∀ w ∈ W, (π w).t = w.t
  inj : ∀ w ∈ W, ∀ w' ∈ W, π w = π w' → w = w'

theorem c_renC (π : Wire → Wire) (m : Nat) (ht : (π ⟨.c, m⟩).t = .c) : (⟨.c, renC π m⟩ : Wire) = π ⟨.c, m⟩ := by
  unfold renC
  cases hπ : π ⟨.c, m⟩ with | mk t i =>
  rw [hπ] at ht
  simp only at ht
  subst ht
  rfl

theorem opWires_renOp (W : List Wire) (π : Wire → Wire) (hπ : IsRenaming W π) (o : Op) (ho : ∀ w ∈ opWires o, w ∈ W) :
    opWires (renOp π o) = (opWires o).map π := by
  have hq : ∀ q : QReg, Wire.ofQ q ∈ opWires o → Wire.ofQ (renQ π q) = π (Wire.ofQ q) :=
    fun q hq => ofQ_renQ π q (hπ.ty _ (ho _ hq))
  have hc : ∀ m : Nat, (⟨.c, m⟩ : Wire) ∈ opWires o → (⟨.c, renC π m⟩ : Wire) = π ⟨.c, m⟩ :=
    fun m hm => c_renC π m (hπ.ty _ (ho _ hm))
  cases o with
  | one g q => simp only [renOp, opWires, Op.qRegs, Op.cRegs, List.map_cons, List.map_nil, List.append_nil]; rw [hq q (by simp [opWires, Op.qRegs])]
  | wrap gs q => simp only [renOp, opWires, Op.qRegs, Op.cRegs, List.map_cons, List.map_nil, List.append_nil]; rw [hq q (by simp [opWires, Op.qRegs])]
  | ctrl g a b =>
    simp only [renOp, opWires, Op.qRegs, Op.cRegs, List.map_cons, List.map_nil, List.append_nil]
    rw [hq a (by simp [opWires, Op.qRegs]), hq b (by simp [opWires, Op.qRegs])]
  | cctrl g a b m =>
    simp only [renOp, opWires, Op.qRegs, Op.cRegs, List.map_cons, List.map_nil, List.cons_append, List.nil_append]
    rw [hq a (by simp [opWires, Op.qRegs]), hq b (by simp [opWires, Op.qRegs]), hc m (by simp [opWires, Op.qRegs, Op.cRegs])]
  | meas q m =>
    simp only [renOp, opWires, Op.qRegs, Op.cRegs, List.map_cons, List.map_nil, List.cons_append, List.nil_append]
    rw [hq q (by simp [opWires, Op.qRegs]), hc m (by simp [opWires, Op.qRegs, Op.cRegs])]

theorem mem_opWires_renOp (W : List Wire) (π : Wire → Wire) (hπ : IsRenaming W π) (o : Op) (ho : ∀ w ∈ opWires o, w ∈ W)
    (w : Wire) (hw : w ∈ W) : π w ∈ opWires (renOp π o) ↔ w ∈ opWires o := by
  rw [opWires_renOp W π hπ o ho, List.mem_map]
  constructor
  · rintro ⟨w', hw', h⟩
    rw [← hπ.inj w' (ho w' hw') w hw h]; exact hw'
  · intro h; exact ⟨w, h, rfl⟩

theorem opOK_renOp (W : List Wire) (π : Wire → Wire) (hπ : IsRenaming W π) (o : Op) (ho : OpOK W o) : OpOK W (renOp π o) := by
  unfold OpOK
  rw [opWires_renOp W π hπ o ho.1]
  refine ⟨?_, ?_⟩
  · intro w hw
    obtain ⟨w', hw', rfl⟩ := List.mem_map.1 hw
    exact hπ.into w' (ho.1 w' hw')
  · apply List.Nodup.map_on _ ho.2
    intro a ha b hb hab
    exact hπ.inj a (ho.1 a ha) b (ho.1 b hb) hab

theorem ren_filter (W : List Wire) (π : Wire → Wire) (hπ : IsRenaming W π) (l : List Op)
    (hl : ∀ o ∈ l, ∀ w ∈ opWires o, w ∈ W) (w0 : Wire) (hw0 : w0 ∈ W) :
    (l.map (renOp π)).filter (touches (π w0)) = (l.filter (touches w0)).map (renOp π) := by
  rw [List.filter_map]
  congr 1
  apply List.filter_congr
  intro o ho
  simp only [Function.comp, touches, List.contains_eq_mem]
  apply Bool.eq_iff_iff.2
  simp only [decide_eq_true_eq]
  exact mem_opWires_renOp _ π hπ o (hl o ho) w0 hw0

theorem filter_touches_outside (W : List Wire) (l : List Op) (hl : ∀ o ∈ l, ∀ w ∈ opWires o, w ∈ W) (w : Wire) (hw : w ∉ W) :
    l.filter (touches w) = [] := by
  rw [List.filter_eq_nil_iff]
  intro o ho ht
  unfold touches at ht
  simp only [List.contains_eq_mem, decide_eq_true_eq] at ht
  exact hw (hl o ho w ht)

/-! ## renamed circuits are equivalent -/

theorem RenamedBy.isRenaming {π : Wire → Wire} {c1 c2 : Circuit} (h : RenamedBy π c1 c2) :
    IsRenaming (wiresN c1.ne c1.np c1.nc) π :=
  ⟨fun w hw => (h.into w hw).1, fun w hw => (h.into w hw).2, h.inj⟩

theorem ren_filter_all (W : List Wire) (π : Wire → Wire) (hπ : IsRenaming W π) (hsurj : ∀ w2 ∈ W, ∃ w ∈ W, π w = w2)
    (l1 l2 : List Op) (h1 : ∀ o ∈ l1, ∀ w ∈ opWires o, w ∈ W) (h2 : ∀ o ∈ l2, ∀ w ∈ opWires o, w ∈ W)
    (hw : ∀ w ∈ W, l2.filter (touches (π w)) = (l1.filter (touches w)).map (renOp π)) :
    ∀ w, (l1.map (renOp π)).filter (touches w) = l2.filter (touches w) := by
  intro w
  by_cases hwW : w ∈ W
  · obtain ⟨w0, hw0, rfl⟩ := hsurj w hwW
    rw [ren_filter _ π hπ _ h1 w0 hw0]
    exact (hw w0 hw0).symm
  · rw [filter_touches_outside _ _ h2 w hwW, filter_touches_outside _ _ _ w hwW]
    intro o ho
    obtain ⟨o', ho', rfl⟩ := List.mem_map.1 ho
    rw [opWires_renOp W π hπ o' (h1 o' ho')]
    intro w' hw'
    obtain ⟨w0, hw0, rfl⟩ := List.mem_map.1 hw'
    exact hπ.into w0 (h1 o' ho' w0 hw0)

theorem RenamedBy.wires_all {π : Wire → Wire} {c1 c2 : Circuit} (h : RenamedBy π c1 c2)
    (h1 : ∀ o ∈ c1.ops, OpOK (wiresN c1.ne c1.np c1.nc) o) (h2 : ∀ o ∈ c2.ops, OpOK (wiresN c2.ne c2.np c2.nc) o) :
    ∀ w, (c1.ops.map (renOp π)).filter (touches w) = c2.ops.filter (touches w) := by
  have hW2 : wiresN c2.ne c2.np c2.nc = wiresN c1.ne c1.np c1.nc := by rw [h.ne, h.np, h.nc]
  exact ren_filter_all _ π h.isRenaming h.surj _ _ (fun o ho => (h1 o ho).1) (fun o ho => hW2 ▸ (h2 o ho).1) h.wires

theorem RenamedBy.wires_q {π : Wire → Wire} {c1 c2 : Circuit} (h : RenamedBy π c1 c2)
    (h1 : ∀ o ∈ c1.ops, OpOK (wiresN c1.ne c1.np c1.nc) o) (h2 : ∀ o ∈ c2.ops, OpOK (wiresN c2.ne c2.np c2.nc) o) :
    ∀ q, (c1.ops.map (renOp π)).filter (onReg q) = c2.ops.filter (onReg q) := by
  intro q
  have e : onReg q = touches (Wire.ofQ q) := funext fun o => (touches_ofQ q o).symm
  rw [e]
  exact h.wires_all h1 h2 _

/-- **a circuit and its renamed copy**: if `c2` is `c1` with registers renamed by `π` register by register, then the
    renamed operation list of `c1` and the operation list of `c2` differ only by exchanges of neighbouring operations on
    disjoint registers -/
theorem RenamedBy.swapEquiv {π : Wire → Wire} {c1 c2 : Circuit} (h : RenamedBy π c1 c2)
    (h1 : ∀ o ∈ c1.ops, OpOK (wiresN c1.ne c1.np c1.nc) o) (h2 : ∀ o ∈ c2.ops, OpOK (wiresN c2.ne c2.np c2.nc) o) :
    SwapEquiv (c1.ops.map (renOp π)) c2.ops :=
  swapEquiv_of_wires _ _ (h.wires_q h1 h2)

/-- exchanging neighbouring operations on disjoint registers does not change the result, in every semantics in which
    operations on disjoint quantum registers commute -/
theorem SwapEquiv.same_state {σ : Type} (app : Op → σ → σ)
    (hcomm : ∀ a b, disjointOps a b = true → ∀ s, app b (app a s) = app a (app b s))
    {l1 l2 : List Op} (h : SwapEquiv l1 l2) (s : σ) :
    l1.foldl (fun s o => app o s) s = l2.foldl (fun s o => app o s) s :=
  (swapEquiv_iff_swapK.1 h).foldl_eq (Inv := fun _ => True) (fun _ _ _ => trivial)
    (fun a b hd s _ => hcomm a b ((Trace.disjK_iff a b).2 hd) s) s trivial

/-! ## renaming commutes with flattening -/

theorem unwrap_renOp (π : Wire → Wire) (o : Op) : Op.unwrap (renOp π o) = (Op.unwrap o).map (renOp π) := by
  cases o with
  | wrap gs q => simp [renOp, Op.unwrap, Function.comp]
  | one _ _ => rfl
  | ctrl _ _ _ => rfl
  | cctrl _ _ _ _ => rfl
  | meas _ _ => rfl

theorem isIdentity_renOp (π : Wire → Wire) (o : Op) : (renOp π o).isIdentity = o.isIdentity := by
  cases o with
  | one g q => cases g <;> rfl
  | wrap _ _ => rfl
  | ctrl _ _ _ => rfl
  | cctrl _ _ _ _ => rfl
  | meas _ _ => rfl

theorem flatMap_unwrap_map_renOp (π : Wire → Wire) (l : List Op) :
    (l.map (renOp π)).flatMap Op.unwrap = (l.flatMap Op.unwrap).map (renOp π) := by
  induction l with
  | nil => rfl
  | cons a rest ih => simp only [List.map_cons, List.flatMap_cons, List.map_append, ih, unwrap_renOp]

theorem filter_nonId_map_renOp (π : Wire → Wire) (l : List Op) :
    (l.map (renOp π)).filter nonId = (l.filter nonId).map (renOp π) := by
  rw [List.filter_map]
  congr 1
  apply List.filter_congr
  intro o _
  simp only [Function.comp, nonId, isIdentity_renOp]

theorem RenamedBy.flat {π : Wire → Wire} {c1 c2 : Circuit} (h : RenamedBy π c1 c2) : RenamedBy π (flatC c1) (flatC c2) := by
  refine ⟨h.ne, h.np, h.nc, h.into, h.inj, h.surj, ?_⟩
  intro w hw
  show (Export.flat c2.ops).filter (touches (π w)) = ((Export.flat c1.ops).filter (touches w)).map (renOp π)
  rw [flat_filter_touches, flat_filter_touches, h.wires w hw, flatMap_unwrap_map_renOp, filter_nonId_map_renOp]

/-! ## the comparison as `compare` calls it and as the filters call it

  `circuit_is_isomorphic` is called on the DAGs as built (`compare`) and on copies after `unwrap_nodes` and `remove_identity`
  (`remove_redundant_circuits`).  Both are `isoVia ν` for a preparation `ν` of the DAG; what is proved of the comparison is
  proved once, for every preparation that maps the DAG of a list `L` to a DAG of `F L` (`View ν F`). -/

/-- what is done to a DAG before it is compared (`ν`) and what that does to the operation list (`F`) -/
structure View (ν : MG → MG) (F : List Op → List Op) : Prop where
  dag : ∀ {W : List Wire} {g : MG} {L : List (Nat × Op)}, OpDag W g L → ∃ L', OpDag W (ν g) L' ∧ L'.map (·.2) = F (L.map (·.2))
  ok : ∀ {W : List Wire} {l : List Op}, (∀ o ∈ l, OpOK W o) → ∀ o ∈ F l, OpOK W o

theorem View.plain : View id id := ⟨fun h => ⟨_, h, rfl⟩, fun h => h⟩
theorem View.normalised : View MG.normalise flat := ⟨fun h => h.normalise, fun h => flat_opOK _ _ h⟩

def isoVia (ν : MG → MG) (c1 c2 : Circuit) : Except Err Bool := do
  return isoGraphs2 (ν (← MG.build c1)) (ν (← MG.build c2))

theorem circuitIsIsomorphic2_via : circuitIsIsomorphic2 = isoVia id := rfl
theorem isoNormalised2_via : isoNormalised2 = isoVia MG.normalise := rfl

/-- the circuit the comparison sees -/
def mapOps (F : List Op → List Op) (c : Circuit) : Circuit := ⟨c.ne, c.np, c.nc, F c.ops⟩

theorem mapOps_flat (c : Circuit) : mapOps flat c = flatC c := rfl

section
variable {ν : MG → MG} {F : List Op → List Op}

/-- both circuits build, the comparison (either way round) is `isoGraphs2` of the prepared DAGs, and these are the DAGs of
    lists that carry `F c1.ops` and `F c2.ops` -/
theorem View.on_built (v : View ν F) (c1 c2 : Circuit) (h1 : ∀ o ∈ c1.ops, OpOK (wiresN c1.ne c1.np c1.nc) o)
    (h2 : ∀ o ∈ c2.ops, OpOK (wiresN c2.ne c2.np c2.nc) o) :
    ∃ g1 g2 L1 L2, isoVia ν c1 c2 = .ok (isoGraphs2 g1 g2) ∧ isoVia ν c2 c1 = .ok (isoGraphs2 g2 g1) ∧
      OpDag (wiresN c1.ne c1.np c1.nc) g1 L1 ∧ L1.map (·.2) = F c1.ops ∧
      OpDag (wiresN c2.ne c2.np c2.nc) g2 L2 ∧ L2.map (·.2) = F c2.ops := by
  obtain ⟨g1, L1, hb1, d1, e1, _⟩ := build_opDag c1 h1
  obtain ⟨g2, L2, hb2, d2, e2, _⟩ := build_opDag c2 h2
  obtain ⟨L1', d1', e1'⟩ := v.dag d1
  obtain ⟨L2', d2', e2'⟩ := v.dag d2
  refine ⟨ν g1, ν g2, L1', L2', ?_, ?_, d1', by rw [e1', e1], d2', by rw [e2', e2]⟩ <;>
    (unfold isoVia; rw [hb1, hb2]; rfl)

/-- **soundness of the repaired comparison**: a positive answer exhibits a renaming of the registers within each type that
    turns the operation sequence of every register of the first circuit into the operation sequence of the corresponding
    register of the second -/
theorem isoVia_sound (v : View ν F) (c1 c2 : Circuit) (h1 : ∀ o ∈ c1.ops, OpOK (wiresN c1.ne c1.np c1.nc) o)
    (h2 : ∀ o ∈ c2.ops, OpOK (wiresN c2.ne c2.np c2.nc) o) (h : isoVia ν c1 c2 = .ok true) :
    ∃ π, RenamedBy π (mapOps F c1) (mapOps F c2) := by
  obtain ⟨g1, g2, L1, L2, e, _, d1, e1, d2, e2⟩ := v.on_built c1 c2 h1 h2
  obtain ⟨a, b, c, π, p1, p2, p3, p4⟩ := iso2_sound_graphs d1 d2 (Except.ok.inj (e.symm.trans h))
  simp only [e1, e2] at p4
  exact ⟨π, a, b, c, p1, p2, p3, p4⟩

end

/-- **soundness of `remove_redundant_circuits` with the repaired comparison**: the result is a sub-list, and every
    circuit that was dropped is — after unwrapping and identity removal — a renaming, register by register, of a circuit
    that is kept -/
theorem removeRedundant2_sound (l : List Circuit) (hl : ∀ c ∈ l, ∀ o ∈ c.ops, OpOK (wiresN c.ne c.np c.nc) o) :
    (removeRedundant2 l).Sublist l ∧
    ∀ x ∈ l, x ∈ removeRedundant2 l ∨ ∃ k ∈ removeRedundant2 l, ∃ π, RenamedBy π (flatC k) (flatC x) := by
  have hsub : (removeRedundant2 l).Sublist l := (removeRedundantWith_spec _ l).1
  refine ⟨hsub, ?_⟩
  intro x hx
  rcases (removeRedundantWith_spec _ l).2 x hx with h | ⟨k, hk, hkx⟩
  · exact Or.inl h
  · refine Or.inr ⟨k, hk, ?_⟩
    have hkl : k ∈ l := hsub.subset hk
    cases hr : isoNormalised2 k x with
    | ok r =>
      rw [hr] at hkx
      simp only at hkx
      rw [hkx] at hr
      exact isoVia_sound .normalised k x (hl k hkl) (hl x hx) hr
    | error e => rw [hr] at hkx; cases hkx

end Graphiq.Compare
