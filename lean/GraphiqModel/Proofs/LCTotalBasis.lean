/-
  Proofs/LCTotalBasis.lean — the vectors built by `_solution_basis_finder` have the right length and solve the reduced system, so
  its assertion "solution basis is wrong." cannot fire.  The Python splices the unit vector `e_i` into `x = A⁻¹ b_i` by successive
  `list.insert(col_list[j], …)`; `splice_spec` describes the result entry by entry, `basisVec_unit` / `basisVec_pivot` read it at
  the free and at the pivot columns, and `basisVec_solves` applies `solF_of_kept` (`A (A⁻¹ b) + b = 0`).
-/
import GraphiqModel.Proofs.LCTotalInv
namespace Graphiq.LC
open Graphiq

/-! ### `list.insert` and the spliced vector -/

def SortedBelow (l : List Nat) (b : Nat) : Prop := l.Pairwise (· < ·) ∧ ∀ c ∈ l, c < b

theorem vget_pyInsert_at (l : List Bool) (k : Nat) (v : Bool) (hk : k ≤ l.length) : vget (pyInsert l k v) k = v := by
  unfold vget pyInsert
  have : (l.take k).length = k := by simp [hk]
  rw [List.getD, List.getElem?_append_right (by omega)]
  simp [this]

theorem vget_pyInsert_lt (l : List Bool) (k pos : Nat) (v : Bool) (hp : pos < k) (hk : k ≤ l.length) :
    vget (pyInsert l k v) pos = vget l pos := by
  unfold vget pyInsert
  have : (l.take k).length = k := by simp [hk]
  rw [List.getD, List.getD, List.getElem?_append_left (by omega), List.getElem?_take_of_lt hp]

theorem pyInsert_length (l : List Bool) (k : Nat) (v : Bool) : (pyInsert l k v).length = l.length + 1 := by
  unfold pyInsert
  simp
  omega

theorem sorted_getD_le (cols : List Nat) (b : Nat) (h : SortedBelow cols b) (t : Nat) (ht : t < cols.length) :
    cols.getD t 0 + (cols.length - t) ≤ b := by
  induction cols generalizing t b with
  | nil => simp at ht
  | cons c cs ih =>
    have hcs : SortedBelow cs b := ⟨(List.pairwise_cons.mp h.1).2, fun x hx => h.2 x (List.mem_cons_of_mem _ hx)⟩
    cases t with
    | zero =>
      simp only [List.getD_cons_zero, List.length_cons]
      cases cs with
      | nil => have := h.2 c (by simp); simp; omega
      | cons c2 cs2 =>
        have h1 := ih b hcs 0 (by simp)
        simp only [List.getD_cons_zero, List.length_cons] at h1
        have h2 : c < c2 := (List.pairwise_cons.mp h.1).1 c2 (by simp)
        simp only [List.length_cons]; omega
    | succ t =>
      simp only [List.getD_cons_succ, List.length_cons]
      have := ih b hcs t (by simpa using ht)
      omega

theorem sorted_getD_lt (cols : List Nat) (b : Nat) (h : SortedBelow cols b) (s t : Nat) (hst : s < t) (ht : t < cols.length) :
    cols.getD s 0 < cols.getD t 0 := by
  have hs : s < cols.length := by omega
  have := List.pairwise_iff_getElem.mp h.1 s t hs ht hst
  simpa [List.getD, List.getElem?_eq_getElem hs, List.getElem?_eq_getElem ht] using this

theorem vget_pyInsert_gt (l : List Bool) (k pos : Nat) (v : Bool) (hp : k < pos) (hk : k ≤ l.length) :
    vget (pyInsert l k v) pos = vget l (pos - 1) := by
  unfold vget pyInsert
  have h1 : (l.take k).length = k := by simp [hk]
  rw [List.getD, List.getD, List.getElem?_append_right (by omega), h1]
  have : pos - k = (pos - k - 1) + 1 := by omega
  rw [this, List.getElem?_cons_succ, List.getElem?_drop]
  congr 2
  omega

/-- number of the first `k'` listed columns that lie left of `pos` -/
def cntBelow (cols : List Nat) (k' pos : Nat) : Nat :=
  ((List.range k').filter fun t => decide (cols.getD t 0 < pos)).length

theorem cntBelow_succ (cols : List Nat) (k' pos : Nat) :
    cntBelow cols (k' + 1) pos = cntBelow cols k' pos + if cols.getD k' 0 < pos then 1 else 0 := by
  unfold cntBelow
  rw [List.range_succ, List.filter_append, List.length_append]
  by_cases h : cols.getD k' 0 < pos
  · rw [List.filter_cons_of_pos (by exact decide_eq_true h), if_pos h]; rfl
  · rw [List.filter_cons_of_neg (by rw [decide_eq_false h]; exact Bool.false_ne_true), if_neg h]; rfl

theorem cntBelow_all (cols : List Nat) (k' pos : Nat) (h : ∀ t, t < k' → cols.getD t 0 < pos) :
    cntBelow cols k' pos = k' := by
  unfold cntBelow
  rw [List.filter_eq_self.mpr (fun t ht => by simpa using h t (List.mem_range.mp ht))]
  simp

/-- **the spliced vector, entry by entry**: after splicing `e_i` in at the first `k'` (sorted) columns the length has grown by
    `k'`, the entry at the listed column `t` is `[i = t]`, and a position that is not one of those columns holds
    `x[pos − #{listed columns < pos}]` -/
theorem splice_spec (x : List Bool) (cols : List Nat) (i : Nat) (b : Nat) (hs : SortedBelow cols b)
    (hb : b = x.length + cols.length) (k' : Nat) (hk : k' ≤ cols.length) :
    ((List.range k').foldl (fun acc j => pyInsert acc (cols.getD j 0) (decide (i = j))) x).length = x.length + k' ∧
    (∀ t, t < k' →
      vget ((List.range k').foldl (fun acc j => pyInsert acc (cols.getD j 0) (decide (i = j))) x) (cols.getD t 0) =
        decide (i = t)) ∧
    ∀ pos, pos < x.length + k' → (∀ t, t < k' → cols.getD t 0 ≠ pos) →
      vget ((List.range k').foldl (fun acc j => pyInsert acc (cols.getD j 0) (decide (i = j))) x) pos =
        vget x (pos - cntBelow cols k' pos) := by
  induction k' with
  | zero => exact ⟨rfl, fun t ht => by omega, fun pos _ _ => by simp [cntBelow]⟩
  | succ k' ih =>
    obtain ⟨hlen, hunit, hkeep⟩ := ih (by omega)
    rw [List.range_succ, List.foldl_append]
    simp only [List.foldl_cons, List.foldl_nil]
    have hck : cols.getD k' 0 ≤ x.length + k' := by
      have := sorted_getD_le cols b hs k' (by omega)
      omega
    have hprev : ∀ t, t < k' → cols.getD t 0 < cols.getD k' 0 := fun t ht => sorted_getD_lt cols b hs t k' ht (by omega)
    refine ⟨by rw [pyInsert_length, hlen]; omega, fun t ht => ?_, fun pos hpos hne => ?_⟩
    · by_cases e : t = k'
      · subst e
        exact vget_pyInsert_at _ _ _ (by rw [hlen]; exact hck)
      · have htk : t < k' := by omega
        rw [vget_pyInsert_lt _ _ _ _ (hprev t htk) (by rw [hlen]; exact hck)]
        exact hunit t htk
    · rcases Nat.lt_or_ge pos (cols.getD k' 0) with hlt | hge
      · rw [vget_pyInsert_lt _ _ _ _ hlt (by rw [hlen]; exact hck), hkeep pos (by omega) (fun t ht => hne t (by omega)),
          cntBelow_succ]
        have : ¬ cols.getD k' 0 < pos := by omega
        rw [if_neg this, Nat.add_zero]
      · have hgt : cols.getD k' 0 < pos := by
          have := hne k' (by omega); omega
        rw [vget_pyInsert_gt _ _ _ _ hgt (by rw [hlen]; exact hck),
          hkeep (pos - 1) (by omega) (fun t ht => by have := hprev t ht; omega), cntBelow_succ,
          cntBelow_all cols k' (pos - 1) (fun t ht => by have := hprev t ht; omega),
          cntBelow_all cols k' pos (fun t ht => by have := hprev t ht; omega)]
        rw [if_pos hgt]
        congr 1
        omega

/-- counting through the indices is counting in the list -/
theorem length_filter_index (cols : List Nat) (p : Nat → Bool) :
    ((List.range cols.length).filter fun t => p (cols.getD t 0)).length = (cols.filter p).length := by
  induction cols with
  | nil => rfl
  | cons a cs ih =>
    have hr : List.range (a :: cs).length = 0 :: (List.range cs.length).map Nat.succ := by
      rw [List.length_cons, List.range_succ_eq_map]
    rw [hr]
    have etail : ((List.range cs.length).map Nat.succ).filter (fun t => p ((a :: cs).getD t 0)) =
        ((List.range cs.length).filter fun t => p (cs.getD t 0)).map Nat.succ := by
      rw [List.filter_map]
      congr 1
    cases hp : p a
    · rw [List.filter_cons_of_neg (by show ¬ p a = true; rw [hp]; exact Bool.false_ne_true),
        List.filter_cons_of_neg (by rw [hp]; exact Bool.false_ne_true), etail, List.length_map, ih]
    · rw [List.filter_cons_of_pos (by show p a = true; exact hp), List.filter_cons_of_pos hp, List.length_cons,
        List.length_cons, etail, List.length_map, ih]

/-- the free columns left of the pivot of row `s` are `piv s − s` in number -/
theorem cntBelow_pivot (k c : Nat) (piv : Nat → Nat) (hinc : ∀ i i', i < i' → i' < k → piv i < piv i')
    (hb : ∀ i, i < k → piv i < c) (s : Nat) (hs : s < k) :
    cntBelow ((List.range c).filter fun j => !isPiv k piv j)
      ((List.range c).filter fun j => !isPiv k piv j).length (piv s) + s = piv s := by
  unfold cntBelow
  rw [length_filter_index _ (fun j => decide (j < piv s)), List.filter_filter]
  have hP := hb s hs
  have e1 : (List.range c).filter (fun j => decide (j < piv s) && !isPiv k piv j) =
      (List.range (piv s)).filter fun j => !isPiv k piv j := by
    rw [filter_range_split c (piv s) _ (by omega)]
    have h2 : (List.range c).filter (fun j => decide (piv s ≤ j) && (decide (j < piv s) && !isPiv k piv j)) = [] := by
      rw [List.filter_eq_nil_iff]
      intro j _
      by_cases h : piv s ≤ j
      · have : ¬ j < piv s := by omega
        simp [this]
      · simp [h]
    rw [h2, List.append_nil]
    apply List.filter_congr
    intro j hj
    have := List.mem_range.mp hj
    simp [this]
  rw [e1]
  have h3 := length_filter_not (List.range (piv s)) (isPiv k piv)
  rw [filter_isPiv_aux k piv hinc (piv s) s (by omega) (fun i hi => hinc i s hi hs)
    (fun i hi hik => by
      rcases Nat.eq_or_lt_of_le hi with e | h
      · rw [e]; exact Nat.le_refl _
      · exact Nat.le_of_lt (hinc s i h hik))] at h3
  simpa using h3

/-! ### the basis vectors of `_solution_basis_finder` -/

/-- the setting: `m` is the echelon matrix of the `k` pivot rows, `colList` its non-pivot columns, `ainv` the inverse of the
    pivot-column matrix -/
structure BasisCtx (m : BMat) (k : Nat) (piv : Nat → Nat) (colList : List Nat) (ainv : BMat) : Prop where
  hk : 0 < k
  hr : m.r = k
  hP : Piv m k m.c piv
  hL : ∀ i, i < k → ∀ j, j < piv i → m.f i j = false
  hcols : colList = (List.range m.c).filter fun j => !isPiv k piv j
  hinv : gf2Inv (deleteCols m colList) = .ok ainv

theorem BasisCtx.sorted {m : BMat} {k : Nat} {piv : Nat → Nat} {colList : List Nat} {ainv : BMat}
    (h : BasisCtx m k piv colList ainv) : SortedBelow colList m.c := by
  rw [h.hcols]
  exact ⟨List.Pairwise.filter _ List.pairwise_lt_range, fun c hc => List.mem_range.mp (List.mem_filter.mp hc).1⟩

theorem BasisCtx.shape {m : BMat} {k : Nat} {piv : Nat → Nat} {colList : List Nat} {ainv : BMat}
    (h : BasisCtx m k piv colList ainv) : m.r + colList.length = m.c := by
  have h1 := length_filter_not (List.range m.c) (isPiv k piv)
  rw [filter_isPiv k m.c piv h.hP.incr h.hP.bound, ← h.hcols] at h1
  rw [h.hr]
  simp at h1
  omega

theorem BasisCtx.keep {m : BMat} {k : Nat} {piv : Nat → Nat} {colList : List Nat} {ainv : BMat}
    (h : BasisCtx m k piv colList ainv) : keepCols m colList = (List.range k).map piv := by
  have := keepCols_eq_pivots m k piv h.hk h.hr h.hP h.hL
  rw [colFinder_exact m k piv h.hk h.hr h.hP h.hL, ← h.hcols] at this
  exact this

/-- the `x` part of the `i`-th basis vector: `A⁻¹ b` for `b` = column `colList[i]` of `m` -/
def xPart (m : BMat) (colList : List Nat) (ainv : BMat) (i : Nat) : List Bool :=
  (List.range m.r).map fun k' => parityTo m.r fun l => ainv.f k' l && m.f l (colList.getD i 0)

theorem basisVec_eq (m : BMat) (colList : List Nat) (ainv : BMat) (i : Nat) :
    basisVec m colList ainv i =
      (List.range colList.length).foldl (fun acc j => pyInsert acc (colList.getD j 0) (decide (i = j)))
        (xPart m colList ainv i) := rfl

/-- the unit pattern of a basis vector on the free columns: the entry at free column `t` is `[s = t]` -/
theorem basisVec_unit {m : BMat} {k : Nat} {piv : Nat → Nat} {colList : List Nat} {ainv : BMat}
    (h : BasisCtx m k piv colList ainv) (s t : Nat) (ht : t < colList.length) :
    vget (basisVec m colList ainv s) (colList.getD t 0) = decide (s = t) := by
  rw [basisVec_eq]
  exact (splice_spec (xPart m colList ainv s) colList s m.c h.sorted (by simp [xPart]; exact h.shape.symm)
    colList.length (Nat.le_refl _)).2.1 t ht

theorem basisVec_length {m : BMat} {k : Nat} {piv : Nat → Nat} {colList : List Nat} {ainv : BMat}
    (h : BasisCtx m k piv colList ainv) (i : Nat) : (basisVec m colList ainv i).length = m.c := by
  rw [basisVec_eq]
  have := (splice_spec (xPart m colList ainv i) colList i m.c h.sorted (by simp [xPart]; exact h.shape.symm)
    colList.length (Nat.le_refl _)).1
  rw [this]
  simp [xPart]
  exact h.shape

theorem basisVec_pivot {m : BMat} {k : Nat} {piv : Nat → Nat} {colList : List Nat} {ainv : BMat}
    (h : BasisCtx m k piv colList ainv) (i s : Nat) (hs : s < k) :
    vget (basisVec m colList ainv i) (piv s) = vget (xPart m colList ainv i) s := by
  rw [basisVec_eq]
  have hxl : (xPart m colList ainv i).length = k := by simp [xPart, h.hr]
  have hb := h.hP.bound s hs
  rw [(splice_spec (xPart m colList ainv i) colList i m.c h.sorted (by rw [hxl, ← h.hr]; exact h.shape.symm)
    colList.length (Nat.le_refl _)).2.2 (piv s) (by rw [hxl, ← h.hr, h.shape]; exact hb)
    (fun t ht e => by
      have hm := getD_mem_of_lt colList t ht
      rw [e] at hm
      rw [h.hcols, List.mem_filter] at hm
      have := (isPiv_iff k piv (piv s)).mpr ⟨s, hs, rfl⟩
      rw [this] at hm
      simp at hm)]
  congr 1
  have := cntBelow_pivot k m.c piv h.hP.incr h.hP.bound s hs
  rw [← h.hcols] at this
  omega

/-- **every vector built by `_solution_basis_finder` solves the reduced system** (`A (A⁻¹ b) + b = 0`) -/
theorem basisVec_solves {m : BMat} {k : Nat} {piv : Nat → Nat} {colList : List Nat} {ainv : BMat}
    (h : BasisCtx m k piv colList ainv) (i : Nat) (hi : i < colList.length) :
    SolF m (vget (basisVec m colList ainv i)) := by
  refine solF_of_kept m colList ainv h.hinv _ fun t ht => ?_
  have ht' : t < k := by rw [← h.hr]; exact ht
  have hkeepD : (keepCols m colList).getD t 0 = piv t := by rw [h.keep]; simp [List.getD, ht']
  rw [hkeepD, basisVec_pivot h i t ht']
  unfold xPart
  rw [vget_map_range m.r _ t ht]
  apply parityTo_congr
  intro l _
  congr 1
  -- `b_l`: among the free columns only `colList[i]` carries a 1
  have hfil : (List.range m.c).filter (fun j => colList.contains j) = colList := by
    conv => rhs; rw [h.hcols]
    apply List.filter_congr
    intro j hj
    have hmem : j ∈ colList ↔ (!isPiv k piv j) = true := by
      conv => lhs; rw [h.hcols]
      rw [List.mem_filter]
      exact ⟨fun x => x.2, fun x => ⟨hj, x⟩⟩
    rw [Bool.eq_iff_iff]
    simpa using hmem
  rw [parityTo_filter m.c (fun j => colList.contains j), hfil]
  refine ((parityTo_one _ i _ hi fun t' ht' hne => ?_).trans ?_).symm
  · rw [basisVec_unit h i t' ht', decide_eq_false (Ne.symm hne), Bool.and_false]
  · rw [basisVec_unit h i i hi, decide_eq_true rfl, Bool.and_true]

end Graphiq.LC
