/-
  Proofs/AltTargetLoop.lean — relabelling (composition, isomorphism, agreement with `relabel` of relabel_module.py) and the
  outer loops of `AlternateTargetSolver.solve` with the solver / LC conversion / relabel map as parameters.
-/
import GraphiqModel.Proofs.AltTarget
import GraphiqModel.Proofs.GraphOps
import GraphiqModel.Proofs.Check
namespace Graphiq
namespace Alt
open STab

/-! ### relabelling -/

theorem relabelAdj_iff (n : Nat) (A : Adj) (p : List Nat) (a b : Nat) :
    relabelAdj n A p a b = true ↔ ∃ u v, u < n ∧ v < n ∧ p.getD u n = a ∧ p.getD v n = b ∧ A u v = true := by
  unfold relabelAdj
  simp only [List.any_eq_true, List.mem_range, Bool.and_eq_true, beq_iff_eq]
  constructor
  · rintro ⟨u, hu, v, hv, ⟨e1, e2⟩, h⟩; exact ⟨u, v, hu, hv, e1, e2, h⟩
  · rintro ⟨u, v, hu, hv, e1, e2, h⟩; exact ⟨u, hu, v, hv, ⟨e1, e2⟩, h⟩

theorem relabelAdj_edge (n : Nat) (A : Adj) (p : List Nat)
    (hinj : ∀ u v, u < n → v < n → p.getD u n = p.getD v n → u = v) (u v : Nat) (hu : u < n) (hv : v < n) :
    relabelAdj n A p (p.getD u n) (p.getD v n) = A u v := by
  cases h : A u v with
  | true => exact (relabelAdj_iff n A p _ _).mpr ⟨u, v, hu, hv, rfl, rfl, h⟩
  | false =>
    apply Bool.eq_false_iff.mpr
    intro hc
    obtain ⟨u', v', hu', hv', e1, e2, ha⟩ := (relabelAdj_iff n A p _ _).mp hc
    have := hinj u' u hu' hu e1
    have := hinj v' v hv' hv e2
    subst_vars
    rw [h] at ha; cases ha

theorem compLabels_getD (n : Nat) (p q : List Nat) (u : Nat) (hu : u < n) :
    (compLabels n p q).getD u n = q.getD (p.getD u n) n := by
  simp [compLabels, List.getD, hu]

/-- **relabelling composes**: renaming by `p` and then by `q` is renaming by `u ↦ q[p[u]]` (for every `p` that maps vertices to
    vertices; no injectivity needed) -/
theorem relabelAdj_comp (n : Nat) (A : Adj) (p q : List Nat) (hp : ∀ u, u < n → p.getD u n < n) (a b : Nat) :
    relabelAdj n (relabelAdj n A p) q a b = relabelAdj n A (compLabels n p q) a b := by
  apply Bool.eq_iff_iff.mpr
  rw [relabelAdj_iff, relabelAdj_iff]
  constructor
  · rintro ⟨u, v, _, _, e1, e2, h⟩
    obtain ⟨u', v', hu', hv', f1, f2, h'⟩ := (relabelAdj_iff n A p u v).mp h
    refine ⟨u', v', hu', hv', ?_, ?_, h'⟩
    · rw [compLabels_getD n p q u' hu', f1, e1]
    · rw [compLabels_getD n p q v' hv', f2, e2]
  · rintro ⟨u', v', hu', hv', e1, e2, h'⟩
    rw [compLabels_getD n p q u' hu'] at e1
    rw [compLabels_getD n p q v' hv'] at e2
    exact ⟨p.getD u' n, p.getD v' n, hp u' hu', hp v' hv', e1, e2,
      (relabelAdj_iff n A p _ _).mpr ⟨u', v', hu', hv', rfl, rfl, h'⟩⟩

/-- **relabelling by a permutation yields an isomorphic graph**: the permutation is an isomorphism (in the sense recorded for
    networkx's matcher, C16) from the graph to its renaming -/
theorem relabelAdj_iso (n : Nat) (A : Adj) (p : List Nat) (hp : p.Perm (List.range n)) :
    isIsoMap n A (relabelAdj n A p) p = true :=
  perm_iso n A _ p hp (relabelAdj_edge n A p (perm_getD n p hp).2.2)

/-- for a permutation the renamed graph is the matrix `Pᵀ A P` computed by `relabel` of relabel_module.py (C16's model) -/
theorem relabelAdj_eq_relabel (n : Nat) (A : Adj) (p : List Nat) (hp : p.Perm (List.range n)) (a b : Nat) (ha : a < n)
    (hb : b < n) : Graphiq.relabelAdj n A p a b = relabelAdj n A p a b := by
  obtain ⟨hlen, _, hinj⟩ := perm_getD n p hp
  obtain ⟨u, hu, eu⟩ := perm_surj n p hp a ha
  obtain ⟨v, hv, ev⟩ := perm_surj n p hp b hb
  have gu : p.getD u n = a := getD_of_getElem? p u a n eu
  have gv : p.getD v n = b := getD_of_getElem? p v b n ev
  have h1 := relabelAdj_edge n A p hinj u v hu hv
  rw [gu, gv] at h1
  rw [h1]
  unfold Graphiq.relabelAdj
  rw [relabel_perm n A p (injLabels_of_perm n p hp) u v a b hu hv eu ev]
  cases A u v <;> simp [Bool.toInt']

/-! ### what "generates" means, independent of how the adjacency function behaves outside `0..n-1` -/

/-- under every combination of measurement outcomes the circuit leaves the photons in the graph state of `A`, emitters in |0⟩ -/
def Generates (ne np : Nat) (ops : List COp) (A : Adj) : Prop :=
  ∀ script : List Bool, script.length = countMeas ops →
    ∃ s, stabRun ne np .prob script ops = some s ∧ SpanEq (STab.ofTab s.t) (targetSTab np ne A)

theorem targetSTab_congr (np ne : Nat) (A B : Adj) (h : ∀ i j, i < np → j < np → A i j = B i j) :
    SpanEq (targetSTab np ne A) (targetSTab np ne B) := by
  refine spanEq_of_rows _ _ rfl (fun i _ => ?_)
  simp only [targetSTab]
  split
  · next hi =>
    refine ⟨fun j _ => ⟨rfl, ?_⟩, rfl, rfl⟩
    by_cases hj : j < np
    · simp [hj, h i j hi hj]
    · simp [hj]
  · exact PRow.EqOn.refl _ _

theorem generates_congr (ne np : Nat) (ops : List COp) (A B : Adj) (h : ∀ i j, i < np → j < np → A i j = B i j)
    (hg : Generates ne np ops A) : Generates ne np ops B := by
  intro script hl
  obtain ⟨s, hs, se⟩ := hg script hl
  exact ⟨s, hs, se.trans (targetSTab_congr np ne A B h)⟩

/-! ### the loops -/

theorem lcEntry_ok_iff (P : Parts) (iso : BMat) (rmap : List Nat) (i k : Nat) (lc : BMat) (e : Entry) :
    lcEntry P iso rmap i k lc = .ok e ↔ ∃ ne ops gates, P.solver lc = some (ne, ops) ∧ P.conv lc iso = some gates ∧
      e = { ne := ne, ops := if lc.beq iso then ops else ops ++ gates, g := lc, map := rmap, src := (i, k) } := by
  unfold lcEntry
  cases P.solver lc with
  | none => simp
  | some r =>
    cases P.conv lc iso with
    | none => simp
    | some gates =>
      refine ⟨fun h => ⟨r.1, r.2, gates, rfl, rfl, (Except.ok.inj h).symm⟩, ?_⟩
      rintro ⟨ne, ops, g, h1, h2, rfl⟩
      cases h1; cases h2; rfl

theorem solve_ok_iff (P : Parts) (pick : List Nat → Nat) (out : List Entry) :
    solve P pick = .ok out ↔ ∃ es, allEntries P = .ok es ∧ dedup pick (es.map fun e => e.g.flat) es = out := by
  unfold solve
  cases allEntries P <;> simp

theorem lcLoop_spec (P : Parts) (iso : BMat) (rmap : List Nat) (i : Nat) (lcs : List BMat) (k : Nat)
    (acc out : List Entry) (h : lcLoop P iso rmap i lcs k acc = .ok out) :
    ∃ new, out = acc ++ new ∧ ∀ e, e ∈ new → ∃ lc k', lc ∈ lcs ∧ lcEntry P iso rmap i k' lc = .ok e := by
  induction lcs generalizing k acc with
  | nil =>
    simp only [lcLoop] at h
    injection h with h
    exact ⟨[], by simp [h], fun _ he => by cases he⟩
  | cons lc rest ih =>
    simp only [lcLoop] at h
    split at h
    · cases h
    · next en hen =>
      obtain ⟨new, e1, e2⟩ := ih (k + 1) (acc ++ [en]) h
      refine ⟨en :: new, by rw [e1]; simp, ?_⟩
      intro e he
      rcases List.mem_cons.mp he with he | he
      · rw [he]; exact ⟨lc, k, List.mem_cons_self, hen⟩
      · obtain ⟨lc', k', hm, hh⟩ := e2 e he
        exact ⟨lc', k', List.mem_cons_of_mem _ hm, hh⟩

theorem isoLoop_spec (P : Parts) (isos : List BMat) (i : Nat) (acc out : List Entry)
    (h : isoLoop P isos i acc = .ok out) :
    ∃ new, out = acc ++ new ∧ ∀ e, e ∈ new → ∃ iso i' lc k', iso ∈ isos ∧ lc ∈ P.lcGraphs iso ∧
      lcEntry P iso (P.relabelMap iso) i' k' lc = .ok e := by
  induction isos generalizing i acc with
  | nil =>
    simp only [isoLoop] at h
    injection h with h
    exact ⟨[], by simp [h], fun _ he => by cases he⟩
  | cons iso rest ih =>
    simp only [isoLoop] at h
    split at h
    · cases h
    · next acc' hacc =>
      obtain ⟨new1, e1, f1⟩ := lcLoop_spec P iso (P.relabelMap iso) i (P.lcGraphs iso) 0 acc acc' hacc
      obtain ⟨new2, e2, f2⟩ := ih (i + 1) acc' h
      refine ⟨new1 ++ new2, by rw [e2, e1]; simp, ?_⟩
      intro e he
      rcases List.mem_append.mp he with he | he
      · obtain ⟨lc, k', hm, hh⟩ := f1 e he
        exact ⟨iso, i, lc, k', List.mem_cons_self, hm, hh⟩
      · obtain ⟨iso', i', lc, k', hm1, hm2, hh⟩ := f2 e he
        exact ⟨iso', i', lc, k', List.mem_cons_of_mem _ hm1, hm2, hh⟩

theorem allEntries_spec (P : Parts) (es : List Entry) (h : allEntries P = .ok es) :
    ∀ e, e ∈ es → ∃ iso i lc k, iso ∈ P.isoAdjs ∧ lc ∈ P.lcGraphs iso ∧
      lcEntry P iso (P.relabelMap iso) i k lc = .ok e := by
  obtain ⟨new, e1, f⟩ := isoLoop_spec P P.isoAdjs 0 [] es h
  intro e he
  rw [e1] at he
  exact f e (by simpa using he)

theorem solve_conv_congr (P : Parts) (conv' : BMat → BMat → Option (List COp)) (pick : List Nat → Nat)
    (h : ∀ a b, P.conv a b = conv' a b) : solve P pick = solve { P with conv := conv' } pick := by
  have : P.conv = conv' := funext fun a => funext fun b => h a b
  rw [← this]

theorem conv_isSome_of_solve (P : Parts) (pick : List Nat → Nat) (out : List Entry) (h : solve P pick = .ok out)
    (hne : out ≠ []) : ∃ iso lc, iso ∈ P.isoAdjs ∧ lc ∈ P.lcGraphs iso ∧ (P.conv lc iso).isSome = true := by
  obtain ⟨es, hes, h⟩ := (solve_ok_iff P pick out).mp h
  cases es with
  | nil => exact absurd h.symm hne
  | cons e rest =>
    obtain ⟨iso, i, lc, k, h1, h2, h3⟩ := allEntries_spec P _ hes e (by simp)
    obtain ⟨_, _, gates, _, hc, _⟩ := (lcEntry_ok_iff _ _ _ _ _ _ _).mp h3
    exact ⟨iso, lc, h1, h2, by rw [hc]; rfl⟩

theorem beq_agree (a b : BMat) (h : a.beq b = true) : ∀ i j, i < a.r → j < a.c → a.f i j = b.f i j := by
  unfold BMat.beq at h
  simp only [Bool.and_eq_true, beq_iff_eq, List.all_eq_true, List.mem_range] at h
  exact fun i j hi hj => h.2 i hi j hj

/-- **one entry is right when the parts are**: if the solver's circuit generates the LC graph, the conversion gates turn a
    generator of the LC graph into a generator of the relabelled target, and the relabel map renames the target into that
    relabelled target, then the entry's circuit generates the target renamed by the entry's map -/
theorem lcEntry_generates (P : Parts) (np : Nat) (target : Adj) (iso lc : BMat) (i k : Nat) (e : Entry)
    (hsolver : ∀ ne ops, P.solver lc = some (ne, ops) → Generates ne np ops lc.f)
    (hconv : ∀ ne ops gates, P.conv lc iso = some gates → Generates ne np ops lc.f → Generates ne np (ops ++ gates) iso.f)
    (hshape : lc.r = np ∧ lc.c = np)
    (hmap : ∀ a b, a < np → b < np → iso.f a b = relabelAdj np target (P.relabelMap iso) a b)
    (h : lcEntry P iso (P.relabelMap iso) i k lc = .ok e) :
    Generates e.ne np e.ops (relabelAdj np target e.map) ∧ e.g = lc ∧ e.map = P.relabelMap iso := by
  obtain ⟨ne, ops, gates, hs, hc, rfl⟩ := (lcEntry_ok_iff _ _ _ _ _ _ _).mp h
  refine ⟨?_, rfl, rfl⟩
  have g1 := hsolver ne ops hs
  by_cases hb : lc.beq iso = true
  · simp only [hb, if_true]
    have hag := beq_agree lc iso hb
    rw [hshape.1, hshape.2] at hag
    exact generates_congr ne np ops lc.f _ (fun a b ha hb' => (hag a b ha hb').trans (hmap a b ha hb')) g1
  · simp only [hb, Bool.false_eq_true, if_false]
    exact generates_congr ne np _ iso.f _ hmap (hconv ne ops gates hc g1)

/-- **the result of `solve`**: every returned entry generates the target renamed by its map and lists the LC graph it was
    built from, the listed graphs are pairwise different, and every graph listed before the duplicate removal is still listed —
    provided the parts are correct and `pick` returns a member of its class -/
theorem solve_spec (P : Parts) (pick : List Nat → Nat) (np : Nat) (target : Adj) (out : List Entry)
    (hsolver : ∀ iso lc ne ops, iso ∈ P.isoAdjs → lc ∈ P.lcGraphs iso → P.solver lc = some (ne, ops) →
      Generates ne np ops lc.f)
    (hconv : ∀ iso lc ne ops gates, iso ∈ P.isoAdjs → lc ∈ P.lcGraphs iso → P.conv lc iso = some gates →
      Generates ne np ops lc.f → Generates ne np (ops ++ gates) iso.f)
    (hshape : ∀ iso lc, iso ∈ P.isoAdjs → lc ∈ P.lcGraphs iso → lc.r = np ∧ lc.c = np)
    (hmap : ∀ iso, iso ∈ P.isoAdjs → ∀ a b, a < np → b < np →
      iso.f a b = relabelAdj np target (P.relabelMap iso) a b)
    (hpick : ∀ keys : List (List Bool), ∀ s, s ∈ setList keys → pick s ∈ s)
    (h : solve P pick = .ok out) :
    (∀ e, e ∈ out → Generates e.ne np e.ops (relabelAdj np target e.map)) ∧
    out.Pairwise (fun e e' => e.g.flat ≠ e'.g.flat) ∧
    ∃ es, allEntries P = .ok es ∧ out.Sublist es ∧ ∀ e, e ∈ es → ∃ e', e' ∈ out ∧ e'.g.flat = e.g.flat := by
  obtain ⟨es, hes, h⟩ := (solve_ok_iff P pick out).mp h
  have hall := allEntries_spec P es hes
  obtain ⟨T, eT, sT, gT, pT, cT⟩ := dedup_spec pick (es.map fun e => e.g.flat) es (List.length_map _).symm (hpick _)
  rw [eT] at h
  have hsub : out.Sublist es := by
    rw [← h]
    have := sT.map Prod.fst
    rw [zipIdx_map_fst] at this
    exact this
  have key_of : ∀ x, x ∈ T → (es.map fun e => e.g.flat)[x.2]? = some x.1.g.flat := by
    intro x hx
    rw [List.getElem?_map, gT x hx]; rfl
  refine ⟨?_, ?_, es, hes, hsub, ?_⟩
  · intro e he
    obtain ⟨iso, i, lc, k, h1, h2, h3⟩ := hall e (hsub.subset he)
    exact (lcEntry_generates P np target iso lc i k e (fun ne ops => hsolver iso lc ne ops h1 h2)
      (fun ne ops gates => hconv iso lc ne ops gates h1 h2) (hshape iso lc h1 h2) (hmap iso h1) h3).1
  · rw [← h, List.pairwise_map]
    refine List.Pairwise.imp_of_mem ?_ pT
    intro x y hx hy hne heq
    apply hne
    rw [key_of x hx, key_of y hy, heq]
  · intro e he
    obtain ⟨j, hj, ej⟩ := List.getElem_of_mem he
    obtain ⟨x, hx, kx⟩ := cT j (by simpa using hj)
    refine ⟨x.1, by rw [← h]; exact List.mem_map_of_mem hx, ?_⟩
    rw [key_of x hx, List.getElem?_map, List.getElem?_eq_getElem hj, ej] at kx
    exact Option.some.inj kx

end Alt
end Graphiq
