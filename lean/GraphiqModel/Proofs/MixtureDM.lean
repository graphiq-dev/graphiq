/-
  Proofs/MixtureDM.lean — C06 (c) at the Hilbert-space level, every number of qubits:

  * `mixRho n m = Σ_k w_k · ρ(T_k)` — the density matrix a stabilizer mixture `m = [(w_k, T_k)]` stands for (Mathlib matrix over
    ℂ indexed by `Bits n`, `ρ(T)` the state `Hilbert.rho` of the stabilizer half of the Clifford tableau);
  * the Hilbert-space action of every step of the stabilizer-mixture compile commutes with `mixRho`:
      - a gate on every branch (`Mix.mapTab`, with the tabulation after it)  ↦  `U ρ U†`            (`mixRho_mapGate`);
      - `PauliError`                                                        ↦  `P ρ P†`            (`mixRho_pauliError`);
      - `DepolarizingNoise` — branching with the `factor > 0` filter, then `reduce()` as coded —
                                             ↦  `(1−p) ρ + p/3 (XρX + YρY + ZρZ)`                   (`mixRho_depolarize`);
      - `PhotonLoss`                                                        ↦  `(1−λ) ρ`           (`mixRho_photonLoss`);
      - `MixedStabilizer.reduce()` (pops while enumerating)                 ↦  identity            (`mixRho_reduce`).
-/
import GraphiqModel.Proofs.HilbertTab
import GraphiqModel.Proofs.HilbertPure
import GraphiqModel.Proofs.Noise
namespace Graphiq
namespace MixDM
open Matrix Hilbert Noise

abbrev HMat (n : Nat) := Matrix (Bits n) (Bits n) ℂ

/-- the state of the stabilizer half of a Clifford tableau -/
noncomputable def tabRho (n : Nat) (t : Tab) : HMat n := rho n (STab.ofTab t)

/-- **`Σ_k w_k ρ(T_k)`**: the density matrix a stabilizer mixture stands for -/
noncomputable def mixRho (n : Nat) : Mixture → HMat n
  | [] => 0
  | x :: m => ((x.1 : ℚ) : ℂ) • tabRho n x.2 + mixRho n m

theorem mixRho_nil (n : Nat) : mixRho n [] = 0 := rfl
theorem mixRho_cons (n : Nat) (w : Rat) (t : Tab) (m : Mixture) :
    mixRho n ((w, t) :: m) = ((w : ℚ) : ℂ) • tabRho n t + mixRho n m := rfl

theorem mixRho_append (n : Nat) (a b : Mixture) : mixRho n (a ++ b) = mixRho n a + mixRho n b := by
  induction a with
  | nil => simp [mixRho_nil]
  | cons x xs ih =>
    obtain ⟨w, t⟩ := x
    simp only [List.cons_append, mixRho_cons, ih, add_assoc]

/-- all branches are tableaux on `n` qubits: `Mix.All (fun t => t.n = n)` written out -/
def MixN (n : Nat) (m : Mixture) : Prop := ∀ x ∈ m, x.2.n = n

theorem MixN.tail {n : Nat} {x : Rat × Tab} {m : Mixture} (h : MixN n (x :: m)) : MixN n m :=
  fun y hy => h y (List.mem_cons_of_mem _ hy)
theorem MixN.head {n : Nat} {x : Rat × Tab} {m : Mixture} (h : MixN n (x :: m)) : x.2.n = n := h x List.mem_cons_self
theorem MixOK.mixN {n : Nat} {m : Mixture} (h : MixOK n m) : MixN n m := fun x hx => (h x hx).1

/-! ### tabulation and `__eq__` do not change the state -/

theorem tabRho_congr (n : Nat) (t t' : Tab) (hn : t.n = n) (hn' : t'.n = n)
    (h : ∀ i, n ≤ i → i < 2 * n → PRow.EqOn n (t.row i) (t'.row i)) : tabRho n t = tabRho n t' := by
  subst hn; exact rho_ofTab_congr t t' hn' h

theorem tabRho_norm (n : Nat) (t : Tab) (hn : t.n = n) : tabRho n t.norm = tabRho n t := by
  subst hn; exact rho_ofTab_norm t

/-- `CliffordTableau.__eq__` (all `2n` rows equal, phases included) implies equal states -/
theorem tabRho_tabEq (n : Nat) (t t' : Tab) (hn : t.n = n) (h : Mix.tabEq t t' = true) : tabRho n t = tabRho n t' := by
  unfold Mix.tabEq at h
  simp only [Bool.and_eq_true, beq_iff_eq, List.all_eq_true, List.mem_range] at h
  apply tabRho_congr n t t' hn (by rw [← h.1]; exact hn)
  intro i _ h2
  have := PRow.beqOn_eqOn _ _ _ (h.2 i (by rw [hn]; exact h2))
  rw [hn] at this
  exact this

theorem mixRho_trace (n : Nat) : ∀ (m : Mixture), MixOK n m → (mixRho n m).trace = ((Mix.total m : ℚ) : ℂ)
  | [], _ => by rw [mixRho_nil, Matrix.trace_zero, Mix.total_nil, Rat.cast_zero]
  | (w, t) :: rest, h => by
    obtain ⟨hn, hv⟩ := h (w, t) List.mem_cons_self
    subst hn
    rw [mixRho_cons, Matrix.trace_add, Matrix.trace_smul, mixRho_trace t.n rest (fun x hx => h x (List.mem_cons_of_mem _ hx)),
      Mix.total_cons, Rat.cast_add]
    show _ • (rho t.n (STab.ofTab t)).trace + _ = _
    rw [rho_ofTab_trace t hv, smul_eq_mul, mul_one]

/-! ### gates on every branch -/

noncomputable def conjH {n : Nat} (U ρ : HMat n) : HMat n := U * ρ * Uᴴ

theorem conjH_add {n : Nat} (U a b : HMat n) : conjH U (a + b) = conjH U a + conjH U b := by
  unfold conjH; rw [mul_add, add_mul]
theorem conjH_smul {n : Nat} (U a : HMat n) (c : ℂ) : conjH U (c • a) = c • conjH U a := by
  unfold conjH; rw [mul_smul_comm, smul_mul_assoc]
theorem conjH_zero {n : Nat} (U : HMat n) : conjH U 0 = 0 := by unfold conjH; simp
theorem conjH_one {n : Nat} (ρ : HMat n) : conjH 1 ρ = ρ := by unfold conjH; simp

/-! ### operations done branch by branch -/

/-- **an operation done branch by branch acts on `Σ w_k ρ(T_k)` as an additive map that it realises on every branch** -/
theorem mixRho_flatMap (n : Nat) (L : HMat n → HMat n) (h0 : L 0 = 0) (hadd : ∀ a b, L (a + b) = L a + L b)
    (g : Rat × Tab → Mixture) : ∀ m : Mixture,
      (∀ x ∈ m, mixRho n (g x) = L (((x.1 : ℚ) : ℂ) • tabRho n x.2)) → mixRho n (m.flatMap g) = L (mixRho n m)
  | [], _ => by rw [List.flatMap_nil, mixRho_nil, h0]
  | x :: m, h => by
    rw [List.flatMap_cons, mixRho_append, h x List.mem_cons_self,
      mixRho_flatMap n L h0 hadd g m (fun y hy => h y (List.mem_cons_of_mem _ hy)), ← hadd]
    rfl

theorem mixRho_filterMap (n : Nat) (L : HMat n → HMat n) (h0 : L 0 = 0) (hadd : ∀ a b, L (a + b) = L a + L b)
    (f : Rat × Tab → Option (Rat × Tab)) : ∀ m : Mixture,
      (∀ x ∈ m, mixRho n (f x).toList = L (((x.1 : ℚ) : ℂ) • tabRho n x.2)) → mixRho n (m.filterMap f) = L (mixRho n m)
  | [], _ => by rw [List.filterMap_nil, mixRho_nil, h0]
  | x :: m, h => by
    have hx := h x List.mem_cons_self
    have ih := mixRho_filterMap n L h0 hadd f m (fun y hy => h y (List.mem_cons_of_mem _ hy))
    have e : mixRho n (x :: m) = ((x.1 : ℚ) : ℂ) • tabRho n x.2 + mixRho n m := rfl
    rw [List.filterMap_cons, e, hadd, ← hx, ← ih]
    cases f x with
    | none => exact (zero_add _).symm
    | some y => exact mixRho_append n [y] _

theorem mixRho_map (n : Nat) (L : HMat n → HMat n) (h0 : L 0 = 0) (hadd : ∀ a b, L (a + b) = L a + L b)
    (f : Rat × Tab → Rat × Tab) (m : Mixture)
    (h : ∀ x ∈ m, (((f x).1 : ℚ) : ℂ) • tabRho n (f x).2 = L (((x.1 : ℚ) : ℂ) • tabRho n x.2)) :
    mixRho n (m.map f) = L (mixRho n m) := by
  rw [List.map_eq_flatMap]
  exact mixRho_flatMap n L h0 hadd _ m (fun x hx => (add_zero _).trans (h x hx))

theorem tabRho_gate (n : Nat) (t : Tab) (hn : t.n = n) (g : Gate) (hg : g.WF n) :
    tabRho n (t.map g.act) = conjH (gateMat n g) (tabRho n t) := by
  subst hn
  exact (rho_tab_gate t g hg).symm

theorem mapTab_eq (f : Tab → Tab) (m : Mixture) : Mix.mapTab f m = m.map fun x => (x.1, (f x.2).norm) := rfl

/-- a gate applied to every branch (`Mix.mapTab`, tabulation included) conjugates `Σ w_k ρ(T_k)` by the gate's unitary -/
theorem mixRho_mapGate (n : Nat) (g : Gate) (hg : g.WF n) (m : Mixture) (hm : MixN n m) :
    mixRho n (Mix.mapTab (fun t => t.map g.act) m) = conjH (gateMat n g) (mixRho n m) := by
  rw [mapTab_eq]
  refine mixRho_map n _ (conjH_zero _) (conjH_add _) _ m (fun x hx => ?_)
  have hn : x.2.n = n := hm _ hx
  rw [conjH_smul, tabRho_norm n _ (show (x.2.map g.act).n = n from hn), tabRho_gate n x.2 hn g hg]

theorem mapTab_mixN (n : Nat) (f : Tab → Tab) (hf : ∀ t : Tab, t.n = n → (f t).n = n) (m : Mixture) (hm : MixN n m) :
    MixN n (Mix.mapTab f m) :=
  mapTab_all f hf m hm

theorem mixRho_photonLoss (n : Nat) (r : Rat) (m : Mixture) :
    mixRho n (Mix.photonLoss r m) = (((1 - r : ℚ)) : ℂ) • mixRho n m := by
  refine mixRho_map n (fun R => (((1 - r : ℚ)) : ℂ) • R) (smul_zero _) (smul_add _) _ m (fun x _ => ?_)
  obtain ⟨w, t⟩ := x
  show ((((1 - r) * w : ℚ)) : ℂ) • tabRho n t = _
  rw [smul_smul]; push_cast; rfl

/-! ### `reduce()` -/

theorem mixRho_eraseIdx (n : Nat) : ∀ (l : Mixture) (i : Nat) (p : Rat) (t : Tab), l[i]? = some (p, t) →
    mixRho n l = ((p : ℚ) : ℂ) • tabRho n t + mixRho n (l.eraseIdx i)
  | [], _, _, _, h => by simp at h
  | (p0, t0) :: rest, 0, p, t, h => by
    simp at h; obtain ⟨rfl, rfl⟩ := h
    simp [mixRho_cons]
  | (p0, t0) :: rest, i+1, p, t, h => by
    simp at h
    have ih := mixRho_eraseIdx n rest i p t h
    simp only [List.eraseIdx_cons_succ, mixRho_cons, ih]
    abel

/-- the inner scan of `reduce()`: what it removes from the list it adds to the weight of `t0` (equal tableau, equal state) -/
theorem reduceScan_mixRho (n : Nat) (t0 : Tab) (h0 : t0.n = n) : ∀ (fuel i : Nat) (p0 : Rat) (l : Mixture),
    (((Mix.reduceScan t0 fuel i p0 l).1 : ℚ) : ℂ) • tabRho n t0 + mixRho n (Mix.reduceScan t0 fuel i p0 l).2
      = ((p0 : ℚ) : ℂ) • tabRho n t0 + mixRho n l
  | 0, _, _, _ => by simp [Mix.reduceScan]
  | fuel+1, i, p0, l => by
    unfold Mix.reduceScan
    cases hl : l[i]? with
    | none => simp
    | some pt =>
      obtain ⟨pi, ti⟩ := pt
      simp only
      split
      · rename_i heq
        rw [reduceScan_mixRho n t0 h0 fuel (i + 1) (p0 + pi) (l.eraseIdx i), mixRho_eraseIdx n l i pi ti hl,
          ← tabRho_tabEq n t0 ti h0 heq]
        push_cast
        rw [add_smul, add_assoc]
      · exact reduceScan_mixRho n t0 h0 fuel (i + 1) p0 l

/-- **`MixedStabilizer.reduce()` — popping while enumerating included — never changes `Σ w_k ρ(T_k)`** (whatever the fuel:
    the model's `reduce` drops nothing it has not merged when `m.length ≤ fuel`) -/
theorem mixRho_reduce (n : Nat) : ∀ (fuel : Nat) (m : Mixture), m.length ≤ fuel → MixN n m →
    mixRho n (Mix.reduce fuel m) = mixRho n m
  | 0, m, h, _ => by
    have : m = [] := List.eq_nil_of_length_eq_zero (by omega)
    subst this; simp [Mix.reduce, mixRho_nil]
  | fuel+1, [], _, _ => by simp [Mix.reduce, mixRho_nil]
  | fuel+1, (p0, t0) :: rest, h, hm => by
    have hs := reduceScan_mixRho n t0 hm.head rest.length 0 p0 rest
    have hlen := (Mix.reduceScan_total t0 rest.length 0 p0 rest).2
    simp only [Mix.reduce]
    rw [mixRho_cons, mixRho_cons,
      mixRho_reduce n fuel _ (by simp at h; omega) (fun x hx => hm.tail x (reduceScan_sub t0 _ _ _ _ x hx))]
    exact hs

/-! ### Pauli errors and depolarizing noise -/

/-- the gate of the `k`-th one-qubit Pauli "transformation" of `DepolarizingNoise.apply` (`identity, x_gate, y_gate, z_gate`) -/
def pauliG (k q : Nat) : Gate :=
  match k with
  | 0 => .I q
  | 1 => .X q
  | 2 => .Y q
  | _ => .Z q

theorem pauliGate_eq : ∀ (k : Nat) (t : Tab) (q : Nat), Mix.pauliGate k t q = t.map (pauliG k q).act
  | 0, _, _ => rfl
  | 1, _, _ => rfl
  | 2, _, _ => rfl
  | _ + 3, _, _ => rfl

theorem pauliG_wf (n : Nat) : ∀ (k q : Nat), q < n → (pauliG k q).WF n
  | 0, _, _ => trivial
  | 1, _, h => h
  | 2, _, h => h
  | _ + 3, _, h => h

/-- the depolarizing channel on qubit `q` as the density-matrix backend applies it: `(1−p) ρ + p/3 (XρX† + YρY† + ZρZ†)` -/
noncomputable def depolH (n q : Nat) (p : Rat) (ρ : HMat n) : HMat n :=
  ((1 - p : ℚ) : ℂ) • ρ +
    ((p / 3 : ℚ) : ℂ) • (conjH (gateMat n (.X q)) ρ + conjH (gateMat n (.Y q)) ρ + conjH (gateMat n (.Z q)) ρ)

theorem depolH_add (n q : Nat) (p : Rat) (a b : HMat n) : depolH n q p (a + b) = depolH n q p a + depolH n q p b := by
  unfold depolH
  simp only [conjH_add, smul_add]
  abel

theorem depolH_smul (n q : Nat) (p : Rat) (c : ℂ) (a : HMat n) : depolH n q p (c • a) = c • depolH n q p a := by
  unfold depolH
  simp only [conjH_smul, smul_add, smul_comm c]

theorem depolH_zero (n q : Nat) (p : Rat) : depolH n q p (0 : HMat n) = 0 := by
  unfold depolH; simp [conjH_zero]

theorem tabRho_pauliGate (n : Nat) (k q : Nat) (hq : q < n) (t : Tab) (hn : t.n = n) :
    tabRho n (Mix.pauliGate k t q).norm = conjH (gateMat n (pauliG k q)) (tabRho n t) := by
  rw [pauliGate_eq, tabRho_norm n _ (show (t.map (pauliG k q).act).n = n from hn),
    tabRho_gate n t hn _ (pauliG_wf n k q hq)]

/-- one branch of `DepolarizingNoise.apply`: the Kraus terms with a positive factor sum to the depolarizing channel applied to
    the branch (the dropped terms have factor exactly 0 when `0 ≤ p ≤ 1`) -/
theorem mixRho_depolBranch (n q : Nat) (hq : q < n) (p : Rat) (hp0 : 0 ≤ p) (hp1 : p ≤ 1) (w : Rat) (t : Tab) (hn : t.n = n) :
    mixRho n (Mix.depolBranch p q w t) = ((w : ℚ) : ℂ) • depolH n q p (tabRho n t) := by
  have g0 : tabRho n (Mix.pauliGate 0 t q).norm = tabRho n t := by
    rw [tabRho_pauliGate n 0 q hq t hn]; exact conjH_one _
  have g1 := tabRho_pauliGate n 1 q hq t hn
  have g2 := tabRho_pauliGate n 2 q hq t hn
  have g3 := tabRho_pauliGate n 3 q hq t hn
  have hd : depolH n q p (tabRho n t) = ((1 - p : ℚ) : ℂ) • tabRho n t +
      ((p / 3 : ℚ) : ℂ) • (conjH (gateMat n (pauliG 1 q)) (tabRho n t) + conjH (gateMat n (pauliG 2 q)) (tabRho n t) +
        conjH (gateMat n (pauliG 3 q)) (tabRho n t)) := rfl
  rw [hd]
  rcases Mix.depolBranch_cases p q w t hp0 hp1 with ⟨rfl, e⟩ | ⟨rfl, e⟩ | e <;> rw [e] <;>
    simp only [Mix.depolTerm, Mix.depolFactors, List.getD_cons_zero, List.getD_cons_succ, mixRho_cons, mixRho_nil, g0, g1,
      g2, g3, smul_add, smul_smul, add_zero] <;> push_cast
  · simp
  · simp only [sub_self, mul_zero, zero_smul, zero_add]; abel
  · abel

theorem mixRho_flatMap_depol (n q : Nat) (hq : q < n) (p : Rat) (hp0 : 0 ≤ p) (hp1 : p ≤ 1) (m : Mixture) (hm : MixN n m) :
    mixRho n (m.flatMap fun x => Mix.depolBranch p q x.1 x.2) = depolH n q p (mixRho n m) :=
  mixRho_flatMap n _ (depolH_zero n q p) (depolH_add n q p) _ m (fun x hx => by
    rw [mixRho_depolBranch n q hq p hp0 hp1 x.1 x.2 (hm x hx), depolH_smul])

/-- **`DepolarizingNoise.apply` on a mixture** (branching, the `factor > 0` filter, the weight check and `reduce()` as coded)
    is the depolarizing channel on `Σ w_k ρ(T_k)`, for every probability `0 ≤ p ≤ 1` -/
theorem mixRho_depolarize (n q : Nat) (hq : q < n) (p : Rat) (hp0 : 0 ≤ p) (hp1 : p ≤ 1) (m m' : Mixture) (hm : MixN n m)
    (h : Mix.depolarize p q m = .ok m') : mixRho n m' = depolH n q p (mixRho n m) := by
  obtain ⟨_, _, rfl⟩ := Mix.depolarize_inv h
  rw [mixRho_reduce n _ _ (Nat.le_refl _) (depolBranches_all ((size_closed n).pauli hq) p m hm),
    mixRho_flatMap_depol n q hq p hp0 hp1 m hm]

theorem pauliGate_n (k : Nat) (t : Tab) (q : Nat) : (Mix.pauliGate k t q).norm.n = t.n := by rw [pauliGate_eq]; rfl

theorem depolarize_mixN (n q : Nat) (p : Rat) (m m' : Mixture) (hm : MixN n m) (h : Mix.depolarize p q m = .ok m') :
    MixN n m' :=
  applyNoise_all (fun k t ht => (pauliGate_n k t q).trans ht) (.depol p true) m m' hm h

theorem pauliError_mixN (n q : Nat) (k : PauliK) (m m' : Mixture) (hm : MixN n m)
    (h : Mix.pauliError k q m = .ok m') : MixN n m' :=
  applyNoise_all (fun j t ht => (pauliGate_n j t q).trans ht) (.pauli k true) m m' hm h

/-- Hilbert-space action of `PauliError(k)` on qubit `q`: conjugation by the Pauli -/
noncomputable def pauliH (n q : Nat) (k : PauliK) (ρ : HMat n) : HMat n :=
  match k with
  | .X => conjH (gateMat n (.X q)) ρ
  | .Y => conjH (gateMat n (.Y q)) ρ
  | .Z => conjH (gateMat n (.Z q)) ρ
  | _ => ρ

theorem mixRho_pauliError (n q : Nat) (hq : q < n) (k : PauliK) (m m' : Mixture) (hm : MixN n m)
    (h : Mix.pauliError k q m = .ok m') : mixRho n m' = pauliH n q k (mixRho n m) := by
  cases k <;> simp only [Mix.pauliError] at h
  · injection h with h; subst h; rfl
  · injection h with h; subst h; exact mixRho_mapGate n (.X q) hq m hm
  · injection h with h; subst h; exact mixRho_mapGate n (.Y q) hq m hm
  · injection h with h; subst h; exact mixRho_mapGate n (.Z q) hq m hm
  · cases h

end MixDM
end Graphiq
