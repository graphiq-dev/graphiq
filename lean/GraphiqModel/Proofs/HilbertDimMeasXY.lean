/-
  Proofs/HilbertDimMeasXY.lean — the X / Y measurements of clifford.py (`Tab.measX`, `Tab.measY`, `Tab.applyOpX` of
  `Model/Tableau.lean`): `rotated_meas` (a Z-measurement between a unitary change of basis and its inverse is the projective
  measurement in the rotated basis), `rho_measX`, `rho_measY`, and the desugaring of extended histories into base histories.

  `measXCoded` / `measYCoded` transcribe `measure_x` / `measure_y` as they were before the repair D52 (the basis change applied to
  the caller's tableau in place and never undone; that Python is not in `/repo` any more): `measXCoded_density` — the outcome is
  the X-measurement outcome, but the tableau left behind is `H · (post-X-measurement state) · H†`; `measX_plus_witness` — on `|++⟩`
  the state must not change, yet the tableau has the generator `Z₀` instead of `X₀` afterwards.
-/
import GraphiqModel.Proofs.HilbertDimBorn
import GraphiqModel.Proofs.HilbertDimExpect
namespace Graphiq
namespace Hilbert
open Matrix PRow TabSpec Tab

/-- `measure_x(tableau, q, determinism)` as coded: Hadamard in place, Z-measurement, no rotation back; returns the tableau the
    caller is left with and the outcome -/
def measXCoded (t : Tab) (q : Nat) (o : Bool) : Tab × Bool :=
  (((t.hGate q).zMeasure q o).1, ((t.hGate q).zMeasure q o).2.1)

/-- `measure_y` as coded: `phase_dagger_gate`, `hadamard_gate` in place, Z-measurement, no rotation back -/
def measYCoded (t : Tab) (q : Nat) (o : Bool) : Tab × Bool :=
  ((((t.sdgGate q).hGate q).zMeasure q o).1, (((t.sdgGate q).hGate q).zMeasure q o).2.1)

/-- the normalised post-measurement state of an X-measurement of qubit `q` with outcome `s` -/
noncomputable def postMeasX (n q : Nat) (s : Bool) (ρ : Matrix (Bits n) (Bits n) ℂ) : Matrix (Bits n) (Bits n) ℂ :=
  (Matrix.trace (proj n (Xq q s) * ρ))⁻¹ • (proj n (Xq q s) * ρ * proj n (Xq q s))

theorem had_conj_projX (n q : Nat) (hq : q < n) (s : Bool) :
    gateMat n (.H q) * proj n (Xq q s) * (gateMat n (.H q))ᴴ = proj n (Zq q s) := by
  apply conj_proj n _ (gate_unitary n (.H q) hq).1
  rw [gate_conj n (.H q) hq]
  show pauliMat n (PRow.h q (Xq q s)) = _
  rw [h_Xq]

/-- **witness**: `|++⟩`, `measure_x` of qubit 0.  The measurement is deterministic with outcome 0 (so the state must not
    change), but the tableau after the call has `Z₀` where it had `X₀`, and its density matrix is not the input's. -/
theorem measX_plus_witness (o : Bool) :
    ((Tab.plus 2).hGate 0).pivot 0 = none ∧ (measXCoded (Tab.plus 2) 0 o).2 = false ∧
    Grp (measXCoded (Tab.plus 2) 0 o).1 (Zq 0) ∧ Grp (Tab.plus 2) (Xq 0) ∧
    rho 2 (STab.ofTab (measXCoded (Tab.plus 2) 0 o).1) ≠ rho 2 (STab.ofTab (Tab.plus 2)) := by
  have hp : ((Tab.plus 2).hGate 0).pivot 0 = none := by decide
  have e := zMeasure_det_eq ((Tab.plus 2).hGate 0) 0 o hp
  have hres : (measXCoded (Tab.plus 2) 0 o).1 = (Tab.plus 2).hGate 0 := congrArg Prod.fst e
  have hout : (measXCoded (Tab.plus 2) 0 o).2 = false := by
    show (((Tab.plus 2).hGate 0).zMeasure 0 o).2.1 = false
    rw [e]
    decide
  have vp : (Tab.plus 2).Valid := (Tab.isSymplectic_iff _).mp (by decide)
  have rp : (Tab.plus 2).StabReal := stabRealB_spec _ (by decide)
  have v1 : ((Tab.plus 2).hGate 0).Valid := hGate_valid _ 0 (by decide) vp
  have r1 : ((Tab.plus 2).hGate 0).StabReal := gate_stabReal _ (.H 0) rp
  have gZ : Grp ((Tab.plus 2).hGate 0) (Zq 0) :=
    InSpan.eqv _ _ (grp_gen _ 0 (by decide)) (beqOn_eqOn 2 _ _ (by decide))
  have gX : Grp (Tab.plus 2) (Xq 0) :=
    InSpan.eqv _ _ (grp_gen _ 0 (by decide)) (beqOn_eqOn 2 _ _ (by decide))
  refine ⟨hp, hout, by rw [hres]; exact gZ, gX, ?_⟩
  rw [hres]
  intro heq
  have hsame := rho_determines_group 2 ((Tab.plus 2).hGate 0) (Tab.plus 2) rfl rfl v1 r1 vp rp heq
  have gZ' : Grp (Tab.plus 2) (Zq 0) := (hsame _).mp gZ
  have := grp_comm (Tab.plus 2) vp rp _ _ gZ' gX
  revert this
  decide

/-- a Z-measurement of `V ρ V†`, rotated back, is the projective measurement of `ρ` with the projectors `V† Π_Z V` -/
theorem rotated_meas (n q : Nat) (V : Matrix (Bits n) (Bits n) ℂ) (hV : Vᴴ * V = 1) (a : Bool → PRow)
    (ha : ∀ s, V * proj n (a s) * Vᴴ = proj n (Zq q s)) (o : Bool) (ρ : Matrix (Bits n) (Bits n) ℂ) :
    (∀ s, Matrix.trace (proj n (Zq q s) * (V * ρ * Vᴴ)) = Matrix.trace (proj n (a s) * ρ)) ∧
    Vᴴ * postMeas n q o (V * ρ * Vᴴ) * V
      = (Matrix.trace (proj n (a (measOutcome n q o (V * ρ * Vᴴ))) * ρ))⁻¹ •
          (proj n (a (measOutcome n q o (V * ρ * Vᴴ))) * ρ * proj n (a (measOutcome n q o (V * ρ * Vᴴ)))) := by
  have e1 : ∀ s, proj n (Zq q s) * (V * ρ * Vᴴ) = V * (proj n (a s) * ρ) * Vᴴ := by
    intro s
    rw [← ha s, conj_mul_conj V _ _ hV]
  have tr : ∀ s, Matrix.trace (proj n (Zq q s) * (V * ρ * Vᴴ)) = Matrix.trace (proj n (a s) * ρ) := by
    intro s
    rw [e1 s, trace_conj_unitary _ _ hV]
  refine ⟨tr, ?_⟩
  unfold postMeas
  generalize measOutcome n q o (V * ρ * Vᴴ) = s
  rw [tr, e1, ← ha s, conj_mul_conj V _ _ hV, Matrix.mul_smul, Matrix.smul_mul, conj_cancel Vᴴ V _ hV]

theorem gateMat_H_hermitian (n q : Nat) : (gateMat n (.H q))ᴴ = gateMat n (.H q) := by
  show (invSqrt2 • oneQ n q hadM)ᴴ = invSqrt2 • oneQ n q hadM
  rw [Matrix.conjTranspose_smul, star_invSqrt2, oneQ_conjTranspose, hadM_conjTranspose]

theorem gateMat_Pdag_conjTranspose (n q : Nat) : (gateMat n (.Pdag q))ᴴ = gateMat n (.P q) := by
  show (oneQ n q phaseDagM)ᴴ = oneQ n q phaseM
  rw [oneQ_conjTranspose, phaseDagM_eq_conjTranspose, Matrix.conjTranspose_conjTranspose]

/-- the normalised post-measurement state of a Y-measurement of qubit `q` with outcome `s` -/
noncomputable def postMeasY (n q : Nat) (s : Bool) (ρ : Matrix (Bits n) (Bits n) ℂ) : Matrix (Bits n) (Bits n) ℂ :=
  (Matrix.trace (proj n (Yrow q s) * ρ))⁻¹ • (proj n (Yrow q s) * ρ * proj n (Yrow q s))

theorem hadPdag_conj_projY (n q : Nat) (hq : q < n) (s : Bool) :
    (gateMat n (.H q) * gateMat n (.Pdag q)) * proj n (Yrow q s) * (gateMat n (.H q) * gateMat n (.Pdag q))ᴴ
      = proj n (Zq q s) := by
  have h1 : gateMat n (.Pdag q) * proj n (Yrow q s) * (gateMat n (.Pdag q))ᴴ = proj n (Xq q s) := by
    apply conj_proj n _ (gate_unitary n (.Pdag q) hq).1
    rw [gate_conj n (.Pdag q) hq]
    show pauliMat n (PRow.s q (PRow.s q (PRow.s q (Yrow q s)))) = _
    rw [s_Yq, s_Xq, s_Yq, Bool.not_not]
  rw [← conj_conj, h1, had_conj_projX n q hq s]

/-- a Z-measurement of a tableau whose state is `V ρ₀ V†`, rotated back by `V†`, is the projective measurement of `ρ₀` with the
    projectors `a s` (`V Π_{a s} V† = Π_{Z,s}`) -/
theorem meas_in_rotated_basis (n : Nat) (t1 : Tab) (hn : t1.n = n) (q : Nat) (o : Bool) (hq : q < n) (hv1 : t1.Valid)
    (hr1 : t1.StabReal) (V ρ0 : Matrix (Bits n) (Bits n) ℂ) (hV : Vᴴ * V = 1)
    (hρ1 : rho n (STab.ofTab t1) = V * ρ0 * Vᴴ) (a : Bool → PRow)
    (ha : ∀ s, V * proj n (a s) * Vᴴ = proj n (Zq q s)) :
    Vᴴ * rho n (STab.ofTab (t1.zMeasure q o).1) * V
      = (Matrix.trace (proj n (a (t1.zMeasure q o).2.1) * ρ0))⁻¹ •
          (proj n (a (t1.zMeasure q o).2.1) * ρ0 * proj n (a (t1.zMeasure q o).2.1)) ∧
    (t1.zMeasure q o).2.1 = (if Matrix.trace (proj n (a o) * ρ0) = 0 then !o else o) := by
  subst hn
  obtain ⟨m1, m2, _⟩ := meas_density t1 q o hq hv1 hr1
  rw [hρ1] at m1 m2
  obtain ⟨rt, rm⟩ := rotated_meas t1.n q V hV a ha o ρ0
  rw [m1, m2] at rm
  refine ⟨rm, ?_⟩
  rw [← m1]
  unfold measOutcome
  rw [rt o]

/-- **`measure_x` as coded, on density matrices**: with `s` the reported outcome, the tableau left behind is
    `H · postMeasX(ρ) · H†`: the true post-measurement state of the X-measurement conjugated by a Hadamard that is never
    undone; `s` is the outcome of the Z-measurement of `H ρ H†`, i.e. of the X-measurement of `ρ` -/
theorem measXCoded_density (t : Tab) (q : Nat) (o : Bool) (hq : q < t.n) (hv : t.Valid) (hr : t.StabReal) :
    rho t.n (STab.ofTab (measXCoded t q o).1)
      = gateMat t.n (.H q) * postMeasX t.n q (measXCoded t q o).2 (rho t.n (STab.ofTab t)) * (gateMat t.n (.H q))ᴴ ∧
    (measXCoded t q o).2
      = measOutcome t.n q o (gateMat t.n (.H q) * rho t.n (STab.ofTab t) * (gateMat t.n (.H q))ᴴ) := by
  have hU := gate_unitary t.n (.H q) hq
  have hv1 : (t.hGate q).Valid := hGate_valid t q hq hv
  have hr1 : (t.hGate q).StabReal := gate_stabReal t (.H q) hr
  have hg : rho t.n (STab.ofTab (t.hGate q))
      = gateMat t.n (.H q) * rho t.n (STab.ofTab t) * (gateMat t.n (.H q))ᴴ := (rho_tab_gate t (.H q) hq).symm
  obtain ⟨k1, _⟩ := meas_in_rotated_basis t.n (t.hGate q) rfl q o hq hv1 hr1 (gateMat t.n (.H q))
    (rho t.n (STab.ofTab t)) hU.2 hg (fun s => Xq q s) (fun s => had_conj_projX t.n q hq s)
  constructor
  · show rho t.n (STab.ofTab ((t.hGate q).zMeasure q o).1)
      = gateMat t.n (.H q) * postMeasX t.n q ((t.hGate q).zMeasure q o).2.1 (rho t.n (STab.ofTab t)) * (gateMat t.n (.H q))ᴴ
    unfold postMeasX
    rw [← k1, conj_cancel _ _ _ hU.1]
  · rw [← hg]
    exact (meas_density (t.hGate q) q o hq hv1 hr1).1.symm

/-- **`measure_x` / `x_measurement_gate` is the projective X-measurement**: with `s` the reported outcome,
    `ρ(result) = Π^X_s ρ Π^X_s / tr(Π^X_s ρ)`; `s` is the forced / drawn `o` unless `tr(Π^X_o ρ) = 0` -/
theorem rho_measX (t : Tab) (q : Nat) (o : Bool) (hq : q < t.n) (hv : t.Valid) (hr : t.StabReal) :
    rho t.n (STab.ofTab (t.measX q o).1) = postMeasX t.n q (t.measX q o).2.1 (rho t.n (STab.ofTab t)) ∧
    ((t.measX q o).2.1 = if Matrix.trace (proj t.n (Xq q o) * rho t.n (STab.ofTab t)) = 0 then !o else o) ∧
    (t.measX q o).1.Valid ∧ (t.measX q o).1.StabReal ∧ (t.measX q o).1.n = t.n := by
  have hU := gate_unitary t.n (.H q) hq
  have hH := gateMat_H_hermitian t.n q
  have hv1 : (t.hGate q).Valid := hGate_valid t q hq hv
  have hr1 : (t.hGate q).StabReal := gate_stabReal t (.H q) hr
  have hg : rho t.n (STab.ofTab (t.hGate q))
      = gateMat t.n (.H q) * rho t.n (STab.ofTab t) * (gateMat t.n (.H q))ᴴ := (rho_tab_gate t (.H q) hq).symm
  obtain ⟨k1, k2⟩ := meas_in_rotated_basis t.n (t.hGate q) rfl q o hq hv1 hr1 (gateMat t.n (.H q))
    (rho t.n (STab.ofTab t)) hU.2 hg (fun s => Xq q s) (fun s => had_conj_projX t.n q hq s)
  generalize hT2 : (t.hGate q).zMeasure q o = r2 at k1 k2
  have hn2 : r2.1.n = t.n := by rw [← hT2]; exact zMeasure_n (t.hGate q) q o
  have hv2 : r2.1.Valid := by rw [← hT2]; exact zMeasure_valid (t.hGate q) q o hq hv1
  have hr2 : r2.1.StabReal := by rw [← hT2]; exact zMeasure_stabReal (t.hGate q) q o hq hv1 hr1
  have hq2 : q < r2.1.n := by rw [hn2]; exact hq
  have hg2 := rho_tab_gate r2.1 (.H q) hq2
  rw [hn2] at hg2
  have e : t.measX q o = (r2.1.hGate q, r2.2.1, r2.2.2) := by
    show (((t.hGate q).zMeasure q o).1.hGate q, ((t.hGate q).zMeasure q o).2.1, ((t.hGate q).zMeasure q o).2.2) = _
    rw [hT2]
  rw [e]
  refine ⟨?_, k2, hGate_valid _ q hq2 hv2, gate_stabReal _ (.H q) hr2, hn2⟩
  show rho t.n (STab.ofTab (r2.1.map (Gate.H q).act)) = postMeasX t.n q r2.2.1 _
  rw [← hg2]
  rw [hH] at k1 ⊢
  exact k1

/-- **`measure_y` is the projective Y-measurement** -/
theorem rho_measY (t : Tab) (q : Nat) (o : Bool) (hq : q < t.n) (hv : t.Valid) (hr : t.StabReal) :
    rho t.n (STab.ofTab (t.measY q o).1) = postMeasY t.n q (t.measY q o).2.1 (rho t.n (STab.ofTab t)) ∧
    ((t.measY q o).2.1 = if Matrix.trace (proj t.n (Yrow q o) * rho t.n (STab.ofTab t)) = 0 then !o else o) ∧
    (t.measY q o).1.Valid ∧ (t.measY q o).1.StabReal ∧ (t.measY q o).1.n = t.n := by
  have hH := gateMat_H_hermitian t.n q
  have hPd := gateMat_Pdag_conjTranspose t.n q
  have wf : ∀ a b : Gate, a.WF t.n → b.WF t.n → ∀ g ∈ [a, b], g.WF t.n := by
    intro a b ha hb g hg
    simp only [List.mem_cons, List.mem_nil_iff, or_false] at hg
    rcases hg with rfl | rfl
    · exact ha
    · exact hb
  -- the change of basis `V = H · P†` and its inverse `P · H = V†`, as gate lists
  have eV : circMat t.n [.Pdag q, .H q] = gateMat t.n (.H q) * gateMat t.n (.Pdag q) := by
    show 1 * _ * _ = _
    rw [Matrix.one_mul]
  have eW : circMat t.n [.H q, .P q] = (gateMat t.n (.H q) * gateMat t.n (.Pdag q))ᴴ := by
    show 1 * _ * _ = _
    rw [Matrix.one_mul, Matrix.conjTranspose_mul, hH, hPd]
  have hVV := (circ_unitary t.n [.Pdag q, .H q] (wf _ _ hq hq)).2
  have hg1 := rho_tab_circ t.n [.Pdag q, .H q] t rfl (wf _ _ hq hq)
  rw [eV] at hVV hg1
  have hv1 : ((t.sdgGate q).hGate q).Valid := hGate_valid _ q hq (sdgGate_valid t q hq hv)
  have hr1 : ((t.sdgGate q).hGate q).StabReal := gate_stabReal _ (.H q) (gate_stabReal t (.Pdag q) hr)
  obtain ⟨k1, k2⟩ := meas_in_rotated_basis t.n ((t.sdgGate q).hGate q) rfl q o hq hv1 hr1
    (gateMat t.n (.H q) * gateMat t.n (.Pdag q)) (rho t.n (STab.ofTab t)) hVV hg1 (fun s => Yrow q s)
    (fun s => hadPdag_conj_projY t.n q hq s)
  generalize hT2 : ((t.sdgGate q).hGate q).zMeasure q o = r2 at k1 k2
  have hn2 : r2.1.n = t.n := by rw [← hT2]; exact zMeasure_n _ q o
  have hv2 : r2.1.Valid := by rw [← hT2]; exact zMeasure_valid _ q o hq hv1
  have hr2 : r2.1.StabReal := by rw [← hT2]; exact zMeasure_stabReal _ q o hq hv1 hr1
  have hq2 : q < r2.1.n := by rw [hn2]; exact hq
  have hg3 := rho_tab_circ t.n [.H q, .P q] r2.1 hn2 (wf _ _ hq hq)
  rw [eW, Matrix.conjTranspose_conjTranspose] at hg3
  have e : t.measY q o = ((r2.1.hGate q).sGate q, r2.2.1, r2.2.2) := by
    show (((((t.sdgGate q).hGate q).zMeasure q o).1.hGate q).sGate q, (((t.sdgGate q).hGate q).zMeasure q o).2.1,
      (((t.sdgGate q).hGate q).zMeasure q o).2.2) = _
    rw [hT2]
  rw [e]
  exact ⟨hg3.trans k1, k2, sGate_valid _ q hq2 (hGate_valid _ q hq2 hv2),
    gate_stabReal _ (.P q) (gate_stabReal r2.1 (.H q) hr2), hn2⟩

/-! ### extended histories are base histories -/

theorem runOps_append (t : Tab) (l1 l2 : List Tab.Op) :
    t.runOps (l1 ++ l2) = (match t.runOps l1 with | .ok t' => t'.runOps l2 | .error e => .error e) := by
  induction l1 generalizing t with
  | nil => rfl
  | cons op rest ih =>
    simp only [List.cons_append, Tab.runOps]
    cases t.applyOp op with
    | error e => rfl
    | ok r => exact ih r.1

/-- one extended call is the history of its base operations (`OpX.desugar`, on the current number of qubits) -/
theorem applyOpX_runOps (t : Tab) (x : Tab.OpX) :
    (match t.applyOpX x with | .ok r => Except.ok r.1 | .error e => .error e) = t.runOps (x.desugar t.n) := by
  -- `measure_x` and `x_measurement_gate` are the same call
  have hX : ∀ q o, (match t.applyOpX (.measX q o) with | .ok r => Except.ok r.1 | .error e => .error e)
      = t.runOps [.h q, .meas q o, .h q] := by
    intro q o
    simp only [Tab.applyOpX, Tab.runOps, Tab.applyOp]
    by_cases hq : q < t.n
    · have h2 : q < (t.hGate q).n := hq
      have h3 : q < ((t.hGate q).zMeasure q o).1.n := by rw [zMeasure_n]; exact hq
      simp only [hq, h2, h3, if_true, Tab.measX]
    · simp only [hq, if_false]
  cases x with
  | base op =>
    simp only [Tab.applyOpX, Tab.OpX.desugar, Tab.runOps]
    cases t.applyOp op with
    | error e => rfl
    | ok r => rfl
  | measX q o => exact hX q o
  | xMeasGate q o => exact hX q o
  | measY q o =>
    simp only [Tab.applyOpX, Tab.OpX.desugar, Tab.runOps, Tab.applyOp]
    by_cases hq : q < t.n
    · have h1 : q < (t.sdgGate q).n := hq
      have h2 : q < ((t.sdgGate q).hGate q).n := hq
      have h3 : q < (((t.sdgGate q).hGate q).zMeasure q o).1.n := by rw [zMeasure_n]; exact hq
      have h4 : q < ((((t.sdgGate q).hGate q).zMeasure q o).1.hGate q).n := h3
      simp only [hq, h1, h2, h3, h4, if_true, Tab.measY]
    · simp only [hq, if_false]
  | cy c tg =>
    simp only [Tab.applyOpX, Tab.OpX.desugar, Tab.runOps, Tab.applyOp]
    by_cases ht : tg < t.n
    · have h1 : tg < (t.sGate tg).n := ht
      have h3 : tg < (((t.sGate tg).zGate tg).cnotGate c tg).n := ht
      by_cases hc : c < t.n
      · have h2 : c < ((t.sGate tg).zGate tg).n ∧ tg < ((t.sGate tg).zGate tg).n := ⟨hc, ht⟩
        simp only [ht, hc, h1, h2, h3, if_true, and_self, Tab.cyGate]
      · have h2 : ¬ (c < ((t.sGate tg).zGate tg).n ∧ tg < ((t.sGate tg).zGate tg).n) := fun h => hc h.1
        simp only [ht, hc, h1, h2, if_true, if_false, and_false]
    · simp only [ht, if_false, false_and]
  | traceOut pos os =>
    simp only [Tab.applyOpX, Tab.OpX.desugar, Tab.runOps, Tab.applyOp, Tab.traceOutQubits]
    cases t.partialTrace ((List.range t.n).filter fun q => !pos.contains q) os with
    | error e => rfl
    | ok r => rfl

theorem runOps_desugar (t : Tab) (x : Tab.OpX) (r : Tab × Option (Bool × Bool)) (h : t.applyOpX x = .ok r) :
    t.runOps (x.desugar t.n) = .ok r.1 := by
  have e := applyOpX_runOps t x
  rw [h] at e
  exact e.symm

/-! ### semantics of extended histories (the base semantics of the desugared calls, step by step) -/

noncomputable def specOpsX : List Tab.OpX → GState → GState
  | [], g => g
  | x :: rest, g => specOpsX rest (specOps (x.desugar g.n) g)

noncomputable def dOpsX : List Tab.OpX → DState → DState
  | [], s => s
  | x :: rest, s => dOpsX rest (dOps (x.desugar s.n) s)

noncomputable def dProbOpsX : List Tab.OpX → DState → ℂ
  | [], _ => 1
  | x :: rest, s => dProbOps (x.desugar s.n) s * dProbOpsX rest (dOps (x.desugar s.n) s)

def randOpsX : Tab → List Tab.OpX → Nat
  | _, [] => 0
  | t, x :: rest =>
    randOps t (x.desugar t.n) +
      match t.applyOpX x with
      | .ok (t', _) => randOpsX t' rest
      | .error _ => 0

theorem historyX_tracked (xs : List Tab.OpX) (hxs : ∀ x ∈ xs, ∀ n, ∀ op ∈ x.desugar n, OpWF op) :
    ∀ (t t' : Tab), t.Valid → t.StabReal → t.runOpsX xs = .ok t' →
      Tracks t t' (specOpsX xs) (dOpsX xs) (dProbOpsX xs) (randOpsX t xs) := by
  induction xs with
  | nil =>
    intro t t' hv hr h
    cases h
    exact .refl t hv hr
  | cons x rest ih =>
    intro t t' hv hr h
    simp only [Tab.runOpsX] at h
    cases hx : t.applyOpX x with
    | error e => rw [hx] at h; cases h
    | ok r =>
      rw [hx] at h
      have s1 := history_tracked _ (hxs x List.mem_cons_self t.n) t r.1 hv hr (runOps_desugar t x r hx)
      have s := s1.comp (ih (fun y hy => hxs y (List.mem_cons_of_mem _ hy)) r.1 t' s1.valid s1.real h)
      refine ⟨s.valid, s.real, s.grp, s.dens, ?_⟩
      show dProbOps (x.desugar t.n) (dstate t) * dProbOpsX rest (dOps (x.desugar t.n) (dstate t))
        = (1 / 2 : ℂ) ^ (randOps t (x.desugar t.n) + match t.applyOpX x with
          | .ok (t', _) => randOpsX t' rest
          | .error _ => 0)
      rw [hx]
      exact s.born

end Hilbert
end Graphiq
