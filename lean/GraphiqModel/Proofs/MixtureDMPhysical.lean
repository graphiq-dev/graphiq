/-
  Proofs/MixtureDMPhysical.lean — consequences of C06 (c) for the density-matrix backend, every measurement-free noisy
  circuit and every number of qubits:

  * `runH_trace`  : the Hilbert-space run of a placement trace multiplies the trace by `∏ (1 − loss_j)`;
  * `noiseH_psd`, `gateH_psd` : every action preserves positive semidefiniteness (depolarizing probabilities in `[0,1]`,
    loss rates `≤ 1`);
  * `compileDM_trace` : the exact matrix of `compileDM` has trace `∏ (1 − loss_j)` (as an element of ℚ[i]);
  * `overlap_linear`  : `tr(ρ σ) = Σ_k w_k tr(ρ(T_k) σ)` for every matrix `σ` — the fidelity with any pure target computed
    on the density matrix is the weighted sum `Infidelity.evaluate` computes on the mixture.
-/
import GraphiqModel.Proofs.MixtureDMFinal
namespace Graphiq
namespace MixDM
open Matrix Hilbert Noise DM
open scoped ComplexOrder

/-! ### trace -/

theorem trace_conjH {n : Nat} (U R : HMat n) (hU : Uᴴ * U = 1) : (conjH U R).trace = R.trace := by
  unfold conjH
  rw [Matrix.trace_mul_cycle, hU, Matrix.one_mul]

theorem gateH_trace (np n : Nat) (op : COp) (hw : OpWF n np op) (R : HMat n) : (gateH np n op R).trace = R.trace := by
  unfold gateH
  cases hg : opGate np op with
  | none => rfl
  | some g => exact trace_conjH _ _ (gate_unitary n g (opGate_wf n np op hw g hg)).2

theorem depolH_trace (n q : Nat) (hq : q < n) (p : Rat) (R : HMat n) : (depolH n q p R).trace = R.trace := by
  unfold depolH
  have hx := trace_conjH (gateMat n (.X q)) R (gate_unitary n (.X q) hq).2
  have hy := trace_conjH (gateMat n (.Y q)) R (gate_unitary n (.Y q) hq).2
  have hz := trace_conjH (gateMat n (.Z q)) R (gate_unitary n (.Z q) hq).2
  rw [Matrix.trace_add, Matrix.trace_smul, Matrix.trace_smul, Matrix.trace_add, Matrix.trace_add, hx, hy, hz]
  simp only [smul_eq_mul]
  push_cast
  ring

theorem noiseH_trace (n : Nat) (nm : NoiseM) (q : Nat) (hq : q < n) (R : HMat n) :
    (noiseH n nm q R).trace = ((lossOf (.noise 0 0 q nm) : ℚ) : ℂ) * R.trace := by
  cases nm with
  | depol p a => simp only [noiseH, lossOf]; rw [depolH_trace n q hq]; simp
  | pauli k a =>
    simp only [noiseH, lossOf]
    cases k <;> simp only [pauliH]
    · simp
    · rw [trace_conjH _ _ (gate_unitary n (.X q) hq).2]; simp
    · rw [trace_conjH _ _ (gate_unitary n (.Y q) hq).2]; simp
    · rw [trace_conjH _ _ (gate_unitary n (.Z q) hq).2]; simp
    · simp
  | loss r a => simp only [noiseH, lossOf]; rw [Matrix.trace_smul, smul_eq_mul]
  | none => simp [noiseH, lossOf]
  | replace => simp [noiseH, lossOf]
  | other => simp [noiseH, lossOf]

theorem actH_trace (np n : Nat) (arr : Array COp) (a : Act) (ha : ActP (OpOK n np) (fun q _ => q < n) arr a) (R : HMat n) :
    (actH np n arr a R).trace = ((lossOf a : ℚ) : ℂ) * R.trace := by
  cases a with
  | gate k =>
    show (gateH np n (arr.getD k { kind := .identity }) R).trace = _
    have e1 : lossOf (.gate k) = 1 := rfl
    rw [e1]
    cases hk : arr[k]? with
    | none =>
      have e := getD_none arr k hk
      rw [e]
      show (conjH (1 : HMat n) R).trace = _
      rw [conjH_one]; simp
    | some op =>
      have e := getD_some arr k op hk
      rw [e, gateH_trace np n op (ha op hk).wf]; simp
  | noise k side q nm =>
    have := noiseH_trace n nm q ha R
    have e : lossOf (.noise k side q nm) = lossOf (.noise 0 0 q nm) := by cases nm <;> rfl
    rw [e]
    exact this
  | replace k => simp [actH, lossOf]

theorem runH_trace (np n : Nat) (arr : Array COp) : ∀ (tr : List Act) (R : HMat n),
    (∀ a ∈ tr, ActP (OpOK n np) (fun q _ => q < n) arr a) →
    (runH np n arr tr R).trace = ((lossFactor tr : ℚ) : ℂ) * R.trace
  | [], R, _ => by simp [runH, lossFactor]
  | a :: as, R, h => by
    show (runH np n arr as (actH np n arr a R)).trace = _
    rw [runH_trace np n arr as _ (fun b hb => h b (List.mem_cons_of_mem _ hb)),
      actH_trace np n arr a (h a List.mem_cons_self)]
    simp only [lossFactor]
    push_cast
    ring

/-! ### positivity -/

theorem psd_ratsmul {n : Nat} (q : ℚ) (hq : 0 ≤ q) (R : HMat n) (h : R.PosSemidef) : (((q : ℚ) : ℂ) • R).PosSemidef := by
  have h2 : (0 : ℝ) ≤ (q : ℝ) := by exact_mod_cast hq
  have := h.smul (α := ℝ) h2
  convert this using 1
  ext i j
  simp [Matrix.smul_apply, Complex.real_smul]

theorem psd_conjH {n : Nat} (U R : HMat n) (h : R.PosSemidef) : (conjH U R).PosSemidef :=
  h.mul_mul_conjTranspose_same U

/-- parameters for which the channels are completely positive: depolarizing probability in `[0,1]`, loss rate `≤ 1` -/
def ParamPhys : NoiseM → Prop
  | .depol p _ => 0 ≤ p ∧ p ≤ 1
  | .loss r _ => r ≤ 1
  | _ => True

theorem noiseH_psd (n : Nat) (nm : NoiseM) (q : Nat) (hp : ParamPhys nm) (R : HMat n) (h : R.PosSemidef) :
    (noiseH n nm q R).PosSemidef := by
  cases nm with
  | depol p a =>
    simp only [noiseH, depolH]
    have h1 : (0 : ℚ) ≤ 1 - p := by linarith [hp.2]
    have h2 : (0 : ℚ) ≤ p / 3 := div_nonneg hp.1 (by norm_num)
    exact (psd_ratsmul _ h1 _ h).add (psd_ratsmul _ h2 _ (((psd_conjH _ _ h).add (psd_conjH _ _ h)).add (psd_conjH _ _ h)))
  | pauli k a => cases k <;> first | exact h | exact psd_conjH _ _ h
  | loss r a =>
    have h1 : (0 : ℚ) ≤ 1 - r := by have : r ≤ 1 := hp; linarith
    exact psd_ratsmul _ h1 _ h
  | none => exact h
  | replace => exact h
  | other => exact h

theorem gateH_psd (np n : Nat) (op : COp) (R : HMat n) (h : R.PosSemidef) : (gateH np n op R).PosSemidef := by
  unfold gateH
  split
  · exact psd_conjH _ _ h
  · exact h

theorem rho0_eq_ket0 (n : Nat) : rho0 n = tabRho n (Tab.ket0 n) := (rho_ket0 n).symm

theorem rho0_psd (n : Nat) : (rho0 n).PosSemidef := by
  rw [rho0_eq_ket0]
  exact rho_ofTab_posSemidef (Tab.ket0 n) (Tab.ket0_valid n)

theorem rho0_trace (n : Nat) : (rho0 n).trace = 1 := by
  rw [rho0_eq_ket0]
  exact rho_ofTab_trace (Tab.ket0 n) (Tab.ket0_valid n)

/-! ### the compile loop -/

theorem gqC_trace (n : Nat) (ρ : Mat) (hn : ρ.n = 2 ^ n) : gqC ρ.trace = (toC n ρ).trace :=
  (rep_toC hn).trace

theorem gqC_ofRat (q : Rat) : gqC ⟨q, 0⟩ = ((q : ℚ) : ℂ) := by
  apply Complex.ext <;> simp

/-- **the density matrix has trace `∏ (1 − loss_j)`** — exactly, as an element of ℚ[i]: every measurement-free noisy
    circuit, every number of qubits, whenever the density-matrix compile returns -/
theorem compileDM_trace (ns : Bool) (ne np nc : Nat) (det : Bool) (ops : List COp)
    (hw : ∀ op ∈ ops, OpOK (ne + np) np op) (d : DmSt) (h : compileDM ns ne np nc det ops = .ok d) :
    ∃ tr ρ, compileTrace ns .dm np ops = .ok tr ∧ d.ρ = some ρ ∧ ρ.trace = ⟨lossFactor tr, 0⟩ := by
  obtain ⟨tr, htr, ρ, hρ, e, hn, _⟩ := compileDM_toC ns ne np nc det ops hw d h
  refine ⟨tr, ρ, htr, hρ, ?_⟩
  apply gqC_injective
  rw [gqC_trace (ne + np) ρ hn, e, runH_trace np (ne + np) ops.toArray tr _
    (trace_actP (N := fun q _ => q < ne + np) (toArray_forall hw) (fun op ho => (hw op ho).wf.noise) htr), rho0_trace, gqC_ofRat]
  simp

/-! ### overlaps with a target -/

/-- `Σ_k w_k tr(ρ(T_k) σ)`: the weighted per-branch overlap (`Infidelity.evaluate` on a mixture, with `tr(ρ(T) σ)` the
    specification of `sfm.fidelity`) -/
noncomputable def mixOverlap (n : Nat) (σ : HMat n) : Mixture → ℂ
  | [] => 0
  | x :: m => ((x.1 : ℚ) : ℂ) * (tabRho n x.2 * σ).trace + mixOverlap n σ m

theorem overlap_linear (n : Nat) (σ : HMat n) : ∀ (m : Mixture), (mixRho n m * σ).trace = mixOverlap n σ m
  | [] => by simp [mixRho_nil, mixOverlap]
  | (w, t) :: rest => by
    rw [mixRho_cons, Matrix.add_mul, Matrix.trace_add, Matrix.smul_mul, Matrix.trace_smul, overlap_linear n σ rest]
    rfl

/-- the same quantity in the exact model: `Σ_k w_k · tr(ρ_{T_k} ρ_T)` with `ρ_T = stabilizerDensity T` -/
def mixOverlapQ (T : Tab) : Mixture → GQ
  | [] => 0
  | x :: m => GQ.smul x.1 ((stabilizerDensity x.2).mul (stabilizerDensity T)).trace + mixOverlapQ T m

theorem gqC_mulTrace (n : Nat) (a b : Mat) (ha : a.n = 2 ^ n) : gqC (a.mul b).trace = (toC n a * toC n b).trace := by
  rw [gqC_trace n (a.mul b) ha, toC_mul n a b ha]

theorem gqC_mixOverlapQ (n : Nat) (T : Tab) (hT : T.n = n) : ∀ (m : Mixture), MixN n m →
    gqC (mixOverlapQ T m) = mixOverlap n (tabRho n T) m
  | [], _ => gqC_zero
  | (w, t) :: rest, hm => by
    obtain ⟨e1, n1⟩ := toC_stabilizerDensity n t hm.head
    obtain ⟨e2, _⟩ := toC_stabilizerDensity n T hT
    show gqC (GQ.smul w _ + mixOverlapQ T rest) = _ * _ + mixOverlap n (tabRho n T) rest
    rw [gqC_add, gqC_smul, gqC_mulTrace n _ _ n1, e1, e2, gqC_mixOverlapQ n T hT rest hm.tail]

theorem overlap_of_eqOn (n : Nat) (ρ : Mat) (m : Mixture) (hm : MixN n m) (h : Mat.EqOn ρ (mixtureDensity n m))
    (T : Tab) (hT : T.n = n) : (ρ.mul (stabilizerDensity T)).trace = mixOverlapQ T m := by
  obtain ⟨e3, n3⟩ := toC_mixtureDensity n m hm
  have n2 : ρ.n = 2 ^ n := by rw [h.1, n3]
  obtain ⟨e4, _⟩ := toC_stabilizerDensity n T hT
  apply gqC_injective
  rw [gqC_mulTrace n _ _ n2, toC_congr n _ _ n2 h, e3, e4, overlap_linear, gqC_mixOverlapQ n T hT m hm]

theorem weight_of_eqOn (n : Nat) (ρ : Mat) (m : Mixture) (hm : MixOK n m) (h : Mat.EqOn ρ (mixtureDensity n m)) :
    ρ.trace = ⟨Mix.total m, 0⟩ := by
  obtain ⟨e3, n3⟩ := toC_mixtureDensity n m (fun x hx => (hm x hx).1)
  have n2 : ρ.n = 2 ^ n := by rw [h.1, n3]
  apply gqC_injective
  rw [gqC_trace n ρ n2, toC_congr n _ _ n2 h, e3, mixRho_trace n m hm, gqC_ofRat]

/-- **same fidelity with any pure stabilizer target on both backends**: for the density matrix `ρ` of the density-matrix
    backend and the mixture `[(w_k, T_k)]` of the stabilizer backend, `tr(ρ ρ_T) = Σ_k w_k tr(ρ_{T_k} ρ_T)` exactly, for every
    target tableau `T` -/
theorem overlap_both_backends (ns : Bool) (ne np nc : Nat) (det : Bool) (ops : List COp)
    (hw : ∀ op ∈ ops, OpOK (ne + np) np op) (s : StabSt) (d : DmSt) (ρ : Mat)
    (hs : compileStab ns ne np nc det ops = .ok s) (hd : compileDM ns ne np nc det ops = .ok d) (hρ : d.ρ = some ρ)
    (T : Tab) (hT : T.n = ne + np) :
    (ρ.mul (stabilizerDensity T)).trace = mixOverlapQ T s.mix := by
  obtain ⟨_, _, _, m1⟩ := compileStab_mixRho ns ne np nc det ops hw s hs
  exact overlap_of_eqOn (ne + np) ρ s.mix m1 (dm_equals_mixture ns ne np nc det ops hw s d ρ hs hd hρ) T hT

end MixDM
end Graphiq
