/-
  Proofs/HilbertBridgeOps.lean — the operations of graphiq's `DensityMatrix` class (`backends/density_matrix/state.py`)
  and the matrices `backends/density_matrix/functions.py` builds for them, read as operations on complex matrices
  indexed by bit strings (`Bits n`, qubit 0 = left-most Kronecker factor), and what they do to the density matrix
  `ρ(T) = ∏ (1 + g_i)/2` of a Clifford tableau `T`:

  * `applyUnitary`, `applyChannel`, `measureH` : `DensityMatrix.apply_unitary`,
    `apply_channel`, `apply_measurement` (probabilities clipped at 0, the outcome rule of the three settings with the
    `np.isclose(·, 0)` threshold, division by the conditional probability of the outcome);
  * `projZ`, `resetKraus`, `twoQ`/`ctrlG` : `projectors_zbasis`, `get_reset_qubit_kraus`, `get_two_qubit_controlled_gate`;
  * `applyUnitary_gate` : `U_g ρ(t) U_g†` (hermitianized) `= ρ(t.map g.act)`;
  * `prob_random`, `prob_det` : the probabilities the density-matrix backend computes are exactly ½, ½ when a stabilizer
    has an X on the qubit and exactly 1, 0 otherwise — so its outcome rule takes the same branch as the tableau's;
  * `measureH_tab` : `apply_measurement` on `ρ(t)` returns `ρ(t.zMeasure …)`, the same outcome, consumes a drawn bit
    exactly when the tableau measurement does;
  * `resetChannel_det` : on a state in which the qubit has a definite Z value the reset channel is `reset_z`.

  Everything here is noise-free; the matrix type, `hermitianize`, `ρ(T)`, `|s⟩⟨s'|` and the algebra of the projectors
  `proj n (Zq q s)` are those of Proofs/HilbertBridgeBase.lean.
-/
import GraphiqModel.Proofs.HilbertBridgeBase
import GraphiqModel.Model.Circuit
namespace Graphiq
namespace Hilbert
open Matrix PRow

/-! ### `hermitianize`, `apply_unitary`, `apply_channel` -/

/-- `DensityMatrix.apply_unitary(U)`: `hermitianize(U ρ U†)` -/
noncomputable def applyUnitary {n : Nat} (ρ U : DMat n) : DMat n := herm (U * ρ * Uᴴ)

/-- `DensityMatrix.apply_channel(kraus_ops)`: nothing for an empty list, otherwise `hermitianize(Σ_k K ρ K†)`
    accumulated from 0 in list order -/
noncomputable def applyChannel {n : Nat} (ρ : DMat n) (ks : List (DMat n)) : DMat n :=
  match ks with
  | [] => ρ
  | _ :: _ => herm (ks.foldl (fun acc K => acc + K * ρ * Kᴴ) 0)

theorem applyUnitary_of_hermitian {n : Nat} (ρ U : DMat n) (h : ρᴴ = ρ) : applyUnitary ρ U = U * ρ * Uᴴ :=
  herm_of_hermitian _ (conj_hermitian U ρ h)

/-! ### the state of a tableau -/

theorem tabRho_hermitian (t : Tab) (hv : t.Valid) : (tabRho t.n t)ᴴ = tabRho t.n t :=
  rho_hermitian (STab.ofTab t) (ofTab_good t hv)

theorem tabRho_idem (t : Tab) (hv : t.Valid) : tabRho t.n t * tabRho t.n t = tabRho t.n t :=
  rho_idem (STab.ofTab t) (ofTab_good t hv)

theorem tabRho_trace (t : Tab) (hv : t.Valid) : Matrix.trace (tabRho t.n t) = 1 := rho_ofTab_trace t hv

/-- tabulation (`Tab.norm`, execution only) does not change the state -/
theorem tabRho_norm (t : Tab) : tabRho t.n t.norm = tabRho t.n t := rho_ofTab_norm t

theorem tabRho_norm_of (n : Nat) (u : Tab) (hu : u.n = n) : tabRho n u.norm = tabRho n u := by
  subst hu; exact tabRho_norm u

/-- **`apply_unitary` with a gate's unitary is the tableau gate.** -/
theorem applyUnitary_gate (t : Tab) (hv : t.Valid) (g : Gate) (hg : g.WF t.n) :
    applyUnitary (tabRho t.n t) (gateMat t.n g) = tabRho t.n (t.map g.act) := by
  rw [applyUnitary_of_hermitian _ _ (tabRho_hermitian t hv)]
  exact rho_tab_gate t g hg

/-! ### 2×2 constants of functions.py and their `n`-qubit embeddings -/

/-- `hadamard()` -/
noncomputable def hadamardM : Matrix Bool Bool ℂ := invSqrt2 • hadM

/-- `projectors_zbasis(n, q)[s]` : the Kronecker chain with `|s⟩⟨s|` at position `q` and identities elsewhere -/
noncomputable def projZ (n q : Nat) (s : Bool) : DMat n := oneQ n q (ketBra2 s s)

/-- `get_reset_qubit_kraus(n, q)` -/
noncomputable def resetKraus (n q : Nat) : List (DMat n) := [oneQ n q (ketBra2 false false), oneQ n q (ketBra2 false true)]

/-- the Kronecker chain with the 2×2 blocks `u` at position `c` and `v` at position `t`, identities elsewhere
    (entrywise: all other bits agree, then the product of the two block entries) -/
noncomputable def twoQ (n c t : Nat) (u v : Matrix Bool Bool ℂ) : DMat n :=
  Matrix.of fun a b => if (∀ j : Fin n, j.val ≠ c → j.val ≠ t → a j = b j) then u (bx a c) (bx b c) * v (bx a t) (bx b t) else 0

/-- `get_two_qubit_controlled_gate(n, c, t, u)` : `1 + ½ · (chain with 1 − Z at c and u − 1 at t)` -/
noncomputable def ctrlG (n c t : Nat) (u : Matrix Bool Bool ℂ) : DMat n :=
  1 + (1 / 2 : ℂ) • twoQ n c t (1 - sigmaZ) (u - 1)

theorem twoQ_comm (n c t : Nat) (u v : Matrix Bool Bool ℂ) : twoQ n c t u v = twoQ n t c v u := by
  ext a b
  simp only [twoQ, Matrix.of_apply]
  rw [if_congr (forall_congr' fun _ => imp.swap) (mul_comm _ _) rfl]

/-- the two-factor chain is the product of the two one-factor chains (mixed-product property of `np.kron`) -/
theorem twoQ_eq_mul (n c t : Nat) (hc : c < n) (ht : t < n) (hct : c ≠ t) (u v : Matrix Bool Bool ℂ) :
    twoQ n c t u v = oneQ n c u * oneQ n t v := by
  ext a b
  rw [Matrix.mul_apply, sum_two_site c hc a]
  · simp only [oneQ_apply, bx_update_self]
    have h0 : ∀ s, (∀ j : Fin n, j.val ≠ c → a j = Function.update a ⟨c, hc⟩ s j) :=
      fun s j hj => (update_off c hc a s j hj).symm
    have hbt : ∀ s, bx (Function.update a ⟨c, hc⟩ s) t = bx a t := by
      intro s
      rw [bx_lt _ _ ht, bx_lt _ _ ht]
      exact update_off c hc a s ⟨t, ht⟩ (Ne.symm hct)
    have h1 : ∀ s, (∀ j : Fin n, j.val ≠ t → Function.update a ⟨c, hc⟩ s j = b j) ↔
        ((∀ j : Fin n, j.val ≠ c → j.val ≠ t → a j = b j) ∧ s = bx b c) := by
      intro s
      constructor
      · intro h
        refine ⟨fun j hj1 hj2 => ?_, ?_⟩
        · rw [← h j hj2, update_off c hc a s j hj1]
        · have := h ⟨c, hc⟩ hct
          rw [bx_lt _ _ hc, ← this]; simp
      · intro ⟨h, hs⟩ j hj
        by_cases hjc : j.val = c
        · have : j = ⟨c, hc⟩ := Fin.ext hjc
          rw [this, hs, bx_lt _ _ hc]; simp
        · rw [update_off c hc a s j hjc]; exact h j hjc hj
    rw [if_pos (h0 false), if_pos (h0 true), hbt, hbt]
    show (if _ then _ else _) = _
    by_cases hoff : ∀ j : Fin n, j.val ≠ c → j.val ≠ t → a j = b j
    · rw [if_pos hoff]
      cases hb : bx b c
      · rw [if_pos ((h1 false).mpr ⟨hoff, hb.symm⟩), if_neg (fun h => by have := ((h1 true).mp h).2; rw [hb] at this; cases this)]
        ring
      · rw [if_neg (fun h => by have := ((h1 false).mp h).2; rw [hb] at this; cases this), if_pos ((h1 true).mpr ⟨hoff, hb.symm⟩)]
        ring
    · rw [if_neg hoff, if_neg (fun h => hoff ((h1 false).mp h).1), if_neg (fun h => hoff ((h1 true).mp h).1)]
      ring
  · intro m hm
    rw [oneQ_apply, if_neg hm, zero_mul]

theorem oneQ_sub (n q : Nat) (u v : Matrix Bool Bool ℂ) : oneQ n q (u - v) = oneQ n q u - oneQ n q v := by
  ext a b
  simp only [oneQ_apply, Matrix.sub_apply]
  split <;> simp

theorem oneQ_add (n q : Nat) (u v : Matrix Bool Bool ℂ) : oneQ n q (u + v) = oneQ n q u + oneQ n q v := by
  ext a b
  simp only [oneQ_apply, Matrix.add_apply]
  split <;> simp

theorem projZ_eq (n q : Nat) (hq : q < n) (s : Bool) : projZ n q s = proj n (Zq q s) := oneQ_ketBra2_diag n q hq s

theorem ctrlG_eq (n c t : Nat) (hc : c < n) (ht : t < n) (hct : c ≠ t) (u : Matrix Bool Bool ℂ) :
    ctrlG n c t u = ctrlQ n c t u := by
  rw [ctrlQ_eq_graphiq n c t hc hct, ctrlG, twoQ_eq_mul n c t hc ht hct, oneQ_sub, oneQ_one, oneQ_sigmaZ n c hc]

theorem hadamard_gate (n q : Nat) : oneQ n q hadamardM = gateMat n (Gate.H q) := by
  rw [hadamardM, oneQ_smul]; rfl

/-! ### Z-basis projectors against a tableau state -/

/-- **Random outcome: the probability the density-matrix backend computes is exactly ½** (both outcomes) -/
theorem prob_random (t : Tab) (hv : t.Valid) (hr : t.StabReal) (q p : Nat) (o : Bool) (hq : q < t.n)
    (hp : t.pivot q = some p) : Matrix.trace (tabRho t.n t * proj t.n (Zq q o)) = 1 / 2 := by
  obtain ⟨h1, h2, hx⟩ := Tab.pivot_spec t q p hp
  rw [trace_mul_proj]
  exact measRandom_prob t hv hr q p o hq h1 h2 hx

theorem proj_tabRho_proj (t : Tab) (hv : t.Valid) (hr : t.StabReal) (q p : Nat) (o : Bool) (hq : q < t.n)
    (hp : t.pivot q = some p) :
    proj t.n (Zq q o) * tabRho t.n t * proj t.n (Zq q o) = (1 / 2 : ℂ) • tabRho t.n (t.measRandom q p o) := by
  obtain ⟨h1, h2, hx⟩ := Tab.pivot_spec t q p hp
  exact measRandom_state t hv hr q p o hq h1 h2 hx

theorem det_fix (t : Tab) (hv : t.Valid) (hr : t.StabReal) (q : Nat) (hq : q < t.n) (hp : t.pivot q = none) :
    proj t.n (Zq q (t.measScratch q).r) * tabRho t.n t = tabRho t.n t ∧
    tabRho t.n t * proj t.n (Zq q (t.measScratch q).r) = tabRho t.n t ∧
    proj t.n (Zq q (!(t.measScratch q).r)) * tabRho t.n t = 0 ∧
    tabRho t.n t * proj t.n (Zq q (!(t.measScratch q).r)) = 0 := by
  obtain ⟨hfix, _, hzero⟩ := measDet_state t hv hr q hq hp
  have hherm := tabRho_hermitian t hv
  have hP : proj t.n (Zq q (t.measScratch q).r) * tabRho t.n t = tabRho t.n t := proj_mul_of_fixed t.n _ _ hfix
  have hP' : tabRho t.n t * proj t.n (Zq q (t.measScratch q).r) = tabRho t.n t :=
    mul_eq_of_hermitian _ _ (proj_Zq_hermitian _ _ _) hherm hP
  have hZ' : tabRho t.n t * proj t.n (Zq q (!(t.measScratch q).r)) = 0 := by
    have := congrArg Matrix.conjTranspose hzero
    rw [Matrix.conjTranspose_mul, Matrix.conjTranspose_zero, proj_Zq_hermitian] at this
    rw [← this]
    congr 1
    exact hherm.symm
  exact ⟨hP, hP', hzero, hZ'⟩

/-- **Deterministic outcome: the probabilities are exactly 1 and 0** -/
theorem prob_det (t : Tab) (hv : t.Valid) (hr : t.StabReal) (q : Nat) (hq : q < t.n) (hp : t.pivot q = none) :
    Matrix.trace (tabRho t.n t * proj t.n (Zq q (t.measScratch q).r)) = 1 ∧
    Matrix.trace (tabRho t.n t * proj t.n (Zq q (!(t.measScratch q).r))) = 0 := by
  obtain ⟨_, h2, _, h4⟩ := det_fix t hv hr q hq hp
  rw [h2, h4, tabRho_trace t hv]
  exact ⟨rfl, by simp⟩

/-! ### `apply_measurement` -/

/-- `np.isclose(x, 0.0)` with the default tolerances: `|x| ≤ 1e-8` -/
def isclose0 (x : ℝ) : Prop := |x| ≤ 1 / 100000000

theorem isclose0_zero : isclose0 0 := by unfold isclose0; norm_num
theorem not_isclose0_half : ¬ isclose0 (1 / 2) := by unfold isclose0; rw [abs_of_pos] <;> norm_num
theorem not_isclose0_one : ¬ isclose0 1 := by unfold isclose0; rw [abs_of_pos] <;> norm_num

/-- the probability of one projector as the code computes it: real part of the trace, clipped at 0 -/
noncomputable def probOf {n : Nat} (ρ P : DMat n) : ℝ := max 0 (Matrix.trace (ρ * P)).re

open Classical in
/-- the outcome and the remaining drawn bits of `apply_measurement`, from the two clipped probabilities.
    Forced 1: outcome 1 unless `np.isclose(p1, 0)`; forced 0: outcome 0 unless `np.isclose(p0, 0)`;
    `"probabilistic"`: `numpy.random.choice([0,1], p = probs / sum)` — an outcome of conditional probability 0 is never
    drawn, so the next scripted bit is consumed exactly when both probabilities are positive. -/
noncomputable def outcomeOf (d : Det) (p0 p1 : ℝ) (script : List Bool) : Bool × List Bool :=
  match d with
  | .zero => (decide (isclose0 p0), script)
  | .one => (decide (¬ isclose0 p1), script)
  | .prob =>
    if p0 / (p0 + p1) = 0 then (true, script)
    else if p1 / (p0 + p1) = 0 then (false, script)
    else (script.headD false, script.tail)

/-- the divisor of `apply_measurement`: the conditional probability `probs[outcome] / Σ probs` of the chosen outcome
    (1 if the total is not positive) -/
noncomputable def measNormH {n : Nat} (ρ P0 P1 : DMat n) (d : Det) (script : List Bool) : ℝ :=
  let p0 := probOf ρ P0
  let p1 := probOf ρ P1
  let os := outcomeOf d p0 p1 script
  let total := p0 + p1
  if 0 < total then (if os.1 then p1 else p0) / total else 1

open Classical in
/-- `DensityMatrix.apply_measurement([P0, P1], determinism)`: new state, outcome, remaining drawn bits, and whether both
    outcomes had positive probability -/
noncomputable def measureH {n : Nat} (ρ P0 P1 : DMat n) (d : Det) (script : List Bool) :
    DMat n × Bool × List Bool × Bool :=
  let p0 := probOf ρ P0
  let p1 := probOf ρ P1
  let os := outcomeOf d p0 p1 script
  let m := if os.1 then P1 else P0
  let total := p0 + p1
  let norm : ℝ := if 0 < total then (if os.1 then p1 else p0) / total else 1
  (((norm : ℂ))⁻¹ • (m * ρ * mᴴ), os.1, os.2, decide (0 < p0 ∧ 0 < p1))

theorem measureH_fst {n : Nat} (ρ P0 P1 : DMat n) (d : Det) (script : List Bool) :
    (measureH ρ P0 P1 d script).1 = ((measNormH ρ P0 P1 d script : ℝ) : ℂ)⁻¹ •
      ((if (measureH ρ P0 P1 d script).2.1 then P1 else P0) * ρ * (if (measureH ρ P0 P1 d script).2.1 then P1 else P0)ᴴ) :=
  rfl

theorem measureH_out {n : Nat} (ρ P0 P1 : DMat n) (d : Det) (script : List Bool) :
    (measureH ρ P0 P1 d script).2.1 = (outcomeOf d (probOf ρ P0) (probOf ρ P1) script).1 := rfl

theorem probOf_of_trace {n : Nat} (ρ P : DMat n) (x : ℝ) (hx : 0 ≤ x) (h : Matrix.trace (ρ * P) = (x : ℂ)) :
    probOf ρ P = x := by
  unfold probOf
  rw [h, Complex.ofReal_re]
  exact max_eq_right hx

/-! #### the outcome rule on the two kinds of probabilities a stabilizer state has -/

open Classical in
/-- probabilities ½, ½: every setting reports what it offers to a random tableau measurement -/
theorem outcomeOf_half (s : RunState) (d : Det) : outcomeOf d (1 / 2) (1 / 2) s.script = s.offer d true := by
  cases d
  · show (decide (isclose0 (1 / 2)), s.script) = (false, s.script)
    rw [decide_eq_false not_isclose0_half]
  · show (decide (¬ isclose0 (1 / 2)), s.script) = (true, s.script)
    rw [decide_eq_true not_isclose0_half]
  · simp only [outcomeOf, RunState.offer]
    norm_num

open Classical in
/-- probability 1 for the value `r`, 0 for the other: every setting reports `r` and no drawn bit is read -/
theorem outcomeOf_certain (d : Det) (r : Bool) (script : List Bool) :
    outcomeOf d (if r then 0 else 1) (if r then 1 else 0) script = (r, script) := by
  cases r
  · simp only [Bool.false_eq_true, if_false]
    cases d
    · show (decide (isclose0 1), script) = (false, script)
      rw [decide_eq_false not_isclose0_one]
    · show (decide (¬ isclose0 0), script) = (false, script)
      rw [decide_eq_false (not_not.mpr isclose0_zero)]
    · simp [outcomeOf]
  · simp only [if_true]
    cases d
    · show (decide (isclose0 0), script) = (true, script)
      rw [decide_eq_true isclose0_zero]
    · show (decide (¬ isclose0 1), script) = (true, script)
      rw [decide_eq_true not_isclose0_one]
    · simp [outcomeOf]

open Classical in
theorem measureH_of {n : Nat} (ρ P0 P1 : DMat n) (d : Det) (script : List Bool) (os : Bool × List Bool) (ν : ℝ)
    (hos : outcomeOf d (probOf ρ P0) (probOf ρ P1) script = os) (hν : measNormH ρ P0 P1 d script = ν) :
    measureH ρ P0 P1 d script = (((ν : ℂ))⁻¹ • ((if os.1 then P1 else P0) * ρ * (if os.1 then P1 else P0)ᴴ), os.1, os.2,
      decide (0 < probOf ρ P0 ∧ 0 < probOf ρ P1)) := by
  subst hos hν
  rfl

open Classical in
theorem measureH_half {n : Nat} (ρ P0 P1 : DMat n) (s : RunState) (d : Det) (h0 : probOf ρ P0 = 1 / 2)
    (h1 : probOf ρ P1 = 1 / 2) :
    measNormH ρ P0 P1 d s.script = 1 / 2 ∧
    measureH ρ P0 P1 d s.script = ((2 : ℂ) • ((if (s.offer d true).1 then P1 else P0) * ρ *
      (if (s.offer d true).1 then P1 else P0)ᴴ), (s.offer d true).1, (s.offer d true).2, true) := by
  have hn : measNormH ρ P0 P1 d s.script = 1 / 2 := by
    unfold measNormH
    simp only [h0, h1, ite_self]
    norm_num
  refine ⟨hn, ?_⟩
  rw [measureH_of ρ P0 P1 d s.script _ _ (by rw [h0, h1, outcomeOf_half]) hn, h0, h1,
    decide_eq_true (⟨by norm_num, by norm_num⟩ : (0 : ℝ) < 1 / 2 ∧ (0 : ℝ) < 1 / 2)]
  norm_num

open Classical in
theorem measureH_certain {n : Nat} (ρ P0 P1 : DMat n) (d : Det) (script : List Bool) (r : Bool)
    (h0 : probOf ρ P0 = if r then 0 else 1) (h1 : probOf ρ P1 = if r then 1 else 0) :
    measNormH ρ P0 P1 d script = 1 ∧
    measureH ρ P0 P1 d script = ((if r then P1 else P0) * ρ * (if r then P1 else P0)ᴴ, r, script, false) := by
  have hn : measNormH ρ P0 P1 d script = 1 := by
    unfold measNormH
    simp only [h0, h1, outcomeOf_certain]
    cases r <;> norm_num
  refine ⟨hn, ?_⟩
  rw [measureH_of ρ P0 P1 d script _ _ (by rw [h0, h1, outcomeOf_certain]) hn, h0, h1,
    decide_eq_false (by cases r <;> norm_num : ¬ ((0 : ℝ) < (if r then 0 else 1) ∧ (0 : ℝ) < if r then 1 else 0))]
  norm_num

/-! #### the tableau measurement, branch by branch -/

theorem offer_false_snd (s : RunState) (d : Det) : (s.offer d false).2 = s.script := by
  cases d <;> rfl

theorem measure_random (s : RunState) (d : Det) (q p : Nat) (hp : s.t.pivot q = some p) :
    s.measure d q =
      ({ s with
          t := (s.t.measRandom q p (s.offer d true).1).norm, script := (s.offer d true).2,
          rand := s.rand ++ [true], outs := s.outs ++ [(s.offer d true).1] }, (s.offer d true).1) := by
  unfold RunState.measure Tab.zMeasure
  rw [hp]
  rfl

theorem measure_det (s : RunState) (d : Det) (q : Nat) (hp : s.t.pivot q = none) :
    s.measure d q =
      ({ s with t := s.t.norm, rand := s.rand ++ [false], outs := s.outs ++ [(s.t.measScratch q).r] },
        (s.t.measScratch q).r) := by
  unfold RunState.measure Tab.zMeasure
  rw [hp]
  show ({ s with
      t := s.t.norm, script := (s.offer d false).2, rand := s.rand ++ [false],
      outs := s.outs ++ [(s.t.measScratch q).r] }, (s.t.measScratch q).r) = _
  rw [offer_false_snd]

theorem probOf_random (t : Tab) (hv : t.Valid) (hr : t.StabReal) (q p : Nat) (o : Bool) (hq : q < t.n)
    (hp : t.pivot q = some p) : probOf (tabRho t.n t) (proj t.n (Zq q o)) = 1 / 2 :=
  probOf_of_trace _ _ (1 / 2) (by norm_num) (by rw [prob_random t hv hr q p o hq hp]; norm_num)

theorem probOf_det (t : Tab) (hv : t.Valid) (hr : t.StabReal) (q : Nat) (hq : q < t.n) (hp : t.pivot q = none) :
    probOf (tabRho t.n t) (proj t.n (Zq q false)) = (if (t.measScratch q).r then 0 else 1) ∧
    probOf (tabRho t.n t) (proj t.n (Zq q true)) = (if (t.measScratch q).r then 1 else 0) := by
  obtain ⟨ht1, ht0⟩ := prob_det t hv hr q hq hp
  have h1 := probOf_of_trace _ _ 1 zero_le_one (by rw [ht1]; norm_num)
  have h0 := probOf_of_trace _ _ 0 le_rfl (by rw [ht0]; norm_num)
  cases hrr : (t.measScratch q).r
  · rw [hrr] at h0 h1
    exact ⟨h1, h0⟩
  · rw [hrr] at h0 h1
    exact ⟨h0, h1⟩

theorem ite_proj_Zq (n q : Nat) (o : Bool) :
    (if o then proj n (Zq q true) else proj n (Zq q false)) = proj n (Zq q o) := by
  cases o <;> rfl

/-- **`apply_measurement` on the state of a tableau is `z_measurement_gate`.**  For every setting and script the
    density-matrix backend's measurement of qubit `q` returns the density matrix of the tableau after
    `zMeasure q (offered outcome)`, reports the same outcome, leaves the same drawn bits, and "both outcomes possible"
    coincides with "a stabilizer has an X on `q`". -/
theorem measureH_tab (s : RunState) (hv : s.t.Valid) (hr : s.t.StabReal) (d : Det) (q : Nat) (hq : q < s.t.n) :
    measureH (tabRho s.t.n s.t) (projZ s.t.n q false) (projZ s.t.n q true) d s.script
      = (tabRho s.t.n (s.measure d q).1.t, (s.measure d q).2, (s.measure d q).1.script, (s.t.pivot q).isSome) := by
  rw [projZ_eq _ _ hq, projZ_eq _ _ hq]
  cases hp : s.t.pivot q with
  | some p =>
    rw [(measureH_half _ _ _ s d (probOf_random s.t hv hr q p false hq hp) (probOf_random s.t hv hr q p true hq hp)).2,
      measure_random s d q p hp, ite_proj_Zq, proj_Zq_hermitian, proj_tabRho_proj s.t hv hr q p _ hq hp, smul_smul]
    show _ = (tabRho s.t.n (s.t.measRandom q p (s.offer d true).1).norm, _)
    rw [tabRho_norm_of s.t.n (s.t.measRandom q p _) rfl]
    norm_num
  | none =>
    obtain ⟨h0, h1⟩ := probOf_det s.t hv hr q hq hp
    obtain ⟨hfix1, hfix2, -, -⟩ := det_fix s.t hv hr q hq hp
    rw [(measureH_certain _ _ _ d s.script _ h0 h1).2, measure_det s d q hp, ite_proj_Zq, proj_Zq_hermitian, hfix1, hfix2]
    show _ = (tabRho s.t.n s.t.norm, _)
    rw [tabRho_norm s.t]
    rfl

/-- on the state of a tableau the divisor of `apply_measurement` is positive (it is ½ or 1): the density-matrix backend
    never divides by 0 there -/
theorem measNormH_pos_tab (s : RunState) (hv : s.t.Valid) (hr : s.t.StabReal) (d : Det) (q : Nat) (hq : q < s.t.n) :
    0 < measNormH (tabRho s.t.n s.t) (projZ s.t.n q false) (projZ s.t.n q true) d s.script := by
  rw [projZ_eq _ _ hq, projZ_eq _ _ hq]
  cases hp : s.t.pivot q with
  | some p =>
    rw [(measureH_half _ _ _ s d (probOf_random s.t hv hr q p false hq hp) (probOf_random s.t hv hr q p true hq hp)).1]
    norm_num
  | none =>
    obtain ⟨h0, h1⟩ := probOf_det s.t hv hr q hq hp
    rw [(measureH_certain _ _ _ d s.script _ h0 h1).1]
    exact one_pos

/-! ### after a measurement the qubit has a definite Z value; the reset channel -/

theorem zMeasure_stabReal' (t : Tab) (q : Nat) (o : Bool) (hv : t.Valid) (hr : t.StabReal) :
    (t.zMeasure q o).1.StabReal := Tab.zMeasure_real t q o hv hr

theorem pivot_none_of_fixed (t : Tab) (hv : t.Valid) (hr : t.StabReal) (q : Nat) (hq : q < t.n) (s : Bool)
    (hfix : proj t.n (Zq q s) * tabRho t.n t = tabRho t.n t) : t.pivot q = none := by
  cases hp : t.pivot q with
  | none => rfl
  | some p =>
    exfalso
    have h1 := prob_random t hv hr q p (!s) hq hp
    have hfix' : tabRho t.n t * proj t.n (Zq q s) = tabRho t.n t :=
      mul_eq_of_hermitian _ _ (proj_Zq_hermitian _ _ _) (tabRho_hermitian t hv) hfix
    have h0 : tabRho t.n t * proj t.n (Zq q (!s)) = 0 := by
      rw [← hfix', Matrix.mul_assoc, proj_Zq_orth, Matrix.mul_zero]
    rw [h0] at h1
    simp at h1

theorem measure_fixes (s : RunState) (hv : s.t.Valid) (hr : s.t.StabReal) (d : Det) (q : Nat) (hq : q < s.t.n) :
    proj s.t.n (Zq q (s.measure d q).2) * tabRho s.t.n (s.measure d q).1.t = tabRho s.t.n (s.measure d q).1.t := by
  cases hp : s.t.pivot q with
  | some p =>
    rw [measure_random s d q p hp]
    show proj s.t.n (Zq q (s.offer d true).1) * tabRho s.t.n (s.t.measRandom q p (s.offer d true).1).norm
      = tabRho s.t.n (s.t.measRandom q p (s.offer d true).1).norm
    have h2 : tabRho s.t.n (s.t.measRandom q p (s.offer d true).1)
        = (2 : ℂ) • (proj s.t.n (Zq q (s.offer d true).1) * tabRho s.t.n s.t * proj s.t.n (Zq q (s.offer d true).1)) := by
      rw [proj_tabRho_proj s.t hv hr q p _ hq hp, smul_smul]
      norm_num
    rw [tabRho_norm_of s.t.n (s.t.measRandom q p _) rfl, h2, mul_smul_comm, ← Matrix.mul_assoc, ← Matrix.mul_assoc, proj_Zq_idem]
  | none =>
    rw [measure_det s d q hp]
    show proj s.t.n (Zq q (s.t.measScratch q).r) * tabRho s.t.n s.t.norm = tabRho s.t.n s.t.norm
    rw [tabRho_norm s.t]
    exact (det_fix s.t hv hr q hq hp).1

theorem resetChannel_eq {n : Nat} (ρ : DMat n) (q : Nat) (hq : q < n) :
    applyChannel ρ (resetKraus n q) = herm (proj n (Zq q false) * ρ * proj n (Zq q false)
      + pauliMat n (Xq q) * (proj n (Zq q true) * ρ * proj n (Zq q true)) * pauliMat n (Xq q)) := by
  show herm (0 + oneQ n q (ketBra2 false false) * ρ * (oneQ n q (ketBra2 false false))ᴴ
    + oneQ n q (ketBra2 false true) * ρ * (oneQ n q (ketBra2 false true))ᴴ) = _
  rw [zero_add, resetKraus1_eq n q hq, proj_Zq_mul_Xq n q hq false, Bool.not_false,
    show oneQ n q (ketBra2 false false) = proj n (Zq q false) from projZ_eq n q hq false,
    Matrix.conjTranspose_mul, proj_Zq_hermitian, proj_Zq_hermitian, pauliMat_hermitian n (Xq q) rfl]
  simp only [Matrix.mul_assoc]

/-- **The reset channel on a qubit with a definite Z value is `reset_z`.**  If no stabilizer has an X on `q`, the Kraus
    pair `|0⟩⟨0|_q, |0⟩⟨1|_q` maps `ρ(t)` to `ρ(t.resetZ q 0 o)` (for any offered outcome `o`, which is not used). -/
theorem resetChannel_det (t : Tab) (hv : t.Valid) (hr : t.StabReal) (q : Nat) (hq : q < t.n) (hp : t.pivot q = none)
    (o : Bool) : applyChannel (tabRho t.n t) (resetKraus t.n q) = tabRho t.n (t.resetZ q false o) := by
  obtain ⟨hf1, hf2, hz1, -⟩ := det_fix t hv hr q hq hp
  rw [resetChannel_eq _ q hq, TabSpec.resetZ_det_eq t q false o hp]
  cases hrr : (t.measScratch q).r with
  | false =>
    rw [hrr, Bool.not_false] at hz1
    rw [hrr] at hf1 hf2
    rw [if_pos rfl, hf1, hf2, hz1, Matrix.zero_mul, Matrix.mul_zero, Matrix.zero_mul, add_zero]
    exact herm_of_hermitian _ (tabRho_hermitian t hv)
  | true =>
    rw [hrr, Bool.not_true] at hz1
    rw [hrr] at hf1 hf2
    rw [if_neg Bool.noConfusion, hf1, hf2, hz1, Matrix.zero_mul, zero_add]
    -- stated with `X_q` in place of `gateMat (X q)` on both sides before it is used: the two are not reducibly equal
    have hg : herm (gateMat t.n (Gate.X q) * tabRho t.n t * (gateMat t.n (Gate.X q))ᴴ) = tabRho t.n (t.xGate q) :=
      applyUnitary_gate t hv (Gate.X q) hq
    rw [show gateMat t.n (Gate.X q) = pauliMat t.n (Xq q) from oneQ_sigmaX t.n q hq,
      pauliMat_hermitian t.n (Xq q) rfl] at hg
    exact hg

/-! ### the forced-outcome rule tolerates rounding -/

theorem probOf_tab_cases (t : Tab) (hv : t.Valid) (hr : t.StabReal) (q : Nat) (hq : q < t.n) :
    (probOf (tabRho t.n t) (projZ t.n q false) = 1 / 2 ∧ probOf (tabRho t.n t) (projZ t.n q true) = 1 / 2) ∨
    (probOf (tabRho t.n t) (projZ t.n q false) = 1 ∧ probOf (tabRho t.n t) (projZ t.n q true) = 0) ∨
    (probOf (tabRho t.n t) (projZ t.n q false) = 0 ∧ probOf (tabRho t.n t) (projZ t.n q true) = 1) := by
  rw [projZ_eq _ _ hq, projZ_eq _ _ hq]
  cases hp : t.pivot q with
  | some p => exact Or.inl ⟨probOf_random t hv hr q p false hq hp, probOf_random t hv hr q p true hq hp⟩
  | none =>
    have h := probOf_det t hv hr q hq hp
    cases hrr : (t.measScratch q).r
    · rw [hrr] at h
      exact Or.inr (Or.inl h)
    · rw [hrr] at h
      exact Or.inr (Or.inr h)

/-- a value within `1e-8` of 0 passes `np.isclose(·, 0)`, a value within `1e-8` of some `p ≥ ½` does not -/
theorem isclose0_stable (p q : ℝ) (hp : p = 0 ∨ 1 / 2 ≤ p) (hq : |q - p| ≤ 1 / 100000000) :
    isclose0 q ↔ isclose0 p := by
  unfold isclose0
  rcases hp with rfl | hp
  · rw [sub_zero] at hq
    rw [abs_zero]
    exact ⟨fun _ => by norm_num, fun _ => hq⟩
  · have hpp : |p| = p := abs_of_nonneg (by linarith)
    have htri : |p| - |q| ≤ |q - p| := by rw [abs_sub_comm q p]; exact abs_sub_abs_le_abs_sub p q
    constructor
    · intro h; linarith
    · intro h; linarith

open Classical in
/-- **The `np.isclose` rule of the forced settings is stable**: if the exact probabilities are (½,½), (1,0) or (0,1) and
    the computed ones are within `1e-8` of them, the forced-0 / forced-1 outcome is the one computed from the exact
    values (this is what the repair of D39 buys; the comparison `> 0` of the old code was not stable). -/
theorem outcomeOf_forced_robust (d : Det) (hd : d ≠ .prob) (p0 p1 q0 q1 : ℝ) (script : List Bool)
    (hp : (p0 = 1 / 2 ∧ p1 = 1 / 2) ∨ (p0 = 1 ∧ p1 = 0) ∨ (p0 = 0 ∧ p1 = 1))
    (h0 : |q0 - p0| ≤ 1 / 100000000) (h1 : |q1 - p1| ≤ 1 / 100000000) :
    outcomeOf d q0 q1 script = outcomeOf d p0 p1 script := by
  have c : (p0 = 0 ∨ 1 / 2 ≤ p0) ∧ (p1 = 0 ∨ 1 / 2 ≤ p1) := by
    rcases hp with ⟨rfl, rfl⟩ | ⟨rfl, rfl⟩ | ⟨rfl, rfl⟩
    · exact ⟨Or.inr le_rfl, Or.inr le_rfl⟩
    · exact ⟨Or.inr (by norm_num), Or.inl rfl⟩
    · exact ⟨Or.inl rfl, Or.inr (by norm_num)⟩
  cases d with
  | zero =>
    show (decide (isclose0 q0), script) = (decide (isclose0 p0), script)
    rw [decide_eq_decide.mpr (isclose0_stable p0 q0 c.1 h0)]
  | one =>
    show (decide (¬ isclose0 q1), script) = (decide (¬ isclose0 p1), script)
    rw [decide_eq_decide.mpr (not_congr (isclose0_stable p1 q1 c.2 h1))]
  | prob => exact absurd rfl hd

end Hilbert
end Graphiq
