/-
  Proofs/HilbertDimCY.lean — `control_y_gate` of transformation.py (`phase_gate; z_gate; cnot_gate; phase_gate` on the target) is
  conjugation by the controlled-Y unitary `get_two_qubit_controlled_gate(n, c, t, sigmay())`.
-/
import GraphiqModel.Proofs.HilbertDimHistory
namespace Graphiq
namespace Hilbert
open Matrix PRow TabSpec Tab

theorem pauliMat_Zq_diagonal (n c : Nat) (hc : c < n) :
    pauliMat n (Zq c) = Matrix.diagonal (fun b : Bits n => if bx b c then (-1 : ℂ) else 1) := by
  ext a b
  rw [pauliMat_Zq_apply n c false hc, Matrix.diagonal_apply]
  by_cases h : a = b
  · subst h; simp
  · simp [h]

theorem pauliZ_comm_oneQ (n c t : Nat) (hc : c < n) (hct : c ≠ t) (v : Matrix Bool Bool ℂ) :
    pauliMat n (Zq c) * oneQ n t v = oneQ n t v * pauliMat n (Zq c) := by
  rw [pauliMat_Zq_diagonal n c hc]
  ext a b
  rw [Matrix.diagonal_mul, Matrix.mul_diagonal, oneQ_apply]
  by_cases h : ∀ j : Fin n, j.val ≠ t → a j = b j
  · have hab : bx a c = bx b c := by rw [bx_lt _ _ hc, bx_lt _ _ hc]; exact h ⟨c, hc⟩ hct
    rw [if_pos h, hab, _root_.mul_comm]
  · rw [if_neg h, mul_zero, zero_mul]

theorem ctrlQ_conj_oneQ (n c t : Nat) (hc : c < n) (ht : t < n) (hct : c ≠ t) (a b u : Matrix Bool Bool ℂ)
    (hab : a * b = 1) :
    oneQ n t a * ctrlQ n c t u * oneQ n t b = ctrlQ n c t (a * u * b) := by
  rw [ctrlQ_eq_graphiq n c t hc hct, ctrlQ_eq_graphiq n c t hc hct]
  have hcomm : oneQ n t a * (1 - pauliMat n (Zq c)) = (1 - pauliMat n (Zq c)) * oneQ n t a := by
    rw [Matrix.mul_sub, Matrix.sub_mul, Matrix.mul_one, Matrix.one_mul, pauliZ_comm_oneQ n c t hc hct]
  rw [Matrix.mul_add, Matrix.add_mul, Matrix.mul_one, oneQ_mul n t ht, hab, oneQ_one, Matrix.mul_smul, Matrix.smul_mul,
    ← Matrix.mul_assoc, hcomm, Matrix.mul_assoc, Matrix.mul_assoc, oneQ_mul n t ht, oneQ_mul n t ht]
  congr 3
  rw [Matrix.sub_mul, Matrix.one_mul, Matrix.mul_sub, hab, Matrix.mul_assoc]

theorem phaseM_conj_sigmaX : phaseM * sigmaX * phaseMᴴ = sigmaY := by
  rw [← phaseDagM_eq_conjTranspose]
  ext a b
  rw [mul2_apply, mul2_apply, mul2_apply]
  cases a <;> cases b <;> simp [phaseM, phaseDagM, sigmaX, sigmaY]

theorem cy_2x2 : phaseM * (sigmaZ * phaseM) = 1 ∧ phaseM * sigmaX * (sigmaZ * phaseM) = sigmaY := by
  have h : sigmaZ * phaseM = phaseMᴴ := by
    rw [← phaseDagM_eq_conjTranspose]
    ext a b
    rw [mul2_apply]
    cases a <;> cases b <;> simp [phaseM, phaseDagM, sigmaZ]
  rw [h]
  exact ⟨phaseM_unitary.1, phaseM_conj_sigmaX⟩

/-- **`control_y_gate` is CY**: `P_t · CNOT_{c,t} · Z_t · P_t = get_two_qubit_controlled_gate(n, c, t, Y)` -/
theorem control_y_unitary (n c t : Nat) (hc : c < n) (ht : t < n) (hct : c ≠ t) :
    gateMat n (.P t) * gateMat n (.CNOT c t) * gateMat n (.Z t) * gateMat n (.P t) = ctrlQ n c t sigmaY := by
  show oneQ n t phaseM * ctrlQ n c t sigmaX * oneQ n t sigmaZ * oneQ n t phaseM = _
  rw [Matrix.mul_assoc, oneQ_mul n t ht, ctrlQ_conj_oneQ n c t hc ht hct _ _ _ cy_2x2.1, cy_2x2.2]

/-- **`control_y_gate` on the state**: `ρ(cyGate t c tg) = CY ρ CY†` -/
theorem rho_cyGate (t : Tab) (c tg : Nat) (hc : c < t.n) (ht : tg < t.n) (hct : c ≠ tg) :
    rho t.n (STab.ofTab (t.cyGate c tg))
      = ctrlQ t.n c tg sigmaY * rho t.n (STab.ofTab t) * (ctrlQ t.n c tg sigmaY)ᴴ := by
  have h := rho_tab_circ t.n [.P tg, .Z tg, .CNOT c tg, .P tg] t rfl (by
    intro g hg
    simp only [List.mem_cons, List.mem_nil_iff, or_false] at hg
    rcases hg with rfl | rfl | rfl | rfl
    · exact ht
    · exact ht
    · exact ⟨hc, ht, hct⟩
    · exact ht)
  have hm : circMat t.n [.P tg, .Z tg, .CNOT c tg, .P tg] = ctrlQ t.n c tg sigmaY := by
    show 1 * gateMat t.n (.P tg) * gateMat t.n (.CNOT c tg) * gateMat t.n (.Z tg) * gateMat t.n (.P tg) = _
    rw [Matrix.one_mul, control_y_unitary t.n c tg hc ht hct]
  rw [hm] at h
  exact h

end Hilbert
end Graphiq
