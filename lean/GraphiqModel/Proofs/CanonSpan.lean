/-
  Proofs/CanonSpan.lean — the subset-product normal form (Proofs/PauliSpan.lean) read on a real commuting tableau: every element
  of its signed group is (up to `EqOn`) the ordered product of a subset of the rows.
-/
import GraphiqModel.Proofs.StabTableau
namespace Graphiq
open PRow Tab

namespace STab

theorem sprod_rows_congr (n : Nat) (row row' : Nat → PRow) (S : Nat → Bool) (m : Nat)
    (h : ∀ i, i < m → S i = true → row i = row' i) : sprod n row S m = sprod n row' S m := by
  induction m with
  | zero => rfl
  | succ k ih =>
    simp only [sprod]
    rw [ih (fun i hi => h i (by omega))]
    cases hS : S k
    · rfl
    · rw [h k (by omega) hS]

theorem sprod_spn (t : STab) (S : Nat → Bool) (m : Nat) (hm : m ≤ t.n) : t.Spn (sprod t.n t.row S m) :=
  (InSpan.closed _ _ _).sprod_mem (fun i hi => spn_gen t i (by omega)) S

theorem sprod_mul (t : STab) (hg : t.Good) (S T : Nat → Bool) (m : Nat) (hm : m ≤ t.n) :
    EqOn t.n (PRow.mul t.n (sprod t.n t.row S m) (sprod t.n t.row T m))
      (sprod t.n t.row (fun i => xor (S i) (T i)) m) :=
  (InSpan.closed _ _ _).sprod_mul (spn_comm t hg) (spn_real t hg) (fun i hi => spn_gen t i (by omega)) S T

/-- **subset-product representation**: every element of the signed group of a real commuting tableau is the ordered
    product of a subset of its rows -/
theorem spn_repr (t : STab) (hg : t.Good) (g : PRow) (h : t.Spn g) :
    ∃ S : Nat → Bool, EqOn t.n g (sprod t.n t.row S t.n) :=
  InSpan.repr (spn_comm t hg) (spn_real t hg) h

theorem mul_sameBits_r (n : Nat) (a b : PRow) (ha : a.ip = false) (hb : b.ip = false) (h : SameBits n a b) :
    (PRow.mul n a b).r = xor a.r b.r := by
  have hp := mul_ph n a b
  have g0 : gSum n a b = 0 := by
    rw [gSum_congr n a a b a (fun j hj => ⟨rfl, rfl⟩) (fun j hj => ⟨(h j hj).1.symm, (h j hj).2.symm⟩)]
    exact gSum_self n a
  rw [g0] at hp
  have hi : (PRow.mul n a b).ip = false := by
    have : sp n a b = false := by
      rw [sp_congr n a a b a (fun j hj => ⟨rfl, rfl⟩) (fun j hj => ⟨(h j hj).1.symm, (h j hj).2.symm⟩)]
      exact sp_self n a
    exact mul_real n a b ha hb this
  unfold ph at hp
  rw [ha, hb, hi] at hp
  cases h1 : (PRow.mul n a b).r <;> cases h2 : a.r <;> cases h3 : b.r <;> simp [h1, h2, h3, Bool.toInt'] at hp ⊢

end STab
end Graphiq
