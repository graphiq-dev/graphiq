/-
  PrepDepthSched.lean — schedules (Proofs/PrepDepthStatic.lean) along the edits:
    * creating a register changes no schedule; `remove_op` erases the node's entry;
    * `add`, `unwrap_nodes`, `remove_identity`: the wires afterwards carry the operation appended / the unwrapped / the non-identity
      operations (as wired, Proofs/MetricsHistWires.lean), and a circuit has a schedule with any operation list that shows on every
      wire what the wire carries (`sched_of_wires`); hence a circuit built by `add` has a schedule holding the operation list, and the
      prepared copy of a circuit with a schedule `L` one whose operation list is exactly `Spec.unwrapSeq (L.map snd)`.
-/
import GraphiqModel.Proofs.MetricsHistWires
namespace Graphiq
namespace Metrics
open Dag Relation

theorem Sched.of_inv {c : Dag} {P P' : Paths} {L : List (NodeId × Op)} (hS : Sched c P L) (h : Inv c P) (h' : Inv c P') :
    Sched c P' L := by
  have : P' = P := by funext r; exact h'.paths_unique h r
  rw [this]; exact hS

theorem schedWire_eq_nil {L : List (NodeId × Op)} {r : Reg} (h : ∀ p ∈ L, r ∉ opRegs p.2) : schedWire L r = [] := by
  apply List.eq_nil_iff_forall_not_mem.mpr
  intro n hn
  obtain ⟨p, hp, hr, _⟩ := mem_schedWire.mp hn
  exact h p hp hr

theorem withNewReg_sched_iff {c : Dag} {P : Paths} {L : List (NodeId × Op)} (g : Good c P) {r : Reg} (hr : r.idx = c.regs r.ty) :
    Sched (c.withNewReg r) (setPath P r [.inp r, .out r]) L ↔ Sched c P L := by
  have hnl : ¬ c.live r := by simp [live, hr]
  have hnodes : (c.withNewReg r).nodes = c.nodes ++ [(.inp r, Op.io .input r), (.out r, Op.io .output r)] := rfl
  have hw : ∀ i o, wiredOp (setPath P r [.inp r, .out r]) (.op i) o = wiredOp P (.op i) o := by
    intro i o
    apply wiredOp_congr
    intro j _
    by_cases hj : (⟨.c, j⟩ : Reg) = r
    · rw [hj, setPath_same, g.inv.dead r hnl]; simp
    · rw [setPath_other _ _ hj]
  have hn : ∀ p : NodeId × Op,
      ((∃ i, p.1 = NodeId.op i) ∧ ∃ o, (p.1, o) ∈ (c.withNewReg r).nodes ∧ p.2 = wiredOp (setPath P r [.inp r, .out r]) p.1 o) ↔
      ((∃ i, p.1 = NodeId.op i) ∧ ∃ o, (p.1, o) ∈ c.nodes ∧ p.2 = wiredOp P p.1 o) := by
    intro p
    rw [hnodes]
    constructor
    · rintro ⟨⟨i, hi⟩, o, hm, ho⟩
      rcases List.mem_append.mp hm with hm | hm
      · exact ⟨⟨i, hi⟩, o, hm, by rw [ho, hi, hw]⟩
      · exfalso
        simp at hm
        rcases hm with ⟨h1, _⟩ | ⟨h1, _⟩ <;> rw [hi] at h1 <;> cases h1
    · rintro ⟨⟨i, hi⟩, o, hm, ho⟩
      exact ⟨⟨i, hi⟩, o, List.mem_append.mpr (Or.inl hm), by rw [ho, hi, hw]⟩
  constructor
  · intro hS'
    refine Sched.of_good g ?_ (fun p => (hS'.nodes p).trans (hn p)) hS'.nodup
    intro r' hl
    have := hS'.wire r' ((withNewReg_live c r r' hr).mpr (Or.inl hl))
    rwa [setPath_other _ _ (fun e : r' = r => hnl (e ▸ hl))] at this
  · intro hS
    refine Sched.of_good (withNewReg_good g hr) ?_ (fun p => (hS.nodes p).trans (hn p).symm) hS.nodup
    intro r' hl'
    rcases (withNewReg_live c r r' hr).mp hl' with hl | rfl
    · rw [setPath_other _ _ (fun e : r' = r => hnl (e ▸ hl))]; exact hS.wire r' hl
    · rw [setPath_same, schedWire_eq_nil (fun p hp hm => hnl (hS.live p hp r' hm))]
      rfl

theorem sched_iff_of_newReg {c c' : Dag} {P P' : Paths} (s : Chain Prim.IsNewReg c P c' P') (g : Good c P)
    (L : List (NodeId × Op)) : Sched c' P' L ↔ Sched c P L :=
  (s.preserves (Q := fun d D => ∀ L, Sched d D L ↔ Sched c P L) (fun {_ _ p} g' a hp h L => by
    cases p with
    | newReg r => exact (withNewReg_sched_iff g' hp).trans (h L)
    | _ => exact a.elim) g (fun _ => Iff.rfl)).2 L

/-- **`_add` appends to the operation list of the schedule**: the wires afterwards carry what they carried, with the operation
    appended on its registers -/
theorem add_sched {c : Dag} {P : Paths} {L : List (NodeId × Op)} (g : Good c P) (hS : Sched c P L) {op : Op} (hop : OpWF op)
    (hlive : ∀ r ∈ opRegs op, c.live r) :
    ∃ P' L', Good (c.add_ op) P' ∧ Sched (c.add_ op) P' L' ∧ L'.map (·.2) = L.map (·.2) ++ [op] := by
  obtain ⟨g2, _⟩ := add_spec g hop hlive
  obtain ⟨L', hS', hL'⟩ := sched_of_wires g2 (ops := L.map (·.2) ++ [op])
    (fun o ho => by
      rcases List.mem_append.mp ho with ho | ho
      · obtain ⟨p, hp, rfl⟩ := List.mem_map.mp ho; exact hS.opRegs_ne g hp
      · rw [List.mem_singleton.mp ho]; exact fun h => hop.qregs_ne (List.append_eq_nil_iff.mp h).1)
    (fun r => by
      rw [add_wiredWire g hop hlive r, wiredWire_of_sched g hS r, List.filter_append]
      by_cases hr : r ∈ opRegs op <;> simp [hr])
  exact ⟨_, L', g2, hS', hL'⟩

/-- **`add(op)` appends to the operation list of the schedule** (when the call succeeds) -/
theorem add_ok_sched {c : Dag} {P : Paths} {L : List (NodeId × Op)} (g : Good c P) (hS : Sched c P L) {op : Op} (hop : OpWF op)
    (hok : (c.add op).2 = none) :
    ∃ P' L', Good (c.add op).1 P' ∧ Sched (c.add op).1 P' L' ∧ L'.map (·.2) = L.map (·.2) ++ [op] := by
  obtain ⟨hens, heq⟩ := add_of_ok hok
  obtain ⟨P1, s, hl1⟩ := ensureRegs_chain g op
  rw [heq]
  exact add_sched (s.good g) ((sched_iff_of_newReg s g L).mpr hS) hop (hl1 hens)

theorem empty_sched : Sched Dag.empty (fun _ => []) [] := by
  refine ⟨?_, ?_, by simp, ?_⟩
  · intro r hl; cases r with | mk t i => cases t <;> simp [live, regs, Dag.empty] at hl
  · intro p; simp [Dag.empty]
  · intro p hp; simp at hp

/-- **a circuit built by `add` has the schedule "operation nodes in creation order"**, holding the operation list -/
theorem build_sched (ne np nc : Nat) (seq : List Op) (hwf : ∀ op ∈ seq, OpWF op) (hok : (build ne np nc seq).2 = none) :
    ∃ P L, Good (build ne np nc seq).1 P ∧ Sched (build ne np nc seq).1 P L ∧ L.map (·.2) = seq := by
  refine build_preserves (R := fun c done => ∃ P L, Good c P ∧ Sched c P L ∧ L.map (·.2) = done) ?_ ?_ seq hwf hok
  · unfold Dag.init
    obtain ⟨P0, s, _⟩ := addRegs_chain empty_good
      ((List.range ne).map (Reg.mk .e) ++ (List.range np).map (Reg.mk .p) ++ (List.range nc).map (Reg.mk .c))
    exact ⟨P0, [], s.good empty_good, (sched_iff_of_newReg s empty_good []).mpr empty_sched, rfl⟩
  · rintro c done op ⟨P, L, g, hS, hL⟩ hop hadd
    obtain ⟨P', L', g', hS', hL'⟩ := add_ok_sched g hS hop hadd
    exact ⟨P', L', g', hS', by rw [hL', hL]⟩

theorem nodup_fst_split {L1 L2 : List (NodeId × Op)} {q : NodeId × Op} (h : ((L1 ++ q :: L2).map (·.1)).Nodup) :
    (∀ p ∈ L1, p.1 ≠ q.1) ∧ (∀ p ∈ L2, p.1 ≠ q.1) := by
  rw [List.map_append, List.map_cons, List.nodup_append] at h
  obtain ⟨_, h2, h3⟩ := h
  rw [List.nodup_cons] at h2
  constructor
  · intro p hp e
    exact h3 p.1 (List.mem_map.mpr ⟨p, hp, rfl⟩) q.1 (by simp) e
  · intro p hp e
    exact h2.1 (e ▸ List.mem_map.mpr ⟨p, hp, rfl⟩)

theorem mem_without_mid {L1 L2 : List (NodeId × Op)} {q : NodeId × Op} (h : ((L1 ++ q :: L2).map (·.1)).Nodup)
    (p : NodeId × Op) : p ∈ L1 ++ L2 ↔ p ∈ L1 ++ q :: L2 ∧ p.1 ≠ q.1 := by
  obtain ⟨h1, h2⟩ := nodup_fst_split h
  simp only [List.mem_append, List.mem_cons]
  constructor
  · rintro (hp | hp)
    · exact ⟨Or.inl hp, h1 p hp⟩
    · exact ⟨Or.inr (Or.inr hp), h2 p hp⟩
  · rintro ⟨hp | rfl | hp, hne⟩
    · exact Or.inl hp
    · exact absurd rfl hne
    · exact Or.inr hp

theorem plainOp'_of_wiredOp {P : Paths} {n : NodeId} {o : Op} (h : PlainOp' (wiredOp P n o)) : PlainOp' o :=
  { labels := h.labels, arity := h.arity, inner_base := h.inner_base }

theorem plainOp'_wiredOp {P : Paths} {n : NodeId} {o : Op} (h : PlainOp' o) : PlainOp' (wiredOp P n o) :=
  { labels := h.labels, arity := h.arity, inner_base := h.inner_base }

theorem Sched.wf_plain {c : Dag} {P : Paths} {L : List (NodeId × Op)} (g : Good c P) (hpl : AllPlain c) (hS : Sched c P L) :
    ∀ o ∈ L.map (·.2), OpWF o ∧ PlainOp' o := by
  intro o ho
  obtain ⟨p, hp, rfl⟩ := List.mem_map.mp ho
  obtain ⟨i, o', _, hm, hpo⟩ := hS.op_node hp
  rw [hpo]
  exact ⟨wiredOp_wf (g.inv.op_wf i o' hm), plainOp'_wiredOp (hpl i o' hm)⟩

theorem allPlain_of_sched {c : Dag} {P : Paths} {L : List (NodeId × Op)} (hS : Sched c P L)
    (h : ∀ o ∈ L.map (·.2), PlainOp' o) : AllPlain c :=
  fun _ _ hm => plainOp'_of_wiredOp (h _ (List.mem_map.mpr ⟨_, hS.mem_of_node hm, rfl⟩))

/-- **`unwrap_nodes` on the schedule**: the call succeeds, keeps DagInv and plainness, and the schedule afterwards holds, in
    order, the unwrapped operation list -/
theorem unwrapNodes_sched {c : Dag} {P : Paths} {L : List (NodeId × Op)} (g : Good c P) (hpl : AllPlain c) (hS : Sched c P L) :
    c.unwrapNodes.2 = none ∧ ∃ P' L', Good c.unwrapNodes.1 P' ∧ Sched c.unwrapNodes.1 P' L' ∧ AllPlain c.unwrapNodes.1 ∧
      L'.map (·.2) = (L.map (·.2)).flatMap Op.unwrap := by
  obtain ⟨e, P', g', hpl', hw⟩ := unwrapNodes_wiredWire g hpl
  have hwf := fun o ho => (hS.wf_plain g hpl o ho).1
  obtain ⟨L', hS', hL'⟩ := sched_of_wires g' (ops := (L.map (·.2)).flatMap Op.unwrap)
    (fun o ho => by
      obtain ⟨w, hwL, how⟩ := List.mem_flatMap.mp ho
      obtain ⟨p, hp, rfl⟩ := List.mem_map.mp hwL
      rw [opRegs_unwrap (hwf _ hwL) o how]; exact hS.opRegs_ne g hp)
    (fun r => by rw [hw r, wiredWire_of_sched g hS r, filter_flatMap_unwrap r _ hwf])
  exact ⟨e, P', L', g', hS', hpl', hL'⟩

/-- the bridge from the `add`-built theorems to the schedule theorems: a circuit built by `add` from a plain list has the schedule
    "nodes in creation order", whose operation list is the list itself -/
theorem build_plain_sched (ne np nc : Nat) (seq : List Op) (hseq : ∀ op ∈ seq, OpWF op ∧ PlainOp' op)
    (hok : (build ne np nc seq).2 = none) :
    ∃ P L, Good (build ne np nc seq).1 P ∧ AllPlain (build ne np nc seq).1 ∧ Sched (build ne np nc seq).1 P L ∧
      L.map (·.2) = seq := by
  obtain ⟨P, L, g, hS, hL⟩ := build_sched ne np nc seq (fun op h => (hseq op h).1) hok
  exact ⟨P, L, g, allPlain_of_sched hS (fun o ho => (hseq o (hL ▸ ho)).2), hS, hL⟩

theorem erase_cons_append_singleton {a b n : NodeId} (ha : a ≠ n) (hb : b ≠ n) (l : List NodeId) :
    (a :: (l ++ [b])).erase n = a :: (l.erase n ++ [b]) := by
  rw [List.erase_cons_tail (by simpa using ha)]
  congr 1
  by_cases hm : n ∈ l
  · exact List.erase_append_left _ hm
  · rw [List.erase_append_right _ hm, List.erase_of_not_mem hm]
    congr 1
    exact List.erase_of_not_mem (by simpa using fun e => hb e.symm)

theorem wiredOp_erase_ne {P : Paths} {n x : NodeId} (hx : x ≠ n) (o : Op) : wiredOp (erasePaths P n) x o = wiredOp P x o := by
  apply wiredOp_congr
  intro j _
  unfold erasePaths
  rw [List.mem_erase_of_ne hx]

theorem removeNode_sched {c : Dag} {P : Paths} {L : List (NodeId × Op)} (g : Good c P) (hS : Sched c P L) {i : Nat} {w : Op}
    (hw : (NodeId.op i, w) ∈ c.nodes) :
    ∃ L1 L2, L = L1 ++ (NodeId.op i, wiredOp P (.op i) w) :: L2 ∧
      Good (c.removeOp (.op i)).1 (erasePaths P (.op i)) ∧ Sched (c.removeOp (.op i)).1 (erasePaths P (.op i)) (L1 ++ L2) := by
  have hwL : (NodeId.op i, wiredOp P (.op i) w) ∈ L := hS.mem_of_node hw
  obtain ⟨L1, L2, hL⟩ := List.append_of_mem hwL
  obtain ⟨_, g2, hregs, _⟩ := removeOp_good g (mem_nodeIds.mpr ⟨w, hw⟩)
  have hnodes : (c.removeOp (.op i)).1.nodes = c.nodes.filter (fun p => p.1 ≠ .op i) := removeOp_nodes g.inv hw
  obtain ⟨hne1, hne2⟩ := nodup_fst_split (q := (NodeId.op i, wiredOp P (.op i) w)) (by rw [← hL]; exact hS.nodup)
  have hnot : ∀ r, NodeId.op i ∉ schedWire L1 r ∧ NodeId.op i ∉ schedWire L2 r := by
    intro r
    constructor
    · intro hm; obtain ⟨p, hp, _, hp1⟩ := mem_schedWire.mp hm; exact hne1 p hp hp1
    · intro hm; obtain ⟨p, hp, _, hp1⟩ := mem_schedWire.mp hm; exact hne2 p hp hp1
  refine ⟨L1, L2, hL, g2, Sched.of_good g2 ?_ ?_ ?_⟩
  · intro r hl
    have hl0 : c.live r := (live_eq_of_regs hregs r).mp hl
    unfold erasePaths
    rw [hS.wire r hl0, erase_cons_append_singleton (by simp) (by simp), hL, schedWire_append, schedWire_append]
    congr 2
    by_cases hr : r ∈ opRegs (wiredOp P (.op i) w)
    · rw [schedWire_cons_pos (p := (NodeId.op i, wiredOp P (.op i) w)) hr]
      exact erase_append_mid (hnot r).1
    · rw [schedWire_cons_neg (p := (NodeId.op i, wiredOp P (.op i) w)) hr]
      apply List.erase_of_not_mem
      intro hm
      rcases List.mem_append.mp hm with hm | hm
      · exact (hnot r).1 hm
      · exact (hnot r).2 hm
  · intro p
    rw [mem_without_mid (hL ▸ hS.nodup) p, ← hL, hS.nodes p, hnodes]
    constructor
    · rintro ⟨⟨hi, o, hm, ho⟩, hne⟩
      exact ⟨hi, o, List.mem_filter.mpr ⟨hm, by simpa using hne⟩, by rw [ho, wiredOp_erase_ne hne]⟩
    · rintro ⟨hi, o, hm, ho⟩
      obtain ⟨hm, hne⟩ := List.mem_filter.mp hm
      have hne' : p.1 ≠ NodeId.op i := by simpa using hne
      exact ⟨⟨hi, o, hm, by rw [ho, wiredOp_erase_ne hne']⟩, hne'⟩
  · exact (hL ▸ hS.nodup).sublist (((List.Sublist.refl L1).append (List.sublist_cons_self _ L2)).map _)

/-- **`remove_identity` on the schedule**: the call succeeds, keeps DagInv and plainness, and the schedule afterwards holds, in
    order, the non-identity operations -/
theorem removeIdentity_sched {c : Dag} {P : Paths} {L : List (NodeId × Op)} (g : Good c P) (hpl : AllPlain c) (hS : Sched c P L) :
    c.removeIdentity.2 = none ∧ ∃ P' L', Good c.removeIdentity.1 P' ∧ Sched c.removeIdentity.1 P' L' ∧ AllPlain c.removeIdentity.1 ∧
      L'.map (·.2) = (L.map (·.2)).filter (fun o => !decide (o.kind = .identity)) := by
  obtain ⟨e, P', g', hpl', hw⟩ := removeIdentity_wiredWire g hpl
  obtain ⟨L', hS', hL'⟩ := sched_of_wires g' (ops := (L.map (·.2)).filter (fun o => !decide (o.kind = .identity)))
    (fun o ho => by
      obtain ⟨p, hp, rfl⟩ := List.mem_map.mp (List.mem_filter.mp ho).1
      exact hS.opRegs_ne g hp)
    (fun r => by
      rw [hw r, wiredWire_of_sched g hS r, List.filter_filter, List.filter_filter]
      exact List.filter_congr fun o _ => Bool.and_comm _ _)
  exact ⟨e, P', L', g', hS', hpl', hL'⟩

theorem prep_eq_ok {c c' : Dag} (h : prep c = .ok c') : c' = (c.unwrapNodes.1.removeIdentity).1 := by
  unfold prep at h
  cases hu : c.unwrapNodes with
  | mk c1 e1 =>
    rw [hu] at h
    cases e1 with
    | some e => simp at h
    | none =>
      simp only at h
      cases hr : c1.removeIdentity with
      | mk c2 e2 =>
        rw [hr] at h
        cases e2 with
        | some e => simp at h
        | none => simp only at h; injection h with h; exact h.symm

/-- **the prepared copy** `unwrap_nodes(); remove_identity()` of a circuit satisfying DagInv with plain operations and a
    schedule `L`: both calls succeed, the copy satisfies DagInv, has the same registers, plain operations, and a schedule
    holding exactly the unwrapped, identity-free list of `L`'s operations, in order -/
theorem prep_sched {c : Dag} {P : Paths} {L : List (NodeId × Op)} (g : Good c P) (hpl : AllPlain c) (hS : Sched c P L) :
    ∃ c' P' L', prep c = .ok c' ∧ Good c' P' ∧ Sched c' P' L' ∧ L'.map (·.2) = Spec.unwrapSeq (L.map (·.2)) ∧
      c'.regs = c.regs ∧ AllPlain c' := by
  obtain ⟨he1, P1, L1, g1, hS1, hpl1, hL1⟩ := unwrapNodes_sched g hpl hS
  obtain ⟨_, s1⟩ := unwrapNodes_chain g
  have hr1 := s1.regs (fun _ h => h.not_newReg) g
  obtain ⟨he2, P2, L2, g2, hS2, hpl2, hL2⟩ := removeIdentity_sched g1 hpl1 hS1
  obtain ⟨_, s2⟩ := removeIdentity_chain g1
  have hr2 := s2.regs (fun _ h => h.not_newReg) g1
  refine ⟨_, P2, L2, ?_, g2, hS2, by rw [hL2, hL1, unwrapSeq_eq], hr2.trans hr1, hpl2⟩
  unfold prep
  rw [show c.unwrapNodes = (c.unwrapNodes.1, none) from Prod.ext rfl he1]
  simp only
  rw [show c.unwrapNodes.1.removeIdentity = (c.unwrapNodes.1.removeIdentity.1, none) from Prod.ext rfl he2]

end Metrics
end Graphiq
