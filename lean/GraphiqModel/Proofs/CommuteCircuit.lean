/-
  Proofs/CommuteCircuit.lean — on a sane circuit (`Wire.Circuit.Good`) whose measuring / two-qubit operations have the right
  number of quantum registers, every operation of the compile sequence is decodable by the stabilizer semantics (`decode`) and has distinct
  registers; hence `run_refines` applies to the circuit's compile sequences.  Also the trace-monoid lemma of Proofs/Wire
  for sane circuits (`denote_eq_of_good_flat_eq`) and sanity of a circuit built by `add` from a list of operations
  (`Good_foldl_addCore`), and boolean witnesses of membership in the stabilizer group for concrete tableaux (`grpCheck`).
-/
import GraphiqModel.Proofs.CommuteRefine
namespace Graphiq.Commute
open Graphiq PRow Tab TabSpec
open Graphiq.Wire (Reg RegType SOp Item Kind G1 runSeq Circuit Op flatOp sopsOfOp Rewrites)

def ArOp (op : Wire.Op) : Prop :=
  match op.kind with
  | .measZ => ∃ r, op.q = [r]
  | .cnot | .cz | .ccnot | .ccz | .mcr => ∃ a b, op.q = [a, b]
  | _ => True

/-- every operation of the circuit has the number of quantum registers of its class -/
def ArityOk (c : Circuit) : Prop := c.NodesSat ArOp

theorem Rewrites.arityOk {c c' : Circuit} (hgood : c.Good) (har : ArityOk c) (h : Wire.Rewrites c c') : ArityOk c' :=
  h.nodesSat hgood har (fun _ _ => trivial) (fun _ _ _ => trivial)

theorem arityOk_empty (ne np nc : Nat) : ArityOk (Circuit.empty ne np nc) := fun n op h => by simp [Circuit.empty] at h

theorem arityOk_addCore (c : Circuit) (op : Wire.Op) (h : ArityOk c) (hop : ArOp op) : ArityOk (c.addCore op) := by
  unfold ArityOk
  rw [Wire.addCore_eq]
  exact Wire.NodesSat_insertAt c op _ h hop

/-- a sane circuit stays sane when a list of operations is `add`ed, each of which meets the conditions of `Good_addCore`
    — stated so that for a concrete list they are evaluated -/
theorem Good_foldl_addCore (ops : List Wire.Op) (c : Circuit) (hc : c.Good)
    (h : ∀ op, op ∈ ops → op.q ≠ [] ∧ op.addRegs.Nodup ∧ (∀ i, i ∈ op.cr → i < c.nc) ∧
      (op.kind.isGate1 = true → op.q.length = 1 ∧ op.cr = []) ∧ ∀ r, r ∈ op.q → c.validReg r = true ∧ r.ty ≠ .c) :
    (ops.foldl (fun c op => c.addCore op) c).Good := by
  induction ops generalizing c with
  | nil => exact hc
  | cons op ops ih =>
    obtain ⟨h1, h2, h3, h4, h5⟩ := h op List.mem_cons_self
    refine ih (c.addCore op)
      (Wire.Good_addCore c op hc ⟨h1, h2, h3, fun hg => ⟨List.length_eq_one_iff.mp (h4 hg).1, (h4 hg).2⟩⟩ h5) (fun op' hop' => ?_)
    obtain ⟨k1, k2, k3, k4, k5⟩ := h op' (List.mem_cons_of_mem _ hop')
    refine ⟨k1, k2, ?_, k4, fun r hr => ?_⟩
    · rw [Wire.addCore_nc]; exact k3
    · rw [Wire.validReg_congr (Wire.addCore_ne c op) (Wire.addCore_np c op) (Wire.addCore_nc c op)]; exact k5 r hr

/-- `Wire.denote_eq_of_flat_eq` for sane circuits -/
theorem denote_eq_of_good_flat_eq {σ : Type} (app : SOp → σ → σ)
    (hcomm : ∀ a b : SOp, (∀ r, r ∈ a.regs → r ∉ b.regs) → ∀ s, app a (app b s) = app b (app a s))
    (c c' : Circuit) (hgood : c.Good) (hgood' : c'.Good) (hflat : c'.flat = c.flat) (seq seq' : List Nat)
    (hl : c.isLinearExtension seq = true) (hl' : c'.isLinearExtension seq' = true) (s : σ) :
    runSeq app (c'.sops seq') s = runSeq app (c.sops seq) s :=
  Wire.denote_eq_of_flat_eq app hcomm c' c hgood'.1 hgood.1 (Wire.good_arity1 hgood') (Wire.good_arity1 hgood)
    (Wire.good_qNonempty hgood') (Wire.good_qNonempty hgood) seq' seq hl' hl hflat s

theorem flat_counts {c c' : Circuit} (h : c'.flat = c.flat) : c'.ne = c.ne ∧ c'.np = c.np :=
  ⟨(Wire.flat_eq_iff.mp h).1, (Wire.flat_eq_iff.mp h).2.1⟩

/-- any finite sequence of the five rewrites (the property quantifies over all interleavings of the calls) -/
inductive RewritesStar : Circuit → Circuit → Prop where
  | refl (c : Circuit) : RewritesStar c c
  | tail {c c1 c2 : Circuit} : RewritesStar c c1 → Wire.Rewrites c1 c2 → RewritesStar c c2

theorem RewritesStar.single {c c' : Circuit} (h : Rewrites c c') : RewritesStar c c' := .tail (.refl c) h

theorem RewritesStar.good {c c' : Circuit} (hgood : c.Good) (h : RewritesStar c c') : c'.Good := by
  induction h with
  | refl => exact hgood
  | tail _ r ih => exact r.good ih

theorem RewritesStar.flat_eq {c c' : Circuit} (hgood : c.Good) (h : RewritesStar c c') : c'.flat = c.flat := by
  induction h with
  | refl => rfl
  | tail h1 r ih => exact (r.flat_eq (h1.good hgood)).trans ih

theorem RewritesStar.counts {c c' : Circuit} (hgood : c.Good) (h : RewritesStar c c') : c'.ne = c.ne ∧ c'.np = c.np :=
  flat_counts (h.flat_eq hgood)

theorem RewritesStar.nodesSat {Q : Wire.Op → Prop} {c c' : Circuit} (hgood : c.Good) (hQ : c.NodesSat Q)
    (hb : ∀ g r, Q (Op.base1 g r)) (hw : ∀ r gs, gs ≠ [] → Q ⟨.wrapper gs, [r], [], false⟩) (h : RewritesStar c c') :
    c'.NodesSat Q := by
  induction h with
  | refl => exact hQ
  | tail h1 r ih => exact r.nodesSat (h1.good hgood) ih hb hw

theorem RewritesStar.arityOk {c c' : Circuit} (hgood : c.Good) (har : ArityOk c) (h : RewritesStar c c') : ArityOk c' :=
  h.nodesSat hgood har (fun _ _ => trivial) (fun _ _ _ => trivial)

theorem regIx_of_valid (c : Circuit) (r : Reg) (hv : c.validReg r = true) (hty : r.ty ≠ .c) :
    (regIx c.ne c.np r).isSome = true := by
  obtain ⟨ty, idx⟩ := r
  cases ty
  · have : idx < c.ne := of_decide_eq_true hv
    simp [regIx, this]
  · have : idx < c.np := of_decide_eq_true hv
    simp [regIx, this]
  · exact absurd rfl hty

theorem mem_sops {c : Circuit} {seq : List Nat} {a : SOp} (h : a ∈ c.sops seq) :
    ∃ n op it, c.node n = some op ∧ it ∈ flatOp op ∧ a = ⟨it, op.q⟩ := by
  simp only [Circuit.sops, List.mem_flatMap] at h
  obtain ⟨n, _, hx⟩ := h
  cases hop : c.node n with
  | none => simp [Circuit.sopsOfNode, hop] at hx
  | some op =>
    simp only [Circuit.sopsOfNode, hop, sopsOfOp, List.mem_map] at hx
    obtain ⟨it, hit, rfl⟩ := hx
    exact ⟨n, op, it, hop, hit, rfl⟩

theorem sops_ok (c : Circuit) (hgood : c.Good) (har : ArityOk c) (seq : List Nat) :
    ∀ a, a ∈ c.sops seq → (decode c.ne c.np a).isSome = true ∧ a.regs.Nodup := by
  intro a ha
  obtain ⟨n, op, it, hop, hit, rfl⟩ := mem_sops ha
  obtain ⟨_, hnd, _, har1⟩ := hgood.2 n op hop
  have hqnd : op.q.Nodup := (List.nodup_append.mp hnd).1
  refine ⟨?_, hqnd⟩
  have hval : ∀ r, r ∈ op.q → (regIx c.ne c.np r).isSome = true := fun r hr =>
    regIx_of_valid c r (hgood.1.qvalid n op hop r hr).1 (hgood.1.qvalid n op hop r hr).2
  have hA : ArOp op := har n op hop
  unfold ArOp at hA
  cases hk : op.kind with
  | wrapper _ | base _ =>
    obtain ⟨⟨r, hq⟩, _⟩ := har1 (by rw [hk]; rfl)
    simp only [flatOp, hk, List.mem_map] at hit
    obtain ⟨g, _, rfl⟩ := hit
    obtain ⟨q, hq'⟩ := Option.isSome_iff_exists.mp (hval r (by rw [hq]; simp))
    simp [decode, hq, hq']
  | measZ =>
    rw [hk] at hA
    obtain ⟨r, hq⟩ := hA
    simp only [flatOp, hk, List.mem_singleton] at hit
    subst hit
    obtain ⟨q, hq'⟩ := Option.isSome_iff_exists.mp (hval r (by rw [hq]; simp))
    simp [decode, hq, hq']
  | cnot | cz | ccnot | ccz | mcr =>
    rw [hk] at hA
    obtain ⟨r1, r2, hq⟩ := hA
    simp only [flatOp, hk, List.mem_singleton] at hit
    subst hit
    obtain ⟨q1, hq1⟩ := Option.isSome_iff_exists.mp (hval r1 (by rw [hq]; simp))
    obtain ⟨q2, hq2⟩ := Option.isSome_iff_exists.mp (hval r2 (by rw [hq]; simp))
    simp [decode, hq, hq1, hq2, pairPrims]

/-- the compile loop on a sane circuit along the node order `seq`, from any valid initial tableau
    (`compile(circuit, initial_state)`): the run refines the group semantics on the outcome streams made of the outcomes
    it recorded -/
theorem stabRunFrom_refines (c : Circuit) (hgood : c.Good) (har : ArityOk c) (seq : List Nat) (t0 : Tab)
    (h0 : TInv (c.ne + c.np) t0) (d : Det) (script : List Bool) (s' : RunState)
    (h : stabRunFrom t0 c.np d script ((c.sops seq).map toCOp) = some s') :
    TInv (c.ne + c.np) s'.t ∧ ∀ sc, runSeq (appRaw c.ne c.np) (c.sops seq)
        (some (gstate t0, feed c.ne c.np (c.sops seq) s'.outs sc)) = some (gstate s'.t, sc) := by
  unfold stabRunFrom at h
  rw [h0.n_eq] at h
  obtain ⟨ht', new, hnew, hrun⟩ := run_refines c.ne c.np d (c.sops seq) (sops_ok c hgood har seq)
    { t := t0, writes := [], script := script, rand := [], outs := [] } s' h0 h
  simp only [List.nil_append] at hnew
  rw [hnew]
  exact ⟨ht', hrun⟩

theorem stabRun_refines (c : Circuit) (hgood : c.Good) (har : ArityOk c) (seq : List Nat) (d : Det) (script : List Bool)
    (s' : RunState) (h : stabRun c.ne c.np d script ((c.sops seq).map toCOp) = some s') :
    TInv (c.ne + c.np) s'.t ∧ ∀ sc, runSeq (appRaw c.ne c.np) (c.sops seq)
        (some (gstate (Tab.ket0 (c.ne + c.np)), feed c.ne c.np (c.sops seq) s'.outs sc)) = some (gstate s'.t, sc) :=
  stabRunFrom_refines c hgood har seq _ (tinv_ket0 _) d script s' h

/-- boolean witness that a row is a stabilizer generator of the tableau (up to equality on the qubits' sites) -/
def rowCheck (t : Tab) (P : PRow) : Bool := (List.range t.n).any fun i => PRow.beqOn t.n (t.row (i + t.n)) P

theorem grp_of_rowCheck (t : Tab) (P : PRow) (h : rowCheck t P = true) : Grp t P := by
  unfold rowCheck at h
  rw [List.any_eq_true] at h
  obtain ⟨i, hi, hb⟩ := h
  exact Tab.InSpan.eqv _ _ (grp_gen t i (List.mem_range.mp hi)) (beqOn_eqOn _ _ _ hb)

/-- boolean witness that a row is in the stabilizer group: it is a product of a sublist of the generators -/
def grpCheck (t : Tab) (P : PRow) : Bool :=
  (List.range (2 ^ t.n)).any fun m =>
    PRow.beqOn t.n (((List.range t.n).filter fun i => m.testBit i).foldl
      (fun acc i => PRow.mul t.n (t.row (i + t.n)) acc) PRow.one) P

theorem grp_foldl (t : Tab) (S : List Nat) (hS : ∀ i, i ∈ S → i < t.n) (acc : PRow) (hacc : Grp t acc) :
    Grp t (S.foldl (fun acc i => PRow.mul t.n (t.row (i + t.n)) acc) acc) :=
  Loop.foldl_inv (Grp t) (fun _ i hi h => Tab.InSpan.mul _ _ (grp_gen t i (hS i hi)) h) hacc

theorem grp_of_grpCheck (t : Tab) (P : PRow) (h : grpCheck t P = true) : Grp t P := by
  unfold grpCheck at h
  rw [List.any_eq_true] at h
  obtain ⟨m, _, hb⟩ := h
  have hsub : ∀ i, i ∈ (List.range t.n).filter (fun i => m.testBit i) → i < t.n := fun i hi =>
    List.mem_range.mp (List.mem_filter.mp hi).1
  exact Tab.InSpan.eqv _ _ (grp_foldl t _ hsub PRow.one Tab.InSpan.one) (beqOn_eqOn _ _ _ hb)

end Graphiq.Commute
