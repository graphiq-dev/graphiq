/-
  Proofs/Echelon.lean — towards the post-condition of `rref` (stabilizer.py): Pauli types at a site, the primitive row operations
  on Pauli types, the index lists of `pauli_type_finder`, exact row-wise descriptions of the `tab_row_sum` loops, and `STab.Ops`:
  a run of tabulations, row swaps and products of two distinct rows, which keeps the signed group (`Ops.spanEq`).
-/
import GraphiqModel.Proofs.StabTableau
namespace Graphiq
open PRow

/-- Pauli type of a row at site `j`: 0 = I, 1 = X, 2 = Y, 3 = Z (the encoding of `STab.ptype`) -/
def PRow.pt (p : PRow) (j : Nat) : Nat :=
  match p.x j, p.z j with
  | false, false => 0 | true, false => 1 | true, true => 2 | false, true => 3

/-- product of Pauli types up to phase: the Klein four-group on `0..3` -/
def pmul (a b : Nat) : Nat := if a = 0 then b else if b = 0 then a else if a = b then 0 else 6 - a - b

namespace PRow

theorem pt_le (p : PRow) (j : Nat) : p.pt j ≤ 3 := by
  unfold pt; cases p.x j <;> cases p.z j <;> simp

theorem pt_congr (a b : PRow) (j : Nat) (hx : a.x j = b.x j) (hz : a.z j = b.z j) : a.pt j = b.pt j := by
  unfold pt; rw [hx, hz]

theorem pt_eq_zero_iff (p : PRow) (j : Nat) : p.pt j = 0 ↔ (p.x j || p.z j) = false := by
  unfold pt; cases p.x j <;> cases p.z j <;> simp

theorem pt_zero_bits (p : PRow) (j : Nat) (h : p.pt j = 0) : p.x j = false ∧ p.z j = false :=
  Bool.or_eq_false_iff.1 ((pt_eq_zero_iff p j).1 h)

theorem pt_of_bits (p : PRow) (j : Nat) (hx : p.x j = false) (hz : p.z j = false) : p.pt j = 0 :=
  (pt_eq_zero_iff p j).2 (by rw [hx, hz]; rfl)

end PRow

namespace STab

theorem ptype_eq (t : STab) (i j : Nat) : t.ptype i j = (t.row i).pt j := rfl

theorem stabMul_x (n : Nat) (a b : PRow) (j : Nat) : (stabMul n a b).x j = xor (a.x j) (b.x j) := rfl
theorem stabMul_z (n : Nat) (a b : PRow) (j : Nat) : (stabMul n a b).z j = xor (a.z j) (b.z j) := rfl

theorem pt_stabMul (n : Nat) (a b : PRow) (j : Nat) : (stabMul n a b).pt j = pmul (a.pt j) (b.pt j) := by
  unfold PRow.pt
  rw [stabMul_x, stabMul_z]
  cases a.x j <;> cases a.z j <;> cases b.x j <;> cases b.z j <;> decide

theorem ptype_le (t : STab) (i j : Nat) : t.ptype i j ≤ 3 := PRow.pt_le _ _

theorem ptype_norm (t : STab) (i j : Nat) (hi : i < t.n) (hj : j < t.n) : t.norm.ptype i j = t.ptype i j := by
  have e := (norm_row t i hi).1 j hj
  exact PRow.pt_congr _ _ j e.1 e.2

theorem rowSwap_row (t : STab) (a b i : Nat) :
    (t.rowSwap a b).row i = if i = a then t.row b else if i = b then t.row a else t.row i := rfl

theorem rowSum_row (t : STab) (a b i : Nat) :
    (t.rowSum a b).row i = if i = b then stabMul t.n (t.row a) (t.row b) else t.row i := rfl

theorem rowSwap_n (t : STab) (a b : Nat) : (t.rowSwap a b).n = t.n := rfl
theorem rowSum_n (t : STab) (a b : Nat) : (t.rowSum a b).n = t.n := rfl

/-! ### the index lists of `pauli_type_finder` -/

/-- the type code `pickType` selects for its argument `ty` -/
def tyCode (ty : Nat) : Nat := if ty = 1 then 1 else if ty = 2 then 2 else 3

theorem mem_pickType_iff (t : STab) (pr pc ty i : Nat) :
    i ∈ t.pickType pr pc ty ↔ pr ≤ i ∧ i < t.n ∧ t.ptype i pc = tyCode ty := by
  unfold pickType tyCode pauliTypeFinder
  split
  · simp only [List.mem_filter, List.mem_range, decide_eq_true_eq]
    constructor
    · intro h; exact ⟨h.1.2, h.1.1, h.2⟩
    · intro h; exact ⟨⟨h.2.1, h.1⟩, h.2.2⟩
  · split
    · simp only [List.mem_filter, List.mem_range, decide_eq_true_eq]
      constructor
      · intro h; exact ⟨h.1.2, h.1.1, h.2⟩
      · intro h; exact ⟨⟨h.2.1, h.1⟩, h.2.2⟩
    · simp only [List.mem_filter, List.mem_range, decide_eq_true_eq]
      constructor
      · intro h; exact ⟨h.1.2, h.1.1, h.2⟩
      · intro h; exact ⟨⟨h.2.1, h.1⟩, h.2.2⟩

theorem pickType_sorted (t : STab) (pr pc ty : Nat) : (t.pickType pr pc ty).Pairwise (· < ·) := by
  unfold pickType pauliTypeFinder
  have h : (List.range t.n).Pairwise (· < ·) := List.pairwise_lt_range
  split
  · exact (h.filter _).filter _
  · split
    · exact (h.filter _).filter _
    · exact (h.filter _).filter _

theorem sorted_head_notMem {a : Nat} {l : List Nat} (h : (a :: l).Pairwise (· < ·)) : a ∉ l := by
  intro hm
  have := (List.pairwise_cons.1 h).1 a hm
  omega

theorem sorted_head_lt {a : Nat} {l : List Nat} (h : (a :: l).Pairwise (· < ·)) : ∀ x, x ∈ l → a < x :=
  (List.pairwise_cons.1 h).1

theorem sorted_tail {a : Nat} {l : List Nat} (h : (a :: l).Pairwise (· < ·)) : l.Pairwise (· < ·) :=
  (List.pairwise_cons.1 h).2

/-! ### exact description of the `tab_row_sum` loops -/

/-- `for i in l: tab_row_sum(tableau, pr, i)` with `pr ∉ l`: exactly the rows of `l` are multiplied by row `pr` -/
theorem foldl_rowSum_row (pr : Nat) (l : List Nat) (t : STab) (hs : l.Pairwise (· < ·)) (hp : pr ∉ l) (i : Nat) :
    (l.foldl (fun acc k => acc.rowSum pr k) t).row i
      = if i ∈ l then stabMul t.n (t.row pr) (t.row i) else t.row i := by
  induction l generalizing t with
  | nil => simp
  | cons x rest ih =>
    simp only [List.foldl]
    have hx : x ∉ rest := sorted_head_notMem hs
    have hpx : pr ≠ x := fun e => hp (by rw [e]; exact List.mem_cons_self)
    have hpr : pr ∉ rest := fun h => hp (List.mem_cons_of_mem _ h)
    rw [ih (t.rowSum pr x) (sorted_tail hs) hpr]
    simp only [rowSum_n, rowSum_row, if_neg hpx]
    by_cases hix : i = x
    · subst hix; simp [hx]
    · by_cases hir : i ∈ rest
      · simp [hir, hix]
      · simp [hir, hix]

/-- the loop of the three-Pauli case: `tab_row_sum(pr, k); tab_row_sum(pr+1, k)` for every `k ∈ l` -/
theorem foldl_rowSum2_row (pr : Nat) (l : List Nat) (t : STab) (hs : l.Pairwise (· < ·)) (hp : pr ∉ l)
    (hp1 : pr + 1 ∉ l) (i : Nat) :
    (l.foldl (fun acc k => (acc.rowSum pr k).rowSum (pr + 1) k) t).row i
      = if i ∈ l then stabMul t.n (t.row (pr + 1)) (stabMul t.n (t.row pr) (t.row i)) else t.row i := by
  induction l generalizing t with
  | nil => simp
  | cons x rest ih =>
    simp only [List.foldl]
    have hx : x ∉ rest := sorted_head_notMem hs
    have hpx : pr ≠ x := fun e => hp (by rw [e]; exact List.mem_cons_self)
    have hpx1 : pr + 1 ≠ x := fun e => hp1 (by rw [e]; exact List.mem_cons_self)
    have hpr : pr ∉ rest := fun h => hp (List.mem_cons_of_mem _ h)
    have hpr1 : pr + 1 ∉ rest := fun h => hp1 (List.mem_cons_of_mem _ h)
    rw [ih ((t.rowSum pr x).rowSum (pr + 1) x) (sorted_tail hs) hpr hpr1]
    simp only [rowSum_n, rowSum_row, if_neg hpx, if_neg hpx1, if_true]
    by_cases hix : i = x
    · subst hix; simp [hx]
    · by_cases hir : i ∈ rest
      · simp [hir, hix]
      · simp [hir, hix]

theorem foldl_rowSum2_n (pr : Nat) (l : List Nat) (t : STab) :
    (l.foldl (fun acc k => (acc.rowSum pr k).rowSum (pr + 1) k) t).n = t.n := by
  induction l generalizing t with
  | nil => rfl
  | cons x rest ih => simp only [List.foldl]; rw [ih]; rfl

/-! ### what `_process_one_pauli` and `_process_two_pauli` do to the pivot column -/

theorem pmul_self (a : Nat) : pmul a a = 0 := by unfold pmul; split <;> simp_all

theorem tyCode_pos (ty : Nat) : tyCode ty ≠ 0 := by
  unfold tyCode
  split
  · omega
  · split <;> omega

theorem processOne_n (t : STab) (pr : Nat) (l : List Nat) : (t.processOne pr l).n = t.n := by
  unfold processOne
  cases l with
  | nil => rfl
  | cons f r => simp only; rw [norm_n, foldl_rowSum_n]; rfl

theorem ptype_swap_norm (t : STab) (a b i j : Nat) (hi : i < t.n) (hj : j < t.n) :
    (t.rowSwap a b).norm.ptype i j = t.ptype (if i = a then b else if i = b then a else i) j := by
  rw [ptype_norm (t.rowSwap a b) i j hi hj, ptype_eq, rowSwap_row, ptype_eq]
  split
  · rfl
  · split <;> rfl

theorem processOne_col (t : STab) (pr pc ty : Nat) (l : List Nat) (hpc : pc < t.n)
    (hl : ∀ i, i ∈ l ↔ pr ≤ i ∧ i < t.n ∧ t.ptype i pc = ty) (hs : l.Pairwise (· < ·)) (hne : l ≠ [])
    (hoth : ∀ i, pr ≤ i → i < t.n → t.ptype i pc = ty ∨ t.ptype i pc = 0) :
    (t.processOne pr l).ptype pr pc = ty ∧ ∀ i, pr < i → i < t.n → (t.processOne pr l).ptype i pc = 0 := by
  cases l with
  | nil => exact absurd rfl hne
  | cons first rest =>
    have hf := (hl first).1 List.mem_cons_self
    have hpr : pr < t.n := by omega
    have hlt := sorted_head_lt hs
    have hprr : pr ∉ rest := fun h => by have := hlt pr h; omega
    have hrow : ∀ i, (rest.foldl (fun acc k => acc.rowSum pr k) (t.rowSwap pr first)).row i
        = if i ∈ rest then stabMul t.n (t.row first) ((t.rowSwap pr first).row i) else (t.rowSwap pr first).row i := by
      intro i
      rw [foldl_rowSum_row pr rest _ (sorted_tail hs) hprr i]
      simp [rowSwap_row, rowSwap_n]
    have hn : (rest.foldl (fun acc k => acc.rowSum pr k) (t.rowSwap pr first)).n = t.n := by
      rw [foldl_rowSum_n]; rfl
    have hpt : ∀ i, i < t.n → (t.processOne pr (first :: rest)).ptype i pc
        = ((rest.foldl (fun acc k => acc.rowSum pr k) (t.rowSwap pr first)).row i).pt pc := by
      intro i hi
      show (STab.norm _).ptype i pc = _
      rw [ptype_norm _ i pc (by rw [hn]; exact hi) (by rw [hn]; exact hpc)]; rfl
    constructor
    · rw [hpt pr hpr, hrow pr, if_neg hprr, rowSwap_row, if_pos rfl]
      exact hf.2.2
    · intro i hi hin
      rw [hpt i hin, hrow i]
      have hipr : i ≠ pr := by omega
      by_cases hir : i ∈ rest
      · have hif : i ≠ first := by have := hlt i hir; omega
        rw [if_pos hir, pt_stabMul, rowSwap_row, if_neg hipr, if_neg hif]
        have h1 : (t.row first).pt pc = ty := hf.2.2
        have h2 : (t.row i).pt pc = ty := ((hl i).1 (List.mem_cons_of_mem _ hir)).2.2
        rw [h1, h2]; exact pmul_self ty
      · rw [if_neg hir, rowSwap_row, if_neg hipr]
        by_cases hif : i = first
        · rw [if_pos hif]
          have hprl : pr ∉ first :: rest := by
            intro h
            rcases List.mem_cons.1 h with e | e
            · omega
            · exact hprr e
          have : ¬ (t.ptype pr pc = ty) := fun e => hprl ((hl pr).2 ⟨Nat.le_refl _, hpr, e⟩)
          rcases hoth pr (Nat.le_refl _) hpr with e | e
          · exact absurd e this
          · exact e
        · rw [if_neg hif]
          have hil : i ∉ first :: rest := by
            intro h
            rcases List.mem_cons.1 h with e | e
            · exact hif e
            · exact hir e
          have : ¬ (t.ptype i pc = ty) := fun e => hil ((hl i).2 ⟨by omega, hin, e⟩)
          rcases hoth i (by omega) hin with e | e
          · exact absurd e this
          · exact e

/-- the two elimination loops of `_process_two_pauli`, started from the tableau `T2` in which the pivot rows `pr`, `pr+1`
    already carry the two Pauli types -/
theorem processTwo_core (T2 : STab) (pr pc ty1 ty2 : Nat) (l1 l2 : List Nat) (hpc : pc < T2.n)
    (h1 : T2.pickType pr pc ty1 = pr :: l1) (h2 : T2.pickType pr pc ty2 = (pr + 1) :: l2)
    (hne : tyCode ty1 ≠ tyCode ty2) :
    ((l2.foldl (fun acc i => acc.rowSum (pr + 1) i) (l1.foldl (fun acc i => acc.rowSum pr i) T2)).norm).ptype pr pc
        = tyCode ty1 ∧
    ((l2.foldl (fun acc i => acc.rowSum (pr + 1) i) (l1.foldl (fun acc i => acc.rowSum pr i) T2)).norm).ptype (pr + 1) pc
        = tyCode ty2 ∧
    ∀ i, pr + 2 ≤ i → i < T2.n →
      (((l2.foldl (fun acc i => acc.rowSum (pr + 1) i) (l1.foldl (fun acc i => acc.rowSum pr i) T2)).norm).ptype i pc = 0 ∨
       (((l2.foldl (fun acc i => acc.rowSum (pr + 1) i) (l1.foldl (fun acc i => acc.rowSum pr i) T2)).norm).ptype i pc
          = T2.ptype i pc ∧ T2.ptype i pc ≠ tyCode ty1 ∧ T2.ptype i pc ≠ tyCode ty2)) := by
  have s1 : (pr :: l1).Pairwise (· < ·) := h1 ▸ pickType_sorted T2 pr pc ty1
  have s2 : ((pr + 1) :: l2).Pairwise (· < ·) := h2 ▸ pickType_sorted T2 pr pc ty2
  have m1 : ∀ i, i ∈ pr :: l1 ↔ pr ≤ i ∧ i < T2.n ∧ T2.ptype i pc = tyCode ty1 := fun i => by
    rw [← h1]; exact mem_pickType_iff T2 pr pc ty1 i
  have m2 : ∀ i, i ∈ (pr + 1) :: l2 ↔ pr ≤ i ∧ i < T2.n ∧ T2.ptype i pc = tyCode ty2 := fun i => by
    rw [← h2]; exact mem_pickType_iff T2 pr pc ty2 i
  have hpr := (m1 pr).1 List.mem_cons_self
  have hpr1 := (m2 (pr + 1)).1 List.mem_cons_self
  have n1 : pr ∉ l1 := sorted_head_notMem s1
  have n2 : pr + 1 ∉ l2 := sorted_head_notMem s2
  have n3 : pr + 1 ∉ l1 := fun h => hne (by
    rw [← ((m1 (pr + 1)).1 (List.mem_cons_of_mem _ h)).2.2, hpr1.2.2])
  have n4 : pr ∉ l2 := fun h => by have := sorted_head_lt s2 pr h; omega
  have disj : ∀ i, i ∈ l1 → i ∉ l2 := fun i a b => hne (by
    rw [← ((m1 i).1 (List.mem_cons_of_mem _ a)).2.2, ((m2 i).1 (List.mem_cons_of_mem _ b)).2.2])
  have r3 : ∀ i, (l1.foldl (fun acc i => acc.rowSum pr i) T2).row i
      = if i ∈ l1 then stabMul T2.n (T2.row pr) (T2.row i) else T2.row i :=
    fun i => foldl_rowSum_row pr l1 T2 (sorted_tail s1) n1 i
  have hn3 : (l1.foldl (fun acc i => acc.rowSum pr i) T2).n = T2.n := foldl_rowSum_n pr l1 T2
  have r4 : ∀ i, (l2.foldl (fun acc i => acc.rowSum (pr + 1) i) (l1.foldl (fun acc i => acc.rowSum pr i) T2)).row i
      = if i ∈ l2 then stabMul T2.n (T2.row (pr + 1)) (T2.row i)
        else if i ∈ l1 then stabMul T2.n (T2.row pr) (T2.row i) else T2.row i := by
    intro i
    rw [foldl_rowSum_row (pr + 1) l2 _ (sorted_tail s2) n2 i, hn3, r3 (pr + 1), if_neg n3, r3 i]
    by_cases hi2 : i ∈ l2
    · have : i ∉ l1 := fun a => disj i a hi2
      simp [hi2, this]
    · simp [hi2]
  have hn4 : (l2.foldl (fun acc i => acc.rowSum (pr + 1) i) (l1.foldl (fun acc i => acc.rowSum pr i) T2)).n = T2.n := by
    rw [foldl_rowSum_n, hn3]
  have hpt : ∀ i, i < T2.n →
      ((l2.foldl (fun acc i => acc.rowSum (pr + 1) i) (l1.foldl (fun acc i => acc.rowSum pr i) T2)).norm).ptype i pc
        = ((l2.foldl (fun acc i => acc.rowSum (pr + 1) i) (l1.foldl (fun acc i => acc.rowSum pr i) T2)).row i).pt pc := by
    intro i hi
    rw [ptype_norm _ i pc (by rw [hn4]; exact hi) (by rw [hn4]; exact hpc)]; rfl
  refine ⟨?_, ?_, ?_⟩
  · rw [hpt pr hpr.2.1, r4 pr, if_neg n4, if_neg n1]; exact hpr.2.2
  · rw [hpt (pr + 1) hpr1.2.1, r4 (pr + 1), if_neg n2, if_neg n3]; exact hpr1.2.2
  · intro i hi hin
    rw [hpt i hin, r4 i]
    by_cases hi2 : i ∈ l2
    · left
      rw [if_pos hi2, pt_stabMul]
      have e1 : (T2.row (pr + 1)).pt pc = tyCode ty2 := hpr1.2.2
      have e2 : (T2.row i).pt pc = tyCode ty2 := ((m2 i).1 (List.mem_cons_of_mem _ hi2)).2.2
      rw [e1, e2]; exact pmul_self _
    · rw [if_neg hi2]
      by_cases hi1 : i ∈ l1
      · left
        rw [if_pos hi1, pt_stabMul]
        have e1 : (T2.row pr).pt pc = tyCode ty1 := hpr.2.2
        have e2 : (T2.row i).pt pc = tyCode ty1 := ((m1 i).1 (List.mem_cons_of_mem _ hi1)).2.2
        rw [e1, e2]; exact pmul_self _
      · right
        rw [if_neg hi1]
        refine ⟨rfl, ?_, ?_⟩
        · intro e
          have := (m1 i).2 ⟨by omega, hin, e⟩
          rcases List.mem_cons.1 this with e' | e'
          · omega
          · exact hi1 e'
        · intro e
          have := (m2 i).2 ⟨by omega, hin, e⟩
          rcases List.mem_cons.1 this with e' | e'
          · omega
          · exact hi2 e'

theorem processTwo_col (t t' : STab) (pr pc ty1 ty2 : Nat) (hpc : pc < t.n) (hne : tyCode ty1 ≠ tyCode ty2)
    (hr : t.processTwo pr pc ty1 ty2 = some t') :
    t'.ptype pr pc = tyCode ty1 ∧ t'.ptype (pr + 1) pc = tyCode ty2 ∧
    ∀ i, pr + 2 ≤ i → i < t.n →
      (t'.ptype i pc = 0 ∨ (t'.ptype i pc ≠ tyCode ty1 ∧ t'.ptype i pc ≠ tyCode ty2 ∧
        ∃ k, pr ≤ k ∧ k < t.n ∧ t'.ptype i pc = t.ptype k pc)) := by
  obtain ⟨f1, f2, l1, l2, hf1, hf1n, hf2, hf2n, hp1, ea, eb, rfl⟩ := processTwo_unfold t t' pr pc ty1 ty2 hr
  have core := processTwo_core (((t.rowSwap pr f1).norm.rowSwap (pr + 1) f2).norm) pr pc ty1 ty2 l1 l2 hpc ea eb hne
  refine ⟨core.1, core.2.1, ?_⟩
  intro i hi hin
  rcases core.2.2 i hi hin with h | h
  · exact Or.inl h
  · right
    rw [h.1]
    refine ⟨h.2.1, h.2.2, ?_⟩
    rw [ptype_swap_norm (t.rowSwap pr f1).norm (pr + 1) f2 i pc hin hpc]
    have hi1 : i ≠ pr + 1 := by omega
    rw [if_neg hi1]
    by_cases hif : i = f2
    · rw [if_pos hif, ptype_swap_norm t pr f1 (pr + 1) pc hp1 hpc]
      have : pr + 1 ≠ pr := by omega
      rw [if_neg this]
      by_cases e : pr + 1 = f1
      · rw [if_pos e]; exact ⟨pr, Nat.le_refl _, by omega, rfl⟩
      · rw [if_neg e]; exact ⟨pr + 1, by omega, hp1, rfl⟩
    · rw [if_neg hif, ptype_swap_norm t pr f1 i pc hin hpc]
      have : i ≠ pr := by omega
      rw [if_neg this]
      by_cases e : i = f1
      · rw [if_pos e]; exact ⟨pr, Nat.le_refl _, by omega, rfl⟩
      · rw [if_neg e]; exact ⟨i, by omega, hin, rfl⟩

/-! ### sequences of row operations on the rows at or below a pivot row -/

/-- `Ops pr t0 t`: `t` is obtained from `t0` by tabulations, swaps of rows `≥ pr` and products of two distinct rows `≥ pr` -/
inductive Ops (pr : Nat) (t0 : STab) : STab → Prop
  | refl : Ops pr t0 t0
  | norm {t : STab} : Ops pr t0 t → Ops pr t0 t.norm
  | swap {t : STab} (a b : Nat) : pr ≤ a → a < t0.n → pr ≤ b → b < t0.n → Ops pr t0 t → Ops pr t0 (t.rowSwap a b)
  | sum {t : STab} (a b : Nat) : pr ≤ a → a < t0.n → pr ≤ b → b < t0.n → a ≠ b → Ops pr t0 t →
      Ops pr t0 (t.rowSum a b)

theorem Ops.n_eq {pr : Nat} {t0 t : STab} (h : Ops pr t0 t) : t.n = t0.n := by
  induction h with
  | refl => rfl
  | norm _ ih => exact ih
  | swap a b _ _ _ _ _ ih => exact ih
  | sum a b _ _ _ _ _ _ ih => exact ih

theorem Ops.trans {pr : Nat} {t0 t1 t2 : STab} (h1 : Ops pr t0 t1) (h2 : Ops pr t1 t2) : Ops pr t0 t2 := by
  have e := h1.n_eq
  induction h2 with
  | refl => exact h1
  | norm _ ih => exact Ops.norm ih
  | swap a b h1 h2 h3 h4 _ ih => exact Ops.swap a b h1 (e ▸ h2) h3 (e ▸ h4) ih
  | sum a b h1 h2 h3 h4 h5 _ ih => exact Ops.sum a b h1 (e ▸ h2) h3 (e ▸ h4) h5 ih

theorem Ops.mono {pr pr' : Nat} {t0 t : STab} (hp : pr' ≤ pr) (h : Ops pr t0 t) : Ops pr' t0 t := by
  induction h with
  | refl => exact Ops.refl
  | norm _ ih => exact Ops.norm ih
  | swap a b h1 h2 h3 h4 _ ih => exact Ops.swap a b (by omega) h2 (by omega) h4 ih
  | sum a b h1 h2 h3 h4 h5 _ ih => exact Ops.sum a b (by omega) h2 (by omega) h4 h5 ih

theorem Ops.foldl_sum {pr : Nat} {t0 : STab} (a : Nat) (ha : pr ≤ a) (han : a < t0.n) (l : List Nat)
    (hl : ∀ i, i ∈ l → pr ≤ i ∧ i < t0.n ∧ a ≠ i) (t : STab) (h : Ops pr t0 t) :
    Ops pr t0 (l.foldl (fun acc i => acc.rowSum a i) t) := by
  induction l generalizing t with
  | nil => exact h
  | cons x rest ih =>
    simp only [List.foldl]
    have hx := hl x List.mem_cons_self
    exact ih (fun i hi => hl i (List.mem_cons_of_mem _ hi)) _ (Ops.sum a x ha han hx.1 hx.2.1 hx.2.2 h)

theorem Ops.foldl_sum2 {pr : Nat} {t0 : STab} (a : Nat) (ha : pr ≤ a) (han : a + 1 < t0.n) (l : List Nat)
    (hl : ∀ i, i ∈ l → pr ≤ i ∧ i < t0.n ∧ a ≠ i ∧ a + 1 ≠ i) (t : STab) (h : Ops pr t0 t) :
    Ops pr t0 (l.foldl (fun acc k => (acc.rowSum a k).rowSum (a + 1) k) t) := by
  induction l generalizing t with
  | nil => exact h
  | cons x rest ih =>
    simp only [List.foldl]
    have hx := hl x List.mem_cons_self
    exact ih (fun i hi => hl i (List.mem_cons_of_mem _ hi)) _
      (Ops.sum (a + 1) x (by omega) han hx.1 hx.2.1 hx.2.2.2 (Ops.sum a x ha (by omega) hx.1 hx.2.1 hx.2.2.1 h))

theorem Ops.low {pr : Nat} {t0 t : STab} (h : Ops pr t0 t) :
    ∀ i, i < pr → i < t0.n → ∀ j, j < t0.n → t.ptype i j = t0.ptype i j := by
  induction h with
  | refl => intro i _ _ j _; rfl
  | @norm t h ih =>
    intro i hi hin j hj
    rw [ptype_norm t i j (h.n_eq ▸ hin) (h.n_eq ▸ hj)]; exact ih i hi hin j hj
  | @swap t a b h1 _ h3 _ _ ih =>
    intro i hi hin j hj
    rw [ptype_eq, rowSwap_row, if_neg (by omega), if_neg (by omega)]; exact ih i hi hin j hj
  | @sum t a b _ _ h3 _ _ _ ih =>
    intro i hi hin j hj
    rw [ptype_eq, rowSum_row, if_neg (by omega)]; exact ih i hi hin j hj

theorem Ops.zero {pr : Nat} {t0 t : STab} (h : Ops pr t0 t) (pc : Nat) (hpc : pc ≤ t0.n)
    (hz : ∀ i, pr ≤ i → i < t0.n → ∀ j, j < pc → t0.ptype i j = 0) :
    ∀ i, pr ≤ i → i < t0.n → ∀ j, j < pc → t.ptype i j = 0 := by
  induction h with
  | refl => exact hz
  | @norm t h ih =>
    intro i hi hin j hj
    rw [ptype_norm t i j (h.n_eq ▸ hin) (h.n_eq ▸ (by omega))]; exact ih i hi hin j hj
  | @swap t a b h1 h2 h3 h4 _ ih =>
    intro i hi hin j hj
    rw [ptype_eq, rowSwap_row]
    split
    · exact ih b h3 h4 j hj
    · split
      · exact ih a h1 h2 j hj
      · exact ih i hi hin j hj
  | @sum t a b h1 h2 h3 h4 _ _ ih =>
    intro i hi hin j hj
    rw [ptype_eq, rowSum_row]
    split
    · rw [pt_stabMul]
      have e1 : (t.row a).pt j = 0 := ih a h1 h2 j hj
      have e2 : (t.row b).pt j = 0 := ih b h3 h4 j hj
      rw [e1, e2]; rfl
    · exact ih i hi hin j hj

theorem Ops.spanEq {pr : Nat} {t0 t : STab} (h : Ops pr t0 t) (hg : t0.Good) : SpanEq t0 t ∧ t.Good := by
  induction h with
  | refl => exact ⟨SpanEq.refl _, hg⟩
  | @norm t _ ih => exact ⟨ih.1.trans (norm_spanEq t), norm_good t ih.2⟩
  | @swap t a b _ h2 _ h4 h ih =>
    have e := h.n_eq
    exact ⟨ih.1.trans (rowSwap_spanEq t a b (e ▸ h2) (e ▸ h4)), rowSwap_good t a b (e ▸ h2) (e ▸ h4) ih.2⟩
  | @sum t a b _ h2 _ h4 h5 h ih =>
    have e := h.n_eq
    exact ⟨ih.1.trans (rowSum_spanEq t a b (e ▸ h2) (e ▸ h4) h5 ih.2), rowSum_good t a b (e ▸ h2) (e ▸ h4) ih.2⟩

theorem processOne_ops (t : STab) (pr : Nat) (l : List Nat) (hs : l.Pairwise (· < ·))
    (hl : ∀ i, i ∈ l → pr ≤ i ∧ i < t.n) : Ops pr t (t.processOne pr l) := by
  unfold processOne
  cases l with
  | nil => exact Ops.refl
  | cons first rest =>
    simp only
    have hf := hl first List.mem_cons_self
    have hlt := sorted_head_lt hs
    apply Ops.norm
    apply Ops.foldl_sum pr (Nat.le_refl _) (by omega) rest
    · intro i hi
      have := hl i (List.mem_cons_of_mem _ hi)
      have := hlt i hi
      omega
    · exact Ops.swap pr first (Nat.le_refl _) (by omega) hf.1 hf.2 Ops.refl

theorem processTwo_ops (t t' : STab) (pr pc ty1 ty2 : Nat) (hr : t.processTwo pr pc ty1 ty2 = some t') :
    Ops pr t t' := by
  obtain ⟨f1, f2, l1, l2, hf1, hf1n, hf2, hf2n, hp1, ea, eb, rfl⟩ := processTwo_unfold t t' pr pc ty1 ty2 hr
  have s1 : (pr :: l1).Pairwise (· < ·) := ea ▸ pickType_sorted _ pr pc ty1
  have s2 : ((pr + 1) :: l2).Pairwise (· < ·) := eb ▸ pickType_sorted _ pr pc ty2
  have o2 : Ops pr t (((t.rowSwap pr f1).norm.rowSwap (pr + 1) f2).norm) :=
    Ops.norm (Ops.swap (pr + 1) f2 (by omega) hp1 hf2 hf2n
      (Ops.norm (Ops.swap pr f1 (Nat.le_refl _) (by omega) hf1 hf1n Ops.refl)))
  apply Ops.norm
  apply Ops.foldl_sum (pr + 1) (by omega) hp1 l2
  · intro i hi
    have hm := (mem_pickType_iff _ pr pc ty2 i).1 (by rw [eb]; exact List.mem_cons_of_mem _ hi)
    have := sorted_head_lt s2 i hi
    exact ⟨hm.1, hm.2.1, by omega⟩
  · apply Ops.foldl_sum pr (Nat.le_refl _) (by omega) l1
    · intro i hi
      have hm := (mem_pickType_iff _ pr pc ty1 i).1 (by rw [ea]; exact List.mem_cons_of_mem _ hi)
      have := sorted_head_lt s1 i hi
      exact ⟨hm.1, hm.2.1, by omega⟩
    · exact o2

end STab
end Graphiq
