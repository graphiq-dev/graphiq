/-
  C16 — relabelling, isomorph search and LC-orbit walks stay in the equivalence class.

  Property theorems (the lemmas about the model functions are in Proofs/GraphOps.lean).  External libraries are parameters: the
  isomorphism test of networkx is an arbitrary function `iso`, the generator draws of numpy are arbitrary lists — every
  theorem holds for all their values, so no behaviour of those libraries is assumed except where a hypothesis says so
  ("the draws are permutations").

  Proved for every n, every graph, every configuration and every value of the random draws:
    1. `relabel(A, p)` (`Pᵀ A P` with `_perm2matrix`) has the entry `(p u, p v)` equal to `A u v`; a permutation is an
       isomorphism from `A` to `relabel A p`; the identity is an isomorphism from a graph to itself;
    2. `automorph_check` / `iso_finder` on every return path (early return, warning return, loop exit): the input first,
       pairwise distinct, every entry the input relabelled by the identity or by a recorded draw, never more than `n_iso`;
    3. every graph returned by `lc_orbit_finder` (all 2³ option sets, all depths / thresholds), `rgs_orbit_finder`,
       `linear_partial_orbit`, `depth_first_orbit` and the metric-guided walks of utils/preprocessing.py is obtained from
       the input by a sequence of local complementations;
    4. `lc_orbit_finder` with `rep_allowed=False` returns pairwise different graphs (unequal matrices for `with_iso=True`,
       pairwise non-isomorphic as judged by the oracle otherwise).
  Not proved (Tier C / observation): that the scripted repeater / linear sequences give *distinct* graphs, and pairwise
  non-isomorphism of `depth_first_orbit`'s output — both are evaluated by the direct oracle on every run.
-/
import GraphiqModel.Proofs.GraphOps
namespace Graphiq.C16
open Graphiq

/-! ## 1. Relabelling -/

/-- **`relabel`**: for a label list that is injective of length n (in particular a permutation of `0..n-1`),
    the relabelled graph has the edge `(p u, p v)` exactly when the original has `(u, v)` -/
theorem relabel_moves_edges (n : Nat) (A : Adj) (p : List Nat) (hp : InjLabels n p) (u v a b : Nat) (hu : u < n)
    (hv : v < n) (ha : p[u]? = some a) (hb : p[v]? = some b) : relabel n A p a b = Bool.toInt' (A u v) :=
  relabel_perm n A p hp u v a b hu hv ha hb

/-- a permutation given as a list is such a label list, and every vertex is the image of a vertex, so the previous
    theorem determines the whole relabelled matrix -/
theorem permutation_labels (n : Nat) (p : List Nat) (h : p.Perm (List.range n)) :
    InjLabels n p ∧ ∀ a, a < n → ∃ u, u < n ∧ p[u]? = some a :=
  ⟨injLabels_of_perm n p h, perm_surj n p h⟩

/-- the permutation is an isomorphism from the graph to its relabelling (in the sense recorded for networkx's matcher) -/
theorem relabelled_graph_is_isomorphic (n : Nat) (A : Adj) (p : List Nat) (hp : p.Perm (List.range n)) :
    isIsoMap n A (relabelAdj n A p) p = true :=
  relabel_iso n A p hp

/-- what "is an isomorphism" means for a reported relabel map: a bijection of the vertices preserving (non-)adjacency -/
theorem relabel_map_specification (n : Nat) (A B : Adj) (m : List Nat) (h : isIsoMap n A B m = true) :
    m.length = n ∧ (∀ u, u < n → m.getD u n < n) ∧ (∀ u v, u < n → v < n → m.getD u n = m.getD v n → u = v) ∧
    ∀ u v, u < n → v < n → A u v = B (m.getD u n) (m.getD v n) :=
  (isIsoMap_iff n A B m).mp h

/-- `get_relabel_map` on equal graphs reports the identity, which is an isomorphism -/
theorem relabel_map_of_equal_graphs (n : Nat) (A : Adj) : isIsoMap n A A (List.range n) = true :=
  identity_iso n A

/-- non-vacuity: the cyclic shift of three labels is a permutation -/
example : [1, 2, 0].Perm (List.range 3) := by decide

/-! ## 2. The isomorph finder -/

/-- `automorph_check`: the input first, pairwise distinct, every other entry a relabelling of the input -/
theorem automorph_check_dedupes (g : BMat) (labels : List (List Nat)) (out : List (List Int))
    (e : automorphCheck g labels = .ok out) :
    ∃ tail, out = flatInt g :: tail ∧ out.Nodup ∧ ∀ m ∈ tail, RelabelOf g labels m :=
  automorphCheck_spec g labels out e

/-- **`iso_finder`, every return path, every threshold and every value of the generator draws**: the de-duplicated list
    the result is cut from starts with the input, is pairwise distinct, every other entry is the input relabelled by the
    identity or a recorded draw; at most `n_iso` of them are returned -/
theorem iso_finder_every_return_path (cfg : IsoCfg) (g : BMat) (draws : List (List (List Nat))) (r : IsoRes)
    (e : isoFinder cfg g draws = .ok r) :
    AdjOK g draws r.full ∧ r.nOut ≤ cfg.nIso ∧ r.nOut ≤ r.full.length :=
  isoFinder_spec cfg g draws r e

/-- consequently the returned prefix is pairwise distinct, has the input first (when anything is returned) and every
    entry is a relabelling of the input — by a *permutation* whenever the draws are permutations (numpy's
    `Generator.permutation` / `choice` over `itertools.permutations`), hence isomorphic to the input -/
theorem iso_finder_result (cfg : IsoCfg) (g : BMat) (draws : List (List (List Nat))) (r : IsoRes)
    (hd : ∀ ds ∈ draws, ∀ p ∈ ds, p.Perm (List.range g.r)) (e : isoFinder cfg g draws = .ok r) :
    (r.full.take r.nOut).Nodup ∧ (r.full.take r.nOut).length ≤ cfg.nIso ∧
    (0 < r.nOut → (r.full.take r.nOut).head? = some (flatInt g)) ∧
    ∀ m ∈ r.full.take r.nOut, m = flatInt g ∨ ∃ p, p.Perm (List.range g.r) ∧ relabel? g p = .ok m := by
  obtain ⟨⟨tail, h1, h2, h3⟩, h4, h5⟩ := isoFinder_spec cfg g draws r e
  refine ⟨List.Nodup.sublist (List.take_sublist _ _) h2, ?_, ?_, ?_⟩
  · rw [List.length_take]; omega
  · intro hpos
    rw [h1]
    cases hn : r.nOut with
    | zero => omega
    | succ k => simp
  · intro m hm
    have hm' := List.mem_of_mem_take hm
    rw [h1] at hm'
    rcases List.mem_cons.mp hm' with h | h
    · left; exact h
    · right
      obtain ⟨p, hp, ep⟩ := h3 m h
      refine ⟨p, ?_, ep⟩
      rcases hp with hp | ⟨ds, hds, hpd⟩
      · rw [hp]
      · exact hd ds hds p hpd

/-! ## 3. LC-orbit explorers: membership by construction -/

/-- **`lc_orbit_finder`**: every returned graph is obtained from the input by local complementations — for every option
    set, depth, threshold, every value of `np.random.randint` / `shuffle` (shuffles only need to list vertices) and
    every isomorphism oracle -/
theorem lc_orbit_finder_stays_in_orbit (cfg : OrbCfg) (iso : BMat → BMat → Bool) (fuel : Nat) (g : BMat)
    (draws : List Nat) (shuffles : List (List Nat)) (out : List BMat) (hsq : g.c = g.r) (hA : Simple g.r g.f)
    (hs : ∀ s ∈ shuffles, ValidNodes g.r s) (e : lcOrbitFinder cfg iso fuel g draws shuffles = .ok out) :
    ∀ h ∈ out, InOrbit g.r g.f h :=
  lcOrbitFinder_inOrbit cfg iso fuel g draws shuffles out hsq hA hs e

/-- **`lc_orbit_finder` asked for distinct graphs** (`rep_allowed=False`): no returned graph is equal (`with_iso=True`)
    resp. isomorphic according to the oracle (`with_iso=False`) to an earlier one -/
theorem lc_orbit_finder_returns_distinct (cfg : OrbCfg) (iso : BMat → BMat → Bool) (fuel : Nat) (g : BMat)
    (draws : List Nat) (shuffles : List (List Nat)) (out : List BMat) (hrep : cfg.repAllowed = false)
    (hs : ∀ s ∈ shuffles, ValidNodes g.r s) (e : lcOrbitFinder cfg iso fuel g draws shuffles = .ok out) :
    out.Pairwise (fun earlier later => relOf cfg iso later earlier = false) :=
  lcOrbitFinder_pairwise cfg iso fuel g draws shuffles out hrep hs e

theorem rgs_orbit_finder_stays_in_orbit (g : BMat) (out : List BMat) (hsq : g.c = g.r) (hA : Simple g.r g.f)
    (e : rgsOrbitFinder g = .ok out) : ∀ h ∈ out, InOrbit g.r g.f h :=
  rgsOrbitFinder_inOrbit g out hsq hA e

theorem linear_partial_orbit_stays_in_orbit (g : BMat) (out : List BMat) (hsq : g.c = g.r) (hA : Simple g.r g.f)
    (e : linearPartialOrbit g = .ok out) : ∀ h ∈ out, InOrbit g.r g.f h :=
  linearPartialOrbit_inOrbit g out hsq hA e

theorem depth_first_orbit_stays_in_orbit (iso : BMat → BMat → Bool) (fuel : Nat) (g : BMat) (paths : List (List Nat))
    (out : List BMat) (hsq : g.c = g.r) (hA : Simple g.r g.f) (e : depthFirstOrbit iso fuel g = .ok (paths, out)) :
    ∀ h ∈ out, InOrbit g.r g.f h :=
  depthFirstOrbit_inOrbit iso fuel g paths out hsq hA e

/-- **`get_lc_graph_by_max_edge` / `get_lc_graph_by_max_neighbor_edge`** (utils/preprocessing.py): every candidate graph
    of the metric-guided walk lies in the LC orbit of the input — for every vertex score, metric, limit, number of trials -/
theorem metric_guided_walk_stays_in_orbit (nodeScore : BMat → Nat → Nat) (metric : BMat → Float) (g : BMat)
    (limit trials : Nat) (out : List (Float × BMat)) (hsq : g.c = g.r) (hA : Simple g.r g.f)
    (e : lcWalk nodeScore metric g limit trials = .ok out) : ∀ c ∈ out, InOrbit g.r g.f c.2 :=
  lcWalk_inOrbit nodeScore metric g limit trials out hsq hA e

/-- the path 0–1–2 (a linear cluster state on three vertices) -/
def P3 : BMat := BMat.ofAdj 3 (fun i j => (i + 1 = j ∨ j + 1 = i) ∧ i < 3 ∧ j < 3)

/-- non-vacuity: `P3` is a simple square graph, and `linear_partial_orbit` succeeds on it with two graphs -/
example : P3.c = P3.r ∧ Simple P3.r P3.f :=
  ⟨rfl, Simple.of_decide (fun i j _ _ => by omega) (fun i _ => by omega)⟩

set_option maxRecDepth 100000 in
example : (match linearPartialOrbit P3 with | .ok l => l.length | .error _ => 0) = 2 := by decide +kernel

/-! ## 4. What remains a statement -/

/-- the linear cluster state `0 – 1 – … – (n-1)` in its canonical labelling -/
def pathG (n : Nat) : BMat := BMat.ofAdj n (fun i j => (i + 1 = j ∨ j + 1 = i) ∧ i < n ∧ j < n)

/-- the repeater graph state with `m` core vertices `1, 3, …` (complete) and leaves `0, 2, …` (graphiq.benchmarks order) -/
def rgsG (m : Nat) : BMat :=
  BMat.ofAdj (2 * m) (fun i j => i < 2 * m ∧ j < 2 * m ∧ i ≠ j ∧ ((i % 2 = 1 ∧ j % 2 = 1) ∨ i + 1 = j ∧ i % 2 = 0 ∨ j + 1 = i ∧ j % 2 = 0))

/-- distinctness of the scripted explorers on the families their docstrings speak about (a combinatorial claim about the
    scripted sequences) — not proved; evaluated by the direct oracle on every run (n ≤ 12 resp. m ≤ 6).  On relabelled
    copies the scripted sequences do produce repetitions (observed, recorded in the evidence; not demanded). -/
def scripted_explorers_distinct_statement : Prop :=
  (∀ (m : Nat) (out : List BMat), 2 ≤ m → rgsOrbitFinder (rgsG m) = .ok out → out.Pairwise (fun a b => a.beq b = false)) ∧
  (∀ (n : Nat) (out : List BMat), 3 ≤ n → linearPartialOrbit (pathG n) = .ok out → out.Pairwise (fun a b => a.beq b = false))

/-- pairwise non-isomorphism of what `depth_first_orbit` returns — not proved; evaluated by the direct oracle -/
def depth_first_distinct_statement : Prop :=
  ∀ (iso : BMat → BMat → Bool) (fuel : Nat) (g : BMat) (paths : List (List Nat)) (out : List BMat),
    depthFirstOrbit iso fuel g = .ok (paths, out) → out.Pairwise (fun a b => iso a b = false)

end Graphiq.C16
