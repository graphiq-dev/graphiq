/-
  Proofs/CommuteLocal.lean — the gates of `transformation.py` as local row maps (`Local S f`, Proofs/PauliLocal.lean: `f` acts
  on the sites in `S` only; two such maps with disjoint supports commute, `Local.comm`): locality is closed under
  composition and under enlarging the support, which gives `cz` from `h` and `cnot`; a local automorphism fixes `±Z_q`
  for `q` outside its support (`Local.fix_Zq`).
-/
import GraphiqModel.Proofs.TabSpecHistory
namespace Graphiq.Commute
open Graphiq PRow TabSpec

theorem Local.comp {S : Nat → Prop} {f g : PRow → PRow} (hf : Local S f) (hg : Local S g) :
    Local S (fun p => f (g p)) where
  off p j hj := ⟨((hf.off (g p) j hj).1).trans (hg.off p j hj).1, ((hf.off (g p) j hj).2).trans (hg.off p j hj).2⟩
  ip p := (hf.ip _).trans (hg.ip p)
  on p p' h := hf.on _ _ (hg.on _ _ h)
  sign p p' h := by
    -- the sign change of the composite is the sum of the two sign changes
    have split : ∀ a b e : Bool, xor a e = xor (xor a b) (xor b e) := by
      intro a b e; cases a <;> cases b <;> cases e <;> rfl
    rw [split _ (g p).r, split (f (g p')).r (g p').r, hf.sign _ _ (hg.on _ _ h), hg.sign _ _ h]

theorem Local.mono {S T : Nat → Prop} {f : PRow → PRow} (hf : Local S f) (hST : ∀ j, S j → T j) : Local T f where
  off p j hj := hf.off p j (fun h => hj (hST j h))
  ip := hf.ip
  on p p' h := by
    intro j hj
    by_cases hS : S j
    · exact hf.on p p' (fun k hk => h k (hST k hk)) j hS
    · have h1 := hf.off p j hS
      have h2 := hf.off p' j hS
      have h3 := h j hj
      exact ⟨h1.1.trans (h3.1.trans h2.1.symm), h1.2.trans (h3.2.trans h2.2.symm)⟩
  sign p p' h := hf.sign p p' (fun k hk => h k (hST k hk))

/-! ### the gates of `transformation.py` are local -/

theorem local_h (q : Nat) : Local (fun j => j = q) (PRow.h q) := Solver.lift_tH q ▸ local_lift q Solver.tH
theorem local_s (q : Nat) : Local (fun j => j = q) (PRow.s q) := Solver.lift_tS q ▸ local_lift q Solver.tS

theorem local_sdg (q : Nat) : Local (fun j => j = q) (PRow.sdg q) := Solver.lift_tSdg q ▸ local_lift q Solver.tSdg
theorem local_zg (q : Nat) : Local (fun j => j = q) (PRow.zg q) := Solver.lift_tZ q ▸ local_lift q Solver.tZ
theorem local_xg (q : Nat) : Local (fun j => j = q) (PRow.xg q) := Solver.lift_tX q ▸ local_lift q Solver.tX
theorem local_yg (q : Nat) : Local (fun j => j = q) (PRow.yg q) := Solver.lift_tY q ▸ local_lift q Solver.tY
theorem local_cz (c t : Nat) : Local (fun j => j = c ∨ j = t) (PRow.cz c t) :=
  ((local_h t).mono (fun _ h => Or.inr h)).comp ((local_cnot c t).comp ((local_h t).mono (fun _ h => Or.inr h)))
theorem local_id (S : Nat → Prop) : Local S (fun p => p) where
  off _ _ _ := ⟨rfl, rfl⟩
  ip _ := rfl
  on _ _ h := h
  sign _ _ _ := by simp

theorem Local.x_off {S : Nat → Prop} {f : PRow → PRow} (hf : Local S f) {q : Nat} (hq : ¬ S q) (p : PRow) :
    (f p).x q = p.x q := (hf.off p q hq).1

theorem Local.fix_Zq {S : Nat → Prop} {f : PRow → PRow} (hf : Local S f) {n : Nat} (h1 : EqOn n (f PRow.one) PRow.one)
    {q : Nat} (hq : ¬ S q) (o : Bool) : EqOn n (f (Zq q o)) (Zq q o) := by
  have hag : AgreeOn S (Zq q o) PRow.one := by
    intro j hj
    have : j ≠ q := fun h => hq (h ▸ hj)
    simp [Zq, PRow.one, this]
  refine ⟨fun j hj => ?_, ?_, ?_⟩
  · by_cases hS : S j
    · have h2 := hf.on _ _ hag j hS
      have h3 := h1.1 j hj
      have h4 := hag j hS
      exact ⟨h2.1.trans (h3.1.trans h4.1.symm), h2.2.trans (h3.2.trans h4.2.symm)⟩
    · exact hf.off _ j hS
  · have h2 := hf.sign _ _ hag
    have h3 := h1.2.1
    rw [h3] at h2
    simpa [PRow.one] using h2
  · rw [hf.ip]

end Graphiq.Commute
