/-
  Proofs/CommuteRefine.lean — the compile loop of the stabilizer backend (`stepOp` / `stabRun`, Model/Circuit.lean, the model
  that is compared with the real `StabilizerCompiler` on every run) refines the group semantics of Proofs/CommuteSem: one step,
  under every measurement setting and outcome script, takes the stabilizer group of the tableau to `runP (copPrims op o)` of
  it, `o` the outcome the step recorded — so the recorded outcome is *feasible* in the group semantics, and the `reset` inside
  `MeasurementCNOTandReset` is the conditional `X` the group semantics uses (`resetZ_after_Zq`).  A whole run is the induction
  `run_refines_of_step`, stated for any semantics of the compile sequence that each step refines (the record and the counter of
  random measurements reuse it: Proofs/CommuteRecord, Proofs/CommuteProb).
-/
import GraphiqModel.Proofs.CommuteSem
import GraphiqModel.Proofs.Circuit
namespace Graphiq.Commute
open Graphiq PRow Tab TabSpec Classical
open Graphiq.Wire (Reg RegType SOp Item Kind G1 runSeq)

/-! ## 1. tableau level -/

/-- invariant of the tableau during a run -/
structure TInv (n : Nat) (t : Tab) : Prop where
  valid : t.Valid
  real : t.StabReal
  n_eq : t.n = n

theorem TInv.norm {n : Nat} {t : Tab} (h : TInv n t) : TInv n t.norm :=
  ⟨Tab.norm_valid t h.valid, norm_stabReal t h.real, h.n_eq⟩

theorem TInv.isTab {n : Nat} {t : Tab} (h : TInv n t) : IsTab n (gstate t) := ⟨t, h.valid, h.real, h.n_eq, rfl⟩

theorem TInv.map {n : Nat} {t : Tab} (h : TInv n t) (f : PRow → PRow) (hf : IsAut1 n f) : TInv n (t.map f) := by
  have hf' : IsAut1 t.n f := by rw [h.n_eq]; exact hf
  exact ⟨map_valid t f hf'.aut h.valid, (gate_tracks t f hf' h.real).1, h.n_eq⟩

theorem TInv.meas {n : Nat} {t : Tab} (h : TInv n t) (q : Nat) (o : Bool) (hq : q < n) : TInv n (t.zMeasure q o).1 := by
  have hq' : q < t.n := by rw [h.n_eq]; exact hq
  exact ⟨zMeasure_valid t q o hq' h.valid, zMeasure_stabReal t q o hq' h.valid h.real, (zMeasure_n t q o).trans h.n_eq⟩

theorem TInv.reset {n : Nat} {t : Tab} (h : TInv n t) (q : Nat) (i o : Bool) (hq : q < n) : TInv n (t.resetZ q i o) := by
  have hq' : q < t.n := by rw [h.n_eq]; exact hq
  exact ⟨resetZ_valid t q i o hq' h.valid, (resetZ_tracks t q i o hq' h.valid h.real).1, (resetZ_n t q i o).trans h.n_eq⟩

theorem tinv_ket0 (n : Nat) : TInv n (Tab.ket0 n) := ⟨Tab.ket0_valid n, Tab.ket0_real n, rfl⟩

theorem appP_gate_tab {n : Nat} (op : Tab.Op) (f : PRow → PRow) (hok : primOk n op = true)
    (hinf : ∀ g, ¬ primInfeasible op g) (hspec : ∀ g, specOp op g = specGate f g) (hf : IsAut1 n f) {t : Tab}
    (ht : TInv n t) : appP n op (some (gstate t)) = some (gstate (t.map f)) := by
  rw [appP_gate_aux n op f hok hinf hspec]
  show some (specGate f (gstate t)) = _
  rw [(gate_tracks t f (ht.n_eq ▸ hf) ht.real).2]

theorem appP_gate_rowP {n : Nat} (op : Tab.Op) (hg : isGatePrim op = true) (hok : primOk n op = true) {t : Tab}
    (ht : TInv n t) : appP n op (some (gstate t)) = some (gstate (t.map (rowP op))) ∧ TInv n (t.map (rowP op)) := by
  rcases prim_cases_rowP n op hok with ⟨q, o, rfl, _⟩ | ⟨_, hf, ha⟩
  · cases hg
  · refine ⟨?_, ht.map _ ha⟩
    rw [hf]
    show some (specGate (rowP op) (gstate t)) = _
    rw [(gate_tracks t (rowP op) (ht.n_eq ▸ ha) ht.real).2]

/-- the six elementary one-qubit gates of `OneQubitGateWrapper.unwrap` as API calls -/
def genPrims (g : Cliff.Gen) (q : Nat) : List Tab.Op :=
  match g with
  | .I => [] | .H => [.h q] | .P => [.s q] | .X => [.x q] | .Y => [.y q] | .Z => [.z q]

theorem runP_single (n : Nat) (op : Tab.Op) (s : Option GState) : runP n [op] s = appP n op s := rfl

theorem gen1_refines {n : Nat} {t : Tab} (ht : TInv n t) (g : Cliff.Gen) (q : Nat) (hq : q < n) :
    runP n (genPrims g q) (some (gstate t)) = some (gstate (gen1 t g q)) ∧ TInv n (gen1 t g q) := by
  have hok : decide (q < n) = true := by simpa using hq
  cases g with
  | I => exact ⟨rfl, ht⟩
  | H => exact appP_gate_rowP (.h q) rfl hok ht
  | P => exact appP_gate_rowP (.s q) rfl hok ht
  | X => exact appP_gate_rowP (.x q) rfl hok ht
  | Y => exact appP_gate_rowP (.y q) rfl hok ht
  | Z => exact appP_gate_rowP (.z q) rfl hok ht

theorem runP_append (n : Nat) (l1 l2 : List Tab.Op) (s : Option GState) : runP n (l1 ++ l2) s = runP n l2 (runP n l1 s) := by
  simp [runP, List.foldl_append]

theorem gens_refine {n : Nat} (gs : List Cliff.Gen) (q : Nat) (hq : q < n) {t : Tab} (ht : TInv n t) :
    runP n (gs.flatMap fun g => genPrims g q) (some (gstate t)) = some (gstate (gs.foldl (fun t g => gen1 t g q) t)) ∧
      TInv n (gs.foldl (fun t g => gen1 t g q) t) := by
  induction gs generalizing t with
  | nil => exact ⟨rfl, ht⟩
  | cons g gs ih =>
    obtain ⟨h1, h2⟩ := gen1_refines ht g q hq
    rw [List.flatMap_cons, runP_append, h1, List.foldl_cons]
    exact ih h2

/-- the outcome a Z measurement records is feasible, and the measured tableau carries C07's post-measurement group for it -/
theorem meas_refines {n : Nat} {t : Tab} (ht : TInv n t) (q : Nat) (off : Bool) (hq : q < n) :
    appP n (.meas q (t.zMeasure q off).2.1) (some (gstate t)) = some (gstate (t.zMeasure q off).1) := by
  have hq' : q < t.n := by rw [ht.n_eq]; exact hq
  rw [appP_meas n q _ hq]
  have htr := measure_tracks t q off hq' ht.valid ht.real
  cases hp : t.pivot q with
  | some p =>
    have e := zMeasure_random_eq t q p off hp
    have hR : Random (Grp t) q := (random_iff_pivot t q hq').mpr (by rw [hp]; rfl)
    have hfe : ¬ (gstate t).G (Zq q (!off)) := by
      intro hz
      have := pivot_none_of_Zq t ht.valid ht.real q hq' _ hz
      rw [hp] at this; cases this
    rw [e] at htr ⊢
    simp only [measStep, Option.bind_some, if_neg hfe]
    rw [htr]
  | none =>
    have e := zMeasure_det_eq t q off hp
    have hR : ¬ Random (Grp t) q := by
      intro h
      have := (random_iff_pivot t q hq').mp h
      rw [hp] at this; cases this
    have hfe : ¬ (gstate t).G (Zq q (!(t.measScratch q).r)) := by
      intro hz
      have := measScratch_r_of_Zq t ht.valid ht.real q hq' _ hz
      revert this; cases (t.measScratch q).r <;> simp
    rw [e]
    simp only [measStep, Option.bind_some, if_neg hfe]
    congr 1
    refine gstate_ext rfl ?_
    intro P
    show ((Random (Grp t) q ∧ _) ∨ (¬ Random (Grp t) q ∧ Grp t P)) ↔ Grp t P
    constructor
    · rintro (⟨h, _⟩ | ⟨_, h⟩)
      · exact absurd h hR
      · exact h
    · intro h; exact Or.inr ⟨hR, h⟩

theorem meas_leaves_Zq {n : Nat} {t : Tab} (ht : TInv n t) (q : Nat) (off : Bool) (hq : q < n) :
    Grp (t.zMeasure q off).1 (Zq q (t.zMeasure q off).2.1) :=
  measure_leaves_Zq t q off (by rw [ht.n_eq]; exact hq) ht.valid ht.real

/-- **the reset inside `MeasurementCNOTandReset`**: on a tableau that has `(-1)^o Z_q` as a stabilizer (the qubit has just
    been measured with outcome `o`), `reset_z(q, 0, ·)` is `X_q` iff `o = 1`, whatever outcome is offered to its inner
    (deterministic) measurement -/
theorem resetZ_after_Zq {n : Nat} {t : Tab} (ht : TInv n t) (q : Nat) (o off : Bool) (hq : q < n) (hz : Grp t (Zq q o)) :
    t.resetZ q false off = if o then t.xGate q else t := by
  have hq' : q < t.n := by rw [ht.n_eq]; exact hq
  have hp := pivot_none_of_Zq t ht.valid ht.real q hq' o hz
  have hr := measScratch_r_of_Zq t ht.valid ht.real q hq' o hz
  rw [resetZ_det_eq t q false off hp, hr]
  cases o <;> simp

theorem map_keeps_Zq {n : Nat} {t : Tab} (ht : TInv n t) (f : PRow → PRow) (hf : IsAut1 n f) {S : Nat → Prop}
    (hl : Local S f) (q : Nat) (hqS : ¬ S q) (o : Bool) (hz : Grp t (Zq q o)) : Grp (t.map f) (Zq q o) := by
  have hf' : IsAut1 t.n f := by rw [ht.n_eq]; exact hf
  rw [map_grp t f hf']
  exact ⟨Zq q o, hz, (hl.fix_Zq hf'.one hqS o).symm⟩

theorem norm_grp_iff (t : Tab) (P : PRow) : Grp t.norm P ↔ Grp t P := norm_grp t P

theorem cond_keeps_Zq {n : Nat} {t : Tab} (ht : TInv n t) (p : Tab.Op) (hg : isGatePrim p = true) (hok : primOk n p = true)
    (q : Nat) (hqp : q ∉ primSupp p) (o b : Bool) (hz : Grp t (Zq q o)) :
    Grp (if b = true then (t.map (rowP p)).norm else t) (Zq q o) := by
  split
  · rcases prim_cases_rowP n p hok with ⟨_, _, rfl, _⟩ | ⟨_, _, ha⟩
    · cases hg
    · exact (norm_grp_iff _ _).mpr (map_keeps_Zq ht _ ha (local_rowP p) _ hqp _ hz)
  · exact hz

/-! ## 2. one step of the compile loop -/

def cMeasures : COp → Bool
  | .ccx .. | .ccz .. | .mcr .. | .measz .. => true
  | _ => false

/-- the API calls of `compile_one_gate` for `op` when its measurement has outcome `o` -/
def copPrims (np : Nat) (op : COp) (o : Bool) : List Tab.Op :=
  let ix := qIndex np
  match op with
  | .gate1 g q => genPrims g (ix q)
  | .pdag q => [.sdg (ix q)]
  | .cnot c t => [.cnot (ix c) (ix t)]
  | .cz c t => [.cz (ix c) (ix t)]
  | .ccx c t _ => .meas (ix c) o :: (if o then [.x (ix t)] else [])
  | .ccz c t _ => .meas (ix c) o :: (if o then [.z (ix t)] else [])
  | .mcr c t _ => .meas (ix c) o :: (if o then [.x (ix t), .x (ix c)] else [])
  | .measz q _ => [.meas (ix q) o]
  | .wrap gs q => gs.reverse.flatMap fun g => genPrims g (ix q)

/-- the operations whose refinement needs control and target to be different qubits: `cnot`, `cz` (the compiler's own
    condition) and `mcr` (the reset of the control must not undo the correction) -/
def cWF2 (np : Nat) : COp → Prop
  | .cnot c t | .cz c t | .mcr c t _ => qIndex np c ≠ qIndex np t
  | _ => True

theorem cond_refines {n : Nat} {t : Tab} (ht : TInv n t) (op : Tab.Op) (hg : isGatePrim op = true)
    (hok : primOk n op = true) (o : Bool) :
    runP n (if o then [op] else []) (some (gstate t)) = some (gstate (if o = true then (t.map (rowP op)).norm else t)) ∧
      TInv n (if o = true then (t.map (rowP op)).norm else t) := by
  obtain ⟨h1, h2⟩ := appP_gate_rowP op hg hok ht
  cases o
  · exact ⟨rfl, ht⟩
  · refine ⟨?_, h2.norm⟩
    rw [if_pos rfl, if_pos rfl, runP_single, norm_gstate]
    exact h1

theorem measure_fields (s : RunState) (d : Det) (q : Nat) :
    ∃ off, (s.measure d q).1.t = (s.t.zMeasure q off).1.norm ∧ (s.measure d q).2 = (s.t.zMeasure q off).2.1 ∧
      (s.measure d q).1.outs = s.outs ++ [(s.t.zMeasure q off).2.1] :=
  ⟨(s.offer d (s.t.pivot q).isSome).1, rfl, rfl, rfl⟩

theorem gate_step_refines {n : Nat} (s : RunState) (ht : TInv n s.t) (p : Tab.Op) (hg : isGatePrim p = true)
    (hok : primOk n p = true) :
    TInv n (s.t.map (rowP p)).norm ∧ ∃ new : List Bool, s.outs = s.outs ++ new ∧ new.length = 0 ∧
      runP n [p] (some (gstate s.t)) = some (gstate (s.t.map (rowP p)).norm) := by
  obtain ⟨h1, h2⟩ := appP_gate_rowP p hg hok ht
  exact ⟨h2.norm, [], (List.append_nil _).symm, rfl, by rw [norm_gstate]; exact h1⟩

/-- the step of a classically controlled gate: measure `qc`, apply the gate primitive `p` iff the outcome is 1; if `p` does
    not act on `qc`, the measured qubit is left in the `Z` eigenstate of the outcome -/
theorem ctrl_step_refines {n : Nat} (s : RunState) (d : Det) (ht : TInv n s.t) (qc : Nat) (hqc : qc < n) (p : Tab.Op)
    (hg : isGatePrim p = true) (hok : primOk n p = true) :
    TInv n (if (s.measure d qc).2 = true then ((s.measure d qc).1.t.map (rowP p)).norm else (s.measure d qc).1.t) ∧
      ∃ new : List Bool, (s.measure d qc).1.outs = s.outs ++ new ∧ new.length = 1 ∧
        runP n (.meas qc (new.headD false) :: if new.headD false then [p] else []) (some (gstate s.t)) =
          some (gstate (if (s.measure d qc).2 = true then ((s.measure d qc).1.t.map (rowP p)).norm
            else (s.measure d qc).1.t)) ∧
        (qc ∉ primSupp p → Grp (if (s.measure d qc).2 = true then ((s.measure d qc).1.t.map (rowP p)).norm
            else (s.measure d qc).1.t) (Zq qc (new.headD false))) := by
  obtain ⟨off, e1, e2, e3⟩ := measure_fields s d qc
  have hm := (ht.meas _ off hqc).norm
  obtain ⟨hc1, hc2⟩ := cond_refines hm p hg hok (s.t.zMeasure qc off).2.1
  rw [e1, e2]
  refine ⟨hc2, [(s.t.zMeasure qc off).2.1], e3, rfl, ?_, fun hqp => ?_⟩
  · simp only [List.headD_cons]
    rw [runP_cons, meas_refines ht _ off hqc, ← norm_gstate (s.t.zMeasure qc off).1]
    exact hc1
  · have hz : Grp (s.t.zMeasure qc off).1.norm (Zq qc (s.t.zMeasure qc off).2.1) :=
      (norm_grp_iff _ _).mpr (meas_leaves_Zq ht _ off hqc)
    simp only [List.headD_cons]
    exact cond_keeps_Zq hm p hg hok qc hqp _ _ hz

/-- **one step of the compile loop refines the group semantics**: under every measurement setting and outcome script, the
    step appends to `outs` the outcome `o` it recorded (if the operation measures), and the stabilizer group of the new
    tableau is `runP (copPrims op o)` of the old one — so `o` is feasible in the group semantics -/
theorem cop_refines (np n : Nat) (d : Det) (s s' : RunState) (op : COp) (hwf : cWF2 np op) (ht : TInv n s.t)
    (hs : stepOp np n d s op = some s') :
    TInv n s'.t ∧ ∃ new : List Bool, s'.outs = s.outs ++ new ∧ new.length = (if cMeasures op then 1 else 0) ∧
      runP n (copPrims np op (new.headD false)) (some (gstate s.t)) = some (gstate s'.t) := by
  cases op with
  | gate1 g q =>
    obtain ⟨hq, hs⟩ := Option.ite_none_right_eq_some.mp hs
    injection hs with hs; subst hs
    obtain ⟨h1, h2⟩ := gen1_refines ht g _ hq
    exact ⟨h2.norm, [], by simp, rfl, by rw [norm_gstate]; exact h1⟩
  | pdag q =>
    obtain ⟨hq, hs⟩ := Option.ite_none_right_eq_some.mp hs
    injection hs with hs; subst hs
    exact gate_step_refines s ht (.sdg (qIndex np q)) rfl (by simpa [primOk] using hq)
  | cnot c t =>
    obtain ⟨hq, hs⟩ := Option.ite_none_right_eq_some.mp hs
    injection hs with hs; subst hs
    exact gate_step_refines s ht (.cnot (qIndex np c) (qIndex np t)) rfl (by simpa [primOk] using ⟨hq.1, hq.2, hwf⟩)
  | cz c t =>
    obtain ⟨hq, hs⟩ := Option.ite_none_right_eq_some.mp hs
    injection hs with hs; subst hs
    exact gate_step_refines s ht (.cz (qIndex np c) (qIndex np t)) rfl (by simpa [primOk] using ⟨hq.1, hq.2, hwf⟩)
  | measz q creg =>
    obtain ⟨hq, hs⟩ := Option.ite_none_right_eq_some.mp hs
    injection hs with hs; subst hs
    obtain ⟨off, e1, e2, e3⟩ := measure_fields s d (qIndex np q)
    refine ⟨?_, [(s.t.zMeasure (qIndex np q) off).2.1], e3, rfl, ?_⟩
    · show TInv n (s.measure d (qIndex np q)).1.t
      rw [e1]; exact (ht.meas _ off hq).norm
    · show runP n [.meas (qIndex np q) _] _ = some (gstate (s.measure d (qIndex np q)).1.t)
      rw [e1, norm_gstate]
      exact meas_refines ht _ off hq
  | ccx c t creg =>
    obtain ⟨hq, hs⟩ := Option.ite_none_right_eq_some.mp hs
    injection hs with hs; subst hs
    obtain ⟨h1, new, h2, h3, h4, _⟩ := ctrl_step_refines s d ht _ hq.1 (.x (qIndex np t)) rfl (by simpa [primOk] using hq.2)
    exact ⟨h1, new, h2, h3, h4⟩
  | ccz c t creg =>
    obtain ⟨hq, hs⟩ := Option.ite_none_right_eq_some.mp hs
    injection hs with hs; subst hs
    obtain ⟨h1, new, h2, h3, h4, _⟩ := ctrl_step_refines s d ht _ hq.1 (.z (qIndex np t)) rfl (by simpa [primOk] using hq.2)
    exact ⟨h1, new, h2, h3, h4⟩
  | mcr c t creg =>
    obtain ⟨hq, hs⟩ := Option.ite_none_right_eq_some.mp hs
    injection hs with hs; subst hs
    obtain ⟨h1, new, h2, h3, h4, h5⟩ :=
      ctrl_step_refines s d ht _ hq.1 (.x (qIndex np t)) rfl (by simpa [primOk] using hq.2)
    obtain ⟨o, rfl⟩ : ∃ o, new = [o] := List.length_eq_one_iff.mp h3
    have h4 : runP n (.meas (qIndex np c) o :: if o then [.x (qIndex np t)] else []) (some (gstate s.t)) = _ := h4
    have hne : qIndex np c ≠ qIndex np t := hwf
    have hz := h5 (by simpa [primSupp] using hne)
    -- the reset of the measured qubit is `X` iff the outcome was 1, whatever is offered to its inner measurement
    have hfin : ∃ off2, ((((s.measure d (qIndex np c)).1.condX (s.measure d (qIndex np c)).2 (qIndex np t)).write creg
          (s.measure d (qIndex np c)).2).resetQ d (qIndex np c)).t =
        ((if (s.measure d (qIndex np c)).2 = true then ((s.measure d (qIndex np c)).1.t.map (rowP (.x (qIndex np t)))).norm
          else (s.measure d (qIndex np c)).1.t).resetZ (qIndex np c) false off2).norm := ⟨_, rfl⟩
    obtain ⟨off2, e4⟩ := hfin
    refine ⟨?_, [o], h2, rfl, ?_⟩
    · rw [e4]; exact (h1.reset _ _ _ hq.1).norm
    · obtain ⟨r1, _⟩ := cond_refines h1 (.x (qIndex np c)) rfl (by simpa [primOk] using hq.1) o
      have hsplit : copPrims np (.mcr c t creg) o =
          (.meas (qIndex np c) o :: if o then [.x (qIndex np t)] else []) ++ (if o then [.x (qIndex np c)] else []) := by
        cases o <;> rfl
      simp only [List.headD_cons]
      rw [hsplit, runP_append, h4, r1, e4, norm_gstate, resetZ_after_Zq h1 _ o off2 hq.1 hz]
      cases o
      · simp only [Bool.false_eq_true, if_false]
      · exact congrArg some (norm_gstate _)
  | wrap gs q =>
    obtain ⟨hq, hs⟩ := Option.ite_none_right_eq_some.mp hs
    injection hs with hs; subst hs
    obtain ⟨h1, h2⟩ := gens_refine gs.reverse _ hq ht
    exact ⟨h2.norm, [], by simp, rfl, by rw [norm_gstate]; exact h1⟩

/-- **every step keeps the tableau invariant** (valid, real stabilizer rows, `n` qubits) under the compiler's own argument
    condition: beyond `cop_refines` only `MeasurementCNOTandReset` on one qubit is left -/
theorem stepOp_tinv (np n : Nat) (d : Det) (s s' : RunState) (op : COp) (hwf : op.WF np) (ht : TInv n s.t)
    (hs : stepOp np n d s op = some s') : TInv n s'.t := by
  by_cases h2 : cWF2 np op
  · exact (cop_refines np n d s s' op h2 ht hs).1
  · cases op with
    | mcr c t creg =>
      obtain ⟨hq, hs⟩ := Option.ite_none_right_eq_some.mp hs
      obtain rfl := Option.some.inj hs
      exact ((ctrl_step_refines s d ht _ hq.1 (.x (qIndex np t)) rfl (by simpa [primOk] using hq.2)).1.reset _ _ _
        hq.1).norm
    | cnot c t | cz c t => exact absurd hwf h2
    | _ => exact absurd trivial h2

/-! ## 3. operations of the compile sequence as circuit operations -/

/-- register of the compile loop (`c`-type registers never carry a gate; junk value) -/
def toQReg (r : Reg) : QReg := ⟨match r.ty with | .e => .e | _ => .p, r.idx⟩

theorem regIx_qIndex {ne np : Nat} {r : Reg} {q : Nat} (h : regIx ne np r = some q) : qIndex np (toQReg r) = q := by
  obtain ⟨ty, idx⟩ := r
  rcases regIx_spec h with ⟨h0, _, h2⟩ | ⟨h0, _, h2⟩ <;> simp only at h0 h2 <;> subst h0 <;> subst h2 <;> rfl

def g1COp (g : G1) (q : QReg) : COp :=
  match g with
  | .I => .gate1 .I q | .H => .gate1 .H q | .P => .gate1 .P q | .Pdg => .pdag q
  | .X => .gate1 .X q | .Y => .gate1 .Y q | .Z => .gate1 .Z q

def pairCOp (k : Kind) (c t : QReg) (cr : Nat) : COp :=
  match k with
  | .cnot => .cnot c t | .cz => .cz c t | .ccnot => .ccx c t cr | .ccz => .ccz c t cr | .mcr => .mcr c t cr
  | _ => .gate1 .I c

/-- the circuit operation `compile_one_gate` receives for an operation of the compile sequence (junk on malformed input) -/
def toCOp (a : SOp) : COp :=
  match a.item, a.regs with
  | .g g, [r] => g1COp g (toQReg r)
  | .node .measZ _ cr, [r] => .measz (toQReg r) (cr.headD 0)
  | .node k _ cr, [c, t] => pairCOp k (toQReg c) (toQReg t) (cr.headD 0)
  | _, _ => .gate1 .I ⟨.p, 0⟩

theorem g1Prims_eq (np : Nat) (g : G1) (r : QReg) : ∀ o, g1Prims g (qIndex np r) = copPrims np (g1COp g r) o := by
  intro o; cases g <;> rfl

theorem decode_prims (ne np : Nat) (a : SOp) (d : Dec) (hdec : decode ne np a = some d) :
    (∀ o, d.prims o = copPrims np (toCOp a) o) ∧ d.mreg.isSome = cMeasures (toCOp a) := by
  cases decodes_of_decode hdec with
  | g1 g r q hq => exact ⟨fun o => by rw [← regIx_qIndex hq]; exact g1Prims_eq np g _ o, by cases g <;> rfl⟩
  | measZ x cr r q hq => exact ⟨fun o => by rw [← regIx_qIndex hq]; rfl, rfl⟩
  | cnot x cr c t qc qt hc ht | cz x cr c t qc qt hc ht | ccnot x cr c t qc qt hc ht | ccz x cr c t qc qt hc ht
  | mcr x cr c t qc qt hc ht => exact ⟨fun o => by rw [← regIx_qIndex hc, ← regIx_qIndex ht]; rfl, rfl⟩

theorem decode_toCOp (ne np : Nat) (a : SOp) (d : Dec) (hdec : decode ne np a = some d) (hnd : a.regs.Nodup) :
    cWF2 np (toCOp a) ∧ (∀ o, d.prims o = copPrims np (toCOp a) o) ∧ d.mreg.isSome = cMeasures (toCOp a) := by
  refine ⟨?_, decode_prims ne np a d hdec⟩
  cases decodes_of_decode hdec with
  | g1 g r q hq => cases g <;> trivial
  | measZ | ccnot | ccz => trivial
  | cnot x cr c t qc qt hc ht | cz x cr c t qc qt hc ht | mcr x cr c t qc qt hc ht =>
    show qIndex np (toQReg c) ≠ qIndex np (toQReg t)
    rw [regIx_qIndex hc, regIx_qIndex ht]; exact regIx_ne_of_nodup hc ht hnd

/-! ## 4. a whole run -/

def pushOut (sc : Script) (r : Reg) (o : Bool) : Script := fun r' => if r' = r then o :: sc r' else sc r'

theorem popReg_pushOut (sc : Script) (r : Reg) (o : Bool) : popReg (pushOut sc r o) r = sc := by
  funext r'
  unfold popReg pushOut
  by_cases h : r' = r <;> simp [h]

/-- the outcome streams of a run: the recorded outcomes `outs` (one per measuring operation, in execution order) prepended,
    operation by operation, to the stream of the measured register -/
def feed (ne np : Nat) : List SOp → List Bool → Script → Script
  | [], _, sc => sc
  | a :: l, outs, sc =>
    match (decode ne np a).bind Dec.mreg with
    | some r => pushOut (feed ne np l outs.tail sc) r (outs.headD false)
    | none => feed ne np l outs sc

def outOf (ne np : Nat) (a : SOp) (sc : Script) : Bool :=
  match decode ne np a with
  | some d => d.out sc
  | none => false

theorem feed_cons (ne np : Nat) (a : SOp) (l : List SOp) (new rest : List Bool) (sc : Script)
    (hlen : new.length = if ((decode ne np a).bind Dec.mreg).isSome then 1 else 0) :
    feed ne np (a :: l) (new ++ rest) sc = feed ne np [a] new (feed ne np l rest sc) := by
  unfold feed
  cases hm : (decode ne np a).bind Dec.mreg with
  | none =>
    rw [hm] at hlen
    have : new = [] := List.length_eq_zero_iff.mp (by simpa using hlen)
    subst this
    simp only [List.nil_append, feed]
  | some r =>
    rw [hm] at hlen
    obtain ⟨o, ho⟩ : ∃ o, new = [o] := List.length_eq_one_iff.mp (by simpa using hlen)
    subst ho
    simp only [List.singleton_append, List.tail_cons, List.headD_cons, feed]

/-- one operation: the compile step refines `appRaw` on streams that start with the recorded outcome, which is the outcome
    the operation reads -/
theorem sop_step (ne np : Nat) (d : Det) (a : SOp) (hdec : (decode ne np a).isSome = true) (hnd : a.regs.Nodup)
    (s s' : RunState) (ht : TInv (ne + np) s.t) (hs : stepOp np (ne + np) d s (toCOp a) = some s') :
    TInv (ne + np) s'.t ∧ ∃ new : List Bool, s'.outs = s.outs ++ new ∧
      new.length = (if ((decode ne np a).bind Dec.mreg).isSome then 1 else 0) ∧
      (new.length = if cMeasures (toCOp a) then 1 else 0) ∧
      ∀ X, appRaw ne np a (some (gstate s.t, feed ne np [a] new X)) = some (gstate s'.t, X) ∧
        outOf ne np a (feed ne np [a] new X) = new.headD false := by
  obtain ⟨dd, hdd⟩ := Option.isSome_iff_exists.mp hdec
  obtain ⟨hwf, hpr, hms⟩ := decode_toCOp ne np a dd hdd hnd
  obtain ⟨ht', new, hnew, hlen, hrun⟩ := cop_refines np (ne + np) d s s' (toCOp a) hwf ht hs
  have hbind : ((decode ne np a).bind Dec.mreg) = dd.mreg := by rw [hdd]; rfl
  refine ⟨ht', new, hnew, by rw [hbind, hms]; exact hlen, hlen, fun X => ?_⟩
  have e0 := appRaw_map ne np a dd hdd (some (gstate s.t))
  simp only [Option.map_some] at e0
  rw [e0]
  unfold outOf
  rw [hdd]
  simp only
  cases hm : dd.mreg with
  | none =>
    have hmf : cMeasures (toCOp a) = false := by rw [← hms, hm]; rfl
    rw [hmf] at hlen
    have hnil : new = [] := List.length_eq_zero_iff.mp (by simpa using hlen)
    subst hnil
    have hfeed : feed ne np [a] [] X = X := by simp only [feed, hdd, Option.bind_some, hm]
    have hout : dd.out X = false := by simp [Dec.out, hm]
    have hhas : dd.has X := by simp [Dec.has, hm]
    simp only [List.headD_nil] at hrun ⊢
    rw [hfeed, if_pos hhas, hout, hpr, hrun]
    simp only [Option.map_some, Dec.pop, hm, and_self]
  | some r =>
    have hmt : cMeasures (toCOp a) = true := by rw [← hms, hm]; rfl
    rw [hmt] at hlen
    obtain ⟨o, ho⟩ : ∃ o, new = [o] := List.length_eq_one_iff.mp (by simpa using hlen)
    subst ho
    have hfeed : feed ne np [a] [o] X = pushOut X r o := by
      simp only [feed, hdd, Option.bind_some, hm, List.headD_cons]
    have hout : dd.out (pushOut X r o) = o := by simp [Dec.out, hm, pushOut]
    have hhas : dd.has (pushOut X r o) := by simp [Dec.has, hm, pushOut]
    simp only [List.headD_cons] at hrun ⊢
    rw [hfeed, if_pos hhas, hout, hpr, hrun]
    simp only [Option.map_some, Dec.pop, hm, popReg_pushOut, and_self]

/-- **a run of the compile loop refines every semantics `app` of the compile sequence that its steps refine**; `abs s X`
    is the state of that semantics standing for the run state `s` with the outcome streams `X` still unread -/
theorem run_refines_of_step {σ : Type} (app : SOp → σ → σ) (abs : RunState → Script → σ) (ne np : Nat) (d : Det)
    (l : List SOp) (hok : ∀ a, a ∈ l → (decode ne np a).isSome = true ∧ a.regs.Nodup)
    (hstep : ∀ a, a ∈ l → ∀ s s1 : RunState, TInv (ne + np) s.t → stepOp np (ne + np) d s (toCOp a) = some s1 →
      ∀ new, s1.outs = s.outs ++ new →
      ∀ X, appRaw ne np a (some (gstate s.t, feed ne np [a] new X)) = some (gstate s1.t, X) →
        outOf ne np a (feed ne np [a] new X) = new.headD false → app a (abs s (feed ne np [a] new X)) = abs s1 X)
    (s s' : RunState) (ht : TInv (ne + np) s.t) (hs : (l.map toCOp).foldlM (stepOp np (ne + np) d) s = some s') :
    TInv (ne + np) s'.t ∧ ∃ new : List Bool, s'.outs = s.outs ++ new ∧
      ∀ sc, runSeq app l (abs s (feed ne np l new sc)) = abs s' sc := by
  induction l generalizing s with
  | nil =>
    simp only [List.map_nil, List.foldlM, Option.pure_def, Option.some.injEq] at hs
    subst hs
    exact ⟨ht, [], by simp, fun sc => rfl⟩
  | cons a l ih =>
    simp only [List.map_cons, List.foldlM] at hs
    cases h1 : stepOp np (ne + np) d s (toCOp a) with
    | none => rw [h1] at hs; simp at hs
    | some s1 =>
      rw [h1] at hs
      simp only [Option.bind_eq_bind, Option.bind_some] at hs
      obtain ⟨hd1, hd2⟩ := hok a List.mem_cons_self
      obtain ⟨ht1, new1, hn1, hlen1, _, hst⟩ := sop_step ne np d a hd1 hd2 s s1 ht h1
      obtain ⟨ht', new2, hn2, hr2⟩ := ih (fun b hb => hok b (List.mem_cons_of_mem _ hb))
        (fun b hb => hstep b (List.mem_cons_of_mem _ hb)) s1 ht1 hs
      refine ⟨ht', new1 ++ new2, by rw [hn2, hn1, List.append_assoc], fun sc => ?_⟩
      rw [Wire.runSeq_cons, feed_cons ne np a l new1 new2 sc hlen1,
        hstep a List.mem_cons_self s s1 ht h1 new1 hn1 _ (hst _).1 (hst _).2]
      exact hr2 sc

/-- **a whole run of the stabilizer compile loop refines the group semantics**: if the loop, under any measurement setting
    and outcome script, runs the operations `l` from a valid tableau `s.t` to `s'`, recording the outcomes `new`, then the
    group semantics run on the outcome streams made of `new` is possible and ends in the stabilizer group of `s'.t`, with
    every recorded outcome read -/
theorem run_refines (ne np : Nat) (d : Det) (l : List SOp)
    (hok : ∀ a, a ∈ l → (decode ne np a).isSome = true ∧ a.regs.Nodup) (s s' : RunState) (ht : TInv (ne + np) s.t)
    (hs : (l.map toCOp).foldlM (stepOp np (ne + np) d) s = some s') :
    TInv (ne + np) s'.t ∧ ∃ new : List Bool, s'.outs = s.outs ++ new ∧
      ∀ sc, runSeq (appRaw ne np) l (some (gstate s.t, feed ne np l new sc)) = some (gstate s'.t, sc) :=
  run_refines_of_step (appRaw ne np) (fun s X => some (gstate s.t, X)) ne np d l hok
    (fun _ _ _ _ _ _ _ _ _ hraw _ => hraw) s s' ht hs

/-- the outcomes recorded by the measuring operations on register `r`, in execution order (`outs`: one outcome per measuring
    operation of `l`, in execution order) -/
def outsOn (ne np : Nat) : List SOp → List Bool → Reg → List Bool
  | [], _, _ => []
  | a :: l, outs, r =>
    match (decode ne np a).bind Dec.mreg with
    | some r' => (if r = r' then [outs.headD false] else []) ++ outsOn ne np l outs.tail r
    | none => outsOn ne np l outs r

theorem feed_apply (ne np : Nat) (l : List SOp) (outs : List Bool) (r : Reg) :
    feed ne np l outs (fun _ => []) r = outsOn ne np l outs r := by
  induction l generalizing outs with
  | nil => rfl
  | cons a l ih =>
    unfold feed outsOn
    cases hm : (decode ne np a).bind Dec.mreg with
    | none => exact ih outs
    | some r' =>
      simp only [pushOut]
      by_cases h : r = r'
      · rw [if_pos h, if_pos h, ih]; rfl
      · rw [if_neg h, if_neg h, ih]; rfl

/-- "every measuring operation recorded the same outcome in both runs": the streams agree iff on every register the recorded
    outcomes agree -/
theorem feed_eq_iff (ne np ne' np' : Nat) (l l' : List SOp) (outs outs' : List Bool) :
    feed ne np l outs (fun _ => []) = feed ne' np' l' outs' (fun _ => []) ↔
      ∀ r, outsOn ne np l outs r = outsOn ne' np' l' outs' r := by
  constructor
  · intro h r
    rw [← feed_apply, ← feed_apply, h]
  · intro h
    funext r
    rw [feed_apply, feed_apply, h]

end Graphiq.Commute
