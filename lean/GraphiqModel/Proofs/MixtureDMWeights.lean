/-
  Proofs/MixtureDMWeights.lean — every weight of the stabilizer mixture is non-negative, for every circuit (measurements,
  classically controlled operations and resets included) whose depolarizing filter keeps only positive factors (always) and whose
  photon-loss rates are `≤ 1`: the mixture is a genuine (sub-normalised) probability mixture.  Together with
  `mixture_weight_is_survival_product` and `every_branch_valid` this is clause (b) in full.
-/
import GraphiqModel.Proofs.MixtureDMCompile
namespace Graphiq
namespace MixDM
open Noise

def MixNonneg (m : Mixture) : Prop := ∀ x ∈ m, 0 ≤ x.1

theorem mapTab_nonneg (f : Tab → Tab) (m : Mixture) (h : MixNonneg m) : MixNonneg (Mix.mapTab f m) := by
  intro x hx
  simp only [Mix.mapTab, List.mem_map] at hx
  obtain ⟨⟨p, t⟩, hy, rfl⟩ := hx
  exact h (p, t) hy

theorem reduceScan_nonneg (t0 : Tab) : ∀ (fuel i : Nat) (p0 : Rat) (l : Mixture), 0 ≤ p0 → MixNonneg l →
    0 ≤ (Mix.reduceScan t0 fuel i p0 l).1
  | 0, _, _, _, h0, _ => by simpa [Mix.reduceScan] using h0
  | fuel+1, i, p0, l, h0, hl => by
    unfold Mix.reduceScan
    cases hi : l[i]? with
    | none => simpa using h0
    | some pt =>
      obtain ⟨pi, ti⟩ := pt
      simp only
      have hpi : 0 ≤ pi := hl (pi, ti) (List.mem_of_getElem? hi)
      split
      · exact reduceScan_nonneg t0 fuel (i + 1) (p0 + pi) (l.eraseIdx i) (add_nonneg h0 hpi)
          (fun x hx => hl x ((List.eraseIdx_sublist l i).subset hx))
      · exact reduceScan_nonneg t0 fuel (i + 1) p0 l h0 hl

theorem reduce_nonneg : ∀ (fuel : Nat) (m : Mixture), MixNonneg m → MixNonneg (Mix.reduce fuel m)
  | 0, _, _ => by intro x hx; simp [Mix.reduce] at hx
  | _+1, [], _ => by intro x hx; simp [Mix.reduce] at hx
  | fuel+1, (p0, t0) :: rest, h => by
    have hrest : MixNonneg rest := fun x hx => h x (List.mem_cons_of_mem _ hx)
    have h0 : 0 ≤ p0 := h (p0, t0) List.mem_cons_self
    intro x hx
    simp only [Mix.reduce, List.mem_cons] at hx
    rcases hx with e | hx
    · rw [e]; exact reduceScan_nonneg t0 rest.length 0 p0 rest h0 hrest
    · exact reduce_nonneg fuel _ (fun y hy => hrest y (reduceScan_sub t0 _ _ _ _ y hy)) x hx

theorem applyNoise_nonneg (nm : NoiseM) (hp : ∀ r a, nm = .loss r a → r ≤ 1) (q : Nat) (m m' : Mixture) (hm : MixNonneg m)
    (h : Mix.applyNoise nm q m = .ok m') : MixNonneg m' := by
  rcases applyNoise_cases h with rfl | ⟨j, rfl⟩ | ⟨p, h⟩ | ⟨r, a, e, rfl⟩
  · exact hm
  · exact mapTab_nonneg _ m hm
  · obtain ⟨_, _, rfl⟩ := Mix.depolarize_inv h
    apply reduce_nonneg
    intro x hx
    simp only [List.mem_flatMap, Mix.depolBranch, List.mem_filterMap, List.mem_range] at hx
    obtain ⟨⟨pi, ti⟩, hy, k, _, hk⟩ := hx
    simp only at hk
    split at hk
    · rename_i hf
      injection hk with hk; subst hk
      exact mul_nonneg (hm (pi, ti) hy) (le_of_lt hf)
    · cases hk
  · intro x hx
    simp only [Mix.photonLoss, List.mem_map] at hx
    obtain ⟨⟨p, t⟩, hy, rfl⟩ := hx
    have : r ≤ 1 := hp r a e
    exact mul_nonneg (by linarith) (hm (p, t) hy)

theorem total_nonneg (m : Mixture) (h : MixNonneg m) : 0 ≤ Mix.total m := by
  induction m with
  | nil => simp [Mix.total_nil]
  | cons x xs ih =>
    obtain ⟨w, t⟩ := x
    rw [Mix.total_cons]
    exact add_nonneg (h (w, t) List.mem_cons_self) (ih (fun z hz => h z (List.mem_cons_of_mem _ hz)))

theorem measureJoint_nonneg (q : Nat) (o : Bool) (m : Mixture) (h : MixNonneg m) : MixNonneg (Mix.measureJoint q o m) := by
  intro z hz
  unfold Mix.measureJoint at hz
  rw [List.mem_filterMap] at hz
  obtain ⟨y, hy, hj⟩ := hz
  have hy0 := h y hy
  rcases (jointBranch_tab q o y z hj).2 with e | e <;> rw [e]
  · positivity
  · exact hy0

theorem measure_nonneg (q : Nat) (det : Bool) (m : Mixture) (h : MixNonneg m) : MixNonneg (Mix.measure q det m).1 := by
  have htot : 0 ≤ Mix.total (Mix.measureJoint q false m) + Mix.total (Mix.measureJoint q true m) := by
    rw [Mix.total_measureJoint_pair]; exact total_nonneg m h
  intro x hx
  unfold Mix.measure at hx
  simp only at hx
  generalize (if det = true then !DM.isclose0 (Mix.total (Mix.measureJoint q true m))
    else DM.isclose0 (Mix.total (Mix.measureJoint q false m))) = oc at hx
  by_cases hw : 0 < (if oc = true then Mix.total (Mix.measureJoint q true m) else Mix.total (Mix.measureJoint q false m))
  · rw [if_pos hw] at hx
    simp only [List.mem_map] at hx
    obtain ⟨z, hz, rfl⟩ := hx
    exact div_nonneg (mul_nonneg (measureJoint_nonneg q oc m h z hz) htot) (le_of_lt hw)
  · rw [if_neg hw] at hx
    simp only [List.mem_map] at hx
    obtain ⟨y, _, rfl⟩ := hx
    simp

theorem conditioned_nonneg (f : Tab → Tab) (outs : List Bool) (m : Mixture) (h : MixNonneg m) :
    MixNonneg (Mix.conditioned f outs m) := by
  intro x hx
  simp only [Mix.conditioned, List.mem_map] at hx
  obtain ⟨⟨⟨p, t⟩, o⟩, hy, rfl⟩ := hx
  have hmem : (p, t) ∈ m := (List.of_mem_zip hy).1
  cases o <;> exact h (p, t) hmem

theorem stabGate_nonneg (np n : Nat) (det : Bool) (op : COp) (s s1 : StabSt) (hm : MixNonneg s.mix)
    (h : stabGate np n det op s = .ok s1) : MixNonneg s1.mix := by
  rcases stabGate_cases h with rfl | ⟨f, _, rfl⟩ | ⟨_, q1, q2, c, f, r, _, h⟩ | ⟨_, q1, c, h⟩
  · exact hm
  · exact mapTab_nonneg f _ hm
  · unfold stabClassical at h; split at h
    · injection h with h; subst h
      have h2 := conditioned_nonneg f (Mix.measure q1 det s.mix).2 _ (measure_nonneg q1 det s.mix hm)
      cases r
      · simpa using h2
      · simpa using mapTab_nonneg _ _ h2
    · cases h
  · unfold stabMeasZ at h; split at h
    · injection h with h; subst h; exact measure_nonneg q1 det s.mix hm
    · cases h

def LossLe1 (nm : NoiseM) : Prop := ∀ r a, nm = .loss r a → r ≤ 1

theorem stabAct_nonneg (np n : Nat) (det : Bool) (arr : Array COp) (s s1 : StabSt) (a : Act)
    (ha : ActP (fun _ => True) (fun _ nm => LossLe1 nm) arr a) (hm : MixNonneg s.mix)
    (h : stabAct np n det arr s a = .ok s1) : MixNonneg s1.mix := by
  cases a with
  | gate k => exact stabGate_nonneg np n det _ s s1 hm h
  | noise k side q nm =>
    obtain ⟨m', hn, rfl⟩ := stabAct_noise_inv h
    exact applyNoise_nonneg nm ha q s.mix m' hm hn
  | replace k => simp [stabAct] at h

/-- **every weight of the mixture is non-negative** — any circuit (measurements, classical control, resets included), loss
    rates `≤ 1` -/
theorem compileStab_nonneg (ns : Bool) (ne np nc : Nat) (det : Bool) (ops : List COp)
    (hw : ∀ op ∈ ops, LossLe1 op.n0 ∧ LossLe1 op.n1) (s : StabSt) (h : compileStab ns ne np nc det ops = .ok s) :
    MixNonneg s.mix := by
  obtain ⟨_, tr, htr, hrun⟩ := stabGo_run.1 h
  refine runActs_inv (fun s => MixNonneg s.mix) _ (stabAct_nonneg np (ne + np) det ops.toArray) tr _ s
    (trace_actP (fun _ _ _ => trivial) (fun op ho => ⟨(hw op ho).1, fun _ => (hw op ho).2⟩) htr) ?_ hrun
  exact List.forall_mem_singleton.2 zero_le_one

end MixDM
end Graphiq
