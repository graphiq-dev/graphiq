/-
  Proofs/CompareRepairBuild.lean — the steps by which `MG.build c` is shown to be a family of register paths (`Rep0`; the
  fold over the operations is in Proofs/CompareRepairInit.lean): inserting a node on an edge (`MG.splice`, the core of `_add` and `_insert_at`) turns the path
  `… u v …` of the edge's register into `… u x v …` and keeps every other path (`Rep0.splice`); `MG.add` appends a fresh
  node to the paths of its registers (`Rep0.add`).
-/
import GraphiqModel.Proofs.CompareRepairWalk
import GraphiqModel.Proofs.Loop
namespace Graphiq.Compare
open Graphiq Graphiq.Export

theorem adj_cons {l : List Nd} {a b : Nd} (c : Nd) (h : Adj l a b) : Adj (c :: l) a b := by
  obtain ⟨m1, m2, rfl⟩ := h
  exact ⟨c :: m1, m2, rfl⟩

theorem adj_insert (l1 l2 : List Nd) (u v x a b : Nd) (h : Adj (l1 ++ u :: v :: l2) a b) (hne : ¬(a = u ∧ b = v)) :
    Adj (l1 ++ u :: x :: v :: l2) a b := by
  obtain ⟨m1, m2, hm⟩ := h
  induction l1 generalizing m1 with
  | nil =>
    cases m1 with
    | nil =>
      simp only [List.nil_append, List.cons.injEq] at hm
      exact absurd ⟨hm.1.symm, hm.2.1.symm⟩ hne
    | cons y m1' =>
      simp only [List.nil_append, List.cons_append, List.cons.injEq] at hm
      obtain ⟨rfl, hm⟩ := hm
      exact ⟨u :: x :: m1', m2, by simp [hm]⟩
  | cons c l1' ih =>
    cases m1 with
    | nil =>
      simp only [List.nil_append, List.cons_append, List.cons.injEq] at hm
      obtain ⟨rfl, hm⟩ := hm
      cases l1' with
      | nil =>
        simp only [List.nil_append, List.cons.injEq] at hm
        obtain ⟨rfl, _⟩ := hm
        exact ⟨[], x :: v :: l2, rfl⟩
      | cons d l1'' =>
        simp only [List.cons_append, List.cons.injEq] at hm
        obtain ⟨rfl, _⟩ := hm
        exact ⟨[], l1'' ++ u :: x :: v :: l2, rfl⟩
    | cons y m1' =>
      simp only [List.cons_append, List.cons.injEq] at hm
      exact adj_cons c (ih m1' hm.2)

theorem adj_insert_inv (l1 l2 : List Nd) (u v x a b : Nd) (h : Adj (l1 ++ u :: x :: v :: l2) a b) :
    (a = u ∧ b = x) ∨ (a = x ∧ b = v) ∨ Adj (l1 ++ u :: v :: l2) a b := by
  obtain ⟨m1, m2, hm⟩ := h
  induction l1 generalizing m1 with
  | nil =>
    cases m1 with
    | nil =>
      simp only [List.nil_append, List.cons.injEq] at hm
      exact Or.inl ⟨hm.1.symm, hm.2.1.symm⟩
    | cons y m1' =>
      cases m1' with
      | nil =>
        simp only [List.nil_append, List.cons_append, List.cons.injEq] at hm
        exact Or.inr (Or.inl ⟨hm.2.1.symm, hm.2.2.1.symm⟩)
      | cons z m1'' =>
        simp only [List.nil_append, List.cons_append, List.cons.injEq] at hm
        obtain ⟨rfl, rfl, hm⟩ := hm
        exact Or.inr (Or.inr ⟨u :: m1'', m2, by simp [hm]⟩)
  | cons c l1' ih =>
    cases m1 with
    | nil =>
      simp only [List.nil_append, List.cons_append, List.cons.injEq] at hm
      obtain ⟨rfl, hm⟩ := hm
      cases l1' with
      | nil =>
        simp only [List.nil_append, List.cons.injEq] at hm
        obtain ⟨rfl, _⟩ := hm
        exact Or.inr (Or.inr ⟨[], v :: l2, rfl⟩)
      | cons d l1'' =>
        simp only [List.cons_append, List.cons.injEq] at hm
        obtain ⟨rfl, _⟩ := hm
        exact Or.inr (Or.inr ⟨[], l1'' ++ u :: v :: l2, rfl⟩)
    | cons y m1' =>
      simp only [List.cons_append, List.cons.injEq] at hm
      rcases ih m1' hm.2 with h | h | h
      · exact Or.inl h
      · exact Or.inr (Or.inl h)
      · exact Or.inr (Or.inr (adj_cons c h))

theorem inEdge_some (g : MG) (n : Nd) (w : Wire) (e : Edge) (h : g.inEdge n w = some e) :
    e ∈ g.edges ∧ e.dst = n ∧ e.key = w := by
  unfold MG.inEdge at h
  have hm := List.mem_of_find?_eq_some h
  have hp := List.find?_some h
  simp only [Bool.and_eq_true, beq_iff_eq] at hp
  exact ⟨hm, hp.1, hp.2⟩

theorem inEdge_isSome_of_mem (g : MG) (e : Edge) (he : e ∈ g.edges) : ∃ e', g.inEdge e.dst e.key = some e' := by
  cases h : g.inEdge e.dst e.key with
  | some e' => exact ⟨e', rfl⟩
  | none =>
    unfold MG.inEdge at h
    have := List.find?_eq_none.1 h e he
    simp at this

theorem Rep0.inEdge_prev {g : MG} {W : List Wire} {body : Wire → List Nd} (r : Rep0 g W body) {w : Wire} (hw : w ∈ W)
    {pre rest : List Nd} {u n : Nd} (hp : pathOf body w = pre ++ u :: n :: rest) :
    ∃ e, g.inEdge n w = some e ∧ e ∈ g.edges ∧ e.src = u ∧ e.dst = n ∧ e.key = w := by
  obtain ⟨e0, he0, _, hd0, hk0⟩ := r.edge_complete w hw u n ⟨pre, rest, hp⟩
  obtain ⟨e, h⟩ : ∃ e, g.inEdge n w = some e := by
    have := inEdge_isSome_of_mem g e0 he0
    rwa [hd0, hk0] at this
  obtain ⟨he, hd, hk⟩ := inEdge_some g n w e h
  refine ⟨e, h, he, ?_, hd, hk⟩
  have ha := (r.edge_sound0 e he).2
  rw [hk, hd] at ha
  obtain ⟨p', hp'⟩ := adj_prev _ (r.pathNodup w hw) (pre ++ [u]) rest e.src n (by rw [hp]; simp) ha
  exact ((List.append_inj' hp' rfl).2 |> List.cons.inj |>.1).symm

def MG.addNode (g : MG) (id : Nat) (o : NOp) : MG := { g with nodeId := id, nodes := g.nodes ++ [(Nd.op id, o)] }

theorem opOf_append (g g' : MG) (extra : List (Nd × NOp)) (h : g'.nodes = g.nodes ++ extra) (n : Nd) :
    g'.opOf n = (g.opOf n).or ((extra.find? (fun p => p.1 == n)).map (·.2)) := by
  unfold MG.opOf
  rw [h, List.find?_append]
  cases g.nodes.find? (fun p => p.1 == n) <;> simp

theorem opOf_append_old (g g' : MG) (extra : List (Nd × NOp)) (h : g'.nodes = g.nodes ++ extra) (n : Nd)
    (hn : n ∈ g.nodes.map (·.1)) : g'.opOf n = g.opOf n := by
  rw [opOf_append g g' extra h]
  cases ho : g.opOf n with
  | some o => rfl
  | none =>
    exfalso
    unfold MG.opOf at ho
    obtain ⟨p, hp, rfl⟩ := List.mem_map.1 hn
    cases hf : g.nodes.find? (fun q => q.1 == p.1) with
    | none => have := List.find?_eq_none.1 hf p hp; simp at this
    | some q => rw [hf] at ho; cases ho

theorem opOf_none_of_not_mem (g : MG) (n : Nd) (h : n ∉ g.nodes.map (·.1)) : g.opOf n = none := by
  cases ho : g.opOf n with
  | none => rfl
  | some o => exact absurd (opOf_some_mem g n o ho) h

theorem opOf_snoc_old (g g' : MG) (n0 : Nd) (o0 : NOp) (h : g'.nodes = g.nodes ++ [(n0, o0)]) (n : Nd) (o : NOp)
    (ho : g.opOf n = some o) : g'.opOf n = some o := by
  rw [opOf_append g g' _ h, ho]; rfl

theorem opOf_snoc_new (g g' : MG) (n0 : Nd) (o0 : NOp) (h : g'.nodes = g.nodes ++ [(n0, o0)])
    (hfresh : n0 ∉ g.nodes.map (·.1)) : g'.opOf n0 = some o0 := by
  rw [opOf_append g g' _ h, opOf_none_of_not_mem g _ hfresh]
  simp

theorem opOf_snoc_some (g g' : MG) (n0 : Nd) (o0 : NOp) (h : g'.nodes = g.nodes ++ [(n0, o0)]) (n : Nd) (o : NOp)
    (ho : g'.opOf n = some o) : g.opOf n = some o ∨ (n = n0 ∧ o = o0) := by
  rw [opOf_append g g' _ h] at ho
  cases hg : g.opOf n with
  | some o' => rw [hg] at ho; exact Or.inl ho
  | none =>
    rw [hg] at ho
    by_cases hx : n0 = n
    · simp only [Option.none_or, List.find?_cons, hx, beq_self_eq_true, Option.map_some, Option.some.injEq] at ho
      exact Or.inr ⟨hx.symm, ho.symm⟩
    · simp [hx] at ho

theorem Rep0.addNode {g : MG} {W : List Wire} {body : Wire → List Nd} (r : Rep0 g W body) (id : Nat) (o : Op)
    (hon : (opWires o).Nodup) : Rep0 (g.addNode id (.gate o)) W body where
  pathNodup := r.pathNodup
  bodyOp := by
    intro w hw n hn
    obtain ⟨k, o', h1, h2, h3⟩ := r.bodyOp w hw n hn
    exact ⟨k, o', h1, opOf_snoc_old g _ _ _ rfl n _ h2, h3⟩
  inpOp := fun w hw => opOf_snoc_old g _ _ _ rfl _ _ (r.inpOp w hw)
  outOp := fun w hw => opOf_snoc_old g _ _ _ rfl _ _ (r.outOp w hw)
  kindIn := by
    intro n w h
    rcases opOf_snoc_some g _ _ _ rfl n _ h with h | ⟨_, h⟩
    · exact r.kindIn n w h
    · cases h
  kindOut := by
    intro n w h
    rcases opOf_snoc_some g _ _ _ rfl n _ h with h | ⟨_, h⟩
    · exact r.kindOut n w h
    · cases h
  wiresNodup := by
    intro n o' h
    rcases opOf_snoc_some g _ _ _ rfl n _ h with h | ⟨_, h⟩
    · exact r.wiresNodup n o' h
    · injection h with h; rw [h]; exact hon
  edge_sound0 := r.edge_sound0
  edge_complete := r.edge_complete
  inputsW := by
    intro w h
    apply r.inputsW w
    unfold MG.addNode at h
    simp only [List.map_append, List.mem_append, List.map_cons, List.map_nil, List.mem_singleton] at h
    rcases h with h | h
    · exact h
    · cases h

/-! ## inserting a node on an edge -/

theorem mem_removeEdge (g : MG) (x e' : Edge) :
    e' ∈ (g.removeEdge x).edges ↔ e' ∈ g.edges ∧ ¬(e'.src = x.src ∧ e'.dst = x.dst ∧ e'.key = x.key) := by
  unfold MG.removeEdge
  simp only [List.mem_filter, Bool.not_eq_true', Bool.and_eq_false_iff, beq_eq_false_iff_ne, ne_eq]
  constructor
  · rintro ⟨h1, h2⟩
    refine ⟨h1, ?_⟩
    rintro ⟨a, b, c⟩
    rcases h2 with (h | h) | h
    · exact h a
    · exact h b
    · exact h c
  · rintro ⟨h1, h2⟩
    refine ⟨h1, ?_⟩
    by_cases a : e'.src = x.src
    · by_cases b : e'.dst = x.dst
      · right; intro c; exact h2 ⟨a, b, c⟩
      · left; right; exact b
    · left; left; exact a

theorem mem_splice_edges (g : MG) (e : Edge) (x : Nd) (e' : Edge) :
    e' ∈ (g.splice e x).edges ↔
      (e' ∈ g.edges ∨ e' = { src := e.src, dst := x, key := e.key } ∨ e' = { src := x, dst := e.dst, key := e.key }) ∧
      ¬(e'.src = e.src ∧ e'.dst = e.dst ∧ e'.key = e.key) := by
  unfold MG.splice
  rw [mem_removeEdge]
  simp only [List.mem_append, List.mem_cons, List.not_mem_nil, or_false]

theorem opOf_splice (g : MG) (e : Edge) (x : Nd) : (g.splice e x).opOf = g.opOf := rfl
theorem nodes_splice (g : MG) (e : Edge) (x : Nd) : (g.splice e x).nodes = g.nodes := rfl

/-- **splicing a node into an edge inserts it into the path of the edge's register** -/
theorem Rep0.splice {g : MG} {W : List Wire} {body : Wire → List Nd} (r : Rep0 g W body) (e : Edge) (he : e ∈ g.edges)
    (id : Nat) (o : Op) (hxo : g.opOf (.op id) = some (.gate o)) (hwo : e.key ∈ opWires o)
    (hfresh : Nd.op id ∉ pathOf body e.key) (l1 l2 : List Nd) (h12 : pathOf body e.key = l1 ++ e.src :: e.dst :: l2)
    (body' : Wire → List Nd) (hp' : pathOf body' e.key = l1 ++ e.src :: Nd.op id :: e.dst :: l2)
    (hb' : ∀ w', w' ≠ e.key → body' w' = body w') : Rep0 (g.splice e (.op id)) W body' := by
  have hkW := (r.edge_sound0 e he).1
  have hnd := r.pathNodup _ hkW
  -- the new path is the old one with the new node put in the middle
  have hperm : (pathOf body' e.key).Perm (Nd.op id :: pathOf body e.key) := by
    have e1 : l1 ++ e.src :: Nd.op id :: e.dst :: l2 = (l1 ++ [e.src]) ++ Nd.op id :: (e.dst :: l2) := by simp
    have e2 : l1 ++ e.src :: e.dst :: l2 = (l1 ++ [e.src]) ++ (e.dst :: l2) := by simp
    rw [hp', h12, e1, e2]
    exact List.perm_middle
  have hnd' : (pathOf body' e.key).Nodup := hperm.nodup_iff.2 (List.nodup_cons.2 ⟨hfresh, hnd⟩)
  have hpath' : ∀ w', w' ≠ e.key → pathOf body' w' = pathOf body w' := by
    intro w' hw'; unfold pathOf; rw [hb' w' hw']
  have hmem' : ∀ n, n ∈ pathOf body' e.key ↔ n = .op id ∨ n ∈ pathOf body e.key :=
    fun n => hperm.mem_iff.trans List.mem_cons
  refine ⟨?_, ?_, r.inpOp, r.outOp, r.kindIn, r.kindOut, r.wiresNodup, ?_, ?_, r.inputsW⟩
  · intro w hw
    by_cases hk : w = e.key
    · rw [hk]; exact hnd'
    · rw [hpath' w hk]; exact r.pathNodup w hw
  · intro w hw n hn
    by_cases hk : w = e.key
    · subst hk
      have hnp : n ∈ pathOf body' e.key := (mem_pathOf body' e.key n).2 (Or.inr (Or.inl hn))
      rcases (hmem' n).1 hnp with rfl | hold
      · exact ⟨id, o, rfl, hxo, hwo⟩
      · -- an old node of the path that is neither its input nor its output node
        have hne_in : n ≠ .inp e.key := by
          rintro rfl
          unfold pathOf at hnd'
          exact (List.nodup_cons.1 hnd').1 (List.mem_append_left _ hn)
        have hne_out : n ≠ .out e.key := by
          rintro rfl
          unfold pathOf at hnd'
          have := (List.nodup_cons.1 hnd').2
          have h2 := (List.nodup_append.1 this).2.2
          exact h2 _ hn _ (by simp) rfl
        rcases (mem_pathOf body e.key n).1 hold with h | h | h
        · exact absurd h hne_in
        · exact r.bodyOp e.key hw n h
        · exact absurd h hne_out
    · rw [hb' w hk] at hn
      exact r.bodyOp w hw n hn
  · intro e' he'
    obtain ⟨hor, hnot⟩ := (mem_splice_edges g e _ e').1 he'
    rcases hor with hold | rfl | rfl
    · obtain ⟨hk', hadj⟩ := r.edge_sound0 e' hold
      refine ⟨hk', ?_⟩
      by_cases hk : e'.key = e.key
      · rw [hk] at hadj ⊢
        rw [hp']
        rw [h12] at hadj
        exact adj_insert l1 l2 _ _ _ _ _ hadj (fun h => hnot ⟨h.1, h.2, hk⟩)
      · rw [hpath' _ hk]; exact hadj
    · exact ⟨hkW, by rw [hp']; exact ⟨l1, e.dst :: l2, rfl⟩⟩
    · exact ⟨hkW, by rw [hp']; exact ⟨l1 ++ [e.src], l2, by simp⟩⟩
  · intro w hw u v hadj
    by_cases hk : w = e.key
    · subst hk
      rw [hp'] at hadj
      have hxv : Nd.op id ≠ e.dst := by
        intro h; apply hfresh; rw [h12, h]; simp
      have hxu : Nd.op id ≠ e.src := by
        intro h; apply hfresh; rw [h12, h]; simp
      rcases adj_insert_inv l1 l2 _ _ _ _ _ hadj with ⟨rfl, rfl⟩ | ⟨rfl, rfl⟩ | hold
      · refine ⟨{ src := e.src, dst := .op id, key := e.key }, ?_, rfl, rfl, rfl⟩
        exact (mem_splice_edges g e _ _).2 ⟨Or.inr (Or.inl rfl), fun h => hxv h.2.1⟩
      · refine ⟨{ src := .op id, dst := e.dst, key := e.key }, ?_, rfl, rfl, rfl⟩
        exact (mem_splice_edges g e _ _).2 ⟨Or.inr (Or.inr rfl), fun h => hxu h.1⟩
      · rw [← h12] at hold
        obtain ⟨e0, he0, h1, h2, h3⟩ := r.edge_complete e.key hw u v hold
        refine ⟨e0, (mem_splice_edges g e _ _).2 ⟨Or.inl he0, ?_⟩, h1, h2, h3⟩
        rintro ⟨hs, hd, _⟩
        -- in the new path `e.src` is followed by the new node, not by `e.dst`
        rw [h1] at hs; rw [h2] at hd
        subst hs hd
        rw [← hp'] at hadj
        obtain ⟨r', hr'⟩ := adj_next _ hnd' l1 (Nd.op id :: e.dst :: l2) e.src e.dst hp' hadj
        injection hr' with h _
        exact hxv h
    · rw [hpath' w hk] at hadj
      obtain ⟨e0, he0, h1, h2, h3⟩ := r.edge_complete w hw u v hadj
      refine ⟨e0, (mem_splice_edges g e _ _).2 ⟨Or.inl he0, ?_⟩, h1, h2, h3⟩
      rintro ⟨_, _, hkk⟩
      exact hk (h3.symm.trans hkk)

def trip (e : Edge) : Nd × Nd × Wire := (e.src, e.dst, e.key)
/-- no two edges with the same endpoints and key -/
def TripNodup (g : MG) : Prop := (g.edges.map trip).Nodup

theorem tripNodup_splice {g : MG} {W : List Wire} {body : Wire → List Nd} (r : Rep0 g W body) (h : TripNodup g)
    (e : Edge) (he : e ∈ g.edges) (id : Nat) (hfresh : Nd.op id ∉ pathOf body e.key) : TripNodup (g.splice e (.op id)) := by
  unfold TripNodup MG.splice MG.removeEdge
  refine List.Nodup.sublist (List.Sublist.map _ List.filter_sublist) ?_
  show ((g.edges ++ [({ src := e.src, dst := Nd.op id, key := e.key } : Edge), ({ src := Nd.op id, dst := e.dst, key := e.key } : Edge)]).map trip).Nodup
  rw [List.map_append, List.nodup_append]
  have hdst : e.dst ∈ pathOf body e.key := adj_mem_right (r.edge_sound0 e he).2
  have hxd : Nd.op id ≠ e.dst := fun h' => hfresh (h' ▸ hdst)
  refine ⟨h, ?_, ?_⟩
  · simp only [List.map_cons, List.map_nil, trip, List.nodup_cons, List.mem_singleton, Prod.mk.injEq, List.not_mem_nil,
      not_false_eq_true, List.nodup_nil, and_true]
    intro hh
    exact hxd hh.2
  · intro a ha b hb hab
    obtain ⟨e0, he0, rfl⟩ := List.mem_map.1 ha
    simp only [List.map_cons, List.map_nil, List.mem_cons, List.not_mem_nil, or_false] at hb
    obtain ⟨hk0, hadj0⟩ := r.edge_sound0 e0 he0
    rcases hb with rfl | rfl
    · simp only [trip, Prod.mk.injEq] at hab
      apply hfresh
      rw [← hab.2.2, ← hab.2.1]
      exact adj_mem_right hadj0
    · simp only [trip, Prod.mk.injEq] at hab
      apply hfresh
      rw [← hab.2.2, ← hab.1]
      exact adj_mem_left hadj0

/-! ## `MG.add` -/

def upd (body : Wire → List Nd) (w : Wire) (l : List Nd) : Wire → List Nd := fun w' => if w' = w then l else body w'

theorem upd_same (body : Wire → List Nd) (w : Wire) (l : List Nd) : upd body w l w = l := by simp [upd]
theorem upd_other (body : Wire → List Nd) (w w' : Wire) (l : List Nd) (h : w' ≠ w) : upd body w l w' = body w' := by simp [upd, h]

def SameNodes (g g' : MG) : Prop :=
  g'.nodes = g.nodes ∧ g'.nodeId = g.nodeId ∧ g'.ne = g.ne ∧ g'.np = g.np ∧ g'.nc = g.nc

theorem SameNodes.refl (g : MG) : SameNodes g g := ⟨rfl, rfl, rfl, rfl, rfl⟩
theorem SameNodes.trans {a b c : MG} (h1 : SameNodes a b) (h2 : SameNodes b c) : SameNodes a c :=
  ⟨h2.1.trans h1.1, h2.2.1.trans h1.2.1, h2.2.2.1.trans h1.2.2.1, h2.2.2.2.1.trans h1.2.2.2.1, h2.2.2.2.2.trans h1.2.2.2.2⟩
theorem SameNodes.opOf {a b : MG} (h : SameNodes a b) : b.opOf = a.opOf := by
  funext n; unfold MG.opOf; rw [h.1]

/-- the splices of `_add`: the new node goes to the end of the path of each of its registers -/
theorem add_splices (id : Nat) (o : Op) (W : List Wire) :
    ∀ (ws : List Wire) (g : MG) (body : Wire → List Nd), Rep0 g W body → ws.Nodup →
      (∀ w ∈ ws, w ∈ W ∧ w ∈ opWires o ∧ Nd.op id ∉ pathOf body w) → g.opOf (.op id) = some (.gate o) → TripNodup g →
      ∃ body', Rep0 (ws.foldl (fun g w => match g.inEdge (.out w) w with
          | some e => g.splice e (.op id)
          | none => g) g) W body' ∧
        (∀ w ∈ ws, body' w = body w ++ [.op id]) ∧ (∀ w, w ∉ ws → body' w = body w) ∧
        SameNodes g (ws.foldl (fun g w => match g.inEdge (.out w) w with
          | some e => g.splice e (.op id)
          | none => g) g) ∧
        TripNodup (ws.foldl (fun g w => match g.inEdge (.out w) w with
          | some e => g.splice e (.op id)
          | none => g) g) := by
  intro ws
  induction ws with
  | nil => intro g body r _ _ _ ht; exact ⟨body, r, by simp, fun _ _ => rfl, SameNodes.refl g, ht⟩
  | cons w ws' ih =>
    intro g body r hnd hws hxo ht
    obtain ⟨hwW, hwo, hfresh⟩ := hws w (by simp)
    obtain ⟨l1, u, hl1⟩ := cons_eq_snoc (Nd.inp w) (body w)
    have hpath : pathOf body w = l1 ++ [u, Nd.out w] := by
      unfold pathOf
      rw [← List.cons_append, hl1]; simp
    obtain ⟨e, hfind, he, hes, hed, hek⟩ := r.inEdge_prev hwW (pre := l1) (rest := []) hpath
    rw [List.foldl_cons, hfind]
    simp only
    have h12 : pathOf body e.key = l1 ++ e.src :: e.dst :: [] := by rw [hek, hes, hed, hpath]
    have hp' : pathOf (upd body w (body w ++ [Nd.op id])) e.key = l1 ++ e.src :: Nd.op id :: e.dst :: [] := by
      rw [hek, hes, hed]
      unfold pathOf
      rw [upd_same, ← List.cons_append, ← List.cons_append, hl1]
      simp
    have r' := r.splice e he id o hxo (by rw [hek]; exact hwo) (by rw [hek]; exact hfresh) l1 [] h12
      (upd body w (body w ++ [Nd.op id])) hp' (fun w' hw' => upd_other body w w' _ (by rw [← hek]; exact hw'))
    have hnd' := List.nodup_cons.1 hnd
    have ht' : TripNodup (g.splice e (.op id)) := tripNodup_splice r ht e he id (by rw [hek]; exact hfresh)
    obtain ⟨body'', r'', hin, hout, hsn, ht''⟩ := ih (g.splice e (.op id)) _ r' hnd'.2
      (by
        intro w' hw'
        obtain ⟨a, b, c⟩ := hws w' (List.mem_cons_of_mem _ hw')
        refine ⟨a, b, ?_⟩
        have hne : w' ≠ w := fun h => hnd'.1 (h ▸ hw')
        unfold pathOf
        rw [upd_other body w w' _ hne]
        exact c)
      (by rw [opOf_splice]; exact hxo) ht'
    refine ⟨body'', r'', ?_, ?_, ?_, ht''⟩
    · intro w' hw'
      rcases List.mem_cons.1 hw' with rfl | h
      · rw [hout _ hnd'.1, upd_same]
      · have hne : w' ≠ w := fun h' => hnd'.1 (h' ▸ h)
        rw [hin w' h, upd_other body w w' _ hne]
    · intro w' hw'
      have h1 : w' ≠ w := fun h => hw' (by rw [h]; simp)
      have h2 : w' ∉ ws' := fun h => hw' (List.mem_cons_of_mem _ h)
      rw [hout w' h2, upd_other body w w' _ h1]
    · exact SameNodes.trans ⟨rfl, rfl, rfl, rfl, rfl⟩ hsn

/-- the register exists: `_add_reg_if_absent` does nothing -/
def RegOK (g : MG) (w : Wire) : Prop := w.i < g.nOf w.t ∧ g.hasNode (.inp w) = true

theorem addRegIfAbsent_ok (g : MG) (w : Wire) (h : RegOK g w) : g.addRegIfAbsent w = .ok g := by
  unfold MG.addRegIfAbsent
  have h1 : ¬ w.i > g.nOf w.t := by have := h.1; omega
  have h2 : ¬ w.i = g.nOf w.t := by have := h.1; omega
  simp only [h1, h2, if_false, h.2, if_true]

def gateAt (g : MG) (n : Nd) : Option Op :=
  match g.opOf n with
  | some (.gate o) => some o
  | _ => none

def wireOps (g : MG) (body : Wire → List Nd) (w : Wire) : List Op := (body w).filterMap (gateAt g)

theorem fresh_op {g : MG} (hid : ∀ n ∈ g.nodes.map (·.1), ∀ k, n = .op k → k ≤ g.nodeId) :
    Nd.op (g.nodeId + 1) ∉ g.nodes.map (·.1) :=
  fun h => absurd (hid _ h _ rfl) (by omega)

/-- **`CircuitDAG.add` on existing registers appends a fresh node to the path of each of its registers** -/
theorem Rep0.add {g : MG} {W : List Wire} {body : Wire → List Nd} (r : Rep0 g W body) (o : Op)
    (hW : ∀ w ∈ opWires o, w ∈ W) (hon : (opWires o).Nodup) (hreg : ∀ w ∈ W, RegOK g w)
    (hid : ∀ n ∈ g.nodes.map (·.1), ∀ k, n = .op k → k ≤ g.nodeId) (ht : TripNodup g) :
    ∃ g' body', g.add o = .ok g' ∧ Rep0 g' W body' ∧
      (∀ w, body' w = body w ++ (if w ∈ opWires o then [.op (g.nodeId + 1)] else [])) ∧
      g'.nodes = g.nodes ++ [(.op (g.nodeId + 1), .gate o)] ∧ g'.nodeId = g.nodeId + 1 ∧
      g'.ne = g.ne ∧ g'.np = g.np ∧ g'.nc = g.nc ∧ TripNodup g' := by
  have hc : (o.cRegs.map fun i => (⟨.c, i⟩ : Wire)).foldlM MG.addRegIfAbsent g = .ok g := by
    apply Loop.foldlM_const
    intro w hw
    apply addRegIfAbsent_ok g w (hreg w (hW w _))
    unfold opWires
    exact List.mem_append_right _ hw
  have hq : ((sortQ o.qRegs).map Wire.ofQ).foldlM MG.addRegIfAbsent g = .ok g := by
    apply Loop.foldlM_const
    intro w hw
    apply addRegIfAbsent_ok g w (hreg w (hW w _))
    obtain ⟨q, hq, rfl⟩ := List.mem_map.1 hw
    unfold opWires
    exact List.mem_append_left _ (List.mem_map_of_mem (mem_sortQ _ _ hq))
  have hfreshN := fresh_op hid
  have r1 : Rep0 (g.addNode (g.nodeId + 1) (.gate o)) W body := r.addNode _ o hon
  have hxo : (g.addNode (g.nodeId + 1) (.gate o)).opOf (.op (g.nodeId + 1)) = some (.gate o) := by
    exact opOf_snoc_new g _ _ _ rfl hfreshN
  obtain ⟨body', r', hin, hout, hsn, ht'⟩ := add_splices (g.nodeId + 1) o W (opWires o) _ body r1 hon
    (by
      intro w hw
      refine ⟨hW w hw, hw, ?_⟩
      intro hmem
      exact hfreshN (r.path_mem_nodes w (hW w hw) _ hmem))
    hxo ht
  refine ⟨_, body', ?_, r', ?_, hsn.1, hsn.2.1, hsn.2.2.1, hsn.2.2.2.1, hsn.2.2.2.2, ht'⟩
  · unfold MG.add
    rw [hc]
    simp only [bind, Except.bind, hq, pure, Except.pure]
    rfl
  · intro w
    by_cases hw : w ∈ opWires o
    · rw [if_pos hw, hin w hw]
    · rw [if_neg hw, hout w hw]; simp

end Graphiq.Compare
