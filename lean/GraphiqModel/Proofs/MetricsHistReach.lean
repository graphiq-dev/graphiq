/-
  MetricsHistReach.lean — exact characterisation of `find_incompatible_edges` (C12) relative to the recorded networkx
  specification of `ancestors` / `descendants`: which edges are reported, that the in-edge term of the code is redundant, and
  that the reported set is a (strict) over-approximation of the edges on which a joint insertion would close a cycle.  At the end:
  edges leaving input nodes / entering output nodes are always well-formed arguments of `insert_at`.
-/
import GraphiqModel.Proofs.Dag
namespace Graphiq
namespace Dag
open Relation

/-- **what `find_incompatible_edges(first)` returns**: `first` itself and exactly the edges of the graph whose source is a proper
    ancestor of `first`'s source, or is `first`'s target or one of its descendants.  (The in-edges of `first`'s source, which the
    code adds separately, are out-edges of ancestors: the term is redundant.) -/
theorem findIncompatibleEdgesWith_iff {c : Dag} {first : Edge} {anc desc : List NodeId} {L : List Edge}
    (hanc : AncSpec c first.src anc) (hdesc : DescSpec c first.dst desc)
    (hL : c.findIncompatibleEdgesWith anc desc first = .ok L) (e : Edge) :
    e ∈ L ↔ e = first ∨ (e ∈ c.edges ∧ (TransGen c.E e.src first.src ∨ ReflTransGen c.E first.dst e.src)) := by
  unfold findIncompatibleEdgesWith at hL
  split at hL
  · simp at hL
  · injection hL with hL
    subst hL
    rw [List.mem_eraseDups]
    simp only [List.mem_append, List.mem_cons, List.mem_flatMap, List.not_mem_nil, or_false]
    constructor
    · rintro ((rfl | hin | ⟨a, ha, hout⟩) | hout | ⟨a, ha, hout⟩)
      · exact Or.inl rfl
      · right
        have h1 : e ∈ c.edges ∧ e.dst = first.src := by simpa [inEdges] using hin
        exact ⟨h1.1, Or.inl (TransGen.single ⟨e, h1.1, rfl, h1.2⟩)⟩
      · right
        have h1 : e ∈ c.edges ∧ e.src = a := by simpa [outEdges] using hout
        exact ⟨h1.1, Or.inl (by rw [h1.2]; exact (hanc a).mp ha)⟩
      · right
        have h1 : e ∈ c.edges ∧ e.src = first.dst := by simpa [outEdges] using hout
        exact ⟨h1.1, Or.inr (by rw [h1.2])⟩
      · right
        have h1 : e ∈ c.edges ∧ e.src = a := by simpa [outEdges] using hout
        exact ⟨h1.1, Or.inr (by rw [h1.2]; exact ((hdesc a).mp ha).to_reflTransGen)⟩
    · rintro (rfl | ⟨he, ht | hr⟩)
      · exact Or.inl (Or.inl rfl)
      · exact Or.inl (Or.inr (Or.inr ⟨e.src, (hanc _).mpr ht, by simp [outEdges, he]⟩))
      · rcases reflTransGen_iff_eq_or_transGen.mp hr with heq | ht
        · exact Or.inr (Or.inl (by simp [outEdges, he, heq]))
        · exact Or.inr (Or.inr ⟨e.src, (hdesc _).mpr ht, by simp [outEdges, he]⟩)

/-- **every edge on which a joint insertion with `first` would close a cycle is reported** (completeness of the search with
    respect to the cycle condition): a path from `first`'s target to the edge's source, or from the edge's target to `first`'s
    source, puts the edge into the reported set -/
theorem findIncompatibleEdgesWith_complete {c : Dag} {first e : Edge} {anc desc : List NodeId} {L : List Edge}
    (hanc : AncSpec c first.src anc) (hdesc : DescSpec c first.dst desc)
    (hL : c.findIncompatibleEdgesWith anc desc first = .ok L) (he : e ∈ c.edges)
    (hcyc : ReflTransGen c.E first.dst e.src ∨ ReflTransGen c.E e.dst first.src) : e ∈ L := by
  rw [findIncompatibleEdgesWith_iff hanc hdesc hL]
  right
  refine ⟨he, ?_⟩
  rcases hcyc with h | h
  · exact Or.inr h
  · left
    rcases reflTransGen_iff_eq_or_transGen.mp h with heq | ht
    · exact TransGen.single ⟨e, he, rfl, heq.symm⟩
    · exact TransGen.head ⟨e, he, rfl, rfl⟩ ht


/-! ## insertions at the beginning / at the end of wires are always well formed

  The time-reversed solver inserts its gates on the first edge of each wire (`out_edges(<reg>_in)`), the evolutionary moves
  partly on the last; for such edge lists the path-freeness clause of `InsertOK` holds for free: nothing reaches an input node,
  nothing leaves an output node. -/

theorem insertOK_of_input_edges {c : Dag} {P : Paths} (g : Good c P) {op : Op} {es : List Edge}
    (hmem : ∀ e ∈ es, e ∈ c.edges) (hkeys : es.map (·.key) = op.qregs) (hsrc : ∀ e ∈ es, ∃ r, e.src = NodeId.inp r) :
    InsertOK c op es := by
  refine ⟨hmem, hkeys, ?_⟩
  intro e1 he1 e2 he2 _ hr
  obtain ⟨r, hr2⟩ := hsrc e2 he2
  rw [hr2] at hr
  have := reflTransGen_to_source (fun x => g.inv.inp_source r x) hr
  have hE : c.E e1.src (NodeId.inp r) := ⟨e1, hmem e1 he1, rfl, this⟩
  exact g.inv.inp_source r _ hE

theorem insertOK_of_output_edges {c : Dag} {P : Paths} (g : Good c P) {op : Op} {es : List Edge}
    (hmem : ∀ e ∈ es, e ∈ c.edges) (hkeys : es.map (·.key) = op.qregs) (hdst : ∀ e ∈ es, ∃ r, e.dst = NodeId.out r) :
    InsertOK c op es := by
  refine ⟨hmem, hkeys, ?_⟩
  intro e1 he1 e2 he2 _ hr
  obtain ⟨r, hr1⟩ := hdst e1 he1
  rw [hr1] at hr
  have := reflTransGen_of_sink (fun x => g.inv.out_sink r x) hr
  have hE : c.E (NodeId.out r) e2.dst := ⟨e2, hmem e2 he2, this.symm, rfl⟩
  exact g.inv.out_sink r _ hE

end Dag
end Graphiq
