/-
  Proofs/StateToGraphNegativity.lean — the two two-qubit states that `_density_to_graph_pure` can meet on a graph state
  (Proofs/StateToGraphDensity.lean: the pair state is the graph state of the induced pair), as exact 4×4 rational matrices:
  `|+⟩|+⟩` (no edge) and `CZ|+⟩|+⟩` (edge).  Their partial transposes (`bipartite_partial_transpose(rho, 2, 2, 0)`, index = 2·a + b) have
  the Jordan decompositions `P − N` (`P`, `N` positive semidefinite, `P N = 0`) with `tr N = 0` resp. `tr N = 1/2`; `tr N` is the
  negativity `Σ (|λ| − λ)/2` the code computes from the eigenvalues (uniqueness of the Jordan decomposition: textbook, not proved here).
  So the threshold 0.1 of `density_to_graph` separates the two cases.  The identities between concrete 4×4 rational matrices are
  evaluated by the kernel.
-/
import Mathlib.LinearAlgebra.Matrix.Notation
import Mathlib.LinearAlgebra.Matrix.Trace
import Mathlib.Data.Rat.Defs
import Mathlib.Tactic.FinCases
import Mathlib.Tactic.NormNum
import Mathlib.Tactic.Ring
namespace Graphiq
namespace Neg
open Matrix

abbrev M4 := Matrix (Fin 4) (Fin 4) ℚ

/-- `bipartite_partial_transpose(rho, 2, 2, 0)`: `rho.reshape(2,2,2,2).transpose(2,1,0,3)` — rows `(a,b)`, columns `(c,d)`, index `2a+b`;
    the result at `((a,b),(c,d))` is `rho` at `((c,b),(a,d))` -/
def ptA (M : M4) : M4 := fun r c =>
  M ⟨2 * (c.val / 2) + r.val % 2, by omega⟩ ⟨2 * (r.val / 2) + c.val % 2, by omega⟩

/-- `|+⟩|+⟩⟨+|⟨+|` -/
def rhoPlus : M4 := !![1/4, 1/4, 1/4, 1/4; 1/4, 1/4, 1/4, 1/4; 1/4, 1/4, 1/4, 1/4; 1/4, 1/4, 1/4, 1/4]

/-- `CZ|+⟩|+⟩`: the graph state of one edge, `¼ v vᵀ` with `v = (1, 1, 1, −1)` -/
def rhoEdge : M4 := !![1/4, 1/4, 1/4, -1/4; 1/4, 1/4, 1/4, -1/4; 1/4, 1/4, 1/4, -1/4; -1/4, -1/4, -1/4, 1/4]

/-- the two-qubit Pauli matrices that occur (all real): `X⊗I`, `I⊗X`, `X⊗Z`, `Z⊗X` -/
def XI : M4 := !![0, 0, 1, 0; 0, 0, 0, 1; 1, 0, 0, 0; 0, 1, 0, 0]
def IX : M4 := !![0, 1, 0, 0; 1, 0, 0, 0; 0, 0, 0, 1; 0, 0, 1, 0]
def XZ : M4 := !![0, 0, 1, 0; 0, 0, 0, -1; 1, 0, 0, 0; 0, -1, 0, 0]
def ZX : M4 := !![0, 1, 0, 0; 1, 0, 0, 0; 0, 0, 0, -1; 0, 0, -1, 0]

/-- positive semidefinite, by certificate: a non-negative multiple of a Gram matrix -/
def IsPSD (P : M4) : Prop := ∃ (c : ℚ) (B : M4), 0 ≤ c ∧ P = c • (B * Bᵀ)

/-- Jordan decomposition of a symmetric matrix: `M = P − N` with `P`, `N` positive semidefinite and orthogonal -/
structure Jordan (M P N : M4) : Prop where
  diff : M = P - N
  posP : IsPSD P
  posN : IsPSD N
  orth : P * N = 0

/-- the stabilizer state of the group `⟨X⊗I, I⊗X⟩` is `|++⟩⟨++|` -/
theorem rhoPlus_group_sum : rhoPlus = (1/4 : ℚ) • (1 + XI + IX + XI * IX) := by
  decide +kernel

/-- the stabilizer state of the group `⟨X⊗Z, Z⊗X⟩` (the generators of the one-edge graph state) is `rhoEdge` -/
theorem rhoEdge_group_sum : rhoEdge = (1/4 : ℚ) • (1 + XZ + ZX + XZ * ZX) := by
  decide +kernel

theorem ptA_rhoPlus : ptA rhoPlus = rhoPlus := by
  decide +kernel

/-- the partial transpose of the one-edge graph state is `¼ H`, `H` the 4×4 Hadamard matrix -/
def quarterH : M4 := !![1/4, 1/4, 1/4, 1/4; 1/4, 1/4, -1/4, -1/4; 1/4, -1/4, 1/4, -1/4; 1/4, -1/4, -1/4, 1/4]

theorem ptA_rhoEdge : ptA rhoEdge = quarterH := by
  decide +kernel

/-- negative part of `¼ H`: `½ w wᵀ` with the unit vector `w = ½(−1, 1, 1, 1)` -/
def negPart : M4 := !![1/8, -1/8, -1/8, -1/8; -1/8, 1/8, 1/8, 1/8; -1/8, 1/8, 1/8, 1/8; -1/8, 1/8, 1/8, 1/8]
/-- positive part: `½ (1 − w wᵀ)` -/
def posPart : M4 := !![3/8, 1/8, 1/8, 1/8; 1/8, 3/8, -1/8, -1/8; 1/8, -1/8, 3/8, -1/8; 1/8, -1/8, -1/8, 3/8]

theorem negPart_psd : IsPSD negPart :=
  ⟨1/2, !![-1/2, 0, 0, 0; 1/2, 0, 0, 0; 1/2, 0, 0, 0; 1/2, 0, 0, 0], by decide +kernel, by decide +kernel⟩

-- `posPart = ½ Q`, `Q = 1 − w wᵀ` a symmetric projector, so `posPart = ½ Q Qᵀ`
theorem posPart_psd : IsPSD posPart :=
  ⟨1/2, !![3/4, 1/4, 1/4, 1/4; 1/4, 3/4, -1/4, -1/4; 1/4, -1/4, 3/4, -1/4; 1/4, -1/4, -1/4, 3/4], by decide +kernel, by decide +kernel⟩

/-- no edge: the partial transpose of `|++⟩⟨++|` is positive semidefinite — negativity `0` -/
theorem negativity_plus : Jordan (ptA rhoPlus) rhoPlus 0 ∧ Matrix.trace (0 : M4) = 0 := by
  refine ⟨{ diff := by rw [ptA_rhoPlus, sub_zero], posP := ?_, posN := ⟨0, 0, le_refl _, by simp⟩, orth := mul_zero _ },
    Matrix.trace_zero ..⟩
  exact ⟨1, !![1/2, 0, 0, 0; 1/2, 0, 0, 0; 1/2, 0, 0, 0; 1/2, 0, 0, 0], zero_le_one, by decide +kernel⟩

/-- edge: the partial transpose of the one-edge graph state has the negative part `½ w wᵀ` — negativity `1/2` -/
theorem negativity_edge : Jordan (ptA rhoEdge) posPart negPart ∧ Matrix.trace negPart = 1/2 :=
  ⟨{ diff := by decide +kernel, posP := posPart_psd, posN := negPart_psd, orth := by decide +kernel }, by decide +kernel⟩

/-- the threshold of `density_to_graph` (`threshold = 0.1`) lies strictly between the two possible negativities -/
theorem threshold_separates : (0 : ℚ) ≤ 1/10 ∧ (1/10 : ℚ) < 1/2 := by norm_num

theorem IsPSD.quadratic_nonneg {P : M4} (h : IsPSD P) (x : Fin 4 → ℚ) : 0 ≤ x ⬝ᵥ (P *ᵥ x) := by
  obtain ⟨c, B, hc, rfl⟩ := h
  have : x ⬝ᵥ ((c • (B * Bᵀ)) *ᵥ x) = c * ((Bᵀ *ᵥ x) ⬝ᵥ (Bᵀ *ᵥ x)) := by
    rw [Matrix.smul_mulVec, dotProduct_smul, smul_eq_mul, ← Matrix.mulVec_mulVec, Matrix.dotProduct_mulVec,
      ← Matrix.mulVec_transpose]
  rw [this]
  apply mul_nonneg hc
  unfold dotProduct
  exact Finset.sum_nonneg (fun i _ => mul_self_nonneg _)

end Neg
end Graphiq
