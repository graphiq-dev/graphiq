/-
  MetricsHist.lean — every circuit satisfying DagInv has a schedule (C18).

  `schedOf c P pos` = the operation nodes of the circuit sorted by a position function, each with its operation as
  wired (`wiredOp`).  If `pos` is a linear extension of the edge relation that is injective on the nodes — what
  `nx.topological_sort` / `sequence()` returns; one exists on every circuit satisfying DagInv (`topo_exists`) — this is
  a schedule (`Sched`): every wire is `in, (the scheduled nodes on the register, in schedule order), out`.
  Hence the static depth theorem and the op-list specifications apply to every circuit satisfying DagInv, with the
  operation list "the operations in any topological order".
-/
import GraphiqModel.Proofs.PrepDepthStatic
import GraphiqModel.Proofs.Topo
namespace Graphiq
namespace Metrics
open Dag Relation

theorem pairwise_of_split {α : Type} {R : α → α → Prop} :
    ∀ {l : List α}, (∀ l1 l2 l3 x y, l = l1 ++ x :: (l2 ++ y :: l3) → R x y) → l.Pairwise R
  | [], _ => List.Pairwise.nil
  | a :: t, h => by
    rw [List.pairwise_cons]
    constructor
    · intro y hy
      obtain ⟨l2, l3, ht⟩ := List.append_of_mem hy
      exact h [] l2 l3 a y (by rw [ht]; rfl)
    · exact pairwise_of_split (fun l1 l2 l3 x y ht => h (a :: l1) l2 l3 x y (by rw [ht]; rfl))

theorem eq_of_sorted_of_mem_iff {l1 l2 : List NodeId} {pos : NodeId → Nat} (hinj : ∀ a ∈ l1, ∀ b ∈ l1, pos a = pos b → a = b)
    (h1 : l1.Pairwise (fun a b => pos a ≤ pos b)) (h2 : l2.Pairwise (fun a b => pos a ≤ pos b)) (n1 : l1.Nodup) (n2 : l2.Nodup)
    (hmem : ∀ x, x ∈ l1 ↔ x ∈ l2) : l1 = l2 := by
  have hperm : l1.Perm l2 := (List.perm_ext_iff_of_nodup n1 n2).mpr hmem
  have h1' : l1.Pairwise (fun a b => decide (pos a ≤ pos b) = true) := h1.imp (by intro a b h; simpa using h)
  have h2' : l2.Pairwise (fun a b => decide (pos a ≤ pos b) = true) := h2.imp (by intro a b h; simpa using h)
  refine List.Perm.eq_of_pairwise (le := fun a b => decide (pos a ≤ pos b)) ?_ h1' h2' hperm
  intro a b ha hb hab hba
  have hab' : pos a ≤ pos b := by simpa using hab
  have hba' : pos b ≤ pos a := by simpa using hba
  exact hinj a ha b ((hmem b).mpr hb) (by omega)

/-! ## insertion sort by position (structural recursion: evaluates in the kernel) -/

def insertBy (pos : NodeId → Nat) (a : NodeId × Op) : List (NodeId × Op) → List (NodeId × Op)
  | [] => [a]
  | b :: t => if pos a.1 ≤ pos b.1 then a :: b :: t else b :: insertBy pos a t

def isort (pos : NodeId → Nat) : List (NodeId × Op) → List (NodeId × Op)
  | [] => []
  | a :: t => insertBy pos a (isort pos t)

theorem insertBy_perm (pos : NodeId → Nat) (a : NodeId × Op) (l : List (NodeId × Op)) : (insertBy pos a l).Perm (a :: l) := by
  induction l with
  | nil => exact List.Perm.refl _
  | cons b t ih =>
    unfold insertBy
    by_cases h : pos a.1 ≤ pos b.1
    · rw [if_pos h]
    · rw [if_neg h]
      exact (List.Perm.cons b ih).trans (List.Perm.swap a b t)

theorem isort_perm (pos : NodeId → Nat) (l : List (NodeId × Op)) : (isort pos l).Perm l := by
  induction l with
  | nil => exact List.Perm.refl _
  | cons a t ih => exact (insertBy_perm pos a _).trans (List.Perm.cons a ih)

theorem insertBy_pairwise (pos : NodeId → Nat) (a : NodeId × Op) {l : List (NodeId × Op)}
    (h : l.Pairwise (fun x y => pos x.1 ≤ pos y.1)) : (insertBy pos a l).Pairwise (fun x y => pos x.1 ≤ pos y.1) := by
  induction l with
  | nil => simp [insertBy]
  | cons b t ih =>
    rw [List.pairwise_cons] at h
    unfold insertBy
    by_cases hab : pos a.1 ≤ pos b.1
    · rw [if_pos hab, List.pairwise_cons]
      refine ⟨?_, List.pairwise_cons.mpr h⟩
      intro y hy
      rcases List.mem_cons.mp hy with rfl | hy
      · exact hab
      · have := h.1 y hy; omega
    · rw [if_neg hab, List.pairwise_cons]
      refine ⟨?_, ih h.2⟩
      intro y hy
      rcases List.mem_cons.mp ((insertBy_perm pos a t).subset hy) with rfl | hy
      · omega
      · exact h.1 y hy

theorem isort_pairwise (pos : NodeId → Nat) (l : List (NodeId × Op)) : (isort pos l).Pairwise (fun x y => pos x.1 ≤ pos y.1) := by
  induction l with
  | nil => exact List.Pairwise.nil
  | cons a t ih => exact insertBy_pairwise pos a ih

def schedOf (c : Dag) (P : Paths) (pos : NodeId → Nat) : List (NodeId × Op) :=
  (isort pos (c.nodes.filter isOpNode)).map (fun p => (p.1, wiredOp P p.1 p.2))

theorem isOpNode_iff {p : NodeId × Op} : isOpNode p = true ↔ ∃ i, p.1 = NodeId.op i := by
  obtain ⟨n, o⟩ := p
  cases n <;> simp [isOpNode]

theorem mem_opNodes {c : Dag} {q : NodeId × Op} : q ∈ c.nodes.filter isOpNode ↔ (∃ i, q.1 = NodeId.op i) ∧ q ∈ c.nodes := by
  rw [List.mem_filter, isOpNode_iff, and_comm]

theorem mem_schedOf {c : Dag} {P : Paths} {pos : NodeId → Nat} (p : NodeId × Op) :
    p ∈ schedOf c P pos ↔ (∃ i, p.1 = NodeId.op i) ∧ ∃ o, (p.1, o) ∈ c.nodes ∧ p.2 = wiredOp P p.1 o := by
  unfold schedOf
  rw [List.mem_map]
  constructor
  · rintro ⟨q, hq, rfl⟩
    have hq' := (isort_perm _ _).subset hq
    obtain ⟨hi, hm⟩ := mem_opNodes.mp hq'
    exact ⟨hi, q.2, hm, rfl⟩
  · rintro ⟨hi, o, hm, ho⟩
    refine ⟨(p.1, o), (isort_perm _ _).symm.subset (mem_opNodes.mpr ⟨hi, hm⟩), ?_⟩
    exact Prod.ext rfl ho.symm

theorem schedOf_fst (c : Dag) (P : Paths) (pos : NodeId → Nat) :
    (schedOf c P pos).map (·.1) = (isort pos (c.nodes.filter isOpNode)).map (·.1) := by
  unfold schedOf
  rw [List.map_map]
  rfl

theorem schedOf_sorted (c : Dag) (P : Paths) (pos : NodeId → Nat) :
    ((schedOf c P pos).map (·.1)).Pairwise (fun a b => pos a ≤ pos b) := by
  rw [schedOf_fst, List.pairwise_map]
  exact isort_pairwise pos _

theorem schedOf_nodup {c : Dag} {P : Paths} (h : Inv c P) (pos : NodeId → Nat) : ((schedOf c P pos).map (·.1)).Nodup := by
  rw [schedOf_fst]
  have hp : ((isort pos (c.nodes.filter isOpNode)).map (·.1)).Perm
      ((c.nodes.filter isOpNode).map (·.1)) := (isort_perm _ _).map _
  rw [hp.nodup_iff]
  exact List.Nodup.sublist (List.Sublist.map _ List.filter_sublist) h.ids_nodup

/-- **every topological order is a schedule** -/
theorem schedOf_sched {c : Dag} {P : Paths} (g : Good c P) {pos : NodeId → Nat} (hlin : LinearExt c pos)
    (hinj : ∀ a ∈ c.nodeIds, ∀ b ∈ c.nodeIds, pos a = pos b → a = b) : Sched c P (schedOf c P pos) := by
  refine Sched.of_good g ?_ mem_schedOf (schedOf_nodup g.inv pos)
  intro r hl
  obtain ⟨mid, hP, hmid⟩ := g.inv.shape r hl
  rw [hP]
  congr 2
  have hndP := g.inv.nodup r
  rw [hP] at hndP
  have hnd_mid : mid.Nodup := (List.nodup_append.mp (List.nodup_cons.mp hndP).2).1
  have hmid_nodes : ∀ x ∈ mid, x ∈ c.nodeIds := fun x hx => g.inv.mem_nodes r x (by rw [hP]; simp [hx])
  apply eq_of_sorted_of_mem_iff (pos := pos) (fun a ha b hb => hinj a (hmid_nodes a ha) b (hmid_nodes b hb))
  · apply pairwise_of_split
    intro l1 l2 l3 x y hsplit
    have := pos_lt_of_before g.inv hlin r (NodeId.inp r :: l1) l2 (l3 ++ [NodeId.out r]) x y (by rw [hP, hsplit]; simp)
    omega
  · unfold schedWire
    have hs := schedOf_sorted c P pos
    rw [List.pairwise_map] at hs ⊢
    exact hs.sublist List.filter_sublist
  · exact hnd_mid
  · unfold schedWire
    exact List.Nodup.sublist (List.Sublist.map _ List.filter_sublist) (schedOf_nodup g.inv pos)
  · intro x
    rw [mem_schedWire]
    constructor
    · intro hx
      obtain ⟨i, rfl⟩ := hmid x hx
      have hxP : NodeId.op i ∈ P r := by rw [hP]; simp [hx]
      obtain ⟨o, ho⟩ := mem_nodeIds.mp (g.inv.mem_nodes r _ hxP)
      exact ⟨(.op i, wiredOp P (.op i) o), (mem_schedOf _).mpr ⟨⟨i, rfl⟩, o, ho, rfl⟩,
        (mem_opRegs_wiredOp g ho r).mpr hxP, rfl⟩
    · rintro ⟨p, hp, hr, rfl⟩
      obtain ⟨⟨i, hi⟩, o, hm, ho⟩ := (mem_schedOf p).mp hp
      rw [hi] at hm ho ⊢
      rw [ho, mem_opRegs_wiredOp g hm, hP] at hr
      rcases List.mem_cons.mp hr with e | hr
      · cases e
      · rcases List.mem_append.mp hr with hr | hr
        · exact hr
        · simp at hr

theorem sched_exists {c : Dag} {P : Paths} (g : Good c P) : ∃ L, Sched c P L := by
  obtain ⟨pos, hlin, hinj⟩ := topo_exists ⟨P, g⟩
  exact ⟨_, schedOf_sched g hlin hinj⟩

end Metrics
end Graphiq
