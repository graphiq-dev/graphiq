/-
  Proofs/HeightEntropy.lean — the height function as an entanglement entropy (Mathlib linear algebra over GF(2)).

  The stabilizer group modulo phases is the GF(2)-subspace `gspaceOf n rows` of `(ZMod 2 × ZMod 2)^n` spanned by the
  symplectic vectors of the generators.  For an echelon tableau the generators whose leading site is right of `k` form a
  basis of the subspace of group elements supported on the sites `k+1..n-1`; hence the number of such generators is the
  dimension (`Module.finrank`) of that subspace, a quantity that does not depend on the generating set.
  Linear independence of the symplectic vectors is the bit-level predicate `STab.Indep` (`linearIndependent_iff_bits`), and a
  run of row operations keeps the subspace (`Ops.gspace_eq`).
-/
import Mathlib.LinearAlgebra.FiniteDimensional.Basic
import Mathlib.LinearAlgebra.FiniteDimensional.Lemmas
import Mathlib.Algebra.Field.ZMod
import Mathlib.LinearAlgebra.Dimension.OrzechProperty
import GraphiqModel.Proofs.EchelonSpan
import GraphiqModel.Proofs.B2Z
namespace Graphiq
open Module Tab

/-- symplectic vectors of `n`-qubit Paulis modulo phase -/
abbrev PVec (n : Nat) := Fin n → ZMod 2 × ZMod 2

theorem zmod2_cases (c : ZMod 2) : c = 0 ∨ c = 1 := by revert c; decide
theorem b2z_decide_eq_one (c : ZMod 2) : b2z (decide (c = 1)) = c := by revert c; decide

theorem card_filter_range (n : ℕ) (p : ℕ → Bool) :
    ((Finset.range n).filter (fun i => p i = true)).card = ((List.range n).filter p).length := by
  induction n with
  | zero => simp
  | succ m ih =>
    rw [Finset.range_add_one, Finset.filter_insert, List.range_succ, List.filter_append, List.length_append, ← ih]
    cases h : p m
    · simp [h]
    · simp [h]

/-- the symplectic vector (bits only, no phase) of a row on `n` qubits -/
def PRow.vec (n : Nat) (p : PRow) : PVec n := fun j => (b2z (p.x j), b2z (p.z j))

theorem PRow.vec_congr (n : Nat) (a b : PRow) (h : PRow.SameBits n a b) : a.vec n = b.vec n := by
  funext j
  simp only [PRow.vec, (h j j.isLt).1, (h j j.isLt).2]

theorem sameBits_of_vec_eq (n : Nat) (a b : PRow) (h : a.vec n = b.vec n) : PRow.SameBits n a b := by
  intro j hj
  have := congrFun h ⟨j, hj⟩
  simp only [PRow.vec, Prod.mk.injEq] at this
  exact ⟨b2z_inj _ _ this.1, b2z_inj _ _ this.2⟩

theorem PRow.vec_one (n : Nat) : PRow.one.vec n = 0 := by
  funext j; simp [PRow.vec, PRow.one, b2z]

theorem PRow.vec_mul (n m : Nat) (a b : PRow) : (PRow.mul m a b).vec n = a.vec n + b.vec n := by
  funext j
  simp only [PRow.vec, PRow.mul_x, PRow.mul_z, b2z_xor, Pi.add_apply, Prod.mk_add_mk]

theorem PRow.vec_stabMul (n m : Nat) (a b : PRow) : (STab.stabMul m a b).vec n = a.vec n + b.vec n := by
  funext j
  simp only [PRow.vec, STab.stabMul_x, STab.stabMul_z, b2z_xor, Pi.add_apply, Prod.mk_add_mk]

/-- the group generated by `rows 0 … rows (n-1)`, modulo phases, as a GF(2)-subspace -/
noncomputable def gspaceOf (n : Nat) (rows : Nat → PRow) : Submodule (ZMod 2) (PVec n) :=
  Submodule.span (ZMod 2) (Set.range fun i : Fin n => (rows i).vec n)

/-- vectors that are trivial on the sites `0..k` (supported on `k+1..n-1`) -/
def rightOf (n k : Nat) : Submodule (ZMod 2) (PVec n) where
  carrier := {v | ∀ j : Fin n, j.val ≤ k → v j = 0}
  add_mem' := by
    intro a b ha hb j hj
    show a j + b j = 0
    rw [ha j hj, hb j hj, add_zero]
  zero_mem' := by intro j _; rfl
  smul_mem' := by
    intro c a ha j hj
    show c • a j = 0
    rw [ha j hj, smul_zero]

theorem mem_rightOf (n k : Nat) (v : PVec n) : v ∈ rightOf n k ↔ ∀ j : Fin n, j.val ≤ k → v j = 0 := Iff.rfl

theorem gen_mem_gspaceOf (n : Nat) (rows : Nat → PRow) (i : Nat) (hi : i < n) : (rows i).vec n ∈ gspaceOf n rows :=
  Submodule.subset_span ⟨⟨i, hi⟩, rfl⟩

theorem inSpan_vec_mem (n : Nat) (rows : Nat → PRow) (a : PRow) (h : InSpan n n rows a) : a.vec n ∈ gspaceOf n rows := by
  induction h with
  | one => rw [PRow.vec_one]; exact Submodule.zero_mem _
  | gen i hi => exact gen_mem_gspaceOf n rows i hi
  | mul a b _ _ iha ihb => rw [PRow.vec_mul]; exact Submodule.add_mem _ iha ihb
  | eqv a b _ hab iha => rw [← PRow.vec_congr n a b hab.1]; exact iha

theorem gspaceOf_eq_of_inSpan (n : Nat) (rows rows' : Nat → PRow)
    (h : ∀ p, InSpan n n rows p ↔ InSpan n n rows' p) : gspaceOf n rows = gspaceOf n rows' := by
  apply le_antisymm
  · apply Submodule.span_le.2
    rintro _ ⟨i, rfl⟩
    exact inSpan_vec_mem n rows' _ ((h _).1 (InSpan.gen i.val i.isLt))
  · apply Submodule.span_le.2
    rintro _ ⟨i, rfl⟩
    exact inSpan_vec_mem n rows _ ((h _).2 (InSpan.gen i.val i.isLt))

/-- coefficient function of a GF(2) linear combination as a selector of generators -/
def selOf {n : Nat} (c : Fin n → ZMod 2) (i : Nat) : Bool := if h : i < n then decide (c ⟨i, h⟩ = 1) else false

theorem selOf_val {n : Nat} (c : Fin n → ZMod 2) (i : Fin n) : selOf c i.val = decide (c i = 1) := by
  unfold selOf; rw [dif_pos i.isLt]

/-- a GF(2) linear combination of the generator vectors, site by site, is the parity fold of the model -/
theorem lincomb_apply (n : Nat) (rows : Nat → PRow) (c : Fin n → ZMod 2) (j : Fin n) :
    (∑ i : Fin n, c i • (rows i).vec n) j
      = (b2z (parityTo n fun i => selOf c i && (rows i).x j), b2z (parityTo n fun i => selOf c i && (rows i).z j)) := by
  rw [Finset.sum_apply]
  apply Prod.ext
  · rw [Prod.fst_sum]
    simp only
    rw [b2z_parity]
    apply Finset.sum_congr rfl
    intro i _
    rw [selOf_val, b2z_and, b2z_decide_eq_one]
    rfl
  · rw [Prod.snd_sum]
    simp only
    rw [b2z_parity]
    apply Finset.sum_congr rfl
    intro i _
    rw [selOf_val, b2z_and, b2z_decide_eq_one]
    rfl

namespace STab

/-- the stabilizer group of a tableau modulo phases, as a GF(2)-subspace -/
noncomputable def gspace (t : STab) : Submodule (ZMod 2) (PVec t.n) := gspaceOf t.n t.row

theorem lincomb_apply' (t : STab) (c : Fin t.n → ZMod 2) (j : Fin t.n) :
    (∑ i : Fin t.n, c i • (t.row i).vec t.n) j = (b2z (t.comboX (selOf c) j), b2z (t.comboZ (selOf c) j)) :=
  lincomb_apply t.n t.row c j

theorem selOf_b2z {n : Nat} (S : Nat → Bool) (i : Nat) (hi : i < n) :
    selOf (fun k : Fin n => b2z (S k.val)) i = S i := by
  unfold selOf
  rw [dif_pos hi]
  show decide (b2z (S i) = 1) = S i
  cases S i
  · exact decide_eq_false (by decide)
  · exact decide_eq_true (by decide)

theorem linearIndependent_iff_bits (t : STab) :
    LinearIndependent (ZMod 2) (fun i : Fin t.n => (t.row i).vec t.n) ↔ t.Indep := by
  constructor
  · intro h S hS i hi
    have hS : ∀ j, j < t.n → parityTo t.n (fun i => S i && (t.row i).x j) = false ∧
        parityTo t.n (fun i => S i && (t.row i).z j) = false := hS
    have hsum : ∑ k : Fin t.n, (fun k : Fin t.n => b2z (S k.val)) k • (t.row k).vec t.n = 0 := by
      funext j
      rw [lincomb_apply t.n t.row _ j]
      have e1 : parityTo t.n (fun i => selOf (fun k : Fin t.n => b2z (S k.val)) i && (t.row i).x j)
          = parityTo t.n (fun i => S i && (t.row i).x j) :=
        parityTo_congr _ _ _ (fun i hi => by rw [selOf_b2z S i hi])
      have e2 : parityTo t.n (fun i => selOf (fun k : Fin t.n => b2z (S k.val)) i && (t.row i).z j)
          = parityTo t.n (fun i => S i && (t.row i).z j) :=
        parityTo_congr _ _ _ (fun i hi => by rw [selOf_b2z S i hi])
      rw [e1, e2, (hS j j.isLt).1, (hS j j.isLt).2]
      rfl
    have := Fintype.linearIndependent_iff.1 h _ hsum ⟨i, hi⟩
    exact (b2z_eq_zero (S i)).1 this
  · intro h
    apply Fintype.linearIndependent_iff.2
    intro c hc i
    have hz := h (selOf c) (by
      intro j hj
      have := congrFun hc ⟨j, hj⟩
      rw [lincomb_apply t.n t.row c ⟨j, hj⟩] at this
      have h1 := congrArg Prod.fst this
      have h2 := congrArg Prod.snd this
      exact ⟨(b2z_eq_zero _).1 h1, (b2z_eq_zero _).1 h2⟩) i.val i.isLt
    rw [selOf_val] at hz
    rcases zmod2_cases (c i) with h0 | h1
    · exact h0
    · rw [h1] at hz; simp at hz

theorem linearIndependent_iff_finrank (t : STab) :
    LinearIndependent (ZMod 2) (fun i : Fin t.n => (t.row i).vec t.n) ↔ finrank (ZMod 2) ↥t.gspace = t.n := by
  rw [linearIndependent_iff_card_eq_finrank_span, Fintype.card_fin]
  exact eq_comm

theorem echelon_linearIndependent (t : STab) (piv : Nat → Nat) (he : Echelon t piv) :
    LinearIndependent (ZMod 2) (fun i : Fin t.n => (t.row i).vec t.n) :=
  (linearIndependent_iff_bits t).2 (echelon_indep t piv he)

theorem echelon_finrank_gspace (t : STab) (piv : Nat → Nat) (he : Echelon t piv) : finrank (ZMod 2) t.gspace = t.n := by
  have := finrank_span_eq_card (echelon_linearIndependent t piv he)
  rw [Fintype.card_fin] at this
  exact this

/-- **the generators of an echelon tableau with leading site right of `k` are a basis of the subgroup supported right of
    `k`**; in particular their number is its dimension -/
theorem echelon_finrank_right (t : STab) (piv : Nat → Nat) (he : Echelon t piv) (k : Nat) :
    finrank (ZMod 2) ↥(t.gspace ⊓ rightOf t.n k) = ((List.range t.n).filter fun i => decide (k < piv i)).length := by
  classical
  let s : Finset Nat := (Finset.range t.n).filter fun i => decide (k < piv i) = true
  have hs : ∀ i, i ∈ s ↔ i < t.n ∧ k < piv i := by
    intro i; simp [s]
  let f : ↥s → Fin t.n := fun i => ⟨i.val, ((hs i.val).1 i.property).1⟩
  have hf : Function.Injective f := by
    intro a b hab
    apply Subtype.ext
    exact congrArg Fin.val hab
  have li := (echelon_linearIndependent t piv he).comp f hf
  have hspan : Submodule.span (ZMod 2) (Set.range ((fun i : Fin t.n => (t.row i).vec t.n) ∘ f))
      = t.gspace ⊓ rightOf t.n k := by
    apply le_antisymm
    · apply Submodule.span_le.2
      rintro _ ⟨i, rfl⟩
      refine ⟨gen_mem_gspaceOf t.n t.row i.val ((hs i.val).1 i.property).1, ?_⟩
      intro j hj
      have hk := ((hs i.val).1 i.property).2
      have hz := (he.lead i.val ((hs i.val).1 i.property).1).2.1 j.val (by omega)
      have hb := PRow.pt_zero_bits _ _ hz
      show (b2z ((t.row i.val).x j), b2z ((t.row i.val).z j)) = 0
      rw [hb.1, hb.2]; rfl
    · rintro x ⟨hx1, hx2⟩
      obtain ⟨c, rfl⟩ := (Submodule.mem_span_range_iff_exists_fun (ZMod 2)).1 hx1
      have hz : ∀ j, j ≤ k → j < t.n → t.comboX (selOf c) j = false ∧ t.comboZ (selOf c) j = false := by
        intro j hjk hj
        have h0 := hx2 ⟨j, hj⟩ hjk
        have := lincomb_apply' t c ⟨j, hj⟩
        rw [h0] at this
        have h1 : b2z (t.comboX (selOf c) j) = 0 := (congrArg Prod.fst this).symm
        have h2 : b2z (t.comboZ (selOf c) j) = 0 := (congrArg Prod.snd this).symm
        exact ⟨(b2z_eq_zero _).1 h1, (b2z_eq_zero _).1 h2⟩
      have sup := echelon_support t piv he (selOf c) k hz
      apply Submodule.sum_mem
      intro i _
      rcases zmod2_cases (c i) with h | h
      · rw [h, zero_smul]; exact Submodule.zero_mem _
      · have hsel : selOf c i.val = true := by rw [selOf_val, h]; rfl
        have hk := sup i.val i.isLt hsel
        have hmem : i.val ∈ s := (hs i.val).2 ⟨i.isLt, hk⟩
        apply Submodule.smul_mem
        apply Submodule.subset_span
        exact ⟨⟨i.val, hmem⟩, rfl⟩
  rw [← hspan, finrank_span_eq_card li, Fintype.card_coe]
  exact card_filter_range t.n _

theorem Ops.vec_mem {pr : Nat} {t0 t : STab} (h : Ops pr t0 t) :
    ∀ i, i < t0.n → (t.row i).vec t0.n ∈ t0.gspace := by
  induction h with
  | refl => intro i hi; exact gen_mem_gspaceOf _ _ i hi
  | @norm t h ih =>
    intro i hi
    have e := h.n_eq
    have : (t.norm.row i).vec t0.n = (t.row i).vec t0.n := by
      apply PRow.vec_congr
      rw [← e]
      exact (norm_row t i (e ▸ hi)).1
    rw [this]; exact ih i hi
  | @swap t a b _ h2 _ h4 _ ih =>
    intro i hi
    rw [rowSwap_row]
    split
    · exact ih b h4
    · split
      · exact ih a h2
      · exact ih i hi
  | @sum t a b _ h2 _ h4 _ _ ih =>
    intro i hi
    rw [rowSum_row]
    split
    · rw [PRow.vec_stabMul]; exact Submodule.add_mem _ (ih a h2) (ih b h4)
    · exact ih i hi

theorem pvec_add_self {n : Nat} (v : PVec n) : v + v = 0 := by
  rw [← two_smul (ZMod 2) v]
  have : (2 : ZMod 2) = 0 := by decide
  rw [this, zero_smul]

/-- the row operations are invertible: the generators of the input stay in the subspace of the output -/
theorem Ops.gspace_le {pr : Nat} {t0 t : STab} (h : Ops pr t0 t) : gspaceOf t0.n t0.row ≤ gspaceOf t0.n t.row := by
  induction h with
  | refl => exact le_refl _
  | @norm t h ih =>
    refine le_trans ih (Submodule.span_le.2 ?_)
    rintro _ ⟨⟨i, hi⟩, rfl⟩
    have e := h.n_eq
    have hi' : i < t.n := by omega
    have sb : PRow.SameBits t0.n (t.norm.row i) (t.row i) := fun j hj => (norm_row t i hi').1 j (by omega)
    have : (t.norm.row i).vec t0.n = (t.row i).vec t0.n := PRow.vec_congr _ _ _ sb
    show (t.row i).vec t0.n ∈ _
    rw [← this]
    exact gen_mem_gspaceOf t0.n t.norm.row i hi
  | @swap t a b _ h2 _ h4 _ ih =>
    refine le_trans ih (Submodule.span_le.2 ?_)
    rintro _ ⟨i, rfl⟩
    show (t.row i).vec t0.n ∈ _
    by_cases hia : i.val = a
    · have : (t.rowSwap a b).row b = t.row i.val := by
        rw [rowSwap_row, hia]
        by_cases hba : b = a
        · rw [if_pos hba, hba]
        · rw [if_neg hba, if_pos rfl]
      rw [← this]; exact gen_mem_gspaceOf t0.n _ b h4
    · by_cases hib : i.val = b
      · have : (t.rowSwap a b).row a = t.row i.val := by rw [rowSwap_row, if_pos rfl, hib]
        rw [← this]; exact gen_mem_gspaceOf t0.n _ a h2
      · have : (t.rowSwap a b).row i.val = t.row i.val := by rw [rowSwap_row, if_neg hia, if_neg hib]
        rw [← this]; exact gen_mem_gspaceOf t0.n _ i.val i.isLt
  | @sum t a b _ h2 _ h4 hab _ ih =>
    refine le_trans ih (Submodule.span_le.2 ?_)
    rintro _ ⟨i, rfl⟩
    show (t.row i).vec t0.n ∈ _
    by_cases hib : i.val = b
    · have ra : (t.rowSum a b).row a = t.row a := by rw [rowSum_row, if_neg hab]
      have rb : (t.rowSum a b).row b = stabMul t.n (t.row a) (t.row b) := by rw [rowSum_row, if_pos rfl]
      have : (t.row i.val).vec t0.n = ((t.rowSum a b).row a).vec t0.n + ((t.rowSum a b).row b).vec t0.n := by
        rw [ra, rb, PRow.vec_stabMul, ← add_assoc, pvec_add_self, zero_add, hib]
      rw [this]
      exact Submodule.add_mem _ (gen_mem_gspaceOf t0.n _ a h2) (gen_mem_gspaceOf t0.n _ b h4)
    · have : (t.rowSum a b).row i.val = t.row i.val := by rw [rowSum_row, if_neg hib]
      rw [← this]; exact gen_mem_gspaceOf t0.n _ i.val i.isLt

theorem Ops.gspace_eq {pr : Nat} {t0 t : STab} (h : Ops pr t0 t) : gspaceOf t0.n t.row = t0.gspace :=
  le_antisymm (Submodule.span_le.2 (by rintro _ ⟨i, rfl⟩; exact h.vec_mem i.val i.isLt)) h.gspace_le

/-- hence whatever holds of the size and the row space after the run held before it -/
theorem Ops.of_gspace {pr : Nat} {t0 t : STab} (h : Ops pr t0 t) {P : ∀ n, Submodule (ZMod 2) (PVec n) → Prop}
    (hP : P t.n t.gspace) : P t0.n t0.gspace := by
  have e := h.n_eq
  have g := h.gspace_eq
  obtain ⟨n0, row0⟩ := t0
  obtain ⟨n, row⟩ := t
  simp only at e
  subst e
  rw [← g]; exact hP

theorem SpanEq.of_gspace {t t' : STab} (h : SpanEq t t') {P : ∀ n, Submodule (ZMod 2) (PVec n) → Prop}
    (hP : P t.n t.gspace) : P t'.n t'.gspace := by
  obtain ⟨hn, h1, h2⟩ := h
  obtain ⟨n, row⟩ := t
  obtain ⟨n', row'⟩ := t'
  simp only at hn
  subst hn
  have e : (STab.mk n row).gspace = (STab.mk n row').gspace := gspaceOf_eq_of_inSpan n row row' (fun p => ⟨h1 p, h2 p⟩)
  rw [← e]; exact hP

theorem ops_echelon_finrank_gspace (t0 t1 : STab) (piv : Nat → Nat) (o : Ops 0 t0 t1) (he : Echelon t1 piv) :
    finrank (ZMod 2) ↥t0.gspace = t0.n :=
  o.of_gspace (P := fun n G => finrank (ZMod 2) ↥G = n) (echelon_finrank_gspace t1 piv he)

/-- `rref` output `t1` of `t0` (a sequence of row operations ending in an echelon tableau): the number of generators of `t1`
    with leading site right of `k` is the dimension of the subgroup of **`t0`** supported right of `k` -/
theorem ops_echelon_finrank_right (t0 t1 : STab) (piv : Nat → Nat) (o : Ops 0 t0 t1) (he : Echelon t1 piv) (k : Nat) :
    finrank (ZMod 2) ↥(t0.gspace ⊓ rightOf t0.n k) = ((List.range t0.n).filter fun i => decide (k < piv i)).length :=
  o.of_gspace (P := fun n G => finrank (ZMod 2) ↥(G ⊓ rightOf n k) = ((List.range n).filter fun i => decide (k < piv i)).length)
    (echelon_finrank_right t1 piv he k)

/-- what a returning `height_func_list` has computed: the echelon form of the sign-free tableau and, unless `n = 0`, the
    leftmost non-trivial site of every row -/
theorem heightFuncList_inv (t : STab) (l : List Int) (h : t.heightFuncList = .ok l) :
    ∃ t1 brs, (STab.map (fun p => { p with r := false, ip := false }) t).rref = .ok (t1, brs) ∧
      ((t.n = 0 ∧ l = []) ∨ (t.n ≠ 0 ∧ ∃ lm, List.mapM (fun i => t1.leftmost i) (List.range t.n) = some lm ∧
        l = (List.range t.n).map fun (k : Nat) =>
          Int.ofNat t.n - (Int.ofNat k + 1) - Int.ofNat (lm.filter fun (x : Nat) => decide (x > k)).length)) := by
  unfold heightFuncList at h
  simp only at h
  cases hr : (STab.map (fun p => { p with r := false, ip := false }) t).rref with
  | error e => rw [hr] at h; cases h
  | ok v =>
    rw [hr] at h
    obtain ⟨t1, brs⟩ := v
    simp only at h
    refine ⟨t1, brs, rfl, ?_⟩
    by_cases hz : t.n = 0
    · simp only [hz, if_true] at h
      injection h with h
      exact Or.inl ⟨hz, h.symm⟩
    · simp only [hz, if_false] at h
      cases hm : List.mapM (fun i => t1.leftmost i) (List.range t.n) with
      | none => rw [hm] at h; cases h
      | some lm =>
        rw [hm] at h
        injection h with h
        exact Or.inr ⟨hz, lm, rfl, h.symm⟩

/-- **what a returning `height_func_list` has computed**: row operations took the sign-free tableau to an echelon tableau, and
    entry `k` counts the generators of that tableau whose leading site is right of `k` -/
theorem heightFuncList_spec (t : STab) (l : List Int) (h : t.heightFuncList = .ok l) :
    ∃ t1 piv, Ops 0 (STab.map (fun p => { p with r := false, ip := false }) t) t1 ∧ Echelon t1 piv ∧
      l = (List.range t.n).map fun (k : Nat) =>
        Int.ofNat t.n - (Int.ofNat k + 1) - Int.ofNat ((List.range t.n).filter fun i => decide (k < piv i)).length := by
  obtain ⟨t1, brs, hr, ⟨hz, rfl⟩ | ⟨hz, lm, hm, rfl⟩⟩ := heightFuncList_inv t l h
  · have o := rref_ops _ t1 brs hr
    have hn1 : t1.n = 0 := o.n_eq.trans hz
    refine ⟨t1, fun _ => 0, o, ⟨fun i hi => by omega, fun i k _ hk => by omega⟩, ?_⟩
    rw [hz]; rfl
  · have o := rref_ops _ t1 brs hr
    have hn1 : t1.n = t.n := o.n_eq
    obtain ⟨hlm, hsome⟩ := mapM_option_some _ _ _ hm
    rcases rref_echelon_or_trivial _ t1 brs hr with ⟨piv, he⟩ | ⟨_, htriv⟩
    · refine ⟨t1, piv, o, he, List.map_congr_left fun k _ => ?_⟩
      have hcount : (lm.filter fun (x : Nat) => decide (x > k)).length
          = ((List.range t.n).filter fun i => decide (k < piv i)).length := by
        rw [hlm, List.filter_map, List.length_map]
        congr 1
        apply List.filter_congr
        intro i hi
        have hi' : i < t1.n := by rw [hn1]; exact List.mem_range.1 hi
        have hl := he.lead i hi'
        simp only [Function.comp, leftmost_of_lead t1 i (piv i) hl.1 hl.2.1 hl.2.2, Option.getD_some]
      rw [hcount]
    · -- a trivial last row has no leftmost site: `height_func_list` would have raised
      exfalso
      have hn := leftmost_none t1 (t1.n - 1) htriv
      have := hsome (t1.n - 1) (List.mem_range.2 (by omega))
      rw [hn] at this
      cases this

/-- **`height_func_list` computes `|B| − dim G_B`** for `B = {k+1..n-1}` and `G_B` the subgroup of the stabilizer group (modulo
    phases) supported on `B`: whenever `height_func_list` returns, entry `k` of the list is
    `n − (k+1) − dim_GF(2) (G ∩ {v : v trivial on sites 0..k})` -/
theorem heightFuncList_eq_finrank (t : STab) (l : List Int) (h : t.heightFuncList = .ok l) :
    l = (List.range t.n).map fun (k : Nat) =>
      Int.ofNat t.n - (Int.ofNat k + 1) - Int.ofNat (finrank (ZMod 2) ↥(t.gspace ⊓ rightOf t.n k)) := by
  obtain ⟨t1, piv, o, he, rfl⟩ := heightFuncList_spec t l h
  apply List.map_congr_left
  intro k _
  have hfr : finrank (ZMod 2) ↥(t.gspace ⊓ rightOf t.n k)
      = ((List.range t.n).filter fun i => decide (k < piv i)).length := ops_echelon_finrank_right _ t1 piv o he k
  rw [hfr]

/-- **gauge independence of the height function**: two tableaux (on the same number of qubits) whose rows generate the same
    signed group get the same height list.  No hypothesis on the generators (not even commutation) is needed. -/
theorem heightFuncList_gauge (t t' : STab) (l l' : List Int) (hn : t.n = t'.n) (hs : ∀ p, t.Spn p ↔ t'.Spn p)
    (h : t.heightFuncList = .ok l) (h' : t'.heightFuncList = .ok l') : l = l' := by
  rw [heightFuncList_eq_finrank t l h, heightFuncList_eq_finrank t' l' h']
  exact SpanEq.of_gspace (t := t) ⟨hn, fun a => (hs a).1, fun a => (hs a).2⟩
    (P := fun n G => _ = (List.range n).map fun (k : Nat) =>
      Int.ofNat n - (Int.ofNat k + 1) - Int.ofNat (finrank (ZMod 2) ↥(G ⊓ rightOf n k))) rfl

theorem heightFuncList_ok_finrank (t : STab) (l : List Int) (h : t.heightFuncList = .ok l) :
    finrank (ZMod 2) ↥t.gspace = t.n := by
  obtain ⟨t1, piv, o, he, _⟩ := heightFuncList_spec t l h
  exact ops_echelon_finrank_gspace (STab.map (fun p => { p with r := false, ip := false }) t) t1 piv o he

end STab

/-- restriction of a symplectic vector to the sites `0..k` (side `A` of the cut) -/
def cutLin (n k : Nat) : PVec n →ₗ[ZMod 2] PVec n where
  toFun v := fun j => if j.val ≤ k then v j else 0
  map_add' a b := by
    funext j
    by_cases h : j.val ≤ k <;> simp [h]
  map_smul' c a := by
    funext j
    by_cases h : j.val ≤ k <;> simp [h]

theorem ker_cutLin (n k : Nat) : LinearMap.ker (cutLin n k) = rightOf n k := by
  ext v
  rw [LinearMap.mem_ker, mem_rightOf]
  constructor
  · intro h j hj
    have := congrFun h j
    simp only [cutLin, LinearMap.coe_mk, AddHom.coe_mk, if_pos hj] at this
    exact this
  · intro h
    funext j
    simp only [cutLin, LinearMap.coe_mk, AddHom.coe_mk]
    by_cases hj : j.val ≤ k
    · rw [if_pos hj]; exact h j hj
    · rw [if_neg hj]; rfl

/-- rank–nullity for the restriction to side `A`, on a subspace `G` -/
theorem finrank_cut_add_right (n k : Nat) (G : Submodule (ZMod 2) (PVec n)) :
    finrank (ZMod 2) ↥(G.map (cutLin n k)) + finrank (ZMod 2) ↥(G ⊓ rightOf n k) = finrank (ZMod 2) ↥G := by
  have h := LinearMap.finrank_range_add_finrank_ker ((cutLin n k).domRestrict G)
  rw [LinearMap.range_domRestrict, LinearMap.ker_domRestrict, ker_cutLin] at h
  have e : Submodule.comap G.subtype (rightOf n k) = Submodule.comap G.subtype (G ⊓ rightOf n k) := by
    ext x
    simp only [Submodule.mem_comap, Submodule.mem_inf, Submodule.subtype_apply, x.property, true_and]
  rw [e, (Submodule.comapSubtypeEquivOfLe (inf_le_left : G ⊓ rightOf n k ≤ G)).finrank_eq] at h
  exact h

namespace STab

/-- **`height_func_list` computes `rank(M_A) − |A|`** with `A = {0..k}` and `M_A` the generators restricted to the sites of `A`
    (the x- and z-columns of the qubits `0..k`): the textbook entropy formula of a stabilizer state, which is also the
    independent oracle of the correspondence harness -/
theorem heightFuncList_eq_rank_cut (t : STab) (l : List Int) (h : t.heightFuncList = .ok l) :
    l = (List.range t.n).map fun (k : Nat) =>
      Int.ofNat (finrank (ZMod 2) ↥(t.gspace.map (cutLin t.n k))) - (Int.ofNat k + 1) := by
  rw [heightFuncList_eq_finrank t l h]
  apply List.map_congr_left
  intro k _
  have h1 := finrank_cut_add_right t.n k t.gspace
  rw [heightFuncList_ok_finrank t l h] at h1
  simp only [Int.ofNat_eq_natCast]
  omega

end STab
end Graphiq
