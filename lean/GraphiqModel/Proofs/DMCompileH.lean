/-
  Proofs/DMCompileH.lean — the Hilbert-space semantics of the density-matrix backend's compile loop
  (`CompilerBase.compile` noise-free path + `DensityMatrixCompiler.compile_one_gate` + the `DensityMatrix` methods
  `apply_unitary`, `apply_measurement`, `apply_measurement_controlled_gate`, `apply_channel`) over complex matrices,
  and the theorem that ties it to the stabilizer backend's compile loop `stabRun`:

      dmRunH ne np d script ops = ρ(stabRun ne np d script ops)   with the same classical record,

  for every circuit, every register mix, every measurement setting and every script of drawn bits (`dmRunH_eq_stab`),
  by induction over the operation list (`dmStepH_stab` is the step).

  `dmStepH` mirrors `compile_one_gate` branch by branch:
    * one-qubit gates     : `apply_unitary(get_one_qubit_gate(n, q, u))`, nothing for `Identity`;
    * CNOT / CZ           : `apply_unitary(get_two_qubit_controlled_gate(n, c, t, u))`
                            (`ValueError` for equal positions);
    * classical CNOT / CZ : `apply_measurement_controlled_gate(projectors_zbasis(n, c), get_one_qubit_gate(n, t, u))`,
                            then `classical_registers[creg] = outcome`;
    * measure-CNOT-reset  : the same with `u = X`, the register write, then `apply_channel(get_reset_qubit_kraus(n, c))`;
    * Z measurement       : `apply_measurement(projectors_zbasis(n, q))`, register write;
    * one-qubit wrapper   : its gates in reversed list order (`sequence(unwrapped=True)`).

  Proofs/DMCompileRef.lean runs parallel to this file on purpose (`hstate` / `rstate`, `hmeasure_tab` / `rmeasure_tab`, `condU_tab` /
  `rcondU_tab`, `reset_tab` / `rreset_tab`, `dmStepH_stab` / `refStep_stab`): `dmStepH` follows the code (`hermitianize`, `isclose`,
  the controlled-gate formula), `refStep` the textbook, both are fixed definitions, and each case of the two step theorems reduces
  its own primitive to the same tableau fact of Proofs/HilbertBridgeOps.lean.
-/
import GraphiqModel.Proofs.HilbertBridgeOps
import GraphiqModel.Proofs.Circuit
import GraphiqModel.Proofs.CommuteRefine
import GraphiqModel.Proofs.Loop
namespace Graphiq

theorem ite_some_eq {α : Type} {c : Prop} [Decidable c] {a b : α} (h : (if c then some a else none) = some b) :
    c ∧ a = b :=
  (Option.ite_none_right_eq_some.1 h).imp_right Option.some.inj

theorem ite_some_eq_none {α : Type} {c : Prop} [Decidable c] {a : α} (h : (if c then some a else none) = none) : ¬ c := by
  split at h
  · cases h
  · next hc => exact hc

namespace DMH
open Hilbert Matrix PRow

/-- state of the density-matrix compile loop: the matrix and the classical bookkeeping of `RunState` -/
structure HState (n : Nat) where
  ρ : DMat n
  writes : List (Nat × Bool)
  script : List Bool
  rand : List Bool
  outs : List Bool

/-- the density-matrix-side picture of a stabilizer run state -/
noncomputable def hstate (n : Nat) (s : RunState) : HState n :=
  { ρ := tabRho n s.t, writes := s.writes, script := s.script, rand := s.rand, outs := s.outs }

/-- one generator of the one-qubit alphabet: `Identity` is skipped, the others are `apply_unitary` of the embedded 2×2
    matrix of functions.py -/
noncomputable def gen1H (n : Nat) (ρ : DMat n) (g : Cliff.Gen) (q : Nat) : DMat n :=
  match g with
  | .I => ρ
  | .H => applyUnitary ρ (oneQ n q hadamardM)
  | .P => applyUnitary ρ (oneQ n q phaseM)
  | .X => applyUnitary ρ (oneQ n q sigmaX)
  | .Y => applyUnitary ρ (oneQ n q sigmaY)
  | .Z => applyUnitary ρ (oneQ n q sigmaZ)

namespace HState
variable {n : Nat}

/-- `state.apply_measurement(projectors_zbasis(n, q), determinism)` with the bookkeeping of the run -/
noncomputable def measure (s : HState n) (d : Det) (q : Nat) : HState n × Bool :=
  let m := measureH s.ρ (projZ n q false) (projZ n q true) d s.script
  ({ s with ρ := m.1, script := m.2.2.1, rand := s.rand ++ [m.2.2.2], outs := s.outs ++ [m.2.1] }, m.2.1)

/-- `if outcome == 1: self.apply_unitary(target_gate)` -/
noncomputable def condU (s : HState n) (b : Bool) (U : DMat n) : HState n :=
  { s with ρ := if b then applyUnitary s.ρ U else s.ρ }

/-- `classical_registers[creg] = outcome` -/
def write (s : HState n) (creg : Nat) (out : Bool) : HState n := { s with writes := s.writes ++ [(creg, out)] }

/-- `state.apply_channel(get_reset_qubit_kraus(n, q))` -/
noncomputable def reset (s : HState n) (q : Nat) : HState n := { s with ρ := applyChannel s.ρ (resetKraus n q) }

end HState

/-- one operation of `DensityMatrixCompiler.compile_one_gate`; `none` = a qubit index out of range or equal control and
    target of a unitary two-qubit gate (the Python raises) -/
noncomputable def dmStepH (np n : Nat) (d : Det) (s : HState n) (op : COp) : Option (HState n) :=
  let ix := qIndex np
  match op with
  | .gate1 g q => if ix q < n then some { s with ρ := gen1H n s.ρ g (ix q) } else none
  | .pdag q => if ix q < n then some { s with ρ := applyUnitary s.ρ (oneQ n (ix q) phaseDagM) } else none
  | .cnot c t =>
    if ix c < n ∧ ix t < n then
      (if ix c = ix t then none else some { s with ρ := applyUnitary s.ρ (ctrlG n (ix c) (ix t) sigmaX) })
    else none
  | .cz c t =>
    if ix c < n ∧ ix t < n then
      (if ix c = ix t then none else some { s with ρ := applyUnitary s.ρ (ctrlG n (ix c) (ix t) sigmaZ) })
    else none
  | .ccx c t creg =>
    if ix c < n ∧ ix t < n then
      let m := s.measure d (ix c)
      some ((m.1.condU m.2 (oneQ n (ix t) sigmaX)).write creg m.2)
    else none
  | .ccz c t creg =>
    if ix c < n ∧ ix t < n then
      let m := s.measure d (ix c)
      some ((m.1.condU m.2 (oneQ n (ix t) sigmaZ)).write creg m.2)
    else none
  | .mcr c t creg =>
    if ix c < n ∧ ix t < n then
      let m := s.measure d (ix c)
      some (((m.1.condU m.2 (oneQ n (ix t) sigmaX)).write creg m.2).reset (ix c))
    else none
  | .measz q creg =>
    if ix q < n then
      let m := s.measure d (ix q)
      some (m.1.write creg m.2)
    else none
  | .wrap gs q =>
    if ix q < n then some { s with ρ := gs.reverse.foldl (fun ρ g => gen1H n ρ g (ix q)) s.ρ } else none

/-- the compile loop from a given initial density matrix (`compile(circuit, initial_state=…)`) -/
noncomputable def dmRunFromH {n : Nat} (ρ0 : DMat n) (np : Nat) (d : Det) (script : List Bool) (ops : List COp) :
    Option (HState n) :=
  ops.foldlM (dmStepH np n d) { ρ := ρ0, writes := [], script := script, rand := [], outs := [] }

/-- the compile loop on the all-`|0⟩` state -/
noncomputable def dmRunH (ne np : Nat) (d : Det) (script : List Bool) (ops : List COp) : Option (HState (ne + np)) :=
  dmRunFromH (ket0H (ne + np)) np d script ops

/-! ### the steps -/

theorem gen1H_tab (t : Tab) (hv : t.Valid) (q : Nat) (hq : q < t.n) (g : Cliff.Gen) :
    gen1H t.n (tabRho t.n t) g q = tabRho t.n (gen1 t g q) := by
  cases g with
  | I => rfl
  | H =>
    show applyUnitary _ (oneQ t.n q hadamardM) = _
    rw [hadamard_gate]; exact applyUnitary_gate t hv (Gate.H q) hq
  | P => exact applyUnitary_gate t hv (Gate.P q) hq
  | X => exact applyUnitary_gate t hv (Gate.X q) hq
  | Y => exact applyUnitary_gate t hv (Gate.Y q) hq
  | Z => exact applyUnitary_gate t hv (Gate.Z q) hq

theorem gen1H_foldl_tab (n q : Nat) (hq : q < n) (gs : List Cliff.Gen) :
    ∀ t : Tab, t.n = n → t.Valid →
      gs.foldl (fun ρ g => gen1H n ρ g q) (tabRho n t) = tabRho n (gs.foldl (fun t g => gen1 t g q) t) := by
  induction gs with
  | nil => intro t _ _; rfl
  | cons g rest ih =>
    intro t hn hv
    simp only [List.foldl]
    have h1 : gen1H n (tabRho n t) g q = tabRho n (gen1 t g q) := by
      subst hn; exact gen1H_tab t hv q hq g
    rw [h1]
    exact ih (gen1 t g q) ((gen1_n t g q).trans hn) (gen1_valid t g q (hn ▸ hq) hv)

theorem hmeasure_tab (s : RunState) (hv : s.t.Valid) (hr : s.t.StabReal) (d : Det) (q : Nat) (hq : q < s.t.n) :
    (hstate s.t.n s).measure d q = (hstate s.t.n (s.measure d q).1, (s.measure d q).2) := by
  have h := measureH_tab s hv hr d q hq
  unfold HState.measure
  simp only [hstate]
  rw [h]
  simp only [RunState.measure]

/-- `if outcome == 1: apply_unitary(gate)` is the conditional tableau gate -/
theorem condU_tab (n : Nat) (s : RunState) (hn : s.t.n = n) (hv : s.t.Valid) (b : Bool) (g : Gate) (hg : g.WF n) :
    (hstate n s).condU b (gateMat n g) = hstate n { s with t := if b then (s.t.map g.act).norm else s.t } := by
  subst hn
  cases b
  · rfl
  · simp only [HState.condU, hstate, if_true]
    congr 1
    rw [tabRho_norm_of s.t.n (s.t.map g.act) rfl]
    exact applyUnitary_gate s.t hv g hg

theorem condX_tab (n : Nat) (s : RunState) (hn : s.t.n = n) (hv : s.t.Valid) (b : Bool) (q : Nat) (hq : q < n) :
    (hstate n s).condU b (oneQ n q sigmaX) = hstate n (s.condX b q) :=
  condU_tab n s hn hv b (Gate.X q) hq

theorem condZ_tab (n : Nat) (s : RunState) (hn : s.t.n = n) (hv : s.t.Valid) (b : Bool) (q : Nat) (hq : q < n) :
    (hstate n s).condU b (oneQ n q sigmaZ) = hstate n (s.condZ b q) :=
  condU_tab n s hn hv b (Gate.Z q) hq

theorem write_tab (n : Nat) (s : RunState) (creg : Nat) (o : Bool) :
    (hstate n s).write creg o = hstate n (s.write creg o) := rfl

/-- after measuring `c` and the conditional `X` on `t` (equal positions allowed) the rows are still real and qubit `c` still has a
    definite Z value -/
theorem pivot_after_condX (s : RunState) (hv : s.t.Valid) (hr : s.t.StabReal) (d : Det) (c t : Nat)
    (hc : c < s.t.n) (ht : t < s.t.n) :
    (((s.measure d c).1.condX (s.measure d c).2 t).t).StabReal ∧
    (((s.measure d c).1.condX (s.measure d c).2 t).t).pivot c = none := by
  -- group level: the measurement leaves `±Z_c` in the group; an `X` elsewhere keeps it, an `X` on `c` flips its sign
  have h0 : Commute.TInv s.t.n s.t := ⟨hv, hr, rfl⟩
  obtain ⟨off, e1, e2, _⟩ := Commute.measure_fields s d c
  have hm := (h0.meas c off hc).norm
  have hz := (Commute.norm_grp_iff _ _).mpr (Commute.meas_leaves_Zq h0 c off hc)
  have ha : TabSpec.IsAut1 s.t.n (PRow.xg t) := TabSpec.isAut1_xg _ t ht
  have hx := (hm.map _ ha).norm
  show (if (s.measure d c).2 = true then ((s.measure d c).1.t.xGate t).norm else (s.measure d c).1.t).StabReal ∧
    (if (s.measure d c).2 = true then ((s.measure d c).1.t.xGate t).norm else (s.measure d c).1.t).pivot c = none
  rw [e1, e2]
  split
  · next ho =>
    refine ⟨hx.real, ?_⟩
    rw [ho] at hz
    by_cases hct : c = t
    · subst hct
      refine TabSpec.pivot_none_of_Zq _ hx.valid hx.real c (hx.n_eq ▸ hc) false ((Commute.norm_grp_iff _ _).mpr ?_)
      refine Tab.InSpan.eqv _ _ (TabSpec.map_grp_of _ (PRow.xg c) (hm.n_eq ▸ ha) _ hz)
        ⟨fun j _ => ⟨xg_x c _ j, xg_z c _ j⟩, ?_, rfl⟩
      rw [xg_r]; simp [Zq]
    · exact TabSpec.pivot_none_of_Zq _ hx.valid hx.real c (hx.n_eq ▸ hc) true
        ((Commute.norm_grp_iff _ _).mpr (Commute.map_keeps_Zq hm _ ha (Commute.local_xg t) c hct true hz))
  · exact ⟨hm.real, TabSpec.pivot_none_of_Zq _ hm.valid hm.real c (hm.n_eq ▸ hc) _ hz⟩

theorem reset_tab (n : Nat) (s : RunState) (hn : s.t.n = n) (hv : s.t.Valid) (hr : s.t.StabReal) (d : Det) (q : Nat)
    (hq : q < n) (hp : s.t.pivot q = none) : (hstate n s).reset q = hstate n (s.resetQ d q) := by
  subst hn
  have hscr : (s.offer d (s.t.pivot q).isSome).2 = s.script := by
    rw [hp]; cases d <;> rfl
  simp only [HState.reset, hstate, RunState.resetQ]
  rw [hscr, tabRho_norm_of _ _ (Tab.resetZ_n s.t q false _), resetChannel_det s.t hv hr q hq hp]

/-! ### one operation -/

/-- the invariant carried through the run -/
def RunInv (n : Nat) (s : RunState) : Prop := s.t.Valid ∧ s.t.n = n ∧ s.t.StabReal

/-- `RunInv` is the tableau invariant of the verified stabilizer semantics, which every step keeps -/
theorem stepOp_inv (np n : Nat) (d : Det) (s s' : RunState) (op : COp) (hwf : op.WF np) (h : RunInv n s)
    (hs : stepOp np n d s op = some s') : RunInv n s' :=
  have h' := Commute.stepOp_tinv np n d s s' op hwf ⟨h.1, h.2.2, h.2.1⟩ hs
  ⟨h'.valid, h'.n_eq, h'.real⟩

/-- **One operation.**  From the density matrix of the current tableau, the density-matrix backend's step returns the
    density matrix of the stabilizer backend's next tableau, with the same writes, script, randomness log and outcomes.
    One case per operation: the range test of `stepOp` fixes `s'` (`ite_some_eq`), then each primitive of `dmStepH` is replaced by
    the tableau primitive (`applyUnitary_gate`, `hmeasure_tab`, `condX_tab` / `condZ_tab`, `reset_tab`); for measure-CNOT-reset the
    reset needs that the control has a definite Z value after the measurement and the conditional X (`pivot_after_condX`). -/
theorem dmStepH_stab (np n : Nat) (d : Det) (s s' : RunState) (op : COp) (hwf : op.WF np) (h : RunInv n s)
    (hs : stepOp np n d s op = some s') : dmStepH np n d (hstate n s) op = some (hstate n s') := by
  obtain ⟨hv, hn, hr⟩ := h
  subst hn
  have hgate : ∀ (g : Gate), g.WF s.t.n →
      applyUnitary (tabRho s.t.n s.t) (gateMat s.t.n g) = tabRho s.t.n (s.t.map g.act).norm := by
    intro g hg
    rw [tabRho_norm_of s.t.n (s.t.map g.act) rfl]
    exact applyUnitary_gate s.t hv g hg
  cases op with
  | gate1 g q =>
    obtain ⟨hq, rfl⟩ := ite_some_eq hs
    simp only [dmStepH]
    rw [if_pos hq]
    simp only [hstate]
    rw [gen1H_tab s.t hv _ hq g, tabRho_norm_of _ _ (gen1_n s.t g _)]
  | pdag q =>
    obtain ⟨hq, rfl⟩ := ite_some_eq hs
    simp only [dmStepH]
    rw [if_pos hq]
    simp only [hstate]
    rw [show oneQ s.t.n (qIndex np q) phaseDagM = gateMat s.t.n (Gate.Pdag (qIndex np q)) from rfl, hgate (Gate.Pdag (qIndex np q)) hq]
    rfl
  | cnot c t =>
    obtain ⟨hq, rfl⟩ := ite_some_eq hs
    simp only [dmStepH]
    rw [if_pos hq, if_neg hwf]
    simp only [hstate]
    rw [ctrlG_eq _ _ _ hq.1 hq.2 hwf,
      show ctrlQ s.t.n (qIndex np c) (qIndex np t) sigmaX = gateMat s.t.n (Gate.CNOT (qIndex np c) (qIndex np t)) from rfl,
      hgate (Gate.CNOT (qIndex np c) (qIndex np t)) ⟨hq.1, hq.2, hwf⟩]
    rfl
  | cz c t =>
    obtain ⟨hq, rfl⟩ := ite_some_eq hs
    simp only [dmStepH]
    rw [if_pos hq, if_neg hwf]
    simp only [hstate]
    rw [ctrlG_eq _ _ _ hq.1 hq.2 hwf,
      show ctrlQ s.t.n (qIndex np c) (qIndex np t) sigmaZ = gateMat s.t.n (Gate.CZ (qIndex np c) (qIndex np t)) from rfl,
      hgate (Gate.CZ (qIndex np c) (qIndex np t)) ⟨hq.1, hq.2, hwf⟩]
    rfl
  | ccx c t creg =>
    obtain ⟨hq, rfl⟩ := ite_some_eq hs
    simp only [dmStepH]
    rw [if_pos hq]
    have hok1 := measure_ok s.t.n s d _ hq.1 ⟨hv, rfl⟩
    simp only [hmeasure_tab s hv hr d _ hq.1]
    rw [condX_tab s.t.n _ hok1.2 hok1.1 _ _ hq.2]
    rfl
  | ccz c t creg =>
    obtain ⟨hq, rfl⟩ := ite_some_eq hs
    simp only [dmStepH]
    rw [if_pos hq]
    have hok1 := measure_ok s.t.n s d _ hq.1 ⟨hv, rfl⟩
    simp only [hmeasure_tab s hv hr d _ hq.1]
    rw [condZ_tab s.t.n _ hok1.2 hok1.1 _ _ hq.2]
    rfl
  | mcr c t creg =>
    obtain ⟨hq, rfl⟩ := ite_some_eq hs
    simp only [dmStepH]
    rw [if_pos hq]
    have hok1 := measure_ok s.t.n s d _ hq.1 ⟨hv, rfl⟩
    have hok2 := condX_ok s.t.n _ (s.measure d (qIndex np c)).2 _ hq.2 hok1
    obtain ⟨hr2, hp⟩ := pivot_after_condX s hv hr d _ _ hq.1 hq.2
    simp only [hmeasure_tab s hv hr d _ hq.1]
    rw [condX_tab s.t.n _ hok1.2 hok1.1 _ _ hq.2]
    rw [write_tab]
    refine congrArg some (reset_tab s.t.n (RunState.write _ creg _) ?_ ?_ ?_ d _ hq.1 ?_)
    exacts [hok2.2, hok2.1, hr2, hp]
  | measz q creg =>
    obtain ⟨hq, rfl⟩ := ite_some_eq hs
    simp only [dmStepH]
    rw [if_pos hq]
    simp only [hmeasure_tab s hv hr d _ hq]
    rfl
  | wrap gs q =>
    obtain ⟨hq, rfl⟩ := ite_some_eq hs
    simp only [dmStepH]
    rw [if_pos hq]
    simp only [hstate]
    rw [gen1H_foldl_tab s.t.n _ hq gs.reverse s.t rfl hv,
      tabRho_norm_of _ _ (gen1_foldl_valid gs.reverse s.t _ hq hv).2]

/-! ### the whole run -/

theorem dmStepH_none (np n : Nat) (d : Det) (s : RunState) (h : HState n) (op : COp)
    (hs : stepOp np n d s op = none) : dmStepH np n d h op = none := by
  cases op <;> exact if_neg (ite_some_eq_none hs)

/-- the two compile loops fail on the same circuits (an index out of range) and otherwise agree step by step -/
theorem dmFoldH_map (np n : Nat) (d : Det) (ops : List COp) (hwf : ∀ op, op ∈ ops → op.WF np) :
    ∀ (s : RunState), RunInv n s →
      ops.foldlM (dmStepH np n d) (hstate n s) = (ops.foldlM (stepOp np n d) s).map (hstate n) :=
  fun _ hs => Loop.foldlM_map (hstate n) (RunInv n) (fun s op s' ho => stepOp_inv np n d s s' op (hwf op ho))
    (fun s op ho hs => by
      cases h1 : stepOp np n d s op with
      | none => exact dmStepH_none np n d s _ op h1
      | some s1 => exact dmStepH_stab np n d s s1 op (hwf op ho) hs h1) hs

/-- the all-`|0⟩` density matrix is the state of `CliffordTableau(n)` -/
theorem ket0H_eq (n : Nat) : ket0H n = tabRho n (Tab.ket0 n) := by
  unfold tabRho
  rw [rho_ket0]
  ext a b
  rw [rho_zero]
  rfl

theorem ket0_runInv (n : Nat) (script : List Bool) :
    RunInv n { t := Tab.ket0 n, writes := [], script := script, rand := [], outs := [] } :=
  ⟨Tab.ket0_valid n, rfl, ket0_stabReal n⟩

theorem ket0_inv (n : Nat) : RunInv n { t := Tab.ket0 n, writes := [], script := [], rand := [], outs := [] } :=
  ket0_runInv n []

/-- **Backend agreement from any valid initial tableau** (`compile(circuit, initial_state=…)`): started on `ρ(t0)`, the
    density-matrix compile loop ends in `ρ` of the tableau the stabilizer compile loop ends in, with the same record. -/
theorem dmRunFromH_eq_stab (t0 : Tab) (hv : t0.Valid) (hr : t0.StabReal) (np : Nat) (d : Det) (script : List Bool)
    (ops : List COp) (hwf : ∀ op, op ∈ ops → op.WF np) (s : RunState) (h : stabRunFrom t0 np d script ops = some s) :
    dmRunFromH (tabRho t0.n t0) np d script ops = some (hstate t0.n s) := by
  unfold stabRunFrom at h
  exact (dmFoldH_map np t0.n d ops hwf ⟨t0, [], script, [], []⟩ ⟨hv, rfl, hr⟩).trans (by rw [h]; rfl)

/-- **Backend agreement.**  For every circuit over the whole operation alphabet, every register mix, every measurement
    setting and every script of drawn bits: whenever the stabilizer compile loop returns the run state `s`, the
    density-matrix compile loop returns the density matrix `ρ(s.t) = ∏ (1 + g_i)/2` of its tableau, the same register
    writes, the same remaining script, the same list of outcomes (and the outcomes it could draw with positive
    probability are exactly those the tableau calls random). -/
theorem dmRunH_eq_stab (ne np : Nat) (d : Det) (script : List Bool) (ops : List COp)
    (hwf : ∀ op, op ∈ ops → op.WF np) (s : RunState) (h : stabRun ne np d script ops = some s) :
    dmRunH ne np d script ops = some (hstate (ne + np) s) := by
  unfold stabRun at h
  unfold dmRunH
  rw [ket0H_eq]
  exact dmRunFromH_eq_stab (Tab.ket0 (ne + np)) (Tab.ket0_valid _) (ket0_stabReal _) np d script ops hwf s h

/-- **Backend agreement, total form**: the two compile loops fail on the same circuits (an index out of range) and
    otherwise `dmRunH = ρ(stabRun)` with the same record. -/
theorem dmRunH_eq_map (ne np : Nat) (d : Det) (script : List Bool) (ops : List COp)
    (hwf : ∀ op, op ∈ ops → op.WF np) :
    dmRunH ne np d script ops = (stabRun ne np d script ops).map (hstate (ne + np)) := by
  unfold stabRun stabRunFrom dmRunH dmRunFromH
  rw [ket0H_eq]
  exact dmFoldH_map np (ne + np) d ops hwf
    { t := Tab.ket0 (ne + np), writes := [], script := script, rand := [], outs := [] } (ket0_runInv _ script)

def COp.InRange (np n : Nat) : COp → Prop
  | .gate1 _ q | .pdag q | .measz q _ | .wrap _ q => qIndex np q < n
  | .cnot c t | .cz c t | .ccx c t _ | .ccz c t _ | .mcr c t _ => qIndex np c < n ∧ qIndex np t < n

theorem stepOp_isSome (np n : Nat) (d : Det) (s : RunState) (op : COp) (h : COp.InRange np n op) :
    ∃ s', stepOp np n d s op = some s' := by
  cases op <;> simp only [COp.InRange] at h <;> simp only [stepOp, h, if_true, and_self] <;> exact ⟨_, rfl⟩

theorem stabFold_total (np n : Nat) (d : Det) (ops : List COp) (h : ∀ op, op ∈ ops → COp.InRange np n op) :
    ∀ s : RunState, ∃ s', ops.foldlM (stepOp np n d) s = some s' :=
  fun s => (Loop.foldlM_ok (fun _ => True)
    (fun s op ho _ => (stepOp_isSome np n d s op (h op ho)).imp fun _ h => ⟨h, trivial⟩) (s := s) trivial).imp fun _ h => h.1

/-! ### consequences for the matrix the density-matrix backend returns -/

theorem hstate_pure (n : Nat) (s : RunState) (h : RunInv n s) :
    ((hstate n s).ρ)ᴴ = (hstate n s).ρ ∧ (hstate n s).ρ * (hstate n s).ρ = (hstate n s).ρ ∧
    Matrix.trace (hstate n s).ρ = 1 := by
  obtain ⟨hv, hn, _⟩ := h
  subst hn
  exact ⟨tabRho_hermitian s.t hv, tabRho_idem s.t hv, tabRho_trace s.t hv⟩

theorem stabRun_induct (ne np : Nat) (d : Det) (script : List Bool) (ops : List COp) (hwf : ∀ op, op ∈ ops → op.WF np)
    (P : RunState → Prop)
    (h0 : P { t := Tab.ket0 (ne + np), writes := [], script := script, rand := [], outs := [] })
    (hstep : ∀ op s s', RunInv (ne + np) s → P s → stepOp np (ne + np) d s op = some s' → P s')
    (s : RunState) (h : stabRun ne np d script ops = some s) : RunInv (ne + np) s ∧ P s :=
  Loop.foldlM_inv (fun s => RunInv (ne + np) s ∧ P s)
    (fun s op s' ho hs h1 => ⟨stepOp_inv np (ne + np) d s s' op (hwf op ho) hs.1 h1, hstep op s s' hs.1 hs.2 h1⟩)
    ⟨ket0_runInv (ne + np) script, h0⟩ h

theorem stabRun_inv (ne np : Nat) (d : Det) (script : List Bool) (ops : List COp)
    (hwf : ∀ op, op ∈ ops → op.WF np) (s : RunState) (h : stabRun ne np d script ops = some s) :
    RunInv (ne + np) s :=
  (stabRun_induct ne np d script ops hwf (fun _ => True) trivial (fun _ _ _ _ _ _ => trivial) s h).1

/-! ### the classical record is the list of outcomes -/

/-- the classical bookkeeping of a run: every measurement writes its outcome, in order -/
def Book (s : RunState) : Prop := s.writes.map (·.2) = s.outs ∧ s.rand.length = s.outs.length

theorem stepOp_book (np n : Nat) (d : Det) (s s' : RunState) (op : COp) (h : Book s)
    (hs : stepOp np n d s op = some s') : Book s' := by
  obtain ⟨h1, h2⟩ := h
  have := stepOp_fields np n d s s' op hs
  unfold Book
  cases hq : op.mq np with
  | none => rw [hq] at this; rw [this.1, this.2.1, this.2.2.1]; exact ⟨h1, h2⟩
  | some q => rw [hq] at this; rw [this.1, this.2.1, this.2.2]; simp [h1, h2]

theorem stabRun_book (ne np : Nat) (d : Det) (script : List Bool) (ops : List COp) (s : RunState)
    (h : stabRun ne np d script ops = some s) : Book s :=
  Loop.foldlM_inv Book (fun s op s' _ => stepOp_book np (ne + np) d s s' op) ⟨rfl, rfl⟩ h

/-! ### the outcomes actually drawn -/

/-- the outcomes of the random measurements of a run, in order -/
def randOuts (s : RunState) : List Bool := ((s.rand.zip s.outs).filter (·.1)).map (·.2)

def nRand (s : RunState) : Nat := (s.rand.filter id).length

/-- what a run has done with its setting and its drawn bits -/
def Drawn (d : Det) (script0 : List Bool) (s : RunState) : Prop :=
  s.rand.length = s.outs.length ∧
  match d with
  | .zero => s.script = script0 ∧ ∀ o, o ∈ randOuts s → o = false
  | .one => s.script = script0 ∧ ∀ o, o ∈ randOuts s → o = true
  | .prob => s.script = script0.drop (nRand s) ∧ randOuts s = (List.range (nRand s)).map fun i => script0.getD i false

theorem randOuts_snoc (s : RunState) (h : s.rand.length = s.outs.length) (r o : Bool) (t' : Tab) (w : List (Nat × Bool))
    (sc : List Bool) :
    randOuts { t := t', writes := w, script := sc, rand := s.rand ++ [r], outs := s.outs ++ [o] }
      = randOuts s ++ (if r then [o] else []) := by
  unfold randOuts
  simp only
  rw [List.zip_append h]
  cases r <;> simp

theorem nRand_snoc (s : RunState) (r o : Bool) (t' : Tab) (w : List (Nat × Bool)) (sc : List Bool) :
    nRand { t := t', writes := w, script := sc, rand := s.rand ++ [r], outs := s.outs ++ [o] }
      = nRand s + (if r then 1 else 0) := by
  unfold nRand
  cases r <;> simp

/-- a measurement keeps `Drawn`: a deterministic outcome reads nothing; a random one is the forced value, or the next bit of the
    script, which is bit number `nRand s` of `script0` -/
theorem measure_drawn (d : Det) (script0 : List Bool) (s : RunState) (q : Nat) (h : Drawn d script0 s) :
    Drawn d script0 (s.measure d q).1 := by
  obtain ⟨hl, hd⟩ := h
  unfold RunState.measure
  refine ⟨by simp [hl], ?_⟩
  cases hp : s.t.pivot q with
  | none =>
    have e1 := randOuts_snoc s hl false (s.t.measScratch q).r
    have e2 := nRand_snoc s false (s.t.measScratch q).r
    cases d <;> simp only [Tab.zMeasure, hp, Option.isSome_none, RunState.offer, Bool.false_eq_true, if_false] <;>
      simp only [e1, e2, Bool.false_eq_true, if_false, List.append_nil, Nat.add_zero] <;> exact hd
  | some p =>
    cases d with
    | zero =>
      simp only [Tab.zMeasure, hp, Option.isSome_some, RunState.offer]
      rw [randOuts_snoc s hl true false]
      refine ⟨hd.1, fun o ho => ?_⟩
      simp only [if_true, List.mem_append, List.mem_singleton] at ho
      rcases ho with ho | ho
      · exact hd.2 o ho
      · exact ho
    | one =>
      simp only [Tab.zMeasure, hp, Option.isSome_some, RunState.offer]
      rw [randOuts_snoc s hl true true]
      refine ⟨hd.1, fun o ho => ?_⟩
      simp only [if_true, List.mem_append, List.mem_singleton] at ho
      rcases ho with ho | ho
      · exact hd.2 o ho
      · exact ho
    | prob =>
      simp only [Tab.zMeasure, hp, Option.isSome_some, RunState.offer, if_true]
      rw [randOuts_snoc s hl true, nRand_snoc s true]
      simp only [if_true]
      obtain ⟨hs, ho⟩ := hd
      refine ⟨?_, ?_⟩
      · rw [hs, List.tail_drop]
      · rw [ho, List.range_succ, List.map_append, hs]
        simp [List.headD_eq_head?_getD, List.getD_eq_getElem?_getD]

theorem drawn_congr (d : Det) (script0 : List Bool) (s s' : RunState) (h1 : s'.rand = s.rand) (h2 : s'.outs = s.outs)
    (h3 : s'.script = s.script) (h : Drawn d script0 s) : Drawn d script0 s' := by
  unfold Drawn randOuts nRand at h ⊢
  rw [h1, h2, h3]
  exact h

theorem stepOp_drawn (np n : Nat) (d : Det) (script0 : List Bool) (s s' : RunState) (op : COp) (hinv : RunInv n s)
    (h : Drawn d script0 s) (hs : stepOp np n d s op = some s') : Drawn d script0 s' := by
  obtain ⟨hv, hn, hr⟩ := hinv
  subst hn
  have hm := fun q => measure_drawn d script0 s q h
  cases op with
  | gate1 g q => obtain ⟨-, rfl⟩ := ite_some_eq hs; exact h
  | pdag q => obtain ⟨-, rfl⟩ := ite_some_eq hs; exact h
  | cnot c t => obtain ⟨-, rfl⟩ := ite_some_eq hs; exact h
  | cz c t => obtain ⟨-, rfl⟩ := ite_some_eq hs; exact h
  | wrap gs q => obtain ⟨-, rfl⟩ := ite_some_eq hs; exact h
  | measz q creg => obtain ⟨-, rfl⟩ := ite_some_eq hs; exact hm _
  | ccx c t creg => obtain ⟨-, rfl⟩ := ite_some_eq hs; exact hm _
  | ccz c t creg => obtain ⟨-, rfl⟩ := ite_some_eq hs; exact hm _
  | mcr c t creg =>
    obtain ⟨hq, rfl⟩ := ite_some_eq hs
    -- the reset reads no drawn bit: its measurement is deterministic
    have hp := (pivot_after_condX s hv hr d _ _ hq.1 hq.2).2
    refine drawn_congr d script0 (s.measure d (qIndex np c)).1 _ rfl rfl ?_ (hm _)
    show (RunState.offer _ d ((((s.measure d (qIndex np c)).1.condX (s.measure d (qIndex np c)).2 (qIndex np t)).write creg
        (s.measure d (qIndex np c)).2).t.pivot (qIndex np c)).isSome).2 = (s.measure d (qIndex np c)).1.script
    have : (((s.measure d (qIndex np c)).1.condX (s.measure d (qIndex np c)).2 (qIndex np t)).write creg
        (s.measure d (qIndex np c)).2).t.pivot (qIndex np c) = none := hp
    rw [this]
    exact offer_false_snd _ d

/-- **The outcomes actually drawn.**  After any run: under forced 0 / forced 1 every *random* measurement reported 0 / 1
    and no drawn bit was read; under `"probabilistic"` the random measurements reported, in order, the first `k` drawn
    bits (`false` beyond the end of the script) and exactly those `k` were consumed, `k` = number of random measurements.
    (Deterministic measurements report what the state dictates under every setting: `measurement_setting_semantics`.) -/
theorem stabRun_drawn (ne np : Nat) (d : Det) (script : List Bool) (ops : List COp) (hwf : ∀ op, op ∈ ops → op.WF np)
    (s : RunState) (h : stabRun ne np d script ops = some s) : Drawn d script s := by
  refine (stabRun_induct ne np d script ops hwf (Drawn d script) ⟨rfl, ?_⟩
    (fun op s s' hi => stepOp_drawn np (ne + np) d script s s' op hi) s h).2
  cases d
  · exact ⟨rfl, fun o ho => by simp [randOuts] at ho⟩
  · exact ⟨rfl, fun o ho => by simp [randOuts] at ho⟩
  · exact ⟨rfl, rfl⟩

end DMH
end Graphiq
