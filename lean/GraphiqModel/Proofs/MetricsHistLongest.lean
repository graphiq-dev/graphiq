/-
  MetricsHistLongest.lean — the model's own instance of `nx.dag_longest_path_length` (`Dag.longestPathLen`: memoised
  depth-first evaluation of `dist v = max(0, max_{u→v} dist u + 1)`) meets the recorded networkx specification
  `LongestPathSpec` on every circuit satisfying DagInv with plain operations.  Hence `Metrics.circuitDepth c` — the value the
  driver prints and the harness compares with the implementation's `depth` on every input — equals `Spec.depth` of any schedule,
  with no networkx hypothesis left (C18).
-/
import GraphiqModel.Proofs.MetricsHistDepth
namespace Graphiq
namespace Metrics
open Dag Relation

/-- on a circuit satisfying DagInv with no operation filed under "Input" every node has a `_max_depth` value, and the literal recursion
    reaches it within the model's fuel -/
theorem all_hasDepth_of_noInputKey {c : Dag} {P : Paths} (g : Good c P) (hk : NoInputKey c) :
    ∀ n ∈ c.nodeIds, ∃ d : Int, HasDepth c n d ∧ d + 2 ≤ ((c.nodes.length + 1 : Nat) : Int) := by
  obtain ⟨L, hS⟩ := sched_exists g
  obtain ⟨hd1, hd2⟩ := sched_depth g hS (hS.input_not_key_of hk)
  obtain ⟨hf1, hf2⟩ := sched_fuel g hS
  intro n hn
  cases n with
  | inp r =>
    exact ⟨-1, HasDepth.input (isInputNode_inp g.inv ((g.inv.inp_iff r).mp hn)), by push_cast; omega⟩
  | out r =>
    have hl := (g.inv.out_iff r).mp hn
    exact ⟨_, hd2 r hl, hf2 r hl⟩
  | op i =>
    obtain ⟨o, ho⟩ := mem_nodeIds.mp hn
    obtain ⟨pre, suf, hL⟩ := List.append_of_mem (hS.mem_of_node ho)
    exact ⟨_, hd1 pre _ suf hL, hf1 pre _ suf hL⟩

theorem all_hasDepth {c : Dag} {P : Paths} (g : Good c P) (hpl : AllPlain c) :
    ∀ n ∈ c.nodeIds, ∃ d : Int, HasDepth c n d ∧ d + 2 ≤ ((c.nodes.length + 1 : Nat) : Int) :=
  all_hasDepth_of_noInputKey g (noInputKey_of_allPlain g hpl)

theorem hasDepth_lt_of_edge {c : Dag} (hsrc : ∀ x b, isInputNode c b → ¬ c.E x b) {u v : NodeId} (hE : c.E u v)
    {du dv : Int} (hu : HasDepth c u du) (hv : HasDepth c v dv) : du + 1 ≤ dv := by
  cases hv with
  | input hi => exact absurd hE (hsrc u v hi)
  | @node _ d D _ hpred hle _ =>
    obtain ⟨e, he, rfl, rfl⟩ := hE
    have h1 := hu.unique (hpred e he rfl)
    have h2 := hle e he rfl
    omega

theorem lookup_cons_self (v : NodeId) (d : Nat) (m : List (NodeId × Nat)) : ((v, d) :: m).lookup v = some d := by
  simp [List.lookup]

theorem lookup_cons_ne {u v : NodeId} (h : u ≠ v) (d : Nat) (m : List (NodeId × Nat)) : ((v, d) :: m).lookup u = m.lookup u := by
  have : (u == v) = false := by simpa using h
  simp [List.lookup, this]

theorem mem_of_lookup {m : List (NodeId × Nat)} {u : NodeId} {k : Nat} (h : m.lookup u = some k) : (u, k) ∈ m := by
  induction m with
  | nil => simp [List.lookup] at h
  | cons p t ih =>
    obtain ⟨a, b⟩ := p
    by_cases hua : u = a
    · subst hua
      rw [lookup_cons_self] at h
      injection h with h; subst h; simp
    · rw [lookup_cons_ne hua] at h
      exact List.mem_cons_of_mem _ (ih h)

/-- every entry of the memo table is correct: `dist v = _max_depth(v) + 1` -/
def PairsOK (c : Dag) (memo : List (NodeId × Nat)) : Prop := ∀ p ∈ memo, HasDepth c p.1 ((p.2 : Int) - 1)

theorem PairsOK.lookup {c : Dag} {memo : List (NodeId × Nat)} (h : PairsOK c memo) {u : NodeId} {k : Nat}
    (hk : memo.lookup u = some k) : HasDepth c u ((k : Int) - 1) := h _ (mem_of_lookup hk)

theorem mem_preds {c : Dag} {u v : NodeId} : u ∈ ((c.inEdges v).map (·.src)).eraseDups ↔ ∃ e ∈ c.edges, e.dst = v ∧ e.src = u := by
  rw [List.mem_eraseDups, List.mem_map]
  constructor
  · rintro ⟨e, he, rfl⟩
    have he' := List.mem_filter.mp he
    exact ⟨e, he'.1, by simpa using he'.2, rfl⟩
  · rintro ⟨e, he, hd, rfl⟩
    exact ⟨e, by simp [inEdges, he, hd], rfl⟩

/-- **the value stored for `v`**: if the table is correct and has an entry for every predecessor of `v`, then
    `max(0, max over the predecessors u of dist u + 1)` is `_max_depth(v) + 1` -/
theorem dist_value {c : Dag} (hsrc : ∀ x b, isInputNode c b → ¬ c.E x b) {memo : List (NodeId × Nat)} (hm : PairsOK c memo)
    {v : NodeId} (hsome : ∀ u ∈ ((c.inEdges v).map (·.src)).eraseDups, (memo.lookup u).isSome = true) {d : Int}
    (hd : HasDepth c v d) :
    HasDepth c v (((((c.inEdges v).map (·.src)).eraseDups.foldl
      (fun acc u => max acc (((memo.lookup u).getD 0) + 1)) 0 : Nat) : Int) - 1) := by
  obtain ⟨m1, m2, m3⟩ := foldl_max_nat (fun u => ((memo.lookup u).getD 0) + 1) ((c.inEdges v).map (·.src)).eraseDups 0
  cases hd with
  | input hi =>
    have hnil : c.inEdges v = [] := by
      apply List.eq_nil_iff_forall_not_mem.mpr
      intro e he
      have he' := List.mem_filter.mp he
      exact hsrc e.src v hi ⟨e, he'.1, rfl, by simpa using he'.2⟩
    rw [hnil]
    simpa using HasDepth.input hi
  | @node _ dm D hni hpred hle hex =>
    have hentry : ∀ e ∈ c.edges, e.dst = v → (memo.lookup e.src).getD 0 + 1 = (D e + 2).toNat ∧ -1 ≤ D e := by
      intro e he hdst
      obtain ⟨k, hk⟩ := Option.isSome_iff_exists.mp (hsome _ (mem_preds.mpr ⟨e, he, hdst, rfl⟩))
      have h1 := (hm.lookup hk).unique (hpred e he hdst)
      have h2 := (hpred e he hdst).ge
      rw [hk]
      simp only [Option.getD_some]
      omega
    have hfold : ((((c.inEdges v).map (·.src)).eraseDups.foldl
        (fun acc u => max acc (((memo.lookup u).getD 0) + 1)) 0 : Nat) : Int) = dm + 2 := by
      obtain ⟨e0, he0, hd0, hD0⟩ := hex
      have hge := m2 _ (mem_preds.mpr ⟨e0, he0, hd0, rfl⟩)
      obtain ⟨q1, q2⟩ := hentry e0 he0 hd0
      have hle' : ((c.inEdges v).map (·.src)).eraseDups.foldl
          (fun acc u => max acc (((memo.lookup u).getD 0) + 1)) 0 ≤ (dm + 2).toNat := by
        rcases m3 with h0 | ⟨x, hx, hxe⟩
        · rw [h0]; omega
        · rw [← hxe]
          obtain ⟨e, he, hdst, rfl⟩ := mem_preds.mp hx
          obtain ⟨r1, r2⟩ := hentry e he hdst
          have := hle e he hdst
          rw [r1]; omega
      omega
    rw [hfold]
    have : dm + 2 - 1 = dm + 1 := by omega
    rw [this]
    exact HasDepth.node D hni hpred hle hex

section visit
variable {c : Dag} (hsrc : ∀ x b, isInputNode c b → ¬ c.E x b) (hall : ∀ n ∈ c.nodeIds, ∃ d : Int, HasDepth c n d)
  (hnodes : ∀ a b, c.E a b → a ∈ c.nodeIds)
include hsrc hall hnodes

omit hsrc hnodes in
theorem visitFold_spec (fuel : Nat)
    (ih : ∀ (memo : List (NodeId × Nat)) (v : NodeId) (d : Int), PairsOK c memo → v ∈ c.nodeIds → HasDepth c v d → d + 2 ≤ (fuel : Int) →
      PairsOK c (distVisit c fuel memo v) ∧ (∀ u k, memo.lookup u = some k → (distVisit c fuel memo v).lookup u = some k) ∧
      ((distVisit c fuel memo v).lookup v).isSome = true) :
    ∀ (us : List NodeId) (memo : List (NodeId × Nat)), PairsOK c memo →
      (∀ u ∈ us, u ∈ c.nodeIds ∧ ∀ d, HasDepth c u d → d + 2 ≤ (fuel : Int)) →
      PairsOK c (us.foldl (fun m u => distVisit c fuel m u) memo) ∧
      (∀ u k, memo.lookup u = some k → (us.foldl (fun m u => distVisit c fuel m u) memo).lookup u = some k) ∧
      (∀ u ∈ us, ((us.foldl (fun m u => distVisit c fuel m u) memo).lookup u).isSome = true) := by
  intro us
  induction us with
  | nil => intro memo hm _; exact ⟨hm, fun _ _ h => h, by simp⟩
  | cons u rest ihl =>
    intro memo hm hus
    obtain ⟨hun, hub⟩ := hus u (by simp)
    obtain ⟨du, hdu⟩ := hall u hun
    obtain ⟨a1, a2, a3⟩ := ih memo u du hm hun hdu (hub du hdu)
    obtain ⟨b1, b2, b3⟩ := ihl (distVisit c fuel memo u) a1 (fun x hx => hus x (List.mem_cons_of_mem _ hx))
    rw [List.foldl_cons]
    refine ⟨b1, fun x k h => b2 x k (a2 x k h), ?_⟩
    intro x hx
    rcases List.mem_cons.mp hx with rfl | hx
    · obtain ⟨k, hk⟩ := Option.isSome_iff_exists.mp a3
      rw [b2 x k hk]; rfl
    · exact b3 x hx

/-- **one visit**: with enough fuel, visiting `v` keeps the table correct, keeps every entry, and leaves an entry for `v` -/
theorem distVisit_spec : ∀ (fuel : Nat) (memo : List (NodeId × Nat)) (v : NodeId) (d : Int), PairsOK c memo → v ∈ c.nodeIds →
    HasDepth c v d → d + 2 ≤ (fuel : Int) →
    PairsOK c (distVisit c fuel memo v) ∧ (∀ u k, memo.lookup u = some k → (distVisit c fuel memo v).lookup u = some k) ∧
    ((distVisit c fuel memo v).lookup v).isSome = true := by
  intro fuel
  induction fuel with
  | zero => intro memo v d _ _ hd hf; have := hd.ge; omega
  | succ f ih =>
    intro memo v d hm hv hd hf
    unfold distVisit
    by_cases hlk : (memo.lookup v).isSome = true
    · rw [if_pos hlk]; exact ⟨hm, fun _ _ h => h, hlk⟩
    · rw [if_neg hlk]
      simp only
      have hnone : memo.lookup v = none := by
        cases h : memo.lookup v with
        | none => rfl
        | some k => rw [h] at hlk; simp at hlk
      -- the predecessors
      have hpreds : ∀ u ∈ ((c.inEdges v).map (·.src)).eraseDups, c.E u v := by
        intro u hu
        obtain ⟨e, he, hd', hs⟩ := mem_preds.mp hu
        exact ⟨e, he, hs, hd'⟩
      have hus : ∀ u ∈ ((c.inEdges v).map (·.src)).eraseDups, u ∈ c.nodeIds ∧ ∀ du, HasDepth c u du → du + 2 ≤ (f : Int) := by
        intro u hu
        refine ⟨hnodes u v (hpreds u hu), fun du hdu => ?_⟩
        have := hasDepth_lt_of_edge hsrc (hpreds u hu) hdu hd
        push_cast at hf; omega
      obtain ⟨b1, b2, b3⟩ := visitFold_spec hall f ih _ memo hm hus
      generalize hm1 : (((c.inEdges v).map (·.src)).eraseDups.foldl (fun m u => distVisit c f m u) memo) = memo1 at b1 b2 b3
      have hval := dist_value hsrc b1 b3 hd
      refine ⟨?_, ?_, by rw [lookup_cons_self]; rfl⟩
      · intro p hp
        rcases List.mem_cons.mp hp with rfl | hp
        · exact hval
        · exact b1 p hp
      · intro u k hk
        have huv : u ≠ v := by
          intro e; subst e; rw [hnone] at hk; cases hk
        rw [lookup_cons_ne huv]
        exact b2 u k hk

end visit

section table
variable {c : Dag} (hsrc : ∀ x b, isInputNode c b → ¬ c.E x b)
  (hall : ∀ n ∈ c.nodeIds, ∃ d : Int, HasDepth c n d ∧ d + 2 ≤ ((c.nodes.length + 1 : Nat) : Int))
  (hnodes : ∀ a b, c.E a b → a ∈ c.nodeIds)
include hsrc hall hnodes

theorem distTable_spec : PairsOK c c.distTable ∧ ∀ v ∈ c.nodeIds, (c.distTable.lookup v).isSome = true := by
  have hall' : ∀ n ∈ c.nodeIds, ∃ d : Int, HasDepth c n d := fun n hn => by obtain ⟨d, h, _⟩ := hall n hn; exact ⟨d, h⟩
  obtain ⟨a, _, d⟩ := visitFold_spec hall' (c.nodes.length + 1) (distVisit_spec hsrc hall' hnodes _) c.nodeIds []
    (by intro p hp; simp at hp)
    (fun u hu => ⟨hu, fun d hd => by obtain ⟨d', hd', hb⟩ := hall u hu; rw [hd.unique hd']; exact hb⟩)
  exact ⟨a, d⟩

end table

/-- **the model's `longestPathLen` meets the recorded specification of `nx.dag_longest_path_length`** on every circuit
    satisfying DagInv with no operation filed under "Input" -/
theorem longestPathLen_spec_of_noInputKey {c : Dag} {P : Paths} (g : Good c P) (hk : NoInputKey c) : LongestPathSpec c c.longestPathLen := by
  obtain ⟨L, hS⟩ := sched_exists g
  have hsrc := no_inEdge_of_input g hS (hS.input_not_key_of hk)
  have hall := all_hasDepth_of_noInputKey g hk
  have hnodes : ∀ a b, c.E a b → a ∈ c.nodeIds := fun a b h => (E_nodes g.inv h).1
  obtain ⟨hpairs, hsome⟩ := distTable_spec hsrc hall hnodes
  unfold longestPathLen
  obtain ⟨m1, m2, m3⟩ := foldl_max_nat (fun k : Nat => k) (c.distTable.map (·.2)) 0
  have hfold : (c.distTable.map (·.2)).foldl max 0 = (c.distTable.map (·.2)).foldl (fun m r => max m r) 0 := rfl
  rw [hfold]
  constructor
  · rcases m3 with h0 | ⟨k, hk, hke⟩
    · rw [h0]; exact ⟨.op 0, .op 0, Walk.nil _⟩
    · obtain ⟨p, hp, rfl⟩ := List.mem_map.mp hk
      obtain ⟨a, wa⟩ := (hpairs p hp).walk
      have : ((p.2 : Int) - 1 + 1).toNat = p.2 := by omega
      rw [this] at wa
      rw [← hke]
      exact ⟨a, p.1, wa⟩
  · intro a b k w
    by_cases hk : k = 0
    · omega
    · have hb : b ∈ c.nodeIds := by
        cases w with
        | nil => exact absurd rfl hk
        | snoc _ hxb => exact (E_nodes g.inv hxb).2
      obtain ⟨kb, hkb⟩ := Option.isSome_iff_exists.mp (hsome b hb)
      have h1 := w.le_depth hsrc _ (hpairs.lookup hkb)
      have h2 := m2 kb (List.mem_map.mpr ⟨(b, kb), mem_of_lookup hkb, rfl⟩)
      omega

theorem longestPathLen_spec {c : Dag} {P : Paths} (g : Good c P) (hpl : AllPlain c) : LongestPathSpec c c.longestPathLen :=
  longestPathLen_spec_of_noInputKey g (noInputKey_of_allPlain g hpl)

theorem circuitDepth_model_eq_spec_of_noInputKey {c : Dag} {P : Paths} {L : List (NodeId × Op)} (g : Good c P) (hk : NoInputKey c)
    (hS : Sched c P L) (hne : c.nodeIds ≠ []) : Metrics.circuitDepth c = (Spec.depth (L.map (·.2)) : Int) :=
  circuitDepth_eq_spec_sched_of_noInputKey g hk hS hne (longestPathLen_spec_of_noInputKey g hk)

/-- **`CircuitDepth` with the model's own longest-path computation** — the value the driver reports and the harness compares
    with the implementation's on every input — is the largest ASAP layer of the operation list of any schedule: no networkx
    hypothesis left -/
theorem circuitDepth_model_eq_spec {c : Dag} {P : Paths} {L : List (NodeId × Op)} (g : Good c P) (hpl : AllPlain c)
    (hS : Sched c P L) (hne : c.nodeIds ≠ []) : Metrics.circuitDepth c = (Spec.depth (L.map (·.2)) : Int) :=
  circuitDepth_eq_spec_sched g hpl hS hne (longestPathLen_spec g hpl)

/-- without nodes `nx.dag_longest_path_length` is 0 and `depth` returns −1 -/
theorem circuitDepth_of_no_nodes {c : Dag} (h : c.nodeIds = []) : Metrics.circuitDepth c = -1 := by
  unfold Metrics.circuitDepth Dag.depth Dag.longestPathLen Dag.distTable
  rw [h]
  rfl

end Metrics
end Graphiq
