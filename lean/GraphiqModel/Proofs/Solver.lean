/-
  Proofs/Solver.lean — structural facts about the time-reversed solver model that hold by construction, for every target.
  First, for the compound functions of `Model/Solver.lean` (`_time_reversed_measurement`, `_add_photon_absorption`, one round of the
  photon loop, `solve`, `_add_one_qubit_gate`, the replay of a gate list), what a successful run went through (`…_of_ok`,
  `…_ok_iff`): the intermediate states and the equations between them.  Then `Keeps`: a step that keeps the register counts and the ordered list of
  emissions and measure-and-resets (the `Fixed` operations); the primitive steps do, and so do the replay of the inverse circuit and the
  final sign loop of `solve` (`solve_keeps`).  What the photon loop records is in `Proofs/SolverSteps.lean`.
-/
import GraphiqModel.Model.Solver
import GraphiqModel.Proofs.Loop
namespace Graphiq.Solver
open Graphiq Graphiq.Cliff

theorem dropWhile_head_false {α : Type} (p : α → Bool) (l : List α) (a : α) (r : List α) (h : l.dropWhile p = a :: r) :
    p a = false := by
  have := List.head?_dropWhile_not p l
  rw [h] at this
  exact this

theorem mem_takeWhile_true {α : Type} (p : α → Bool) (l : List α) (a : α) (h : a ∈ l.takeWhile p) : p a = true := by
  induction l with
  | nil => simp at h
  | cons x rest ih =>
    by_cases hx : p x = true
    · rw [List.takeWhile_cons_of_pos hx] at h
      rcases List.mem_cons.mp h with e | e
      · rw [e]; exact hx
      · exact ih e
    · rw [List.takeWhile_cons_of_neg hx] at h; simp at h

/-- `_add_one_qubit_gate`: either the first operation on wire `q` is a wrapper, which absorbs the gate list (and disappears if the
    simplified word is the identity pair), or a new wrapper is put first on the wire (unless it would be the identity pair) -/
theorem addOneQubit_of_ok (s s' : St) (gs : List Gen) (q : Nat) (h : addOneQubit s gs q = .ok s') :
    ∃ g', (∃ pre old rest, s.circ = pre ++ SOp.wrap old q :: rest ∧ (∀ o, o ∈ pre → o.touches s.np q = false) ∧
        simplify (old ++ gs) = some g' ∧
        s' = { s with circ := if g' = identityPair then pre ++ rest else pre ++ SOp.wrap g' q :: rest }) ∨
      (simplify gs = some g' ∧ s' = if g' = identityPair then s else { s with circ := SOp.wrap g' q :: s.circ }) := by
  unfold addOneQubit at h
  simp only at h
  have hsplit : s.circ = s.circ.takeWhile (fun o => !o.touches s.np q) ++ s.circ.dropWhile (fun o => !o.touches s.np q) :=
    (List.takeWhile_append_dropWhile).symm
  have hpre : ∀ o, o ∈ s.circ.takeWhile (fun o => !o.touches s.np q) → o.touches s.np q = false := fun o ho => by
    simpa using mem_takeWhile_true _ _ _ ho
  have hpost := dropWhile_head_false (fun o => !o.touches s.np q) s.circ
  generalize s.circ.takeWhile (fun o => !o.touches s.np q) = pre at h hsplit hpre
  generalize s.circ.dropWhile (fun o => !o.touches s.np q) = post at h hsplit hpost
  split at h
  · next old q' rest =>
    have hqq : q' = q := by simpa [SOp.touches] using hpost _ _ rfl
    subst hqq
    split at h
    · cases h
    · next g' hs =>
      refine ⟨g', Or.inl ⟨pre, old, rest, hsplit, hpre, hs, ?_⟩⟩
      split at h
      · next hid => injection h with h; rw [if_pos hid]; exact h.symm
      · next hid => injection h with h; rw [if_neg hid]; exact h.symm
  · split at h
    · cases h
    · next g' hs =>
      refine ⟨g', Or.inr ⟨hs, ?_⟩⟩
      split at h
      · next hid => injection h with h; rw [if_pos hid]; exact h.symm
      · next hid => injection h with h; rw [if_neg hid]; exact h.symm

theorem timeReversedMeasurement_ok_iff (s s' : St) (photon : Nat) :
    timeReversedMeasurement s photon = .ok s' ↔
      ∃ g gs e es s1 s2 s3,
        ((List.range s.t.n).filter fun i => (List.range s.np).all fun j => !(s.t.row i).x j && !(s.t.row i).z j) = g :: gs ∧
        emitterIndices s g = e :: es ∧ allEmittersToZ s g true = .ok s1 ∧ transformGeneratorEmitters s1 g e = .ok s2 ∧
        fixSign s2 g e = .ok s3 ∧
        s' = ({ s3.gate (.H (s.np + e)) with circ := .mcr e photon :: s3.circ } : St).gate (.CNOT (s.np + e) photon) := by
  constructor
  · intro h
    unfold timeReversedMeasurement at h
    simp only at h
    split at h
    · cases h
    · next g gs hg =>
      split at h
      · cases h
      · next e es he =>
        split at h
        · cases h
        · next s1 h1 =>
          split at h
          · cases h
          · next s2 h2 =>
            split at h
            · cases h
            · next s3 h3 =>
              injection h with h
              exact ⟨g, gs, e, es, s1, s2, s3, hg, he, h1, h2, h3, h.symm⟩
  · rintro ⟨g, gs, e, es, s1, s2, s3, hc, hem, h1, h2, h3, rfl⟩
    unfold timeReversedMeasurement
    simp only [hc, hem, h1, h2, h3]
    rfl

theorem addPhotonAbsorption_ok_iff (s s' : St) (photon : Nat) :
    addPhotonAbsorption s photon = .ok s' ↔
      ∃ g s1 e es s2 s3 s4 s6,
        ((List.range s.t.n).reverse.filter fun i => s.t.leftmost i == some photon).head? = some g ∧
        addOneQubit (changeToZ s g photon).1 (changeToZ s g photon).2 photon = .ok s1 ∧
        emitterIndices s1 g = e :: es ∧ allEmittersToZ s1 g false = .ok s2 ∧ transformGeneratorEmitters s2 g e = .ok s3 ∧
        fixSign s3 g e = .ok s4 ∧
        s6 = ({ s4 with circ := .emit e photon :: s4.circ } : St).gate (.CNOT (s.np + e) photon) ∧
        s' = { s6 with t := ((((List.range s6.t.n).filter fun i => s6.t.ptype i photon = 3).filter fun i => i ≠ g).foldl
          (fun acc i => acc.rowSum g i) s6.t).norm } := by
  constructor
  · intro h
    unfold addPhotonAbsorption at h
    split at h
    · cases h
    · next g hg =>
      simp only at h
      split at h
      · cases h
      · next s1 h1 =>
        split at h
        · cases h
        · next e es he =>
          split at h
          · cases h
          · next s2 h2 =>
            split at h
            · cases h
            · next s3 h3 =>
              split at h
              · cases h
              · next s4 h4 =>
                injection h with h
                exact ⟨g, s1, e, es, s2, s3, s4, _, hg, h1, he, h2, h3, h4, rfl, h.symm⟩
  · rintro ⟨g, s1, e, es, s2, s3, s4, s6, hsel, h1, hem, h2, h3, h4, rfl, rfl⟩
    unfold addPhotonAbsorption
    rw [hsel]
    simp only [h1, hem, h2, h3, h4]

/-- the body of `for j in range(n_photon, 0, -1)` (the part of `photonLoop` before the recursive call).  The model file is a fixed
    transcription of the Python and writes its loop bodies inline; the proofs need them as functions, so `photonRound`, `gateStep` and
    `withEmitters` repeat them here and `photonLoop_cons`, `addGatesFromStr_eq`, `solve_ok_iff` tie each copy to the model. -/
def photonRound (s : St) (j : Nat) : Except Err St :=
  match s.t.rref with
  | .error e => .error e
  | .ok (t1, _) =>
    match t1.heightFuncList with
    | .error e => .error e
    | .ok hl =>
      let hl0 : List Int := 0 :: hl
      let s1 : St := { s with t := t1 }
      let step : Except Err St :=
        if hl0.getD j 0 < hl0.getD (j - 1) 0 then
          match timeReversedMeasurement s1 (j - 1) with
          | .error e => .error e
          | .ok s2 =>
            match s2.t.rref with
            | .error e => .error e
            | .ok (t2, _) => .ok { s2 with t := t2 }
        else .ok s1
      match step with
      | .error e => .error e
      | .ok s3 => addPhotonAbsorption s3 (j - 1)

theorem photonLoop_cons (s : St) (j : Nat) (rest : List Nat) :
    photonLoop s (j :: rest) = match photonRound s j with
      | .error e => .error e
      | .ok s4 => photonLoop s4 rest := by
  simp only [photonLoop, photonRound]
  cases s.t.rref with
  | error e => rfl
  | ok v =>
    obtain ⟨t1, b⟩ := v
    simp only
    cases t1.heightFuncList with
    | error e => rfl
    | ok hl =>
      simp only
      by_cases hc : (0 :: hl).getD j 0 < (0 :: hl).getD (j - 1) 0
      · simp only [if_pos hc]
        cases timeReversedMeasurement { s with t := t1 } (j - 1) with
        | error e => rfl
        | ok s2 =>
          simp only
          cases s2.t.rref with
          | error e => rfl
          | ok w =>
            obtain ⟨t2, b2⟩ := w
            simp only
            cases addPhotonAbsorption { s2 with t := t2 } (j - 1) <;> rfl
      · simp only [if_neg hc]
        cases addPhotonAbsorption { s with t := t1 } (j - 1) <;> rfl

theorem photonLoop_succ (s : St) (m : Nat) :
    photonLoop s ((List.range (m + 1)).reverse.map (· + 1)) = match photonRound s (m + 1) with
      | .error e => .error e
      | .ok s4 => photonLoop s4 ((List.range m).reverse.map (· + 1)) := by
  rw [List.range_succ, List.reverse_append, List.reverse_singleton, List.singleton_append, List.map_cons, photonLoop_cons]

theorem photonRound_ok_iff (s s' : St) (j : Nat) :
    photonRound s j = .ok s' ↔
      ∃ t1 brs hl s3, s.t.rref = .ok (t1, brs) ∧ t1.heightFuncList = .ok hl ∧
        ((¬ (0 :: hl).getD j 0 < (0 :: hl).getD (j - 1) 0 ∧ s3 = { s with t := t1 }) ∨
         ((0 :: hl).getD j 0 < (0 :: hl).getD (j - 1) 0 ∧ ∃ s2 t2 brs2, timeReversedMeasurement { s with t := t1 } (j - 1) = .ok s2 ∧
            s2.t.rref = .ok (t2, brs2) ∧ s3 = { s2 with t := t2 })) ∧
        addPhotonAbsorption s3 (j - 1) = .ok s' := by
  constructor
  · intro h
    simp only [photonRound] at h
    split at h
    · cases h
    · next t1 brs h1 =>
      split at h
      · cases h
      · next hl h2 =>
        split at h
        · cases h
        · next s3 h3 =>
          refine ⟨t1, brs, hl, s3, h1, h2, ?_, h⟩
          split at h3
          · next hc =>
            split at h3
            · cases h3
            · next s2 h5 =>
              split at h3
              · cases h3
              · next t2 brs2 h6 =>
                injection h3 with h3
                exact Or.inr ⟨hc, s2, t2, brs2, h5, h6, h3.symm⟩
          · next hc =>
            injection h3 with h3
            exact Or.inl ⟨hc, h3.symm⟩
  · rintro ⟨t1, brs, hl, s3, h1, h2, ⟨hc, rfl⟩ | ⟨hc, s2, t2, brs2, h3, h4, rfl⟩, h5⟩
    · simp only [photonRound, h1, h2, if_neg hc]
      exact h5
    · simp only [photonRound, h1, h2, if_pos hc, h3, h4]
      exact h5

/-- the target with `ne` emitter qubits in |0⟩ appended: the tableau `solve` starts from -/
def withEmitters (target : STab) (ne : Nat) : STab :=
  (List.range ne).foldl (fun (acc : STab) _ => (acc.insertQubit acc.n).norm) target

theorem withEmitters_succ (t : STab) (k : Nat) :
    withEmitters t (k + 1) = ((withEmitters t k).insertQubit (withEmitters t k).n).norm := by
  unfold withEmitters
  rw [List.range_succ, List.foldl_append]; rfl

theorem withEmitters_n (t : STab) (k : Nat) : (withEmitters t k).n = t.n + k := by
  induction k with
  | zero => rfl
  | succ k ih => rw [withEmitters_succ]; show (withEmitters t k).n + 1 = _; rw [ih]; omega

theorem solve_ok_iff (target : STab) (s : St) :
    solve target = .ok s ↔
    ∃ ne s1 t2 brs tz inv s3, determineNEmitters target = .ok ne ∧
      photonLoop { np := target.n, ne := ne, t := withEmitters target ne, circ := [] }
        ((List.range target.n).reverse.map (· + 1)) = .ok s1 ∧
      s1.t.rref = .ok (t2, brs) ∧ t2.inverseCircuit = .ok (tz, inv) ∧ addGatesFromStr { s1 with t := t2 } inv = .ok s3 ∧
      (List.range ne).foldlM (fun (acc : St) i =>
        if (acc.t.row (target.n + i)).r then addOneQubit (acc.gate (.X (target.n + i))) [.X] (target.n + i) else .ok acc) s3 = .ok s ∧
      -- the two assertions of `solve` on the photon block of the last echelon form
      (((List.range target.n).all fun i => (List.range target.n).all fun j => !(t2.row i).x j) &&
        ((List.range target.n).all fun i => (List.range target.n).all fun j => (t2.row i).z j == (i == j))) = true := by
  constructor
  · intro h
    unfold solve at h
    split at h
    · cases h
    · next ne h0 =>
      simp only at h
      split at h
      · cases h
      · next s1 h1 =>
        split at h
        · cases h
        · next t2 brs h2 =>
          split at h
          · cases h
          · next hok =>
            split at h
            · cases h
            · next tz inv h3 =>
              split at h
              · cases h
              · next s3 h4 => exact ⟨ne, s1, t2, brs, tz, inv, s3, h0, h1, h2, h3, h4, h, by simpa using hok⟩
  · rintro ⟨ne, s1, t2, brs, tz, inv, s3, h0, h1, h2, h3, h4, h5, hok⟩
    have h1' := h1
    unfold withEmitters at h1'
    unfold solve
    simp only [h0, h1', h2, hok, h3, h4, Bool.not_true, Bool.false_eq_true, if_false]
    exact h5

theorem changeToZ_of_bits (s : St) (row col : Nat) :
    changeToZ s row col =
      if (s.t.row row).x col then
        if (s.t.row row).z col then ((s.gate (.Pdag col)).gate (.H col), [.P, .H]) else (s.gate (.H col), [.H])
      else (s, []) := by
  unfold changeToZ STab.ptype
  cases (s.t.row row).x col <;> cases (s.t.row row).z col <;> rfl

theorem changeToZ_cases (s : St) (row col : Nat) :
    changeToZ s row col = (s.gate (.H col), [.H]) ∨
    changeToZ s row col = ((s.gate (.Pdag col)).gate (.H col), [.P, .H]) ∨
    changeToZ s row col = (s, []) := by
  unfold changeToZ
  split
  · exact Or.inl rfl
  · exact Or.inr (Or.inl rfl)
  · exact Or.inr (Or.inr rfl)

/-- the body of the loop of `_add_gates_from_str` -/
def gateStep (acc : St) (g : Gate) : Except Err St :=
  match g with
  | .H q => (addOneQubit acc [.H] q).map fun (a : St) => a.gate (.H q)
  | .P q => (addOneQubit acc [.Z, .P] q).map fun (a : St) => a.gate (.P q)
  | .X q => (addOneQubit acc [.X] q).map fun (a : St) => a.gate (.X q)
  | .CNOT c t => if acc.np ≤ c ∧ acc.np ≤ t then .ok (addEmitterCnot acc (c - acc.np) (t - acc.np)) else .error .key
  | .CZ c t =>
    if acc.np ≤ c ∧ acc.np ≤ t then
      match addOneQubit acc [.H] t with
      | .error e => .error e
      | .ok a1 =>
        let a2 := addEmitterCnot (a1.gate (.H t)) (c - acc.np) (t - acc.np)
        (addOneQubit a2 [.H] t).map fun (a : St) => a.gate (.H t)
    else .error .key
  | _ => .error .value

theorem addGatesFromStr_eq (s : St) (gl : List Gate) : addGatesFromStr s gl = gl.foldlM gateStep s := rfl

/-- the gate list `_add_gates_from_str` records for a one-qubit tableau gate -/
def wrapOf : Gate → Option (Nat × List Gen)
  | .H q => some (q, [.H]) | .P q => some (q, [.Z, .P]) | .X q => some (q, [.X]) | _ => none

theorem gateStep_of_ok (acc a' : St) (g : Gate) (h : gateStep acc g = .ok a') :
    (∃ q gs a1, wrapOf g = some (q, gs) ∧ addOneQubit acc gs q = .ok a1 ∧ a' = a1.gate g) ∨
    (∃ c t, g = .CNOT c t ∧ acc.np ≤ c ∧ acc.np ≤ t ∧ a' = addEmitterCnot acc (c - acc.np) (t - acc.np)) ∨
    (∃ c t a1 a3, g = .CZ c t ∧ acc.np ≤ c ∧ acc.np ≤ t ∧ addOneQubit acc [.H] t = .ok a1 ∧
      addOneQubit (addEmitterCnot (a1.gate (.H t)) (c - acc.np) (t - acc.np)) [.H] t = .ok a3 ∧ a' = a3.gate (.H t)) := by
  have one : ∀ (b : St) (q : Nat) (gs : List Gen) (G : Gate), (addOneQubit b gs q).map (fun (a : St) => a.gate G) = .ok a' →
      ∃ a1, addOneQubit b gs q = .ok a1 ∧ a' = a1.gate G := by
    intro b q gs G h
    cases h1 : addOneQubit b gs q with
    | error e => rw [h1] at h; cases h
    | ok a1 => rw [h1] at h; injection h with h; exact ⟨a1, rfl, h.symm⟩
  unfold gateStep at h
  cases g with
  | H q => obtain ⟨a1, h1, e⟩ := one acc q _ _ h; exact Or.inl ⟨q, _, a1, rfl, h1, e⟩
  | P q => obtain ⟨a1, h1, e⟩ := one acc q _ _ h; exact Or.inl ⟨q, _, a1, rfl, h1, e⟩
  | X q => obtain ⟨a1, h1, e⟩ := one acc q _ _ h; exact Or.inl ⟨q, _, a1, rfl, h1, e⟩
  | CNOT c t =>
    simp only at h
    split at h
    · next hb => injection h with h; exact Or.inr (Or.inl ⟨c, t, rfl, hb.1, hb.2, h.symm⟩)
    · cases h
  | CZ c t =>
    simp only at h
    split at h
    · next hb =>
      split at h
      · cases h
      · next a1 h1 =>
        obtain ⟨a3, h3, e⟩ := one _ t _ _ h
        exact Or.inr (Or.inr ⟨c, t, a1, a3, rfl, hb.1, hb.2, h1, h3, e⟩)
    · cases h
  | Pdag q => cases h
  | Y q => cases h
  | Z q => cases h
  | I q => cases h

def emitCount (p : Nat) (c : List SOp) : Nat := c.countP fun o => match o with | .emit _ q => q == p | _ => false

def isEmit (p : Nat) : SOp → Bool
  | .emit _ q => q == p
  | _ => false

theorem emitCount_eq (p : Nat) (c : List SOp) : emitCount p c = c.countP (isEmit p) := by
  unfold emitCount; congr 1

/-- the operations the solver labels `Fixed`: emissions and measure-and-resets -/
def isFixed : SOp → Bool
  | .emit _ _ => true
  | .mcr _ _ => true
  | _ => false

def fixedOps (c : List SOp) : List SOp := c.filter isFixed

theorem fixedOps_append (a b : List SOp) : fixedOps (a ++ b) = fixedOps a ++ fixedOps b := List.filter_append ..

theorem fixedOps_cons_of_not (o : SOp) (c : List SOp) (ho : isFixed o = false) : fixedOps (o :: c) = fixedOps c :=
  List.filter_cons_of_neg (by simp [ho])

theorem countP_fixedOps (φ : SOp → Bool) (hφ : ∀ o, φ o = true → isFixed o = true) (c : List SOp) :
    (fixedOps c).countP φ = c.countP φ := by
  rw [fixedOps, List.countP_filter]
  congr 1
  funext o
  cases h : φ o
  · rfl
  · rw [hφ o h]; rfl

theorem emitCount_fixedOps (p : Nat) (c : List SOp) : emitCount p c = (fixedOps c).countP (isEmit p) := by
  rw [emitCount_eq, countP_fixedOps]
  intro o h
  cases o <;> first | rfl | cases h

/-- what a helper may change: the tableau and the circuit, but neither the register counts nor the `Fixed` operations -/
structure Keeps (s s' : St) : Prop where
  np_eq : s'.np = s.np
  ne_eq : s'.ne = s.ne
  fixed : fixedOps s'.circ = fixedOps s.circ

theorem Keeps.emits {s s' : St} (h : Keeps s s') (p : Nat) : emitCount p s'.circ = emitCount p s.circ := by
  rw [emitCount_fixedOps, emitCount_fixedOps, h.fixed]

theorem Keeps.refl (s : St) : Keeps s s := ⟨rfl, rfl, rfl⟩
theorem Keeps.trans {a b c : St} (h1 : Keeps a b) (h2 : Keeps b c) : Keeps a c :=
  ⟨h2.np_eq.trans h1.np_eq, h2.ne_eq.trans h1.ne_eq, h2.fixed.trans h1.fixed⟩

theorem keeps_gate (s : St) (g : Gate) : Keeps s (s.gate g) := ⟨rfl, rfl, rfl⟩

theorem keeps_cons (s : St) (o : SOp) (ho : isFixed o = false) : Keeps s { s with circ := o :: s.circ } :=
  ⟨rfl, rfl, fixedOps_cons_of_not o s.circ ho⟩

theorem keeps_addOneQubit (s s' : St) (gs : List Gen) (q : Nat) (h : addOneQubit s gs q = .ok s') : Keeps s s' := by
  obtain ⟨g', ⟨pre, old, rest, hc, _, _, rfl⟩ | ⟨_, rfl⟩⟩ := addOneQubit_of_ok s s' gs q h
  · refine ⟨rfl, rfl, ?_⟩
    show fixedOps (if g' = identityPair then pre ++ rest else pre ++ SOp.wrap g' q :: rest) = fixedOps s.circ
    rw [hc]
    split <;> simp only [fixedOps_append, fixedOps_cons_of_not (.wrap _ q) _ rfl]
  · split
    · exact Keeps.refl s
    · exact keeps_cons s _ rfl

theorem keeps_changeToZ (s : St) (row col : Nat) : Keeps s (changeToZ s row col).1 := by
  unfold changeToZ
  split
  · exact keeps_gate s _
  · exact (keeps_gate s _).trans (keeps_gate _ _)
  · exact Keeps.refl s

theorem keeps_addEmitterCnot (s : St) (c t : Nat) : Keeps s (addEmitterCnot s c t) :=
  (keeps_gate s _).trans (keeps_cons _ _ rfl)

theorem keeps_foldlM {α : Type} (f : St → α → Except Err St) (hf : ∀ s x s', f s x = .ok s' → Keeps s s')
    (l : List α) (s s' : St) (h : l.foldlM f s = .ok s') : Keeps s s' :=
  Loop.foldlM_inv (Keeps s) (fun a x a' _ ha hx => ha.trans (hf a x a' hx)) (Keeps.refl s) h

theorem keeps_gateStep (s : St) (g : Gate) (s' : St) (h : gateStep s g = .ok s') : Keeps s s' := by
  rcases gateStep_of_ok s s' g h with ⟨q, gs, a1, _, h1, rfl⟩ | ⟨c, t, _, _, _, rfl⟩ | ⟨c, t, a1, a3, _, _, _, h1, h3, rfl⟩
  · exact (keeps_addOneQubit s a1 gs q h1).trans (keeps_gate a1 g)
  · exact keeps_addEmitterCnot s _ _
  · exact ((((keeps_addOneQubit s a1 _ t h1).trans (keeps_gate a1 _)).trans (keeps_addEmitterCnot _ _ _)).trans
      (keeps_addOneQubit _ a3 _ t h3)).trans (keeps_gate a3 _)

theorem keeps_addGatesFromStr (s s' : St) (gl : List Gate) (h : addGatesFromStr s gl = .ok s') : Keeps s s' :=
  keeps_foldlM gateStep keeps_gateStep gl s s' h

def absorbs (p : Nat) (js : List Nat) : Nat := js.countP fun j => j - 1 == p

theorem absorbs_loop (np p : Nat) : absorbs p ((List.range np).reverse.map (· + 1)) = if p < np then 1 else 0 := by
  unfold absorbs
  rw [List.countP_map]
  have : ((fun j => j - 1 == p) ∘ fun x => x + 1) = fun x => x == p := by funext x; simp
  rw [this, List.countP_reverse]
  induction np with
  | zero => simp
  | succ k ih =>
    rw [List.range_succ, List.countP_append, ih]
    by_cases h1 : p < k
    · have : ¬ (k = p) := by omega
      have h2 : p < k + 1 := by omega
      simp [h1, h2, this]
    · by_cases h2 : k = p
      · subst h2; simp
      · have h3 : ¬ (p < k + 1) := by omega
        simp [h1, h2, h3]

theorem solve_keeps (target : STab) (s : St) (h : solve target = .ok s) :
    ∃ ne s1, determineNEmitters target = .ok ne ∧
      photonLoop { np := target.n, ne := ne, t := withEmitters target ne, circ := [] }
        ((List.range target.n).reverse.map (· + 1)) = .ok s1 ∧ Keeps s1 s := by
  obtain ⟨ne, s1, t2, _, _, inv, s3, h0, h1, _, _, h4, h5, _⟩ := (solve_ok_iff target s).1 h
  have k5 : Keeps s3 s := by
    refine keeps_foldlM _ (fun acc i acc' hacc => ?_) _ s3 s h5
    split at hacc
    · exact (keeps_gate acc _).trans (keeps_addOneQubit _ acc' _ _ hacc)
    · injection hacc with hacc; rw [← hacc]; exact Keeps.refl acc
  have k := (keeps_addGatesFromStr _ s3 inv h4).trans k5
  exact ⟨ne, s1, h0, h1, k.np_eq, k.ne_eq, k.fixed⟩

end Graphiq.Solver
