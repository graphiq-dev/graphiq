/-
  Proofs/HilbertDimAdjoint.lean — the iterated partial trace `ptraceList` as an operation on matrices.

  It is a module map over the operators on the kept qubits, `Tr_rem((A ⊗ 1) M) = A · Tr_rem M` (`embedOp rem A` = `A ⊗ 1`, the
  operator counterpart of `embedCols`).  The trace of that is the *defining property* of the partial trace — adjoint, for the
  trace pairing, of the embedding `A ↦ A ⊗ 1` — which determines it uniquely.
-/
import GraphiqModel.Proofs.HilbertDimSite
import GraphiqModel.Proofs.TabSpecRemove
namespace Graphiq
namespace Hilbert
open Matrix PRow TabSpec Tab

theorem ptraceSite_adjoint {m : Nat} (q : Nat) (hq : q ≤ m) (M : Matrix (Bits (m + 1)) (Bits (m + 1)) ℂ)
    (A : Matrix (Bits m) (Bits m) ℂ) :
    Matrix.trace (ptraceSite q M * A) = Matrix.trace (M * insSite q A 1) := by
  rw [Matrix.trace_mul_comm, ← ptraceSite_insSite_mul q hq, trace_ptraceSite q hq, Matrix.trace_mul_comm]

theorem ptraceSite_unique {m : Nat} (q : Nat) (hq : q ≤ m) (M : Matrix (Bits (m + 1)) (Bits (m + 1)) ℂ)
    (N : Matrix (Bits m) (Bits m) ℂ) (h : ∀ A, Matrix.trace (N * A) = Matrix.trace (M * insSite q A 1)) :
    N = ptraceSite q M :=
  Matrix.ext_iff_trace_mul_right.mpr (fun A => by rw [h A, ptraceSite_adjoint q hq])

/-- partial trace over the sites listed in `rem` (each index refers to the string *before* its removal; `partial_trace`
    lists them in descending order) -/
noncomputable def ptraceList {m : Nat} : (rem : List Nat) →
    Matrix (Bits (m + rem.length)) (Bits (m + rem.length)) ℂ → Matrix (Bits m) (Bits m) ℂ
  | [], M => M
  | q :: rest, M => ptraceList rest (ptraceSite q M)

theorem ptraceList_add {m : Nat} (rem : List Nat) (M N : Matrix (Bits (m + rem.length)) (Bits (m + rem.length)) ℂ) :
    ptraceList rem (M + N) = ptraceList rem M + ptraceList rem N := by
  induction rem with
  | nil => rfl
  | cons q rest ih =>
    show ptraceList rest (ptraceSite q (M + N)) = _
    rw [ptraceSite_add, ih]; rfl

theorem ptraceList_smul {m : Nat} (rem : List Nat) (c : ℂ) (M : Matrix (Bits (m + rem.length)) (Bits (m + rem.length)) ℂ) :
    ptraceList rem (c • M) = c • ptraceList rem M := by
  induction rem with
  | nil => rfl
  | cons q rest ih =>
    show ptraceList rest (ptraceSite q (c • M)) = _
    rw [ptraceSite_smul, ih]; rfl

theorem ptraceList_conjTranspose {m : Nat} (rem : List Nat)
    (M : Matrix (Bits (m + rem.length)) (Bits (m + rem.length)) ℂ) : (ptraceList rem M)ᴴ = ptraceList rem Mᴴ := by
  induction rem with
  | nil => rfl
  | cons q rest ih =>
    show (ptraceList rest (ptraceSite q M))ᴴ = ptraceList rest (ptraceSite q Mᴴ)
    rw [ih, ptraceSite_conjTranspose]

theorem trace_ptraceList {m : Nat} (rem : List Nat) (hlt : ∀ q, q ∈ rem → q < m + rem.length)
    (hpw : rem.Pairwise (· > ·)) (M : Matrix (Bits (m + rem.length)) (Bits (m + rem.length)) ℂ) :
    Matrix.trace (ptraceList rem M) = Matrix.trace M := by
  induction rem with
  | nil => rfl
  | cons q rest ih =>
    have hp := List.pairwise_cons.mp hpw
    have hq : q < m + (rest.length + 1) := hlt q List.mem_cons_self
    show Matrix.trace (ptraceList rest (ptraceSite q M)) = _
    rw [ih (fun q' hq' => by have := hp.1 q' hq'; omega) hp.2, trace_ptraceSite q (by omega)]

/-- `A ⊗ 1` at the sites of `rem` (the operator counterpart of `embedCols`) -/
noncomputable def embedOp {m : Nat} : (rem : List Nat) → Matrix (Bits m) (Bits m) ℂ →
    Matrix (Bits (m + rem.length)) (Bits (m + rem.length)) ℂ
  | [], A => A
  | q :: rest, A => insSite q (embedOp rest A) 1

theorem ptraceList_embedOp_mul {m : Nat} (rem : List Nat) (hlt : ∀ q, q ∈ rem → q < m + rem.length)
    (hpw : rem.Pairwise (· > ·)) (A : Matrix (Bits m) (Bits m) ℂ)
    (M : Matrix (Bits (m + rem.length)) (Bits (m + rem.length)) ℂ) :
    ptraceList rem (embedOp rem A * M) = A * ptraceList rem M := by
  induction rem with
  | nil => rfl
  | cons q rest ih =>
    have hp := List.pairwise_cons.mp hpw
    have hq : q < m + (rest.length + 1) := hlt q List.mem_cons_self
    show ptraceList rest (ptraceSite q (insSite q (embedOp rest A) 1 * M)) = A * ptraceList rest (ptraceSite q M)
    rw [ptraceSite_insSite_mul q (by omega), ih (fun q' hq' => by have := hp.1 q' hq'; omega) hp.2]

theorem ptraceList_adjoint {m : Nat} (rem : List Nat) (hlt : ∀ q, q ∈ rem → q < m + rem.length)
    (hpw : rem.Pairwise (· > ·)) (M : Matrix (Bits (m + rem.length)) (Bits (m + rem.length)) ℂ)
    (A : Matrix (Bits m) (Bits m) ℂ) :
    Matrix.trace (ptraceList rem M * A) = Matrix.trace (M * embedOp rem A) := by
  rw [Matrix.trace_mul_comm, ← ptraceList_embedOp_mul rem hlt hpw, trace_ptraceList rem hlt hpw, Matrix.trace_mul_comm]

theorem ptraceList_unique {m : Nat} (rem : List Nat) (hlt : ∀ q, q ∈ rem → q < m + rem.length)
    (hpw : rem.Pairwise (· > ·)) (M : Matrix (Bits (m + rem.length)) (Bits (m + rem.length)) ℂ)
    (N : Matrix (Bits m) (Bits m) ℂ) (h : ∀ A, Matrix.trace (N * A) = Matrix.trace (M * embedOp rem A)) :
    N = ptraceList rem M :=
  Matrix.ext_iff_trace_mul_right.mpr (fun A => by rw [h A, ptraceList_adjoint rem hlt hpw])

theorem pauliMat_embedCols {m : Nat} (rem : List Nat) (hlt : ∀ q, q ∈ rem → q < m + rem.length)
    (hpw : rem.Pairwise (· > ·)) (P : PRow) :
    pauliMat (m + rem.length) (embedCols rem P) = embedOp rem (pauliMat m P) := by
  induction rem with
  | nil => rfl
  | cons q rest ih =>
    have hp := List.pairwise_cons.mp hpw
    have hq : q < m + (rest.length + 1) := hlt q List.mem_cons_self
    show pauliMat (m + rest.length + 1) ((embedCols rest P).insertCol q) = insSite q (embedOp rest (pauliMat m P)) 1
    rw [pauliMat_insertCol (m + rest.length) q (by omega), ih (fun q' hq' => by have := hp.1 q' hq'; omega) hp.2]

end Hilbert
end Graphiq
