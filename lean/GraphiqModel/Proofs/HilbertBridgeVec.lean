/-
  Proofs/HilbertBridgeVec.lean — the state-vector view of a stabilizer state: the state of every valid Clifford tableau is
  `|ψ⟩⟨ψ|` for a unit vector `ψ` (`rank_one_of_pure` of Proofs/HilbertPure.lean, in the `outer` / `inner` notation of this
  file), and `ψ` is unique up to a global phase.
-/
import GraphiqModel.Proofs.HilbertBridgeOps
namespace Graphiq
namespace Hilbert
open Matrix

/-- `|ψ⟩⟨ψ|` -/
noncomputable def outer {n : Nat} (ψ : Bits n → ℂ) : DMat n := Matrix.of fun a b => ψ a * star (ψ b)

/-- `⟨ψ|φ⟩` -/
noncomputable def inner {n : Nat} (ψ φ : Bits n → ℂ) : ℂ := ∑ a, star (ψ a) * φ a

theorem rank_one_of_projector_trace_one {n : Nat} (P : DMat n) (h1 : Pᴴ = P) (h2 : P * P = P) (h3 : Matrix.trace P = 1) :
    ∃ ψ : Bits n → ℂ, P = outer ψ ∧ inner ψ ψ = 1 :=
  (rank_one_of_pure P h2 h1 h3).imp fun _ h => ⟨h.1.trans (by ext a b; rfl), h.2⟩

/-- **Global phase.**  Unit vectors with the same projector differ by a phase: `φ = c • ψ` with `c = ⟨ψ|φ⟩`, `|c|² = 1`. -/
theorem outer_eq_phase {n : Nat} (ψ φ : Bits n → ℂ) (h : outer ψ = outer φ) (hψ : inner ψ ψ = 1) (hφ : inner φ φ = 1) :
    ∃ c : ℂ, star c * c = 1 ∧ ∀ a, φ a = c * ψ a := by
  have key : ∀ a, φ a = inner ψ φ * ψ a := by
    intro a
    have h1 : φ a = ∑ b, (outer φ) a b * φ b := by
      show φ a = ∑ b, φ a * star (φ b) * φ b
      rw [Finset.sum_congr rfl (fun b _ => mul_assoc (φ a) (star (φ b)) (φ b)), ← Finset.mul_sum]
      have : ∑ b, star (φ b) * φ b = 1 := hφ
      rw [this, mul_one]
    rw [h1, ← h]
    show ∑ b, ψ a * star (ψ b) * φ b = inner ψ φ * ψ a
    rw [Finset.sum_congr rfl (fun b _ => mul_assoc (ψ a) (star (ψ b)) (φ b)), ← Finset.mul_sum]
    unfold inner
    ring
  refine ⟨inner ψ φ, ?_, key⟩
  have : inner φ φ = star (inner ψ φ) * inner ψ φ * inner ψ ψ := by
    have e : ∀ a, star (φ a) * φ a = (star (inner ψ φ) * inner ψ φ) * (star (ψ a) * ψ a) := by
      intro a
      rw [key a, star_mul']
      ring
    show ∑ a, star (φ a) * φ a = star (inner ψ φ) * inner ψ φ * ∑ a, star (ψ a) * ψ a
    rw [Finset.sum_congr rfl (fun a _ => e a), ← Finset.mul_sum]
  rw [hφ, hψ, mul_one] at this
  exact this.symm

theorem tabRho_state_vector (t : Tab) (hv : t.Valid) :
    (∃ ψ : Bits t.n → ℂ, tabRho t.n t = outer ψ ∧ inner ψ ψ = 1) ∧
    (∀ ψ φ : Bits t.n → ℂ, tabRho t.n t = outer ψ → tabRho t.n t = outer φ → inner ψ ψ = 1 → inner φ φ = 1 →
      ∃ c : ℂ, star c * c = 1 ∧ ∀ a, φ a = c * ψ a) :=
  ⟨rank_one_of_projector_trace_one _ (tabRho_hermitian t hv) (tabRho_idem t hv) (tabRho_trace t hv),
   fun ψ φ h1 h2 h3 h4 => outer_eq_phase ψ φ (h1.symm.trans h2) h3 h4⟩

end Hilbert
end Graphiq
