/-
  Proofs/GateTable.lean — the table of unitary gates: every gate matrix that the density-matrix model builds
  (`getOneQubitGate`, `getTwoQubitControlledGate`) is unitary, and conjugating a signed Pauli matrix with it gives exactly the
  signed Pauli matrix of the row that the tableau gate of the stabilizer model produces (`gateUnitary`, `gateAgreesOn`:
  Boolean checks on the exact matrices).  `allGateChecks_true` shows every entry for every number of qubits and every row:
  the exact matrices represent complex ones (`Rep`, `rep_gateSMat` of Proofs/DMGate.lean), for which `gate_conj` and
  `gate_unitary` of Proofs/HilbertState.lean are the same two facts, and matrices representing the same complex matrix are
  equal (`rep_eqOn`); the tables for n = 1 (all signed Pauli rows) and n = 2 (the signed one-site generators) that C06 quotes
  are instances.
-/
import GraphiqModel.Proofs.GateTableDefs
import GraphiqModel.Proofs.DMGate
import GraphiqModel.Proofs.HilbertBridgeDensity
namespace Graphiq.Noise
open DM
open Matrix Hilbert

theorem beq_of_eqOn {a b : Mat} (h : Mat.EqOn a b) : a.beq b = true := by
  unfold Mat.beq
  rw [Bool.and_eq_true, beq_iff_eq, List.all_eq_true]
  refine ⟨h.1, fun i hi => ?_⟩
  rw [List.all_eq_true]
  intro j hj
  rw [beq_iff_eq]
  exact h.2 i j (List.mem_range.1 hi) (List.mem_range.1 hj)

theorem rep_pauliSigned (n : Nat) (p : PRow) : Rep n (pauliSigned n p) (Hilbert.pauliMat n { p with ip := false }) := by
  refine (Rep.smul (if p.r then -1 else 1) (rep_pauliMat n p)).norm.congr ?_
  rw [pauliMat_sign n { p with ip := false } rfl]
  show _ = _ • Hilbert.pauliMat n (bare p)
  cases p.r <;> simp

/-- **`U P U† = P'`** with `P'` the row the tableau rule produces, as exact matrices: every gate of the table, every `n` -/
theorem gateAgreesOn_true {n : Nat} {k : Kind} {q1 q2 : Nat} {g : Gate} (hg : tableGate k q1 q2 = some g) (hw : g.WF n)
    (p : PRow) : gateAgreesOn n k q1 q2 p = true := by
  obtain ⟨u, U, hu, ru, hr, hc⟩ := rep_gateSMat hg hw
  simp only [gateAgreesOn, hu]
  refine beq_of_eqOn (rep_eqOn (Rep.smul u.sq (Rep.conjBy ru (rep_pauliSigned n p))).norm
    ((rep_pauliSigned n (rowGate k q1 q2 p)).congr ?_))
  rw [hc, hr, ← Gate.act_with_ip]
  exact (gate_conj n g hw _).symm

theorem gateUnitary_true {n : Nat} {k : Kind} {q1 q2 : Nat} {g : Gate} (hg : tableGate k q1 q2 = some g) (hw : g.WF n) :
    gateUnitary n k q1 q2 = true := by
  obtain ⟨u, U, hu, ru, -, hc⟩ := rep_gateSMat hg hw
  have hU := hc 1
  rw [Matrix.mul_one, Matrix.mul_one, (gate_unitary n g hw).1] at hU
  simp only [gateUnitary, hu]
  exact beq_of_eqOn (rep_eqOn (Rep.smul u.sq (Rep.mul ru ru.dagger)).norm ((Rep.eye n).congr hU.symm))

theorem allGateChecks_true (n : Nat) (rows : List PRow) : allGateChecks n rows = true := by
  unfold allGateChecks
  simp only [Bool.and_eq_true, List.all_eq_true, List.mem_range, Bool.or_eq_true, decide_eq_true_eq]
  refine ⟨fun k hk q hq => ?_, fun k hk c hc t ht => ?_⟩
  · obtain ⟨g, hg, hw⟩ : ∃ g, tableGate k q 0 = some g ∧ g.WF n := by
      simp only [oneQ, List.mem_cons, List.not_mem_nil, or_false] at hk
      rcases hk with rfl | rfl | rfl | rfl | rfl | rfl <;> exact ⟨_, rfl, hq⟩
    exact ⟨gateUnitary_true hg hw, fun p _ => gateAgreesOn_true hg hw p⟩
  · by_cases e : c = t
    · exact Or.inl e
    · obtain ⟨g, hg, hw⟩ : ∃ g, tableGate k c t = some g ∧ g.WF n := by
        simp only [twoQ, List.mem_cons, List.not_mem_nil, or_false] at hk
        rcases hk with rfl | rfl <;> exact ⟨_, rfl, hc, ht, e⟩
      exact Or.inr ⟨gateUnitary_true hg hw, fun p _ => gateAgreesOn_true hg hw p⟩

theorem gates_agree_n1 : allGateChecks 1 (allRows 1) = true := allGateChecks_true 1 _
theorem gates_agree_n2 : allGateChecks 2 (genRows 2) = true := allGateChecks_true 2 _
end Graphiq.Noise
