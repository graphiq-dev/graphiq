/-
  Proofs/InvBridge.lean — from the postcondition of `canonical_form` (`Canon`, Proofs/CanonShape.lean) to the loop
  invariant of the first block of `inverse_circuit` (`Inv1 … 0`, Proofs/InvBlock1.lean).  All clauses are read off the two
  echelon invariants except `surj`: *for every column `q` that is not an X pivot column there is a set of x-free rows
  whose z-bits, restricted to the non-pivot columns, sum to the unit vector `e_q`*.

  Argument (all sizes): an x-free row commutes with every X-block pivot row, so its z-bit at the pivot column `px a`
  equals the parity over the non-pivot columns `c` of `x_a[c] ∧ z_i[c]`; hence a combination of x-free rows that vanishes
  on the non-pivot columns vanishes everywhere, hence (Z-block echelon shape) is the empty combination.  The `n × n`
  matrix whose rows `a < k` are the unit vectors `e_{px a}` and whose rows `i ≥ k` are the z-rows restricted to the non-pivot
  columns therefore has a trivial left kernel; `S ↦ S·B` is an injective self-map of the finite set of bit vectors, hence
  surjective (`Finite.surjective_of_injective` — the only use of Mathlib in this file).

  At the end, the consequences for `inverse_circuit`: it returns whenever `canonical_form` did (`inverseCircuit_complete_of_canon`), what
  it returns is |0…0⟩ (`inverseCircuit_isZero`), and its only error is the assert of `canonical_form` (`inverseCircuit_error`).
-/
import GraphiqModel.Proofs.InvBlock1
import GraphiqModel.Proofs.CanonTotal
import Mathlib.Data.Fintype.Card
import Mathlib.Data.Fintype.Pi
namespace Graphiq
open PRow Tab
namespace STab

/-- **a square GF(2) matrix with trivial left kernel: every vector is a combination of its rows** (an injective self-map
    of the finite set of bit vectors of length `n` is surjective) -/
theorem gf2_rows_span (n : Nat) (B : Nat → Nat → Bool)
    (hker : ∀ S : Nat → Bool, (∀ c, c < n → parityTo n (fun i => S i && B i c) = false) → ∀ i, i < n → S i = false)
    (v : Nat → Bool) : ∃ S : Nat → Bool, ∀ c, c < n → parityTo n (fun i => S i && B i c) = v c := by
  let F : (Fin n → Bool) → (Fin n → Bool) := fun S c => parityTo n (fun i => extv S i && B i c)
  have hinj : Function.Injective F := by
    intro S S' h
    have hz := hker (fun i => xor (extv S i) (extv S' i)) (by
      intro c hc
      have e : ∀ i, i < n → (xor (extv S i) (extv S' i) && B i c) = xor (extv S i && B i c) (extv S' i && B i c) := by
        intro i _
        cases extv S i <;> cases extv S' i <;> cases B i c <;> rfl
      rw [parityTo_congr n _ _ e, parityTo_xor]
      have := congrFun h ⟨c, hc⟩
      simp only [F] at this
      rw [this]; simp)
    funext ⟨i, hi⟩
    have := hz i hi
    rw [extv_lt S i hi, extv_lt S' i hi] at this
    revert this
    cases S ⟨i, hi⟩ <;> cases S' ⟨i, hi⟩ <;> simp
  obtain ⟨S, hS⟩ := Finite.surjective_of_injective hinj (fun c => v c)
  refine ⟨extv S, fun c hc => ?_⟩
  have := congrFun hS ⟨c, hc⟩
  exact this

/-- Boolean version of `IsPiv` -/
def pivB (k : Nat) (px : Nat → Nat) (c : Nat) : Bool := (List.range k).any fun a => px a == c

theorem pivB_iff (k : Nat) (px : Nat → Nat) (c : Nat) : pivB k px c = true ↔ IsPiv k px c := by
  unfold pivB IsPiv
  simp only [List.any_eq_true, List.mem_range, beq_iff_eq]

theorem pivB_false (k : Nat) (px : Nat → Nat) (c : Nat) (h : ¬ IsPiv k px c) : pivB k px c = false := by
  cases hh : pivB k px c
  · rfl
  · exact absurd ((pivB_iff k px c).1 hh) h

/-- rows `a < k`: the unit vector of the pivot column `px a`; rows `i ≥ k`: the z-bits on the non-pivot columns -/
def bridgeM (t : STab) (k : Nat) (px : Nat → Nat) (i c : Nat) : Bool :=
  if i < k then decide (c = px i) else (zb t i c && !pivB k px c)

section
variable (t : STab) (k : Nat) (px pz : Nat → Nat)

theorem bridgeM_pivcol (hx : PInv t.n (xb t) px 0 k t.n) (S : Nat → Bool) (a : Nat) (ha : a < k) :
    parityTo t.n (fun i => S i && bridgeM t k px i (px a)) = S a := by
  have hk := hx.pr_le
  have e : ∀ i, i < t.n → (S i && bridgeM t k px i (px a)) = (decide (i = a) && S i) := by
    intro i _
    unfold bridgeM
    by_cases hi : i < k
    · rw [if_pos hi]
      by_cases hia : i = a
      · subst hia; simp
      · have : px a ≠ px i := by
          intro e
          rcases Nat.lt_or_gt_of_ne hia with h | h
          · have := hx.mono i a (Nat.zero_le _) h ha; omega
          · have := hx.mono a i (Nat.zero_le _) h hi; omega
        simp [hia, this]
    · rw [if_neg hi]
      have hp : pivB k px (px a) = true := (pivB_iff k px (px a)).2 ⟨a, ha, rfl⟩
      have hia : i ≠ a := by omega
      simp [hp, hia]
  rw [parityTo_congr t.n _ _ e, parityTo_single t.n a S (by omega)]

theorem bridgeM_nonpiv (S : Nat → Bool) (hS : ∀ a, a < k → S a = false) (c : Nat) (hc : ¬ IsPiv k px c) :
    parityTo t.n (fun i => S i && bridgeM t k px i c) = parityTo t.n (fun i => S i && zb t i c) := by
  apply parityTo_congr
  intro i _
  unfold bridgeM
  by_cases hi : i < k
  · rw [hS i hi]; rfl
  · rw [if_neg hi, pivB_false k px c hc]; simp

/-- **the x-free rows are independent already on the non-pivot columns**: a combination of rows `≥ k` whose z-bits
    vanish on every column that is not an X pivot column is the empty combination -/
theorem zfree_indep (hg : t.Good) (hx : PInv t.n (xb t) px 0 k t.n) (hz : PInv t.n (zb t) pz k t.n t.n)
    (S : Nat → Bool) (hS : ∀ a, a < k → S a = false)
    (hv : ∀ c, c < t.n → ¬ IsPiv k px c → parityTo t.n (fun i => S i && zb t i c) = false) :
    ∀ i, i < t.n → S i = false := by
  have hk := hx.pr_le
  -- an x-free row commutes with the pivot row `a`: the parity of `x_a ∧ z_i` vanishes
  have hcomm : ∀ a i, a < k → k ≤ i → i < t.n → parityTo t.n (fun c => xb t a c && zb t i c) = false := by
    intro a i ha hki hi
    have := hg.comm a i (by omega) hi
    unfold sp at this
    rw [← this]
    apply parityTo_congr
    intro c hc
    have hx0 : (t.row i).x c = false := hx.below i c hki hi hc
    show ((t.row a).x c && (t.row i).z c) = _
    rw [hx0]; simp
  -- hence the combination vanishes at the pivot columns too
  have hpiv : ∀ a, a < k → parityTo t.n (fun i => S i && zb t i (px a)) = false := by
    intro a ha
    have hpa : px a < t.n := hx.piv_lt a (Nat.zero_le _) ha
    have e1 : parityTo t.n (fun c => xb t a c && parityTo t.n (fun i => S i && zb t i c))
        = parityTo t.n (fun i => S i && zb t i (px a)) := by
      have e : ∀ c, c < t.n → (xb t a c && parityTo t.n (fun i => S i && zb t i c))
          = (decide (c = px a) && parityTo t.n (fun i => S i && zb t i c)) := by
        intro c hc
        by_cases hcp : IsPiv k px c
        · obtain ⟨a', ha', e'⟩ := hcp
          by_cases haa : a' = a
          · subst haa; subst e'
            have : xb t a' (px a') = true := hx.piv_one a' (Nat.zero_le _) ha'
            rw [this]; simp
          · have h1 : xb t a c = false := by
              rw [← e']; exact hx.piv_clear a' a (Nat.zero_le _) ha' (by omega) (fun e => haa e.symm)
            have h2 : c ≠ px a := by
              intro e; rw [← e'] at e
              rcases Nat.lt_or_gt_of_ne haa with h | h
              · have := hx.mono a' a (Nat.zero_le _) h ha; omega
              · have := hx.mono a a' (Nat.zero_le _) h ha'; omega
            rw [h1]; simp [h2]
        · rw [hv c hc hcp]; simp
      rw [parityTo_congr t.n _ _ e, parityTo_single t.n (px a) _ hpa]
    rw [← e1]
    have e2 : ∀ c, c < t.n → (xb t a c && parityTo t.n (fun i => S i && zb t i c))
        = parityTo t.n (fun i => xb t a c && (S i && zb t i c)) := by
      intro c _; rw [parityTo_and_const]
    rw [parityTo_congr t.n _ _ e2, parityTo_fubini]
    apply parityTo_zero
    intro i hi
    by_cases hik : i < k
    · apply parityTo_zero; intro c _; rw [hS i hik]; simp
    · have e3 : ∀ c, c < t.n → (xb t a c && (S i && zb t i c)) = (S i && (xb t a c && zb t i c)) := by
        intro c _; cases xb t a c <;> cases S i <;> cases zb t i c <;> rfl
      rw [parityTo_congr t.n _ _ e3, parityTo_and_const, hcomm a i ha (by omega) hi]; simp
  -- so it vanishes at every column, and the Z-block echelon shape reads off the coefficients
  intro i hi
  by_cases hik : i < k
  · exact hS i hik
  · have hpz : pz i < t.n := hz.piv_lt i (by omega) hi
    have hc := hz.coef S i (by omega) hi
    rw [← hc]
    by_cases hcp : IsPiv k px (pz i)
    · obtain ⟨a, ha, e⟩ := hcp
      rw [← e]; exact hpiv a ha
    · exact hv (pz i) hpz hcp

theorem bridgeM_ker (hg : t.Good) (hx : PInv t.n (xb t) px 0 k t.n) (hz : PInv t.n (zb t) pz k t.n t.n)
    (S : Nat → Bool) (h : ∀ c, c < t.n → parityTo t.n (fun i => S i && bridgeM t k px i c) = false) :
    ∀ i, i < t.n → S i = false := by
  have hS : ∀ a, a < k → S a = false := by
    intro a ha
    rw [← bridgeM_pivcol t k px hx S a ha]
    exact h (px a) (hx.piv_lt a (Nat.zero_le _) ha)
  apply zfree_indep t k px pz hg hx hz S hS
  intro c hc hcp
  rw [← bridgeM_nonpiv t k px S hS c hcp]
  exact h c hc

/-- **the clause `surj` of the block-1 invariant holds on every `Canon` tableau** -/
theorem canon_surj (hg : t.Good) (hx : PInv t.n (xb t) px 0 k t.n) (hz : PInv t.n (zb t) pz k t.n t.n)
    (q : Nat) (hqp : ¬ IsPiv k px q) :
    ∃ S : Nat → Bool, (∀ a, a < k → S a = false) ∧
      ∀ c, c < t.n → ¬ IsPiv k px c → parityTo t.n (fun i => S i && zb t i c) = decide (c = q) := by
  obtain ⟨S, hS⟩ := gf2_rows_span t.n (bridgeM t k px) (bridgeM_ker t k px pz hg hx hz) (fun c => decide (c = q))
  have hS0 : ∀ a, a < k → S a = false := by
    intro a ha
    rw [← bridgeM_pivcol t k px hx S a ha, hS (px a) (hx.piv_lt a (Nat.zero_le _) ha)]
    have : px a ≠ q := fun e => hqp ⟨a, ha, e⟩
    simp [this]
  refine ⟨S, hS0, fun c hc hcp => ?_⟩
  rw [← bridgeM_nonpiv t k px S hS0 c hcp]
  exact hS c hc

end

/-- **`Canon` ∧ `Good` ⟹ the block-1 invariant at column 0** -/
theorem canon_inv1 (c : STab) (hc : Canon c) (hg : c.Good) : ∃ k px, Inv1 c.n k px c 0 := by
  obtain ⟨k, px, pz, hx, hz⟩ := hc
  have hk := hx.pr_le
  refine ⟨k, px, rfl, hg, fun a ha => hx.piv_lt a (Nat.zero_le _) ha, ?_, fun _ _ h => by omega, fun _ h => by omega,
    ?_, ?_, ?_⟩
  · intro a a' ha ha' e
    apply Classical.byContradiction; intro hne
    rcases Nat.lt_or_gt_of_ne hne with h | h
    · have := hx.mono a a' (Nat.zero_le _) h ha'; omega
    · have := hx.mono a' a (Nat.zero_le _) h ha; omega
  · intro a ha _
    exact ⟨a, Nat.zero_le _, by omega, hx.piv_one a (Nat.zero_le _) ha,
      fun m hm hne => hx.piv_clear a m (Nat.zero_le _) ha hm hne, fun c' hc' => hx.lead a c' (Nat.zero_le _) ha hc'⟩
  · intro i c' _ hi hc' hxb
    have hik : i < k := by
      apply Classical.byContradiction; intro hge
      rw [hx.below i c' (by omega) hi hc'] at hxb; cases hxb
    exact ⟨i, hik, Nat.zero_le _, hx.piv_one i (Nat.zero_le _) hik⟩
  · intro q _ _ hqp
    obtain ⟨S, hS0, hS⟩ := canon_surj c k px pz hg hx hz q hqp
    refine ⟨S, ?_, fun c' _ hc' hcp => hS c' hc' hcp⟩
    intro i hi hSi
    have hik : k ≤ i := by
      apply Classical.byContradiction; intro hlt
      rw [hS0 i (by omega)] at hSi; cases hSi
    exact ⟨Nat.zero_le _, fun c' hc' => hx.below i c' hik hi hc'⟩

theorem invBlocks_complete (c : STab) (hc : Canon c) (hg : c.Good) :
    ∃ s, invBlocks c = .ok s ∧ s.t.isZero = true := by
  obtain ⟨k, px, hinv⟩ := canon_inv1 c hc hg
  obtain ⟨s1, e1, hn, hg1, hp1⟩ := invBlock1_post c k px hinv
  refine ⟨invRest c.n s1, invBlocks_of_block1 c s1 e1, ?_⟩
  have := invRest_isZero s1 hg1 hp1
  rw [hn] at this; exact this

/-- **completeness of `inverse_circuit`**: whenever `canonical_form` returns on a real commuting generating set (its
    final assert passes: the generators are independent), `inverse_circuit` returns — in particular the `z_list[-1]`
    IndexError is unreachable — and the tableau it returns is exactly |0…0⟩ -/
theorem inverseCircuit_complete_of_canon (t c : STab) (hg : t.Good) (hc : t.canonicalForm = .ok c) :
    ∃ t' circ, t.inverseCircuit = .ok (t', circ) ∧ t'.isZero = true := by
  obtain ⟨_, gc⟩ := canonicalForm_spanEq t c hg hc
  obtain ⟨s, e, hz⟩ := invBlocks_complete c (canonicalForm_canon t c hc) gc
  exact ⟨s.t, s.circ, inverseCircuit_of_blocks t c s hc e, hz⟩

/-- whatever `inverse_circuit` returns on a real commuting generating set is |0…0⟩ -/
theorem inverseCircuit_isZero (t t' : STab) (circ : List Gate) (hg : t.Good) (h : t.inverseCircuit = .ok (t', circ)) :
    t'.isZero = true := by
  obtain ⟨t0, s, hc, hs, e1, _⟩ := inverseCircuit_eq t t' circ h
  obtain ⟨_, gc⟩ := canonicalForm_spanEq t t0 hg hc
  obtain ⟨s', e, hz⟩ := invBlocks_complete t0 (canonicalForm_canon t t0 hc) gc
  rw [hs] at e
  injection e with e
  rw [← e1, e]; exact hz

/-- the only error `inverse_circuit` can raise on a real commuting generating set is the final assert of
    `canonical_form` (dependent generators): never the IndexError of `z_list[-1]` -/
theorem inverseCircuit_error (t : STab) (hg : t.Good) (e : Err) (h : t.inverseCircuit = .error e) :
    t.canonicalForm = .error .assertion := by
  cases hc : t.canonicalForm with
  | error e' => rw [canonicalForm_error t e' hc]
  | ok c =>
    obtain ⟨t', circ, h', _⟩ := inverseCircuit_complete_of_canon t c hg hc
    rw [h'] at h; cases h

end STab
end Graphiq
