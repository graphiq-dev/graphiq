/-
  Proofs/SolverCompleteResources.lean — resource theorem of the time-reversed solver (Li–Economou–Barnes): the circuit the solver model
  returns contains exactly one emitter measurement (`MeasurementCNOTandReset`) per DESCENT of the height function of the target
  (`h(p) < h(p-1)`), next to one emission per photon and `max h` emitters (`Proofs/SolverSteps.lean`, C03).
-/
import GraphiqModel.Proofs.SolverCompleteMain
namespace Graphiq.Solver
open Graphiq Graphiq.Cliff PRow STab Tab Module

/-- number of descents `h(p) < h(p-1)` (`h(-1) = 0`) of a height list among the positions `p < np` -/
def descents (hl : List Int) (np : Nat) : Nat :=
  cnt np (fun p => decide ((0 :: hl).getD (p + 1) 0 < (0 :: hl).getD p 0))

/-! ### the photon part of `target ⊗ |0…0⟩` has the cut ranks, hence the heights, of `target` -/

theorem descents_withEmitters (target : STab) (ne : Nat) (hl hl0 : List Int) (h : target.heightFuncList = .ok hl)
    (h0 : (withEmitters target ne).heightFuncList = .ok hl0) : descents hl0 target.n = descents hl target.n := by
  refine cnt_congr _ _ _ fun p hp => decide_eq_decide.mpr ?_
  rw [cond_iff_dropAt _ hl0 h0 p (by rw [withEmitters_n]; omega), cond_iff_dropAt target hl h p hp]
  exact dropAt_congr target _ p (cutRank_withEmitters_eq target ne p hp)
    (fun _ => cutRank_withEmitters_eq target ne (p - 1) (by omega))

/-- **the solver records exactly one emitter measurement per descent of the target's height function** (any stabilizer target without
    product qubit) -/
theorem solve_mcr_count (target : STab) (hg : target.Good) (hi : target.LinIndep) (hn : 0 < target.n)
    (hnp : ∀ p, p < target.n → target.NotProd p) :
    ∃ s hl, solve target = .ok s ∧ target.heightFuncList = .ok hl ∧ mcrCount s.circ = descents hl target.n := by
  obtain ⟨s, hs, _⟩ := solve_complete_stabilizer target hg hi hn hnp
  obtain ⟨ne, s1, hdet, hloop, k⟩ := solve_keeps target s hs
  have hc := k.mcr
  obtain ⟨hl, hh, _⟩ := heightFuncList_ok_of_indep target hi
  obtain ⟨g0, n0⟩ := withEmitters_good target hg ne
  obtain ⟨hl0, hh0, _⟩ := heightFuncList_ok_of_indep _ (indep_withEmitters target hi ne)
  have i0 := rinv_init (fun _ => False) target hg hi ne hdet (fun p hp _ => hnp p hp) (fun _ _ h => h.elim)
  obtain ⟨s1', hl1, _, hcount⟩ := photonLoop_count (fun _ => False) target.n ne (withEmitters target ne) g0 target.n
    (fun _ _ h => h) _ i0 Reach.refl (fun p => decide ((0 :: hl0).getD (p + 1) 0 < (0 :: hl0).getD p 0))
    (fun p hp => by
      rw [decide_eq_true_iff]
      exact cond_iff_dropAt _ hl0 hh0 p (by rw [n0]; omega))
  rw [hloop] at hl1
  injection hl1 with e
  subst e
  refine ⟨s, hl, hs, hh, ?_⟩
  rw [hc, hcount]
  show 0 + descents hl0 target.n = _
  rw [Nat.zero_add, descents_withEmitters target ne hl hl0 hh hh0]

end Graphiq.Solver
