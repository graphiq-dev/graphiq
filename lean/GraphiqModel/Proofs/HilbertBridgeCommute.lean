/-
  Proofs/HilbertBridgeCommute.lean — **operations on disjoint qubits commute**, at the level of matrices on `n` qubits
  (the textbook fact that C13's `compile_independent_of_topological_order` takes as its hypothesis `hcomm`):

  * `Local n S M` : `M` lies in the algebra generated by the one-site embeddings `oneQ n q u`, `q ∈ S`
    (closed under products, sums, scalar multiples, adjoints);
  * `local_comm` : matrices local to disjoint sets of qubits commute;
  * `local_conj_comm` : hence `A (B ρ B†) A† = B (A ρ A†) B†` — unitary gates, projective-measurement branches
    `Π_o ρ Π_o` and Kraus terms on disjoint qubits can be applied in either order;
  * every gate unitary `gateMat n g`, every Z projector and both reset Kraus operators are local to the qubits they
    name (`gateMat_local`, `projZ_local`, `resetKraus_local`);
  * `kraus_comm` : channels `ρ ↦ Σ_K K ρ K†` with Kraus operators local to disjoint sets of qubits commute.
-/
import GraphiqModel.Proofs.HilbertBridgeOps
namespace Graphiq
namespace Hilbert
open Matrix

theorem oneQ_comm (n c t : Nat) (hc : c < n) (ht : t < n) (hct : c ≠ t) (u v : Matrix Bool Bool ℂ) :
    oneQ n c u * oneQ n t v = oneQ n t v * oneQ n c u := by
  rw [← twoQ_eq_mul n c t hc ht hct, ← twoQ_eq_mul n t c ht hc (Ne.symm hct), twoQ_comm]

/-- the algebra generated by the one-site embeddings at the sites of `S` -/
inductive Local (n : Nat) (S : Nat → Prop) : DMat n → Prop where
  | site (q : Nat) (hq : q < n) (hS : S q) (u : Matrix Bool Bool ℂ) : Local n S (oneQ n q u)
  | one : Local n S 1
  | mul (A B : DMat n) : Local n S A → Local n S B → Local n S (A * B)
  | add (A B : DMat n) : Local n S A → Local n S B → Local n S (A + B)
  | smul (k : ℂ) (A : DMat n) : Local n S A → Local n S (k • A)

theorem Local.adjoint {n : Nat} {S : Nat → Prop} {A : DMat n} (h : Local n S A) : Local n S Aᴴ := by
  induction h with
  | site q hq hS u => rw [oneQ_conjTranspose]; exact Local.site q hq hS _
  | one => rw [Matrix.conjTranspose_one]; exact Local.one
  | mul A B _ _ ihA ihB => rw [Matrix.conjTranspose_mul]; exact Local.mul _ _ ihB ihA
  | add A B _ _ ihA ihB => rw [Matrix.conjTranspose_add]; exact Local.add _ _ ihA ihB
  | smul k A _ ih => rw [Matrix.conjTranspose_smul]; exact Local.smul _ _ ih

theorem Local.sub {n : Nat} {S : Nat → Prop} {A B : DMat n} (hA : Local n S A) (hB : Local n S B) : Local n S (A - B) := by
  rw [sub_eq_add_neg, ← neg_one_smul ℂ B]
  exact Local.add _ _ hA (Local.smul _ _ hB)

theorem Local.mono {n : Nat} {S T : Nat → Prop} {A : DMat n} (h : Local n S A) (hST : ∀ q, S q → T q) : Local n T A := by
  induction h with
  | site q hq hS u => exact Local.site q hq (hST q hS) u
  | one => exact Local.one
  | mul A B _ _ ihA ihB => exact Local.mul _ _ ihA ihB
  | add A B _ _ ihA ihB => exact Local.add _ _ ihA ihB
  | smul k A _ ih => exact Local.smul _ _ ih

theorem oneQ_comm_local {n : Nat} {T : Nat → Prop} (q : Nat) (hq : q < n) (hT : ¬ T q) (u : Matrix Bool Bool ℂ)
    {B : DMat n} (hB : Local n T B) : oneQ n q u * B = B * oneQ n q u := by
  induction hB with
  | site t ht hTt v =>
    have hne : q ≠ t := fun e => hT (e ▸ hTt)
    exact oneQ_comm n q t hq ht hne u v
  | one => rw [Matrix.mul_one, Matrix.one_mul]
  | mul A B _ _ ihA ihB => rw [← Matrix.mul_assoc, ihA, Matrix.mul_assoc, ihB, Matrix.mul_assoc]
  | add A B _ _ ihA ihB => rw [mul_add, add_mul, ihA, ihB]
  | smul k A _ ih => rw [mul_smul_comm, smul_mul_assoc, ih]

theorem local_comm {n : Nat} {S T : Nat → Prop} {A B : DMat n} (hA : Local n S A) (hB : Local n T B)
    (hdisj : ∀ q, S q → ¬ T q) : A * B = B * A := by
  induction hA with
  | site q hq hS u => exact oneQ_comm_local q hq (hdisj q hS) u hB
  | one => rw [Matrix.mul_one, Matrix.one_mul]
  | mul A A' _ _ ihA ihA' => rw [Matrix.mul_assoc, ihA', ← Matrix.mul_assoc, ihA, Matrix.mul_assoc]
  | add A A' _ _ ihA ihA' => rw [add_mul, mul_add, ihA, ihA']
  | smul k A _ ih => rw [smul_mul_assoc, mul_smul_comm, ih]

/-- **operations on disjoint qubits can be applied in either order**: `A (B ρ B†) A† = B (A ρ A†) B†` -/
theorem local_conj_comm {n : Nat} {S T : Nat → Prop} {A B : DMat n} (hA : Local n S A) (hB : Local n T B)
    (hdisj : ∀ q, S q → ¬ T q) (ρ : DMat n) : A * (B * ρ * Bᴴ) * Aᴴ = B * (A * ρ * Aᴴ) * Bᴴ := by
  have h1 := local_comm hA hB hdisj
  have h2 := local_comm hB.adjoint hA.adjoint (fun q hT hS => hdisj q hS hT)
  calc A * (B * ρ * Bᴴ) * Aᴴ = (A * B) * ρ * (Bᴴ * Aᴴ) := by simp only [Matrix.mul_assoc]
    _ = (B * A) * ρ * (Aᴴ * Bᴴ) := by rw [h1, h2]
    _ = B * (A * ρ * Aᴴ) * Bᴴ := by simp only [Matrix.mul_assoc]

/-! ### the operations of the compile loop are local -/

theorem local_site_eq (n q : Nat) (hq : q < n) (u : Matrix Bool Bool ℂ) : Local n (fun j => j = q) (oneQ n q u) :=
  @Local.site n (fun j => j = q) q hq rfl u

def gateSites : Gate → Nat → Prop
  | .H q | .P q | .Pdag q | .X q | .Y q | .Z q => fun j => j = q
  | .I _ => fun _ => False
  | .CNOT c t | .CZ c t => fun j => j = c ∨ j = t

theorem ctrlQ_local (n c t : Nat) (hc : c < n) (ht : t < n) (hct : c ≠ t) (u : Matrix Bool Bool ℂ) :
    Local n (fun j => j = c ∨ j = t) (ctrlQ n c t u) := by
  rw [← ctrlG_eq n c t hc ht hct, ctrlG, twoQ_eq_mul n c t hc ht hct]
  exact Local.add _ _ Local.one (Local.smul _ _ (Local.mul _ _
    (@Local.site n (fun j => j = c ∨ j = t) c hc (Or.inl rfl) _) (@Local.site n (fun j => j = c ∨ j = t) t ht (Or.inr rfl) _)))

theorem gateMat_local (n : Nat) (g : Gate) (hg : g.WF n) : Local n (gateSites g) (gateMat n g) := by
  cases g with
  | H q => exact Local.smul _ _ (local_site_eq n q hg _)
  | P q => exact local_site_eq n q hg _
  | Pdag q => exact local_site_eq n q hg _
  | X q => exact local_site_eq n q hg _
  | Y q => exact local_site_eq n q hg _
  | Z q => exact local_site_eq n q hg _
  | I q => exact Local.one
  | CNOT c t => exact ctrlQ_local n c t hg.1 hg.2.1 hg.2.2 _
  | CZ c t => exact ctrlQ_local n c t hg.1 hg.2.1 hg.2.2 _

theorem projZ_local (n q : Nat) (hq : q < n) (s : Bool) : Local n (fun j => j = q) (projZ n q s) :=
  local_site_eq n q hq _

theorem resetKraus_local (n q : Nat) (hq : q < n) : ∀ K ∈ resetKraus n q, Local n (fun j => j = q) K := by
  intro K hK
  simp only [resetKraus, List.mem_cons, List.mem_nil_iff, or_false] at hK
  rcases hK with rfl | rfl <;> exact local_site_eq n q hq _

theorem gates_on_disjoint_qubits_commute (n : Nat) (g h : Gate) (hg : g.WF n) (hh : h.WF n)
    (hdisj : ∀ q, gateSites g q → ¬ gateSites h q) (ρ : DMat n) :
    gateMat n g * (gateMat n h * ρ * (gateMat n h)ᴴ) * (gateMat n g)ᴴ
      = gateMat n h * (gateMat n g * ρ * (gateMat n g)ᴴ) * (gateMat n h)ᴴ :=
  local_conj_comm (gateMat_local n g hg) (gateMat_local n h hh) hdisj ρ

theorem gate_commutes_with_measurement_branch (n : Nat) (g : Gate) (hg : g.WF n) (q : Nat) (hq : q < n) (o : Bool)
    (hdisj : ¬ gateSites g q) (ρ : DMat n) :
    gateMat n g * (projZ n q o * ρ * (projZ n q o)ᴴ) * (gateMat n g)ᴴ
      = projZ n q o * (gateMat n g * ρ * (gateMat n g)ᴴ) * (projZ n q o)ᴴ :=
  local_conj_comm (gateMat_local n g hg) (projZ_local n q hq o) (fun j hj e => hdisj (e ▸ hj)) ρ

theorem measurement_branches_commute (n q q' : Nat) (hq : q < n) (hq' : q' < n) (hne : q ≠ q') (o o' : Bool) (ρ : DMat n) :
    projZ n q o * (projZ n q' o' * ρ * (projZ n q' o')ᴴ) * (projZ n q o)ᴴ
      = projZ n q' o' * (projZ n q o * ρ * (projZ n q o)ᴴ) * (projZ n q' o')ᴴ :=
  local_conj_comm (projZ_local n q hq o) (projZ_local n q' hq' o') (fun j hj e => hne (hj.symm.trans e)) ρ

/-! ### channels -/

/-- `Σ_K K ρ K†` over a list of Kraus operators (a unitary gate: one operator; a measurement branch: one projector; the
    reset: two operators) -/
noncomputable def krausApply {n : Nat} (Ks : List (DMat n)) (ρ : DMat n) : DMat n := (Ks.map fun K => K * ρ * Kᴴ).sum

theorem krausApply_nil {n : Nat} (ρ : DMat n) : krausApply [] ρ = 0 := rfl
theorem krausApply_cons {n : Nat} (K : DMat n) (Ks : List (DMat n)) (ρ : DMat n) :
    krausApply (K :: Ks) ρ = K * ρ * Kᴴ + krausApply Ks ρ := by simp [krausApply]

theorem krausApply_add {n : Nat} (Ks : List (DMat n)) (X Y : DMat n) :
    krausApply Ks (X + Y) = krausApply Ks X + krausApply Ks Y := by
  induction Ks with
  | nil => simp [krausApply_nil]
  | cons K rest ih =>
    rw [krausApply_cons, krausApply_cons, krausApply_cons, ih, mul_add, add_mul]
    abel

theorem krausApply_zero {n : Nat} (Ks : List (DMat n)) : krausApply Ks (0 : DMat n) = 0 := by
  induction Ks with
  | nil => rfl
  | cons K rest ih => rw [krausApply_cons, ih]; simp

theorem krausApply_conj_comm {n : Nat} {S T : Nat → Prop} (As : List (DMat n)) (hA : ∀ A ∈ As, Local n S A) {B : DMat n}
    (hB : Local n T B) (hdisj : ∀ q, S q → ¬ T q) (ρ : DMat n) :
    krausApply As (B * ρ * Bᴴ) = B * krausApply As ρ * Bᴴ := by
  induction As with
  | nil => simp [krausApply_nil]
  | cons A rest ih =>
    rw [krausApply_cons, krausApply_cons, ih (fun A' h => hA A' (List.mem_cons_of_mem _ h)),
      local_conj_comm (hA A List.mem_cons_self) hB hdisj ρ, mul_add, add_mul]

/-- **channels on disjoint qubits commute**: for Kraus lists local to disjoint sets of qubits,
    `Σ_A A (Σ_B B ρ B†) A† = Σ_B B (Σ_A A ρ A†) B†` — gates, measurement branches, classically controlled gates with a
    given outcome and resets of different registers can be applied in either order -/
theorem kraus_comm {n : Nat} {S T : Nat → Prop} (As Bs : List (DMat n)) (hA : ∀ A ∈ As, Local n S A)
    (hB : ∀ B ∈ Bs, Local n T B) (hdisj : ∀ q, S q → ¬ T q) (ρ : DMat n) :
    krausApply As (krausApply Bs ρ) = krausApply Bs (krausApply As ρ) := by
  induction Bs with
  | nil => rw [krausApply_nil, krausApply_zero, krausApply_nil]
  | cons B rest ih =>
    rw [krausApply_cons, krausApply_cons, krausApply_add, ih (fun B' h => hB B' (List.mem_cons_of_mem _ h)),
      krausApply_conj_comm As hA (hB B List.mem_cons_self) hdisj ρ]

end Hilbert
end Graphiq
