/-
  Proofs/SweepBridge.lean — the two embeddings of the exact ℚ[i] matrix model into Mathlib's complex matrices are the same
  embedding.

  The C01 / C17 chain states its results with `Hilbert.Rep n m M` ("the model matrix `m` represents `M`",
  Proofs/HilbertBridge*.lean), the C06 chain with `MixDM.toC n m` (the complex matrix of `m`, Proofs/MixtureDMBridge*.lean):
  the same model type `Graphiq.Mat`, the same target `Matrix (Bits n) (Bits n) ℂ`, the same big-endian index map.  The C06
  chain is built on that identity (`MixDM.idx_eq`, `MixDM.rep_iff_toC`); it is restated here for the property files.
-/
import GraphiqModel.Proofs.MixtureDMBridgeStab
namespace Graphiq.Sweep
open Graphiq

theorem idx_eq (n : Nat) (a : Hilbert.Bits n) : MixDM.idx a = Hilbert.idx n a := MixDM.idx_eq a

theorem gqC_eq (z : GQ) : Hilbert.gqC z = MixDM.gqC z := rfl

/-- **the two bridges are one**: `Rep n m M` says exactly "`m` has size `2ⁿ` and `toC n m = M`" -/
theorem rep_iff_toC (n : Nat) (m : Mat) (M : Hilbert.DMat n) : Hilbert.Rep n m M ↔ m.n = 2 ^ n ∧ MixDM.toC n m = M :=
  MixDM.rep_iff_toC n m M

/-- the two density matrices of a tableau coincide (same definition in both developments) -/
theorem tabRho_eq (n : Nat) (t : Tab) : MixDM.tabRho n t = Hilbert.tabRho n t := rfl

end Graphiq.Sweep
