/-
  Proofs/StateToGraphBits.lean — bit-level facts about the model of `_graph_finder` (Model/StateToGraph.lean):
  `row_reduction` only permutes rows and adds rows (so it keeps the GF(2) row space, in both directions),
  `_position_finder` returns distinct positions below `n`, what the two closing assertions of `_graph_finder` say, and matrices whose
  rows span every unit vector (`UnitSpan`: they have a two-sided inverse).
  No signs here.
-/
import GraphiqModel.Model.StateToGraph
import GraphiqModel.Proofs.GraphOps
import GraphiqModel.Proofs.GF2Matrix
import Mathlib.Tactic.Choose
namespace Graphiq
namespace S2G

/-- `(a, b)` is a GF(2) combination of the rows `(rx i, rz i)`, `i < m`, as far as the sites `< n` are concerned -/
inductive BSpan (n m : Nat) (rx rz : Nat → Nat → Bool) : (Nat → Bool) → (Nat → Bool) → Prop
  | zero : BSpan n m rx rz (fun _ => false) (fun _ => false)
  | gen (i : Nat) (h : i < m) : BSpan n m rx rz (rx i) (rz i)
  | add (a b a' b' : Nat → Bool) : BSpan n m rx rz a b → BSpan n m rx rz a' b' →
      BSpan n m rx rz (fun j => xor (a j) (a' j)) (fun j => xor (b j) (b' j))
  | ext (a b a' b' : Nat → Bool) : BSpan n m rx rz a b → (∀ j, j < n → a j = a' j ∧ b j = b' j) → BSpan n m rx rz a' b'

theorem BSpan.mono {n m : Nat} {rx rz rx' rz' : Nat → Nat → Bool}
    (hg : ∀ i, i < m → BSpan n m rx rz (rx' i) (rz' i)) {a b : Nat → Bool} (h : BSpan n m rx' rz' a b) :
    BSpan n m rx rz a b := by
  induction h with
  | zero => exact BSpan.zero
  | gen i hi => exact hg i hi
  | add a b a' b' _ _ ih1 ih2 => exact BSpan.add a b a' b' ih1 ih2
  | ext a b a' b' _ he ih => exact BSpan.ext a b a' b' ih he

structure Linear (n : Nat) (Q : (Nat → Bool) → (Nat → Bool) → Prop) : Prop where
  zero : Q (fun _ => false) (fun _ => false)
  add : ∀ a b a' b', Q a b → Q a' b' → Q (fun j => xor (a j) (a' j)) (fun j => xor (b j) (b' j))
  ext : ∀ a b a' b', Q a b → (∀ j, j < n → a j = a' j ∧ b j = b' j) → Q a' b'

theorem BSpan.sat {n m : Nat} {rx rz : Nat → Nat → Bool} {Q : (Nat → Bool) → (Nat → Bool) → Prop} (hQ : Linear n Q)
    (hrows : ∀ i, i < m → Q (rx i) (rz i)) {a b : Nat → Bool} (h : BSpan n m rx rz a b) : Q a b := by
  induction h with
  | zero => exact hQ.zero
  | gen i hi => exact hrows i hi
  | add a b a' b' _ _ ih1 ih2 => exact hQ.add a b a' b' ih1 ih2
  | ext a b a' b' _ he ih => exact hQ.ext a b a' b' ih he

theorem BSpan.combo (n m : Nat) (rx rz : Nat → Nat → Bool) (c : Nat → Bool) (k : Nat) (hk : k ≤ m) :
    BSpan n m rx rz (fun j => parityTo k (fun i => c i && rx i j)) (fun j => parityTo k (fun i => c i && rz i j)) := by
  induction k with
  | zero => exact BSpan.zero
  | succ k ih =>
    have h1 := ih (by omega)
    have h2 : BSpan n m rx rz (fun j => c k && rx k j) (fun j => c k && rz k j) := by
      cases hc : c k
      · exact BSpan.ext _ _ _ _ BSpan.zero (fun j _ => by simp)
      · exact BSpan.ext _ _ _ _ (BSpan.gen k (by omega)) (fun j _ => by simp)
    exact BSpan.add _ _ _ _ h1 h2

/-- the two pairs of matrices have the same row space -/
structure BEquiv (m m' : XZ) : Prop where
  n_eq : m'.n = m.n
  fwd : ∀ i, i < m.n → BSpan m.n m.n m.x m.z (m'.x i) (m'.z i)
  bwd : ∀ i, i < m.n → BSpan m.n m.n m'.x m'.z (m.x i) (m.z i)

theorem BEquiv.refl (m : XZ) : BEquiv m m := ⟨rfl, fun i hi => BSpan.gen i hi, fun i hi => BSpan.gen i hi⟩

theorem BEquiv.trans {a b c : XZ} (h1 : BEquiv a b) (h2 : BEquiv b c) : BEquiv a c := by
  refine ⟨h2.n_eq.trans h1.n_eq, fun i hi => ?_, fun i hi => ?_⟩
  · have := h2.fwd i (h1.n_eq ▸ hi)
    rw [h1.n_eq] at this
    exact BSpan.mono h1.fwd this
  · have := h1.bwd i hi
    refine BSpan.mono (fun k hk => ?_) this
    have := h2.bwd k (h1.n_eq ▸ hk)
    rw [h1.n_eq] at this
    exact this

theorem BEquiv.sat_bwd {m m' : XZ} (h : BEquiv m m') {Q : (Nat → Bool) → (Nat → Bool) → Prop} (hQ : Linear m.n Q)
    (hrows : ∀ i, i < m.n → Q (m'.x i) (m'.z i)) : ∀ i, i < m.n → Q (m.x i) (m.z i) :=
  fun i hi => BSpan.sat hQ hrows (h.bwd i hi)

theorem norm_x (m : XZ) (i j : Nat) (hi : i < m.n) (hj : j < m.n) : m.norm.x i j = m.x i j := by
  simp only [XZ.norm]; exact lookup2_ofFn m.n m.n m.x i j hi hj
theorem norm_z (m : XZ) (i j : Nat) (hi : i < m.n) (hj : j < m.n) : m.norm.z i j = m.z i j := by
  simp only [XZ.norm]; exact lookup2_ofFn m.n m.n m.z i j hi hj
@[simp] theorem norm_n (m : XZ) : m.norm.n = m.n := rfl
/-- through `norm_n`: asked to unify `0 < m.norm.n` with `0 < m.n`, Lean first tries `m.norm =?= m`, which is slow to refute -/
theorem norm_pos {m : XZ} (hn : 0 < m.n) : 0 < m.norm.n := Nat.lt_of_lt_of_eq hn (norm_n m).symm

theorem bequiv_norm (m : XZ) : BEquiv m m.norm := by
  refine ⟨norm_n m, fun i hi => ?_, fun i hi => ?_⟩
  · exact BSpan.ext _ _ _ _ (BSpan.gen i hi) (fun j hj => ⟨(norm_x m i j hi hj).symm, (norm_z m i j hi hj).symm⟩)
  · exact BSpan.ext _ _ _ _ (BSpan.gen i hi) (fun j hj => ⟨norm_x m i j hi hj, norm_z m i j hi hj⟩)

theorem bequiv_rowSwap (m : XZ) (a b : Nat) (ha : a < m.n) (hb : b < m.n) : BEquiv m (m.rowSwap a b) := by
  refine ⟨rfl, fun i hi => ?_, fun i hi => ?_⟩
  · simp only [XZ.rowSwap]
    by_cases h1 : i = a
    · simp only [h1, if_true]; exact BSpan.gen b hb
    · by_cases h2 : i = b
      · simp only [h2, if_true]
        split
        · exact BSpan.gen b hb
        · exact BSpan.gen a ha
      · simp only [h1, h2, if_false]; exact BSpan.gen i hi
  · by_cases h1 : i = a
    · subst h1
      have := BSpan.gen (n := m.n) (rx := (m.rowSwap i b).x) (rz := (m.rowSwap i b).z) b hb
      have ex : (m.rowSwap i b).x b = m.x i := by
        simp only [XZ.rowSwap]; by_cases e : b = i <;> simp [e]
      have ez : (m.rowSwap i b).z b = m.z i := by
        simp only [XZ.rowSwap]; by_cases e : b = i <;> simp [e]
      rw [ex, ez] at this; exact this
    · by_cases h2 : i = b
      · subst h2
        have := BSpan.gen (n := m.n) (rx := (m.rowSwap a i).x) (rz := (m.rowSwap a i).z) a ha
        have ex : (m.rowSwap a i).x a = m.x i := by simp [XZ.rowSwap]
        have ez : (m.rowSwap a i).z a = m.z i := by simp [XZ.rowSwap]
        rw [ex, ez] at this; exact this
      · have := BSpan.gen (n := m.n) (rx := (m.rowSwap a b).x) (rz := (m.rowSwap a b).z) i hi
        have ex : (m.rowSwap a b).x i = m.x i := by simp [XZ.rowSwap, h1, h2]
        have ez : (m.rowSwap a b).z i = m.z i := by simp [XZ.rowSwap, h1, h2]
        rw [ex, ez] at this; exact this

theorem bequiv_addRows (m : XZ) (src tgt : Nat) (hs : src < m.n) (ht : tgt < m.n) (hne : src ≠ tgt) :
    BEquiv m (m.addRows src tgt) := by
  refine ⟨rfl, fun i hi => ?_, fun i hi => ?_⟩
  · by_cases h : i = tgt
    · subst h
      refine BSpan.ext _ _ _ _ (BSpan.add _ _ _ _ (BSpan.gen src hs) (BSpan.gen i ht)) (fun j _ => ?_)
      simp [XZ.addRows]
    · have ex : (m.addRows src tgt).x i = m.x i := by funext j; simp [XZ.addRows, h]
      have ez : (m.addRows src tgt).z i = m.z i := by funext j; simp [XZ.addRows, h]
      rw [ex, ez]; exact BSpan.gen i hi
  · have gsrc : BSpan m.n m.n (m.addRows src tgt).x (m.addRows src tgt).z (m.x src) (m.z src) := by
      have := BSpan.gen (n := m.n) (rx := (m.addRows src tgt).x) (rz := (m.addRows src tgt).z) src hs
      have ex : (m.addRows src tgt).x src = m.x src := by funext j; simp [XZ.addRows, hne]
      have ez : (m.addRows src tgt).z src = m.z src := by funext j; simp [XZ.addRows, hne]
      rw [ex, ez] at this; exact this
    by_cases h : i = tgt
    · subst h
      have gt := BSpan.gen (n := m.n) (rx := (m.addRows src i).x) (rz := (m.addRows src i).z) i ht
      refine BSpan.ext _ _ _ _ (BSpan.add _ _ _ _ gsrc gt) (fun j _ => ?_)
      simp only [XZ.addRows, if_true]
      constructor
      · cases m.x src j <;> cases m.x i j <;> rfl
      · cases m.z src j <;> cases m.z i j <;> rfl
    · have := BSpan.gen (n := m.n) (rx := (m.addRows src tgt).x) (rz := (m.addRows src tgt).z) i hi
      have ex : (m.addRows src tgt).x i = m.x i := by funext j; simp [XZ.addRows, h]
      have ez : (m.addRows src tgt).z i = m.z i := by funext j; simp [XZ.addRows, h]
      rw [ex, ez] at this; exact this

@[simp] theorem addRows_n (m : XZ) (a b : Nat) : (m.addRows a b).n = m.n := rfl
@[simp] theorem rowSwap_n (m : XZ) (a b : Nat) : (m.rowSwap a b).n = m.n := rfl

theorem foldAdd_n (pr : Nat) (l : List Nat) (m : XZ) : (l.foldl (fun acc k => acc.addRows pr k) m).n = m.n := by
  induction l generalizing m with
  | nil => rfl
  | cons k rest ih => exact ih (m.addRows pr k)

theorem bequiv_foldAdd (pr : Nat) (l : List Nat) (m : XZ) (hpr : pr < m.n) (hl : ∀ j, j ∈ l → j < m.n ∧ pr ≠ j) :
    BEquiv m (l.foldl (fun acc j => acc.addRows pr j) m) := by
  induction l generalizing m with
  | nil => exact BEquiv.refl m
  | cons j rest ih =>
    have hj := hl j List.mem_cons_self
    exact (bequiv_addRows m pr j hpr hj.1 hj.2).trans
      (ih (m.addRows pr j) hpr (fun k hk => hl k (List.mem_cons_of_mem _ hk)))

theorem mem_theOnes (m : XZ) (pr pc i : Nat) : i ∈ m.theOnes pr pc ↔ i < m.n ∧ pr ≤ i ∧ m.x i pc = true := by
  simp only [XZ.theOnes, List.mem_filter, List.mem_range, Bool.and_eq_true, decide_eq_true_eq]

theorem theOnes_spec (m : XZ) (pr pc : Nat) :
    (∀ i, i ∈ m.theOnes pr pc → pr ≤ i ∧ i < m.n ∧ m.x i pc = true) ∧ (m.theOnes pr pc).Pairwise (· < ·) :=
  ⟨fun i hi => have h := (mem_theOnes m pr pc i).mp hi; ⟨h.2.1, h.1, h.2.2⟩, List.Pairwise.filter _ List.pairwise_lt_range⟩

theorem elimBelow_n (m : XZ) (pr : Nat) (l : List Nat) : (m.elimBelow pr l).n = m.n := by
  cases l with
  | nil => rfl
  | cons f rest =>
    simp only [XZ.elimBelow, norm_n]
    exact foldAdd_n pr rest _

theorem bequiv_elimBelow (m : XZ) (pr pc : Nat) (hpr : pr < m.n) : BEquiv m (m.elimBelow pr (m.theOnes pr pc)) := by
  obtain ⟨hmem, hsorted⟩ := theOnes_spec m pr pc
  cases hl : m.theOnes pr pc with
  | nil => exact BEquiv.refl m
  | cons f rest =>
    rw [hl] at hmem hsorted
    have hf := hmem f List.mem_cons_self
    have hrest : ∀ j, j ∈ rest → j < (m.rowSwap f pr).n ∧ pr ≠ j := by
      intro j hj
      have h1 := hmem j (List.mem_cons_of_mem _ hj)
      have h2 : f < j := (List.pairwise_cons.mp hsorted).1 j hj
      exact ⟨h1.2.1, by omega⟩
    exact ((bequiv_rowSwap m f pr hf.2.1 hpr).trans (bequiv_foldAdd pr rest (m.rowSwap f pr) hpr hrest)).trans (bequiv_norm _)

theorem rowRedLoop_preserves (P : XZ → Prop)
    (step : ∀ m pr pc, pr < m.n → P m → P (m.elimBelow pr (m.theOnes pr pc)))
    (fuel : Nat) (m : XZ) (pr pc : Nat) (hpr : pr < m.n) (h : P m) : P (XZ.rowRedLoop fuel m pr pc).1 := by
  induction fuel generalizing m pr pc with
  | zero => exact h
  | succ fuel ih =>
    unfold XZ.rowRedLoop
    split
    · split
      · exact h
      · exact step m pr pc hpr h
    · split
      · split
        · exact h
        · exact ih m pr (pc + 1) hpr h
      · split
        · exact ih m pr (pc + 1) hpr h
        · exact ih _ (pr + 1) (pc + 1) (by rw [elimBelow_n]; omega) (step m pr pc hpr h)

theorem bequiv_rowRedLoop (fuel : Nat) (m : XZ) (pr pc : Nat) (hpr : pr < m.n) :
    BEquiv m (XZ.rowRedLoop fuel m pr pc).1 ∧ (XZ.rowRedLoop fuel m pr pc).1.n = m.n :=
  rowRedLoop_preserves (fun m' => BEquiv m m' ∧ m'.n = m.n)
    (fun m' pr' pc' hpr' h => ⟨h.1.trans (bequiv_elimBelow m' pr' pc' hpr'), (elimBelow_n m' pr' _).trans h.2⟩)
    fuel m pr pc hpr ⟨BEquiv.refl m, rfl⟩

theorem bequiv_rowReduction (m : XZ) (hn : 0 < m.n) : BEquiv m m.rowReduction.1 ∧ m.rowReduction.1.n = m.n :=
  bequiv_rowRedLoop (m.n + 1) m 0 0 hn

/-- a row after `hadamard_transform` at `pos`: the bits of `a` with those of `b` at the listed sites -/
def hadBits (pos : List Nat) (a b : Nat → Bool) : Nat → Bool := fun j => if pos.contains j then b j else a j

theorem posLoop_zero (x : Adj) (n : Nat) : posLoop x n 0 = (0, []) := rfl

theorem posLoop_succ (x : Adj) (n k : Nat) : posLoop x n (k + 1) = posStep x n (posLoop x n k) k := by
  simp [posLoop, List.range_succ, List.foldl_append]

theorem posLoop_sorted (x : Adj) (n k : Nat) :
    (∀ q, q ∈ (posLoop x n k).2 → q < k) ∧ (posLoop x n k).2.Pairwise (· < ·) := by
  induction k with
  | zero => rw [posLoop_zero]; exact ⟨fun q h => (by cases h), List.Pairwise.nil⟩
  | succ k ih =>
    rw [posLoop_succ]
    unfold posStep
    split
    · exact ⟨fun q hq => Nat.lt_succ_of_lt (ih.1 q hq), ih.2⟩
    · refine ⟨fun q hq => ?_, List.pairwise_append.mpr ⟨ih.2, List.pairwise_singleton _ _, fun a ha b hb => ?_⟩⟩
      · rcases List.mem_append.mp hq with hq | hq
        · exact Nat.lt_succ_of_lt (ih.1 q hq)
        · simp only [List.mem_singleton] at hq; omega
      · simp only [List.mem_singleton] at hb
        have := ih.1 a ha
        omega

theorem positionFinder_spec (n : Nat) (x : Adj) :
    (∀ q, q ∈ positionFinder n x → q < n) ∧ (positionFinder n x).Nodup :=
  ⟨(posLoop_sorted x n n).1, (posLoop_sorted x n n).2.imp Nat.ne_of_lt⟩

/-- the linear predicate "`z' = x' · C`" on a raw row, where `(x', z')` is the row after the Hadamards at `pos` -/
def RowEq (n : Nat) (pos : List Nat) (C : Adj) (a b : Nat → Bool) : Prop :=
  ∀ j, j < n → hadBits pos b a j = parityTo n (fun k => hadBits pos a b k && C k j)

theorem rowEq_linear (n : Nat) (pos : List Nat) (C : Adj) : Linear n (RowEq n pos C) := by
  refine ⟨?_, ?_, ?_⟩
  · intro j _
    have : ∀ k, hadBits pos (fun _ => false) (fun _ => false) k = false := fun k => by simp [hadBits]
    rw [this j]
    symm; apply parityTo_zero; intro k _; rw [this k]; rfl
  · intro a b a' b' h1 h2 j hj
    have e : ∀ (u v u' v' : Nat → Bool) k, hadBits pos (fun j => xor (u j) (u' j)) (fun j => xor (v j) (v' j)) k =
        xor (hadBits pos u v k) (hadBits pos u' v' k) := by
      intro u v u' v' k; simp only [hadBits]; split <;> rfl
    rw [e, h1 j hj, h2 j hj, ← parityTo_xor]
    apply parityTo_congr
    intro k _
    rw [e]
    cases hadBits pos a b k <;> cases hadBits pos a' b' k <;> simp
  · intro a b a' b' h he j hj
    have e1 : hadBits pos b' a' j = hadBits pos b a j := by
      simp only [hadBits]; split
      · exact ((he j hj).1).symm
      · exact ((he j hj).2).symm
    rw [e1, h j hj]
    apply parityTo_congr
    intro k hk
    have e2 : hadBits pos a' b' k = hadBits pos a b k := by
      simp only [hadBits]; split
      · exact ((he k hk).2).symm
      · exact ((he k hk).1).symm
    rw [e2]

structure GFSpec (m0 : XZ) (g : GraphFinderOut) : Prop where
  n_pos : 0 < m0.n
  hpos_lt : ∀ q, q ∈ g.hpos → q < m0.n
  hpos_nodup : g.hpos.Nodup
  zdiag_lt : ∀ q, q ∈ g.zdiag → q < m0.n
  zdiag_nodup : g.zdiag.Nodup
  sym : ∀ i j, i < m0.n → j < m0.n → g.adj.f i j = g.adj.f j i
  irrefl : ∀ i, i < m0.n → g.adj.f i i = false
  /-- after the Hadamards every row satisfies `z' = x' · (A + D)`, `D` the diagonal matrix of `z_diag_pos` -/
  rows : ∀ i, i < m0.n → RowEq m0.n g.hpos (fun k j => xor (g.adj.f k j) (decide (k = j) && g.zdiag.contains j)) (m0.x i) (m0.z i)
  /-- after the Hadamards the X part has full rank: every unit vector is the X part of a combination of the rows -/
  full : ∀ j, j < m0.n → ∃ a b, BSpan m0.n m0.n m0.x m0.z a b ∧ ∀ k, k < m0.n → hadBits g.hpos a b k = decide (k = j)

/-- the adjacency matrix the tail of `_graph_finder` returns: `final_z = z.T @ x_inv` with the diagonal removed -/
def tailAdj (m2 : XZ) (xinv : Adj) : BMat :=
  (BMat.ofAdj m2.n fun i j => if i = j then false else (BMat.ofAdj m2.n (matMul m2.n (transpose m2.z) xinv)).norm.f i j).norm

/-- `z_diag_pos`: the diagonal of `final_z` -/
def tailZdiag (m2 : XZ) (xinv : Adj) : List Nat :=
  (List.range m2.n).filter fun i => (BMat.ofAdj m2.n (matMul m2.n (transpose m2.z) xinv)).norm.f i i

theorem tailAdj_f (m2 : XZ) (xinv : Adj) (i j : Nat) (hi : i < m2.n) (hj : j < m2.n) :
    (tailAdj m2 xinv).f i j = if i = j then false else matMul m2.n (transpose m2.z) xinv i j := by
  unfold tailAdj
  rw [BMat.norm_agree _ i j hi hj]
  show (if i = j then false else (BMat.ofAdj m2.n (matMul m2.n (transpose m2.z) xinv)).norm.f i j) = _
  rw [BMat.norm_agree _ i j hi hj]
  rfl

theorem mem_tailZdiag (m2 : XZ) (xinv : Adj) (q : Nat) :
    q ∈ tailZdiag m2 xinv ↔ q < m2.n ∧ matMul m2.n (transpose m2.z) xinv q q = true := by
  unfold tailZdiag
  rw [List.mem_filter, List.mem_range]
  refine and_congr_right fun hq => ?_
  rw [BMat.norm_agree _ q q hq hq]
  rfl

/-- the tail of `_graph_finder`: it returns iff its two closing assertions hold (`final_z` without its diagonal is symmetric;
    `x_inv @ x_mat.T = I`), and then it returns that matrix, the diagonal positions, and the Hadamard positions handed to it -/
theorem graphFinderTail_ok_iff (m2 : XZ) (xinv : Adj) (hpos : List Nat) (rank : Int) (g : GraphFinderOut) :
    graphFinderTail m2 xinv hpos rank = .ok g ↔
      (∀ i j, i < m2.n → j < m2.n → (tailAdj m2 xinv).f i j = (tailAdj m2 xinv).f j i) ∧
      (∀ i j, i < m2.n → j < m2.n → matMul m2.n xinv (transpose m2.x) i j = decide (i = j)) ∧
      g = { adj := tailAdj m2 xinv, hpos := hpos, zdiag := tailZdiag m2 xinv, rank := rank } := by
  unfold graphFinderTail tailAdj tailZdiag
  simp only
  split
  · next h =>
    simp only [Bool.not_eq_true', ← Bool.not_eq_true, List.all_eq_true, List.mem_range, beq_iff_eq] at h
    exact ⟨(fun e => by cases e), fun ⟨h1, _, _⟩ => absurd (fun i hi j hj => h1 i j hi hj) h⟩
  · next h =>
    simp only [Bool.not_eq_true, Bool.not_eq_false', List.all_eq_true, List.mem_range, beq_iff_eq] at h
    split
    · next h' =>
      simp only [Bool.not_eq_true', ← Bool.not_eq_true, List.all_eq_true, List.mem_range, beq_iff_eq] at h'
      exact ⟨(fun e => by cases e), fun ⟨_, h2, _⟩ => absurd (fun i hi j hj => h2 i j hi hj) h'⟩
    · next h' =>
      simp only [Bool.not_eq_true, Bool.not_eq_false', List.all_eq_true, List.mem_range, beq_iff_eq] at h'
      exact ⟨fun e => ⟨fun i j hi hj => h i hi j hj, fun i j hi hj => h' i hi j hj, (Except.ok.inj e).symm⟩,
        fun ⟨_, _, e⟩ => by rw [e]⟩

theorem graphFinderTail_spec (m2 : XZ) (xinv : Adj) (hpos : List Nat) (rank : Int) (g : GraphFinderOut)
    (e : graphFinderTail m2 xinv hpos rank = .ok g) :
    g.hpos = hpos ∧
    (∀ q, q ∈ g.zdiag → q < m2.n) ∧ g.zdiag.Nodup ∧
    (∀ i j, i < m2.n → j < m2.n → g.adj.f i j = g.adj.f j i) ∧
    (∀ i, i < m2.n → g.adj.f i i = false) ∧
    (∀ i j, i < m2.n → j < m2.n → matMul m2.n xinv (transpose m2.x) i j = decide (i = j)) ∧
    (∀ i j, i < m2.n → j < m2.n → matMul m2.n (transpose m2.z) xinv i j =
        xor (g.adj.f i j) (decide (i = j) && g.zdiag.contains j)) := by
  obtain ⟨hsym, hinv, rfl⟩ := (graphFinderTail_ok_iff m2 xinv hpos rank g).mp e
  refine ⟨rfl, fun q hq => ((mem_tailZdiag m2 xinv q).mp hq).1, List.Nodup.filter _ List.nodup_range, hsym,
    fun i hi => by rw [tailAdj_f m2 xinv i i hi hi, if_pos rfl], hinv, fun i j hi hj => ?_⟩
  show _ = xor ((tailAdj m2 xinv).f i j) (decide (i = j) && (tailZdiag m2 xinv).contains j)
  rw [tailAdj_f m2 xinv i j hi hj]
  by_cases hij : i = j
  · subst hij
    rw [if_pos rfl, decide_eq_true rfl, Bool.true_and, Bool.false_xor]
    apply Bool.eq_iff_iff.mpr
    rw [List.contains_iff_mem, mem_tailZdiag]
    exact ⟨fun h => ⟨hi, h⟩, fun h => h.2⟩
  · rw [if_neg hij, decide_eq_false hij, Bool.false_and, Bool.xor_false]

/-- `z = x · fzᵀ` for the matrices after the Hadamards, from `x_inv @ x.T = I` and `final_z = z.T @ x_inv` -/
theorem z_eq_x_fz (n : Nat) (x z xinv : Adj)
    (hinv : ∀ i j, i < n → j < n → matMul n xinv (transpose x) i j = decide (i = j)) (r j : Nat) (hr : r < n) :
    z r j = parityTo n (fun k => x r k && matMul n (transpose z) xinv j k) := by
  have step1 : parityTo n (fun k => x r k && matMul n (transpose z) xinv j k) =
      parityTo n (fun k => parityTo n (fun i => z i j && (xinv i k && x r k))) := by
    apply parityTo_congr
    intro k _
    simp only [matMul, transpose]
    rw [← parityTo_and_const]
    apply parityTo_congr
    intro i _
    cases x r k <;> cases z i j <;> cases xinv i k <;> rfl
  rw [step1, parityTo_fubini]
  have step2 : parityTo n (fun i => parityTo n (fun k => z i j && (xinv i k && x r k))) =
      parityTo n (fun i => z i j && decide (i = r)) := by
    apply parityTo_congr
    intro i hi
    rw [parityTo_and_const]
    have := hinv i r hi hr
    simp only [matMul, transpose] at this
    rw [this]
  rw [step2, parityTo_single_right n r (fun i => z i j) hr]

/-- `_graph_finder` on a non-empty input, with the stages named: the inverse of the transposed X part after `row_reduction` and
    `hadamard_transform`, then the tail (`rank` plays no role afterwards) -/
theorem graphFinderWith_eq (m0 : XZ) (hn : m0.n ≠ 0) :
    ∃ rank, ∀ inv : Nat → Adj → Option Adj, graphFinderWith inv m0 =
      match inv m0.n (transpose ((m0.norm.rowReduction.1.hadamardTransform
          (positionFinder m0.n m0.norm.rowReduction.1.x)).norm).x) with
      | none => .error .assertion
      | some xinv => graphFinderTail ((m0.norm.rowReduction.1.hadamardTransform
          (positionFinder m0.n m0.norm.rowReduction.1.x)).norm) xinv (positionFinder m0.n m0.norm.rowReduction.1.x) rank := by
  refine Exists.intro ?_ fun inv => ?eq
  case eq =>
    unfold graphFinderWith
    rw [if_neg hn]
    rfl

theorem graphFinderWith_ok (inv : Nat → Adj → Option Adj) (m0 : XZ) (g : GraphFinderOut)
    (e : graphFinderWith inv m0 = .ok g) :
    0 < m0.n ∧ ∃ xinv rank,
      inv m0.n (transpose ((m0.norm.rowReduction.1.hadamardTransform
          (positionFinder m0.n m0.norm.rowReduction.1.x)).norm).x) = some xinv ∧
      graphFinderTail ((m0.norm.rowReduction.1.hadamardTransform
          (positionFinder m0.n m0.norm.rowReduction.1.x)).norm) xinv (positionFinder m0.n m0.norm.rowReduction.1.x) rank = .ok g := by
  have hn : m0.n ≠ 0 := by
    intro h0
    unfold graphFinderWith at e
    rw [if_pos h0] at e
    cases e
  obtain ⟨rank, eq⟩ := graphFinderWith_eq m0 hn
  rw [eq] at e
  refine ⟨Nat.pos_of_ne_zero hn, ?_⟩
  split at e
  · cases e
  · next xinv hxinv => exact ⟨xinv, rank, hxinv, e⟩

theorem graphFinderWith_spec (inv : Nat → Adj → Option Adj) (m0 : XZ) (g : GraphFinderOut)
    (e : graphFinderWith inv m0 = .ok g) : GFSpec m0 g := by
  obtain ⟨hn', xinv, rank, _, e⟩ := graphFinderWith_ok inv m0 g e
  have hred := bequiv_rowReduction m0.norm (norm_pos hn')
  generalize m0.norm.rowReduction.1 = m1 at e hred
  have hb01 : BEquiv m0 m1 := (bequiv_norm m0).trans hred.1
  have hn1 : m1.n = m0.n := hred.2.trans (norm_n m0)
  generalize hpos : positionFinder m0.n m1.x = pos at e
  have hps := positionFinder_spec m0.n m1.x
  rw [hpos] at hps
  generalize hm2 : (m1.hadamardTransform pos).norm = m2 at e
  have hn2 : m2.n = m0.n := by rw [← hm2, norm_n]; exact hn1
  have hm2x : ∀ i k, i < m0.n → k < m0.n → m2.x i k = hadBits pos (m1.x i) (m1.z i) k := by
    intro i k hi hk
    rw [← hm2, norm_x _ i k (by show i < m1.n; omega) (by show k < m1.n; omega)]; rfl
  have hm2z : ∀ i k, i < m0.n → k < m0.n → m2.z i k = hadBits pos (m1.z i) (m1.x i) k := by
    intro i k hi hk
    rw [← hm2, norm_z _ i k (by show i < m1.n; omega) (by show k < m1.n; omega)]; rfl
  obtain ⟨t1, t2, t3, t4, t5, t6, t7⟩ := graphFinderTail_spec m2 xinv pos _ g e
  rw [hn2] at t2 t4 t5 t6 t7
  -- `C k j = fz j k`
  have hC : ∀ k j, k < m0.n → j < m0.n →
      xor (g.adj.f k j) (decide (k = j) && g.zdiag.contains j) = matMul m0.n (transpose m2.z) xinv j k := by
    intro k j hk hj
    rw [t7 j k hj hk, t4 k j hk hj]
    by_cases h : k = j
    · subst h; rfl
    · have h' : ¬ (j = k) := fun e => h e.symm
      simp [h, h']
  refine ⟨hn', by rw [t1]; exact hps.1, by rw [t1]; exact hps.2, t2, t3, t4, t5, ?_, ?_⟩
  · -- rows
    rw [t1]
    apply hb01.sat_bwd (rowEq_linear m0.n pos _)
    intro i hi j hj
    rw [← hm2z i j hi hj, z_eq_x_fz m0.n m2.x m2.z xinv t6 i j hi]
    apply parityTo_congr
    intro k hk
    rw [hm2x i k hi hk, ← hC k j hk hj]
  · -- full rank: the combination of the rows of `m1` with the coefficients `xinv[·, j0]` has transformed X part `e_j0`
    intro j0 hj0
    have hcomm := gf2_inverse_comm m0.n xinv (transpose m2.x) t6
    have hcombo : BSpan m0.n m0.n m1.x m1.z _ _ := hn1 ▸ BSpan.combo m1.n m1.n m1.x m1.z (fun k => xinv k j0) m1.n (Nat.le_refl _)
    refine ⟨_, _, BSpan.mono hb01.fwd hcombo, fun k hk => ?_⟩
    have := hcomm k j0 hk hj0
    simp only [matMul, transpose] at this
    rw [t1, ← this]
    have e : ∀ (u v : Nat → Nat → Bool), hadBits pos (fun j => parityTo m0.n (fun i => xinv i j0 && u i j))
        (fun j => parityTo m0.n (fun i => xinv i j0 && v i j)) k =
        parityTo m0.n (fun i => xinv i j0 && hadBits pos (u i) (v i) k) := by
      intro u v; simp only [hadBits]; split <;> rfl
    rw [e]
    apply parityTo_congr
    intro i hi
    rw [hm2x i k hi hk, Bool.and_comm]

theorem graphFinder_spec (m0 : XZ) (g : GraphFinderOut) (e : graphFinder m0 = .ok g) : GFSpec m0 g :=
  graphFinderWith_spec gf2InvF m0 g e

theorem bspan_coeffs {n m : Nat} {rx rz : Nat → Nat → Bool} {a b : Nat → Bool} (h : BSpan n m rx rz a b) :
    ∃ c : Nat → Bool, ∀ j, j < n →
      a j = parityTo m (fun i => c i && rx i j) ∧ b j = parityTo m (fun i => c i && rz i j) := by
  induction h with
  | zero =>
    refine ⟨fun _ => false, fun j _ => ⟨?_, ?_⟩⟩ <;>
      (symm; apply parityTo_zero; intro i _; rfl)
  | gen i hi =>
    refine ⟨fun k => decide (k = i), fun j _ => ⟨?_, ?_⟩⟩
    · exact (parityTo_single m i (fun k => rx k j) hi).symm
    · exact (parityTo_single m i (fun k => rz k j) hi).symm
  | add a b a' b' _ _ ih1 ih2 =>
    obtain ⟨c1, h1⟩ := ih1
    obtain ⟨c2, h2⟩ := ih2
    refine ⟨fun i => xor (c1 i) (c2 i), fun j hj => ⟨?_, ?_⟩⟩
    · show xor (a j) (a' j) = _
      rw [(h1 j hj).1, (h2 j hj).1, ← parityTo_xor]
      apply parityTo_congr; intro i _
      show xor (c1 i && rx i j) (c2 i && rx i j) = (xor (c1 i) (c2 i) && rx i j)
      cases c1 i <;> cases c2 i <;> cases rx i j <;> rfl
    · show xor (b j) (b' j) = _
      rw [(h1 j hj).2, (h2 j hj).2, ← parityTo_xor]
      apply parityTo_congr; intro i _
      show xor (c1 i && rz i j) (c2 i && rz i j) = (xor (c1 i) (c2 i) && rz i j)
      cases c1 i <;> cases c2 i <;> cases rz i j <;> rfl
  | ext a b a' b' _ he ih =>
    obtain ⟨c, hc⟩ := ih
    exact ⟨c, fun j hj => ⟨((he j hj).1).symm.trans (hc j hj).1, ((he j hj).2).symm.trans (hc j hj).2⟩⟩

def UnitSpan (n : Nat) (X : Adj) : Prop :=
  ∀ j, j < n → ∃ c : Nat → Bool, ∀ k, k < n → parityTo n (fun i => c i && X i k) = decide (k = j)

theorem unitSpan_inverse (n : Nat) (X : Adj) (h : UnitSpan n X) :
    ∃ E : Adj, (∀ i j, i < n → j < n → matMul n E X i j = decide (i = j)) ∧
      (∀ i j, i < n → j < n → matMul n X E i j = decide (i = j)) := by
  choose c hc using h
  let E : Adj := fun j m => if hj : j < n then c j hj m else false
  have h1 : ∀ i j, i < n → j < n → matMul n E X i j = decide (i = j) := by
    intro i j hi hj
    have := hc i hi j hj
    simp only [matMul, E, dif_pos hi]
    rw [this]
    by_cases e : i = j
    · subst e; simp
    · have : ¬ (j = i) := fun h => e h.symm
      simp [e, this]
  exact ⟨E, h1, gf2_inverse_comm n E X h1⟩

theorem unitSpan_indep (n : Nat) (X : Adj) (h : UnitSpan n X) (v : Nat → Bool)
    (hv : ∀ j, j < n → parityTo n (fun i => v i && X i j) = false) : ∀ i, i < n → v i = false := by
  obtain ⟨E, _, h2⟩ := unitSpan_inverse n X h
  intro i0 hi0
  have e0 : parityTo n (fun j => parityTo n (fun i => v i && X i j) && E j i0) = false := by
    apply parityTo_zero; intro j hj; rw [hv j hj]; rfl
  rw [parityTo_congr n _ (fun j => parityTo n (fun i => (v i && X i j) && E j i0)) (fun j _ => (parityTo_const_and n _ _).symm),
    parityTo_fubini,
    parityTo_congr n _ (fun i => v i && decide (i = i0)) (fun i hi => by
      rw [← h2 i i0 hi hi0]
      simp only [matMul]
      rw [← parityTo_and_const]
      apply parityTo_congr; intro j _
      exact Bool.and_assoc _ _ _),
    parityTo_single_right n i0 v hi0] at e0
  exact e0

theorem unitSpan_row_ne_zero (n : Nat) (X : Adj) (h : UnitSpan n X) (r : Nat) (hr : r < n)
    (hz : ∀ c, c < n → X r c = false) : False := by
  obtain ⟨E, _, h2⟩ := unitSpan_inverse n X h
  have := h2 r r hr hr
  simp only [matMul] at this
  rw [parityTo_zero n _ (fun k hk => by rw [hz k hk]; rfl)] at this
  simp at this

theorem graphFinderTail_r (m2 : XZ) (xinv : Adj) (hpos : List Nat) (rank : Int) (g : GraphFinderOut)
    (e : graphFinderTail m2 xinv hpos rank = .ok g) : g.adj.r = m2.n := by
  obtain ⟨_, _, rfl⟩ := (graphFinderTail_ok_iff m2 xinv hpos rank g).mp e
  rfl

theorem graphFinderWith_r (inv : Nat → Adj → Option Adj) (m0 : XZ) (g : GraphFinderOut)
    (e : graphFinderWith inv m0 = .ok g) : g.adj.r = m0.n := by
  unfold graphFinderWith at e
  split at e
  · cases e
  · next hn =>
    have hred := bequiv_rowReduction m0.norm (Nat.pos_of_ne_zero hn)
    -- the reduced matrix as a variable: the tail is only asked for its shape
    generalize m0.norm.rowReduction = rr at e hred
    obtain ⟨m1, rank0⟩ := rr
    simp only at e hred
    split at e
    · cases e
    · rw [graphFinderTail_r _ _ _ _ g e]
      exact hred.2

end S2G
end Graphiq
