/-
  Proofs/MixtureDMDefined.lean — the density-matrix backend never produces its NaN state while the photon survival probability
  stays above `np.isclose`'s tolerance `1e-8`: for every circuit of the class of Proofs/MixtureDMPhysMeas (measurements with
  arbitrary outcomes included) with loss rates in `[0,1]`, if `∏ (1 − loss_j) > 1e-8` then `DensityMatrixCompiler.compile`
  returns a matrix (and that matrix is positive semidefinite with trace `∏ (1 − loss_j)`).  Every number of qubits.

  The only source of NaN is `apply_measurement` dividing by a zero conditional probability; `measurement_defined` shows the
  outcome rule never selects an outcome of probability 0 when the trace exceeds `1e-8`.
-/
import GraphiqModel.Proofs.MixtureDMPhysMeas
namespace Graphiq
namespace MixDM
open Matrix Hilbert Noise DM PRow
open scoped ComplexOrder

/-- the absolute tolerance of `np.isclose` -/
def tol : Rat := 1 / 100000000

theorem tol_pos : 0 < tol := by unfold tol; norm_num

theorem isclose0_true_le (x : Rat) (h0 : 0 ≤ x) (h : isclose0 x = true) : x ≤ tol := by
  unfold isclose0 at h
  rw [rat_abs_eq, abs_of_nonneg h0] at h
  exact of_decide_eq_true h

theorem isclose0_false_gt (x : Rat) (h0 : 0 ≤ x) (h : isclose0 x = false) : tol < x := by
  unfold isclose0 at h
  rw [rat_abs_eq, abs_of_nonneg h0] at h
  exact not_le.1 (of_decide_eq_false h)

/-- **`apply_measurement` returns a matrix whenever the trace of the state exceeds `1e-8`** -/
theorem measurement_defined (n q : Nat) (hq : q < n) (ρ p0 p1 : Mat) (hp : projectorsZ n q = .ok (p0, p1)) (τ : ℚ)
    (hg : DGood n ρ τ) (hτ : tol < τ) (det : Bool) : ∃ ρ' o, applyMeasurement ρ p0 p1 det = .ok (some ρ', o) := by
  obtain ⟨x0n, x1n, hτs, _, _⟩ := meas_probs n q hq ρ p0 p1 hp τ hg
  rw [applyMeasurement_eq ρ p0 p1 det (by rw [hg.size, (toC_projectorsZ n q hq p0 p1 hp).2.2.1])]
  generalize prOf ρ p0 = x0 at *
  generalize prOf ρ p1 = x1 at *
  simp only
  have htp := tol_pos
  have hpos : 0 < x0 + x1 := by linarith
  -- the selected outcome has positive probability
  have hsel : (if (if det = true then !isclose0 x1 else isclose0 x0) = true then x1 else x0) ≠ 0 := by
    cases det with
    | true =>
      simp only [if_true]
      cases hc : isclose0 x1 with
      | true =>
        have := isclose0_true_le x1 x1n hc
        simp only [Bool.not_true, Bool.false_eq_true, if_false]
        intro e; linarith
      | false =>
        have := isclose0_false_gt x1 x1n hc
        simp only [Bool.not_false, if_true]
        intro e; linarith
    | false =>
      simp only [Bool.false_eq_true, if_false]
      cases hc : isclose0 x0 with
      | true =>
        have := isclose0_true_le x0 x0n hc
        simp only [if_true]
        intro e; linarith
      | false =>
        have := isclose0_false_gt x0 x0n hc
        simp only [Bool.false_eq_true, if_false]
        intro e; linarith
  rw [if_pos hpos]
  rw [if_neg (div_ne_zero hsel (ne_of_gt hpos))]
  exact ⟨_, _, rfl⟩

theorem dmMeasGate_defined (np n : Nat) (det : Bool) (op : COp) (hk : MeasAny op.kind) (hw : OpWF n np op) (d d1 : DmSt)
    (ρ : Mat) (hd : d.ρ = some ρ) (τ : ℚ) (hg : DGood n ρ τ) (hτ : tol < τ) (h : dmGate np n det op d = .ok d1) :
    ∃ ρ1, d1.ρ = some ρ1 := by
  rw [dmGate_meas hk hd] at h
  obtain ⟨p0, p1, r, o, hp, ha, _, hr⟩ := dmMeas_ok h
  obtain ⟨ρm, o', ha'⟩ := measurement_defined n _ hw.1 ρ p0 p1 hp τ hg hτ det
  rw [ha] at ha'
  injection ha' with e
  injection e with e _
  subst e
  obtain ⟨_, ρ3, _, _, h4⟩ := hr
  exact ⟨ρ3, h4⟩

theorem dmAct_defined (np n : Nat) (det : Bool) (arr : Array COp) (d d1 : DmSt) (a : Act)
    (ha : ActP (OpOK3 n np) (fun q nm => q < n ∧ ParamPhys nm) arr a)
    (ρ : Mat) (hd : d.ρ = some ρ) (τ : ℚ) (hg : DGood n ρ τ) (hτ : tol < τ) (h : dmAct np n det arr d a = .ok d1) :
    ∃ ρ1, d1.ρ = some ρ1 := by
  cases a with
  | gate k =>
    simp only [dmAct] at h
    cases hk : arr[k]? with
    | none =>
      rw [getD_none arr k hk] at h
      simp only [dmGate, hd] at h
      injection h with h; subst h
      exact ⟨ρ, hd⟩
    | some op =>
      rw [getD_some arr k op hk] at h
      have hw := (ha op hk).wf
      rcases (ha op hk).kind with hf | hm
      · obtain ⟨ρ', hρ', _, _⟩ := dmGate_toC np n det op hf hw d d1 ρ hd hg.size hg.herm h
        exact ⟨ρ', hρ'⟩
      · exact dmMeasGate_defined np n det op hm hw d d1 ρ hd τ hg hτ h
  | noise k side q nm =>
    obtain ⟨r, _, rfl⟩ := dmAct_noise_inv hd h
    exact ⟨r, rfl⟩
  | replace k => simp [dmAct] at h

def OpOK4 (n np : Nat) (op : COp) : Prop := OpOK3 n np op ∧ LossOK op.n0 ∧ LossOK op.n1

/-- **no NaN while the survival probability exceeds `1e-8`**: measurements with arbitrary outcomes included, every n -/
theorem compileDM_defined (ns : Bool) (ne np nc : Nat) (det : Bool) (ops : List COp)
    (hw : ∀ op ∈ ops, OpOK4 (ne + np) np op) (tr : List Act) (htr : compileTrace ns .dm np ops = .ok tr)
    (hτ : tol < lossFactor tr) (d : DmSt) (h : compileDM ns ne np nc det ops = .ok d) :
    ∃ ρ, d.ρ = some ρ ∧ DGood (ne + np) ρ (lossFactor tr) := by
  obtain ⟨tr', htr', hrun⟩ := dmGo_run.1 h
  obtain rfl : tr' = tr := by
    unfold compileTrace at htr; rw [htr] at htr'; injection htr' with e; exact e.symm
  have e0 := toC_rho0 (ne + np)
  -- the trace only shrinks (loss rates in `[0,1]`), so a matrix of trace above the tolerance had a predecessor above it
  have := runActs_sim (fun a τ => lossOf a * τ) (fun d τ => tol < τ → ∃ ρ, d.ρ = some ρ ∧ DGood (ne + np) ρ τ)
    (ActP (OpOK3 (ne + np) np) (fun q nm => (q < ne + np ∧ ParamPhys nm) ∧ LossOK nm) ops.toArray)
    (fun d d1 a τ ha hr hd hτ1 => by
      have ha3 := ha.mono (fun _ h => h) (fun _ _ h => h.1)
      obtain ⟨a0, a1⟩ := lossOf_range a (fun k side q nm e => by subst e; exact ha.2)
      have hτ0 := weight_mono _ _ _ tol_pos a0 a1 hτ1
      obtain ⟨ρ, hρ, g⟩ := hr hτ0
      obtain ⟨ρ1, hρ1⟩ := dmAct_defined np (ne + np) det ops.toArray d d1 a ha3 ρ hρ τ g hτ0 hd
      exact ⟨ρ1, hρ1, dmAct_phys np (ne + np) det ops.toArray d d1 a ha3 τ
        (fun r hr' => by rw [hρ] at hr'; injection hr' with hr'; subst hr'; exact g) hd ρ1 hρ1⟩)
    tr' _ d 1
    (trace_actP (fun j op hop => (toArray_forall hw j op hop).1)
      (fun op ho => ⟨⟨(hw op ho).1.noise.1, (hw op ho).2.1⟩, fun hc => ⟨(hw op ho).1.noise.2 hc, (hw op ho).2.2⟩⟩) htr')
    (fun _ => ⟨_, rfl, rfl, by rw [e0]; exact rho0_psd _, by rw [e0, rho0_trace]; simp⟩) hrun
  rw [lossFactor_foldl, _root_.mul_one] at this
  exact this hτ

end MixDM
end Graphiq
