/-
  C06 — noisy simulation is physical, backend-independent and switchable.

  Property theorems only (lemmas in Proofs/Noise.lean, Proofs/Channel.lean, Proofs/MixtureDM*.lean).  The model
  (Model/Noise.lean) mirrors `CompilerBase.compile`, the two `_apply_additional_noise`, the three additive noise models on
  both representations and `MixedStabilizer.reduce()`; it is tied to /repo by the correspondence run of harness/c06.py.

  What is proved for all circuits / sizes:  clause (a) — the placement decision tree; clause (b) — weight bookkeeping of
  the mixture, validity of every branch; clause (c) for measurement-free circuits — the density matrix of the exact
  density-matrix model equals `Σ_k p_k ρ(T_k)` of the stabilizer model's mixture, for every number of qubits (Hilbert-space
  level and, through the embedding `Mat → Matrix (Bits n) (Bits n) ℂ`, entry by entry for the executable models), with its
  consequences: trace = product of survival probabilities, positive semidefinite, same overlap with every stabilizer target;
  both compilers return on the whole class; clause (c) also with measurements on which all branches agree (incl. photon loss);
  the density matrix is physical (PSD, trace = ∏ survival) through arbitrary measurements; clause (d) for whole circuits
  (switch off = noiseless run literally; zero strength = noiseless state).
  Measurements: `compileStab` models `StabilizerCompiler.compile` with the *repaired* joint `MixedStabilizer.apply_measurement`
  (finding F2 fixed); clause (c) then holds for circuits with measurements with no condition on the outcomes
  (`dm_equals_mixture_with_measurements`).  The per-branch measurement of graphiq before that repair is kept as
  `Mix.measureOld` / `compileStabOld` for the historical theorems (`per_branch_measurement_differs`, …) and for checking an
  unrepaired /repo.  What is *not* a theorem: positivity of the floating-point matrix (oracle only); the "probabilistic"
  measurement setting (the draw rule of the repaired routine is modelled as `Mix.measureDraw` and compared per input, not used
  in the theorems).
-/
import GraphiqModel.Proofs.Noise
import GraphiqModel.Proofs.Channel
import GraphiqModel.Proofs.GateTable
import GraphiqModel.Proofs.MixtureDMLockstep
import GraphiqModel.Proofs.MixtureDMPhysMeas
import GraphiqModel.Proofs.MixtureDMZero
import GraphiqModel.Proofs.MixtureDMWeights
import GraphiqModel.Proofs.MixtureDMJointCircuit
import GraphiqModel.Proofs.MixtureDMPerBranch
import GraphiqModel.Proofs.MixtureDMTotalMeas
import GraphiqModel.Proofs.MixtureDMDefined
namespace Graphiq.C06
open Graphiq Graphiq.Noise Graphiq.DM

/-! ## (a) Placement: each attached additive noise is applied exactly once per addressed qubit, on the requested side -/

/-- **Noise on, supported operation** (one-qubit gate or CNOT/CZ with additive noise models, on either backend):
    the actions are exactly `before ++ [gate] ++ after`, where `before` / `after` list — control first — each attached
    non-`NoNoise` noise whose `After gate` flag is `False` / `True`, on the qubit it addresses.  This covers all four
    placement branches of a controlled gate, the mixed ones included (D36 repaired). -/
theorem placement_noise_on (be : Backend) (np : Nat) (op : COp) (k : Nat) (hs : Supported op) :
    placeOp true be np op k = .ok (wanted np op k false ++ [Act.gate k] ++ wanted np op k true) :=
  placeOp_supported be np op k hs

/-- an attached control / single noise that is not `NoNoise` occurs exactly once in the actions of its operation -/
theorem control_noise_applied_once (be : Backend) (np : Nat) (op : COp) (k : Nat) (hs : Supported op)
    (hn : op.n0.isNone = false) :
    ∃ tr, placeOp true be np op k = .ok tr ∧ tr.count (Act.noise k 0 (qIndex np op.r1 op.t1) op.n0) = 1 := by
  refine ⟨_, placeOp_supported be np op k hs, ?_⟩
  rw [List.count_append, List.count_append, count_wanted_control, count_wanted_control, hn]
  cases op.n0.after <;> rfl

/-- an attached target noise of a controlled pair that is not `NoNoise` occurs exactly once -/
theorem target_noise_applied_once (be : Backend) (np : Nat) (op : COp) (k : Nat) (hs : Supported op)
    (hc : op.kind.isCtrlPair = true) (hn : op.n1.isNone = false) :
    ∃ tr, placeOp true be np op k = .ok tr ∧ tr.count (Act.noise k 1 (qIndex np op.r2 op.t2) op.n1) = 1 := by
  refine ⟨_, placeOp_supported be np op k hs, ?_⟩
  rw [List.count_append, List.count_append, count_wanted_target, count_wanted_target, hn, hc]
  cases op.n1.after <;> rfl

/-- **Noise simulation switched off**: whatever is attached, the only action is the gate -/
theorem placement_noise_off (be : Backend) (np : Nat) (op : COp) (k : Nat) :
    placeOp false be np op k = .ok [Act.gate k] := placeOp_off be np op k

/-- **`NoNoise` everywhere** (what an empty noise map produces): the only action is the gate -/
theorem placement_no_noise (ns : Bool) (be : Backend) (np : Nat) (op : COp) (k : Nat)
    (h0 : op.n0.isNone = true) (h1 : op.n1.isNone = true) :
    placeOp ns be np op k = .ok [Act.gate k] := placeOp_none ns be np op k h0 h1

/-- whole circuits: with the switch off the trace is the gate sequence and nothing else -/
theorem trace_noise_off (be : Backend) (np : Nat) (ops : List COp) :
    compileTrace false be np ops = .ok ((List.range ops.length).map Act.gate) := compileTrace_off be np ops

/-- **whole circuits, noise on**: for a circuit of supported operations (one-qubit gates, CNOT, CZ with additive noise) the
    compile trace of either backend is, operation by operation, [noise asking for "before"] ++ [gate] ++ [noise asking for
    "after"] — every attached non-`NoNoise` noise exactly once, on the qubit it addresses, on the requested side -/
theorem trace_noise_on (be : Backend) (np : Nat) (ops : List COp) (hs : ∀ op ∈ ops, Supported op) :
    compileTrace true be np ops = .ok (Graphiq.MixDM.wantedAll np ops 0) :=
  Graphiq.MixDM.traceGo_supported be np ops 0 hs

/-! ## (b) Weight bookkeeping of the stabilizer mixture, every circuit -/

/-- **Σ p_k = ∏ (1 − loss_j).**  If `StabilizerCompiler.compile` returns, the placement tree produced a trace and the total
    weight of the resulting mixture is the product of the survival probabilities of the photon-loss events of that trace (in
    particular 1 when there is none) — or exactly `0`: the repaired (joint) `apply_measurement` sets every weight to `0.0 · p_i`
    when the outcome it selects carries no weight, which can only happen at a total weight within `np.isclose`'s tolerance
    `1e-8` of 0.  Every circuit, measurements included. -/
theorem mixture_weight_is_survival_product (ns : Bool) (ne np nc : Nat) (det : Bool) (ops : List COp) (s : StabSt)
    (h : compileStab ns ne np nc det ops = .ok s) :
    ∃ tr, compileTrace ns .stab np ops = .ok tr ∧ (Mix.total s.mix = lossFactor tr ∨ Mix.total s.mix = 0) :=
  compileStab_total ns ne np nc det ops s h

/-- in particular: a mixture of non-zero weight has exactly the survival product as its weight -/
theorem mixture_weight_is_survival_product_of_ne_zero (ns : Bool) (ne np nc : Nat) (det : Bool) (ops : List COp) (s : StabSt)
    (h : compileStab ns ne np nc det ops = .ok s) (h0 : Mix.total s.mix ≠ 0) :
    ∃ tr, compileTrace ns .stab np ops = .ok tr ∧ Mix.total s.mix = lossFactor tr := by
  obtain ⟨tr, h1, h2⟩ := mixture_weight_is_survival_product ns ne np nc det ops s h
  exact ⟨tr, h1, h2.resolve_right h0⟩

/-- single steps: a photon loss multiplies the weight by `1 − rate`; depolarizing noise (filter and `reduce()` as coded) and
    `reduce()` itself keep it -/
theorem loss_scales_weight (r : Rat) (m : Mixture) : Mix.total (Mix.photonLoss r m) = (1 - r) * Mix.total m :=
  Mix.total_photonLoss r m
theorem depolarizing_keeps_weight (p : Rat) (q : Nat) (m m' : Mixture) (h : Mix.depolarize p q m = .ok m') :
    Mix.total m' = Mix.total m := Mix.total_depolarize p q m m' h
theorem reduce_keeps_weight (m : Mixture) : Mix.total (Mix.reduce m.length m) = Mix.total m :=
  Mix.total_reduce m.length m (Nat.le_refl _)

/-- the density-matrix twin of `loss_scales_weight`: `PhotonLoss` multiplies the trace of the model's exact matrix by `1 − rate` -/
theorem loss_scales_dm_trace (n q : Nat) (r : Rat) (a : Bool) (ρ ρ' : Mat) (h : DMx.applyNoise n (.loss r a) q ρ = .ok ρ') :
    ρ'.trace = GQ.smul (1 - r) ρ.trace := dm_loss_trace n q r a ρ ρ' h

/-- for a probability in [0,1] the depolarizing step never fails on a non-empty mixture, whatever the weights -/
theorem depolarizing_succeeds (p : Rat) (q : Nat) (m : Mixture) (hp0 : 0 ≤ p) (hp1 : p ≤ 1) (hm : m ≠ []) :
    ∃ m', Mix.depolarize p q m = .ok m' := Mix.depolarize_ok p q m hp0 hp1 hm

/-- the depolarizing step after a photon loss of rate exactly 1 returns (**D37, repaired**: the filter now tests the Kraus factor, not
    `p_i·factor`, so a branch of weight 0 is kept and the mixture cannot become empty); the weight stays 0 -/
theorem d37_repaired (p : Rat) (q : Nat) (t : Tab) (hp0 : 0 ≤ p) (hp1 : p ≤ 1) :
    ∃ m', Mix.depolarize p q [(0, t)] = .ok m' ∧ Mix.total m' = 0 := by
  obtain ⟨m', h⟩ := Mix.depolarize_ok p q [(0, t)] hp0 hp1 (by simp)
  refine ⟨m', h, ?_⟩
  rw [Mix.total_depolarize p q _ m' h]; simp [Mix.total_cons, Mix.total_nil]

/-- **every `T_k` is a valid tableau.**  For a circuit whose operations address existing qubits (control ≠ target for
    CNOT/CZ), whenever `StabilizerCompiler.compile` returns, every branch of the mixture is a valid `(ne+np)`-qubit Clifford
    tableau — through all gates, joint measurements and resets, Pauli errors, depolarizing branching and `reduce()`.
    (Uses the C07 validity theorems.) -/
theorem every_branch_valid (ns : Bool) (ne np nc : Nat) (det : Bool) (ops : List COp)
    (hw : ∀ op ∈ ops, OpWF (ne + np) np op) (s : StabSt) (h : compileStab ns ne np nc det ops = .ok s) :
    ∀ x ∈ s.mix, x.2.n = ne + np ∧ x.2.Valid := compileStab_ok ns ne np nc det ops hw s h

/-- **every weight `p_k` is non-negative**: any circuit — measurements, classically controlled operations and resets included,
    any placement — with photon-loss rates `≤ 1` (the depolarizing filter keeps only positive factors, whatever the probability):
    whenever the stabilizer compile returns, the mixture is a genuine sub-normalised probability mixture -/
theorem every_weight_nonneg (ns : Bool) (ne np nc : Nat) (det : Bool) (ops : List COp)
    (hw : ∀ op ∈ ops, Graphiq.MixDM.LossLe1 op.n0 ∧ Graphiq.MixDM.LossLe1 op.n1) (s : StabSt)
    (h : compileStab ns ne np nc det ops = .ok s) : ∀ x ∈ s.mix, 0 ≤ x.1 :=
  Graphiq.MixDM.compileStab_nonneg ns ne np nc det ops hw s h

/-! ## (c) Density matrix = Σ p_k ρ(T_k), measurement-free circuits, every number of qubits -/

section clause_c
open Graphiq.MixDM Graphiq.Hilbert Matrix

/-- **(c), Hilbert-space level, stabilizer side.**  For a measurement-free circuit on existing qubits (control ≠ target) with
    depolarizing probabilities in `[0,1]` — any Pauli errors, any loss rates, either placement, noise simulation on or off —
    whenever `StabilizerCompiler.compile` returns the mixture `[(w_k, T_k)]`, the placement tree produced a trace `tr` and
    `Σ_k w_k ρ(T_k) = runH tr |0…0⟩⟨0…0|`: the initial state pushed, action by action, through what the density-matrix backend
    applies (`U ρ U†` for a gate, `P ρ P†` for a Pauli error, `(1−p) ρ + p/3 (XρX + YρY + ZρZ)` for depolarizing noise,
    `(1−λ) ρ` for photon loss).  Covers the `factor > 0` filter and `reduce()` as coded.  `2^n × 2^n` complex matrices, all n. -/
theorem mixture_is_hilbert_run (ns : Bool) (ne np nc : Nat) (det : Bool) (ops : List COp)
    (hw : ∀ op ∈ ops, OpOK (ne + np) np op) (s : StabSt) (h : compileStab ns ne np nc det ops = .ok s) :
    ∃ tr, compileTrace ns .stab np ops = .ok tr ∧
      mixRho (ne + np) s.mix = runH np (ne + np) ops.toArray tr (rho0 (ne + np)) ∧ MixN (ne + np) s.mix :=
  compileStab_mixRho ns ne np nc det ops hw s h

/-- **(c), Hilbert-space level, density-matrix side.**  On the same circuits, whenever the exact density-matrix model
    (`Mat` over ℚ[i]; Kronecker-built gate matrices, `apply_unitary` with `hermitianize`, `apply_channel`, tabulation — as
    coded) returns, its matrix, read as a complex matrix on bit strings (row / column `i` ↔ the big-endian bit string of
    `i`), is the same Hilbert-space run of its placement trace, has size `2^n` and is Hermitian. -/
theorem dm_is_hilbert_run (ns : Bool) (ne np nc : Nat) (det : Bool) (ops : List COp)
    (hw : ∀ op ∈ ops, OpOK (ne + np) np op) (d : DmSt) (h : compileDM ns ne np nc det ops = .ok d) :
    ∃ tr, compileTrace ns .dm np ops = .ok tr ∧
      ∃ ρ, d.ρ = some ρ ∧ toC (ne + np) ρ = runH np (ne + np) ops.toArray tr (rho0 (ne + np)) ∧ ρ.n = 2 ^ (ne + np) ∧
        (toC (ne + np) ρ)ᴴ = toC (ne + np) ρ :=
  compileDM_toC ns ne np nc det ops hw d h

/-- on measurement-free operations both backends walk the same placement trace -/
theorem same_trace_both_backends (ns : Bool) (np : Nat) (ops : List COp) (h : ∀ op ∈ ops, MFree op) :
    compileTrace ns .dm np ops = compileTrace ns .stab np ops := traceGo_backend ns np ops 0 h

/-- a single step behind `mixture_is_hilbert_run`, every `n`: a gate on every branch -/
theorem gate_on_every_branch (n : Nat) (g : Gate) (hg : g.WF n) (m : Mixture) (hm : MixN n m) :
    mixRho n (Mix.mapTab (fun t => t.map g.act) m) = conjH (gateMat n g) (mixRho n m) := mixRho_mapGate n g hg m hm
/-- a single step behind `mixture_is_hilbert_run`, every `n`: depolarizing branching with its filter, weight check and `reduce()` -/
theorem depolarizing_on_mixture (n q : Nat) (hq : q < n) (p : Rat) (hp0 : 0 ≤ p) (hp1 : p ≤ 1) (m m' : Mixture) (hm : MixN n m)
    (h : Mix.depolarize p q m = .ok m') : mixRho n m' = depolH n q p (mixRho n m) :=
  mixRho_depolarize n q hq p hp0 hp1 m m' hm h
/-- a single step behind `mixture_is_hilbert_run`, every `n`: a Pauli error -/
theorem pauli_error_on_mixture (n q : Nat) (hq : q < n) (k : PauliK) (m m' : Mixture) (hm : MixN n m)
    (h : Mix.pauliError k q m = .ok m') : mixRho n m' = pauliH n q k (mixRho n m) := mixRho_pauliError n q hq k m m' hm h
/-- a single step behind `mixture_is_hilbert_run`, every `n`: photon loss -/
theorem photon_loss_on_mixture (n : Nat) (r : Rat) (m : Mixture) :
    mixRho n (Mix.photonLoss r m) = (((1 - r : ℚ)) : ℂ) • mixRho n m := mixRho_photonLoss n r m
/-- **`reduce()` is correct**: merging branches whose tableaux are `__eq__` — with the pop-while-enumerating loop as
    coded — never changes the state the mixture stands for -/
theorem reduce_keeps_state (n : Nat) (m : Mixture) (hm : MixN n m) : mixRho n (Mix.reduce m.length m) = mixRho n m :=
  mixRho_reduce n m.length m (Nat.le_refl _) hm

/-- observation D11 as a kernel-checked fact: because `reduce()` pops from the list it is enumerating, three equal branches
    are merged into *two* (`[2/3, 1/3]`), not one — harmless for the property by `reduce_keeps_state` / `reduce_keeps_weight` -/
theorem reduce_under_merges :
    ((Mix.reduce 3 [(1/3, (Tab.ket0 1).norm), (1/3, (Tab.ket0 1).norm), (1/3, (Tab.ket0 1).norm)]).map fun x => x.1)
      = [2/3, 1/3] := by decide +kernel

/-- the executable `mixtureDensity` (what the driver evaluates) is `Σ_k w_k ρ(T_k)` -/
theorem mixtureDensity_is_mixRho (n : Nat) (m : Mixture) (hm : MixN n m) :
    toC n (mixtureDensity n m) = mixRho n m ∧ (mixtureDensity n m).n = 2 ^ n := toC_mixtureDensity n m hm

/-- clause (c) for measurement-free circuits (where the per-branch-measurement finding does not apply): the operations address
    existing qubits, control ≠ target (what `CircuitDAG` guarantees; `dm_equals_mixture_needs_existing_qubits` shows the
    executable models do disagree without it), depolarizing probabilities lie in `[0,1]` (the property's quantifier). -/
def dm_equals_mixture_statement : Prop :=
  ∀ (ne np nc : Nat) (det : Bool) (ops : List COp) (s : StabSt) (d : DmSt) (ρ : Mat),
    (∀ op ∈ ops, OpOK (ne + np) np op) →
    compileStab true ne np nc det ops = .ok s → compileDM true ne np nc det ops = .ok d → d.ρ = some ρ →
    Mat.EqOn ρ (mixtureDensity (ne + np) s.mix)

/-- **(c): the stabilizer mixture is the density matrix**, every measurement-free noisy circuit, every number of qubits, entry
    by entry in exact arithmetic. -/
theorem dm_equals_mixture : dm_equals_mixture_statement :=
  fun ne np nc det ops s d ρ hw hs hd hρ => MixDM.dm_equals_mixture true ne np nc det ops hw s d ρ hs hd hρ

/-- the same with noise simulation switched off (then both are the noiseless state) or on -/
theorem dm_equals_mixture_any_switch (ns : Bool) (ne np nc : Nat) (det : Bool) (ops : List COp)
    (hw : ∀ op ∈ ops, OpOK (ne + np) np op) (s : StabSt) (d : DmSt) (ρ : Mat)
    (hs : compileStab ns ne np nc det ops = .ok s) (hd : compileDM ns ne np nc det ops = .ok d) (hρ : d.ρ = some ρ) :
    Mat.EqOn ρ (mixtureDensity (ne + np) s.mix) := MixDM.dm_equals_mixture ns ne np nc det ops hw s d ρ hs hd hρ

/-- the hypothesis "existing qubits" cannot be dropped *for the models*: a Pauli error addressed to qubit 5 of a one-qubit
    register is the identity on the tableau (no such column) but `get_one_qubit_gate(1, 5, X)` returns `X` itself.
    (`CircuitDAG` never produces such an operation, and the real `x_gate` asserts `qubit_position < n_qubits`.) -/
theorem dm_equals_mixture_needs_existing_qubits :
    (match compileDM true 1 0 0 true [{ kind := .identity, r1 := 5, t1 := .e, n0 := .pauli .X true }],
           compileStab true 1 0 0 true [{ kind := .identity, r1 := 5, t1 := .e, n0 := .pauli .X true }] with
      | .ok { ρ := some ρ, .. }, .ok s => ρ.e 1 1 == (⟨1, 0⟩ : GQ) && (mixtureDensity 1 s.mix).e 0 0 == (⟨1, 0⟩ : GQ)
      | _, _ => false) = true := by decide +kernel

/-! ### non-vacuity of (c): depolarizing noise + Pauli error + photon loss on a two-qubit circuit -/

/-- `H(e0)` with depolarizing noise after it, then `CNOT(e0 → p0)` with a `Z` error before it on the control and photon loss
    after it on the target -/
def exCircuit : List COp :=
  [ { kind := .h, r1 := 0, t1 := .e, n0 := .depol (1/3) true },
    { kind := .cnot, r1 := 0, t1 := .e, r2 := 0, t2 := .p, n0 := .pauli .Z false, n1 := .loss (1/4) true } ]

theorem exCircuit_runs : ∀ op ∈ exCircuit, OpRuns (1 + 1) 1 op := by
  intro op h
  simp only [exCircuit, List.mem_cons, List.not_mem_nil, or_false] at h
  rcases h with rfl | rfl
  · exact ⟨⟨(OpWF.single rfl rfl (by decide)),
      Or.inl rfl, ⟨by norm_num, by norm_num⟩, trivial⟩, by simp, rfl, fun _ => rfl, trivial, fun _ => trivial⟩
  · exact ⟨⟨⟨by decide, fun _ => by decide, fun _ => by decide⟩, Or.inr rfl, trivial, trivial⟩, by simp, rfl, fun _ => rfl,
      trivial, fun _ => trivial⟩

example : ∀ op ∈ exCircuit, OpOK (1 + 1) 1 op := fun op h => (exCircuit_runs op h).ok

example : ∀ op ∈ exCircuit, Supported op := fun op h => (exCircuit_runs op h).supported

example : ∀ op ∈ exCircuit, Graphiq.MixDM.LossLe1 op.n0 ∧ Graphiq.MixDM.LossLe1 op.n1 := by
  intro op h
  simp only [exCircuit, List.mem_cons, List.not_mem_nil, or_false] at h
  rcases h with rfl | rfl
  · exact ⟨(by intro r a e; cases e), (by intro r a e; cases e)⟩
  · refine ⟨(by intro r a e; cases e), ?_⟩
    intro r a e
    injection e with e1 _
    rw [← e1]; norm_num

/-- both compilers return on it: four branches, trace `3/4`, and (as the theorem says) equal matrices -/
example :
    (match compileDM true 1 1 0 true exCircuit, compileStab true 1 1 0 true exCircuit with
      | .ok { ρ := some ρ, .. }, .ok s =>
          ρ.trace == (⟨3/4, 0⟩ : GQ) && s.mix.length == 4 && Mat.beq ρ (mixtureDensity 2 s.mix)
      | _, _ => false) = true := by
  -- the theorems give "both return" and "equal matrices"; evaluated are only the placement trace and the branch count
  obtain ⟨s, d, ρ, hs, hd, hρ, hE⟩ := dm_equals_mixture_total true 1 1 0 true exCircuit exCircuit_runs
  obtain ⟨tr, ρ', htr, hρ', ht⟩ := compileDM_trace true 1 1 0 true exCircuit (fun op h => (exCircuit_runs op h).ok) d hd
  have hb : (match compileTrace true .dm 1 exCircuit with
      | .ok tr => decide (lossFactor tr = 3/4) | _ => false) = true := by decide +kernel
  have hl : (match compileStab true 1 1 0 true exCircuit with
      | .ok s => s.mix.length == 4 | _ => false) = true := by decide +kernel
  rw [htr] at hb
  rw [hs] at hl
  rw [hρ] at hρ'
  injection hρ' with e
  subst e
  rw [of_decide_eq_true hb] at ht
  obtain ⟨dρ, dc⟩ := d
  simp only at hρ hl
  subst hρ
  rw [hd, hs]
  simp only [ht, hl, beq_of_eqOn hE, beq_self_eq_true, Bool.and_self]

/-! ### (c) is not vacuous anywhere on its class: both compilers return -/

/-- **both compilers return on the whole class**: measurement-free operations on existing qubits whose class the stabilizer
    compiler accepts, additive noise with depolarizing probabilities in `[0,1]` and valid Pauli names — no `assert`, no shape
    mismatch, no `np.isclose` failure, no empty mixture; and the results agree.  Every circuit of the class, every n. -/
theorem dm_equals_mixture_on_the_whole_class (ns : Bool) (ne np nc : Nat) (det : Bool) (ops : List COp)
    (hw : ∀ op ∈ ops, OpRuns (ne + np) np op) :
    ∃ s d ρ, compileStab ns ne np nc det ops = .ok s ∧ compileDM ns ne np nc det ops = .ok d ∧ d.ρ = some ρ ∧
      Mat.EqOn ρ (mixtureDensity (ne + np) s.mix) := dm_equals_mixture_total ns ne np nc det ops hw

example : ∀ op ∈ exCircuit, OpRuns (1 + 1) 1 op := exCircuit_runs

/-! ### consequences of (c): the density matrix is physical, and both backends give the same fidelities -/

open scoped ComplexOrder in
/-- **the density-matrix result is positive semidefinite** (as a complex `2^n × 2^n` matrix): every measurement-free circuit on
    existing qubits, depolarizing probabilities in `[0,1]`, loss rates `≤ 1`, every number of qubits.  (About the exact model;
    positivity of the *floating-point* matrix is checked by the oracle.) -/
theorem dm_is_positive_semidefinite (ns : Bool) (ne np nc : Nat) (det : Bool) (ops : List COp)
    (hw : ∀ op ∈ ops, OpOK (ne + np) np op) (hl : ∀ op ∈ ops, ParamPhys op.n0 ∧ ParamPhys op.n1)
    (d : DmSt) (ρ : Mat) (h : compileDM ns ne np nc det ops = .ok d) (hρ : d.ρ = some ρ) :
    (toC (ne + np) ρ).PosSemidef := compileDM_psd ns ne np nc det ops hw hl d ρ h hρ

/-- **its trace is the product of the photon survival probabilities** `∏ (1 − loss_j)` over the loss events of the placement
    trace — exactly, as an element of ℚ[i] -/
theorem dm_trace_is_survival_product (ns : Bool) (ne np nc : Nat) (det : Bool) (ops : List COp)
    (hw : ∀ op ∈ ops, OpOK (ne + np) np op) (d : DmSt) (h : compileDM ns ne np nc det ops = .ok d) :
    ∃ tr ρ, compileTrace ns .dm np ops = .ok tr ∧ d.ρ = some ρ ∧ ρ.trace = ⟨lossFactor tr, 0⟩ :=
  compileDM_trace ns ne np nc det ops hw d h

/-- **same fidelity with any pure stabilizer target**: `tr(ρ ρ_T)` computed on the density-matrix result equals
    `Σ_k w_k tr(ρ_{T_k} ρ_T)`, the weighted sum `Infidelity.evaluate` forms over the branches of the mixture (`tr(ρ_{T_k} ρ_T)`
    being the specification of `sfm.fidelity`, C05), for every target tableau `T` — exact arithmetic -/
theorem same_overlap_with_any_stabilizer_target (ns : Bool) (ne np nc : Nat) (det : Bool) (ops : List COp)
    (hw : ∀ op ∈ ops, OpOK (ne + np) np op) (s : StabSt) (d : DmSt) (ρ : Mat)
    (hs : compileStab ns ne np nc det ops = .ok s) (hd : compileDM ns ne np nc det ops = .ok d) (hρ : d.ρ = some ρ)
    (T : Tab) (hT : T.n = ne + np) :
    (ρ.mul (stabilizerDensity T)).trace = mixOverlapQ T s.mix :=
  overlap_both_backends ns ne np nc det ops hw s d ρ hs hd hρ T hT

example : ∀ op ∈ exCircuit, ParamPhys op.n0 ∧ ParamPhys op.n1 := by
  intro op h
  simp only [exCircuit, List.mem_cons, List.not_mem_nil, or_false] at h
  rcases h with rfl | rfl
  · exact ⟨⟨by norm_num, by norm_num⟩, trivial⟩
  · exact ⟨trivial, by show (1/4 : Rat) ≤ 1; norm_num⟩

end clause_c

/-- **cross-check of the executable gate matrices** (two finite tables, instances of `allGateChecks_true`, which holds for
    every number of qubits and every row): on 1 qubit, for all 8 signed Pauli matrices, and on 2 qubits, for the
    8 signed one-site generators, every gate matrix of the density-matrix model (H, P, P†, X, Y, Z on each qubit; CNOT, CZ in
    both directions) is unitary and conjugates the Pauli matrix into exactly the signed Pauli matrix of the row that the
    stabilizer model's tableau gate produces. -/
theorem dm_gates_match_tableau_gates_small :
    allGateChecks 1 (allRows 1) = true ∧ allGateChecks 2 (genRows 2) = true := ⟨gates_agree_n1, gates_agree_n2⟩

/-! ### channel identities for arbitrary dimension (Mathlib matrices over ℂ): the density-matrix noise models are physical -/

section channel
open Graphiq.Channel Matrix
open scoped ComplexOrder
variable {n : Type} [Fintype n] [DecidableEq n] {K : Type} [Fintype K]

/-- a mixture of unitary conjugations `ρ ↦ Σ_k f_k U_k ρ U_k†` (depolarizing noise: the four Paulis on one qubit with
    `f = (1−p, p/3, p/3, p/3)`; a Pauli error: one term) multiplies the trace by `Σ f_k` -/
theorem unitary_mixture_trace (f : K → ℝ) (U : K → Matrix n n ℂ) (hU : ∀ k, (U k)ᴴ * U k = 1) (ρ : Matrix n n ℂ) :
    (mixUnitary f U ρ).trace = ((∑ k, f k : ℝ) : ℂ) * ρ.trace := trace_mixUnitary f U hU ρ

/-- a mixture of unitary conjugations preserves positive semidefiniteness when the weights are non-negative -/
theorem unitary_mixture_psd (f : K → ℝ) (hf : ∀ k, 0 ≤ f k) (U : K → Matrix n n ℂ) (ρ : Matrix n n ℂ)
    (hρ : ρ.PosSemidef) : (mixUnitary f U ρ).PosSemidef := posSemidef_mixUnitary f hf U ρ hρ

/-- the depolarizing weights sum to 1 (trace preserved); photon loss scales the trace by the survival probability and
    keeps positivity -/
theorem depolarizing_weights_sum_to_one (p : ℝ) : (1 - p) + p / 3 + p / 3 + p / 3 = 1 := depol_factors p
theorem photon_loss_trace_and_psd (lam : ℝ) (h : lam ≤ 1) (ρ : Matrix n n ℂ) (hρ : ρ.PosSemidef) :
    (((1 - lam : ℝ) : ℂ) • ρ).trace = ((1 - lam : ℝ) : ℂ) * ρ.trace ∧ (((1 - lam : ℝ) : ℂ) • ρ).PosSemidef :=
  ⟨loss_trace lam ρ, loss_posSemidef lam h ρ hρ⟩
end channel

/-! ## (d) Zero strength ⇒ identical to the noiseless run -/

/-- **mixtures**: on a one-branch mixture of positive weight (what every noiseless run is) a noise of zero strength returns the
    same weight and the same tableau (`DepolarizingNoise(0)` re-tabulates it, which is pointwise the identity:
    `tabulation_is_identity`) -/
theorem zero_strength_is_identity_mixture (nm : NoiseM) (hz : nm.isZeroStrength = true) (q : Nat) (w : Rat) (hw : 0 < w) (t : Tab) :
    Mix.applyNoise nm q [(w, t)] = .ok [(w, t)] ∨ Mix.applyNoise nm q [(w, t)] = .ok [(w, t.norm)] :=
  zero_strength_single_branch nm hz q w hw t

theorem tabulation_is_identity (t : Tab) : t.norm.n = t.n ∧ ∀ i, i < 2 * t.n → PRow.EqOn t.n (t.norm.row i) (t.row i) :=
  norm_is_identity t

/-- **density matrices**: `DepolarizingNoise(0)`, `PhotonLoss(0)`, `PauliError("I")` and `NoNoise` return a Hermitian state
    entry by entry -/
theorem zero_strength_is_identity_dm (n q : Nat) (hq : q < n) (ρ : Mat) (hn : ρ.n = pow2 n) (hh : Mat.Herm ρ) (a : Bool)
    (nm : NoiseM) (hz : nm = .depol 0 a ∨ nm = .loss 0 a ∨ nm = .pauli .I a ∨ nm = .none) :
    ∃ ρ', DMx.applyNoise n nm q ρ = .ok ρ' ∧ Mat.EqOn ρ' ρ :=
  Graphiq.MixDM.dmNoise_zero n q hq ρ hn hh nm (by rcases hz with h | h | h | h <;> subst h <;> rfl)

/-! ### (d) for whole circuits -/

section clause_d_circuits
open Graphiq.MixDM

/-- **noise simulation switched off reproduces the noiseless run exactly — any circuit, measurements included, both
    backends**: the result (state, classical register, or exception) is literally the result of compiling the circuit with every
    noise replaced by `NoNoise` (what an empty noise map attaches) with the switch on -/
theorem noise_off_is_the_noiseless_run (ne np nc : Nat) (det : Bool) (ops : List COp) :
    compileStab false ne np nc det ops = compileStab true ne np nc det (ops.map strip) ∧
    compileDM false ne np nc det ops = compileDM true ne np nc det (ops.map strip) :=
  ⟨compileStab_off ne np nc det ops, compileDM_off ne np nc det ops⟩

/-- **noise of zero strength reproduces the noiseless state exactly — whole measurement-free circuits, every n**: if every
    attached noise is `DepolarizingNoise(0)`, `PhotonLoss(0)`, `PauliError("I")` or `NoNoise`, the density matrix equals, entry
    by entry, the density matrix of the circuit without noise, and the two mixtures of the stabilizer backend stand for the same
    state (`Σ w_k ρ(T_k)` equal) -/
theorem zero_strength_is_the_noiseless_state (ns : Bool) (ne np nc : Nat) (det : Bool) (ops : List COp)
    (hw : ∀ op ∈ ops, OpOK (ne + np) np op) (hz : ∀ op ∈ ops, ZeroNoise op) :
    (∀ (d d0 : DmSt) (ρ ρ0 : Mat), compileDM ns ne np nc det ops = .ok d → compileDM ns ne np nc det (ops.map strip) = .ok d0 →
      d.ρ = some ρ → d0.ρ = some ρ0 → Mat.EqOn ρ ρ0) ∧
    (∀ (s s0 : StabSt), compileStab ns ne np nc det ops = .ok s → compileStab ns ne np nc det (ops.map strip) = .ok s0 →
      mixRho (ne + np) s.mix = mixRho (ne + np) s0.mix) :=
  ⟨fun d d0 ρ ρ0 hd hd0 hρ hρ0 => dm_zero_strength ns ne np nc det ops hw hz d d0 ρ ρ0 hd hd0 hρ hρ0,
   fun s s0 hs hs0 => mix_zero_strength ns ne np nc det ops hw hz s s0 hs hs0⟩

/-- a zero-strength circuit: `H` with `DepolarizingNoise(0)`, CNOT with `PauliError("I")` and `PhotonLoss(0)` -/
def exZero : List COp :=
  [ { kind := .h, r1 := 0, t1 := .e, n0 := .depol 0 true },
    { kind := .cnot, r1 := 0, t1 := .e, r2 := 0, t2 := .p, n0 := .pauli .I false, n1 := .loss 0 true } ]

example : ∀ op ∈ exZero, OpOK (1 + 1) 1 op ∧ ZeroNoise op := by
  intro op h
  simp only [exZero, List.mem_cons, List.not_mem_nil, or_false] at h
  rcases h with rfl | rfl
  · exact ⟨⟨(OpWF.single rfl rfl (by decide)),
      Or.inl rfl, ⟨by norm_num, by norm_num⟩, trivial⟩, by decide, by decide⟩
  · exact ⟨⟨⟨by decide, fun _ => by decide, fun _ => by decide⟩, Or.inr rfl, trivial, trivial⟩, by decide, by decide⟩

end clause_d_circuits

/-! ## Measurements after noise -/

/-- **the survival weight survives a measurement** (the defect "measurement after a photon loss renormalises the density
    matrix" is repaired: `apply_measurement` divides by the conditional probability): after `PhotonLoss(1/2)` on `|0⟩` and a Z
    measurement the density matrix has trace 1/2 and the mixture has weight 1/2 -/
theorem measurement_keeps_survival_weight :
    (match compileDM true 1 0 1 true
        [{ kind := .identity, n0 := .loss (1/2) true }, { kind := .measZ }] with
      | .ok { ρ := some ρ, .. } => ρ.trace == ⟨1/2, 0⟩
      | _ => false) = true ∧
    (match compileStab true 1 0 1 true
        [{ kind := .identity, n0 := .loss (1/2) true }, { kind := .measZ }] with
      | .ok s => Mix.total s.mix == 1/2
      | _ => false) = true := by decide +kernel

/-- with loss rate exactly 1 the measured density matrix is the zero matrix, not NaN -/
theorem measurement_after_total_loss_is_zero :
    (match compileDM true 1 0 1 true
        [{ kind := .identity, n0 := .loss 1 true }, { kind := .measZ }] with
      | .ok { ρ := some ρ, .. } => ρ.trace == ⟨0, 0⟩ && ρ.e 0 0 == ⟨0, 0⟩
      | _ => false) = true := by decide +kernel

/-! ### clause (c) with measurements (repaired joint `apply_measurement`) -/

section clause_c_measurements
open Graphiq.MixDM

/-- **clause (c) for circuits with measurements — no condition on the outcomes.**  `compileStab` models
    `StabilizerCompiler.compile` with the repaired `MixedStabilizer.apply_measurement` (joint measurement: one outcome for the
    whole mixture, chosen by the `isclose` rule on the summed branch probabilities; every branch projected on it; total weight
    kept).  Gates, CNOT / CZ with additive noise (depolarizing probabilities in `[0,1]`, loss rates `≤ 1`, Pauli errors, either
    placement), noiseless `MeasurementZ` / `ClassicalCNOT` / `ClassicalCZ` / `MeasurementCNOTandReset` (two distinct qubits), on
    existing qubits: whenever the stabilizer compile returns and the density-matrix compile returns a matrix (not the NaN of a
    zero conditional probability — impossible while `∏ (1 − loss_j) > 1e-8`, see the next theorem), that matrix is
    `Σ_k w_k ρ(T_k)` of the mixture, entry by entry, and both backends leave the same classical register.  Every number of qubits.
    (Before the repair this failed: `per_branch_measurement_differs`, finding F2.) -/
theorem dm_equals_mixture_with_measurements (ns : Bool) (ne np nc : Nat) (det : Bool) (ops : List COp)
    (hw : ∀ op ∈ ops, OpOKJ (ne + np) np op) (s : StabSt) (d : DmSt) (ρ : Mat)
    (hs : compileStab ns ne np nc det ops = .ok s) (hd : compileDM ns ne np nc det ops = .ok d) (hρ : d.ρ = some ρ) :
    Mat.EqOn ρ (mixtureDensity (ne + np) s.mix) ∧ d.creg = s.creg :=
  dm_equals_mixture_repaired ns ne np nc det ops hw s d ρ hs hd hρ

/-- **`dm_equals_mixture_with_measurements` stated with its weight threshold**: same circuits with loss rates in `[0,1]`; if the survival probability
    `∏ (1 − loss_j)` of the placement trace exceeds `1e-8` (`np.isclose`'s absolute tolerance, below which `apply_measurement`
    of either backend may select an outcome of probability 0), then the density-matrix compile *does* return a matrix, and it is
    `Σ_k w_k ρ(T_k)` of the stabilizer compile's mixture, with equal classical registers -/
theorem dm_equals_mixture_with_measurements_above_the_tolerance (ns : Bool) (ne np nc : Nat) (det : Bool) (ops : List COp)
    (hw : ∀ op ∈ ops, OpOKJ (ne + np) np op) (hl : ∀ op ∈ ops, LossOK op.n0 ∧ LossOK op.n1)
    (tr : List Act) (htr : compileTrace ns .dm np ops = .ok tr) (hτ : tol < lossFactor tr) (s : StabSt) (d : DmSt)
    (hs : compileStab ns ne np nc det ops = .ok s) (hd : compileDM ns ne np nc det ops = .ok d) :
    ∃ ρ, d.ρ = some ρ ∧ Mat.EqOn ρ (mixtureDensity (ne + np) s.mix) ∧ d.creg = s.creg := by
  obtain ⟨ρ, hρ, _⟩ := compileDM_defined ns ne np nc det ops
    (fun op ho => ⟨(hw op ho).ok3, hl op ho⟩) tr htr hτ d hd
  exact ⟨ρ, hρ, dm_equals_mixture_repaired ns ne np nc det ops hw s d ρ hs hd hρ⟩

/-- on the circuits of `dm_equals_mixture_with_measurements` both backends give the same fidelity `tr(ρ ρ_T) = Σ_k w_k tr(ρ_{T_k} ρ_T)` with every stabilizer target `T` -/
theorem same_overlap_with_measurements (ns : Bool) (ne np nc : Nat) (det : Bool) (ops : List COp)
    (hw : ∀ op ∈ ops, OpOKJ (ne + np) np op) (s : StabSt) (d : DmSt) (ρ : Mat)
    (hs : compileStab ns ne np nc det ops = .ok s) (hd : compileDM ns ne np nc det ops = .ok d) (hρ : d.ρ = some ρ)
    (T : Tab) (hT : T.n = ne + np) :
    (ρ.mul (stabilizerDensity T)).trace = mixOverlapQ T s.mix := by
  have he := (dm_equals_mixture_repaired ns ne np nc det ops hw s d ρ hs hd hρ).1
  have hm : MixN (ne + np) s.mix :=
    fun x hx => (compileStab_ok ns ne np nc det ops (fun op ho => (hw op ho).wf) s hs x hx).1
  exact overlap_of_eqOn (ne + np) ρ s.mix hm he T hT

/-- **both compilers return on the whole measurement class** (runnable measurement-free operations and noiseless
    `MeasurementZ` / `ClassicalCNOT` / `ClassicalCZ` / `MeasurementCNOTandReset` on existing qubits): the hypotheses "the
    compile returns" of the theorems above are met by every such circuit, every n -/
theorem both_compilers_return_with_measurements (ns : Bool) (ne np nc : Nat) (det : Bool) (ops : List COp)
    (hw : ∀ op ∈ ops, OpRuns2 (ne + np) np op) :
    (∃ s, compileStab ns ne np nc det ops = .ok s) ∧ (∃ d, compileDM ns ne np nc det ops = .ok d) :=
  ⟨compileStab_runs2 ns ne np nc det ops hw, compileDM_runs2 ns ne np nc det ops hw⟩

/-- HISTORICAL (`Mix.measureOld`: `apply_measurement` of graphiq before the repair of F2).  One per-branch measurement, all
    branches random: the update is `2 Π_o R Π_o` of `R = Σ w_k ρ(T_k)`, and both outcomes have probability `(Σ w_k)/2` -/
theorem uniform_random_measurement (n q : Nat) (hq : q < n) (det : Bool) (m : Mixture) (hg : MixGood n m)
    (hu : Uniform q det true det m) :
    mixRho n (Mix.measureOld q det m).1 = (2 : ℂ) • (projZ n q det * mixRho n m * projZ n q det) ∧
    (∀ s, (mixRho n m * projZ n q s).trace = ((Mix.total m : ℚ) : ℂ) / 2) :=
  ⟨(measure_random n q hq det m hg hu).1, (measure_random n q hq det m hg hu).2.1⟩

/-- HISTORICAL (`Mix.measureOld`).  One per-branch measurement, all branches deterministic with the same outcome `o`: the mixture does not change, `Π_o`
    fixes `R` — so before the repair the per-branch measurement was already right when the branches agreed -/
theorem uniform_deterministic_measurement (n q : Nat) (hq : q < n) (det o : Bool) (m : Mixture) (hg : MixGood n m)
    (hu : Uniform q det false o m) :
    mixRho n (Mix.measureOld q det m).1 = mixRho n m ∧ projZ n q o * mixRho n m * projZ n q o = mixRho n m ∧
    (mixRho n m * projZ n q o).trace = ((Mix.total m : ℚ) : ℂ) :=
  ⟨(measure_det n q hq det o m hg hu).1, (measure_det n q hq det o m hg hu).2.1, (measure_det n q hq det o m hg hu).2.2.1⟩

/-- the reset half of `MeasurementCNOTandReset`, Hilbert-space level: on a mixture whose branches are all fixed by `Π_o` (what the
    joint measurement with outcome `o` leaves) `reset_z(q, 0)` on every branch is `X_q R X_q` if `o = 1` and `R` if `o = 0` —
    and so is the Kraus pair `|0⟩⟨0|_q, |0⟩⟨1|_q` the density-matrix backend applies.  That the second measurement inside
    `reset_z` is deterministic with the same outcome follows from the fixed-point property (`det_of_fixed`). -/
theorem reset_on_fixed_mixture (n q : Nat) (hq : q < n) (det o : Bool) (m : Mixture) (hg : MixGood n m) (hf : Fixed n q o m) :
    mixRho n (Mix.mapTab (fun t => t.resetZ q false det) m) = resetH n q (mixRho n m) := by
  rw [mixRho_reset n q hq det o m hg hf, resetH_of_fixed n q hq o _ (fixed_mixRho n q o m hf)]

/-- non-vacuity: the noisy two-qubit circuit of `exCircuit` (depolarizing, Pauli error, photon loss), then
    `MeasurementCNOTandReset`, a noisy Hadamard, `MeasurementZ` of the emitter and a `ClassicalCNOT` onto the photon -/
def exMeasCircuit : List COp :=
  exCircuit ++ [ { kind := .mcr, r1 := 0, t1 := .e, r2 := 0, t2 := .p, c := 0 },
                 { kind := .h, r1 := 0, t1 := .e, n0 := .depol (1/2) false },
                 { kind := .measZ, r1 := 0, t1 := .e, c := 0 },
                 { kind := .ccnot, r1 := 0, t1 := .e, r2 := 0, t2 := .p, c := 0 } ]

theorem exMeasCircuit_ok : ∀ op ∈ exMeasCircuit, OpOKJ (1 + 1) 1 op ∧ LossOK op.n0 ∧ LossOK op.n1 := by
  intro op h
  simp only [exMeasCircuit, exCircuit, List.cons_append, List.nil_append, List.mem_cons, List.not_mem_nil, or_false] at h
  rcases h with rfl | rfl | rfl | rfl | rfl | rfl
  · exact ⟨.unitary ⟨(OpWF.single rfl rfl (by decide)), Or.inl rfl, ⟨by norm_num, by norm_num⟩, trivial⟩ ⟨by norm_num, by norm_num⟩ trivial,
      trivial, trivial⟩
  · exact ⟨.unitary ⟨⟨by decide, fun _ => by decide, fun _ => by decide⟩, Or.inr rfl, trivial, trivial⟩ trivial
      (by show (1/4 : Rat) ≤ 1; norm_num), trivial, by show (0 : Rat) ≤ 1/4 ∧ (1/4 : Rat) ≤ 1; constructor <;> norm_num⟩
  · exact ⟨.meas (Or.inr (Or.inr (Or.inr rfl))) ⟨by decide, fun _ => by decide, fun h => by simp [Kind.isCtrlPair] at h⟩
      (fun _ => by decide) rfl rfl, trivial, trivial⟩
  · exact ⟨.unitary ⟨(OpWF.single rfl rfl (by decide)), Or.inl rfl, ⟨by norm_num, by norm_num⟩, trivial⟩ ⟨by norm_num, by norm_num⟩ trivial,
      trivial, trivial⟩
  · exact ⟨.meas (Or.inl rfl) (OpWF.single rfl rfl (by decide)) (fun h => by cases h) rfl rfl, trivial, trivial⟩
  · exact ⟨.meas (Or.inr (Or.inl rfl)) ⟨by decide, fun _ => by decide, fun h => by simp [Kind.isCtrlPair] at h⟩
      (fun h => by cases h) rfl rfl, trivial, trivial⟩

example : ∀ op ∈ exMeasCircuit, OpOKJ (1 + 1) 1 op ∧ LossOK op.n0 ∧ LossOK op.n1 := exMeasCircuit_ok

theorem exMeasCircuit_runs : ∀ op ∈ exMeasCircuit, OpRuns2 (1 + 1) 1 op := by
  intro op h
  unfold exMeasCircuit at h
  rcases List.mem_append.1 h with h | h
  · exact .unitary (exCircuit_runs op h)
  · simp only [List.mem_cons, List.not_mem_nil, or_false] at h
    rcases h with rfl | rfl | rfl | rfl
    · exact .meas (Or.inr (Or.inr (Or.inr rfl))) ⟨by decide, fun _ => by decide, fun h => by simp [Kind.isCtrlPair] at h⟩ rfl rfl
    · exact .unitary ⟨⟨(OpWF.single rfl rfl (by decide)), Or.inl rfl, ⟨by norm_num, by norm_num⟩, trivial⟩, by simp, rfl, fun _ => rfl,
        trivial, fun _ => trivial⟩
    · exact .meas (Or.inl rfl) (OpWF.single rfl rfl (by decide)) rfl rfl
    · exact .meas (Or.inr (Or.inl rfl)) ⟨by decide, fun _ => by decide, fun h => by simp [Kind.isCtrlPair] at h⟩ rfl rfl

example : ∀ op ∈ exMeasCircuit, OpRuns2 (1 + 1) 1 op := exMeasCircuit_runs

/-- on it both compilers return, the weight is `3/4` (the measurements happen after a photon loss), and — as the theorem says —
    the matrices agree -/
example :
    (match compileDM true 1 1 1 true exMeasCircuit, compileStab true 1 1 1 true exMeasCircuit with
      | .ok { ρ := some ρ, .. }, .ok s => Mix.total s.mix == 3/4 && Mat.beq ρ (mixtureDensity 2 s.mix)
      | _, _ => false) = true := by
  -- only the placement trace is evaluated: its survival product `3/4` is above the tolerance, so the theorems give a matrix,
  -- equal to that of the mixture, and the weight of the mixture is its trace
  obtain ⟨⟨s, hs⟩, ⟨d, hd⟩⟩ := both_compilers_return_with_measurements true 1 1 1 true exMeasCircuit exMeasCircuit_runs
  have hb : (match compileTrace true .dm 1 exMeasCircuit with
      | .ok tr => decide (lossFactor tr = 3/4) | _ => false) = true := by decide +kernel
  obtain ⟨tr, htr, g⟩ := compileDM_phys true 1 1 1 true exMeasCircuit
    (fun op h => (exMeasCircuit_ok op h).1.ok3) d hd
  rw [htr] at hb
  have hτ : lossFactor tr = 3/4 := of_decide_eq_true hb
  obtain ⟨ρ, hρ, hE, _⟩ := dm_equals_mixture_with_measurements_above_the_tolerance true 1 1 1 true exMeasCircuit
    (fun op h => (exMeasCircuit_ok op h).1) (fun op h => (exMeasCircuit_ok op h).2) tr htr
    (by rw [hτ]; norm_num [tol]) s d hs hd
  have hm := compileStab_ok true 1 1 1 true exMeasCircuit (fun op h => (exMeasCircuit_ok op h).1.wf) s hs
  have hw := weight_of_eqOn (1 + 1) ρ s.mix hm hE
  rw [(g ρ hρ).trace_exact, hτ] at hw
  injection hw with hw _
  obtain ⟨dρ, dc⟩ := d
  simp only at hρ
  subst hρ
  rw [hd, hs]
  simp only [← hw, beq_of_eqOn hE, beq_self_eq_true, Bool.and_self]

/-- the analysis flag `nonUniform` (branches disagree at a measurement) is on for the witness of finding F2 (`X` with depolarizing
    noise, then a Z measurement): the input class on which graphiq before the repair (`compileStabOld`) went wrong -/
theorem per_branch_measurement_is_flagged :
    (match compileStabOld true 1 0 1 true [{ kind := .x, n0 := .depol (1/3) true }, { kind := .measZ }] with
      | .ok s => s.nonUniform
      | _ => false) = true := by decide +kernel

/-! ### the density matrix stays physical through *any* measurement -/

open scoped ComplexOrder in
/-- **the density-matrix result is positive semidefinite and has trace `∏ (1 − loss_j)` — circuits with measurements, no
    condition on the outcomes.**  One-qubit gates, CNOT / CZ with additive noise (depolarizing probabilities in `[0,1]`, loss
    rates `≤ 1`, Pauli errors, either placement), noiseless `MeasurementZ` / `ClassicalCNOT` / `ClassicalCZ` /
    `MeasurementCNOTandReset`, on existing qubits: whenever `DensityMatrixCompiler.compile` returns a matrix (not the NaN it
    produces when it divides by a zero conditional probability), that matrix has size `2^n`, is positive semidefinite, and its
    trace is *exactly* the product of the photon survival probabilities — `apply_measurement` divides by the conditional
    probability, so a measurement after a photon loss keeps the weight (defect F1, repaired; here for every circuit and n). -/
theorem dm_is_physical_with_measurements (ns : Bool) (ne np nc : Nat) (det : Bool) (ops : List COp)
    (hw : ∀ op ∈ ops, OpOK3 (ne + np) np op) (d : DmSt) (h : compileDM ns ne np nc det ops = .ok d) :
    ∃ tr, compileTrace ns .dm np ops = .ok tr ∧
      ∀ ρ, d.ρ = some ρ → ρ.n = 2 ^ (ne + np) ∧ (toC (ne + np) ρ).PosSemidef ∧ ρ.trace = ⟨lossFactor tr, 0⟩ := by
  obtain ⟨tr, htr, g⟩ := compileDM_phys ns ne np nc det ops hw d h
  exact ⟨tr, htr, fun ρ hρ => ⟨(g ρ hρ).size, (g ρ hρ).psd, (g ρ hρ).trace_exact⟩⟩

open scoped ComplexOrder in
/-- **no NaN while the survival probability exceeds `1e-8`** (`np.isclose`'s tolerance): same circuits with loss rates in
    `[0,1]`, measurements with arbitrary outcomes; if `∏ (1 − loss_j) > 1e-8` the density-matrix compile returns a matrix — the
    outcome rule of `apply_measurement` never selects an outcome of probability 0 — and that matrix is physical -/
theorem dm_is_defined_above_the_tolerance (ns : Bool) (ne np nc : Nat) (det : Bool) (ops : List COp)
    (hw : ∀ op ∈ ops, OpOK4 (ne + np) np op) (tr : List Act) (htr : compileTrace ns .dm np ops = .ok tr)
    (hτ : tol < lossFactor tr) (d : DmSt) (h : compileDM ns ne np nc det ops = .ok d) :
    ∃ ρ, d.ρ = some ρ ∧ (toC (ne + np) ρ).PosSemidef ∧ ρ.trace = ⟨lossFactor tr, 0⟩ := by
  obtain ⟨ρ, hρ, g⟩ := compileDM_defined ns ne np nc det ops hw tr htr hτ d h
  exact ⟨ρ, hρ, g.psd, g.trace_exact⟩

/-- it applies to the witness circuit of finding F2 (non-uniform branches): there the two backends differ, but each is physical -/
example : ∀ op ∈ ([{ kind := .x, n0 := .depol (1/3) true }, { kind := .measZ }] : List COp), OpOK3 (1 + 0) 0 op := by
  intro op h
  simp only [List.mem_cons, List.not_mem_nil, or_false] at h
  rcases h with rfl | rfl
  · exact .unitary ⟨(OpWF.single rfl rfl (by decide)), Or.inl rfl, ⟨by norm_num, by norm_num⟩, trivial⟩ ⟨by norm_num, by norm_num⟩ trivial
  · exact .meas (Or.inl rfl) (OpWF.single rfl rfl (by decide)) rfl rfl

end clause_c_measurements

/-! ### finding F2 (repaired): the per-branch measurement of graphiq before the repair — HISTORICAL, `…Old` -/

/-- BEFORE the repair of F2 (`compileStabOld` = the compile with `Mix.measureOld`, graphiq before the `fix:` commit that
    introduces the joint measurement): the mixture measured branch by branch — `X` with depolarizing noise then a Z measurement
    (forced outcome 1) left the mixture with overlap `7/9` with `|1⟩`, the density matrix (post-selected on outcome 1) with
    overlap 1 -/
theorem per_branch_measurement_differs :
    (match compileDM true 1 0 1 true [{ kind := .x, n0 := .depol (1/3) true }, { kind := .measZ }],
           compileStabOld true 1 0 1 true [{ kind := .x, n0 := .depol (1/3) true }, { kind := .measZ }] with
      | .ok { ρ := some ρ, .. }, .ok s => ρ.e 1 1 == ⟨1, 0⟩ && (mixtureDensity 1 s.mix).e 1 1 == ⟨7/9, 0⟩
      | _, _ => false) = true := by decide +kernel

/-- BEFORE the repair: **what the per-branch measurement (`Mix.measureOld`) did to the state, any mixture, every n** (the exact
    shape of F2): with `R_rand` / `R_det` the parts of `Σ_k w_k ρ(T_k)` carried by the branches whose outcome is random /
    deterministic, `Σ (measureOld q o m) = 2·Π_o R_rand Π_o + R_det` — the random branches were post-selected on the forced
    outcome, the deterministic ones kept whatever their outcome (a non-selective measurement), whereas the density-matrix backend
    post-selects everything on one outcome.  The two coincided when the branches agreed (`uniform_*_measurement`). -/
theorem per_branch_measurement_semantics (n q : Nat) (hq : q < n) (o : Bool) (m : Mixture) (hg : Graphiq.MixDM.MixGood n m) :
    Graphiq.MixDM.mixRho n (Mix.measureOld q o m).1
      = (2 : ℂ) • (Graphiq.MixDM.projZ n q o * Graphiq.MixDM.mixRho n (Graphiq.MixDM.randomPart q m) * Graphiq.MixDM.projZ n q o)
        + Graphiq.MixDM.mixRho n (Graphiq.MixDM.detPart q m) :=
  Graphiq.MixDM.per_branch_measure_spec n q hq o m hg

/-! ### the repaired (joint) measurement, one step -/

section f2_repair
open Graphiq.MixDM

/-- **the candidate lists of the joint measurement project the state of the mixture**, for every mixture of valid tableaux —
    no agreement between the branches needed — and every n: with one outcome `o` for the whole mixture, branch `k` kept with
    weight `w_k·P_k(o)` (`P_k(o) ∈ {0, ½, 1}` read off the tableau) and measured with forced outcome `o`,
    `Σ cand[o] = Π_o (Σ m) Π_o` and `weight[o] = tr((Σ m) Π_o)`. -/
theorem joint_measurement_projects (n q : Nat) (hq : q < n) (o : Bool) (m : Mixture) (hg : MixGood n m) :
    mixRho n (Mix.measureJoint q o m) = projZ n q o * mixRho n m * projZ n q o ∧
    ((Mix.total (Mix.measureJoint q o m) : ℚ) : ℂ) = (mixRho n m * projZ n q o).trace :=
  measureJoint_state n q hq o m hg

/-- **`MixedStabilizer.apply_measurement` (repaired) agrees with the density-matrix backend on every mixture** (valid branches,
    weights ≥ 0; no agreement between the branches, no weight threshold): whenever `DensityMatrix.apply_measurement` returns a
    matrix, it reports the outcome `Mix.measure` reports (same `isclose` rule on the summed branch probabilities) and the matrix
    is `Σ_k w_k ρ(T_k)` of the mixture `Mix.measure` returns. -/
theorem joint_measurement_agrees_with_density_matrix (n q : Nat) (hq : q < n) (det : Bool) (m : Mixture) (ρ p0 p1 : Mat)
    (hg : MixGood n m) (hnn : MixNonneg m) (hρn : ρ.n = 2 ^ n) (hρ : toC n ρ = mixRho n m)
    (hp : projectorsZ n q = .ok (p0, p1)) (ρ' : Mat) (o : Bool) (h : applyMeasurement ρ p0 p1 det = .ok (some ρ', o)) :
    (Mix.measure q det m).2 = List.replicate (Mix.measure q det m).1.length o ∧
      toC n ρ' = mixRho n (Mix.measure q det m).1 ∧ ρ'.n = 2 ^ n := by
  obtain ⟨h1, h2, h3, _⟩ := joint_measurement_is_dm_measurement n q hq det m ρ p0 p1 hg hnn hρn hρ hp ρ' o h
  exact ⟨by rw [measure_outcomes, h1], h2, h3⟩

/-- the repaired measurement keeps the total weight (or zeroes every weight when the selected outcome carries none) -/
theorem joint_measurement_keeps_weight (q : Nat) (det : Bool) (m : Mixture) :
    Mix.total (Mix.measure q det m).1 = Mix.total m ∨ Mix.total (Mix.measure q det m).1 = 0 := Mix.total_measure q det m

/-- on the F2 witness (`X` with depolarizing noise, then a Z measurement forced to 1) the repaired compile reports outcome 1,
    agrees with the density matrix, and leaves overlap 1 with `|1⟩` (before the repair: `7/9`) -/
theorem joint_measurement_on_the_F2_witness :
    (match compileDM true 1 0 1 true [{ kind := .x, n0 := .depol (1/3) true }, { kind := .measZ }],
           compileStab true 1 0 1 true [{ kind := .x, n0 := .depol (1/3) true }, { kind := .measZ }] with
      | .ok { ρ := some ρ, creg := cd }, .ok s =>
          Mat.beq ρ (mixtureDensity 1 s.mix) && (mixtureDensity 1 s.mix).e 1 1 == (⟨1, 0⟩ : GQ) && s.creg == [1] && cd == [1]
      | _, _ => false) = true := by decide +kernel

/-- the F2 witness circuit lies in the class of `dm_equals_mixture_with_measurements` -/
example : ∀ op ∈ ([{ kind := .x, n0 := .depol (1/3) true }, { kind := .measZ }] : List COp), OpOKJ (1 + 0) 0 op := by
  intro op h
  simp only [List.mem_cons, List.not_mem_nil, or_false] at h
  rcases h with rfl | rfl
  · exact .unitary ⟨(OpWF.single rfl rfl (by decide)), Or.inl rfl, ⟨by norm_num, by norm_num⟩, trivial⟩ ⟨by norm_num, by norm_num⟩ trivial
  · exact .meas (Or.inl rfl) (OpWF.single rfl rfl (by decide)) (fun h => by cases h) rfl rfl

end f2_repair

/-! ## Non-vacuity -/

/-- CNOT(e0 → p0) with depolarizing noise *before* on the control and a Pauli error *after* on the target -/
def exOp : COp := { kind := .cnot, r1 := 0, t1 := .e, r2 := 0, t2 := .p, n0 := .depol (1/3) false, n1 := .pauli .X true }

example : Supported exOp := ⟨Or.inr rfl, rfl, fun _ => rfl⟩
example : OpWF 2 1 exOp := ⟨by decide, fun _ => by decide, fun _ => by decide⟩
example : placeOp true .stab 1 exOp 7 =
    .ok [Act.noise 7 0 1 (.depol (1/3) false), Act.gate 7, Act.noise 7 1 0 (.pauli .X true)] := by decide +kernel

/- Cross-references.  The embedding `MixDM.toC` of this file and the bridge `Hilbert.Rep` of C01 / C17 are the same map:
   `Sweep.rep_iff_toC : Hilbert.Rep n m M ↔ m.n = 2 ^ n ∧ MixDM.toC n m = M` (`Proofs/SweepBridge.lean`; same index map
   `Sweep.idx_eq`, same entry map `Sweep.gqC_eq`).  It is stated as a property theorem in `C17.bridge_is_the_embedding_of_C06` —
   not here, because importing the bridge files of C01 into this file would make the name `COp` ambiguous (`Graphiq.COp` of the
   circuit model vs `Noise.COp`).  Consequence proved there: the matrix `compileDM` returns passes C17's exact positivity test
   (`C17.noisy_compiled_dm_passes_the_exact_psd_test`, from `dm_is_positive_semidefinite` above). -/

end Graphiq.C06
