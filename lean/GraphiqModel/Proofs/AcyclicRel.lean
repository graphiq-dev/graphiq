/-
  AcyclicRel.lean — acyclic relations: sub-relations and contractions of an acyclic relation are acyclic, and so is the
  relation with a fresh node inserted between in-neighbours `U` and out-neighbours `V` when no `v ∈ V` reaches a `u ∈ U`
  (used for the circuit DAG, C12, and for the wire model, C04).
-/
import Mathlib.Logic.Relation
namespace Graphiq
open Relation

section Acyclic
variable {α : Type}

def AcyclicRel (E : α → α → Prop) : Prop := ∀ a, ¬ TransGen E a a

theorem AcyclicRel.mono {E E' : α → α → Prop} (h : AcyclicRel E) (sub : ∀ a b, E' a b → E a b) : AcyclicRel E' :=
  fun a haa => h a (TransGen.mono (fun x y hxy => sub x y hxy) a a haa)

theorem AcyclicRel.of_sub_transGen {E E' : α → α → Prop} (h : AcyclicRel E) (sub : ∀ a b, E' a b → TransGen E a b) :
    AcyclicRel E' := by
  intro a haa
  have : ∀ {x y}, TransGen E' x y → TransGen E x y := by
    intro x y hxy
    induction hxy with
    | single h1 => exact sub _ _ h1
    | tail _ h2 ih => exact ih.trans (sub _ _ h2)
  exact h a (this haa)

/-- the relation after adding a node `w` with in-neighbours `U` and out-neighbours `V` (old edges kept) -/
def InsRel (E : α → α → Prop) (w : α) (U V : α → Prop) : α → α → Prop :=
  fun a b => E a b ∨ (b = w ∧ U a) ∨ (a = w ∧ V b)

theorem insRel_path_from_old {E : α → α → Prop} {w : α} {U V : α → Prop}
    (hfresh : ∀ a, ¬ E a w ∧ ¬ E w a) {a b : α} (ha : a ≠ w) (h : TransGen (InsRel E w U V) a b) :
    (b ≠ w ∧ TransGen E a b) ∨ ∃ u, U u ∧ ReflTransGen E a u := by
  induction h with
  | single hab =>
    rcases hab with h | ⟨_, h⟩ | ⟨h, _⟩
    · left; exact ⟨fun hb => (hfresh a).1 (hb ▸ h), TransGen.single h⟩
    · right; exact ⟨a, h, ReflTransGen.refl⟩
    · exact absurd h ha
  | tail hac hcb ih =>
    rename_i c b'
    rcases ih with ⟨hc, hac'⟩ | h
    · rcases hcb with h | ⟨_, h⟩ | ⟨h, _⟩
      · left; exact ⟨fun hb => (hfresh c).1 (hb ▸ h), TransGen.tail hac' h⟩
      · right; exact ⟨c, h, hac'.to_reflTransGen⟩
      · exact absurd h hc
    · right; exact h

theorem insRel_through {E : α → α → Prop} {w : α} {U V : α → Prop} {a b : α}
    (h : TransGen (InsRel E w U V) a b) :
    TransGen E a b ∨ (ReflTransGen (InsRel E w U V) a w ∧ ReflTransGen (InsRel E w U V) w b) := by
  induction h with
  | single hab =>
    rcases hab with h | ⟨hb, h⟩ | ⟨ha, h⟩
    · left; exact TransGen.single h
    · right; subst hb; exact ⟨ReflTransGen.single (Or.inr (Or.inl ⟨rfl, h⟩)), ReflTransGen.refl⟩
    · right; subst ha; exact ⟨ReflTransGen.refl, ReflTransGen.single (Or.inr (Or.inr ⟨rfl, h⟩))⟩
  | tail hac hcb ih =>
    rcases ih with h | ⟨h1, h2⟩
    · rcases hcb with h' | ⟨hb, h'⟩ | ⟨hc, h'⟩
      · left; exact TransGen.tail h h'
      · right; subst hb
        exact ⟨hac.to_reflTransGen.tail (Or.inr (Or.inl ⟨rfl, h'⟩)), ReflTransGen.refl⟩
      · right; subst hc
        exact ⟨hac.to_reflTransGen, ReflTransGen.single (Or.inr (Or.inr ⟨rfl, h'⟩))⟩
    · right; exact ⟨h1, h2.tail hcb⟩

theorem AcyclicRel.insert_fresh {E : α → α → Prop} {w : α} {U V : α → Prop}
    (hE : AcyclicRel E) (hfresh : ∀ a, ¬ E a w ∧ ¬ E w a) (hU : ∀ u, U u → u ≠ w) (hV : ∀ v, V v → v ≠ w)
    (hno : ∀ u v, U u → V v → ¬ ReflTransGen E v u) : AcyclicRel (InsRel E w U V) := by
  have key : ∀ v, V v → ¬ TransGen (InsRel E w U V) v w := by
    intro v hv hvw
    rcases insRel_path_from_old hfresh (hV v hv) hvw with ⟨hne, _⟩ | ⟨u, hu, hvu⟩
    · exact hne rfl
    · exact hno u v hu hv hvu
  have nocyc_w : ¬ TransGen (InsRel E w U V) w w := by
    intro hww
    rcases TransGen.head'_iff.mp hww with ⟨c, hwc, hcw⟩
    rcases hwc with h | ⟨_, h⟩ | ⟨_, hc⟩
    · exact (hfresh c).2 h
    · exact hU w h rfl
    · rcases reflTransGen_iff_eq_or_transGen.mp hcw with h | h
      · exact hV c hc h.symm
      · exact key c hc h
  intro a haa
  by_cases haw : a = w
  · subst haw; exact nocyc_w haa
  · rcases insRel_through haa with h | ⟨h1, h2⟩
    · exact hE a h
    · rcases reflTransGen_iff_eq_or_transGen.mp h1 with h | h1'
      · exact haw h.symm
      · rcases reflTransGen_iff_eq_or_transGen.mp h2 with h | h2'
        · exact haw h
        · exact nocyc_w (h2'.trans h1')

theorem AcyclicRel.no_back {E : α → α → Prop} (hE : AcyclicRel E) {u v : α} (h : E u v) : ¬ ReflTransGen E v u :=
  fun hvu => hE u (TransGen.head' h hvu)

theorem AcyclicRel.add_sink_edge {α : Type} {E : α → α → Prop} (hE : AcyclicRel E) {x y : α}
    (hy : ∀ b, ¬ E y b) (hxy : x ≠ y) : AcyclicRel (fun a b => E a b ∨ (a = x ∧ b = y)) := by
  have key : ∀ {a b}, TransGen (fun a b => E a b ∨ (a = x ∧ b = y)) a b → TransGen E a b ∨ b = y := by
    intro a b hab
    induction hab with
    | single h => rcases h with h | ⟨_, h⟩; exact Or.inl (TransGen.single h); exact Or.inr h
    | tail _ h2 ih =>
      rcases h2 with h2 | ⟨_, h2⟩
      · rcases ih with ih | ih
        · exact Or.inl (ih.tail h2)
        · subst ih; exact absurd h2 (hy _)
      · exact Or.inr h2
  intro a haa
  rcases key haa with h | h
  · exact hE a h
  · subst h
    rcases TransGen.head'_iff.mp haa with ⟨c, hc, _⟩
    rcases hc with hc | ⟨hc, _⟩
    · exact hy _ hc
    · exact hxy hc.symm

theorem reflTransGen_of_sink {α : Type} {E : α → α → Prop} {a b : α} (hs : ∀ x, ¬ E a x) (h : ReflTransGen E a b) :
    a = b := by
  rcases ReflTransGen.cases_head h with e | ⟨c, hc, _⟩
  · exact e
  · exact absurd hc (hs c)

theorem reflTransGen_to_source {α : Type} {E : α → α → Prop} {a b : α} (hs : ∀ x, ¬ E x b) (h : ReflTransGen E a b) :
    a = b := by
  rcases ReflTransGen.cases_tail h with e | ⟨c, _, hc⟩
  · exact e.symm
  · exact absurd hc (hs c)

end Acyclic
end Graphiq
