/-
  Proofs/DMCompileRef.lean — **textbook circuit semantics** on density matrices, as a specification independent of either
  backend's code, and the theorem that the stabilizer compile loop (hence, by Proofs/DMCompileH.lean, also the
  density-matrix compile loop) computes exactly it:

  * all registers start in `|0…0⟩⟨0…0|`; photon `j` is qubit `j`, emitter `j` is qubit `np + j`;
  * a gate acts as `ρ ↦ U ρ U†` with the textbook unitary (`H = (X+Z)/√2`, `S = diag(1,i)`, Paulis,
    `CNOT/CZ = |0⟩⟨0|⊗1 + |1⟩⟨1|⊗u`); a one-qubit wrapper acts as the *matrix product of its list*;
  * a Z-measurement of qubit `q` has Born probability `p₁ = tr(Π₁ρ)`; if `p₁ = 0` / `p₁ = 1` the outcome is 0 / 1 whatever
    the setting; otherwise it is the forced value (settings 0 / 1) or the next drawn bit (probabilistic); the state
    becomes `Π_o ρ Π_o / tr(Π_o ρ)` and the classical register receives `o`;
  * a classically controlled gate measures the control, applies the gate to the target iff the outcome is 1, records it;
  * measure-and-reset does the same with `X` and then resets the control: `ρ ↦ Σ_k K_k ρ K_k†`, `K = |0⟩⟨0|, |0⟩⟨1|`
    (= `|0⟩⟨0| ⊗ tr_c ρ`).

  `refRun_eq_stab` : `refRunH = ρ(stabRun)` with the same record, for every circuit, register mix, setting and script;
  `mcr_control_in_ket0` : after a measure-and-reset the control is in `|0⟩` (`Π₀ ρ = ρ`).

  The file runs parallel to Proofs/DMCompileH.lean on purpose (see the note at the end of its header).
-/
import GraphiqModel.Proofs.DMCompileH
namespace Graphiq
namespace DMRef
open Hilbert DMH Matrix PRow

structure RState (n : Nat) where
  ρ : DMat n
  writes : List (Nat × Bool)
  script : List Bool
  outs : List Bool

noncomputable def rstate (n : Nat) (s : RunState) : RState n :=
  { ρ := tabRho n s.t, writes := s.writes, script := s.script, outs := s.outs }

noncomputable def conj {n : Nat} (U ρ : DMat n) : DMat n := U * ρ * Uᴴ

/-- the textbook 2×2 matrix of a one-qubit generator -/
noncomputable def genMat : Cliff.Gen → Matrix Bool Bool ℂ
  | .I => 1 | .H => hadamardM | .P => phaseM | .X => sigmaX | .Y => sigmaY | .Z => sigmaZ

/-- a wrapper denotes the matrix product of its list (`u₁ u₂ … u_k`: the last listed acts first) -/
noncomputable def wrapMat : List Cliff.Gen → Matrix Bool Bool ℂ
  | [] => 1
  | g :: rest => genMat g * wrapMat rest

open Classical in
/-- the outcome of a Z-measurement with Born probability `p1` of the outcome 1, and the drawn bits left: a certain
    outcome whatever the setting, otherwise the forced value or the next drawn bit -/
noncomputable def refOutcome (p1 : ℝ) (d : Det) (script : List Bool) : Bool × List Bool :=
  if p1 = 0 then (false, script)
  else if p1 = 1 then (true, script)
  else match d with
    | .zero => (false, script)
    | .one => (true, script)
    | .prob => (script.headD false, script.tail)

/-- projective Z-measurement with the Born rule: post-measurement state, outcome, remaining drawn bits -/
noncomputable def refMeasure {n : Nat} (ρ : DMat n) (q : Nat) (d : Det) (script : List Bool) : DMat n × Bool × List Bool :=
  let os := refOutcome (Matrix.trace (proj n (Zq q true) * ρ)).re d script
  let P := proj n (Zq q os.1)
  ((((Matrix.trace (P * ρ)).re : ℝ) : ℂ)⁻¹ • (P * ρ * P), os.1, os.2)

theorem refOutcome_zero (d : Det) (script : List Bool) : refOutcome 0 d script = (false, script) := by
  unfold refOutcome; rw [if_pos rfl]
theorem refOutcome_one (d : Det) (script : List Bool) : refOutcome 1 d script = (true, script) := by
  unfold refOutcome; rw [if_neg (by norm_num), if_pos rfl]
theorem refOutcome_half (d : Det) (script : List Bool) :
    refOutcome (1 / 2) d script = (match d with
      | .zero => (false, script)
      | .one => (true, script)
      | .prob => (script.headD false, script.tail)) := by
  unfold refOutcome; rw [if_neg (by norm_num), if_neg (by norm_num)]

/-- reset of qubit `q` to `|0⟩`: `|0⟩⟨0|_q ⊗ tr_q ρ`, Kraus form -/
noncomputable def refReset {n : Nat} (ρ : DMat n) (q : Nat) : DMat n :=
  conj (oneQ n q (ketBra2 false false)) ρ + conj (oneQ n q (ketBra2 false true)) ρ

namespace RState
variable {n : Nat}
noncomputable def measure (s : RState n) (d : Det) (q : Nat) : RState n × Bool :=
  let m := refMeasure s.ρ q d s.script
  ({ s with ρ := m.1, script := m.2.2, outs := s.outs ++ [m.2.1] }, m.2.1)
noncomputable def condU (s : RState n) (b : Bool) (U : DMat n) : RState n := { s with ρ := if b then conj U s.ρ else s.ρ }
def write (s : RState n) (creg : Nat) (out : Bool) : RState n := { s with writes := s.writes ++ [(creg, out)] }
end RState

/-- one operation of the circuit, textbook semantics; `none` = a register index out of range -/
noncomputable def refStep (np n : Nat) (d : Det) (s : RState n) (op : COp) : Option (RState n) :=
  let ix := qIndex np
  match op with
  | .gate1 g q => if ix q < n then some { s with ρ := conj (oneQ n (ix q) (genMat g)) s.ρ } else none
  | .pdag q => if ix q < n then some { s with ρ := conj (oneQ n (ix q) phaseDagM) s.ρ } else none
  | .cnot c t => if ix c < n ∧ ix t < n then some { s with ρ := conj (ctrlQ n (ix c) (ix t) sigmaX) s.ρ } else none
  | .cz c t => if ix c < n ∧ ix t < n then some { s with ρ := conj (ctrlQ n (ix c) (ix t) sigmaZ) s.ρ } else none
  | .ccx c t creg =>
    if ix c < n ∧ ix t < n then
      let m := s.measure d (ix c)
      some ((m.1.condU m.2 (oneQ n (ix t) sigmaX)).write creg m.2)
    else none
  | .ccz c t creg =>
    if ix c < n ∧ ix t < n then
      let m := s.measure d (ix c)
      some ((m.1.condU m.2 (oneQ n (ix t) sigmaZ)).write creg m.2)
    else none
  | .mcr c t creg =>
    if ix c < n ∧ ix t < n then
      let m := s.measure d (ix c)
      let s2 := (m.1.condU m.2 (oneQ n (ix t) sigmaX)).write creg m.2
      some { s2 with ρ := refReset s2.ρ (ix c) }
    else none
  | .measz q creg =>
    if ix q < n then
      let m := s.measure d (ix q)
      some (m.1.write creg m.2)
    else none
  | .wrap gs q => if ix q < n then some { s with ρ := conj (oneQ n (ix q) (wrapMat gs)) s.ρ } else none

/-- textbook semantics of a circuit from all registers in `|0⟩` -/
noncomputable def refRunH (ne np : Nat) (d : Det) (script : List Bool) (ops : List COp) : Option (RState (ne + np)) :=
  ops.foldlM (refStep np (ne + np) d) { ρ := ket0H (ne + np), writes := [], script := script, outs := [] }

/-! ### the steps -/

theorem conj_gate (t : Tab) (g : Gate) (hg : g.WF t.n) : conj (gateMat t.n g) (tabRho t.n t) = tabRho t.n (t.map g.act) :=
  rho_tab_gate t g hg

theorem conj_gen (t : Tab) (q : Nat) (hq : q < t.n) (g : Cliff.Gen) :
    conj (oneQ t.n q (genMat g)) (tabRho t.n t) = tabRho t.n (gen1 t g q) := by
  cases g with
  | I =>
    show conj (oneQ t.n q 1) _ = _
    rw [oneQ_one]; unfold conj; simp; rfl
  | H =>
    show conj (oneQ t.n q hadamardM) _ = _
    rw [hadamard_gate]; exact conj_gate t (Gate.H q) hq
  | P => exact conj_gate t (Gate.P q) hq
  | X => exact conj_gate t (Gate.X q) hq
  | Y => exact conj_gate t (Gate.Y q) hq
  | Z => exact conj_gate t (Gate.Z q) hq

theorem conj_mul {n : Nat} (U V ρ : DMat n) : conj (U * V) ρ = conj U (conj V ρ) := by
  unfold conj
  rw [Matrix.conjTranspose_mul]
  simp only [Matrix.mul_assoc]

/-- **a wrapper acts as the matrix product of its list**: the stabilizer backend's last-listed-first execution is
    conjugation by `u₁ u₂ … u_k` -/
theorem conj_wrap (n q : Nat) (hq : q < n) (gs : List Cliff.Gen) :
    ∀ t : Tab, t.n = n → t.Valid →
      conj (oneQ n q (wrapMat gs)) (tabRho n t) = tabRho n (gs.reverse.foldl (fun t g => gen1 t g q) t) := by
  induction gs with
  | nil =>
    intro t _ _
    show conj (oneQ n q 1) _ = _
    rw [oneQ_one]; unfold conj; simp
  | cons g rest ih =>
    intro t hn hv
    show conj (oneQ n q (genMat g * wrapMat rest)) _ = _
    rw [← oneQ_mul n q hq, conj_mul, ih t hn hv, List.reverse_cons, List.foldl_append]
    simp only [List.foldl]
    have h := gen1_foldl_valid rest.reverse t q (hn ▸ hq) hv
    generalize rest.reverse.foldl (fun t g => gen1 t g q) t = t' at h ⊢
    obtain ⟨hv', hn'⟩ := h
    have hn2 : t'.n = n := hn'.trans hn
    subst hn2
    exact conj_gen t' q hq g

open Classical in
/-- the Born-rule measurement on the state of a tableau is `z_measurement_gate` -/
theorem refMeasure_tab (s : RunState) (hv : s.t.Valid) (hr : s.t.StabReal) (d : Det) (q : Nat) (hq : q < s.t.n) :
    refMeasure (tabRho s.t.n s.t) q d s.script
      = (tabRho s.t.n (s.measure d q).1.t, (s.measure d q).2, (s.measure d q).1.script) := by
  have hcomm : ∀ o, Matrix.trace (proj s.t.n (Zq q o) * tabRho s.t.n s.t) = Matrix.trace (tabRho s.t.n s.t * proj s.t.n (Zq q o)) :=
    fun o => Matrix.trace_mul_comm _ _
  cases hp : s.t.pivot q with
  | some p =>
    have hpr : ∀ o, (Matrix.trace (proj s.t.n (Zq q o) * tabRho s.t.n s.t)).re = 1 / 2 := by
      intro o; rw [hcomm, prob_random s.t hv hr q p o hq hp]; norm_num
    have hos : refOutcome (1 / 2) d s.script = s.offer d true := by
      rw [refOutcome_half]; cases d <;> rfl
    unfold refMeasure
    simp only [hpr, hos]
    rw [measure_random s d q p hp, proj_tabRho_proj s.t hv hr q p _ hq hp, smul_smul]
    show _ = (tabRho s.t.n (s.t.measRandom q p (s.offer d true).1).norm, _)
    rw [tabRho_norm_of s.t.n (s.t.measRandom q p _) rfl]
    norm_num
  | none =>
    obtain ⟨hf1, hf2, -, -⟩ := det_fix s.t hv hr q hq hp
    obtain ⟨ht1, ht0⟩ := prob_det s.t hv hr q hq hp
    rw [measure_det s d q hp]
    show _ = (tabRho s.t.n s.t.norm, _)
    rw [tabRho_norm s.t]
    cases hrr : (s.t.measScratch q).r with
    | false =>
      rw [hrr] at hf1 hf2 ht1 ht0
      have hp1 : (Matrix.trace (proj s.t.n (Zq q true) * tabRho s.t.n s.t)).re = 0 := by
        rw [hcomm, show (true : Bool) = !false from rfl, ht0]; simp
      have hp0 : (Matrix.trace (proj s.t.n (Zq q false) * tabRho s.t.n s.t)).re = 1 := by
        rw [hcomm, ht1]; simp
      unfold refMeasure
      simp only [hp1, refOutcome_zero, hp0]
      rw [hf1, hf2]
      simp
    | true =>
      rw [hrr] at hf1 hf2 ht1 ht0
      have hp1 : (Matrix.trace (proj s.t.n (Zq q true) * tabRho s.t.n s.t)).re = 1 := by
        rw [hcomm, ht1]; simp
      unfold refMeasure
      simp only [hp1, refOutcome_one]
      rw [hf1, hf2]
      simp

theorem rmeasure_tab (s : RunState) (hv : s.t.Valid) (hr : s.t.StabReal) (d : Det) (q : Nat) (hq : q < s.t.n) :
    (rstate s.t.n s).measure d q = (rstate s.t.n (s.measure d q).1, (s.measure d q).2) := by
  have h := refMeasure_tab s hv hr d q hq
  unfold RState.measure
  simp only [rstate]
  rw [h]
  simp only [RunState.measure]

theorem rcondU_tab (n : Nat) (s : RunState) (hn : s.t.n = n) (b : Bool) (g : Gate) (hg : g.WF n) :
    (rstate n s).condU b (gateMat n g) = rstate n { s with t := if b then (s.t.map g.act).norm else s.t } := by
  subst hn
  cases b
  · rfl
  · simp only [RState.condU, rstate, if_true]
    congr 1
    rw [tabRho_norm_of s.t.n (s.t.map g.act) rfl]
    exact conj_gate s.t g hg

theorem rcondX_tab (n : Nat) (s : RunState) (hn : s.t.n = n) (b : Bool) (q : Nat) (hq : q < n) :
    (rstate n s).condU b (oneQ n q sigmaX) = rstate n (s.condX b q) :=
  rcondU_tab n s hn b (Gate.X q) hq

theorem rcondZ_tab (n : Nat) (s : RunState) (hn : s.t.n = n) (b : Bool) (q : Nat) (hq : q < n) :
    (rstate n s).condU b (oneQ n q sigmaZ) = rstate n (s.condZ b q) :=
  rcondU_tab n s hn b (Gate.Z q) hq

/-- the textbook reset is the (un-hermitianized) Kraus sum; on a tableau state it is Hermitian already -/
theorem refReset_eq_channel (t : Tab) (hv : t.Valid) (q : Nat) :
    applyChannel (tabRho t.n t) (resetKraus t.n q) = refReset (tabRho t.n t) q := by
  unfold applyChannel resetKraus refReset
  simp only [List.foldl, zero_add]
  apply herm_of_hermitian
  have hh := tabRho_hermitian t hv
  rw [Matrix.conjTranspose_add]
  rw [conj_hermitian _ _ hh, conj_hermitian _ _ hh]

theorem rreset_tab (n : Nat) (s : RunState) (hn : s.t.n = n) (hv : s.t.Valid) (hr : s.t.StabReal) (d : Det) (q : Nat)
    (hq : q < n) (hp : s.t.pivot q = none) :
    ({ rstate n s with ρ := refReset (rstate n s).ρ q } : RState n) = rstate n (s.resetQ d q) := by
  subst hn
  have hscr : (s.offer d (s.t.pivot q).isSome).2 = s.script := by
    rw [hp]; cases d <;> rfl
  simp only [rstate, RunState.resetQ]
  rw [hscr, tabRho_norm_of _ _ (Tab.resetZ_n s.t q false _), ← refReset_eq_channel s.t hv q,
    resetChannel_det s.t hv hr q hq hp]

/-- **One operation**: textbook semantics on `ρ(s.t)` gives `ρ` of the stabilizer backend's next tableau and the same
    record.  Case by case as `DMH.dmStepH_stab`, with `conj_gate`, `rmeasure_tab`, `rcondX_tab` / `rcondZ_tab`, `rreset_tab`. -/
theorem refStep_stab (np n : Nat) (d : Det) (s s' : RunState) (op : COp) (hwf : op.WF np) (h : RunInv n s)
    (hs : stepOp np n d s op = some s') : refStep np n d (rstate n s) op = some (rstate n s') := by
  obtain ⟨hv, hn, hr⟩ := h
  subst hn
  have hgate : ∀ (g : Gate), g.WF s.t.n →
      conj (gateMat s.t.n g) (tabRho s.t.n s.t) = tabRho s.t.n (s.t.map g.act).norm := by
    intro g hg
    rw [tabRho_norm_of s.t.n (s.t.map g.act) rfl]
    exact conj_gate s.t g hg
  cases op with
  | gate1 g q =>
    obtain ⟨hq, rfl⟩ := ite_some_eq hs
    simp only [refStep]
    rw [if_pos hq]
    simp only [rstate]
    rw [conj_gen s.t _ hq g, tabRho_norm_of _ _ (gen1_n s.t g _)]
  | pdag q =>
    obtain ⟨hq, rfl⟩ := ite_some_eq hs
    simp only [refStep]
    rw [if_pos hq]
    simp only [rstate]
    rw [show oneQ s.t.n (qIndex np q) phaseDagM = gateMat s.t.n (Gate.Pdag (qIndex np q)) from rfl,
      hgate (Gate.Pdag (qIndex np q)) hq]
    rfl
  | cnot c t =>
    obtain ⟨hq, rfl⟩ := ite_some_eq hs
    simp only [refStep]
    rw [if_pos hq]
    simp only [rstate]
    rw [show ctrlQ s.t.n (qIndex np c) (qIndex np t) sigmaX = gateMat s.t.n (Gate.CNOT (qIndex np c) (qIndex np t)) from rfl,
      hgate (Gate.CNOT (qIndex np c) (qIndex np t)) ⟨hq.1, hq.2, hwf⟩]
    rfl
  | cz c t =>
    obtain ⟨hq, rfl⟩ := ite_some_eq hs
    simp only [refStep]
    rw [if_pos hq]
    simp only [rstate]
    rw [show ctrlQ s.t.n (qIndex np c) (qIndex np t) sigmaZ = gateMat s.t.n (Gate.CZ (qIndex np c) (qIndex np t)) from rfl,
      hgate (Gate.CZ (qIndex np c) (qIndex np t)) ⟨hq.1, hq.2, hwf⟩]
    rfl
  | ccx c t creg =>
    obtain ⟨hq, rfl⟩ := ite_some_eq hs
    simp only [refStep]
    rw [if_pos hq]
    have hok1 := measure_ok s.t.n s d _ hq.1 ⟨hv, rfl⟩
    simp only [rmeasure_tab s hv hr d _ hq.1]
    rw [rcondX_tab s.t.n _ hok1.2 _ _ hq.2]
    rfl
  | ccz c t creg =>
    obtain ⟨hq, rfl⟩ := ite_some_eq hs
    simp only [refStep]
    rw [if_pos hq]
    have hok1 := measure_ok s.t.n s d _ hq.1 ⟨hv, rfl⟩
    simp only [rmeasure_tab s hv hr d _ hq.1]
    rw [rcondZ_tab s.t.n _ hok1.2 _ _ hq.2]
    rfl
  | mcr c t creg =>
    obtain ⟨hq, rfl⟩ := ite_some_eq hs
    simp only [refStep]
    rw [if_pos hq]
    have hok1 := measure_ok s.t.n s d _ hq.1 ⟨hv, rfl⟩
    have hok2 := condX_ok s.t.n _ (s.measure d (qIndex np c)).2 _ hq.2 hok1
    obtain ⟨hr2, hp⟩ := pivot_after_condX s hv hr d _ _ hq.1 hq.2
    simp only [rmeasure_tab s hv hr d _ hq.1]
    rw [rcondX_tab s.t.n _ hok1.2 _ _ hq.2,
      show ∀ (x : RunState) (o : Bool), (rstate s.t.n x).write creg o = rstate s.t.n (x.write creg o) from fun _ _ => rfl]
    refine congrArg some (rreset_tab s.t.n (RunState.write _ creg _) ?_ ?_ ?_ d _ hq.1 ?_)
    exacts [hok2.2, hok2.1, hr2, hp]
  | measz q creg =>
    obtain ⟨hq, rfl⟩ := ite_some_eq hs
    simp only [refStep]
    rw [if_pos hq]
    simp only [rmeasure_tab s hv hr d _ hq]
    rfl
  | wrap gs q =>
    obtain ⟨hq, rfl⟩ := ite_some_eq hs
    simp only [refStep]
    rw [if_pos hq]
    simp only [rstate]
    rw [conj_wrap s.t.n _ hq gs s.t rfl hv,
      tabRho_norm_of _ _ (gen1_foldl_valid gs.reverse s.t _ hq hv).2]

theorem refStep_none (np n : Nat) (d : Det) (s : RunState) (h : RState n) (op : COp)
    (hs : stepOp np n d s op = none) : refStep np n d h op = none := by
  cases op <;> exact if_neg (ite_some_eq_none hs)

theorem refFold_map (np n : Nat) (d : Det) (ops : List COp) (hwf : ∀ op, op ∈ ops → op.WF np) :
    ∀ (s : RunState), RunInv n s →
      ops.foldlM (refStep np n d) (rstate n s) = (ops.foldlM (stepOp np n d) s).map (rstate n) :=
  fun _ hs => Loop.foldlM_map (rstate n) (RunInv n) (fun s op s' ho => stepOp_inv np n d s s' op (hwf op ho))
    (fun s op ho hs => by
      cases h1 : stepOp np n d s op with
      | none => exact refStep_none np n d s _ op h1
      | some s1 => exact refStep_stab np n d s s1 op (hwf op ho) hs h1) hs

/-- **The stabilizer backend computes the textbook state**: for every circuit, register mix, setting and script,
    `refRunH = ρ(stabRun)` with the same writes, remaining script and outcomes (and both fail on the same circuits). -/
theorem refRun_eq_stab (ne np : Nat) (d : Det) (script : List Bool) (ops : List COp)
    (hwf : ∀ op, op ∈ ops → op.WF np) :
    refRunH ne np d script ops = (stabRun ne np d script ops).map (rstate (ne + np)) := by
  unfold stabRun stabRunFrom refRunH
  rw [ket0H_eq]
  exact refFold_map np (ne + np) d ops hwf
    { t := Tab.ket0 (ne + np), writes := [], script := script, rand := [], outs := [] } (ket0_runInv _ script)

/-- a state of the density-matrix compile loop as a textbook state: the randomness log is forgotten -/
def ofH {n : Nat} (h : HState n) : RState n := { ρ := h.ρ, writes := h.writes, script := h.script, outs := h.outs }

/-- **The density-matrix backend computes the textbook state** (through `dmRunH_eq_map`) -/
theorem refRun_eq_dm (ne np : Nat) (d : Det) (script : List Bool) (ops : List COp)
    (hwf : ∀ op, op ∈ ops → op.WF np) :
    (dmRunH ne np d script ops).map ofH = refRunH ne np d script ops := by
  rw [dmRunH_eq_map ne np d script ops hwf, refRun_eq_stab ne np d script ops hwf]
  cases stabRun ne np d script ops <;> rfl

/-- **A reset leaves the measured qubit in `|0⟩`**: the state after the textbook reset of qubit `q` is fixed by
    `Π₀ = |0⟩⟨0|_q` on both sides (any input matrix) -/
theorem refReset_in_ket0 {n : Nat} (ρ : DMat n) (q : Nat) (hq : q < n) :
    proj n (Zq q false) * refReset ρ q = refReset ρ q := by
  unfold refReset conj
  rw [show oneQ n q (ketBra2 false false) = proj n (Zq q false) from projZ_eq n q hq false, resetKraus1_eq n q hq]
  rw [mul_add]
  simp only [← Matrix.mul_assoc, proj_Zq_idem]

/-- **after a measure-and-reset the control is in `|0⟩`** in the state of the stabilizer backend's tableau (hence in the
    density-matrix backend's matrix): `|0⟩⟨0|_c ρ(s') = ρ(s')`, i.e. `+Z_c` stabilizes the state — for every input state,
    setting and outcome, also when control and target coincide -/
theorem mcr_control_in_ket0 (np n : Nat) (d : Det) (s s' : RunState) (c t : QReg) (creg : Nat) (h : RunInv n s)
    (hs : stepOp np n d s (.mcr c t creg) = some s') :
    proj n (Zq (qIndex np c) false) * tabRho n s'.t = tabRho n s'.t := by
  have hq : qIndex np c < n ∧ qIndex np t < n := (ite_some_eq hs).1
  have href := refStep_stab np n d s s' (.mcr c t creg) trivial h hs
  simp only [refStep, if_pos hq] at href
  injection href with href
  have hρ := congrArg RState.ρ href
  simp only [rstate] at hρ
  rw [← hρ]
  exact refReset_in_ket0 _ _ hq.1

end DMRef
end Graphiq
