/-
  Proofs/Tabulate.lean — the `norm` functions of the model replace the function fields of a structure by look-ups in an
  `Array.ofFn` table (for execution only).  From two facts about `Array.ofFn` (`getD_ofFn`, `ofFn_congr`): the sizes are kept
  (by `rfl`), below the sizes the entries are kept (`PRow.norm_eqOn`, `Tab.norm_row`, `STab.norm_row`, `BMat.norm_agree`,
  `Mat.norm_e`), and the result depends on the entries below the sizes only (`norm_congr`, for `PRow`, `Tab`, `STab`, `BMat`).
  `S2G.XZ.norm` has its lemmas in Proofs/StateToGraphBits.lean.
-/
import GraphiqModel.Model.StabTableau
import GraphiqModel.Model.Gauss
import GraphiqModel.Model.GraphOps
namespace Graphiq

theorem getD_ofFn {α : Type} {n : Nat} (f : Fin n → α) (d : α) {i : Nat} (hi : i < n) :
    (Array.ofFn f).getD i d = f ⟨i, hi⟩ := by
  simp [Array.getD, hi]

theorem ofFn_congr {α : Type} {n : Nat} {f g : Fin n → α} (h : ∀ i, f i = g i) : Array.ofFn f = Array.ofFn g :=
  congrArg _ (funext h)

theorem lookup1_ofFn (n : Nat) (f : Nat → Bool) (j : Nat) (hj : j < n) :
    lookup1 (Array.ofFn (n := n) fun k => f k.val) j = f j :=
  getD_ofFn _ _ hj

theorem lookup2_ofFn (r c : Nat) (f : Nat → Nat → Bool) (i j : Nat) (hi : i < r) (hj : j < c) :
    lookup2 (Array.ofFn (n := r) fun i => Array.ofFn (n := c) fun j => f i.val j.val) i j = f i j := by
  unfold lookup2; rw [getD_ofFn _ _ hi, getD_ofFn _ _ hj]

namespace PRow

theorem norm_eqOn (n : Nat) (p : PRow) : EqOn n (p.norm n) p :=
  ⟨fun j hj => ⟨lookup1_ofFn n p.x j hj, lookup1_ofFn n p.z j hj⟩, rfl, rfl⟩

theorem norm_congr (n : Nat) (a b : PRow) (h : EqOn n a b) : a.norm n = b.norm n := by
  simp only [norm, ofFn_congr fun j => (h.1 j.1 j.2).1, ofFn_congr fun j => (h.1 j.1 j.2).2, h.2.1, h.2.2]

end PRow

namespace Tab
open PRow

theorem norm_n (t : Tab) : t.norm.n = t.n := rfl

theorem norm_row_eq (t : Tab) (i : Nat) (hi : i < 2 * t.n) : t.norm.row i = (t.row i).norm t.n :=
  getD_ofFn _ _ hi

theorem norm_row (t : Tab) (i : Nat) (hi : i < 2 * t.n) : EqOn t.n (t.norm.row i) (t.row i) :=
  norm_row_eq t i hi ▸ norm_eqOn t.n _

theorem norm_congr (a b : Tab) (hn : a.n = b.n) (h : ∀ i, i < 2 * a.n → EqOn a.n (a.row i) (b.row i)) :
    a.norm = b.norm := by
  obtain ⟨n, ra⟩ := a
  obtain ⟨_, rb⟩ := b
  subst hn
  simp only [norm, ofFn_congr fun i => PRow.norm_congr n _ _ (h i.1 i.2)]

end Tab

namespace STab
open PRow

theorem norm_n (t : STab) : t.norm.n = t.n := rfl

theorem norm_row_eq (t : STab) (i : Nat) (hi : i < t.n) : t.norm.row i = (t.row i).norm t.n :=
  getD_ofFn _ _ hi

theorem norm_row (t : STab) (i : Nat) (hi : i < t.n) : EqOn t.n (t.norm.row i) (t.row i) :=
  norm_row_eq t i hi ▸ norm_eqOn t.n _

theorem norm_congr (a b : STab) (hn : a.n = b.n) (h : ∀ i, i < a.n → EqOn a.n (a.row i) (b.row i)) : a.norm = b.norm := by
  obtain ⟨n, ra⟩ := a
  obtain ⟨_, rb⟩ := b
  subst hn
  simp only [norm, ofFn_congr fun i => PRow.norm_congr n _ _ (h i.1 i.2)]

end STab

namespace BMat

@[simp] theorem norm_r (m : BMat) : m.norm.r = m.r := rfl
@[simp] theorem norm_c (m : BMat) : m.norm.c = m.c := rfl

theorem norm_agree (m : BMat) (i j : Nat) (hi : i < m.r) (hj : j < m.c) : m.norm.f i j = m.f i j :=
  lookup2_ofFn m.r m.c m.f i j hi hj

theorem norm_congr (m m' : BMat) (hr : m.r = m'.r) (hc : m.c = m'.c)
    (h : ∀ i j, i < m.r → j < m.c → m.f i j = m'.f i j) : m.norm = m'.norm := by
  obtain ⟨r, c, f⟩ := m
  obtain ⟨_, _, f'⟩ := m'
  subst hr hc
  simp only [norm, ofFn_congr fun i => ofFn_congr fun j => h i.1 j.1 i.2 j.2]

end BMat

namespace Mat

theorem norm_n (m : Mat) : m.norm.n = m.n := rfl

theorem lookupG_ofFn (n : Nat) (f : Nat → Nat → GQ) (i j : Nat) (hi : i < n) (hj : j < n) :
    lookupG (Array.ofFn (n := n) fun a => Array.ofFn (n := n) fun b => f a.val b.val) i j = f i j := by
  unfold lookupG; rw [getD_ofFn _ _ hi, getD_ofFn _ _ hj]

theorem norm_e (m : Mat) (i j : Nat) (hi : i < m.n) (hj : j < m.n) : m.norm.e i j = m.e i j :=
  lookupG_ofFn m.n m.e i j hi hj

end Mat

end Graphiq
