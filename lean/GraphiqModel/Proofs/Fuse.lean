/-
  Fuse.lean — the list edit that `group_one_qubit_gates` performs on the operation sequence of one wire (C12), as pure
  list functions.  `fuseWire r l` scans the wire: every maximal run of adjacent groupable operations is replaced by ONE wrapper
  on register `r` with gate list `runKinds run` (nothing at all if that list is empty — a run of empty wrappers); every other
  operation stays where it is.  The loop walks the wire backwards, so in `runKinds` the classes of the LAST operation come
  first (= the wrapper's "matrix order": `unwrap()` reverses it again).  `fuseBack` is the same computed the way the code does
  it (backwards, with the pending gate list).  Proved here: `fuseBack = fuseWire` and `flatOps (fuseWire r l) = flatOps l`; how
  `fuseWire` acts on a run and on a boundary is in Proofs/FuseLoop.lean.
-/
import GraphiqModel.Proofs.PrepOrder
namespace Graphiq
namespace Dag

/-- `groupable` of `group_one_qubit_gates`, as a predicate of the operation held by the node -/
def gOp (o : Op) : Bool := o.indexKeys.contains "one-qubit" && o.kind.isOneQubitBase

/-- `gate_list += op.operations` / `gate_list.append(op.__class__)` -/
def kindsOf (o : Op) : List Kind := if o.kind = .wrapper then o.inner else [o.kind]

theorem _root_.Graphiq.Metrics.CregView.gOp_eq {f : NodeId → Op → Op} (hV : Metrics.CregView f) (n : NodeId) (o : Op) :
    gOp (f n o) = gOp o := by
  rw [hV.only_cregs n o]; rfl

theorem _root_.Graphiq.Metrics.CregView.kindsOf_eq {f : NodeId → Op → Op} (hV : Metrics.CregView f) (n : NodeId) (o : Op) :
    kindsOf (f n o) = kindsOf o := by
  rw [hV.only_cregs n o]; rfl

/-- the gate list the loop builds for a run (wire order) of groupable operations: last operation first -/
def runKinds (run : List Op) : List Kind := run.reverse.flatMap kindsOf

/-- `OneQubitGateWrapper(gate_list, register, reg_type)` -/
def wrapperOn (r : Reg) (gates : List Kind) : Op := ⟨.wrapper, [r], [], ["one-qubit"], gates⟩

/-- `if … and gate_list: insert_at(OneQubitGateWrapper(gate_list, …))` -/
def flushK (r : Reg) (gates : List Kind) : List Op := if gates = [] then [] else [wrapperOn r gates]

/-- what a maximal run is replaced by -/
def fuseRun (r : Reg) (run : List Op) : List Op := flushK r (runKinds run)

/-- forward scan; `run` = the groupable operations collected since the last non-groupable one (wire order) -/
def fuseFwd (r : Reg) : List Op → List Op → List Op
  | run, [] => fuseRun r run
  | run, o :: t => if gOp o then fuseFwd r (run ++ [o]) t else fuseRun r run ++ o :: fuseFwd r [] t

/-- **the list edit of `group_one_qubit_gates` on one wire** -/
def fuseWire (r : Reg) (l : List Op) : List Op := fuseFwd r [] l

/-- the backward scan of the code: the list is the part of the wire still to visit, nearest operation first; `gates`
    is the pending gate list -/
def fuseBack (r : Reg) : List Op → List Kind → List Op
  | [], gates => flushK r gates
  | o :: rest, gates => if gOp o then fuseBack r rest (gates ++ kindsOf o) else fuseBack r rest [] ++ o :: flushK r gates

theorem runKinds_nil : runKinds [] = [] := rfl

theorem runKinds_cons (o : Op) (run : List Op) : runKinds (o :: run) = runKinds run ++ kindsOf o := by
  simp [runKinds, List.flatMap_append]

theorem runKinds_append (a b : List Op) : runKinds (a ++ b) = runKinds b ++ runKinds a := by
  simp [runKinds, List.flatMap_append]

theorem fuseBack_run (r : Reg) (pre : List Op) (hpre : ∀ o ∈ pre, gOp o = true) (rest : List Op) (gates : List Kind) :
    fuseBack r (pre.reverse ++ rest) gates = fuseBack r rest (gates ++ runKinds pre) := by
  induction pre generalizing rest with
  | nil => simp [runKinds]
  | cons a t ih =>
    rw [List.reverse_cons, List.append_assoc, ih (fun o ho => hpre o (List.mem_cons_of_mem _ ho))]
    simp only [List.singleton_append, fuseBack, hpre a (by simp), if_true, runKinds_cons, List.append_assoc]

theorem fuseBack_split (r : Reg) (x : List Op) (o : Op) (ho : gOp o = false) (y : List Op) (gates : List Kind) :
    fuseBack r (x ++ o :: y) gates = fuseBack r y [] ++ o :: fuseBack r x gates := by
  induction x generalizing gates with
  | nil => simp [fuseBack, ho]
  | cons a t ih =>
    by_cases ha : gOp a = true
    · simp only [List.cons_append, fuseBack, ha, if_true, ih]
    · simp only [List.cons_append, fuseBack, ha, Bool.false_eq_true, if_false, ih, List.append_assoc, List.cons_append]

theorem fuseBack_eq_fuseFwd (r : Reg) (l : List Op) :
    ∀ pre : List Op, (∀ o ∈ pre, gOp o = true) → fuseBack r (pre ++ l).reverse [] = fuseFwd r pre l := by
  induction l with
  | nil =>
    intro pre hpre
    have := fuseBack_run r pre hpre [] []
    simp only [List.append_nil, List.nil_append] at this ⊢
    rw [this]; rfl
  | cons o t ih =>
    intro pre hpre
    by_cases ho : gOp o = true
    · have := ih (pre ++ [o]) (by
        intro a ha
        rcases List.mem_append.mp ha with ha | ha
        · exact hpre a ha
        · simp at ha; rw [ha]; exact ho)
      simp only [fuseFwd, ho, if_true]
      rw [← this]; simp
    · have ho' : gOp o = false := by simpa using ho
      simp only [fuseFwd, ho, Bool.false_eq_true, if_false]
      rw [List.reverse_append, List.reverse_cons, List.append_assoc, List.singleton_append,
        fuseBack_split r t.reverse o ho' pre.reverse []]
      have h1 := fuseBack_run r pre hpre [] []
      simp only [List.append_nil, List.nil_append] at h1
      have h2 := ih [] (by simp)
      simp only [List.nil_append] at h2
      rw [h1, h2]; rfl

theorem fuseBack_eq_fuseWire (r : Reg) (l : List Op) : fuseBack r l.reverse [] = fuseWire r l := by
  have := fuseBack_eq_fuseFwd r l [] (by simp)
  simpa [fuseWire] using this

/-! ## the flattened sequence is unchanged -/

/-- the flattened sequence of a wire: primitive gate classes (application order) of groupable operations, every other
    operation as it is -/
def flatOps (l : List Op) : List (Kind ⊕ Op) :=
  l.flatMap fun o => if gOp o then (kindsOf o).reverse.map Sum.inl else [Sum.inr o]

theorem flatOps_append (a b : List Op) : flatOps (a ++ b) = flatOps a ++ flatOps b := by
  simp [flatOps, List.flatMap_append]

theorem flatOps_run (run : List Op) (h : ∀ o ∈ run, gOp o = true) : flatOps run = (runKinds run).reverse.map Sum.inl := by
  induction run with
  | nil => rfl
  | cons a t ih =>
    rw [runKinds_cons, List.reverse_append, List.map_append, ← ih (fun o ho => h o (List.mem_cons_of_mem _ ho))]
    simp [flatOps, h a (by simp)]

theorem gOp_wrapperOn (r : Reg) (gates : List Kind) : gOp (wrapperOn r gates) = true := by
  simp [gOp, wrapperOn, Op.indexKeys, Kind.isOneQubitBase]

theorem flatOps_fuseRun (r : Reg) (run : List Op) (h : ∀ o ∈ run, gOp o = true) : flatOps (fuseRun r run) = flatOps run := by
  rw [flatOps_run run h]
  unfold fuseRun flushK
  by_cases hk : runKinds run = []
  · rw [if_pos hk, hk]; rfl
  · rw [if_neg hk]
    have hg := gOp_wrapperOn r (runKinds run)
    have hkk : kindsOf (wrapperOn r (runKinds run)) = runKinds run := by simp [kindsOf, wrapperOn]
    simp [flatOps, hg, hkk]

theorem flatOps_fuseFwd (r : Reg) (l : List Op) :
    ∀ run : List Op, (∀ o ∈ run, gOp o = true) → flatOps (fuseFwd r run l) = flatOps (run ++ l) := by
  induction l with
  | nil => intro run h; simp only [fuseFwd, List.append_nil]; exact flatOps_fuseRun r run h
  | cons o t ih =>
    intro run h
    by_cases ho : gOp o = true
    · simp only [fuseFwd, ho, if_true]
      rw [ih (run ++ [o]) (by
        intro a ha
        rcases List.mem_append.mp ha with ha | ha
        · exact h a ha
        · simp at ha; rw [ha]; exact ho)]
      simp
    · simp only [fuseFwd, ho, Bool.false_eq_true, if_false]
      have e : fuseRun r run ++ o :: fuseFwd r [] t = fuseRun r run ++ ([o] ++ fuseFwd r [] t) := rfl
      have e2 : run ++ o :: t = run ++ ([o] ++ t) := rfl
      rw [e, e2, flatOps_append, flatOps_append, flatOps_append, flatOps_append, flatOps_fuseRun r run h, ih [] (by simp)]
      rfl

theorem flatOps_fuseWire (r : Reg) (l : List Op) : flatOps (fuseWire r l) = flatOps l := by
  have := flatOps_fuseFwd r l [] (by simp)
  simpa [fuseWire] using this

end Dag
end Graphiq
