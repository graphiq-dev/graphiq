/-
  Proofs/LCTableaux.lean — `lc_check` on stabilizer states (tableau inputs): the total gate list
  `gates1 + gate_list + inversed_gates2` maps the first state exactly onto the second.

  `gates1`, `gates2` come from `state_to_graph` (property C08: they map each state onto its graph state), `gate_list` from
  `converter_gate_list` on the two graphs (on the validated run `lcCheckR_sound`, Proofs/LCRepair.lean: it maps the first graph state onto the second;
  Proofs/LCGates2.lean: the validation never fails, so the answer is the same without it), and
  `inversed_gates2` is `gates2` reversed with `P ↔ P_dag` (`revCirc`).  The three facts are composed as images of signed groups
  under gate lists (`CircImage`, Proofs/InnerProductCirc.lean).
-/
import GraphiqModel.Proofs.LCGates2
import GraphiqModel.Proofs.StateToGraph
import GraphiqModel.Proofs.InnerProductCirc
import GraphiqModel.Proofs.LCTotalR
namespace Graphiq.LC
open Graphiq PRow Tab Graphiq.TabSpec

/-- the stabilizer half (`to_stabilizer()`) of a tableau with Hermitian stabilizers generates its stabilizer group -/
theorem spn_ofTab_iff_grp (X : Tab) (hr : X.StabReal) (a : PRow) : (STab.ofTab X).Spn a ↔ Grp X a :=
  STab.ofTab_spn_iff X hr a

/-! ### the gate list of `lc_check` on two graphs -/

theorem ofTab_graphTab_spanEq (n : Nat) (A : Adj) : STab.SpanEq (STab.ofTab (graphTab n A)) (graphSTab n A) := by
  refine spanEq_of_rows (STab.ofTab (graphTab n A)) (graphSTab n A) rfl ?_
  intro i hi
  have hi' : i < n := hi
  show EqOn n { (graphTab n A).row (i + n) with ip := false } ((graphSTab n A).row i)
  rw [graphTab_stab]
  refine ⟨fun j hj => ⟨rfl, ?_⟩, rfl, rfl⟩
  show A i j = (decide (j < n) && A i j)
  simp [hj]

/-- **the validated gate list of `lc_check` on two graphs, as an image of signed groups**: whenever `lc_check(g1, g2, validate=True)`
    (repaired function) returns `(True, L)`, every gate of `L` acts on a vertex of `g1` and the signed group of `|g2⟩` is the image
    of that of `|g1⟩` under `L` — `g2` is only read on the vertices of `g1` -/
theorem lc_gates_image_validated (g1 g2 : BMat) (hs1 : Simple g1.r g1.f) (hs2 : Simple g1.r g2.f)
    (L : List (String × Nat)) (hL : lcCheckR g1 g2 true = .ok (true, L)) :
    (∀ g, g ∈ L → g.2 < g1.r) ∧ CircImage g1.r (L.map toGate) (graphSTab g1.r g1.f) (graphSTab g1.r g2.f) := by
  obtain ⟨t, et, hn, hv, hin⟩ := lcCheckR_sound g1 g2 L hs1 hL
  obtain ⟨hgood, ht⟩ := (runGates_iff _ t L).mp et
  refine ⟨fun g hg => (hgood g hg).2, ?_⟩
  have hwf := toGates_wf g1.r L (fun g hg => (hgood g hg).2)
  have hreal : t.StabReal := by
    obtain ⟨t', e', _, hrows⟩ := runGates_rows (graphTab g1.r g1.f) L hgood
    rw [et] at e'
    have : t = t' := Except.ok.inj e'
    subst this
    intro i h1 h2
    rw [hn] at h1 h2
    rw [(hrows i h2).2]
    exact graphTab_ip g1.r g1.f i
  have hvB := graphTab_valid g1.r g2.f hs2
  have hrB : (graphTab g1.r g2.f).StabReal := fun i _ _ => graphTab_ip g1.r g2.f i
  have hgrp := grp_eq_of_gens_in t (graphTab g1.r g2.f) hv hreal hvB hrB hn (fun k hk => by
    have : (graphTab g1.r g2.f).stab k = graphGen g2.f k := graphTab_stab g1.r g2.f k
    rw [this]
    have := hin k hk
    exact this)
  have s2 : STab.SpanEq (STab.ofTab t) (graphSTab g1.r g2.f) := by
    have hn' : (STab.ofTab t).n = (STab.ofTab (graphTab g1.r g2.f)).n := hn
    refine STab.SpanEq.trans ⟨hn', fun a ha => ?_, fun a ha => ?_⟩ (ofTab_graphTab_spanEq g1.r g2.f)
    · exact (spn_ofTab_iff_grp _ hrB a).mpr ((hgrp a).mp ((spn_ofTab_iff_grp t hreal a).mp ha))
    · exact (spn_ofTab_iff_grp t hreal a).mpr ((hgrp a).mpr ((spn_ofTab_iff_grp _ hrB a).mp ha))
  have img : CircImage g1.r (L.map toGate) (STab.ofTab (graphTab g1.r g1.f)) (STab.ofTab t) := by
    apply circImage_of_rows g1.r _ hwf _ _ rfl hn
    intro i hi
    rw [ht]
    exact ofTab_runCircuit_row g1.r _ hwf (graphTab g1.r g1.f) rfl i hi
  exact img.congr (ofTab_graphTab_spanEq g1.r g1.f) s2

/-- **the gate list of `lc_check` on two graphs, as an image of signed groups**: whenever `lc_check(g1, g2)` (repaired
    function) returns `(True, L)`, the signed group of `|g2⟩` is the image of that of `|g1⟩` under `L` -/
theorem lc_gates_image (g1 g2 : BMat) (hr : g1.r = g2.r) (hs1 : Simple g1.r g1.f) (hs2 : Simple g2.r g2.f)
    (validate : Bool) (L : List (String × Nat)) (hL : lcCheckR g1 g2 validate = .ok (true, L)) :
    CircImage g1.r (L.map toGate) (graphSTab g1.r g1.f) (graphSTab g1.r g2.f) := by
  -- the answer does not depend on `validate`
  have hLt : lcCheckR g1 g2 true = .ok (true, L) := by
    obtain ⟨out, e⟩ := isLcEquivalentR_total g1 g2 .det [] hr hs1 (by decide)
    cases hq : out.sol with
    | none =>
      rw [lcCheckR_of_no g1 g2 out e hq validate] at hL
      cases hL
    | some s =>
      obtain ⟨zs, _, hc⟩ := lcCheckR_of_yes g1 g2 out s hr hs1 hs2 e hq
      rw [hc validate] at hL
      rw [hc true, ← hL]
  exact (lc_gates_image_validated g1 g2 hs1 (hr ▸ hs2) L hLt).2

/-- **`lc_check` on two stabilizer states**: with `(g1, G1) = state_to_graph(state1)`, `(g2, G2) = state_to_graph(state2)` and
    `(True, L) = lc_check(g1, g2)`, the total gate list `G1 + L + reversed(G2 with P ↔ P_dag)` maps `state1` exactly onto
    `state2` (same signed stabilizer group) -/
theorem lc_check_tableaux (t1 t2 : STab) (hreal1 : ∀ i, i < t1.n → (t1.row i).ip = false)
    (hreal2 : ∀ i, i < t2.n → (t2.row i).ip = false) (hn : t1.n = t2.n) (g1 g2 : BMat) (G1 G2 : List Gate)
    (e1 : S2G.stateToGraph t1 = .ok (g1, G1)) (e2 : S2G.stateToGraph t2 = .ok (g2, G2))
    (validate : Bool) (L : List (String × Nat)) (hL : lcCheckR g1 g2 validate = .ok (true, L)) :
    STab.SpanEq (t1.runCircuit (G1 ++ L.map toGate ++ revCirc G2)) t2 := by
  obtain ⟨hr1, hs1, wf1, s1⟩ := stateToGraph_output t1 hreal1 g1 G1 e1
  obtain ⟨hr2, hs2, wf2, s2⟩ := stateToGraph_output t2 hreal2 g2 G2 e2
  have i1 : CircImage t1.n G1 t1 (graphSTab t1.n g1.f) :=
    (circImage_runCircuit t1 G1 wf1).congr (STab.SpanEq.refl t1) s1
  have i2 : CircImage t1.n (L.map toGate) (graphSTab t1.n g1.f) (graphSTab t1.n g2.f) := by
    have := lc_gates_image g1 g2 (by rw [hr1, hr2, hn]) hs1 hs2 validate L hL
    rw [hr1] at this
    exact this
  have i3 : CircImage t1.n (revCirc G2) (graphSTab t1.n g2.f) t2 := by
    have := ((circImage_runCircuit t2 G2 wf2).congr (STab.SpanEq.refl t2) s2).rev
    rw [← hn] at this
    exact this
  have itot := circImage_comp (circImage_comp i1 i2) i3
  exact circImage_unique (circImage_runCircuit t1 _ itot.wf) itot

end Graphiq.LC
