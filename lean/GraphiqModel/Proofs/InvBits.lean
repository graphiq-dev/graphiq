/-
  Proofs/InvBits.lean — the bit-level effect of the steps of `inverse_circuit` (gate, row swap, row product) on the x-bit
  matrix, the z-bit matrix and the sign column of the current tableau, and induction principles for its loops.  No Mathlib.
-/
import GraphiqModel.Proofs.InverseCircuit
import GraphiqModel.Proofs.CanonShape
namespace Graphiq
open PRow Tab
namespace STab

/-- the sign column -/
def rb (t : STab) : Nat → Bool := fun m => (t.row m).r

/-! ### rows of the gates, bit by bit -/

theorem h_x (q : Nat) (p : PRow) (j : Nat) : (PRow.h q p).x j = if j = q then p.z j else p.x j := rfl
theorem h_z (q : Nat) (p : PRow) (j : Nat) : (PRow.h q p).z j = if j = q then p.x j else p.z j := rfl
theorem s_x (q : Nat) (p : PRow) (j : Nat) : (PRow.s q p).x j = p.x j := rfl
theorem s_z (q : Nat) (p : PRow) (j : Nat) : (PRow.s q p).z j = if j = q then xor (p.z j) (p.x q) else p.z j := rfl

theorem cz_x (c t : Nat) (hct : c ≠ t) (p : PRow) (j : Nat) : (PRow.cz c t p).x j = p.x j := by
  have htc : t ≠ c := Ne.symm hct
  unfold PRow.cz
  simp only [h_x, cnot_x, h_z, cnot_z]
  by_cases h1 : j = t
  · subst h1; simp [htc]
  · simp [h1]

theorem cz_z (c t : Nat) (hct : c ≠ t) (p : PRow) (j : Nat) :
    (PRow.cz c t p).z j = if j = c then xor (p.z j) (p.x t) else if j = t then xor (p.z j) (p.x c) else p.z j := by
  have htc : t ≠ c := Ne.symm hct
  unfold PRow.cz
  simp only [h_x, cnot_x, h_z, cnot_z]
  by_cases h1 : j = t
  · subst h1; simp [htc]; intro h; exact absurd h hct
  · by_cases h2 : j = c
    · subst h2; simp [hct]
    · simp [h1, h2]

theorem cz_r (c t : Nat) (hct : c ≠ t) (p : PRow) :
    (PRow.cz c t p).r = xor p.r (p.x c && p.x t && xor (p.z c) (p.z t)) := by
  have htc : t ≠ c := fun e => hct e.symm
  simp only [PRow.cz, PRow.h, PRow.cnot, if_neg hct, if_neg htc]
  cases p.r <;> cases p.x c <;> cases p.x t <;> cases p.z c <;> cases p.z t <;> rfl

theorem h_r (q : Nat) (p : PRow) : (PRow.h q p).r = xor p.r (p.x q && p.z q) := rfl

theorem gate_n (st : InvState) (g : Gate) : (st.gate g).t.n = st.t.n := rfl
theorem swap_n (st : InvState) (a b : Nat) : (st.swap a b).t.n = st.t.n := rfl
theorem rsum_n (st : InvState) (a b : Nat) : (st.rsum a b).t.n = st.t.n := rfl
theorem swap_circ (st : InvState) (a b : Nat) : (st.swap a b).circ = st.circ := rfl
theorem rsum_circ (st : InvState) (a b : Nat) : (st.rsum a b).circ = st.circ := rfl

theorem gate_row (st : InvState) (g : Gate) (m : Nat) (hm : m < st.t.n) :
    EqOn st.t.n ((st.gate g).t.row m) (g.act (st.t.row m)) :=
  norm_row (st.t.applyGate g) m hm

theorem gate_xb (st : InvState) (g : Gate) (m c : Nat) (hm : m < st.t.n) (hc : c < st.t.n) :
    xb (st.gate g).t m c = (g.act (st.t.row m)).x c := ((gate_row st g m hm).1 c hc).1
theorem gate_zb (st : InvState) (g : Gate) (m c : Nat) (hm : m < st.t.n) (hc : c < st.t.n) :
    zb (st.gate g).t m c = (g.act (st.t.row m)).z c := ((gate_row st g m hm).1 c hc).2
theorem gate_rb (st : InvState) (g : Gate) (m : Nat) (hm : m < st.t.n) :
    rb (st.gate g).t m = (g.act (st.t.row m)).r := (gate_row st g m hm).2.1

/-! ### each gate of the synthesis on the two bit matrices of a state of size `N` -/

theorem gate_h_bits {N : Nat} (st : InvState) (hn : st.t.n = N) (q : Nat) :
    (∀ m c, m < N → c < N → xb (st.gate (.H q)).t m c = if c = q then zb st.t m c else xb st.t m c) ∧
    ∀ m c, m < N → c < N → zb (st.gate (.H q)).t m c = if c = q then xb st.t m c else zb st.t m c := by
  subst hn
  exact ⟨fun m c hm hc => (gate_xb st _ m c hm hc).trans (h_x q _ c),
    fun m c hm hc => (gate_zb st _ m c hm hc).trans (h_z q _ c)⟩

theorem gate_p_bits {N : Nat} (st : InvState) (hn : st.t.n = N) (q : Nat) :
    (∀ m c, m < N → c < N → xb (st.gate (.P q)).t m c = xb st.t m c) ∧
    ∀ m c, m < N → c < N → zb (st.gate (.P q)).t m c = if c = q then xor (zb st.t m c) (xb st.t m q) else zb st.t m c := by
  subst hn
  exact ⟨fun m c hm hc => (gate_xb st _ m c hm hc).trans (s_x q _ c),
    fun m c hm hc => (gate_zb st _ m c hm hc).trans (s_z q _ c)⟩

theorem gate_cnot_bits {N : Nat} (st : InvState) (hn : st.t.n = N) (j k : Nat) :
    (∀ m c, m < N → c < N →
      xb (st.gate (.CNOT j k)).t m c = if c = k then xor (xb st.t m c) (xb st.t m j) else xb st.t m c) ∧
    ∀ m c, m < N → c < N →
      zb (st.gate (.CNOT j k)).t m c = if c = j then xor (zb st.t m c) (zb st.t m k) else zb st.t m c := by
  subst hn
  exact ⟨fun m c hm hc => (gate_xb st _ m c hm hc).trans (cnot_x j k _ c),
    fun m c hm hc => (gate_zb st _ m c hm hc).trans (cnot_z j k _ c)⟩

theorem gate_cz_bits {N : Nat} (st : InvState) (hn : st.t.n = N) (j k : Nat) (hjk : j ≠ k) :
    (∀ m c, m < N → c < N → xb (st.gate (.CZ j k)).t m c = xb st.t m c) ∧
    ∀ m c, m < N → c < N → zb (st.gate (.CZ j k)).t m c
      = if c = j then xor (zb st.t m c) (xb st.t m k) else if c = k then xor (zb st.t m c) (xb st.t m j)
        else zb st.t m c := by
  subst hn
  exact ⟨fun m c hm hc => (gate_xb st _ m c hm hc).trans (cz_x j k hjk _ c),
    fun m c hm hc => (gate_zb st _ m c hm hc).trans (cz_z j k hjk _ c)⟩

theorem gate_x_bits {N : Nat} (st : InvState) (hn : st.t.n = N) (q : Nat) :
    (∀ m c, m < N → c < N → xb (st.gate (.X q)).t m c = xb st.t m c) ∧
    ∀ m c, m < N → c < N → zb (st.gate (.X q)).t m c = zb st.t m c := by
  subst hn
  exact ⟨fun m c hm hc => (gate_xb st _ m c hm hc).trans (xg_x q _ c),
    fun m c hm hc => (gate_zb st _ m c hm hc).trans (xg_z q _ c)⟩

theorem swap_xb (st : InvState) (a b m c : Nat) (hm : m < st.t.n) (hc : c < st.t.n) :
    xb (st.swap a b).t m c = xb st.t (swp a b m) c := swapNorm_bit bitSel_x st.t a b m c hm hc
theorem swap_zb (st : InvState) (a b m c : Nat) (hm : m < st.t.n) (hc : c < st.t.n) :
    zb (st.swap a b).t m c = zb st.t (swp a b m) c := swapNorm_bit bitSel_z st.t a b m c hm hc

theorem swap_row (st : InvState) (a b m : Nat) (hm : m < st.t.n) :
    EqOn st.t.n ((st.swap a b).t.row m) (st.t.row (swp a b m)) := by
  have := norm_row (st.t.rowSwap a b) m hm
  rw [rowSwap_row_swp] at this
  exact this

theorem rsum_xb (st : InvState) (a b m c : Nat) (hm : m < st.t.n) (hc : c < st.t.n) :
    xb (st.rsum a b).t m c = if m = b then xor (xb st.t a c) (xb st.t b c) else xb st.t m c := by
  show ((st.t.rowSum a b).norm.row m).x c = _
  rw [((norm_row (st.t.rowSum a b) m hm).1 c hc).1]
  simp only [rowSum, upd]
  split
  · next h => subst h; rfl
  · rfl
theorem rsum_zb (st : InvState) (a b m c : Nat) (hm : m < st.t.n) (hc : c < st.t.n) :
    zb (st.rsum a b).t m c = if m = b then xor (zb st.t a c) (zb st.t b c) else zb st.t m c := by
  show ((st.t.rowSum a b).norm.row m).z c = _
  rw [((norm_row (st.t.rowSum a b) m hm).1 c hc).2]
  simp only [rowSum, upd]
  split
  · next h => subst h; rfl
  · rfl

theorem gate_good (st : InvState) (g : Gate) (hg : g.WF st.t.n) (h : st.t.Good) : (st.gate g).t.Good :=
  norm_good _ (applyGate_good st.t g hg h)
theorem swap_good (st : InvState) (a b : Nat) (ha : a < st.t.n) (hb : b < st.t.n) (h : st.t.Good) : (st.swap a b).t.Good :=
  norm_good _ (rowSwap_good st.t a b ha hb h)
theorem rsum_good (st : InvState) (a b : Nat) (ha : a < st.t.n) (hb : b < st.t.n) (h : st.t.Good) : (st.rsum a b).t.Good :=
  norm_good _ (rowSum_good st.t a b ha hb h)

/-- the loop `for k in range(j + 1, n)` -/
theorem foldl_above_inv {σ : Type} (f : σ → Nat → σ) (j n : Nat) (hj : j < n) (P : Nat → σ → Prop) (s0 : σ)
    (h0 : P (j + 1) s0) (hs : ∀ k s, j < k → k < n → P k s → P (k + 1) (f s k)) :
    P n (((List.range n).filter fun k => j < k).foldl f s0) := by
  rw [List.foldl_filter]
  have := Loop.foldl_range (f := fun s a => if (decide (j < a)) = true then f s a else s)
    (fun m s => P (if m ≤ j then j + 1 else m) s) (by
      intro i s hi hp
      by_cases hij : j < i
      · have e1 : ¬ i ≤ j := by omega
        have e2 : ¬ i + 1 ≤ j := by omega
        simp only [e1, e2, if_false] at hp ⊢
        simp only [hij, decide_true, if_true]
        exact hs i s hij hi hp
      · have e1 : i ≤ j := by omega
        simp only [e1, if_true] at hp
        have hd : decide (j < i) = false := by simp [hij]
        have e3 : (if i + 1 ≤ j then j + 1 else i + 1) = j + 1 := by split <;> omega
        rw [e3, hd]
        exact hp) (s := s0) (by simpa using h0)
  have e : ¬ n ≤ j := by omega
  simpa only [e, if_false] using this

/-- the nested loops `for j in range(n): for k in range(j + 1, n)` -/
theorem foldl_pairsLt_inv {σ : Type} (f : σ → Nat × Nat → σ) (Q : Nat → σ → Prop) (P : Nat → Nat → σ → Prop)
    (n : Nat) (s0 : σ) (h0 : Q 0 s0)
    (hin : ∀ j s, j < n → Q j s → P j (j + 1) s)
    (hs : ∀ j k s, j < k → k < n → P j k s → P j (k + 1) (f s (j, k)))
    (hout : ∀ j s, j < n → P j n s → Q (j + 1) s) : Q n ((pairsLt n).foldl f s0) := by
  unfold pairsLt
  rw [List.foldl_flatMap]
  refine Loop.foldl_range Q (fun j s hj hq => ?_) h0
  apply hout j _ hj
  rw [List.foldl_map]
  exact foldl_above_inv (fun s k => f s (j, k)) j n hj (P j) s (hin j s hj hq) (fun k s' h1 h2 hp => hs j k s' h1 h2 hp)

/-- **a triangular sweep**: the nested loops over `j < k < N`; each step keeps `P`, clears the entry `(j,k)` of `F` and
    sets no entry above the diagonal; it may use that the pairs before `(j,k)` are cleared -/
theorem sweep_pairs {N : Nat} (step : InvState → Nat × Nat → InvState) (P : STab → Prop) (F : STab → Nat → Nat → Bool)
    (hstep : ∀ s j k, j < k → k < N → P s.t →
      (∀ a b, a < j ∨ (a = j ∧ b < k) → a < b → b < N → F s.t a b = false) →
      P (step s (j, k)).t ∧ F (step s (j, k)).t j k = false ∧
      ∀ a b, a < b → b < N → F s.t a b = false → F (step s (j, k)).t a b = false)
    (st : InvState) (h : P st.t) :
    P ((pairsLt N).foldl step st).t ∧ ∀ a b, a < b → b < N → F ((pairsLt N).foldl step st).t a b = false := by
  have key := foldl_pairsLt_inv step
    (fun j s => P s.t ∧ ∀ a b, a < j → a < b → b < N → F s.t a b = false)
    (fun j k s => P s.t ∧ ∀ a b, a < j ∨ (a = j ∧ b < k) → a < b → b < N → F s.t a b = false) N st
    ⟨h, fun a b ha => by omega⟩
    (fun j s _ hq => ⟨hq.1, fun a b hab h1 h2 => hq.2 a b (by omega) h1 h2⟩)
    (fun j k s hjk hk hq => by
      obtain ⟨p, c, m⟩ := hstep s j k hjk hk hq.1 hq.2
      refine ⟨p, fun a b hab h1 h2 => ?_⟩
      by_cases e : a = j ∧ b = k
      · rw [e.1, e.2]; exact c
      · exact m a b h1 h2 (hq.2 a b (by omega) h1 h2))
    (fun j s _ hq => ⟨hq.1, fun a b ha h1 h2 => hq.2 a b (by omega) h1 h2⟩)
  exact ⟨key.1, fun a b h1 h2 => key.2 a b (by omega) h1 h2⟩

theorem pairsLt_nodup (n : Nat) : (pairsLt n).Nodup := by
  unfold pairsLt
  rw [List.nodup_iff_pairwise_ne, List.pairwise_flatMap]
  refine ⟨fun j _ => ?_, ?_⟩
  · rw [List.pairwise_map]
    exact (List.pairwise_lt_range.filter _).imp (fun h e => by have := congrArg Prod.snd e; simp at this; omega)
  · exact List.pairwise_lt_range.imp (fun hab x hx y hy e => by
      obtain ⟨_, _, e1⟩ := List.mem_map.mp hx
      obtain ⟨_, _, e2⟩ := List.mem_map.mp hy
      have := congrArg Prod.fst (e1.trans (e.trans e2.symm))
      simp at this; omega)

/-- **a loop of conditional gates whose steps do not disturb the later tests emits exactly the gates whose test holds at
    the start** (`P rest s`: the invariant when `rest` is still to do) -/
theorem foldl_gates_emit {α : Type} (G : α → Gate) (test : InvState → α → Bool) (P : List α → InvState → Prop)
    (hP : ∀ s x rest, P (x :: rest) s → P rest (if test s x then s.gate (G x) else s))
    (hT : ∀ s x rest y, y ∈ rest → P (x :: rest) s → test (if test s x then s.gate (G x) else s) y = test s y)
    (l : List α) (st : InvState) (h : P l st) :
    P [] (l.foldl (fun s x => if test s x then s.gate (G x) else s) st) ∧
    (l.foldl (fun s x => if test s x then s.gate (G x) else s) st).circ = st.circ ++ (l.filter (test st)).map G := by
  induction l generalizing st with
  | nil => exact ⟨h, by simp⟩
  | cons x rest ih =>
    obtain ⟨p, e⟩ := ih _ (hP st x rest h)
    refine ⟨p, ?_⟩
    rw [List.foldl_cons, e, List.filter_congr (fun y hy => hT st x rest y hy h)]
    cases hx : test st x
    · simp [hx]
    · simp [hx, InvState.gate]

end STab
end Graphiq
