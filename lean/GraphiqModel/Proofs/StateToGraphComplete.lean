/-
  Proofs/StateToGraphComplete.lean — completeness (totality) of the modelled `_graph_finder` as repaired in /repo 86ab4f1:
  on `n` linearly independent, pairwise commuting rows `[X | Z]` (n ≥ 1) none of its assertions fires, for every inverse
  computation that returns a left inverse on matrices with trivial kernel (`InvOK`; the exact `gf2InvF` is one).
  Steps: `row_reduction` keeps independence and commutation and leaves an echelon X part; `_position_finder` returns the non-pivot
  columns; after the Hadamards the X part has trivial kernel (`hadamard_rows_independent`), so `_gf2_inverse` returns ("Stabilizer
  generators are not independent" does not fire) and the inverse passes the re-check `x_inv @ x.T = I`; `final_z = z.T @ x_inv` is symmetric because the rows commute
  (`X Zᵀ = Z Xᵀ`), so "Final Z matrix is not a graph" does not fire.
-/
import GraphiqModel.Proofs.StateToGraphRank
import GraphiqModel.Proofs.StateToGraphInv
namespace Graphiq
namespace S2G
open Matrix

theorem toMat_transpose (n : Nat) (A : Adj) : toMat n (transpose A) = (toMat n A)ᵀ := by
  ext i j; rfl

theorem zmod2_eq_of_add_eq_zero (a b : ZMod 2) (h : a + b = 0) : a = b := by
  revert a b; decide

/-- pairwise commutation of the rows `[x_i | z_i]` is `X Zᵀ = Z Xᵀ` -/
theorem comm_toMat (n : Nat) (x z : Adj)
    (hcomm : ∀ i k, i < n → k < n → bsp n (x i) (z i) (x k) (z k) = false) :
    toMat n x * (toMat n z)ᵀ = toMat n z * (toMat n x)ᵀ := by
  ext i k
  have h := hcomm i.val k.val i.isLt k.isLt
  have h2 : b2z (bsp n (x i.val) (z i.val) (x k.val) (z k.val)) = 0 := by rw [h]; rfl
  unfold bsp at h2
  rw [b2z_parity] at h2
  simp only [b2z_xor, b2z_and, Finset.sum_add_distrib] at h2
  have := zmod2_eq_of_add_eq_zero _ _ h2
  simp only [Matrix.mul_apply, Matrix.transpose_apply, toMat]
  exact this

/-- `final_z = z.T @ x_inv` is a symmetric matrix when the rows `[x_i | z_i]` commute pairwise and `x_inv @ x.T = I` -/
theorem finalZ_symm (n : Nat) (x z xinv : Adj)
    (hcomm : ∀ i k, i < n → k < n → bsp n (x i) (z i) (x k) (z k) = false)
    (hinv : ∀ i j, i < n → j < n → matMul n xinv (transpose x) i j = decide (i = j)) :
    ∀ i j, i < n → j < n → matMul n (transpose z) xinv i j = matMul n (transpose z) xinv j i := by
  have hXZ := comm_toMat n x z hcomm
  generalize hX : toMat n x = X at hXZ
  generalize hZ : toMat n z = Z at hXZ
  have hYX : toMat n xinv * Xᵀ = 1 := by
    rw [← hX, ← toMat_transpose, ← toMat_mul]; exact (toMat_one_iff n _).mpr hinv
  generalize hY : toMat n xinv = Y at hYX
  have hXY : Xᵀ * Y = 1 := mul_eq_one_comm.mp hYX
  have hYtX : Yᵀ * X = 1 := by
    have := congrArg Matrix.transpose hXY
    simpa [Matrix.transpose_mul] using this
  have hF : toMat n (matMul n (transpose z) xinv) = Zᵀ * Y := by rw [toMat_mul, toMat_transpose, hZ, hY]
  have hsym : (Zᵀ * Y)ᵀ = Zᵀ * Y := by
    rw [Matrix.transpose_mul, Matrix.transpose_transpose]
    calc Yᵀ * Z = Yᵀ * Z * (Xᵀ * Y) := by rw [hXY, Matrix.mul_one]
      _ = Yᵀ * (Z * Xᵀ) * Y := by simp only [Matrix.mul_assoc]
      _ = Yᵀ * (X * Zᵀ) * Y := by rw [hXZ]
      _ = (Yᵀ * X) * Zᵀ * Y := by simp only [Matrix.mul_assoc]
      _ = Zᵀ * Y := by rw [hYtX, Matrix.one_mul]
  intro i j hi hj
  have := congrFun (congrFun hsym ⟨i, hi⟩) ⟨j, hj⟩
  rw [Matrix.transpose_apply, ← hF] at this
  exact (b2z_inj _ _ this).symm

theorem graphFinderTail_ok (m2 : XZ) (xinv : Adj) (hpos : List Nat) (rank : Int)
    (hinv : ∀ i j, i < m2.n → j < m2.n → matMul m2.n xinv (transpose m2.x) i j = decide (i = j))
    (hsym : ∀ i j, i < m2.n → j < m2.n →
      matMul m2.n (transpose m2.z) xinv i j = matMul m2.n (transpose m2.z) xinv j i) :
    ∃ g, graphFinderTail m2 xinv hpos rank = .ok g := by
  refine ⟨_, (graphFinderTail_ok_iff m2 xinv hpos rank _).mpr ⟨fun i j hi hj => ?_, hinv, rfl⟩⟩
  rw [tailAdj_f m2 xinv i j hi hj, tailAdj_f m2 xinv j i hj hi, hsym i j hi hj]
  by_cases e : i = j
  · rw [if_pos e, if_pos e.symm]
  · rw [if_neg e, if_neg (fun h => e h.symm)]

theorem comm_norm (m : XZ) (h : Comm m) : Comm m.norm := comm_of_bequiv (bequiv_norm m) h

/-- the matrix handed to the inverse computation (the transposed X part after row reduction and Hadamards) has trivial kernel -/
theorem hadamard_x_inj (m0 : XZ) (hn : 0 < m0.n) (hc : Comm m0) (hi : Indep m0) :
    Inj m0.n (transpose
      ((m0.norm.rowReduction.1.hadamardTransform (positionFinder m0.n m0.norm.rowReduction.1.x)).norm).x) := by
  have hred := bequiv_rowReduction m0.norm (norm_pos hn)
  have hech := rowReduction_ech m0.norm (norm_pos hn)
  have hind1 := indep_rowReduction m0.norm (norm_pos hn) (indep_norm m0 hi)
  generalize m0.norm.rowReduction.1 = m1 at hred hech hind1 ⊢
  have hn1 : m1.n = m0.n := hred.2.trans (norm_n m0)
  have hcomm1 : Comm m1 := comm_of_bequiv hred.1 (comm_norm m0 hc)
  obtain ⟨r, piv, he⟩ := hech
  generalize hpos : positionFinder m0.n m1.x = pos
  have hpm : ∀ q, q ∈ pos ↔ q < m1.n ∧ ∀ i, i < r → piv i ≠ q := by
    rw [← hpos, ← hn1]; exact positionFinder_ech m1 r piv he
  have hrows := hadamard_rows_independent m1 r piv he pos hpm hcomm1 hind1
  intro v hv j hj
  apply hrows v _ j (by omega)
  intro c hcn
  rw [hn1] at hcn ⊢
  rw [← hv c hcn]
  apply parityTo_congr
  intro i hi
  show (v i && hadBits pos (m1.x i) (m1.z i) c) = ((m1.hadamardTransform pos).norm.x i c && v i)
  rw [norm_x _ i c (by show i < m1.n; omega) (by show c < m1.n; omega), Bool.and_comm]
  rfl

theorem comm_hadamardTransform (m : XZ) (pos : List Nat) (h : Comm m) : Comm (m.hadamardTransform pos) := by
  intro i k hi hk
  rw [← h i k hi hk, ← bsp_hadBits m.n pos]
  rfl

/-- completeness of `_graph_finder`: on independent, pairwise commuting rows no assertion fires, for every
    inverse computation `inv` that is correct on matrices with trivial kernel -/
theorem graphFinderWith_complete (inv : Nat → Adj → Option Adj) (m0 : XZ) (hn : 0 < m0.n) (hinv : InvOK inv m0.n)
    (hc : Comm m0) (hi : Indep m0) : ∃ g, graphFinderWith inv m0 = .ok g := by
  have hinj := hadamard_x_inj m0 hn hc hi
  have hred := bequiv_rowReduction m0.norm (norm_pos hn)
  obtain ⟨rank, eq⟩ := graphFinderWith_eq m0 (by omega)
  rw [eq]
  generalize m0.norm.rowReduction.1 = m1 at hinj hred ⊢
  -- the inverse exists, and it passes the re-check
  obtain ⟨M, eM, hM⟩ := hinv _ hinj
  rw [eM]
  simp only
  -- the rows after the Hadamards still commute, so `final_z` is symmetric
  have hcomm2 : Comm (m1.hadamardTransform (positionFinder m0.n m1.x)).norm :=
    comm_norm _ (comm_hadamardTransform m1 _ (comm_of_bequiv hred.1 (comm_norm m0 hc)))
  have hn2 : ((m1.hadamardTransform (positionFinder m0.n m1.x)).norm).n = m0.n := (norm_n _).trans (hred.2.trans (norm_n m0))
  rw [Comm, hn2] at hcomm2
  apply graphFinderTail_ok
  · rw [hn2]; exact hM
  · rw [hn2]; exact finalZ_symm m0.n _ _ M hcomm2 hM

theorem all_range_congr (n : Nat) (f g : Nat → Bool) (h : ∀ i, i < n → f i = g i) :
    (List.range n).all f = (List.range n).all g := by
  apply Bool.eq_iff_iff.mpr
  simp only [List.all_eq_true, List.mem_range]
  exact ⟨fun hf i hi => (h i hi) ▸ hf i hi, fun hg i hi => (h i hi).symm ▸ hg i hi⟩

/-- the tail of `_graph_finder` reads the inverse candidate only below `n` -/
theorem graphFinderTail_congr (m2 : XZ) (xinv xinv' : Adj) (hpos : List Nat) (rank : Int)
    (h : ∀ i j, i < m2.n → j < m2.n → xinv i j = xinv' i j) :
    graphFinderTail m2 xinv hpos rank = graphFinderTail m2 xinv' hpos rank := by
  have hfz : (BMat.ofAdj m2.n (matMul m2.n (transpose m2.z) xinv)).norm =
      (BMat.ofAdj m2.n (matMul m2.n (transpose m2.z) xinv')).norm := by
    refine BMat.norm_congr (BMat.ofAdj m2.n (matMul m2.n (transpose m2.z) xinv))
      (BMat.ofAdj m2.n (matMul m2.n (transpose m2.z) xinv')) rfl rfl ?_
    intro i j _ hj
    show matMul m2.n (transpose m2.z) xinv i j = matMul m2.n (transpose m2.z) xinv' i j
    simp only [matMul]
    apply parityTo_congr
    intro k hk
    rw [h k j hk hj]
  have hchk : ((List.range m2.n).all fun i => (List.range m2.n).all fun j =>
      matMul m2.n xinv (transpose m2.x) i j == decide (i = j)) =
      ((List.range m2.n).all fun i => (List.range m2.n).all fun j =>
      matMul m2.n xinv' (transpose m2.x) i j == decide (i = j)) := by
    apply all_range_congr; intro i hi
    apply all_range_congr; intro j _
    have : matMul m2.n xinv (transpose m2.x) i j = matMul m2.n xinv' (transpose m2.x) i j := by
      simp only [matMul]
      apply parityTo_congr
      intro k hk
      rw [h i k hi hk]
    rw [this]
  unfold graphFinderTail
  simp only
  rw [hfz, hchk]

/-- two inverse computations that agree (below `n`) on matrices with trivial kernel give the same `_graph_finder` on stabilizer
    states -/
theorem graphFinderWith_congr (inv inv' : Nat → Adj → Option Adj) (m0 : XZ) (hn : 0 < m0.n) (hc : Comm m0) (hi : Indep m0)
    (h : ∀ A, Inj m0.n A → ∃ M M', inv m0.n A = some M ∧ inv' m0.n A = some M' ∧
      ∀ i j, i < m0.n → j < m0.n → M i j = M' i j) :
    graphFinderWith inv m0 = graphFinderWith inv' m0 := by
  have hinj := hadamard_x_inj m0 hn hc hi
  have hred := bequiv_rowReduction m0.norm (norm_pos hn)
  obtain ⟨rank, eq⟩ := graphFinderWith_eq m0 (by omega)
  rw [eq, eq]
  generalize m0.norm.rowReduction.1 = m1 at hinj hred ⊢
  obtain ⟨M, M', e, e', hM⟩ := h _ hinj
  rw [e, e']
  simp only
  apply graphFinderTail_congr
  intro i j hi hj
  have hn2 : ((m1.hadamardTransform (positionFinder m0.n m1.x)).norm).n = m0.n := (norm_n _).trans (hred.2.trans (norm_n m0))
  rw [hn2] at hi hj
  exact hM i j hi hj

theorem graphFinder_complete (m0 : XZ) (hn : 0 < m0.n) (hc : Comm m0) (hi : Indep m0) : ∃ g, graphFinder m0 = .ok g :=
  graphFinderWith_complete gf2InvF m0 hn (gf2InvF_ok m0.n) hc hi

end S2G
end Graphiq
