/-
  Proofs/HilbertGates.lean — one-qubit gates on `n` qubits as matrices, and the proof that the row-wise tableau
  update rules of transformation.py are conjugation by the gate's unitary (signs included), for every `n` and
  every qubit position.

  * `oneQ n q u` is `I ⊗ … ⊗ u ⊗ … ⊗ I` with the 2×2 matrix `u` at qubit `q`, defined entrywise
    (= `get_one_qubit_gate(n, q, u)` of graphiq's density-matrix backend); it is multiplicative in `u`;
  * `Loc1 f q X' Z' dl` says that a row map `f` only touches site `q`, where it acts by `(x,z) ↦ (X' x z, Z' x z)`
    and adds `dl x z` to the phase word; every lifted one-qubit table of Proofs/PauliLocal.lean is one (`loc1_lift`);
  * `oneQ_intertwine` : a finite per-site check implies `U · P = f(P) · U` for all rows `P`;
  * the instances H, S, S†, X, Y, Z.
-/
import GraphiqModel.Proofs.HilbertPauli
import Mathlib.Analysis.Real.Sqrt
namespace Graphiq
namespace Hilbert
open Matrix PRow

/-! ### a 2×2 matrix at one site -/

/-- `I ⊗ … ⊗ u ⊗ … ⊗ I` with `u` acting on qubit `q` (entry `(a,b)`: all other bits agree, then `u a_q b_q`) -/
noncomputable def oneQ (n q : Nat) (u : Matrix Bool Bool ℂ) : Matrix (Bits n) (Bits n) ℂ :=
  Matrix.of fun a b => if (∀ j : Fin n, j.val ≠ q → a j = b j) then u (bx a q) (bx b q) else 0

theorem oneQ_apply (n q : Nat) (u : Matrix Bool Bool ℂ) (a b : Bits n) :
    oneQ n q u a b = if (∀ j : Fin n, j.val ≠ q → a j = b j) then u (bx a q) (bx b q) else 0 := rfl

theorem bits_eq_iff_site {n : Nat} (q : Nat) (a b : Bits n) :
    a = b ↔ (∀ j : Fin n, j.val ≠ q → a j = b j) ∧ bx a q = bx b q := by
  constructor
  · intro h; subst h; exact ⟨fun _ _ => rfl, rfl⟩
  · intro ⟨h1, h2⟩
    funext j
    by_cases hj : j.val = q
    · have := h2
      rw [← hj, bx_lt a j.1 j.2, bx_lt b j.1 j.2] at this
      exact this
    · exact h1 j hj

/-- a sum over bit strings whose summand vanishes unless the string agrees with `a` away from site `q` -/
theorem sum_two_site {n : Nat} (q : Nat) (hq : q < n) (a : Bits n) (F : Bits n → ℂ)
    (hF : ∀ b, (¬ ∀ j : Fin n, j.val ≠ q → a j = b j) → F b = 0) :
    ∑ b, F b = F (Function.update a ⟨q, hq⟩ false) + F (Function.update a ⟨q, hq⟩ true) := by
  have hne : Function.update a ⟨q, hq⟩ false ≠ Function.update a ⟨q, hq⟩ true := by
    intro h
    have := congrFun h ⟨q, hq⟩
    simp at this
  rw [← Finset.sum_pair hne]
  symm
  apply Finset.sum_subset (Finset.subset_univ _)
  intro b _ hb
  apply hF
  intro hall
  apply hb
  have e : b = Function.update a ⟨q, hq⟩ (b ⟨q, hq⟩) := by
    funext j
    by_cases hj : j = ⟨q, hq⟩
    · subst hj; simp
    · rw [Function.update_of_ne hj]
      exact (hall j (fun h => hj (Fin.ext h))).symm
  rw [e]
  cases b ⟨q, hq⟩ <;> simp

theorem bx_update_self {n : Nat} (q : Nat) (hq : q < n) (a : Bits n) (s : Bool) :
    bx (Function.update a ⟨q, hq⟩ s) q = s := by
  rw [bx_lt _ _ hq]; simp

theorem update_off {n : Nat} (q : Nat) (hq : q < n) (a : Bits n) (s : Bool) (j : Fin n) (hj : j.val ≠ q) :
    Function.update a ⟨q, hq⟩ s j = a j :=
  Function.update_of_ne (fun h => hj (by rw [h])) _ _

theorem oneQ_mul (n q : Nat) (hq : q < n) (u v : Matrix Bool Bool ℂ) :
    oneQ n q u * oneQ n q v = oneQ n q (u * v) := by
  ext a c
  rw [Matrix.mul_apply, sum_two_site q hq a]
  · simp only [oneQ_apply, bx_update_self]
    have h0 : ∀ s, (∀ j : Fin n, j.val ≠ q → a j = Function.update a ⟨q, hq⟩ s j) :=
      fun s j hj => (update_off q hq a s j hj).symm
    have h1 : ∀ s, (∀ j : Fin n, j.val ≠ q → Function.update a ⟨q, hq⟩ s j = c j) ↔
        (∀ j : Fin n, j.val ≠ q → a j = c j) := by
      intro s
      constructor
      · intro h j hj; rw [← h j hj, update_off q hq a s j hj]
      · intro h j hj; rw [update_off q hq a s j hj]; exact h j hj
    rw [if_pos (h0 false), if_pos (h0 true)]
    by_cases hc : ∀ j : Fin n, j.val ≠ q → a j = c j
    · rw [if_pos ((h1 false).mpr hc), if_pos ((h1 true).mpr hc), if_pos hc, Matrix.mul_apply, Fintype.sum_bool]
      ring
    · rw [if_neg (fun h => hc ((h1 false).mp h)), if_neg (fun h => hc ((h1 true).mp h)), if_neg hc]
      simp
  · intro b hb
    rw [oneQ_apply, if_neg hb, zero_mul]

theorem oneQ_diagonal (n q : Nat) (d : Bool → ℂ) :
    oneQ n q (Matrix.diagonal d) = Matrix.diagonal fun a => d (bx a q) := by
  ext a b
  rw [oneQ_apply, Matrix.diagonal_apply, Matrix.diagonal_apply]
  by_cases h : a = b
  · subst h; rw [if_pos (fun _ _ => rfl), if_pos rfl, if_pos rfl]
  · rw [if_neg h]
    by_cases h1 : ∀ j : Fin n, j.val ≠ q → a j = b j
    · rw [if_pos h1, if_neg (fun h2 => h ((bits_eq_iff_site q a b).mpr ⟨h1, h2⟩))]
    · rw [if_neg h1]

theorem oneQ_one (n q : Nat) : oneQ n q 1 = 1 := by
  rw [← Matrix.diagonal_one, oneQ_diagonal]
  exact Matrix.diagonal_one

theorem oneQ_smul (n q : Nat) (k : ℂ) (u : Matrix Bool Bool ℂ) : oneQ n q (k • u) = k • oneQ n q u := by
  ext a b
  simp only [oneQ_apply, Matrix.smul_apply, smul_eq_mul]
  split <;> simp

theorem oneQ_conjTranspose (n q : Nat) (u : Matrix Bool Bool ℂ) : (oneQ n q u)ᴴ = oneQ n q uᴴ := by
  ext a b
  simp only [Matrix.conjTranspose_apply, oneQ_apply]
  have : (∀ j : Fin n, j.val ≠ q → b j = a j) ↔ (∀ j : Fin n, j.val ≠ q → a j = b j) :=
    ⟨fun h j hj => (h j hj).symm, fun h j hj => (h j hj).symm⟩
  by_cases h : ∀ j : Fin n, j.val ≠ q → a j = b j
  · rw [if_pos h, if_pos (this.mpr h)]
  · rw [if_neg h, if_neg (fun h2 => h (this.mp h2)), star_zero]

theorem oneQ_unitary (n q : Nat) (hq : q < n) (u : Matrix Bool Bool ℂ) (hu : u * uᴴ = 1) :
    oneQ n q u * (oneQ n q u)ᴴ = 1 := by
  rw [oneQ_conjTranspose, oneQ_mul n q hq, hu, oneQ_one]

theorem oneQ_unitary' (n q : Nat) (hq : q < n) (u : Matrix Bool Bool ℂ) (hu : uᴴ * u = 1) :
    (oneQ n q u)ᴴ * oneQ n q u = 1 := by
  rw [oneQ_conjTranspose, oneQ_mul n q hq, hu, oneQ_one]

/-! ### row maps that act on one site -/

/-- `f` only touches site `q`: there it maps the Pauli bits by `(X', Z')` and adds `dl` to the phase word -/
structure Loc1 (f : PRow → PRow) (q : Nat) (X' Z' : Bool → Bool → Bool) (dl : Bool → Bool → ℤ) : Prop where
  off : ∀ p j, j ≠ q → (f p).x j = p.x j ∧ (f p).z j = p.z j
  xq : ∀ p, (f p).x q = X' (p.x q) (p.z q)
  zq : ∀ p, (f p).z q = Z' (p.x q) (p.z q)
  ph : ∀ p, (f p).ph % 4 = (p.ph + dl (p.x q) (p.z q)) % 4

theorem loc1_id (q : Nat) : Loc1 id q (fun x _ => x) (fun _ z => z) (fun _ _ => 0) where
  off _ _ _ := ⟨rfl, rfl⟩
  xq _ := rfl
  zq _ := rfl
  ph _ := by simp

theorem loc1_h (q : Nat) : Loc1 (PRow.h q) q (fun _ z => z) (fun x _ => x) (fun x z => 2 * Bool.toInt' (x && z)) where
  off p j hj := by simp [PRow.h, hj]
  xq p := by simp [PRow.h]
  zq p := by simp [PRow.h]
  ph p := by rw [h_ph]; omega

theorem loc1_lift (q : Nat) (t : Solver.L1) :
    Loc1 (Solver.lift q t) q (fun x z => (t.ap x z).1) (fun x z => (t.ap x z).2.1)
      (fun x z => 2 * Bool.toInt' (t.ap x z).2.2) where
  off p j hj := ⟨Solver.lift_x_ne q j hj t p, Solver.lift_z_ne q j hj t p⟩
  xq p := Solver.lift_x_self q t p
  zq p := Solver.lift_z_self q t p
  ph p := by rw [lift_ph]; omega

/-- If the 2×2 matrix `u` has entries `i^(k A B)` where `m A B` and zero elsewhere, and the per-site check holds for
    the Pauli bits of `p` at `q`, then `U_q · P = P' · U_q`. -/
theorem oneQ_intertwine_row (n q : Nat) (hq : q < n) (u : Matrix Bool Bool ℂ) (m : Bool → Bool → Bool)
    (k : Bool → Bool → ℤ) (hu : ∀ A B, u A B = if m A B then iPow (k A B) else 0)
    (p p' : PRow) (δ : ℤ)
    (hoff : ∀ j, j < n → j ≠ q → p'.x j = p.x j ∧ p'.z j = p.z j)
    (hph : p'.ph % 4 = (p.ph + δ) % 4)
    (hm : ∀ A C : Bool, m A (xor C (p.x q)) = m (xor A (p'.x q)) C)
    (hk : ∀ A C : Bool, m A (xor C (p.x q)) = true →
        (k A (xor C (p.x q)) + sFun (p.x q) (p.z q) C) % 4
          = (δ + sFun (p'.x q) (p'.z q) (xor A (p'.x q)) + k (xor A (p'.x q)) C) % 4) :
    oneQ n q u * pauliMat n p = pauliMat n p' * oneQ n q u := by
  ext a c
  unfold pauliMat
  rw [mul_mono_apply, mono_mul_apply _ _ (flip_involutive _)]
  simp only [oneQ_apply]
  have hc : (∀ j : Fin n, j.val ≠ q → a j = flip p.x c j) ↔ (∀ j : Fin n, j.val ≠ q → flip p'.x a j = c j) := by
    constructor
    · intro h j hj
      have := h j hj
      simp only [flip] at this ⊢
      rw [(hoff j.1 j.2 hj).1, this]; cases c j <;> cases p.x j <;> rfl
    · intro h j hj
      have := h j hj
      simp only [flip] at this ⊢
      rw [(hoff j.1 j.2 hj).1] at this
      rw [← this]; cases a j <;> cases p.x j <;> rfl
  by_cases h1 : ∀ j : Fin n, j.val ≠ q → a j = flip p.x c j
  · rw [if_pos h1, if_pos (hc.mp h1), bx_flip _ _ _ hq, bx_flip _ _ _ hq, hu, hu, hm]
    by_cases h2 : m (xor (bx a q) (p'.x q)) (bx c q) = true
    · rw [if_pos h2, if_pos h2, ← iPow_add, ← iPow_add]
      apply iPow_congr
      have hk' := hk (bx a q) (bx c q) (by rw [hm]; exact h2)
      unfold pexp
      have hs := sumTo_local_one n q (fun j => sFun (p.x j) (p.z j) (bx c j))
        (fun j => sFun (p'.x j) (p'.z j) (bx (flip p'.x a) j)) hq (by
          intro j hj hjq
          rw [(hoff j hj hjq).1, (hoff j hj hjq).2]
          have := (hc.mp h1) ⟨j, hj⟩ hjq
          rw [bx_lt _ _ hj, bx_lt _ _ hj, this])
      rw [bx_flip _ _ _ hq] at hs
      omega
    · rw [if_neg h2, if_neg h2]; simp
  · rw [if_neg h1, if_neg (fun h => h1 (hc.mpr h))]; simp

/-- the gate-level version: a `Loc1` description of the row map and one finite check over the site's bits -/
theorem oneQ_intertwine (n q : Nat) (hq : q < n) (u : Matrix Bool Bool ℂ) (m : Bool → Bool → Bool)
    (k : Bool → Bool → ℤ) (hu : ∀ A B, u A B = if m A B then iPow (k A B) else 0)
    (f : PRow → PRow) (X' Z' : Bool → Bool → Bool) (dl : Bool → Bool → ℤ) (hloc : Loc1 f q X' Z' dl)
    (hcheck : ∀ X Z A C : Bool, m A (xor C X) = m (xor A (X' X Z)) C ∧
      (m A (xor C X) = true →
        (k A (xor C X) + sFun X Z C) % 4
          = (dl X Z + sFun (X' X Z) (Z' X Z) (xor A (X' X Z)) + k (xor A (X' X Z)) C) % 4))
    (p : PRow) : oneQ n q u * pauliMat n p = pauliMat n (f p) * oneQ n q u := by
  apply oneQ_intertwine_row n q hq u m k hu p (f p) (dl (p.x q) (p.z q))
  · intro j _ hjq; exact hloc.off p j hjq
  · exact hloc.ph p
  · intro A C; rw [hloc.xq]; exact (hcheck (p.x q) (p.z q) A C).1
  · intro A C h; rw [hloc.xq, hloc.zq]; exact (hcheck (p.x q) (p.z q) A C).2 h

/-! ### the 2×2 matrices of graphiq's density-matrix backend (`functions.py`) -/

/-- `√2 · hadamard()` = [[1,1],[1,-1]] -/
noncomputable def hadM : Matrix Bool Bool ℂ := Matrix.of fun a b => if a && b then -1 else 1
/-- `phase()` = diag(1, i) -/
noncomputable def phaseM : Matrix Bool Bool ℂ := Matrix.of fun a b => if a = b then (if b then Complex.I else 1) else 0
/-- `phase_dag()` = diag(1, -i) -/
noncomputable def phaseDagM : Matrix Bool Bool ℂ := Matrix.of fun a b => if a = b then (if b then -Complex.I else 1) else 0
/-- `sigmax()` = [[0,1],[1,0]] -/
noncomputable def sigmaX : Matrix Bool Bool ℂ := Matrix.of fun a b => if a = b then 0 else 1
/-- `sigmay()` = [[0,-i],[i,0]] -/
noncomputable def sigmaY : Matrix Bool Bool ℂ := Matrix.of fun a b => if a = b then 0 else (if b then -Complex.I else Complex.I)
/-- `sigmaz()` = diag(1,-1) -/
noncomputable def sigmaZ : Matrix Bool Bool ℂ := Matrix.of fun a b => if a = b then (if b then -1 else 1) else 0

theorem hadM_eq (A B : Bool) : hadM A B = if true then iPow (2 * Bool.toInt' (A && B)) else 0 := by
  cases A <;> cases B <;> simp [hadM, Bool.toInt', iPow_zero, iPow_two]
theorem phaseM_eq (A B : Bool) : phaseM A B = if (A == B) then iPow (Bool.toInt' B) else 0 := by
  cases A <;> cases B <;> simp [phaseM, Bool.toInt', iPow_zero, iPow_one]
theorem phaseDagM_eq (A B : Bool) : phaseDagM A B = if (A == B) then iPow (3 * Bool.toInt' B) else 0 := by
  cases A <;> cases B <;> simp [phaseDagM, Bool.toInt', iPow_zero, iPow_three]
theorem sigmaX_eq (A B : Bool) : sigmaX A B = if (A != B) then iPow 0 else 0 := by
  cases A <;> cases B <;> simp [sigmaX, iPow_zero]
theorem sigmaY_eq (A B : Bool) : sigmaY A B = if (A != B) then iPow (1 + 2 * Bool.toInt' B) else 0 := by
  cases A <;> cases B <;> simp [sigmaY, Bool.toInt', iPow_one, iPow_three]
theorem sigmaZ_eq (A B : Bool) : sigmaZ A B = if (A == B) then iPow (2 * Bool.toInt' B) else 0 := by
  cases A <;> cases B <;> simp [sigmaZ, Bool.toInt', iPow_zero, iPow_two]

/-! ### the tableau rules are conjugation: `U_q · P = (rule P) · U_q` for every row `P` -/

theorem had_intertwine (n q : Nat) (hq : q < n) (p : PRow) :
    oneQ n q hadM * pauliMat n p = pauliMat n (PRow.h q p) * oneQ n q hadM :=
  oneQ_intertwine n q hq hadM _ _ hadM_eq _ _ _ _ (loc1_h q) (by decide) p

theorem phase_intertwine (n q : Nat) (hq : q < n) (p : PRow) :
    oneQ n q phaseM * pauliMat n p = pauliMat n (PRow.s q p) * oneQ n q phaseM :=
  Solver.lift_tS q ▸ oneQ_intertwine n q hq phaseM _ _ phaseM_eq _ _ _ _ (loc1_lift q Solver.tS) (by decide) p

theorem phaseDag_intertwine (n q : Nat) (hq : q < n) (p : PRow) :
    oneQ n q phaseDagM * pauliMat n p = pauliMat n (PRow.sdg q p) * oneQ n q phaseDagM :=
  Solver.lift_tSdg q ▸ oneQ_intertwine n q hq phaseDagM _ _ phaseDagM_eq _ _ _ _ (loc1_lift q Solver.tSdg) (by decide) p

theorem sigmaX_intertwine (n q : Nat) (hq : q < n) (p : PRow) :
    oneQ n q sigmaX * pauliMat n p = pauliMat n (PRow.xg q p) * oneQ n q sigmaX :=
  Solver.lift_tX q ▸ oneQ_intertwine n q hq sigmaX _ _ sigmaX_eq _ _ _ _ (loc1_lift q Solver.tX) (by decide) p

theorem sigmaY_intertwine (n q : Nat) (hq : q < n) (p : PRow) :
    oneQ n q sigmaY * pauliMat n p = pauliMat n (PRow.yg q p) * oneQ n q sigmaY :=
  Solver.lift_tY q ▸ oneQ_intertwine n q hq sigmaY _ _ sigmaY_eq _ _ _ _ (loc1_lift q Solver.tY) (by decide) p

theorem sigmaZ_intertwine (n q : Nat) (hq : q < n) (p : PRow) :
    oneQ n q sigmaZ * pauliMat n p = pauliMat n (PRow.zg q p) * oneQ n q sigmaZ :=
  Solver.lift_tZ q ▸ oneQ_intertwine n q hq sigmaZ _ _ sigmaZ_eq _ _ _ _ (loc1_lift q Solver.tZ) (by decide) p

/-! ### unitarity of the 2×2 matrices

  `X`, `Y`, `Z` and `√2·H` are Hermitian and `phase_dag()` is the adjoint of `phase()`, so unitarity on either side is a
  product of two of the matrices themselves. -/

theorem mul2_apply (u v : Matrix Bool Bool ℂ) (a b : Bool) :
    (u * v) a b = u a true * v true b + u a false * v false b := by
  rw [Matrix.mul_apply, Fintype.sum_bool]

theorem hadM_conjTranspose : hadMᴴ = hadM := by
  ext a b
  cases a <;> cases b <;> simp [hadM, Matrix.conjTranspose_apply]

theorem sigmaX_conjTranspose : sigmaXᴴ = sigmaX := by
  ext a b
  cases a <;> cases b <;> simp [sigmaX, Matrix.conjTranspose_apply]

theorem sigmaY_conjTranspose : sigmaYᴴ = sigmaY := by
  ext a b
  cases a <;> cases b <;> simp [sigmaY, Matrix.conjTranspose_apply]

theorem sigmaZ_conjTranspose : sigmaZᴴ = sigmaZ := by
  ext a b
  cases a <;> cases b <;> simp [sigmaZ, Matrix.conjTranspose_apply]

theorem phaseDagM_eq_conjTranspose : phaseDagM = phaseMᴴ := by
  ext a b
  cases a <;> cases b <;> simp [phaseM, phaseDagM, Matrix.conjTranspose_apply]

theorem hadM_mul_self : hadM * hadM = (2 : ℂ) • (1 : Matrix Bool Bool ℂ) := by
  ext a b
  rw [mul2_apply]
  cases a <;> cases b <;> simp [hadM] <;> norm_num

theorem sigmaX_mul_self : sigmaX * sigmaX = 1 := by
  ext a b
  rw [mul2_apply]
  cases a <;> cases b <;> simp [sigmaX]

theorem sigmaY_mul_self : sigmaY * sigmaY = 1 := by
  ext a b
  rw [mul2_apply]
  cases a <;> cases b <;> simp [sigmaY]

theorem sigmaZ_mul_self : sigmaZ * sigmaZ = 1 := by
  ext a b
  rw [mul2_apply]
  cases a <;> cases b <;> simp [sigmaZ]

theorem phaseM_mul_phaseDagM : phaseM * phaseDagM = 1 := by
  ext a b
  rw [mul2_apply]
  cases a <;> cases b <;> simp [phaseM, phaseDagM]

theorem phaseDagM_mul_phaseM : phaseDagM * phaseM = 1 := by
  ext a b
  rw [mul2_apply]
  cases a <;> cases b <;> simp [phaseM, phaseDagM]

theorem hadM_mul_conjTranspose : hadM * hadMᴴ = (2 : ℂ) • (1 : Matrix Bool Bool ℂ) := by
  rw [hadM_conjTranspose, hadM_mul_self]

theorem sigmaX_unitary : sigmaX * sigmaXᴴ = 1 := by rw [sigmaX_conjTranspose, sigmaX_mul_self]

theorem sigmaY_unitary : sigmaY * sigmaYᴴ = 1 := by rw [sigmaY_conjTranspose, sigmaY_mul_self]

theorem sigmaZ_unitary : sigmaZ * sigmaZᴴ = 1 := by rw [sigmaZ_conjTranspose, sigmaZ_mul_self]

theorem phaseM_unitary : phaseM * phaseMᴴ = 1 ∧ phaseMᴴ * phaseM = 1 := by
  rw [← phaseDagM_eq_conjTranspose]
  exact ⟨phaseM_mul_phaseDagM, phaseDagM_mul_phaseM⟩

theorem phaseDagM_unitary : phaseDagM * phaseDagMᴴ = 1 ∧ phaseDagMᴴ * phaseDagM = 1 := by
  rw [phaseDagM_eq_conjTranspose, Matrix.conjTranspose_conjTranspose]
  exact ⟨phaseM_unitary.2, phaseM_unitary.1⟩

/-- the scalar `1/√2` of `hadamard()` -/
noncomputable def invSqrt2 : ℂ := ((1 / Real.sqrt 2 : ℝ) : ℂ)

theorem invSqrt2_mul_self : invSqrt2 * invSqrt2 = 1 / 2 := by
  unfold invSqrt2
  rw [← Complex.ofReal_mul]
  have h : (1 / Real.sqrt 2) * (1 / Real.sqrt 2) = (1 / 2 : ℝ) := by
    rw [div_mul_div_comm, Real.mul_self_sqrt (by norm_num)]; norm_num
  rw [h]; norm_num

theorem star_invSqrt2 : star invSqrt2 = invSqrt2 := by
  unfold invSqrt2; exact Complex.conj_ofReal _

theorem sigmaZ_diagonal : sigmaZ = Matrix.diagonal fun x => if x then -1 else 1 := by
  ext a b
  cases a <;> cases b <;> simp [sigmaZ]

/-- the n-qubit Pauli generators are the one-site embeddings of the 2×2 Pauli matrices -/
theorem oneQ_sigmaZ (n q : Nat) (hq : q < n) : oneQ n q sigmaZ = pauliMat n (Zq q) := by
  ext a b
  rw [sigmaZ_diagonal, oneQ_diagonal, Matrix.diagonal_apply, pauliMat_Zq_apply n q false hq, Bool.false_xor]
  by_cases h : a = b
  · rw [if_pos h, if_pos h, h]
  · rw [if_neg h, if_neg h]

theorem oneQ_sigmaX (n q : Nat) (hq : q < n) : oneQ n q sigmaX = pauliMat n (Xq q) := by
  ext a b
  rw [pauliMat_Xq_apply n q false, oneQ_apply]
  have key : a = flip (unitMask q) b ↔ (∀ j : Fin n, j.val ≠ q → a j = b j) ∧ bx a q ≠ bx b q := by
    rw [bits_eq_iff_site q a (flip (unitMask q) b), bx_flip _ _ _ hq]
    have e1 : (∀ j : Fin n, j.val ≠ q → a j = flip (unitMask q) b j) ↔ (∀ j : Fin n, j.val ≠ q → a j = b j) := by
      constructor <;> intro h j hj <;> have := h j hj <;> simpa [flip, unitMask, hj] using this
    rw [e1]
    have e2 : bx a q = xor (bx b q) (unitMask q q) ↔ bx a q ≠ bx b q := by
      cases bx a q <;> cases bx b q <;> simp [unitMask]
    rw [e2]
  by_cases h1 : ∀ j : Fin n, j.val ≠ q → a j = b j
  · rw [if_pos h1]
    by_cases h2 : bx a q = bx b q
    · rw [if_neg (fun h => (key.mp h).2 h2)]; simp [sigmaX, h2]
    · rw [if_pos (key.mpr ⟨h1, h2⟩)]; simp [sigmaX, h2]
  · rw [if_neg h1, if_neg (fun h => h1 (key.mp h).1)]

end Hilbert
end Graphiq
