/-
  Proofs/Channel.lean — channel identities for arbitrary dimension (Mathlib `Matrix` over ℂ).

  The density-matrix noise models of graphiq are mixtures of unitary conjugations, `ρ ↦ Σ_k f_k U_k ρ U_k†`
  (depolarizing: `U_k` the Pauli strings, `f = (1−p, p/3, p/3, p/3)`; Pauli error: one term; photon loss: `f = 1 − λ`,
  `U = 1`).  For every dimension: the trace is multiplied by `Σ f_k`, and positivity is preserved when `f_k ≥ 0`.
  C06 quotes these identities as they stand; for the model's own channels (`MixDM.depolH`, `pauliH`, loss — the same formula
  over ℚ[i] ⊂ ℂ) trace and positivity are proved directly in Proofs/MixtureDMPhysical.lean, not by instantiating `mixUnitary`.
-/
import Mathlib.LinearAlgebra.Matrix.PosDef
import Mathlib.LinearAlgebra.Matrix.Trace
import Mathlib.Analysis.Complex.Basic
import Mathlib.Analysis.Complex.Order
import Mathlib.Analysis.RCLike.Basic
namespace Graphiq.Channel
open Matrix
open scoped ComplexOrder

variable {n : Type} [Fintype n] [DecidableEq n] {K : Type} [Fintype K]

/-- mixture of unitary conjugations with weights `f` -/
noncomputable def mixUnitary (f : K → ℝ) (U : K → Matrix n n ℂ) (ρ : Matrix n n ℂ) : Matrix n n ℂ :=
  ∑ k, (f k : ℂ) • (U k * ρ * (U k)ᴴ)

theorem trace_mixUnitary (f : K → ℝ) (U : K → Matrix n n ℂ) (hU : ∀ k, (U k)ᴴ * U k = 1) (ρ : Matrix n n ℂ) :
    (mixUnitary f U ρ).trace = ((∑ k, f k : ℝ) : ℂ) * ρ.trace := by
  unfold mixUnitary
  rw [Matrix.trace_sum]
  have : ∀ k, ((f k : ℂ) • (U k * ρ * (U k)ᴴ)).trace = (f k : ℂ) * ρ.trace := by
    intro k
    rw [Matrix.trace_smul, Matrix.trace_mul_cycle, hU k, Matrix.one_mul, smul_eq_mul]
  simp only [this, ← Finset.sum_mul]
  push_cast
  rfl

/-- **positivity is preserved** for non-negative weights (no unitarity needed) -/
theorem posSemidef_mixUnitary (f : K → ℝ) (hf : ∀ k, 0 ≤ f k) (U : K → Matrix n n ℂ) (ρ : Matrix n n ℂ)
    (hρ : ρ.PosSemidef) : (mixUnitary f U ρ).PosSemidef := by
  unfold mixUnitary
  apply Matrix.posSemidef_sum
  intro k _
  have h1 : (U k * ρ * (U k)ᴴ).PosSemidef := hρ.mul_mul_conjTranspose_same (U k)
  have h2 : (0 : ℝ) ≤ f k := hf k
  have := h1.smul (α := ℝ) h2
  convert this using 1
  ext i j
  simp [Matrix.smul_apply, Complex.real_smul]

theorem depol_factors (p : ℝ) : (1 - p) + p / 3 + p / 3 + p / 3 = 1 := by ring

/-- photon loss `ρ ↦ (1 − λ) ρ` scales the trace by the survival probability `1 − λ` -/
theorem loss_trace (lam : ℝ) (ρ : Matrix n n ℂ) : (((1 - lam : ℝ) : ℂ) • ρ).trace = ((1 - lam : ℝ) : ℂ) * ρ.trace := by
  rw [Matrix.trace_smul, smul_eq_mul]

theorem loss_posSemidef (lam : ℝ) (h : lam ≤ 1) (ρ : Matrix n n ℂ) (hρ : ρ.PosSemidef) :
    (((1 - lam : ℝ) : ℂ) • ρ).PosSemidef := by
  have := hρ.smul (α := ℝ) (a := 1 - lam) (by linarith)
  convert this using 1
  ext i j
  simp [Matrix.smul_apply, Complex.real_smul]

end Graphiq.Channel
