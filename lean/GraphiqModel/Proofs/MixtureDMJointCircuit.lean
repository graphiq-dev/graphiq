/-
  Proofs/MixtureDMJointCircuit.lean — clause (c) of C06 for circuits with measurements, for `StabilizerCompiler.compile` with
  the repaired (joint) `MixedStabilizer.apply_measurement` (`compileStab` of Model/Noise.lean; the per-branch measurement of
  graphiq before the repair of finding F2 is `compileStabOld`).

  `dm_equals_mixture_repaired`: for every circuit of one-qubit gates, CNOT / CZ with additive noise (depolarizing probabilities
  in `[0,1]`, loss rates `≤ 1`, Pauli errors), and noiseless `MeasurementZ` / `ClassicalCNOT` / `ClassicalCZ` /
  `MeasurementCNOTandReset` — **no condition on the measurement outcomes, no weight threshold** — if the stabilizer compile
  returns `s` and the density-matrix compile returns a matrix `ρ` (not NaN), then `ρ = Σ_k w_k ρ(T_k)` of `s.mix` entry by
  entry and the classical registers agree.  Every number of qubits.
-/
import GraphiqModel.Proofs.MixtureDMJoint
namespace Graphiq
namespace MixDM
open Matrix Hilbert Noise DM PRow

/-! ### the joint measurement: non-emptiness, outcome list -/

theorem mapTab_ne_nil (f : Tab → Tab) (m : Mixture) (h : m ≠ []) : Mix.mapTab f m ≠ [] := by
  cases m with
  | nil => exact absurd rfl h
  | cons x xs => simp [Mix.mapTab]

theorem reduce_ne_nil (fuel : Nat) (m : Mixture) (hf : 0 < fuel) (h : m ≠ []) : Mix.reduce fuel m ≠ [] := by
  cases m with
  | nil => exact absurd rfl h
  | cons x xs =>
    obtain ⟨k, rfl⟩ : ∃ k, fuel = k + 1 := ⟨fuel - 1, by omega⟩
    obtain ⟨p0, t0⟩ := x
    simp [Mix.reduce]

theorem measure_ne_nil (q : Nat) (det : Bool) (m : Mixture) (h : m ≠ []) : (Mix.measure q det m).1 ≠ [] := by
  unfold Mix.measure
  simp only
  generalize (if det = true then !isclose0 (Mix.total (Mix.measureJoint q true m))
    else isclose0 (Mix.total (Mix.measureJoint q false m))) = oc
  by_cases hw : 0 < (if oc = true then Mix.total (Mix.measureJoint q true m) else Mix.total (Mix.measureJoint q false m))
  · rw [if_pos hw]
    have hne : Mix.measureJoint q oc m ≠ [] := by
      intro e
      cases oc <;> simp only [Bool.false_eq_true, if_false, if_true] at hw <;> rw [e] at hw <;> simp [Mix.total_nil] at hw
    intro e
    exact hne (List.map_eq_nil_iff.1 e)
  · rw [if_neg hw]
    intro e
    exact h (List.map_eq_nil_iff.1 e)

theorem headD_replicate (k : Nat) (o : Bool) (hk : k ≠ 0) : (List.replicate k o).headD false = o := by
  cases k with
  | zero => exact absurd rfl hk
  | succ j => rfl

/-- with the outcome list `[outcome] * len`, `apply_conditioned_gate` applies the gate to all branches or to none -/
theorem conditioned_measure (f : Tab → Tab) (q : Nat) (det : Bool) (m : Mixture) :
    Mix.conditioned f (Mix.measure q det m).2 (Mix.measure q det m).1
      = if measOutcome q det m then Mix.mapTab f (Mix.measure q det m).1 else (Mix.measure q det m).1 := by
  rw [measure_outcomes]
  exact conditioned_all f _ _ _ (List.length_replicate ..) (fun x hx => List.eq_of_mem_replicate hx)

theorem head_measure (q : Nat) (det : Bool) (m : Mixture) (h : m ≠ []) :
    (Mix.measure q det m).2.headD false = measOutcome q det m := by
  rw [measure_outcomes]
  exact headD_replicate _ _ (fun e => measure_ne_nil q det m h (List.eq_nil_of_length_eq_zero e))

/-! ### the invariant, and the three stages of a measuring operation -/

theorem resetH_zero (n q : Nat) : resetH n q (0 : HMat n) = 0 := by
  unfold resetH; simp [conjH_zero]

/-- what every stage of a measuring operation keeps: the matrix is `Σ_k w_k ρ(T_k)` of the mixture, whose branches are valid
    tableaux with real stabilizer rows and non-negative weights, at least one -/
structure Sync (n : Nat) (m : Mixture) (ρ : Mat) : Prop where
  size : ρ.n = 2 ^ n
  dm : toC n ρ = mixRho n m
  good : MixGood n m
  nonneg : MixNonneg m
  ne : m ≠ []

theorem Sync.herm {n : Nat} {m : Mixture} {ρ : Mat} (h : Sync n m ρ) : (toC n ρ)ᴴ = toC n ρ := by
  rw [h.dm]; exact mixRho_herm n _ h.good

/-- the lockstep invariant: the density-matrix side holds a matrix in `Sync` with the mixture, and the classical registers agree -/
def InvJ (n : Nat) (s : StabSt) (d : DmSt) : Prop := ∃ ρ, d.ρ = some ρ ∧ Sync n s.mix ρ ∧ d.creg = s.creg

/-- stage 1, `apply_measurement`: the outcome is the one the repaired measurement reports; afterwards the branches are fixed
    by `Π_o`, or every weight is `0` -/
theorem measure_sync (n q : Nat) (hq : q < n) (det : Bool) {m : Mixture} {ρ p0 p1 ρ' : Mat} {o : Bool} (h : Sync n m ρ)
    (hp : projectorsZ n q = .ok (p0, p1)) (ha : applyMeasurement ρ p0 p1 det = .ok (some ρ', o)) :
    o = measOutcome q det m ∧ Sync n (Mix.measure q det m).1 ρ' ∧
      (Fixed n q o (Mix.measure q det m).1 ∨ ZeroW (Mix.measure q det m).1) := by
  obtain ⟨ho, hc, hn, hfz⟩ := joint_measurement_is_dm_measurement n q hq det m ρ p0 p1 h.good h.nonneg h.size h.dm hp ρ' o ha
  exact ⟨ho, ⟨hn, hc, measure_good_new n q hq det m h.good, measure_nonneg q det m h.nonneg, measure_ne_nil q det m h.ne⟩, hfz⟩

/-- stage 2, the Pauli on the second qubit (outcome 1) -/
theorem pauli_sync (n q2 : Nat) (hq2 : q2 < n) (gq : Gate) (g : Mat) (hgn : g.n = 2) (hgq : gq = .X q2 ∨ gq = .Z q2)
    (hU : toC n (getOneQubitGate n q2 g) = gateMat n gq) {m : Mixture} {ρ ρ' : Mat} (h : Sync n m ρ)
    (hu : applyUnitary ρ ⟨1, getOneQubitGate n q2 g⟩ = .ok ρ') : Sync n (Mix.mapTab (fun t => t.map gq.act) m) ρ' := by
  have hgw : gq.WF n := by rcases hgq with e | e <;> subst e <;> exact hq2
  obtain ⟨e, hr⟩ := applyUnitary_toC n ρ ⟨1, getOneQubitGate n q2 g⟩ h.size (oneQubitGate_n n _ hq2 g hgn) h.herm ρ' hu
  refine ⟨hr, ?_, ?_, mapTab_nonneg _ _ h.nonneg, mapTab_ne_nil _ _ h.ne⟩
  · rw [e, mixRho_mapGate n gq hgw _ h.good.mixN, ← h.dm, ← hU]
    simp only [Rat.cast_one, one_smul]
  · exact mapTab_all _ ((good_closed n).op (.gate hgw)) _ h.good

/-- stage 3, the reset channel on the measured qubit -/
theorem reset_sync (n q : Nat) (hq : q < n) (det o : Bool) {m : Mixture} {ρ ρ' : Mat} (h : Sync n m ρ)
    (hf : Fixed n q o m ∨ ZeroW m) (hr : applyChannel ρ (resetKraus n q) = .ok ρ') :
    Sync n (Mix.mapTab (fun t => t.resetZ q false det) m) ρ' := by
  obtain ⟨e, hn⟩ := dmReset_toC n q hq ρ ρ' h.size h.herm hr
  refine ⟨hn, ?_, reset_good n q hq det m h.good, mapTab_nonneg _ _ h.nonneg, mapTab_ne_nil _ _ h.ne⟩
  rcases hf with f | f
  · rw [e, h.dm, resetH_of_fixed n q hq o _ (fixed_mixRho n q o m f), mixRho_reset n q hq det o m h.good f]
  · rw [e, h.dm, mixRho_zeroW n m f, resetH_zero, mixRho_zeroW n _ (zeroW_mapTab _ m f)]

/-- `compile_one_gate` for the four operations with a measurement, stabilizer side (repaired measurement) vs density-matrix
    side; the density-matrix side must return a matrix (not the NaN of a zero conditional probability) -/
theorem measGateJ_lockstep (np n : Nat) (det : Bool) (op : COp) (hk : MeasAny op.kind) (hw : OpWF n np op)
    (hne : op.kind = .mcr → qIndex np op.r1 op.t1 ≠ qIndex np op.r2 op.t2)
    (s s1 : StabSt) (d d1 : DmSt) (hI : InvJ n s d)
    (hs : stabGate np n det op s = .ok s1) (hd : dmGate np n det op d = .ok d1) (hsome : d1.ρ ≠ none) : InvJ n s1 d1 := by
  obtain ⟨ρ, hρs, S, hcr⟩ := hI
  have hq1 := hw.1
  rw [dmGate_meas hk hρs] at hd
  obtain ⟨p0, p1, r, o, hp, ha, hcreg, hr⟩ := dmMeas_ok hd
  cases r with
  | none => exact absurd hr hsome
  | some ρm =>
    obtain ⟨ρ2, ρ3, h2, h3, h4⟩ := hr
    obtain ⟨ho, S1, hfz⟩ := measure_sync n _ hq1 det S hp ha
    -- stage 3 and the registers, from the mixture and the matrix after the conditional Pauli
    have fin : ∀ (m : Mixture) (reset l u : Bool), Sync n m ρ2 →
        (reset = true → Fixed n (qIndex np op.r1 op.t1) o m ∨ ZeroW m) →
        (if reset then applyChannel ρ2 (resetKraus n (qIndex np op.r1 op.t1)) else .ok ρ2 : Except Err Mat) = .ok ρ3 →
        InvJ n { mix := if reset then Mix.mapTab (fun t => t.resetZ (qIndex np op.r1 op.t1) false det) m else m,
                 creg := setRec s.creg op.c (if (Mix.measure (qIndex np op.r1 op.t1) det s.mix).2.headD false then 1 else 0),
                 lossMeas := l, nonUniform := u } d1 := by
      intro m reset l u S2 F2 h3
      refine ⟨ρ3, h4, ?_, by rw [hcreg, hcr, head_measure _ det s.mix S.ne, ho]⟩
      cases reset with
      | false => cases h3; exact S2
      | true => exact reset_sync n _ hq1 det o S2 (F2 rfl) h3
    have classical : ∀ (gq : Gate) (g : Mat) (reset : Bool), g.n = 2 → (qIndex np op.r2 op.t2 < n) →
        (reset = true → qIndex np op.r1 op.t1 ≠ qIndex np op.r2 op.t2 ∧ gq = .X (qIndex np op.r2 op.t2)) →
        gq = .X (qIndex np op.r2 op.t2) ∨ gq = .Z (qIndex np op.r2 op.t2) →
        toC n (getOneQubitGate n (qIndex np op.r2 op.t2) g) = gateMat n gq →
        stabClassical n (qIndex np op.r1 op.t1) (qIndex np op.r2 op.t2) op.c det (fun t => t.map gq.act) reset s = .ok s1 →
        (if o then applyUnitary ρm ⟨1, getOneQubitGate n (qIndex np op.r2 op.t2) g⟩ else .ok ρm : Except Err Mat) = .ok ρ2 →
        (if reset then applyChannel ρ2 (resetKraus n (qIndex np op.r1 op.t1)) else .ok ρ2 : Except Err Mat) = .ok ρ3 →
        InvJ n s1 d1 := by
      intro gq g reset hgn hq2 hner hgq hU hs' h2 h3
      unfold stabClassical at hs'
      rw [if_pos ⟨hq1, hq2⟩] at hs'
      injection hs' with hs'; subst hs'
      simp only [conditioned_measure, ← ho]
      cases o with
      | false => cases h2; exact fin _ reset _ _ S1 (fun _ => hfz) h3
      | true =>
        refine fin _ reset _ _ (pauli_sync n _ hq2 gq g hgn hgq hU S1 h2) (fun hr => ?_) h3
        obtain ⟨hne1, rfl⟩ := hner hr
        exact hfz.imp (mapX_fixed n _ _ hq2 hne1 true _ S1.good.mixN) (zeroW_mapTab _ _)
    unfold stabGate at hs
    rcases hk with hk | hk | hk | hk <;> simp only [hk, measPauli] at hs h2 h3
    · -- MeasurementZ
      unfold stabMeasZ at hs
      rw [if_pos hq1] at hs
      injection hs with hs; subst hs
      cases h2
      exact fin (Mix.measure (qIndex np op.r1 op.t1) det s.mix).1 false _ _ S1 (fun h => by cases h) h3
    · have hq2 := hw.2.1 (Or.inr (by simp [hk, Kind.isClassicalCtrl]))
      exact classical (.X _) Mat.sigmax false rfl hq2 (fun h => by cases h) (Or.inl rfl) (toC_oneQubit_X n _ hq2) hs h2 h3
    · have hq2 := hw.2.1 (Or.inr (by simp [hk, Kind.isClassicalCtrl]))
      exact classical (.Z _) Mat.sigmaz false rfl hq2 (fun h => by cases h) (Or.inr rfl) (toC_oneQubit_Z n _ hq2) hs h2 h3
    · have hq2 := hw.2.1 (Or.inr (by simp [hk, Kind.isClassicalCtrl]))
      exact classical (.X _) Mat.sigmax true rfl hq2 (fun _ => ⟨hne hk, rfl⟩) (Or.inl rfl) (toC_oneQubit_X n _ hq2) hs h2 h3

theorem applyNoise_ne (nm : NoiseM) (q : Nat) (m m' : Mixture) (hm : m ≠ []) (h : Mix.applyNoise nm q m = .ok m') : m' ≠ [] := by
  rcases applyNoise_cases h with rfl | ⟨j, rfl⟩ | ⟨p, h⟩ | ⟨r, a, _, rfl⟩
  · exact hm
  · exact mapTab_ne_nil _ m hm
  · obtain ⟨_, hne, rfl⟩ := Mix.depolarize_inv h
    exact reduce_ne_nil _ _ (List.length_pos_of_ne_nil hne) hne
  · exact fun e => hm (List.map_eq_nil_iff.1 e)

theorem stabGate_ne_mfree (np n : Nat) (det : Bool) (op : COp) (hf : MFree op) (s s1 : StabSt) (hm : s.mix ≠ [])
    (h : stabGate np n det op s = .ok s1) : s1.mix ≠ [] := by
  rcases stabGate_mfree np n det op hf s s1 h with ⟨rfl, _⟩ | ⟨g, _, rfl, _⟩
  · exact hm
  · exact mapTab_ne_nil _ _ hm

/-! ### the compile loop -/

theorem paramPhys_ok (nm : NoiseM) (h : ParamPhys nm) : ParamOK nm := by
  cases nm <;> first | exact h | trivial

theorem paramPhys_loss (nm : NoiseM) (h : ParamPhys nm) : LossLe1 nm := by
  intro r a e; subst e; exact h

/-- the operations of the repaired theorem: measurement-free ones with physical noise parameters; noiseless operations with a
    measurement on existing qubits (`MeasurementCNOTandReset` on two distinct qubits) -/
inductive OpOKJ (n np : Nat) (op : COp) : Prop
  | unitary (h : OpOK n np op) (l0 : ParamPhys op.n0) (l1 : ParamPhys op.n1)
  | meas (hk : MeasAny op.kind) (hw : OpWF n np op)
      (hne : op.kind = .mcr → qIndex np op.r1 op.t1 ≠ qIndex np op.r2 op.t2)
      (h0 : op.n0.isNone = true) (h1 : op.n1.isNone = true)

theorem OpOKJ.ok3 {n np : Nat} {op : COp} (h : OpOKJ n np op) : OpOK3 n np op := by
  cases h with
  | unitary h l0 l1 => exact .unitary h l0 l1
  | meas hk hw _ h0 h1 => exact .meas hk hw h0 h1

theorem OpOKJ.wf {n np : Nat} {op : COp} (h : OpOKJ n np op) : OpWF n np op := h.ok3.wf

def MeasJ (np : Nat) (op : COp) : Prop :=
  MeasAny op.kind ∧ (op.kind = .mcr → qIndex np op.r1 op.t1 ≠ qIndex np op.r2 op.t2)

theorem OpOKJ.kind {n np : Nat} {op : COp} (h : OpOKJ n np op) : MFree op ∨ MeasJ np op := by
  cases h with
  | unitary h => exact Or.inl h.mfree
  | meas hk _ hne _ _ => exact Or.inr ⟨hk, hne⟩

theorem OpOKJ.backend {n np : Nat} {op : COp} (h : OpOKJ n np op) (ns : Bool) (k : Nat) :
    placeOp ns .dm np op k = placeOp ns .stab np op k := by
  cases h with
  | unitary h => exact placeOp_backend ns np op k h.mfree
  | meas _ _ _ h0 h1 => rw [placeOp_none ns .dm np op k h0 h1, placeOp_none ns .stab np op k h0 h1]

theorem actJ_lockstep (np n : Nat) (det : Bool) (arr : Array COp) (s s1 : StabSt) (d d1 : DmSt) (a : Act)
    (ha : ActP (OpOKJ n np) (fun q nm => q < n ∧ ParamPhys nm) arr a) (hI : InvJ n s d)
    (hs : stabAct np n det arr s a = .ok s1) (hd : dmAct np n det arr d a = .ok d1) (hsome : d1.ρ ≠ none) : InvJ n s1 d1 := by
  obtain ⟨ρ, hρs, S, hcr⟩ := hI
  cases a with
  | gate k =>
    simp only [stabAct] at hs
    simp only [dmAct] at hd
    cases hk : arr[k]? with
    | none =>
      rw [getD_none arr k hk] at hs hd
      rw [dmGate_skip (Or.inr (Or.inr rfl))] at hd
      cases hs; cases hd
      exact ⟨ρ, hρs, S, hcr⟩
    | some op =>
      rw [getD_some arr k op hk] at hs hd
      have hw := (ha op hk).wf
      rcases (ha op hk).kind with hf | hm
      · obtain ⟨ρ', hρ', e, hn⟩ := dmGate_toC np n det op hf hw d d1 ρ hρs S.size S.herm hd
        exact ⟨ρ', hρ', ⟨hn, by rw [e, S.dm, stabGate_rho np n det op hf hw.2.2 s s1 S.good.mixN hs],
          stabGate_all (good_closed n) np det op hw.2.2 s s1 S.good hs, stabGate_nonneg np n det op s s1 S.nonneg hs,
          stabGate_ne_mfree np n det op hf s s1 S.ne hs⟩,
          by rw [dmGate_creg np n det op hf d d1 hd, stabGate_creg np n det op hf s s1 hs, hcr]⟩
      · exact measGateJ_lockstep np n det op hm.1 hw hm.2 s s1 d d1 ⟨ρ, hρs, S, hcr⟩ hs hd hsome
  | noise k side q nm =>
    obtain ⟨m', hn, rfl⟩ := stabAct_noise_inv hs
    obtain ⟨r, hn2, rfl⟩ := dmAct_noise_inv hρs hd
    obtain ⟨e, hr⟩ := dmNoise_toC n q ha.1 nm ρ r S.size S.herm hn2
    exact ⟨r, rfl, ⟨hr, by rw [e, S.dm, applyNoise_rho n q ha.1 nm (paramPhys_ok nm ha.2) s.mix m' S.good.mixN hn],
      applyNoise_all ((good_closed n).pauli ha.1) nm s.mix m' S.good hn,
      applyNoise_nonneg nm (paramPhys_loss nm ha.2) q s.mix m' S.nonneg hn, applyNoise_ne nm q s.mix m' S.ne hn⟩, hcr⟩
  | replace k =>
    have hs' : stabAct np n det arr s (.replace k) = .ok s1 := hs
    simp [stabAct] at hs'

/-- **with the repaired measurement the two backends agree on every circuit with measurements** — no condition on the
    outcomes, no weight threshold: if the repaired stabilizer compile returns `s` and the density-matrix compile returns a
    matrix `ρ` (not NaN), then `ρ = Σ_k w_k ρ(T_k)` of `s.mix`, entry by entry, and the classical registers agree.  All n. -/
theorem dm_equals_mixture_repaired (ns : Bool) (ne np nc : Nat) (det : Bool) (ops : List COp)
    (hw : ∀ op ∈ ops, OpOKJ (ne + np) np op) (s : StabSt) (d : DmSt) (ρ : Mat)
    (hs : compileStab ns ne np nc det ops = .ok s) (hd : compileDM ns ne np nc det ops = .ok d) (hρ : d.ρ = some ρ) :
    Mat.EqOn ρ (mixtureDensity (ne + np) s.mix) ∧ d.creg = s.creg := by
  obtain ⟨_, tr, htr, hs⟩ := stabGo_run.1 hs
  obtain ⟨tr', htr', hd⟩ := dmGo_run.1 hd
  obtain rfl : tr' = tr := by
    rw [traceGo_congr ns np ops 0 (fun op ho j => (hw op ho).backend ns j), htr] at htr'
    injection htr' with e; exact e.symm
  -- the NaN state is absorbing, so a matrix at the end was a matrix all along, and the invariant held all along
  have key := runActs_sim2 (fun s d => d.ρ ≠ none → InvJ (ne + np) s d) _
    (fun s s1 d d1 a ha hr h1 h2 hne => actJ_lockstep np (ne + np) det ops.toArray s s1 d d1 a ha
      (hr (fun h0 => hne (dmAct_none np (ne + np) det ops.toArray d d1 a h0 h2))) h1 h2 hne)
    tr' _ s _ d (trace_actP (toArray_forall hw) (fun op ho => (hw op ho).ok3.noise) htr) (fun _ => by
      refine ⟨_, rfl, ⟨rfl, by rw [toC_rho0, mixRho_init], List.forall_mem_singleton.2 ((good_closed _).1 _
        ⟨rfl, Tab.ket0_valid _, ket0_stabReal _⟩), List.forall_mem_singleton.2 zero_le_one, by simp⟩, rfl⟩) hs hd
  obtain ⟨ρ', hρ', S, hcr⟩ := key (by rw [hρ]; simp)
  rw [hρ] at hρ'; injection hρ' with hρ'; subst hρ'
  obtain ⟨e3, n3⟩ := toC_mixtureDensity (ne + np) s.mix S.good.mixN
  exact ⟨toC_inj (ne + np) _ _ S.size n3 (by rw [S.dm, e3]), hcr⟩

end MixDM
end Graphiq
