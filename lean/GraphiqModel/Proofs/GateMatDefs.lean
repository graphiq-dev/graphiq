/-
  Proofs/GateMatDefs.lean — the table of unitary gates of the two compilers, over the model alone: the (scaled) matrix
  `DensityMatrixCompiler.compile_one_gate` builds for a gate kind (`gateSMat`) and the row map `StabilizerCompiler` applies
  for it (`rowGate`).  What they mean is proved in Proofs/DMGate.lean and Proofs/GateTable.lean.
-/
import GraphiqModel.Model.Noise
namespace Graphiq.Noise
open DM

/-- the (scaled) matrix `DensityMatrixCompiler.compile_one_gate` builds for a unitary gate on `n` qubits -/
def gateSMat (n : Nat) (k : Kind) (q1 q2 : Nat) : Option SMat :=
  match k with
  | .h => some ⟨1/2, getOneQubitGate n q1 Mat.had2⟩
  | .s => some ⟨1, getOneQubitGate n q1 Mat.phase⟩
  | .sdg => some ⟨1, getOneQubitGate n q1 Mat.phaseDag⟩
  | .x => some ⟨1, getOneQubitGate n q1 Mat.sigmax⟩
  | .y => some ⟨1, getOneQubitGate n q1 Mat.sigmay⟩
  | .z => some ⟨1, getOneQubitGate n q1 Mat.sigmaz⟩
  | .cnot => match getTwoQubitControlledGate n q1 q2 Mat.sigmax with | .ok u => some ⟨1, u⟩ | _ => none
  | .cz => match getTwoQubitControlledGate n q1 q2 Mat.sigmaz with | .ok u => some ⟨1, u⟩ | _ => none
  | _ => none

/-- the row map the stabilizer backend applies for the same gate -/
def rowGate (k : Kind) (q1 q2 : Nat) (p : PRow) : PRow :=
  match k with
  | .h => PRow.h q1 p | .s => PRow.s q1 p | .sdg => PRow.sdg q1 p
  | .x => PRow.xg q1 p | .y => PRow.yg q1 p | .z => PRow.zg q1 p
  | .cnot => PRow.cnot q1 q2 p | .cz => PRow.cz q1 q2 p
  | _ => p

end Graphiq.Noise
