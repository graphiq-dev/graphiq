/-
  Proofs/StateToGraphInv.lean — completeness of the exact GF(2) inverse of Model/StateToGraph.lean (`gf2Inv`, Gauss–Jordan):
  on every matrix with trivial kernel it returns a matrix `M` with `M · A = I` (so the identity is its own inverse: `gf2Inv_id`).-/
import GraphiqModel.Proofs.StateToGraphBits
import GraphiqModel.Proofs.Loop
namespace Graphiq
namespace S2G

/-- `A v = 0` (over GF(2), indices below `n`) only for `v = 0` -/
def Inj (n : Nat) (A : Adj) : Prop :=
  ∀ v : Nat → Bool, (∀ i, i < n → parityTo n (fun j => A i j && v j) = false) → ∀ j, j < n → v j = false

/-- invariant of Gauss–Jordan elimination on `(a | m)`, started from `(A | I)`, before column `c`: the columns `< c` of `a` are unit
    columns, `a` still has trivial kernel, and `a = m · A` -/
structure GJInv (n : Nat) (A a m : Adj) (c : Nat) : Prop where
  unit : ∀ i j, i < n → j < c → a i j = decide (i = j)
  inj : Inj n a
  prod : ∀ i j, i < n → j < n → a i j = matMul n m A i j

theorem gjInv_init (n : Nat) (A : Adj) (h : Inj n A) : GJInv n A A idM 0 := by
  refine ⟨fun i j _ hj => by omega, h, fun i j hi _ => ?_⟩
  show A i j = parityTo n (fun k => decide (i = k) && A k j)
  rw [parityTo_single_symm n i (fun k => A k j) hi]

theorem matMul_swapRows (n : Nat) (M A : Adj) (a b i j : Nat) :
    matMul n (swapRows M a b) A i j = swapRows (matMul n M A) a b i j := by
  simp only [matMul, swapRows]
  split
  · rfl
  · split <;> rfl

/-- a pivot exists: column `c` has a 1 at or below the diagonal, else `e_c + Σ_{j<c} a[j,c] e_j` would be in the kernel -/
theorem GJInv.pivot {n : Nat} {A a m : Adj} {c : Nat} (h : GJInv n A a m c) (hc : c < n) :
    ∃ p, c ≤ p ∧ p < n ∧ a p c = true := by
  apply Classical.byContradiction
  intro hno
  have hz : ∀ i, c ≤ i → i < n → a i c = false := fun i h1 h2 =>
    Bool.eq_false_iff.mpr fun hv => hno ⟨i, h1, h2, hv⟩
  have := h.inj (fun j => if j = c then true else (decide (j < c) && a j c)) (by
    intro i hi
    have e : parityTo n (fun j => a i j && (if j = c then true else (decide (j < c) && a j c))) =
        xor (a i c) (decide (i < c) && a i c) := by
      rw [parityTo_congr n _ (fun j => xor (decide (j = c) && a i c) (decide (i = j) && (decide (j < c) && a j c)))
        (fun j hj => by
          by_cases h1 : j = c
          · subst h1; simp
          · by_cases h2 : j < c
            · rw [h.unit i j hi h2]; simp [h1, h2]
            · simp [h1, h2]),
        parityTo_xor, parityTo_single n c (fun _ => a i c) hc,
        parityTo_single_symm n i (fun j => decide (j < c) && a j c) hi]
    rw [e]
    by_cases h1 : i < c
    · simp [h1]
    · rw [hz i (by omega) hi]; simp) c hc
  simp at this

/-- one column of the elimination keeps the invariant, whichever row `p ≥ c` with a 1 in column `c` is the pivot: rows `c` and `p`
    are swapped (in both matrices), then row `c` is added to every other row with a 1 in column `c` -/
theorem GJInv.step {n : Nat} {A a m : Adj} {c : Nat} (h : GJInv n A a m c) (hc : c < n) (p : Nat) (hcp : c ≤ p) (hpn : p < n)
    (hpc : a p c = true) (a' m' : Adj)
    (ha' : ∀ i j, i < n → j < n → a' i j = if i ≠ c ∧ swapRows a c p i c = true
      then xor (swapRows a c p i j) (swapRows a c p c j) else swapRows a c p i j)
    (hm' : ∀ i j, i < n → j < n → m' i j = if i ≠ c ∧ swapRows a c p i c = true
      then xor (swapRows m c p i j) (swapRows m c p c j) else swapRows m c p i j) :
    GJInv n A a' m' (c + 1) := by
  generalize ha1 : swapRows a c p = a1 at ha' hm'
  generalize hm1 : swapRows m c p = m1 at hm'
  have a1c : a1 c = a p := by rw [← ha1]; simp [swapRows]
  -- the swapped rows are the old rows
  have oldrow : ∀ i, i < n → ∃ i', i' < n ∧ a1 i' = a i := by
    intro i hi
    rw [← ha1]
    simp only [swapRows]
    by_cases e1 : i = c
    · refine ⟨p, hpn, ?_⟩
      by_cases e3 : p = c
      · simp [e3, e1]
      · simp [e3, e1]
    · by_cases e2 : i = p
      · exact ⟨c, hc, by simp [e2]⟩
      · exact ⟨i, hi, by simp [e1, e2]⟩
  have a1unit : ∀ i j, i < n → j < c → a1 i j = decide (i = j) := by
    intro i j hi hj
    rw [← ha1]
    simp only [swapRows]
    by_cases e1 : i = c
    · rw [if_pos e1, h.unit p j hpn hj]
      have h1 : ¬ (p = j) := by omega
      have h2 : ¬ (i = j) := by omega
      rw [decide_eq_false h1, decide_eq_false h2]
    · rw [if_neg e1]
      by_cases e2 : i = p
      · rw [if_pos e2, h.unit c j hc hj]
        have h1 : ¬ (c = j) := by omega
        have h2 : ¬ (i = j) := by omega
        rw [decide_eq_false h1, decide_eq_false h2]
      · rw [if_neg e2]; exact h.unit i j hi hj
  have a1cc : a1 c c = true := by rw [a1c]; exact hpc
  have a1prod : ∀ i j, i < n → j < n → a1 i j = matMul n m1 A i j := by
    intro i j hi hj
    rw [← ha1, ← hm1, matMul_swapRows]
    simp only [swapRows]
    split
    · exact h.prod p j hpn hj
    · split
      · exact h.prod c j hc hj
      · exact h.prod i j hi hj
  refine ⟨fun i j hi hj => ?_, fun v hv => ?_, fun i j hi hj => ?_⟩
  · -- unit columns
    rw [ha' i j hi (by omega)]
    by_cases hjc : j = c
    · subst hjc
      by_cases e1 : i = j
      · subst e1; simp [a1cc]
      · by_cases e2 : a1 i j = true
        · simp [e1, e2, a1cc]
        · have e2' : a1 i j = false := by simpa using e2
          simp [e1, e2']
    · have hjlt : j < c := by omega
      rw [a1unit i j hi hjlt, a1unit c j hc hjlt]
      have : ¬ (c = j) := by omega
      split <;> simp [this]
  · -- trivial kernel
    have hv' : ∀ i, i < n → parityTo n (fun j =>
        (if i ≠ c ∧ a1 i c = true then xor (a1 i j) (a1 c j) else a1 i j) && v j) = false := by
      intro i hi
      rw [← hv i hi]
      apply parityTo_congr
      intro j hj
      rw [ha' i j hi hj]
    have hcv : parityTo n (fun j => a1 c j && v j) = false := by
      have := hv' c hc
      rw [← this]
      apply parityTo_congr
      intro j _
      simp
    have h1v : ∀ i, i < n → parityTo n (fun j => a1 i j && v j) = false := by
      intro i hi
      by_cases e : i ≠ c ∧ a1 i c = true
      · have := hv' i hi
        rw [parityTo_congr n _ (fun j => xor (a1 i j && v j) (a1 c j && v j)) (fun j _ => by
          rw [if_pos e]; cases a1 i j <;> cases a1 c j <;> cases v j <;> rfl), parityTo_xor, hcv] at this
        simpa using this
      · have := hv' i hi
        rw [parityTo_congr n _ (fun j => a1 i j && v j) (fun j _ => by rw [if_neg e])] at this
        exact this
    apply h.inj v
    intro i hi
    obtain ⟨i', hi', e⟩ := oldrow i hi
    rw [← e]; exact h1v i' hi'
  · -- product form
    rw [ha' i j hi hj]
    have e : matMul n m' A i j =
        parityTo n (fun k => (if i ≠ c ∧ a1 i c = true then xor (m1 i k) (m1 c k) else m1 i k) && A k j) := by
      simp only [matMul]
      apply parityTo_congr
      intro k hk
      rw [hm' i k hi hk]
    rw [e]
    by_cases e1 : i ≠ c ∧ a1 i c = true
    · rw [if_pos e1, a1prod i j hi hj, a1prod c j hc hj]
      simp only [matMul]
      rw [← parityTo_xor]
      apply parityTo_congr
      intro k _
      rw [if_pos e1]
      cases m1 i k <;> cases m1 c k <;> cases A k j <;> rfl
    · rw [if_neg e1, a1prod i j hi hj]
      simp only [matMul]
      apply parityTo_congr
      intro k _
      rw [if_neg e1]

theorem gjStep_ok (n : Nat) (A : Adj) (s : GJ) (c : Nat) (hc : c < n) (h : GJInv n A s.a.f s.m.f c) :
    ∃ s', gjStep n (some s) c = some s' ∧ GJInv n A s'.a.f s'.m.f (c + 1) := by
  obtain ⟨p0, hp0⟩ := h.pivot hc
  -- the code takes the first pivot candidate
  obtain ⟨p, hp⟩ : ∃ p, ((List.range n).filter fun i => decide (c ≤ i) && s.a.f i c).head? = some p := by
    cases hh : ((List.range n).filter fun i => decide (c ≤ i) && s.a.f i c).head? with
    | some p => exact ⟨p, rfl⟩
    | none =>
      have : p0 ∈ (List.range n).filter fun i => decide (c ≤ i) && s.a.f i c := by
        simp only [List.mem_filter, List.mem_range, Bool.and_eq_true, decide_eq_true_eq]
        exact ⟨hp0.2.1, hp0.1, hp0.2.2⟩
      rw [List.head?_eq_none_iff.mp hh] at this
      cases this
  have hpm := List.mem_of_mem_head? hp
  simp only [List.mem_filter, List.mem_range, Bool.and_eq_true, decide_eq_true_eq] at hpm
  refine ⟨_, by simp only [gjStep, hp]; rfl, ?_⟩
  exact h.step hc p hpm.2.1 hpm.1 hpm.2.2 _ _
    (fun i j hi hj => BMat.norm_agree _ i j hi hj) (fun i j hi hj => BMat.norm_agree _ i j hi hj)

theorem gf2Inv_complete (n : Nat) (A : Adj) (h : Inj n A) :
    ∃ M, gf2Inv n A = some M ∧ ∀ i j, i < n → j < n → matMul n M.f A i j = decide (i = j) := by
  obtain ⟨s, e, hs⟩ := Loop.foldl_range (f := gjStep n) (s := some { a := BMat.ofAdj n A, m := BMat.ofAdj n idM })
    (fun k st => ∃ s, st = some s ∧ GJInv n A s.a.f s.m.f k)
    (fun k _ hk ⟨s, e, hs⟩ => e ▸ gjStep_ok n A s k hk hs) ⟨_, rfl, gjInv_init n A h⟩
  refine ⟨s.m, by simp only [gf2Inv, e, Option.map_some], fun i j hi hj => ?_⟩
  rw [← hs.prod i j hi hj]; exact hs.unit i j hi hj

/-- what `_graph_finder` needs from its inverse computation: on a matrix with trivial kernel it returns a true (left) inverse -/
def InvOK (inv : Nat → Adj → Option Adj) (n : Nat) : Prop :=
  ∀ A, Inj n A → ∃ M, inv n A = some M ∧ ∀ i j, i < n → j < n → matMul n M A i j = decide (i = j)

theorem gf2InvF_ok (n : Nat) : InvOK gf2InvF n := by
  intro A h
  obtain ⟨M, e, hM⟩ := gf2Inv_complete n A h
  exact ⟨M.f, by simp only [gf2InvF, e, Option.map_some], hM⟩

theorem gf2Inv_id (n : Nat) (X : Adj) (hX : ∀ i j, i < n → j < n → X i j = decide (i = j)) :
    ∃ M, gf2Inv n X = some M ∧ ∀ i j, i < n → j < n → M.f i j = decide (i = j) := by
  have hinj : Inj n X := fun v hv i hi => by
    rw [← hv i hi, parityTo_congr n _ (fun j => decide (i = j) && v j) (fun j hj => by rw [hX i j hi hj]),
      parityTo_single_symm n i v hi]
  obtain ⟨M, e, hM⟩ := gf2Inv_complete n X hinj
  refine ⟨M, e, fun i j hi hj => ?_⟩
  rw [← hM i j hi hj, matMul, parityTo_congr n _ (fun k => M.f i k && decide (k = j)) (fun k hk => by rw [hX k j hk hj]),
    parityTo_single_right n j (M.f i) hj]

end S2G
end Graphiq
