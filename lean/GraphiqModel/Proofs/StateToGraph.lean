/-
  Proofs/StateToGraph.lean — soundness of the modelled `state_to_graph` / `stabilizer_to_graph`:
  whenever the model returns `(graph, gates)`, running the gates on the input tableau gives a tableau that generates exactly
  the signed group of the graph state; for every candidate inverse in `_graph_finder`.
  The file opens with the facts about `STab.runCircuit` that this chain and the LC chain share (`runCircuit_row`,
  `circImage_runCircuit`, `tracks_runCircuit`, `runCircuit_spanEq`), then the bits of a row after `H…, P_dag…, Z…`; `GraphImage` and
  `phaseCorrection_eq` say what `_phase_correction` returns for any gate list.
-/
import GraphiqModel.Proofs.StateToGraphCanon
import GraphiqModel.Proofs.StateToGraphInv
import GraphiqModel.Proofs.Convert
import GraphiqModel.Proofs.InnerProduct
namespace Graphiq
open PRow Tab STab S2G

theorem runCircuit_n (t : STab) (c : List Gate) : (t.runCircuit c).n = t.n := STab.runCircuit_n t c

theorem runCircuit_cons (t : STab) (g : Gate) (c : List Gate) :
    t.runCircuit (g :: c) = ((t.applyGate g).norm).runCircuit c := rfl

theorem runCircuit_append (t : STab) (c d : List Gate) : t.runCircuit (c ++ d) = (t.runCircuit c).runCircuit d := by
  simp [STab.runCircuit, List.foldl_append]

theorem runCircuit_row (t : STab) (c : List Gate) (hc : ∀ g, g ∈ c → g.WF t.n) (i : Nat) (hi : i < t.n) :
    EqOn t.n ((t.runCircuit c).row i) (actCirc c (t.row i)) := by
  induction c generalizing t with
  | nil => exact EqOn.refl _ _
  | cons g rest ih =>
    rw [runCircuit_cons]
    have hrest : ∀ g', g' ∈ rest → g'.WF t.n := fun g' hg' => hc g' (List.mem_cons_of_mem _ hg')
    have h1 := ih ((t.applyGate g).norm) hrest hi
    have h2 : EqOn t.n (((t.applyGate g).norm).row i) (g.act (t.row i)) := norm_row (t.applyGate g) i hi
    exact h1.trans (actCirc_congr t.n rest hrest _ _ h2)

theorem circImage_runCircuit (T : STab) (c : List Gate) (hc : ∀ g, g ∈ c → g.WF T.n) :
    CircImage T.n c T (T.runCircuit c) :=
  circImage_of_rows T.n c hc T (T.runCircuit c) rfl (runCircuit_n T c) (fun i hi => runCircuit_row T c hc i hi)

theorem tracks_runCircuit (t : STab) (hg : t.Good) (c : List Gate) (hc : ∀ g, g ∈ c → g.WF t.n) :
    Tracks t { t := t.runCircuit c, circ := c } := by
  have key : ∀ (l : List Gate) (st : InvState), (∀ g, g ∈ l → g.WF t.n) → Tracks t st →
      Tracks t { t := st.t.runCircuit l, circ := st.circ ++ l } := by
    intro l
    induction l with
    | nil =>
      intro st _ h
      have : ({ t := st.t.runCircuit [], circ := st.circ ++ [] } : InvState) = st := by
        cases st; simp [STab.runCircuit]
      rw [this]; exact h
    | cons g rest ih =>
      intro st hl h
      have hg' : g.WF st.t.n := by rw [h.n_eq]; exact hl g List.mem_cons_self
      have := ih (st.gate g) (fun g' hg'' => hl g' (List.mem_cons_of_mem _ hg'')) (tracks_gate t st g h hg')
      simpa [InvState.gate, runCircuit_cons] using this
  simpa using key c { t := t, circ := [] } hc (tracks_init t hg)

theorem runCircuit_spanEq (a b : STab) (c : List Gate) (hc : ∀ g, g ∈ c → g.WF a.n) (hab : SpanEq a b) :
    SpanEq (a.runCircuit c) (b.runCircuit c) :=
  spanEq_image (circImage_runCircuit a c hc) (hab.n_eq ▸ circImage_runCircuit b c (fun g hg => hab.n_eq ▸ hc g hg)) hab

theorem actCirc_H_bits (l : List Nat) (hl : l.Nodup) (p : PRow) (j : Nat) :
    (actCirc (l.map Gate.H) p).x j = hadBits l p.x p.z j ∧ (actCirc (l.map Gate.H) p).z j = hadBits l p.z p.x j ∧
    (actCirc (l.map Gate.H) p).ip = p.ip := by
  induction l generalizing p with
  | nil => simp [actCirc, hadBits]
  | cons q rest ih =>
    have hq : q ∉ rest := (List.nodup_cons.mp hl).1
    have e : actCirc ((q :: rest).map Gate.H) p = actCirc (rest.map Gate.H) (PRow.h q p) := rfl
    rw [e]
    obtain ⟨i1, i2, i3⟩ := ih (List.nodup_cons.mp hl).2 (PRow.h q p)
    rw [i1, i2, i3]
    simp only [hadBits, List.contains_cons]
    by_cases hj : j = q
    · subst hj
      simp [hq, PRow.h]
    · have hne : (j == q) = false := by simp [hj]
      simp only [hne, Bool.false_or]
      split <;> simp [PRow.h, hj]

theorem sdg_bits (q : Nat) (p : PRow) (j : Nat) :
    (PRow.sdg q p).x j = p.x j ∧ (PRow.sdg q p).z j = (if j = q then xor (p.z j) (p.x j) else p.z j) ∧
    (PRow.sdg q p).ip = p.ip := by
  refine ⟨rfl, ?_, rfl⟩
  simp only [PRow.sdg, PRow.s]
  by_cases hj : j = q
  · subst hj; simp
  · simp [hj]

theorem actCirc_Pdag_bits (l : List Nat) (hl : l.Nodup) (p : PRow) (j : Nat) :
    (actCirc (l.map Gate.Pdag) p).x j = p.x j ∧
    (actCirc (l.map Gate.Pdag) p).z j = xor (p.z j) (l.contains j && p.x j) ∧
    (actCirc (l.map Gate.Pdag) p).ip = p.ip := by
  induction l generalizing p with
  | nil => simp [actCirc]
  | cons q rest ih =>
    have hq : q ∉ rest := (List.nodup_cons.mp hl).1
    have e : actCirc ((q :: rest).map Gate.Pdag) p = actCirc (rest.map Gate.Pdag) (PRow.sdg q p) := rfl
    rw [e]
    obtain ⟨i1, i2, i3⟩ := ih (List.nodup_cons.mp hl).2 (PRow.sdg q p)
    obtain ⟨s1, s2, s3⟩ := sdg_bits q p j
    rw [i1, i2, i3, s1, s2, s3]
    refine ⟨rfl, ?_, rfl⟩
    simp only [List.contains_cons]
    by_cases hj : j = q
    · subst hj
      simp [hq]
    · have hne : (j == q) = false := by simp [hj]
      simp [hne, hj]

theorem actCirc_lcGates_bits (hpos zdiag : List Nat) (h1 : hpos.Nodup) (h2 : zdiag.Nodup) (p : PRow) (j : Nat) :
    (actCirc (lcGates hpos zdiag) p).x j = hadBits hpos p.x p.z j ∧
    (actCirc (lcGates hpos zdiag) p).z j = xor (hadBits hpos p.z p.x j) (zdiag.contains j && hadBits hpos p.x p.z j) ∧
    (actCirc (lcGates hpos zdiag) p).ip = p.ip := by
  unfold lcGates
  rw [actCirc_app]
  obtain ⟨a1, a2, a3⟩ := actCirc_Pdag_bits zdiag h2 (actCirc (hpos.map Gate.H) p) j
  obtain ⟨b1, b2, b3⟩ := actCirc_H_bits hpos h1 p j
  rw [a1, a2, a3, b1, b2, b3]
  exact ⟨rfl, rfl, rfl⟩

theorem lcGates_wf (n : Nat) (hpos zdiag : List Nat) (h1 : ∀ q, q ∈ hpos → q < n) (h2 : ∀ q, q ∈ zdiag → q < n) :
    ∀ g, g ∈ lcGates hpos zdiag → g.WF n := by
  intro g hg
  simp only [lcGates, List.mem_append, List.mem_map] at hg
  rcases hg with ⟨q, hq, e⟩ | ⟨q, hq, e⟩
  · rw [← e]; exact h1 q hq
  · rw [← e]; exact h2 q hq

/-- the Z part of the row is its X part times the matrix `A` -/
def GraphBits (n : Nat) (A : Adj) (p : PRow) : Prop := ∀ j, j < n → p.z j = parityTo n (fun k => p.x k && A k j)

theorem graphBits_span (S : STab) (A : Adj) (hrows : ∀ i, i < S.n → GraphBits S.n A (S.row i)) (p : PRow)
    (hp : S.Spn p) : GraphBits S.n A p := by
  unfold Spn at hp
  induction hp with
  | one => intro j _; symm; apply parityTo_zero; intro k _; simp [PRow.one]
  | gen i hi => exact hrows i hi
  | mul a b _ _ iha ihb =>
    intro j hj
    rw [mul_z, iha j hj, ihb j hj, ← parityTo_xor]
    apply parityTo_congr
    intro k _
    rw [mul_x]
    cases a.x k <;> cases b.x k <;> simp
  | eqv a b _ hab iha =>
    intro j hj
    rw [← (hab.1 j hj).2, iha j hj]
    apply parityTo_congr
    intro k hk
    rw [(hab.1 k hk).1]

theorem sp_of_graphBits (n : Nat) (A : Adj) (hsym : ∀ i j, i < n → j < n → A i j = A j i) (a b : PRow)
    (ha : GraphBits n A a) (hb : GraphBits n A b) : sp n a b = false := by
  unfold sp
  rw [parityTo_xor]
  have e1 : parityTo n (fun j => a.x j && b.z j) =
      parityTo n (fun j => parityTo n (fun k => a.x j && (b.x k && A k j))) := by
    apply parityTo_congr
    intro j hj
    rw [hb j hj, ← parityTo_and_const]
  have e2 : parityTo n (fun j => a.z j && b.x j) =
      parityTo n (fun j => parityTo n (fun k => a.x j && (b.x k && A k j))) := by
    have : parityTo n (fun j => a.z j && b.x j) =
        parityTo n (fun j => parityTo n (fun k => (a.x k && A k j) && b.x j)) := by
      apply parityTo_congr
      intro j hj
      rw [ha j hj, ← parityTo_const_and]
    rw [this, parityTo_fubini]
    apply parityTo_congr
    intro j hj
    apply parityTo_congr
    intro k hk
    rw [hsym j k hj hk]
    cases a.x j <;> cases b.x k <;> cases A k j <;> rfl
  rw [e1, e2]; simp

theorem bspan_spn (t : STab) (a b : Nat → Bool)
    (h : BSpan t.n t.n (XZ.ofSTab t).x (XZ.ofSTab t).z a b) :
    ∃ p, t.Spn p ∧ ∀ k, k < t.n → p.x k = a k ∧ p.z k = b k := by
  induction h with
  | zero => exact ⟨PRow.one, InSpan.one, fun k _ => ⟨rfl, rfl⟩⟩
  | gen i hi => exact ⟨t.row i, InSpan.gen i hi, fun k _ => ⟨rfl, rfl⟩⟩
  | add a b a' b' _ _ ih1 ih2 =>
    obtain ⟨p, hp, ep⟩ := ih1
    obtain ⟨q, hq, eq⟩ := ih2
    refine ⟨PRow.mul t.n p q, InSpan.mul _ _ hp hq, fun k hk => ?_⟩
    rw [mul_x, mul_z, (ep k hk).1, (ep k hk).2, (eq k hk).1, (eq k hk).2]
    exact ⟨rfl, rfl⟩
  | ext a b a' b' _ he ih =>
    obtain ⟨p, hp, ep⟩ := ih
    exact ⟨p, hp, fun k hk => ⟨(ep k hk).1.trans (he k hk).1, (ep k hk).2.trans (he k hk).2⟩⟩

theorem actCirc_ip (c : List Gate) (a : PRow) : (actCirc c a).ip = a.ip :=
  STab.actCirc_ip c a

/-- a gate list maps the group of `t` onto a group of the graph-state shape for `B`, signs aside: every element has `z = x · B`, and
    every `e_j` is the X part of an element.  What `_phase_correction` needs of its arguments. -/
structure GraphImage (t : STab) (gates : List Gate) (B : Adj) : Prop where
  wf : ∀ g', g' ∈ gates → g'.WF t.n
  good : t.Good
  sym : ∀ i j, i < t.n → j < t.n → B i j = B j i
  bits : ∀ p, (t.runCircuit gates).Spn p → GraphBits t.n B p
  full : ∀ j, j < t.n → ∃ p, (t.runCircuit gates).Spn p ∧ ∀ k, k < t.n → p.x k = decide (k = j)

theorem graphImage_of_spec (t : STab) (hreal : ∀ i, i < t.n → (t.row i).ip = false) (g : GraphFinderOut)
    (hs : GFSpec (XZ.ofSTab t) g) : GraphImage t (lcGates g.hpos g.zdiag) g.adj.f := by
  have hn : (XZ.ofSTab t).n = t.n := rfl
  have wf := lcGates_wf t.n g.hpos g.zdiag hs.hpos_lt hs.zdiag_lt
  let t2 := t.runCircuit (lcGates g.hpos g.zdiag)
  have hn2 : t2.n = t.n := runCircuit_n _ _
  -- bits of the transformed rows
  have rowbits : ∀ i, i < t.n → GraphBits t.n g.adj.f (t2.row i) := by
    intro i hi j hj
    have er := runCircuit_row t _ wf i hi
    have bj := actCirc_lcGates_bits g.hpos g.zdiag hs.hpos_nodup hs.zdiag_nodup (t.row i)
    rw [(er.1 j hj).2, (bj j).2.1]
    have hrow := hs.rows i hi j hj
    have hrow' : hadBits g.hpos (t.row i).z (t.row i).x j =
        parityTo t.n (fun k => hadBits g.hpos (t.row i).x (t.row i).z k &&
          xor (g.adj.f k j) (decide (k = j) && g.zdiag.contains j)) := hrow
    rw [hrow']
    have split : parityTo t.n (fun k => hadBits g.hpos (t.row i).x (t.row i).z k &&
          xor (g.adj.f k j) (decide (k = j) && g.zdiag.contains j)) =
        xor (parityTo t.n (fun k => hadBits g.hpos (t.row i).x (t.row i).z k && g.adj.f k j))
          (hadBits g.hpos (t.row i).x (t.row i).z j && g.zdiag.contains j) := by
      rw [← parityTo_single t.n j (fun k => hadBits g.hpos (t.row i).x (t.row i).z k && g.zdiag.contains j) hj,
        ← parityTo_xor]
      apply parityTo_congr
      intro k _
      by_cases hk : k = j
      · subst hk; cases hadBits g.hpos (t.row i).x (t.row i).z k <;> cases g.adj.f k k <;> cases g.zdiag.contains k <;> simp
      · simp [hk]
    rw [split]
    have ex : ∀ k, k < t.n → (t2.row i).x k = hadBits g.hpos (t.row i).x (t.row i).z k := by
      intro k hk; rw [(er.1 k hk).1, (bj k).1]
    rw [parityTo_congr t.n (fun k => (t2.row i).x k && g.adj.f k j)
      (fun k => hadBits g.hpos (t.row i).x (t.row i).z k && g.adj.f k j) (fun k hk => by rw [ex k hk])]
    cases parityTo t.n (fun k => hadBits g.hpos (t.row i).x (t.row i).z k && g.adj.f k j) <;>
      cases hadBits g.hpos (t.row i).x (t.row i).z j <;> cases g.zdiag.contains j <;> rfl
  -- the input rows commute
  have good : t.Good := by
    refine ⟨hreal, fun i k hi hk => ?_⟩
    have e1 := runCircuit_row t _ wf i hi
    have e2 := runCircuit_row t _ wf k hk
    rw [← actCirc_sp t.n _ wf, ← sp_eqOn t.n _ _ _ _ e1 e2]
    exact sp_of_graphBits t.n g.adj.f hs.sym _ _ (rowbits i hi) (rowbits k hk)
  have tr := tracks_runCircuit t good _ wf
  refine ⟨wf, good, hs.sym, ?_, ?_⟩
  · intro p hp
    have := graphBits_span t2 g.adj.f (fun i hi => by rw [hn2] at hi ⊢; exact rowbits i hi) p hp
    rw [hn2] at this; exact this
  · intro j hj
    obtain ⟨a, b, hab, hxe⟩ := hs.full j hj
    obtain ⟨p, hp, ep⟩ := bspan_spn t a b hab
    refine ⟨actCirc (lcGates g.hpos g.zdiag) p, tr.fwd p hp, fun k hk => ?_⟩
    rw [(actCirc_lcGates_bits g.hpos g.zdiag hs.hpos_nodup hs.zdiag_nodup p k).1, ← hxe k hk]
    simp only [hadBits]
    split
    · exact (ep k hk).2
    · exact (ep k hk).1

theorem graphSTab_graphBits (n : Nat) (A : Adj) (i : Nat) (hi : i < n) : GraphBits n A ((graphSTab n A).row i) := by
  intro j hj
  show (decide (j < n) && A i j) = parityTo n (fun k => decide (k = i) && A k j)
  rw [parityTo_single n i (fun k => A k j) hi]
  simp [hj]

theorem graphSTab_good (n : Nat) (A : Adj) (hsym : ∀ i j, i < n → j < n → A i j = A j i) : (graphSTab n A).Good :=
  ⟨fun _ _ => rfl, fun i k hi hk =>
    sp_of_graphBits n A hsym _ _ (graphSTab_graphBits n A i hi) (graphSTab_graphBits n A k hk)⟩

theorem graphSTab_xcols (n : Nat) (A : Adj) : XCols (graphSTab n A) n := fun _ _ _ _ => rfl

theorem canonicalForm_graphSTab (n : Nat) (A : Adj) (hsym : ∀ i j, i < n → j < n → A i j = A j i) :
    ∃ c, (graphSTab n A).canonicalForm = .ok c ∧ c.n = n ∧ ∀ m, m < n → EqOn n (c.row m) ((graphSTab n A).row m) :=
  canonicalForm_idX (graphSTab n A) (graphSTab_good n A hsym) (graphSTab_xcols n A)

theorem zg_spec (q : Nat) (p : PRow) :
    (∀ j, (PRow.zg q p).x j = p.x j) ∧ (∀ j, (PRow.zg q p).z j = p.z j) ∧ (PRow.zg q p).r = xor p.r (p.x q) ∧
    (PRow.zg q p).ip = p.ip := by
  refine ⟨fun j => rfl, fun j => ?_, ?_, rfl⟩
  · simp only [PRow.zg, PRow.s]
    by_cases h : j = q
    · subst h; simp
    · simp [h]
  · simp only [PRow.zg, PRow.s]
    cases p.r <;> cases p.x q <;> cases p.z q <;> simp

theorem actCirc_Z (n i : Nat) (l : List Nat) (hl : l.Nodup) (hln : ∀ q, q ∈ l → q < n) (p : PRow)
    (hpx : ∀ k, k < n → p.x k = decide (k = i)) :
    (∀ j, (actCirc (l.map Gate.Z) p).x j = p.x j) ∧ (∀ j, (actCirc (l.map Gate.Z) p).z j = p.z j) ∧
    (actCirc (l.map Gate.Z) p).r = xor p.r (l.contains i) ∧ (actCirc (l.map Gate.Z) p).ip = p.ip := by
  induction l generalizing p with
  | nil => simp [actCirc]
  | cons q rest ih =>
    have e : actCirc ((q :: rest).map Gate.Z) p = actCirc (rest.map Gate.Z) (PRow.zg q p) := rfl
    obtain ⟨z1, z2, z3, z4⟩ := zg_spec q p
    have hq : q ∉ rest := (List.nodup_cons.mp hl).1
    obtain ⟨i1, i2, i3, i4⟩ := ih (List.nodup_cons.mp hl).2 (fun q' hq' => hln q' (List.mem_cons_of_mem _ hq'))
      (PRow.zg q p) (fun k hk => by rw [z1 k]; exact hpx k hk)
    rw [e]
    refine ⟨fun j => by rw [i1 j, z1 j], fun j => by rw [i2 j, z2 j], ?_, by rw [i4, z4]⟩
    rw [i3, z3, hpx q (hln q List.mem_cons_self)]
    simp only [List.contains_cons]
    by_cases h : i = q
    · subst h
      simp [hq]
    · have h' : ¬ (q = i) := fun e => h e.symm
      have hne : (i == q) = false := by simp [h]
      simp [h', hne]

theorem phaseCorrection_unfold (t gt : STab) (gates zs : List Gate) (e : phaseCorrection t gt gates = .ok zs) :
    ∃ tab1 tab2 newTab xinv, t.canonicalForm = .ok tab1 ∧ gt.canonicalForm = .ok tab2 ∧
      (tab1.runCircuit gates).canonicalForm = .ok newTab ∧
      gf2Inv newTab.n (fun i j => (newTab.row i).x j) = some xinv ∧
      zs = ((List.range newTab.n).filter fun i =>
        parityTo newTab.n fun k => xinv.f i k && xor (tab2.row k).r (newTab.row k).r).map Gate.Z := by
  unfold phaseCorrection at e
  split at e
  · cases e
  · next tab1 h1 =>
    split at e
    · cases e
    · next tab2 h2 =>
      split at e
      · cases e
      · next newTab h3 =>
        simp only at e
        split at e
        · cases e
        · next xinv h4 =>
          injection e with e
          exact ⟨tab1, tab2, newTab, xinv, h1, h2, h3, h4, e.symm⟩

theorem stateToGraphWith_ok (inv : Nat → Adj → Option Adj) (t : STab) (adj : BMat) (gates : List Gate)
    (e : stateToGraphWith inv t = .ok (adj, gates)) :
    ∃ g zs, graphFinderWith inv (XZ.ofSTab t) = .ok g ∧
      phaseCorrection t (graphSTab t.n g.adj.f) (lcGates g.hpos g.zdiag) = .ok zs ∧
      adj = g.adj ∧ gates = lcGates g.hpos g.zdiag ++ zs := by
  unfold stateToGraphWith at e
  split at e
  · cases e
  · next g hg =>
    simp only at e
    split at e
    · cases e
    · next zs hz =>
      injection e with e
      injection e with e1 e2
      exact ⟨g, zs, hg, hz, e1.symm, e2.symm⟩

theorem stateToGraphWith_eq (inv : Nat → Adj → Option Adj) (t : STab) (g : GraphFinderOut) (zs : List Gate)
    (eg : graphFinderWith inv (XZ.ofSTab t) = .ok g)
    (ez : phaseCorrection t (graphSTab t.n g.adj.f) (lcGates g.hpos g.zdiag) = .ok zs) :
    stateToGraphWith inv t = .ok (g.adj, lcGates g.hpos g.zdiag ++ zs) := by
  unfold stateToGraphWith
  rw [eg]; simp only
  rw [ez]

theorem contains_filter_range (n : Nat) (p : Nat → Bool) (i : Nat) (hi : i < n) :
    ((List.range n).filter p).contains i = p i := by
  apply Bool.eq_iff_iff.mpr
  rw [List.contains_iff_mem, List.mem_filter, List.mem_range]
  exact ⟨fun h => h.2, fun h => ⟨hi, h⟩⟩

def signFix (n : Nat) (c : STab) : List Gate := ((List.range n).filter fun i => (c.row i).r).map Gate.Z

theorem signFix_wf (n : Nat) (c : STab) : ∀ g, g ∈ signFix n c → g.WF n := by
  intro g hg
  obtain ⟨q, hq, e⟩ := List.mem_map.mp hg
  rw [← e]; exact List.mem_range.mp (List.mem_filter.mp hq).1

/-- the canonical form of the state after the gates: generators `±X_i Z^{B_i}` -/
structure GraphCanon (t : STab) (gates : List Gate) (B : Adj) (c : STab) : Prop where
  n_eq : c.n = t.n
  good : c.Good
  canon : Canon c
  span : SpanEq (t.runCircuit gates) c
  x : ∀ i k, i < t.n → k < t.n → (c.row i).x k = decide (k = i)
  z : ∀ i k, i < t.n → k < t.n → (c.row i).z k = B i k

/-- what `_phase_correction` returns (every gate list and target graph with `GraphImage`): once `canonical_form` of the input
    returns, the `Z` gates on the rows with a minus sign of the canonical form of the transformed state.
    (That canonical form has X part = identity, so the code's `x_inv` is the identity and `z_ops` is the sign difference to the
    canonical form of the graph tableau, whose signs are `+`.) -/
theorem phaseCorrection_eq (t : STab) (gates : List Gate) (B : Adj) (A : GraphImage t gates B) (tab1 : STab)
    (c1 : t.canonicalForm = .ok tab1) :
    ∃ c, GraphCanon t gates B c ∧ phaseCorrection t (graphSTab t.n B) gates = .ok (signFix t.n c) := by
  obtain ⟨Awf, Agood, Asym, Abits, Afull⟩ := A
  obtain ⟨s1, g1⟩ := canonicalForm_spanEq t tab1 Agood c1
  have n1 : tab1.n = t.n := s1.n_eq.symm
  have wf1 : ∀ g', g' ∈ gates → g'.WF tab1.n := fun g' h => n1 ▸ Awf g' h
  have tr0 := tracks_runCircuit tab1 g1 gates wf1
  have s20 : SpanEq (t.runCircuit gates) (tab1.runCircuit gates) := runCircuit_spanEq t tab1 gates Awf s1
  have n0 : (tab1.runCircuit gates).n = t.n := by rw [runCircuit_n]; exact n1
  obtain ⟨c, c3, cn, sc, gc, xc⟩ := canonicalForm_fullX (tab1.runCircuit gates) tr0.good (fun j hj => by
    obtain ⟨p, hp, hpx⟩ := Afull j (n0 ▸ hj)
    exact ⟨p, s20.sub p hp, fun k hk => hpx k (n0 ▸ hk)⟩)
  have nN : c.n = t.n := cn.trans n0
  rw [n0] at xc
  have rowx : ∀ i k, i < t.n → k < t.n → (c.row i).x k = decide (k = i) := fun i k hi hk => xc i k (nN ▸ hi) hk
  have rowz : ∀ i j, i < t.n → j < t.n → (c.row i).z j = B i j := by
    intro i j hi hj
    rw [Abits (c.row i) (s20.sup _ (sc.sup _ (spn_gen c i (nN ▸ hi)))) j hj,
      parityTo_congr t.n _ (fun k => decide (k = i) && B k j) (fun k hk => by rw [rowx i k hi hk])]
    exact parityTo_single t.n i (fun k => B k j) hi
  obtain ⟨c', c2, _, rc'⟩ := canonicalForm_graphSTab t.n B Asym
  obtain ⟨M, eM, hM⟩ := gf2Inv_id c.n (fun i j => (c.row i).x j) (fun i j hi hj => by
    rw [nN] at hi hj
    rw [rowx i j hi hj]
    exact decide_eq_decide.mpr ⟨Eq.symm, Eq.symm⟩)
  rw [nN] at hM
  refine ⟨c, ⟨nN, gc, canonicalForm_canon _ _ c3, s20.trans sc, rowx, rowz⟩, ?_⟩
  unfold phaseCorrection
  rw [c1]; simp only
  rw [c2]; simp only
  rw [c3]; simp only
  rw [eM, nN]
  show Except.ok (List.map Gate.Z _) = Except.ok (List.map Gate.Z _)
  congr 2
  apply List.filter_congr
  intro i hi
  have hi' : i < t.n := List.mem_range.mp hi
  rw [parityTo_congr t.n _ (fun k => decide (i = k) && xor (c'.row k).r (c.row k).r) (fun k hk => by rw [hM i k hi' hk]),
    parityTo_single_symm t.n i (fun k => xor (c'.row k).r (c.row k).r) hi', (rc' i hi').2.1]
  exact Bool.false_xor _

theorem phaseCorrection_spec (t : STab) (gates : List Gate) (B : Adj) (A : GraphImage t gates B) (zs : List Gate)
    (e : phaseCorrection t (graphSTab t.n B) gates = .ok zs) : ∃ c, GraphCanon t gates B c ∧ zs = signFix t.n c := by
  obtain ⟨tab1, _, _, _, c1, _⟩ := phaseCorrection_unfold _ _ _ _ e
  obtain ⟨c, hc, e'⟩ := phaseCorrection_eq t gates B A tab1 c1
  rw [e] at e'
  injection e' with e'
  exact ⟨c, hc, e'⟩

theorem signFix_rows (t : STab) (gates : List Gate) (B : Adj) (c : STab) (hc : GraphCanon t gates B c) (i : Nat) (hi : i < t.n) :
    EqOn t.n ((c.runCircuit (signFix t.n c)).row i) ((graphSTab t.n B).row i) := by
  have er := runCircuit_row c (signFix t.n c) (fun g hg => hc.n_eq ▸ signFix_wf t.n c g hg) i (hc.n_eq ▸ hi)
  rw [hc.n_eq] at er
  unfold signFix at er ⊢
  obtain ⟨a1, a2, a3, a4⟩ := actCirc_Z t.n i _ (List.Nodup.filter _ List.nodup_range)
    (fun q hq => List.mem_range.mp (List.mem_filter.mp hq).1) (c.row i) (fun k hk => hc.x i k hi hk)
  refine er.trans ⟨fun j hj => ⟨?_, ?_⟩, ?_, ?_⟩
  · rw [a1 j, hc.x i j hi hj]; rfl
  · rw [a2 j, hc.z i j hi hj]
    show B i j = (decide (j < t.n) && B i j)
    simp [hj]
  · rw [a3, contains_filter_range t.n _ i hi]
    exact Bool.xor_self _
  · rw [a4, hc.good.real i (hc.n_eq ▸ hi)]; rfl

/-- soundness of the modelled `state_to_graph`, for every candidate inverse used inside `_graph_finder`:
    the returned gates are in range and map the input tableau onto a tableau generating exactly the signed group of the
    returned graph's state -/
theorem stateToGraphWith_sound (inv : Nat → Adj → Option Adj) (t : STab)
    (hreal : ∀ i, i < t.n → (t.row i).ip = false) (adj : BMat) (gates : List Gate)
    (e : stateToGraphWith inv t = .ok (adj, gates)) :
    (∀ g, g ∈ gates → g.WF t.n) ∧ SpanEq (t.runCircuit gates) (graphSTab t.n adj.f) ∧
    (∀ i j, i < t.n → j < t.n → adj.f i j = adj.f j i) ∧ (∀ i, i < t.n → adj.f i i = false) := by
  obtain ⟨g, zs, hg, hz, rfl, rfl⟩ := stateToGraphWith_ok inv t adj gates e
  have spec := graphFinderWith_spec inv _ g hg
  have A := graphImage_of_spec t hreal g spec
  obtain ⟨c, hc, rfl⟩ := phaseCorrection_spec t _ _ A zs hz
  have sFinal : SpanEq (c.runCircuit (signFix t.n c)) (graphSTab t.n g.adj.f) :=
    spanEq_of_rows _ _ ((runCircuit_n _ _).trans hc.n_eq) (fun i hi => by
      rw [runCircuit_n, hc.n_eq] at hi ⊢
      exact signFix_rows t _ _ c hc i hi)
  have sZ := runCircuit_spanEq (t.runCircuit (lcGates g.hpos g.zdiag)) c (signFix t.n c)
    (fun g' h => by rw [runCircuit_n]; exact signFix_wf t.n c g' h) hc.span
  refine ⟨fun g' hg' => ?_, ?_, spec.sym, spec.irrefl⟩
  · rcases List.mem_append.mp hg' with h | h
    · exact A.wf g' h
    · exact signFix_wf t.n c g' h
  · rw [runCircuit_append]
    exact sZ.trans sFinal

theorem beq_spanEq (a b : STab) (ha : a.Good) (hb : b.Good) (h : a.beq b = true) : SpanEq a b := by
  unfold STab.beq at h
  simp only [Bool.and_eq_true, beq_iff_eq, List.all_eq_true, List.mem_range] at h
  obtain ⟨hn, hr⟩ := h
  refine spanEq_of_rows a b hn fun i hi => ?_
  have := beqOn_eqOn _ _ _ (hr i hi)
  rw [with_ip_false _ (ha.real i hi), with_ip_false _ (hb.real i (hn ▸ hi))] at this
  exact this

theorem beq_of_rows (a b : STab) (hn : a.n = b.n) (h : ∀ i, i < a.n → EqOn a.n (a.row i) (b.row i)) : a.beq b = true := by
  unfold STab.beq
  simp only [hn, beq_self_eq_true, Bool.true_and, List.all_eq_true, List.mem_range]
  intro i hi
  have e := h i (hn ▸ hi)
  rw [hn] at e
  unfold PRow.beqOn
  simp only [Bool.and_eq_true, List.all_eq_true, List.mem_range, beq_iff_eq]
  exact ⟨⟨fun j hj => e.1 j hj, e.2.1⟩, trivial⟩

theorem sameStabilizerState_sound (a b : STab) (ha : a.Good) (hb : b.Good) (h : sameStabilizerState a b = .ok true) :
    SpanEq a b := by
  unfold sameStabilizerState at h
  split at h
  · cases h
  · split at h
    · cases h
    · next ca h1 =>
      split at h
      · cases h
      · next cb h2 =>
        injection h with h
        obtain ⟨s1, g1⟩ := canonicalForm_spanEq a ca ha h1
        obtain ⟨s2, g2⟩ := canonicalForm_spanEq b cb hb h2
        exact (s1.trans (beq_spanEq ca cb g1 g2 h)).trans s2.symm

/-- canonical forms are unique, so `_same_stabilizer_state` answers `True` whenever the signed groups agree -/
theorem sameStabilizerState_complete (a b ca cb : STab) (ha : a.Good) (hb : b.Good) (e1 : a.canonicalForm = .ok ca)
    (e2 : b.canonicalForm = .ok cb) (hs : SpanEq a b) : sameStabilizerState a b = .ok true := by
  obtain ⟨s1, g1⟩ := canonicalForm_spanEq a ca ha e1
  obtain ⟨s2, g2⟩ := canonicalForm_spanEq b cb hb e2
  have sab : SpanEq ca cb := (s1.symm.trans hs).trans s2
  have hrows := canon_unique ca cb (canonicalForm_canon a ca e1) (canonicalForm_canon b cb e2) g1 g2 sab
  unfold sameStabilizerState
  rw [if_neg (fun h => h hs.n_eq), e1]
  simp only
  rw [e2]
  simp only
  rw [beq_of_rows ca cb sab.n_eq hrows]

theorem stabilizerToGraph_ok (t : STab) (adj : BMat) :
    stabilizerToGraph t = .ok adj ↔
      ∃ g, graphFinder (XZ.ofSTab t) = .ok g ∧ sameStabilizerState t (graphSTab t.n g.adj.f) = .ok true ∧ g.adj = adj := by
  unfold stabilizerToGraph
  constructor
  · intro e
    split at e
    · cases e
    · next g hg =>
      split at e
      · cases e
      · next hs =>
        injection e with e
        exact ⟨g, hg, hs, e⟩
      · cases e
  · rintro ⟨g, hg, hs, rfl⟩
    rw [hg]
    simp only
    rw [hs]

/-- soundness of the modelled `stabilizer_to_graph(validate=True)`: a returned graph's state is the input state -/
theorem stabilizerToGraph_sound (t : STab) (hreal : ∀ i, i < t.n → (t.row i).ip = false) (adj : BMat)
    (e : stabilizerToGraph t = .ok adj) :
    SpanEq t (graphSTab t.n adj.f) ∧
    (∀ i j, i < t.n → j < t.n → adj.f i j = adj.f j i) ∧ (∀ i, i < t.n → adj.f i i = false) := by
  obtain ⟨g, hg, hs, rfl⟩ := (stabilizerToGraph_ok t adj).mp e
  have spec := graphFinder_spec _ g hg
  exact ⟨sameStabilizerState_sound _ _ (graphImage_of_spec t hreal g spec).good (graphSTab_good t.n g.adj.f spec.sym) hs,
    spec.sym, spec.irrefl⟩

theorem stateToGraph_sound (t : STab) (hreal : ∀ i, i < t.n → (t.row i).ip = false) (adj : BMat) (gates : List Gate)
    (e : stateToGraph t = .ok (adj, gates)) :
    (∀ g, g ∈ gates → g.WF t.n) ∧ SpanEq (t.runCircuit gates) (graphSTab t.n adj.f) ∧
    (∀ i j, i < t.n → j < t.n → adj.f i j = adj.f j i) ∧ (∀ i, i < t.n → adj.f i i = false) :=
  stateToGraphWith_sound gf2InvF t hreal adj gates e

theorem stateToGraphWith_r (inv : Nat → Adj → Option Adj) (t : STab) (g : BMat) (G : List Gate)
    (e : stateToGraphWith inv t = .ok (g, G)) : g.r = t.n := by
  unfold stateToGraphWith at e
  split at e
  · cases e
  · next out hout =>
    simp only at e
    split at e
    · cases e
    · injection e with e
      injection e with e1 _
      rw [← e1]
      exact graphFinderWith_r inv _ out hout

/-- what `state_to_graph` returns on a real tableau: a simple graph on the qubits of the state, and gates in range that map the
    state onto its graph state -/
theorem stateToGraph_output (t : STab) (hreal : ∀ i, i < t.n → (t.row i).ip = false) (g : BMat) (G : List Gate)
    (e : stateToGraph t = .ok (g, G)) :
    g.r = t.n ∧ Simple g.r g.f ∧ (∀ x, x ∈ G → x.WF t.n) ∧ SpanEq (t.runCircuit G) (graphSTab t.n g.f) := by
  have hr := stateToGraphWith_r _ t g G e
  obtain ⟨wf, s, sym, irr⟩ := stateToGraphWith_sound gf2InvF t hreal g G e
  exact ⟨hr, by rw [hr]; exact ⟨sym, irr⟩, wf, s⟩

end Graphiq
