/-
  Proofs/SolverCompleteDefs.lean — vocabulary of the completeness argument for the time-reversed solver (C02):
  the columns a gate touches; columns that belong to one generator alone (`SoloAt`) — the "literal" column of an absorbed photon
  (`Lit`: one generator is exactly `+Z_q`, every other generator is trivial at `q`) and the column of an isolated photon (`LitX`) —
  with what tabulation, row swaps, row products and gates off the column do to them; and row-operation sequences in which every
  product is witnessed by a column where both factors are non-trivial (`COps`: what `rref` and `canonical_form` do), which keep the
  group and such columns.
-/
import GraphiqModel.Proofs.EchelonRref
import GraphiqModel.Proofs.InverseCircuit
namespace Graphiq
open PRow

/-- the qubit columns a gate acts on -/
def Gate.cols : Gate → List Nat
  | .H q | .P q | .Pdag q | .X q | .Y q | .Z q => [q]
  | .I _ => []
  | .CNOT c t | .CZ c t => [c, t]

theorem Gate.wf_iff_cols (n : Nat) (G : Gate) : G.WF n ↔ (∀ c, c ∈ G.cols → c < n) ∧ G.cols.Nodup := by
  cases G <;> simp [Gate.WF, Gate.cols, and_assoc]

open Solver in
/-- a gate is the table of a one-qubit Clifford on its column, the identity, a CNOT, or a CZ (`H_t · CNOT · H_t`) -/
theorem Gate.act_cases (G : Gate) :
    (∃ q t, G.cols = [q] ∧ G.act = lift q t ∧ t ∈ [tH, tS, tSdg, tX, tY, tZ]) ∨ (G.cols = [] ∧ G.act = id) ∨
    (∃ c t, G.cols = [c, t] ∧ G.act = PRow.cnot c t) ∨
    (∃ c t, G.cols = [c, t] ∧ G.act = fun p => lift t tH (PRow.cnot c t (lift t tH p))) := by
  cases G with
  | H q => exact .inl ⟨q, tH, rfl, (lift_tH q).symm, by decide⟩
  | P q => exact .inl ⟨q, tS, rfl, (lift_tS q).symm, by decide⟩
  | Pdag q => exact .inl ⟨q, tSdg, rfl, (lift_tSdg q).symm, by decide⟩
  | X q => exact .inl ⟨q, tX, rfl, (lift_tX q).symm, by decide⟩
  | Y q => exact .inl ⟨q, tY, rfl, (lift_tY q).symm, by decide⟩
  | Z q => exact .inl ⟨q, tZ, rfl, (lift_tZ q).symm, by decide⟩
  | I q => exact .inr (.inl ⟨rfl, rfl⟩)
  | CNOT c t => exact .inr (.inr (.inl ⟨c, t, rfl, rfl⟩))
  | CZ c t => exact .inr (.inr (.inr ⟨c, t, rfl, by rw [lift_tH]; rfl⟩))

namespace Solver

/-- the six tables fix the identity and send nothing else to it -/
theorem tables_fix : ∀ t, t ∈ [tH, tS, tSdg, tX, tY, tZ] → t.ap false false = (false, false, false) ∧
    ∀ x z, (t.ap x z).1 = false → (t.ap x z).2.1 = false → x = false ∧ z = false := by decide

theorem lift_of_triv (q : Nat) (t : L1) (ht : t.ap false false = (false, false, false)) (a : PRow) (hx : a.x q = false)
    (hz : a.z q = false) : lift q t a = a := by
  refine prow_ext _ _ (fun j => ?_) (fun j => ?_) ?_ rfl
  · by_cases h : j = q
    · subst h; rw [lift_x_self, hx, hz, ht]
    · exact lift_x_ne q j h t a
  · by_cases h : j = q
    · subst h; rw [lift_z_self, hx, hz, ht]
    · exact lift_z_ne q j h t a
  · rw [lift_r, hx, hz, ht]; exact Bool.xor_false _

end Solver

theorem PRow.cnot_off (c t j : Nat) (p : PRow) (hc : j ≠ c) (ht : j ≠ t) :
    (PRow.cnot c t p).x j = p.x j ∧ (PRow.cnot c t p).z j = p.z j := by
  simp [PRow.cnot, hc, ht]

theorem PRow.cnot_of_triv (c t : Nat) (p : PRow) (hc : p.x c = false) (ht : p.z t = false) : PRow.cnot c t p = p := by
  refine Solver.prow_ext _ _ (fun j => ?_) (fun j => ?_) ?_ rfl
  · rw [PRow.cnot_x, hc]; split <;> simp
  · rw [PRow.cnot_z, ht]; split <;> simp
  · show xor p.r (p.x c && p.z t && (xor (xor (p.x t) (p.z c)) true)) = p.r
    rw [hc]; simp

theorem Gate.act_bits_off (G : Gate) (a : PRow) (j : Nat) (hj : j ∉ G.cols) :
    (G.act a).x j = a.x j ∧ (G.act a).z j = a.z j := by
  rcases G.act_cases with ⟨q, t, hc, e, _⟩ | ⟨_, e⟩ | ⟨c, t, hc, e⟩ | ⟨c, t, hc, e⟩ <;> rw [e]
  · have h : j ≠ q := fun h => hj (by rw [hc, h]; exact List.mem_singleton_self q)
    exact ⟨Solver.lift_x_ne q j h t a, Solver.lift_z_ne q j h t a⟩
  · exact ⟨rfl, rfl⟩
  · rw [hc] at hj
    exact PRow.cnot_off c t j a (fun h => hj (h ▸ List.mem_cons_self)) (fun h => hj (h ▸ List.mem_cons_of_mem _ List.mem_cons_self))
  · rw [hc] at hj
    have h1 : j ≠ c := fun h => hj (h ▸ List.mem_cons_self)
    have h2 : j ≠ t := fun h => hj (h ▸ List.mem_cons_of_mem _ List.mem_cons_self)
    have e1 := PRow.cnot_off c t j (Solver.lift t Solver.tH a) h1 h2
    exact ⟨(Solver.lift_x_ne t j h2 _ _).trans (e1.1.trans (Solver.lift_x_ne t j h2 _ a)),
      (Solver.lift_z_ne t j h2 _ _).trans (e1.2.trans (Solver.lift_z_ne t j h2 _ a))⟩

theorem Gate.act_eq_of_triv (G : Gate) (a : PRow) (h : ∀ c, c ∈ G.cols → a.x c = false ∧ a.z c = false) : G.act a = a := by
  rcases G.act_cases with ⟨q, t, hc, e, ht⟩ | ⟨_, e⟩ | ⟨c, t, hc, e⟩ | ⟨c, t, hc, e⟩ <;> rw [e] <;>
    try simp only [hc, List.forall_mem_cons, List.not_mem_nil, false_imp_iff, implies_true, and_true] at h
  · exact Solver.lift_of_triv q t (Solver.tables_fix t ht).1 a h.1 h.2
  · rfl
  · exact PRow.cnot_of_triv c t a h.1.1 h.2.2
  · have e1 := Solver.lift_of_triv t Solver.tH (by decide) a h.2.1 h.2.2
    show Solver.lift t Solver.tH (PRow.cnot c t (Solver.lift t Solver.tH a)) = a
    rw [e1, PRow.cnot_of_triv c t a h.1.1 h.2.2, e1]

theorem actCirc_of_triv (c : List Gate) (p : PRow) (h : ∀ g, g ∈ c → ∀ q, q ∈ g.cols → p.x q = false ∧ p.z q = false) :
    actCirc c p = p :=
  Loop.foldl_inv (· = p) (fun _ g hg e => e ▸ g.act_eq_of_triv p (h g hg)) rfl

theorem Solver.lift_triv_back (q : Nat) (t : Solver.L1) (ht : t ∈ [Solver.tH, Solver.tS, Solver.tSdg, Solver.tX, Solver.tY, Solver.tZ])
    (a : PRow) (hx : (Solver.lift q t a).x q = false) (hz : (Solver.lift q t a).z q = false) : a.x q = false ∧ a.z q = false := by
  rw [Solver.lift_x_self] at hx
  rw [Solver.lift_z_self] at hz
  exact (Solver.tables_fix t ht).2 _ _ hx hz

theorem PRow.cnot_triv_back (c t : Nat) (hct : c ≠ t) (p : PRow) (hc : (PRow.cnot c t p).x c = false ∧ (PRow.cnot c t p).z c = false)
    (ht : (PRow.cnot c t p).x t = false ∧ (PRow.cnot c t p).z t = false) :
    (p.x c = false ∧ p.z c = false) ∧ (p.x t = false ∧ p.z t = false) := by
  have h1 : p.x c = false := by have := hc.1; rwa [PRow.cnot_x, if_neg hct] at this
  have h2 : p.z t = false := by have := ht.2; rwa [PRow.cnot_z, if_neg (Ne.symm hct)] at this
  rw [PRow.cnot_of_triv c t p h1 h2] at hc ht
  exact ⟨hc, ht⟩

theorem Gate.act_triv_back (n : Nat) (G : Gate) (hG : G.WF n) (a : PRow)
    (h : ∀ c, c ∈ G.cols → (G.act a).x c = false ∧ (G.act a).z c = false) :
    ∀ c, c ∈ G.cols → a.x c = false ∧ a.z c = false := by
  have two : ∀ c t : Nat, G.cols = [c, t] → c ≠ t := fun c t hc => by
    have := ((G.wf_iff_cols n).1 hG).2
    rw [hc] at this
    exact fun e => (List.nodup_cons.mp this).1 (e ▸ List.mem_singleton_self t)
  rcases G.act_cases with ⟨q, t, hc, e, ht⟩ | ⟨hc, _⟩ | ⟨c, t, hc, e⟩ | ⟨c, t, hc, e⟩ <;>
    simp only [hc, List.forall_mem_cons, List.not_mem_nil, false_imp_iff, implies_true, and_true] at h ⊢
  · rw [e] at h
    exact Solver.lift_triv_back q t ht a h.1 h.2
  · rw [e] at h
    exact PRow.cnot_triv_back c t (two c t hc) a h.1 h.2
  · have hct := two c t hc
    rw [e] at h
    -- back through `H_t`, the CNOT, `H_t`
    have b_t := Solver.lift_triv_back t Solver.tH (by decide) _ h.2.1 h.2.2
    rw [Solver.lift_x_ne t c hct, Solver.lift_z_ne t c hct] at h
    have := PRow.cnot_triv_back c t hct _ h.1 b_t
    rw [Solver.lift_x_ne t c hct, Solver.lift_z_ne t c hct] at this
    exact ⟨this.1, Solver.lift_triv_back t Solver.tH (by decide) a this.2.1 this.2.2⟩

theorem Gate.cols_lt_of_wf {n : Nat} {g : Gate} (h : g.WF n) : ∀ q, q ∈ g.cols → q < n := ((g.wf_iff_cols n).1 h).1

namespace STab

/-- **column `q` is literal**: some generator is exactly `+Z_q` (on the `n` sites) and every other generator is trivial at `q`.
    This is the form an absorbed photon has in the working tableau of the solver. -/
def Lit (t : STab) (q : Nat) : Prop :=
  ∃ i, i < t.n ∧ PRow.EqOn t.n (t.row i) (PRow.Zq q) ∧ ∀ k, k < t.n → k ≠ i → t.ptype k q = 0

/-- column `q` carries an isolated `X`: some generator has exactly the bits of `X_q`, all other generators are trivial at `q`.
    This is the column of an isolated photon, on which the solver raises IndexError (D3). -/
def LitX (t : STab) (q : Nat) : Prop :=
  ∃ i, i < t.n ∧ PRow.SameBits t.n (t.row i) (PRow.Xq q) ∧ ∀ k, k < t.n → k ≠ i → t.ptype k q = 0

/-! ### a column that belongs to one generator alone

  `Lit` and `LitX` say the same thing of two kinds of row (`lit_iff_solo`, `litX_iff_solo`): generator `i` satisfies
  `P` — it is `+Z_q`, or has the bits of `X_q` — and no other generator acts on column `q`.  What tabulation, row swaps, witnessed row
  products and gates off `q` do to such a column rests on two facts about `P` (`SoloPred`). -/

theorem pt_eqOn (n : Nat) (a b : PRow) (h : EqOn n a b) (j : Nat) (hj : j < n) : a.pt j = b.pt j :=
  PRow.pt_congr a b j (h.1 j hj).1 (h.1 j hj).2

theorem pt_Zq (q j : Nat) : (Zq q).pt j = if j = q then 3 else 0 := by
  unfold PRow.pt Zq
  by_cases h : j = q <;> simp [h]

/-- row `i` satisfies `P` and is the only one of the rows `< n` that acts on column `q` -/
def SoloAt (P : PRow → Prop) (n : Nat) (row : Nat → PRow) (q i : Nat) : Prop :=
  i < n ∧ P (row i) ∧ ∀ k, k < n → k ≠ i → (row k).pt q = 0

/-- a row satisfying `P` acts on column `q` only, and `P` does not see tabulation -/
structure SoloPred (n q : Nat) (P : PRow → Prop) : Prop where
  off : ∀ r, P r → ∀ j, j < n → j ≠ q → r.pt j = 0
  congr : ∀ r r', EqOn n r r' → P r → P r'

theorem soloPred_Z (n q : Nat) : SoloPred n q (fun r => EqOn n r (Zq q)) where
  off := fun r h j hj hne => by rw [pt_eqOn n r _ h j hj]; simp [PRow.pt, Zq, hne]
  congr := fun _ _ e h => e.symm.trans h

theorem soloPred_X (n q : Nat) : SoloPred n q (fun r => SameBits n r (Xq q)) where
  off := fun r h j hj hne => by rw [PRow.pt_congr r (Xq q) j (h j hj).1 (h j hj).2]; simp [PRow.pt, Xq, hne]
  congr := fun _ _ e h j hj => ⟨(e.1 j hj).1.symm.trans (h j hj).1, (e.1 j hj).2.symm.trans (h j hj).2⟩

theorem lit_iff_solo (t : STab) (q : Nat) : t.Lit q ↔ ∃ i, SoloAt (fun r => EqOn t.n r (Zq q)) t.n t.row q i := Iff.rfl

theorem litX_iff_solo (t : STab) (q : Nat) : t.LitX q ↔ ∃ i, SoloAt (fun r => SameBits t.n r (Xq q)) t.n t.row q i := Iff.rfl

namespace SoloAt
variable {P : PRow → Prop} {n q i : Nat} {r r' : Nat → PRow}

/-- a product of two rows that are both non-trivial at a common column `pc` does not involve the solo row: off `q` that row is trivial,
    and at `q` the other factor is -/
theorem witness_ne (hP : SoloPred n q P) (h : SoloAt P n r q i) {a b pc : Nat} (ha : a < n) (hb : b < n) (hab : a ≠ b)
    (hpc : pc < n) (h1 : (r a).pt pc ≠ 0) (h2 : (r b).pt pc ≠ 0) : a ≠ i ∧ b ≠ i := by
  have key : ∀ x y, x = i → y ≠ x → y < n → (r x).pt pc ≠ 0 → (r y).pt pc ≠ 0 → False := by
    intro x y hx hy hyn hx1 hy1
    subst hx
    by_cases hp : pc = q
    · subst hp; exact hy1 (h.2.2 y hyn hy)
    · exact hx1 (hP.off _ h.2.1 pc hpc hp)
  exact ⟨fun e => key a b e (Ne.symm hab) hb h1 h2, fun e => key b a e hab ha h2 h1⟩

theorem rows_eq (he : ∀ m, m < n → r' m = r m) (h : SoloAt P n r q i) : SoloAt P n r' q i :=
  ⟨h.1, (he i h.1) ▸ h.2.1, fun k hk hne => (he k hk) ▸ h.2.2 k hk hne⟩

theorem congr (hP : SoloPred n q P) (hq : q < n) (he : ∀ m, m < n → EqOn n (r' m) (r m)) (h : SoloAt P n r q i) :
    SoloAt P n r' q i :=
  ⟨h.1, hP.congr _ _ (he i h.1).symm h.2.1, fun k hk hne => (pt_eqOn n _ _ (he k hk) q hq).trans (h.2.2 k hk hne)⟩

theorem perm (σ : Nat → Nat) (hσ : ∀ m, σ (σ m) = m) (hlt : ∀ m, m < n → σ m < n) (h : SoloAt P n r q i) :
    SoloAt P n (fun k => r (σ k)) q (σ i) := by
  refine ⟨hlt i h.1, ?_, fun k hk hne => h.2.2 (σ k) (hlt k hk) (fun e => hne (by rw [← e, hσ]))⟩
  show P (r (σ (σ i)))
  rw [hσ]
  exact h.2.1

theorem swap (a b : Nat) (ha : a < n) (hb : b < n) (h : SoloAt P n r q i) :
    SoloAt P n (fun m => if m = a then r b else if m = b then r a else r m) q (if i = a then b else if i = b then a else i) := by
  have hσ : ∀ m, (fun m => if m = a then b else if m = b then a else m)
      ((fun m => if m = a then b else if m = b then a else m) m) = m := by
    intro m
    show (if (if m = a then b else if m = b then a else m) = a then b
      else if (if m = a then b else if m = b then a else m) = b then a else (if m = a then b else if m = b then a else m)) = m
    by_cases e1 : m = a
    · by_cases e2 : b = a <;> simp [e1, e2]
    · by_cases e2 : m = b <;> simp [e1, e2]
  have hlt : ∀ m, m < n → (fun m => if m = a then b else if m = b then a else m) m < n := by
    intro m hm
    show (if m = a then b else if m = b then a else m) < n
    split
    · exact hb
    · split
      · exact ha
      · exact hm
  refine (h.perm _ hσ hlt).rows_eq (fun m _ => ?_)
  show _ = r (if m = a then b else if m = b then a else m)
  split
  · rfl
  · split <;> rfl

theorem mulInto (a b : Nat) (ha : a < n) (hai : a ≠ i) (hbi : b ≠ i) (h : SoloAt P n r q i) :
    SoloAt P n (fun m => if m = b then stabMul n (r a) (r b) else r m) q i := by
  refine ⟨h.1, ?_, fun k hk hne => ?_⟩
  · show P (if i = b then _ else r i)
    rw [if_neg (Ne.symm hbi)]; exact h.2.1
  · show (if k = b then stabMul n (r a) (r b) else r k).pt q = 0
    split
    · next hkb => rw [pt_stabMul, h.2.2 a ha hai, h.2.2 b (hkb ▸ hk) hbi]; rfl
    · exact h.2.2 k hk hne

/-- a gate that does not act on column `q`: the solo row is trivial on the gate's columns, the others keep their entry at `q` -/
theorem gate (hP : SoloPred n q P) (G : Gate) (hwf : G.WF n) (hqc : q ∉ G.cols) (h : SoloAt P n r q i) :
    SoloAt P n (fun m => G.act (r m)) q i := by
  refine ⟨h.1, ?_, fun k hk hne => ?_⟩
  · have htriv : ∀ c, c ∈ G.cols → (r i).x c = false ∧ (r i).z c = false := fun c hc =>
      PRow.pt_zero_bits _ _ (hP.off _ h.2.1 c (Gate.cols_lt_of_wf hwf c hc) (fun e => hqc (e ▸ hc)))
    show P (G.act (r i))
    rw [G.act_eq_of_triv (r i) htriv]
    exact h.2.1
  · have e := Gate.act_bits_off G (r k) q hqc
    show (G.act (r k)).pt q = 0
    rw [PRow.pt_congr _ _ q e.1 e.2]
    exact h.2.2 k hk hne

end SoloAt

/-! the same for the rows of a tableau on `n` qubits -/

variable {P : PRow → Prop} {t : STab} {n q : Nat}

theorem solo_norm (hn : t.n = n) (hP : SoloPred n q P) (hq : q < n) (h : ∃ i, SoloAt P n t.row q i) :
    ∃ i, SoloAt P n t.norm.row q i := by
  subst hn
  exact h.imp fun _ hi => hi.congr hP hq (fun m hm => norm_row t m hm)

theorem solo_rowSwap (a b : Nat) (ha : a < n) (hb : b < n) (h : ∃ i, SoloAt P n t.row q i) :
    ∃ i, SoloAt P n (t.rowSwap a b).row q i :=
  h.elim fun _ hi => ⟨_, hi.swap a b ha hb⟩

theorem solo_rowSum (hn : t.n = n) (hP : SoloPred n q P) (a b pc : Nat) (ha : a < n) (hb : b < n) (hab : a ≠ b) (hpc : pc < n)
    (hta : t.ptype a pc ≠ 0) (htb : t.ptype b pc ≠ 0) (h : ∃ i, SoloAt P n t.row q i) :
    ∃ i, SoloAt P n (t.rowSum a b).row q i := by
  subst hn
  exact h.imp fun _ hi =>
    have hne := hi.witness_ne hP ha hb hab hpc hta htb
    hi.mulInto a b ha hne.1 hne.2

theorem solo_gateNorm (hn : t.n = n) (hP : SoloPred n q P) (G : Gate) (hG : G.WF n) (hq : q < n) (hoff : q ∉ G.cols)
    (h : ∃ i, SoloAt P n t.row q i) : ∃ i, SoloAt P n ((t.applyGate G).norm).row q i := by
  subst hn
  exact h.imp fun _ hi => (hi.gate hP G hG hoff).congr hP hq (fun m hm => norm_row (t.applyGate G) m hm)

/-- sequences of tabulations, row swaps and row products in which every product `row b := row a · row b` is *witnessed* by a
    column `pc` at which both rows are non-trivial (the pivot column of the elimination step) -/
inductive COps (t0 : STab) : STab → Prop
  | refl : COps t0 t0
  | norm {t : STab} : COps t0 t → COps t0 t.norm
  | swap {t : STab} (a b : Nat) : a < t0.n → b < t0.n → COps t0 t → COps t0 (t.rowSwap a b)
  | sum {t : STab} (a b pc : Nat) : a < t0.n → b < t0.n → a ≠ b → pc < t0.n → t.ptype a pc ≠ 0 → t.ptype b pc ≠ 0 →
      COps t0 t → COps t0 (t.rowSum a b)

theorem COps.n_eq {t0 t : STab} (h : COps t0 t) : t.n = t0.n := by
  induction h with
  | refl => rfl
  | norm _ ih => exact ih
  | swap a b _ _ _ ih => exact ih
  | sum a b pc _ _ _ _ _ _ _ ih => exact ih

theorem COps.trans {t0 t1 t2 : STab} (h1 : COps t0 t1) (h2 : COps t1 t2) : COps t0 t2 := by
  have e := h1.n_eq
  induction h2 with
  | refl => exact h1
  | norm _ ih => exact COps.norm ih
  | swap a b h2 h4 _ ih => exact COps.swap a b (e ▸ h2) (e ▸ h4) ih
  | sum a b pc h2 h4 h5 h6 h7 h8 _ ih => exact COps.sum a b pc (e ▸ h2) (e ▸ h4) h5 (e ▸ h6) h7 h8 ih

theorem COps.spanEq {t0 t : STab} (h : COps t0 t) (hg : t0.Good) : SpanEq t0 t ∧ t.Good := by
  induction h with
  | refl => exact ⟨SpanEq.refl _, hg⟩
  | @norm t _ ih => exact ⟨ih.1.trans (norm_spanEq t), norm_good t ih.2⟩
  | @swap t a b h2 h4 h ih =>
    have e := h.n_eq
    exact ⟨ih.1.trans (rowSwap_spanEq t a b (e ▸ h2) (e ▸ h4)), rowSwap_good t a b (e ▸ h2) (e ▸ h4) ih.2⟩
  | @sum t a b pc h2 h4 h5 _ _ _ h ih =>
    have e := h.n_eq
    exact ⟨ih.1.trans (rowSum_spanEq t a b (e ▸ h2) (e ▸ h4) h5 ih.2), rowSum_good t a b (e ▸ h2) (e ▸ h4) ih.2⟩

/-- **a solo column survives witnessed row operations**: neither factor of a witnessed product is the solo row, so both are trivial at
    `q` and so is their product -/
theorem COps.solo {t0 t : STab} (h : COps t0 t) {P : PRow → Prop} {q : Nat} (hP : SoloPred t0.n q P) (hq : q < t0.n)
    (hl : ∃ i, SoloAt P t0.n t0.row q i) : ∃ i, SoloAt P t0.n t.row q i := by
  induction h with
  | refl => exact hl
  | norm h ih => exact solo_norm h.n_eq hP hq ih
  | swap a b ha hb h ih => exact solo_rowSwap a b ha hb ih
  | sum a b pc ha hb hab hpc hta htb h ih => exact solo_rowSum h.n_eq hP a b pc ha hb hab hpc hta htb ih

end STab
end Graphiq
