/-
  Proofs/InvDead.lean — after the repair of graphiq 74abae4 the sixth block of `inverse_circuit` ("Eliminate Zs": the row
  products that clear the z-bits left of the diagonal) never fires: the clearing loop added to the first Hadamard block
  already removes, below every Z-type pivot, the z-bits of its column (`LowZ`), blocks 2–4 keep that, and the second
  Hadamard block leaves a unit vector in every X-type column — so the z-bit matrix after block 5 is the identity.
  An invariant carried next to the ones of Proofs/InvBlock1.lean and Proofs/InvRest.lean.  No Mathlib.
-/
import GraphiqModel.Proofs.InvBlock1
namespace Graphiq
open PRow Tab
namespace STab

/-! ### blocks 2 – 4 keep `LowZ` -/

theorem invStep2_lowz {N : Nat} (s : InvState) (j k : Nat) (hjk : j < k) (hk : k < N) (f : A1 N s.t)
    (done : ∀ a, a < j → xb s.t a j = false) (l : LowZ N s.t) : LowZ N (invStep2 s (j, k)).t := by
  obtain ⟨_, _, ex, ez⟩ := invStep2_edit s j k hjk hk f done
  intro c i hci hi hx
  have hc : c < N := by omega
  rw [ex c c hc hc, if_neg (by omega)] at hx
  rw [ez i c hi hc, if_neg (fun e => by
    have := xtype_of_x (f.diag j (by omega)) (by rw [f.n_eq]; exact hk) e.2
    rw [← e.1, hx] at this; cases this)]
  exact l c i hci hi hx

theorem block2_lowz (N : Nat) (st : InvState) (hn : st.t.n = N) (hg : st.t.Good) (hp : Post1 st.t) (hl : LowZ N st.t) :
    LowZ N ((pairsLt N).foldl invStep2 st).t :=
  (sweep_pairs (N := N) invStep2 (fun t => A1 N t ∧ LowZ N t) xb (fun s j k hjk hk ⟨f, l⟩ hc =>
    have done : ∀ a, a < j → xb s.t a j = false := fun a ha => hc a j (Or.inl ha) ha (by omega)
    have h := invStep2_sweep s j k hjk hk f done
    ⟨⟨h.1, invStep2_lowz s j k hjk hk f done l⟩, h.2⟩) st ⟨hp.a1 hn hg, hl⟩).1.2

theorem invStep3_lowz {N : Nat} (s : InvState) (j k : Nat) (hjk : j < k) (hk : k < N) (a : A2 N s.t) (l : LowZ N s.t) :
    LowZ N (invStep3 s (j, k)).t := by
  obtain ⟨_, _, ex, ez⟩ := invStep3_edit s j k hjk hk a
  intro c i hci hi hx
  rw [ex c c (by omega) (by omega)] at hx
  rw [ez i c hi (by omega)]
  split
  · rfl
  · split
    · next e =>
      -- the column `c = j` is Z-type, so row `j` has no z-bit at `k` and the entry `(k,j)` is not touched
      rw [e.2] at hx
      have hz : zb s.t j k = false := by
        cases hz : zb s.t j k
        · rfl
        · have := xtype_of_z (a.diag j (by omega)) hjk (by rw [a.n_eq]; exact hk) hz
          rw [hx] at this; cases this
      rw [hz, ← e.1, ← e.2, l c i hci hi (by rw [e.2]; exact hx)]; rfl
    · exact l c i hci hi hx

theorem block3_lowz (N : Nat) (st : InvState) (h : A2 N st.t) (hl : LowZ N st.t) :
    LowZ N ((pairsLt N).foldl invStep3 st).t :=
  (sweep_pairs (N := N) invStep3 (fun t => A2 N t ∧ LowZ N t) zb (fun s j k hjk hk ⟨a, l⟩ _ =>
    have h := invStep3_sweep s j k hjk hk a
    ⟨⟨h.1, invStep3_lowz s j k hjk hk a l⟩, h.2⟩) st ⟨h, hl⟩).1.2

theorem lowz_step4 (N : Nat) (st : InvState) (j : Nat) (hj : j < N) (h : B4 N st.t j) (hl : LowZ N st.t) :
    LowZ N (invStep4 st j).t := by
  obtain ⟨_, ex, ez⟩ := invStep4_edit st j hj h.a3
  intro c i hci hi hx
  rw [ex c c (by omega) (by omega)] at hx
  rw [ez i c hi (by omega), if_neg (fun e => by have := e.1; omega)]
  exact hl c i hci hi hx

theorem block4_lowz (N : Nat) (st : InvState) (h : A3 N st.t) (hl : LowZ N st.t) :
    LowZ N ((List.range N).foldl invStep4 st).t :=
  (Loop.foldl_range (f := invStep4) (n := N) (fun j s => B4 N s.t j ∧ LowZ N s.t)
    (fun j s hj hq => ⟨b4_step N s j hj hq.1, lowz_step4 N s j hj hq.1 hq.2⟩)
    (s := st) ⟨⟨h.n_eq, h.xdiag, h.diag, h.zupper, h.zcol, fun j' h1 => by omega⟩, hl⟩).2

/-! ### block 5: every column ends with a cleared lower part -/

/-- the z-column is cleared below the diagonal in the columns already processed by block 5 and in the Z-type columns -/
def LowZ5 (N : Nat) (t : STab) (j : Nat) : Prop :=
  ∀ c i, c < i → i < N → (c < j ∨ xb t c c = false) → zb t i c = false

theorem lowz_step5 (N : Nat) (st : InvState) (j : Nat) (hj : j < N) (h : B5 N st.t j) (hl : LowZ5 N st.t j) :
    LowZ5 N (invStep5 st j).t (j + 1) := by
  obtain ⟨_, ex, ez⟩ := invStep5_edit st j hj h.n_eq h.xdiag (h.hi j (Nat.le_refl _) hj)
  intro c i hci hi hcond
  have hc : c < N := by omega
  rw [ez i c hi hc]
  split
  · next e =>
    have : i ≠ j := by have := e.1; omega
    simp [this]
  · next e =>
    apply hl c i hci hi
    rw [ex c c hc hc] at hcond
    by_cases ecj : c = j
    · right
      cases hx : xb st.t c c
      · rfl
      · exact absurd ⟨ecj, ecj ▸ hx⟩ e
    · rcases hcond with h1 | h1
      · left; omega
      · right; rw [if_neg ecj] at h1; exact h1

theorem block5_lowz (N : Nat) (st : InvState) (h : A4 N st.t) (hl : LowZ N st.t) :
    ∀ c i, c < i → i < N → zb ((List.range N).foldl invStep5 st).t i c = false := by
  have key := (Loop.foldl_range (f := invStep5) (n := N) (fun j s => B5 N s.t j ∧ LowZ5 N s.t j)
    (fun j s hj hq => ⟨b5_step N s j hj hq.1, lowz_step5 N s j hj hq.1 hq.2⟩) (s := st)
    ⟨⟨h.n_eq, h.xdiag, h.zupper, fun c h1 => by omega, fun c _ h2 => h.cols c h2⟩, fun c i hci hi hcond => by
      rcases hcond with h1 | h1
      · omega
      · exact hl c i hci hi h1⟩).2
  intro c i hci hi
  exact key c i hci hi (Or.inl (by omega))

/-! ### block 6 is the identity -/

/-- no pair `j < k` meets the condition of the "Eliminate Zs" block once the z-bit matrix is cleared below the diagonal -/
theorem block6_noop (N : Nat) (s : InvState) (hl : ∀ c i, c < i → i < N → zb s.t i c = false) :
    (pairsLt N).foldl invStep6 s = s := by
  apply Loop.foldl_const
  intro jk hm
  obtain ⟨h1, h2⟩ := mem_pairsLt N jk hm
  unfold invStep6
  have : (s.t.row jk.2).z jk.1 = false := hl jk.1 jk.2 h1 h2
  rw [this]
  simp

/-- blocks 2 to 7 without the "Eliminate Zs" block -/
def invRestNoElim (n : Nat) (s1 : InvState) : InvState :=
  let s2 := (pairsLt n).foldl invStep2 s1
  let s3 := (pairsLt n).foldl invStep3 s2
  let s4 := (List.range n).foldl invStep4 s3
  let s5 := (List.range n).foldl invStep5 s4
  ((List.range n).filter fun i => (s5.t.row i).r).foldl invStep7 s5

/-- the state before the sixth block -/
def invUpTo5 (n : Nat) (s1 : InvState) : InvState :=
  (List.range n).foldl invStep5 ((List.range n).foldl invStep4 ((pairsLt n).foldl invStep3 ((pairsLt n).foldl invStep2 s1)))

/-- **the sixth block does nothing** on the state reached from a `Post1 ∧ LowZ` tableau -/
theorem eliminateZs_identity (s1 : InvState) (hg : s1.t.Good) (hp : Post1 s1.t) (hl : LowZ s1.t.n s1.t) :
    (pairsLt s1.t.n).foldl invStep6 (invUpTo5 s1.t.n s1) = invUpTo5 s1.t.n s1 := by
  unfold invUpTo5
  have a2 := block2 _ s1 rfl hg hp
  have l2 := block2_lowz _ s1 rfl hg hp hl
  have a3 := block3 _ _ a2
  have l3 := block3_lowz _ _ a2 l2
  have a4 := block4 _ _ a3
  have l4 := block4_lowz _ _ a3 l3
  have a5 := block5 _ _ a4
  have l5 := block5_lowz _ _ a4 l4
  exact block6_noop _ _ l5

theorem invRest_eq_noElim (s1 : InvState) (hg : s1.t.Good) (hp : Post1 s1.t) (hl : LowZ s1.t.n s1.t) :
    invRest s1.t.n s1 = invRestNoElim s1.t.n s1 := by
  have e := eliminateZs_identity s1 hg hp hl
  unfold invUpTo5 at e
  unfold invRest invRestNoElim
  simp only
  rw [e]

end STab
end Graphiq
