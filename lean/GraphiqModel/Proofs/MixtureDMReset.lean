/-
  Proofs/MixtureDMReset.lean — `MeasurementCNOTandReset` on a mixture whose branches agree, Hilbert-space level, all n.

  After the measurement of qubit `q1` with one outcome `o` for all branches (the joint measurement; before the repair of F2: a
  per-branch measurement on which the branches agreed) every branch state is fixed by `Π_o`; a Pauli on another qubit
  keeps that; `reset_z(q1, 0)` then measures again — deterministically, with the same outcome, *because* the state is fixed by
  `Π_o` (`det_of_fixed`: a Hilbert-space argument, no tableau bookkeeping) — and flips the qubit iff `o = 1`.  The
  density-matrix backend applies the Kraus pair `|0⟩⟨0|_q , |0⟩⟨1|_q` (`get_reset_qubit_kraus`), which on a state fixed by
  `Π_o` is the same map (`resetH_of_fixed`).
-/
import GraphiqModel.Proofs.MixtureDMMeasure
namespace Graphiq
namespace MixDM
open Matrix Hilbert Noise DM PRow

/-! ### projector facts -/

theorem projZ_orth_right (n q : Nat) (_hq : q < n) (s : Bool) : projZ n q s * projZ n q (!s) = 0 := proj_Zq_orth n q s

theorem projZ_orth (n q : Nat) (hq : q < n) (s : Bool) : projZ n q (!s) * projZ n q s = 0 := by
  have := projZ_orth_right n q hq (!s)
  rwa [Bool.not_not] at this

theorem fixed_other_left {n : Nat} (q : Nat) (hq : q < n) (o : Bool) (R : HMat n)
    (h : projZ n q o * R * projZ n q o = R) : projZ n q (!o) * R = 0 := by
  rw [← h, ← Matrix.mul_assoc, ← Matrix.mul_assoc, projZ_orth n q hq o]; simp

theorem fixed_other_right {n : Nat} (q : Nat) (hq : q < n) (o : Bool) (R : HMat n)
    (h : projZ n q o * R * projZ n q o = R) : R * projZ n q (!o) = 0 := by
  rw [← h, Matrix.mul_assoc, projZ_orth_right n q hq o]; simp

theorem fixed_trace {n : Nat} (q : Nat) (o : Bool) (R : HMat n)
    (h : projZ n q o * R * projZ n q o = R) : (R * projZ n q o).trace = R.trace := by
  rw [trace_mul_projZ, h]

/-! ### a state fixed by `Π_o` is measured deterministically with outcome `o` -/

theorem det_of_fixed (n : Nat) (t : Tab) (hn : t.n = n) (hv : t.Valid) (hr : t.StabReal) (q : Nat) (hq : q < n) (det o : Bool)
    (h : projZ n q o * tabRho n t * projZ n q o = tabRho n t) :
    t.pivot q = none ∧ (t.zMeasure q det).2.1 = o := by
  have htr : (tabRho n t).trace = 1 := by subst hn; exact rho_ofTab_trace t hv
  have h1 : (tabRho n t * projZ n q o).trace = 1 := by rw [fixed_trace q o _ h, htr]
  cases hp : t.pivot q with
  | some p =>
    exfalso
    have := (branch_random n t hn hv hr q hq det p hp).2.2 o
    rw [h1] at this
    norm_num at this
  | none =>
    refine ⟨rfl, ?_⟩
    obtain ⟨_, _, _, b4⟩ := branch_det n t hn hv hr q hq det hp
    by_contra hne
    have e : (!(t.zMeasure q det).2.1) = o := by
      revert hne; cases (t.zMeasure q det).2.1 <;> cases o <;> simp
    rw [e, h1] at b4
    norm_num at b4

/-- `reset_z(q, 0)` on a branch fixed by `Π_o`: nothing if `o = 0`, `X_q` if `o = 1` -/
theorem resetZ_of_fixed (n : Nat) (t : Tab) (hn : t.n = n) (hv : t.Valid) (hr : t.StabReal) (q : Nat) (hq : q < n) (det o : Bool)
    (h : projZ n q o * tabRho n t * projZ n q o = tabRho n t) :
    t.resetZ q false det = if o then t.xGate q else t := by
  obtain ⟨hp, ho⟩ := det_of_fixed n t hn hv hr q hq det o h
  have e : t.resetZ q false det = if (t.zMeasure q det).2.1 = false then t else t.xGate q := by
    unfold Tab.resetZ
    simp [Tab.zMeasure, hp]
  rw [e, ho]
  cases o <;> simp

/-! ### Paulis on another qubit commute with the projector -/

theorem xg_Zq_other (n q1 q2 : Nat) (s : Bool) (h : q1 ≠ q2) : EqOn n (PRow.xg q2 (Zq q1 s)) (Zq q1 s) := by
  have h' : ¬ q2 = q1 := fun e => h e.symm
  refine ⟨fun j _ => ?_, ?_, ?_⟩
  · unfold PRow.xg PRow.zg PRow.h PRow.s Zq
    by_cases e : j = q2
    · subst e; simp [h']
    · simp [e]
  · unfold PRow.xg PRow.zg PRow.h PRow.s Zq
    simp [h']
  · unfold PRow.xg PRow.zg PRow.h PRow.s Zq
    simp

theorem conjX_projZ (n q1 q2 : Nat) (hq2 : q2 < n) (hne : q1 ≠ q2) (s : Bool) :
    conjH (gateMat n (.X q2)) (projZ n q1 s) = projZ n q1 s := by
  unfold conjH projZ
  apply conj_proj n _ (gate_unitary n (.X q2) hq2).1
  rw [gate_conj n (.X q2) hq2]
  exact pauliMat_congr n _ _ (xg_Zq_other n q1 q2 s hne)

theorem X_comm_projZ (n q1 q2 : Nat) (hq2 : q2 < n) (hne : q1 ≠ q2) (s : Bool) :
    gateMat n (.X q2) * projZ n q1 s = projZ n q1 s * gateMat n (.X q2) := by
  have h := conjX_projZ n q1 q2 hq2 hne s
  unfold conjH at h
  have hu := (gate_unitary n (.X q2) hq2).2
  calc gateMat n (.X q2) * projZ n q1 s
      = gateMat n (.X q2) * projZ n q1 s * ((gateMat n (.X q2))ᴴ * gateMat n (.X q2)) := by rw [hu, Matrix.mul_one]
    _ = (gateMat n (.X q2) * projZ n q1 s * (gateMat n (.X q2))ᴴ) * gateMat n (.X q2) := by simp only [Matrix.mul_assoc]
    _ = projZ n q1 s * gateMat n (.X q2) := by rw [h]

theorem Xh_comm_projZ (n q1 q2 : Nat) (hq2 : q2 < n) (hne : q1 ≠ q2) (s : Bool) :
    (gateMat n (.X q2))ᴴ * projZ n q1 s = projZ n q1 s * (gateMat n (.X q2))ᴴ := by
  have := congrArg Matrix.conjTranspose (X_comm_projZ n q1 q2 hq2 hne s)
  rw [Matrix.conjTranspose_mul, Matrix.conjTranspose_mul, projZ_herm] at this
  exact this.symm

theorem fixed_conjX (n q1 q2 : Nat) (hq2 : q2 < n) (hne : q1 ≠ q2) (o : Bool) (R : HMat n)
    (h : projZ n q1 o * R * projZ n q1 o = R) :
    projZ n q1 o * conjH (gateMat n (.X q2)) R * projZ n q1 o = conjH (gateMat n (.X q2)) R := by
  unfold conjH
  have c1 := X_comm_projZ n q1 q2 hq2 hne o
  have c2 := Xh_comm_projZ n q1 q2 hq2 hne o
  calc projZ n q1 o * (gateMat n (.X q2) * R * (gateMat n (.X q2))ᴴ) * projZ n q1 o
      = (projZ n q1 o * gateMat n (.X q2)) * R * ((gateMat n (.X q2))ᴴ * projZ n q1 o) := by simp only [Matrix.mul_assoc]
    _ = (gateMat n (.X q2) * projZ n q1 o) * R * (projZ n q1 o * (gateMat n (.X q2))ᴴ) := by rw [← c1, c2]
    _ = gateMat n (.X q2) * (projZ n q1 o * R * projZ n q1 o) * (gateMat n (.X q2))ᴴ := by simp only [Matrix.mul_assoc]
    _ = gateMat n (.X q2) * R * (gateMat n (.X q2))ᴴ := by rw [h]

/-! ### mixtures whose branches are all fixed by `Π_o` -/

def Fixed (n q : Nat) (o : Bool) (m : Mixture) : Prop :=
  ∀ x ∈ m, projZ n q o * tabRho n x.2 * projZ n q o = tabRho n x.2

theorem fixed_mixRho (n q : Nat) (o : Bool) : ∀ (m : Mixture), Fixed n q o m →
    projZ n q o * mixRho n m * projZ n q o = mixRho n m
  | [], _ => by simp [mixRho_nil]
  | (w, t) :: rest, h => by
    rw [mixRho_cons, Matrix.mul_add, Matrix.add_mul, Matrix.mul_smul, Matrix.smul_mul,
      h (w, t) List.mem_cons_self, fixed_mixRho n q o rest (fun x hx => h x (List.mem_cons_of_mem _ hx))]

/-- HISTORICAL (`Mix.measureOld`): after a per-branch measurement on which the branches agreed, with outcome `o`, every branch
    is fixed by `Π_o` (the joint measurement's counterpart is `measureJoint_fixed`, Proofs/MixtureDMJoint.lean) -/
theorem measure_fixed (n q : Nat) (hq : q < n) (det r0 o : Bool) (m : Mixture) (hg : MixGood n m)
    (hu : Uniform q det r0 o m) : Fixed n q o (Mix.measureOld q det m).1 := by
  intro x hx
  obtain ⟨y, hy, rfl⟩ := mem_measureOld q det m x hx
  obtain ⟨hn, hv, hr⟩ := hg y hy
  rw [← (hu y hy).2]
  exact zMeasure_fixed n y.2 hn hv hr q hq det

theorem tabRho_xGate (n : Nat) (t : Tab) (hn : t.n = n) (q : Nat) (hq : q < n) :
    tabRho n (t.xGate q).norm = conjH (gateMat n (.X q)) (tabRho n t) := by
  have := tabRho_pauliGate n 1 q hq t hn
  exact this

theorem mapX_fixed (n q1 q2 : Nat) (hq2 : q2 < n) (hne : q1 ≠ q2) (o : Bool) (m : Mixture) (hm : MixN n m)
    (h : Fixed n q1 o m) : Fixed n q1 o (Mix.mapTab (fun t => t.xGate q2) m) := by
  intro x hx
  simp only [Mix.mapTab, List.mem_map] at hx
  obtain ⟨⟨w, t⟩, hy, rfl⟩ := hx
  show projZ n q1 o * tabRho n (t.xGate q2).norm * projZ n q1 o = tabRho n (t.xGate q2).norm
  rw [tabRho_xGate n t (hm (w, t) hy) q2 hq2]
  exact fixed_conjX n q1 q2 hq2 hne o _ (h (w, t) hy)

/-- **`reset_z(q, 0)` on every branch of a mixture fixed by `Π_o`**: `X_q R X_q` if `o = 1`, `R` if `o = 0` -/
theorem mixRho_reset (n q : Nat) (hq : q < n) (det o : Bool) (m : Mixture) (hg : MixGood n m) (hf : Fixed n q o m) :
    mixRho n (Mix.mapTab (fun t => t.resetZ q false det) m)
      = if o then conjH (gateMat n (.X q)) (mixRho n m) else mixRho n m := by
  rw [mapTab_eq]
  refine mixRho_map n (fun R => if o then conjH (gateMat n (.X q)) R else R) (by cases o <;> simp [conjH_zero])
    (fun a b => by cases o <;> simp [conjH_add]) _ m (fun x hx => ?_)
  obtain ⟨hn, hv, hr⟩ := hg _ hx
  simp only
  rw [resetZ_of_fixed n x.2 hn hv hr q hq det o (hf _ hx)]
  cases o
  · simp only [Bool.false_eq_true, if_false]
    rw [tabRho_norm n x.2 hn]
  · simp only [if_true]
    rw [tabRho_xGate n x.2 hn q hq, conjH_smul]

theorem reset_good (n q : Nat) (hq : q < n) (det : Bool) (m : Mixture) (hg : MixGood n m) :
    MixGood n (Mix.mapTab (fun t => t.resetZ q false det) m) :=
  mapTab_all _ ((good_closed n).op (.reset hq det)) m hg

/-! ### the reset channel of the density-matrix backend -/

/-- the Hilbert-space reset channel `ρ ↦ Π_0 ρ Π_0 + X Π_1 ρ Π_1 X` on qubit `q` -/
noncomputable def resetH (n q : Nat) (R : HMat n) : HMat n :=
  conjH (projZ n q false) R + conjH (gateMat n (.X q) * projZ n q true) R

theorem resetH_of_fixed (n q : Nat) (hq : q < n) (o : Bool) (R : HMat n) (h : projZ n q o * R * projZ n q o = R) :
    resetH n q R = if o then conjH (gateMat n (.X q)) R else R := by
  unfold resetH conjH
  rw [Matrix.conjTranspose_mul, projZ_herm, projZ_herm]
  cases o
  · have l := fixed_other_left q hq false R h
    simp only [Bool.not_false] at l
    simp only [Bool.false_eq_true, if_false]
    rw [h]
    have : gateMat n (Gate.X q) * projZ n q true * R * (projZ n q true * (gateMat n (Gate.X q))ᴴ)
        = gateMat n (Gate.X q) * (projZ n q true * R) * (projZ n q true * (gateMat n (Gate.X q))ᴴ) := by
      simp only [Matrix.mul_assoc]
    rw [this, l]; simp
  · have l := fixed_other_left q hq true R h
    simp only [Bool.not_true] at l
    simp only [if_true]
    rw [l]
    have : gateMat n (Gate.X q) * projZ n q true * R * (projZ n q true * (gateMat n (Gate.X q))ᴴ)
        = gateMat n (Gate.X q) * (projZ n q true * R * projZ n q true) * (gateMat n (Gate.X q))ᴴ := by
      simp only [Matrix.mul_assoc]
    rw [this, h]; simp

end MixDM
end Graphiq
