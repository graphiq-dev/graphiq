/-
  Proofs/HilbertDimPtrace.lean — `partial_trace` of clifford.py on density matrices, for every size.

  `rho_eq_ptraceList_of_gens` is the bridge from the group-level specifications (Proofs/TabSpec*.lean): if every generator of `t'`,
  with identities inserted at the sites of `rem`, is in the group of `t`, then `ρ(t') = Tr_rem ρ(t)` — `Tr_rem ρ(t)` is Hermitian of
  trace one and, the partial trace being a module map, fixed by the generators of `t'` (`eq_rho_of_fixed`).  The product-state,
  product-across-a-cut and tensor theorems are its instances.  `ptraceSite_dephase`: tracing out a qubit forgets its Z-measurement;
  `ptrace_remove_mix`: `Tr_q ρ(t)` is the equal mixture of the two results of `remove_qubit`.
-/
import GraphiqModel.Proofs.HilbertTab
import GraphiqModel.Proofs.HilbertDimOps
import GraphiqModel.Proofs.HilbertDimAdjoint
import GraphiqModel.Proofs.HilbertDimKet
import GraphiqModel.Proofs.TabSpecFactor
namespace Graphiq
namespace Hilbert
open Matrix PRow TabSpec Tab

theorem ptraceSite_dephase (m q : Nat) (hq : q ≤ m) (M : Matrix (Bits (m + 1)) (Bits (m + 1)) ℂ) :
    ptraceSite q M = ptraceSite q (proj (m + 1) (Zq q false) * M * proj (m + 1) (Zq q false))
      + ptraceSite q (proj (m + 1) (Zq q true) * M * proj (m + 1) (Zq q true)) := by
  ext a b
  rw [Matrix.add_apply, ptraceSite_apply, ptraceSite_apply, ptraceSite_apply, proj_Zq (m + 1) q (by omega),
    proj_Zq (m + 1) q (by omega)]
  simp only [Matrix.diagonal_mul, Matrix.mul_diagonal, bx_insB_self q hq]
  simp

/-! ### the group determines the state, and the reduced states -/

theorem rho_eq_ptraceList_of_gens (m : Nat) (rem : List Nat) (t t' : Tab) (hn : t.n = m + rem.length) (hn' : t'.n = m)
    (hv : t.Valid) (hr : t.StabReal) (v' : t'.Valid) (r' : t'.StabReal) (hpw : rem.Pairwise (· > ·))
    (hlt : ∀ q, q ∈ rem → q < t.n) (h : ∀ i, i < m → Grp t (embedCols rem (t'.stab i))) :
    rho m (STab.ofTab t') = ptraceList rem (rho (m + rem.length) (STab.ofTab t)) := by
  subst hn'
  have hlt' : ∀ q, q ∈ rem → q < t'.n + rem.length := fun q hq => hn ▸ hlt q hq
  have hh := rho_hermitian _ (ofTab_good t hv)
  have ht := rho_ofTab_trace t hv
  have e : (STab.ofTab t).n = t.n := rfl
  rw [e, hn] at hh
  rw [hn] at ht
  symm
  apply eq_rho_of_fixed t' v' r'
  · rw [ptraceList_conjTranspose, hh]
  · rw [trace_ptraceList rem hlt' hpw, ht]
  · intro i hi
    have fix := grp_mul_rho t hv hr _ (h i hi)
    rw [hn, pauliMat_embedCols rem hlt' hpw] at fix
    rw [← ptraceList_embedOp_mul rem hlt' hpw, fix]

theorem rho_tab_norm (t : Tab) : rho t.n (STab.ofTab t.norm) = rho t.n (STab.ofTab t) := rho_ofTab_norm t

theorem ptrace_remove_mix (m : Nat) (t t0 t1 : Tab) (q : Nat) (hm : t.n = m + 1) (hq : q < t.n)
    (hv : t.Valid) (hr : t.StabReal) (h0 : t.removeQubit q false = .ok t0) (h1 : t.removeQubit q true = .ok t1) :
    ptraceSite q (rho (m + 1) (STab.ofTab t))
      = (1 / 2 : ℂ) • rho m (STab.ofTab t0) + (1 / 2 : ℂ) • rho m (STab.ofTab t1) := by
  cases hp : t.pivot q with
  | some p =>
    rw [rho_removeQubit_random m t t0 q p false hm hq hv hr hp h0,
      rho_removeQubit_random m t t1 q p true hm hq hv hr hp h1, smul_smul, smul_smul]
    norm_num
    exact ptraceSite_dephase m q (by omega) _
  | none =>
    rw [(rho_removeQubit_det m t t0 q false hm hq hv hr hp h0).2, (rho_removeQubit_det m t t1 q true hm hq hv hr hp h1).2,
      ← add_smul]
    norm_num

theorem partialTrace_go_total (rem : List Nat) :
    ∀ (t : Tab) (os : List Bool), t.Valid → t.StabReal → rem.Pairwise (· > ·) → (∀ q, q ∈ rem → q < t.n) →
      ∃ t', partialTrace.go t rem os = .ok t' := TabSpec.partialTrace_go_total rem

/-! ### product states, and products across a cut -/

theorem rho_partialTrace_of_grp (m : Nat) (t t' : Tab) (keep : List Nat) (os : List Bool)
    (hm : t.n = m + (removalList t.n keep).length) (hv : t.Valid) (hr : t.StabReal)
    (h : t.partialTrace keep os = .ok t')
    (g : t'.n + (removalList t.n keep).length = t.n ∧ ∀ P', Grp t' P' ↔ Grp t (embedCols (removalList t.n keep) P')) :
    rho m (STab.ofTab t') = ptraceList (removalList t.n keep) (rho (m + (removalList t.n keep).length) (STab.ofTab t)) :=
  rho_eq_ptraceList_of_gens m _ t t' hm (by omega) hv hr (partialTrace_valid t t' keep os hv h)
    (stabReal_of_grp_sub t' _ (fun a ha => (embedCols_r _ a).2.symm.trans (grp_real t hv hr _ ha)) (fun P => (g.2 P).mp))
    (removalList_desc t.n keep) (fun q hq => ((mem_removalList t.n keep q).mp hq).1)
    (fun i hi => (g.2 _).mp (grp_gen t' i (by omega)))

theorem rho_partialTrace_product (m : Nat) (t t' : Tab) (keep : List Nat) (os : List Bool)
    (hm : t.n = m + (removalList t.n keep).length) (hv : t.Valid) (hr : t.StabReal)
    (hu : ∀ q, q < t.n → q ∉ keep → Unentangled t q) (h : t.partialTrace keep os = .ok t') :
    rho m (STab.ofTab t') = ptraceList (removalList t.n keep) (rho (m + (removalList t.n keep).length) (STab.ofTab t)) :=
  rho_partialTrace_of_grp m t t' keep os hm hv hr h (partialTrace_product_grp t t' keep os hv hr hu h)

/-- **`partial_trace` of a product factor = partial trace of the density matrix**, whatever the outcome script (the
    traced-out qubits may be entangled among themselves, their measurements random) -/
theorem rho_partialTrace_factor (m : Nat) (t t' : Tab) (keep : List Nat) (os : List Bool)
    (hm : t.n = m + (removalList t.n keep).length) (hv : t.Valid) (hr : t.StabReal)
    (hf : Factor t (removalList t.n keep)) (h : t.partialTrace keep os = .ok t') :
    rho m (STab.ofTab t') = ptraceList (removalList t.n keep) (rho (m + (removalList t.n keep).length) (STab.ofTab t)) :=
  rho_partialTrace_of_grp m t t' keep os hm hv hr h (partialTrace_factor_grp t t' keep os hv hr hf h)

/-! ### partial trace of a tensor product -/

/-- **`partial_trace(tensor([a, b]), keep = qubits of a)`** has the density matrix of `a`, and that is the partial trace
    of the density matrix of `tensor([a, b])` (`= ρ(a) ⊗ ρ(b)` by `rho_tensor`) over the qubits of `b` -/
theorem rho_partialTrace_tensor_left (a b t' : Tab) (os : List Bool) (ha : a.Valid) (hb : b.Valid) (ra : a.StabReal)
    (rb : b.StabReal) (h : (tensor2 a b).partialTrace (List.range a.n) os = .ok t') :
    rho a.n (STab.ofTab t') = rho a.n (STab.ofTab a) ∧
    rho a.n (STab.ofTab t') = ptraceList (removalList (a.n + b.n) (List.range a.n))
      (rho (a.n + (removalList (a.n + b.n) (List.range a.n)).length) (STab.ofTab (tensor2 a b))) := by
  obtain ⟨n', g⟩ := partialTrace_tensor_left a b t' os ha hb ra rb h
  have v' := partialTrace_valid (tensor2 a b) t' _ os (tensor2_valid a b ha hb) h
  have r' := stabReal_of_grp_sub t' (Grp a) (grp_real a ha ra) (fun P' => (g P').mp)
  refine ⟨(rho_eq_of_gens a.n a t' rfl n' ha ra v' r' (fun i hi => (g _).mp (grp_gen t' i (by omega)))).symm, ?_⟩
  have hA : ∀ j, j < a.n + b.n → (j ∈ removalList (a.n + b.n) (List.range a.n) ↔ a.n ≤ j) := by
    intro j hj; rw [mem_removalList_range]; omega
  exact rho_partialTrace_factor a.n (tensor2 a b) t' (List.range a.n) os
    (by show a.n + b.n = a.n + (removalList (a.n + b.n) (List.range a.n)).length; rw [removalList_range_length]) (tensor2_valid a b ha hb) (tensor_stabReal a b ra rb)
    (tensor_factor a b ha hb ra rb _ hA) h

theorem rho_partialTrace_tensor_right (a b t' : Tab) (os : List Bool) (ha : a.Valid) (hb : b.Valid) (ra : a.StabReal)
    (rb : b.StabReal) (h : (tensor2 a b).partialTrace (rightSites a.n b.n) os = .ok t') :
    rho b.n (STab.ofTab t') = rho b.n (STab.ofTab b) ∧
    rho b.n (STab.ofTab t') = ptraceList (removalList (a.n + b.n) (rightSites a.n b.n))
      (rho (b.n + (removalList (a.n + b.n) (rightSites a.n b.n)).length) (STab.ofTab (tensor2 a b))) := by
  obtain ⟨n', g⟩ := partialTrace_tensor_right a b t' os ha hb ra rb h
  have v' := partialTrace_valid (tensor2 a b) t' _ os (tensor2_valid a b ha hb) h
  have r' := stabReal_of_grp_sub t' (Grp b) (grp_real b hb rb) (fun P' => (g P').mp)
  refine ⟨(rho_eq_of_gens b.n b t' rfl n' hb rb v' r' (fun i hi => (g _).mp (grp_gen t' i (by omega)))).symm, ?_⟩
  have hA : ∀ j, j < a.n + b.n → (j ∈ removalList (a.n + b.n) (rightSites a.n b.n) ↔ j < a.n) := by
    intro j _; exact mem_removalList_right a.n b.n j
  exact rho_partialTrace_factor b.n (tensor2 a b) t' (rightSites a.n b.n) os
    (by show a.n + b.n = b.n + (removalList (a.n + b.n) (rightSites a.n b.n)).length
        rw [removalList_right_length]; omega) (tensor2_valid a b ha hb) (tensor_stabReal a b ra rb)
    (tensor_factor_right a b ha hb ra rb _ hA) h

end Hilbert
end Graphiq
