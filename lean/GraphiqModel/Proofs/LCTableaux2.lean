/-
  Proofs/LCTableaux2.lean — `lc_check` on two stabilizer states is total: the validation by canonical forms cannot fail.

  * `indep_runCircuit`: a gate list maps independent generators to independent generators (a combination of the images
    without Pauli part is the image of a combination without Pauli part, because the gate-list action preserves the
    symplectic form);
  * `sameStabilizerState_of_spanEq`: two independent commuting real generator sets of the same signed group have the same
    canonical form (`_same_stabilizer_state` answers `True`).
  Both are what `lcCheckStates_total` (Proofs/LCTableaux3.lean) needs for the validation step.
-/
import GraphiqModel.Proofs.LCTableaux
import GraphiqModel.Proofs.StateToGraphTotal
import GraphiqModel.Proofs.StateToGraphGauge
import GraphiqModel.Proofs.InvTotal
import GraphiqModel.Proofs.InvClifford
namespace Graphiq.LC
open Graphiq PRow Tab Graphiq.TabSpec

theorem sameBits_one_of_sp (n : Nat) (Y : PRow) (h : ∀ W, sp n Y W = false) : SameBits n Y PRow.one := by
  intro j hj
  constructor
  · have := h (PRow.Zq j)
    unfold sp at this
    rw [parityTo_one n j _ hj (fun k _ hk => by simp [PRow.Zq, hk])] at this
    simpa [PRow.Zq, PRow.one] using this
  · have := h (PRow.Xq j)
    unfold sp at this
    rw [parityTo_one n j _ hj (fun k _ hk => by simp [PRow.Xq, hk])] at this
    simpa [PRow.Xq, PRow.one] using this

theorem indep_runCircuit (t : STab) (hi : t.Indep) (c : List Gate) (hc : ∀ g, g ∈ c → g.WF t.n) :
    (t.runCircuit c).Indep := by
  intro S hS i hi'
  have hn : (t.runCircuit c).n = t.n := runCircuit_n t c
  rw [hn] at hS hi'
  -- the combination of the images has no Pauli part
  have hb : SameBits t.n (STab.sprod t.n (t.runCircuit c).row S t.n) PRow.one := by
    intro j hj
    rw [STab.sprod_x, STab.sprod_z]
    exact hS j hj
  -- it is the image of the combination
  have e1 : EqOn t.n (STab.sprod t.n (t.runCircuit c).row S t.n) (actCirc c (STab.sprod t.n t.row S t.n)) :=
    (STab.sprod_eqOn_rows t.n _ _ S t.n (fun k hk => runCircuit_row t c hc k hk)).trans (actCirc_sprod t.n c hc t.row S t.n).symm
  have himg : SameBits t.n (actCirc c (STab.sprod t.n t.row S t.n)) PRow.one :=
    fun j hj => ⟨((e1.1 j hj).1).symm.trans (hb j hj).1, ((e1.1 j hj).2).symm.trans (hb j hj).2⟩
  -- hence the combination commutes with everything
  apply STab.indep_sprod t hi S _ i hi'
  apply sameBits_one_of_sp
  intro W
  rw [← STab.actCirc_sp t.n c hc, sp_congr t.n _ PRow.one _ (actCirc c W) himg (fun _ _ => ⟨rfl, rfl⟩)]
  exact STab.sp_one_left _ _

theorem sameStabilizerState_of_spanEq (a b : STab) (ga : a.Good) (gb : b.Good) (ia : a.Indep) (ib : b.Indep)
    (s : STab.SpanEq a b) : S2G.sameStabilizerState a b = .ok true := by
  obtain ⟨ca, e1⟩ := STab.canonicalForm_of_indep a ga ia
  obtain ⟨cb, e2⟩ := STab.canonicalForm_of_indep b gb ib
  obtain ⟨s1, g1⟩ := STab.canonicalForm_spanEq a ca ga e1
  obtain ⟨s2, g2⟩ := STab.canonicalForm_spanEq b cb gb e2
  have sab : STab.SpanEq ca cb := (s1.symm.trans s).trans s2
  have hrows := STab.canon_unique ca cb (STab.canonicalForm_canon a ca e1) (STab.canonicalForm_canon b cb e2) g1 g2 sab
  unfold S2G.sameStabilizerState
  rw [if_neg (fun h => h s.n_eq), e1]
  simp only
  rw [e2]
  simp only
  rw [beq_of_rows ca cb sab.n_eq hrows]

end Graphiq.LC
