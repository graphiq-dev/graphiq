/-
  Reach.lean — the driver's instances of `nx.ancestors` / `nx.descendants` (`Dag.reachLoop`, a breadth-first closure
  with fuel) meet the recorded specification (`AncSpec`, `DescSpec`); and the register prologue of `add` / `insert_at`
  creates no path between existing nodes (`EdgeExt`), so the edge argument of `insert_at` can be checked before it
  (`InsertOK.of_pre`).
-/
import GraphiqModel.Proofs.DagChain
namespace Graphiq
namespace Dag
open Relation

theorem nodup_eraseDups_aux {α : Type} [DecidableEq α] (k : Nat) : ∀ (l : List α), l.length ≤ k → l.eraseDups.Nodup := by
  induction k with
  | zero => intro l hl; cases l with | nil => simp | cons a t => simp at hl
  | succ k ih =>
    intro l hl
    cases l with
    | nil => simp
    | cons a t =>
      rw [List.eraseDups_cons, List.nodup_cons]
      constructor
      · intro hm
        rw [List.mem_eraseDups, List.mem_filter] at hm
        simp at hm
      · apply ih
        have := List.length_filter_le (fun b => !b == a) t
        simp at hl; omega

theorem nodup_eraseDups {α : Type} [DecidableEq α] (l : List α) : l.eraseDups.Nodup :=
  nodup_eraseDups_aux l.length l (Nat.le_refl _)

section BFS
variable (step : NodeId → List NodeId) (n : NodeId)

def StepRel (a b : NodeId) : Prop := b ∈ step a

/-- Invariant of the search from `n`: everything in `seen` is reachable from `n`; the frontier is reachable or `n` itself;
    `seen ∪ {n}` is closed under `step` except at frontier nodes (whose successors the next round adds).  Termination:
    each round that does not stop adds a node to the duplicate-free `seen ⊆ U`, so `U.length + 1 ≤ fuel + seen.length`
    keeps the fuel ahead of the number of rounds that can still happen. -/
theorem reachLoop_spec (U : List NodeId) (hU : ∀ a, ∀ b ∈ step a, b ∈ U) :
    ∀ (fuel : Nat) (frontier seen : List NodeId),
      (∀ x ∈ seen, TransGen (StepRel step) n x) →
      (∀ x ∈ frontier, x = n ∨ TransGen (StepRel step) n x) →
      (∀ x, (x = n ∨ x ∈ seen) → x ∉ frontier → ∀ y ∈ step x, y ∈ seen) →
      seen.Nodup → (∀ x ∈ seen, x ∈ U) → U.length + 1 ≤ fuel + seen.length → U.Nodup →
      ∀ x, x ∈ reachLoop step fuel frontier seen ↔ TransGen (StepRel step) n x := by
  intro fuel
  induction fuel with
  | zero =>
    intro frontier seen _ _ _ hnd hsub hfuel hUnd
    have := hnd.length_le_of_subset (fun x hx => hsub x hx)
    omega
  | succ fuel ih =>
    intro frontier seen h1 h2 h3 hnd hsub hfuel hUnd x
    unfold reachLoop
    simp only
    by_cases hnew : ((frontier.flatMap step).eraseDups.filter (fun x => !seen.contains x)).isEmpty = true
    · rw [if_pos hnew]
      have hempty : ∀ y, y ∈ frontier.flatMap step → y ∈ seen := by
        intro y hy
        by_cases hys : y ∈ seen
        · exact hys
        · exfalso
          have : y ∈ (frontier.flatMap step).eraseDups.filter (fun x => !seen.contains x) := by
            rw [List.mem_filter, List.mem_eraseDups]; exact ⟨hy, by simpa using hys⟩
          rw [List.isEmpty_iff.mp hnew] at this; simp at this
      have hclosed : ∀ a, (a = n ∨ a ∈ seen) → ∀ y ∈ step a, y ∈ seen := by
        intro a ha y hy
        by_cases haf : a ∈ frontier
        · exact hempty y (List.mem_flatMap.mpr ⟨a, haf, hy⟩)
        · exact h3 a ha haf y hy
      constructor
      · exact h1 x
      · intro ht
        induction ht with
        | single h => exact hclosed n (Or.inl rfl) _ h
        | tail _ h ih' => exact hclosed _ (Or.inr ih') _ h
    · rw [if_neg hnew]
      let new := (frontier.flatMap step).eraseDups.filter (fun x => !seen.contains x)
      have hmem_new : ∀ y, y ∈ new ↔ y ∈ frontier.flatMap step ∧ y ∉ seen := by
        intro y
        show y ∈ (frontier.flatMap step).eraseDups.filter (fun x => !seen.contains x) ↔ _
        rw [List.mem_filter, List.mem_eraseDups]; simp
      have hne : new ≠ [] := fun e => hnew (by show new.isEmpty = true; rw [e]; rfl)
      apply ih new (seen ++ new)
      · intro y hy
        rcases List.mem_append.mp hy with hy | hy
        · exact h1 y hy
        · obtain ⟨hy1, _⟩ := (hmem_new y).mp hy
          obtain ⟨a, ha, hya⟩ := List.mem_flatMap.mp hy1
          rcases h2 a ha with rfl | hta
          · exact TransGen.single hya
          · exact TransGen.tail hta hya
      · intro y hy
        obtain ⟨hy1, _⟩ := (hmem_new y).mp hy
        obtain ⟨a, ha, hya⟩ := List.mem_flatMap.mp hy1
        rcases h2 a ha with rfl | hta
        · exact Or.inr (TransGen.single hya)
        · exact Or.inr (TransGen.tail hta hya)
      · intro a ha hanew y hy
        have ha' : a = n ∨ a ∈ seen := by
          rcases ha with ha | ha
          · exact Or.inl ha
          · rcases List.mem_append.mp ha with ha | ha
            · exact Or.inr ha
            · exact absurd ha hanew
        by_cases haf : a ∈ frontier
        · by_cases hys : y ∈ seen
          · exact List.mem_append_left _ hys
          · exact List.mem_append_right _ ((hmem_new y).mpr ⟨List.mem_flatMap.mpr ⟨a, haf, hy⟩, hys⟩)
        · exact List.mem_append_left _ (h3 a ha' haf y hy)
      · rw [List.nodup_append]
        refine ⟨hnd, (nodup_eraseDups _).sublist List.filter_sublist |> fun h => h, ?_⟩
        intro a ha b hb e; subst e
        exact ((hmem_new a).mp hb).2 ha
      · intro y hy
        rcases List.mem_append.mp hy with hy | hy
        · exact hsub y hy
        · obtain ⟨hy1, _⟩ := (hmem_new y).mp hy
          obtain ⟨a, _, hya⟩ := List.mem_flatMap.mp hy1
          exact hU a y hya
      · have : 0 < new.length := List.length_pos_iff.mpr hne
        rw [List.length_append]; omega
      · exact hUnd

end BFS

theorem descendants_spec {c : Dag} {P : Paths} (g : Good c P) (n : NodeId) : DescSpec c n (c.descendants n) := by
  intro x
  unfold descendants
  have hrel : ∀ a b, StepRel (fun x => (c.outEdges x).map (·.dst)) a b ↔ c.E a b := by
    intro a b
    unfold StepRel E
    simp only [List.mem_map, outEdges, List.mem_filter, decide_eq_true_eq]
    constructor
    · rintro ⟨e, ⟨he, hs⟩, hd⟩; exact ⟨e, he, hs, hd⟩
    · rintro ⟨e, he, hs, hd⟩; exact ⟨e, ⟨he, hs⟩, hd⟩
  have hspec := reachLoop_spec (fun x => (c.outEdges x).map (·.dst)) n c.nodeIds
    (by
      intro a b hb
      exact (E_nodes g.inv ((hrel a b).mp hb)).2)
    (c.nodes.length + 1) [n] [] (by simp) (by simp) (by simp) (by simp) (by simp)
    (by simp [nodeIds]) g.inv.ids_nodup x
  have hT : TransGen (StepRel (fun x => (c.outEdges x).map (·.dst))) n x ↔ TransGen c.E n x := by
    constructor
    · intro h; exact TransGen.mono (fun a b hab => (hrel a b).mp hab) _ _ h
    · intro h; exact TransGen.mono (fun a b hab => (hrel a b).mpr hab) _ _ h
  rw [List.mem_filter, hspec, hT]
  constructor
  · exact fun h => h.1
  · intro h
    refine ⟨h, ?_⟩
    have : x ≠ n := fun e => g.acyc n (e ▸ h)
    simpa using this

theorem ancestors_spec {c : Dag} {P : Paths} (g : Good c P) (n : NodeId) : AncSpec c n (c.ancestors n) := by
  intro x
  unfold ancestors
  have hrel : ∀ a b, StepRel (fun x => (c.inEdges x).map (·.src)) a b ↔ c.E b a := by
    intro a b
    unfold StepRel E
    simp only [List.mem_map, inEdges, List.mem_filter, decide_eq_true_eq]
    constructor
    · rintro ⟨e, ⟨he, hd⟩, hs⟩; exact ⟨e, he, hs, hd⟩
    · rintro ⟨e, he, hs, hd⟩; exact ⟨e, ⟨he, hd⟩, hs⟩
  -- a backward path from n to x is a forward path from x to n
  have hT : TransGen (StepRel (fun x => (c.inEdges x).map (·.src))) n x ↔ TransGen c.E x n := by
    constructor
    · intro h
      induction h with
      | single h1 => exact TransGen.single ((hrel _ _).mp h1)
      | tail _ h2 ih => exact TransGen.head ((hrel _ _).mp h2) ih
    · intro h
      induction h using TransGen.head_induction_on with
      | single h1 => exact TransGen.single ((hrel _ _).mpr h1)
      | head h1 _ ih => exact TransGen.tail ih ((hrel _ _).mpr h1)
  have hspec := reachLoop_spec (fun x => (c.inEdges x).map (·.src)) n c.nodeIds
    (by
      intro a b hb
      exact (E_nodes g.inv ((hrel a b).mp hb)).1)
    (c.nodes.length + 1) [n] [] (by simp) (by simp) (by simp) (by simp) (by simp)
    (by simp [nodeIds]) g.inv.ids_nodup x
  rw [List.mem_filter, hspec, hT]
  constructor
  · exact fun h => h.1
  · intro h
    refine ⟨h, ?_⟩
    have : x ≠ n := fun e => g.acyc n (e ▸ h)
    simpa using this


/-- `c1` extends `c`, and no new edge leaves an old node -/
structure EdgeExt (c c1 : Dag) : Prop where
  keep : ∀ e ∈ c.edges, e ∈ c1.edges
  fresh : ∀ e ∈ c1.edges, e ∈ c.edges ∨ e.src ∉ c.nodeIds
  nodes : ∀ n ∈ c.nodeIds, n ∈ c1.nodeIds

theorem EdgeExt.refl (c : Dag) : EdgeExt c c := ⟨fun _ h => h, fun _ h => Or.inl h, fun _ h => h⟩

theorem EdgeExt.trans {c c1 c2 : Dag} (h1 : EdgeExt c c1) (h2 : EdgeExt c1 c2) : EdgeExt c c2 := by
  refine ⟨fun e he => h2.keep e (h1.keep e he), ?_, fun n hn => h2.nodes n (h1.nodes n hn)⟩
  intro e he
  rcases h2.fresh e he with h | h
  · exact h1.fresh e h
  · exact Or.inr (fun hm => h (h1.nodes _ hm))

theorem withNewReg_ext {c : Dag} {P : Paths} (h : Inv c P) {r : Reg} (hr : r.idx = c.regs r.ty) : EdgeExt c (c.withNewReg r) := by
  have hnl : ¬ c.live r := by simp [live, hr]
  have hinp : NodeId.inp r ∉ c.nodeIds := fun hm => hnl ((h.inp_iff r).mp hm)
  have hedges : (c.withNewReg r).edges = c.edges ++ [⟨.inp r, .out r, r⟩] := rfl
  have hids : (c.withNewReg r).nodeIds = c.nodeIds ++ [.inp r, .out r] := by simp [nodeIds, withNewReg]
  refine ⟨fun e he => by rw [hedges]; exact List.mem_append_left _ he, ?_, fun n hn => by rw [hids]; exact List.mem_append_left _ hn⟩
  intro e he
  rw [hedges] at he
  rcases List.mem_append.mp he with he | he
  · exact Or.inl he
  · simp at he; subst he; exact Or.inr hinp

theorem ensureRegs_ext {c : Dag} {P : Paths} (g : Good c P) (op : Op) : EdgeExt c (c.ensureRegs op).1 :=
  ensureRegs_preserves (Q := fun c' => EdgeExt c c') (fun g' hr h => h.trans (withNewReg_ext g'.inv hr)) g (EdgeExt.refl c) op

theorem EdgeExt.reach {c c1 : Dag} {P : Paths} (hext : EdgeExt c c1) (h : Inv c P) {a b : NodeId} (ha : a ∈ c.nodeIds)
    (hr : ReflTransGen c1.E a b) : ReflTransGen c.E a b ∧ b ∈ c.nodeIds := by
  induction hr with
  | refl => exact ⟨ReflTransGen.refl, ha⟩
  | tail _ hxy ih =>
    obtain ⟨e, he, hs, hd⟩ := hxy
    rcases hext.fresh e he with he' | hfr
    · have hE : c.E _ _ := ⟨e, he', hs, hd⟩
      exact ⟨ih.1.tail hE, (E_nodes h hE).2⟩
    · exact absurd (hs ▸ ih.2) hfr

/-- well-formedness of `insert_at` edges can be checked before the register prologue -/
theorem InsertOK.of_pre {c : Dag} {P : Paths} (g : Good c P) {op : Op} {es : List Edge} (hok : InsertOK c op es) :
    InsertOK (c.ensureRegs op).1 op es := by
  have hext := ensureRegs_ext g op
  refine ⟨fun e he => hext.keep e (hok.mem e he), hok.keys, ?_⟩
  intro e1 he1 e2 he2 hne hr
  have hdst : e1.dst ∈ c.nodeIds := (g.inv.edge_nodes (hok.mem e1 he1)).2
  exact hok.compat e1 he1 e2 he2 hne (hext.reach g.inv hdst hr).1

end Dag
end Graphiq
