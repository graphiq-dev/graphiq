/-
  Proofs/TabSpecGroup.lean — the stabilizer *group* of a valid Clifford tableau, for every number of qubits:

  * `Grp t` = signed span of the stabilizer rows; it is abelian, real, and does not contain `-1`;
  * the `2n` rows of a valid tableau span all Pauli strings (counting argument), hence a row that commutes with all of
    them is the identity string (`valid_nondeg`);
  * maximality: a real row commuting with every stabilizer generator is in the group up to sign (`grp_maximal`);
  * `IsStabGrp n H`: abstract "stabilizer group on n qubits"; a valid tableau whose generators lie in such an `H`
    has exactly the group `H` (`grp_unique`) — the tool by which the state specifications of C07 are proved.
-/
import GraphiqModel.Proofs.StabTableau
import Mathlib.Data.Fintype.BigOperators
namespace Graphiq.TabSpec
open Graphiq PRow Tab STab

def negate (a : PRow) : PRow := { a with r := !a.r }

@[simp] theorem negate_x (a : PRow) (j : Nat) : (negate a).x j = a.x j := rfl
@[simp] theorem negate_z (a : PRow) (j : Nat) : (negate a).z j = a.z j := rfl
@[simp] theorem negate_ip (a : PRow) : (negate a).ip = a.ip := rfl
@[simp] theorem negate_r (a : PRow) : (negate a).r = !a.r := rfl

theorem negate_negate (a : PRow) : negate (negate a) = a := by
  cases a; simp [negate]

theorem negate_ph (a : PRow) : (negate a).ph = (a.ph + 2) % 4 := by
  unfold PRow.ph negate
  cases a.r <;> cases a.ip <;> simp [Bool.toInt']

theorem negate_congr (n : Nat) (a b : PRow) (h : EqOn n a b) : EqOn n (negate a) (negate b) :=
  ⟨h.1, by simp [h.2.1], h.2.2⟩

theorem sp_negate_left (n : Nat) (a b : PRow) : sp n (negate a) b = sp n a b := rfl
theorem sp_negate_right (n : Nat) (a b : PRow) : sp n a (negate b) = sp n a b := rfl

theorem mul_negate_left (n : Nat) (a b : PRow) : EqOn n (PRow.mul n (negate a) b) (negate (PRow.mul n a b)) := by
  apply eqOn_of
  · intro j _; exact ⟨rfl, rfl⟩
  · rw [negate_ph, mul_ph, mul_ph, negate_ph]
    have : gSum n (negate a) b = gSum n a b := rfl
    rw [this]; omega

theorem mul_negate_right (n : Nat) (a b : PRow) : EqOn n (PRow.mul n a (negate b)) (negate (PRow.mul n a b)) := by
  apply eqOn_of
  · intro j _; exact ⟨rfl, rfl⟩
  · rw [negate_ph, mul_ph, mul_ph, negate_ph]
    have : gSum n a (negate b) = gSum n a b := rfl
    rw [this]; omega

theorem negate_ne (n : Nat) (a : PRow) : ¬ EqOn n (negate a) a := by
  intro h
  have := h.2.1
  simp at this

theorem eqOn_or_negate (n : Nat) (a b : PRow) (h : SameBits n a b) (hi : a.ip = b.ip) :
    EqOn n a b ∨ EqOn n a (negate b) := by
  by_cases hr : a.r = b.r
  · exact Or.inl ⟨h, hr, hi⟩
  · refine Or.inr ⟨h, ?_, hi⟩
    show a.r = !b.r
    revert hr; cases a.r <;> cases b.r <;> simp

def UpToSign (H : PRow → Prop) (P : PRow) : Prop := H P ∨ H (negate P)

theorem UpToSign.of_sameBits {n : Nat} {H : PRow → Prop} (heqv : ∀ a b, H a → EqOn n a b → H b) {P Q : PRow}
    (h : UpToSign H P) (sb : SameBits n P Q) (hi : P.ip = Q.ip) : UpToSign H Q := by
  rcases eqOn_or_negate n P Q sb hi with e | e
  · exact h.imp (heqv _ _ · e) (heqv _ _ · (negate_congr n _ _ e))
  · refine h.symm.imp (heqv _ _ · ?_) (heqv _ _ · e)
    have := negate_congr n _ _ e
    rwa [negate_negate] at this

theorem UpToSign.neg {H : PRow → Prop} {P : PRow} (h : UpToSign H (negate P)) : UpToSign H P := by
  rcases h with h | h
  · exact Or.inr h
  · rw [negate_negate] at h; exact Or.inl h

theorem mul_self_negate (n : Nat) (a : PRow) (hr : a.ip = false) :
    EqOn n (PRow.mul n a (negate a)) (negate PRow.one) :=
  (mul_negate_right n a a).trans (negate_congr n _ _ (mul_self n a hr))

theorem mul_mul_cancel (n : Nat) (P Z : PRow) (hZ : Z.ip = false) : EqOn n (PRow.mul n (PRow.mul n P Z) Z) P :=
  (mul_assoc n P Z Z).trans ((mul_congr n _ _ _ _ (EqOn.refl _ _) (mul_self n Z hZ)).trans (mul_one n P))

/-- if a product with a commuting real row is real, so is the other factor: `a = (a·b)·b` -/
theorem real_of_mul_real (n : Nat) (a b : PRow) (hab : (PRow.mul n a b).ip = false) (hb : b.ip = false)
    (hc : sp n a b = false) : a.ip = false := by
  rw [← (mul_mul_cancel n a b hb).2.2]
  exact mul_real n _ b hab hb (by rw [sp_mul_left, hc, sp_self]; rfl)

/-! ### the stabilizer group of a Clifford tableau -/

def Grp (t : Tab) (P : PRow) : Prop := InSpan t.n t.n t.stab P

/-- the stabilizer half as a stabilizer tableau (to reuse the span lemmas of `Proofs/StabTableau`) -/
def stabTab (t : Tab) : STab := ⟨t.n, t.stab⟩

theorem stabTab_good (t : Tab) (hv : t.Valid) (hr : t.StabReal) : (stabTab t).Good :=
  ⟨fun i hi => hr (i + t.n) (by omega) (by show i + t.n < 2 * t.n; have : i < t.n := hi; omega),
   fun i k hi hk => by
    have hi' : i < t.n := hi
    have hk' : k < t.n := hk
    show sp t.n (t.row (i + t.n)) (t.row (k + t.n)) = false
    rw [hv _ _ (by omega) (by omega)]; exact decide_eq_false (by omega)⟩

theorem grp_gen (t : Tab) (i : Nat) (hi : i < t.n) : Grp t (t.stab i) := InSpan.gen i hi

theorem row_eq_stab (t : Tab) (i : Nat) (h : t.n ≤ i) : t.row i = t.stab (i - t.n) := by
  unfold stab; congr 1; omega

theorem grp_row (t : Tab) (i : Nat) (h1 : t.n ≤ i) (h2 : i < 2 * t.n) : Grp t (t.row i) := by
  rw [row_eq_stab t i h1]; exact grp_gen t _ (by omega)

theorem grp_comm (t : Tab) (hv : t.Valid) (hr : t.StabReal) (a b : PRow) (ha : Grp t a) (hb : Grp t b) :
    sp t.n a b = false := STab.spn_comm (stabTab t) (stabTab_good t hv hr) a b ha hb

theorem grp_real (t : Tab) (hv : t.Valid) (hr : t.StabReal) (a : PRow) (ha : Grp t a) : a.ip = false :=
  STab.spn_real (stabTab t) (stabTab_good t hv hr) a ha

/-! ### the rows of a valid tableau span all Pauli strings -/

theorem sp_one_right (n : Nat) (a : PRow) : sp n a PRow.one = false := by
  rw [sp_comm]; exact STab.sp_one_left n a

theorem sp_sprod (n : Nat) (row : Nat → PRow) (S : Nat → Bool) (m : Nat) (P : PRow) :
    sp n P (sprod n row S m) = parityTo m (fun i => S i && sp n P (row i)) := by
  induction m with
  | zero => exact sp_one_right n P
  | succ k ih =>
    simp only [sprod, parityTo]
    cases h : S k
    · simp [ih]
    · simp [sp_mul_right, ih, Bool.xor_comm]

def partner (n i : Nat) : Nat := if i < n then i + n else i - n

theorem partner_lt (n i : Nat) (hi : i < 2 * n) : partner n i < 2 * n := by
  unfold partner; split <;> omega

/-- the partner of row `i` reads off whether `i` is in the subset -/
theorem sp_partner_sprod (t : Tab) (hv : t.Valid) (S : Nat → Bool) (i : Nat) (hi : i < 2 * t.n) :
    sp t.n (t.row (partner t.n i)) (sprod t.n t.row S (2 * t.n)) = S i := by
  rw [sp_sprod]
  have hp := partner_lt t.n i hi
  rw [parityTo_congr (2 * t.n) _ (fun k => decide (k = i) && S k)]
  · exact parityTo_single _ _ _ hi
  · intro k hk
    rw [hv _ _ hp hk]
    have : decide (partner t.n i + t.n = k ∨ k + t.n = partner t.n i) = decide (k = i) := by
      apply decide_eq_decide.mpr; unfold partner; split <;> omega
    rw [this, Bool.and_comm]

/-- a destabilizer reads off whether its stabilizer partner is in a subset product of stabilizers -/
theorem sp_destab_sprod (t : Tab) (hv : t.Valid) (S : Nat → Bool) (k : Nat) (hk : k < t.n) :
    sp t.n (t.row k) (sprod t.n t.stab S t.n) = S k := by
  rw [sp_sprod]
  rw [parityTo_congr t.n _ (fun i => decide (i = k) && S i)]
  · exact parityTo_single _ _ _ hk
  · intro i hi
    show (S i && sp t.n (t.row k) (t.row (i + t.n))) = _
    rw [hv _ _ (by omega) (by omega)]
    have : decide (k + t.n = i + t.n ∨ i + t.n + t.n = k) = decide (i = k) := decide_eq_decide.mpr (by omega)
    rw [this, Bool.and_comm]

/-- subset of `Fin N` as a predicate on `Nat` -/
def extB {N : Nat} (S : Fin N → Bool) : Nat → Bool := fun i => if h : i < N then S ⟨i, h⟩ else false

/-- **the `2n` rows of a valid tableau span every Pauli string** (the subset-product map is injective by the pairing,
    hence surjective by counting: `2^(2n)` subsets, `2^n · 2^n` strings) -/
theorem rows_span (t : Tab) (hv : t.Valid) (P : PRow) :
    ∃ S : Nat → Bool, SameBits t.n (sprod t.n t.row S (2 * t.n)) P := by
  let f : (Fin (2 * t.n) → Bool) → (Fin t.n → Bool) × (Fin t.n → Bool) :=
    fun S => (fun j => (sprod t.n t.row (extB S) (2 * t.n)).x j, fun j => (sprod t.n t.row (extB S) (2 * t.n)).z j)
  have inj : Function.Injective f := by
    intro S T h
    funext i
    have sb : SameBits t.n (sprod t.n t.row (extB S) (2 * t.n)) (sprod t.n t.row (extB T) (2 * t.n)) := by
      intro j hj
      exact ⟨congrFun (congrArg Prod.fst h) ⟨j, hj⟩, congrFun (congrArg Prod.snd h) ⟨j, hj⟩⟩
    have e1 := sp_partner_sprod t hv (extB S) i.val i.isLt
    have e2 := sp_partner_sprod t hv (extB T) i.val i.isLt
    rw [sp_congr _ _ _ _ _ (sameBits_refl _ _) sb, e2] at e1
    simpa [extB, i.isLt] using e1.symm
  have card : Fintype.card (Fin (2 * t.n) → Bool) = Fintype.card ((Fin t.n → Bool) × (Fin t.n → Bool)) := by
    have : 2 ^ (2 * t.n) = 2 ^ t.n * 2 ^ t.n := by rw [Nat.two_mul, Nat.pow_add]
    simpa using this
  have bij := (Fintype.bijective_iff_injective_and_card f).mpr ⟨inj, card⟩
  obtain ⟨S, hS⟩ := bij.2 (fun j => P.x j, fun j => P.z j)
  refine ⟨extB S, fun j hj => ?_⟩
  exact ⟨congrFun (congrArg Prod.fst hS) ⟨j, hj⟩, congrFun (congrArg Prod.snd hS) ⟨j, hj⟩⟩

theorem valid_nondeg (t : Tab) (hv : t.Valid) (P : PRow) (h : ∀ i, i < 2 * t.n → sp t.n P (t.row i) = false) :
    ∀ j, j < t.n → P.x j = false ∧ P.z j = false := by
  intro j hj
  have comm : ∀ S, sp t.n P (sprod t.n t.row S (2 * t.n)) = false := by
    intro S; rw [sp_sprod]; apply parityTo_zero; intro i hi; rw [h i hi]; simp
  constructor
  · obtain ⟨S, hS⟩ := rows_span t hv (Zq j)
    have := comm S
    rw [sp_congr _ _ _ _ _ (sameBits_refl _ _) hS, sp_Zq _ _ _ _ hj] at this
    exact this
  · obtain ⟨S, hS⟩ := rows_span t hv (Xq j)
    have := comm S
    rw [sp_congr _ _ _ _ _ (sameBits_refl _ _) hS, sp_Xq _ _ _ _ hj] at this
    exact this

theorem sameBits_of_sp (t : Tab) (hv : t.Valid) (P Q : PRow)
    (h : ∀ i, i < 2 * t.n → sp t.n P (t.row i) = sp t.n Q (t.row i)) : SameBits t.n P Q := by
  have hall : ∀ i, i < 2 * t.n → sp t.n (PRow.mul t.n P Q) (t.row i) = false := by
    intro i hi; rw [sp_mul_left, h i hi]; simp
  intro j hj
  have := valid_nondeg t hv _ hall j hj
  simp only [mul_x, mul_z] at this
  exact ⟨bne_eq_false_iff_eq.mp this.1, bne_eq_false_iff_eq.mp this.2⟩

theorem grp_maximal (t : Tab) (hv : t.Valid) (hr : t.StabReal) (P : PRow) (hP : P.ip = false)
    (hc : ∀ i, i < t.n → sp t.n P (t.stab i) = false) : UpToSign (Grp t) P := by
  have good := stabTab_good t hv hr
  have hQ : Grp t (sprod t.n t.stab (fun i => sp t.n P (t.row i)) t.n) :=
    (InSpan.closed _ _ _).sprod_mem (fun i hi => grp_gen t i hi) _
  generalize hQdef : sprod t.n t.stab (fun i => sp t.n P (t.row i)) t.n = Q at hQ
  have sb : SameBits t.n P Q := by
    apply sameBits_of_sp t hv
    intro i hi
    by_cases hin : i < t.n
    · have e := sp_destab_sprod t hv (fun i => sp t.n P (t.row i)) i hin
      rw [hQdef] at e
      rw [sp_comm t.n Q (t.row i), e, sp_comm]
    · rw [row_eq_stab t i (by omega), hc _ (by omega)]
      exact (STab.spn_comm_gens (stabTab t) good Q hQ (i - t.n) (by show i - t.n < t.n; omega)).symm
  exact UpToSign.of_sameBits (fun a b => InSpan.eqv a b) (Or.inl hQ) (fun j hj => ⟨(sb j hj).1.symm, (sb j hj).2.symm⟩)
    ((grp_real t hv hr Q hQ).trans hP.symm)

theorem grp_trivial_of_bits (t : Tab) (hv : t.Valid) (hr : t.StabReal) (P : PRow) (hP : Grp t P)
    (hz : ∀ j, j < t.n → P.x j = false ∧ P.z j = false) : EqOn t.n P PRow.one := by
  obtain ⟨S, hS⟩ := InSpan.repr (STab.spn_comm (stabTab t) (stabTab_good t hv hr))
    (STab.spn_real (stabTab t) (stabTab_good t hv hr)) hP
  have hS' : EqOn t.n P (sprod t.n t.stab S t.n) := hS
  have hSf : ∀ k, k < t.n → S k = false := by
    intro k hk
    have e := sp_destab_sprod t hv S k hk
    rw [← sp_eqOn _ _ _ _ _ (EqOn.refl _ _) hS'] at e
    have : sp t.n (t.row k) P = false := by
      unfold sp; apply parityTo_zero; intro j hj; simp [(hz j hj).1, (hz j hj).2]
    rw [this] at e; exact e.symm
  rw [STab.sprod_none _ _ _ _ hSf] at hS'
  exact hS'

theorem grp_no_neg_one (t : Tab) (hv : t.Valid) (hr : t.StabReal) : ¬ Grp t (negate PRow.one) := by
  intro h
  have := grp_trivial_of_bits t hv hr _ h (fun j _ => ⟨rfl, rfl⟩)
  exact negate_ne t.n PRow.one this

/-! ### abstract stabilizer groups -/

/-- a set of rows that is a stabilizer group on `n` qubits: closed under the signed product and row equality,
    real, abelian, without `-1` -/
structure IsStabGrp (n : Nat) (H : PRow → Prop) : Prop where
  one : H PRow.one
  mul : ∀ a b, H a → H b → H (PRow.mul n a b)
  eqv : ∀ a b, H a → EqOn n a b → H b
  real : ∀ a, H a → a.ip = false
  comm : ∀ a b, H a → H b → sp n a b = false
  noNeg : ¬ H (negate PRow.one)

theorem IsStabGrp.not_negate {n : Nat} {H : PRow → Prop} (h : IsStabGrp n H) (a : PRow) (ha : H a) : ¬ H (negate a) := by
  intro hn
  exact h.noNeg (h.eqv _ _ (h.mul _ _ ha hn) (mul_self_negate n a (h.real a ha)))

theorem IsStabGrp.negate_iff {n : Nat} {H : PRow → Prop} (h : IsStabGrp n H) (a : PRow) (ha : H (negate a)) : ¬ H a := by
  intro hn
  have := h.not_negate (negate a) ha
  rw [negate_negate] at this
  exact this hn

theorem grp_isStabGrp (t : Tab) (hv : t.Valid) (hr : t.StabReal) : IsStabGrp t.n (Grp t) where
  one := InSpan.one
  mul a b ha hb := InSpan.mul a b ha hb
  eqv a b ha hab := InSpan.eqv a b ha hab
  real a ha := grp_real t hv hr a ha
  comm a b ha hb := grp_comm t hv hr a b ha hb
  noNeg := grp_no_neg_one t hv hr

theorem grp_le (t : Tab) (H : PRow → Prop) (hH : IsStabGrp t.n H) (hgen : ∀ i, i < t.n → H (t.stab i)) :
    ∀ P, Grp t P → H P :=
  fun _ hP => InSpan.least ⟨hH.one, hH.mul, hH.eqv⟩ hgen hP

theorem stabReal_of_gens (t : Tab) (H : PRow → Prop) (hH : IsStabGrp t.n H) (hgen : ∀ i, i < t.n → H (t.stab i)) :
    t.StabReal := by
  intro i h1 h2
  rw [row_eq_stab t i h1]; exact hH.real _ (hgen _ (by omega))

theorem grp_unique (t : Tab) (hv : t.Valid) (H : PRow → Prop) (hH : IsStabGrp t.n H)
    (hgen : ∀ i, i < t.n → H (t.stab i)) : ∀ P, Grp t P ↔ H P := by
  have hr : t.StabReal := stabReal_of_gens t H hH hgen
  intro P
  constructor
  · exact grp_le t H hH hgen P
  · intro hP
    rcases grp_maximal t hv hr P (hH.real P hP) (fun i hi => hH.comm _ _ hP (hgen i hi)) with h | h
    · exact h
    · exact absurd (grp_le t H hH hgen _ h) (hH.not_negate P hP)

end Graphiq.TabSpec
