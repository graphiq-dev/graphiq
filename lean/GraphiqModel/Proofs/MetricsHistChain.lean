/-
  MetricsHistChain.lean — what the ASAP specification means (C18): `Spec.layerOf`/`Spec.depth`/`Spec.regDepth` (computed by
  layering the operation list over shared registers) ARE the lengths of longest dependency chains of the operation list.

  A dependency chain of an operation list is a subsequence o₁, o₂, …, o_k (positions increasing) in which consecutive
  operations share a register (quantum, or classical as wired).  Positions are identified by the prefix before the operation
  (`seq = pre ++ o :: suf`), so no index arithmetic is needed.
-/
import GraphiqModel.Proofs.MetricsHistDepth
namespace Graphiq
namespace Metrics
open Dag Relation

/-- `Chain seq pre o k`: there is a dependency chain of `k` operations of `seq` ending at the operation `o` that stands
    after the prefix `pre` -/
inductive Chain (seq : List Op) : List Op → Op → Nat → Prop
  | single {pre : List Op} {o : Op} {suf : List Op} : seq = pre ++ o :: suf → Chain seq pre o 1
  | snoc {pre1 : List Op} {o1 : Op} {mid : List Op} {o2 : Op} {suf2 : List Op} {k : Nat} :
      Chain seq pre1 o1 k → seq = (pre1 ++ o1 :: mid) ++ o2 :: suf2 → (∃ r, r ∈ opRegs o1 ∧ r ∈ opRegs o2) →
      Chain seq (pre1 ++ o1 :: mid) o2 (k + 1)

theorem frontGet_fronts_snoc (pre : List Op) (op : Op) (r : Reg) :
    Spec.frontGet (Spec.fronts (pre ++ [op])) r =
      if r ∈ opRegs op then Spec.layerOf (Spec.fronts pre) op else Spec.frontGet (Spec.fronts pre) r := by
  rw [fronts_append, frontGet_pushLayer]

theorem frontGet_mono (a b : List Op) (r : Reg) :
    Spec.frontGet (Spec.fronts a) r ≤ Spec.frontGet (Spec.fronts (a ++ b)) r := by
  induction b using List.reverseRec with
  | nil => simp
  | append_singleton b op ih =>
    rw [← List.append_assoc, frontGet_fronts_snoc]
    by_cases hr : r ∈ opRegs op
    · rw [if_pos hr]
      have := layerOf_ge (Spec.fronts (a ++ b)) op hr
      omega
    · rw [if_neg hr]; exact ih

theorem layer_le_later_front (pre1 : List Op) (o1 : Op) (mid : List Op) {r : Reg} (hr : r ∈ opRegs o1) :
    Spec.layerOf (Spec.fronts pre1) o1 ≤ Spec.frontGet (Spec.fronts (pre1 ++ o1 :: mid)) r := by
  have h1 : Spec.frontGet (Spec.fronts (pre1 ++ [o1])) r = Spec.layerOf (Spec.fronts pre1) o1 := by
    rw [frontGet_fronts_snoc, if_pos hr]
  have h2 := frontGet_mono (pre1 ++ [o1]) mid r
  have e : pre1 ++ o1 :: mid = (pre1 ++ [o1]) ++ mid := by simp
  rw [e]; omega

theorem front_is_layer (pre : List Op) (r : Reg) :
    Spec.frontGet (Spec.fronts pre) r = 0 ∨
    ∃ pre1 o1 mid, pre = pre1 ++ o1 :: mid ∧ r ∈ opRegs o1 ∧
      Spec.frontGet (Spec.fronts pre) r = Spec.layerOf (Spec.fronts pre1) o1 := by
  induction pre using List.reverseRec with
  | nil => left; simp [Spec.fronts, Spec.frontGet]
  | append_singleton pre op ih =>
    rw [frontGet_fronts_snoc]
    by_cases hr : r ∈ opRegs op
    · rw [if_pos hr]
      exact Or.inr ⟨pre, op, [], rfl, hr, rfl⟩
    · rw [if_neg hr]
      rcases ih with h0 | ⟨pre1, o1, mid, hp, hr1, hf⟩
      · exact Or.inl h0
      · exact Or.inr ⟨pre1, o1, mid ++ [op], by rw [hp]; simp, hr1, hf⟩

theorem Chain.le_layer {seq : List Op} {pre : List Op} {o : Op} {k : Nat} (h : Chain seq pre o k) :
    k ≤ Spec.layerOf (Spec.fronts pre) o := by
  induction h with
  | single _ => unfold Spec.layerOf; omega
  | @snoc pre1 o1 mid o2 suf2 k _ _ hdep ih =>
    obtain ⟨r, hr1, hr2⟩ := hdep
    have h1 := layer_le_later_front pre1 o1 mid hr1
    have h2 := layerOf_ge (Spec.fronts (pre1 ++ o1 :: mid)) o2 hr2
    omega

theorem chain_of_layer (seq : List Op) : ∀ (n : Nat) (pre : List Op) (o : Op) (suf : List Op), pre.length ≤ n →
    seq = pre ++ o :: suf → Chain seq pre o (Spec.layerOf (Spec.fronts pre) o) := by
  intro n
  induction n with
  | zero =>
    intro pre o suf hlen hseq
    have : pre = [] := List.length_eq_zero_iff.mp (by omega)
    subst this
    have : Spec.layerOf (Spec.fronts []) o = 1 := by
      unfold Spec.layerOf
      obtain ⟨_, _, a3⟩ := foldl_max_nat (fun r => Spec.frontGet (Spec.fronts []) r) (Spec.opRegs o) 0
      rcases a3 with h0 | ⟨x, _, hx⟩
      · rw [h0]
      · rw [← hx]; simp [Spec.fronts, Spec.frontGet]
    rw [this]; exact Chain.single hseq
  | succ n ih =>
    intro pre o suf hlen hseq
    obtain ⟨_, _, a3⟩ := foldl_max_nat (fun r => Spec.frontGet (Spec.fronts pre) r) (Spec.opRegs o) 0
    have hlay : Spec.layerOf (Spec.fronts pre) o =
        1 + (Spec.opRegs o).foldl (fun m r => max m (Spec.frontGet (Spec.fronts pre) r)) 0 := rfl
    rcases a3 with h0 | ⟨r, hr, hrM⟩
    · rw [hlay, h0]; exact Chain.single hseq
    · rcases front_is_layer pre r with hz | ⟨pre1, o1, mid, hp, hr1, hf⟩
      · rw [hlay, ← hrM, hz]; exact Chain.single hseq
      · have hlen1 : pre1.length ≤ n := by
          have := congrArg List.length hp
          simp at this; omega
        have hseq1 : seq = pre1 ++ o1 :: (mid ++ o :: suf) := by rw [hseq, hp]; simp
        have c1 := ih pre1 o1 (mid ++ o :: suf) hlen1 hseq1
        have hseq2 : seq = (pre1 ++ o1 :: mid) ++ o :: suf := by rw [hseq, hp]
        have c2 := Chain.snoc c1 hseq2 ⟨r, hr1, hr⟩
        rw [hlay, ← hrM, hf, hp, Nat.add_comm]
        exact c2

theorem layer_is_longest_chain {seq pre : List Op} {o : Op} {suf : List Op} (hseq : seq = pre ++ o :: suf) :
    Chain seq pre o (Spec.layerOf (Spec.fronts pre) o) ∧ ∀ k, Chain seq pre o k → k ≤ Spec.layerOf (Spec.fronts pre) o :=
  ⟨chain_of_layer seq pre.length pre o suf (Nat.le_refl _) hseq, fun _ h => h.le_layer⟩

theorem Chain.split {seq pre : List Op} {o : Op} {k : Nat} (h : Chain seq pre o k) : ∃ suf, seq = pre ++ o :: suf := by
  cases h with
  | single hs => exact ⟨_, hs⟩
  | snoc _ hs _ => exact ⟨_, hs⟩

theorem depth_is_longest_chain (seq : List Op) :
    (∀ pre o k, Chain seq pre o k → k ≤ Spec.depth seq) ∧ (seq ≠ [] → ∃ pre o, Chain seq pre o (Spec.depth seq)) := by
  constructor
  · intro pre o k h
    obtain ⟨suf, hs⟩ := h.split
    have h1 := h.le_layer
    have h2 := layer_le_depth pre o suf
    rw [← hs] at h2
    omega
  · intro hne
    -- the maximum of the layers is attained at some split
    have key : ∀ (s : List Op), s ≠ [] → ∃ pre o suf, s = pre ++ o :: suf ∧ Spec.layerOf (Spec.fronts pre) o = Spec.depth s := by
      intro s
      induction s using List.reverseRec with
      | nil => intro h; exact absurd rfl h
      | append_singleton pre op ih =>
        intro _
        rw [spec_depth_append]
        by_cases hc : Spec.depth pre ≤ Spec.layerOf (Spec.fronts pre) op
        · exact ⟨pre, op, [], by simp, by omega⟩
        · have hpre : pre ≠ [] := by
            intro e; subst e
            simp [Spec.depth, Spec.layers] at hc
          obtain ⟨p1, o1, s1, hp, hl⟩ := ih hpre
          exact ⟨p1, o1, s1 ++ [op], by rw [hp]; simp, by rw [hl]; omega⟩
    obtain ⟨pre, o, suf, hs, hl⟩ := key seq hne
    exact ⟨pre, o, by rw [← hl]; exact (layer_is_longest_chain hs).1⟩

theorem regDepth_is_longest_chain (seq : List Op) (r : Reg) :
    (∀ pre o k, Chain seq pre o k → r ∈ opRegs o → k ≤ Spec.regDepth seq r) ∧
    (Spec.regDepth seq r = 0 ∨ ∃ pre o, r ∈ opRegs o ∧ Chain seq pre o (Spec.regDepth seq r)) := by
  unfold Spec.regDepth
  constructor
  · intro pre o k h hr
    obtain ⟨suf, hs⟩ := h.split
    have h1 := h.le_layer
    have h2 := layer_le_later_front pre o suf hr
    rw [← hs] at h2
    omega
  · rcases front_is_layer seq r with h0 | ⟨pre1, o1, mid, hp, hr1, hf⟩
    · exact Or.inl h0
    · right
      exact ⟨pre1, o1, hr1, by rw [hf]; exact (layer_is_longest_chain hp).1⟩

end Metrics
end Graphiq
