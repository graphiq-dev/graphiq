/-
  Proofs/LCTotalEch.lean — the full echelon structure of `row_reduction`'s output (towards totality of `is_lc_equivalent`:
  the internal assertions cannot fire).

  `Piv` (Proofs/LC.lean) records the pivots and the zeros below them.  `Ech` adds what the assertions need: every pivot is
  the first 1 of its row, and the rows below the pivot rows are zero.  Together they are the elimination invariant
  `Elim.RowEch` (Proofs/BitEchelon.lean) read on a `BMat` (`rowEch_iff`), which the loop carries; the consumers (LCTotalCols, `BasisCtx`)
  read `Piv` and `Ech.left`.  `rowReduction_ech`: both hold for the output, the returned index `last` satisfies `last + 1 ≥ 0`, and the
  pivot rows are the rows `0 … last`.  With `4 n` pivots the only solution is zero, which is why the full-rank shortcut is right
  (`isLcEquivalent_no_fullrank`, Proofs/LCTotal.lean).
-/
import GraphiqModel.Proofs.LC
namespace Graphiq.LC
open Graphiq

/-- the part of the echelon structure that `Piv` does not record: the pivot of row `i < k` is the first 1 of the row, and the
    rows from `k` on are zero in the columns `< bound` -/
structure Ech (x : BMat) (k bound : Nat) (piv : Nat → Nat) : Prop where
  left : ∀ i, i < k → ∀ j, j < piv i → x.f i j = false
  low : ∀ i, k ≤ i → i < x.r → ∀ j, j < bound → x.f i j = false

/-- `Piv` and `Ech` together are the elimination invariant `Elim.RowEch` of the matrix -/
theorem rowEch_iff (x : BMat) (k b : Nat) (piv : Nat → Nat) : (Piv x k b piv ∧ Ech x k b piv) ↔ Elim.RowEch x.r x.f piv k b :=
  ⟨fun ⟨hP, hE⟩ => ⟨hP.bound, hP.incr, hP.one, fun i j hi hj => hE.left i hi j hj, fun i j h1 h2 hj => hE.low i h1 h2 j hj⟩,
   fun h => ⟨⟨h.one, h.col_below, h.mono, h.piv_lt⟩, ⟨fun i hi j hj => h.before i j hi hj, fun i h1 h2 j hj => h.below i j h1 h2 hj⟩⟩⟩

theorem eliminate_rowEch (x : BMat) (pr pc o : Nat) (rest : List Nat) (piv : Nat → Nat) (h : Elim.RowEch x.r x.f piv pr pc)
    (ho : theOnes x pr pc = o :: rest) (hpr : pr < x.r) (hpc : pc < x.c) :
    Elim.RowEch (eliminate x pr o rest).r (eliminate x pr o rest).f (fun i => if i = pr then pc else piv i) (pr + 1) (pc + 1) := by
  obtain ⟨hf, hmin, hrest, hnd, hprn⟩ := Elim.ones_cons (q := fun i => x.f i pc) ho
  rw [(eliminate_dims x pr o rest).1]
  exact h.elim hpr hpc hf hmin hrest (rowSwap_entry x o pr) (eliminate_entry x pr o rest hnd hprn)

/-- the state reached when the row reduction stops -/
def FinalEch (res : BMat × BMat × Int) : Prop :=
  ∃ piv, Piv res.1 (res.2.2 + 1).toNat res.1.c piv ∧ Ech res.1 (res.2.2 + 1).toNat res.1.c piv ∧
    (res.2.2 + 1).toNat ≤ res.1.r ∧ 0 ≤ res.2.2 + 1

theorem theOnes_nil (x : BMat) (pr pc : Nat) (h : theOnes x pr pc = []) (i : Nat) (hi : pr ≤ i) (hir : i < x.r) :
    x.f i pc = false := by
  cases hx : x.f i pc
  · rfl
  · have : i ∈ theOnes x pr pc := (mem_theOnes x pr pc i).mpr ⟨hir, hi, hx⟩
    rw [h] at this; cases this

theorem FinalEch.of {x z : BMat} {last : Int} {k bound : Nat} {piv : Nat → Nat} (hk : last + 1 = k) (hb : bound = x.c)
    (h : Elim.RowEch x.r x.f piv k bound) (hkr : k ≤ x.r) : FinalEch (x, z, last) := by
  subst hb
  have e : (last + 1).toNat = k := by omega
  obtain ⟨hP, hE⟩ := (rowEch_iff ..).2 h
  refine ⟨piv, ?_, ?_, ?_, ?_⟩
  · show Piv x (last + 1).toNat x.c piv
    rw [e]; exact hP
  · show Ech x (last + 1).toNat x.c piv
    rw [e]; exact hE
  · show (last + 1).toNat ≤ x.r
    omega
  · show 0 ≤ last + 1
    omega

theorem rowReductionLoop_ech (fuel : Nat) (x z : BMat) (pr pc : Nat) (piv : Nat → Nat) (hpr : pr < x.r) (hpc : pc < x.c)
    (hf : x.c ≤ pc + fuel) (h : Elim.RowEch x.r x.f piv pr pc) : FinalEch (rowReductionLoop fuel x z pr pc) := by
  induction fuel generalizing x z pr pc piv with
  | zero => omega
  | succ f ih =>
    simp only [rowReductionLoop]
    have e0 : Int.toNat (pr : Int) = pr := by simp
    have e1 : ((pr : Int) + 1).toNat = pr + 1 := by omega
    have hs := rowRedOneStep_case x z pr pc
    generalize rowRedOneStep x z pr pc = s at hs ⊢
    cases hs with
    | lastColEmpty hlast hnil =>
      simp only [Bool.false_eq_true, if_false]
      exact FinalEch.of (k := pr) (by omega) hlast (h.skip (theOnes_nil x pr pc hnil)) (by omega)
    | lastColElim o rest hlast ho =>
      simp only [Bool.false_eq_true, if_false]
      have hd := eliminate_dims x pr o rest
      exact FinalEch.of (k := pr + 1) (by omega) (by rw [hd.2]; omega) (eliminate_rowEch x pr pc o rest piv h ho hpr hpc)
        (by rw [hd.1]; omega)
    | lastRowSet _ hrow hx =>
      simp only [Bool.false_eq_true, if_false]
      -- the last row becomes a pivot row; no row is left below it
      exact FinalEch.of (k := pr + 1) (by omega) rfl
        ((h.take hpr hx fun i h1 h2 => by omega).widen (by omega) (by omega)) (by omega)
    | lastRowSkip hlast hrow hx =>
      simp only [if_true]
      rw [e0]
      exact ih x z pr (pc + 1) piv hpr (by omega) (by omega) (h.skip fun i hi hir => by
        have : i = pr := by omega
        rw [this]; exact hx)
    | skip hlast _ hnil =>
      simp only [if_true]
      rw [e0]
      exact ih x z pr (pc + 1) piv hpr (by omega) (by omega) (h.skip (theOnes_nil x pr pc hnil))
    | elim o rest hlast hrow ho =>
      simp only [if_true]
      have hd := eliminate_dims x pr o rest
      rw [e1]
      exact ih _ _ (pr + 1) (pc + 1) _ (by rw [hd.1]; omega) (by rw [hd.2]; omega) (by rw [hd.2]; omega)
        (eliminate_rowEch x pr pc o rest piv h ho hpr hpc)

/-- **the output of `row_reduction` is in echelon form**: rows `0 … last` carry pivots at strictly increasing columns, each
    the first 1 of its row with zeros below it; the other rows are zero; `last ≥ -1` -/
theorem rowReduction_ech (x z : BMat) (hr : 0 < x.r) (hc : 0 < x.c) : FinalEch (rowReduction x z) :=
  rowReductionLoop_ech x.c x z 0 0 (fun i => i) hr hc (by omega) (Elim.RowEch.init ..)

end Graphiq.LC
