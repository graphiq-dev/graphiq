/-
  Proofs/HilbertBasic.lean — the Hilbert-space reading of the Pauli-group model, basic layer:
  * powers of the imaginary unit with integer exponents (`iPow`), which only depend on the exponent mod 4;
  * "monomial" matrices `mono f e` (one non-zero entry `i^(e b)` in column `b`, at row `f b`) and their calculus
    (product, conjugate transpose, unitarity);
  * computational-basis bit strings `Bits n = Fin n → Bool` (bit `j` belongs to qubit `j`, as in graphiq's
    `np.kron` chains where qubit 0 is the left-most factor).
-/
import Mathlib.Data.Complex.Basic
import Mathlib.LinearAlgebra.Matrix.ConjTranspose
import GraphiqModel.Proofs.PauliGroup
namespace Graphiq
namespace Hilbert
open Matrix

noncomputable def iPow (k : ℤ) : ℂ := Complex.I ^ k

theorem iPow_zero : iPow 0 = 1 := by simp [iPow]
theorem iPow_one : iPow 1 = Complex.I := by simp [iPow]
theorem iPow_two : iPow 2 = -1 := by
  show Complex.I ^ (2 : ℤ) = -1
  have : (Complex.I : ℂ) ^ (2 : ℤ) = Complex.I ^ (2 : ℕ) := by norm_cast
  rw [this, Complex.I_sq]
theorem iPow_add (a b : ℤ) : iPow (a + b) = iPow a * iPow b := zpow_add₀ Complex.I_ne_zero a b
theorem iPow_four : iPow 4 = 1 := by
  show Complex.I ^ (4 : ℤ) = 1
  have : (Complex.I : ℂ) ^ (4 : ℤ) = Complex.I ^ (4 : ℕ) := by norm_cast
  rw [this, Complex.I_pow_four]
theorem iPow_four_mul (m : ℤ) : iPow (4 * m) = 1 := by
  show Complex.I ^ (4 * m) = 1
  rw [zpow_mul]
  have : (Complex.I : ℂ) ^ (4 : ℤ) = 1 := iPow_four
  rw [this, one_zpow]
theorem iPow_three : iPow 3 = -Complex.I := by
  have : (3 : ℤ) = 2 + 1 := by norm_num
  rw [this, iPow_add, iPow_two, iPow_one]; ring
theorem iPow_ne_zero (k : ℤ) : iPow k ≠ 0 := zpow_ne_zero k Complex.I_ne_zero

theorem iPow_congr {a b : ℤ} (h : a % 4 = b % 4) : iPow a = iPow b := by
  have ha : a = a % 4 + 4 * (a / 4) := (Int.emod_add_mul_ediv a 4).symm
  have hb : b = b % 4 + 4 * (b / 4) := (Int.emod_add_mul_ediv b 4).symm
  rw [ha, hb, iPow_add, iPow_add, iPow_four_mul, iPow_four_mul, h]

theorem iPow_neg_mul (k : ℤ) : iPow (-k) * iPow k = 1 := by
  rw [← iPow_add]; simp [iPow_zero]
theorem iPow_mul_neg (k : ℤ) : iPow k * iPow (-k) = 1 := by
  rw [← iPow_add]; simp [iPow_zero]

theorem star_iPow (k : ℤ) : star (iPow k) = iPow (-k) := by
  unfold iPow
  have h : star (Complex.I ^ k) = (star Complex.I) ^ k := map_zpow₀ (starRingEnd ℂ) Complex.I k
  rw [h]
  have h2 : star Complex.I = Complex.I⁻¹ := by
    rw [Complex.inv_I]; exact Complex.conj_I
  rw [h2, inv_zpow, zpow_neg]

theorem iPow_two_mul_toInt' (b : Bool) : iPow (2 * Bool.toInt' b) = if b then -1 else 1 := by
  cases b
  · simp [Bool.toInt', iPow_zero]
  · simp [Bool.toInt', iPow_two]

/-- for Hermitian `A`, `B`: `A B = B` gives `B A = B` (take adjoints) -/
theorem mul_eq_of_hermitian {ι : Type} [Fintype ι] (A B : Matrix ι ι ℂ) (hA : Aᴴ = A) (hB : Bᴴ = B) (h : A * B = B) :
    B * A = B := by
  have := congrArg Matrix.conjTranspose h
  rwa [Matrix.conjTranspose_mul, hA, hB] at this

/-! ### monomial matrices -/

variable {β : Type} [DecidableEq β]

/-- the matrix with entry `i ^ (e b)` at `(f b, b)` and zero elsewhere: `|b⟩ ↦ i^(e b) |f b⟩` -/
noncomputable def mono (f : β → β) (e : β → ℤ) : Matrix β β ℂ :=
  Matrix.of fun a b => if a = f b then iPow (e b) else 0

theorem mono_apply (f : β → β) (e : β → ℤ) (a b : β) : mono f e a b = if a = f b then iPow (e b) else 0 := rfl

theorem mono_congr {f f' : β → β} {e e' : β → ℤ} (hf : f = f') (he : ∀ b, e b % 4 = e' b % 4) :
    mono f e = mono f' e' := by
  subst hf
  ext a b
  simp only [mono_apply]
  split
  · exact iPow_congr (he b)
  · rfl

theorem mono_id_zero : mono (id : β → β) (fun _ => 0) = 1 := by
  ext a b
  simp only [mono_apply, iPow_zero, id, Matrix.one_apply]

theorem mono_conjTranspose (f : β → β) (hf : Function.Involutive f) (e : β → ℤ) :
    (mono f e)ᴴ = mono f (fun b => -(e (f b))) := by
  ext a b
  simp only [Matrix.conjTranspose_apply, mono_apply]
  by_cases h : b = f a
  · have h' : a = f b := by rw [h, hf a]
    rw [if_pos h, if_pos h', star_iPow, h, hf a]
  · have h' : ¬ a = f b := by
      intro h2; apply h; rw [h2, hf b]
    rw [if_neg h, if_neg h', star_zero]

variable [Fintype β]

theorem mul_mono_apply (M : Matrix β β ℂ) (f : β → β) (e : β → ℤ) (a c : β) :
    (M * mono f e) a c = M a (f c) * iPow (e c) := by
  rw [Matrix.mul_apply, Finset.sum_eq_single (f c)]
  · simp [mono_apply]
  · intro b _ hb; simp [mono_apply, hb]
  · intro h; exact absurd (Finset.mem_univ _) h

theorem mono_mul_apply (M : Matrix β β ℂ) (f : β → β) (hf : Function.Involutive f) (e : β → ℤ) (a c : β) :
    (mono f e * M) a c = iPow (e (f a)) * M (f a) c := by
  rw [Matrix.mul_apply, Finset.sum_eq_single (f a)]
  · simp [mono_apply, hf a]
  · intro b _ hb
    have : a ≠ f b := by
      intro h; apply hb; rw [h, hf b]
    simp [mono_apply, this]
  · intro h; exact absurd (Finset.mem_univ _) h

theorem mono_mul_mono (f g : β → β) (e d : β → ℤ) :
    mono f e * mono g d = mono (fun c => f (g c)) (fun c => e (g c) + d c) := by
  ext a c
  rw [mul_mono_apply]
  simp only [mono_apply]
  split
  · rw [iPow_add]
  · simp

theorem mono_mul_conjTranspose (f : β → β) (hf : Function.Involutive f) (e : β → ℤ) :
    mono f e * (mono f e)ᴴ = 1 := by
  rw [mono_conjTranspose f hf, mono_mul_mono, ← mono_id_zero]
  apply mono_congr
  · funext c; exact hf c
  · intro b; simp

theorem mono_conjTranspose_mul (f : β → β) (hf : Function.Involutive f) (e : β → ℤ) :
    (mono f e)ᴴ * mono f e = 1 := by
  rw [mono_conjTranspose f hf, mono_mul_mono, ← mono_id_zero]
  apply mono_congr
  · funext c; exact hf c
  · intro b; simp [hf b]

/-! ### bit strings -/

/-- computational-basis index of `n` qubits; bit `j` is the state of qubit `j` -/
abbrev Bits (n : Nat) := Fin n → Bool

/-- bit `j` of a string, `false` beyond the end (so that the model's `Nat`-indexed sums apply) -/
def bx {n : Nat} (b : Bits n) (j : Nat) : Bool := if h : j < n then b ⟨j, h⟩ else false

def flip {n : Nat} (x : Nat → Bool) (b : Bits n) : Bits n := fun j => xor (b j) (x j)

theorem bx_lt {n : Nat} (b : Bits n) (j : Nat) (h : j < n) : bx b j = b ⟨j, h⟩ := by simp [bx, h]
theorem bx_ge {n : Nat} (b : Bits n) (j : Nat) (h : ¬ j < n) : bx b j = false := by simp [bx, h]

theorem bits_ext {n : Nat} {a b : Bits n} (h : ∀ j, j < n → bx a j = bx b j) : a = b := by
  funext j
  have := h j.1 j.2
  rwa [bx_lt a j.1 j.2, bx_lt b j.1 j.2] at this

theorem bx_flip {n : Nat} (x : Nat → Bool) (b : Bits n) (j : Nat) (h : j < n) :
    bx (flip x b) j = xor (bx b j) (x j) := by
  simp [bx, h, flip]

theorem flip_involutive {n : Nat} (x : Nat → Bool) : Function.Involutive (flip (n := n) x) := by
  intro b; funext j; simp [flip]

theorem flip_flip {n : Nat} (x y : Nat → Bool) (b : Bits n) :
    flip x (flip y b) = flip (fun j => xor (x j) (y j)) b := by
  funext j; simp only [flip]
  cases b j <;> cases x j <;> cases y j <;> rfl

theorem flip_congr {n : Nat} (x y : Nat → Bool) (h : ∀ j, j < n → x j = y j) : flip (n := n) x = flip y := by
  funext b j; simp only [flip]; rw [h j.1 j.2]

theorem flip_false {n : Nat} (b : Bits n) : flip (fun _ => false) b = b := by
  funext j; simp [flip]

theorem sumTo_local_one (n q : Nat) (f f' : Nat → Int) (hq : q < n) (h : ∀ j, j < n → j ≠ q → f j = f' j) :
    sumTo n f - f q = sumTo n f' - f' q :=
  sumTo_diff_one n q f f' hq h

theorem sumTo_local_two (n c t : Nat) (f f' : Nat → Int) (hc : c < n) (ht : t < n) (hct : c ≠ t)
    (h : ∀ j, j < n → j ≠ c → j ≠ t → f j = f' j) :
    sumTo n f - f c - f t = sumTo n f' - f' c - f' t :=
  sumTo_diff_two n c t f f' hc ht hct h

end Hilbert
end Graphiq
