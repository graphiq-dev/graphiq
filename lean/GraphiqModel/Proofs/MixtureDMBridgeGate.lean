/-
  Proofs/MixtureDMBridgeGate.lean — the gate and noise operations of the executable density-matrix model are the Hilbert-space
  actions of `Proofs/MixtureDMCompile.lean`:

  * `toC_oneQubitGate` : `get_one_qubit_gate(n, q, g)` / `np.kron(np.kron(I, g), I)` is `oneQ n q g`;
  * `toC_ctrlGate` : `get_two_qubit_controlled_gate(n, c, t, g)` is `ctrlQ n c t g`;
  * `applyUnitary_toC`, `dmGate_toC` : `DensityMatrix.apply_unitary` (with `hermitianize` as coded) on a Hermitian state is
    `U ρ U†`; every measurement-free `compile_one_gate` is `gateH`;
  * `dmNoise_toC` : `DepolarizingNoise` / `PauliError` / `PhotonLoss` on a density matrix are `noiseH`.
-/
import GraphiqModel.Proofs.MixtureDMBridgeMat
import GraphiqModel.Proofs.MixtureDMCompile
import GraphiqModel.Proofs.DMGate
namespace Graphiq
namespace MixDM
open Matrix Hilbert Noise DM

/-! ### 2×2 constants -/

noncomputable def toC2 (g : Mat) : Matrix Bool Bool ℂ := Matrix.of fun a b => gqC (g.e (b2n a) (b2n b))

theorem toC2_apply (g : Mat) (a b : Bool) : toC2 g a b = gqC (g.e (b2n a) (b2n b)) := rfl

theorem toC2_of_rep2 {g : Mat} {u : Matrix Bool Bool ℂ} (h : Rep2 g u) : toC2 g = u := by
  ext a b; exact h.2 a b

theorem toC2_id2 : toC2 Mat.id2 = 1 := toC2_of_rep2 rep2_id2
theorem toC2_sigmax : toC2 Mat.sigmax = sigmaX := toC2_of_rep2 rep2_sigmax
theorem toC2_sigmay : toC2 Mat.sigmay = sigmaY := toC2_of_rep2 rep2_sigmay
theorem toC2_sigmaz : toC2 Mat.sigmaz = sigmaZ := toC2_of_rep2 rep2_sigmaz

/-! ### one-qubit gates -/

theorem embed1_n (n q : Nat) (hq : q < n) (g : Mat) : (embed1 (pow2 q) (pow2 (n - q - 1)) g).n = 2 ^ n :=
  pow2_split' n q hq

/-- `get_one_qubit_gate(n, q, g)` is `g` at site `q` (the special case `n = 1` returns `g` itself) -/
theorem toC_oneQubitGate (n q : Nat) (hq : q < n) (g : Mat) : toC n (getOneQubitGate n q g) = oneQ n q (toC2 g) := by
  ext a c
  rw [toC_apply, idx_eq, idx_eq]
  exact getOneQubitGate_e n q hq g _ (fun _ _ => rfl) a c

theorem oneQubitGate_n (n q : Nat) (hq : q < n) (g : Mat) (hg : g.n = 2) : (getOneQubitGate n q g).n = 2 ^ n :=
  getOneQubitGate_n n q hq g hg

theorem ctrlGate_ok (n c t : Nat) (hc : c < n) (ht : t < n) (hct : c ≠ t) (g : Mat) :
    ∃ u, getTwoQubitControlledGate n c t g = .ok u :=
  (rep_ctrlGate n c t hc ht hct g (toC2 g) fun _ _ => rfl).imp fun _ h => h.1

theorem toC_ctrlGate (n c t : Nat) (hc : c < n) (ht : t < n) (hct : c ≠ t) (g u : Mat)
    (h : getTwoQubitControlledGate n c t g = .ok u) : toC n u = ctrlQ n c t (toC2 g) ∧ u.n = 2 ^ n := by
  obtain ⟨m, e, r⟩ := rep_ctrlGate n c t hc ht hct g (toC2 g) fun _ _ => rfl
  obtain rfl : m = u := Except.ok.inj (e.symm.trans h)
  exact ⟨r.toC, r.1⟩

/-! ### `apply_unitary`, `apply_channel` -/

theorem star_ratC (q : ℚ) : star ((q : ℚ) : ℂ) = ((q : ℚ) : ℂ) := by
  apply Complex.ext <;> simp

theorem conjH_herm {n : Nat} (U R : HMat n) (h : Rᴴ = R) : (conjH U R)ᴴ = conjH U R := conj_hermitian U R h

theorem smul_herm {n : Nat} (q : ℚ) (R : HMat n) (h : Rᴴ = R) : (((q : ℚ) : ℂ) • R)ᴴ = ((q : ℚ) : ℂ) • R := by
  rw [Matrix.conjTranspose_smul, star_ratC, h]

theorem add_herm {n : Nat} (A B : HMat n) (ha : Aᴴ = A) (hb : Bᴴ = B) : (A + B)ᴴ = A + B := by
  rw [Matrix.conjTranspose_add, ha, hb]

theorem applyUnitary_of_size {ρ : Mat} {u : SMat} (h : ρ.n = u.m.n) :
    applyUnitary ρ u = .ok (Mat.hermitianize (Mat.smul u.sq (Mat.conjBy u.m ρ)).norm).norm := by
  unfold applyUnitary
  rw [if_neg (not_not.mpr h)]

theorem applyUnitary_ok {ρ ρ' : Mat} {u : SMat} (h : applyUnitary ρ u = .ok ρ') :
    ρ.n = u.m.n ∧ ρ' = (Mat.hermitianize (Mat.smul u.sq (Mat.conjBy u.m ρ)).norm).norm := by
  by_cases hn : ρ.n = u.m.n
  · rw [applyUnitary_of_size hn] at h
    injection h with h
    exact ⟨hn, h.symm⟩
  · unfold applyUnitary at h
    rw [if_pos hn] at h
    cases h

theorem applyUnitary_n {ρ ρ' : Mat} {u : SMat} (h : applyUnitary ρ u = .ok ρ') : ρ'.n = u.m.n := by
  rw [(applyUnitary_ok h).2, Mat.norm_n, hermitianize_n, Mat.norm_n, smul_n, conjBy_n]

/-- **`DensityMatrix.apply_unitary`** (`√sq · m` the unitary, `hermitianize` as coded) on a Hermitian state -/
theorem applyUnitary_toC (n : Nat) (ρ : Mat) (u : SMat) (hρ : ρ.n = 2 ^ n) (hu : u.m.n = 2 ^ n)
    (hh : (toC n ρ)ᴴ = toC n ρ) (ρ' : Mat) (h : applyUnitary ρ u = .ok ρ') :
    toC n ρ' = ((u.sq : ℚ) : ℂ) • conjH (toC n u.m) (toC n ρ) ∧ ρ'.n = 2 ^ n := by
  obtain ⟨m, e, r⟩ := DMX.rep_applyUnitary u (rep_toC hρ) (rep_toC hu)
  obtain rfl := Except.ok.inj (h.symm.trans e)
  refine ⟨?_, r.1⟩
  rw [r.toC, Complex.ofReal_ratCast]
  exact herm_of_hermitian _ (smul_herm _ _ (conjH_herm _ _ hh))

theorem toC_hermNorm (n : Nat) (m : Mat) (hn : m.n = 2 ^ n) : toC n (Mat.hermitianize m).norm = hermH (toC n m) := by
  have s2 : (Mat.hermitianize m).n = 2 ^ n := by rw [hermitianize_n, hn]
  rw [toC_norm n _ s2, toC_hermitianize]

/-- one accumulation step of `apply_channel` -/
theorem chanStep_toC (n : Nat) (acc u ρ : Mat) (q : Rat) (hacc : acc.n = 2 ^ n) (hu : u.n = 2 ^ n) :
    toC n (Mat.add acc (Mat.smul q (Mat.conjBy u ρ)).norm).norm
      = toC n acc + ((q : ℚ) : ℂ) • conjH (toC n u) (toC n ρ) ∧
    (Mat.add acc (Mat.smul q (Mat.conjBy u ρ)).norm).norm.n = 2 ^ n := by
  have s1 : (Mat.smul q (Mat.conjBy u ρ)).n = 2 ^ n := by rw [smul_n, conjBy_n, hu]
  have s2 : (Mat.add acc (Mat.smul q (Mat.conjBy u ρ)).norm).n = 2 ^ n := by rw [add_n, hacc]
  refine ⟨?_, by rw [Mat.norm_n, s2]⟩
  rw [toC_norm n _ s2, toC_add, toC_norm n _ s1, toC_smul, toC_conjBy n _ _ hu]

/-! ### noise on a density matrix -/

theorem depolH_herm (n q : Nat) (p : Rat) (R : HMat n) (h : Rᴴ = R) : (depolH n q p R)ᴴ = depolH n q p R := by
  unfold depolH
  exact add_herm _ _ (smul_herm _ _ h)
    (smul_herm _ _ (add_herm _ _ (add_herm _ _ (conjH_herm _ _ h) (conjH_herm _ _ h)) (conjH_herm _ _ h)))

theorem pauliOf_n (k : Nat) : (DMx.pauliOf k).n = 2 := by
  unfold DMx.pauliOf; split <;> rfl

/-- **`DepolarizingNoise.apply` on a density matrix** -/
theorem dmDepol_toC (n q : Nat) (hq : q < n) (p : Rat) (ρ ρ' : Mat) (hρ : ρ.n = 2 ^ n) (hh : (toC n ρ)ᴴ = toC n ρ)
    (h : DMx.depolarize n p q ρ = .ok ρ') : toC n ρ' = depolH n q p (toC n ρ) ∧ ρ'.n = 2 ^ n := by
  have hK : ∀ (f : Rat) (g : Mat) (G : Matrix Bool Bool ℂ), Rep2 g G →
      ((⟨f, embed1 (pow2 q) (pow2 (n - q - 1)) g⟩ : SMat).sq : ℝ) = (((f : ℝ), oneQ n q G) : ℝ × HMat n).1 ∧
        Rep n (⟨f, embed1 (pow2 q) (pow2 (n - q - 1)) g⟩ : SMat).m (((f : ℝ), oneQ n q G) : ℝ × HMat n).2 :=
    fun f g G hg => ⟨rfl, rep_embed1 n q hq g G hg.2⟩
  obtain ⟨m, e, r⟩ := DMX.rep_applyChannel (rep_toC hρ) _ _
    (.cons (hK (1 - p) _ _ rep2_id2) (.cons (hK (p / 3) _ _ rep2_sigmax)
      (.cons (hK (p / 3) _ _ rep2_sigmay) (.cons (hK (p / 3) _ _ rep2_sigmaz) .nil))))
  obtain rfl := Except.ok.inj (h.symm.trans e)
  refine ⟨?_, r.1⟩
  rw [r.toC]
  have hd : depolH n q p (toC n ρ)
      = 0 + (((1 - p : ℚ) : ℝ) : ℂ) • (oneQ n q 1 * toC n ρ * (oneQ n q 1)ᴴ)
          + (((p / 3 : ℚ) : ℝ) : ℂ) • (oneQ n q sigmaX * toC n ρ * (oneQ n q sigmaX)ᴴ)
          + (((p / 3 : ℚ) : ℝ) : ℂ) • (oneQ n q sigmaY * toC n ρ * (oneQ n q sigmaY)ᴴ)
          + (((p / 3 : ℚ) : ℝ) : ℂ) • (oneQ n q sigmaZ * toC n ρ * (oneQ n q sigmaZ)ᴴ) := by
    unfold depolH
    rw [oneQ_one]
    show _ + _ • (conjH (oneQ n q sigmaX) _ + conjH (oneQ n q sigmaY) _ + conjH (oneQ n q sigmaZ) _) = _
    simp only [Complex.ofReal_ratCast, conjH, Matrix.one_mul, Matrix.conjTranspose_one, Matrix.mul_one]
    rw [smul_add, smul_add, zero_add]
    abel
  exact (congrArg herm hd.symm).trans (herm_of_hermitian _ (depolH_herm n q p _ hh))

/-- **`PauliError.apply` on a density matrix** -/
theorem dmPauli_toC (n q : Nat) (hq : q < n) (k : PauliK) (ρ ρ' : Mat) (hρ : ρ.n = 2 ^ n) (hh : (toC n ρ)ᴴ = toC n ρ)
    (h : DMx.pauliError n k q ρ = .ok ρ') : toC n ρ' = pauliH n q k (toC n ρ) ∧ ρ'.n = 2 ^ n := by
  have one : ∀ (g : Mat) (G : Matrix Bool Bool ℂ), g.n = 2 → toC2 g = G →
      applyUnitary ρ ⟨1, getOneQubitGate n q g⟩ = .ok ρ' →
      toC n ρ' = conjH (oneQ n q G) (toC n ρ) ∧ ρ'.n = 2 ^ n := by
    intro g G hg hG h
    obtain ⟨e, hn⟩ := applyUnitary_toC n ρ ⟨1, getOneQubitGate n q g⟩ hρ (oneQubitGate_n n q hq g hg) hh ρ' h
    refine ⟨?_, hn⟩
    rw [e]
    show ((1 : ℚ) : ℂ) • conjH (toC n (getOneQubitGate n q g)) _ = _
    rw [Rat.cast_one, one_smul, toC_oneQubitGate n q hq, hG]
  cases k <;> simp only [DMx.pauliError] at h
  · obtain ⟨e, hn⟩ := applyUnitary_toC n ρ ⟨1, Mat.eye (pow2 n)⟩ hρ rfl hh ρ' h
    refine ⟨?_, hn⟩
    rw [e, toC_eye, conjH_one]; simp [pauliH]
  · exact one _ _ rfl toC2_sigmax h
  · exact one _ _ rfl toC2_sigmay h
  · exact one _ _ rfl toC2_sigmaz h
  · cases h

/-- **every additive noise model on a density matrix is `noiseH`** -/
theorem dmNoise_toC (n q : Nat) (hq : q < n) (nm : NoiseM) (ρ ρ' : Mat) (hρ : ρ.n = 2 ^ n) (hh : (toC n ρ)ᴴ = toC n ρ)
    (h : DMx.applyNoise n nm q ρ = .ok ρ') : toC n ρ' = noiseH n nm q (toC n ρ) ∧ ρ'.n = 2 ^ n := by
  cases nm with
  | none => simp [DMx.applyNoise] at h; subst h; exact ⟨rfl, hρ⟩
  | depol p a => exact dmDepol_toC n q hq p ρ ρ' hρ hh h
  | pauli k a => exact dmPauli_toC n q hq k ρ ρ' hρ hh h
  | loss r a =>
    simp [DMx.applyNoise] at h; subst h
    exact ⟨by rw [toC_norm n (Mat.smul (1 - r) ρ) hρ, toC_smul]; rfl, hρ⟩
  | replace => simp [DMx.applyNoise] at h
  | other => simp [DMx.applyNoise] at h

theorem noiseH_herm (n : Nat) (nm : NoiseM) (q : Nat) (R : HMat n) (h : Rᴴ = R) : (noiseH n nm q R)ᴴ = noiseH n nm q R := by
  cases nm with
  | depol p a => exact depolH_herm n q p R h
  | pauli k a => cases k <;> first | exact h | exact conjH_herm _ _ h
  | loss r a => exact smul_herm _ _ h
  | none => exact h
  | replace => exact h
  | other => exact h

/-! ### gates on a density matrix -/

theorem gateH_herm (np n : Nat) (op : COp) (R : HMat n) (h : Rᴴ = R) : (gateH np n op R)ᴴ = gateH np n op R := by
  unfold gateH
  split
  · exact conjH_herm _ _ h
  · exact h

theorem mfree_gate {n np : Nat} {op : COp} (hf : MFree op) (hw : OpWF n np op) (hk : op.kind ≠ .param) :
    ∃ g, opGate np op = some g ∧ g.WF n ∧
      (op.kind = .identity ∨ tableGate op.kind (qIndex np op.r1 op.t1) (qIndex np op.r2 op.t2) = some g) := by
  have h2 : op.kind.isCtrlPair = true → qIndex np op.r2 op.t2 < n ∧ qIndex np op.r1 op.t1 ≠ qIndex np op.r2 op.t2 :=
    fun h => ⟨hw.2.1 (Or.inl h), hw.2.2 h⟩
  unfold opGate tableGate
  cases hkk : op.kind <;> simp only [hkk] at hk h2 ⊢
  case identity => exact ⟨_, rfl, trivial, Or.inl trivial⟩
  case h | s | sdg | x | y | z => exact ⟨_, rfl, hw.1, Or.inr rfl⟩
  case cnot | cz => exact ⟨_, rfl, ⟨hw.1, (h2 rfl).1, (h2 rfl).2⟩, Or.inr rfl⟩
  case param => exact absurd rfl hk
  all_goals rcases hf with hf | hf <;> simp [hkk, Kind.isOneQubit, Kind.isCtrlPair] at hf

/-- **every measurement-free `DensityMatrixCompiler.compile_one_gate`**, forward and total: it returns, leaves the classical
    registers alone, keeps the size, and on a Hermitian state it is `gateH` -/
theorem dmGate_mfree (np n : Nat) (det : Bool) (op : COp) (hf : MFree op) (hw : OpWF n np op) (hk : op.kind ≠ .param)
    (s : DmSt) (ρ : Mat) (hs : s.ρ = some ρ) (hρ : ρ.n = 2 ^ n) :
    ∃ ρ', dmGate np n det op s = .ok { s with ρ := some ρ' } ∧ ρ'.n = 2 ^ n ∧
      ((toC n ρ)ᴴ = toC n ρ → toC n ρ' = gateH np n op (toC n ρ)) := by
  obtain ⟨g, hg, hwf, hsk | ht⟩ := mfree_gate hf hw hk
  · refine ⟨ρ, by rw [dmGate_skip (Or.inr (Or.inr hsk)), ← hs], hρ, fun _ => ?_⟩
    unfold gateH opGate
    simp only [hsk]
    exact (conjH_one _).symm
  · obtain ⟨ρ', e, r⟩ := dmGate_gate det ht hwf hs (rep_toC hρ)
    refine ⟨ρ', e, r.1, fun hh => ?_⟩
    rw [r.toC, gateH, hg]
    exact herm_of_hermitian _ (conjH_herm _ _ hh)

theorem dmGate_toC (np n : Nat) (det : Bool) (op : COp) (hf : MFree op) (hw : OpWF n np op)
    (s s' : DmSt) (ρ : Mat) (hs : s.ρ = some ρ) (hρ : ρ.n = 2 ^ n) (hh : (toC n ρ)ᴴ = toC n ρ)
    (h : dmGate np n det op s = .ok s') :
    ∃ ρ', s'.ρ = some ρ' ∧ toC n ρ' = gateH np n op (toC n ρ) ∧ ρ'.n = 2 ^ n := by
  have hk : op.kind ≠ .param := fun e => by unfold dmGate at h; simp only [hs, e] at h; cases h
  obtain ⟨ρ', e, hn, ht⟩ := dmGate_mfree np n det op hf hw hk s ρ hs hρ
  obtain rfl := Except.ok.inj (h.symm.trans e)
  exact ⟨ρ', rfl, ht hh, hn⟩

end MixDM
end Graphiq
