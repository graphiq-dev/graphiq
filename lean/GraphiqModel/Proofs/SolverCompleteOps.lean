/-
  Proofs/SolverCompleteOps.lean — `rref` and `canonical_form` (stabilizer.py) only ever multiply two rows that are both
  non-trivial at the current pivot column (`COps`), and such witnessed row operations keep every *literal* column
  (`Lit`: one generator is exactly `+Z_q`, all other generators are trivial at `q`) and every column of an isolated `X` (`LitX`), by
  `COps.solo`.
-/
import GraphiqModel.Proofs.SolverCompleteDefs
import GraphiqModel.Proofs.CanonShape
namespace Graphiq
open PRow
namespace STab

theorem ptype_rowSum_ne (t : STab) (a b i j : Nat) (h : i ≠ b) : (t.rowSum a b).ptype i j = t.ptype i j := by
  rw [ptype_eq, rowSum_row, if_neg h]; rfl

theorem ptype_rowSum_eq (t : STab) (a b j : Nat) : (t.rowSum a b).ptype b j = pmul (t.ptype a j) (t.ptype b j) := by
  rw [ptype_eq, rowSum_row, if_pos rfl, pt_stabMul]; rfl

/-! ### the elimination loops as witnessed row operations -/

/-- `for i in l: tab_row_sum(a, i)` where row `a` and all rows of the (strictly increasing) list `l` are non-trivial at
    column `pc`: every product is witnessed by `pc` -/
theorem COps.foldl_sum {t0 : STab} (a pc : Nat) (ha : a < t0.n) (hpc : pc < t0.n) (l : List Nat)
    (hs : l.Pairwise (· < ·)) (hl : ∀ i, i ∈ l → i < t0.n ∧ a ≠ i) (t : STab) (hta : t.ptype a pc ≠ 0)
    (hti : ∀ i, i ∈ l → t.ptype i pc ≠ 0) (h : COps t0 t) :
    COps t0 (l.foldl (fun acc i => acc.rowSum a i) t) := by
  induction l generalizing t with
  | nil => exact h
  | cons x rest ih =>
    simp only [List.foldl]
    have hx := hl x List.mem_cons_self
    have hxr : x ∉ rest := sorted_head_notMem hs
    apply ih (sorted_tail hs) (fun i hi => hl i (List.mem_cons_of_mem _ hi))
    · rw [ptype_rowSum_ne t a x a pc hx.2]; exact hta
    · intro i hi
      have hix : i ≠ x := fun e => hxr (e ▸ hi)
      rw [ptype_rowSum_ne t a x i pc hix]; exact hti i (List.mem_cons_of_mem _ hi)
    · exact COps.sum a x pc ha hx.1 hx.2 hpc hta (hti x List.mem_cons_self) h

/-- the loop of the three-Pauli case, `tab_row_sum(a, k); tab_row_sum(a', k)` for the rows `k` carrying `Y` at column `pc`,
    where row `a` carries `X` and row `a'` carries `Z` there: both products are witnessed by `pc` -/
theorem COps.foldl_sum2 {t0 : STab} (a a' pc : Nat) (ha : a < t0.n) (ha' : a' < t0.n) (hpc : pc < t0.n) (l : List Nat)
    (hs : l.Pairwise (· < ·)) (hl : ∀ i, i ∈ l → i < t0.n ∧ a ≠ i ∧ a' ≠ i) (t : STab) (hta : t.ptype a pc = 1)
    (hta' : t.ptype a' pc = 3) (hti : ∀ i, i ∈ l → t.ptype i pc = 2) (h : COps t0 t) :
    COps t0 (l.foldl (fun acc k => (acc.rowSum a k).rowSum a' k) t) := by
  induction l generalizing t with
  | nil => exact h
  | cons x rest ih =>
    simp only [List.foldl]
    have hx := hl x List.mem_cons_self
    have hxr : x ∉ rest := sorted_head_notMem hs
    have hxt := hti x List.mem_cons_self
    apply ih (sorted_tail hs) (fun i hi => hl i (List.mem_cons_of_mem _ hi))
    · rw [ptype_rowSum_ne _ a' x a pc hx.2.1, ptype_rowSum_ne t a x a pc hx.2.1]; exact hta
    · rw [ptype_rowSum_ne _ a' x a' pc hx.2.2, ptype_rowSum_ne t a x a' pc hx.2.2]; exact hta'
    · intro i hi
      have hix : i ≠ x := fun e => hxr (e ▸ hi)
      rw [ptype_rowSum_ne _ a' x i pc hix, ptype_rowSum_ne t a x i pc hix]; exact hti i (List.mem_cons_of_mem _ hi)
    · refine COps.sum a' x pc ha' hx.1 hx.2.2 hpc ?_ ?_
        (COps.sum a x pc ha hx.1 hx.2.1 hpc (by rw [hta]; decide) (by rw [hxt]; decide) h)
      · rw [ptype_rowSum_ne t a x a' pc hx.2.2, hta']; decide
      · rw [ptype_rowSum_eq, hta, hxt]; decide

/-- `_process_one_pauli` on a strictly increasing list of rows `≥ pr` that are non-trivial at column `pc` -/
theorem processOne_cops (t : STab) (pr pc : Nat) (l : List Nat) (hpc : pc < t.n) (hs : l.Pairwise (· < ·))
    (hl : ∀ i, i ∈ l → pr ≤ i ∧ i < t.n ∧ t.ptype i pc ≠ 0) : COps t (t.processOne pr l) := by
  unfold processOne
  cases l with
  | nil => exact COps.refl
  | cons first rest =>
    simp only
    have hf := hl first List.mem_cons_self
    have hlt := sorted_head_lt hs
    have hpr : pr < t.n := Nat.lt_of_le_of_lt hf.1 hf.2.1
    apply COps.norm
    apply COps.foldl_sum pr pc hpr hpc rest (sorted_tail hs)
    · intro i hi
      have := hl i (List.mem_cons_of_mem _ hi)
      have := hlt i hi
      omega
    · rw [ptype_eq, rowSwap_row, if_pos rfl]; exact hf.2.2
    · intro i hi
      have h1 := hl i (List.mem_cons_of_mem _ hi)
      have h2 := hlt i hi
      rw [ptype_eq, rowSwap_row, if_neg (by omega), if_neg (by omega)]; exact h1.2.2
    · exact COps.swap pr first hpr hf.2.1 COps.refl

/-- `_process_two_pauli` for two different Pauli types: two swaps, then two witnessed elimination loops -/
theorem processTwo_cops (t t' : STab) (pr pc ty1 ty2 : Nat) (hpc : pc < t.n) (hne : tyCode ty1 ≠ tyCode ty2)
    (hr : t.processTwo pr pc ty1 ty2 = some t') : COps t t' := by
  obtain ⟨f1, f2, l1, l2, hf1, hf1n, hf2, hf2n, hp1, ea, eb, rfl⟩ := processTwo_unfold t t' pr pc ty1 ty2 hr
  have o2 : COps t (((t.rowSwap pr f1).norm.rowSwap (pr + 1) f2).norm) :=
    COps.norm (COps.swap (pr + 1) f2 hp1 hf2n (COps.norm (COps.swap pr f1 (Nat.lt_of_succ_lt hp1) hf1n COps.refl)))
  have hn2 : (((t.rowSwap pr f1).norm.rowSwap (pr + 1) f2).norm).n = t.n := rfl
  generalize ((t.rowSwap pr f1).norm.rowSwap (pr + 1) f2).norm = T2 at ea eb o2 hn2 ⊢
  have s1 : (pr :: l1).Pairwise (· < ·) := ea ▸ pickType_sorted T2 pr pc ty1
  have s2 : ((pr + 1) :: l2).Pairwise (· < ·) := eb ▸ pickType_sorted T2 pr pc ty2
  have m1 : ∀ i, i ∈ pr :: l1 → pr ≤ i ∧ i < t.n ∧ T2.ptype i pc = tyCode ty1 := fun i hi => by
    rw [← hn2]; exact (mem_pickType_iff T2 pr pc ty1 i).1 (ea ▸ hi)
  have m2 : ∀ i, i ∈ (pr + 1) :: l2 → pr ≤ i ∧ i < t.n ∧ T2.ptype i pc = tyCode ty2 := fun i hi => by
    rw [← hn2]; exact (mem_pickType_iff T2 pr pc ty2 i).1 (eb ▸ hi)
  have hpr := m1 pr List.mem_cons_self
  have hpr1 := m2 (pr + 1) List.mem_cons_self
  have n1 : pr ∉ l1 := sorted_head_notMem s1
  have n3 : pr + 1 ∉ l1 := fun h => hne (by rw [← (m1 (pr + 1) (List.mem_cons_of_mem _ h)).2.2, hpr1.2.2])
  have disj : ∀ i, i ∈ l2 → i ∉ l1 := fun i b a => hne (by
    rw [← (m1 i (List.mem_cons_of_mem _ a)).2.2, (m2 i (List.mem_cons_of_mem _ b)).2.2])
  have r3 : ∀ i, i ∉ l1 → (l1.foldl (fun acc i => acc.rowSum pr i) T2).ptype i pc = T2.ptype i pc := by
    intro i hi
    rw [ptype_eq, foldl_rowSum_row pr l1 T2 (sorted_tail s1) n1 i, if_neg hi]; rfl
  apply COps.norm
  apply COps.foldl_sum (pr + 1) pc hp1 hpc l2 (sorted_tail s2)
  · intro i hi
    have := sorted_head_lt s2 i hi
    exact ⟨(m2 i (List.mem_cons_of_mem _ hi)).2.1, Nat.ne_of_lt this⟩
  · rw [r3 (pr + 1) n3, hpr1.2.2]; exact tyCode_pos ty2
  · intro i hi
    rw [r3 i (disj i hi), (m2 i (List.mem_cons_of_mem _ hi)).2.2]; exact tyCode_pos ty2
  · apply COps.foldl_sum pr pc (hn2 ▸ hpr.2.1) hpc l1 (sorted_tail s1)
    · intro i hi
      have := sorted_head_lt s1 i hi
      exact ⟨(m1 i (List.mem_cons_of_mem _ hi)).2.1, Nat.ne_of_lt this⟩
    · rw [hpr.2.2]; exact tyCode_pos ty1
    · intro i hi
      rw [(m1 i (List.mem_cons_of_mem _ hi)).2.2]; exact tyCode_pos ty1
    · exact o2

theorem processOne_pick_cops (t : STab) (pr pc ty : Nat) (hpc : pc < t.n) :
    COps t (t.processOne pr (t.pickType pr pc ty)) := by
  apply processOne_cops t pr pc _ hpc (pickType_sorted t pr pc ty)
  intro i hi
  have := (mem_pickType_iff t pr pc ty i).1 hi
  exact ⟨this.1, this.2.1, by rw [this.2.2]; exact tyCode_pos ty⟩

/-- the three-Pauli branch of `one_step_rref` -/
theorem stepThree_cops (t t1 : STab) (pr pc : Nat) (hpc : pc < t.n) (hr : t.processTwo pr pc 1 3 = some t1) :
    COps t ((t1.pickType pr pc 2).foldl (fun acc k => (acc.rowSum pr k).rowSum (pr + 1) k) t1).norm := by
  have col := processTwo_col t t1 pr pc 1 3 hpc (by decide) hr
  have c1 : tyCode 1 = 1 := rfl
  have c3 : tyCode 3 = 3 := rfl
  rw [c1, c3] at col
  have hn := processTwo_n t t1 pr pc 1 3 hr
  have o1 := processTwo_cops t t1 pr pc 1 3 hpc (by decide) hr
  have hm : ∀ i, i ∈ t1.pickType pr pc 2 → pr ≤ i ∧ i < t.n ∧ t1.ptype i pc = 2 := by
    intro i hi
    have := (mem_pickType_iff t1 pr pc 2 i).1 hi
    rw [hn.1] at this; exact this
  apply COps.norm
  apply COps.foldl_sum2 pr (pr + 1) pc (by omega) hn.2 hpc _ (pickType_sorted t1 pr pc 2) _ t1 col.1 col.2.1
    (fun i hi => (hm i hi).2.2) o1
  intro i hi
  have := hm i hi
  refine ⟨this.2.1, ?_, ?_⟩
  · intro e; subst e; have := col.1; omega
  · intro e; subst e; have := col.2.1; omega

theorem oneStepRref_cops (t t' : STab) (pr pc pr' pc' : Nat) (b : String) (hpc : pc < t.n)
    (hr : t.oneStepRref pr pc = some (t', pr', pc', b)) : COps t t' := by
  rcases (oneStepRref_cases t t' pr pc pr' pc' b hr).2 with ⟨rfl, _⟩ | ⟨ty, _, _, _, rfl, _⟩ | ⟨ty1, ty2, ty3, hty, _, h2, _⟩ |
    ⟨t1, h1, rfl, _⟩
  · exact COps.refl
  · exact processOne_pick_cops t pr pc ty hpc
  · refine processTwo_cops t t' pr pc ty1 ty2 hpc ?_ h2
    rcases hty with ⟨rfl, rfl, _⟩ | ⟨rfl, rfl, _⟩ | ⟨rfl, rfl, _⟩ <;> decide
  · exact stepThree_cops t t1 pr pc hpc h1

theorem rrefLoop_cops (fuel : Nat) (t : STab) (pr pc : Nat) (brs : List String) (t' : STab) (pr' pc' : Nat)
    (brs' : List String) (hr : rrefLoop fuel t pr pc brs = .ok (t', pr', pc', brs')) : COps t t' := by
  induction fuel generalizing t pr pc brs with
  | zero =>
    simp only [rrefLoop, Except.ok.injEq, Prod.mk.injEq] at hr
    obtain ⟨rfl, _⟩ := hr
    exact COps.refl
  | succ fuel ih =>
    simp only [rrefLoop] at hr
    split at hr
    · next hb =>
      split at hr
      · cases hr
      · next t1 pr1 pc1 b hs =>
        exact COps.trans (oneStepRref_cops t t1 pr pc pr1 pc1 b (by omega) hs) (ih t1 pr1 pc1 _ hr)
    · simp only [Except.ok.injEq, Prod.mk.injEq] at hr
      obtain ⟨rfl, _⟩ := hr
      exact COps.refl

/-- **`rref` is a sequence of tabulations, row swaps and row products in which every product is witnessed by a column at
    which both factors are non-trivial** (the pivot column of the elimination step) -/
theorem rref_cops (t t' : STab) (brs : List String) (hr : t.rref = .ok (t', brs)) : COps t t' := by
  unfold rref at hr
  split at hr
  · cases hr
  · next t1 pr1 pc1 brs1 hl =>
    split at hr
    · simp only [Except.ok.injEq, Prod.mk.injEq] at hr
      obtain ⟨rfl, _⟩ := hr
      exact rrefLoop_cops (t.n + 1) t 0 0 [] t1 pr1 pc1 brs1 hl
    · cases hr

/-! ### witnessed row operations keep literal columns -/

theorem ptype_of_Zq (t : STab) (i q j : Nat) (hj : j < t.n) (h : PRow.EqOn t.n (t.row i) (PRow.Zq q)) :
    t.ptype i j = if j = q then 3 else 0 :=
  (pt_eqOn t.n _ _ h j hj).trans (pt_Zq q j)

theorem ptype_of_Xq (t : STab) (i q j : Nat) (hj : j < t.n) (h : PRow.SameBits t.n (t.row i) (PRow.Xq q)) :
    t.ptype i j = if j = q then 1 else 0 := by
  have e := h j hj
  unfold ptype
  rw [e.1, e.2]
  by_cases hjq : j = q <;> simp [PRow.Xq, hjq]

theorem Lit.norm {t : STab} {q : Nat} (hq : q < t.n) (hl : t.Lit q) : t.norm.Lit q :=
  (lit_iff_solo _ q).2 (solo_norm rfl (soloPred_Z t.n q) hq ((lit_iff_solo t q).1 hl))

theorem Lit.rowSwap {t : STab} {q : Nat} (a b : Nat) (ha : a < t.n) (hb : b < t.n) (hl : t.Lit q) :
    (t.rowSwap a b).Lit q :=
  (lit_iff_solo _ q).2 (solo_rowSwap a b ha hb ((lit_iff_solo t q).1 hl))

theorem COps.lit {t0 t : STab} (h : COps t0 t) (q : Nat) (hq : q < t0.n) (hl : t0.Lit q) : t.Lit q := by
  have := h.solo (soloPred_Z t0.n q) hq ((lit_iff_solo t0 q).1 hl)
  rw [← h.n_eq] at this
  exact (lit_iff_solo t q).2 this

theorem COps.litX {t0 t : STab} (h : COps t0 t) (q : Nat) (hq : q < t0.n) (hl : t0.LitX q) : t.LitX q := by
  have := h.solo (soloPred_X t0.n q) hq ((litX_iff_solo t0 q).1 hl)
  rw [← h.n_eq] at this
  exact (litX_iff_solo t q).2 this

theorem rref_lit (t t' : STab) (brs : List String) (q : Nat) (hq : q < t.n) (hl : t.Lit q)
    (hr : t.rref = .ok (t', brs)) : t'.Lit q := (rref_cops t t' brs hr).lit q hq hl

/-! ### `canonical_form` keeps literal columns -/

/-- a pivot-clearing sweep in which every product is witnessed keeps a literal column -/
theorem Lit.sweep {t : STab} {q : Nat} (pr : Nat) (sel : Nat → Bool) (hpr : pr < t.n)
    (hw : ∀ m, m < t.n → m ≠ pr → sel m = true → ∃ pc, pc < t.n ∧ t.ptype pr pc ≠ 0 ∧ t.ptype m pc ≠ 0)
    (hl : t.Lit q) : (t.sweep pr sel).Lit q := by
  obtain ⟨i, hi, he, ho⟩ := hl
  have hne : ∀ m, m < t.n → m ≠ pr → sel m = true → pr ≠ i ∧ m ≠ i := by
    intro m hm hmp hs
    obtain ⟨pc, hpc, h1, h2⟩ := hw m hm hmp hs
    exact SoloAt.witness_ne (soloPred_Z t.n q) ⟨hi, he, ho⟩ hpr hm (Ne.symm hmp) hpc h1 h2
  have hrow : ∀ m, (t.sweep pr sel).row m = if m ≠ pr ∧ sel m then stabMul t.n (t.row pr) (t.row m) else t.row m :=
    fun m => rfl
  refine ⟨i, hi, ?_, fun k hk hki => ?_⟩
  · rw [hrow i]
    by_cases hc : i ≠ pr ∧ sel i = true
    · exact absurd rfl (hne i hi hc.1 hc.2).2
    · rw [if_neg hc]; exact he
  · have hk' : k < t.n := hk
    rw [ptype_eq, hrow k]
    by_cases hc : k ≠ pr ∧ sel k = true
    · rw [if_pos hc, pt_stabMul]
      have e1 : (t.row pr).pt q = 0 := ho pr hpr (hne k hk' hc.1 hc.2).1
      have e2 : (t.row k).pt q = 0 := ho k hk' hki
      rw [e1, e2]; rfl
    · rw [if_neg hc]; exact ho k hk' hki

theorem ptype_ne_zero_bits (p : PRow) (j : Nat) (h : p.pt j ≠ 0) : (p.x j || p.z j) = true := by
  cases hb : (p.x j || p.z j)
  · exact absurd ((PRow.pt_eq_zero_iff _ _).2 hb) h
  · rfl

theorem ptype_ne_zero_of_bit (t : STab) (m j : Nat) (h : (t.row m).x j = true ∨ (t.row m).z j = true) :
    t.ptype m j ≠ 0 := by
  intro e
  have := PRow.pt_zero_bits (t.row m) j e
  rcases h with h | h
  · rw [this.1] at h; cases h
  · rw [this.2] at h; cases h

/-- the common shape of one column step of `canonical_form`: swap the pivot into row `pr`, tabulate, sweep the rows selected
    by a bit of column `j` that the pivot row carries as well, tabulate -/
theorem Lit.pivotStep {t : STab} {q : Nat} (pr f j : Nat) (sel : STab → Nat → Bool) (hq : q < t.n) (hpr : pr ≤ f)
    (hf : f < t.n) (hj : j < t.n)
    (hsel : ∀ m, sel (t.rowSwap pr f).norm m = true → (t.rowSwap pr f).norm.ptype m j ≠ 0)
    (hpiv : t.ptype f j ≠ 0) (hl : t.Lit q) :
    (((t.rowSwap pr f).norm.sweep pr (sel (t.rowSwap pr f).norm)).norm).Lit q := by
  have hp : pr < t.n := by omega
  have l1 : (t.rowSwap pr f).norm.Lit q := Lit.norm (t := t.rowSwap pr f) hq (Lit.rowSwap pr f hp hf hl)
  have hn1 : (t.rowSwap pr f).norm.n = t.n := rfl
  have hp1 : (t.rowSwap pr f).norm.ptype pr j ≠ 0 := by
    rw [ptype_swap_norm t pr f pr j hp hj, if_pos rfl]; exact hpiv
  generalize (t.rowSwap pr f).norm = t1 at l1 hn1 hp1 hsel ⊢
  have l2 : (t1.sweep pr (sel t1)).Lit q :=
    Lit.sweep pr (sel t1) (hn1 ▸ hp) (fun m _ _ hs => ⟨j, hn1 ▸ hj, hp1, hsel m hs⟩) l1
  exact Lit.norm (t := t1.sweep pr (sel t1)) (by show q < t1.n; rw [hn1]; exact hq) l2

theorem canonStepXY_lit (t : STab) (pr j q : Nat) (hq : q < t.n) (hj : j < t.n) (hl : t.Lit q) :
    (t.canonStepXY pr j).1.Lit q := by
  unfold canonStepXY
  have ex : (t.pauliTypeFinder pr j).1 = t.pickType pr j 1 := (pickType_1 t pr j).symm
  have ey : (t.pauliTypeFinder pr j).2.1 = t.pickType pr j 2 := (pickType_2 t pr j).symm
  generalize hft : t.pauliTypeFinder pr j = ft at ex ey
  obtain ⟨xs, ys, zs⟩ := ft
  simp only at ex ey ⊢
  split
  · exact hl
  · next f hf =>
    have hmem : f ∈ xs ∨ f ∈ ys := by
      by_cases hx : xs.isEmpty
      · simp [hx] at hf; exact Or.inr (List.mem_of_mem_head? hf)
      · simp [hx] at hf; exact Or.inl (List.mem_of_mem_head? hf)
    have hb : pr ≤ f ∧ f < t.n ∧ t.ptype f j ≠ 0 := by
      rcases hmem with h | h
      · have := (mem_pickType_iff t pr j 1 f).1 (ex ▸ h)
        exact ⟨this.1, this.2.1, by rw [this.2.2]; exact tyCode_pos 1⟩
      · have := (mem_pickType_iff t pr j 2 f).1 (ey ▸ h)
        exact ⟨this.1, this.2.1, by rw [this.2.2]; exact tyCode_pos 2⟩
    exact Lit.pivotStep pr f j (fun t1 m => (t1.row m).x j) hq hb.1 hb.2.1 hj
      (fun m hs => ptype_ne_zero_of_bit _ m j (Or.inl hs)) hb.2.2 hl

theorem canonStepZ_lit (t : STab) (pr j q : Nat) (hq : q < t.n) (hj : j < t.n) (hl : t.Lit q) :
    (t.canonStepZ pr j).1.Lit q := by
  unfold canonStepZ
  split
  · exact hl
  · next f hf =>
    have hm := List.mem_of_mem_head? hf
    simp only [zTypeFinder, List.mem_filter, List.mem_range, decide_eq_true_eq] at hm
    exact Lit.pivotStep pr f j (fun t1 m => (t1.row m).z j) hq hm.1.2 hm.1.1 hj
      (fun m hs => ptype_ne_zero_of_bit _ m j (Or.inr hs)) (by rw [hm.2]; decide) hl

theorem canonLoops_lit (t : STab) (q : Nat) (hq : q < t.n) (hl : t.Lit q) : t.canonLoops.1.Lit q := by
  unfold canonLoops
  have i1 := Loop.foldl_inv (l := List.range t.n) (f := fun (acc : STab × Nat) j => acc.1.canonStepXY acc.2 j)
    (fun acc => acc.1.n = t.n ∧ acc.1.Lit q)
    (fun acc j hj h => ⟨by rw [canonStepXY_n]; exact h.1,
      canonStepXY_lit acc.1 acc.2 j q (by rw [h.1]; exact hq) (by rw [h.1]; exact List.mem_range.1 hj) h.2⟩)
    (s := (t, 0)) ⟨rfl, hl⟩
  exact (Loop.foldl_inv (l := List.range t.n) (f := fun (acc : STab × Nat) j => acc.1.canonStepZ acc.2 j)
    (fun acc => acc.1.n = t.n ∧ acc.1.Lit q)
    (fun acc j hj h => ⟨by rw [canonStepZ_n]; exact h.1,
      canonStepZ_lit acc.1 acc.2 j q (by rw [h.1]; exact hq) (by rw [h.1]; exact List.mem_range.1 hj) h.2⟩) i1).2

/-- **`canonical_form` keeps every literal column**: every row product of its pivot-clearing sweeps is witnessed by the pivot
    column, at which the pivot row and the cleared row are both non-trivial -/
theorem canonicalForm_lit (t t' : STab) (q : Nat) (hq : q < t.n) (hl : t.Lit q) (h : t.canonicalForm = .ok t') :
    t'.Lit q := by
  rw [← ((canonicalForm_ok_iff t t').1 h).2]
  exact canonLoops_lit t q hq hl

end STab
end Graphiq
