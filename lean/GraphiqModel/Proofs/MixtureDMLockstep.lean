/-
  Proofs/MixtureDMLockstep.lean — what the later files of the chain (physical, defined, joint measurement) read about the
  density-matrix side of a measurement, every number of qubits:

  * `toC_projectorsZ`, `toC_projected`, `applyMeasurement_eq`, `applyMeasurement_some` : `projectors_zbasis` and
    `apply_measurement` as coded (`prOf` : the clipped probabilities);
  * `conditioned_all` : `apply_conditioned_gate` with equal outcomes; `dmReset_toC` : `get_reset_qubit_kraus` through
    `apply_channel` is the reset channel;
  * `LossOK`, `lossOf_range`, `weight_mono` : with loss rates in `[0,1]` the weight never grows (read by MixtureDMDefined);
    `stabGate_creg`, `dmGate_creg`;
  * HISTORICAL (`Mix.measureOld`, graphiq before the repair of finding F2; what C06's `uniform_*_measurement` are about):
    `measure_lockstep` — one per-branch measurement agrees with `DensityMatrix.apply_measurement` when all branches agree and
    the total weight exceeds `wThr = 2·10⁻⁸` — with `applyMeasurement_random`, `applyMeasurement_det`, `head_outcome`.
    No theorem about whole circuits rests on it (the repaired, joint measurement is Proofs/MixtureDMJoint*.lean).
-/
import GraphiqModel.Proofs.MixtureDMReset
namespace Graphiq
namespace MixDM
open Matrix Hilbert Noise DM PRow

/-! ### `projectors_zbasis`, `apply_measurement` -/

theorem toC_projectorsZ (n q : Nat) (hq : q < n) (p0 p1 : Mat) (h : projectorsZ n q = .ok (p0, p1)) :
    toC n p0 = projZ n q false ∧ toC n p1 = projZ n q true ∧ p0.n = 2 ^ n ∧ p1.n = 2 ^ n := by
  obtain ⟨_, _, e, r0, r1⟩ := rep_projectorsZ_Zq n q hq
  obtain ⟨rfl, rfl⟩ := Prod.mk.inj (Except.ok.inj (e.symm.trans h))
  exact ⟨r0.toC, r1.toC, r0.1, r1.1⟩

/-- the matrix `apply_measurement` builds for outcome `o`, scalar `c` left open: `c · Π_o ρ Π_o` -/
theorem toC_projected (n q : Nat) (hq : q < n) (p0 p1 : Mat) (hp : projectorsZ n q = .ok (p0, p1)) (o : Bool) (c : Rat)
    (ρ : Mat) :
    (Mat.smul c (Mat.conjBy (if o then p1 else p0) ρ)).norm.n = 2 ^ n ∧
    toC n (Mat.smul c (Mat.conjBy (if o then p1 else p0) ρ)).norm
      = ((c : ℚ) : ℂ) • (projZ n q o * toC n ρ * projZ n q o) := by
  obtain ⟨e0, e1, n0, n1⟩ := toC_projectorsZ n q hq p0 p1 hp
  have hpn : (if o = true then p1 else p0).n = 2 ^ n := by cases o; exacts [n0, n1]
  have hpc : toC n (if o = true then p1 else p0) = projZ n q o := by cases o; exacts [e0, e1]
  have hsz : (Mat.smul c (Mat.conjBy (if o = true then p1 else p0) ρ)).n = 2 ^ n := by rw [smul_n, conjBy_n, hpn]
  refine ⟨by rw [Mat.norm_n, hsz], ?_⟩
  rw [toC_norm n _ hsz, toC_smul, toC_conjBy n _ _ hpn, hpc]
  unfold conjH
  rw [projZ_herm]

/-- twice the absolute tolerance of `np.isclose`: with a total weight above it the thresholds of
    `DensityMatrix.apply_measurement` decide "random / deterministic" and the outcome as the tableaux do -/
def wThr : Rat := 2 / 100000000

theorem isclose0_false (x : Rat) (h : 1 / 100000000 < x) : isclose0 x = false := by
  unfold isclose0
  rw [rat_abs_eq, abs_of_pos (by linarith)]
  exact decide_eq_false (by linarith)

theorem isclose0_zero : isclose0 0 = true := by
  unfold isclose0; rw [rat_abs_eq]; norm_num

/-- `probs[k]` of `apply_measurement`: the real part of `tr(ρ m)`, clipped at 0 -/
def prOf (ρ m : Mat) : Rat := let x := (ρ.mul m).trace.re; if x < 0 then 0 else x

theorem prOf_eq {ρ m : Mat} {x : Rat} (h : (ρ.mul m).trace.re = x) (hx : 0 ≤ x) : prOf ρ m = x := by
  unfold prOf; simp only; rw [h, if_neg (not_lt.2 hx)]

theorem applyMeasurement_eq (ρ p0 p1 : Mat) (det : Bool) (hn : ρ.n = p0.n) :
    applyMeasurement ρ p0 p1 det =
      (let outcome : Bool := if det then !isclose0 (prOf ρ p1) else isclose0 (prOf ρ p0)
       let norm : Rat := if 0 < prOf ρ p0 + prOf ρ p1 then (if outcome then prOf ρ p1 else prOf ρ p0) / (prOf ρ p0 + prOf ρ p1) else 1
       if norm = 0 then .ok (none, outcome)
       else .ok (some (Mat.smul (1 / norm) (Mat.conjBy (if outcome then p1 else p0) ρ)).norm, outcome)) := by
  unfold applyMeasurement prOf
  rw [if_neg (fun h => h hn)]

theorem applyMeasurement_some (ρ p0 p1 : Mat) (det : Bool) (ρ' : Mat) (o : Bool)
    (h : applyMeasurement ρ p0 p1 det = .ok (some ρ', o)) :
    ρ.n = p0.n ∧ o = (if det then !isclose0 (prOf ρ p1) else isclose0 (prOf ρ p0)) ∧ ∃ norm : Rat, norm ≠ 0 ∧
      norm = (if 0 < prOf ρ p0 + prOf ρ p1 then (if o then prOf ρ p1 else prOf ρ p0) / (prOf ρ p0 + prOf ρ p1) else 1) ∧
      ρ' = (Mat.smul (1 / norm) (Mat.conjBy (if o then p1 else p0) ρ)).norm := by
  by_cases hn : ρ.n = p0.n
  · rw [applyMeasurement_eq ρ p0 p1 det hn] at h
    simp only at h
    generalize hoc : (if det = true then !isclose0 (prOf ρ p1) else isclose0 (prOf ρ p0)) = oc at h
    by_cases hz : (if 0 < prOf ρ p0 + prOf ρ p1 then (if oc = true then prOf ρ p1 else prOf ρ p0) / (prOf ρ p0 + prOf ρ p1) else 1) = 0
    · rw [if_pos hz] at h; injection h with h; injection h with h1 h2; cases h1
    · rw [if_neg hz] at h
      injection h with h
      injection h with h1 h2
      injection h1 with h1
      subst h2
      exact ⟨hn, rfl, _, hz, rfl, h1.symm⟩
  · unfold applyMeasurement at h
    rw [if_pos hn] at h
    cases h

/-- both outcomes have probability ½ (of the weight `W`): the forced outcome is taken, the state is `2 · Π ρ Π` -/
theorem applyMeasurement_random (ρ p0 p1 : Mat) (det : Bool) (W : Rat) (hW : wThr < W) (hn : ρ.n = p0.n)
    (hp0 : (ρ.mul p0).trace.re = W / 2) (hp1 : (ρ.mul p1).trace.re = W / 2) :
    applyMeasurement ρ p0 p1 det = .ok (some (Mat.smul 2 (Mat.conjBy (if det then p1 else p0) ρ)).norm, det) := by
  unfold wThr at hW
  rw [applyMeasurement_eq ρ p0 p1 det hn, prOf_eq hp0 (by linarith), prOf_eq hp1 (by linarith)]
  have hic : isclose0 (W / 2) = false := isclose0_false _ (by linarith)
  have hWp : 0 < W / 2 + W / 2 := by linarith
  have h3 : W / 2 / (W / 2 + W / 2) = 1 / 2 := by field_simp; ring
  cases det <;> simp only [hic, hWp, h3, if_true, if_false, Bool.not_false, Bool.false_eq_true] <;> norm_num

/-- outcome `o0` has probability 1: it is reported whatever the forced outcome, the state is `Π ρ Π` -/
theorem applyMeasurement_det (ρ p0 p1 : Mat) (det o0 : Bool) (W : Rat) (hW : wThr < W) (hn : ρ.n = p0.n)
    (hp0 : (ρ.mul p0).trace.re = if o0 then 0 else W) (hp1 : (ρ.mul p1).trace.re = if o0 then W else 0) :
    applyMeasurement ρ p0 p1 det = .ok (some (Mat.smul 1 (Mat.conjBy (if o0 then p1 else p0) ρ)).norm, o0) := by
  unfold wThr at hW
  have hW0 : (0 : Rat) ≤ W := by linarith
  rw [applyMeasurement_eq ρ p0 p1 det hn, prOf_eq hp0 (by cases o0 <;> simp [hW0]), prOf_eq hp1 (by cases o0 <;> simp [hW0])]
  have hic : isclose0 W = false := isclose0_false _ (by linarith)
  have hWp : 0 < W := by linarith
  have hW1 : W ≠ 0 := by linarith
  cases det <;> cases o0 <;> simp [hic, isclose0_zero, hWp, hW1]

/-! ### the per-branch measurement (historical) -/

theorem mixRho_herm (n : Nat) : ∀ (m : Mixture), MixGood n m → (mixRho n m)ᴴ = mixRho n m
  | [], _ => by simp [mixRho_nil]
  | (w, t) :: rest, hg => by
    obtain ⟨hn, hv, _⟩ := hg.head
    rw [mixRho_cons]
    apply add_herm _ _ (smul_herm _ _ ?_) (mixRho_herm n rest hg.tail)
    subst hn
    exact rho_hermitian (STab.ofTab t) (ofTab_good t hv)

/-- the outcome `outcomes[0]` the mixture records, when all branches report `o` -/
theorem head_outcome (q : Nat) (det : Bool) (m : Mixture) (o : Bool) (hne : m ≠ [])
    (hall : ∀ o' ∈ (Mix.measureOld q det m).2, o' = o) : (Mix.measureOld q det m).2.headD false = o := by
  cases m with
  | nil => exact absurd rfl hne
  | cons x rest =>
    obtain ⟨w, t⟩ := x
    have e : (Mix.measureOld q det ((w, t) :: rest)).2 = (t.zMeasure q det).2.1 :: (Mix.measureOld q det rest).2 := by
      simp [Mix.measureOld]
    rw [e] at hall ⊢
    exact hall _ List.mem_cons_self

theorem total_ne_nil (m : Mixture) (h : wThr < Mix.total m) : m ≠ [] := by
  intro e; subst e; simp [Mix.total_nil, wThr] at h; norm_num at h

theorem trace_re_of (n : Nat) (ρ p : Mat) (hρ : ρ.n = 2 ^ n) (x : Rat)
    (h : (toC n ρ * toC n p).trace = ((x : ℚ) : ℂ)) : (ρ.mul p).trace.re = x := by
  have e : (ρ.mul p).trace = ⟨x, 0⟩ := by
    apply gqC_injective
    rw [gqC_mulTrace n ρ p hρ, h, gqC_ofRat]
  rw [e]

/-- HISTORICAL (`Mix.measureOld`).  **One measurement on both sides**: total weight above the threshold, all branches alike -/
theorem measure_lockstep (n q : Nat) (hq : q < n) (det : Bool) (m : Mixture) (ρ p0 p1 : Mat) (hg : MixGood n m)
    (hρn : ρ.n = 2 ^ n) (hρ : toC n ρ = mixRho n m) (ht : wThr < Mix.total m) (hu : uniformMeas q det m = true)
    (hp : projectorsZ n q = .ok (p0, p1)) :
    ∃ ρ' o, applyMeasurement ρ p0 p1 det = .ok (some ρ', o) ∧ ρ'.n = 2 ^ n ∧
      toC n ρ' = mixRho n (Mix.measureOld q det m).1 ∧ (∀ o' ∈ (Mix.measureOld q det m).2, o' = o) ∧
      Fixed n q o (Mix.measureOld q det m).1 := by
  obtain ⟨e0, e1, n0, n1⟩ := toC_projectorsZ n q hq p0 p1 hp
  have hnn : ρ.n = p0.n := by rw [hρn, n0]
  cases m with
  | nil => exact absurd rfl (total_ne_nil _ ht)
  | cons x rest =>
    obtain ⟨w0, t0⟩ := x
    have hspec := uniformMeas_spec q det w0 t0 rest hu
    obtain ⟨hn0, hv0, hr0⟩ := hg.head
    cases hr : (t0.pivot q).isSome with
    | true =>
      obtain ⟨pp, hpp⟩ := Option.isSome_iff_exists.1 hr
      have ho : (t0.zMeasure q det).2.1 = det := (branch_random n t0 hn0 hv0 hr0 q hq det pp hpp).2.1
      rw [hr, ho] at hspec
      obtain ⟨r1, r2, r3⟩ := measure_random n q hq det _ hg hspec
      have t0' : (ρ.mul p0).trace.re = Mix.total ((w0, t0) :: rest) / 2 :=
        trace_re_of n ρ p0 hρn _ (by rw [hρ, e0, r2 false]; push_cast; ring)
      have t1' : (ρ.mul p1).trace.re = Mix.total ((w0, t0) :: rest) / 2 :=
        trace_re_of n ρ p1 hρn _ (by rw [hρ, e1, r2 true]; push_cast; ring)
      obtain ⟨hsz, hc⟩ := toC_projected n q hq p0 p1 hp det 2 ρ
      refine ⟨_, det, applyMeasurement_random ρ p0 p1 det _ ht hnn t0' t1', hsz, ?_, r3, measure_fixed n q hq det _ _ _ hg hspec⟩
      rw [hc, hρ, r1, Rat.cast_ofNat]
    | false =>
      rw [hr] at hspec
      obtain ⟨r1, r2, r3, r4, r5⟩ := measure_det n q hq det (t0.zMeasure q det).2.1 _ hg hspec
      have hfx := measure_fixed n q hq det _ _ _ hg hspec
      generalize (t0.zMeasure q det).2.1 = o0 at r2 r3 r4 r5 hfx
      have t0' : (ρ.mul p0).trace.re = if o0 then 0 else Mix.total ((w0, t0) :: rest) := by
        cases o0
        · exact trace_re_of n ρ p0 hρn (Mix.total ((w0, t0) :: rest)) (by rw [hρ, e0, r3])
        · exact trace_re_of n ρ p0 hρn 0 (by rw [hρ, e0]; simpa using r4)
      have t1' : (ρ.mul p1).trace.re = if o0 then Mix.total ((w0, t0) :: rest) else 0 := by
        cases o0
        · exact trace_re_of n ρ p1 hρn 0 (by rw [hρ, e1]; simpa using r4)
        · exact trace_re_of n ρ p1 hρn (Mix.total ((w0, t0) :: rest)) (by rw [hρ, e1, r3])
      obtain ⟨hsz, hc⟩ := toC_projected n q hq p0 p1 hp o0 1 ρ
      refine ⟨_, o0, applyMeasurement_det ρ p0 p1 det o0 _ ht hnn t0' t1', hsz, ?_, r5, hfx⟩
      rw [hc, hρ, r1, r2, Rat.cast_one, one_smul]

theorem conditioned_all (f : Tab → Tab) (o : Bool) : ∀ (outs : List Bool) (m : Mixture), outs.length = m.length →
    (∀ x ∈ outs, x = o) → Mix.conditioned f outs m = if o then Mix.mapTab f m else m
  | [], [], _, _ => by cases o <;> simp [Mix.conditioned, Mix.mapTab]
  | [], _ :: _, h, _ => by simp at h
  | _ :: _, [], h, _ => by simp at h
  | o' :: os, (p, t) :: m, h, ha => by
    have ih := conditioned_all f o os m (by simpa using h) (fun x hx => ha x (List.mem_cons_of_mem _ hx))
    have e : o' = o := ha o' List.mem_cons_self
    subst e
    have : Mix.conditioned f (o' :: os) ((p, t) :: m) =
        (if o' then (p, (f t).norm) else (p, t)) :: Mix.conditioned f os m := by simp [Mix.conditioned]
    rw [this, ih]
    cases o' <;> simp [Mix.mapTab]


/-! ### `MeasurementCNOTandReset` -/

theorem oneQ_ketBra2 (n q : Nat) (hq : q < n) (s : Bool) : oneQ n q (ketBra2 s s) = projZ n q s := oneQ_ketBra2_diag n q hq s

theorem resetH_herm (n q : Nat) (R : HMat n) (h : Rᴴ = R) : (resetH n q R)ᴴ = resetH n q R := by
  unfold resetH
  exact add_herm _ _ (conjH_herm _ _ h) (conjH_herm _ _ h)

/-- **`get_reset_qubit_kraus` through `apply_channel`** is the reset channel -/
theorem dmReset_toC (n q : Nat) (hq : q < n) (ρ ρ' : Mat) (hρn : ρ.n = 2 ^ n) (hh : (toC n ρ)ᴴ = toC n ρ)
    (h : applyChannel ρ (resetKraus n q) = .ok ρ') : toC n ρ' = resetH n q (toC n ρ) ∧ ρ'.n = 2 ^ n := by
  obtain ⟨m, e, r⟩ := DMX.rep_applyChannel (rep_toC hρn) (resetKraus n q)
    [(1, oneQ n q (ketBra2 false false)), (1, oneQ n q (ketBra2 false true))]
    (.cons ⟨Rat.cast_one, rep_getOneQubitGate n q hq _ _ rep2_ketBra00⟩
      (.cons ⟨Rat.cast_one, rep_getOneQubitGate n q hq _ _ rep2_ketBra01⟩ .nil))
  obtain rfl := Except.ok.inj (h.symm.trans e)
  refine ⟨r.toC.trans ?_, r.1⟩
  have hd : resetH n q (toC n ρ) = 0 + ((1 : ℝ) : ℂ) • (oneQ n q (ketBra2 false false) * toC n ρ * (oneQ n q (ketBra2 false false))ᴴ)
      + ((1 : ℝ) : ℂ) • (oneQ n q (ketBra2 false true) * toC n ρ * (oneQ n q (ketBra2 false true))ᴴ) := by
    rw [ketBra2_ft', ← oneQ_mul n q hq, oneQ_ketBra2 n q hq, oneQ_ketBra2 n q hq, Complex.ofReal_one, one_smul, one_smul, zero_add]
    rfl
  exact (congrArg herm hd.symm).trans (herm_of_hermitian _ (resetH_herm n q _ hh))


/-! ### loss rates in `[0,1]` -/

def LossOK : NoiseM → Prop
  | .loss r _ => 0 ≤ r ∧ r ≤ 1
  | _ => True

def ParamOK2 (nm : NoiseM) : Prop := ParamOK nm ∧ LossOK nm


theorem lossOK_of_none (nm : NoiseM) (h : nm.isNone = true) : LossOK nm := by cases nm <;> simp_all [NoiseM.isNone, LossOK]

/-! #### the total weight never grows -/

theorem weight_mono (thr f T : Rat) (h0 : 0 < thr) (hf0 : 0 ≤ f) (hf1 : f ≤ 1) (h : thr < f * T) : thr < T := by
  have hT : 0 < T := by
    by_contra hc
    have : f * T ≤ 0 := mul_nonpos_of_nonneg_of_nonpos hf0 (not_lt.1 hc)
    linarith
  have : f * T ≤ 1 * T := mul_le_mul_of_nonneg_right hf1 (le_of_lt hT)
  linarith

theorem wThr_pos : 0 < wThr := by unfold wThr; norm_num

theorem lossOf_range (a : Act) (h : ∀ k side q nm, a = .noise k side q nm → LossOK nm) : 0 ≤ lossOf a ∧ lossOf a ≤ 1 := by
  cases a with
  | gate k => simp [lossOf]
  | replace k => simp [lossOf]
  | noise k side q nm =>
    have hl := h k side q nm rfl
    cases nm with
    | loss r a =>
      have h1 : 0 ≤ r := hl.1
      have h2 : r ≤ 1 := hl.2
      simp only [lossOf]
      constructor <;> linarith
    | none => simp [lossOf]
    | depol p a => simp [lossOf]
    | pauli k a => simp [lossOf]
    | replace => simp [lossOf]
    | other => simp [lossOf]

theorem lossFactor_range : ∀ (tr : List Act), (∀ k side q nm, Act.noise k side q nm ∈ tr → LossOK nm) →
    0 ≤ lossFactor tr ∧ lossFactor tr ≤ 1
  | [], _ => by simp [lossFactor]
  | a :: as, h => by
    obtain ⟨a0, a1⟩ := lossOf_range a (fun k side q nm e => h k side q nm (by rw [e]; exact List.mem_cons_self))
    obtain ⟨i0, i1⟩ := lossFactor_range as (fun k side q nm hm => h k side q nm (List.mem_cons_of_mem _ hm))
    simp only [lossFactor]
    exact ⟨mul_nonneg a0 i0, by calc lossOf a * lossFactor as ≤ 1 * 1 := mul_le_mul a1 i1 i0 (by norm_num)
                                  _ = 1 := by norm_num⟩

theorem stabGate_creg (np n : Nat) (det : Bool) (op : COp) (hf : MFree op) (s s1 : StabSt)
    (h : stabGate np n det op s = .ok s1) : s1.creg = s.creg := by
  rcases stabGate_mfree np n det op hf s s1 h with ⟨rfl, _⟩ | ⟨g, _, rfl, _⟩ <;> rfl

theorem dmGate_creg (np n : Nat) (det : Bool) (op : COp) (hf : MFree op) (d d1 : DmSt)
    (h : dmGate np n det op d = .ok d1) : d1.creg = d.creg := by
  cases hd : d.ρ with
  | none => rw [dmGate_none hd] at h; cases h; rfl
  | some ρ => rcases dmGate_unitary_inv hd hf h with rfl | ⟨u, r, _, rfl⟩ <;> rfl

end MixDM
end Graphiq
