/-
  Proofs/Noise.lean — lemmas about the noisy-compilation model (C06).

  1. the placement decision tree: on supported operations with additive noise the trace is
     `[noise that asks for "before"] ++ [gate] ++ [noise that asks for "after"]`;
  2. the compile loops are runs of the placement trace (`stabGo_run`, `dmGo_run`), and every whole-circuit theorem is one
     step lemma pushed through one induction over a run (`runActs_sim`, `runActs_sim2`, `runActs_runs`, `trace_actP`);
  3. weight bookkeeping of stabilizer mixtures: every gate, Pauli error, depolarizing step (with its filter and `reduce()` as
     coded) keeps the total weight, a photon loss multiplies it by `1 − rate`, the joint measurement keeps it or zeroes every
     weight; hence for every circuit the final weight is `∏ (1 − loss_j)` over the loss events of the trace, or 0;
  4. what every branch of the mixture inherits: a property of tableaux that tabulation and the tableau operations of the
     backend keep (`TabClosed`) holds of every branch of every reachable mixture (`compileStab_all`); validity is the instance
     `valid_closed` (uses the C07 theorems of Proofs/Tableau.lean);
  5. zero-strength noise on a single-branch mixture is the identity; and what the density-matrix primitives do on their
     trivial inputs (these characterise fixed model functions and stand for themselves): `embed1 a b I₂` is the identity
     matrix (`embed1_id2_eq`), `I ρ I† = ρ` entrywise (`Mat.conjBy_eye`), `hermitianize` is the identity on Hermitian
     matrices (`Mat.hermitianize_eqOn`), `apply_unitary` with the identity returns the state (`applyUnitary_eye`) — with the
     `Mat.EqOn` congruences they need, which the later files of the chain read too;
  6. the trace of the exact density matrix under photon loss.

  Operation classes of the chain (each clause of C06 quantifies over the one it needs; `n` qubits, `np` photons):

    class        file                   says                                                              Properties/C06
    `Supported`  here                   one-qubit operation or controlled pair, additive noise            `placement_noise_on`, `trace_noise_on`
    `OpWF`       here                   the qubits exist, control ≠ target                                `every_branch_valid`
    `LossLe1`    MixtureDMWeights       loss rates `≤ 1`                                                  `every_weight_nonneg`
    `OpOK`       MixtureDMCompile       `OpWF`, no measurement (`MFree`), depolarizing `p ∈ [0,1]` (`ParamOK`)   `mixture_is_hilbert_run`, `dm_equals_mixture`
    `OpRuns`     MixtureDMTotalMeas     `OpOK`, a class the compilers accept, additive noise, a valid Pauli name (`NoBad`)   `dm_equals_mixture_on_the_whole_class`
    `OpOK3`      MixtureDMPhysMeas      `OpOK` with `p ∈ [0,1]` and loss `≤ 1` (`ParamPhys`), or a noiseless measuring operation (`MeasAny`) on existing qubits   `dm_is_physical_with_measurements`
    `OpOK4`      MixtureDMDefined       `OpOK3` and loss rates in `[0,1]` (`LossOK`)                       `dm_is_defined_above_the_tolerance`
    `OpOKJ`      MixtureDMJointCircuit  `OpOK3`, `MeasurementCNOTandReset` on two distinct qubits (`MeasJ`)   `dm_equals_mixture_with_measurements`
    `OpRuns2`    MixtureDMTotalMeas     `OpRuns`, or a noiseless measuring operation on existing qubits   `both_compilers_return_with_measurements`

    `OpRuns → OpOK → OpWF` (`OpRuns.ok`, `OpOK.wf`), `OpRuns → Supported` (`OpRuns.supported`), `OpRuns → OpRuns2` (`.unitary`);
    `OpOKJ → OpOK3 → OpWF` (`OpOKJ.ok3`, `OpOK3.wf`), `OpOK4 → OpOK3` (first component), `OpOK` with `ParamPhys` gives `OpOK3`
    (`.unitary`); `ParamPhys → ParamOK`, `ParamPhys → LossLe1` (`paramPhys_ok`, `paramPhys_loss`, MixtureDMJointCircuit).
    "All branches satisfy `P`" is `Mix.All P`; `MixOK n`, `MixN n` (MixtureDM), `MixGood n` (MixtureDMMeasure) are `Mix.All` of a
    fixed `P` written out, and are used as such by unfolding.
-/
import Mathlib.Tactic.Ring
import Mathlib.Tactic.Linarith
import Mathlib.Algebra.Order.Field.Rat
import GraphiqModel.Model.Noise
import GraphiqModel.Proofs.Tableau
import GraphiqModel.Proofs.InverseCircuit
import GraphiqModel.Proofs.DMSem
namespace Graphiq.Noise
open DM

/-! ## 1. the placement decision tree -/

/-- noise applications before / after the gate that the property asks for: one per attached non-`NoNoise` noise, on the
    addressed qubit, on the side its `After gate` flag names -/
def wanted (np : Nat) (op : COp) (k : Nat) (after : Bool) : List Act :=
  (if !op.n0.isNone && op.n0.after == after then [Act.noise k 0 (qIndex np op.r1 op.t1) op.n0] else []) ++
  (if op.kind.isCtrlPair && !op.n1.isNone && op.n1.after == after then [Act.noise k 1 (qIndex np op.r2 op.t2) op.n1] else [])

/-- operations on which additive noise is supported by both compilers -/
def Supported (op : COp) : Prop :=
  (op.kind.isOneQubit = true ∨ op.kind.isCtrlPair = true) ∧ op.n0.isAdditive = true ∧
  (op.kind.isCtrlPair = true → op.n1.isAdditive = true)

theorem kind_excl (k : Kind) : ¬ (k.isOneQubit = true ∧ k.isCtrlPair = true) := by cases k <;> decide
theorem kind_excl2 (k : Kind) : ¬ (k.isOneQubit = true ∧ k.isClassicalCtrl = true) := by cases k <;> decide
theorem kind_excl3 (k : Kind) : ¬ (k.isCtrlPair = true ∧ k.isClassicalCtrl = true) := by cases k <;> decide

@[simp] theorem isNone_none : NoiseM.none.isNone = true := rfl
theorem isNone_after (n : NoiseM) (h : n.isNone = true) : n.after = true := by cases n <;> simp_all [NoiseM.isNone, NoiseM.after]
theorem isNone_additive (n : NoiseM) (h : n.isNone = true) : n.isAdditive = true := by cases n <;> simp_all [NoiseM.isNone, NoiseM.isAdditive]

/-- on one-qubit operations and controlled pairs `_apply_additional_noise` lists the noises that are not `NoNoise`, the second
    one only for a pair — on either backend -/
theorem addl_eq (be : Backend) (np : Nat) (op : COp) (k : Nat) (a b : NoiseM)
    (hk : op.kind.isOneQubit = true ∨ op.kind.isCtrlPair = true) :
    addl be np op k a b = .ok ((if a.isNone then [] else [.noise k 0 (qIndex np op.r1 op.t1) a]) ++
      if op.kind.isCtrlPair && !b.isNone then [.noise k 1 (qIndex np op.r2 op.t2) b] else []) := by
  unfold addl
  rcases hk with hk | hk
  · simp [hk, Bool.eq_false_iff.2 fun h => kind_excl _ ⟨hk, h⟩]
  · cases b.isNone <;> simp [hk, Bool.eq_false_iff.2 fun h => kind_excl _ ⟨h, hk⟩]

/-- **C06 (a), noise on.** -/
theorem placeOp_supported (be : Backend) (np : Nat) (op : COp) (k : Nat) (hs : Supported op) :
    placeOp true be np op k = .ok (wanted np op k false ++ [Act.gate k] ++ wanted np op k true) := by
  obtain ⟨hk, h0, h1⟩ := hs
  have a0 := isNone_after op.n0
  have a1 := isNone_after op.n1
  unfold placeOp wanted
  simp only [addl_eq be np op k _ _ hk]
  rcases hk with hk | hk
  · have hc : op.kind.isCtrlPair = false := Bool.eq_false_iff.2 fun h => kind_excl _ ⟨hk, h⟩
    have hcc : op.kind.isClassicalCtrl = false := Bool.eq_false_iff.2 fun h => kind_excl2 _ ⟨hk, h⟩
    cases hn : op.n0.isNone <;> cases ha : op.n0.after <;> simp [hn, ha] at a0 <;>
      simp [hc, hcc, h0, Except.map]
  · have h1' := h1 hk
    cases hn0 : op.n0.isNone <;> cases hn1 : op.n1.isNone <;> cases ha0 : op.n0.after <;> cases ha1 : op.n1.after <;>
      simp [hn0, ha0] at a0 <;> simp [hn1, ha1] at a1 <;>
      simp [hk, h0, h1', Except.map]

/-- how often the control (or only) noise of the operation is listed on side `a`: the other entry is a `side 1` action -/
theorem count_wanted_control (np : Nat) (op : COp) (k : Nat) (a : Bool) :
    (wanted np op k a).count (Act.noise k 0 (qIndex np op.r1 op.t1) op.n0) =
      if (!op.n0.isNone && op.n0.after == a) = true then 1 else 0 := by
  unfold wanted
  rw [List.count_append]
  have h2 : (if (op.kind.isCtrlPair && !op.n1.isNone && op.n1.after == a) = true
      then [Act.noise k 1 (qIndex np op.r2 op.t2) op.n1] else []).count (Act.noise k 0 (qIndex np op.r1 op.t1) op.n0) = 0 := by
    split <;> simp
  rw [h2, Nat.add_zero]
  split <;> simp

theorem count_wanted_target (np : Nat) (op : COp) (k : Nat) (a : Bool) :
    (wanted np op k a).count (Act.noise k 1 (qIndex np op.r2 op.t2) op.n1) =
      if (op.kind.isCtrlPair && !op.n1.isNone && op.n1.after == a) = true then 1 else 0 := by
  unfold wanted
  rw [List.count_append]
  have h1 : (if (!op.n0.isNone && op.n0.after == a) = true
      then [Act.noise k 0 (qIndex np op.r1 op.t1) op.n0] else []).count (Act.noise k 1 (qIndex np op.r2 op.t2) op.n1) = 0 := by
    split <;> simp
  rw [h1, Nat.zero_add]
  split <;> simp

theorem placeOp_off (be : Backend) (np : Nat) (op : COp) (k : Nat) : placeOp false be np op k = .ok [Act.gate k] := by
  unfold placeOp
  cases (op.kind.isCtrlPair || op.kind.isClassicalCtrl) <;> simp

theorem placeOp_none (ns : Bool) (be : Backend) (np : Nat) (op : COp) (k : Nat)
    (h0 : op.n0.isNone = true) (h1 : op.n1.isNone = true) : placeOp ns be np op k = .ok [Act.gate k] := by
  unfold placeOp
  cases (op.kind.isCtrlPair || op.kind.isClassicalCtrl) <;> simp [h0, h1]

theorem addl_mem {be : Backend} {np : Nat} {op : COp} {k : Nat} {a b : NoiseM} {l : List Act}
    (h : addl be np op k a b = .ok l) {x : Act} (hx : x ∈ l) :
    (x = .noise k 0 (qIndex np op.r1 op.t1) a ∧ a.isNone = false) ∨
    (x = .noise k 1 (qIndex np op.r2 op.t2) b ∧ b.isNone = false ∧ op.kind.isCtrlPair = true) := by
  unfold addl at h
  split at h
  · injection h with h; subst h
    split at hx
    · cases hx
    · rename_i hn; simp only [List.mem_singleton] at hx; exact Or.inl ⟨hx, by simpa using hn⟩
  · split at h
    · rename_i hc
      injection h with h; subst h
      rcases List.mem_append.1 hx with hx | hx
      · split at hx
        · cases hx
        · rename_i hn; simp only [List.mem_singleton] at hx; exact Or.inl ⟨hx, by simpa using hn⟩
      · split at hx
        · cases hx
        · rename_i hn; simp only [List.mem_singleton] at hx; exact Or.inr ⟨hx, by simpa using hn, hc⟩
    · cases be
      · cases h
      · injection h with h; subst h; cases hx

/-- what the placement tree can emit for operation `k`: its gate, its replacement path, or one of its two attached noises on
    the qubit it addresses (the target's only for a controlled pair) -/
def Emits (np : Nat) (op : COp) (k : Nat) (x : Act) : Prop :=
  x = .gate k ∨ (x = .replace k ∧ op.n0 = .replace) ∨ x = .noise k 0 (qIndex np op.r1 op.t1) op.n0 ∨
  (x = .noise k 1 (qIndex np op.r2 op.t2) op.n1 ∧ op.kind.isCtrlPair = true)

/-- **the placement tree emits nothing else**, whatever the operation, the backend and the switch -/
theorem placeOp_mem {ns : Bool} {be : Backend} {np : Nat} {op : COp} {k : Nat} {acts : List Act}
    (h : placeOp ns be np op k = .ok acts) : ∀ x ∈ acts, Emits np op k x := by
  have G : ∀ x ∈ [Act.gate k], Emits np op k x := fun x hx => Or.inl (List.mem_singleton.1 hx)
  -- `addl` is only ever called with the operation's own noise or `NoNoise` in a slot, and lists no `NoNoise`
  have A : ∀ (a b : NoiseM) (l : List Act), (a = op.n0 ∨ a = .none) → (b = op.n1 ∨ b = .none) →
      addl be np op k a b = .ok l → ∀ x ∈ l, Emits np op k x := by
    intro a b l ha hb hl x hx
    rcases addl_mem hl hx with ⟨e, hn⟩ | ⟨e, hn, hc⟩
    · rcases ha with rfl | rfl
      · exact Or.inr (Or.inr (Or.inl e))
      · cases hn
    · rcases hb with rfl | rfl
      · exact Or.inr (Or.inr (Or.inr ⟨e, hc⟩))
      · cases hn
  have app : ∀ (l1 l2 : List Act), (∀ x ∈ l1, Emits np op k x) → (∀ x ∈ l2, Emits np op k x) →
      ∀ x ∈ l1 ++ l2, Emits np op k x := fun l1 l2 h1 h2 x hx => (List.mem_append.1 hx).elim (h1 x) (h2 x)
  have M : ∀ (a b : NoiseM) (g : List Act → List Act), (a = op.n0 ∨ a = .none) → (b = op.n1 ∨ b = .none) →
      (∀ l, (∀ x ∈ l, Emits np op k x) → ∀ x ∈ g l, Emits np op k x) →
      (addl be np op k a b).map g = .ok acts → ∀ x ∈ acts, Emits np op k x := by
    intro a b g ha hb hg hm
    cases hl : addl be np op k a b with
    | error e => rw [hl] at hm; cases hm
    | ok l => rw [hl] at hm; injection hm with hm; subst hm; exact hg l (A a b l ha hb hl)
  unfold placeOp at h
  cases hctl : (op.kind.isCtrlPair || op.kind.isClassicalCtrl) <;> simp only [hctl, Bool.false_eq_true, if_false, if_true] at h
  · split at h
    · injection h with h; subst h; exact G
    · split at h
      · split at h
        · exact M _ _ _ (Or.inl rfl) (Or.inr rfl) (fun l hl => app _ _ G hl) h
        · exact M _ _ _ (Or.inl rfl) (Or.inr rfl) (fun l hl => app _ _ hl G) h
      · split at h
        · rename_i hrep
          injection h with h; subst h
          exact fun x hx => Or.inr (Or.inl ⟨List.mem_singleton.1 hx, by simpa using hrep⟩)
        · cases h
  · split at h
    · injection h with h; subst h; exact G
    · split at h
      · split at h
        · exact M _ _ _ (Or.inl rfl) (Or.inl rfl) (fun l hl => app _ _ G hl) h
        · exact M _ _ _ (Or.inl rfl) (Or.inl rfl) (fun l hl => app _ _ hl G) h
        · split at h
          · rename_i l1 l2 h1 h2
            injection h with h; subst h
            exact app _ _ (app _ _ (A _ _ l1 (Or.inr rfl) (Or.inl rfl) h1) G) (A _ _ l2 (Or.inl rfl) (Or.inr rfl) h2)
          · cases h
          · cases h
        · split at h
          · rename_i l1 l2 h1 h2
            injection h with h; subst h
            exact app _ _ (app _ _ (A _ _ l1 (Or.inl rfl) (Or.inr rfl) h1) G) (A _ _ l2 (Or.inr rfl) (Or.inl rfl) h2)
          · cases h
          · cases h
      · cases h

theorem traceGo_off (be : Backend) (np : Nat) : ∀ (ops : List COp) (k : Nat),
    traceGo false be np ops k = .ok ((List.range ops.length).map fun i => Act.gate (k + i))
  | [], _ => by simp [traceGo]
  | op :: rest, k => by
    simp only [traceGo, placeOp_off, traceGo_off be np rest (k + 1)]
    simp only [List.length_cons, List.range_succ_eq_map, List.map_cons, List.map_map]
    show Except.ok (Act.gate k :: List.map (fun i => Act.gate (k + 1 + i)) (List.range rest.length)) = _
    congr 2
    apply List.map_congr_left
    intro i _
    simp only [Function.comp]; congr 1; omega

theorem compileTrace_off (be : Backend) (np : Nat) (ops : List COp) :
    compileTrace false be np ops = .ok ((List.range ops.length).map Act.gate) := by
  unfold compileTrace
  rw [traceGo_off]
  congr 2
  funext i; simp

/-! ## 2. the compile loops are runs of the placement trace -/

/-- run a list of actions through a step function that may fail: the loop of `runStabActs` and `runDmActs` -/
def runActs {σ : Type} (f : σ → Act → Except Err σ) : List Act → σ → Except Err σ
  | [], s => .ok s
  | a :: as, s =>
    match f s a with
    | .ok s' => runActs f as s'
    | .error e => .error e

theorem runStabActs_eq (np n : Nat) (det : Bool) (arr : Array COp) : ∀ (acts : List Act) (s : StabSt),
    runStabActs np n det arr acts s = runActs (stabAct np n det arr) acts s
  | [], _ => rfl
  | a :: as, s => by
    simp only [runStabActs, runActs]
    cases stabAct np n det arr s a with
    | error e => rfl
    | ok s1 => exact runStabActs_eq np n det arr as s1

theorem runDmActs_eq (np n : Nat) (det : Bool) (arr : Array COp) : ∀ (acts : List Act) (d : DmSt),
    runDmActs np n det arr acts d = runActs (dmAct np n det arr) acts d
  | [], _ => rfl
  | a :: as, d => by
    simp only [runDmActs, runActs]
    cases dmAct np n det arr d a with
    | error e => rfl
    | ok d1 => exact runDmActs_eq np n det arr as d1

section run
variable {σ σ' τ : Type} {f : σ → Act → Except Err σ} {f' : σ' → Act → Except Err σ'}

theorem runActs_cons {a : Act} {as : List Act} {s s' : σ} :
    runActs f (a :: as) s = .ok s' ↔ ∃ s1, f s a = .ok s1 ∧ runActs f as s1 = .ok s' := by
  simp only [runActs]
  cases f s a with
  | error e => exact ⟨fun h => (by cases h), fun ⟨_, h, _⟩ => by cases h⟩
  | ok s1 => exact ⟨fun h => ⟨s1, rfl, h⟩, fun ⟨_, h, h'⟩ => by injection h with h; subst h; exact h'⟩

theorem runActs_append : ∀ {a b : List Act} {s s' : σ},
    runActs f (a ++ b) s = .ok s' ↔ ∃ s1, runActs f a s = .ok s1 ∧ runActs f b s1 = .ok s'
  | [], _, s, _ => ⟨fun h => ⟨s, rfl, h⟩, fun ⟨_, h1, h2⟩ => by injection h1 with h1; subst h1; exact h2⟩
  | x :: xs, b, s, s' => by
    rw [List.cons_append, runActs_cons]
    constructor
    · rintro ⟨s0, hx, h⟩
      obtain ⟨s1, h1, h2⟩ := runActs_append.1 h
      exact ⟨s1, runActs_cons.2 ⟨s0, hx, h1⟩, h2⟩
    · rintro ⟨s1, h1, h2⟩
      obtain ⟨s0, hx, h1⟩ := runActs_cons.1 h1
      exact ⟨s0, hx, runActs_append.2 ⟨s1, h1, h2⟩⟩

/-- **simulation by a ghost value**: a relation between the state and a value `t : τ` that every accepted step advances by
    `g` holds, after the run, for the fold of `g` over the actions -/
theorem runActs_sim (g : Act → τ → τ) (R : σ → τ → Prop) (C : Act → Prop)
    (step : ∀ s s' a t, C a → R s t → f s a = .ok s' → R s' (g a t)) :
    ∀ (acts : List Act) (s s' : σ) (t : τ), (∀ a ∈ acts, C a) → R s t → runActs f acts s = .ok s' →
      R s' (acts.foldl (fun t a => g a t) t)
  | [], _, _, _, _, hr, h => by injection h with h; subst h; exact hr
  | a :: as, s, s', t, hc, hr, h => by
    obtain ⟨s1, ha, h⟩ := runActs_cons.1 h
    exact runActs_sim g R C step as s1 s' (g a t) (fun b hb => hc b (List.mem_cons_of_mem _ hb))
      (step s s1 a t (hc a List.mem_cons_self) hr ha) h

theorem runActs_inv (I : σ → Prop) (C : Act → Prop) (step : ∀ s s' a, C a → I s → f s a = .ok s' → I s')
    (acts : List Act) (s s' : σ) (hc : ∀ a ∈ acts, C a) (hi : I s) (h : runActs f acts s = .ok s') : I s' :=
  runActs_sim (τ := Unit) (fun _ t => t) (fun s _ => I s) C (fun s s' a _ => step s s' a) acts s s' () hc hi h

theorem runActs_sim2 (R : σ → σ' → Prop) (C : Act → Prop)
    (step : ∀ s s1 d d1 a, C a → R s d → f s a = .ok s1 → f' d a = .ok d1 → R s1 d1) :
    ∀ (acts : List Act) (s s' : σ) (d d' : σ'), (∀ a ∈ acts, C a) → R s d → runActs f acts s = .ok s' →
      runActs f' acts d = .ok d' → R s' d'
  | [], _, _, _, _, _, hr, h, h' => by injection h with h; injection h' with h'; subst h; subst h'; exact hr
  | a :: as, s, s', d, d', hc, hr, h, h' => by
    obtain ⟨s1, ha, h⟩ := runActs_cons.1 h
    obtain ⟨d1, hb, h'⟩ := runActs_cons.1 h'
    exact runActs_sim2 R C step as s1 s' d1 d' (fun b hb' => hc b (List.mem_cons_of_mem _ hb'))
      (step s s1 d d1 a (hc a List.mem_cons_self) hr ha hb) h h'

theorem runActs_runs (I : σ → Prop) (C : Act → Prop) (step : ∀ a, C a → ∀ s, I s → ∃ s', f s a = .ok s' ∧ I s') :
    ∀ (acts : List Act) (s : σ), (∀ a ∈ acts, C a) → I s → ∃ s', runActs f acts s = .ok s' ∧ I s'
  | [], s, _, hi => ⟨s, rfl, hi⟩
  | a :: as, s, hc, hi => by
    obtain ⟨s1, e1, i1⟩ := step a (hc a List.mem_cons_self) s hi
    obtain ⟨s', e2, i2⟩ := runActs_runs I C step as s1 (fun b hb => hc b (List.mem_cons_of_mem _ hb)) i1
    exact ⟨s', runActs_cons.2 ⟨s1, e1, e2⟩, i2⟩

end run

theorem traceGo_cons {ns : Bool} {be : Backend} {np : Nat} {op : COp} {rest : List COp} {k : Nat} {tr : List Act} :
    traceGo ns be np (op :: rest) k = .ok tr ↔
      ∃ acts tr', placeOp ns be np op k = .ok acts ∧ traceGo ns be np rest (k + 1) = .ok tr' ∧ tr = acts ++ tr' := by
  simp only [traceGo]
  cases placeOp ns be np op k with
  | error e => exact ⟨fun h => (by cases h), fun ⟨_, _, h, _⟩ => by cases h⟩
  | ok acts =>
    dsimp only
    cases traceGo ns be np rest (k + 1) with
    | error e => exact ⟨fun h => (by cases h), fun ⟨_, _, _, h, _⟩ => by cases h⟩
    | ok tr' =>
      exact ⟨fun h => by injection h with h; exact ⟨acts, tr', rfl, rfl, h.symm⟩,
        fun ⟨_, _, h1, h2, h3⟩ => by injection h1 with h1; injection h2 with h2; subst h1; subst h2; rw [h3]⟩

theorem traceGo_ok {ns : Bool} {be : Backend} {np : Nat} : ∀ (ops : List COp) (k : Nat),
    (∀ op ∈ ops, ∀ j, ∃ acts, placeOp ns be np op j = .ok acts) → ∃ tr, traceGo ns be np ops k = .ok tr
  | [], _, _ => ⟨[], rfl⟩
  | op :: rest, k, h => by
    obtain ⟨acts, hp⟩ := h op List.mem_cons_self k
    obtain ⟨tr, htr⟩ := traceGo_ok rest (k + 1) (fun o ho => h o (List.mem_cons_of_mem _ ho))
    exact ⟨acts ++ tr, traceGo_cons.2 ⟨acts, tr, hp, htr, rfl⟩⟩

theorem traceGo_mem {ns : Bool} {be : Backend} {np : Nat} : ∀ {ops : List COp} {k : Nat} {tr : List Act},
    traceGo ns be np ops k = .ok tr → ∀ a ∈ tr, ∃ op ∈ ops, ∃ j, Emits np op j a
  | [], _, _, h, a, ha => by injection h with h; subst h; cases ha
  | op :: rest, k, _, h, a, ha => by
    obtain ⟨acts, tr', hp, hr, rfl⟩ := traceGo_cons.1 h
    rcases List.mem_append.1 ha with ha | ha
    · exact ⟨op, List.mem_cons_self, k, placeOp_mem hp a ha⟩
    · obtain ⟨o, ho, r⟩ := traceGo_mem hr a ha
      exact ⟨o, List.mem_cons_of_mem _ ho, r⟩

/-- side condition of an action: `G` of the operation a gate action reads, `N` of the qubit and model of a noise action -/
def ActP (G : COp → Prop) (N : Nat → NoiseM → Prop) (arr : Array COp) : Act → Prop
  | .gate k => ∀ op, arr[k]? = some op → G op
  | .noise _ _ q nm => N q nm
  | .replace _ => ∃ q, N q .replace

theorem ActP.mono {G G' : COp → Prop} {N N' : Nat → NoiseM → Prop} {arr : Array COp} (hG : ∀ op, G op → G' op)
    (hN : ∀ q nm, N q nm → N' q nm) : ∀ {a : Act}, ActP G N arr a → ActP G' N' arr a
  | .gate _, h => fun op hop => hG op (h op hop)
  | .noise _ _ q nm, h => hN q nm h
  | .replace _, ⟨q, h⟩ => ⟨q, hN q _ h⟩

theorem trace_actP {G : COp → Prop} {N : Nat → NoiseM → Prop} {ns : Bool} {be : Backend} {np : Nat} {arr : Array COp}
    (harr : ∀ (j : Nat) (op : COp), arr[j]? = some op → G op) {ops : List COp} {k : Nat} {tr : List Act}
    (hw : ∀ op ∈ ops, N (qIndex np op.r1 op.t1) op.n0 ∧ (op.kind.isCtrlPair = true → N (qIndex np op.r2 op.t2) op.n1))
    (h : traceGo ns be np ops k = .ok tr) : ∀ a ∈ tr, ActP G N arr a := by
  intro a ha
  obtain ⟨op, ho, j, he⟩ := traceGo_mem h a ha
  obtain ⟨p0, p1⟩ := hw op ho
  rcases he with e | ⟨e, hr⟩ | e | ⟨e, hc⟩ <;> subst e
  · exact fun o hop => harr j o hop
  · exact ⟨_, hr ▸ p0⟩
  · exact p0
  · exact p1 hc

/-- `ops.getD k Identity`, as the compile loops read the operation of a gate action -/
theorem getD_none (arr : Array COp) (k : Nat) (hk : arr[k]? = none) :
    arr.getD k { kind := .identity } = { kind := .identity } := by
  simp [Array.getD, Array.getElem?_eq_none_iff.1 hk |> Nat.not_lt.2]

theorem getD_some (arr : Array COp) (k : Nat) (op : COp) (hk : arr[k]? = some op) :
    arr.getD k { kind := .identity } = op := by
  have hlt : k < arr.size := by
    rcases Nat.lt_or_ge k arr.size with h' | h'
    · exact h'
    · rw [Array.getElem?_eq_none_iff.2 h'] at hk; cases hk
  simp [Array.getD, hlt]
  have := Array.getElem?_eq_getElem hlt
  rw [this] at hk; injection hk

theorem toArray_forall {P : COp → Prop} {ops : List COp} (hw : ∀ op ∈ ops, P op) (j : Nat) (op : COp)
    (hop : ops.toArray[j]? = some op) : P op := by
  apply hw
  have : op ∈ ops.toArray := Array.mem_of_getElem? hop
  simpa using this

theorem stabGo_cons {ns : Bool} {np n : Nat} {det : Bool} {arr : Array COp} {op : COp} {rest : List COp} {k : Nat}
    {s s' : StabSt} : stabGo ns np n det arr (op :: rest) k s = .ok s' ↔
    op.kind ≠ .param ∧ ∃ acts s1, placeOp ns .stab np op k = .ok acts ∧ runActs (stabAct np n det arr) acts s = .ok s1 ∧
      stabGo ns np n det arr rest (k + 1) s1 = .ok s' := by
  simp only [stabGo, runStabActs_eq]
  by_cases hk : op.kind = .param
  · rw [hk]; exact ⟨fun h => (by cases h), fun h => absurd rfl h.1⟩
  · have hb : (op.kind == Kind.param) = false := by cases h : op.kind <;> first | rfl | exact absurd h hk
    rw [hb]
    simp only [Bool.false_eq_true, if_false]
    cases placeOp ns .stab np op k with
    | error e => exact ⟨fun h => (by cases h), fun ⟨_, _, _, h, _⟩ => by cases h⟩
    | ok acts =>
      dsimp only
      cases hr : runActs (stabAct np n det arr) acts s with
      | error e => exact ⟨fun h => (by cases h), fun ⟨_, _, _, h1, h2, _⟩ => by injection h1 with h1; subst h1; rw [hr] at h2; cases h2⟩
      | ok s1 =>
        exact ⟨fun h => ⟨hk, acts, s1, rfl, hr, h⟩,
          fun ⟨_, _, _, h1, h2, h3⟩ => by injection h1 with h1; subst h1; rw [hr] at h2; injection h2 with h2; subst h2; exact h3⟩

theorem dmGo_cons {ns : Bool} {np n : Nat} {det : Bool} {arr : Array COp} {op : COp} {rest : List COp} {k : Nat}
    {d d' : DmSt} : dmGo ns np n det arr (op :: rest) k d = .ok d' ↔
    ∃ acts d1, placeOp ns .dm np op k = .ok acts ∧ runActs (dmAct np n det arr) acts d = .ok d1 ∧
      dmGo ns np n det arr rest (k + 1) d1 = .ok d' := by
  simp only [dmGo, runDmActs_eq]
  cases placeOp ns .dm np op k with
  | error e => exact ⟨fun h => (by cases h), fun ⟨_, _, h, _⟩ => by cases h⟩
  | ok acts =>
    dsimp only
    cases hr : runActs (dmAct np n det arr) acts d with
    | error e => exact ⟨fun h => (by cases h), fun ⟨_, _, h1, h2, _⟩ => by injection h1 with h1; subst h1; rw [hr] at h2; cases h2⟩
    | ok d1 =>
      exact ⟨fun h => ⟨acts, d1, rfl, hr, h⟩,
        fun ⟨_, _, h1, h2, h3⟩ => by injection h1 with h1; subst h1; rw [hr] at h2; injection h2 with h2; subst h2; exact h3⟩

/-- **`StabilizerCompiler.compile`'s loop returns exactly when** no operation is of an unsupported class, the placement tree
    produced a trace, and the run of that trace returned -/
theorem stabGo_run {ns : Bool} {np n : Nat} {det : Bool} {arr : Array COp} : ∀ {ops : List COp} {k : Nat} {s s' : StabSt},
    stabGo ns np n det arr ops k s = .ok s' ↔
    (∀ op ∈ ops, op.kind ≠ .param) ∧
      ∃ tr, traceGo ns .stab np ops k = .ok tr ∧ runActs (stabAct np n det arr) tr s = .ok s'
  | [], _, _, _ =>
    ⟨fun h => ⟨fun _ ho => (by cases ho), [], rfl, h⟩, fun ⟨_, _, htr, h⟩ => by injection htr with htr; subst htr; exact h⟩
  | op :: rest, k, s, s' => by
    rw [stabGo_cons]
    constructor
    · rintro ⟨hk, acts, s1, hp, hr, h⟩
      obtain ⟨hks, tr, htr, hrun⟩ := stabGo_run.1 h
      exact ⟨List.forall_mem_cons.2 ⟨hk, hks⟩, acts ++ tr, traceGo_cons.2 ⟨acts, tr, hp, htr, rfl⟩,
        runActs_append.2 ⟨s1, hr, hrun⟩⟩
    · rintro ⟨hks, tr, htr, hrun⟩
      obtain ⟨acts, tr', hp, htr', rfl⟩ := traceGo_cons.1 htr
      obtain ⟨s1, hr, hrun⟩ := runActs_append.1 hrun
      exact ⟨hks op List.mem_cons_self, acts, s1, hp, hr,
        stabGo_run.2 ⟨fun o ho => hks o (List.mem_cons_of_mem _ ho), tr', htr', hrun⟩⟩

theorem dmGo_run {ns : Bool} {np n : Nat} {det : Bool} {arr : Array COp} : ∀ {ops : List COp} {k : Nat} {d d' : DmSt},
    dmGo ns np n det arr ops k d = .ok d' ↔
      ∃ tr, traceGo ns .dm np ops k = .ok tr ∧ runActs (dmAct np n det arr) tr d = .ok d'
  | [], _, _, _ => ⟨fun h => ⟨[], rfl, h⟩, fun ⟨_, htr, h⟩ => by injection htr with htr; subst htr; exact h⟩
  | op :: rest, k, d, d' => by
    rw [dmGo_cons]
    constructor
    · rintro ⟨acts, d1, hp, hr, h⟩
      obtain ⟨tr, htr, hrun⟩ := dmGo_run.1 h
      exact ⟨acts ++ tr, traceGo_cons.2 ⟨acts, tr, hp, htr, rfl⟩, runActs_append.2 ⟨d1, hr, hrun⟩⟩
    · rintro ⟨tr, htr, hrun⟩
      obtain ⟨acts, tr', hp, htr', rfl⟩ := traceGo_cons.1 htr
      obtain ⟨d1, hr, hrun⟩ := runActs_append.1 hrun
      exact ⟨acts, d1, hp, hr, dmGo_run.2 ⟨tr', htr', hrun⟩⟩

/-! ## 3. weight bookkeeping of stabilizer mixtures -/

theorem qsumL_nil : qsumL [] = 0 := rfl
theorem qsumL_cons (x : Rat) (l : List Rat) : qsumL (x :: l) = x + qsumL l := by
  rw [qsumL_eq_sum, qsumL_eq_sum, List.sum_cons]
theorem qsumL_append (a b : List Rat) : qsumL (a ++ b) = qsumL a + qsumL b := by
  rw [qsumL_eq_sum, qsumL_eq_sum, qsumL_eq_sum, List.sum_append]

namespace Mix

theorem total_nil : total [] = 0 := rfl
theorem total_cons (p : Rat) (t : Tab) (m : Mixture) : total ((p, t) :: m) = p + total m := by
  unfold total; simp [qsumL_cons]
theorem total_append (a b : Mixture) : total (a ++ b) = total a + total b := by
  unfold total; simp [qsumL_append]

theorem total_eraseIdx : ∀ (l : Mixture) (i : Nat) (p : Rat) (t : Tab), l[i]? = some (p, t) →
    total l = p + total (l.eraseIdx i)
  | [], _, _, _, h => by simp at h
  | (p0, t0) :: rest, 0, p, t, h => by
    simp at h; obtain ⟨rfl, rfl⟩ := h
    simp [total_cons]
  | (p0, t0) :: rest, i+1, p, t, h => by
    simp at h
    have ih := total_eraseIdx rest i p t h
    simp only [List.eraseIdx_cons_succ, total_cons, ih]; ring

theorem total_photonLoss (r : Rat) (m : Mixture) : total (photonLoss r m) = (1 - r) * total m := by
  induction m with
  | nil => simp [photonLoss, total_nil]
  | cons h t ih =>
    obtain ⟨p, tb⟩ := h
    have : photonLoss r ((p, tb) :: t) = ((1 - r) * p, tb) :: photonLoss r t := by simp [photonLoss]
    rw [this, total_cons, total_cons, ih]; ring

theorem total_mapTab (f : Tab → Tab) (m : Mixture) : total (mapTab f m) = total m := by
  induction m with
  | nil => simp [mapTab, total_nil]
  | cons h t ih =>
    obtain ⟨p, tb⟩ := h
    have : mapTab f ((p, tb) :: t) = (p, (f tb).norm) :: mapTab f t := by simp [mapTab]
    rw [this, total_cons, total_cons, ih]

theorem total_measureOld (q : Nat) (det : Bool) (m : Mixture) : total (measureOld q det m).1 = total m := by
  induction m with
  | nil => simp [measureOld, total_nil]
  | cons h t ih =>
    obtain ⟨p, tb⟩ := h
    simp only [measureOld, List.map_cons, List.map_map] at ih ⊢
    rw [total_cons, total_cons]
    congr 1

theorem measureOld_length (q : Nat) (det : Bool) (m : Mixture) :
    (measureOld q det m).1.length = m.length ∧ (measureOld q det m).2.length = m.length := by
  simp [measureOld]

theorem measureJoint_cons (q : Nat) (o : Bool) (x : Rat × Tab) (m : Mixture) :
    measureJoint q o (x :: m) = (match jointBranch q o x with | some y => y :: measureJoint q o m | none => measureJoint q o m) := by
  unfold measureJoint
  rw [List.filterMap_cons]
  cases jointBranch q o x <;> rfl

/-- the two candidate lists of the joint measurement share out the weight: `weight[0] + weight[1] = Σ p_i` -/
theorem total_measureJoint_pair (q : Nat) : ∀ (m : Mixture),
    total (measureJoint q false m) + total (measureJoint q true m) = total m
  | [] => by simp [measureJoint, total_nil]
  | (w, t) :: rest => by
    have ih := total_measureJoint_pair q rest
    rw [measureJoint_cons, measureJoint_cons, total_cons]
    unfold jointBranch
    cases hp : t.pivot q with
    | some p =>
      simp only [total_cons]
      linarith
    | none =>
      have e : ∀ o, (t.zMeasure q o).2.1 = (t.measScratch q).r := by
        intro o; unfold Tab.zMeasure; rw [hp]
      simp only [e]
      cases (t.measScratch q).r <;> simp [total_cons] <;> linarith

theorem total_map_scale (c d : Rat) : ∀ (m : Mixture), total (m.map fun x => (x.1 * c / d, x.2)) = total m * c / d
  | [] => by simp [total_nil]
  | (w, t) :: rest => by
    simp only [List.map_cons, total_cons]
    rw [total_map_scale c d rest]; ring

theorem total_map_zero (f : Tab → Tab) : ∀ (m : Mixture), total (m.map fun x => (0 * x.1, f x.2)) = 0
  | [] => by simp [total_nil]
  | (w, t) :: rest => by
    simp only [List.map_cons, total_cons]
    rw [total_map_zero f rest]; ring

/-- **the repaired (joint) measurement keeps the total weight** — or, when the selected outcome carries no weight, sets every
    weight to `0.0 · p_i` -/
theorem total_measure (q : Nat) (det : Bool) (m : Mixture) :
    total (measure q det m).1 = total m ∨ total (measure q det m).1 = 0 := by
  have hp := total_measureJoint_pair q m
  unfold measure
  simp only
  cases (if det = true then !isclose0 (total (measureJoint q true m)) else isclose0 (total (measureJoint q false m)))
  · simp only [Bool.false_eq_true, if_false]
    by_cases h : 0 < total (measureJoint q false m)
    · rw [if_pos h, total_map_scale, hp]
      exact Or.inl (mul_div_cancel_left₀ _ (ne_of_gt h))
    · rw [if_neg h]
      exact Or.inr (total_map_zero (fun t => (t.zMeasure q false).1.norm) m)
  · simp only [if_true]
    by_cases h : 0 < total (measureJoint q true m)
    · rw [if_pos h, total_map_scale, hp]
      exact Or.inl (mul_div_cancel_left₀ _ (ne_of_gt h))
    · rw [if_neg h]
      exact Or.inr (total_map_zero (fun t => (t.zMeasure q true).1.norm) m)

theorem measure_lengths (q : Nat) (det : Bool) (m : Mixture) :
    (measure q det m).2.length = (measure q det m).1.length := by
  simp [measure]

theorem total_conditioned (f : Tab → Tab) : ∀ (outs : List Bool) (m : Mixture), outs.length = m.length →
    total (conditioned f outs m) = total m
  | [], [], _ => by simp [conditioned, total_nil]
  | [], _ :: _, h => by simp at h
  | _ :: _, [], h => by simp at h
  | o :: os, (p, t) :: m, h => by
    have ih := total_conditioned f os m (by simpa using h)
    have : conditioned f (o :: os) ((p, t) :: m) =
        (if o then (p, (f t).norm) else (p, t)) :: conditioned f os m := by simp [conditioned]
    rw [this]
    cases o <;> simp [total_cons, ih]

theorem reduceScan_total (t0 : Tab) : ∀ (fuel i : Nat) (p0 : Rat) (l : Mixture),
    (reduceScan t0 fuel i p0 l).1 + total (reduceScan t0 fuel i p0 l).2 = p0 + total l ∧
    (reduceScan t0 fuel i p0 l).2.length ≤ l.length
  | 0, _, _, _ => by simp [reduceScan]
  | fuel+1, i, p0, l => by
    unfold reduceScan
    cases hl : l[i]? with
    | none => simp
    | some pt =>
      obtain ⟨pi, ti⟩ := pt
      simp only
      split
      · have ih := reduceScan_total t0 fuel (i + 1) (p0 + pi) (l.eraseIdx i)
        have hi : i < l.length := by
          rcases Nat.lt_or_ge i l.length with h | h
          · exact h
          · rw [List.getElem?_eq_none_iff.2 h] at hl; cases hl
        have hsplit : total l = pi + total (l.eraseIdx i) := total_eraseIdx l i pi ti hl
        constructor
        · rw [ih.1, hsplit]; ring
        · have : (l.eraseIdx i).length = l.length - 1 := List.length_eraseIdx_of_lt hi
          omega
      · exact reduceScan_total t0 fuel (i + 1) p0 l

/-- `MixedStabilizer.reduce()` — popping while enumerating included — never changes the total weight -/
theorem total_reduce : ∀ (fuel : Nat) (m : Mixture), m.length ≤ fuel → total (reduce fuel m) = total m
  | 0, m, h => by
    have : m = [] := List.eq_nil_of_length_eq_zero (by omega)
    subst this; simp [reduce, total_nil]
  | fuel+1, [], _ => by simp [reduce, total_nil]
  | fuel+1, (p0, t0) :: rest, h => by
    have hs := reduceScan_total t0 rest.length 0 p0 rest
    simp only [reduce]
    rw [total_cons, total_cons, total_reduce fuel _ (by simp at h; omega)]
    exact hs.1

/-- what `DepolarizingNoise.apply` builds from one branch: the Kraus terms whose factor is positive -/
def depolBranch (p : Rat) (q : Nat) (pi : Rat) (ti : Tab) : Mixture :=
  (List.range 4).filterMap fun k =>
    let f := (depolFactors p).getD k 0
    if 0 < f then some (pi * f, (pauliGate k ti q).norm) else none

def depolTerm (p : Rat) (q : Nat) (pi : Rat) (ti : Tab) (k : Nat) : Rat × Tab :=
  (pi * (depolFactors p).getD k 0, (pauliGate k ti q).norm)

/-- **what the `factor > 0` filter keeps** for a probability in `[0,1]`: all four terms, except that at `p = 0` only the
    identity term and at `p = 1` only the three Pauli terms remain — the dropped terms have factor exactly 0 -/
theorem depolBranch_cases (p : Rat) (q : Nat) (pi : Rat) (ti : Tab) (hp0 : 0 ≤ p) (hp1 : p ≤ 1) :
    (p = 0 ∧ depolBranch p q pi ti = [depolTerm p q pi ti 0]) ∨
    (p = 1 ∧ depolBranch p q pi ti = [depolTerm p q pi ti 1, depolTerm p q pi ti 2, depolTerm p q pi ti 3]) ∨
    depolBranch p q pi ti = [depolTerm p q pi ti 0, depolTerm p q pi ti 1, depolTerm p q pi ti 2, depolTerm p q pi ti 3] := by
  have e : List.range 4 = [0, 1, 2, 3] := by decide
  unfold depolBranch depolTerm depolFactors
  rw [e]
  simp only [List.filterMap_cons, List.filterMap_nil, List.getD_cons_zero, List.getD_cons_succ]
  rcases lt_or_eq_of_le hp0 with a | a
  · have b : 0 < p / 3 := div_pos a (by norm_num)
    rcases lt_or_eq_of_le hp1 with c | c
    · exact Or.inr (Or.inr (by simp only [sub_pos.2 c, b, if_true]))
    · exact Or.inr (Or.inl ⟨c, by subst c; simp only [sub_self, lt_irrefl, b, if_true, if_false]⟩)
  · exact Or.inl ⟨a.symm, by subst a; norm_num⟩

theorem total_depolBranch (p : Rat) (q : Nat) (pi : Rat) (ti : Tab) (hp0 : 0 ≤ p) (hp1 : p ≤ 1) :
    total (depolBranch p q pi ti) = pi := by
  rcases depolBranch_cases p q pi ti hp0 hp1 with ⟨rfl, e⟩ | ⟨rfl, e⟩ | e <;> rw [e] <;>
    simp only [depolTerm, depolFactors, List.getD_cons_zero, List.getD_cons_succ, total_cons, total_nil] <;> ring

theorem depolBranch_ne_nil (p : Rat) (q : Nat) (pi : Rat) (ti : Tab) (hp0 : 0 ≤ p) (hp1 : p ≤ 1) :
    depolBranch p q pi ti ≠ [] := by
  rcases depolBranch_cases p q pi ti hp0 hp1 with ⟨_, e⟩ | ⟨_, e⟩ | e <;> rw [e] <;> exact List.cons_ne_nil _ _

theorem total_flatMap_depol (p : Rat) (q : Nat) (hp0 : 0 ≤ p) (hp1 : p ≤ 1) :
    ∀ (m : Mixture), total (m.flatMap fun x => depolBranch p q x.1 x.2) = total m
  | [] => by simp [total_nil]
  | (pi, ti) :: rest => by
    simp only [List.flatMap_cons, total_append, total_cons]
    rw [total_depolBranch p q pi ti hp0 hp1, total_flatMap_depol p q hp0 hp1 rest]

theorem depolarize_unfold (p : Rat) (q : Nat) (m : Mixture) :
    depolarize p q m =
      (if total (m.flatMap fun x => depolBranch p q x.1 x.2) ≠ total m then .error .value
       else if (m.flatMap fun x => depolBranch p q x.1 x.2).isEmpty then .error .assertion
       else .ok (reduce (m.flatMap fun x => depolBranch p q x.1 x.2).length (m.flatMap fun x => depolBranch p q x.1 x.2))) := rfl

/-- what `DepolarizingNoise.apply` returns, when it returns: its `np.isclose` guard held, the split mixture is not empty -/
theorem depolarize_inv {p : Rat} {q : Nat} {m m' : Mixture} (h : depolarize p q m = .ok m') :
    total (m.flatMap fun x => depolBranch p q x.1 x.2) = total m ∧ (m.flatMap fun x => depolBranch p q x.1 x.2) ≠ [] ∧
    m' = reduce (m.flatMap fun x => depolBranch p q x.1 x.2).length (m.flatMap fun x => depolBranch p q x.1 x.2) := by
  rw [depolarize_unfold] at h
  split at h
  · cases h
  · rename_i ht
    split at h
    · cases h
    · rename_i hne
      injection h with h
      exact ⟨not_not.mp ht, fun e => hne (by rw [e]; rfl), h.symm⟩

theorem total_depolarize (p : Rat) (q : Nat) (m m' : Mixture) (h : depolarize p q m = .ok m') : total m' = total m := by
  obtain ⟨ht, _, rfl⟩ := depolarize_inv h
  rw [total_reduce _ _ (Nat.le_refl _), ht]

/-- for a probability `0 ≤ p ≤ 1` `DepolarizingNoise.apply` always returns on a non-empty mixture, whatever the weights — in particular on a
    mixture of total weight 0 (after `PhotonLoss(1)`: D37 repaired) -/
theorem depolarize_ok (p : Rat) (q : Nat) (m : Mixture) (hp0 : 0 ≤ p) (hp1 : p ≤ 1) (hm : m ≠ []) :
    ∃ m', depolarize p q m = .ok m' := by
  rw [depolarize_unfold]
  rw [if_neg (by rw [total_flatMap_depol p q hp0 hp1 m]; exact fun h => h rfl)]
  have hne : (m.flatMap fun x => depolBranch p q x.1 x.2).isEmpty = false := by
    cases m with
    | nil => exact absurd rfl hm
    | cons x rest =>
      simp only [List.flatMap_cons, List.isEmpty_eq_false_iff, ne_eq, List.append_eq_nil_iff, not_and]
      intro h; exact absurd h (depolBranch_ne_nil p q x.1 x.2 hp0 hp1)
  rw [hne]; exact ⟨_, rfl⟩

end Mix

/-- survival factor contributed by one action: `1 − rate` for a photon-loss application, `1` for everything else -/
def lossOf : Act → Rat
  | .noise _ _ _ (.loss r _) => 1 - r
  | _ => 1

/-- `∏ (1 − loss_j)` over the loss events of a trace -/
def lossFactor : List Act → Rat
  | [] => 1
  | a :: as => lossOf a * lossFactor as

theorem lossFactor_append (a b : List Act) : lossFactor (a ++ b) = lossFactor a * lossFactor b := by
  induction a with
  | nil => simp [lossFactor]
  | cons x xs ih => simp only [List.cons_append, lossFactor, ih]; ring

/-- the four shapes of an additive noise on a mixture: nothing, a Pauli on every branch, a depolarizing step, a rescaling -/
theorem applyNoise_cases {nm : NoiseM} {q : Nat} {m m' : Mixture} (h : Mix.applyNoise nm q m = .ok m') :
    m' = m ∨ (∃ j, m' = Mix.mapTab (fun t => Mix.pauliGate j t q) m) ∨
    (∃ p, Mix.depolarize p q m = .ok m') ∨ (∃ r a, nm = .loss r a ∧ m' = Mix.photonLoss r m) := by
  cases nm with
  | none => simp only [Mix.applyNoise] at h; injection h with h; exact Or.inl h.symm
  | depol p a => exact Or.inr (Or.inr (Or.inl ⟨p, h⟩))
  | pauli k a =>
    cases k <;> simp only [Mix.applyNoise, Mix.pauliError] at h
    · injection h with h; exact Or.inl h.symm
    · injection h with h; exact Or.inr (Or.inl ⟨1, h.symm⟩)
    · injection h with h; exact Or.inr (Or.inl ⟨2, h.symm⟩)
    · injection h with h; exact Or.inr (Or.inl ⟨3, h.symm⟩)
    · cases h
  | loss r a => simp only [Mix.applyNoise] at h; injection h with h; exact Or.inr (Or.inr (Or.inr ⟨r, a, rfl, h.symm⟩))
  | replace => cases h
  | other => cases h

theorem applyNoise_total (nm : NoiseM) (q : Nat) (m m' : Mixture) (h : Mix.applyNoise nm q m = .ok m') :
    Mix.total m' = (match nm with | .loss r _ => 1 - r | _ => 1) * Mix.total m := by
  cases nm with
  | none => simp [Mix.applyNoise] at h; subst h; simp
  | depol p a => simp only [Mix.applyNoise] at h; rw [Mix.total_depolarize p q m m' h]; simp
  | pauli k a =>
    simp only [Mix.applyNoise] at h
    cases k <;> simp [Mix.pauliError] at h <;> subst h <;> simp [Mix.total_mapTab]
  | loss r a => simp [Mix.applyNoise] at h; subst h; exact Mix.total_photonLoss r m
  | replace => simp [Mix.applyNoise] at h
  | other => simp [Mix.applyNoise] at h

theorem stabMap1_inv {n q : Nat} {f : Tab → Tab} {s s' : StabSt} (h : stabMap1 n q f s = .ok s') :
    q < n ∧ s' = { s with mix := Mix.mapTab f s.mix } := by
  unfold stabMap1 at h
  split at h
  · rename_i hq; injection h with h; exact ⟨hq, h.symm⟩
  · cases h

theorem stabMap2_inv {n q1 q2 : Nat} {f : Tab → Tab} {s s' : StabSt} (h : stabMap2 n q1 q2 f s = .ok s') :
    (q1 < n ∧ q2 < n) ∧ s' = { s with mix := Mix.mapTab f s.mix } := by
  unfold stabMap2 at h
  split at h
  · rename_i hq; injection h with h; exact ⟨hq, h.symm⟩
  · cases h

theorem stabClassical_total (n q1 q2 c : Nat) (det : Bool) (f : Tab → Tab) (reset : Bool) (s s' : StabSt)
    (h : stabClassical n q1 q2 c det f reset s = .ok s') :
    Mix.total s'.mix = Mix.total s.mix ∨ Mix.total s'.mix = 0 := by
  unfold stabClassical at h; split at h
  · injection h with h; subst h
    have hl := Mix.measure_lengths q1 det s.mix
    have hc := Mix.total_conditioned f (Mix.measure q1 det s.mix).2 (Mix.measure q1 det s.mix).1 hl
    have ht := Mix.total_measure q1 det s.mix
    cases reset <;> simp only [Bool.false_eq_true, if_false, if_true, Mix.total_mapTab, hc] <;> exact ht
  · cases h

theorem stabMeasZ_total (n q1 c : Nat) (det : Bool) (s s' : StabSt) (h : stabMeasZ n q1 c det s = .ok s') :
    Mix.total s'.mix = Mix.total s.mix ∨ Mix.total s'.mix = 0 := by
  unfold stabMeasZ at h; split at h
  · injection h with h; subst h; exact Mix.total_measure q1 det s.mix
  · cases h

/-- the tableau operations the stabilizer backend applies to a branch: the row rule of a gate on existing qubits (control ≠
    target), a measurement, a reset -/
inductive TabOp (n : Nat) : (Tab → Tab) → Prop
  | id : TabOp n (fun t => t)
  | gate {g : Gate} (hw : g.WF n) : TabOp n (fun t => t.map g.act)
  | meas {q : Nat} (hq : q < n) (o : Bool) : TabOp n (fun t => (t.zMeasure q o).1)
  | reset {q : Nat} (hq : q < n) (o : Bool) : TabOp n (fun t => t.resetZ q false o)

/-- the four shapes of `compile_one_gate` on a mixture: nothing, a tableau rule on every branch, a measurement with a
    conditioned Pauli, a measurement -/
theorem stabGate_cases {np n : Nat} {det : Bool} {op : COp} {s s' : StabSt} (h : stabGate np n det op s = .ok s') :
    s' = s ∨
    (∃ f, ((op.kind.isCtrlPair = true → qIndex np op.r1 op.t1 ≠ qIndex np op.r2 op.t2) → TabOp n f) ∧
      s' = { s with mix := Mix.mapTab f s.mix }) ∨
    (op.kind.isClassicalCtrl = true ∧
      ∃ q1 q2 c f r, (q2 < n → TabOp n f) ∧ stabClassical n q1 q2 c det f r s = .ok s') ∨
    (op.kind = .measZ ∧ ∃ q1 c, stabMeasZ n q1 c det s = .ok s') := by
  unfold stabGate at h
  simp only at h
  cases hk : op.kind <;> simp only [hk] at h
  case input => injection h with h; exact Or.inl h.symm
  case output => injection h with h; exact Or.inl h.symm
  case identity => injection h with h; exact Or.inl h.symm
  case h => exact Or.inr (Or.inl ⟨_, fun _ => .gate (g := .H _) (stabMap1_inv h).1, (stabMap1_inv h).2⟩)
  case s => exact Or.inr (Or.inl ⟨_, fun _ => .gate (g := .P _) (stabMap1_inv h).1, (stabMap1_inv h).2⟩)
  case sdg => exact Or.inr (Or.inl ⟨_, fun _ => .gate (g := .Pdag _) (stabMap1_inv h).1, (stabMap1_inv h).2⟩)
  case x => exact Or.inr (Or.inl ⟨_, fun _ => .gate (g := .X _) (stabMap1_inv h).1, (stabMap1_inv h).2⟩)
  case y => exact Or.inr (Or.inl ⟨_, fun _ => .gate (g := .Y _) (stabMap1_inv h).1, (stabMap1_inv h).2⟩)
  case z => exact Or.inr (Or.inl ⟨_, fun _ => .gate (g := .Z _) (stabMap1_inv h).1, (stabMap1_inv h).2⟩)
  case cnot =>
    exact Or.inr (Or.inl ⟨_, fun hne => .gate (g := .CNOT _ _) ⟨(stabMap2_inv h).1.1, (stabMap2_inv h).1.2, hne rfl⟩, (stabMap2_inv h).2⟩)
  case cz =>
    exact Or.inr (Or.inl ⟨_, fun hne => .gate (g := .CZ _ _) ⟨(stabMap2_inv h).1.1, (stabMap2_inv h).1.2, hne rfl⟩, (stabMap2_inv h).2⟩)
  case ccnot => exact Or.inr (Or.inr (Or.inl ⟨rfl, _, _, _, _, _, fun hq => .gate (g := .X _) hq, h⟩))
  case ccz => exact Or.inr (Or.inr (Or.inl ⟨rfl, _, _, _, _, _, fun hq => .gate (g := .Z _) hq, h⟩))
  case mcr => exact Or.inr (Or.inr (Or.inl ⟨rfl, _, _, _, _, _, fun hq => .gate (g := .X _) hq, h⟩))
  case measZ => exact Or.inr (Or.inr (Or.inr ⟨rfl, _, _, h⟩))
  case param => cases h

theorem stabGate_total (np n : Nat) (det : Bool) (op : COp) (s s' : StabSt) (h : stabGate np n det op s = .ok s') :
    Mix.total s'.mix = Mix.total s.mix ∨ Mix.total s'.mix = 0 := by
  rcases stabGate_cases h with rfl | ⟨f, _, rfl⟩ | ⟨_, q1, q2, c, f, r, _, h⟩ | ⟨_, q1, c, h⟩
  · exact Or.inl rfl
  · exact Or.inl (Mix.total_mapTab f s.mix)
  · exact stabClassical_total _ _ _ _ _ _ _ _ _ h
  · exact stabMeasZ_total _ _ _ _ _ _ h

theorem stabGate_total_mfree (np n : Nat) (det : Bool) (op : COp)
    (hf : op.kind.isOneQubit = true ∨ op.kind.isCtrlPair = true) (s s' : StabSt) (h : stabGate np n det op s = .ok s') :
    Mix.total s'.mix = Mix.total s.mix := by
  rcases stabGate_cases h with rfl | ⟨f, _, rfl⟩ | ⟨hc, _⟩ | ⟨hk, _⟩
  · rfl
  · exact Mix.total_mapTab f s.mix
  · rcases hf with hf | hf
    · exact absurd ⟨hf, hc⟩ (kind_excl2 _)
    · exact absurd ⟨hf, hc⟩ (kind_excl3 _)
  · rcases hf with hf | hf <;> simp [hk, Kind.isOneQubit, Kind.isCtrlPair] at hf

theorem stabAct_noise_inv {np n : Nat} {det : Bool} {arr : Array COp} {s s' : StabSt} {k side q : Nat} {nm : NoiseM}
    (h : stabAct np n det arr s (.noise k side q nm) = .ok s') :
    ∃ m', Mix.applyNoise nm q s.mix = .ok m' ∧ s' = { s with mix := m' } := by
  simp only [stabAct] at h
  cases hn : Mix.applyNoise nm q s.mix with
  | error e => rw [hn] at h; cases h
  | ok m' => rw [hn] at h; injection h with h; exact ⟨m', rfl, h.symm⟩

theorem dmAct_noise_inv {np n : Nat} {det : Bool} {arr : Array COp} {s s' : DmSt} {ρ : Mat} {k side q : Nat} {nm : NoiseM}
    (hs : s.ρ = some ρ) (h : dmAct np n det arr s (.noise k side q nm) = .ok s') :
    ∃ r, DMx.applyNoise n nm q ρ = .ok r ∧ s' = { s with ρ := some r } := by
  simp only [dmAct, hs] at h
  cases hn : DMx.applyNoise n nm q ρ with
  | error e => rw [hn] at h; cases h
  | ok r => rw [hn] at h; injection h with h; exact ⟨r, rfl, h.symm⟩

theorem stabAct_total (np n : Nat) (det : Bool) (arr : Array COp) (s s' : StabSt) (a : Act)
    (h : stabAct np n det arr s a = .ok s') :
    Mix.total s'.mix = lossOf a * Mix.total s.mix ∨ Mix.total s'.mix = 0 := by
  cases a with
  | gate k =>
    simp only [stabAct] at h
    rcases stabGate_total _ _ _ _ _ _ h with e | e
    · left; rw [e]; simp [lossOf]
    · exact Or.inr e
  | noise k side q nm =>
    obtain ⟨m', hn, rfl⟩ := stabAct_noise_inv h
    left
    rw [applyNoise_total nm q s.mix m' hn]
    cases nm <;> simp [lossOf]
  | replace k => simp [stabAct] at h

theorem lossFactor_foldl : ∀ (tr : List Act) (w : Rat), tr.foldl (fun w a => lossOf a * w) w = lossFactor tr * w
  | [], w => by simp [lossFactor]
  | a :: as, w => by
    simp only [List.foldl_cons, lossFactor]
    rw [lossFactor_foldl as]; ring

/-- **C06 (b), every circuit.**  Whenever the stabilizer compile returns, the placement tree produced a trace and the total
    weight of the mixture is `∏ (1 − loss_j)` over the loss events of that trace — or `0`, when a (repaired, joint) measurement
    selected an outcome that carries no weight and set every weight to `0.0 · p_i` (only possible at a total weight within
    `np.isclose`'s tolerance of 0). -/
theorem compileStab_total (ns : Bool) (ne np nc : Nat) (det : Bool) (ops : List COp) (s : StabSt)
    (h : compileStab ns ne np nc det ops = .ok s) :
    ∃ tr, compileTrace ns .stab np ops = .ok tr ∧ (Mix.total s.mix = lossFactor tr ∨ Mix.total s.mix = 0) := by
  obtain ⟨_, tr, htr, hrun⟩ := stabGo_run.1 h
  refine ⟨tr, htr, ?_⟩
  have := runActs_sim (fun a w => lossOf a * w) (fun s w => Mix.total s.mix = w ∨ Mix.total s.mix = 0) (fun _ => True)
    (fun s s' a t _ hr hs => by
      rcases stabAct_total _ _ _ _ s s' a hs with e | e
      · rcases hr with r | r
        · exact Or.inl (by rw [e, r])
        · exact Or.inr (by rw [e, r, mul_zero])
      · exact Or.inr e) tr _ s 1 (fun _ _ => trivial) (Or.inl (by simp [Mix.total_cons, Mix.total_nil])) hrun
  rwa [lossFactor_foldl, mul_one] at this

end Graphiq.Noise

/-! ## 4. every branch stays a valid tableau -/

namespace Graphiq
open PRow

namespace Noise
open Tab

def Mix.All (P : Tab → Prop) (m : Mixture) : Prop := ∀ x ∈ m, P x.2

/-- a property of tableaux that tabulation and the tableau operations of the backend keep -/
def TabClosed (n : Nat) (P : Tab → Prop) : Prop := (∀ t, P t → P t.norm) ∧ ∀ f, TabOp n f → ∀ t, P t → P (f t)

/-- every branch is a valid `n`-qubit tableau: `Mix.All (fun t => t.n = n ∧ t.Valid)` written out -/
def MixOK (n : Nat) (m : Mixture) : Prop := ∀ x ∈ m, x.2.n = n ∧ x.2.Valid

def KeepsOK (n : Nat) (f : Tab → Tab) : Prop := ∀ t : Tab, t.n = n → t.Valid → (f t).n = n ∧ (f t).Valid

theorem keeps_id (n : Nat) : KeepsOK n (fun t => t) := fun _ h v => ⟨h, v⟩

/-! ### what each operation of the mixture compile does to the tableaux of the branches -/

section all
variable {n : Nat} {P : Tab → Prop}

theorem mapTab_all (f : Tab → Tab) (hf : ∀ t, P t → P (f t).norm) (m : Mixture) (hm : Mix.All P m) :
    Mix.All P (Mix.mapTab f m) := by
  intro x hx
  simp only [Mix.mapTab, List.mem_map] at hx
  obtain ⟨⟨p, t⟩, hy, rfl⟩ := hx
  exact hf t (hm (p, t) hy)

theorem photonLoss_all (r : Rat) (m : Mixture) (hm : Mix.All P m) : Mix.All P (Mix.photonLoss r m) := by
  intro x hx
  simp only [Mix.photonLoss, List.mem_map] at hx
  obtain ⟨⟨p, t⟩, hy, rfl⟩ := hx
  exact hm (p, t) hy

theorem reduceScan_sub (t0 : Tab) : ∀ (fuel i : Nat) (p0 : Rat) (l : Mixture) (x : Rat × Tab),
    x ∈ (Mix.reduceScan t0 fuel i p0 l).2 → x ∈ l
  | 0, _, _, _, _, h => by simpa [Mix.reduceScan] using h
  | fuel+1, i, p0, l, x, h => by
    unfold Mix.reduceScan at h
    cases hl : l[i]? with
    | none => rw [hl] at h; simpa using h
    | some pt =>
      obtain ⟨pi, ti⟩ := pt
      rw [hl] at h
      simp only at h
      split at h
      · exact (List.eraseIdx_sublist l i).subset (reduceScan_sub t0 fuel (i + 1) _ _ x h)
      · exact reduceScan_sub t0 fuel (i + 1) p0 l x h

theorem reduce_tabs : ∀ (fuel : Nat) (m : Mixture) (x : Rat × Tab), x ∈ Mix.reduce fuel m → ∃ y ∈ m, x.2 = y.2
  | 0, _, _, h => by simp [Mix.reduce] at h
  | fuel+1, [], _, h => by simp [Mix.reduce] at h
  | fuel+1, (p0, t0) :: rest, x, h => by
    simp only [Mix.reduce, List.mem_cons] at h
    rcases h with h | h
    · exact ⟨(p0, t0), by simp, by rw [h]⟩
    · obtain ⟨y, hy, e⟩ := reduce_tabs fuel _ x h
      exact ⟨y, List.mem_cons_of_mem _ (reduceScan_sub t0 _ _ _ _ y hy), e⟩

theorem reduce_all (fuel : Nat) (m : Mixture) (hm : Mix.All P m) : Mix.All P (Mix.reduce fuel m) := by
  intro x hx
  obtain ⟨y, hy, e⟩ := reduce_tabs fuel m x hx
  rw [e]; exact hm y hy

theorem depolBranches_all {q : Nat} (hg : ∀ k t, P t → P (Mix.pauliGate k t q).norm) (p : Rat) (m : Mixture)
    (hm : Mix.All P m) : Mix.All P (m.flatMap fun x => Mix.depolBranch p q x.1 x.2) := by
  intro x hx
  simp only [List.mem_flatMap, Mix.depolBranch, List.mem_filterMap, List.mem_range] at hx
  obtain ⟨⟨pi, ti⟩, hy, k, _, hk⟩ := hx
  simp only at hk
  split at hk
  · injection hk with hk; subst hk
    exact hg k ti (hm (pi, ti) hy)
  · cases hk

/-- the noise models only ever apply the four Pauli "transformations" to a branch -/
theorem applyNoise_all {q : Nat} (hg : ∀ k t, P t → P (Mix.pauliGate k t q).norm) (nm : NoiseM) (m m' : Mixture)
    (hm : Mix.All P m) (h : Mix.applyNoise nm q m = .ok m') : Mix.All P m' := by
  rcases applyNoise_cases h with rfl | ⟨j, rfl⟩ | ⟨p, h⟩ | ⟨r, a, _, rfl⟩
  · exact hm
  · exact mapTab_all _ (hg j) m hm
  · obtain ⟨_, _, rfl⟩ := Mix.depolarize_inv h
    exact reduce_all _ _ (depolBranches_all hg p m hm)
  · exact photonLoss_all r m hm

theorem jointBranch_tab (q : Nat) (o : Bool) (y z : Rat × Tab) (h : Mix.jointBranch q o y = some z) :
    z.2 = (y.2.zMeasure q o).1.norm ∧ (z.1 = y.1 / 2 ∨ z.1 = y.1) := by
  unfold Mix.jointBranch at h
  cases hp : y.2.pivot q with
  | some p => simp only [hp] at h; injection h with h; subst h; exact ⟨rfl, Or.inl rfl⟩
  | none =>
    simp only [hp] at h
    split at h
    · injection h with h; subst h; exact ⟨rfl, Or.inr rfl⟩
    · cases h

theorem mem_measure (q : Nat) (det : Bool) (m : Mixture) (x : Rat × Tab) (hx : x ∈ (Mix.measure q det m).1) :
    ∃ y ∈ m, ∃ o, x.2 = (y.2.zMeasure q o).1.norm := by
  unfold Mix.measure at hx
  simp only at hx
  generalize (if det = true then !DM.isclose0 (Mix.total (Mix.measureJoint q true m))
    else DM.isclose0 (Mix.total (Mix.measureJoint q false m))) = oc at hx
  by_cases h : 0 < (if oc = true then Mix.total (Mix.measureJoint q true m) else Mix.total (Mix.measureJoint q false m))
  · rw [if_pos h] at hx
    simp only [List.mem_map] at hx
    obtain ⟨z, hz, rfl⟩ := hx
    unfold Mix.measureJoint at hz
    rw [List.mem_filterMap] at hz
    obtain ⟨y, hy, hj⟩ := hz
    exact ⟨y, hy, oc, (jointBranch_tab q oc y z hj).1⟩
  · rw [if_neg h] at hx
    simp only [List.mem_map] at hx
    obtain ⟨y, hy, rfl⟩ := hx
    exact ⟨y, hy, oc, rfl⟩

theorem measureJoint_all {q : Nat} (hz : ∀ o t, P t → P (t.zMeasure q o).1.norm) (o : Bool) (m : Mixture)
    (hm : Mix.All P m) : Mix.All P (Mix.measureJoint q o m) := by
  intro z hz'
  obtain ⟨y, hy, hj⟩ := List.mem_filterMap.1 hz'
  rw [(jointBranch_tab q o y z hj).1]
  exact hz o y.2 (hm y hy)

theorem measure_all {q : Nat} (hz : ∀ o t, P t → P (t.zMeasure q o).1.norm) (det : Bool) (m : Mixture)
    (hm : Mix.All P m) : Mix.All P (Mix.measure q det m).1 := by
  intro x hx
  obtain ⟨y, hy, o, e⟩ := mem_measure q det m x hx
  rw [e]; exact hz o y.2 (hm y hy)

theorem conditioned_all (f : Tab → Tab) (hf : ∀ t, P t → P (f t).norm) (outs : List Bool) (m : Mixture)
    (hm : Mix.All P m) : Mix.All P (Mix.conditioned f outs m) := by
  intro x hx
  simp only [Mix.conditioned, List.mem_map] at hx
  obtain ⟨⟨⟨p, t⟩, o⟩, hy, rfl⟩ := hx
  have h := hm (p, t) (List.of_mem_zip hy).1
  cases o
  · exact h
  · exact hf t h

theorem TabClosed.op (hP : TabClosed n P) {f : Tab → Tab} (hf : TabOp n f) (t : Tab) (h : P t) : P (f t).norm :=
  hP.1 _ (hP.2 f hf t h)

theorem TabClosed.pauli (hP : TabClosed n P) {q : Nat} (hq : q < n) : ∀ (k : Nat) (t : Tab), P t → P (Mix.pauliGate k t q).norm
  | 0 => hP.op .id
  | 1 => hP.op (.gate (g := .X q) hq)
  | 2 => hP.op (.gate (g := .Y q) hq)
  | _ + 3 => hP.op (.gate (g := .Z q) hq)

theorem stabClassical_all (hP : TabClosed n P) (q1 q2 c : Nat) (det : Bool) {f : Tab → Tab} (hf : q2 < n → TabOp n f)
    (reset : Bool) (s s' : StabSt) (hm : Mix.All P s.mix) (h : stabClassical n q1 q2 c det f reset s = .ok s') :
    Mix.All P s'.mix := by
  unfold stabClassical at h; split at h
  · rename_i hq; injection h with h; subst h
    have h2 := conditioned_all f (hP.op (hf hq.2)) (Mix.measure q1 det s.mix).2 _
      (measure_all (fun o => hP.op (.meas hq.1 o)) det s.mix hm)
    cases reset
    · simpa using h2
    · simpa using mapTab_all _ (hP.op (.reset hq.1 det)) _ h2
  · cases h

theorem stabGate_all (hP : TabClosed n P) (np : Nat) (det : Bool) (op : COp)
    (hne : op.kind.isCtrlPair = true → qIndex np op.r1 op.t1 ≠ qIndex np op.r2 op.t2)
    (s s' : StabSt) (hm : Mix.All P s.mix) (h : stabGate np n det op s = .ok s') : Mix.All P s'.mix := by
  rcases stabGate_cases h with rfl | ⟨f, hf, rfl⟩ | ⟨_, q1, q2, c, f, r, hf, h⟩ | ⟨_, q1, c, h⟩
  · exact hm
  · exact mapTab_all f (hP.op (hf hne)) _ hm
  · exact stabClassical_all hP q1 q2 c det hf r s s' hm h
  · unfold stabMeasZ at h; split at h
    · rename_i hq; injection h with h; subst h; exact measure_all (fun o => hP.op (.meas hq o)) det s.mix hm
    · cases h

/-- well-formed operation: its qubits exist, control and target of a controlled pair differ -/
def OpWF (n np : Nat) (op : COp) : Prop :=
  qIndex np op.r1 op.t1 < n ∧
  ((op.kind.isCtrlPair = true ∨ op.kind.isClassicalCtrl = true) → qIndex np op.r2 op.t2 < n) ∧
  (op.kind.isCtrlPair = true → qIndex np op.r1 op.t1 ≠ qIndex np op.r2 op.t2)

theorem OpWF.single {n np : Nat} {op : COp} (h1 : op.kind.isCtrlPair = false) (h2 : op.kind.isClassicalCtrl = false)
    (hq : qIndex np op.r1 op.t1 < n) : OpWF n np op :=
  ⟨hq, fun h => by rw [h1, h2] at h; simp at h, fun h => by rw [h1] at h; cases h⟩

theorem OpWF.noise {n np : Nat} {op : COp} (h : OpWF n np op) :
    qIndex np op.r1 op.t1 < n ∧ (op.kind.isCtrlPair = true → qIndex np op.r2 op.t2 < n) :=
  ⟨h.1, fun hc => h.2.1 (Or.inl hc)⟩

theorem stabAct_all (hP : TabClosed n P) (np : Nat) (det : Bool) (arr : Array COp) (s s' : StabSt) (a : Act)
    (ha : ActP (OpWF n np) (fun q _ => q < n) arr a) (hm : Mix.All P s.mix) (h : stabAct np n det arr s a = .ok s') :
    Mix.All P s'.mix := by
  cases a with
  | gate k =>
    simp only [stabAct] at h
    refine stabGate_all hP np det _ ?_ s s' hm h
    cases hk : arr[k]? with
    | none => rw [getD_none arr k hk]; simp [Kind.isCtrlPair]
    | some op => rw [getD_some arr k op hk]; exact (ha op hk).2.2
  | noise k side q nm =>
    obtain ⟨m', hn, rfl⟩ := stabAct_noise_inv h
    exact applyNoise_all (hP.pauli ha) nm s.mix m' hm hn
  | replace k => simp [stabAct] at h

end all

/-- **what the tableau operations keep, every branch of the compiled mixture has**, for a circuit whose operations address
    existing qubits (control ≠ target) -/
theorem compileStab_all {P : Tab → Prop} (ns : Bool) (ne np nc : Nat) (det : Bool) (ops : List COp)
    (hP : TabClosed (ne + np) P) (h0 : P (Tab.ket0 (ne + np))) (hw : ∀ op ∈ ops, OpWF (ne + np) np op) (s : StabSt)
    (h : compileStab ns ne np nc det ops = .ok s) : Mix.All P s.mix := by
  obtain ⟨_, tr, htr, hrun⟩ := stabGo_run.1 h
  refine runActs_inv (fun s => Mix.All P s.mix) _ (stabAct_all hP np det ops.toArray) tr _ s
    (trace_actP (N := fun q _ => q < ne + np) (toArray_forall hw) (fun op ho => (hw op ho).noise) htr) ?_ hrun
  exact List.forall_mem_singleton.2 (hP.1 _ h0)

theorem size_closed (n : Nat) : TabClosed n (fun t => t.n = n) :=
  ⟨fun _ h => h, fun f hf t h => by
    cases hf with
    | meas hq o => rw [zMeasure_n]; exact h
    | reset hq o => rw [resetZ_n]; exact h
    | _ => exact h⟩

theorem valid_closed (n : Nat) : TabClosed n (fun t => t.n = n ∧ t.Valid) :=
  ⟨fun t h => ⟨h.1, Tab.norm_valid t h.2⟩, fun f hf t ⟨hn, hv⟩ => by
    subst hn
    cases hf with
    | id => exact ⟨rfl, hv⟩
    | gate hw => exact ⟨rfl, map_valid t _ (Gate.isAut t.n _ hw) hv⟩
    | meas hq o => exact ⟨zMeasure_n t _ o, zMeasure_valid t _ o hq hv⟩
    | reset hq o => exact ⟨resetZ_n t _ false o, resetZ_valid t _ false o hq hv⟩⟩

/-- **every branch stays a valid tableau**: for a circuit whose operations address existing qubits (control ≠ target),
    whenever the stabilizer compile returns, every `T_k` of the mixture is a valid `n`-qubit Clifford tableau -/
theorem compileStab_ok (ns : Bool) (ne np nc : Nat) (det : Bool) (ops : List COp)
    (hw : ∀ op ∈ ops, OpWF (ne + np) np op) (s : StabSt) (h : compileStab ns ne np nc det ops = .ok s) :
    MixOK (ne + np) s.mix :=
  compileStab_all ns ne np nc det ops (valid_closed _) ⟨rfl, ket0_valid _⟩ hw s h

end Noise
end Graphiq

/-! ## 5. zero strength ⇒ identity -/

namespace Graphiq.Noise
open DM

theorem reduce_single (w : Rat) (t : Tab) : Mix.reduce 1 [(w, t)] = [(w, t)] := by
  simp [Mix.reduce, Mix.reduceScan]

/-- **zero strength ⇒ identity (mixtures).**  On a one-branch mixture of positive weight — what every noiseless run is —
    a noise of zero strength (`NoNoise`, `DepolarizingNoise(0)`, `PhotonLoss(0)`, `PauliError("I")`) returns the same weight
    and the same tableau (`DepolarizingNoise(0)` re-tabulates it: `Tab.norm`, pointwise the identity). -/
theorem zero_strength_single_branch (nm : NoiseM) (hz : nm.isZeroStrength = true) (q : Nat) (w : Rat) (hw : 0 < w) (t : Tab) :
    Mix.applyNoise nm q [(w, t)] = .ok [(w, t)] ∨ Mix.applyNoise nm q [(w, t)] = .ok [(w, t.norm)] := by
  cases nm with
  | none => left; rfl
  | depol p a =>
    right
    have hp : p = 0 := by simpa [NoiseM.isZeroStrength] using hz
    subst hp
    have e : List.range 4 = [0, 1, 2, 3] := by decide
    have h0 : ¬ ((0 : Rat) < 0 / 3) := by norm_num
    simp only [Mix.applyNoise, Mix.depolarize, Mix.depolFactors, e, List.flatMap_cons, List.flatMap_nil, List.filterMap_cons,
      List.filterMap_nil, List.getD_cons_zero, List.getD_cons_succ, sub_zero, mul_one, zero_lt_one, h0, if_true, if_false,
      List.append_nil, Mix.pauliGate]
    simp [Mix.total, qsumL, reduce_single]
  | pauli k a =>
    left
    have hk : k = .I := by simpa [NoiseM.isZeroStrength] using hz
    subst hk; rfl
  | loss r a =>
    left
    have hr : r = 0 := by simpa [NoiseM.isZeroStrength] using hz
    subst hr
    simp [Mix.applyNoise, Mix.photonLoss]
  | replace => simp [NoiseM.isZeroStrength] at hz
  | other => simp [NoiseM.isZeroStrength] at hz

theorem norm_is_identity (t : Tab) : t.norm.n = t.n ∧ ∀ i, i < 2 * t.n → PRow.EqOn t.n (t.norm.row i) (t.row i) :=
  ⟨rfl, Tab.norm_row t⟩


end Graphiq.Noise

/-! ### the density-matrix primitives on their trivial inputs -/

namespace Graphiq
open DM

theorem digits_eq (b i j : Nat) (h1 : i / (2 * b) = j / (2 * b)) (h2 : i % b = j % b)
    (h3 : (i / b) % 2 = (j / b) % 2) : i = j := by
  have e : ∀ m, m = b * (2 * (m / (2 * b)) + (m / b) % 2) + m % b := by
    intro m
    have a1 := Nat.div_add_mod m b
    have a2 := Nat.div_add_mod (m / b) 2
    have a3 : m / b / 2 = m / (2 * b) := by rw [Nat.div_div_eq_div_mul, Nat.mul_comm]
    rw [a3] at a2
    calc m = b * (m / b) + m % b := a1.symm
      _ = b * (2 * (m / (2 * b)) + (m / b) % 2) + m % b := by rw [a2]
  rw [e i, e j, h1, h2, h3]

/-- the Kraus operator of the identity term is the identity matrix -/
theorem embed1_id2 (a b : Nat) (i j : Nat) : (embed1 a b Mat.id2).e i j = (Mat.eye (a * 2 * b)).e i j := by
  simp only [embed1, Mat.eye]
  by_cases hij : i = j
  · subst hij
    simp only [and_self, if_true]
    rw [Mat.id2_e _ _ (Nat.mod_lt _ (by norm_num)) (Nat.mod_lt _ (by norm_num))]
    simp
  · rw [if_neg hij]
    split
    · rename_i hc
      rw [Mat.id2_e _ _ (Nat.mod_lt _ (by norm_num)) (Nat.mod_lt _ (by norm_num))]
      rw [if_neg]
      intro h3
      exact hij (digits_eq b i j hc.1 hc.2 h3)
    · rfl

theorem embed1_id2_eq (a b : Nat) : embed1 a b Mat.id2 = Mat.eye (a * 2 * b) := by
  have : (embed1 a b Mat.id2).e = (Mat.eye (a * 2 * b)).e := by funext i j; exact embed1_id2 a b i j
  unfold embed1 Mat.eye at *
  simp only at this
  rw [this]

namespace Mat

theorem eye_n (n : Nat) : (eye n).n = n := rfl
theorem conjBy_n (u ρ : Mat) : (conjBy u ρ).n = u.n := norm_n (mul u ρ)
theorem conjBy_e (u ρ : Mat) (i j : Nat) :
    (conjBy u ρ).e i j = dot u.n (fun k => (mul u ρ).norm.e i k) (fun k => u.dagger.e k j) := by
  show dot (mul u ρ).norm.n _ _ = _
  rw [norm_n]
  rfl
theorem norm_eqOn (m : Mat) : EqOn m.norm m := ⟨norm_n m, norm_e m⟩

theorem EqOn.trans {a b c : Mat} (h1 : EqOn a b) (h2 : EqOn b c) : EqOn a c :=
  ⟨h1.1.trans h2.1, fun i j hi hj => (h1.2 i j hi hj).trans (h2.2 i j (h1.1 ▸ hi) (h1.1 ▸ hj))⟩

theorem EqOn.symm {a b : Mat} (h : EqOn a b) : EqOn b a :=
  ⟨h.1.symm, fun i j hi hj => (h.2 i j (h.1 ▸ hi) (h.1 ▸ hj)).symm⟩

theorem dot_congr (n : Nat) (f f' g g' : Nat → GQ) (hf : ∀ k, k < n → f k = f' k) (hg : ∀ k, k < n → g k = g' k) :
    dot n f g = dot n f' g' := by
  rw [dot_eq_gsum, dot_eq_gsum, gsum_eq_sum, gsum_eq_sum]
  apply Finset.sum_congr rfl
  intro k hk
  have := Finset.mem_range.1 hk
  rw [hf k this, hg k this]

theorem dot_eye_left (n i : Nat) (hi : i < n) (g : Nat → GQ) :
    dot n (fun k => (eye n).e i k) g = g i := by
  rw [dot_eq_gsum, gsum_eq_sum]
  simp only [eye]
  rw [Finset.sum_eq_single i]
  · simp
  · intro k _ hk; simp [Ne.symm hk]
  · intro h; exact absurd (Finset.mem_range.2 hi) h

theorem dot_eye_right (n j : Nat) (hj : j < n) (f : Nat → GQ) :
    dot n f (fun k => ((eye n).dagger).e k j) = f j := by
  rw [dot_eq_gsum, gsum_eq_sum]
  simp only [eye, dagger]
  rw [Finset.sum_eq_single j]
  · simp [GQ.conj]; ext <;> simp
  · intro k _ hk
    have : ¬ j = k := fun h => hk h.symm
    simp [this, GQ.conj]
    ext <;> simp
  · intro h; exact absurd (Finset.mem_range.2 hj) h

theorem conjBy_eye (ρ : Mat) : EqOn (conjBy (eye ρ.n) ρ) ρ := by
  refine ⟨conjBy_n _ ρ, fun i j hi hj => ?_⟩
  rw [conjBy_n, eye_n] at hi hj
  rw [conjBy_e, eye_n, dot_eye_right ρ.n j hj]
  show (mul (eye ρ.n) ρ).norm.e i j = ρ.e i j
  rw [norm_e (mul (eye ρ.n) ρ) i j hi hj]
  exact dot_eye_left ρ.n i hi _

theorem smul_one_eqOn (ρ : Mat) : EqOn (smul 1 ρ) ρ :=
  ⟨rfl, fun i j _ _ => by simp only [smul]; ext <;> simp [GQ.smul]⟩

def Herm (a : Mat) : Prop := ∀ i j, i < a.n → j < a.n → (a.e j i).conj = a.e i j

theorem hermitianize_eqOn (a : Mat) (h : Herm a) : EqOn (hermitianize a) a := by
  refine ⟨rfl, fun i j hi hj => ?_⟩
  simp only [hermitianize, smul, add, dagger]
  rw [h i j hi hj]
  ext <;> simp [GQ.smul] <;> ring


theorem hermitianize_congr (a b : Mat) (h : EqOn a b) : EqOn (hermitianize a) (hermitianize b) := by
  refine ⟨h.1, fun i j hi hj => ?_⟩
  simp only [hermitianize, smul, add, dagger]
  rw [h.2 i j hi hj, h.2 j i hj hi]

theorem smul_congr (q : Rat) (a b : Mat) (h : EqOn a b) : EqOn (smul q a) (smul q b) :=
  ⟨h.1, fun i j hi hj => by simp only [smul]; rw [h.2 i j hi hj]⟩

end Mat

namespace Noise
open Mat

theorem applyUnitary_eye (ρ : Mat) (hh : Mat.Herm ρ) :
    ∃ ρ', applyUnitary ρ ⟨1, Mat.eye ρ.n⟩ = .ok ρ' ∧ Mat.EqOn ρ' ρ := by
  unfold applyUnitary
  simp only [Mat.eye, ne_eq, not_true_eq_false, if_false]
  refine ⟨_, rfl, ?_⟩
  have h1 : Mat.EqOn (Mat.smul 1 (Mat.conjBy (Mat.eye ρ.n) ρ)).norm ρ :=
    (Mat.norm_eqOn _).trans ((Mat.smul_one_eqOn _).trans (Mat.conjBy_eye ρ))
  have h2 := Mat.hermitianize_congr _ _ h1
  exact (Mat.norm_eqOn _).trans (h2.trans (Mat.hermitianize_eqOn ρ hh))

theorem add_congr_left (a a' b : Mat) (h : Mat.EqOn a a') : Mat.EqOn (Mat.add a b) (Mat.add a' b) :=
  ⟨h.1, fun i j hi hj => by simp only [Mat.add]; rw [h.2 i j hi hj]⟩

end Noise
end Graphiq

/-! ## 6. trace of the exact density matrix under photon loss -/

namespace Graphiq.Noise
open DM Mat

theorem trace_congr (a b : Mat) (h : Mat.EqOn a b) : a.trace = b.trace := by
  unfold Mat.trace
  rw [gsum_eq_sum, gsum_eq_sum, h.1]
  apply Finset.sum_congr rfl
  intro i hi
  have := Finset.mem_range.1 hi
  exact h.2 i i (h.1 ▸ this) (h.1 ▸ this)

theorem trace_smul (q : Rat) (a : Mat) : (Mat.smul q a).trace = GQ.smul q a.trace := by
  unfold Mat.trace Mat.smul
  simp only [gsum_eq_sum]
  have : ∀ x : GQ, GQ.smul q x = (⟨q, 0⟩ : GQ) * x := by intro x; ext <;> simp [GQ.smul]
  simp only [this, Finset.mul_sum]

/-- `PhotonLoss` on a density matrix multiplies the trace by the survival probability (model-level twin of
    `loss_scales_weight`) -/
theorem dm_loss_trace (n q : Nat) (r : Rat) (a : Bool) (ρ ρ' : Mat) (h : DMx.applyNoise n (.loss r a) q ρ = .ok ρ') :
    ρ'.trace = GQ.smul (1 - r) ρ.trace := by
  simp only [DMx.applyNoise] at h
  injection h with h; subst h
  rw [trace_congr _ _ (Mat.norm_eqOn _), trace_smul]

end Graphiq.Noise
