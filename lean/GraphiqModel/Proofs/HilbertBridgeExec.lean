/-
  Proofs/HilbertBridgeExec.lean — `DensityMatrix.apply_unitary` and `apply_channel` of the *executable* exact model
  (`Model/DMSem.lean`) under `Rep` (Proofs/HilbertBridgeMat.lean): forward and total — they return, and what they return
  represents `hermitianize(√sq·U ρ (√sq·U)†)` / the hermitianized weighted Kraus sum.  Shared between C01 (compile loop) and
  C06 (noise channels).
-/
import GraphiqModel.Proofs.HilbertBridgeMat
namespace Graphiq
namespace DMX
open Hilbert Matrix

theorem rep_applyUnitary {n : Nat} {ρ : Mat} {R : DMat n} (u : DM.SMat) {U : DMat n} (hρ : Rep n ρ R)
    (hu : Rep n u.m U) :
    ∃ m, DM.applyUnitary ρ u = .ok m ∧ Rep n m (herm (((u.sq : ℝ) : ℂ) • (U * R * Uᴴ))) := by
  unfold DM.applyUnitary
  rw [if_neg (not_not.mpr (hρ.1.trans hu.1.symm))]
  exact ⟨_, rfl, (Rep.hermitianize (Rep.smul _ (Rep.conjBy hu hρ)).norm).norm⟩

/-- a weighted Kraus sum as `DensityMatrix.apply_channel` accumulates it: `hermitianize(Σ_k w_k · K_k ρ K_k†)` from 0 in
    list order (`√w_k · K_k` are the Kraus operators; the executable model keeps the weight symbolic) -/
noncomputable def applyChannelW {n : Nat} (ρ : DMat n) (ks : List (ℝ × DMat n)) : DMat n :=
  match ks with
  | [] => ρ
  | _ :: _ => herm (ks.foldl (fun acc K => acc + (K.1 : ℂ) • (K.2 * ρ * K.2ᴴ)) 0)

theorem rep_channel_fold {n : Nat} {ρ : Mat} {R : DMat n} (hρ : Rep n ρ R) :
    ∀ (ks : List DM.SMat) (Ks : List (ℝ × DMat n)), List.Forall₂ (fun k K => (k.sq : ℝ) = K.1 ∧ Rep n k.m K.2) ks Ks →
      ∀ (acc : Mat) (A : DMat n), Rep n acc A →
        Rep n (ks.foldl (fun acc k => (Mat.add acc (Mat.smul k.sq (Mat.conjBy k.m ρ)).norm).norm) acc)
          (Ks.foldl (fun acc K => acc + (K.1 : ℂ) • (K.2 * R * K.2ᴴ)) A) := by
  intro ks Ks h
  induction h with
  | nil => intro acc A hA; exact hA
  | cons hk _ ih =>
    intro acc A hA
    simp only [List.foldl]
    apply ih
    rw [← hk.1]
    exact (Rep.add hA (Rep.smul _ (Rep.conjBy hk.2 hρ)).norm).norm

/-- **`apply_channel` of the executable model** for any list of weighted Kraus operators (reset, depolarizing, …) -/
theorem rep_applyChannel {n : Nat} {ρ : Mat} {R : DMat n} (hρ : Rep n ρ R) (ks : List DM.SMat) (Ks : List (ℝ × DMat n))
    (h : List.Forall₂ (fun k K => (k.sq : ℝ) = K.1 ∧ Rep n k.m K.2) ks Ks) :
    ∃ m, DM.applyChannel ρ ks = .ok m ∧ Rep n m (applyChannelW R Ks) := by
  cases h with
  | nil => exact ⟨ρ, rfl, hρ⟩
  | cons hk hrest =>
    rename_i k K ks' Ks'
    unfold DM.applyChannel
    simp only
    rw [if_neg (not_not.mpr (hρ.1.trans hk.2.1.symm))]
    refine ⟨_, rfl, ?_⟩
    have hz : Rep n (Mat.zero ρ.n) (0 : DMat n) := by rw [hρ.1]; exact Rep.zero n
    exact (Rep.hermitianize (rep_channel_fold hρ (k :: ks') (K :: Ks') (List.Forall₂.cons hk hrest) _ _ hz)).norm

end DMX
end Graphiq
