/-
  Proofs/InnerProductCount.lean — the count of the brute-force executable specification (`STab.commonCount`, the number
  of subsets of `a`'s rows whose product lies in the group of `b`) equals `2^dim(A ∩ B)`: for independent real commuting
  generators of `A` the subsets are in bijection with the elements of `A`, and an independent generating set of `d`
  elements of `A ∩ B` puts its `2^d` subsets in bijection with the elements of `A ∩ B`.
-/
import GraphiqModel.Proofs.InnerProductExec
import GraphiqModel.Proofs.InnerProductFull
import Mathlib.Data.Fintype.Card
import Mathlib.Data.Fintype.Pi
import Mathlib.Data.Fintype.BigOperators
namespace Graphiq
open PRow Tab
namespace STab

theorem sprod_gens_diff (A : STab) (hg : A.Good) (gens : Nat → PRow) (d : Nat) (hm : ∀ i, i < d → A.Spn (gens i))
    (S T : Nat → Bool) (e : EqOn A.n (sprod A.n gens S d) (sprod A.n gens T d)) :
    EqOn A.n (sprod A.n gens (fun i => xor (S i) (T i)) d) PRow.one := by
  have real1 := spn_real A hg _ (sprod_spn_gens A gens d hm S d (Nat.le_refl _))
  exact ((sprod_mul_gens A hg gens d hm S T d (Nat.le_refl _)).symm.trans
    (mul_congr A.n _ _ _ _ (EqOn.refl _ _) e.symm)).trans (mul_self A.n _ real1)

theorem mask_unique (a : STab) (ga : a.Good) (ia : a.Indep) (m m' : Nat) (hm : m < 2 ^ a.n) (hm' : m' < 2 ^ a.n)
    (e : EqOn a.n (mprod a.n a.row m a.n) (mprod a.n a.row m' a.n)) : m = m' := by
  rw [mprod_eq_sprod, mprod_eq_sprod] at e
  have one := sprod_gens_diff a ga a.row a.n (fun i hi => spn_gen a i hi) _ _ e
  have z := indep_sprod a ia _ one.1
  apply Nat.eq_of_testBit_eq
  intro i
  by_cases hi : i < a.n
  · have := z i hi
    revert this
    cases m.testBit i <;> cases m'.testBit i <;> simp
  · have h1 : m < 2 ^ i := Nat.lt_of_lt_of_le hm (Nat.pow_le_pow_right (by decide) (by omega))
    have h2 : m' < 2 ^ i := Nat.lt_of_lt_of_le hm' (Nat.pow_le_pow_right (by decide) (by omega))
    rw [Nat.testBit_lt_two_pow h1, Nat.testBit_lt_two_pow h2]

open Classical in
/-- **Regrouping a sum over a subgroup by a basis of it.**  `H ∩ group of a` has the independent generating set `c_0 … c_{k-1}`:
    the masks `s < 2^n` whose subset product of `a`'s rows lies in `H` correspond one-to-one to the masks `u < 2^k` of the `c_i`. -/
theorem sum_regroup {M : Type} [AddCommMonoid M] (a : STab) (ga : a.Good) (ia : a.Indep) (H : PRow → Prop)
    (hH : ∀ p p', EqOn a.n p p' → H p → H p') (k : Nat) (c : Nat → PRow)
    (hmem : ∀ i, i < k → a.Spn (c i)) (hin : ∀ u : Nat, H (sprod a.n c (fun i => u.testBit i) k))
    (hindep : ∀ S : Nat → Bool, EqOn a.n (sprod a.n c S k) PRow.one → ∀ i, i < k → S i = false)
    (hspan : ∀ g, a.Spn g → H g → ∃ S : Nat → Bool, EqOn a.n g (sprod a.n c S k))
    (f : PRow → M) (hf : ∀ p p', EqOn a.n p p' → f p = f p') :
    ∑ s ∈ (Finset.range (2 ^ a.n)).filter (fun s => H (mprod a.n a.row s a.n)), f (mprod a.n a.row s a.n)
      = ∑ u ∈ Finset.range (2 ^ k), f (mprod a.n c u k) := by
  have ex : ∀ u : Nat, ∃ s, s < 2 ^ a.n ∧ EqOn a.n (sprod a.n c (fun i => u.testBit i) k) (mprod a.n a.row s a.n) :=
    fun u => (spn_iff_mask a ga _).1 (sprod_spn_gens a c k hmem _ k (Nat.le_refl _))
  symm
  apply Finset.sum_bij (fun u _ => Classical.choose (ex u))
  · intro u _
    obtain ⟨h1, h2⟩ := Classical.choose_spec (ex u)
    rw [Finset.mem_filter, Finset.mem_range]
    exact ⟨h1, hH _ _ h2 (hin u)⟩
  · intro u hu u' hu' e
    obtain ⟨_, h2⟩ := Classical.choose_spec (ex u)
    obtain ⟨_, h2'⟩ := Classical.choose_spec (ex u')
    rw [e] at h2
    have z := hindep _ (sprod_gens_diff a ga c k hmem _ _ (h2.trans h2'.symm))
    apply Nat.eq_of_testBit_eq
    intro j
    by_cases hj : j < k
    · have := z j hj
      revert this
      cases u.testBit j <;> cases u'.testBit j <;> simp
    · have h1 : u < 2 ^ j := Nat.lt_of_lt_of_le (Finset.mem_range.mp hu) (Nat.pow_le_pow_right (by decide) (by omega))
      have h2 : u' < 2 ^ j := Nat.lt_of_lt_of_le (Finset.mem_range.mp hu') (Nat.pow_le_pow_right (by decide) (by omega))
      rw [Nat.testBit_lt_two_pow h1, Nat.testBit_lt_two_pow h2]
  · intro s hs
    rw [Finset.mem_filter, Finset.mem_range] at hs
    obtain ⟨S, hS⟩ := hspan _ ((spn_iff_mask a ga _).2 ⟨s, hs.1, EqOn.refl _ _⟩) hs.2
    obtain ⟨u, hu, hbits⟩ := mask_of_subset k S
    refine ⟨u, Finset.mem_range.mpr hu, ?_⟩
    obtain ⟨h1, h2⟩ := Classical.choose_spec (ex u)
    have e3 : EqOn a.n (sprod a.n c (fun i => u.testBit i) k) (sprod a.n c S k) := by
      rw [sprod_congr a.n c _ S k hbits]; exact EqOn.refl _ _
    exact mask_unique a ga ia _ s h1 hs.1 (h2.symm.trans (e3.trans hS.symm))
  · intro u _
    obtain ⟨_, h2⟩ := Classical.choose_spec (ex u)
    rw [mprod_eq_sprod]
    exact hf _ _ h2

open Classical in
/-- **the brute-force count is `2^dim(A ∩ B)`** -/
theorem commonCount_eq (a b : STab) (ga : a.Good) (gb : b.Good) (ia : a.Indep) (hn : a.n = b.n) (d : Nat)
    (h : OverlapDim a b d) : a.commonCount b = 2 ^ d := by
  obtain ⟨gens, hb⟩ := h
  have hlen : a.commonCount b = ((Finset.range (2 ^ a.n)).filter (fun m => b.Spn (mprod a.n a.row m a.n))).card := by
    unfold commonCount
    rw [← List.toFinset_card_of_nodup (List.nodup_range.filter _)]
    congr 1
    ext m
    simp [commonB_iff a b gb hn m]
  have hB : ∀ S : Nat → Bool, b.Spn (sprod a.n gens S d) := fun S => by
    have := sprod_spn_gens b gens d hb.memB S d (Nat.le_refl _)
    rw [← hn] at this; exact this
  have := sum_regroup a ga ia b.Spn (fun p p' h hp => InSpan.eqv _ _ hp (hn ▸ h)) d gens hb.memA (fun _ => hB _)
    hb.indep hb.span (fun _ => (1 : ℕ)) (fun _ _ _ => rfl)
  rw [hlen, Finset.card_eq_sum_ones, this, Finset.sum_const, Finset.card_range]
  exact Nat.mul_one _

end STab
end Graphiq
