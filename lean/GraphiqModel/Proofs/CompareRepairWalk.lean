/-
  Proofs/CompareRepairWalk.lean — the repaired `add_control_target_to_dag` (one walk per register, carrying the role at the
  operation just left) labels *every* edge of a circuit DAG with the pair (role at its tail, role at its head):
  `addControlTarget2_eq : Rep0 g W body → g.addControlTarget2 = g.labelled`, hence `Rep g.addControlTarget2 W body`.
-/
import GraphiqModel.Proofs.CompareRepair
namespace Graphiq.Compare
open Graphiq Graphiq.Export

def MG.withEdges (g : MG) (es : List Edge) : MG := { g with edges := es }

theorem opOf_withEdges (g : MG) (es : List Edge) : (g.withEdges es).opOf = g.opOf := rfl
theorem nodes_withEdges (g : MG) (es : List Edge) : (g.withEdges es).nodes = g.nodes := rfl
theorem edges_withEdges (g : MG) (es : List Edge) : (g.withEdges es).edges = es := rfl
theorem withEdges_self (g : MG) : g.withEdges g.edges = g := rfl
theorem withEdges_withEdges (g : MG) (a b : List Edge) : (g.withEdges a).withEdges b = g.withEdges b := rfl

/-- the attribute the repaired walk gives an edge -/
def labEdge (g : MG) (e : Edge) : Edge := { e with ct2 := (role (g.opOf e.src) e.key, role (g.opOf e.dst) e.key) }

def MG.labelled (g : MG) : MG := g.withEdges (g.edges.map (labEdge g))

def Keeps (F : Edge → Edge) : Prop := ∀ e, (F e).src = e.src ∧ (F e).dst = e.dst ∧ (F e).key = e.key ∧ (F e).ct = e.ct

theorem labEdge_keeps (g : MG) (F : Edge → Edge) (hF : Keeps F) (e : Edge) : labEdge g (F e) = labEdge g e := by
  obtain ⟨h1, h2, h3, h4⟩ := hF e
  cases hfe : F e with
  | mk s d k c c2 =>
    cases e with
    | mk s' d' k' c' c2' =>
      rw [hfe] at h1 h2 h3 h4
      simp only at h1 h2 h3 h4
      subst h1 h2 h3 h4
      rfl

theorem outEdge_withEdges_map (g : MG) (F : Edge → Edge) (hF : Keeps F) (n : Nd) (w : Wire) :
    (g.withEdges (g.edges.map F)).outEdge n w = (g.outEdge n w).map F := by
  unfold MG.outEdge
  rw [edges_withEdges, List.find?_map]
  have : ((fun e : Edge => e.src == n && e.key == w) ∘ F) = (fun e : Edge => e.src == n && e.key == w) := by
    funext e
    simp only [Function.comp, (hF e).1, (hF e).2.2.1]
  rw [this]

theorem setCt2_withEdges (g : MG) (es : List Edge) (s d : Nd) (k : Wire) (v : Option Char × Option Char) :
    (g.withEdges es).setCt2 s d k v =
      g.withEdges (es.map fun e => if e.src == s && e.dst == d && e.key == k then { e with ct2 := v } else e) := rfl

theorem Rep0.uniqueOut {g : MG} {W : List Wire} {body : Wire → List Nd} (r : Rep0 g W body) : UniqueOut g := by
  intro e he e' he' hs hk
  obtain ⟨hw, ha⟩ := r.edge_sound0 e he
  obtain ⟨_, ha'⟩ := r.edge_sound0 e' he'
  rw [← hk, ← hs] at ha'
  obtain ⟨l1, l2, h12⟩ := ha
  obtain ⟨r', hr'⟩ := adj_next _ (r.pathNodup _ hw) l1 (e.dst :: l2) e.src e'.dst h12 ha'
  injection hr' with h _

theorem Rep0.outEdge_next {g : MG} {W : List Wire} {body : Wire → List Nd} (r : Rep0 g W body) {w : Wire} (hw : w ∈ W)
    {pre rest : List Nd} {n v : Nd} (hp : pathOf body w = pre ++ n :: v :: rest) :
    ∃ e, g.outEdge n w = some e ∧ e ∈ g.edges ∧ e.dst = v := by
  obtain ⟨e0, he0, hs0, hd0, hk0⟩ := r.edge_complete w hw n v ⟨pre, rest, hp⟩
  obtain ⟨e, h⟩ : ∃ e, g.outEdge n w = some e := by
    have := outEdge_isSome_of_mem g e0 he0
    rwa [hs0, hk0] at this
  obtain ⟨he, hs, hk⟩ := outEdge_some g n w e h
  exact ⟨e, h, he, (r.uniqueOut e he e0 he0 (hs.trans hs0.symm) (hk.trans hk0.symm)).trans hd0⟩

theorem Rep0.no_edge_from_out {g : MG} {W : List Wire} {body : Wire → List Nd} (r : Rep0 g W body) (e : Edge)
    (he : e ∈ g.edges) (x : Wire) : e.src ≠ .out x := by
  intro hs
  obtain ⟨hw, l1, l2, h12⟩ := r.edge_sound0 e he
  have hmem : Nd.out x ∈ pathOf body e.key := by rw [h12, hs]; simp
  have hx := r.out_on_path e.key x hw hmem
  subst hx
  rw [hs] at h12
  cases pathOf_out_last body e.key (r.pathNodup _ hw) l1 _ h12

/-- the state of the walk: the original graph with relabelled edges -/
theorem ctWalk2_eq (g0 : MG) (W : List Wire) (body : Wire → List Nd) (r : Rep0 g0 W body) (w : Wire) (hw : w ∈ W) :
    ∀ (fuel : Nat) (rest pre : List Nd) (node : Nd) (F : Edge → Edge), Keeps F →
      pathOf body w = pre ++ node :: rest → rest.length ≤ fuel →
      ctWalk2 (g0.withEdges (g0.edges.map F)) w fuel node (role (g0.opOf node) w) =
        g0.withEdges (g0.edges.map fun e => if e.key = w ∧ e.src ∈ node :: rest then labEdge g0 e else F e) := by
  have hnd := r.pathNodup w hw
  -- when nothing is left of the path we stand on the output node, from which no edge leaves
  have hbase : ∀ (pre : List Nd) (node : Nd) (F : Edge → Edge), pathOf body w = pre ++ [node] →
      g0.withEdges (g0.edges.map F) =
        g0.withEdges (g0.edges.map fun e => if e.key = w ∧ e.src ∈ [node] then labEdge g0 e else F e) := by
    intro pre node F hp
    have hn : node = .out w := pathOf_last body w pre node hp
    congr 1
    apply List.map_congr_left
    intro e he
    rw [if_neg]
    rintro ⟨_, hs⟩
    rw [List.mem_singleton, hn] at hs
    exact r.no_edge_from_out e he w hs
  intro fuel
  induction fuel with
  | zero =>
    intro rest pre node F _ hp hlen
    have : rest = [] := List.length_eq_zero_iff.1 (Nat.le_zero.1 hlen)
    subst this
    exact hbase pre node F hp
  | succ k ih =>
    intro rest pre node F hF hp hlen
    cases rest with
    | nil =>
      have hn : node = .out w := pathOf_last body w pre node hp
      rw [ctWalk2, hn]
      simp only [Nd.isOut, if_true]
      rw [← hn]
      exact hbase pre node F hp
    | cons v rest' =>
      have hadj : Adj (pathOf body w) node v := ⟨pre, rest', hp⟩
      have hno : node.isOut = false := by
        cases hnode : node with
        | out x =>
          exfalso
          obtain ⟨e, he, hs, _, _⟩ := r.edge_complete w hw node v hadj
          exact r.no_edge_from_out e he x (hs.trans hnode)
        | inp _ => rfl
        | op _ => rfl
      obtain ⟨e0, he0, hs0, hd0, hk0⟩ := r.edge_complete w hw node v hadj
      obtain ⟨e1, h1, _, hd1⟩ := r.outEdge_next hw hp
      rw [ctWalk2]
      simp only [hno, Bool.false_eq_true, if_false]
      rw [outEdge_withEdges_map g0 F hF, h1]
      simp only [Option.map_some, opOf_withEdges, (hF e1).2.1, hd1, setCt2_withEdges, List.map_map]
      have hF2 : Keeps ((fun e : Edge => if e.src == node && e.dst == v && e.key == w then
          { e with ct2 := (role (g0.opOf node) w, role (g0.opOf v) w) } else e) ∘ F) := by
        intro e
        simp only [Function.comp]
        split
        · exact hF e
        · exact hF e
      have hp' : pathOf body w = (pre ++ [node]) ++ v :: rest' := by rw [hp]; simp
      have := ih rest' (pre ++ [node]) v _ hF2 hp' (by simpa using hlen)
      rw [this]
      congr 1
      apply List.map_congr_left
      intro e he
      have hnotin : node ∉ v :: rest' := by
        rw [hp] at hnd
        exact (List.nodup_cons.1 (List.nodup_append.1 hnd).2.1).1
      by_cases hc : e.key = w ∧ e.src = node
      · -- the edge relabelled in this step
        have hdv : e.dst = v := by
          rw [← hd0]
          exact r.uniqueOut e he e0 he0 (hc.2.trans hs0.symm) (hc.1.trans hk0.symm)
        have hn1 : ¬ (e.key = w ∧ e.src ∈ v :: rest') := by
          rintro ⟨_, hm⟩
          rw [hc.2] at hm
          exact hnotin hm
        rw [if_neg hn1, if_pos ⟨hc.1, by rw [hc.2]; simp⟩]
        simp only [Function.comp, (hF e).1, (hF e).2.1, (hF e).2.2.1, hc.1, hc.2, hdv, beq_self_eq_true, Bool.and_self, if_true]
        rw [← labEdge_keeps g0 F hF e]
        unfold labEdge
        rw [(hF e).1, (hF e).2.1, (hF e).2.2.1, hc.1, hc.2, hdv]
      · have hsame : ((fun e : Edge => if e.src == node && e.dst == v && e.key == w then
            { e with ct2 := (role (g0.opOf node) w, role (g0.opOf v) w) } else e) ∘ F) e = F e := by
          simp only [Function.comp, (hF e).1, (hF e).2.1, (hF e).2.2.1]
          rw [if_neg]
          intro h
          simp only [Bool.and_eq_true, beq_iff_eq] at h
          exact hc ⟨h.2, h.1.1⟩
        rw [hsame]
        by_cases hc2 : e.key = w ∧ e.src ∈ v :: rest'
        · rw [if_pos hc2, if_pos ⟨hc2.1, List.mem_cons_of_mem _ hc2.2⟩]
        · rw [if_neg hc2, if_neg]
          rintro ⟨hk, hm⟩
          rcases List.mem_cons.1 hm with h | h
          · exact hc ⟨hk, h⟩
          · exact hc2 ⟨hk, h⟩

/-! ## all registers -/

/-- edges of the registers already walked are labelled -/
def doneLab (g0 : MG) (done : List Wire) (e : Edge) : Edge := if e.key ∈ done then labEdge g0 e else e

theorem keeps_doneLab (g0 : MG) (done : List Wire) : Keeps (doneLab g0 done) := by
  intro e
  unfold doneLab
  split
  · exact ⟨rfl, rfl, rfl, rfl⟩
  · exact ⟨rfl, rfl, rfl, rfl⟩

theorem Rep0.path_length_le {g : MG} {W : List Wire} {body : Wire → List Nd} (r : Rep0 g W body) (w : Wire) (hw : w ∈ W) :
    (pathOf body w).length ≤ g.nodes.length := by
  have hsub : pathOf body w ⊆ g.nodes.map (·.1) := fun n hn => r.path_mem_nodes w hw n hn
  have := (List.subperm_of_subset (r.pathNodup w hw) hsub).length_le
  simpa using this

theorem walks_fold (g0 : MG) (W : List Wire) (body : Wire → List Nd) (r : Rep0 g0 W body) :
    ∀ (ins done : List Wire), (∀ w ∈ ins, w ∈ W) →
      ins.foldl (fun g w => ctWalk2 g w (g.nodes.length + 1) (.inp w) none) (g0.withEdges (g0.edges.map (doneLab g0 done)))
        = g0.withEdges (g0.edges.map (doneLab g0 (done ++ ins))) := by
  intro ins
  induction ins with
  | nil => intro done _; simp
  | cons w ins' ih =>
    intro done hins
    have hw : w ∈ W := hins w (by simp)
    rw [List.foldl_cons, nodes_withEdges]
    have hlen : (body w ++ [Nd.out w]).length ≤ g0.nodes.length + 1 := by
      have := r.path_length_le w hw
      unfold pathOf at this
      simp only [List.length_cons] at this
      omega
    have hstep := ctWalk2_eq g0 W body r w hw (g0.nodes.length + 1) (body w ++ [Nd.out w]) [] (.inp w) _ (keeps_doneLab g0 done) rfl hlen
    rw [r.inpOp w hw] at hstep
    have hstep' : ctWalk2 (g0.withEdges (g0.edges.map (doneLab g0 done))) w (g0.nodes.length + 1) (.inp w) none = _ := hstep
    rw [hstep']
    have hmap : (g0.edges.map fun e => if e.key = w ∧ e.src ∈ Nd.inp w :: (body w ++ [Nd.out w]) then labEdge g0 e else doneLab g0 done e)
        = g0.edges.map (doneLab g0 (done ++ [w])) := by
      apply List.map_congr_left
      intro e he
      unfold doneLab
      by_cases hk : e.key = w
      · have hs : e.src ∈ Nd.inp w :: (body w ++ [Nd.out w]) := by
          have := adj_mem_left (r.edge_sound0 e he).2
          rwa [hk] at this
        rw [if_pos ⟨hk, hs⟩, if_pos (by rw [hk]; simp)]
      · rw [if_neg (fun h => hk h.1)]
        by_cases hd : e.key ∈ done
        · rw [if_pos hd, if_pos (List.mem_append_left _ hd)]
        · rw [if_neg hd, if_neg]
          intro h
          rcases List.mem_append.1 h with h | h
          · exact hd h
          · exact hk (List.mem_singleton.1 h)
    rw [hmap, ih (done ++ [w]) (fun x hx => hins x (List.mem_cons_of_mem _ hx))]
    simp

theorem mem_inputs (g : MG) (w : Wire) : w ∈ g.inputs ↔ Nd.inp w ∈ g.nodes.map (·.1) := by
  unfold MG.inputs
  simp only [List.mem_filterMap, List.mem_map]
  constructor
  · rintro ⟨p, hp, h⟩
    refine ⟨p, hp, ?_⟩
    cases hp1 : p.1 with
    | inp x => rw [hp1] at h; injection h with h; rw [h]
    | out x => rw [hp1] at h; cases h
    | op x => rw [hp1] at h; cases h
  · rintro ⟨p, hp, h⟩
    exact ⟨p, hp, by rw [h]⟩

/-- **the repaired `add_control_target_to_dag` labels every edge of a circuit DAG with the roles at its two ends** -/
theorem addControlTarget2_eq (g : MG) (W : List Wire) (body : Wire → List Nd) (r : Rep0 g W body) :
    g.addControlTarget2 = g.labelled := by
  unfold MG.addControlTarget2 MG.labelled
  have h0 : g = g.withEdges (g.edges.map (doneLab g [])) := by
    have : g.edges.map (doneLab g []) = g.edges := by
      conv => rhs; rw [← List.map_id g.edges]
      apply List.map_congr_left
      intro e _
      unfold doneLab
      simp
    rw [this]; rfl
  have hin : ∀ w ∈ g.inputs, w ∈ W := fun w hw => r.inputsW w ((mem_inputs g w).1 hw)
  conv => lhs; arg 2; rw [h0]
  rw [walks_fold g W body r g.inputs [] hin]
  congr 1
  apply List.map_congr_left
  intro e he
  unfold doneLab
  rw [if_pos]
  simp only [List.nil_append]
  exact (mem_inputs g e.key).2 (opOf_some_mem g _ _ (r.inpOp _ (r.edge_sound0 e he).1))

theorem Rep0.labelled {g : MG} {W : List Wire} {body : Wire → List Nd} (r : Rep0 g W body) : Rep g.labelled W body where
  pathNodup := r.pathNodup
  bodyOp := r.bodyOp
  inpOp := r.inpOp
  outOp := r.outOp
  kindIn := r.kindIn
  kindOut := r.kindOut
  wiresNodup := r.wiresNodup
  inputsW := r.inputsW
  edge_sound0 := by
    intro e he
    obtain ⟨e0, he0, rfl⟩ := List.mem_map.1 he
    exact r.edge_sound0 e0 he0
  edge_complete := by
    intro w hw u v h
    obtain ⟨e, he, h1, h2, h3⟩ := r.edge_complete w hw u v h
    exact ⟨labEdge g e, List.mem_map_of_mem he, h1, h2, h3⟩
  lab := by
    intro e he
    obtain ⟨e0, he0, rfl⟩ := List.mem_map.1 he
    rfl

theorem Rep0.addControlTarget2 {g : MG} {W : List Wire} {body : Wire → List Nd} (r : Rep0 g W body) :
    Rep g.addControlTarget2 W body := by
  rw [addControlTarget2_eq g W body r]
  exact r.labelled

end Graphiq.Compare
