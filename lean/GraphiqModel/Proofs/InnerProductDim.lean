/-
  Proofs/InnerProductDim.lean — the rank `d` in `OverlapDim A B d` is determined by the two groups: two independent
  generating sets of `A ∩ B` have the same number of elements (each spans the subset products of the other:
  `indep_le_gen`, Proofs/CanonTotal.lean, both ways).  Hence the overlap `IsOverlap` is a function of the two groups, and
  the value of `inner_product` is symmetric, independent of the generating sets and invariant under a common gate list.
-/
import GraphiqModel.Proofs.InnerProduct
namespace Graphiq
open PRow Tab
namespace STab

theorem overlapBasis_le (A B : STab) (hg : A.Good) (hn : A.n = B.n) (d d' : Nat) (gens gens' : Nat → PRow)
    (h : IsOverlapBasis A B d gens) (h' : IsOverlapBasis A B d' gens') : d ≤ d' := by
  apply indep_le_gen A hg gens d h.memA h.indep gens' d'
  intro S
  have pa := sprod_spn_gens A gens d h.memA S d (Nat.le_refl _)
  have pb := sprod_spn_gens B gens d h.memB S d (Nat.le_refl _)
  rw [← hn] at pb
  exact h'.span _ pa pb

theorem overlapDim_unique (A B : STab) (hg : A.Good) (hn : A.n = B.n) (d d' : Nat)
    (h : OverlapDim A B d) (h' : OverlapDim A B d') : d = d' := by
  obtain ⟨g, hb⟩ := h
  obtain ⟨g', hb'⟩ := h'
  exact Nat.le_antisymm (overlapBasis_le A B hg hn d d' g g' hb hb') (overlapBasis_le A B hg hn d' d g' g hb' hb)

theorem IsOverlap.unique {A B : STab} {r r' : Option Nat} (hg : A.Good) (hn : A.n = B.n)
    (h : IsOverlap A B r) (h' : IsOverlap A B r') : r = r' := by
  cases r <;> cases r'
  · rfl
  · exact absurd h h'.2.1
  · exact absurd h' h.2.1
  · have := overlapDim_unique A B hg hn _ _ h.2.2 h'.2.2
    have := h.1
    have := h'.1
    congr 1
    omega

/-! ### `inner_product` is a function of the two states -/

theorem innerProduct_symm (a b : Tab) (rab rba : Option Nat) (ga : (STab.ofTab a).Good) (gb : (STab.ofTab b).Good)
    (hab : STab.innerProduct a b = .ok rab) (hba : STab.innerProduct b a = .ok rba) : rab = rba :=
  have hn : (STab.ofTab a).n = (STab.ofTab b).n := (innerProduct_inv a b rab hab).1
  (innerProduct_isOverlap a b rab ga gb hab).unique ga hn ((innerProduct_isOverlap b a rba gb ga hba).symm hn.symm)

/-- **the value depends only on the two signed groups**: other generating sets (and destabilizers) of the same two states
    give the same result -/
theorem innerProduct_congr (a a' b b' : Tab) (r r' : Option Nat)
    (ga : (STab.ofTab a).Good) (gb : (STab.ofTab b).Good) (ga' : (STab.ofTab a').Good) (gb' : (STab.ofTab b').Good)
    (sa : SpanEq (STab.ofTab a) (STab.ofTab a')) (sb : SpanEq (STab.ofTab b) (STab.ofTab b'))
    (h : STab.innerProduct a b = .ok r) (h' : STab.innerProduct a' b' = .ok r') : r = r' :=
  have hn : (STab.ofTab a').n = (STab.ofTab b').n := (innerProduct_inv a' b' r' h').1
  ((innerProduct_isOverlap a b r ga gb h).congr sa sb).unique ga' hn (innerProduct_isOverlap a' b' r' ga' gb' h')

/-- **the value is invariant under applying one gate list to both states** (Clifford covariance of the fidelity) -/
theorem innerProduct_circuit_invariant (a b : Tab) (c : List Gate) (hc : ∀ g, g ∈ c → g.WF a.n) (hn : b.n = a.n)
    (ga : (STab.ofTab a).Good) (gb : (STab.ofTab b).Good) (r r' : Option Nat)
    (h : STab.innerProduct a b = .ok r) (h' : STab.innerProduct (a.runCircuit c) (b.runCircuit c) = .ok r') : r = r' := by
  obtain ⟨iA, gA'⟩ := ofTab_runCircuit_image a.n c hc a rfl ga
  obtain ⟨iB, gB'⟩ := ofTab_runCircuit_image a.n c hc b hn gb
  exact ((innerProduct_isOverlap a b r ga gb h).image iA iB).unique gA' (iA.nT'.trans iB.nT'.symm)
    (innerProduct_isOverlap _ _ r' gA' gB' h')

end STab
end Graphiq
