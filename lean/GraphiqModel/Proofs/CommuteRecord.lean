/-
  Proofs/CommuteRecord.lean — the classical record.

  The state of `Proofs/CommuteSem` is extended by the classical registers (`Nat → Bool`, all `0` initially): a measuring
  operation writes the outcome of its measurement into its classical register.  Two operations now commute when they
  touch disjoint quantum registers *and* do not write the same classical register (`regsC`: the quantum registers plus the
  classical register written) — two measurements on different qubits that write the same classical register are ordered by
  the classical wire, not by commutation.  On a sane circuit whose measuring operations are threaded on the classical wire
  they write (which is what `add` does; `insert_at` may omit it), the projection of a compile sequence on a classical register
  is the sequence of operations on that wire, so the record too is independent of the topological order; the compile
  loop's `writes` refine the record of the semantics.
-/
import GraphiqModel.Proofs.CommuteCircuit
namespace Graphiq.Commute
open Graphiq PRow Tab TabSpec Classical
open Graphiq.Wire (Reg RegType SOp Item Kind G1 runSeq projReg Circuit)

/-- the classical register a measuring operation writes -/
def wreg (a : SOp) : Option Nat :=
  match a.item with
  | .node .measZ _ cr | .node .ccnot _ cr | .node .ccz _ cr | .node .mcr _ cr => some (cr.headD 0)
  | _ => none

/-- quantum registers acted on and classical register written -/
def regsC (a : SOp) : List Reg := a.regs ++ (wreg a).toList.map (Reg.mk .c)

def setRec (rec : Nat → Bool) (i : Nat) (o : Bool) : Nat → Bool := fun j => if j = i then o else rec j

theorem setRec_comm (rec : Nat → Bool) (i j : Nat) (o o' : Bool) (h : i ≠ j) :
    setRec (setRec rec i o) j o' = setRec (setRec rec j o') i o := by
  funext k
  simp only [setRec]
  by_cases h1 : k = j
  · have h2 : ¬ k = i := fun e => h (e.symm.trans h1)
    simp only [if_pos h1, if_neg h2]
  · simp only [if_neg h1]

def writeRec (a : SOp) (o : Bool) (rec : Nat → Bool) : Nat → Bool :=
  match wreg a with
  | some i => setRec rec i o
  | none => rec

theorem writeRec_comm (a b : SOp) (hd : ∀ r, r ∈ regsC a → r ∉ regsC b) (o o' : Bool) (rec : Nat → Bool) :
    writeRec a o (writeRec b o' rec) = writeRec b o' (writeRec a o rec) := by
  unfold writeRec
  cases hwa : wreg a with
  | none => rfl
  | some i =>
    cases hwb : wreg b with
    | none => rfl
    | some j =>
      refine setRec_comm _ _ _ _ _ (fun e => ?_)
      subst e
      exact hd ⟨.c, j⟩ (List.mem_append_right _ (by simp [hwa])) (List.mem_append_right _ (by simp [hwb]))

/-- stabilizer group + outcome streams + classical registers -/
abbrev RawC := Option (GState × Script × (Nat → Bool))

/-- **semantics of one operation with the classical record**: as `appRaw`, and the outcome goes into the written register -/
noncomputable def appRawC (ne np : Nat) (a : SOp) (s : RawC) : RawC :=
  s.bind fun st => (appRaw ne np a (some (st.1, st.2.1))).map fun x => (x.1, x.2, writeRec a (outOf ne np a st.2.1) st.2.2)

theorem appRawC_none (ne np : Nat) (a : SOp) : appRawC ne np a none = none := rfl

theorem outOf_pop_other (ne np : Nat) (a b : SOp) (hd : ∀ r, r ∈ a.regs → r ∉ b.regs) (db : Dec)
    (hdb : decode ne np b = some db) (sc : Script) : outOf ne np a (db.pop sc) = outOf ne np a sc := by
  unfold outOf
  cases hda : decode ne np a with
  | none => rfl
  | some da =>
    exact da.out_pop db ((decode_within ne np a da hda).mreg_ne (decode_within ne np b db hdb) hd) sc

theorem appRawC_eq (ne np : Nat) (a : SOp) (g : GState) (sc : Script) (rec : Nat → Bool) :
    appRawC ne np a (some (g, sc, rec)) =
      (appRaw ne np a (some (g, sc))).map fun x => (x.1, x.2, writeRec a (outOf ne np a sc) rec) := rfl

theorem appRawC_appRawC (ne np : Nat) (a b : SOp) (hd : ∀ r, r ∈ a.regs → r ∉ b.regs) (g : GState) (sc : Script)
    (rec : Nat → Bool) :
    appRawC ne np a (appRawC ne np b (some (g, sc, rec))) =
      (appRaw ne np a (appRaw ne np b (some (g, sc)))).map fun x =>
        (x.1, x.2, writeRec a (outOf ne np a sc) (writeRec b (outOf ne np b sc) rec)) := by
  rw [appRawC_eq]
  cases hb : appRaw ne np b (some (g, sc)) with
  | none => rfl
  | some x =>
    obtain ⟨g1, sc1⟩ := x
    obtain ⟨db, hdb, _, _, hsc⟩ := appRaw_some hb
    simp only [Option.map_some]
    rw [appRawC_eq, hsc, outOf_pop_other ne np a b hd db hdb sc]

/-- **operations on disjoint quantum registers that do not write the same classical register commute**, record included -/
theorem appRawC_comm (ne np : Nat) (a b : SOp) (hd : ∀ r, r ∈ regsC a → r ∉ regsC b) (s : RawC)
    (hs : ∀ g sc rec, s = some (g, sc, rec) → IsTab (ne + np) g) :
    appRawC ne np a (appRawC ne np b s) = appRawC ne np b (appRawC ne np a s) := by
  have hq : ∀ r, r ∈ a.regs → r ∉ b.regs := by
    intro r hr hr'
    exact hd r (List.mem_append_left _ hr) (List.mem_append_left _ hr')
  have hq' : ∀ r, r ∈ b.regs → r ∉ a.regs := fun r hr hr' => hq r hr' hr
  cases s with
  | none => rfl
  | some st =>
    obtain ⟨g, sc, rec⟩ := st
    rw [appRawC_appRawC ne np a b hq, appRawC_appRawC ne np b a hq',
      appRaw_comm ne np a b hq (some (g, sc)) (fun g' sc' h => by cases h; exact hs g sc rec rfl)]
    congr 1
    funext x
    congr 2
    exact writeRec_comm a b hd _ _ rec

def OkRawC (n : Nat) (s : RawC) : Prop := ∀ g sc rec, s = some (g, sc, rec) → IsTab n g

theorem appRawC_ok (ne np : Nat) (a : SOp) {s : RawC} (hs : OkRawC (ne + np) s) : OkRawC (ne + np) (appRawC ne np a s) := by
  intro g' sc' rec' h
  cases s with
  | none => cases h
  | some st =>
    obtain ⟨g, sc, rec⟩ := st
    rw [appRawC_eq] at h
    exact (appRaw_ok ne np a (s := some (g, sc)) (fun g0 sc0 h0 => by cases h0; exact hs g sc rec rfl)).map _ g' sc' rec' h

def CSt (ne np : Nat) : Type := { s : RawC // OkRawC (ne + np) s }

noncomputable def appC (ne np : Nat) (a : SOp) (s : CSt ne np) : CSt ne np := ⟨appRawC ne np a s.1, appRawC_ok ne np a s.2⟩

theorem appC_comm (ne np : Nat) (a b : SOp) (hd : ∀ r, r ∈ regsC a → r ∉ regsC b) (s : CSt ne np) :
    appC ne np a (appC ne np b s) = appC ne np b (appC ne np a s) :=
  Subtype.ext (appRawC_comm ne np a b hd s.1 s.2)

theorem runSeq_appC_val (ne np : Nat) (l : List SOp) (s : CSt ne np) :
    (runSeq (appC ne np) l s).1 = runSeq (appRawC ne np) l s.1 :=
  Wire.runSeq_subtype_val (appRawC ne np) (fun a _ h => appRawC_ok ne np a h) l s

noncomputable def CSt.init (ne np : Nat) (sc : Script) : CSt ne np :=
  ⟨some (gstate (Tab.ket0 (ne + np)), sc, fun _ => false), fun g sc' rec h => by
    simp only [Option.some.injEq, Prod.mk.injEq] at h
    rw [← h.1]; exact isTab_ket0 _⟩

theorem runSeq_appRawC_fst (ne np : Nat) (l : List SOp) (s : RawC) :
    (runSeq (appRawC ne np) l s).map (fun x => (x.1, x.2.1)) = runSeq (appRaw ne np) l (s.map fun x => (x.1, x.2.1)) := by
  induction l generalizing s with
  | nil => rfl
  | cons a l ih =>
    rw [Wire.runSeq_cons, Wire.runSeq_cons, ih]
    congr 1
    cases s with
    | none => rfl
    | some st =>
      obtain ⟨g, sc, rec⟩ := st
      rw [appRawC_eq]
      show _ = appRaw ne np a (some (g, sc))
      cases appRaw ne np a (some (g, sc)) <;> rfl

/-! ## the projections of a compile sequence on classical registers -/

/-- every operation lies on the classical wire of each classical register it has (what `add` builds) -/
def CThreaded (c : Circuit) : Prop := ∀ n op, c.node n = some op → ∀ i, i ∈ op.cr → n ∈ c.wire ⟨.c, i⟩

def CArity (c : Circuit) : Prop :=
  c.NodesSat fun op => match op.kind with
    | .measZ | .ccnot | .ccz | .mcr => ∃ i, op.cr = [i]
    | _ => op.cr = []

theorem mem_regsC_quantum (a : SOp) (r : Reg) (hr : r.ty ≠ .c) : r ∈ regsC a ↔ r ∈ a.regs := by
  unfold regsC
  rw [List.mem_append]
  constructor
  · rintro (h | h)
    · exact h
    · simp only [List.mem_map] at h
      obtain ⟨i, _, rfl⟩ := h
      exact absurd rfl hr
  · exact Or.inl

theorem mem_regsC_classical (c : Circuit) (hgood : c.Good) (hthr : CThreaded c) (hca : CArity c) (n : Nat) (op : Wire.Op)
    (hop : c.node n = some op) (a : SOp) (ha : a ∈ c.sopsOfNode n) (i : Nat) :
    (⟨.c, i⟩ : Reg) ∈ regsC a ↔ n ∈ c.wire ⟨.c, i⟩ := by
  have hregs := Wire.sops_regs hop ha
  have hnoc : (⟨.c, i⟩ : Reg) ∉ a.regs := by
    rw [hregs]; intro h
    exact (hgood.1.qvalid n op hop _ h).2 rfl
  have hcw := hgood.1.cwire n op hop i
  have hA := hca n op hop
  simp only at hA
  simp only [Circuit.sopsOfNode, hop, Wire.sopsOfOp, List.mem_map] at ha
  obtain ⟨it, hit, rfl⟩ := ha
  have key : (⟨.c, i⟩ : Reg) ∈ regsC ⟨it, op.q⟩ ↔ wreg ⟨it, op.q⟩ = some i := by
    unfold regsC
    rw [List.mem_append]
    constructor
    · rintro (h | h)
      · exact absurd h hnoc
      · simp only [List.mem_map, Option.mem_toList, Reg.mk.injEq, true_and] at h
        obtain ⟨j, hj, rfl⟩ := h
        exact hj
    · intro h
      exact Or.inr (by simp [h])
  rw [key]
  cases hk : op.kind with
  | wrapper _ | base _ =>
    rw [hk] at hA
    simp only [Wire.flatOp, hk, List.mem_map] at hit
    obtain ⟨g, _, rfl⟩ := hit
    constructor
    · intro h; simp [wreg] at h
    · intro h; have := hcw h; rw [hA] at this; cases this
  | cnot | cz =>
    rw [hk] at hA
    simp only [Wire.flatOp, hk, List.mem_singleton] at hit
    subst hit
    constructor
    · intro h; simp [wreg] at h
    · intro h; have := hcw h; rw [hA] at this; cases this
  | measZ | ccnot | ccz | mcr =>
    rw [hk] at hA
    obtain ⟨j, hj⟩ := hA
    simp only [Wire.flatOp, hk, List.mem_singleton] at hit
    subst hit
    simp only [wreg, hj, List.headD_cons, Option.some.injEq]
    constructor
    · intro h; subst h; exact hthr n op hop j (by rw [hj]; simp)
    · intro h; have := hcw h; rw [hj] at this; exact (List.mem_singleton.mp this).symm

theorem proj_regsC_classical (c : Circuit) (hgood : c.Good) (hthr : CThreaded c) (hca : CArity c) (seq : List Nat)
    (hlin : c.isLinearExtension seq = true) (i : Nat) :
    projReg regsC ⟨.c, i⟩ (c.sops seq) = (c.wire ⟨.c, i⟩).flatMap c.sopsOfNode := by
  have hrw := Wire.isLinearExtension_filter hgood.1 hlin ⟨.c, i⟩
  simp only [Circuit.isLinearExtension, Bool.and_eq_true, List.all_eq_true, decide_eq_true_eq] at hlin
  have hsome := hlin.1.1.2
  have hnode : ∀ n, n ∈ seq → (c.sopsOfNode n).filter (fun a => decide ((⟨.c, i⟩ : Reg) ∈ regsC a)) =
      if n ∈ c.wire ⟨.c, i⟩ then c.sopsOfNode n else [] := by
    intro n hn
    have := hsome n hn
    cases hop : c.node n with
    | none => rw [hop] at this; cases this
    | some op =>
      split
      · next hin =>
        rw [List.filter_eq_self]
        intro a ha
        simpa using (mem_regsC_classical c hgood hthr hca n op hop a ha i).mpr hin
      · next hin =>
        rw [List.filter_eq_nil_iff]
        intro a ha
        simpa using fun h => hin ((mem_regsC_classical c hgood hthr hca n op hop a ha i).mp h)
  unfold projReg Circuit.sops
  rw [List.filter_flatMap, Wire.flatMap_congr' hnode,
    Wire.flatMap_filter_eq (fun n => decide (n ∈ c.wire ⟨.c, i⟩)) _ seq
      (fun n _ hq => by simp only [decide_eq_false_iff_not] at hq; rw [if_neg hq]), hrw]
  exact Wire.flatMap_congr' (fun n hn => by rw [if_pos hn])

theorem regsC_ne_nil (c : Circuit) (hgood : c.Good) (seq : List Nat) : ∀ a, a ∈ c.sops seq → regsC a ≠ [] := by
  intro a ha
  obtain ⟨n, op, hop, hr⟩ := Wire.sops_mem ha
  unfold regsC
  rw [hr]
  intro h
  exact (Wire.good_qNonempty hgood) n op hop (List.append_eq_nil_iff.mp h).1

/-! ## the compile loop's classical writes refine the record -/

/-- register values after a list of writes (zeros overwritten in order) — pointwise form of `finalRecord` -/
def recOf (writes : List (Nat × Bool)) (c : Nat) : Bool :=
  ((writes.filter fun w => w.1 = c).getLast?.map (·.2)).getD false

theorem finalRecord_eq (nc : Nat) (writes : List (Nat × Bool)) : finalRecord nc writes = (List.range nc).map (recOf writes) := rfl

theorem recOf_append_one (w : List (Nat × Bool)) (i : Nat) (o : Bool) : recOf (w ++ [(i, o)]) = setRec (recOf w) i o := by
  funext c
  unfold recOf setRec
  rw [List.filter_append]
  by_cases h : c = i
  · subst h
    simp
  · have : ([(i, o)] : List (Nat × Bool)).filter (fun w => decide (w.1 = c)) = [] := by
      simp [Ne.symm h]
    rw [this, List.append_nil, if_neg h]

theorem decode_wreg (ne np : Nat) (a : SOp) (d : Dec) (hdec : decode ne np a = some d) :
    wreg a = ((toCOp a).mq np).map fun _ => (toCOp a).creg := by
  cases decodes_of_decode hdec with
  | g1 g r q hq => cases g <;> rfl
  | cnot | cz | measZ | ccnot | ccz | mcr => rfl

/-- **a whole run with the classical record**: the group semantics with record, run on the outcome streams made of the
    recorded outcomes from the register values `recOf s.writes`, ends in the stabilizer group of the final tableau and the
    register values `recOf s'.writes` of the compile loop -/
theorem run_refines_record (ne np : Nat) (d : Det) (l : List SOp)
    (hok : ∀ a, a ∈ l → (decode ne np a).isSome = true ∧ a.regs.Nodup) (s s' : RunState) (ht : TInv (ne + np) s.t)
    (hs : (l.map toCOp).foldlM (stepOp np (ne + np) d) s = some s') :
    ∃ new : List Bool, s'.outs = s.outs ++ new ∧
      ∀ sc, runSeq (appRawC ne np) l (some (gstate s.t, feed ne np l new sc, recOf s.writes)) =
        some (gstate s'.t, sc, recOf s'.writes) := by
  refine (run_refines_of_step (appRawC ne np) (fun s X => some (gstate s.t, X, recOf s.writes)) ne np d l hok ?_ s s' ht hs).2
  intro a ha s s1 _ h1 new hn X hraw hout
  obtain ⟨dd, hdd⟩ := Option.isSome_iff_exists.mp (hok a ha).1
  rw [appRawC_eq, hraw, hout, Option.map_some]
  have hf := stepOp_fields np (ne + np) d s s1 (toCOp a) h1
  unfold writeRec
  rw [decode_wreg ne np a dd hdd]
  cases hq : (toCOp a).mq np with
  | none => rw [hq] at hf; rw [Option.map_none, hf.2.1]
  | some q =>
    rw [hq] at hf
    cases List.append_cancel_left (hn.symm.trans hf.1)
    rw [Option.map_some, hf.2.1, List.headD_cons, recOf_append_one]

theorem recOf_nil : recOf [] = fun _ => false := by
  funext c; simp [recOf]

theorem stabRun_refines_record (c : Circuit) (hgood : c.Good) (har : ArityOk c) (seq : List Nat) (d : Det)
    (script : List Bool) (s' : RunState) (h : stabRun c.ne c.np d script ((c.sops seq).map toCOp) = some s') :
    ∀ sc, runSeq (appRawC c.ne c.np) (c.sops seq)
        (some (gstate (Tab.ket0 (c.ne + c.np)), feed c.ne c.np (c.sops seq) s'.outs sc, fun _ => false)) =
      some (gstate s'.t, sc, recOf s'.writes) := by
  obtain ⟨new, hnew, hrun⟩ := run_refines_record c.ne c.np d (c.sops seq) (sops_ok c hgood har seq)
    { t := Tab.ket0 (c.ne + c.np), writes := [], script := script, rand := [], outs := [] } s' (tinv_ket0 _) h
  simp only [List.nil_append] at hnew
  rw [hnew]
  intro sc
  have := hrun sc
  rw [recOf_nil] at this
  exact this

def cThreadedB (c : Circuit) : Bool :=
  c.nodeIds.all fun n => match c.node n with
    | some op => op.cr.all fun i => decide (n ∈ c.wire ⟨.c, i⟩)
    | none => true

def cArityB (c : Circuit) : Bool :=
  c.nodeIds.all fun n => match c.node n with
    | some op => (match op.kind with
      | .measZ | .ccnot | .ccz | .mcr => op.cr.length == 1
      | _ => op.cr.isEmpty)
    | none => true

theorem cThreaded_of_check (c : Circuit) (hwf : c.WF) (h : cThreadedB c = true) : CThreaded c := by
  intro n op hop i hi
  unfold cThreadedB at h
  rw [List.all_eq_true] at h
  have := h n (Wire.mem_nodeIds c hwf n op hop)
  rw [hop] at this
  simp only [List.all_eq_true, decide_eq_true_eq] at this
  exact this i hi

theorem cArity_of_check (c : Circuit) (hwf : c.WF) (h : cArityB c = true) : CArity c := by
  intro n op hop
  unfold cArityB at h
  rw [List.all_eq_true] at h
  have := h n (Wire.mem_nodeIds c hwf n op hop)
  rw [hop] at this
  simp only at this
  show match op.kind with
    | .measZ | .ccnot | .ccz | .mcr => ∃ i, op.cr = [i]
    | _ => op.cr = []
  cases hk : op.kind <;> rw [hk] at this <;> simp only [beq_iff_eq, List.isEmpty_iff] at this
  all_goals first
    | exact this
    | exact List.length_eq_one_iff.mp this

end Graphiq.Commute
