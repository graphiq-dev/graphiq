/-
  Proofs/AltTarget.lean — the duplicate removal of `AlternateTargetSolver.solve` (Model/AltTarget.lean):
  the classes of `set_list` partition the indices by key, deleting the sorted redundant indices from the back removes exactly
  those positions, and what remains has pairwise distinct keys and represents every key — for every `pick` that returns a
  member of its class.  All lengths.
-/
import Mathlib.Data.List.Sort
import Mathlib.Data.List.Nodup
import GraphiqModel.Model.AltTarget
import GraphiqModel.Proofs.Loop
namespace Graphiq
namespace Alt

variable {κ : Type} [DecidableEq κ]

theorem mem_classOf (keys : List κ) (i j : Nat) :
    j ∈ classOf keys i ↔ j = i ∨ (i < j ∧ j < keys.length ∧ keys[j]? = keys[i]?) := by
  simp only [classOf, List.mem_cons, List.mem_filter, List.mem_range, Bool.and_eq_true, decide_eq_true_eq]
  constructor
  · rintro (h | ⟨h1, h2, h3⟩)
    · exact Or.inl h
    · exact Or.inr ⟨h2, h1, h3⟩
  · rintro (h | ⟨h1, h2, h3⟩)
    · exact Or.inl h
    · exact Or.inr ⟨h2, h1, h3⟩

theorem classOf_key (keys : List κ) (i j : Nat) (h : j ∈ classOf keys i) : keys[j]? = keys[i]? := by
  rcases (mem_classOf keys i j).mp h with h | h
  · rw [h]
  · exact h.2.2

theorem classOf_lt (keys : List κ) (i j : Nat) (hi : i < keys.length) (h : j ∈ classOf keys i) : j < keys.length := by
  rcases (mem_classOf keys i j).mp h with h | h
  · rw [h]; exact hi
  · exact h.2.1

theorem classOf_nodup (keys : List κ) (i : Nat) : (classOf keys i).Nodup := by
  simp only [classOf, List.nodup_cons]
  refine ⟨?_, List.Nodup.filter _ List.nodup_range⟩
  simp only [List.mem_filter, List.mem_range, Bool.and_eq_true, decide_eq_true_eq, not_and]
  intro _ h; omega

/-! ### `set_list` -/

/-- the state of the loop after the indices `< k`: the classes of a list of heads with pairwise different keys, covering `0..k-1` -/
structure SLInv (keys : List κ) (k : Nat) (sl : List (List Nat)) : Prop where
  heads : ∃ hs : List Nat, sl = hs.map (classOf keys) ∧ (∀ i, i ∈ hs → i < k) ∧ hs.Nodup ∧
    ∀ a, a ∈ hs → ∀ b, b ∈ hs → keys[a]? = keys[b]? → a = b
  cover : ∀ j, j < k → ∃ s, s ∈ sl ∧ j ∈ s

theorem setListStep_inv (keys : List κ) (k : Nat) (hk : k < keys.length) (sl : List (List Nat))
    (h : SLInv keys k sl) : SLInv keys (k + 1) (setListStep keys sl k) := by
  obtain ⟨⟨hs, e, hlt, hnd, hinj⟩, hcov⟩ := h
  unfold setListStep
  split
  · next hany =>
    refine ⟨⟨hs, e, fun i hi => Nat.lt_succ_of_lt (hlt i hi), hnd, hinj⟩, ?_⟩
    intro j hj
    by_cases hjk : j = k
    · subst hjk
      simp only [List.any_eq_true, List.contains_iff_mem] at hany
      exact hany
    · exact hcov j (by omega)
  · next hany =>
    simp only [List.any_eq_true, List.contains_iff_mem, not_exists, not_and] at hany
    have hknot : ∀ a, a ∈ hs → keys[a]? ≠ keys[k]? := by
      intro a ha heq
      have hak : a < k := hlt a ha
      have : k ∈ classOf keys a := (mem_classOf keys a k).mpr (Or.inr ⟨hak, hk, heq.symm⟩)
      exact hany (classOf keys a) (by rw [e]; exact List.mem_map_of_mem ha) this
    refine ⟨⟨hs ++ [k], by rw [e]; simp, ?_, ?_, ?_⟩, ?_⟩
    · intro i hi
      rcases List.mem_append.mp hi with hi | hi
      · exact Nat.lt_succ_of_lt (hlt i hi)
      · simp only [List.mem_singleton] at hi; omega
    · rw [List.nodup_append]
      refine ⟨hnd, List.nodup_singleton k, ?_⟩
      intro a ha b hb hab
      simp only [List.mem_singleton] at hb
      have := hlt a ha
      omega
    · intro a ha b hb heq
      rcases List.mem_append.mp ha with ha | ha <;> rcases List.mem_append.mp hb with hb | hb
      · exact hinj a ha b hb heq
      · simp only [List.mem_singleton] at hb; rw [hb] at heq; exact absurd heq (hknot a ha)
      · simp only [List.mem_singleton] at ha; rw [ha] at heq; exact absurd heq.symm (hknot b hb)
      · simp only [List.mem_singleton] at ha hb; rw [ha, hb]
    · intro j hj
      by_cases hjk : j = k
      · subst hjk
        exact ⟨classOf keys j, by simp, (mem_classOf keys j j).mpr (Or.inl rfl)⟩
      · obtain ⟨s, hs1, hs2⟩ := hcov j (by omega)
        exact ⟨s, List.mem_append_left _ hs1, hs2⟩

theorem setList_inv (keys : List κ) : SLInv keys keys.length (setList keys) :=
  Loop.foldl_range (SLInv keys) (fun k sl hk h => setListStep_inv keys k hk sl h)
    ⟨⟨[], rfl, nofun, List.nodup_nil, nofun⟩, fun _ h => absurd h (Nat.not_lt_zero _)⟩

/-! ### deleting sorted indices from the back -/

/-- the invariant of the deletion loop on a list whose elements carry their original position: the first `m` positions are
    untouched -/
structure DelInv {α : Type} (L : List (α × Nat)) (m : Nat) : Prop where
  nodup : (L.map Prod.snd).Nodup
  pref : ∀ i, i < m → (L[i]?).map Prod.snd = some i

theorem eraseIdx_tagged {α : Type} (L : List (α × Nat)) (m d : Nat) (hd : d < m) (h : DelInv L m) :
    DelInv (L.eraseIdx d) d ∧ ∀ x, x ∈ L.eraseIdx d ↔ x ∈ L ∧ x.2 ≠ d := by
  obtain ⟨hnd, hpref⟩ := h
  have hLd := hpref d hd
  have hdl : d < L.length := by
    by_contra hc
    rw [List.getElem?_eq_none (by omega)] at hLd
    simp at hLd
  refine ⟨⟨?_, ?_⟩, ?_⟩
  · exact List.Nodup.sublist ((List.eraseIdx_sublist L d).map Prod.snd) hnd
  · intro i hi
    rw [List.getElem?_eraseIdx_of_lt hi]
    exact hpref i (by omega)
  · intro x
    rw [List.mem_eraseIdx_iff_getElem]
    have htag : (L[d]).2 = d := by
      rw [List.getElem?_eq_getElem hdl] at hLd
      simpa using hLd
    constructor
    · rintro ⟨i, hi, hne, e⟩
      refine ⟨by rw [← e]; exact List.getElem_mem hi, ?_⟩
      intro hx
      -- two positions with the same tag
      have e1 : (L.map Prod.snd)[i]'(by simpa using hi) = (L.map Prod.snd)[d]'(by simpa using hdl) := by
        simp only [List.getElem_map]
        rw [e, hx, htag]
      exact hne ((List.Nodup.getElem_inj_iff hnd).mp e1)
    · rintro ⟨hx, hne⟩
      obtain ⟨i, hi, e⟩ := List.getElem_of_mem hx
      refine ⟨i, hi, ?_, e⟩
      intro hid
      subst hid
      rw [e] at htag
      exact hne htag

theorem foldl_eraseIdx_tagged {α : Type} (ds : List Nat) (L : List (α × Nat)) (m : Nat) (h : DelInv L m)
    (hds : ds.Pairwise (· > ·)) (hlt : ∀ d, d ∈ ds → d < m) :
    (∀ x, x ∈ ds.foldl (fun acc i => acc.eraseIdx i) L ↔ x ∈ L ∧ x.2 ∉ ds) ∧
    ((ds.foldl (fun acc i => acc.eraseIdx i) L).map Prod.snd).Nodup ∧
    (ds.foldl (fun acc i => acc.eraseIdx i) L).Sublist L := by
  induction ds generalizing L m with
  | nil => exact ⟨fun x => by simp, h.nodup, List.Sublist.refl _⟩
  | cons d rest ih =>
    simp only [List.foldl]
    obtain ⟨inv', hmem⟩ := eraseIdx_tagged L m d (hlt d List.mem_cons_self) h
    have hrest := List.pairwise_cons.mp hds
    obtain ⟨i1, i2, i3⟩ := ih (L.eraseIdx d) d inv' hrest.2 (fun d' hd' => hrest.1 d' hd')
    refine ⟨fun x => ?_, i2, i3.trans (List.eraseIdx_sublist L d)⟩
    rw [i1 x, hmem x]
    simp only [List.mem_cons, not_or]
    constructor
    · rintro ⟨⟨a, b⟩, c⟩; exact ⟨a, b, c⟩
    · rintro ⟨a, b, c⟩; exact ⟨⟨a, b⟩, c⟩

theorem zipIdx_delInv {α : Type} (l : List α) : DelInv l.zipIdx l.length := by
  refine ⟨?_, ?_⟩
  · have : l.zipIdx.map Prod.snd = List.range l.length := by
      apply List.ext_getElem?
      intro i
      simp only [List.getElem?_map, List.getElem?_zipIdx]
      by_cases hi : i < l.length
      · simp [hi]
      · simp [hi]
    rw [this]; exact List.nodup_range
  · intro i hi
    simp [hi]

theorem eraseIdx_map {α β : Type} (f : α → β) (l : List α) (i : Nat) : (l.map f).eraseIdx i = (l.eraseIdx i).map f := by
  induction l generalizing i with
  | nil => rfl
  | cons a rest ih =>
    cases i with
    | zero => rfl
    | succ i => simp only [List.map_cons, List.eraseIdx_cons_succ, ih]

theorem foldl_eraseIdx_map {α β : Type} (f : α → β) (ds : List Nat) (l : List α) :
    ds.foldl (fun acc i => acc.eraseIdx i) (l.map f) = (ds.foldl (fun acc i => acc.eraseIdx i) l).map f := by
  induction ds generalizing l with
  | nil => rfl
  | cons d rest ih => simp only [List.foldl, eraseIdx_map, ih]

theorem zipIdx_map_fst {α : Type} (l : List α) : l.zipIdx.map Prod.fst = l := by
  apply List.ext_getElem?
  intro i
  simp only [List.getElem?_map, List.getElem?_zipIdx]
  cases l[i]? <;> rfl

theorem sortAsc_eq (l : List Nat) : sortAsc l = l.insertionSort (· ≤ ·) := by
  have ins : ∀ (a : Nat) (t : List Nat), insertSorted a t = t.orderedInsert (· ≤ ·) a := by
    intro a t
    induction t with
    | nil => rfl
    | cons b t ih => simp only [insertSorted, List.orderedInsert, ih]
  induction l with
  | nil => rfl
  | cons a t ih =>
    simp only [sortAsc, List.foldr, List.insertionSort] at ih ⊢
    rw [ih, ins]

theorem sortAsc_perm (l : List Nat) : (sortAsc l).Perm l := by
  rw [sortAsc_eq]; exact List.perm_insertionSort _ l

theorem sortAsc_sorted (l : List Nat) : (sortAsc l).Pairwise (· ≤ ·) := by
  rw [sortAsc_eq]; exact List.pairwise_insertionSort _ l

/-! ### the classes of `set_list`, without their heads -/

theorem setList_mem (keys : List κ) (s : List Nat) (hs : s ∈ setList keys) : ∃ a, a < keys.length ∧ s = classOf keys a := by
  obtain ⟨⟨hds, e, hlt, _, _⟩, _⟩ := setList_inv keys
  rw [e] at hs
  obtain ⟨a, ha, rfl⟩ := List.mem_map.mp hs
  exact ⟨a, hlt a ha, rfl⟩

theorem setList_key (keys : List κ) (s : List Nat) (hs : s ∈ setList keys) (x y : Nat) (hx : x ∈ s) (hy : y ∈ s) :
    keys[x]? = keys[y]? := by
  obtain ⟨a, _, rfl⟩ := setList_mem keys s hs
  rw [classOf_key keys a x hx, classOf_key keys a y hy]

theorem setList_same_key (keys : List κ) (s s' : List Nat) (hs : s ∈ setList keys) (hs' : s' ∈ setList keys) (x y : Nat)
    (hx : x ∈ s) (hy : y ∈ s') (e : keys[x]? = keys[y]?) : s = s' := by
  obtain ⟨⟨hds, el, _, _, hinj⟩, _⟩ := setList_inv keys
  rw [el] at hs hs'
  obtain ⟨a, ha, rfl⟩ := List.mem_map.mp hs
  obtain ⟨b, hb, rfl⟩ := List.mem_map.mp hs'
  rw [hinj a ha b hb ((classOf_key keys a x hx).symm.trans (e.trans (classOf_key keys b y hy)))]

theorem mem_redundant (pick : List Nat → Nat) (keys : List κ) (x : Nat) :
    x ∈ ((setList keys).flatMap fun s => s.erase (pick s)) ↔ ∃ s, s ∈ setList keys ∧ x ∈ s ∧ x ≠ pick s := by
  have hnd : ∀ s, s ∈ setList keys → s.Nodup := fun s hs => by
    obtain ⟨a, _, rfl⟩ := setList_mem keys s hs
    exact classOf_nodup keys a
  simp only [List.mem_flatMap]
  constructor
  · rintro ⟨s, hs1, hx⟩
    have := (List.Nodup.mem_erase_iff (hnd s hs1)).mp hx
    exact ⟨s, hs1, this.2, this.1⟩
  · rintro ⟨s, hs1, hx, hne⟩
    exact ⟨s, hs1, (List.Nodup.mem_erase_iff (hnd s hs1)).mpr ⟨hne, hx⟩⟩

theorem redundant_nodup (pick : List Nat → Nat) (keys : List κ) :
    ((setList keys).flatMap fun s => s.erase (pick s)).Nodup := by
  obtain ⟨⟨hds, e, _, hnd, hinj⟩, _⟩ := setList_inv keys
  rw [List.nodup_flatMap]
  constructor
  · intro s hs
    obtain ⟨a, _, rfl⟩ := setList_mem keys s hs
    exact List.Nodup.erase _ (classOf_nodup keys a)
  · rw [e, List.pairwise_map]
    have hne : hds.Pairwise (· ≠ ·) := hnd
    refine List.Pairwise.imp_of_mem ?_ hne
    intro a b ha hb hab
    show List.Disjoint ((classOf keys a).erase _) ((classOf keys b).erase _)
    intro x hx hx'
    have h1 := List.mem_of_mem_erase hx
    have h2 := List.mem_of_mem_erase hx'
    exact hab (hinj a ha b hb ((classOf_key keys a x h1).symm.trans (classOf_key keys b x h2)))

theorem setList_lt (keys : List κ) (s : List Nat) (hs : s ∈ setList keys) (x : Nat) (hx : x ∈ s) : x < keys.length := by
  obtain ⟨a, ha, rfl⟩ := setList_mem keys s hs
  exact classOf_lt keys a x ha hx

theorem survivor_is_pick (pick : List Nat → Nat) (keys : List κ) (a : Nat) (ha : a < keys.length)
    (hna : a ∉ ((setList keys).flatMap fun s => s.erase (pick s))) :
    ∃ s, s ∈ setList keys ∧ a ∈ s ∧ a = pick s := by
  obtain ⟨s, hs, has⟩ := (setList_inv keys).cover a ha
  refine ⟨s, hs, has, ?_⟩
  by_contra hne
  exact hna ((mem_redundant pick keys a).mpr ⟨s, hs, has, hne⟩)

/-- **the duplicate removal of `solve`**, for every `pick` that returns a member of its class (`list(s)[0]`):
    the result consists of entries of the input at pairwise different positions, in the original order, whose keys are
    pairwise different, and every key of the input is the key of a kept entry -/
theorem dedup_spec {α : Type} (pick : List Nat → Nat) (keys : List κ) (entries : List α)
    (hlen : entries.length = keys.length) (hpick : ∀ s, s ∈ setList keys → pick s ∈ s) :
    ∃ T : List (α × Nat), dedup pick keys entries = T.map Prod.fst ∧
      T.Sublist entries.zipIdx ∧
      (∀ x, x ∈ T → entries[x.2]? = some x.1) ∧
      T.Pairwise (fun x y => keys[x.2]? ≠ keys[y.2]?) ∧
      (∀ j, j < keys.length → ∃ x, x ∈ T ∧ keys[x.2]? = keys[j]?) := by
  let R := (setList keys).flatMap fun s => s.erase (pick s)
  have hperm : (redundantIndices pick keys).Perm R := sortAsc_perm R
  have hsorted : (redundantIndices pick keys).Pairwise (· ≤ ·) := sortAsc_sorted R
  have hnd : (redundantIndices pick keys).Nodup := hperm.nodup_iff.mpr (redundant_nodup pick keys)
  have hmemI : ∀ x, x ∈ redundantIndices pick keys ↔ x ∈ R := fun x => hperm.mem_iff
  -- strictly descending after the reversal
  have hdesc : (redundantIndices pick keys).reverse.Pairwise (· > ·) := by
    rw [List.pairwise_reverse]
    have hne : (redundantIndices pick keys).Pairwise (· ≠ ·) := hnd
    exact (hsorted.and hne).imp (fun {a b} h => by have := h.1; have := h.2; omega)
  have hltI : ∀ d, d ∈ (redundantIndices pick keys).reverse → d < entries.length := by
    intro d hd
    rw [hlen]
    obtain ⟨s, hs, hds, _⟩ := (mem_redundant pick keys d).mp ((hmemI d).mp (List.mem_reverse.mp hd))
    exact setList_lt keys s hs d hds
  obtain ⟨m1, m2, m3⟩ := foldl_eraseIdx_tagged (redundantIndices pick keys).reverse entries.zipIdx entries.length
    (zipIdx_delInv entries) hdesc hltI
  refine ⟨(redundantIndices pick keys).reverse.foldl (fun acc i => acc.eraseIdx i) entries.zipIdx, ?_, m3, ?_, ?_, ?_⟩
  · unfold dedup delDescending
    rw [← foldl_eraseIdx_map, zipIdx_map_fst]
  · intro x hx
    have := m3.subset hx
    obtain ⟨_, h2, h3⟩ := List.mem_zipIdx this
    simp only [Nat.zero_add, Nat.sub_zero] at h2 h3
    rw [List.getElem?_eq_getElem h2, h3]
  · -- pairwise different keys
    have htags : ((redundantIndices pick keys).reverse.foldl (fun acc i => acc.eraseIdx i) entries.zipIdx).Pairwise
        (fun x y => x.2 ≠ y.2) := by
      have : (List.map Prod.snd ((redundantIndices pick keys).reverse.foldl (fun acc i => acc.eraseIdx i)
          entries.zipIdx)).Pairwise (· ≠ ·) := m2
      exact List.pairwise_map.mp this
    refine List.Pairwise.imp_of_mem ?_ htags
    intro x y hx hy hne heq
    apply hne
    have hx' := (m1 x).mp hx
    have hy' := (m1 y).mp hy
    have hxl : x.2 < keys.length := by
      have := (List.mem_zipIdx hx'.1).2.1; rw [← hlen]; simpa using this
    have hyl : y.2 < keys.length := by
      have := (List.mem_zipIdx hy'.1).2.1; rw [← hlen]; simpa using this
    have hxR : x.2 ∉ R := fun h => hx'.2 (List.mem_reverse.mpr ((hmemI x.2).mpr h))
    have hyR : y.2 ∉ R := fun h => hy'.2 (List.mem_reverse.mpr ((hmemI y.2).mpr h))
    obtain ⟨s, hs, hxs, ex⟩ := survivor_is_pick pick keys x.2 hxl hxR
    obtain ⟨s', hs', hys, ey⟩ := survivor_is_pick pick keys y.2 hyl hyR
    rw [ex, ey, setList_same_key keys s s' hs hs' x.2 y.2 hxs hys heq]
  · -- every key is represented
    intro j hj
    obtain ⟨s, hs, hjs⟩ := (setList_inv keys).cover j hj
    have hp := hpick s hs
    have hpl : pick s < keys.length := setList_lt keys s hs _ hp
    have hpR : pick s ∉ R := by
      intro h
      obtain ⟨s', hs', hps', hne⟩ := (mem_redundant pick keys (pick s)).mp h
      rw [setList_same_key keys s s' hs hs' _ _ hp hps' rfl] at hne
      exact hne rfl
    have hpe : pick s < entries.length := by rw [hlen]; exact hpl
    refine ⟨(entries[pick s], pick s), (m1 _).mpr ⟨?_, ?_⟩, ?_⟩
    · rw [List.mem_iff_getElem?]
      exact ⟨pick s, by simp [hpe]⟩
    · intro h
      exact hpR ((hmemI _).mp (List.mem_reverse.mp h))
    · exact setList_key keys s hs _ _ hp hjs

end Alt
end Graphiq
