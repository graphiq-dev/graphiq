/-
  Proofs/CommuteSem.lean — the verified stabilizer semantics of the compile sequence, and the proof that operations on
  disjoint quantum registers commute in it.

  Layer 1, *primitives*: the tableau API calls `compile_one_gate` makes (`Tab.Op`: the eight gates and the Z measurement with
  its recorded outcome).  `appP n op` is C07's group transformer `specOp op` with one addition: a measurement whose recorded
  outcome has probability zero in the current state (`(-1)^(1-o) Z_q` is a stabilizer) is *impossible* (`none`).  Primitives
  with disjoint supports commute on the group of any valid tableau (`appP_comm`, from `Proofs/CommuteGroup`).

  Layer 2, *operations of the compile sequence* (`Wire.SOp`): `decode` expands an operation into its primitives as a
  function of the outcome of its measurement (if it has one; `Decodes` lists what it can return); the outcome is read from the
  **outcome stream of the measured register** (`Script = Reg → List Bool`: the k-th measuring operation on wire `r` has outcome `script r [k]` — this names the
  outcome by the operation, independently of the topological order in which the compiler meets the operations).  A state is
  a stabilizer group of a valid tableau together with the unread outcome streams, or `none` ("this sequence of operations
  and outcomes cannot occur": an assertion of the compiler fails — register out of range, `cnot` on one qubit —, an
  outcome has probability zero, or no outcome is supplied for a measurement).

  Main theorem: `appRaw_comm` / `appG_comm` — **operations on disjoint quantum registers commute**, for every state.  It is
  `appDec_comm` (the reading of outcomes and the popping of streams, for any semantics `run` of blocks of primitives) applied
  to `runP_comm`; the density-matrix semantics (Proofs/SweepCommuteDM) applies it to its own `runPD_comm`.
-/
import GraphiqModel.Proofs.CommuteGroup
import GraphiqModel.Proofs.Wire
namespace Graphiq.Commute
open Graphiq PRow Tab TabSpec Classical
open Graphiq.Wire (Reg RegType SOp Item Kind G1 runSeq)

/-! ## 1. primitives -/

/-- the API calls given a semantics here, with the compiler's assertions (index in range, distinct control and target) -/
def primOk (n : Nat) : Tab.Op → Bool
  | .h q | .s q | .sdg q | .x q | .y q | .z q => decide (q < n)
  | .cnot c t | .cz c t => decide (c < n ∧ t < n ∧ c ≠ t)
  | .meas q _ => decide (q < n)
  | _ => false

def primSupp : Tab.Op → List Nat
  | .h q | .s q | .sdg q | .x q | .y q | .z q => [q]
  | .cnot c t | .cz c t => [c, t]
  | .meas q _ => [q]
  | _ => []

/-- the recorded outcome of a measurement has probability zero -/
def primInfeasible : Tab.Op → GState → Prop
  | .meas q o, g => g.G (Zq q (!o))
  | _, _ => False

/-- **semantics of a primitive**: C07's `specOp`, undefined when an assertion fails or the recorded outcome is impossible -/
noncomputable def appP (n : Nat) (op : Tab.Op) (s : Option GState) : Option GState :=
  if primOk n op then s.bind fun g => if primInfeasible op g then none else some (specOp op g) else none

theorem appP_none (n : Nat) (op : Tab.Op) : appP n op none = none := by
  unfold appP; split <;> rfl

theorem appP_not_ok (n : Nat) (op : Tab.Op) (h : primOk n op ≠ true) (s : Option GState) : appP n op s = none := by
  unfold appP; rw [if_neg h]

theorem appP_meas (n q : Nat) (o : Bool) (hq : q < n) (s : Option GState) : appP n (.meas q o) s = measStep q o s := by
  unfold appP
  rw [if_pos (by simpa [primOk] using hq)]
  rfl

theorem appP_gate_aux (n : Nat) (op : Tab.Op) (f : PRow → PRow) (hok : primOk n op = true)
    (hinf : ∀ g, ¬ primInfeasible op g) (hspec : ∀ g, specOp op g = specGate f g) (s : Option GState) :
    appP n op s = gateStep f s := by
  unfold appP gateStep
  rw [if_pos hok]
  cases s with
  | none => rfl
  | some g => simp only [Option.bind_some, if_neg (hinf g), hspec g, Option.map_some]

def isGatePrim : Tab.Op → Bool
  | .h _ | .s _ | .sdg _ | .x _ | .y _ | .z _ | .cnot _ _ | .cz _ _ => true
  | _ => false

def rowP : Tab.Op → PRow → PRow
  | .h q => PRow.h q | .s q => PRow.s q | .sdg q => PRow.sdg q | .x q => PRow.xg q | .y q => PRow.yg q
  | .z q => PRow.zg q | .cnot c t => PRow.cnot c t | .cz c t => PRow.cz c t
  | _ => fun p => p

/-- row action of a list of primitives, first element first -/
def rowsP : List Tab.Op → PRow → PRow
  | [] => fun p => p
  | a :: l => fun p => rowsP l (rowP a p)

theorem local_rowP (op : Tab.Op) : Local (fun j => j ∈ primSupp op) (rowP op) := by
  cases op with
  | h q => exact (local_h q).mono (fun j hj => by simp [primSupp, hj])
  | s q => exact (local_s q).mono (fun j hj => by simp [primSupp, hj])
  | sdg q => exact (local_sdg q).mono (fun j hj => by simp [primSupp, hj])
  | x q => exact (local_xg q).mono (fun j hj => by simp [primSupp, hj])
  | y q => exact (local_yg q).mono (fun j hj => by simp [primSupp, hj])
  | z q => exact (local_zg q).mono (fun j hj => by simp [primSupp, hj])
  | cnot c t => exact (local_cnot c t).mono (fun j hj => by simpa [primSupp] using hj)
  | cz c t => exact (local_cz c t).mono (fun j hj => by simpa [primSupp] using hj)
  | _ => exact local_id _

theorem local_rowsP (l : List Tab.Op) : Local (fun j => ∃ p, p ∈ l ∧ j ∈ primSupp p) (rowsP l) := by
  induction l with
  | nil => exact local_id _
  | cons a l ih =>
    exact Local.comp (f := rowsP l) (g := rowP a)
      (ih.mono (fun j ⟨p, hp, hj⟩ => ⟨p, List.mem_cons_of_mem _ hp, hj⟩))
      ((local_rowP a).mono (fun j hj => ⟨a, List.mem_cons_self, hj⟩))

theorem prim_cases_rowP (n : Nat) (op : Tab.Op) (hok : primOk n op = true) :
    (∃ q o, op = .meas q o ∧ q < n) ∨
    (isGatePrim op = true ∧ (∀ s, appP n op s = gateStep (rowP op) s) ∧ IsAut1 n (rowP op)) := by
  cases op with
  | h q =>
    have hq : q < n := by simpa [primOk] using hok
    exact Or.inr ⟨rfl, appP_gate_aux n _ _ hok (fun _ h => h) (fun _ => rfl), isAut1_h n q hq⟩
  | s q =>
    have hq : q < n := by simpa [primOk] using hok
    exact Or.inr ⟨rfl, appP_gate_aux n _ _ hok (fun _ h => h) (fun _ => rfl), isAut1_s n q hq⟩
  | sdg q =>
    have hq : q < n := by simpa [primOk] using hok
    exact Or.inr ⟨rfl, appP_gate_aux n _ _ hok (fun _ h => h) (fun _ => rfl), isAut1_sdg n q hq⟩
  | x q =>
    have hq : q < n := by simpa [primOk] using hok
    exact Or.inr ⟨rfl, appP_gate_aux n _ _ hok (fun _ h => h) (fun _ => rfl), isAut1_xg n q hq⟩
  | y q =>
    have hq : q < n := by simpa [primOk] using hok
    exact Or.inr ⟨rfl, appP_gate_aux n _ _ hok (fun _ h => h) (fun _ => rfl), isAut1_yg n q hq⟩
  | z q =>
    have hq : q < n := by simpa [primOk] using hok
    exact Or.inr ⟨rfl, appP_gate_aux n _ _ hok (fun _ h => h) (fun _ => rfl), isAut1_zg n q hq⟩
  | cnot c t =>
    have hq : c < n ∧ t < n ∧ c ≠ t := by simpa [primOk] using hok
    exact Or.inr ⟨rfl, appP_gate_aux n _ _ hok (fun _ h => h) (fun _ => rfl), isAut1_cnot n c t hq.1 hq.2.1 hq.2.2⟩
  | cz c t =>
    have hq : c < n ∧ t < n ∧ c ≠ t := by simpa [primOk] using hok
    exact Or.inr ⟨rfl, appP_gate_aux n _ _ hok (fun _ h => h) (fun _ => rfl), isAut1_cz n c t hq.1 hq.2.1 hq.2.2⟩
  | meas q o => exact Or.inl ⟨q, o, rfl, by simpa [primOk] using hok⟩
  | swap _ _ | resetZ _ _ _ | resetX _ _ _ | resetY _ _ _ | insert _ | add | remove _ _ | ptrace _ _ =>
    simp [primOk] at hok

theorem prim_cases (n : Nat) (op : Tab.Op) (hok : primOk n op = true) :
    (∃ q o, op = .meas q o ∧ q < n) ∨
    (∃ f : PRow → PRow, (∀ s, appP n op s = gateStep f s) ∧ IsAut1 n f ∧ Local (fun j => j ∈ primSupp op) f) :=
  (prim_cases_rowP n op hok).imp id fun ⟨_, hf, ha⟩ => ⟨rowP op, hf, ha, local_rowP op⟩

def OkSt (n : Nat) (s : Option GState) : Prop := ∀ g, s = some g → IsTab n g

theorem okSt_none (n : Nat) : OkSt n none := fun _ h => by cases h

theorem okSt_gateStep {n : Nat} {f : PRow → PRow} (hf : IsAut1 n f) {s : Option GState} (hs : OkSt n s) :
    OkSt n (gateStep f s) := by
  intro g' h
  cases s with
  | none => cases h
  | some g =>
    simp only [gateStep, Option.map_some, Option.some.injEq] at h
    rw [← h]; exact isTab_gate (hs g rfl) f hf

theorem okSt_measStep {n q : Nat} (o : Bool) (hq : q < n) {s : Option GState} (hs : OkSt n s) :
    OkSt n (measStep q o s) := by
  intro g' h
  cases s with
  | none => cases h
  | some g =>
    simp only [measStep, Option.bind_some] at h
    split at h
    · cases h
    · simp only [Option.some.injEq] at h
      rw [← h]; exact isTab_meas (hs g rfl) q o hq

theorem appP_ok (n : Nat) (op : Tab.Op) {s : Option GState} (hs : OkSt n s) : OkSt n (appP n op s) := by
  by_cases hok : primOk n op = true
  · rcases prim_cases_rowP n op hok with ⟨q, o, rfl, hq⟩ | ⟨_, hf, ha⟩
    · rw [appP_meas n q o hq]; exact okSt_measStep o hq hs
    · rw [hf]; exact okSt_gateStep ha hs
  · rw [appP_not_ok n op hok]; exact okSt_none n

/-- **primitives with disjoint supports commute** on the group of every valid tableau, feasibility included -/
theorem appP_comm (n : Nat) (a b : Tab.Op) (hd : ∀ j, j ∈ primSupp a → j ∉ primSupp b) (s : Option GState) (hs : OkSt n s) :
    appP n a (appP n b s) = appP n b (appP n a s) := by
  by_cases hoa : primOk n a = true
  · by_cases hob : primOk n b = true
    · rcases prim_cases_rowP n a hoa with ⟨q, o, rfl, hq⟩ | ⟨_, hf, haf⟩
      · rcases prim_cases_rowP n b hob with ⟨q', o', rfl, hq'⟩ | ⟨_, hh, hah⟩
        · rw [appP_meas n q o hq, appP_meas n q' o' hq', appP_meas n q o hq, appP_meas n q' o' hq']
          exact meas_meas_comm q q' o o' hq hq' s hs
        · rw [appP_meas n q o hq, hh, hh, appP_meas n q o hq]
          exact (gate_meas_comm hah (local_rowP b) hq (hd q (by simp [primSupp])) o s hs).symm
      · rcases prim_cases_rowP n b hob with ⟨q', o', rfl, hq'⟩ | ⟨_, hh, hah⟩
        · rw [appP_meas n q' o' hq', hf, hf, appP_meas n q' o' hq']
          exact gate_meas_comm haf (local_rowP a) hq' (fun hin => hd q' hin (by simp [primSupp])) o' s hs
        · rw [hf, hh, hf, hh]
          exact gate_gate_comm _ _ haf.aut hah.aut (fun p => (local_rowP a).comm (local_rowP b) hd p) s
            (fun g hg => (hs g hg).n_eq)
    · rw [appP_not_ok n b hob, appP_not_ok n b hob, appP_none]
  · rw [appP_not_ok n a hoa, appP_not_ok n a hoa, appP_none]

noncomputable def runP (n : Nat) (l : List Tab.Op) (s : Option GState) : Option GState := l.foldl (fun s a => appP n a s) s

theorem runP_nil (n : Nat) (s : Option GState) : runP n [] s = s := rfl
theorem runP_cons (n : Nat) (a : Tab.Op) (l : List Tab.Op) (s : Option GState) : runP n (a :: l) s = runP n l (appP n a s) := rfl

theorem runP_none (n : Nat) (l : List Tab.Op) : runP n l none = none :=
  Loop.foldl_inv (· = none) (fun _ a _ h => h ▸ appP_none n a) rfl

theorem runP_ok (n : Nat) (l : List Tab.Op) {s : Option GState} (hs : OkSt n s) : OkSt n (runP n l s) :=
  Loop.foldl_inv (OkSt n) (fun _ a _ h => appP_ok n a h) hs

theorem runP_comm (n : Nat) (l1 l2 : List Tab.Op)
    (hd : ∀ a, a ∈ l1 → ∀ b, b ∈ l2 → ∀ j, j ∈ primSupp a → j ∉ primSupp b) (s : Option GState) (hs : OkSt n s) :
    runP n l1 (runP n l2 s) = runP n l2 (runP n l1 s) :=
  Wire.runSeq_comm (appP n) (OkSt n) (fun a _ => appP_ok n a) l1 l2 (fun a ha b hb s hs => appP_comm n a b (hd a ha b hb) s hs) s hs

/-! ## 2. operations of the compile sequence -/

/-- `reg_to_index_func(n_photon)`, with the range assertions: photons first, then emitters; classical registers carry no qubit -/
def regIx (ne np : Nat) (r : Reg) : Option Nat :=
  match r.ty with
  | .p => if r.idx < np then some r.idx else none
  | .e => if r.idx < ne then some (r.idx + np) else none
  | .c => none

theorem regIx_spec {ne np : Nat} {r : Reg} {q : Nat} (hr : regIx ne np r = some q) :
    (r.ty = .p ∧ r.idx < np ∧ q = r.idx) ∨ (r.ty = .e ∧ r.idx < ne ∧ q = r.idx + np) := by
  obtain ⟨ty, idx⟩ := r
  cases ty <;> simp only [regIx] at hr
  · by_cases hlt : idx < ne
    · rw [if_pos hlt] at hr; cases hr; exact Or.inr ⟨rfl, hlt, rfl⟩
    · rw [if_neg hlt] at hr; cases hr
  · by_cases hlt : idx < np
    · rw [if_pos hlt] at hr; cases hr; exact Or.inl ⟨rfl, hlt, rfl⟩
    · rw [if_neg hlt] at hr; cases hr
  · cases hr

theorem regIx_lt {ne np : Nat} {r : Reg} {q : Nat} (hr : regIx ne np r = some q) : q < ne + np := by
  rcases regIx_spec hr with ⟨_, h1, h2⟩ | ⟨_, h1, h2⟩ <;> omega

theorem regIx_inj {ne np : Nat} {r r' : Reg} {q : Nat} (hr : regIx ne np r = some q) (hr' : regIx ne np r' = some q) :
    r = r' := by
  obtain ⟨ty, idx⟩ := r
  obtain ⟨ty', idx'⟩ := r'
  rcases regIx_spec hr with ⟨h0, h1, h2⟩ | ⟨h0, h1, h2⟩ <;> rcases regIx_spec hr' with ⟨h0', h1', h2'⟩ | ⟨h0', h1', h2'⟩ <;>
    simp only at h0 h1 h2 h0' h1' h2'
  · subst h0 h0'; have : idx = idx' := by omega
    subst this; rfl
  · exfalso; omega
  · exfalso; omega
  · subst h0 h0'; have : idx = idx' := by omega
    subst this; rfl

theorem regIx_ne_of_nodup {ne np : Nat} {c t : Reg} {qc qt : Nat} (hc : regIx ne np c = some qc)
    (ht : regIx ne np t = some qt) (hnd : [c, t].Nodup) : qc ≠ qt := by
  intro he
  have hct : c = t := regIx_inj hc (he ▸ ht)
  subst hct
  simp at hnd

/-- the primitives of a base one-qubit gate (`Identity` compiles to nothing) -/
def g1Prims (g : G1) (q : Nat) : List Tab.Op :=
  match g with
  | .I => [] | .H => [.h q] | .P => [.s q] | .Pdg => [.sdg q] | .X => [.x q] | .Y => [.y q] | .Z => [.z q]

/-- a decoded operation: the register whose outcome stream it reads (the measured qubit), and the API calls it makes as a
    function of that outcome -/
structure Dec where
  mreg : Option Reg
  prims : Bool → List Tab.Op

/-- the primitives of a two-register operation on qubits `qc` (control / measured) and `qt` (target):
    `ClassicalCNOT` / `ClassicalCZ`: measure the control, `X` / `Z` on the target iff the outcome is 1;
    `MeasurementCNOTandReset`: the same as `ClassicalCNOT`, then reset the control to `|0⟩` — after a measurement with
    outcome `o` the reset is "`X` iff `o = 1`" (`Proofs/CommuteRefine`: `resetZ_after_Zq`). -/
def pairPrims (k : Kind) (c : Reg) (qc qt : Nat) : Option Dec :=
  match k with
  | .cnot => some ⟨none, fun _ => [.cnot qc qt]⟩
  | .cz => some ⟨none, fun _ => [.cz qc qt]⟩
  | .ccnot => some ⟨some c, fun o => .meas qc o :: (if o then [.x qt] else [])⟩
  | .ccz => some ⟨some c, fun o => .meas qc o :: (if o then [.z qt] else [])⟩
  | .mcr => some ⟨some c, fun o => .meas qc o :: (if o then [.x qt, .x qc] else [])⟩
  | _ => none

/-- expansion of an operation of the compile sequence; the registers acted on are `a.regs` -/
def decode (ne np : Nat) (a : SOp) : Option Dec :=
  match a.item, a.regs with
  | .g g, [r] => (regIx ne np r).map fun q => ⟨none, fun _ => g1Prims g q⟩
  | .node .measZ _ _, [r] => (regIx ne np r).map fun q => ⟨some r, fun o => [.meas q o]⟩
  | .node k _ _, [c, t] =>
    match regIx ne np c, regIx ne np t with
    | some qc, some qt => pairPrims k c qc qt
    | _, _ => none
  | _, _ => none

/-- every qubit a decoded operation touches is the index of one of its registers -/
def Dec.Within (ne np : Nat) (d : Dec) (regs : List Reg) : Prop :=
  (∀ r, d.mreg = some r → r ∈ regs) ∧
  ∀ o p, p ∈ d.prims o → ∀ j, j ∈ primSupp p → ∃ r, r ∈ regs ∧ regIx ne np r = some j

theorem g1Prims_supp (g : G1) (q : Nat) (p : Tab.Op) (hp : p ∈ g1Prims g q) (j : Nat) (hj : j ∈ primSupp p) : j = q := by
  cases g <;> simp only [g1Prims, List.mem_singleton, List.not_mem_nil] at hp <;> subst hp <;>
    simpa [primSupp] using hj

/-- what `decode` can return, operation and block concrete: every fact about a decoded operation is read off by cases -/
inductive Decodes (ne np : Nat) : SOp → Dec → Prop
  | g1 (g : G1) (r : Reg) (q : Nat) (hq : regIx ne np r = some q) :
      Decodes ne np ⟨.g g, [r]⟩ ⟨none, fun _ => g1Prims g q⟩
  | measZ (x : List Reg) (cr : List Nat) (r : Reg) (q : Nat) (hq : regIx ne np r = some q) :
      Decodes ne np ⟨.node .measZ x cr, [r]⟩ ⟨some r, fun o => [.meas q o]⟩
  | cnot (x : List Reg) (cr : List Nat) (c t : Reg) (qc qt : Nat) (hc : regIx ne np c = some qc)
      (ht : regIx ne np t = some qt) : Decodes ne np ⟨.node .cnot x cr, [c, t]⟩ ⟨none, fun _ => [.cnot qc qt]⟩
  | cz (x : List Reg) (cr : List Nat) (c t : Reg) (qc qt : Nat) (hc : regIx ne np c = some qc)
      (ht : regIx ne np t = some qt) : Decodes ne np ⟨.node .cz x cr, [c, t]⟩ ⟨none, fun _ => [.cz qc qt]⟩
  | ccnot (x : List Reg) (cr : List Nat) (c t : Reg) (qc qt : Nat) (hc : regIx ne np c = some qc)
      (ht : regIx ne np t = some qt) :
      Decodes ne np ⟨.node .ccnot x cr, [c, t]⟩ ⟨some c, fun o => .meas qc o :: (if o then [.x qt] else [])⟩
  | ccz (x : List Reg) (cr : List Nat) (c t : Reg) (qc qt : Nat) (hc : regIx ne np c = some qc)
      (ht : regIx ne np t = some qt) :
      Decodes ne np ⟨.node .ccz x cr, [c, t]⟩ ⟨some c, fun o => .meas qc o :: (if o then [.z qt] else [])⟩
  | mcr (x : List Reg) (cr : List Nat) (c t : Reg) (qc qt : Nat) (hc : regIx ne np c = some qc)
      (ht : regIx ne np t = some qt) :
      Decodes ne np ⟨.node .mcr x cr, [c, t]⟩ ⟨some c, fun o => .meas qc o :: (if o then [.x qt, .x qc] else [])⟩

theorem decodes_of_decode {ne np : Nat} {a : SOp} {d : Dec} (h : decode ne np a = some d) : Decodes ne np a d := by
  obtain ⟨item, regs⟩ := a
  unfold decode at h
  split at h
  · next g r hitem hregs =>
    obtain ⟨q, hq, rfl⟩ := Option.map_eq_some_iff.mp h
    cases hitem; cases hregs; exact .g1 g r q hq
  · next x y r hitem hregs =>
    obtain ⟨q, hq, rfl⟩ := Option.map_eq_some_iff.mp h
    cases hitem; cases hregs; exact .measZ x y r q hq
  · next k x y c t hitem hregs =>
    cases hitem; cases hregs
    split at h
    · next qc qt hc ht =>
      cases k <;> cases h
      · exact .cnot x y c t qc qt hc ht
      · exact .cz x y c t qc qt hc ht
      · exact .ccnot x y c t qc qt hc ht
      · exact .ccz x y c t qc qt hc ht
      · exact .mcr x y c t qc qt hc ht
    · cases h
  · cases h

theorem within_pair {ne np : Nat} {c t : Reg} {qc qt : Nat} (hc : regIx ne np c = some qc) (ht : regIx ne np t = some qt)
    (d : Dec) (hm : ∀ r, d.mreg = some r → r = c)
    (hs : ∀ o p, p ∈ d.prims o → ∀ j, j ∈ primSupp p → j = qc ∨ j = qt) : d.Within ne np [c, t] :=
  ⟨fun r hr => by rw [hm r hr]; simp, fun o p hp j hj => by
    rcases hs o p hp j hj with rfl | rfl
    · exact ⟨c, by simp, hc⟩
    · exact ⟨t, by simp, ht⟩⟩

theorem decode_within (ne np : Nat) (a : SOp) (d : Dec) (hdec : decode ne np a = some d) : d.Within ne np a.regs := by
  cases decodes_of_decode hdec with
  | g1 g r q hq =>
    exact ⟨fun r hr => (by cases hr), fun o p hp j hj => ⟨r, by simp, by rw [g1Prims_supp g q p hp j hj]; exact hq⟩⟩
  | measZ x cr r q hq =>
    refine ⟨fun r' hr => (by cases hr; simp), fun o p hp j hj => ?_⟩
    cases List.mem_singleton.mp hp
    cases List.mem_singleton.mp hj
    exact ⟨r, by simp, hq⟩
  | cnot x cr c t qc qt hc ht | cz x cr c t qc qt hc ht =>
    refine within_pair hc ht _ (fun r hr => (by cases hr)) (fun o p hp j hj => ?_)
    cases List.mem_singleton.mp hp
    simpa [primSupp] using hj
  | ccnot x cr c t qc qt hc ht | ccz x cr c t qc qt hc ht | mcr x cr c t qc qt hc ht =>
    refine within_pair hc ht _ (fun r hr => (by cases hr; rfl)) (fun o p hp j hj => ?_)
    cases o <;> simp only [if_true, Bool.false_eq_true, if_false, List.mem_cons, List.not_mem_nil, or_false] at hp
    · subst hp; exact Or.inl (List.mem_singleton.mp hj)
    · rcases hp with rfl | hp
      · exact Or.inl (List.mem_singleton.mp hj)
      · rcases hp with rfl | rfl <;> simp [primSupp] at hj <;> simp [hj]

/-! ### states and the semantics of one operation -/

/-- the unread outcome stream of every register -/
abbrev Script := Reg → List Bool

/-- stabilizer group + outcome streams, or `none` = "cannot occur" -/
abbrev RawSt := Option (GState × Script)

def popReg (sc : Script) (r : Reg) : Script := fun r' => if r' = r then (sc r').tail else sc r'

def Dec.out (d : Dec) (sc : Script) : Bool :=
  match d.mreg with
  | some r => (sc r).headD false
  | none => false

def Dec.pop (d : Dec) (sc : Script) : Script :=
  match d.mreg with
  | some r => popReg sc r
  | none => sc

def Dec.has (d : Dec) (sc : Script) : Prop :=
  match d.mreg with
  | some r => sc r ≠ []
  | none => True

theorem popReg_comm (sc : Script) (r r' : Reg) : popReg (popReg sc r) r' = popReg (popReg sc r') r := by
  funext x
  unfold popReg
  by_cases h1 : x = r
  · subst h1
    by_cases h2 : x = r'
    · subst h2; simp
    · simp [h2]
  · by_cases h2 : x = r'
    · subst h2; simp [h1]
    · simp [h1, h2]

theorem popReg_other (sc : Script) (r r' : Reg) (h : r' ≠ r) : popReg sc r r' = sc r' := by
  unfold popReg; rw [if_neg h]

theorem Dec.out_pop (da db : Dec) (h : ∀ ra rb, da.mreg = some ra → db.mreg = some rb → ra ≠ rb) (sc : Script) :
    da.out (db.pop sc) = da.out sc := by
  unfold Dec.out Dec.pop
  cases hma : da.mreg with
  | none => rfl
  | some ra =>
    cases hmb : db.mreg with
    | none => rfl
    | some rb => simp only; rw [popReg_other sc rb ra (h ra rb hma hmb)]

theorem Dec.has_pop (da db : Dec) (h : ∀ ra rb, da.mreg = some ra → db.mreg = some rb → ra ≠ rb) (sc : Script) :
    da.has (db.pop sc) ↔ da.has sc := by
  unfold Dec.has Dec.pop
  cases hma : da.mreg with
  | none => exact Iff.rfl
  | some ra =>
    cases hmb : db.mreg with
    | none => exact Iff.rfl
    | some rb => simp only; rw [popReg_other sc rb ra (h ra rb hma hmb)]

theorem Dec.pop_comm (da db : Dec) (sc : Script) : da.pop (db.pop sc) = db.pop (da.pop sc) := by
  unfold Dec.pop
  cases da.mreg <;> cases db.mreg <;> simp only
  exact popReg_comm _ _ _

theorem Dec.Within.mreg_ne {ne np : Nat} {da db : Dec} {regsa regsb : List Reg} (ha : da.Within ne np regsa)
    (hb : db.Within ne np regsb) (hd : ∀ r, r ∈ regsa → r ∉ regsb) (ra rb : Reg) (hra : da.mreg = some ra)
    (hrb : db.mreg = some rb) : ra ≠ rb :=
  fun he => hd ra (ha.1 ra hra) (he ▸ hb.1 rb hrb)

theorem Dec.Within.supp_disjoint {ne np : Nat} {da db : Dec} {regsa regsb : List Reg} (ha : da.Within ne np regsa)
    (hb : db.Within ne np regsb) (hd : ∀ r, r ∈ regsa → r ∉ regsb) (o o' : Bool) :
    ∀ p, p ∈ da.prims o → ∀ p', p' ∈ db.prims o' → ∀ j, j ∈ primSupp p → j ∉ primSupp p' := by
  intro p hp p' hp' j hj hj'
  obtain ⟨r, hr, hrj⟩ := ha.2 _ p hp j hj
  obtain ⟨r', hr', hrj'⟩ := hb.2 _ p' hp' j hj'
  exact hd r hr (regIx_inj hrj hrj' ▸ hr')

/-- what the semantics of an operation on stabilizer groups (`appRaw`) and on density matrices (`appD`,
    Proofs/SweepCommuteDM) share: with `run` the semantics of a block of primitives on the quantum part `X` of the state, a
    decoded operation reads its outcome, runs its primitives and pops the outcome stream -/
noncomputable def appDec {X : Type} (run : List Tab.Op → Option X → Option X) (od : Option Dec) (s : Option (X × Script)) :
    Option (X × Script) :=
  s.bind fun st =>
    match od with
    | none => none
    | some d => if d.has st.2 then (run (d.prims (d.out st.2)) (some st.1)).map fun x' => (x', d.pop st.2) else none

theorem appDec_none {X : Type} (run : List Tab.Op → Option X → Option X) (od : Option Dec) : appDec run od none = none := rfl

theorem appDec_undecodable {X : Type} (run : List Tab.Op → Option X → Option X) (s : Option (X × Script)) :
    appDec run none s = none := by
  cases s <;> rfl

theorem appDec_map {X : Type} {run : List Tab.Op → Option X → Option X} (hnone : ∀ l, run l none = none) (d : Dec)
    (ox : Option X) (sc : Script) :
    appDec run (some d) (ox.map fun x => (x, sc)) =
      if d.has sc then (run (d.prims (d.out sc)) ox).map fun x' => (x', d.pop sc) else none := by
  cases ox with
  | none => rw [hnone]; split <;> rfl
  | some x => rfl

/-- two decoded operations that measure different registers commute on a state on which their blocks of primitives
    commute: an outcome assignment possible in one order is possible in the other, with the same result -/
theorem appDec_comm {X : Type} {run : List Tab.Op → Option X → Option X} (hnone : ∀ l, run l none = none)
    (oda odb : Option Dec) (x : X) (sc : Script)
    (hm : ∀ da db, oda = some da → odb = some db → ∀ ra rb, da.mreg = some ra → db.mreg = some rb → ra ≠ rb)
    (hrun : ∀ da db, oda = some da → odb = some db → ∀ o o',
      run (da.prims o) (run (db.prims o') (some x)) = run (db.prims o') (run (da.prims o) (some x))) :
    appDec run oda (appDec run odb (some (x, sc))) = appDec run odb (appDec run oda (some (x, sc))) := by
  cases oda with
  | none => rw [appDec_undecodable, appDec_undecodable, appDec_none]
  | some da =>
    cases odb with
    | none => rw [appDec_undecodable, appDec_undecodable, appDec_none]
    | some db =>
      have hab := hm da db rfl rfl
      have hba : ∀ rb ra, db.mreg = some rb → da.mreg = some ra → rb ≠ ra := fun rb ra hb ha => (hab ra rb ha hb).symm
      have e1 := appDec_map hnone db (some x) sc
      have e2 := appDec_map hnone da (some x) sc
      rw [Option.map_some] at e1 e2
      rw [e1, e2]
      by_cases hha : da.has sc
      · by_cases hhb : db.has sc
        · rw [if_pos hha, if_pos hhb, appDec_map hnone, appDec_map hnone, if_pos ((da.has_pop db hab sc).mpr hha),
            if_pos ((db.has_pop da hba sc).mpr hhb), da.out_pop db hab, db.out_pop da hba, da.pop_comm db,
            hrun da db rfl rfl]
        · rw [if_pos hha, if_neg hhb, appDec_none, appDec_map hnone,
            if_neg (fun h => hhb ((db.has_pop da hba sc).mp h))]
      · by_cases hhb : db.has sc
        · rw [if_neg hha, if_pos hhb, appDec_none, appDec_map hnone,
            if_neg (fun h => hha ((da.has_pop db hab sc).mp h))]
        · rw [if_neg hha, if_neg hhb, appDec_none, appDec_none]

/-- **semantics of one operation of the compile sequence** on (stabilizer group, outcome streams); a measuring operation
    whose register has no outcome left cannot run -/
noncomputable def appRaw (ne np : Nat) (a : SOp) (s : RawSt) : RawSt :=
  s.bind fun st =>
    match decode ne np a with
    | none => none
    | some d =>
      if d.has st.2 then (runP (ne + np) (d.prims (d.out st.2)) (some st.1)).map fun g' => (g', d.pop st.2) else none

theorem appRaw_eq_appDec (ne np : Nat) (a : SOp) (s : RawSt) :
    appRaw ne np a s = appDec (runP (ne + np)) (decode ne np a) s := rfl

theorem appRaw_none (ne np : Nat) (a : SOp) : appRaw ne np a none = none := rfl

theorem appRaw_undecodable (ne np : Nat) (a : SOp) (h : decode ne np a = none) (s : RawSt) : appRaw ne np a s = none := by
  rw [appRaw_eq_appDec, h, appDec_undecodable]

theorem appRaw_map (ne np : Nat) (a : SOp) (d : Dec) (h : decode ne np a = some d) (og : Option GState) (sc : Script) :
    appRaw ne np a (og.map fun g => (g, sc)) =
      if d.has sc then (runP (ne + np) (d.prims (d.out sc)) og).map fun g' => (g', d.pop sc) else none := by
  rw [appRaw_eq_appDec, h, appDec_map (runP_none _)]

def OkRaw (n : Nat) (s : RawSt) : Prop := ∀ g sc, s = some (g, sc) → IsTab n g

theorem appRaw_some {ne np : Nat} {a : SOp} {g g1 : GState} {sc sc1 : Script}
    (h : appRaw ne np a (some (g, sc)) = some (g1, sc1)) :
    ∃ d, decode ne np a = some d ∧ d.has sc ∧ runP (ne + np) (d.prims (d.out sc)) (some g) = some g1 ∧ sc1 = d.pop sc := by
  cases hd : decode ne np a with
  | none => rw [appRaw_undecodable ne np a hd] at h; cases h
  | some d =>
    have e := appRaw_map ne np a d hd (some g) sc
    rw [Option.map_some] at e
    rw [e] at h
    obtain ⟨hhas, h⟩ := Option.ite_none_right_eq_some.mp h
    obtain ⟨g', hr, hg'⟩ := Option.map_eq_some_iff.mp h
    cases hg'
    exact ⟨d, rfl, hhas, hr, rfl⟩

theorem appRaw_ok (ne np : Nat) (a : SOp) {s : RawSt} (hs : OkRaw (ne + np) s) : OkRaw (ne + np) (appRaw ne np a s) := by
  intro g' sc' h
  cases s with
  | none => cases h
  | some st =>
    obtain ⟨g, sc⟩ := st
    obtain ⟨d, _, _, hr, _⟩ := appRaw_some h
    exact runP_ok (ne + np) (d.prims (d.out sc)) (s := some g) (fun g0 h0 => by cases h0; exact hs g sc rfl) g' hr


theorem OkRaw.map {n : Nat} {r : RawSt} (hr : OkRaw n r) {X : Type} (x : GState × Script → X) (g : GState) (sc : Script)
    (k : X) (h : (r.map fun y => (y.1, y.2, x y)) = some (g, sc, k)) : IsTab n g := by
  obtain ⟨y, hy, he⟩ := Option.map_eq_some_iff.mp h
  cases he
  exact hr y.1 y.2 hy

/-- **operations on disjoint quantum registers commute** — gates, measurements, classically controlled gates and
    measure-and-reset; an outcome assignment possible in one order is possible in the other and leads to the same
    stabilizer group and the same unread outcome streams -/
theorem appRaw_comm (ne np : Nat) (a b : SOp) (hd : ∀ r, r ∈ a.regs → r ∉ b.regs) (s : RawSt) (hs : OkRaw (ne + np) s) :
    appRaw ne np a (appRaw ne np b s) = appRaw ne np b (appRaw ne np a s) := by
  cases s with
  | none => rfl
  | some st =>
    obtain ⟨g, sc⟩ := st
    have hg : OkSt (ne + np) (some g) := fun g0 h0 => by cases h0; exact hs g sc rfl
    simp only [appRaw_eq_appDec]
    exact appDec_comm (runP_none _) (decode ne np a) (decode ne np b) g sc
      (fun da db hda hdb => (decode_within ne np a da hda).mreg_ne (decode_within ne np b db hdb) hd)
      (fun da db hda hdb o o' => runP_comm (ne + np) _ _
        ((decode_within ne np a da hda).supp_disjoint (decode_within ne np b db hdb) hd o o') (some g) hg)

/-! ### the semantics on states that are stabilizer groups of valid tableaux -/

/-- states whose group is the stabilizer group of a valid tableau on `ne + np` qubits (or "cannot occur") -/
def GSt (ne np : Nat) : Type := { s : RawSt // OkRaw (ne + np) s }

noncomputable def appG (ne np : Nat) (a : SOp) (s : GSt ne np) : GSt ne np := ⟨appRaw ne np a s.1, appRaw_ok ne np a s.2⟩

/-- in the stabilizer semantics, operations on disjoint quantum registers commute, on every state (the physical fact
    the trace-monoid argument of C13 rests on) -/
theorem appG_comm (ne np : Nat) (a b : SOp) (hd : ∀ r, r ∈ a.regs → r ∉ b.regs) (s : GSt ne np) :
    appG ne np a (appG ne np b s) = appG ne np b (appG ne np a s) :=
  Subtype.ext (appRaw_comm ne np a b hd s.1 s.2)

noncomputable def GSt.init (ne np : Nat) (sc : Script) : GSt ne np :=
  ⟨some (gstate (Tab.ket0 (ne + np)), sc), fun g sc' h => by
    simp only [Option.some.injEq, Prod.mk.injEq] at h
    rw [← h.1]; exact isTab_ket0 _⟩

theorem runSeq_appG_val (ne np : Nat) (l : List SOp) (s : GSt ne np) :
    (runSeq (appG ne np) l s).1 = runSeq (appRaw ne np) l s.1 :=
  Wire.runSeq_subtype_val (appRaw ne np) (fun a _ h => appRaw_ok ne np a h) l s

end Graphiq.Commute
