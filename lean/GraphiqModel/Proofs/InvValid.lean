/-
  Proofs/InvValid.lean — the stabilizer half of a valid Clifford tableau is an independent real commuting generating set
  (the destabilizers witness the independence), so `inverse_circuit` returns |0…0⟩ on everything the stabilizer backend
  holds.
-/
import GraphiqModel.Proofs.InvTotal
namespace Graphiq
open PRow Tab
namespace STab

/-- the commutation bit of `d` with a GF(2) combination of rows is the combination of the commutation bits -/
theorem sp_combination (n : Nat) (d : PRow) (row : Nat → PRow) (S : Nat → Bool) (m : Nat) :
    parityTo m (fun i => S i && sp n d (row i))
      = parityTo n (fun j => xor (d.x j && parityTo m (fun i => S i && (row i).z j))
          (d.z j && parityTo m (fun i => S i && (row i).x j))) := by
  have e1 : ∀ i, i < m → (S i && sp n d (row i))
      = parityTo n (fun j => xor (d.x j && (S i && (row i).z j)) (d.z j && (S i && (row i).x j))) := by
    intro i _
    unfold sp
    rw [← parityTo_and_const]
    apply parityTo_congr
    intro j _
    cases S i <;> cases d.x j <;> cases d.z j <;> cases (row i).z j <;> cases (row i).x j <;> rfl
  rw [parityTo_congr m _ _ e1, parityTo_fubini]
  apply parityTo_congr
  intro j _
  rw [parityTo_xor, parityTo_and_const, parityTo_and_const]

theorem ofTab_indep (T : Tab) (hv : T.Valid) : (STab.ofTab T).Indep := by
  intro S hS j hj
  have hj' : j < T.n := hj
  -- pair the combination with the destabilizer `j`
  have h1 := sp_combination T.n (T.row j) (STab.ofTab T).row S T.n
  have hz : parityTo T.n (fun c => xor ((T.row j).x c && parityTo T.n (fun i => S i && ((STab.ofTab T).row i).z c))
      ((T.row j).z c && parityTo T.n (fun i => S i && ((STab.ofTab T).row i).x c))) = false := by
    apply parityTo_zero
    intro c hc
    have := hS c hc
    have a1 : parityTo T.n (fun i => S i && ((STab.ofTab T).row i).x c) = false := this.1
    have a2 : parityTo T.n (fun i => S i && ((STab.ofTab T).row i).z c) = false := this.2
    rw [a1, a2]; simp
  rw [hz] at h1
  have e : ∀ i, i < T.n → (S i && sp T.n (T.row j) ((STab.ofTab T).row i)) = (decide (i = j) && S i) := by
    intro i hi
    have : sp T.n (T.row j) ((STab.ofTab T).row i) = decide (i = j) := by
      show sp T.n (T.row j) { (T.row (i + T.n)) with ip := false } = _
      have h2 := hv j (i + T.n) (by omega) (by omega)
      have h3 : sp T.n (T.row j) { (T.row (i + T.n)) with ip := false } = sp T.n (T.row j) (T.row (i + T.n)) := rfl
      rw [h3, h2]
      apply decide_eq_decide.mpr
      omega
    rw [this, Bool.and_comm]
  rw [parityTo_congr T.n _ _ e, parityTo_single T.n j S hj'] at h1
  exact h1

theorem ofTab_good_of_valid (T : Tab) (hv : T.Valid) : (STab.ofTab T).Good := ofTab_good T hv

theorem inverseCircuit_of_valid (T : Tab) (hv : T.Valid) :
    ∃ t' circ, (STab.ofTab T).inverseCircuit = .ok (t', circ) ∧ t'.isZero = true :=
  inverseCircuit_complete _ (ofTab_good_of_valid T hv) (ofTab_indep T hv)

end STab
end Graphiq
