/-
  Proofs/Evo.lean — lemmas about the heap model of the random-search solvers (Model/Evo.lean), behind C19.

  One call of `updateHofOne` either changes nothing or inserts a copy of the member at the place the scan found
  (`updateHofOne_cases`); everything about `update_hof` is read off that.  The generation loop keeps `Inv` (lengths, no
  dangling or shared objects, hall of fame disjoint from the population, honest scores, order up to the tolerance);
  on scores where `isclose` is an equivalence compatible with `<` (`Coherent`) the order statements are exact on classes:
  the best entry never gets worse, the best of everything evaluated is kept (`Kept`), ties are ordered by node count
  (`SizeTie`).  Further: a run depends only on the draws it consumes, the transformation probabilities stay a probability
  vector, a hall of fame larger than the population never returns, well-formed configurations never raise.
  Core Lean only.
-/
import GraphiqModel.Model.Evo
namespace Graphiq.Evo
open Graphiq

namespace Score

theorem lt_irrefl (a : Score) : a.lt a = false := by
  cases a <;> simp [lt]

theorem lt_trans {a b c : Score} (h1 : a.lt b = true) (h2 : b.lt c = true) : a.lt c = true := by
  cases a <;> cases b <;> cases c <;> simp_all [lt]
  grind

theorem lt_asymm {a b : Score} (h : a.lt b = true) : b.lt a = false := by
  cases a <;> cases b <;> simp_all [lt]
  grind

theorem eq_of_not_lt {a b : Score} (h1 : a.lt b = false) (h2 : b.lt a = false) : a = b := by
  cases a <;> cases b <;> simp_all [lt]
  grind

theorem lt_of_not_lt_of_ne {a b : Score} (h1 : a.lt b = false) (hne : a ≠ b) : b.lt a = true := by
  cases h : b.lt a
  · exact absurd (eq_of_not_lt h1 h) hne
  · rfl

theorem isclose_refl (t : Tol) (hr : 0 ≤ t.rtol) (ha : 0 ≤ t.atol) (a : Score) : a.isclose t a = true := by
  cases a with
  | inf => rfl
  | fin q =>
    simp only [isclose, absQ]
    have : (0 : Rat) ≤ t.rtol * (if q < 0 then -q else q) := by
      apply Rat.mul_nonneg hr
      split <;> grind
    grind

theorem lt_of_lt_of_not_lt {a b c : Score} (h1 : a.lt b = true) (h2 : c.lt b = false) : a.lt c = true := by
  cases a <;> cases b <;> cases c <;> simp_all [Score.lt]
  grind

theorem le_trans {a b c : Score} (h1 : a.le b = true) (h2 : b.le c = true) : a.le c = true := by
  cases a <;> cases b <;> cases c <;> simp_all [Score.le, Score.lt]
  grind

theorem le_total (a b : Score) : (a.le b || b.le a) = true := by
  cases a <;> cases b <;> simp [Score.le, Score.lt]
  grind

end Score

theorem Tol.numpy_rtol_nonneg : 0 ≤ Tol.numpy.rtol := by decide +kernel
theorem Tol.numpy_atol_nonneg : 0 ≤ Tol.numpy.atol := by decide +kernel

/-! ## The scan of `update_hof` -/
section Scan
variable {C : Type}

/-- iteration of the scan at entry `e` inserts (and breaks) -/
def Hit (t : Tol) (size : C → Nat) (h : Heap C) (score : Score) (csize : Nat) (e : HofEntry) : Prop :=
  (score.isclose t e.score = true ∧ ∃ r hc, e.circ = some r ∧ h.get? r = some hc ∧ csize < size hc) ∨
  (score.isclose t e.score = false ∧ score.lt e.score = true)

/-- iteration of the scan at entry `e` neither inserts nor raises -/
def Passed (t : Tol) (size : C → Nat) (h : Heap C) (score : Score) (csize : Nat) (e : HofEntry) : Prop :=
  (score.isclose t e.score = true ∧ ∃ r hc, e.circ = some r ∧ h.get? r = some hc ∧ ¬ csize < size hc) ∨
  (score.isclose t e.score = false ∧ score.lt e.score = false)

variable {t : Tol} {size : C → Nat} {h : Heap C} {hof : List HofEntry} {score : Score} {csize : Nat}

theorem scanHof_succ_ok {i fuel : Nat} {r : Option Nat} :
    scanHof t size h hof score csize i (fuel + 1) = .ok r ↔
      ∃ e, hof[i]? = some e ∧
        ((Hit t size h score csize e ∧ r = some i) ∨
         (Passed t size h score csize e ∧ scanHof t size h hof score csize (i + 1) fuel = .ok r)) := by
  constructor
  · intro hres
    unfold scanHof at hres
    split at hres
    · simp at hres
    · next e he =>
      refine ⟨e, he, ?_⟩
      split at hres
      · next hclose =>
        split at hres
        · simp at hres
        · next r' hr' =>
          split at hres
          · simp at hres
          · next hc hhc =>
            split at hres
            · next hlt =>
              simp only [Except.ok.injEq] at hres
              exact Or.inl ⟨Or.inl ⟨hclose, r', hc, hr', hhc, hlt⟩, hres.symm⟩
            · next hlt => exact Or.inr ⟨Or.inl ⟨hclose, r', hc, hr', hhc, hlt⟩, hres⟩
      · next hclose =>
        have hclose' : score.isclose t e.score = false := by simpa using hclose
        split at hres
        · next hlt =>
          simp only [Except.ok.injEq] at hres
          exact Or.inl ⟨Or.inr ⟨hclose', hlt⟩, hres.symm⟩
        · next hlt => exact Or.inr ⟨Or.inr ⟨hclose', by simpa using hlt⟩, hres⟩
  · rintro ⟨e, he, ⟨hhit, rfl⟩ | ⟨hpass, hrec⟩⟩
    · unfold scanHof
      rcases hhit with ⟨hcl, r', hc, hr', hhc, hlt⟩ | ⟨hcl, hlt⟩
      · simp [he, hcl, hr', hhc, hlt]
      · simp [he, hcl, hlt]
    · unfold scanHof
      rcases hpass with ⟨hcl, r', hc, hr', hhc, hlt⟩ | ⟨hcl, hlt⟩
      · simp [he, hcl, hr', hhc, hlt, hrec]
      · simp [he, hcl, hlt, hrec]

theorem scanHof_spec : ∀ (fuel i : Nat) (r : Option Nat), scanHof t size h hof score csize i fuel = .ok r →
    (∀ k x, i ≤ k → k < r.getD (i + fuel) → hof[k]? = some x → Passed t size h score csize x) ∧
    ∀ p, r = some p → p < i + fuel ∧ ∃ e, hof[p]? = some e ∧ Hit t size h score csize e := by
  intro fuel
  induction fuel with
  | zero =>
    intro i r hres
    cases hres
    exact ⟨fun k x hk1 hk2 => absurd hk2 (Nat.not_lt.mpr hk1), nofun⟩
  | succ fuel ih =>
    intro i r hres
    obtain ⟨e, he, ⟨hhit, rfl⟩ | ⟨hpass, hrec⟩⟩ := scanHof_succ_ok.mp hres
    · refine ⟨fun k x hk1 hk2 => absurd hk2 (Nat.not_lt.mpr hk1), fun p hp => ?_⟩
      cases hp
      exact ⟨Nat.lt_add_of_pos_right (Nat.succ_pos fuel), e, he, hhit⟩
    · obtain ⟨h1, h2⟩ := ih (i + 1) r hrec
      rw [Nat.add_right_comm, Nat.add_assoc] at h1 h2
      refine ⟨fun k x hk1 hk2 hx => ?_, h2⟩
      rcases Nat.eq_or_lt_of_le hk1 with rfl | hlt
      · rw [he] at hx
        cases hx
        exact hpass
      · exact h1 k x hlt hk2 hx

end Scan

/-! ## `hof.insert(i, x); hof.pop()` -/

theorem insertPop_length (hof : List HofEntry) (i : Nat) (x : HofEntry) (hi : i < hof.length) :
    (insertPop hof i x).length = hof.length := by
  unfold insertPop
  rw [List.length_dropLast, List.length_insertIdx]
  split <;> omega

theorem insertPop_getElem? (hof : List HofEntry) (i : Nat) (x : HofEntry) (hi : i < hof.length) (j : Nat) :
    (insertPop hof i x)[j]? =
      if j < i then hof[j]? else if j = i then some x else if j < hof.length then hof[j - 1]? else none := by
  unfold insertPop
  rw [List.getElem?_dropLast, List.length_insertIdx, List.getElem?_insertIdx]
  have hle : i ≤ hof.length := Nat.le_of_lt hi
  simp only [hle, if_true]
  by_cases h1 : j < i
  · simp [h1]
  · by_cases h2 : j = i
    · subst h2
      simp [hle]
      exact hi
    · by_cases h3 : j < hof.length
      · simp [h1, h2, h3]
      · simp [h1, h2, h3]

theorem mem_insertPop {hof : List HofEntry} {i : Nat} {x e : HofEntry} (hi : i ≤ hof.length)
    (he : e ∈ insertPop hof i x) : e = x ∨ e ∈ hof :=
  (List.mem_insertIdx hi).mp ((List.dropLast_sublist _).mem he)

theorem insertPop_self_mem {hof : List HofEntry} {i : Nat} {x : HofEntry} (hi : i < hof.length) :
    x ∈ insertPop hof i x := by
  apply List.mem_of_getElem? (i := i)
  rw [insertPop_getElem? hof i x hi, if_neg (Nat.lt_irrefl i), if_pos rfl]

theorem mem_insertPop_of_getElem? {hof : List HofEntry} {i j : Nat} {x y : HofEntry} (hi : i < hof.length)
    (hy : hof[j]? = some y) (hj : j + 1 < hof.length) : y ∈ insertPop hof i x := by
  by_cases hji : j < i
  · apply List.mem_of_getElem? (i := j)
    rw [insertPop_getElem? hof i x hi, if_pos hji, hy]
  · apply List.mem_of_getElem? (i := j + 1)
    rw [insertPop_getElem? hof i x hi, if_neg (by omega), if_neg (by omega), if_pos hj, Nat.add_sub_cancel, hy]

theorem insertPop_neighbours {hof : List HofEntry} {p : Nat} {x : HofEntry} (hp : p < hof.length) {j : Nat}
    {a b : HofEntry} (ha : (insertPop hof p x)[j]? = some a) (hb : (insertPop hof p x)[j + 1]? = some b) :
    (∃ k, hof[k]? = some a ∧ hof[k + 1]? = some b) ∨ (j + 1 = p ∧ hof[j]? = some a ∧ b = x) ∨
    (j = p ∧ a = x ∧ hof[p]? = some b) := by
  rw [insertPop_getElem? hof p x hp] at ha hb
  rcases Nat.lt_trichotomy (j + 1) p with h1 | h2 | h3
  · rw [if_pos (Nat.lt_of_succ_lt h1)] at ha
    rw [if_pos h1] at hb
    exact Or.inl ⟨j, ha, hb⟩
  · subst h2
    rw [if_pos (Nat.lt_succ_self j)] at ha
    rw [if_neg (Nat.lt_irrefl _), if_pos rfl] at hb
    exact Or.inr (Or.inl ⟨rfl, ha, (Option.some.inj hb).symm⟩)
  · have hpj : p ≤ j := Nat.le_of_lt_succ h3
    have hnlt : ¬ j < p := Nat.not_lt.mpr hpj
    rw [if_neg hnlt] at ha
    rw [if_neg (fun h => hnlt (Nat.lt_of_succ_lt h)), if_neg (Nat.ne_of_gt h3)] at hb
    split at hb
    · rw [Nat.add_sub_cancel] at hb
      rcases Nat.eq_or_lt_of_le hpj with h4 | h4
      · subst h4
        rw [if_pos rfl] at ha
        exact Or.inr (Or.inr ⟨rfl, (Option.some.inj ha).symm, hb⟩)
      · rw [if_neg (Nat.ne_of_gt h4)] at ha
        split at ha
        · refine Or.inl ⟨j - 1, ha, ?_⟩
          rw [Nat.sub_add_cancel (Nat.lt_of_le_of_lt (Nat.zero_le p) h4)]
          exact hb
        · cases ha
    · cases hb
/-! ## The heap -/
namespace Heap
variable {C : Type}

theorem alloc_size (h : Heap C) (c : C) : (h.alloc c).1.size = h.size + 1 := by
  simp [alloc, size]

theorem alloc_get?_new (h : Heap C) (c : C) : (h.alloc c).1.get? h.size = some c := by
  simp [alloc, get?, size]

theorem alloc_get?_old (h : Heap C) (c : C) {k : Nat} (hk : k < h.size) : (h.alloc c).1.get? k = h.get? k := by
  simp only [alloc, get?, size] at *
  rw [Array.getElem?_push, if_neg (Nat.ne_of_lt hk)]

theorem copy_ok_iff {h h' : Heap C} {r r' : Nat} :
    h.copy r = .ok (h', r') ↔ ∃ c, h.get? r = some c ∧ h' = (h.alloc c).1 ∧ r' = h.size := by
  unfold copy
  cases h.get? r with
  | none => simp
  | some c => simp [alloc, size, eq_comm]

theorem modify_size (h : Heap C) (r : Nat) (f : C → C) : (h.modify r f).size = h.size := by
  simp [modify, size]

theorem modify_get?_same (h : Heap C) (r : Nat) (f : C → C) : (h.modify r f).get? r = (h.get? r).map f := by
  simp [modify, get?, Array.getElem?_modify]

theorem modify_get?_other (h : Heap C) (r k : Nat) (f : C → C) (hk : k ≠ r) : (h.modify r f).get? k = h.get? k := by
  simp only [modify, get?, Array.getElem?_modify]
  have : ¬ r = k := fun e => hk e.symm
  simp [this]

theorem get?_some_iff_lt (h : Heap C) (r : Nat) : (∃ c, h.get? r = some c) ↔ r < h.size := by
  simp only [get?, size]
  constructor
  · rintro ⟨c, hc⟩
    exact (Array.getElem?_eq_some_iff.mp hc).1
  · intro hlt
    exact ⟨h.cells[r], Array.getElem?_eq_getElem hlt⟩

end Heap

/-! ## Order of the hall of fame up to the `isclose` tolerance -/

/-- `a ≤ b`, or the two are within the `np.isclose` tolerance (in either argument order) -/
def LeTol (t : Tol) (a b : Score) : Prop := b.lt a = false ∨ a.isclose t b = true ∨ b.isclose t a = true

def SortedTol (t : Tol) (hof : List HofEntry) : Prop :=
  ∀ j a b, hof[j]? = some a → hof[j + 1]? = some b → LeTol t a.score b.score

/-! ## Scores on which `isclose` behaves like "equal": exact statements on classes -/

/-- On the set `S` of scores, `np.isclose` is an equivalence relation whose classes are ordered consistently with `<`.
    (True for any set of scores that is a union of clusters much narrower than the tolerance and much farther apart
    than it — e.g. the infidelities `1 - 2^-k` of stabilizer states with float noise `1e-16`.  The driver evaluates the
    hypothesis on the scores of every run, field `coherent=`.) -/
structure Coherent (t : Tol) (S : Score → Prop) : Prop where
  refl : ∀ a, S a → a.isclose t a = true
  symm : ∀ a b, S a → S b → a.isclose t b = true → b.isclose t a = true
  trans : ∀ a b c, S a → S b → S c → a.isclose t b = true → b.isclose t c = true → a.isclose t c = true
  convex : ∀ a b c, S a → S b → S c → a.isclose t b = true → b.lt c = true → b.isclose t c = false → a.lt c = true

/-- `a` is in a class not above the class of `b` -/
def ClsLe (t : Tol) (a b : Score) : Prop := a.isclose t b = true ∨ a.lt b = true

theorem Coherent.convex' {t : Tol} {S : Score → Prop} (hc : Coherent t S) {a b c : Score} (ha : S a) (hb : S b)
    (hcS : S c) (hab : a.lt b = true) (hbc : b.isclose t c = true) (hnab : a.isclose t b = false) :
    a.lt c = true := by
  cases hac : a.lt c
  · -- ¬ a < c : then c < a or c = a
    exfalso
    by_cases hca : c = a
    · subst hca
      have := hc.symm b c hb hcS hbc
      rw [this] at hnab; simp at hnab
    · have hlt : c.lt a = true := Score.lt_of_not_lt_of_ne hac (fun h => hca h.symm)
      have hcb : c.isclose t b = true := hc.symm b c hb hcS hbc
      cases hcla : c.isclose t a
      · have := hc.convex b c a hb hcS ha hbc hlt hcla
        have h2 := Score.lt_asymm hab
        rw [this] at h2; simp at h2
      · have hba := hc.trans b c a hb hcS ha hbc hcla
        have := hc.symm b a hb ha hba
        rw [this] at hnab; simp at hnab
  · rfl

theorem ClsLe.refl {t : Tol} {S : Score → Prop} (hc : Coherent t S) {a : Score} (ha : S a) : ClsLe t a a :=
  Or.inl (hc.refl a ha)

theorem ClsLe.trans {t : Tol} {S : Score → Prop} (hc : Coherent t S) {a b c : Score} (ha : S a) (hb : S b)
    (hcS : S c) (h1 : ClsLe t a b) (h2 : ClsLe t b c) : ClsLe t a c := by
  rcases h1 with h1 | h1
  · rcases h2 with h2 | h2
    · exact Or.inl (hc.trans a b c ha hb hcS h1 h2)
    · cases hbc : b.isclose t c
      · exact Or.inr (hc.convex a b c ha hb hcS h1 h2 hbc)
      · exact Or.inl (hc.trans a b c ha hb hcS h1 hbc)
  · rcases h2 with h2 | h2
    · cases hab : a.isclose t b
      · exact Or.inr (hc.convex' ha hb hcS h1 h2 hab)
      · exact Or.inl (hc.trans a b c ha hb hcS hab h2)
    · exact Or.inr (Score.lt_trans h1 h2)

theorem LeTol.clsLe {t : Tol} {S : Score → Prop} (hc : Coherent t S) {a b : Score} (ha : S a) (hb : S b)
    (h : LeTol t a b) : ClsLe t a b := by
  rcases h with h | h | h
  · by_cases hab : a = b
    · subst hab; exact ClsLe.refl hc ha
    · exact Or.inr (Score.lt_of_not_lt_of_ne h (fun e => hab e.symm))
  · exact Or.inl h
  · exact Or.inl (hc.symm b a hb ha h)

section Sorted
variable {C : Type} {t : Tol} {size : C → Nat} {h : Heap C} {score : Score} {csize : Nat} {e : HofEntry}

theorem Hit.leTol (hh : Hit t size h score csize e) : LeTol t score e.score := by
  rcases hh with ⟨hc, _⟩ | ⟨_, hl⟩
  · exact Or.inr (Or.inl hc)
  · exact Or.inl (Score.lt_asymm hl)

theorem Hit.clsLe (hh : Hit t size h score csize e) : ClsLe t score e.score := by
  rcases hh with ⟨hc, _⟩ | ⟨_, hl⟩
  · exact Or.inl hc
  · exact Or.inr hl

theorem Passed.leTol (hp : Passed t size h score csize e) : LeTol t e.score score := by
  rcases hp with ⟨hc, _⟩ | ⟨_, hl⟩
  · exact Or.inr (Or.inr hc)
  · exact Or.inl hl

theorem Passed.not_better (hp : Passed t size h score csize e) :
    score.isclose t e.score = true ∨ score.lt e.score = false := by
  rcases hp with ⟨hc, _⟩ | ⟨_, hl⟩
  · exact Or.inl hc
  · exact Or.inr hl

end Sorted

/-! ## Heap extension, references, honesty -/
section Inv
variable {C D : Type}

/-- `h'` extends `h`: every old object is still there, unchanged -/
def Ext (h h' : Heap C) : Prop := h.size ≤ h'.size ∧ ∀ k, k < h.size → h'.get? k = h.get? k

theorem Ext.refl (h : Heap C) : Ext h h := ⟨Nat.le_refl _, fun _ _ => rfl⟩

theorem Ext.trans {h1 h2 h3 : Heap C} (a : Ext h1 h2) (b : Ext h2 h3) : Ext h1 h3 :=
  ⟨Nat.le_trans a.1 b.1, fun k hk => by rw [b.2 k (Nat.lt_of_lt_of_le hk a.1), a.2 k hk]⟩

theorem Ext.alloc (h : Heap C) (c : C) : Ext h (h.alloc c).1 :=
  ⟨by rw [Heap.alloc_size]; omega, fun _ hk => Heap.alloc_get?_old h c hk⟩

def hofRefs (hof : List HofEntry) : List Nat := hof.filterMap (·.circ)

def popRefs (pop : List PopEntry) : List Nat := pop.map (·.circ)

/-- the stored score of a population entry is the metric of the circuit object it points to -/
def PopHonest (P : Params C D) (h : Heap C) (e : PopEntry) : Prop :=
  ∃ c, h.get? e.circ = some c ∧ e.score = P.metric c

/-- the stored score of a hall-of-fame entry is the metric of the circuit object it points to
    (`np.inf` for the initial `(np.inf, None)` entries) -/
def HofEntryHonest (P : Params C D) (h : Heap C) (e : HofEntry) : Prop :=
  match e.circ with
  | some r => ∃ c, h.get? r = some c ∧ e.score = P.metric c
  | none => e.score = Score.inf

theorem PopHonest.ext {P : Params C D} {h h' : Heap C} {e : PopEntry} (hx : Ext h h') (hp : PopHonest P h e) :
    PopHonest P h' e := by
  obtain ⟨c, hc, hs⟩ := hp
  have hlt : e.circ < h.size := (Heap.get?_some_iff_lt h e.circ).mp ⟨c, hc⟩
  exact ⟨c, by rw [hx.2 _ hlt]; exact hc, hs⟩

theorem PopHonest.bound {P : Params C D} {h : Heap C} {e : PopEntry} (hp : PopHonest P h e) : e.circ < h.size := by
  obtain ⟨c, hc, _⟩ := hp
  exact (Heap.get?_some_iff_lt h e.circ).mp ⟨c, hc⟩

theorem popHonest_scores {P : Params C D} {h1 : Heap C} {pop1 : List PopEntry} (S : Score → Prop)
    (hm : ∀ c, S (P.metric c)) (hhon : ∀ e ∈ pop1, PopHonest P h1 e) : ∀ e ∈ pop1, S e.score := by
  intro e he
  obtain ⟨c, _, hs⟩ := hhon e he
  rw [hs]
  exact hm c

/-- honesty of an entry looks at the heap only where the entry points -/
theorem HofEntryHonest.congr {P : Params C D} {h h' : Heap C} {e : HofEntry}
    (hag : ∀ r c, e.circ = some r → h.get? r = some c → h'.get? r = some c) (hp : HofEntryHonest P h e) :
    HofEntryHonest P h' e := by
  unfold HofEntryHonest at *
  split
  · next r hr =>
    rw [hr] at hp
    obtain ⟨c, hc, hs⟩ := hp
    exact ⟨c, hag r c hr hc, hs⟩
  · next hr =>
    rw [hr] at hp
    exact hp

theorem HofEntryHonest.ext {P : Params C D} {h h' : Heap C} {e : HofEntry} (hx : Ext h h')
    (hp : HofEntryHonest P h e) : HofEntryHonest P h' e :=
  hp.congr fun r c _ hc => by
    rw [hx.2 r ((Heap.get?_some_iff_lt h r).mp ⟨c, hc⟩)]
    exact hc

/-- invariant of the hall of fame relative to a heap -/
structure HofInv (P : Params C D) (t : Tol) (h : Heap C) (hof : List HofEntry) : Prop where
  /-- no dangling reference -/
  bound : ∀ r ∈ hofRefs hof, r < h.size
  /-- no two entries share a circuit object -/
  nodup : (hofRefs hof).Nodup
  /-- every stored score is the metric of the stored circuit -/
  honest : ∀ e ∈ hof, HofEntryHonest P h e
  /-- ordered by score up to the isclose tolerance -/
  sorted : SortedTol t hof

theorem hofRefs_insertPop {hof : List HofEntry} {i : Nat} {x : HofEntry} {r : Nat} (hi : i ≤ hof.length)
    (hx : x.circ = some r) : ∃ l, (hofRefs (insertPop hof i x)).Sublist l ∧ l.Perm (r :: hofRefs hof) := by
  refine ⟨hofRefs (hof.insertIdx i x), List.Sublist.filterMap _ (List.dropLast_sublist _), ?_⟩
  have hperm := (List.perm_insertIdx x hof hi).filterMap (·.circ)
  rw [List.filterMap_cons, hx] at hperm
  exact hperm

variable {t : Tol} {size : C → Nat} {n : Nat} {h h' : Heap C} {hof hof' : List HofEntry} {e : PopEntry}

theorem updateHofOne_ok_iff :
    updateHofOne t size n h hof e = .ok (h', hof') ↔
      ∃ c, h.get? e.circ = some c ∧
        ((scanHof t size h hof e.score (size c) 0 n = .ok none ∧ h' = h ∧ hof' = hof) ∨
         ∃ p, scanHof t size h hof e.score (size c) 0 n = .ok (some p) ∧ h' = (h.alloc c).1 ∧
           hof' = insertPop hof p ⟨e.score, some h.size⟩) := by
  constructor
  · intro hres
    unfold updateHofOne at hres
    split at hres
    · simp at hres
    · next c hc =>
      refine ⟨c, hc, ?_⟩
      split at hres
      · simp at hres
      · next hscan =>
        simp only [Except.ok.injEq, Prod.mk.injEq] at hres
        exact Or.inl ⟨hscan, hres.1.symm, hres.2.symm⟩
      · next p hscan =>
        split at hres
        · simp at hres
        · next h2 r' hcopy =>
          obtain ⟨c', hc', rfl, rfl⟩ := Heap.copy_ok_iff.mp hcopy
          rw [hc] at hc'
          cases hc'
          simp only [Except.ok.injEq, Prod.mk.injEq] at hres
          exact Or.inr ⟨p, hscan, hres.1.symm, hres.2.symm⟩
  · rintro ⟨c, hc, ⟨hscan, rfl, rfl⟩ | ⟨p, hscan, rfl, rfl⟩⟩
    · simp [updateHofOne, hc, hscan]
    · simp [updateHofOne, hc, hscan, Heap.copy, Heap.alloc, Heap.size]

/-- what a returning `updateHofOne` did, with the scan read off: every entry was passed, or `p` is a hit, everything
    before it was passed, and a copy of the member's object goes in at `p` -/
theorem updateHofOne_cases (hres : updateHofOne t size n h hof e = .ok (h', hof')) :
    ∃ c, h.get? e.circ = some c ∧
      ((h' = h ∧ hof' = hof ∧ ∀ k x, k < n → hof[k]? = some x → Passed t size h e.score (size c) x) ∨
       ∃ p ep, p < hof.length ∧ hof[p]? = some ep ∧ Hit t size h e.score (size c) ep ∧
         (∀ k x, k < p → hof[k]? = some x → Passed t size h e.score (size c) x) ∧
         h' = (h.alloc c).1 ∧ hof' = insertPop hof p ⟨e.score, some h.size⟩) := by
  obtain ⟨c, hc, ⟨hscan, rfl, rfl⟩ | ⟨p, hscan, rfl, rfl⟩⟩ := updateHofOne_ok_iff.mp hres
  · exact ⟨c, hc, Or.inl ⟨rfl, rfl, fun k x hk =>
      (scanHof_spec n 0 none hscan).1 k x (Nat.zero_le _) (by rw [Nat.zero_add]; exact hk)⟩⟩
  · obtain ⟨hpass, hhit⟩ := scanHof_spec n 0 (some p) hscan
    obtain ⟨_, ep, hep, hhit⟩ := hhit p rfl
    exact ⟨c, hc, Or.inr ⟨p, ep, (List.getElem?_eq_some_iff.mp hep).1, hep, hhit,
      fun k x hk => hpass k x (Nat.zero_le _) hk, rfl, rfl⟩⟩

theorem updateHof_nil_ok : updateHof t size n h hof [] = .ok (h', hof') ↔ h' = h ∧ hof' = hof := by
  simp [updateHof, eq_comm]

theorem updateHof_cons_ok {rest : List PopEntry} :
    updateHof t size n h hof (e :: rest) = .ok (h', hof') ↔
      ∃ h1 hof1, updateHofOne t size n h hof e = .ok (h1, hof1) ∧
        updateHof t size n h1 hof1 rest = .ok (h', hof') := by
  simp only [updateHof]
  cases updateHofOne t size n h hof e with
  | error er => simp
  | ok s =>
    obtain ⟨h1, hof1⟩ := s
    constructor
    · intro hr
      exact ⟨h1, hof1, rfl, hr⟩
    · rintro ⟨_, _, heq, hr⟩
      cases heq
      exact hr

def HeadStep (t : Tol) (hof hof' : List HofEntry) (score : Score) : Prop :=
  ∀ a b, hof[0]? = some a → hof'[0]? = some b →
    (b = a ∧ (score.isclose t a.score = true ∨ score.lt a.score = false)) ∨
    (b.score = score ∧ (score.isclose t a.score = true ∨ score.lt a.score = true))

theorem updateHofOne_head (hlen : hof.length = n) (hres : updateHofOne t size n h hof e = .ok (h', hof')) :
    hof'.length = hof.length ∧ (∀ x ∈ hof', x ∈ hof ∨ x.score = e.score) ∧ HeadStep t hof hof' e.score := by
  obtain ⟨c, _, ⟨rfl, rfl, hpass⟩ | ⟨p, ep, hplt, hep, hhit, hpass, rfl, rfl⟩⟩ := updateHofOne_cases hres
  · refine ⟨rfl, fun x hx => Or.inl hx, fun a b ha hb => ?_⟩
    have hn : 0 < n := by
      have := (List.getElem?_eq_some_iff.mp ha).1
      omega
    rw [ha] at hb
    exact Or.inl ⟨(Option.some.inj hb).symm, (hpass 0 a hn ha).not_better⟩
  · refine ⟨insertPop_length hof p _ hplt, fun x hx => ?_, fun a b ha hb => ?_⟩
    · rcases mem_insertPop (Nat.le_of_lt hplt) hx with rfl | hm
      · exact Or.inr rfl
      · exact Or.inl hm
    · rw [insertPop_getElem? hof p _ hplt] at hb
      by_cases hp0 : p = 0
      · subst hp0
        rw [if_neg (Nat.lt_irrefl 0), if_pos rfl] at hb
        rw [hep] at ha
        cases ha
        cases hb
        exact Or.inr ⟨rfl, hhit.clsLe⟩
      · rw [if_pos (by omega), ha] at hb
        exact Or.inl ⟨(Option.some.inj hb).symm, (hpass 0 a (by omega) ha).not_better⟩

theorem updateHofOne_sorted (hs : SortedTol t hof) (hres : updateHofOne t size n h hof e = .ok (h', hof')) :
    SortedTol t hof' := by
  obtain ⟨c, _, ⟨rfl, rfl, _⟩ | ⟨p, ep, hplt, hep, hhit, hpass, rfl, rfl⟩⟩ := updateHofOne_cases hres
  · exact hs
  · -- neighbours are old neighbours, or the new entry after an entry it passed, or before the entry it hit
    intro j a b ha hb
    rcases insertPop_neighbours hplt ha hb with
      ⟨k, hka, hkb⟩ | ⟨hj, hja, rfl⟩ | ⟨rfl, rfl, hpb⟩
    · exact hs k a b hka hkb
    · exact (hpass j a (by omega) hja).leTol
    · rw [hep] at hpb
      cases hpb
      exact hhit.leTol

theorem updateHofOne_refs (hres : updateHofOne t size n h hof e = .ok (h', hof')) :
    Ext h h' ∧ ∀ r ∈ hofRefs hof', r ∈ hofRefs hof ∨ (h.size ≤ r ∧ r < h'.size) := by
  obtain ⟨c, _, ⟨rfl, rfl, _⟩ | ⟨p, ep, hplt, hep, _, _, rfl, rfl⟩⟩ := updateHofOne_cases hres
  · exact ⟨Ext.refl _, fun r hr => Or.inl hr⟩
  · refine ⟨Ext.alloc h c, fun r hr => ?_⟩
    rw [Heap.alloc_size]
    obtain ⟨l, hsub, hperm⟩ := hofRefs_insertPop (x := ⟨e.score, some h.size⟩)
      (Nat.le_of_lt hplt) rfl
    rcases List.mem_cons.mp (hperm.mem_iff.mp (hsub.subset hr)) with rfl | hm
    · exact Or.inr ⟨Nat.le_refl _, by omega⟩
    · exact Or.inl hm

theorem updateHofOne_inv (P : Params C D) (hinv : HofInv P t h hof) (hpe : PopHonest P h e)
    (hres : updateHofOne t P.size n h hof e = .ok (h', hof')) : HofInv P t h' hof' := by
  obtain ⟨hext, hrefs⟩ := updateHofOne_refs hres
  refine ⟨?_, ?_, ?_, updateHofOne_sorted hinv.sorted hres⟩
  · intro r hr
    rcases hrefs r hr with hm | ⟨_, hlt⟩
    · exact Nat.lt_of_lt_of_le (hinv.bound r hm) hext.1
    · exact hlt
  · obtain ⟨c, hc, ⟨rfl, rfl, _⟩ | ⟨p, ep, hplt, hep, _, _, rfl, rfl⟩⟩ := updateHofOne_cases hres
    · exact hinv.nodup
    · obtain ⟨l, hsub, hperm⟩ := hofRefs_insertPop (x := ⟨e.score, some h.size⟩)
        (Nat.le_of_lt hplt) rfl
      apply List.Nodup.sublist hsub
      rw [hperm.nodup_iff]
      exact List.nodup_cons.mpr ⟨fun hm => Nat.lt_irrefl _ (hinv.bound _ hm), hinv.nodup⟩
  · obtain ⟨c, hc, ⟨rfl, rfl, _⟩ | ⟨p, ep, hplt, hep, _, _, rfl, rfl⟩⟩ := updateHofOne_cases hres
    · exact hinv.honest
    · intro x hx
      rcases mem_insertPop (Nat.le_of_lt hplt) hx with rfl | hm
      · obtain ⟨c', hc', hs'⟩ := hpe
        rw [hc] at hc'
        cases hc'
        show ∃ c', (h.alloc c).1.get? h.size = some c' ∧ e.score = P.metric c'
        exact ⟨c, Heap.alloc_get?_new h c, hs'⟩
      · exact (hinv.honest x hm).ext hext

theorem HofInv.ext_bound {P : Params C D} {t : Tol} {h : Heap C} {hof : List HofEntry} (hi : HofInv P t h hof) :
    ∀ e ∈ hof, ∀ r, e.circ = some r → r < h.size := by
  intro e he r hr
  exact hi.bound r (List.mem_filterMap.mpr ⟨e, he, hr⟩)

theorem updateHof_length_mem (t : Tol) (size : C → Nat) (n : Nat) :
    ∀ (pop : List PopEntry) {h h' : Heap C} {hof hof' : List HofEntry},
      hof.length = n → updateHof t size n h hof pop = .ok (h', hof') →
      hof'.length = n ∧ ∀ x ∈ hof', x ∈ hof ∨ ∃ e ∈ pop, x.score = e.score := by
  intro pop
  induction pop with
  | nil =>
    intro h h' hof hof' hlen hres
    obtain ⟨rfl, rfl⟩ := updateHof_nil_ok.mp hres
    exact ⟨hlen, fun x hx => Or.inl hx⟩
  | cons e rest ih =>
    intro h h' hof hof' hlen hres
    obtain ⟨h1, hof1, hone, hrest⟩ := updateHof_cons_ok.mp hres
    obtain ⟨l1, m1, _⟩ := updateHofOne_head hlen hone
    obtain ⟨l2, m2⟩ := ih (l1.trans hlen) hrest
    refine ⟨l2, fun x hx => ?_⟩
    rcases m2 x hx with hm | ⟨e', he', hs⟩
    · rcases m1 x hm with hm' | hs
      · exact Or.inl hm'
      · exact Or.inr ⟨e, List.mem_cons_self, hs⟩
    · exact Or.inr ⟨e', List.mem_cons_of_mem _ he', hs⟩

theorem updateHof_refs (t : Tol) (size : C → Nat) (n : Nat) :
    ∀ (pop : List PopEntry) {h h' : Heap C} {hof hof' : List HofEntry},
      updateHof t size n h hof pop = .ok (h', hof') →
      Ext h h' ∧ ∀ r ∈ hofRefs hof', r ∈ hofRefs hof ∨ (h.size ≤ r ∧ r < h'.size) := by
  intro pop
  induction pop with
  | nil =>
    intro h h' hof hof' hres
    obtain ⟨rfl, rfl⟩ := updateHof_nil_ok.mp hres
    exact ⟨Ext.refl _, fun r hr => Or.inl hr⟩
  | cons e rest ih =>
    intro h h' hof hof' hres
    obtain ⟨h1, hof1, hone, hrest⟩ := updateHof_cons_ok.mp hres
    obtain ⟨hext1, hrefs1⟩ := updateHofOne_refs hone
    obtain ⟨hext2, hrefs2⟩ := ih hrest
    refine ⟨hext1.trans hext2, fun r hr => ?_⟩
    rcases hrefs2 r hr with hm | ⟨h1', h2'⟩
    · rcases hrefs1 r hm with hm' | ⟨h3, h4⟩
      · exact Or.inl hm'
      · exact Or.inr ⟨h3, Nat.lt_of_lt_of_le h4 hext2.1⟩
    · exact Or.inr ⟨Nat.le_trans hext1.1 h1', h2'⟩

theorem updateHof_inv (P : Params C D) (t : Tol) (n : Nat) :
    ∀ (pop : List PopEntry) {h h' : Heap C} {hof hof' : List HofEntry},
      HofInv P t h hof → (∀ e ∈ pop, PopHonest P h e) →
      updateHof t P.size n h hof pop = .ok (h', hof') → HofInv P t h' hof' := by
  intro pop
  induction pop with
  | nil =>
    intro h h' hof hof' hinv _ hres
    obtain ⟨rfl, rfl⟩ := updateHof_nil_ok.mp hres
    exact hinv
  | cons e rest ih =>
    intro h h' hof hof' hinv hpop hres
    obtain ⟨h1, hof1, hone, hrest⟩ := updateHof_cons_ok.mp hres
    exact ih (updateHofOne_inv P hinv (hpop e List.mem_cons_self) hone)
      (fun x hx => (hpop x (List.mem_cons_of_mem _ hx)).ext (updateHofOne_refs hone).1) hrest

end Inv

/-! ## `update_hof` on coherent scores: the best entry, what is kept, ties -/

theorem exists_head {α : Type} (l : List α) (h : 0 < l.length) : ∃ a, l[0]? = some a :=
  ⟨l[0], List.getElem?_eq_getElem h⟩

section Head
variable {C D : Type}

theorem updateHofOne_scores {t : Tol} {size : C → Nat} {n : Nat} {h h' : Heap C} {hof hof' : List HofEntry}
    {e : PopEntry} {S : Score → Prop} (hlen : hof.length = n) (hS : ∀ x ∈ hof, S x.score) (hSe : S e.score)
    (hres : updateHofOne t size n h hof e = .ok (h', hof')) : ∀ x ∈ hof', S x.score := by
  intro x hx
  rcases (updateHofOne_head hlen hres).2.1 x hx with hm | hm
  · exact hS x hm
  · rw [hm]
    exact hSe

theorem updateHof_head (t : Tol) (S : Score → Prop) (hc : Coherent t S) (size : C → Nat) (n : Nat) :
    ∀ (pop : List PopEntry) {h h' : Heap C} {hof hof' : List HofEntry},
      hof.length = n → (∀ x ∈ hof, S x.score) → (∀ e ∈ pop, S e.score) →
      updateHof t size n h hof pop = .ok (h', hof') →
      ∀ a b, hof[0]? = some a → hof'[0]? = some b →
        ClsLe t b.score a.score ∧ ∀ e ∈ pop, ClsLe t b.score e.score := by
  intro pop
  induction pop with
  | nil =>
    intro h h' hof hof' _ hS _ hres a b ha hb
    obtain ⟨rfl, rfl⟩ := updateHof_nil_ok.mp hres
    rw [ha] at hb
    cases hb
    exact ⟨ClsLe.refl hc (hS a (List.mem_of_getElem? ha)), by simp⟩
  | cons e rest ih =>
    intro h h' hof hof' hlen hS hSp hres a b ha hb
    obtain ⟨h1, hof1, hone, hrest⟩ := updateHof_cons_ok.mp hres
    obtain ⟨l1, _, hs1⟩ := updateHofOne_head hlen hone
    have hSe : S e.score := hSp e List.mem_cons_self
    have hSrest : ∀ x ∈ rest, S x.score := fun x hx => hSp x (List.mem_cons_of_mem _ hx)
    have hS1 := updateHofOne_scores hlen hS hSe hone
    obtain ⟨m, hm⟩ := exists_head hof1 (by rw [l1]; exact (List.getElem?_eq_some_iff.mp ha).1)
    obtain ⟨g1, g2⟩ := ih (l1.trans hlen) hS1 hSrest hrest m b hm hb
    have hSa : S a.score := hS a (List.mem_of_getElem? ha)
    have hSm : S m.score := hS1 m (List.mem_of_getElem? hm)
    have hSb : S b.score := by
      rcases (updateHof_length_mem t size n rest (l1.trans hlen) hrest).2 b (List.mem_of_getElem? hb) with
        hmem | ⟨e', he', hs⟩
      · exact hS1 b hmem
      · rw [hs]
        exact hSrest e' he'
    have hstep : ClsLe t m.score a.score ∧ ClsLe t m.score e.score := by
      rcases hs1 a m ha hm with ⟨rfl, hcond⟩ | ⟨heq, hcond⟩
      · refine ⟨ClsLe.refl hc hSa, LeTol.clsLe hc hSa hSe ?_⟩
        rcases hcond with hcl | hnl
        · exact Or.inr (Or.inr hcl)
        · exact Or.inl hnl
      · rw [heq]
        exact ⟨hcond, ClsLe.refl hc hSe⟩
    refine ⟨ClsLe.trans hc hSb hSm hSa g1 hstep.1, fun x hx => ?_⟩
    rcases List.mem_cons.mp hx with rfl | hmem
    · exact ClsLe.trans hc hSb hSm hSe g1 hstep.2
    · exact g2 x hmem

end Head

section Keep
variable {C D : Type}

/-- a score is *kept*: an entry carries it, or the last (worst) entry is not above it -/
def Kept (t : Tol) (hof : List HofEntry) (s : Score) : Prop :=
  (∃ x ∈ hof, x.score = s) ∨ ∃ l, hof[hof.length - 1]? = some l ∧ ClsLe t l.score s

theorem updateHofOne_kept (t : Tol) (S : Score → Prop) (hc : Coherent t S) (size : C → Nat) (n : Nat)
    {h h' : Heap C} {hof hof' : List HofEntry} {e : PopEntry} (hlen : hof.length = n) (hn : 0 < n)
    (hS : ∀ x ∈ hof, S x.score) (hSe : S e.score) (hs : SortedTol t hof)
    (hres : updateHofOne t size n h hof e = .ok (h', hof')) :
    Kept t hof' e.score ∧ ∀ s, S s → Kept t hof s → Kept t hof' s := by
  have hlt1 : hof.length - 1 < hof.length := Nat.sub_lt (by rw [hlen]; exact hn) Nat.one_pos
  obtain ⟨last, hlast⟩ : ∃ last, hof[hof.length - 1]? = some last := ⟨_, List.getElem?_eq_getElem hlt1⟩
  have hSlast : S last.score := hS last (List.mem_of_getElem? hlast)
  obtain ⟨c, _, ⟨rfl, rfl, hpass⟩ | ⟨p, ep, hplt, hep, hhit, _, rfl, rfl⟩⟩ := updateHofOne_cases hres
  · -- nothing inserted: the last entry was passed
    exact ⟨Or.inr ⟨last, hlast, (hpass _ last (by rw [← hlen]; exact hlt1) hlast).leTol.clsLe hc hSlast hSe⟩, fun s _ hk => hk⟩
  · have hlen' := insertPop_length hof p ⟨e.score, some h.size⟩ hplt
    -- the new last entry is not above the old one
    obtain ⟨l', hl', hSl', hle'⟩ : ∃ l', (insertPop hof p ⟨e.score, some h.size⟩)[hof.length - 1]? = some l' ∧
        S l'.score ∧ ClsLe t l'.score last.score := by
      rw [insertPop_getElem? hof p _ hplt]
      by_cases hp1 : hof.length - 1 = p
      · -- the new entry is the last one; it hit the old last one
        subst hp1
        rw [if_neg (Nat.lt_irrefl _), if_pos rfl]
        rw [hlast] at hep
        cases hep
        exact ⟨_, rfl, hSe, hhit.clsLe⟩
      · -- the old last but one is the last one
        have hpl : p < hof.length - 1 := Nat.lt_of_le_of_ne (Nat.le_sub_one_of_lt hplt) (Ne.symm hp1)
        rw [if_neg (Nat.lt_asymm hpl), if_neg hp1, if_pos hlt1]
        obtain ⟨prev, hprev⟩ : ∃ prev, hof[hof.length - 1 - 1]? = some prev :=
          ⟨_, List.getElem?_eq_getElem (Nat.lt_of_le_of_lt (Nat.sub_le _ 1) hlt1)⟩
        have hadj : hof[hof.length - 1 - 1 + 1]? = some last := by
          rw [Nat.sub_add_cancel (Nat.lt_of_le_of_lt (Nat.zero_le p) hpl)]
          exact hlast
        have hSprev : S prev.score := hS prev (List.mem_of_getElem? hprev)
        exact ⟨prev, hprev, hSprev, (hs _ prev last hprev hadj).clsLe hc hSprev hSlast⟩
    rw [← hlen'] at hl'
    refine ⟨Or.inl ⟨_, insertPop_self_mem hplt, rfl⟩, fun s hSs hk => ?_⟩
    rcases hk with ⟨x, hx, hxs⟩ | ⟨l, hl, hls⟩
    · obtain ⟨i, hi⟩ := List.mem_iff_getElem?.mp hx
      by_cases hin : i + 1 < hof.length
      · exact Or.inl ⟨x, mem_insertPop_of_getElem? hplt hi hin, hxs⟩
      · -- `x` was the last entry and is popped
        have hil : hof.length = i + 1 :=
          Nat.le_antisymm (Nat.not_lt.mp hin) (List.getElem?_eq_some_iff.mp hi).1
        rw [← Nat.sub_eq_of_eq_add hil, hlast] at hi
        cases hi
        exact Or.inr ⟨l', hl', by rw [← hxs]; exact hle'⟩
    · rw [hlast] at hl
      cases hl
      exact Or.inr ⟨l', hl', ClsLe.trans hc hSl' hSlast hSs hle' hls⟩

theorem updateHof_kept (t : Tol) (S : Score → Prop) (hc : Coherent t S) (size : C → Nat) (n : Nat) (hn : 0 < n) :
    ∀ (pop : List PopEntry) {h h' : Heap C} {hof hof' : List HofEntry},
      hof.length = n → (∀ x ∈ hof, S x.score) → (∀ e ∈ pop, S e.score) → SortedTol t hof →
      updateHof t size n h hof pop = .ok (h', hof') →
      (∀ e ∈ pop, Kept t hof' e.score) ∧ ∀ s, S s → Kept t hof s → Kept t hof' s := by
  intro pop
  induction pop with
  | nil =>
    intro h h' hof hof' _ _ _ _ hres
    obtain ⟨rfl, rfl⟩ := updateHof_nil_ok.mp hres
    exact ⟨by simp, fun s _ hk => hk⟩
  | cons e rest ih =>
    intro h h' hof hof' hlen hS hSp hs hres
    obtain ⟨h1, hof1, hone, hrest⟩ := updateHof_cons_ok.mp hres
    have hSe : S e.score := hSp e List.mem_cons_self
    obtain ⟨k1, k2⟩ := updateHofOne_kept t S hc size n hlen hn hS hSe hs hone
    obtain ⟨g1, g2⟩ := ih ((updateHofOne_head hlen hone).1.trans hlen) (updateHofOne_scores hlen hS hSe hone)
      (fun x hx => hSp x (List.mem_cons_of_mem _ hx)) (updateHofOne_sorted hs hone) hrest
    refine ⟨fun x hx => ?_, fun s hSs hk => g2 s hSs (k2 s hSs hk)⟩
    rcases List.mem_cons.mp hx with rfl | hm
    · exact g2 _ hSe k1
    · exact g1 x hm

end Keep

section SizeTie
variable {C D : Type}

/-- neighbours with isclose scores are ordered by node count -/
def SizeTie (t : Tol) (size : C → Nat) (h : Heap C) (hof : List HofEntry) : Prop :=
  ∀ j a b ra rb ca cb, hof[j]? = some a → hof[j + 1]? = some b → a.score.isclose t b.score = true →
    a.circ = some ra → b.circ = some rb → h.get? ra = some ca → h.get? rb = some cb → size ca ≤ size cb

theorem SizeTie.of_agree {t : Tol} {size : C → Nat} {h h1 : Heap C} {hof : List HofEntry}
    (hag : ∀ r ∈ hofRefs hof, h1.get? r = h.get? r) (hs : SizeTie t size h hof) : SizeTie t size h1 hof := by
  intro j a b ra rb ca cb ha hb hcl hra hrb hca hcb
  have h1' := hag ra (List.mem_filterMap.mpr ⟨a, List.mem_of_getElem? ha, hra⟩)
  have h2' := hag rb (List.mem_filterMap.mpr ⟨b, List.mem_of_getElem? hb, hrb⟩)
  exact hs j a b ra rb ca cb ha hb hcl hra hrb (by rw [← h1']; exact hca) (by rw [← h2']; exact hcb)

theorem updateHofOne_sizeTie (t : Tol) (S : Score → Prop) (hc : Coherent t S) (size : C → Nat) (n : Nat)
    {h h' : Heap C} {hof hof' : List HofEntry} {e : PopEntry}
    (hS : ∀ x ∈ hof, S x.score) (hSe : S e.score) (hb : ∀ r ∈ hofRefs hof, r < h.size)
    (hst : SizeTie t size h hof) (hres : updateHofOne t size n h hof e = .ok (h', hof')) :
    SizeTie t size h' hof' := by
  obtain ⟨c, _, ⟨rfl, rfl, _⟩ | ⟨p, ep, hplt, hep, hhit, hpass, rfl, rfl⟩⟩ := updateHofOne_cases hres
  · exact hst
  · -- an old entry's object is an old object
    have oldref : ∀ {x : HofEntry} {i r : Nat} {cx : C}, hof[i]? = some x → x.circ = some r →
        (h.alloc c).1.get? r = some cx → h.get? r = some cx := by
      intro x i r cx hx hr hcx
      rw [← Heap.alloc_get?_old h c (hb r (List.mem_filterMap.mpr ⟨x, List.mem_of_getElem? hx, hr⟩))]
      exact hcx
    intro j a b ra rb ca cb ha hb' hcl hra hrb hca hcb
    rcases insertPop_neighbours hplt ha hb' with ⟨k, hka, hkb⟩ | ⟨hj, hja, rfl⟩ | ⟨rfl, rfl, hpb⟩
    · exact hst k a b ra rb ca cb hka hkb hcl hra hrb (oldref hka hra hca) (oldref hkb hrb hcb)
    · -- `a` was passed by the new entry, which is isclose to it: the new circuit is not smaller
      cases hrb
      rw [Heap.alloc_get?_new] at hcb
      cases hcb
      rcases hpass j a (hj ▸ Nat.lt_succ_self j) hja with ⟨_, r0, c0, hr0, hg0, hnlt⟩ | ⟨hncl, _⟩
      · rw [hra] at hr0
        cases hr0
        rw [oldref hja hra hca] at hg0
        cases hg0
        exact Nat.not_lt.mp hnlt
      · rw [hc.symm _ _ (hS a (List.mem_of_getElem? hja)) hSe hcl] at hncl
        cases hncl
    · -- the new entry hit `b`, which is isclose to it: the new circuit is smaller
      rw [hep] at hpb
      cases hpb
      cases hra
      rw [Heap.alloc_get?_new] at hca
      cases hca
      rcases hhit with ⟨_, r0, c0, hr0, hg0, hlt⟩ | ⟨hncl, _⟩
      · rw [hrb] at hr0
        cases hr0
        rw [oldref hep hrb hcb] at hg0
        cases hg0
        exact Nat.le_of_lt hlt
      · rw [hcl] at hncl
        cases hncl

theorem updateHof_sizeTie (P : Params C D) (t : Tol) (S : Score → Prop) (hc : Coherent t S) (n : Nat) :
    ∀ (pop : List PopEntry) {h h' : Heap C} {hof hof' : List HofEntry},
      HofInv P t h hof → hof.length = n → (∀ e ∈ pop, PopHonest P h e) →
      (∀ x ∈ hof, S x.score) → (∀ e ∈ pop, S e.score) → SizeTie t P.size h hof →
      updateHof t P.size n h hof pop = .ok (h', hof') → SizeTie t P.size h' hof' := by
  intro pop
  induction pop with
  | nil =>
    intro h h' hof hof' _ _ _ _ _ hst hres
    obtain ⟨rfl, rfl⟩ := updateHof_nil_ok.mp hres
    exact hst
  | cons e rest ih =>
    intro h h' hof hof' hinv hlen hpop hS hSp hst hres
    obtain ⟨h1, hof1, hone, hrest⟩ := updateHof_cons_ok.mp hres
    have hSe : S e.score := hSp e List.mem_cons_self
    exact ih (updateHofOne_inv P hinv (hpop e List.mem_cons_self) hone) ((updateHofOne_head hlen hone).1.trans hlen)
      (fun x hx => (hpop x (List.mem_cons_of_mem _ hx)).ext (updateHofOne_refs hone).1) (updateHofOne_scores hlen hS hSe hone)
      (fun x hx => hSp x (List.mem_cons_of_mem _ hx))
      (updateHofOne_sizeTie t S hc P.size n hS hSe hinv.bound hst hone) hrest

theorem SizeTie.ext {t : Tol} {size : C → Nat} {h h1 : Heap C} {hof : List HofEntry} (hx : Ext h h1)
    (hb : ∀ r ∈ hofRefs hof, r < h.size) (hs : SizeTie t size h hof) : SizeTie t size h1 hof :=
  SizeTie.of_agree (fun r hr => hx.2 r (hb r hr)) hs

end SizeTie

/-! ## The mutation loop of one generation -/
section Mutate
variable {C D : Type}

theorem popRefs_length (pop : List PopEntry) : (popRefs pop).length = pop.length := by simp [popRefs]

theorem popRefs_set_same (pop : List PopEntry) (j : Nat) (e : PopEntry) (sc : Score) (he : pop[j]? = some e) :
    popRefs (pop.set j ⟨sc, e.circ⟩) = popRefs pop := by
  unfold popRefs
  apply List.ext_getElem?
  intro i
  rw [List.map_set, List.getElem?_set]
  by_cases hij : j = i
  · subst hij
    obtain ⟨hlt, hget⟩ := List.getElem?_eq_some_iff.mp he
    simp [hlt, hget]
  · simp [hij]

theorem popRefs_ne_of_lt {pop : List PopEntry} (hnd : (popRefs pop).Nodup) {j i : Nat} {e x : PopEntry}
    (he : pop[j]? = some e) (hx : pop[i]? = some x) (hji : j < i) : x.circ ≠ e.circ := by
  obtain ⟨hj, rfl⟩ := List.getElem?_eq_some_iff.mp he
  obtain ⟨hi, rfl⟩ := List.getElem?_eq_some_iff.mp hx
  have := List.pairwise_iff_getElem.mp hnd j i (by simpa [popRefs] using hj) (by simpa [popRefs] using hi) hji
  simpa [popRefs] using this.symm

theorem mutatePhase_succ_ok {P : Params C D} {d : Nat → D} {j fuel : Nat} {h : Heap C} {pop : List PopEntry}
    {r : Heap C × List PopEntry} :
    mutatePhase P d j (fuel + 1) h pop = .ok r ↔
      ∃ e c, pop[j]? = some e ∧ (h.modify e.circ fun c => P.mutate c (d j)).get? e.circ = some c ∧
        mutatePhase P d (j + 1) fuel (h.modify e.circ fun c => P.mutate c (d j)) (pop.set j ⟨P.metric c, e.circ⟩) =
          .ok r := by
  constructor
  · intro hres
    unfold mutatePhase at hres
    split at hres
    · simp at hres
    · next e he =>
      simp only at hres
      split at hres
      · simp at hres
      · next c hc => exact ⟨e, c, he, hc, hres⟩
  · rintro ⟨e, c, he, hc, hrec⟩
    unfold mutatePhase
    simp only [he, hc]
    exact hrec

/-- every slot `≥ j` ends up with the metric of its own circuit because the objects are pairwise distinct: a later
    mutation does not touch the object of an earlier slot -/
theorem mutatePhase_spec (P : Params C D) (d : Nat → D) :
    ∀ (fuel j : Nat) (h : Heap C) (pop : List PopEntry),
      j + fuel = pop.length → (popRefs pop).Nodup → (∀ e ∈ pop, e.circ < h.size) →
      ∃ h' pop', mutatePhase P d j fuel h pop = .ok (h', pop') ∧
        popRefs pop' = popRefs pop ∧ h'.size = h.size ∧
        (∀ r, (∀ i x, j ≤ i → pop[i]? = some x → x.circ ≠ r) → h'.get? r = h.get? r) ∧
        (∀ i, i < j → pop'[i]? = pop[i]?) ∧
        (∀ i e, j ≤ i → pop'[i]? = some e → PopHonest P h' e) := by
  intro fuel
  induction fuel with
  | zero =>
    intro j h pop hlen _ _
    refine ⟨h, pop, rfl, rfl, rfl, fun _ _ => rfl, fun _ _ => rfl, ?_⟩
    intro i e hji hie
    exact absurd (List.getElem?_eq_some_iff.mp hie).1 (Nat.not_lt.mpr (hlen ▸ hji))
  | succ fuel ih =>
    intro j h pop hlen hnd hb
    have hjlt : j < pop.length := hlen ▸ Nat.lt_add_of_pos_right (Nat.succ_pos fuel)
    obtain ⟨e, he⟩ : ∃ e, pop[j]? = some e := ⟨_, List.getElem?_eq_getElem hjlt⟩
    have hmem : e ∈ pop := List.mem_of_getElem? he
    obtain ⟨c1, hc1⟩ := (Heap.get?_some_iff_lt (h.modify e.circ fun c => P.mutate c (d j)) e.circ).mpr
      (by rw [Heap.modify_size]; exact hb e hmem)
    have hrefs1 := popRefs_set_same pop j e (P.metric c1) he
    have hb1 : ∀ x ∈ pop.set j ⟨P.metric c1, e.circ⟩, x.circ < (h.modify e.circ fun c => P.mutate c (d j)).size := by
      intro x hx
      rw [Heap.modify_size]
      rcases List.mem_or_eq_of_mem_set hx with hm | rfl
      · exact hb x hm
      · exact hb e hmem
    obtain ⟨h', pop', hrec, g1, g2, g3, g4, g5⟩ :=
      ih (j + 1) _ _ (by rw [List.length_set, ← hlen, Nat.add_assoc, Nat.add_comm 1 fuel]) (by rw [hrefs1]; exact hnd) hb1
    have hlater : ∀ i x, j + 1 ≤ i → (pop.set j ⟨P.metric c1, e.circ⟩)[i]? = some x → pop[i]? = some x := by
      intro i x hi hx
      rwa [List.getElem?_set_ne (Nat.ne_of_lt hi)] at hx
    refine ⟨h', pop', mutatePhase_succ_ok.mpr ⟨e, c1, he, hc1, hrec⟩, g1.trans hrefs1,
      by rw [g2, Heap.modify_size], ?_, ?_, ?_⟩
    · intro r hr
      rw [g3 r (fun i x hi hx => hr i x (Nat.le_of_succ_le hi) (hlater i x hi hx)),
        Heap.modify_get?_other _ _ _ _ (fun heq => hr j e (Nat.le_refl _) he heq.symm)]
    · intro i hi
      rw [g4 i (Nat.lt_succ_of_lt hi), List.getElem?_set_ne (Nat.ne_of_gt hi)]
    · intro i x hji hix
      by_cases hij : i = j
      · subst hij
        rw [g4 i (Nat.lt_succ_self i), List.getElem?_set_self hjlt] at hix
        cases hix
        -- the later slots hold other objects, so the object of slot `j` is not touched again
        rw [← g3 e.circ (fun i x hi hx => popRefs_ne_of_lt hnd he (hlater i x hi hx) hi)] at hc1
        exact ⟨c1, hc1, rfl⟩
      · exact g5 i x (Nat.lt_of_le_of_ne hji (Ne.symm hij)) hix

theorem mutatePhase_length (P : Params C D) (d : Nat → D) :
    ∀ (fuel j : Nat) (h : Heap C) (pop : List PopEntry) {h' : Heap C} {pop' : List PopEntry},
      mutatePhase P d j fuel h pop = .ok (h', pop') → pop'.length = pop.length := by
  intro fuel
  induction fuel with
  | zero =>
    intro j h pop h' pop' hres
    simp only [mutatePhase, Except.ok.injEq, Prod.mk.injEq] at hres
    rw [hres.2]
  | succ fuel ih =>
    intro j h pop h' pop' hres
    obtain ⟨e, c, _, _, hrec⟩ := mutatePhase_succ_ok.mp hres
    rw [ih _ _ _ hrec, List.length_set]

end Mutate

/-! ## Tournament selection -/
section Tournament
variable {C D : Type}

theorem choices_spec (pop : List PopEntry) : ∀ (is : List Nat) {es : List PopEntry},
    choices pop is = .ok es → es.length = is.length ∧ ∀ e ∈ es, e ∈ pop := by
  intro is
  induction is with
  | nil => intro es h; simp [choices] at h; subst h; simp
  | cons i rest ih =>
    intro es h
    simp only [choices] at h
    split at h
    · simp at h
    · next e he =>
      split at h
      · simp at h
      · next es' hes' =>
        simp only [Except.ok.injEq] at h
        subst h
        obtain ⟨h1, h2⟩ := ih hes'
        refine ⟨by simp [h1], ?_⟩
        intro x hx
        rcases List.mem_cons.mp hx with rfl | hm
        · exact List.mem_of_getElem? he
        · exact h2 x hm

theorem forall_getElem?_cons {α : Type} {Q : α → Prop} {y : α} {l : List α} {i : Nat} (hy : Q y)
    (hl : ∀ (j : Nat) (x : α), j < i → l[j]? = some x → Q x) :
    ∀ (j : Nat) (x : α), j < i + 1 → (y :: l)[j]? = some x → Q x := by
  intro j x hj hx
  cases j with
  | zero =>
    simp only [List.getElem?_cons_zero, Option.some.injEq] at hx
    subst hx
    exact hy
  | succ j' => exact hl j' x (by omega) (by simpa using hx)

/-- the running minimum `b` of `min`'s fold started at `b0`: nothing beats it, and it is `b0` or the first member of
    `l` that beats `b0` and everything before it -/
theorem foldl_min_spec (l : List PopEntry) : ∀ (b0 : PopEntry),
    let b := l.foldl (fun best x => if x.score.lt best.score then x else best) b0
    b0.score.lt b.score = false ∧ (∀ x ∈ l, x.score.lt b.score = false) ∧
    (b = b0 ∨ ∃ i : Nat, l[i]? = some b ∧ b.score.lt b0.score = true ∧
      ∀ (j : Nat) (x : PopEntry), j < i → l[j]? = some x → b.score.lt x.score = true) := by
  induction l with
  | nil => intro b0; simp [Score.lt_irrefl]
  | cons y rest ih =>
    intro b0
    simp only [List.foldl_cons]
    by_cases hy : y.score.lt b0.score = true
    · simp only [hy, if_true]
      obtain ⟨h1, h2, h3⟩ := ih y
      refine ⟨?_, ?_, Or.inr ?_⟩
      · -- b ≤ y < b0
        cases hb : b0.score.lt (rest.foldl (fun best x => if x.score.lt best.score then x else best) y).score
        · rfl
        · exact absurd (Score.lt_trans hy hb) (by simp [h1])
      · exact List.forall_mem_cons.mpr ⟨h1, h2⟩
      · rcases h3 with h3 | ⟨i, hi, hlt, hbefore⟩
        · exact ⟨0, by simp [h3], by rw [h3]; exact hy, fun j x hj => by omega⟩
        · exact ⟨i + 1, by simpa using hi, Score.lt_trans hlt hy, forall_getElem?_cons hlt hbefore⟩
    · have hy' : y.score.lt b0.score = false := by simpa using hy
      simp only [hy', Bool.false_eq_true, if_false]
      obtain ⟨h1, h2, h3⟩ := ih b0
      refine ⟨h1, ?_, ?_⟩
      · intro x hx
        rcases List.mem_cons.mp hx with rfl | hm
        · -- x < b and ¬ b0 < b would give x < b0
          cases hb : x.score.lt (rest.foldl (fun best x => if x.score.lt best.score then x else best) b0).score
          · rfl
          · exact absurd (Score.lt_of_lt_of_not_lt hb h1) (by simp [hy'])
        · exact h2 x hm
      · rcases h3 with h3 | ⟨i, hi, hlt, hbefore⟩
        · exact Or.inl h3
        · exact Or.inr ⟨i + 1, by simpa using hi, hlt,
            forall_getElem?_cons (Score.lt_of_lt_of_not_lt hlt hy') hbefore⟩

/-- `min(tourn_pop, key=score)` returns the **first** member of minimal score: everything before it is strictly worse,
    nothing after it is strictly better -/
theorem minByScore_first {l : List PopEntry} {b : PopEntry} (h : minByScore l = some b) :
    ∃ i : Nat, l[i]? = some b ∧ (∀ (j : Nat) (x : PopEntry), j < i → l[j]? = some x → b.score.lt x.score = true) ∧
      ∀ x ∈ l, x.score.lt b.score = false := by
  cases l with
  | nil => simp [minByScore] at h
  | cons e rest =>
    simp only [minByScore, Option.some.injEq] at h
    obtain ⟨h1, h2, h3⟩ := foldl_min_spec rest e
    rw [h] at h1 h2 h3
    have hmin : ∀ x ∈ e :: rest, x.score.lt b.score = false := List.forall_mem_cons.mpr ⟨h1, h2⟩
    rcases h3 with rfl | ⟨i, hi, hlt, hbefore⟩
    · exact ⟨0, rfl, fun j x hj => by omega, hmin⟩
    · exact ⟨i + 1, by simpa using hi, forall_getElem?_cons hlt hbefore, hmin⟩

theorem minByScore_spec {l : List PopEntry} {b : PopEntry} (h : minByScore l = some b) :
    b ∈ l ∧ ∀ x ∈ l, x.score.lt b.score = false := by
  obtain ⟨i, hi, _, hmin⟩ := minByScore_first h
  exact ⟨List.mem_of_getElem? hi, hmin⟩

theorem tournamentLoop_succ_ok {pop : List PopEntry} {draws : Nat → List Nat} {i fuel : Nat} {h : Heap C}
    {acc : List PopEntry} {r : Heap C × List PopEntry} :
    tournamentLoop pop draws i (fuel + 1) h acc = .ok r ↔
      ∃ tourn best c, choices pop (draws i) = .ok tourn ∧ minByScore tourn = some best ∧
        h.get? best.circ = some c ∧
        tournamentLoop pop draws (i + 1) fuel (h.alloc c).1 (acc ++ [⟨best.score, h.size⟩]) = .ok r := by
  constructor
  · intro hres
    unfold tournamentLoop at hres
    split at hres
    · simp at hres
    · next tourn htourn =>
      split at hres
      · simp at hres
      · next best hbest =>
        split at hres
        · simp at hres
        · next h1 r1 hcopy =>
          obtain ⟨c, hc, rfl, rfl⟩ := Heap.copy_ok_iff.mp hcopy
          exact ⟨tourn, best, c, htourn, hbest, hc, hres⟩
  · rintro ⟨tourn, best, c, htourn, hbest, hc, hrec⟩
    unfold tournamentLoop
    simp only [htourn, hbest, Heap.copy_ok_iff.mpr ⟨c, hc, rfl, rfl⟩]
    exact hrec

/-- the tournament loop appends one *fresh* object per tournament (the references `h.size, h.size + 1, …`), each with
    the score of a member of the old population, which is honest for the copy -/
theorem tournamentLoop_spec (P : Params C D) (pop : List PopEntry) (draws : Nat → List Nat) :
    ∀ (fuel i : Nat) (h : Heap C) (acc : List PopEntry) {h' : Heap C} {pop' : List PopEntry},
      (∀ e ∈ pop, PopHonest P h e) → tournamentLoop pop draws i fuel h acc = .ok (h', pop') →
      Ext h h' ∧ h'.size = h.size + fuel ∧ ∃ fresh, pop' = acc ++ fresh ∧
        popRefs fresh = List.range' h.size fuel ∧
        ∀ a ∈ fresh, PopHonest P h' a ∧ ∃ b ∈ pop, a.score = b.score := by
  intro fuel
  induction fuel with
  | zero =>
    intro i h acc h' pop' _ hres
    simp only [tournamentLoop, Except.ok.injEq, Prod.mk.injEq] at hres
    obtain ⟨rfl, rfl⟩ := hres
    exact ⟨Ext.refl _, rfl, [], by simp, rfl, by simp⟩
  | succ fuel ih =>
    intro i h acc h' pop' hpop hres
    obtain ⟨tourn, best, c, htourn, hbest, hc, hrec⟩ := tournamentLoop_succ_ok.mp hres
    have hext1 : Ext h (h.alloc c).1 := Ext.alloc h c
    have hbm : best ∈ pop := (choices_spec pop _ htourn).2 best (minByScore_spec hbest).1
    obtain ⟨g1, g2, fresh, hp, hrefs, hfresh⟩ := ih (i + 1) _ _ (fun e he => (hpop e he).ext hext1) hrec
    refine ⟨hext1.trans g1, by rw [g2, Heap.alloc_size]; omega, ⟨best.score, h.size⟩ :: fresh,
      by rw [hp, List.append_assoc]; rfl, ?_, fun a ha => ?_⟩
    · have hcons : popRefs (⟨best.score, h.size⟩ :: fresh) = h.size :: popRefs fresh := rfl
      rw [hcons, hrefs, Heap.alloc_size, List.range'_succ]
    · rcases List.mem_cons.mp ha with rfl | hm
      · obtain ⟨c', hc', hsc⟩ := hpop best hbm
        rw [hc] at hc'
        cases hc'
        exact ⟨PopHonest.ext g1 ⟨c, Heap.alloc_get?_new h c, hsc⟩, best, hbm, rfl⟩
      · exact hfresh a hm

theorem tournamentLoop_fresh (P : Params C D) {pop pop' : List PopEntry} {draws : Nat → List Nat} {n : Nat}
    {h h' : Heap C} (hpop : ∀ e ∈ pop, PopHonest P h e) (hres : tournamentLoop pop draws 0 n h [] = .ok (h', pop')) :
    Ext h h' ∧ pop'.length = n ∧ (popRefs pop').Nodup ∧ (∀ r ∈ popRefs pop', h.size ≤ r ∧ r < h'.size) ∧
    (∀ a ∈ pop', ∃ b ∈ pop, a.score = b.score) ∧ (∀ a ∈ pop', PopHonest P h' a) := by
  obtain ⟨t1, t2, fresh, hp, hrefs, hfresh⟩ := tournamentLoop_spec P pop draws n 0 h [] hpop hres
  rw [List.nil_append] at hp
  rw [hp, hrefs, t2]
  refine ⟨t1, ?_, List.nodup_range' 1, fun r hr => List.mem_range'_1.mp hr, fun a ha => (hfresh a ha).2,
    fun a ha => (hfresh a ha).1⟩
  rw [← popRefs_length, hrefs, List.length_range']

/-- `tournament_selection` hands on the same population (`k = 0`) or `n_pop` fresh, pairwise distinct, honest copies -/
theorem tournamentSelection_spec (P : Params C D) {nPop k : Nat} {h h' : Heap C} {pop pop' : List PopEntry}
    {draws : Nat → List Nat} (hlen : pop.length = nPop) (hpop : ∀ e ∈ pop, PopHonest P h e)
    (hnd : (popRefs pop).Nodup) (hres : tournamentSelection nPop k h pop draws = .ok (h', pop')) :
    Ext h h' ∧ pop'.length = nPop ∧ (∀ a ∈ pop', PopHonest P h' a) ∧ (popRefs pop').Nodup ∧
    (pop' = pop ∨ ∀ r ∈ popRefs pop', h.size ≤ r) := by
  unfold tournamentSelection at hres
  split at hres
  · cases hres
    exact ⟨Ext.refl _, hlen, hpop, hnd, Or.inl rfl⟩
  · obtain ⟨t1, t2, t3, t4, _, t6⟩ := tournamentLoop_fresh P hpop hres
    exact ⟨t1, t2, t6, t3, Or.inr fun r hr => (t4 r hr).1⟩

end Tournament

/-! ## One generation, and the whole run -/
section Generation
variable {C D : Type}

/-- the invariant of the hall of fame looks at the heap only where the hall of fame points -/
theorem HofInv.of_agree {P : Params C D} {t : Tol} {h h1 : Heap C} {hof : List HofEntry}
    (hsz : h.size ≤ h1.size) (hag : ∀ r ∈ hofRefs hof, h1.get? r = h.get? r) (hi : HofInv P t h hof) :
    HofInv P t h1 hof := by
  refine ⟨fun r hr => Nat.lt_of_lt_of_le (hi.bound r hr) hsz, hi.nodup, fun e he => ?_, hi.sorted⟩
  exact (hi.honest e he).congr fun r c hr hc => by
    rw [hag r (List.mem_filterMap.mpr ⟨e, he, hr⟩)]
    exact hc

theorem HofInv.ext {P : Params C D} {t : Tol} {h h1 : Heap C} {hof : List HofEntry}
    (hx : Ext h h1) (hi : HofInv P t h hof) : HofInv P t h1 hof :=
  hi.of_agree hx.1 fun r hr => hx.2 r (hi.bound r hr)

/-- the invariant of the solver state between generations:
    * the population has `n_pop` members, the hall of fame `n_hof` entries;
    * no dangling references;
    * the population's circuit objects are pairwise distinct, the hall of fame's too, and no hall-of-fame circuit is a
      population member's object (**stores copies**);
    * every hall-of-fame score is the metric of the circuit stored with it (**honest**);
    * the hall of fame is ordered up to the isclose tolerance. -/
structure Inv (P : Params C D) (cfg : Cfg) (s : St C) : Prop where
  popLen : s.pop.length = cfg.nPop
  hofLen : s.hof.length = cfg.nHof
  popBound : ∀ e ∈ s.pop, e.circ < s.heap.size
  popNodup : (popRefs s.pop).Nodup
  disjoint : ∀ r ∈ hofRefs s.hof, r ∉ popRefs s.pop
  hof : HofInv P cfg.tol s.heap s.hof

theorem mem_popRefs {pop : List PopEntry} {r : Nat} : r ∈ popRefs pop ↔ ∃ e ∈ pop, e.circ = r := by
  simp [popRefs]

theorem mutatePhase_inv {P : Params C D} {cfg : Cfg} {s : St C} (hinv : Inv P cfg s) (d : Nat → D) :
    ∃ h1 pop1, mutatePhase P d 0 cfg.nPop s.heap s.pop = .ok (h1, pop1) ∧
      pop1.length = cfg.nPop ∧ popRefs pop1 = popRefs s.pop ∧ h1.size = s.heap.size ∧
      (∀ e ∈ pop1, PopHonest P h1 e) ∧ (∀ r ∈ hofRefs s.hof, h1.get? r = s.heap.get? r) ∧
      HofInv P cfg.tol h1 s.hof := by
  obtain ⟨h1, pop1, hmut, m1, m2, m3, _, m5⟩ := mutatePhase_spec P d cfg.nPop 0 s.heap s.pop
    (by rw [hinv.popLen]; omega) hinv.popNodup hinv.popBound
  have hagree : ∀ r ∈ hofRefs s.hof, h1.get? r = s.heap.get? r :=
    fun r hr => m3 r fun i x _ hx heq => hinv.disjoint r hr (mem_popRefs.mpr ⟨x, List.mem_of_getElem? hx, heq⟩)
  refine ⟨h1, pop1, hmut, by rw [← popRefs_length, m1, popRefs_length, hinv.popLen], m1, m2, fun e he => ?_, hagree,
    HofInv.of_agree (Nat.le_of_eq m2.symm) hagree hinv.hof⟩
  obtain ⟨i, hi⟩ := List.mem_iff_getElem?.mp he
  exact m5 i e (Nat.zero_le _) hi

theorem updateLogs_ok_iff {pop : List PopEntry} {hof : List HofEntry} :
    updateLogs pop hof = .ok () ↔ 0 < pop.length ∧ 0 < hof.length ∧ hof.any (fun e => e.circ.isNone) = false := by
  unfold updateLogs
  cases pop with
  | nil => simp
  | cons a l =>
    cases hof with
    | nil => simp
    | cons b m => cases (b :: m).any (fun e => e.circ.isNone) <;> simp

theorem generation_ok_iff {P : Params C D} {cfg : Cfg} {dr : Draws D} {g : Nat} {s s' : St C} :
    generation P cfg dr g s = .ok s' ↔
      ∃ h1 pop1 h2 hof2 h3 pop3,
        mutatePhase P (dr.mutation g) 0 cfg.nPop s.heap s.pop = .ok (h1, pop1) ∧
        updateHof cfg.tol P.size cfg.nHof h1 s.hof pop1 = .ok (h2, hof2) ∧
        updateLogs pop1 hof2 = .ok () ∧
        (if cfg.selectionActive then tournamentSelection cfg.nPop cfg.tournamentK h2 pop1 (dr.tournament g)
          else .ok (h2, pop1)) = .ok (h3, pop3) ∧
        s' = ⟨h3, pop3, hof2, if cfg.useAdaptProbability then adaptProbabilities cfg.nStop cfg.nEmitter s.transProbs
          else s.transProbs⟩ := by
  constructor
  · intro hres
    unfold generation at hres
    split at hres
    · simp at hres
    · next h1 pop1 hmut =>
      split at hres
      · simp at hres
      · next h2 hof2 hupd =>
        simp only at hres
        split at hres
        · simp at hres
        · next hlogs =>
          refine ⟨h1, pop1, h2, hof2, ?_⟩
          split at hres
          · next hsel =>
            split at hres
            · simp at hres
            · next h3 pop3 htour =>
              simp only [Except.ok.injEq] at hres
              exact ⟨h3, pop3, hmut, hupd, hlogs, by rw [if_pos hsel]; exact htour, hres.symm⟩
          · next hsel =>
            simp only [Except.ok.injEq] at hres
            exact ⟨h2, pop1, hmut, hupd, hlogs, by rw [if_neg hsel], hres.symm⟩
  · rintro ⟨h1, pop1, h2, hof2, h3, pop3, hmut, hupd, hlogs, hsel, rfl⟩
    unfold generation
    simp only [hmut, hupd, hlogs]
    split at hsel
    · next hs => simp only [hs, if_true, hsel]
    · next hs =>
      cases hsel
      simp only [hs]
      rfl

/-- what generation `g` did, besides keeping the invariant; `pop1` on the heap `h1` is the population as `update_hof` saw
    it: the same objects as before, mutated in place, each with the metric of its own circuit as score -/
structure GenFacts (P : Params C D) (cfg : Cfg) (dr : Draws D) (g : Nat) (s s' : St C) (h1 : Heap C)
    (pop1 : List PopEntry) : Prop where
  mutated : mutatePhase P (dr.mutation g) 0 cfg.nPop s.heap s.pop = .ok (h1, pop1)
  refs : popRefs pop1 = popRefs s.pop
  honest : ∀ e ∈ pop1, PopHonest P h1 e
  agree : ∀ r ∈ hofRefs s.hof, h1.get? r = s.heap.get? r
  hof : HofInv P cfg.tol h1 s.hof
  upd : ∃ h2, updateHof cfg.tol P.size cfg.nHof h1 s.hof pop1 = .ok (h2, s'.hof) ∧ Ext h2 s'.heap
  /-- hall-of-fame objects that are kept are not touched by the generation -/
  kept : ∀ r ∈ hofRefs s.hof, s'.heap.get? r = s.heap.get? r

theorem generation_inv (P : Params C D) (cfg : Cfg) (dr : Draws D) (g : Nat) {s s' : St C}
    (hinv : Inv P cfg s) (hres : generation P cfg dr g s = .ok s') :
    Inv P cfg s' ∧ ∃ h1 pop1, GenFacts P cfg dr g s s' h1 pop1 := by
  obtain ⟨h1, pop1, h2, hof2, h3, pop3, hmut, hupd, _, hsel, rfl⟩ := generation_ok_iff.mp hres
  obtain ⟨_, _, hmut', hpop1len, m1, m2, hhon1, hagree, hhof1⟩ := mutatePhase_inv hinv (dr.mutation g)
  rw [hmut] at hmut'
  cases hmut'
  have u1 := updateHof_inv P cfg.tol cfg.nHof pop1 hhof1 hhon1 hupd
  obtain ⟨u2, u4⟩ := updateHof_refs cfg.tol P.size cfg.nHof pop1 hupd
  have u3 := (updateHof_length_mem cfg.tol P.size cfg.nHof pop1 hinv.hofLen hupd).1
  -- selection hands on the same population or fresh copies
  obtain ⟨t1, t2, t3, t4, t5⟩ : Ext h2 h3 ∧ pop3.length = cfg.nPop ∧ (∀ a ∈ pop3, PopHonest P h3 a) ∧
      (popRefs pop3).Nodup ∧ (pop3 = pop1 ∨ ∀ r ∈ popRefs pop3, h2.size ≤ r) := by
    have hnd1 : (popRefs pop1).Nodup := by rw [m1]; exact hinv.popNodup
    have hhon2 : ∀ e ∈ pop1, PopHonest P h2 e := fun e he => (hhon1 e he).ext u2
    split at hsel
    · exact tournamentSelection_spec P hpop1len hhon2 hnd1 hsel
    · cases hsel
      exact ⟨Ext.refl _, hpop1len, hhon2, hnd1, Or.inl rfl⟩
  have hkept2 : ∀ r ∈ hofRefs s.hof, h2.get? r = s.heap.get? r := by
    intro r hr
    rw [u2.2 r (by rw [m2]; exact hinv.hof.bound r hr), hagree r hr]
  refine ⟨⟨t2, u3, fun e he => (t3 e he).bound, t4, ?_, u1.ext t1⟩,
    h1, pop1, hmut, m1, hhon1, hagree, hhof1, ⟨h2, hupd, t1⟩, ?_⟩
  · -- hall-of-fame objects are old ones or copies made by `update_hof`; the population's are old ones or later copies
    intro r hr hm
    rcases t5 with rfl | hfresh
    · rcases u4 r hr with hold | ⟨hnew, _⟩
      · exact hinv.disjoint r hold (by rw [← m1]; exact hm)
      · obtain ⟨e, he, rfl⟩ := mem_popRefs.mp hm
        exact absurd (hhon1 e he).bound (Nat.not_lt.mpr hnew)
    · exact absurd (u1.bound r hr) (Nat.not_lt.mpr (hfresh r hm))
  · intro r hr
    show h3.get? r = s.heap.get? r
    have hlt : r < h2.size := Nat.lt_of_lt_of_le (by rw [m2]; exact hinv.hof.bound r hr) u2.1
    rw [t1.2 r hlt, hkept2 r hr]

theorem generations_succ_ok {P : Params C D} {cfg : Cfg} {dr : Draws D} {g fuel : Nat} {s s' : St C} :
    generations P cfg dr g (fuel + 1) s = .ok s' ↔
      ∃ s1, generation P cfg dr g s = .ok s1 ∧ generations P cfg dr (g + 1) fuel s1 = .ok s' := by
  simp only [generations]
  cases generation P cfg dr g s with
  | error er => simp
  | ok s1 => simp

theorem generations_preserves {P : Params C D} {cfg : Cfg} {dr : Draws D} {I : St C → Prop}
    (step : ∀ g s s', I s → generation P cfg dr g s = .ok s' → I s') :
    ∀ (fuel g : Nat) {s s' : St C}, I s → generations P cfg dr g fuel s = .ok s' → I s' := by
  intro fuel
  induction fuel with
  | zero =>
    intro g s s' hI hres
    simp only [generations, Except.ok.injEq] at hres
    exact hres ▸ hI
  | succ fuel ih =>
    intro g s s' hI hres
    obtain ⟨s1, hs1, hrest⟩ := generations_succ_ok.mp hres
    exact ih (g + 1) (step g s s1 hI hs1) hrest

theorem generations_inv (P : Params C D) (cfg : Cfg) (dr : Draws D) :
    ∀ (fuel g : Nat) {s s' : St C}, Inv P cfg s → generations P cfg dr g fuel s = .ok s' → Inv P cfg s' :=
  generations_preserves fun g _ _ hinv hres => (generation_inv P cfg dr g hinv hres).1

theorem generations_at (P : Params C D) (cfg : Cfg) (dr : Draws D) :
    ∀ (k g0 n : Nat) {s s' : St C}, Inv P cfg s → k < n → generations P cfg dr g0 n s = .ok s' →
      ∃ m m1, generations P cfg dr g0 k s = .ok m ∧ Inv P cfg m ∧ generation P cfg dr (g0 + k) m = .ok m1 ∧
        Inv P cfg m1 ∧ generations P cfg dr (g0 + k + 1) (n - k - 1) m1 = .ok s' := by
  intro k
  induction k with
  | zero =>
    intro g0 n s s' hinv hk hres
    cases n with
    | zero => exact absurd hk (Nat.lt_irrefl 0)
    | succ n' =>
      obtain ⟨s1, hs1, hrest⟩ := generations_succ_ok.mp hres
      exact ⟨s, s1, rfl, hinv, hs1, (generation_inv P cfg dr g0 hinv hs1).1, hrest⟩
  | succ k ih =>
    intro g0 n s s' hinv hk hres
    cases n with
    | zero => exact absurd hk (Nat.not_lt_zero _)
    | succ n' =>
      obtain ⟨s1, hs1, hrest⟩ := generations_succ_ok.mp hres
      obtain ⟨m, m1, hm, hgen⟩ := ih (g0 + 1) n' (generation_inv P cfg dr g0 hinv hs1).1 (Nat.lt_of_succ_lt_succ hk) hrest
      rw [Nat.add_sub_add_right, ← Nat.add_assoc, Nat.add_right_comm g0 k 1]
      exact ⟨m, m1, generations_succ_ok.mpr ⟨s1, hs1, hm⟩, hgen⟩

end Generation

/-! ## Coherent scores along a run -/
section Run
variable {C D : Type}

theorem Inv.hof_scores {P : Params C D} {cfg : Cfg} {s : St C} (hinv : Inv P cfg s) (S : Score → Prop)
    (hm : ∀ c, S (P.metric c)) (hinf : S Score.inf) : ∀ x ∈ s.hof, S x.score := by
  intro x hx
  have := hinv.hof.honest x hx
  unfold HofEntryHonest at this
  split at this
  · obtain ⟨c, _, hs⟩ := this; rw [hs]; exact hm c
  · rw [this]; exact hinf

theorem GenFacts.head {P : Params C D} {cfg : Cfg} {dr : Draws D} {g : Nat} {s s' : St C} {h1 : Heap C}
    {pop1 : List PopEntry} (hf : GenFacts P cfg dr g s s' h1 pop1) (hinv : Inv P cfg s) (S : Score → Prop)
    (hc : Coherent cfg.tol S) (hm : ∀ c, S (P.metric c)) (hinf : S Score.inf) :
    ∀ a b, s.hof[0]? = some a → s'.hof[0]? = some b →
      ClsLe cfg.tol b.score a.score ∧ ∀ e ∈ pop1, ClsLe cfg.tol b.score e.score := by
  obtain ⟨h2, hupd, _⟩ := hf.upd
  exact updateHof_head cfg.tol S hc P.size cfg.nHof pop1 hinv.hofLen (hinv.hof_scores S hm hinf)
    (popHonest_scores S hm hf.honest) hupd

theorem solve_spec (P : Params C D) (cfg : Cfg) (dr : Draws D) (tp : TransProbs) (init : List C)
    {s : St C} {res : HofEntry} (hres : solve P cfg dr tp init = .ok (s, res)) :
    generations P cfg dr 0 cfg.nStop (initState cfg tp init) = .ok s ∧ s.hof[0]? = some res := by
  unfold solve at hres
  split at hres
  · simp at hres
  · next s1 hs1 =>
    split at hres
    · simp at hres
    · next e he =>
      simp only [Except.ok.injEq, Prod.mk.injEq] at hres
      obtain ⟨rfl, rfl⟩ := hres
      exact ⟨hs1, he⟩

theorem GenFacts.sizeTie {P : Params C D} {cfg : Cfg} {dr : Draws D} {g : Nat} {s s' : St C} {h1 : Heap C}
    {pop1 : List PopEntry} (hf : GenFacts P cfg dr g s s' h1 pop1) (hinv : Inv P cfg s) (S : Score → Prop)
    (hc : Coherent cfg.tol S) (hm : ∀ c, S (P.metric c)) (hinf : S Score.inf)
    (hst : SizeTie cfg.tol P.size s.heap s.hof) : SizeTie cfg.tol P.size s'.heap s'.hof := by
  obtain ⟨h2, hupd, hext⟩ := hf.upd
  have hst2 := updateHof_sizeTie P cfg.tol S hc cfg.nHof pop1 hf.hof hinv.hofLen hf.honest
    (hinv.hof_scores S hm hinf) (popHonest_scores S hm hf.honest) (SizeTie.of_agree hf.agree hst) hupd
  exact SizeTie.ext hext (updateHof_inv P cfg.tol cfg.nHof pop1 hf.hof hf.honest hupd).bound hst2

theorem generations_sizeTie (P : Params C D) (cfg : Cfg) (dr : Draws D) (S : Score → Prop)
    (hc : Coherent cfg.tol S) (hm : ∀ c, S (P.metric c)) (hinf : S Score.inf) :
    ∀ (fuel g : Nat) {s s' : St C}, Inv P cfg s → SizeTie cfg.tol P.size s.heap s.hof →
      generations P cfg dr g fuel s = .ok s' → SizeTie cfg.tol P.size s'.heap s'.hof := by
  intro fuel g s s' hinv hst hres
  exact (generations_preserves (I := fun s1 => Inv P cfg s1 ∧ SizeTie cfg.tol P.size s1.heap s1.hof)
    (fun g s1 s2 hI hgen => by
      obtain ⟨hinv2, h1, pop1, hf⟩ := generation_inv P cfg dr g hI.1 hgen
      exact ⟨hinv2, hf.sizeTie hI.1 S hc hm hinf hI.2⟩) fuel g ⟨hinv, hst⟩ hres).2

theorem initState_sizeTie (P : Params C D) (cfg : Cfg) (tp : TransProbs) (init : List C) :
    SizeTie cfg.tol P.size (initState cfg tp init).heap (initState cfg tp init).hof := by
  intro j a b ra rb ca cb ha _ _ hra _ _ _
  simp only [initState, List.getElem?_replicate] at ha
  split at ha <;> simp at ha
  subst ha
  simp at hra

theorem GenFacts.keeps {P : Params C D} {cfg : Cfg} {dr : Draws D} {g : Nat} {s s' : St C} {h1 : Heap C}
    {pop1 : List PopEntry} (hf : GenFacts P cfg dr g s s' h1 pop1) (hinv : Inv P cfg s) (S : Score → Prop)
    (hc : Coherent cfg.tol S) (hm : ∀ c, S (P.metric c)) (hinf : S Score.inf) (hn : 0 < cfg.nHof) :
    (∀ e ∈ pop1, Kept cfg.tol s'.hof e.score) ∧ ∀ sc, S sc → Kept cfg.tol s.hof sc → Kept cfg.tol s'.hof sc := by
  obtain ⟨h2, hupd, _⟩ := hf.upd
  exact updateHof_kept cfg.tol S hc P.size cfg.nHof hn pop1 hinv.hofLen (hinv.hof_scores S hm hinf)
    (popHonest_scores S hm hf.honest) hinv.hof.sorted hupd

theorem generations_kept (P : Params C D) (cfg : Cfg) (dr : Draws D) (S : Score → Prop)
    (hc : Coherent cfg.tol S) (hm : ∀ c, S (P.metric c)) (hinf : S Score.inf) (hn : 0 < cfg.nHof) :
    ∀ (fuel g : Nat) {s s' : St C}, Inv P cfg s → generations P cfg dr g fuel s = .ok s' →
      ∀ sc, S sc → Kept cfg.tol s.hof sc → Kept cfg.tol s'.hof sc := by
  intro fuel g s s' hinv hres sc hSs hk
  exact (generations_preserves (I := fun s1 => Inv P cfg s1 ∧ Kept cfg.tol s1.hof sc)
    (fun g s1 s2 hI hgen => by
      obtain ⟨hinv2, h1, pop1, hf⟩ := generation_inv P cfg dr g hI.1 hgen
      exact ⟨hinv2, (hf.keeps hI.1 S hc hm hinf hn).2 sc hSs hI.2⟩) fuel g ⟨hinv, hk⟩ hres).2

end Run

/-! ## The computable coherence check implies `Coherent` -/

theorem coherent_of_coherentOn (t : Tol) (l : List Score) (h : coherentOn t l = true) :
    Coherent t (fun a => a ∈ l) := by
  unfold coherentOn at h
  rw [List.all_eq_true] at h
  refine ⟨?_, ?_, ?_, ?_⟩
  · intro a ha
    have := h a ha
    simp only [Bool.and_eq_true] at this
    exact this.1
  · intro a b ha hb hab
    have := h a ha
    simp only [Bool.and_eq_true, List.all_eq_true] at this
    have := (this.2 b hb).1
    simpa [hab] using this
  · intro a b c ha hb hc hab hbc
    have := h a ha
    simp only [Bool.and_eq_true, List.all_eq_true] at this
    have := ((this.2 b hb).2 c hc).1
    simpa [hab, hbc] using this
  · intro a b c ha hb hc hab hbc hnbc
    have := h a ha
    simp only [Bool.and_eq_true, List.all_eq_true] at this
    have := ((this.2 b hb).2 c hc).2
    simpa [hab, hbc, hnbc] using this

theorem coherentOn_eq_false (t : Tol) (l : List Score) {a b c : Score} (ha : a ∈ l) (hb : b ∈ l) (hc : c ∈ l)
    (hab : a.isclose t b = true) (hbc : b.isclose t c = true) (hac : a.isclose t c = false) :
    coherentOn t l = false := by
  cases h : coherentOn t l
  · rfl
  · have := (coherent_of_coherentOn t l h).trans a b c ha hb hc hab hbc
    rw [hac] at this
    cases this

/-- scores of which no two different ones are isclose: there `isclose` is equality, so they are coherent -/
theorem coherent_of_discrete (t : Tol) (l : List Score) (hrefl : ∀ a ∈ l, a.isclose t a = true)
    (hdisc : ∀ a ∈ l, ∀ b ∈ l, a.isclose t b = true → a = b) : Coherent t (fun a => a ∈ l) := by
  refine ⟨hrefl, ?_, ?_, ?_⟩
  · intro a b ha hb hab
    cases hdisc a ha b hb hab
    exact hab
  · intro a b c ha hb _ hab hbc
    cases hdisc a ha b hb hab
    exact hbc
  · intro a b c ha hb _ hab hbc _
    cases hdisc a ha b hb hab
    exact hbc

/-! ## The run depends only on the draws it consumes -/
section Congr
variable {C D : Type}

theorem mutatePhase_congr (P : Params C D) (d1 d2 : Nat → D) :
    ∀ (fuel j : Nat) (h : Heap C) (pop : List PopEntry),
      (∀ k, j ≤ k → k < j + fuel → d1 k = d2 k) →
      mutatePhase P d1 j fuel h pop = mutatePhase P d2 j fuel h pop := by
  intro fuel
  induction fuel with
  | zero => intro j h pop _; simp [mutatePhase]
  | succ fuel ih =>
    intro j h pop hd
    unfold mutatePhase
    split
    · rfl
    · next e he =>
      have hj : d1 j = d2 j := hd j (Nat.le_refl _) (by omega)
      simp only [hj]
      split
      · rfl
      · next c hc => exact ih (j + 1) _ _ (fun k hk1 hk2 => hd k (by omega) (by omega))

theorem tournamentLoop_congr (pop : List PopEntry) (d1 d2 : Nat → List Nat) :
    ∀ (fuel i : Nat) (h : Heap C) (acc : List PopEntry),
      (∀ k, i ≤ k → k < i + fuel → d1 k = d2 k) →
      tournamentLoop pop d1 i fuel h acc = tournamentLoop pop d2 i fuel h acc := by
  intro fuel
  induction fuel with
  | zero => intro i h acc _; simp [tournamentLoop]
  | succ fuel ih =>
    intro i h acc hd
    unfold tournamentLoop
    have hi : d1 i = d2 i := hd i (Nat.le_refl _) (by omega)
    rw [hi]
    split
    · rfl
    · split
      · rfl
      · split
        · rfl
        · exact ih (i + 1) _ _ (fun k hk1 hk2 => hd k (by omega) (by omega))

/-- two draw streams that agree on the draws a run of this configuration consumes -/
def Draws.AgreeOn (cfg : Cfg) (d1 d2 : Draws D) : Prop :=
  (∀ g j, g < cfg.nStop → j < cfg.nPop → d1.mutation g j = d2.mutation g j) ∧
  (∀ g i, g < cfg.nStop → i < cfg.nPop → d1.tournament g i = d2.tournament g i)

theorem generation_congr (P : Params C D) (cfg : Cfg) (d1 d2 : Draws D) (hag : Draws.AgreeOn cfg d1 d2)
    (g : Nat) (hg : g < cfg.nStop) (s : St C) : generation P cfg d1 g s = generation P cfg d2 g s := by
  unfold generation
  rw [mutatePhase_congr P (d1.mutation g) (d2.mutation g) cfg.nPop 0 s.heap s.pop
    (fun k _ hk => hag.1 g k hg (by omega))]
  have ht : ∀ (h : Heap C) (pop : List PopEntry),
      tournamentSelection cfg.nPop cfg.tournamentK h pop (d1.tournament g) =
      tournamentSelection cfg.nPop cfg.tournamentK h pop (d2.tournament g) := by
    intro h pop
    unfold tournamentSelection
    split
    · rfl
    · exact tournamentLoop_congr pop _ _ cfg.nPop 0 h [] (fun i _ hi => hag.2 g i hg (by omega))
  simp only [ht]

theorem generations_congr (P : Params C D) (cfg : Cfg) (d1 d2 : Draws D) (hag : Draws.AgreeOn cfg d1 d2) :
    ∀ (fuel g : Nat) (s : St C), g + fuel ≤ cfg.nStop →
      generations P cfg d1 g fuel s = generations P cfg d2 g fuel s := by
  intro fuel
  induction fuel with
  | zero => intro g s _; simp [generations]
  | succ fuel ih =>
    intro g s hg
    simp only [generations]
    rw [generation_congr P cfg d1 d2 hag g (by omega) s]
    split
    · rfl
    · exact ih (g + 1) _ (by omega)

end Congr

/-! ## Transformation probabilities stay a probability vector -/

theorem sumQ_eq_sum (l : List Rat) : sumQ l = l.sum := List.sum_eq_foldl.symm

theorem sumQ_cons (x : Rat) (l : List Rat) : sumQ (x :: l) = x + sumQ l := by
  rw [sumQ_eq_sum, sumQ_eq_sum, List.sum_cons]

theorem sumQ_nil : sumQ [] = 0 := rfl

theorem sumQ_map_mul (l : List Rat) (c : Rat) : sumQ (l.map (· * c)) = sumQ l * c := by
  induction l with
  | nil => simp [sumQ_nil]
  | cons x rest ih => simp only [List.map_cons, sumQ_cons, ih]; grind

theorem sumQ_pos (l : List Rat) (hne : l ≠ []) (hp : ∀ x ∈ l, 0 < x) : 0 < sumQ l := by
  induction l with
  | nil => exact absurd rfl hne
  | cons x rest ih =>
    rw [sumQ_cons]
    have hx : 0 < x := hp x List.mem_cons_self
    by_cases hr : rest = []
    · subst hr; rw [sumQ_nil]; grind
    · have := ih hr (fun y hy => hp y (List.mem_cons_of_mem _ hy))
      grind

def IsDist (p : TransProbs) : Prop := (∀ kv ∈ p, 0 < kv.2) ∧ sumQ (p.map (·.2)) = 1

def PosTable (p : TransProbs) : Prop := p ≠ [] ∧ ∀ kv ∈ p, 0 < kv.2

theorem normalize_isDist {p : TransProbs} (hp : PosTable p) :
    IsDist (normalizeTransProb p) ∧ (normalizeTransProb p).map (·.1) = p.map (·.1) := by
  have hpos : 0 < sumQ (p.map (·.2)) := by
    apply sumQ_pos
    · simpa using hp.1
    · intro x hx
      obtain ⟨kv, hkv, rfl⟩ := List.mem_map.mp hx
      exact hp.2 kv hkv
  refine ⟨⟨?_, ?_⟩, ?_⟩
  · intro kv hkv
    unfold normalizeTransProb at hkv
    obtain ⟨kv0, h0, rfl⟩ := List.mem_map.mp hkv
    have h1 := hp.2 kv0 h0
    have hinv : 0 < 1 / sumQ (p.map (·.2)) := by
      rw [Rat.div_def, Rat.one_mul]
      exact Rat.inv_pos.mpr hpos
    exact Rat.mul_pos h1 hinv
  · unfold normalizeTransProb
    simp only [List.map_map, Function.comp_def]
    have : (p.map fun kv => kv.2 * (1 / sumQ (p.map (·.2)))) = (p.map (·.2)).map (· * (1 / sumQ (p.map (·.2)))) := by
      simp [List.map_map, Function.comp_def]
    rw [this, sumQ_map_mul]
    have hne0 : sumQ (p.map (·.2)) ≠ 0 := by grind
    rw [Rat.div_def, Rat.one_mul]
    exact Rat.mul_inv_cancel _ hne0
  · unfold normalizeTransProb
    simp [List.map_map, Function.comp_def]

theorem PosTable.update {p : TransProbs} (hp : PosTable p) (k : TKind) {f : Rat → Rat} (hf : ∀ v, 0 < v → 0 < f v) :
    PosTable (p.update k f) := by
  unfold TransProbs.update
  refine ⟨by simpa using hp.1, fun kv hkv => ?_⟩
  obtain ⟨kv0, h0, rfl⟩ := List.mem_map.mp hkv
  split
  · exact hf _ (hp.2 kv0 h0)
  · exact hp.2 kv0 h0

/-- the shape of the solvers' initial tables: fixed entries, and one more when there are several emitters -/
theorem PosTable.append_if {p q : TransProbs} (hp : PosTable p) (c : Prop) [Decidable c] (hq : ∀ kv ∈ q, 0 < kv.2) :
    PosTable (p ++ if c then q else []) := by
  refine ⟨by simp [hp.1], fun kv hkv => ?_⟩
  rcases List.mem_append.mp hkv with h | h
  · exact hp.2 kv h
  · split at h
    · exact hq kv h
    · cases h

theorem update_keys (p : TransProbs) (k : TKind) (f : Rat → Rat) : (p.update k f).map (·.1) = p.map (·.1) := by
  unfold TransProbs.update
  simp only [List.map_map, Function.comp_def]
  apply List.map_congr_left
  intro kv _
  split <;> rfl

theorem maxQ_pos (a : Rat) : 0 < maxQ a (1 / 100) := by
  unfold maxQ
  split
  · decide +kernel
  · have : (0 : Rat) < 1 / 100 := by decide +kernel
    grind

theorem minQ_pos (a b : Rat) (ha : 0 < a) (hb : 0 < b) : 0 < minQ a b := by
  unfold minQ; split <;> assumption

theorem adapt_isDist (nStop nEmitter : Nat) (p : TransProbs) (hne : p ≠ []) (hp : ∀ kv ∈ p, 0 < kv.2) :
    IsDist (adaptProbabilities nStop nEmitter p) ∧ (adaptProbabilities nStop nEmitter p).map (·.1) = p.map (·.1) := by
  unfold adaptProbabilities
  have hd : (0 : Rat) ≤ 1 / (nStop : Rat) := by
    rw [Rat.div_def, Rat.one_mul]
    by_cases h0 : nStop = 0
    · subst h0; decide +kernel
    · have : (0 : Rat) < (nStop : Rat) := by
        have : 0 < nStop := by omega
        exact_mod_cast this
      exact Rat.le_of_lt (Rat.inv_pos.mpr this)
  have f1 : ∀ v : Rat, 0 < v → 0 < maxQ (v - 1 / (nStop : Rat) / 3) (1 / 100) := fun v _ => maxQ_pos _
  have f3 : ∀ v : Rat, 0 < v → 0 < minQ (v + 1 / (nStop : Rat)) (99 / 100) := by
    intro v hv
    apply minQ_pos
    · grind
    · decide +kernel
  have p3 := ((PosTable.update ⟨hne, hp⟩ .addEmitterOneQubitOp f1).update .replacePhotonOneQubitOp f1).update
    .removeOp f3
  simp only
  split
  · have p4 := p3.update .addEmitterCnot f1
    obtain ⟨g1, g2⟩ := normalize_isDist p4
    exact ⟨g1, by rw [g2, update_keys, update_keys, update_keys, update_keys]⟩
  · obtain ⟨g1, g2⟩ := normalize_isDist p3
    exact ⟨g1, by rw [g2, update_keys, update_keys, update_keys]⟩

/-- the counting loop of `choiceIndex`: at most one per entry, and the last cumulative sum is not counted when it
    exceeds `u` -/
theorem choiceIndex_go_lt (total u : Rat) : ∀ (l : List Rat) (acc : Rat) (cnt : Nat), l ≠ [] →
    ¬ ((acc + sumQ l) / total ≤ u) → choiceIndex.go u total acc cnt l < cnt + l.length := by
  intro l
  induction l with
  | nil => intro acc cnt h; exact absurd rfl h
  | cons x rest ih =>
    intro acc cnt _ hlast
    unfold choiceIndex.go
    simp only
    by_cases hr : rest = []
    · subst hr
      rw [sumQ_cons, sumQ_nil] at hlast
      have e : acc + (x + 0) = acc + x := by grind
      rw [e] at hlast
      simp only [hlast, if_false, choiceIndex.go, List.length_cons, List.length_nil]
      exact Nat.lt_succ_self cnt
    · have hlast' : ¬ ((acc + x + sumQ rest) / total ≤ u) := by
        rw [sumQ_cons] at hlast
        have e : acc + (x + sumQ rest) = acc + x + sumQ rest := by grind
        rw [e] at hlast; exact hlast
      simp only [List.length_cons]
      by_cases hc : (acc + x) / total ≤ u
      · simp only [hc, if_true]
        have := ih (acc + x) (cnt + 1) hr hlast'
        rwa [Nat.add_assoc, Nat.add_comm 1] at this
      · simp only [hc, if_false]
        exact Nat.lt_succ_of_lt (ih (acc + x) cnt hr hlast')

theorem IsDist.ne_nil {p : TransProbs} (h : IsDist p) : p ≠ [] := by
  intro hp
  subst hp
  have := h.2
  simp [sumQ_nil] at this

/-! ## A hall of fame larger than the population -/
section Fail
variable {C D : Type}

theorem updateHof_refs_length (t : Tol) (size : C → Nat) (n : Nat) :
    ∀ (pop : List PopEntry) {h h' : Heap C} {hof hof' : List HofEntry},
      updateHof t size n h hof pop = .ok (h', hof') → (hofRefs hof').length ≤ (hofRefs hof).length + pop.length := by
  intro pop
  induction pop with
  | nil =>
    intro h h' hof hof' hres
    obtain ⟨rfl, rfl⟩ := updateHof_nil_ok.mp hres
    simp
  | cons e rest ih =>
    intro h h' hof hof' hres
    obtain ⟨h1, hof1, hone, hrest⟩ := updateHof_cons_ok.mp hres
    have b := ih hrest
    rw [List.length_cons]
    obtain ⟨c, _, ⟨rfl, rfl, _⟩ | ⟨p, ep, hplt, hep, _, _, rfl, rfl⟩⟩ := updateHofOne_cases hone
    · omega
    · -- one more reference at most: the references after the insertion are a sublist of a permutation
      obtain ⟨l, hsub, hperm⟩ := hofRefs_insertPop (x := ⟨e.score, some h.size⟩)
        (Nat.le_of_lt hplt) rfl
      have h1 := hsub.length_le
      have h2 := hperm.length_eq
      rw [List.length_cons] at h2
      omega

theorem exists_none_of_refs_lt (hof : List HofEntry) (h : (hofRefs hof).length < hof.length) :
    hof.any (fun e => e.circ.isNone) = true := by
  induction hof with
  | nil => simp at h
  | cons x rest ih =>
    simp only [hofRefs, List.filterMap_cons, List.length_cons] at h
    simp only [List.any_cons, Bool.or_eq_true]
    cases hx : x.circ with
    | none => left; simp
    | some r =>
      right
      rw [hx] at h
      simp only [List.length_cons] at h
      exact ih (by unfold hofRefs; omega)

/-- a hall of fame larger than the population: the first generation cannot finish (`update_logs` reads `.depth` of a
    remaining `(inf, None)` entry, or an earlier step already failed) -/
theorem generation_fails_of_hof_gt_pop (P : Params C D) (cfg : Cfg) (dr : Draws D) (g : Nat) (s : St C)
    (hlen : s.hof.length = cfg.nHof) (hrefs : (hofRefs s.hof).length + s.pop.length < cfg.nHof) :
    ∀ s', generation P cfg dr g s ≠ .ok s' := by
  intro s' hres
  obtain ⟨h1, pop1, h2, hof2, _, _, hmut, hupd, hlogs, _, _⟩ := generation_ok_iff.mp hres
  have l1 := mutatePhase_length P _ _ _ _ _ hmut
  have l2 := updateHof_refs_length cfg.tol P.size cfg.nHof pop1 hupd
  have l3 := (updateHof_length_mem cfg.tol P.size cfg.nHof pop1 hlen hupd).1
  have hnone := exists_none_of_refs_lt hof2 (by omega)
  rw [(updateLogs_ok_iff.mp hlogs).2.2] at hnone
  cases hnone

end Fail

/-! ## Progress: well-formed configurations never raise -/
section Progress
variable {C D : Type}

theorem HofInv.none_inf {P : Params C D} {t : Tol} {h : Heap C} {hof : List HofEntry} (hi : HofInv P t h hof)
    {e : HofEntry} (he : e ∈ hof) (hc : e.circ = none) : e.score = Score.inf := by
  have := hi.honest e he
  unfold HofEntryHonest at this
  rw [hc] at this
  exact this

theorem isclose_fin_inf (t : Tol) (q : Rat) : (Score.fin q).isclose t Score.inf = false := rfl
theorem lt_fin_inf (q : Rat) : (Score.fin q).lt Score.inf = true := rfl

/-- against a finite score every entry whose object exists is a hit or passed (entries without circuit carry `inf`,
    which is never isclose to it) -/
theorem hit_or_passed (t : Tol) (size : C → Nat) (h : Heap C) (q : Rat) (csize : Nat) {e : HofEntry}
    (hni : e.circ = none → e.score = Score.inf) (hb : ∀ r, e.circ = some r → r < h.size) :
    Hit t size h (Score.fin q) csize e ∨ Passed t size h (Score.fin q) csize e := by
  cases hcl : (Score.fin q).isclose t e.score with
  | true =>
    cases hc : e.circ with
    | none =>
      rw [hni hc, isclose_fin_inf] at hcl
      cases hcl
    | some r =>
      obtain ⟨c, hcell⟩ := (Heap.get?_some_iff_lt h r).mpr (hb r hc)
      by_cases hlt : csize < size c
      · exact Or.inl (Or.inl ⟨hcl, r, c, hc, hcell, hlt⟩)
      · exact Or.inr (Or.inl ⟨hcl, r, c, hc, hcell, hlt⟩)
  | false =>
    cases hlt : (Score.fin q).lt e.score with
    | true => exact Or.inl (Or.inr ⟨hcl, hlt⟩)
    | false => exact Or.inr (Or.inr ⟨hcl, hlt⟩)

theorem scanHof_ok {P : Params C D} {t : Tol} {h : Heap C} {hof : List HofEntry} (hinv : HofInv P t h hof) (q : Rat)
    (csize : Nat) :
    ∀ (fuel i : Nat), i + fuel ≤ hof.length → ∃ r, scanHof t P.size h hof (Score.fin q) csize i fuel = .ok r := by
  intro fuel
  induction fuel with
  | zero => intro i _; exact ⟨none, rfl⟩
  | succ fuel ih =>
    intro i hi
    obtain ⟨e, he⟩ : ∃ e, hof[i]? = some e := ⟨_, List.getElem?_eq_getElem (by omega)⟩
    have hmem : e ∈ hof := List.mem_of_getElem? he
    rcases hit_or_passed t P.size h q csize (hinv.none_inf hmem) (hinv.ext_bound e hmem) with hh | hp
    · exact ⟨some i, scanHof_succ_ok.mpr ⟨e, he, Or.inl ⟨hh, rfl⟩⟩⟩
    · obtain ⟨r, hr⟩ := ih (i + 1) (by omega)
      exact ⟨r, scanHof_succ_ok.mpr ⟨e, he, Or.inr ⟨hp, hr⟩⟩⟩

def SomePrefix (hof : List HofEntry) (m : Nat) : Prop :=
  ∀ i, i < m → ∃ (a : HofEntry) (r : Nat), hof[i]? = some a ∧ a.circ = some r

theorem Passed.circ_some {t : Tol} {size : C → Nat} {h : Heap C} {q : Rat} {csize : Nat} {e : HofEntry}
    (hp : Passed t size h (Score.fin q) csize e) (hni : e.circ = none → e.score = Score.inf) : ∃ r, e.circ = some r := by
  rcases hp with ⟨_, r, _, hr, _⟩ | ⟨_, h2⟩
  · exact ⟨r, hr⟩
  · cases hc : e.circ with
    | some r => exact ⟨r, rfl⟩
    | none =>
      rw [hni hc, lt_fin_inf] at h2
      cases h2

theorem SomePrefix.mono {hof : List HofEntry} {m m' : Nat} (h : SomePrefix hof m) (hle : m' ≤ m) : SomePrefix hof m' :=
  fun i hi => h i (by omega)

theorem updateHofOne_progress (P : Params C D) {t : Tol} {n : Nat} {h : Heap C} {hof : List HofEntry} {e : PopEntry}
    (hinv : HofInv P t h hof) (hlen : hof.length = n) (hpe : PopHonest P h e) (q : Rat)
    (hq : e.score = Score.fin q) (m : Nat) (hsp : SomePrefix hof m) :
    ∃ h' hof', updateHofOne t P.size n h hof e = .ok (h', hof') ∧ SomePrefix hof' (min n (m + 1)) := by
  obtain ⟨c, hc, _⟩ := hpe
  obtain ⟨r, hr⟩ := scanHof_ok hinv q (P.size c) n 0 (by rw [Nat.zero_add, hlen]; exact Nat.le_refl n)
  rw [← hq] at hr
  -- a passed entry holds a circuit
  have hfilled : ∀ (i : Nat) (x : HofEntry), hof[i]? = some x → Passed t P.size h e.score (P.size c) x →
      ∃ a r, hof[i]? = some a ∧ a.circ = some r := by
    intro i x hx hp
    rw [hq] at hp
    obtain ⟨r', hr'⟩ := hp.circ_some (fun hn => hinv.none_inf (List.mem_of_getElem? hx) hn)
    exact ⟨x, r', hx, hr'⟩
  cases r with
  | none =>
    refine ⟨h, hof, updateHofOne_ok_iff.mpr ⟨c, hc, Or.inl ⟨hr, rfl, rfl⟩⟩, fun i hi => ?_⟩
    have hin : i < n := Nat.lt_of_lt_of_le hi (Nat.min_le_left _ _)
    obtain ⟨x, hx⟩ : ∃ x, hof[i]? = some x := ⟨_, List.getElem?_eq_getElem (by rw [hlen]; exact hin)⟩
    exact hfilled i x hx ((scanHof_spec n 0 none hr).1 i x (Nat.zero_le _) (by rw [Nat.zero_add]; exact hin) hx)
  | some p =>
    obtain ⟨hpassed, hhit⟩ := scanHof_spec n 0 (some p) hr
    obtain ⟨_, ep, hep, _⟩ := hhit p rfl
    have hplt : p < hof.length := (List.getElem?_eq_some_iff.mp hep).1
    refine ⟨_, _, updateHofOne_ok_iff.mpr ⟨c, hc, Or.inr ⟨p, hr, rfl, rfl⟩⟩, fun i hi => ?_⟩
    rw [insertPop_getElem? hof p _ hplt]
    by_cases h1 : i < p
    · rw [if_pos h1]
      obtain ⟨x, hx⟩ : ∃ x, hof[i]? = some x := ⟨_, List.getElem?_eq_getElem (Nat.lt_trans h1 hplt)⟩
      exact hfilled i x hx (hpassed i x (Nat.zero_le _) h1 hx)
    · by_cases h2 : i = p
      · rw [if_neg h1, if_pos h2]
        exact ⟨_, h.size, rfl, rfl⟩
      · have hpi : p < i := Nat.lt_of_le_of_ne (Nat.not_lt.mp h1) (Ne.symm h2)
        rw [if_neg h1, if_neg h2, if_pos (by rw [hlen]; exact Nat.lt_of_lt_of_le hi (Nat.min_le_left _ _))]
        exact hsp (i - 1) (Nat.sub_lt_right_of_lt_add (Nat.lt_of_le_of_lt (Nat.zero_le p) hpi)
          (Nat.lt_of_lt_of_le hi (Nat.min_le_right _ _)))

/-- `update_hof` on an honest population of finite scores never raises and fills
    `min(n_hof, filled + len(population))` slots -/
theorem updateHof_progress (P : Params C D) (t : Tol) (n : Nat) :
    ∀ (pop : List PopEntry) {h : Heap C} {hof : List HofEntry} (m : Nat),
      HofInv P t h hof → hof.length = n → (∀ e ∈ pop, PopHonest P h e) →
      (∀ e ∈ pop, ∃ q, e.score = Score.fin q) → SomePrefix hof m →
      ∃ h' hof', updateHof t P.size n h hof pop = .ok (h', hof') ∧ SomePrefix hof' (min n (m + pop.length)) := by
  intro pop
  induction pop with
  | nil =>
    intro h hof m _ _ _ _ hsp
    exact ⟨h, hof, rfl, hsp.mono (by simp; omega)⟩
  | cons e rest ih =>
    intro h hof m hinv hlen hpop hfin hsp
    obtain ⟨q, hq⟩ := hfin e List.mem_cons_self
    have hpe := hpop e List.mem_cons_self
    obtain ⟨h1, hof1, hone, sp1⟩ := updateHofOne_progress P hinv hlen hpe q hq m hsp
    obtain ⟨h2, hof2, hres, sp2⟩ := ih (min n (m + 1)) (updateHofOne_inv P hinv hpe hone)
      ((updateHofOne_head hlen hone).1.trans hlen)
      (fun x hx => (hpop x (List.mem_cons_of_mem _ hx)).ext (updateHofOne_refs hone).1)
      (fun x hx => hfin x (List.mem_cons_of_mem _ hx)) sp1
    refine ⟨h2, hof2, updateHof_cons_ok.mpr ⟨h1, hof1, hone, hres⟩, sp2.mono ?_⟩
    rw [List.length_cons]
    omega

theorem choices_ok (pop : List PopEntry) : ∀ (is : List Nat), (∀ x ∈ is, x < pop.length) →
    ∃ es, choices pop is = .ok es ∧ es.length = is.length := by
  intro is
  induction is with
  | nil => intro _; exact ⟨[], rfl, rfl⟩
  | cons i rest ih =>
    intro hv
    have hi : i < pop.length := hv i List.mem_cons_self
    obtain ⟨es, hes, hl⟩ := ih (fun x hx => hv x (List.mem_cons_of_mem _ hx))
    refine ⟨pop[i] :: es, ?_, by simp [hl]⟩
    simp only [choices, List.getElem?_eq_getElem hi, hes]

/-- valid tournament draws: non-empty index lists within the population -/
def DrawsValid (nPop : Nat) (draws : Nat → List Nat) : Prop :=
  ∀ i, i < nPop → draws i ≠ [] ∧ ∀ x ∈ draws i, x < nPop

theorem tournamentLoop_ok (pop : List PopEntry) (draws : Nat → List Nat) (nPop : Nat) (hpl : pop.length = nPop)
    (hd : DrawsValid nPop draws) :
    ∀ (fuel i : Nat) (h : Heap C) (acc : List PopEntry), i + fuel ≤ nPop → (∀ e ∈ pop, e.circ < h.size) →
      ∃ h' pop', tournamentLoop pop draws i fuel h acc = .ok (h', pop') := by
  intro fuel
  induction fuel with
  | zero => intro i h acc _ _; exact ⟨h, acc, rfl⟩
  | succ fuel ih =>
    intro i h acc hi hb
    obtain ⟨hne, hv⟩ := hd i (Nat.lt_of_lt_of_le (Nat.lt_add_of_pos_right (Nat.succ_pos fuel)) hi)
    obtain ⟨es, hes, hl⟩ := choices_ok pop (draws i) (by rw [hpl]; exact hv)
    obtain ⟨e0, rest, rfl⟩ := List.exists_cons_of_ne_nil (l := es) (by
      intro h0
      rw [h0] at hl
      exact hne (List.eq_nil_of_length_eq_zero hl.symm))
    obtain ⟨best, hbest⟩ : ∃ best, minByScore (e0 :: rest) = some best := ⟨_, rfl⟩
    have hbm : best ∈ pop := (choices_spec pop _ hes).2 _ (minByScore_spec hbest).1
    obtain ⟨c, hc⟩ := (Heap.get?_some_iff_lt h _).mpr (hb _ hbm)
    obtain ⟨h', pop', hrec⟩ := ih (i + 1) (h.alloc c).1 (acc ++ [⟨best.score, h.size⟩])
      (by rw [Nat.add_assoc, Nat.add_comm 1 fuel]; exact hi) (by
      intro x hx
      rw [Heap.alloc_size]
      exact Nat.lt_succ_of_lt (hb x hx))
    exact ⟨h', pop', tournamentLoop_succ_ok.mpr ⟨_, best, c, hes, hbest, hc, hrec⟩⟩

theorem SomePrefix.no_none {hof : List HofEntry} (h : SomePrefix hof hof.length) :
    hof.any (fun e => e.circ.isNone) = false := by
  rw [Bool.eq_false_iff]
  intro hany
  rw [List.any_eq_true] at hany
  obtain ⟨x, hx, hn⟩ := hany
  obtain ⟨i, hi⟩ := List.mem_iff_getElem?.mp hx
  have hlt : i < hof.length := (List.getElem?_eq_some_iff.mp hi).1
  obtain ⟨a, r, ha, hr⟩ := h i hlt
  rw [hi] at ha
  have : a = x := by simpa using ha.symm
  subst this
  rw [hr] at hn; simp at hn

/-- the metric never returns `np.inf` -/
def FiniteMetric (P : Params C D) : Prop := ∀ c, ∃ q, P.metric c = Score.fin q

/-- **Progress.**  From a state satisfying the invariant, with `0 < n_hof ≤ n_pop`, a finite metric and (if selection
    is active with `k > 0`) valid tournament draws, a generation returns — and fills the hall of fame completely. -/
theorem generation_progress (P : Params C D) (cfg : Cfg) (dr : Draws D) (g : Nat) (s : St C) (hinv : Inv P cfg s)
    (hfin : FiniteMetric P) (hn : 0 < cfg.nHof) (hle : cfg.nHof ≤ cfg.nPop)
    (hd : cfg.selectionActive = true → cfg.tournamentK ≠ 0 → DrawsValid cfg.nPop (dr.tournament g)) :
    ∃ s', generation P cfg dr g s = .ok s' ∧ SomePrefix s'.hof cfg.nHof := by
  obtain ⟨h1, pop1, hmut, hpop1len, _, _, hhon, _, hhof1⟩ := mutatePhase_inv hinv (dr.mutation g)
  have hfinp : ∀ e ∈ pop1, ∃ q, e.score = Score.fin q := by
    intro e he
    obtain ⟨c, _, hs⟩ := hhon e he
    obtain ⟨q, hq⟩ := hfin c
    exact ⟨q, by rw [hs, hq]⟩
  obtain ⟨h2, hof2, hupd, hsp⟩ := updateHof_progress P cfg.tol cfg.nHof pop1 0 hhof1 hinv.hofLen hhon hfinp
    (fun i hi => absurd hi (Nat.not_lt_zero i))
  have hlen2 := (updateHof_length_mem cfg.tol P.size cfg.nHof pop1 hinv.hofLen hupd).1
  have hsp' : SomePrefix hof2 cfg.nHof := hsp.mono
    (by rw [hpop1len, Nat.zero_add]; exact Nat.le_min.mpr ⟨Nat.le_refl _, hle⟩)
  have hlogs : updateLogs pop1 hof2 = .ok () :=
    updateLogs_ok_iff.mpr ⟨hpop1len ▸ Nat.lt_of_lt_of_le hn hle, hlen2 ▸ hn, SomePrefix.no_none (by rw [hlen2]; exact hsp')⟩
  obtain ⟨h3, pop3, hsel⟩ : ∃ h3 pop3,
      (if cfg.selectionActive then tournamentSelection cfg.nPop cfg.tournamentK h2 pop1 (dr.tournament g)
        else .ok (h2, pop1)) = .ok (h3, pop3) := by
    by_cases hs : cfg.selectionActive = true
    · rw [if_pos hs]
      unfold tournamentSelection
      by_cases hk : cfg.tournamentK = 0
      · rw [if_pos hk]
        exact ⟨_, _, rfl⟩
      · rw [if_neg hk]
        have hext := (updateHof_refs cfg.tol P.size cfg.nHof pop1 hupd).1
        exact tournamentLoop_ok pop1 (dr.tournament g) cfg.nPop hpop1len (hd hs hk) cfg.nPop 0 h2 []
          (Nat.le_of_eq (Nat.zero_add _)) (fun e he => Nat.lt_of_lt_of_le (hhon e he).bound hext.1)
    · rw [if_neg hs]
      exact ⟨_, _, rfl⟩
  exact ⟨_, generation_ok_iff.mpr ⟨h1, pop1, h2, hof2, h3, pop3, hmut, hupd, hlogs, hsel, rfl⟩, hsp'⟩

theorem generations_progress (P : Params C D) (cfg : Cfg) (dr : Draws D) (hfin : FiniteMetric P)
    (hn : 0 < cfg.nHof) (hle : cfg.nHof ≤ cfg.nPop)
    (hd : cfg.selectionActive = true → cfg.tournamentK ≠ 0 → ∀ g, DrawsValid cfg.nPop (dr.tournament g)) :
    ∀ (fuel g : Nat) (s : St C), Inv P cfg s → ∃ s', generations P cfg dr g fuel s = .ok s' := by
  intro fuel
  induction fuel with
  | zero => intro g s _; exact ⟨s, rfl⟩
  | succ fuel ih =>
    intro g s hinv
    obtain ⟨s1, hs1, _⟩ := generation_progress P cfg dr g s hinv hfin hn hle (fun a b => hd a b g)
    obtain ⟨s2, hs2⟩ := ih (g + 1) s1 (generation_inv P cfg dr g hinv hs1).1
    exact ⟨s2, generations_succ_ok.mpr ⟨s1, hs1, hs2⟩⟩

end Progress

end Graphiq.Evo
