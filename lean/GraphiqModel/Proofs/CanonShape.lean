/-
  Proofs/CanonShape.lean — the postcondition of `canonical_form`: whenever it returns, the tableau is in the reduced
  echelon shape `Canon` (an X block of rows with X-or-Y pivots whose columns are cleared of x-bits everywhere else,
  followed by a block of pure-Z rows with Z pivots whose columns are cleared of z-bits everywhere else);
  proved by loop invariants over the two `for` loops (`canonStepXY`, `canonStepZ`).
-/
import GraphiqModel.Proofs.StabTableau
import GraphiqModel.Proofs.CanonPivot
import GraphiqModel.Proofs.Loop
namespace Graphiq
open PRow Tab
namespace STab

/-- **the shape `canonical_form` returns**: rows `0..k-1` are the X block (pivot columns `px 0 < px 1 < …`: the pivot
    row has x-bit 1 there and it is its leading x-bit, every other row of the tableau has x-bit 0 there; the rows from `k`
    on have no x-bit at all), rows `k..n-1` are the Z block (pivot columns `pz k < pz (k+1) < …`: the pivot row has
    z-bit 1 there and it is its leading z-bit, every other row of the tableau — X block included — has z-bit 0 there). -/
def Canon (c : STab) : Prop :=
  ∃ (k : Nat) (px pz : Nat → Nat), PInv c.n (xb c) px 0 k c.n ∧ PInv c.n (zb c) pz k c.n c.n

/-- a bit of a row that is read off below the size and is additive under the row product (the x-bit, the z-bit) -/
structure BitSel (bit : PRow → Nat → Bool) : Prop where
  eqOn : ∀ n a b, EqOn n a b → ∀ j, j < n → bit a j = bit b j
  mul : ∀ n a b j, bit (stabMul n a b) j = xor (bit a j) (bit b j)

theorem bitSel_x : BitSel (fun r j => r.x j) :=
  ⟨fun _ _ _ h j hj => (h.1 j hj).1, fun _ _ _ _ => rfl⟩
theorem bitSel_z : BitSel (fun r j => r.z j) :=
  ⟨fun _ _ _ h j hj => (h.1 j hj).2, fun _ _ _ _ => rfl⟩

theorem rowSwap_row_swp (t : STab) (a b m : Nat) : (t.rowSwap a b).row m = t.row (swp a b m) := by
  unfold rowSwap swp
  simp only
  split
  · rfl
  · split <;> rfl

theorem pivotStep_n (t : STab) (pr f : Nat) (sel : STab → Nat → Bool) : (pivotStep t pr f sel).n = t.n := rfl

theorem swapNorm_bit {bit : PRow → Nat → Bool} (hb : BitSel bit) (t : STab) (a b m j : Nat) (hm : m < t.n) (hj : j < t.n) :
    bit ((t.rowSwap a b).norm.row m) j = bit (t.row (swp a b m)) j := by
  rw [hb.eqOn _ _ _ (norm_row (t.rowSwap a b) m hm) j hj, rowSwap_row_swp]

theorem sweepNorm_bit {bit : PRow → Nat → Bool} (hb : BitSel bit) (t : STab) (pr : Nat) (sel : Nat → Bool) (m j : Nat)
    (hm : m < t.n) (hj : j < t.n) :
    bit ((t.sweep pr sel).norm.row m) j
      = if m ≠ pr ∧ sel m = true then xor (bit (t.row pr) j) (bit (t.row m) j) else bit (t.row m) j := by
  rw [hb.eqOn _ _ _ (norm_row (t.sweep pr sel) m hm) j hj]
  simp only [sweep]
  split
  · exact hb.mul _ _ _ _
  · rfl

theorem pivotStep_bit {bit : PRow → Nat → Bool} (hb : BitSel bit) (t : STab) (pr f : Nat) (sel : STab → Nat → Bool)
    (m j : Nat) (hm : m < t.n) (hj : j < t.n) (hp : pr < t.n) :
    bit ((pivotStep t pr f sel).row m) j
      = if m ≠ pr ∧ sel (t.rowSwap pr f).norm m = true
          then xor (bit (t.row (swp pr f pr)) j) (bit (t.row (swp pr f m)) j) else bit (t.row (swp pr f m)) j := by
  unfold pivotStep
  rw [sweepNorm_bit hb (t.rowSwap pr f).norm pr _ m j hm hj,
    swapNorm_bit hb t pr f m j hm hj, swapNorm_bit hb t pr f pr j hp hj]

theorem pivotStep_pinv {bit : PRow → Nat → Bool} (hb : BitSel bit) (t : STab) (p : Nat → Nat) (lo pr J f : Nat)
    (h : PInv t.n (fun m j => bit (t.row m) j) p lo pr J) (hf : pr ≤ f) (hfn : f < t.n) (hJ : J < t.n)
    (h1 : bit (t.row f) J = true) :
    PInv t.n (fun m j => bit ((pivotStep t pr f (fun t1 m => bit (t1.row m) J)).row m) j)
      (fun i => if i = pr then J else p i) lo (pr + 1) (J + 1) := by
  have hp : pr < t.n := by omega
  -- stage 1: the swap
  have s1 : PInv t.n (fun m j => bit (t.row (swp pr f m)) j) p lo pr J :=
    h.swap f hf hfn (by omega) (fun m j _ _ => rfl)
  -- stage 2: the sweep
  apply s1.sweep hp hJ
  · show bit (t.row (swp pr f pr)) J = true
    rw [swp_left]; exact h1
  · intro m j hm hj
    show bit ((pivotStep t pr f _).row m) j = _
    rw [pivotStep_bit hb t pr f _ m j hm hj hp]
    show (if m ≠ pr ∧ bit ((t.rowSwap pr f).norm.row m) J = true then _ else _) = _
    rw [swapNorm_bit hb t pr f m J hm hJ]

theorem pivotStep_xb_zero (t : STab) (pr f : Nat) (sel : STab → Nat → Bool) (hf : pr ≤ f) (hfn : f < t.n)
    (zero : ∀ i j, pr ≤ i → i < t.n → j < t.n → (t.row i).x j = false) (m j : Nat) (hm : m < t.n) (hj : j < t.n) :
    xb (pivotStep t pr f sel) m j = xb t m j := by
  have hp : pr < t.n := by omega
  have hsw : (t.row (swp pr f m)).x j = (t.row m).x j := by
    by_cases h1 : m = pr
    · rw [h1, swp_left, zero f j hf hfn hj, zero pr j (Nat.le_refl _) hp hj]
    · by_cases h2 : m = f
      · have : swp pr f m = pr := by simp [swp, h2]
        rw [this, h2, zero f j hf hfn hj, zero pr j (Nat.le_refl _) hp hj]
      · have : swp pr f m = m := by simp [swp, h1, h2]
        rw [this]
  have key := pivotStep_bit bitSel_x t pr f sel m j hm hj hp
  simp only [swp_left, hsw, zero f j hf hfn hj] at key
  unfold xb
  rw [key]
  split <;> simp

/-! ### loop invariants -/

theorem canonStepXY_n (t : STab) (pr j : Nat) : (t.canonStepXY pr j).1.n = t.n := by
  rcases canonStepXY_cases t pr j with h | ⟨f, _, _, _, h⟩
  · rw [h.1]
  · rw [h]; rfl

theorem canonStepZ_n (t : STab) (pr j : Nat) : (t.canonStepZ pr j).1.n = t.n := by
  rcases canonStepZ_cases t pr j with h | ⟨f, _, _, _, _, h⟩
  · rw [h.1]
  · rw [h]; rfl

theorem canonStepXY_pinv (t : STab) (p : Nat → Nat) (pr J : Nat) (hJ : J < t.n) (h : PInv t.n (xb t) p 0 pr J) :
    ∃ p', PInv t.n (xb (t.canonStepXY pr J).1) p' 0 (t.canonStepXY pr J).2 (J + 1) := by
  rcases canonStepXY_cases t pr J with ⟨e, h0⟩ | ⟨f, hf, hfn, h1, e⟩
  · rw [e]; exact ⟨p, h.skip h0⟩
  · rw [e]; exact ⟨_, pivotStep_pinv bitSel_x t p 0 pr J f h hf hfn hJ h1⟩

theorem canonStepZ_pinv (t : STab) (px pz : Nat → Nat) (k pr J : Nat) (hJ : J < t.n)
    (hx : PInv t.n (xb t) px 0 k t.n) (h : PInv t.n (zb t) pz k pr J) :
    PInv t.n (xb (t.canonStepZ pr J).1) px 0 k t.n ∧
    ∃ pz', PInv t.n (zb (t.canonStepZ pr J).1) pz' k (t.canonStepZ pr J).2 (J + 1) := by
  have hk := h.lo_le
  rcases canonStepZ_cases t pr J with ⟨e, h0⟩ | ⟨f, hf, hfn, h1x, h1z, e⟩
  · rw [e]
    refine ⟨hx, pz, h.skip (fun m hm1 hm2 => ?_)⟩
    have hxm : (t.row m).x J = false := hx.below m J (by omega) hm2 hJ
    cases hz : (t.row m).z J
    · exact hz
    · exact absurd ⟨hxm, hz⟩ (h0 m hm1 hm2)
  · rw [e]
    refine ⟨?_, _, pivotStep_pinv bitSel_z t pz k pr J f h hf hfn hJ h1z⟩
    -- the x-bits do not change: the pivot row and the swapped rows have no x-bit
    apply hx.congr (Nat.le_refl _)
    intro m j hm hj
    have zero : ∀ i j, pr ≤ i → i < t.n → j < t.n → (t.row i).x j = false :=
      fun i j h1 h2 h3 => hx.below i j (by omega) h2 h3
    exact pivotStep_xb_zero t pr f (fun t1 m => (t1.row m).z J) hf hfn zero m j hm hj

theorem foldXY_inv (t : STab) (J : Nat) (hJ : J ≤ t.n) :
    ((List.range J).foldl (fun (acc : STab × Nat) j => acc.1.canonStepXY acc.2 j) (t, 0)).1.n = t.n ∧
    ∃ p, PInv t.n (xb ((List.range J).foldl (fun (acc : STab × Nat) j => acc.1.canonStepXY acc.2 j) (t, 0)).1) p 0
      ((List.range J).foldl (fun (acc : STab × Nat) j => acc.1.canonStepXY acc.2 j) (t, 0)).2 J :=
  Loop.foldl_range (fun J (acc : STab × Nat) => acc.1.n = t.n ∧ ∃ p, PInv t.n (xb acc.1) p 0 acc.2 J)
    (fun i acc hi ⟨hn, p, hp⟩ => ⟨by rw [canonStepXY_n]; exact hn, by
      rw [← hn] at hp ⊢; exact canonStepXY_pinv acc.1 p acc.2 i (by omega) hp⟩)
    ⟨rfl, fun _ => 0, PInv.init _ _ _ 0 (Nat.zero_le _)⟩

theorem foldZ_inv (t : STab) (px : Nat → Nat) (k : Nat) (hx : PInv t.n (xb t) px 0 k t.n) (J : Nat) (hJ : J ≤ t.n) :
    ((List.range J).foldl (fun (acc : STab × Nat) j => acc.1.canonStepZ acc.2 j) (t, k)).1.n = t.n ∧
    PInv t.n (xb ((List.range J).foldl (fun (acc : STab × Nat) j => acc.1.canonStepZ acc.2 j) (t, k)).1) px 0 k t.n ∧
    ∃ p, PInv t.n (zb ((List.range J).foldl (fun (acc : STab × Nat) j => acc.1.canonStepZ acc.2 j) (t, k)).1) p k
      ((List.range J).foldl (fun (acc : STab × Nat) j => acc.1.canonStepZ acc.2 j) (t, k)).2 J :=
  Loop.foldl_range (fun J (acc : STab × Nat) => acc.1.n = t.n ∧ PInv t.n (xb acc.1) px 0 k t.n ∧
      ∃ p, PInv t.n (zb acc.1) p k acc.2 J)
    (fun i acc hi ⟨hn, hx', p, hp⟩ => ⟨by rw [canonStepZ_n]; exact hn, by
      rw [← hn] at hx' hp ⊢; exact canonStepZ_pinv acc.1 px p k acc.2 i (by omega) hx' hp⟩)
    ⟨rfl, hx, fun _ => 0, PInv.init _ _ _ k hx.pr_le⟩

/-- the echelon data of `canonical_form`'s two loops, whether or not the final assert passes -/
theorem canonLoops_pinv (t : STab) : ∃ (k : Nat) (px pz : Nat → Nat), t.canonLoops.1.n = t.n ∧
    PInv t.n (xb t.canonLoops.1) px 0 k t.n ∧ PInv t.n (zb t.canonLoops.1) pz k t.canonLoops.2 t.n := by
  unfold canonLoops
  obtain ⟨hn1, px, hx⟩ := foldXY_inv t t.n (Nat.le_refl _)
  generalize (List.range t.n).foldl (fun (acc : STab × Nat) j => acc.1.canonStepXY acc.2 j) (t, 0) = r1 at hn1 hx ⊢
  obtain ⟨t1, k⟩ := r1
  simp only at hn1 hx ⊢
  rw [← hn1] at hx ⊢
  obtain ⟨hn2, hx2, pz, hz⟩ := foldZ_inv t1 px k hx t1.n (Nat.le_refl _)
  exact ⟨k, px, pz, hn2, hx2, hz⟩

/-- **postcondition of `canonical_form`**: if the final assert passes, the result is in
    the reduced echelon shape `Canon` -/
theorem canonLoops_canon (t : STab) (h : t.canonLoops.2 = t.n) : Canon t.canonLoops.1 := by
  obtain ⟨k, px, pz, hn, hx, hz⟩ := canonLoops_pinv t
  rw [h] at hz
  rw [← hn] at hx hz
  exact ⟨k, px, pz, hx, hz⟩

theorem canonicalForm_error (t : STab) (e : Err) (h : t.canonicalForm = .error e) : e = .assertion := by
  unfold canonicalForm at h
  split at h
  · cases h
  · injection h with h; exact h.symm

theorem canonicalForm_canon (t c : STab) (h : t.canonicalForm = .ok c) : Canon c := by
  obtain ⟨hp, e⟩ := (canonicalForm_ok_iff t c).1 h
  rw [← e]
  exact canonLoops_canon t hp

theorem canonicalForm_n (t c : STab) (h : t.canonicalForm = .ok c) : c.n = t.n := by
  obtain ⟨_, _, _, hn, _⟩ := canonLoops_pinv t
  rw [← ((canonicalForm_ok_iff t c).1 h).2]
  exact hn

end STab
end Graphiq
