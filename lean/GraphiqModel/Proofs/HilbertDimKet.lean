/-
  Proofs/HilbertDimKet.lean — the literal rank-one form of a stabilizer state.

  * `stabilizer_ket_exists` : for a valid Clifford tableau there is a unit vector `ψ` with `ρ = |ψ⟩⟨ψ|` (`rank_one_of_pure`), `ψ` is a `+1`
    eigenvector of every element of the stabilizer group, and every joint `+1` eigenvector of the generators is a multiple
    of `ψ` (the stabilizer state is unique up to a scalar);
  * `eq_rho_of_fixed` : the same for matrices — a Hermitian matrix of trace one fixed by the generators is `ρ`.
-/
import GraphiqModel.Proofs.HilbertDimState
namespace Graphiq
namespace Hilbert
open Matrix PRow TabSpec

theorem ket_fixed_of_rho_fixed {ι : Type} [Fintype ι] (g : Matrix ι ι ℂ) (ψ : ι → ℂ) (hn : star ψ ⬝ᵥ ψ = 1)
    (h : g * Matrix.vecMulVec ψ (star ψ) = Matrix.vecMulVec ψ (star ψ)) : g *ᵥ ψ = ψ := by
  have e : Matrix.vecMulVec ψ (star ψ) *ᵥ ψ = ψ := by
    rw [Matrix.vecMulVec_mulVec, hn]; simp
  have := congrArg (fun M => M *ᵥ ψ) h
  rw [← Matrix.mulVec_mulVec, e] at this
  exact this

theorem rhoTo_mulVec_of_fixed (n : Nat) (r : Nat → PRow) (k : Nat) (φ : Bits n → ℂ)
    (h : ∀ i, i < k → pauliMat n (r i) *ᵥ φ = φ) : rhoTo n r k *ᵥ φ = φ := by
  induction k with
  | zero => show (1 : Matrix (Bits n) (Bits n) ℂ) *ᵥ φ = φ; rw [Matrix.one_mulVec]
  | succ m ih =>
    show (rhoTo n r m * proj n (r m)) *ᵥ φ = φ
    have e : proj n (r m) *ᵥ φ = φ := by
      unfold proj
      rw [Matrix.smul_mulVec, Matrix.add_mulVec, Matrix.one_mulVec, h m (Nat.lt_succ_self m), ← two_smul ℂ φ, smul_smul]
      norm_num
    rw [← Matrix.mulVec_mulVec, e, ih (fun i hi => h i (Nat.lt_succ_of_lt hi))]

/-- **The stabilizer state as a vector.**  For a valid Clifford tableau (real stabilizer rows) there is a unit vector `ψ`
    with `ρ = |ψ⟩⟨ψ|`; every element of the stabilizer group fixes `ψ`; and every vector fixed by all generators is a scalar
    multiple of `ψ`. -/
theorem stabilizer_ket_exists (t : Tab) (hv : t.Valid) (hr : t.StabReal) :
    ∃ ψ : Bits t.n → ℂ,
      rho t.n (STab.ofTab t) = Matrix.vecMulVec ψ (star ψ) ∧ star ψ ⬝ᵥ ψ = 1 ∧
      (∀ g, Grp t g → pauliMat t.n g *ᵥ ψ = ψ) ∧
      (∀ φ : Bits t.n → ℂ, (∀ i, i < t.n → pauliMat t.n (t.stab i) *ᵥ φ = φ) → φ = (star ψ ⬝ᵥ φ) • ψ) := by
  have hg := ofTab_good t hv
  obtain ⟨ψ, h1, h2⟩ := rank_one_of_pure (rho t.n (STab.ofTab t)) (rho_idem _ hg) (rho_hermitian _ hg)
    (rho_ofTab_trace t hv)
  refine ⟨ψ, h1, h2, ?_, ?_⟩
  · intro g hgg
    apply ket_fixed_of_rho_fixed _ ψ h2
    rw [← h1]
    exact grp_mul_rho t hv hr g hgg
  · intro φ hφ
    have e : rho t.n (STab.ofTab t) *ᵥ φ = φ := by
      apply rhoTo_mulVec_of_fixed
      intro i hi
      rw [ofTab_row_real t hr i hi]
      exact hφ i hi
    rw [h1, Matrix.vecMulVec_mulVec] at e
    have e2 : MulOpposite.op (star ψ ⬝ᵥ φ) • ψ = (star ψ ⬝ᵥ φ) • ψ := by
      ext a; simp; exact _root_.mul_comm _ _
    exact e.symm.trans e2

/-- `ρ R = R = R ρ` and `ρ = |ψ⟩⟨ψ|` give `R = ⟨ψ|R|ψ⟩ ρ` -/
theorem eq_rho_of_fixed (t : Tab) (hv : t.Valid) (hr : t.StabReal) (R : Matrix (Bits t.n) (Bits t.n) ℂ)
    (hR : Rᴴ = R) (htr : Matrix.trace R = 1) (hfix : ∀ i, i < t.n → pauliMat t.n (t.stab i) * R = R) :
    R = rho t.n (STab.ofTab t) := by
  obtain ⟨ψ, h1, -⟩ := stabilizer_ket_exists t hv hr
  have e1 : rho t.n (STab.ofTab t) * R = R := by
    apply rhoTo_mul_of_fixed
    intro i hi
    rw [ofTab_row_real t hr i hi]
    exact hfix i hi
  have e2 : R * rho t.n (STab.ofTab t) = R := mul_eq_of_hermitian _ _ (rho_hermitian _ (ofTab_good t hv)) hR e1
  have e3 : R = ((star ψ ᵥ* R) ⬝ᵥ ψ) • rho t.n (STab.ofTab t) := by
    conv_lhs => rw [← e2, ← e1]
    rw [h1, Matrix.vecMulVec_mul, Matrix.vecMulVec_mul_vecMulVec, Matrix.vecMulVec_smul]
  have e4 := congrArg Matrix.trace e3
  rw [htr, Matrix.trace_smul, rho_ofTab_trace t hv, smul_eq_mul, _root_.mul_one] at e4
  rw [e3, ← e4, one_smul]

theorem rho_eq_of_gens (m : Nat) (a b : Tab) (ha : a.n = m) (hb : b.n = m) (va : a.Valid) (ra : a.StabReal)
    (vb : b.Valid) (rb : b.StabReal) (h : ∀ i, i < m → Grp a (b.stab i)) :
    rho m (STab.ofTab a) = rho m (STab.ofTab b) := by
  subst hb
  have hh := rho_hermitian _ (ofTab_good a va)
  have ht := rho_ofTab_trace a va
  have e : (STab.ofTab a).n = a.n := rfl
  rw [e, ha] at hh
  rw [ha] at ht
  refine eq_rho_of_fixed b vb rb _ hh ht (fun i hi => ?_)
  have := grp_mul_rho a va ra _ (h i hi)
  rwa [ha] at this

end Hilbert
end Graphiq
