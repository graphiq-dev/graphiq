/-
  Proofs/EchelonSpan.lean — the echelon lemma: in an echelon tableau a product of generators is non-trivial at the leading
  site of the first generator used.  Hence the generators are independent, and a group element supported right of site `k`
  is a product of the generators whose leading site is right of `k`.
-/
import GraphiqModel.Proofs.EchelonRref
namespace Graphiq
open PRow

namespace STab

/-- X-bits (`comboZ`: Z-bits) of the product of the generators selected by `S` -/
def comboX (t : STab) (S : Nat → Bool) (j : Nat) : Bool := parityTo t.n fun i => S i && (t.row i).x j
def comboZ (t : STab) (S : Nat → Bool) (j : Nat) : Bool := parityTo t.n fun i => S i && (t.row i).z j

theorem exists_min (S : Nat → Bool) (m : Nat) :
    (∀ i, i < m → S i = false) ∨ ∃ i0, i0 < m ∧ S i0 = true ∧ ∀ i, i < i0 → S i = false := by
  induction m with
  | zero => left; intro i hi; omega
  | succ m ih =>
    rcases ih with h | ⟨i0, h1, h2, h3⟩
    · cases hs : S m
      · left
        intro i hi
        by_cases e : i = m
        · subst e; exact hs
        · exact h i (by omega)
      · right; exact ⟨m, by omega, hs, h⟩
    · right; exact ⟨i0, by omega, h2, h3⟩

theorem bits_ne_of_pt_ne (a b : PRow) (j : Nat) (h : a.pt j ≠ b.pt j) :
    (xor (a.x j) (b.x j) || xor (a.z j) (b.z j)) = true := by
  cases hx : xor (a.x j) (b.x j) <;> cases hz : xor (a.z j) (b.z j) <;> simp
  exfalso; apply h
  apply PRow.pt_congr
  · cases ha : a.x j <;> cases hb : b.x j <;> simp [ha, hb] at hx ⊢
  · cases ha : a.z j <;> cases hb : b.z j <;> simp [ha, hb] at hz ⊢

/-- **echelon lemma**: a product of generators of an echelon tableau is not the identity at the leading site of the first
    generator in the product -/
theorem echelon_min_nonzero (t : STab) (piv : Nat → Nat) (he : Echelon t piv) (S : Nat → Bool) (i0 : Nat) (hi0 : i0 < t.n)
    (hS : S i0 = true) (hmin : ∀ i, i < i0 → S i = false) :
    (t.comboX S (piv i0) || t.comboZ S (piv i0)) = true := by
  have hl0 := he.lead i0 hi0
  have hnz : ((t.row i0).x (piv i0) || (t.row i0).z (piv i0)) = true := by
    cases h : ((t.row i0).x (piv i0) || (t.row i0).z (piv i0))
    · exact absurd ((PRow.pt_eq_zero_iff _ _).2 h) hl0.2.2
    · rfl
  -- rows far below are trivial at the site
  have far : ∀ i, i < t.n → i0 < i → piv i ≠ piv i0 → (t.row i).x (piv i0) = false ∧ (t.row i).z (piv i0) = false := by
    intro i hi h1 h2
    have hs := he.sorted i0 i h1 hi
    have : piv i0 < piv i := by omega
    exact PRow.pt_zero_bits _ _ ((he.lead i hi).2.1 _ this)
  by_cases hc : i0 + 1 < t.n ∧ S (i0 + 1) = true ∧ piv (i0 + 1) = piv i0
  · obtain ⟨h1, h2, h3⟩ := hc
    have hs := he.sorted i0 (i0 + 1) (by omega) h1
    have hne := (hs.2 h3.symm).2
    have vanish : ∀ (g : PRow → Bool), (∀ i, i < t.n → i0 < i → piv i ≠ piv i0 → g (t.row i) = false) →
        ∀ j, j < t.n → j ≠ i0 → j ≠ i0 + 1 → (S j && g (t.row j)) = false := by
      intro g hg j hj n1 n2
      by_cases hlt : j < i0
      · simp [hmin j hlt]
      · have hgt : i0 < j := by omega
        have hp : piv j ≠ piv i0 := by
          intro e
          have := (he.sorted i0 j hgt hj).2 e.symm
          omega
        simp [hg j hj hgt hp]
    have ex : t.comboX S (piv i0) = xor ((t.row i0).x (piv i0)) ((t.row (i0 + 1)).x (piv i0)) := by
      unfold comboX
      rw [parityTo_two' t.n i0 (i0 + 1) _ hi0 h1 (by omega)
        (vanish (fun p => p.x (piv i0)) (fun i a b c => (far i a b c).1))]
      simp [hS, h2]
    have ez : t.comboZ S (piv i0) = xor ((t.row i0).z (piv i0)) ((t.row (i0 + 1)).z (piv i0)) := by
      unfold comboZ
      rw [parityTo_two' t.n i0 (i0 + 1) _ hi0 h1 (by omega)
        (vanish (fun p => p.z (piv i0)) (fun i a b c => (far i a b c).2))]
      simp [hS, h2]
    rw [ex, ez]
    exact bits_ne_of_pt_ne _ _ _ hne
  · have vanish : ∀ (g : PRow → Bool), (∀ i, i < t.n → i0 < i → piv i ≠ piv i0 → g (t.row i) = false) →
        ∀ j, j < t.n → j ≠ i0 → (S j && g (t.row j)) = false := by
      intro g hg j hj n1
      by_cases hlt : j < i0
      · simp [hmin j hlt]
      · have hgt : i0 < j := by omega
        by_cases hp : piv j = piv i0
        · have hj1 : j = i0 + 1 := ((he.sorted i0 j hgt hj).2 hp.symm).1
          subst hj1
          have : S (i0 + 1) = false := by
            cases h : S (i0 + 1)
            · rfl
            · exact absurd ⟨hj, h, hp⟩ hc
          simp [this]
        · simp [hg j hj hgt hp]
    have ex : t.comboX S (piv i0) = (t.row i0).x (piv i0) := by
      unfold comboX
      rw [parityTo_one t.n i0 _ hi0 (vanish (fun p => p.x (piv i0)) (fun i a b c => (far i a b c).1))]
      simp [hS]
    have ez : t.comboZ S (piv i0) = (t.row i0).z (piv i0) := by
      unfold comboZ
      rw [parityTo_one t.n i0 _ hi0 (vanish (fun p => p.z (piv i0)) (fun i a b c => (far i a b c).2))]
      simp [hS]
    rw [ex, ez]; exact hnz

theorem echelon_indep (t : STab) (piv : Nat → Nat) (he : Echelon t piv) : t.Indep := by
  intro S hz
  have hz : ∀ j, j < t.n → t.comboX S j = false ∧ t.comboZ S j = false := hz
  rcases exists_min S t.n with h | ⟨i0, h1, h2, h3⟩
  · exact h
  · have := echelon_min_nonzero t piv he S i0 h1 h2 h3
    have hz' := hz (piv i0) (he.lead i0 h1).1
    rw [hz'.1, hz'.2] at this
    cases this

/-- **support**: a product of generators of an echelon tableau that is trivial on the sites `0..k` uses only generators
    whose leading site is right of `k` -/
theorem echelon_support (t : STab) (piv : Nat → Nat) (he : Echelon t piv) (S : Nat → Bool) (k : Nat)
    (hz : ∀ j, j ≤ k → j < t.n → t.comboX S j = false ∧ t.comboZ S j = false) :
    ∀ i, i < t.n → S i = true → k < piv i := by
  intro i hi hSi
  rcases exists_min S t.n with h | ⟨i0, h1, h2, h3⟩
  · rw [h i hi] at hSi; cases hSi
  · have hnz := echelon_min_nonzero t piv he S i0 h1 h2 h3
    have hk : k < piv i0 := by
      apply Nat.lt_of_not_le
      intro hle
      have hz' := hz (piv i0) hle (he.lead i0 h1).1
      rw [hz'.1, hz'.2] at hnz
      cases hnz
    have hle : i0 ≤ i := by
      apply Nat.le_of_not_lt
      intro hlt
      rw [h3 i hlt] at hSi; cases hSi
    by_cases e : i0 = i
    · subst e; exact hk
    · have := (he.sorted i0 i (by omega) hi).1
      omega

end STab
end Graphiq
