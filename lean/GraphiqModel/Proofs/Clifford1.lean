/-
  Proofs/Clifford1.lean — every word over {I,H,P,X,Y,Z} multiplies to a scalar multiple of one of the 24 enumerated Cliffords;
  hence `simplify` always succeeds and returns a member equal to the product up to a scalar.
-/
import Mathlib.Tactic.Ring
import Mathlib.Tactic.Linarith
import GraphiqModel.Model.Clifford1
namespace Graphiq.Cliff

@[simp] theorem GI.add_re (a b : GI) : (a + b).re = a.re + b.re := rfl
@[simp] theorem GI.add_im (a b : GI) : (a + b).im = a.im + b.im := rfl
@[simp] theorem GI.mul_re (a b : GI) : (a * b).re = a.re * b.re - a.im * b.im := rfl
@[simp] theorem GI.mul_im (a b : GI) : (a * b).im = a.re * b.im + a.im * b.re := rfl

theorem GI.ext' {a b : GI} (h1 : a.re = b.re) (h2 : a.im = b.im) : a = b := by
  cases a; cases b; simp at h1 h2; simp [h1, h2]

theorem GI.mul_comm' (a b : GI) : a * b = b * a := by apply GI.ext' <;> simp <;> ring
theorem GI.mul_assoc' (a b c : GI) : a * b * c = a * (b * c) := by apply GI.ext' <;> simp <;> ring
theorem GI.mul_add' (a b c : GI) : a * (b + c) = a * b + a * c := by apply GI.ext' <;> simp <;> ring

theorem GI.add_mul' (a b c : GI) : (a + b) * c = a * c + b * c := by
  rw [GI.mul_comm', GI.mul_add', GI.mul_comm' c a, GI.mul_comm' c b]

theorem GI.mul_swap_left (a b c : GI) : a * (b * c) = b * (a * c) := by
  rw [← GI.mul_assoc', GI.mul_comm' a b, GI.mul_assoc']

theorem GI.add_add_add_comm' (a b c d : GI) : a + b + (c + d) = a + c + (b + d) := by
  apply GI.ext' <;> simp <;> omega

theorem M2.ext' {m n : M2} (h1 : m.a = n.a) (h2 : m.b = n.b) (h3 : m.c = n.c) (h4 : m.d = n.d) : m = n := by
  cases m; cases n; simp at h1 h2 h3 h4; simp [h1, h2, h3, h4]

theorem smul_mul (k : GI) (m n : M2) : (M2.smul k m).mul n = M2.smul k (m.mul n) := by
  simp only [M2.smul, M2.mul, GI.mul_add', GI.mul_assoc']

theorem smul_smul (k l : GI) (m : M2) : M2.smul k (M2.smul l m) = M2.smul (k * l) m := by
  simp only [M2.smul, GI.mul_assoc']

theorem mul_smul (k : GI) (m n : M2) : m.mul (M2.smul k n) = M2.smul k (m.mul n) := by
  simp only [M2.smul, M2.mul, GI.mul_add', GI.mul_swap_left _ k]

theorem M2.mul_assoc' (m n p : M2) : (m.mul n).mul p = m.mul (n.mul p) := by
  simp only [M2.mul, GI.mul_add', GI.add_mul', GI.mul_assoc', GI.add_add_add_comm']

theorem I2_eq : I2 = ⟨⟨1, 0⟩, ⟨0, 0⟩, ⟨0, 0⟩, ⟨1, 0⟩⟩ := rfl

theorem M2.mul_I2 (m : M2) : m.mul I2 = m := by
  apply M2.ext' <;> apply GI.ext' <;> simp [M2.mul, I2_eq]

theorem M2.I2_mul (m : M2) : I2.mul m = m := by
  apply M2.ext' <;> apply GI.ext' <;> simp [M2.mul, I2_eq]

theorem foldl_mul (w : List Gen) (acc : M2) :
    w.foldl (fun acc g => acc.mul (gmat g)) acc = acc.mul (w.foldl (fun acc g => acc.mul (gmat g)) I2) := by
  induction w generalizing acc with
  | nil => exact (M2.mul_I2 acc).symm
  | cons g rest ih =>
    rw [List.foldl_cons, List.foldl_cons, ih, ih (I2.mul _), M2.I2_mul, M2.mul_assoc']

theorem prodW_append (v w : List Gen) : prodW (v ++ w) = (prodW v).mul (prodW w) := by
  unfold prodW
  rw [List.foldl_append, foldl_mul]

theorem M2.peq_iff (m n : M2) :
    m.peq n = true ↔ ∀ i < 4, ∀ j < 4, m.entries[i]! * n.entries[j]! = m.entries[j]! * n.entries[i]! := by
  unfold M2.peq
  simp only [List.all_eq_true, List.mem_range, beq_iff_eq]

theorem entries_smul (k : GI) (m : M2) (j : Nat) (hj : j < 4) : (M2.smul k m).entries[j]! = k * m.entries[j]! := by
  have hj' : j = 0 ∨ j = 1 ∨ j = 2 ∨ j = 3 := by omega
  rcases hj' with h | h | h | h <;> subst h <;> rfl

theorem peq_smul (k : GI) (m : M2) : m.peq (M2.smul k m) = true := by
  rw [M2.peq_iff]
  intro i hi j hj
  rw [entries_smul k m i hi, entries_smul k m j hj, GI.mul_swap_left, GI.mul_swap_left _ k, GI.mul_comm' m.entries[i]!]

def GI.norm (a : GI) : Int := a.re * a.re + a.im * a.im

theorem GI.norm_mul (a b : GI) : (a * b).norm = a.norm * b.norm := by
  simp [GI.norm]; ring

theorem M2.ext_entries {m n : M2} (h : ∀ j < 4, m.entries[j]! = n.entries[j]!) : m = n :=
  M2.ext' (h 0 (by decide)) (h 1 (by decide)) (h 2 (by decide)) (h 3 (by decide))

def M2.hasNonzero (m : M2) : Bool := (List.range 4).any fun i => decide (0 < (m.entries[i]!).norm)

/-- **step table** (finite, kernel-checked): a member times `H` or `P` equals a member up to a scalar -/
theorem step_table : all24.all (fun w => [Gen.H, Gen.P].all fun g =>
    all24.any fun w' => (prodW w').hasNonzero && (prodW w').peq ((prodW w).mul (gmat g))) = true := by
  decide +kernel

/-- `peq` against a non-zero matrix gives the scalars: `M_i • m = m_i • M` for an entry `M_i ≠ 0` -/
theorem scalars_of_peq (M m : M2) (hnz : M.hasNonzero = true) (h : M.peq m = true) :
    ∃ s t : GI, 0 < t.norm ∧ M2.smul t m = M2.smul s M := by
  unfold M2.hasNonzero at hnz
  simp only [List.any_eq_true, List.mem_range, decide_eq_true_eq] at hnz
  obtain ⟨i, hi, hpos⟩ := hnz
  refine ⟨m.entries[i]!, M.entries[i]!, hpos, M2.ext_entries fun j hj => ?_⟩
  rw [entries_smul _ _ j hj, entries_smul _ _ j hj, (M2.peq_iff M m).mp h i hi j hj]
  exact GI.mul_comm' _ _

/-- the invariant carried along a word: the partial product equals a member up to a non-zero scalar -/
def IsMember (m : M2) : Prop :=
  ∃ w ∈ all24, ∃ s t : GI, 0 < t.norm ∧ M2.smul t m = M2.smul s (prodW w)

theorem isMember_I2 : IsMember I2 :=
  ⟨[.I, .I], by decide, 1, 1, by decide, by decide⟩

theorem smul_comm (k l : GI) (m : M2) : M2.smul k (M2.smul l m) = M2.smul l (M2.smul k m) := by
  rw [smul_smul, smul_smul, GI.mul_comm']

theorem IsMember.smul {m : M2} (h : IsMember m) (c : GI) : IsMember (M2.smul c m) := by
  obtain ⟨w, hw, s, t, ht, e⟩ := h
  exact ⟨w, hw, c * s, t, ht, by rw [smul_comm, e, smul_smul]⟩

theorem IsMember.of_smul {m : M2} (c : GI) (hc : 0 < c.norm) (h : IsMember (M2.smul c m)) : IsMember m := by
  obtain ⟨w, hw, s, t, ht, e⟩ := h
  refine ⟨w, hw, s, t * c, ?_, by rw [← smul_smul, e]⟩
  rw [GI.norm_mul]; exact Int.mul_pos ht hc

theorem isMember_step_HP (m : M2) (g : Gen) (hg : g ∈ [Gen.H, Gen.P]) (h : IsMember m) : IsMember (m.mul (gmat g)) := by
  obtain ⟨w, hw, s, t, ht, e⟩ := h
  have tbl := step_table
  simp only [List.all_eq_true, List.any_eq_true, Bool.and_eq_true] at tbl
  obtain ⟨w', hw', hnz, hp⟩ := tbl w hw g hg
  obtain ⟨s', t', ht', e'⟩ := scalars_of_peq _ _ hnz hp
  refine ⟨w', hw', s * s', t' * t, ?_, ?_⟩
  · rw [GI.norm_mul]; exact Int.mul_pos ht' ht
  · rw [← smul_smul, ← smul_mul t m, e, smul_mul, smul_comm, e', smul_smul]

/-- the other generators are words in `H`, `P` up to a scalar: `Z = P²`, `2 X = H Z H`, `Y = i X Z` -/
theorem isMember_step (m : M2) (g : Gen) (h : IsMember m) : IsMember (m.mul (gmat g)) := by
  have hH := fun m h => isMember_step_HP m .H (by decide) h
  have hP := fun m h => isMember_step_HP m .P (by decide) h
  have hZ : ∀ m, IsMember m → IsMember (m.mul (gmat .Z)) := by
    intro m h
    have e : gmat .Z = (gmat .P).mul (gmat .P) := by decide
    rw [e, ← M2.mul_assoc']
    exact hP _ (hP _ h)
  have hX : ∀ m, IsMember m → IsMember (m.mul (gmat .X)) := by
    intro m h
    have e : M2.smul ⟨2, 0⟩ (gmat .X) = ((gmat .H).mul (gmat .Z)).mul (gmat .H) := by decide
    apply IsMember.of_smul ⟨2, 0⟩ (by decide)
    rw [← mul_smul, e, ← M2.mul_assoc', ← M2.mul_assoc']
    exact hH _ (hZ _ (hH _ h))
  cases g with
  | I => rw [show gmat .I = I2 from rfl, M2.mul_I2]; exact h
  | H => exact hH m h
  | P => exact hP m h
  | X => exact hX m h
  | Z => exact hZ m h
  | Y =>
    have e : gmat .Y = M2.smul ⟨0, 1⟩ ((gmat .X).mul (gmat .Z)) := by decide
    rw [e, mul_smul, ← M2.mul_assoc']
    exact (hZ _ (hX _ h)).smul _

theorem isMember_foldl (w : List Gen) (acc : M2) (h : IsMember acc) :
    IsMember (w.foldl (fun acc g => acc.mul (gmat g)) acc) := by
  induction w generalizing acc with
  | nil => exact h
  | cons g rest ih => exact ih _ (isMember_step acc g h)

theorem prodW_isMember (w : List Gen) : IsMember (prodW w) := isMember_foldl w I2 isMember_I2

/-! ### cancellation in the Gaussian integers, and `peq` from a two-sided scalar relation -/

theorem GI.eq_zero_of_norm (x : GI) (h : x.norm = 0) : x = ⟨0, 0⟩ := by
  unfold GI.norm at h
  have h1 : 0 ≤ x.re * x.re := mul_self_nonneg _
  have h2 : 0 ≤ x.im * x.im := mul_self_nonneg _
  have e1 : x.re * x.re = 0 := by omega
  have e2 : x.im * x.im = 0 := by omega
  apply GI.ext'
  · exact mul_self_eq_zero.mp e1
  · exact mul_self_eq_zero.mp e2

theorem GI.sub_eq_of_mul (t x y : GI) (ht : 0 < t.norm) (h : t * x = t * y) : x = y := by
  -- t * (x - y) = 0 with components; use the norm
  let d : GI := ⟨x.re - y.re, x.im - y.im⟩
  have hd : (t * d).norm = 0 := by
    have h1 := congrArg GI.re h
    have h2 := congrArg GI.im h
    simp at h1 h2
    have r1 : (t * d).re = 0 := by simp [d]; linarith
    have r2 : (t * d).im = 0 := by simp [d]; linarith
    simp [GI.norm, r1, r2]
  rw [GI.norm_mul] at hd
  have : d.norm = 0 := by
    rcases Int.mul_eq_zero.mp hd with h0 | h0
    · omega
    · exact h0
  have dz := GI.eq_zero_of_norm d this
  have e1 : x.re - y.re = 0 := congrArg GI.re dz
  have e2 : x.im - y.im = 0 := congrArg GI.im dz
  apply GI.ext' <;> omega

theorem peq_of_scalars (s t : GI) (ht : 0 < t.norm) (M m : M2) (h : M2.smul t m = M2.smul s M) : M.peq m = true := by
  have e : ∀ j < 4, t * m.entries[j]! = s * M.entries[j]! := by
    intro j hj
    rw [← entries_smul t m j hj, ← entries_smul s M j hj, h]
  rw [M2.peq_iff]
  intro i hi j hj
  -- t (M_i m_j) = M_i (s M_j) = M_j (s M_i) = t (M_j m_i), and `t` cancels
  apply GI.sub_eq_of_mul t _ _ ht
  rw [GI.mul_swap_left t, e j hj, GI.mul_swap_left _ s, GI.mul_comm' M.entries[i]!, ← GI.mul_swap_left _ s, ← e i hi,
    GI.mul_swap_left _ t]

/-- **`simplify` is total and correct on every word**: it returns one of the 24 enumerated gate lists, whose product equals the
    product of the word up to a scalar (global phase and the √2 normalisation of H) -/
theorem simplify_correct (w : List Gen) :
    ∃ m, simplify w = some m ∧ m ∈ all24 ∧ (prodW m).peq (prodW w) = true := by
  obtain ⟨w0, hw0, s, t, ht, e⟩ := prodW_isMember w
  have hmatch : (prodW w0).peq (prodW w) = true := peq_of_scalars s t ht _ _ e
  unfold simplify find
  cases hf : all24.find? (fun w' => (prodW w').peq (prodW w)) with
  | none =>
    have := List.find?_eq_none.mp hf w0 hw0
    simp [hmatch] at this
  | some m =>
    exact ⟨m, rfl, List.mem_of_find?_eq_some hf, by simpa using List.find?_some hf⟩

end Graphiq.Cliff
