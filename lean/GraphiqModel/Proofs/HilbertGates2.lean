/-
  Proofs/HilbertGates2.lean — controlled two-qubit gates on `n` qubits as matrices (CNOT, CZ), and the proof that
  the row-wise rules `cnot_gate` / `control_z_gate` of transformation.py are conjugation by these unitaries, for
  every `n` and every pair of distinct positions.

  * `ctrlQ n c t u` = `|0⟩⟨0|_c ⊗ I + |1⟩⟨1|_c ⊗ u_t` (identity elsewhere), defined entrywise; it equals graphiq's
    `get_two_qubit_controlled_gate(n, c, t, u)` = `1 + (1 - Z_c)(u_t - 1)/2` (`ctrlQ_eq_graphiq`, Proofs/HilbertKron.lean);
  * CNOT and CZ are monomial: `|b⟩ ↦ |b with b_t ⊕= b_c⟩` and `|b⟩ ↦ (-1)^(b_c b_t)|b⟩`;
  * `Loc2`, `mono2_intertwine` : the two-site analogue of the generic one-qubit lemma.
-/
import GraphiqModel.Proofs.HilbertGates
namespace Graphiq
namespace Hilbert
open Matrix PRow

noncomputable def ctrlQ (n c t : Nat) (u : Matrix Bool Bool ℂ) : Matrix (Bits n) (Bits n) ℂ :=
  Matrix.of fun a b => if (∀ j : Fin n, j.val ≠ t → a j = b j) then
    (if bx b c then u (bx a t) (bx b t) else if bx a t = bx b t then 1 else 0) else 0

theorem ctrlQ_apply (n c t : Nat) (u : Matrix Bool Bool ℂ) (a b : Bits n) :
    ctrlQ n c t u a b = if (∀ j : Fin n, j.val ≠ t → a j = b j) then
      (if bx b c then u (bx a t) (bx b t) else if bx a t = bx b t then 1 else 0) else 0 := rfl

/-- the CNOT permutation of basis states: `b_t ⊕= b_c` -/
def cnotB {n : Nat} (c t : Nat) (b : Bits n) : Bits n := fun j => if j.val = t then xor (b j) (bx b c) else b j

theorem bx_cnotB_off {n : Nat} (c t : Nat) (b : Bits n) (j : Nat) (hj : j ≠ t) : bx (cnotB c t b) j = bx b j := by
  by_cases h : j < n
  · rw [bx_lt _ _ h, bx_lt _ _ h]; simp [cnotB, hj]
  · rw [bx_ge _ _ h, bx_ge _ _ h]

theorem bx_cnotB_t {n : Nat} (c t : Nat) (ht : t < n) (b : Bits n) : bx (cnotB c t b) t = xor (bx b t) (bx b c) := by
  rw [bx_lt _ _ ht, bx_lt b _ ht]; simp [cnotB]

theorem cnotB_involutive {n : Nat} (c t : Nat) (hct : c ≠ t) : Function.Involutive (cnotB (n := n) c t) := by
  intro b
  funext j
  by_cases hj : j.val = t
  · have h1 : bx (cnotB c t b) c = bx b c := bx_cnotB_off c t b c hct
    simp only [cnotB, hj, if_true] at h1 ⊢
    show xor (xor (b j) (bx b c)) (bx (cnotB c t b) c) = b j
    rw [bx_cnotB_off c t b c hct]
    cases b j <;> cases bx b c <;> rfl
  · simp [cnotB, hj]

theorem ctrlQ_sigmaX (n c t : Nat) (ht : t < n) :
    ctrlQ n c t sigmaX = mono (cnotB c t) (fun _ => 0) := by
  ext a b
  rw [ctrlQ_apply, mono_apply, iPow_zero]
  have key : a = cnotB c t b ↔ (∀ j : Fin n, j.val ≠ t → a j = b j) ∧ bx a t = xor (bx b t) (bx b c) := by
    rw [bits_eq_iff_site t a (cnotB c t b), bx_cnotB_t c t ht]
    have e1 : (∀ j : Fin n, j.val ≠ t → a j = cnotB c t b j) ↔ (∀ j : Fin n, j.val ≠ t → a j = b j) := by
      constructor <;> intro h j hj <;> have := h j hj <;> simpa [cnotB, hj] using this
    rw [e1]
  by_cases h1 : ∀ j : Fin n, j.val ≠ t → a j = b j
  · rw [if_pos h1]
    by_cases h2 : bx a t = xor (bx b t) (bx b c)
    · rw [if_pos (key.mpr ⟨h1, h2⟩), h2]
      cases bx b t <;> cases bx b c <;> simp [sigmaX]
    · rw [if_neg (fun h => h2 (key.mp h).2)]
      revert h2
      cases bx a t <;> cases bx b t <;> cases bx b c <;> simp [sigmaX]
  · rw [if_neg h1, if_neg (fun h => h1 (key.mp h).1)]

theorem ctrlQ_sigmaZ (n c t : Nat) :
    ctrlQ n c t sigmaZ = mono id (fun b => 2 * Bool.toInt' (bx b c && bx b t)) := by
  ext a b
  rw [ctrlQ_apply, mono_apply]
  have key := bits_eq_iff_site t a b
  by_cases h1 : ∀ j : Fin n, j.val ≠ t → a j = b j
  · rw [if_pos h1]
    by_cases h2 : bx a t = bx b t
    · rw [if_pos (show a = id b from key.mpr ⟨h1, h2⟩), h2]
      cases bx b t <;> cases bx b c <;> simp [sigmaZ, Bool.toInt', iPow_zero, iPow_two]
    · rw [if_neg (show ¬ a = id b from fun h => h2 (key.mp h).2)]
      cases bx b c <;> simp [sigmaZ, h2]
  · rw [if_neg h1, if_neg (show ¬ a = id b from fun h => h1 (key.mp h).1)]

/-! ### row maps that act on two sites -/

/-- `f` only touches sites `c`, `t`: there it maps the four Pauli bits by the tables `Xc Zc Xt Zt` and adds `dl` to the phase word -/
structure Loc2 (f : PRow → PRow) (c t : Nat) (Xc Zc Xt Zt : Bool → Bool → Bool → Bool → Bool)
    (dl : Bool → Bool → Bool → Bool → ℤ) : Prop where
  off : ∀ p j, j ≠ c → j ≠ t → (f p).x j = p.x j ∧ (f p).z j = p.z j
  xc : ∀ p, (f p).x c = Xc (p.x c) (p.z c) (p.x t) (p.z t)
  zc : ∀ p, (f p).z c = Zc (p.x c) (p.z c) (p.x t) (p.z t)
  xt : ∀ p, (f p).x t = Xt (p.x c) (p.z c) (p.x t) (p.z t)
  zt : ∀ p, (f p).z t = Zt (p.x c) (p.z c) (p.x t) (p.z t)
  ph : ∀ p, (f p).ph % 4 = (p.ph + dl (p.x c) (p.z c) (p.x t) (p.z t)) % 4

theorem Loc2.comp {f g : PRow → PRow} {c t : Nat} {Xc1 Zc1 Xt1 Zt1 Xc2 Zc2 Xt2 Zt2 : Bool → Bool → Bool → Bool → Bool}
    {d1 d2 : Bool → Bool → Bool → Bool → ℤ}
    (hf : Loc2 f c t Xc1 Zc1 Xt1 Zt1 d1) (hg : Loc2 g c t Xc2 Zc2 Xt2 Zt2 d2) :
    Loc2 (fun p => f (g p)) c t
      (fun a b c d => Xc1 (Xc2 a b c d) (Zc2 a b c d) (Xt2 a b c d) (Zt2 a b c d))
      (fun a b c d => Zc1 (Xc2 a b c d) (Zc2 a b c d) (Xt2 a b c d) (Zt2 a b c d))
      (fun a b c d => Xt1 (Xc2 a b c d) (Zc2 a b c d) (Xt2 a b c d) (Zt2 a b c d))
      (fun a b c d => Zt1 (Xc2 a b c d) (Zc2 a b c d) (Xt2 a b c d) (Zt2 a b c d))
      (fun a b c d => d2 a b c d + d1 (Xc2 a b c d) (Zc2 a b c d) (Xt2 a b c d) (Zt2 a b c d)) where
  off p j h1 h2 := ⟨((hf.off (g p) j h1 h2).1).trans (hg.off p j h1 h2).1,
    ((hf.off (g p) j h1 h2).2).trans (hg.off p j h1 h2).2⟩
  xc p := by rw [hf.xc, hg.xc, hg.zc, hg.xt, hg.zt]
  zc p := by rw [hf.zc, hg.xc, hg.zc, hg.xt, hg.zt]
  xt p := by rw [hf.xt, hg.xc, hg.zc, hg.xt, hg.zt]
  zt p := by rw [hf.zt, hg.xc, hg.zc, hg.xt, hg.zt]
  ph p := by
    have h1 := hf.ph (g p)
    have h2 := hg.ph p
    rw [hg.xc, hg.zc, hg.xt, hg.zt] at h1
    omega

theorem Loc1.toLoc2 {f : PRow → PRow} {t : Nat} {X' Z' : Bool → Bool → Bool} {dl : Bool → Bool → ℤ}
    (h : Loc1 f t X' Z' dl) (c : Nat) (hct : c ≠ t) :
    Loc2 f c t (fun xc _ _ _ => xc) (fun _ zc _ _ => zc) (fun _ _ xt zt => X' xt zt) (fun _ _ xt zt => Z' xt zt)
      (fun _ _ xt zt => dl xt zt) where
  off p j _ h2 := h.off p j h2
  xc p := (h.off p c hct).1
  zc p := (h.off p c hct).2
  xt p := h.xq p
  zt p := h.zq p
  ph p := h.ph p

theorem loc2_cnot (c t : Nat) (hct : c ≠ t) :
    Loc2 (PRow.cnot c t) c t (fun xc _ _ _ => xc) (fun _ zc _ zt => xor zc zt) (fun xc _ xt _ => xor xt xc)
      (fun _ _ _ zt => zt) (fun xc zc xt zt => 2 * Bool.toInt' (xc && zt && (xor (xor xt zc) true))) where
  off p j h1 h2 := by simp [PRow.cnot, h1, h2]
  xc p := by simp [PRow.cnot, hct]
  zc p := by simp [PRow.cnot]
  xt p := by simp [PRow.cnot]
  zt p := by simp [PRow.cnot, Ne.symm hct]
  ph p := by rw [cnot_ph]; omega

/-- a monomial gate `|b⟩ ↦ i^(eu b)|ub b⟩` that reads and writes bits `c`, `t` only (tables `Uc Ut E`) intertwines with a
    two-site row map: both sides of `U P = f(P) U` are monomial, so it is one check per value of the six bits involved — the
    permutations agree, and the exponents agree because the sum over sites changes at `c`, `t` only (`sumTo_local_two`) -/
theorem mono2_intertwine (n c t : Nat) (hc : c < n) (ht : t < n) (hct : c ≠ t)
    (ub : Bits n → Bits n) (eu : Bits n → ℤ) (Uc Ut : Bool → Bool → Bool) (E : Bool → Bool → ℤ)
    (hub_off : ∀ b j, j < n → j ≠ c → j ≠ t → bx (ub b) j = bx b j)
    (hub_c : ∀ b, bx (ub b) c = Uc (bx b c) (bx b t))
    (hub_t : ∀ b, bx (ub b) t = Ut (bx b c) (bx b t))
    (heu : ∀ b, eu b = E (bx b c) (bx b t))
    (f : PRow → PRow) (Xc Zc Xt Zt : Bool → Bool → Bool → Bool → Bool) (dl : Bool → Bool → Bool → Bool → ℤ)
    (hloc : Loc2 f c t Xc Zc Xt Zt dl)
    (hcheck : ∀ xc zc xt zt bc bt : Bool,
      Uc (xor bc xc) (xor bt xt) = xor (Uc bc bt) (Xc xc zc xt zt) ∧
      Ut (xor bc xc) (xor bt xt) = xor (Ut bc bt) (Xt xc zc xt zt) ∧
      (E (xor bc xc) (xor bt xt) + sFun xc zc bc + sFun xt zt bt) % 4
        = (dl xc zc xt zt + sFun (Xc xc zc xt zt) (Zc xc zc xt zt) (Uc bc bt)
            + sFun (Xt xc zc xt zt) (Zt xc zc xt zt) (Ut bc bt) + E bc bt) % 4)
    (p : PRow) : mono ub eu * pauliMat n p = pauliMat n (f p) * mono ub eu := by
  unfold pauliMat
  rw [mono_mul_mono, mono_mul_mono]
  apply mono_congr
  · funext b
    apply bits_ext
    intro j hj
    have hk := hcheck (p.x c) (p.z c) (p.x t) (p.z t) (bx b c) (bx b t)
    by_cases h1 : j = c
    · subst h1
      rw [hub_c, bx_flip _ _ _ hj, bx_flip _ _ _ ht, bx_flip _ _ _ hj, hub_c, hloc.xc]
      exact hk.1
    · by_cases h2 : j = t
      · subst h2
        rw [hub_t, bx_flip _ _ _ hc, bx_flip _ _ _ hj, bx_flip _ _ _ hj, hub_t, hloc.xt]
        exact hk.2.1
      · rw [hub_off _ j hj h1 h2, bx_flip _ _ _ hj, bx_flip _ _ _ hj, hub_off _ j hj h1 h2,
          (hloc.off p j h1 h2).1]
  · intro b
    have hk := (hcheck (p.x c) (p.z c) (p.x t) (p.z t) (bx b c) (bx b t)).2.2
    rw [heu, heu, bx_flip _ _ _ hc, bx_flip _ _ _ ht]
    unfold pexp
    have hs := sumTo_local_two n c t (fun j => sFun (p.x j) (p.z j) (bx b j))
      (fun j => sFun ((f p).x j) ((f p).z j) (bx (ub b) j)) hc ht hct (by
        intro j hj h1 h2
        rw [(hloc.off p j h1 h2).1, (hloc.off p j h1 h2).2, hub_off b j hj h1 h2])
    rw [hub_c, hub_t, hloc.xc, hloc.zc, hloc.xt, hloc.zt] at hs
    have hp := hloc.ph p
    omega

/-! ### CNOT and CZ -/

theorem cnot_intertwine (n c t : Nat) (hc : c < n) (ht : t < n) (hct : c ≠ t) (p : PRow) :
    ctrlQ n c t sigmaX * pauliMat n p = pauliMat n (PRow.cnot c t p) * ctrlQ n c t sigmaX := by
  rw [ctrlQ_sigmaX n c t ht]
  exact mono2_intertwine n c t hc ht hct (cnotB c t) (fun _ => 0) (fun bc _ => bc) (fun bc bt => xor bt bc)
    (fun _ _ => 0)
    (fun b j _ _ h2 => bx_cnotB_off c t b j h2) (fun b => bx_cnotB_off c t b c hct) (fun b => bx_cnotB_t c t ht b)
    (fun _ => rfl) _ _ _ _ _ _ (loc2_cnot c t hct) (by decide) p

theorem cz_intertwine (n c t : Nat) (hc : c < n) (ht : t < n) (hct : c ≠ t) (p : PRow) :
    ctrlQ n c t sigmaZ * pauliMat n p = pauliMat n (PRow.cz c t p) * ctrlQ n c t sigmaZ := by
  rw [ctrlQ_sigmaZ n c t]
  exact mono2_intertwine n c t hc ht hct id (fun b => 2 * Bool.toInt' (bx b c && bx b t))
    (fun bc _ => bc) (fun _ bt => bt) (fun bc bt => 2 * Bool.toInt' (bc && bt))
    (fun _ _ _ _ _ => rfl) (fun _ => rfl) (fun _ => rfl) (fun _ => rfl) _ _ _ _ _ _
    (((loc1_h t).toLoc2 c hct).comp ((loc2_cnot c t hct).comp ((loc1_h t).toLoc2 c hct))) (by decide) p

theorem ctrlQ_sigmaX_unitary (n c t : Nat) (ht : t < n) (hct : c ≠ t) :
    ctrlQ n c t sigmaX * (ctrlQ n c t sigmaX)ᴴ = 1 ∧ (ctrlQ n c t sigmaX)ᴴ * ctrlQ n c t sigmaX = 1 := by
  rw [ctrlQ_sigmaX n c t ht]
  exact ⟨mono_mul_conjTranspose _ (cnotB_involutive c t hct) _, mono_conjTranspose_mul _ (cnotB_involutive c t hct) _⟩

theorem ctrlQ_sigmaZ_unitary (n c t : Nat) :
    ctrlQ n c t sigmaZ * (ctrlQ n c t sigmaZ)ᴴ = 1 ∧ (ctrlQ n c t sigmaZ)ᴴ * ctrlQ n c t sigmaZ = 1 := by
  rw [ctrlQ_sigmaZ n c t]
  exact ⟨mono_mul_conjTranspose _ (fun _ => rfl) _, mono_conjTranspose_mul _ (fun _ => rfl) _⟩

end Hilbert
end Graphiq
