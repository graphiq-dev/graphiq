/-
  Proofs/HilbertDimTensor.lean — `tensor([a, b])` of clifford.py is the tensor product of the states, for all sizes.

  * `blockEquiv : Bits (m+n) ≃ Bits m × Bits n` (first `m` qubits | last `n` qubits);
  * `kronB A B` : the Kronecker product `A ⊗ₖ B` of Mathlib re-indexed along `blockEquiv` (qubit 0 is the left-most
    factor, as in `np.kron`);
  * `pauliMat_block` : `pauliMat (m+n) P = pauliMat m P ⊗ pauliMat n (P shifted left by m)`;
  * **`rho_tensor`** : `ρ(tensor2 a b) = ρ(a) ⊗ ρ(b)` — no hypothesis on the tableaux.
-/
import GraphiqModel.Proofs.HilbertDimSite
import GraphiqModel.Proofs.TabSpecOps
namespace Graphiq
namespace Hilbert
open Matrix PRow TabSpec Tab
open scoped Kronecker

/-! ### splitting a bit string into two blocks -/

def leftB {m n : Nat} (b : Bits (m + n)) : Bits m := fun j => bx b j.val
def rightB {m n : Nat} (b : Bits (m + n)) : Bits n := fun j => bx b (m + j.val)
def joinB {m n : Nat} (a : Bits m) (c : Bits n) : Bits (m + n) :=
  fun j => if j.val < m then bx a j.val else bx c (j.val - m)

theorem bx_leftB {m n : Nat} (b : Bits (m + n)) (j : Nat) (hj : j < m) : bx (leftB b) j = bx b j := by
  rw [bx_lt _ _ hj]; rfl
theorem bx_rightB {m n : Nat} (b : Bits (m + n)) (j : Nat) (hj : j < n) : bx (rightB b) j = bx b (m + j) := by
  rw [bx_lt _ _ hj]; rfl
theorem bx_joinB {m n : Nat} (a : Bits m) (c : Bits n) (j : Nat) (hj : j < m + n) :
    bx (joinB a c) j = if j < m then bx a j else bx c (j - m) := by
  rw [bx_lt _ _ hj]; rfl

theorem leftB_joinB {m n : Nat} (a : Bits m) (c : Bits n) : leftB (joinB a c) = a := by
  apply bits_ext; intro j hj
  rw [bx_leftB _ j hj, bx_joinB a c j (by omega), if_pos hj]

theorem rightB_joinB {m n : Nat} (a : Bits m) (c : Bits n) : rightB (joinB a c) = c := by
  apply bits_ext; intro j hj
  rw [bx_rightB _ j hj, bx_joinB a c (m + j) (by omega), if_neg (by omega)]
  congr 1; omega

theorem joinB_left_right {m n : Nat} (b : Bits (m + n)) : joinB (leftB b) (rightB b) = b := by
  apply bits_ext; intro j hj
  rw [bx_joinB _ _ j hj]
  by_cases h : j < m
  · rw [if_pos h, bx_leftB b j h]
  · rw [if_neg h, bx_rightB b (j - m) (by omega)]
    congr 1; omega

def blockEquiv (m n : Nat) : Bits (m + n) ≃ Bits m × Bits n where
  toFun b := (leftB b, rightB b)
  invFun p := joinB p.1 p.2
  left_inv b := joinB_left_right b
  right_inv p := by
    show (leftB (joinB p.1 p.2), rightB (joinB p.1 p.2)) = p
    rw [leftB_joinB, rightB_joinB]

theorem bits_block_ext {m n : Nat} (a b : Bits (m + n)) : a = b ↔ leftB a = leftB b ∧ rightB a = rightB b := by
  constructor
  · intro h; subst h; exact ⟨rfl, rfl⟩
  · intro ⟨h1, h2⟩
    have := congrArg (blockEquiv m n).symm (show (blockEquiv m n) a = (blockEquiv m n) b from Prod.ext h1 h2)
    simpa using this

/-! ### the Kronecker product of two operators -/

noncomputable def kronB {m n : Nat} (A : Matrix (Bits m) (Bits m) ℂ) (B : Matrix (Bits n) (Bits n) ℂ) :
    Matrix (Bits (m + n)) (Bits (m + n)) ℂ :=
  Matrix.of fun a b => A (leftB a) (leftB b) * B (rightB a) (rightB b)

theorem kronB_apply {m n : Nat} (A : Matrix (Bits m) (Bits m) ℂ) (B : Matrix (Bits n) (Bits n) ℂ)
    (a b : Bits (m + n)) : kronB A B a b = A (leftB a) (leftB b) * B (rightB a) (rightB b) := rfl

theorem kronB_eq_kronecker {m n : Nat} (A : Matrix (Bits m) (Bits m) ℂ) (B : Matrix (Bits n) (Bits n) ℂ) :
    kronB A B = (A ⊗ₖ B).submatrix (blockEquiv m n) (blockEquiv m n) := rfl

theorem kronB_mul {m n : Nat} (A A' : Matrix (Bits m) (Bits m) ℂ) (B B' : Matrix (Bits n) (Bits n) ℂ) :
    kronB A B * kronB A' B' = kronB (A * A') (B * B') := by
  rw [kronB_eq_kronecker, kronB_eq_kronecker, kronB_eq_kronecker, Matrix.submatrix_mul_equiv, Matrix.mul_kronecker_mul]

theorem kronB_one {m n : Nat} : kronB (1 : Matrix (Bits m) (Bits m) ℂ) (1 : Matrix (Bits n) (Bits n) ℂ) = 1 := by
  rw [kronB_eq_kronecker, Matrix.one_kronecker_one, Matrix.submatrix_one_equiv]

theorem kronB_conjTranspose {m n : Nat} (A : Matrix (Bits m) (Bits m) ℂ) (B : Matrix (Bits n) (Bits n) ℂ) :
    (kronB A B)ᴴ = kronB Aᴴ Bᴴ := by
  ext a b; simp only [Matrix.conjTranspose_apply, kronB_apply, star_mul']

theorem trace_kronB {m n : Nat} (A : Matrix (Bits m) (Bits m) ℂ) (B : Matrix (Bits n) (Bits n) ℂ) :
    Matrix.trace (kronB A B) = Matrix.trace A * Matrix.trace B := by
  rw [kronB_eq_kronecker, trace_submatrix_equiv, Matrix.trace_kronecker]

theorem kronB_add_left {m n : Nat} (A A' : Matrix (Bits m) (Bits m) ℂ) (B : Matrix (Bits n) (Bits n) ℂ) :
    kronB (A + A') B = kronB A B + kronB A' B := by
  ext a b; simp only [kronB_apply, Matrix.add_apply, add_mul]
theorem kronB_add_right {m n : Nat} (A : Matrix (Bits m) (Bits m) ℂ) (B B' : Matrix (Bits n) (Bits n) ℂ) :
    kronB A (B + B') = kronB A B + kronB A B' := by
  ext a b; simp only [kronB_apply, Matrix.add_apply, mul_add]
theorem kronB_smul_left {m n : Nat} (c : ℂ) (A : Matrix (Bits m) (Bits m) ℂ) (B : Matrix (Bits n) (Bits n) ℂ) :
    kronB (c • A) B = c • kronB A B := by
  ext a b; simp only [kronB_apply, Matrix.smul_apply, smul_eq_mul]; ring
theorem kronB_smul_right {m n : Nat} (c : ℂ) (A : Matrix (Bits m) (Bits m) ℂ) (B : Matrix (Bits n) (Bits n) ℂ) :
    kronB A (c • B) = c • kronB A B := by
  ext a b; simp only [kronB_apply, Matrix.smul_apply, smul_eq_mul]; ring

/-! ### the matrix of a Pauli row factorises across the cut -/

/-- the sites `m, m+1, …` of a row, moved to `0, 1, …`, without phase -/
def tailRow (m : Nat) (P : PRow) : PRow := ⟨fun j => P.x (m + j), fun j => P.z (m + j), false, false⟩

theorem flip_block {m n : Nat} (x : Nat → Bool) (b : Bits (m + n)) :
    leftB (flip x b) = flip x (leftB b) ∧ rightB (flip x b) = flip (fun j => x (m + j)) (rightB b) := by
  constructor
  · apply bits_ext; intro j hj
    rw [bx_leftB _ j hj, bx_flip _ _ _ (by omega), bx_flip _ _ _ hj, bx_leftB _ j hj]
  · apply bits_ext; intro j hj
    rw [bx_rightB _ j hj, bx_flip _ _ _ (by omega), bx_flip _ _ _ hj, bx_rightB _ j hj]

theorem pexp_block (m n : Nat) (P : PRow) (b : Bits (m + n)) :
    pexp (m + n) P b = pexp m P (leftB b) + pexp n (tailRow m P) (rightB b) := by
  unfold pexp
  rw [sumTo_split]
  have e1 : sumTo m (fun j => sFun (P.x j) (P.z j) (bx b j)) = sumTo m (fun j => sFun (P.x j) (P.z j) (bx (leftB b) j)) :=
    sumTo_congr m _ _ (fun j hj => by rw [bx_leftB b j hj])
  have e2 : sumTo n (fun j => sFun (P.x (m + j)) (P.z (m + j)) (bx b (m + j)))
      = sumTo n (fun j => sFun ((tailRow m P).x j) ((tailRow m P).z j) (bx (rightB b) j)) :=
    sumTo_congr n _ _ (fun j hj => by rw [bx_rightB b j hj]; rfl)
  have e3 : (tailRow m P).ph = 0 := rfl
  rw [e1, e2, e3]; omega

/-- **Kronecker structure across a cut.**  `pauliMat (m+n) P = pauliMat m P ⊗ pauliMat n (P on the last n sites)`
    (the phase bits are carried by the first factor) -/
theorem pauliMat_block (m n : Nat) (P : PRow) :
    pauliMat (m + n) P = kronB (pauliMat m P) (pauliMat n (tailRow m P)) := by
  ext a b
  rw [kronB_apply, pauliMat_apply, pauliMat_apply, pauliMat_apply]
  have hf : a = flip P.x b ↔ leftB a = flip P.x (leftB b) ∧ rightB a = flip (tailRow m P).x (rightB b) := by
    rw [bits_block_ext, (flip_block P.x b).1, (flip_block P.x b).2]
    rfl
  by_cases h1 : leftB a = flip P.x (leftB b)
  · by_cases h2 : rightB a = flip (tailRow m P).x (rightB b)
    · rw [if_pos (hf.mpr ⟨h1, h2⟩), if_pos h1, if_pos h2, pexp_block, iPow_add]
    · rw [if_neg (fun h => h2 (hf.mp h).2), if_neg h2, mul_zero]
  · rw [if_neg (fun h => h1 (hf.mp h).1), if_neg h1, zero_mul]

theorem pauliMat_truncCols (m n : Nat) (P : PRow) :
    pauliMat (m + n) (P.truncCols m) = kronB (pauliMat m P) 1 := by
  rw [pauliMat_block]
  have e1 : EqOn m (P.truncCols m) P := by
    refine ⟨fun j hj => ?_, rfl, rfl⟩
    simp [PRow.truncCols, hj]
  have e2 : EqOn n (tailRow m (P.truncCols m)) PRow.one := by
    refine ⟨fun j _ => ?_, rfl, rfl⟩
    simp [tailRow, PRow.truncCols, PRow.one]
  rw [pauliMat_congr m _ _ e1, pauliMat_congr n _ _ e2, pauliMat_one]

theorem pauliMat_shiftCols (m n : Nat) (Q : PRow) :
    pauliMat (m + n) (Q.shiftCols m) = kronB 1 (pauliMat n Q) := by
  rw [pauliMat_block]
  have e1 : pauliMat m (Q.shiftCols m) = iPow Q.ph • 1 := by
    rw [pauliMat_phase]
    have : EqOn m (bare (Q.shiftCols m)) PRow.one := by
      refine ⟨fun j hj => ?_, rfl, rfl⟩
      simp [bare, PRow.shiftCols, PRow.one, hj]
    rw [pauliMat_congr m _ _ this, pauliMat_one]
    rfl
  have e2 : EqOn n (tailRow m (Q.shiftCols m)) (bare Q) := by
    refine ⟨fun j _ => ?_, rfl, rfl⟩
    simp [tailRow, PRow.shiftCols, bare]
  rw [e1, pauliMat_congr n _ _ e2, kronB_smul_left, ← kronB_smul_right, ← pauliMat_phase]

theorem proj_truncCols (m n : Nat) (P : PRow) : proj (m + n) (P.truncCols m) = kronB (proj m P) 1 := by
  unfold proj
  rw [pauliMat_truncCols, kronB_smul_left, kronB_add_left, kronB_one]

theorem proj_shiftCols (m n : Nat) (Q : PRow) : proj (m + n) (Q.shiftCols m) = kronB 1 (proj n Q) := by
  unfold proj
  rw [pauliMat_shiftCols, kronB_smul_right, kronB_add_right, kronB_one]

/-! ### products of generators -/

theorem rhoTo_add (N : Nat) (r : Nat → PRow) (k l : Nat) :
    rhoTo N r (k + l) = rhoTo N r k * rhoTo N (fun i => r (k + i)) l := by
  induction l with
  | zero => show rhoTo N r k = rhoTo N r k * 1; rw [Matrix.mul_one]
  | succ j ih =>
    show rhoTo N r (k + j) * proj N (r (k + j)) = rhoTo N r k * (rhoTo N (fun i => r (k + i)) j * proj N (r (k + j)))
    rw [ih, Matrix.mul_assoc]

theorem kronB_rhoTo_left (m n : Nat) (r : Nat → PRow) (k : Nat) :
    kronB (rhoTo m r k) (1 : Matrix (Bits n) (Bits n) ℂ) = rhoTo (m + n) (fun i => (r i).truncCols m) k := by
  induction k with
  | zero => exact kronB_one
  | succ j ih =>
    show kronB (rhoTo m r j * proj m (r j)) 1 = rhoTo (m + n) _ j * proj (m + n) ((r j).truncCols m)
    rw [← ih, proj_truncCols, kronB_mul, Matrix.mul_one]

theorem kronB_rhoTo_right (m n : Nat) (r : Nat → PRow) (k : Nat) :
    kronB (1 : Matrix (Bits m) (Bits m) ℂ) (rhoTo n r k) = rhoTo (m + n) (fun i => (r i).shiftCols m) k := by
  induction k with
  | zero => exact kronB_one
  | succ j ih =>
    show kronB 1 (rhoTo n r j * proj n (r j)) = rhoTo (m + n) _ j * proj (m + n) ((r j).shiftCols m)
    rw [← ih, proj_shiftCols, kronB_mul, Matrix.mul_one]

/-- **`tensor` on density matrices**: `ρ(tensor([a, b])) = ρ(a) ⊗ ρ(b)`, for all tableaux of all sizes -/
theorem rho_tensor (a b : Tab) :
    rho (a.n + b.n) (STab.ofTab (tensor2 a b)) = kronB (rho a.n (STab.ofTab a)) (rho b.n (STab.ofTab b)) := by
  have hsplit : kronB (rho a.n (STab.ofTab a)) (rho b.n (STab.ofTab b))
      = kronB (rho a.n (STab.ofTab a)) 1 * kronB 1 (rho b.n (STab.ofTab b)) := by
    rw [kronB_mul, Matrix.mul_one, Matrix.one_mul]
  rw [hsplit]
  show rhoTo (a.n + b.n) (STab.ofTab (tensor2 a b)).row (a.n + b.n)
    = kronB (rhoTo a.n (STab.ofTab a).row a.n) 1 * kronB 1 (rhoTo b.n (STab.ofTab b).row b.n)
  rw [kronB_rhoTo_left, kronB_rhoTo_right, rhoTo_add]
  congr 1
  · apply rhoTo_congr
    intro i hi
    show EqOn (a.n + b.n) { (tensor2 a b).stab i with ip := false } (({ a.stab i with ip := false } : PRow).truncCols a.n)
    rw [tensor_stab_left a b i hi]
    exact EqOn.refl _ _
  · apply rhoTo_congr
    intro i hi
    show EqOn (a.n + b.n) { (tensor2 a b).stab (a.n + i) with ip := false }
      (({ b.stab i with ip := false } : PRow).shiftCols a.n)
    rw [tensor_stab_right a b (a.n + i) (by omega)]
    have : a.n + i - a.n = i := by omega
    rw [this]
    exact EqOn.refl _ _

end Hilbert
end Graphiq
