/-
  Proofs/PauliSpan.lean — groups of signed Pauli rows and the maps between them.

  A *closed* set of rows is a signed group up to row equality; `InSpan n m gens` (defined in Proofs/Tableau.lean) is the least
  closed set that contains the generators (`InSpan.least`, the one induction over `InSpan` that the rest goes through).
  `IsHom n m f`: the row map `f` takes the rows on `n` sites to the rows on `m` sites and respects identity, signed product
  and row equality; the gates (`n = m`, `TabSpec.IsAut1`) and the column maps that change the number of qubits are such maps.
  The image of a generated group is generated by the images (`InSpan.map`, `InSpan.of_map`, `InSpan.image_iff`).
  Second half: ordered subset products `sprod`; in a group of commuting real rows they multiply by symmetric difference
  (`Closed.sprod_mul`), and every element of a generated such group is one (`InSpan.repr`).
  The definitions keep the names of the chains whose theorems state them: open `Solver` for `PSet`, `img`, `Closed`,
  `TabSpec` for `IsAut1`, `Tab` for `InSpan`, `STab` for `sprod`.
-/
import GraphiqModel.Proofs.Tableau
namespace Graphiq
open PRow

namespace Solver

abbrev PSet := PRow → Prop

/-- image of a set under a row map (closed under row equality on the first `n` columns) -/
def img (n : Nat) (f : PRow → PRow) (S : PSet) : PSet := fun b => ∃ a, S a ∧ EqOn n (f a) b

/-- a signed group: contains the identity, closed under the signed product and under row equality -/
structure Closed (n : Nat) (S : PSet) : Prop where
  one : S PRow.one
  mul : ∀ a b, S a → S b → S (PRow.mul n a b)
  eqv : ∀ a b, S a → EqOn n a b → S b

end Solver

namespace PRow
open Solver

theorem mul_cancel_left (n : Nat) (a b : PRow) (hr : a.ip = false) : EqOn n (PRow.mul n a (PRow.mul n a b)) b :=
  ((mul_assoc n _ _ _).symm.trans (mul_congr n _ _ _ _ (mul_self n _ hr) (EqOn.refl _ _))).trans (one_mul n _)

structure IsHom (n m : Nat) (f : PRow → PRow) : Prop where
  one : EqOn m (f PRow.one) PRow.one
  mul : ∀ a b, EqOn m (f (PRow.mul n a b)) (PRow.mul m (f a) (f b))
  congr : ∀ a b, EqOn n a b → EqOn m (f a) (f b)

theorem IsHom.comp {n m k : Nat} {f g : PRow → PRow} (hf : IsHom m k f) (hg : IsHom n m g) :
    IsHom n k (fun a => f (g a)) :=
  ⟨(hf.congr _ _ hg.one).trans hf.one, fun a b => (hf.congr _ _ (hg.mul a b)).trans (hf.mul _ _),
   fun a b h => hf.congr _ _ (hg.congr a b h)⟩

theorem IsAut.isHom {n : Nat} {f : PRow → PRow} (hf : IsAut n f) (h1 : EqOn n (f PRow.one) PRow.one) : IsHom n n f :=
  ⟨h1, hf.mul, hf.congr⟩

theorem IsHom.preimage {n m : Nat} {f : PRow → PRow} (hf : IsHom n m f) {S : PSet} (hS : Closed m S) :
    Closed n fun a => S (f a) :=
  ⟨hS.eqv _ _ hS.one hf.one.symm, fun a b ha hb => hS.eqv _ _ (hS.mul _ _ ha hb) (hf.mul a b).symm,
   fun a b ha hab => hS.eqv _ _ ha (hf.congr a b hab)⟩

theorem IsHom.img {n m : Nat} {f : PRow → PRow} (hf : IsHom n m f) {S : PSet} (hS : Closed n S) :
    Closed m (img m f S) := by
  refine ⟨⟨PRow.one, hS.one, hf.one⟩, ?_, ?_⟩
  · rintro a b ⟨a0, ha0, ea⟩ ⟨b0, hb0, eb⟩
    exact ⟨PRow.mul n a0 b0, hS.mul _ _ ha0 hb0, (hf.mul a0 b0).trans (mul_congr m _ _ _ _ ea eb)⟩
  · rintro a b ⟨a0, ha0, ea⟩ hab
    exact ⟨a0, ha0, ea.trans hab⟩

theorem commutant_closed (n : Nat) (T : PSet) : Closed n fun a => ∀ b, T b → sp n a b = false :=
  ⟨fun b _ => sp_one_left n b, fun a a' ha ha' b hb => by rw [sp_mul_left, ha b hb, ha' b hb]; rfl,
   fun a a' ha haa' b hb => by rw [← sp_eqOn n _ _ _ _ haa' (EqOn.refl n b)]; exact ha b hb⟩

end PRow

namespace TabSpec

structure IsAut1 (n : Nat) (f : PRow → PRow) : Prop where
  aut : IsAut n f
  one : EqOn n (f PRow.one) PRow.one
  ip : ∀ p, (f p).ip = p.ip

theorem IsAut1.comp {n : Nat} {f g : PRow → PRow} (hf : IsAut1 n f) (hg : IsAut1 n g) : IsAut1 n (fun a => f (g a)) :=
  ⟨hf.aut.comp hg.aut, (hf.aut.congr _ _ hg.one).trans hf.one, fun p => (hf.ip _).trans (hg.ip p)⟩

theorem isAut1_id (n : Nat) : IsAut1 n (id : PRow → PRow) :=
  ⟨⟨fun _ _ => rfl, fun _ _ => EqOn.refl _ _, fun _ _ h => h⟩, EqOn.refl _ _, fun _ => rfl⟩

theorem IsAut1.isHom {n : Nat} {f : PRow → PRow} (hf : IsAut1 n f) : IsHom n n f := hf.aut.isHom hf.one

end TabSpec

namespace Tab
open Solver

theorem InSpan.closed (n m : Nat) (gens : Nat → PRow) : Closed n (InSpan n m gens) :=
  ⟨InSpan.one, InSpan.mul, InSpan.eqv⟩

theorem InSpan.least {n m : Nat} {gens : Nat → PRow} {S : PSet} (hS : Closed n S)
    (h : ∀ i, i < m → S (gens i)) {a : PRow} (ha : InSpan n m gens a) : S a := by
  induction ha with
  | one => exact hS.one
  | gen i hi => exact h i hi
  | mul a b _ _ iha ihb => exact hS.mul a b iha ihb
  | eqv a b _ hab iha => exact hS.eqv a b iha hab

theorem InSpan.le {n m m' : Nat} {gens gens' : Nat → PRow} (h : ∀ i, i < m → InSpan n m' gens' (gens i)) {a : PRow}
    (ha : InSpan n m gens a) : InSpan n m' gens' a :=
  InSpan.least (InSpan.closed n m' gens') h ha

theorem InSpan.congr_gens {n m : Nat} {gens gens' : Nat → PRow} (h : ∀ i, i < m → EqOn n (gens i) (gens' i)) {a : PRow}
    (ha : InSpan n m gens a) : InSpan n m gens' a :=
  InSpan.le (fun i hi => InSpan.eqv _ _ (InSpan.gen i hi) (h i hi).symm) ha

theorem InSpan.map {n m k k' : Nat} {f : PRow → PRow} (hf : IsHom n m f) {gens gens' : Nat → PRow}
    (h : ∀ i, i < k → InSpan m k' gens' (f (gens i))) {a : PRow} (ha : InSpan n k gens a) : InSpan m k' gens' (f a) :=
  InSpan.least (hf.preimage (InSpan.closed m k' gens')) h ha

theorem InSpan.map_gens {n m k : Nat} {f : PRow → PRow} (hf : IsHom n m f) {gens : Nat → PRow} {a : PRow}
    (ha : InSpan n k gens a) : InSpan m k (fun i => f (gens i)) (f a) :=
  InSpan.map hf (fun i hi => InSpan.gen (gens := fun i => f (gens i)) i hi) ha

theorem InSpan.of_map {n m k : Nat} {f : PRow → PRow} (hf : IsHom n m f) {gens gens' : Nat → PRow}
    (h : ∀ i, i < k → EqOn m (f (gens i)) (gens' i)) {b : PRow} (hb : InSpan m k gens' b) :
    ∃ a, InSpan n k gens a ∧ EqOn m (f a) b :=
  InSpan.least (hf.img (InSpan.closed n k gens)) (fun i hi => ⟨gens i, InSpan.gen i hi, h i hi⟩) hb

/-- **the image of a generated group is generated by the images** (of the generators, up to row equality) -/
theorem InSpan.image_iff {n m k : Nat} {f : PRow → PRow} (hf : IsHom n m f) {gens gens' : Nat → PRow}
    (h : ∀ i, i < k → EqOn m (f (gens i)) (gens' i)) (b : PRow) :
    InSpan m k gens' b ↔ img m f (InSpan n k gens) b :=
  ⟨InSpan.of_map hf h, fun ⟨_, ha, e⟩ =>
    InSpan.eqv _ _ (InSpan.map hf (fun i hi => InSpan.eqv _ _ (InSpan.gen i hi) (h i hi).symm) ha) e⟩

end Tab
namespace STab
open Solver Tab

/-- ordered product `row (m-1) · (… · (row 0 · 1))` of the rows `i < m` selected by `S` -/
def sprod (n : Nat) (row : Nat → PRow) (S : Nat → Bool) : Nat → PRow
  | 0 => PRow.one
  | m + 1 => bif S m then PRow.mul n (row m) (sprod n row S m) else sprod n row S m

theorem sprod_x (n : Nat) (row : Nat → PRow) (S : Nat → Bool) (m j : Nat) :
    (sprod n row S m).x j = parityTo m (fun i => S i && (row i).x j) := by
  induction m with
  | zero => rfl
  | succ k ih =>
    simp only [sprod, parityTo]
    cases h : S k
    · simp [ih]
    · simp [ih, Bool.xor_comm]

theorem sprod_z (n : Nat) (row : Nat → PRow) (S : Nat → Bool) (m j : Nat) :
    (sprod n row S m).z j = parityTo m (fun i => S i && (row i).z j) := by
  induction m with
  | zero => rfl
  | succ k ih =>
    simp only [sprod, parityTo]
    cases h : S k
    · simp [ih]
    · simp [ih, Bool.xor_comm]

/-- the x-bit matrix and the z-bit matrix of a tableau -/
def xb (t : STab) : Nat → Nat → Bool := fun m j => (t.row m).x j
def zb (t : STab) : Nat → Nat → Bool := fun m j => (t.row m).z j

/-- **independent generators**: no non-empty subset of the rows multiplies to a Pauli string without any bit (`±I`) —
    the 2n-bit vectors `(x | z)` of the rows are linearly independent over GF(2) -/
def Indep (t : STab) : Prop := ∀ S : Nat → Bool,
  (∀ j, j < t.n → parityTo t.n (fun i => S i && xb t i j) = false ∧ parityTo t.n (fun i => S i && zb t i j) = false) →
  ∀ i, i < t.n → S i = false

theorem sprod_congr (n : Nat) (row : Nat → PRow) (S T : Nat → Bool) (m : Nat) (h : ∀ i, i < m → S i = T i) :
    sprod n row S m = sprod n row T m := by
  induction m with
  | zero => rfl
  | succ k ih =>
    simp only [sprod]
    rw [ih (fun i hi => h i (Nat.lt_succ_of_lt hi)), h k (Nat.lt_succ_self k)]

theorem sprod_false (n : Nat) (row : Nat → PRow) (m : Nat) : sprod n row (fun _ => false) m = PRow.one := by
  induction m with
  | zero => rfl
  | succ k ih => simp [sprod, ih]

theorem sprod_none (n : Nat) (row : Nat → PRow) (S : Nat → Bool) (m : Nat) (h : ∀ i, i < m → S i = false) :
    sprod n row S m = PRow.one := by
  rw [sprod_congr n row S (fun _ => false) m h]; exact sprod_false n row m

theorem sprod_single (n : Nat) (row : Nat → PRow) (i m : Nat) :
    EqOn n (sprod n row (fun k => decide (k = i)) m) (if i < m then row i else PRow.one) := by
  induction m with
  | zero => simp [sprod]; exact EqOn.refl _ _
  | succ k ih =>
    simp only [sprod]
    by_cases hk : k = i
    · subst hk
      have h0 : sprod n row (fun j => decide (j = k)) k = PRow.one := by
        apply sprod_none; intro j hj; simp; omega
      simp only [h0, decide_true, cond_true, Nat.lt_succ_self, if_true]
      exact mul_one n _
    · have hd : decide (k = i) = false := by simp [hk]
      simp only [hd, cond_false]
      by_cases hi : i < k
      · have : i < k + 1 := by omega
        simp only [this, if_true]; simp only [hi, if_true] at ih; exact ih
      · have : ¬ i < k + 1 := by omega
        simp only [this, if_false]; simp only [hi, if_false] at ih; exact ih

end STab

namespace Solver
open STab

theorem Closed.sprod_mem {n : Nat} {H : PSet} (hH : Closed n H) {gens : Nat → PRow} {m : Nat}
    (h : ∀ i, i < m → H (gens i)) (S : Nat → Bool) : H (sprod n gens S m) := by
  induction m with
  | zero => exact hH.one
  | succ k ih =>
    have ih := ih fun i hi => h i (Nat.lt_succ_of_lt hi)
    simp only [sprod]
    cases S k
    · exact ih
    · exact hH.mul _ _ (h k (Nat.lt_succ_self k)) ih

theorem Closed.sprod_mul {n : Nat} {H : PSet} (hH : Closed n H) (hc : ∀ a b, H a → H b → sp n a b = false)
    (hr : ∀ a, H a → a.ip = false) {gens : Nat → PRow} {m : Nat} (h : ∀ i, i < m → H (gens i)) (S T : Nat → Bool) :
    EqOn n (PRow.mul n (sprod n gens S m) (sprod n gens T m)) (sprod n gens (fun i => xor (S i) (T i)) m) := by
  induction m with
  | zero => exact one_mul n _
  | succ k ih =>
    have hlt : ∀ i, i < k → H (gens i) := fun i hi => h i (Nat.lt_succ_of_lt hi)
    have ih := ih hlt
    have hk := h k (Nat.lt_succ_self k)
    have cA : sp n (sprod n gens S k) (gens k) = false := hc _ _ (hH.sprod_mem hlt S) hk
    simp only [sprod]
    cases hS : S k <;> cases hT : T k <;> simp only [cond_true, cond_false, Bool.xor_false,
      Bool.xor_true, Bool.not_false, Bool.not_true]
    · exact ih
    · -- A · (r · B) = (A · r) · B = (r · A) · B = r · (A · B)
      exact (((mul_assoc n _ _ _).symm.trans
        (mul_congr n _ _ _ _ (mul_comm n _ _ cA) (EqOn.refl _ _))).trans (mul_assoc n _ _ _)).trans
        (mul_congr n _ _ _ _ (EqOn.refl _ _) ih)
    · exact (mul_assoc n _ _ _).trans (mul_congr n _ _ _ _ (EqOn.refl _ _) ih)
    · -- (r · A) · (r · B) = (A · r) · (r · B) = A · (r · (r · B)) = A · ((r · r) · B) = A · (1 · B) = A · B
      have e1 := mul_cancel_left n (gens k) (sprod n gens T k) (hr _ hk)
      have cA' : sp n (gens k) (sprod n gens S k) = false := by rw [sp_comm]; exact cA
      exact (((mul_congr n _ _ _ _ (mul_comm n _ _ cA') (EqOn.refl _ _)).trans (mul_assoc n _ _ _)).trans
        (mul_congr n _ _ _ _ (EqOn.refl _ _) e1)).trans ih

end Solver

namespace Tab
open Solver STab

/-- **subset-product representation**: every element of a generated group of commuting real rows is the ordered product of a
    subset of the generators -/
theorem InSpan.repr {n m : Nat} {gens : Nat → PRow} (hc : ∀ a b, InSpan n m gens a → InSpan n m gens b → sp n a b = false)
    (hr : ∀ a, InSpan n m gens a → a.ip = false) {a : PRow} (ha : InSpan n m gens a) :
    ∃ S : Nat → Bool, EqOn n a (sprod n gens S m) := by
  have hH := InSpan.closed n m gens
  have hg : ∀ i, i < m → InSpan n m gens (gens i) := fun i hi => InSpan.gen i hi
  refine InSpan.least (S := fun a => ∃ S : Nat → Bool, EqOn n a (sprod n gens S m)) ⟨?_, ?_, ?_⟩ ?_ ha
  · exact ⟨fun _ => false, by rw [sprod_false]; exact EqOn.refl _ _⟩
  · rintro a b ⟨S, hS⟩ ⟨T, hT⟩
    exact ⟨fun i => xor (S i) (T i), (mul_congr n _ _ _ _ hS hT).trans (hH.sprod_mul hc hr hg S T)⟩
  · rintro a b ⟨S, hS⟩ hab
    exact ⟨S, hab.symm.trans hS⟩
  · intro i hi
    have := sprod_single n gens i m
    rw [if_pos hi] at this
    exact ⟨fun k => decide (k = i), this.symm⟩

end Tab
end Graphiq
