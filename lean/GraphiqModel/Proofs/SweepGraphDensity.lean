/-
  Proofs/SweepGraphDensity.lean — C08 ↔ C17 ↔ C09/C11: the exact ℚ[i] matrix `DM.stabilizerDensity` (C17's executable model of
  the stabilizer → density-matrix converter) of the graph-state Clifford tableau `LC.graphTab n A` (C09 / C11) represents, in the
  sense of the bridge `Hilbert.Rep` of C01 / C17, the graph-state density matrix `|G⟩⟨G| = graphStateMat n A` of C08.
-/
import GraphiqModel.Proofs.StateToGraphHilbert
import GraphiqModel.Proofs.HilbertBridgeDensity
import GraphiqModel.Proofs.LCGraphTab
namespace Graphiq.Sweep
open Graphiq Graphiq.Hilbert

theorem tabRho_graphTab (n : Nat) (A : Adj) : tabRho n (LC.graphTab n A) = rho n (graphSTab n A) := by
  show rhoTo n (STab.ofTab (LC.graphTab n A)).row n = rhoTo n (graphSTab n A).row n
  apply rhoTo_congr
  intro i hi
  show PRow.EqOn n { (LC.graphTab n A).row (i + n) with ip := false } ((graphSTab n A).row i)
  rw [LC.graphTab_stab]
  refine ⟨fun j hj => ⟨rfl, ?_⟩, rfl, rfl⟩
  show A i j = (decide (j < n) && A i j)
  simp [hj]

/-- the exact density matrix of the graph tableau represents `|G⟩⟨G|` -/
theorem rep_graph_density (n : Nat) (A : Adj) (hsym : ∀ i j, i < n → j < n → A i j = A j i) (hirr : ∀ i, i < n → A i i = false) :
    Rep n (DM.stabilizerDensity (LC.graphTab n A)) (graphStateMat n A) := by
  have h := rep_stabilizerDensity (LC.graphTab n A)
  have hn : (LC.graphTab n A).n = n := rfl
  rw [hn] at h
  exact h.congr ((tabRho_graphTab n A).trans (rho_graphSTab n A hsym hirr))

end Graphiq.Sweep
