/-
  Metrics.lean — lemmas for C18: the label-index queries of the metrics equal predicates on the nodes' operations; the
  operation nodes of a circuit built by `add` are the operation list; the label queries of the counting metrics select the
  operations by class and register types; `reg_gate_history` returns the wire (on `Inv` alone: C12's `Refine` reads it).
-/
import GraphiqModel.Model.Metrics
import GraphiqModel.Proofs.DagChain
namespace Graphiq
namespace Dag
open Relation

/-! ## `get_node_by_labels` = filter by predicate -/

theorem mem_getNodeByLabels_aux (c : Dag) (labels : List String) (rem : List NodeId) (n : NodeId) :
    n ∈ labels.foldl (fun rem l => rem.filter (fun n => (dictGet c.nodeDict l).contains n)) rem ↔
      n ∈ rem ∧ ∀ l ∈ labels, n ∈ dictGet c.nodeDict l := by
  induction labels generalizing rem with
  | nil => simp
  | cons l rest ih =>
    rw [List.foldl_cons, ih]
    simp only [List.mem_filter, List.contains_iff_mem, List.mem_cons, forall_eq_or_imp]
    tauto

theorem nodup_getNodeByLabels_aux (c : Dag) (labels : List String) (rem : List NodeId) (h : rem.Nodup) :
    (labels.foldl (fun rem l => rem.filter (fun n => (dictGet c.nodeDict l).contains n)) rem).Nodup := by
  induction labels generalizing rem with
  | nil => exact h
  | cons l rest ih => rw [List.foldl_cons]; exact ih _ (h.filter _)

/-- the `node_dict` keys under which node `n` is filed -/
def keysAt (c : Dag) (n : NodeId) : List String :=
  match c.opOf? n with
  | some op => indexKeysOf n op
  | none => []

theorem indexCount_pos_iff (c : Dag) (n : NodeId) (l : String) : 0 < c.indexCount n l ↔ l ∈ c.keysAt n := by
  unfold indexCount keysAt
  cases c.opOf? n with
  | none => simp
  | some op => simp [List.count_pos_iff]

theorem mem_nodeDict_iff {c : Dag} {P : Paths} (h : Inv c P) (l : String) (n : NodeId) :
    n ∈ dictGet c.nodeDict l ↔ l ∈ c.keysAt n := by
  rw [← List.count_pos_iff, h.nodeDict_ok, indexCount_pos_iff]

/-- **`get_node_by_labels(labels)` = the nodes all of whose keys include every label** (a duplicate-free list) -/
theorem getNodeByLabels_spec {c : Dag} (h : DagInv c) (labels : List String) (n : NodeId) :
    (n ∈ c.getNodeByLabels labels ↔ n ∈ c.nodeIds ∧ ∀ l ∈ labels, l ∈ c.keysAt n) ∧ (c.getNodeByLabels labels).Nodup := by
  obtain ⟨P, g⟩ := h
  refine ⟨?_, nodup_getNodeByLabels_aux c labels _ g.inv.ids_nodup⟩
  unfold getNodeByLabels
  rw [mem_getNodeByLabels_aux]
  simp only [mem_nodeDict_iff g.inv]

/-- **`get_node_exclude_labels(labels)` = the nodes none of whose keys is one of the labels** (a duplicate-free list) -/
theorem getNodeExcludeLabels_spec {c : Dag} (h : DagInv c) (labels : List String) (n : NodeId) :
    (n ∈ c.getNodeExcludeLabels labels ↔ n ∈ c.nodeIds ∧ ∀ l ∈ labels, l ∉ c.keysAt n) ∧ (c.getNodeExcludeLabels labels).Nodup := by
  obtain ⟨P, g⟩ := h
  refine ⟨?_, g.inv.ids_nodup.filter _⟩
  unfold getNodeExcludeLabels
  rw [List.mem_filter]
  simp only [Bool.not_eq_true', List.any_eq_false, List.contains_iff_mem, mem_nodeDict_iff g.inv]

theorem length_eq_of_nodup_of_mem_iff {α : Type} {l1 l2 : List α} (h1 : l1.Nodup) (h2 : l2.Nodup)
    (h : ∀ x, x ∈ l1 ↔ x ∈ l2) : l1.length = l2.length := by
  have a := h1.length_le_of_subset (fun x hx => (h x).mp hx)
  have b := h2.length_le_of_subset (fun x hx => (h x).mpr hx)
  omega

theorem length_getNodeByLabels {c : Dag} (h : DagInv c) (labels : List String) :
    (c.getNodeByLabels labels).length =
      (c.nodeIds.filter (fun n => labels.all (fun l => (c.keysAt n).contains l))).length := by
  have hs := fun n => (getNodeByLabels_spec h labels n).1
  have hnd := (getNodeByLabels_spec h labels (.op 0)).2
  obtain ⟨P, g⟩ := h
  apply length_eq_of_nodup_of_mem_iff hnd (g.inv.ids_nodup.filter _)
  intro n
  rw [hs n, List.mem_filter]
  simp [List.all_eq_true]

end Dag

/-! ## circuits built by `add`: the operation nodes are the operation list -/
namespace Metrics
open Dag

def isOpNode (p : NodeId × Op) : Bool := match p.1 with | .op _ => true | _ => false

def opsOf (c : Dag) : List Op := (c.nodes.filter isOpNode).map (·.2)

theorem opsOf_withNewReg (c : Dag) (r : Reg) : opsOf (c.withNewReg r) = opsOf c := by
  unfold opsOf
  show List.map (·.2) (List.filter isOpNode (c.nodes ++ [(NodeId.inp r, Op.io .input r), (NodeId.out r, Op.io .output r)])) = _
  rw [List.filter_append]
  exact congrArg _ (List.append_nil _)

theorem opsOf_of_newReg {c c' : Dag} {P P' : Paths} (s : Chain Prim.IsNewReg c P c' P') (g : Good c P) : opsOf c' = opsOf c :=
  s.of_newReg (Q := fun d => opsOf d = opsOf c) (fun _ _ h => (opsOf_withNewReg _ _).trans h) g rfl

theorem opsOf_add {c : Dag} {P : Paths} (g : Good c P) {op : Op} (hop : OpWF op) (hok : (c.add op).2 = none) :
    opsOf (c.add op).1 = opsOf c ++ [op] := by
  obtain ⟨hens, heq⟩ := add_of_ok hok
  obtain ⟨P1, s, hl⟩ := ensureRegs_chain g op
  rw [heq, add_eq_prim (s.good g) hop (hl hens), ← opsOf_of_newReg s g]
  unfold opsOf
  rw [Prim.insert_nodes (s.good g).inv, List.filter_append, List.map_append]
  rfl

theorem opsOf_init (ne np nc : Nat) : opsOf (Dag.init ne np nc) = [] := by
  unfold Dag.init
  obtain ⟨_, s, _⟩ := addRegs_chain empty_good
    ((List.range ne).map (Reg.mk .e) ++ (List.range np).map (Reg.mk .p) ++ (List.range nc).map (Reg.mk .c))
  exact opsOf_of_newReg s empty_good

/-- induction over the construction loop `for op in seq: add(op)`: the loop stops at the first error, so a successful run consists
    of successful calls -/
theorem build_preserves {R : Dag → List Op → Prop} {ne np nc : Nat} (h0 : R (Dag.init ne np nc) [])
    (hstep : ∀ c done op, R c done → OpWF op → (c.add op).2 = none → R (c.add op).1 (done ++ [op]))
    (seq : List Op) (hwf : ∀ op ∈ seq, OpWF op) (hok : (build ne np nc seq).2 = none) : R (build ne np nc seq).1 seq := by
  have herr : ∀ (l : List Op) (c : Dag) (e : DErr), (l.foldl buildStep (c, some e)).2 = some e := by
    intro l; induction l with
    | nil => intro c e; rfl
    | cons o t iht => intro c e; rw [List.foldl_cons]; exact iht c e
  have key : ∀ (rest : List Op) (c : Dag) (done : List Op), R c done → (∀ op ∈ rest, OpWF op) →
      (rest.foldl buildStep (c, none)).2 = none → R (rest.foldl buildStep (c, none)).1 (done ++ rest) := by
    intro rest
    induction rest with
    | nil => intro c done h _ _; simpa using h
    | cons op rest ih =>
      intro c done h hwf hok
      rw [List.foldl_cons] at hok ⊢
      have hstep' : buildStep (c, none) op = c.add op := rfl
      rw [hstep'] at hok ⊢
      have hadd : (c.add op).2 = none := by
        cases he : (c.add op).2 with
        | none => rfl
        | some e =>
          rw [show c.add op = ((c.add op).1, some e) from Prod.ext rfl he, herr] at hok
          simp at hok
      have h1 := hstep c done op h (hwf op (by simp)) hadd
      rw [show c.add op = ((c.add op).1, none) from Prod.ext rfl hadd] at hok ⊢
      have := ih (c.add op).1 (done ++ [op]) h1 (fun o ho => hwf o (List.mem_cons_of_mem _ ho)) hok
      simpa using this
  simpa [build] using key seq (Dag.init ne np nc) [] h0 hwf hok

theorem build_spec (ne np nc : Nat) (seq : List Op) (hwf : ∀ op ∈ seq, OpWF op) (hok : (build ne np nc seq).2 = none) :
    opsOf (build ne np nc seq).1 = seq ∧ DagInv (build ne np nc seq).1 := by
  refine build_preserves (R := fun c done => opsOf c = done ∧ DagInv c) ⟨opsOf_init ne np nc, init_good ne np nc⟩ ?_ seq hwf hok
  rintro c done op ⟨hops, P, g⟩ hop hadd
  obtain ⟨P', s⟩ := add_chain g hop
  exact ⟨by rw [opsOf_add g hop hadd, hops], P', s.good g⟩


/-! ## counting metrics: from label queries to predicates on the operation list -/

theorem dictGet_of_not_has {κ α : Type} [DecidableEq κ] (d : List (κ × List α)) (k : κ) (h : dictHas d k = false) :
    dictGet d k = [] := by
  induction d with
  | nil => rfl
  | cons p d ih =>
    obtain ⟨k0, l⟩ := p
    unfold dictHas at h
    unfold dictGet
    by_cases hk : k0 = k
    · simp [hk] at h
    · simp only [hk, if_false] at h ⊢; exact ih h

theorem keysAt_of_mem {c : Dag} (hnd : c.nodeIds.Nodup) {p : NodeId × Op} (hp : p ∈ c.nodes) :
    c.keysAt p.1 = indexKeysOf p.1 p.2 := by
  unfold keysAt
  rw [(opOf_eq_some hnd).mpr (show (p.1, p.2) ∈ c.nodes from hp)]

theorem length_filter_nodeIds {c : Dag} (hnd : c.nodeIds.Nodup) (f : List String → Bool) :
    (c.nodeIds.filter (fun n => f (c.keysAt n))).length = (c.nodes.filter (fun p => f (indexKeysOf p.1 p.2))).length := by
  unfold nodeIds
  rw [List.filter_map, List.length_map]
  congr 1
  apply List.filter_congr
  intro p hp
  simp only [Function.comp]
  rw [keysAt_of_mem hnd hp]

theorem length_filter_nodes_ops (nodes : List (NodeId × Op)) (f : List String → Bool) (hin : f ["Input"] = false)
    (hout : f ["Output"] = false) :
    (nodes.filter (fun p => f (indexKeysOf p.1 p.2))).length =
      ((nodes.filter isOpNode).map (·.2)).countP (fun op => f op.indexKeys) := by
  induction nodes with
  | nil => rfl
  | cons p t ih =>
    obtain ⟨n, op⟩ := p
    cases n with
    | inp r =>
      rw [List.filter_cons_of_neg (by simp [indexKeysOf, hin]), List.filter_cons_of_neg (by simp [isOpNode])]
      exact ih
    | out r =>
      rw [List.filter_cons_of_neg (by simp [indexKeysOf, hout]), List.filter_cons_of_neg (by simp [isOpNode])]
      exact ih
    | op i =>
      rw [List.filter_cons_of_pos (p := isOpNode) (by simp [isOpNode])]
      rw [List.map_cons, List.countP_cons]
      by_cases hf : f op.indexKeys = true
      · rw [List.filter_cons_of_pos (by simpa [indexKeysOf] using hf), List.length_cons, ih]
        simp [hf]
      · rw [List.filter_cons_of_neg (by simpa [indexKeysOf] using hf), ih]
        simp [hf]

/-- the names under which graphiq itself files a node in `node_dict`: the class names and the register-type descriptions -/
def reservedNames : List String :=
  Kind.all.map Kind.name ++ ["Emitter", "Photonic", "Emitter-Emitter", "Emitter-Photonic", "Photonic-Emitter", "Photonic-Photonic"]

/-- operations on at most two quantum registers whose labels (the constructor's "one-qubit"/"two-qubit" and any user label
    added with `add_labels`, e.g. the solver's "Fixed") do not collide with a class name or a register-type description -/
structure PlainOp (op : Op) : Prop where
  labels : ∀ l ∈ op.labels, l ∉ reservedNames
  arity : op.qregs.length ≤ 2

theorem parse_cases_of_arity {op : Op} (hwf : OpWF op) (har : op.qregs.length ≤ 2) :
    (op.qregs.map (·.ty) = [.e] ∧ op.parseQRegTypes = "Emitter") ∨ (op.qregs.map (·.ty) = [.p] ∧ op.parseQRegTypes = "Photonic") ∨
    (op.qregs.map (·.ty) = [.e, .e] ∧ op.parseQRegTypes = "Emitter-Emitter") ∨
    (op.qregs.map (·.ty) = [.e, .p] ∧ op.parseQRegTypes = "Emitter-Photonic") ∨
    (op.qregs.map (·.ty) = [.p, .e] ∧ op.parseQRegTypes = "Photonic-Emitter") ∨
    (op.qregs.map (·.ty) = [.p, .p] ∧ op.parseQRegTypes = "Photonic-Photonic") := by
  have hq := hwf.qregs_quantum
  have hne := hwf.qregs_ne
  unfold Op.parseQRegTypes
  cases hqs : op.qregs with
  | nil => exact absurd hqs hne
  | cons a t =>
    rw [hqs] at hq har
    have ha := hq a (by simp)
    cases t with
    | nil =>
      cases hta : a.ty with
      | e => left; simp [hta]; rfl
      | p => right; left; simp [hta]; rfl
      | c => exact absurd hta ha
    | cons b t2 =>
      have hb := hq b (by simp)
      cases t2 with
      | cons x y => simp at har
      | nil =>
        cases hta : a.ty with
        | c => exact absurd hta ha
        | e =>
          cases htb : b.ty with
          | c => exact absurd htb hb
          | e => right; right; left; simp [hta, htb]; rfl
          | p => right; right; right; left; simp [hta, htb]; rfl
        | p =>
          cases htb : b.ty with
          | c => exact absurd htb hb
          | e => right; right; right; right; left; simp [hta, htb]; rfl
          | p => right; right; right; right; right; simp [hta, htb]; rfl

theorem mem_indexKeys_iff {op : Op} (l : String) :
    l ∈ op.indexKeys ↔ l ∈ op.labels ∨ l = op.kind.name ∨ l = op.parseQRegTypes := by
  simp [Op.indexKeys]

theorem parseQRegTypes_mem {op : Op} (hwf : OpWF op) (har : op.qregs.length ≤ 2) :
    op.parseQRegTypes ∈ ["Emitter", "Photonic", "Emitter-Emitter", "Emitter-Photonic", "Photonic-Emitter", "Photonic-Photonic"] := by
  rcases parse_cases_of_arity hwf har with ⟨_, b⟩ | ⟨_, b⟩ | ⟨_, b⟩ | ⟨_, b⟩ | ⟨_, b⟩ | ⟨_, b⟩ <;> rw [b] <;> simp

theorem parseQRegTypes_ee_iff {op : Op} (hwf : OpWF op) (har : op.qregs.length ≤ 2) :
    op.parseQRegTypes = "Emitter-Emitter" ↔ op.qregs.map (·.ty) = [.e, .e] := by
  rcases parse_cases_of_arity hwf har with ⟨a, b⟩ | ⟨a, b⟩ | ⟨a, b⟩ | ⟨a, b⟩ | ⟨a, b⟩ | ⟨a, b⟩ <;> rw [a, b] <;> decide +kernel

theorem kindName_key_iff {op : Op} (hwf : OpWF op) (har : op.qregs.length ≤ 2) (k : Kind) (hl : k.name ∉ op.labels)
    (hp : k.name ∉ ["Emitter", "Photonic", "Emitter-Emitter", "Emitter-Photonic", "Photonic-Emitter", "Photonic-Photonic"]) :
    k.name ∈ op.indexKeys ↔ op.kind = k := by
  have hp' : k.name ≠ op.parseQRegTypes := fun h => hp (h ▸ parseQRegTypes_mem hwf har)
  rw [mem_indexKeys_iff]
  simp only [hl, hp', false_or, or_false]
  exact Kind.name_inj.trans eq_comm

/-- the label query of `CircuitCnotCount` selects exactly the emitter–emitter CNOTs; any user label other than the two queried names
    is admitted -/
theorem cnot_keys_iff_of {op : Op} (hwf : OpWF op) (har : op.qregs.length ≤ 2) (hl1 : "Emitter-Emitter" ∉ op.labels)
    (hl2 : "CNOT" ∉ op.labels) :
    ("Emitter-Emitter" ∈ op.indexKeys ∧ "CNOT" ∈ op.indexKeys) ↔ (op.kind = .cnot ∧ op.qregs.map (·.ty) = [.e, .e]) := by
  have hk1 : "Emitter-Emitter" ≠ op.kind.name := fun h =>
    (by decide +kernel : "Emitter-Emitter" ∉ Kind.all.map Kind.name) (h ▸ List.mem_map_of_mem (Kind.mem_all op.kind))
  have hc : "CNOT" ∈ op.indexKeys ↔ op.kind = .cnot := kindName_key_iff hwf har .cnot hl2 (by decide +kernel)
  rw [hc, mem_indexKeys_iff]
  simp only [hl1, hk1, false_or]
  rw [eq_comm, parseQRegTypes_ee_iff hwf har]
  exact and_comm

theorem emitterEmitter_reserved : "Emitter-Emitter" ∈ reservedNames := List.mem_append_right _ (by decide +kernel)
theorem cnot_reserved : "CNOT" ∈ reservedNames := List.mem_append_left _ (List.mem_map_of_mem (Kind.mem_all .cnot))
theorem mcr_reserved : "MeasurementCNOTandReset" ∈ reservedNames := List.mem_append_left _ (List.mem_map_of_mem (Kind.mem_all .mcr))

theorem PlainOp.not_label {op : Op} (hp : PlainOp op) {l : String} (hl : l ∈ reservedNames) : l ∉ op.labels :=
  fun h => hp.labels l h hl

theorem mcr_keys_iff_of {op : Op} (hwf : OpWF op) (har : op.qregs.length ≤ 2) (hl : "MeasurementCNOTandReset" ∉ op.labels) :
    "MeasurementCNOTandReset" ∈ op.indexKeys ↔ op.kind = .mcr :=
  kindName_key_iff hwf har .mcr hl (by decide +kernel)



theorem length_getNodeByLabels_ops {c : Dag} (h : DagInv c) (labels : List String)
    (hin : labels.all (fun l => ["Input"].contains l) = false) (hout : labels.all (fun l => ["Output"].contains l) = false) :
    (c.getNodeByLabels labels).length = (opsOf c).countP (fun op => labels.all (fun l => op.indexKeys.contains l)) := by
  rw [length_getNodeByLabels h labels]
  obtain ⟨P, g⟩ := h
  rw [length_filter_nodeIds g.inv.ids_nodup (fun keys => labels.all (fun l => keys.contains l))]
  exact length_filter_nodes_ops c.nodes (fun keys => labels.all (fun l => keys.contains l)) hin hout

/-- the guard `if label in node_dict` of the counting metrics changes nothing: without the key the query returns no node -/
theorem length_getNodeByLabels_guard (c : Dag) {labels : List String} {l : String} (hl : l ∈ labels) :
    (if dictHas c.nodeDict l then (c.getNodeByLabels labels).length else 0) = (c.getNodeByLabels labels).length := by
  by_cases hh : dictHas c.nodeDict l = true
  · rw [if_pos hh]
  · rw [if_neg hh]
    have hg := dictGet_of_not_has c.nodeDict l (by simpa using hh)
    have : c.getNodeByLabels labels = [] := by
      apply List.eq_nil_iff_forall_not_mem.mpr
      intro n hn
      unfold getNodeByLabels at hn
      rw [mem_getNodeByLabels_aux] at hn
      have := hn.2 l hl
      rw [hg] at this; simp at this
    rw [this]; rfl

theorem cnotCount_eq_length (c : Dag) : cnotCount c = (c.getNodeByLabels ["Emitter-Emitter", "CNOT"]).length :=
  length_getNodeByLabels_guard c (by simp)

theorem countP_congr_mem {α : Type} {l : List α} {p q : α → Bool} (h : ∀ a ∈ l, p a = q a) : l.countP p = l.countP q := by
  induction l with
  | nil => rfl
  | cons a t ih =>
    rw [List.countP_cons, List.countP_cons, ih (fun x hx => h x (List.mem_cons_of_mem _ hx)), h a (by simp)]

end Metrics

/-! ## `reg_gate_history` = the wire -/
namespace Dag
open Relation

theorem find_outEdge {c : Dag} {P : Paths} (h : Inv c P) {r : Reg} {n m : NodeId} (hc : Consec (P r) n m) :
    ∃ e, (c.outEdges n).find? (fun e => e.key = r) = some e ∧ e.dst = m := by
  have hmem : (⟨n, m, r⟩ : Edge) ∈ c.outEdges n := by
    simp [outEdges, (h.edges_iff ⟨n, m, r⟩).mpr hc]
  cases hf : (c.outEdges n).find? (fun e => e.key = r) with
  | none =>
    have := List.find?_eq_none.mp hf _ hmem
    simp at this
  | some e =>
    refine ⟨e, rfl, ?_⟩
    have he := List.mem_of_find?_eq_some hf
    have hk : e.key = r := by simpa using List.find?_some hf
    have hsrc : e.src = n := by simpa [outEdges] using (List.mem_filter.mp he).2
    have he' : e ∈ c.edges := (List.mem_filter.mp he).1
    have hc' := (h.edges_iff e).mp he'
    rw [hk, hsrc] at hc'
    exact consec_succ_unique (h.nodup r) hc' hc

theorem historyWalk_spec {c : Dag} {P : Paths} (h : Inv c P) (r : Reg) :
    ∀ (suf pre : List NodeId) (n : NodeId) (fuel : Nat), P r = pre ++ n :: suf → (∃ mid, P r = .inp r :: (mid ++ [.out r])) →
      suf.length < fuel → c.historyWalk r fuel n (n :: pre.reverse) = .ok (P r) := by
  intro suf
  induction suf with
  | nil =>
    intro pre n fuel hP hshape hf
    obtain ⟨mid, hmid⟩ := hshape
    have hn : n = .out r := by
      have h1 : (P r).getLast? = some n := by rw [hP]; simp
      have h2 : (P r).getLast? = some (.out r) := by
        rw [hmid]
        have : NodeId.inp r :: (mid ++ [NodeId.out r]) = (NodeId.inp r :: mid) ++ [NodeId.out r] := by simp
        rw [this, List.getLast?_concat]
      rw [h1] at h2; injection h2
    cases fuel with
    | zero => simp at hf
    | succ f =>
      unfold historyWalk
      rw [if_pos hn]
      simp [hP]
  | cons m suf' ih =>
    intro pre n fuel hP hshape hf
    cases fuel with
    | zero => simp at hf
    | succ f =>
      have hnd := h.nodup r
      have hne : n ≠ .out r := by
        intro e
        obtain ⟨mid, hmid⟩ := hshape
        have hcons : Consec (P r) n m := consec_iff_append.mpr ⟨pre, suf', hP⟩
        rw [hmid, e, show NodeId.inp r :: (mid ++ [NodeId.out r]) = (NodeId.inp r :: mid) ++ [NodeId.out r] by simp] at hcons
        rw [hmid, show NodeId.inp r :: (mid ++ [NodeId.out r]) = (NodeId.inp r :: mid) ++ [NodeId.out r] by simp] at hnd
        exact consec_last_no_succ hnd hcons
      have hcons : Consec (P r) n m := consec_iff_append.mpr ⟨pre, suf', hP⟩
      obtain ⟨e, hfind, hdst⟩ := find_outEdge h hcons
      unfold historyWalk
      rw [if_neg hne, hfind]
      simp only
      rw [hdst]
      have := ih (pre ++ [n]) m f (by rw [hP]; simp) hshape (by simp at hf; omega)
      simpa using this

/-- **`reg_gate_history(reg, reg_type)[1]` = the wire of the register** (`in`, the operation nodes in order, `out`),
    on every circuit satisfying the invariant -/
theorem regGateHistory_eq_wire {c : Dag} {P : Paths} (h : Inv c P) {r : Reg} (hl : c.live r) :
    c.regGateHistory r = .ok (P r) := by
  obtain ⟨mid, hmid⟩ := h.shape r hl
  unfold regGateHistory
  have hlen : (P r).length ≤ c.nodes.length := by
    have := (h.nodup r).length_le_of_subset (fun x hx => h.mem_nodes r x hx)
    simpa [nodeIds] using this
  have := historyWalk_spec h r (mid ++ [.out r]) [] (.inp r) (c.nodes.length + 1) (by rw [hmid.1]; rfl) ⟨mid, hmid.1⟩
    (by rw [hmid.1] at hlen; simp at hlen ⊢; omega)
  simpa using this

end Dag
end Graphiq
