/-
  Proofs/SolverSteps.lean — what the time-reversed solver does to its working tableau and to the circuit it records, said once.
  Every helper of `Model/Solver.lean` is a sequence (`Quiet`) of gates on one column recorded as the one-qubit wrapper that undoes them
  and of recorded CNOTs between emitters; a run (`Steps`) adds witnessed row operations and the two `Fixed` operations.  Each helper has
  one lemma saying that every returning run of it is such a sequence; register counts, `Fixed` operations, the soundness invariant,
  the wires and the columns left alone are read off the two relations (here, `SolverCompleteReach`, `SolverCompleteWires`).
  Both halves of the chain use this file: it imports `SolverComplete{Defs,Gates,Ops}` for the vocabulary (`COps`, `GVia`, `SoloAt`) and
  `SolverSoundMain` imports it — "Sound" / "Complete" in a file name says which theorem the file was written for, not what it imports.
-/
import GraphiqModel.Proofs.SolverSoundInv
import GraphiqModel.Proofs.SolverCompleteOps
import GraphiqModel.Proofs.SolverCompleteGates
import GraphiqModel.Proofs.EchelonCheck
namespace Graphiq
open PRow

def STab.gates (t : STab) (gl : List Gate) : STab := gl.foldl (fun t G => (t.applyGate G).norm) t

theorem Gate.wf_of_cols (n q : Nat) (hq : q < n) (G : Gate) (h : G.cols = [q]) : G.WF n :=
  (G.wf_iff_cols n).2 (h ▸ ⟨fun _ hc => List.mem_singleton.mp hc ▸ hq, List.nodup_cons.mpr ⟨List.not_mem_nil, List.nodup_nil⟩⟩)

namespace STab

theorem gates_n (t : STab) (gl : List Gate) : (t.gates gl).n = t.n := by
  induction gl generalizing t with
  | nil => rfl
  | cons G rest ih => exact (ih _).trans rfl

theorem gates_via (q : Nat) (gl : List Gate) (hgl : ∀ G, G ∈ gl → G.cols = [q]) (t : STab) (hq : q < t.n) :
    GVia (fun c => c = q) t (t.gates gl) := by
  induction gl generalizing t with
  | nil => exact GVia.refl
  | cons G rest ih =>
    have hG := hgl G List.mem_cons_self
    exact (GVia.one t G (G.wf_of_cols t.n q hq hG) (fun c hc => by rw [hG] at hc; simpa using hc)).trans
      (ih (fun G' h' => hgl G' (List.mem_cons_of_mem _ h')) _ hq)

end STab

namespace Solver
open Graphiq.Cliff STab Tab

theorem addOneQubit_setT (s : St) (t' : STab) (gs : List Gen) (q : Nat) (a1 : St) (h : addOneQubit s gs q = .ok a1) :
    addOneQubit { s with t := t' } gs q = .ok { a1 with t := t' } := by
  unfold addOneQubit at h ⊢
  simp only at h ⊢
  split at h
  · split at h
    · cases h
    · split at h <;> (injection h with h; subst h; simp_all)
  · split at h
    · cases h
    · split at h <;> (injection h with h; subst h; simp_all)

theorem tracks_gates (t0 : STab) (gl : List Gate) (hgl : ∀ G, G ∈ gl → G.WF t0.n) (t : STab) (c : List Gate)
    (h : Tracks t0 ⟨t, c⟩) : Tracks t0 ⟨t.gates gl, c ++ gl⟩ := by
  induction gl generalizing t c with
  | nil => rw [List.append_nil]; exact h
  | cons G rest ih =>
    have := ih (fun G' h' => hgl G' (List.mem_cons_of_mem _ h')) _ _
      (tracks_gate t0 ⟨t, c⟩ G h (h.n_eq ▸ hgl G List.mem_cons_self))
    rw [List.append_assoc] at this
    exact this

theorem gates_spn (gl : List Gate) (t : STab) (hgl : ∀ G, G ∈ gl → G.WF t.n) (hg : t.Good) :
    (t.gates gl).Good ∧ (t.gates gl).Spn = img t.n (actCirc gl) t.Spn := by
  have tr := tracks_gates t gl hgl t [] (tracks_init t hg)
  exact ⟨tr.good, pset_ext fun b => ⟨tr.bwd b, fun ⟨a, ha, e⟩ => InSpan.eqv _ _ (tr.fwd a ha) (tr.n_eq ▸ e)⟩⟩

/-- what every run leaves in place — the two register counts and the size of the tableau — and the `Fixed` operations `fx` it records -/
structure Frame (s s' : St) (fx : List SOp) : Prop where
  np_eq : s'.np = s.np
  ne_eq : s'.ne = s.ne
  n_eq : s'.t.n = s.t.n
  ops : fixedOps s'.circ = fx ++ fixedOps s.circ

theorem Frame.toKeeps {s s' : St} (f : Frame s s' []) : Keeps s s' := ⟨f.np_eq, f.ne_eq, f.ops⟩

theorem Frame.size {s s' : St} {fx : List SOp} (f : Frame s s' fx) (hn : s.t.n = s.np + s.ne) : s'.t.n = s'.np + s'.ne := by
  rw [f.np_eq, f.ne_eq, f.n_eq]; exact hn

/-- **what a helper does between two `Fixed` operations**, on the qubits in `A`: gates on one column of the tableau recorded as the
    one-qubit wrapper whose forward action undoes them, or a CNOT between two emitters on the tableau and in the circuit -/
inductive Quiet (A : Nat → Prop) (s : St) : St → Prop
  | refl : Quiet A s s
  | wrap {a a' : St} (q : Nat) (gl : List Gate) (gs : List Gen) : Quiet A s a → A q → q < a.t.n → (∀ G, G ∈ gl → G.cols = [q]) →
      (∀ n x, EqOn n (actW q gs (actCirc gl x)) x) → addOneQubit { a with t := a.t.gates gl } gs q = .ok a' → Quiet A s a'
  | cnot {a : St} (c t : Nat) : Quiet A s a → c < a.ne → t < a.ne → c ≠ t → A (a.np + c) → A (a.np + t) →
      Quiet A s (addEmitterCnot a c t)

namespace Quiet
variable {A : Nat → Prop} {s s' : St}

theorem trans {s'' : St} (h1 : Quiet A s s') (h2 : Quiet A s' s'') : Quiet A s s'' := by
  induction h2 with
  | refl => exact h1
  | wrap q gl gs _ hA hq hgl hu ha ih => exact .wrap q gl gs ih hA hq hgl hu ha
  | cnot c t _ hc ht hct h1 h2 ih => exact .cnot c t ih hc ht hct h1 h2

theorem mono {B : Nat → Prop} (hAB : ∀ c, A c → B c) (h : Quiet A s s') : Quiet B s s' := by
  induction h with
  | refl => exact .refl
  | wrap q gl gs _ hA hq hgl hu ha ih => exact .wrap q gl gs ih (hAB q hA) hq hgl hu ha
  | cnot c t _ hc ht hct h1 h2 ih => exact .cnot c t ih hc ht hct (hAB _ h1) (hAB _ h2)

theorem keeps (h : Quiet A s s') : Frame s s' [] := by
  induction h with
  | refl => exact ⟨rfl, rfl, rfl, rfl⟩
  | @wrap a a' q gl gs _ _ _ _ _ ha ih =>
    have k := keeps_addOneQubit _ a' gs q ha
    refine ⟨k.np_eq.trans ih.np_eq, k.ne_eq.trans ih.ne_eq, ?_, k.fixed.trans ih.ops⟩
    rw [(addOneQubit_t _ a' gs q ha).1]
    exact (gates_n a.t gl).trans ih.n_eq
  | @cnot a c t _ _ _ _ _ _ ih =>
    have k := keeps_addEmitterCnot a c t
    exact ⟨k.np_eq.trans ih.np_eq, k.ne_eq.trans ih.ne_eq, ih.n_eq, k.fixed.trans ih.ops⟩

theorem via (h : Quiet A s s') (hn : s.t.n = s.np + s.ne) : GVia A s.t s'.t := by
  induction h with
  | refl => exact GVia.refl
  | @wrap a a' q gl gs _ hA hq hgl _ ha ih =>
    rw [(addOneQubit_t _ a' gs q ha).1]
    exact ih.trans ((gates_via q gl hgl a.t hq).mono (fun c (hc : c = q) => hc ▸ hA))
  | @cnot a c t h hc ht hct h1 h2 ih =>
    refine GVia.gate _ ih ?_ (fun c' hc' => ?_)
    · show a.np + c < a.t.n ∧ a.np + t < a.t.n ∧ a.np + c ≠ a.np + t
      rw [h.keeps.n_eq, hn, h.keeps.np_eq]
      have := h.keeps.ne_eq
      omega
    · simp only [Gate.cols, List.mem_cons, List.not_mem_nil, or_false] at hc'
      rcases hc' with e | e <;> rw [e] <;> assumption

theorem inv (h : Quiet A s s') {np ne : Nat} {T0 : PSet} (hi : Inv np ne T0 s) : Inv np ne T0 s' := by
  induction h with
  | refl => exact hi
  | @wrap a a' q gl gs _ _ hq hgl hu ha ih =>
    obtain ⟨g1, e1⟩ := gates_spn gl a.t (fun G hG => G.wf_of_cols _ q hq (hgl G hG)) ih.good
    exact inv_wrap np ne T0 a a' (a.t.gates gl) gs q (actCirc gl) ih (ih.n_eq ▸ hq) (gates_n a.t gl) g1 (ih.n_eq ▸ e1) (hu _) ha
  | cnot c t _ hc ht hct _ _ ih => exact inv_addEmitterCnot np ne T0 _ c t ih (ih.ne_eq ▸ hc) (ih.ne_eq ▸ ht) hct

/-- `_add_one_qubit_gate` first and the gate on the tableau afterwards, as `_add_gates_from_str` does it -/
theorem wrapThenGate {a a1 : St} (q : Nat) (G : Gate) (gs : List Gen) (h : Quiet A s a) (hA : A q)
    (hq : q < a.t.n) (hG : G.cols = [q]) (hu : ∀ n x, EqOn n (actW q gs (G.act x)) x) (h1 : addOneQubit a gs q = .ok a1) :
    Quiet A s (a1.gate G) := by
  have e : a1.gate G = { a1 with t := a.t.gates [G] } := by
    show ({ a1 with t := (a1.t.applyGate G).norm } : St) = _
    rw [(addOneQubit_t a a1 gs q h1).1]; rfl
  rw [e]
  exact .wrap q [G] gs h hA hq (by simpa using hG) hu (addOneQubit_setT a (a.t.gates [G]) gs q a1 h1)

theorem cnotAt {a : St} (np c t : Nat) (h : Quiet A s a) (hnp : a.np = np) (hn : a.t.n = a.np + a.ne) (hc : np ≤ c) (ht : np ≤ t)
    (hcn : c < a.t.n) (htn : t < a.t.n) (hct : c ≠ t) (hAc : A c) (hAt : A t) : Quiet A s (addEmitterCnot a (c - np) (t - np)) := by
  subst hnp
  have e1 : a.np + (c - a.np) = c := Nat.add_sub_cancel' hc
  have e2 : a.np + (t - a.np) = t := Nat.add_sub_cancel' ht
  exact .cnot _ _ h (Nat.sub_lt_left_of_lt_add hc (hn ▸ hcn)) (Nat.sub_lt_left_of_lt_add ht (hn ▸ htn))
    (fun e => hct (by rw [← e1, ← e2, e])) (e1.symm ▸ hAc) (e2.symm ▸ hAt)

end Quiet

/-- `H` on the emitter, the recorded measure-and-reset, `CNOT(emitter → photon)`: the end of `_time_reversed_measurement` -/
def mcrStep (a : St) (e p : Nat) : St :=
  ({ a.gate (.H (a.np + e)) with circ := .mcr e p :: a.circ } : St).gate (.CNOT (a.np + e) p)

/-- the recorded emission and `CNOT(emitter → photon)` -/
def emitStep (a : St) (e p : Nat) : St := ({ a with circ := .emit e p :: a.circ } : St).gate (.CNOT (a.np + e) p)

theorem emitStep_fixed (a : St) (e p : Nat) : Frame a (emitStep a e p) [.emit e p] := ⟨rfl, rfl, gate_n _ _, rfl⟩

theorem mcrStep_fixed (a : St) (e p : Nat) : Frame a (mcrStep a e p) [.mcr e p] := by
  unfold mcrStep
  exact ⟨(gate_np _ _).trans (gate_np a (.H (a.np + e))), (gate_ne _ _).trans (gate_ne a (.H (a.np + e))),
    (gate_n _ _).trans (gate_n a (.H (a.np + e))), rfl⟩

/-- **everything the solver does**, on the qubits in `A`; `fx` lists the `Fixed` operations recorded on the way (latest first).  A
    measure-and-reset is recorded for an emitter that is in `+Z` (as soon as the tableau is a real commuting one: the generator singled
    out for it is `Z` on the emitter up to its `i`-phase bit). -/
inductive Steps (A : Nat → Prop) (s : St) : List SOp → St → Prop
  | refl : Steps A s [] s
  | tab {a : St} {fx : List SOp} (t' : STab) : Steps A s fx a → COps a.t t' → Steps A s fx { a with t := t' }
  | quiet {a a' : St} {fx : List SOp} : Steps A s fx a → Quiet A a a' → Steps A s fx a'
  | emit {a : St} {fx : List SOp} (e p : Nat) : Steps A s fx a → e < a.ne → p < a.np → A p → A (a.np + e) →
      Steps A s (.emit e p :: fx) (emitStep a e p)
  | mcr {a : St} {fx : List SOp} (e p : Nat) : Steps A s fx a → e < a.ne → p < a.np → A p → A (a.np + e) →
      (a.t.Good → a.t.Spn (Zq (a.np + e))) → Steps A s (.mcr e p :: fx) (mcrStep a e p)

namespace Steps
variable {A : Nat → Prop} {s s' : St} {fx : List SOp}

theorem mono {B : Nat → Prop} (hAB : ∀ c, A c → B c) (h : Steps A s fx s') : Steps B s fx s' := by
  induction h with
  | refl => exact .refl
  | tab t' _ o ih => exact .tab t' ih o
  | quiet _ q ih => exact .quiet ih (q.mono hAB)
  | emit e p _ he hp h1 h2 ih => exact .emit e p ih he hp (hAB _ h1) (hAB _ h2)
  | mcr e p _ he hp h1 h2 hZ ih => exact .mcr e p ih he hp (hAB _ h1) (hAB _ h2) hZ

theorem trans {s'' : St} {fx' : List SOp} (h1 : Steps A s fx s') (h2 : Steps A s' fx' s'') : Steps A s (fx' ++ fx) s'' := by
  induction h2 with
  | refl => exact h1
  | tab t' _ o ih => exact .tab t' ih o
  | quiet _ q ih => exact .quiet ih q
  | emit e p _ he hp hA hE ih => exact .emit e p ih he hp hA hE
  | mcr e p _ he hp hA hE hZ ih => exact .mcr e p ih he hp hA hE hZ

theorem fixed (h : Steps A s fx s') : Frame s s' fx := by
  induction h with
  | refl => exact ⟨rfl, rfl, rfl, rfl⟩
  | tab t' _ o ih => exact ⟨ih.np_eq, ih.ne_eq, o.n_eq.trans ih.n_eq, ih.ops⟩
  | quiet _ q ih =>
    have k := q.keeps
    exact ⟨k.np_eq.trans ih.np_eq, k.ne_eq.trans ih.ne_eq, k.n_eq.trans ih.n_eq, k.ops.trans ih.ops⟩
  | @emit a fx e p _ _ _ _ _ ih =>
    have f := emitStep_fixed a e p
    exact ⟨f.np_eq.trans ih.np_eq, f.ne_eq.trans ih.ne_eq, f.n_eq.trans ih.n_eq, f.ops.trans (congrArg (List.cons (SOp.emit e p)) ih.ops)⟩
  | @mcr a fx e p _ _ _ _ _ _ ih =>
    have f := mcrStep_fixed a e p
    exact ⟨f.np_eq.trans ih.np_eq, f.ne_eq.trans ih.ne_eq, f.n_eq.trans ih.n_eq, f.ops.trans (congrArg (List.cons (SOp.mcr e p)) ih.ops)⟩

/-- **soundness of every run**: a measure-and-reset is recorded for an emitter in `+Z`, which it measures and resets back to -/
theorem inv (h : Steps A s fx s') {np ne : Nat} {T0 : PSet} (hi : Inv np ne T0 s) : Inv np ne T0 s' := by
  induction h with
  | refl => exact hi
  | tab t' _ o ih => exact inv_spanEq np ne T0 _ t' ih (o.spanEq ih.good).1 (o.spanEq ih.good).2
  | quiet _ q ih => exact q.inv ih
  | @emit a fx e p _ he hp _ _ ih =>
    have e1 := ih.np_eq
    subst e1
    exact inv_emit a.np ne T0 a e p ih (ih.ne_eq ▸ he) hp
  | @mcr a fx e p _ he hp _ _ hZ ih =>
    have e1 := ih.np_eq
    subst e1
    exact inv_mcr a.np ne T0 a e p ih (ih.ne_eq ▸ he) hp (hZ ih.good)

end Steps

/-! ### the helpers -/

theorem changeToZ_quiet {A : Nat → Prop} (s s' : St) (row q : Nat) (hA : A q) (hq : q < s.t.n)
    (h : addOneQubit (changeToZ s row q).1 (changeToZ s row q).2 q = .ok s') : Quiet A s s' := by
  rcases changeToZ_cases s row q with e | e | e <;> rw [e] at h
  · exact .wrap q [.H q] [.H] .refl hA hq (by simp [Gate.cols]) (fun n x => undo_H n q x) h
  · refine .wrap q [.Pdag q, .H q] [.P, .H] .refl hA hq (by simp [Gate.cols]) (fun n x => ?_) h
    show EqOn n (actW q [Gen.P, Gen.H] (PRow.h q (PRow.sdg q x))) x
    rw [h_eq_lift, sdg_eq_lift, lift_comp]; exact table_undo n q _ (tH.comp tSdg) (by decide) x
  · exact .wrap q [] [] .refl hA hq (by simp) (fun n x => EqOn.refl _ _) h

theorem allEmittersToZ_quiet (s s' : St) (g : Nat) (skip : Bool) (hn : s.t.n = s.np + s.ne)
    (h : allEmittersToZ s g skip = .ok s') : Quiet (fun c => s.np ≤ c) s s' := by
  unfold allEmittersToZ at h
  refine Loop.foldlM_inv (Quiet (fun c => s.np ≤ c) s) (fun a i a' hi qa ha => qa.trans ?_) .refl h
  have hq : a.np + i < a.t.n := by
    rw [qa.keeps.n_eq, qa.keeps.np_eq, hn]; exact Nat.add_lt_add_left (List.mem_range.mp hi) s.np
  simp only at ha
  split at ha
  · next hsk =>
    injection ha with ha; rw [← ha]
    rcases changeToZ_cases a g (a.np + i) with e | e | e <;> rw [e] at hsk ⊢ <;> simp at hsk ⊢
    exact .refl
  · exact changeToZ_quiet a a' g _ (by show s.np ≤ a.np + i; rw [qa.keeps.np_eq]; exact Nat.le_add_right _ _) hq ha

theorem transformGeneratorEmitters_quiet (s s' : St) (g tgt : Nat) (ht : tgt < s.ne)
    (h : transformGeneratorEmitters s g tgt = .ok s') : Quiet (fun c => s.np ≤ c) s s' := by
  unfold transformGeneratorEmitters at h
  split at h
  · injection h with h; rw [← h]; exact .refl
  · split at h
    · cases h
    · injection h with h; rw [← h]
      refine Loop.foldl_inv (Quiet (fun c => s.np ≤ c) s) (fun a c hc qa => ?_) .refl
      simp only [List.mem_filter, List.mem_range, decide_eq_true_eq] at hc
      have k := qa.keeps.toKeeps
      exact .cnot c tgt qa (k.ne_eq ▸ hc.1.1) (k.ne_eq ▸ ht) hc.2 (by rw [k.np_eq]; exact Nat.le_add_right _ _) (by rw [k.np_eq]; exact Nat.le_add_right _ _)

theorem fixSign_quiet (s s' : St) (g e : Nat) (hq : s.np + e < s.t.n) (h : fixSign s g e = .ok s') :
    Quiet (fun c => s.np ≤ c) s s' := by
  unfold fixSign at h
  split at h
  · exact .wrap (s.np + e) [.X (s.np + e)] [.X] .refl (Nat.le_add_right ..) hq (by simp [Gate.cols]) (fun n x => undo_X n _ x) h
  · injection h with h; rw [← h]; exact .refl

theorem singleOut_quiet (s s1 s2 s3 : St) (g e : Nat) (hn : s.t.n = s.np + s.ne) (he : e < s.ne) (skip : Bool)
    (h1 : allEmittersToZ s g skip = .ok s1) (h2 : transformGeneratorEmitters s1 g e = .ok s2) (h3 : fixSign s2 g e = .ok s3) :
    Quiet (fun c => s.np ≤ c) s s3 := by
  have q1 := allEmittersToZ_quiet s s1 g skip hn h1
  have k1 := q1.keeps
  have q2 := transformGeneratorEmitters_quiet s1 s2 g e (k1.ne_eq ▸ he) h2
  rw [k1.np_eq] at q2
  have k2 := (q1.trans q2).keeps
  have q3 := fixSign_quiet s2 s3 g e (by rw [k2.n_eq, k2.np_eq, hn]; exact Nat.add_lt_add_left he s.np) h3
  rw [k2.np_eq] at q3
  exact (q1.trans q2).trans q3

theorem wrapOf_spec (g : Gate) (q : Nat) (gs : List Gen) (h : wrapOf g = some (q, gs)) :
    g.cols = [q] ∧ (∀ n, g.WF n → q < n) ∧ ∀ n x, EqOn n (actW q gs (g.act x)) x := by
  cases g <;> cases h
  · exact ⟨rfl, fun _ h => h, fun n x => undo_H n _ x⟩
  · exact ⟨rfl, fun _ h => h, fun n x => undo_P n _ x⟩
  · exact ⟨rfl, fun _ h => h, fun n x => undo_X n _ x⟩

theorem gateStep_quiet (acc a' : St) (g : Gate) (hn : acc.t.n = acc.np + acc.ne) (hg : g.WF acc.t.n)
    (h : gateStep acc g = .ok a') : Quiet (fun c => c ∈ g.cols) acc a' := by
  rcases gateStep_of_ok acc a' g h with ⟨q, gs, a1, hw, h1, rfl⟩ | ⟨c, t, rfl, hc, ht, rfl⟩ | ⟨c, t, a1, a3, rfl, hc, ht, h1, h3, rfl⟩
  · obtain ⟨hcols, hq, hu⟩ := wrapOf_spec g q gs hw
    exact Quiet.wrapThenGate q g gs .refl (hcols ▸ List.mem_singleton_self q) (hq _ hg) hcols hu h1
  · exact Quiet.cnotAt acc.np c t .refl rfl hn hc ht hg.1 hg.2.1 hg.2.2 List.mem_cons_self (List.mem_cons_of_mem _ List.mem_cons_self)
  · have hA : t ∈ (Gate.CZ c t).cols := List.mem_cons_of_mem _ List.mem_cons_self
    have q1 : Quiet (fun x => x ∈ (Gate.CZ c t).cols) acc (a1.gate (.H t)) :=
      Quiet.wrapThenGate t (.H t) [.H] .refl hA hg.2.1 rfl (fun n x => undo_H n t x) h1
    have k1 := q1.keeps
    have q2 := q1.cnotAt acc.np c t k1.np_eq (k1.size hn) hc ht (k1.n_eq ▸ hg.1) (k1.n_eq ▸ hg.2.1) hg.2.2
      List.mem_cons_self hA
    exact Quiet.wrapThenGate t (.H t) [.H] q2 hA (by rw [q2.keeps.n_eq]; exact hg.2.1) rfl (fun n x => undo_H n t x) h3

theorem addGatesFromStr_quiet {A : Nat → Prop} (s s' : St) (gl : List Gate) (hn : s.t.n = s.np + s.ne)
    (hgl : ∀ g, g ∈ gl → g.WF s.t.n ∧ ∀ c, c ∈ g.cols → A c) (h : addGatesFromStr s gl = .ok s') : Quiet A s s' := by
  refine Loop.foldlM_inv (Quiet A s) (fun a g a' hg qa ha => qa.trans ?_) .refl h
  have k := qa.keeps
  exact (gateStep_quiet a a' g (k.size hn) (k.n_eq ▸ (hgl g hg).1) ha).mono (hgl g hg).2

theorem signLoop_quiet (s s' : St) (hn : s.t.n = s.np + s.ne)
    (h : (List.range s.ne).foldlM (fun (acc : St) i =>
      if (acc.t.row (s.np + i)).r then addOneQubit (acc.gate (.X (s.np + i))) [.X] (s.np + i) else .ok acc) s = .ok s') :
    Quiet (fun c => s.np ≤ c) s s' := by
  refine Loop.foldlM_inv (Quiet (fun c => s.np ≤ c) s) (fun a i a' hi qa ha => qa.trans ?_) .refl h
  split at ha
  · have hi := List.mem_range.mp hi
    exact .wrap (s.np + i) [.X (s.np + i)] [.X] .refl (Nat.le_add_right ..) (by rw [qa.keeps.n_eq, hn]; exact Nat.add_lt_add_left hi s.np) (by simp [Gate.cols])
      (fun n x => undo_X n _ x) ha
  · injection ha with ha; rw [← ha]; exact .refl

/-- **`_time_reversed_measurement`, every returning run**: helpers on the emitters that bring the chosen generator to `Z` on the chosen
    emitter, then the measure-and-reset -/
theorem timeReversedMeasurement_spec (s s' : St) (p : Nat) (hn : s.t.n = s.np + s.ne)
    (h : timeReversedMeasurement s p = .ok s') :
    ∃ e s3, Quiet (fun c => s.np ≤ c) s s3 ∧ e < s.ne ∧ (s3.t.Good → s3.t.Spn (Zq (s3.np + e))) ∧ s' = mcrStep s3 e p := by
  obtain ⟨g, gs, e, es, s1, s2, s3, hcands, hem, h1, h2, h3, rfl⟩ := (timeReversedMeasurement_ok_iff s s' p).1 h
  have hgm : g ∈ (List.range s.t.n).filter fun i => (List.range s.np).all fun j => !(s.t.row i).x j && !(s.t.row i).z j := by
    rw [hcands]; exact List.mem_cons_self
  simp only [List.mem_filter, List.mem_range, List.all_eq_true, Bool.and_eq_true, Bool.not_eq_true'] at hgm
  have hee : e ∈ emitterIndices s g := by rw [hem]; exact List.mem_cons_self
  have he : e < s.ne := by
    have := hee
    simp only [emitterIndices, List.mem_filter, List.mem_range] at this
    exact this.1
  have q := singleOut_quiet s s1 s2 s3 g e hn he true h1 h2 h3
  have hn3 := q.keeps.n_eq
  have hp3 := q.keeps.np_eq
  refine ⟨e, s3, q, he, fun hg3 => ?_, by rw [mcrStep, hp3]⟩
  have hrow := singleOut_row s s1 s2 s3 g e hn hgm.1 (hg3.real g (hn3 ▸ hgm.1)) (fun j hj => hgm.2 j hj) hee h1 h2 h3
  refine InSpan.eqv _ _ (spn_gen s3.t g (by rw [hn3]; exact hgm.1)) ?_
  rw [hn3, hn, hp3]; exact hrow

theorem zs_sorted (n : Nat) (p1 p2 : Nat → Bool) : (((List.range n).filter p1).filter p2).Pairwise (· < ·) :=
  (List.pairwise_lt_range.filter _).filter _

/-- **`_add_photon_absorption`, every returning run**: helpers on the photon and the emitters, the emission, then the row products —
    witnessed by the photon's column, where the chosen generator still has the `Z` that `_change_pauli_type` put there -/
theorem addPhotonAbsorption_spec (s s' : St) (p : Nat) (hn : s.t.n = s.np + s.ne) (hp : p < s.np)
    (h : addPhotonAbsorption s p = .ok s') :
    ∃ e s4 t', Quiet (fun c => c = p ∨ s.np ≤ c) s s4 ∧ e < s.ne ∧ COps (emitStep s4 e p).t t' ∧
      s' = { emitStep s4 e p with t := t' } := by
  obtain ⟨g, s1, e, es, s2, s3, s4, s6, hsel, h1, hem, h2, h3, h4, rfl, rfl⟩ := (addPhotonAbsorption_ok_iff s s' p).1 h
  have hgm := List.mem_of_mem_head? hsel
  simp only [List.mem_filter, List.mem_reverse, List.mem_range, beq_iff_eq] at hgm
  obtain ⟨hq, _, hnt⟩ := leftmost_some s.t g p hgm.2
  have q0 : Quiet (fun c => c = p ∨ s.np ≤ c) s s1 := changeToZ_quiet s s1 g p (Or.inl rfl) hq h1
  have k0 := q0.keeps
  have hn1 : s1.t.n = s1.np + s1.ne := k0.size hn
  have he : e < s1.ne := by
    have : e ∈ emitterIndices s1 g := by rw [hem]; exact List.mem_cons_self
    simp only [emitterIndices, List.mem_filter, List.mem_range] at this
    exact this.1
  have q14 := singleOut_quiet s1 s2 s3 s4 g e hn1 he false h2 h3 h4
  have k4 := q14.keeps
  -- the `Z` of generator `g` on the photon: put there by `_change_pauli_type`, untouched by the gates on the emitters
  have hz4 : (s4.t.row g).z p = true := by
    rw [((q14.via hn1).bits_off g p (k0.n_eq ▸ hgm.1) (k0.n_eq ▸ hq) (by show ¬ s1.np ≤ p; rw [k0.np_eq]; exact Nat.not_le_of_lt hp)).2,
      (addOneQubit_t _ s1 _ p h1).1, (changeToZ_row s g p hgm.1 hq).2.2.2.2.1]
    exact ptype_ne_zero_bits _ _ hnt
  have hn4 : s4.t.n = s.t.n := k4.n_eq.trans k0.n_eq
  have hnp4 : s4.np = s.np := k4.np_eq.trans k0.np_eq
  have hE : emitStep s4 e p = ({ s4 with circ := SOp.emit e p :: s4.circ } : St).gate (.CNOT (s.np + e) p) := by
    rw [← hnp4]; rfl
  rw [k0.np_eq] at q14
  refine ⟨e, s4, _, q0.trans (q14.mono (fun c hc => Or.inr hc)), k0.ne_eq ▸ he, ?_, by rw [hE]⟩
  rw [hE]
  have hz6 : ((({ s4 with circ := SOp.emit e p :: s4.circ } : St).gate (.CNOT (s.np + e) p)).t.row g).z p = true := by
    rw [gateCNOT_z _ _ _ g p (hn4 ▸ hgm.1) (hn4 ▸ hq), if_neg (Nat.ne_of_lt (Nat.lt_of_lt_of_le hp (Nat.le_add_right _ _)))]; exact hz4
  apply COps.norm
  apply COps.foldl_sum g p (hn4 ▸ hgm.1) (hn4 ▸ hq) _ (zs_sorted _ _ _)
  · intro i hi
    simp only [List.mem_filter, List.mem_range, decide_eq_true_eq] at hi
    exact ⟨hi.1.1, fun h => hi.2 h.symm⟩
  · exact ptype_ne_zero_of_bit _ g p (Or.inr hz6)
  · intro i hi
    simp only [List.mem_filter, List.mem_range, decide_eq_true_eq] at hi
    rw [hi.1.2]; decide
  · exact COps.refl

theorem timeReversedMeasurement_steps (s s' : St) (p : Nat) (hn : s.t.n = s.np + s.ne) (hp : p < s.np)
    (h : timeReversedMeasurement s p = .ok s') : ∃ e, Steps (fun c => c = p ∨ s.np ≤ c) s [.mcr e p] s' := by
  obtain ⟨e, s3, q, he, hZ, rfl⟩ := timeReversedMeasurement_spec s s' p hn h
  have k := q.keeps.toKeeps
  exact ⟨e, .mcr e p (.quiet .refl (q.mono (fun c hc => Or.inr hc))) (k.ne_eq ▸ he) (k.np_eq ▸ hp) (Or.inl rfl)
    (Or.inr (by rw [k.np_eq]; exact Nat.le_add_right _ _)) hZ⟩

theorem addPhotonAbsorption_steps (s s' : St) (p : Nat) (hn : s.t.n = s.np + s.ne) (hp : p < s.np)
    (h : addPhotonAbsorption s p = .ok s') : ∃ e, Steps (fun c => c = p ∨ s.np ≤ c) s [.emit e p] s' := by
  obtain ⟨e, s4, t', q, he, o, rfl⟩ := addPhotonAbsorption_spec s s' p hn hp h
  have k := q.keeps.toKeeps
  exact ⟨e, .tab t' (.emit e p (.quiet .refl q) (k.ne_eq ▸ he) (k.np_eq ▸ hp) (Or.inl rfl) (Or.inr (by rw [k.np_eq]; exact Nat.le_add_right _ _))) o⟩

/-! ### the photon loop -/

/-- the `Fixed` operations of one round (latest first): the emission of photon `p`, after a measure-and-reset onto `p` or not -/
inductive RoundFx (p : Nat) : List SOp → Prop
  | plain (e : Nat) : RoundFx p [.emit e p]
  | meas (e e' : Nat) : RoundFx p [.emit e p, .mcr e' p]

inductive LoopFx : List Nat → List SOp → Prop
  | nil : LoopFx [] []
  | cons {j : Nat} {js : List Nat} {fx fxr : List SOp} : RoundFx (j - 1) fx → LoopFx js fxr → LoopFx (j :: js) (fxr ++ fx)

theorem LoopFx.emits {js : List Nat} {fx : List SOp} (h : LoopFx js fx) (p : Nat) : fx.countP (isEmit p) = absorbs p js := by
  induction h with
  | nil => rfl
  | @cons j js fx fxr hr _ ih =>
    rw [List.countP_append, ih, absorbs, absorbs, List.countP_cons]
    cases hr <;> by_cases e : j - 1 = p <;> simp [isEmit, e]

/-- **one round, every returning run**: `rref`, a time-reversed measurement onto photon `p = j - 1` followed by `rref` or not, then the
    absorption of `p` — helpers, the emission, row products -/
theorem photonRound_spec (s s' : St) (j : Nat) (hn : s.t.n = s.np + s.ne) (hj : 1 ≤ j ∧ j ≤ s.np) (h : photonRound s j = .ok s') :
    ∃ fx e s4 t', Steps (fun c => c = j - 1 ∨ s.np ≤ c) s fx s4 ∧ RoundFx (j - 1) (.emit e (j - 1) :: fx) ∧ e < s.ne ∧
      COps (emitStep s4 e (j - 1)).t t' ∧ s' = { emitStep s4 e (j - 1) with t := t' } := by
  obtain ⟨t1, brs, _, s3, h1, _, h3, h4⟩ := (photonRound_ok_iff s s' j).1 h
  have hj1 : j - 1 < s.np := Nat.lt_of_lt_of_le (Nat.sub_lt hj.1 Nat.one_pos) hj.2
  have o1 := rref_cops s.t t1 brs h1
  have st1 : Steps (fun c => c = j - 1 ∨ s.np ≤ c) s [] { s with t := t1 } := .tab t1 .refl o1
  obtain ⟨fx3, st3, hfx3⟩ : ∃ fx, Steps (fun c => c = j - 1 ∨ s.np ≤ c) s fx s3 ∧ ∀ e, RoundFx (j - 1) (.emit e (j - 1) :: fx) := by
    rcases h3 with ⟨_, rfl⟩ | ⟨_, s2, t2, b2, h2, hr2, rfl⟩
    · exact ⟨_, st1, fun e => .plain e⟩
    · obtain ⟨e', st2⟩ := timeReversedMeasurement_steps { s with t := t1 } s2 (j - 1) (o1.n_eq.trans hn) hj1 h2
      exact ⟨_, .tab t2 (st1.trans st2) (rref_cops s2.t t2 b2 hr2), fun e => .meas e e'⟩
  have f3 := st3.fixed
  obtain ⟨e, s4, t', q, he, o, rfl⟩ := addPhotonAbsorption_spec s3 s' (j - 1) (f3.size hn)
    (by rw [f3.np_eq]; exact hj1) h4
  rw [f3.np_eq] at q
  exact ⟨fx3, e, s4, t', st3.quiet q, hfx3 e, f3.ne_eq ▸ he, o, rfl⟩

theorem photonRound_steps (s s' : St) (j : Nat) (hn : s.t.n = s.np + s.ne) (hj : 1 ≤ j ∧ j ≤ s.np) (h : photonRound s j = .ok s') :
    ∃ fx, Steps (fun c => c = j - 1 ∨ s.np ≤ c) s fx s' ∧ RoundFx (j - 1) fx := by
  obtain ⟨fx, e, s4, t', st, hfx, he, o, rfl⟩ := photonRound_spec s s' j hn hj h
  have f := st.fixed
  exact ⟨_, .tab t' (.emit e (j - 1) st (f.ne_eq ▸ he) (by rw [f.np_eq]; exact Nat.lt_of_lt_of_le (Nat.sub_lt hj.1 Nat.one_pos) hj.2) (Or.inl rfl)
    (Or.inr (by rw [f.np_eq]; exact Nat.le_add_right _ _))) o, hfx⟩

theorem photonLoop_steps (js : List Nat) (s s' : St) (hn : s.t.n = s.np + s.ne)
    (hjs : ∀ j, j ∈ js → 1 ≤ j ∧ j ≤ s.np) (h : photonLoop s js = .ok s') :
    ∃ fx, Steps (fun _ => True) s fx s' ∧ LoopFx js fx := by
  induction js generalizing s with
  | nil => simp only [photonLoop] at h; injection h with h; rw [← h]; exact ⟨[], .refl, .nil⟩
  | cons j rest ih =>
    rw [photonLoop_cons] at h
    cases hr : photonRound s j with
    | error e => rw [hr] at h; cases h
    | ok s4 =>
      rw [hr] at h
      obtain ⟨fx1, st1, hfx1⟩ := photonRound_steps s s4 j hn (hjs j List.mem_cons_self) hr
      have f := st1.fixed
      obtain ⟨fx, st, hfx⟩ := ih s4 (f.size hn)
        (fun j' hj' => f.np_eq ▸ hjs j' (List.mem_cons_of_mem _ hj')) h
      exact ⟨_, (st1.mono (fun _ _ => trivial)).trans st, .cons hfx1 hfx⟩

/-! ### `solve` -/

theorem solveLoop_steps (target : STab) (ne : Nat) (s1 : St)
    (h : photonLoop { np := target.n, ne := ne, t := withEmitters target ne, circ := [] }
      ((List.range target.n).reverse.map (· + 1)) = .ok s1) :
    ∃ fx, Steps (fun _ => True) { np := target.n, ne := ne, t := withEmitters target ne, circ := [] } fx s1 ∧
      LoopFx ((List.range target.n).reverse.map (· + 1)) fx := by
  refine photonLoop_steps _ _ s1 (withEmitters_n target ne) (fun j hj => ?_) h
  simp only [List.mem_map, List.mem_reverse, List.mem_range] at hj
  obtain ⟨a, ha, e⟩ := hj
  show 1 ≤ j ∧ j ≤ target.n
  omega

theorem solve_emits_each_photon_once (target : STab) (s : St) (h : solve target = .ok s) :
    s.np = target.n ∧ ∀ p, emitCount p s.circ = if p < target.n then 1 else 0 := by
  obtain ⟨ne, s1, _, h1, k⟩ := solve_keeps target s h
  obtain ⟨fx, st, hfx⟩ := solveLoop_steps target ne s1 h1
  refine ⟨k.np_eq.trans st.fixed.np_eq, fun p => ?_⟩
  rw [k.emits p, emitCount_fixedOps, st.fixed.ops, List.countP_append, hfx.emits p, absorbs_loop]
  rfl

theorem solve_emitter_count (target : STab) (s : St) (h : solve target = .ok s) :
    determineNEmitters target = .ok s.ne := by
  obtain ⟨ne, s1, h0, h1, k⟩ := solve_keeps target s h
  obtain ⟨fx, st, _⟩ := solveLoop_steps target ne s1 h1
  rw [h0, k.ne_eq.trans st.fixed.ne_eq]

/-- **`solve`, every returning run on a real commuting target**: everything it did, from `target ⊗ |0…0⟩` and the empty circuit (for the
    replay, that `inverse_circuit` emits well-formed gates is known from its tracking invariant, which needs a real commuting tableau) -/
theorem solve_steps (target : STab) (hg : target.Good) (s : St) (h : solve target = .ok s) :
    ∃ fx, Steps (fun _ => True) { np := target.n, ne := s.ne, t := withEmitters target s.ne, circ := [] } fx s ∧
      LoopFx ((List.range target.n).reverse.map (· + 1)) fx := by
  obtain ⟨ne, s1, t2, b, tz, inv, s3, h0, h1, h2, h3, h4, h5, _⟩ := (solve_ok_iff target s).1 h
  have hne := solve_emitter_count target s h
  rw [h0] at hne
  injection hne with hne
  subst hne
  obtain ⟨g0, n0⟩ := withEmitters_good target hg s.ne
  obtain ⟨fx, st1, hfx⟩ := solveLoop_steps target s.ne s1 h1
  have o2 := rref_cops s1.t t2 b h2
  have st2 := Steps.tab t2 st1 o2
  have f2 := st2.fixed
  have i2 : Inv target.n s.ne (withEmitters target s.ne).Spn { s1 with t := t2 } := st2.inv ⟨rfl, rfl, n0, g0, rfl⟩
  obtain ⟨_, _, hwf, _, _⟩ := inverseCircuit_tracks t2 tz inv i2.good h3
  have hn2 : t2.n = s1.np + s1.ne := by rw [f2.np_eq, f2.ne_eq]; exact f2.n_eq.trans n0
  have q3 : Quiet (fun _ => True) { s1 with t := t2 } s3 :=
    addGatesFromStr_quiet _ s3 inv hn2 (fun g hgm => ⟨hwf g hgm, fun _ _ => trivial⟩) h4
  have k3 := q3.keeps
  have e3 : s3.np = target.n ∧ s3.ne = s.ne := ⟨k3.np_eq.trans f2.np_eq, k3.ne_eq.trans f2.ne_eq⟩
  rw [← e3.1, ← e3.2] at h5
  have q5 := signLoop_quiet s3 s (k3.size hn2) h5
  exact ⟨fx, (st2.quiet q3).quiet (q5.mono (fun _ _ => trivial)), hfx⟩

/-- **the invariant holds for what `solve` returns**: with `np = target.n` photons and `ne = s.ne` emitters, the recorded circuit run
    forwards from the group of the final working tableau generates exactly the group of `target ⊗ |0…0⟩` -/
theorem solve_inv (target : STab) (hg : target.Good) (s : St) (h : solve target = .ok s) :
    Inv target.n s.ne (withEmitters target s.ne).Spn s := by
  obtain ⟨fx, st, _⟩ := solve_steps target hg s h
  obtain ⟨g0, n0⟩ := withEmitters_good target hg s.ne
  exact st.inv ⟨rfl, rfl, n0, g0, rfl⟩

end Solver
end Graphiq
