/-
  Proofs/Pauli.lean — algebra of signed Pauli rows:
  * the symplectic form is symmetric, alternating and bilinear w.r.t. the row product;
  * each gate map (`h`, `s`, `cnot`, and the derived gates) preserves the symplectic form and is a homomorphism
    for the signed product `mul` (phases included), i.e. it acts as a group automorphism of the Pauli group; for the
    one-qubit gates this is one theorem about every four-entry table that passes a finite check (`lift_isAut`).
-/
import GraphiqModel.Proofs.PauliLocal
import GraphiqModel.Proofs.Bits
namespace Graphiq
namespace PRow

/-! ### phase words -/

theorem toInt'_cases (b : Bool) : Bool.toInt' b = 0 ∨ Bool.toInt' b = 1 := by
  cases b <;> simp [Bool.toInt']

theorem ph_range (a : PRow) : 0 ≤ a.ph ∧ a.ph < 4 := by
  unfold ph
  rcases toInt'_cases a.r with h1 | h1 <;> rcases toInt'_cases a.ip with h2 | h2 <;> omega

theorem ph_inj (a b : PRow) (h : a.ph = b.ph) : a.r = b.r ∧ a.ip = b.ip := by
  unfold ph at h
  cases ha : a.r <;> cases hb : b.r <;> cases hc : a.ip <;> cases hd : b.ip <;>
    simp [ha, hb, hc, hd, Bool.toInt'] at h ⊢

theorem ph_decode (p : Int) (h0 : 0 ≤ p) (h4 : p < 4) :
    2 * Bool.toInt' (decide (p / 2 = 1)) + Bool.toInt' (decide (p % 2 = 1)) = p := by
  have : p = 0 ∨ p = 1 ∨ p = 2 ∨ p = 3 := by omega
  rcases this with h | h | h | h <;> subst h <;> decide

theorem mul_ph (n : Nat) (a b : PRow) : (mul n a b).ph = (a.ph + b.ph + gSum n a b) % 4 := by
  have h0 : 0 ≤ (b.ph + a.ph + gSum n a b) % 4 := Int.emod_nonneg _ (by decide)
  have h4 : (b.ph + a.ph + gSum n a b) % 4 < 4 := Int.emod_lt_of_pos _ (by decide)
  have := ph_decode _ h0 h4
  show 2 * Bool.toInt' (decide ((b.ph + a.ph + gSum n a b) % 4 / 2 = 1))
      + Bool.toInt' (decide ((b.ph + a.ph + gSum n a b) % 4 % 2 = 1)) = _
  rw [this]; congr 1; omega

@[simp] theorem mul_x (n : Nat) (a b : PRow) (j : Nat) : (mul n a b).x j = xor (a.x j) (b.x j) := rfl
@[simp] theorem mul_z (n : Nat) (a b : PRow) (j : Nat) : (mul n a b).z j = xor (a.z j) (b.z j) := rfl

theorem cnot_x (c t : Nat) (p : PRow) (j : Nat) : (cnot c t p).x j = if j = t then xor (p.x j) (p.x c) else p.x j := rfl
theorem cnot_z (c t : Nat) (p : PRow) (j : Nat) : (cnot c t p).z j = if j = c then xor (p.z j) (p.z t) else p.z j := rfl

theorem xg_x (q : Nat) (p : PRow) (j : Nat) : (xg q p).x j = p.x j := by
  unfold xg zg h s
  by_cases e : j = q
  · subst e; simp
  · simp [e]

theorem xg_z (q : Nat) (p : PRow) (j : Nat) : (xg q p).z j = p.z j := by
  unfold xg zg h s
  by_cases e : j = q
  · subst e; simp
  · simp [e]

theorem xg_r (q : Nat) (p : PRow) : (xg q p).r = xor p.r (p.z q) := by
  unfold xg zg h s
  simp
  cases p.r <;> cases p.x q <;> cases p.z q <;> rfl

theorem gFun_xfree (z1 z2 : Bool) : gFun false z1 false z2 = 0 := by cases z1 <;> cases z2 <;> decide

theorem eqOn_of (n : Nat) (a b : PRow) (hb : ∀ j, j < n → a.x j = b.x j ∧ a.z j = b.z j) (hp : a.ph = b.ph) :
    EqOn n a b := ⟨hb, ph_inj a b hp⟩

/-! ### symplectic form -/

theorem sp_comm (n : Nat) (a b : PRow) : sp n a b = sp n b a := by
  unfold sp
  apply parityTo_congr
  intro j _
  cases a.x j <;> cases a.z j <;> cases b.x j <;> cases b.z j <;> rfl

theorem sp_self (n : Nat) (a : PRow) : sp n a a = false := by
  unfold sp
  apply parityTo_zero
  intro j _
  cases a.x j <;> cases a.z j <;> rfl

theorem sp_one_left (n : Nat) (b : PRow) : sp n one b = false := by
  unfold sp; apply parityTo_zero; intro j _; simp [one]

theorem sp_mul_left (n m : Nat) (a b c : PRow) : sp n (mul m a b) c = xor (sp n a c) (sp n b c) := by
  unfold sp
  rw [← parityTo_xor]
  apply parityTo_congr
  intro j _
  simp only [mul_x, mul_z]
  cases a.x j <;> cases a.z j <;> cases b.x j <;> cases b.z j <;> cases c.x j <;> cases c.z j <;> rfl

theorem sp_mul_right (n m : Nat) (a b c : PRow) : sp n c (mul m a b) = xor (sp n c a) (sp n c b) := by
  rw [sp_comm, sp_mul_left, sp_comm n a c, sp_comm n b c]

theorem sp_congr (n : Nat) (a a' b b' : PRow) (ha : SameBits n a a') (hb : SameBits n b b') :
    sp n a b = sp n a' b' := by
  unfold sp
  apply parityTo_congr
  intro j hj
  rw [(ha j hj).1, (ha j hj).2, (hb j hj).1, (hb j hj).2]

theorem sp_Zq (n q : Nat) (a : PRow) (s : Bool) (hq : q < n) : sp n a (Zq q s) = a.x q := by
  unfold sp Zq
  rw [parityTo_congr n _ (fun j => decide (j = q) && a.x j)
     (by intro j _; show xor (a.x j && decide (j = q)) (a.z j && false) = (decide (j = q) && a.x j)
         cases a.x j <;> cases a.z j <;> cases decide (j = q) <;> rfl)]
  exact parityTo_single n q a.x hq

theorem sp_Xq (n q : Nat) (a : PRow) (s : Bool) (hq : q < n) : sp n a (Xq q s) = a.z q := by
  unfold sp Xq
  rw [parityTo_congr n _ (fun j => decide (j = q) && a.z j)
     (by intro j _; show xor (a.x j && false) (a.z j && decide (j = q)) = (decide (j = q) && a.z j)
         cases a.x j <;> cases a.z j <;> cases decide (j = q) <;> rfl)]
  exact parityTo_single n q a.z hq

/-! ### gates preserve the symplectic form -/

/-- the symplectic terms of the control and target sites before and after `cnot`, summed -/
theorem sp_cnot_site (xc1 zc1 xt1 zt1 xc2 zc2 xt2 zt2 : Bool) :
    xor (xor (xor (xc1 && xor zc2 zt2) (xor zc1 zt1 && xc2)) (xor (xc1 && zc2) (zc1 && xc2)))
      (xor (xor (xor xt1 xc1 && zt2) (zt1 && xor xt2 xc2)) (xor (xt1 && zt2) (zt1 && xt2))) = false := by
  revert xc1 zc1 xt1 zt1 xc2 zc2 xt2 zt2
  decide +kernel

theorem sp_cnot (n c t : Nat) (a b : PRow) (hc : c < n) (ht : t < n) (hct : c ≠ t) :
    sp n (cnot c t a) (cnot c t b) = sp n a b := by
  have key : xor (sp n (cnot c t a) (cnot c t b)) (sp n a b) = false := by
    unfold sp
    rw [← parityTo_xor, parityTo_two n c t _ hc ht hct]
    · simp only [cnot, hct, Ne.symm hct, if_true, if_false]
      exact sp_cnot_site _ _ _ _ _ _ _ _
    · intro j h1 h2
      simp [cnot, h1, h2]
  cases h1 : sp n (cnot c t a) (cnot c t b) <;> cases h2 : sp n a b <;> simp [h1, h2] at key ⊢

/-! ### gates are homomorphisms for the signed product -/

theorem ph_xor_sign (r ip c : Bool) :
    2 * Bool.toInt' (xor r c) + Bool.toInt' ip = (2 * Bool.toInt' r + Bool.toInt' ip + 2 * Bool.toInt' c) % 4 := by
  revert r ip c
  decide

theorem cnot_ph (c t : Nat) (a : PRow) :
    (cnot c t a).ph = (a.ph + 2 * Bool.toInt' (a.x c && a.z t && (xor (xor (a.x t) (a.z c)) true))) % 4 :=
  ph_xor_sign a.r a.ip _

def cnotF (xc zc xt zt : Bool) : Int := 2 * Bool.toInt' (xc && zt && (xor (xor xt zc) true))

theorem g_cnot (xc1 zc1 xt1 zt1 xc2 zc2 xt2 zt2 : Bool) :
    (gFun xc1 (xor zc1 zt1) xc2 (xor zc2 zt2) + gFun (xor xt1 xc1) zt1 (xor xt2 xc2) zt2
      + cnotF xc1 zc1 xt1 zt1 + cnotF xc2 zc2 xt2 zt2) % 4
    = (gFun xc1 zc1 xc2 zc2 + gFun xt1 zt1 xt2 zt2
      + cnotF (xor xc1 xc2) (xor zc1 zc2) (xor xt1 xt2) (xor zt1 zt2)) % 4 := by
  revert xc1 zc1 xt1 zt1 xc2 zc2 xt2 zt2
  decide +kernel

/-- the phase bookkeeping of a local gate: the `g`-sums differ only at the sites it touches (`key`), where the site identity `g` holds -/
theorem ph_site_arith (pa pb S S' G G' ca cb c : Int) (key : S - G = S' - G')
    (g : (G' + 2 * ca + 2 * cb) % 4 = (G + 2 * c) % 4) :
    ((pa + pb + S) % 4 + 2 * c) % 4 = ((pa + 2 * ca) % 4 + (pb + 2 * cb) % 4 + S') % 4 := by
  omega

/-! ### phase words of the one-qubit gates -/

theorem lift_ph (q : Nat) (t : Solver.L1) (a : PRow) :
    (Solver.lift q t a).ph = (a.ph + 2 * Bool.toInt' (t.ap (a.x q) (a.z q)).2.2) % 4 := ph_xor_sign a.r a.ip _

theorem h_ph (q : Nat) (a : PRow) : (h q a).ph = (a.ph + 2 * Bool.toInt' (a.x q && a.z q)) % 4 :=
  ph_xor_sign a.r a.ip _

theorem s_ph (q : Nat) (a : PRow) : (s q a).ph = (a.ph + 2 * Bool.toInt' (a.x q && a.z q)) % 4 :=
  ph_xor_sign a.r a.ip _

theorem cnot_mul (n c t : Nat) (hc : c < n) (ht : t < n) (hct : c ≠ t) (a b : PRow) :
    EqOn n (cnot c t (mul n a b)) (mul n (cnot c t a) (cnot c t b)) := by
  have htc : t ≠ c := Ne.symm hct
  apply eqOn_of
  · intro j _
    by_cases h1 : j = t
    · subst h1; simp [cnot, htc]
      cases a.x j <;> cases b.x j <;> cases a.x c <;> cases b.x c <;> rfl
    · by_cases h2 : j = c
      · subst h2; simp [cnot, hct]
        cases a.z j <;> cases b.z j <;> cases a.z t <;> cases b.z t <;> rfl
      · simp [cnot, h1, h2]
  · rw [cnot_ph, mul_ph, mul_ph, cnot_ph, cnot_ph]
    have key := sumTo_diff_two n c t
      (fun j => gFun (a.x j) (a.z j) (b.x j) (b.z j))
      (fun j => gFun ((cnot c t a).x j) ((cnot c t a).z j) ((cnot c t b).x j) ((cnot c t b).z j)) hc ht hct
      (by intro j _ h1 h2; simp [cnot, h1, h2])
    have gc := g_cnot (a.x c) (a.z c) (a.x t) (a.z t) (b.x c) (b.z c) (b.x t) (b.z t)
    simp only [cnot, if_true, hct, htc, if_false] at key
    simp only [mul_x, mul_z, gSum, cnotF] at *
    show (_ : Int) = _
    simp only [cnot]
    rw [Int.sub_sub, Int.sub_sub] at key
    exact ph_site_arith _ _ _ _ _ _ _ _ _ key gc

/-! ### `EqOn` is a congruence -/

theorem EqOn.refl (n : Nat) (a : PRow) : EqOn n a a := ⟨fun _ _ => ⟨rfl, rfl⟩, rfl, rfl⟩
theorem EqOn.symm {n : Nat} {a b : PRow} (h : EqOn n a b) : EqOn n b a :=
  ⟨fun j hj => ⟨(h.1 j hj).1.symm, (h.1 j hj).2.symm⟩, h.2.1.symm, h.2.2.symm⟩
theorem EqOn.trans {n : Nat} {a b c : PRow} (h1 : EqOn n a b) (h2 : EqOn n b c) : EqOn n a c :=
  ⟨fun j hj => ⟨(h1.1 j hj).1.trans (h2.1 j hj).1, (h1.1 j hj).2.trans (h2.1 j hj).2⟩,
   h1.2.1.trans h2.2.1, h1.2.2.trans h2.2.2⟩

theorem EqOn.ph {n : Nat} {a b : PRow} (h : EqOn n a b) : a.ph = b.ph := by
  unfold PRow.ph; rw [h.2.1, h.2.2]

theorem beqOn_eqOn (n : Nat) (a b : PRow) (h : PRow.beqOn n a b = true) : EqOn n a b := by
  unfold PRow.beqOn at h
  simp only [Bool.and_eq_true, List.all_eq_true, List.mem_range, beq_iff_eq] at h
  exact ⟨fun j hj => h.1.1 j hj, h.1.2, h.2⟩

theorem eqOn_beqOn (n : Nat) (a b : PRow) (h : EqOn n a b) : PRow.beqOn n a b = true := by
  unfold PRow.beqOn
  simp only [Bool.and_eq_true, List.all_eq_true, List.mem_range, beq_iff_eq]
  exact ⟨⟨fun j hj => h.1 j hj, h.2.1⟩, h.2.2⟩

theorem gSum_congr (n : Nat) (a a' b b' : PRow) (ha : SameBits n a a') (hb : SameBits n b b') :
    gSum n a b = gSum n a' b' := by
  unfold gSum
  apply sumTo_congr
  intro j hj
  rw [(ha j hj).1, (ha j hj).2, (hb j hj).1, (hb j hj).2]

theorem mul_congr (n : Nat) (a a' b b' : PRow) (ha : EqOn n a a') (hb : EqOn n b b') :
    EqOn n (mul n a b) (mul n a' b') := by
  apply eqOn_of
  · intro j hj
    simp only [mul_x, mul_z]
    rw [(ha.1 j hj).1, (ha.1 j hj).2, (hb.1 j hj).1, (hb.1 j hj).2]; exact ⟨rfl, rfl⟩
  · rw [mul_ph, mul_ph, ha.ph, hb.ph, gSum_congr n a a' b b' ha.1 hb.1]

theorem sp_eqOn (n : Nat) (a a' b b' : PRow) (ha : EqOn n a a') (hb : EqOn n b b') : sp n a b = sp n a' b' :=
  sp_congr n a a' b b' ha.1 hb.1

/-- a map on rows that acts as an automorphism of the `n`-qubit Pauli group (in its signed-row presentation) -/
structure IsAut (n : Nat) (f : PRow → PRow) : Prop where
  sp : ∀ a b, PRow.sp n (f a) (f b) = PRow.sp n a b
  mul : ∀ a b, EqOn n (f (PRow.mul n a b)) (PRow.mul n (f a) (f b))
  congr : ∀ a b, EqOn n a b → EqOn n (f a) (f b)

theorem IsAut.comp {n : Nat} {f g : PRow → PRow} (hf : IsAut n f) (hg : IsAut n g) : IsAut n (fun a => f (g a)) where
  sp a b := by rw [hf.sp, hg.sp]
  mul a b := (hf.congr _ _ (hg.mul a b)).trans (hf.mul _ _)
  congr a b h := hf.congr _ _ (hg.congr _ _ h)

theorem cnot_congr (n c t : Nat) (hc : c < n) (ht : t < n) (a b : PRow) (hab : EqOn n a b) :
    EqOn n (cnot c t a) (cnot c t b) := by
  obtain ⟨hb, hr, hi⟩ := hab
  refine ⟨?_, ?_, ?_⟩
  · intro j hj
    simp only [cnot]
    rw [(hb j hj).1, (hb j hj).2, (hb c hc).1, (hb t ht).2]; exact ⟨rfl, rfl⟩
  · simp [cnot, hr, (hb c hc).1, (hb c hc).2, (hb t ht).1, (hb t ht).2]
  · simp [cnot, hi]

/-! ### one-qubit gates: every Clifford table acts as an automorphism -/

open Solver in
/-- **every one-qubit Clifford table acts as an automorphism of the signed-row group**: off column `q` nothing changes, on it
    the three fields are the three parts of `L1.Cliff` -/
theorem lift_isAut (n q : Nat) (hq : q < n) (t : L1) (ht : t.Cliff) : IsAut n (lift q t) where
  sp a b := by
    unfold sp
    apply parityTo_congr
    intro j _
    by_cases hj : j = q
    · subst hj; simp only [lift_x_self, lift_z_self]; exact (ht _ _ _ _).2.2.1
    · simp only [lift_x_ne q j hj, lift_z_ne q j hj]
  mul a b := by
    apply eqOn_of
    · intro j _
      by_cases hj : j = q
      · subst hj; simp only [lift_x_self, lift_z_self, mul_x, mul_z]; exact ⟨(ht _ _ _ _).1, (ht _ _ _ _).2.1⟩
      · simp only [lift_x_ne q j hj, lift_z_ne q j hj, mul_x, mul_z, and_self]
    · rw [lift_ph, mul_ph, mul_ph, lift_ph, lift_ph]
      have key := sumTo_diff_one n q (fun j => gFun (a.x j) (a.z j) (b.x j) (b.z j))
        (fun j => gFun ((lift q t a).x j) ((lift q t a).z j) ((lift q t b).x j) ((lift q t b).z j)) hq
        (fun j _ hj => by simp only [lift_x_ne q j hj, lift_z_ne q j hj])
      simp only [lift_x_self, lift_z_self] at key
      simp only [mul_x, mul_z]
      exact ph_site_arith _ _ _ _ _ _ _ _ _ key (ht _ _ _ _).2.2.2
  congr a b hab := by
    obtain ⟨hb, hr, hi⟩ := hab
    refine ⟨fun j hj => ?_, ?_, hi⟩
    · by_cases e : j = q
      · subst e; simp only [lift_x_self, lift_z_self, (hb j hj).1, (hb j hj).2, and_self]
      · simp only [lift_x_ne q j e, lift_z_ne q j e]; exact hb j hj
    · simp only [lift_r, hr, (hb q hq).1, (hb q hq).2]

theorem isAut_h (n q : Nat) (hq : q < n) : IsAut n (h q) :=
  Solver.lift_tH q ▸ lift_isAut n q hq Solver.tH (by decide)
theorem isAut_s (n q : Nat) (hq : q < n) : IsAut n (s q) :=
  Solver.lift_tS q ▸ lift_isAut n q hq Solver.tS (by decide)

theorem isAut_cnot (n c t : Nat) (hc : c < n) (ht : t < n) (hct : c ≠ t) : IsAut n (cnot c t) :=
  ⟨fun a b => sp_cnot n c t a b hc ht hct, cnot_mul n c t hc ht hct, cnot_congr n c t hc ht⟩

theorem isAut_sdg (n q : Nat) (hq : q < n) : IsAut n (sdg q) :=
  ((isAut_s n q hq).comp ((isAut_s n q hq).comp (isAut_s n q hq)))
theorem isAut_zg (n q : Nat) (hq : q < n) : IsAut n (zg q) :=
  ((isAut_s n q hq).comp (isAut_s n q hq))
theorem isAut_xg (n q : Nat) (hq : q < n) : IsAut n (xg q) :=
  ((isAut_h n q hq).comp ((isAut_zg n q hq).comp (isAut_h n q hq)))
theorem isAut_yg (n q : Nat) (hq : q < n) : IsAut n (yg q) :=
  ((isAut_s n q hq).comp ((isAut_xg n q hq).comp ((isAut_zg n q hq).comp (isAut_s n q hq))))
theorem isAut_cz (n c t : Nat) (hc : c < n) (ht : t < n) (hct : c ≠ t) : IsAut n (cz c t) :=
  ((isAut_h n t ht).comp ((isAut_cnot n c t hc ht hct).comp (isAut_h n t ht)))

end PRow
end Graphiq
