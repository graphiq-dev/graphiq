/-
  Proofs/LCTotalInv.lean — towards totality of `is_lc_equivalent`: the exact GF(2) inverse of the pivot-column matrix exists.

  The model computes `np.linalg.inv(a) % 2` by Gauss–Jordan elimination (`gf2Inv`) and checks the result to be a two-sided
  inverse.  For an upper unitriangular matrix (1 on the diagonal, 0 below — the pivot columns of an echelon matrix) this
  never fails: `gf2Inv_total`.
-/
import GraphiqModel.Proofs.LCTotalCols
namespace Graphiq.LC
open Graphiq

/-! ### matrix algebra over GF(2), Nat-indexed -/

theorem matMul_assoc (k : Nat) (X Y Z : Adj) (i j : Nat) :
    matMul k (matMul k X Y) Z i j = matMul k X (matMul k Y Z) i j := by
  unfold matMul
  have e1 : ∀ l, l < k → ((parityTo k fun s => X i s && Y s l) && Z l j) = parityTo k fun s => X i s && Y s l && Z l j := by
    intro l _
    rw [← parityTo_const_and]
  rw [parityTo_congr k _ _ e1, parityTo_fubini]
  apply parityTo_congr
  intro s _
  rw [← parityTo_and_const]
  apply parityTo_congr
  intro l _
  rw [Bool.and_assoc]

theorem matMul_id_left (k : Nat) (Y : Adj) (i j : Nat) (hi : i < k) : matMul k idM Y i j = Y i j := by
  unfold matMul idM
  rw [parityTo_one k i _ hi (fun l _ hl => by
    have : ¬ i = l := fun e => hl e.symm
    simp [this])]
  simp

theorem matMul_id_right (k : Nat) (X : Adj) (i j : Nat) (hj : j < k) : matMul k X idM i j = X i j := by
  unfold matMul idM
  rw [parityTo_one k j _ hj (fun l _ hl => by simp [hl])]
  simp

theorem matMul_congr_left (k : Nat) (X X' Y : Adj) (i j : Nat) (h : ∀ l, l < k → X i l = X' i l) :
    matMul k X Y i j = matMul k X' Y i j := by
  unfold matMul
  apply parityTo_congr
  intro l hl
  rw [h l hl]

theorem matMul_congr_right (k : Nat) (X Y Y' : Adj) (i j : Nat) (h : ∀ l, l < k → Y l j = Y' l j) :
    matMul k X Y i j = matMul k X Y' i j := by
  unfold matMul
  apply parityTo_congr
  intro l hl
  rw [h l hl]

theorem matMul_xor_left (k : Nat) (P Q Y : Adj) (i j : Nat) :
    matMul k (fun a b => xor (P a b) (Q a b)) Y i j = xor (matMul k P Y i j) (matMul k Q Y i j) := by
  unfold matMul
  rw [← parityTo_xor]
  apply parityTo_congr
  intro l _
  show (xor (P i l) (Q i l) && Y l j) = xor (P i l && Y l j) (Q i l && Y l j)
  cases P i l <;> cases Q i l <;> cases Y l j <;> rfl

/-- upper unitriangular: 1 on the diagonal, 0 below it -/
structure UpperUni (k : Nat) (A : Adj) : Prop where
  diag : ∀ i, i < k → A i i = true
  low : ∀ i j, j < i → i < k → A i j = false

/-- `D · A = 0` with `A` upper unitriangular forces `D = 0` (forward substitution along the columns) -/
theorem zero_of_mul_upperUni (k : Nat) (A D : Adj) (hA : UpperUni k A)
    (h : ∀ i j, i < k → j < k → matMul k D A i j = false) : ∀ i j, i < k → j < k → D i j = false := by
  intro i j hi
  induction j using Nat.strongRecOn with
  | _ j ih =>
    intro hj
    have := h i j hi hj
    unfold matMul at this
    rw [parityTo_one k j _ hj (fun l hl hne => by
      rcases Nat.lt_or_ge l j with h1 | h1
      · rw [ih l h1 (by omega)]; rfl
      · rw [hA.low l j (by omega) hl]; simp)] at this
    rw [hA.diag j hj] at this
    simpa using this

theorem right_inverse_of_left (k : Nat) (A T : Adj) (hA : UpperUni k A)
    (h : ∀ i j, i < k → j < k → matMul k T A i j = decide (i = j)) :
    ∀ i j, i < k → j < k → matMul k A T i j = decide (i = j) := by
  have hz := zero_of_mul_upperUni k A (fun a b => xor (matMul k A T a b) (idM a b)) hA (by
    intro i j hi hj
    rw [matMul_xor_left, matMul_assoc, matMul_id_left k A i j hi]
    have : matMul k A (matMul k T A) i j = matMul k A idM i j :=
      matMul_congr_right k A _ _ i j (fun l hl => by rw [h l j hl hj]; rfl)
    rw [this, matMul_id_right k A i j hj]
    simp)
  intro i j hi hj
  have := hz i j hi hj
  unfold idM at this
  revert this
  cases matMul k A T i j <;> cases decide (i = j) <;> simp

/-! ### Gauss–Jordan on an upper unitriangular matrix -/

theorem filter_eq_singleton (k c : Nat) (hc : c < k) : (List.range k).filter (fun i => decide (i = c)) = [c] := by
  induction k with
  | zero => omega
  | succ k ih =>
    rw [List.range_succ, List.filter_append]
    by_cases e : c = k
    · subst e
      have : (List.range c).filter (fun i => decide (i = c)) = [] := by
        rw [List.filter_eq_nil_iff]
        intro i hi
        have := List.mem_range.mp hi
        simp; omega
      rw [this]; simp
    · rw [ih (by omega)]
      have : ¬ k = c := fun h => e h.symm
      simp [this]

/-- the state of the elimination after the columns `< c`: `M` is still upper unitriangular, its first `c` columns are unit
    columns, and `T · A = M` -/
structure GJ (k : Nat) (A : Adj) (c : Nat) (M T : BMat) : Prop where
  mr : M.r = k
  mc : M.c = k
  tr : T.r = k
  tc : T.c = k
  uni : UpperUni k M.f
  unit : ∀ i j, i < j → j < c → j < k → M.f i j = false
  prod : ∀ i j, i < k → j < k → matMul k T.f A i j = M.f i j

theorem rowSwap_self (m : BMat) (c i j : Nat) : (rowSwap m c c).f i j = m.f i j := by
  show (if i = c then m.f c j else if i = c then m.f c j else m.f i j) = m.f i j
  by_cases e : i = c
  · subst e; simp
  · simp [e]

theorem gjColumn_step (k : Nat) (A : Adj) (c : Nat) (M T : BMat) (h : GJ k A c M T) (hc : c < k) :
    ∃ M' T', gjColumn (.ok (M, T)) c = .ok (M', T') ∧ GJ k A (c + 1) M' T' := by
  have hones : theOnes M c c = [c] := by
    unfold theOnes
    rw [h.mr, ← filter_eq_singleton k c hc]
    apply List.filter_congr
    intro i hi
    have hi' := List.mem_range.mp hi
    by_cases e : i = c
    · subst e; simp [h.uni.diag i hi']
    · by_cases hlt : c ≤ i
      · have : M.f i c = false := h.uni.low i c (by omega) hi'
        simp [e, this]
      · simp [e, hlt]
  -- the rows that get the pivot row added: the rows above `c` with a 1 in column `c`
  let others := (List.range M.r).filter fun i => decide (i ≠ c) && (rowSwap M c c).f i c
  have hmem : ∀ i, i ∈ others ↔ i < k ∧ i ≠ c ∧ M.f i c = true := by
    intro i
    simp only [others, List.mem_filter, List.mem_range, Bool.and_eq_true, decide_eq_true_eq, rowSwap_self, h.mr]
  have hlt : ∀ i, i ∈ others → i < c := by
    intro i hi
    obtain ⟨h1, h2, h3⟩ := (hmem i).mp hi
    rcases Nat.lt_or_ge i c with h4 | h4
    · exact h4
    · rw [h.uni.low i c (by omega) h1] at h3; cases h3
  have hnd : others.Nodup := filter_range_nodup _ _
  have hcn : c ∉ others := fun hh => by have := hlt c hh; omega
  have hM' : ∀ i j, i < k → j < k →
      ((others.foldl (fun acc i => addRows acc c i) (rowSwap M c c)).norm).f i j =
        if i ∈ others then xor (M.f c j) (M.f i j) else M.f i j := by
    intro i j hi hj
    rw [BMat.norm_agree _ i j (by rw [(foldAdd_dims _ c others).1]; simp [h.mr]; exact hi)
      (by rw [(foldAdd_dims _ c others).2]; simp [h.mc]; exact hj)]
    rw [foldAdd_entry _ c others i j hnd hcn, rowSwap_self, rowSwap_self]
  have hT' : ∀ i j, i < k → j < k →
      ((others.foldl (fun acc i => addRows acc c i) (rowSwap T c c)).norm).f i j =
        if i ∈ others then xor (T.f c j) (T.f i j) else T.f i j := by
    intro i j hi hj
    rw [BMat.norm_agree _ i j (by rw [(foldAdd_dims _ c others).1]; simp [h.tr]; exact hi)
      (by rw [(foldAdd_dims _ c others).2]; simp [h.tc]; exact hj)]
    rw [foldAdd_entry _ c others i j hnd hcn, rowSwap_self, rowSwap_self]
  refine ⟨(others.foldl (fun acc i => addRows acc c i) (rowSwap M c c)).norm,
    (others.foldl (fun acc i => addRows acc c i) (rowSwap T c c)).norm, by unfold gjColumn; simp only [hones]; try rfl, ?_⟩
  refine ⟨?_, ?_, ?_, ?_, ⟨?_, ?_⟩, ?_, ?_⟩
  · simp [(foldAdd_dims _ c others).1, h.mr]
  · simp [(foldAdd_dims _ c others).2, h.mc]
  · simp [(foldAdd_dims _ c others).1, h.tr]
  · simp [(foldAdd_dims _ c others).2, h.tc]
  · intro i hi
    rw [hM' i i hi hi]
    by_cases ho : i ∈ others
    · rw [if_pos ho, h.uni.low c i (hlt i ho) hc, h.uni.diag i hi]; rfl
    · rw [if_neg ho]; exact h.uni.diag i hi
  · intro i j hji hi
    rw [hM' i j hi (by omega)]
    by_cases ho : i ∈ others
    · rw [if_pos ho, h.uni.low c j (by have := hlt i ho; omega) hc, h.uni.low i j hji hi]; rfl
    · rw [if_neg ho]; exact h.uni.low i j hji hi
  · intro i j hij hjc hjk
    rw [hM' i j (by omega) hjk]
    by_cases e : j = c
    · subst e
      by_cases ho : i ∈ others
      · rw [if_pos ho, h.uni.diag j hjk, ((hmem i).mp ho).2.2]; rfl
      · rw [if_neg ho]
        cases hx : M.f i j
        · rfl
        · exact absurd ((hmem i).mpr ⟨by omega, by omega, hx⟩) ho
    · have hjc' : j < c := by omega
      by_cases ho : i ∈ others
      · rw [if_pos ho, h.uni.low c j hjc' hc, h.unit i j hij hjc' hjk]; rfl
      · rw [if_neg ho]; exact h.unit i j hij hjc' hjk
  · intro i j hi hj
    rw [hM' i j hi hj]
    by_cases ho : i ∈ others
    · rw [if_pos ho, ← h.prod c j hc hj, ← h.prod i j hi hj]
      unfold matMul
      rw [← parityTo_xor]
      apply parityTo_congr
      intro l hl
      rw [hT' i l hi hl, if_pos ho]
      cases T.f c l <;> cases T.f i l <;> cases A l j <;> rfl
    · rw [if_neg ho, ← h.prod i j hi hj]
      apply matMul_congr_left
      intro l hl
      rw [hT' i l hi hl, if_neg ho]

theorem gj_fold (k : Nat) (A : Adj) (M0 T0 : BMat) (h0 : GJ k A 0 M0 T0) (c : Nat) (hc : c ≤ k) :
    ∃ M T, (List.range c).foldl gjColumn (.ok (M0, T0)) = .ok (M, T) ∧ GJ k A c M T := by
  refine Loop.foldl_range (fun i (st : Except Err (BMat × BMat)) => ∃ M T, st = .ok (M, T) ∧ GJ k A i M T)
    (fun i st hi h => ?_) ⟨M0, T0, rfl, h0⟩
  obtain ⟨M, T, rfl, hg⟩ := h
  exact gjColumn_step k A i M T hg (by omega)

/-- **the exact inverse of an upper unitriangular matrix exists**: `gf2Inv` (Gauss–Jordan with the final two-sided check)
    returns on every square matrix with 1 on the diagonal and 0 below it -/
theorem gf2Inv_total (a : BMat) (hsq : a.r = a.c) (hA : UpperUni a.r a.f) : ∃ ainv, gf2Inv a = .ok ainv := by
  have h0 : GJ a.r a.f 0 a.norm (identM a.r).norm := by
    refine ⟨rfl, by simp [hsq], rfl, rfl, ⟨?_, ?_⟩, fun i j _ hj _ => by omega, ?_⟩
    · intro i hi
      rw [BMat.norm_agree a i i hi (by omega)]; exact hA.diag i hi
    · intro i j hji hi
      rw [BMat.norm_agree a i j hi (by omega)]; exact hA.low i j hji hi
    · intro i j hi hj
      rw [BMat.norm_agree a i j hi (by omega)]
      have : matMul a.r (identM a.r).norm.f a.f i j = matMul a.r idM a.f i j :=
        matMul_congr_left a.r _ _ _ i j (fun l hl => BMat.norm_agree (identM a.r) i l hi hl)
      rw [this, matMul_id_left a.r a.f i j hi]
  obtain ⟨M, T, e, hg⟩ := gj_fold a.r a.f a.norm (identM a.r).norm h0 a.r (Nat.le_refl _)
  have hI : ∀ i j, i < a.r → j < a.r → M.f i j = decide (i = j) := by
    intro i j hi hj
    rcases Nat.lt_trichotomy i j with h | h | h
    · rw [hg.unit i j h hj hj]
      have : ¬ i = j := by omega
      simp [this]
    · subst h; rw [hg.uni.diag i hi]; simp
    · rw [hg.uni.low i j h hi]
      have : ¬ i = j := by omega
      simp [this]
  have hleft : ∀ i j, i < a.r → j < a.r → matMul a.r T.f a.f i j = decide (i = j) := by
    intro i j hi hj
    rw [hg.prod i j hi hj, hI i j hi hj]
  have hright := right_inverse_of_left a.r a.f T.f hA hleft
  have hcheck : isInverse a.r T.f a.f = true := by
    unfold isInverse
    rw [List.all_eq_true]
    intro i hi
    rw [List.all_eq_true]
    intro j hj
    have hi' := List.mem_range.mp hi
    have hj' := List.mem_range.mp hj
    rw [hleft i j hi' hj', hright i j hi' hj']
    simp [idM]
  refine ⟨{ r := a.r, c := a.r, f := T.f }, ?_⟩
  unfold gf2Inv
  rw [if_neg (by simp [hsq]), e]
  simp only [hcheck, if_true]

end Graphiq.LC
