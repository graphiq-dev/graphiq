/-
  Proofs/InvGauge.lean — `inverse_circuit` (and with it `clifford_from_stabilizer`) is a function of the *state*: two real
  commuting generating sets of the same signed group get literally the same gate list.  `canonical_form` is a normal
  form row by row (Proofs/CanonUnique.lean) and returns a *tabulated* tableau, so the two canonical forms are equal as
  values, and everything after `canonical_form` is a function of that value.
-/
import GraphiqModel.Proofs.InvTotal
namespace Graphiq
open PRow Tab
namespace STab

/-- the tableau is the output of a tabulation -/
def IsNormed (t : STab) : Prop := ∃ Y : STab, t = Y.norm

theorem canonStepXY_normed (t : STab) (pr j : Nat) :
    (t.canonStepXY pr j = (t, pr)) ∨ (IsNormed (t.canonStepXY pr j).1 ∧ (t.canonStepXY pr j).2 = pr + 1) := by
  unfold canonStepXY
  generalize t.pauliTypeFinder pr j = ft
  obtain ⟨xs, ys, zs⟩ := ft
  simp only
  split
  · left; rfl
  · right; exact ⟨⟨_, rfl⟩, rfl⟩

theorem canonStepZ_normed (t : STab) (pr j : Nat) :
    (t.canonStepZ pr j = (t, pr)) ∨ (IsNormed (t.canonStepZ pr j).1 ∧ (t.canonStepZ pr j).2 = pr + 1) := by
  unfold canonStepZ
  split
  · left; rfl
  · right; exact ⟨⟨_, rfl⟩, rfl⟩

theorem fold_normed (t0 : STab) (step : STab → Nat → Nat → STab × Nat)
    (hstep : ∀ t pr j, step t pr j = (t, pr) ∨ (IsNormed (step t pr j).1 ∧ (step t pr j).2 = pr + 1))
    (l : List Nat) (acc : STab × Nat) (h : (acc = (t0, 0)) ∨ IsNormed acc.1) :
    ((l.foldl (fun (a : STab × Nat) j => step a.1 a.2 j) acc) = (t0, 0)) ∨
      IsNormed (l.foldl (fun (a : STab × Nat) j => step a.1 a.2 j) acc).1 := by
  induction l generalizing acc with
  | nil => exact h
  | cons x rest ih =>
    simp only [List.foldl_cons]
    apply ih
    rcases hstep acc.1 acc.2 x with e | ⟨e1, _⟩
    · rw [e]; exact h
    · right; exact e1

theorem canonicalForm_normed (t c : STab) (h : t.canonicalForm = .ok c) (hn : 0 < t.n) : IsNormed c := by
  obtain ⟨hp, e⟩ := (canonicalForm_ok_iff t c).1 h
  subst e
  unfold canonLoops at hp ⊢
  have h1 := fold_normed t (fun t pr j => t.canonStepXY pr j) canonStepXY_normed (List.range t.n) (t, 0) (Or.inl rfl)
  have h2 := fold_normed t (fun t pr j => t.canonStepZ pr j) canonStepZ_normed (List.range t.n) _ h1
  rcases h2 with e | e
  · rw [e] at hp; simp only at hp; omega
  · exact e

/-- **the canonical forms of two generating sets of one state are equal as values** (n ≥ 1) -/
theorem canonicalForm_eq_of_spanEq (a b ca cb : STab) (ga : a.Good) (gb : b.Good) (s : SpanEq a b)
    (ha : a.canonicalForm = .ok ca) (hb : b.canonicalForm = .ok cb) (hn : 0 < a.n) : ca = cb := by
  obtain ⟨s1, g1⟩ := canonicalForm_spanEq a ca ga ha
  obtain ⟨s2, g2⟩ := canonicalForm_spanEq b cb gb hb
  have sc : SpanEq ca cb := (s1.symm.trans s).trans s2
  have rows := canon_unique ca cb (canonicalForm_canon a ca ha) (canonicalForm_canon b cb hb) g1 g2 sc
  obtain ⟨Ya, ea⟩ := canonicalForm_normed a ca ha hn
  obtain ⟨Yb, eb⟩ := canonicalForm_normed b cb hb (by rw [← s.n_eq]; exact hn)
  subst ea; subst eb
  have hnn : Ya.n = Yb.n := sc.n_eq
  apply norm_congr Ya Yb hnn
  intro i hi
  have r := rows i hi
  have n1 := norm_row Ya i hi
  have n2 := norm_row Yb i (by rw [← hnn]; exact hi)
  rw [← hnn] at n2
  exact (n1.symm.trans r).trans n2

/-- **`inverse_circuit` returns the same gate list for every generating set of a state** -/
theorem inverseCircuit_gauge (a b : STab) (ga : a.Good) (gb : b.Good) (s : SpanEq a b) (ta tb : STab) (ca cb : List Gate)
    (ha : a.inverseCircuit = .ok (ta, ca)) (hb : b.inverseCircuit = .ok (tb, cb)) : ca = cb ∧ (0 < a.n → ta = tb) := by
  obtain ⟨a0, sa, hca, hsa, ea1, ea2⟩ := inverseCircuit_eq a ta ca ha
  obtain ⟨b0, sb, hcb, hsb, eb1, eb2⟩ := inverseCircuit_eq b tb cb hb
  by_cases hn : 0 < a.n
  · have e := canonicalForm_eq_of_spanEq a b a0 b0 ga gb s hca hcb hn
    subst e
    rw [hsa] at hsb
    injection hsb with hsb
    subst hsb
    exact ⟨ea2.symm.trans eb2, fun _ => ea1.symm.trans eb1⟩
  · have hn0 : a.n = 0 := by omega
    have na0 : a0.n = 0 := by
      have := (canonicalForm_spanEq a a0 ga hca).1.n_eq; omega
    have nb0 : b0.n = 0 := by
      have := (canonicalForm_spanEq b b0 gb hcb).1.n_eq; have := s.n_eq; omega
    refine ⟨?_, fun h => absurd h hn⟩
    have empty : ∀ (t0 : STab) (st : InvState), t0.n = 0 → invBlocks t0 = .ok st → st.circ = [] := by
      intro t0 st h0 hst
      unfold invBlocks invBlock1 at hst
      rw [h0] at hst
      simp only [List.range_zero, List.foldlM_nil] at hst
      injection hst with hst
      rw [← hst]
      simp [invRest, pairsLt]
    rw [← ea2, ← eb2, empty a0 sa na0 hsa, empty b0 sb nb0 hsb]

/-- **`clifford_from_stabilizer` returns the same Clifford tableau — destabilizers included — for every generating set
    of a state** -/
theorem cliffordFromStabilizer_gauge (a b : STab) (ga : a.Good) (gb : b.Good) (s : SpanEq a b) (Ta Tb : Tab)
    (ha : a.cliffordFromStabilizer = .ok Ta) (hb : b.cliffordFromStabilizer = .ok Tb) : Ta = Tb := by
  unfold cliffordFromStabilizer at ha hb
  split at ha
  · cases ha
  · next ta ca hia =>
    split at hb
    · cases hb
    · next tb cb hib =>
      injection ha with ha
      injection hb with hb
      have := (inverseCircuit_gauge a b ga gb s ta tb ca cb hia hib).1
      rw [← ha, ← hb, this, s.n_eq]

end STab
end Graphiq
