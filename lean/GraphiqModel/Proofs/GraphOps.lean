/-
  Proofs/GraphOps.lean — graphs as adjacency functions: the vocabulary C08, C09, C10 and C16 share (`Simple`, `EqAdj`, `InOrbit`, the
  specification `isIsoMap_iff`), local complementation in its three forms (`localComp`, the matrix formula, the pair toggles), relabelling
  by a permutation, and the explorers of relabel_module.py / preprocessing.py: `lc_orbit_finder` for an abstract invariant of the growing
  list (`OrbInv`), the scripted explorers and `iso_finder` path by path.
-/
import GraphiqModel.Model.GraphOps
import GraphiqModel.Proofs.Bits
import GraphiqModel.Proofs.Tabulate
import GraphiqModel.Proofs.Loop
namespace Graphiq

/-! ### simple graphs, pointwise equality -/

def Simple (n : Nat) (A : Adj) : Prop :=
  (∀ i j, i < n → j < n → A i j = A j i) ∧ (∀ i, i < n → A i i = false)

theorem Simple.of_decide {n : Nat} {p : Nat → Nat → Prop} [∀ i j, Decidable (p i j)]
    (hs : ∀ i j, i < n → j < n → (p i j ↔ p j i)) (hi : ∀ i, i < n → ¬ p i i) :
    Simple n fun i j => decide (p i j) :=
  ⟨fun i j h1 h2 => decide_eq_decide.mpr (hs i j h1 h2), fun i h => decide_eq_false (hi i h)⟩

def EqAdj (n : Nat) (A B : Adj) : Prop := ∀ i j, i < n → j < n → A i j = B i j

theorem EqAdj.refl (n : Nat) (A : Adj) : EqAdj n A A := fun _ _ _ _ => rfl
theorem EqAdj.symm {n : Nat} {A B : Adj} (h : EqAdj n A B) : EqAdj n B A := fun i j hi hj => (h i j hi hj).symm
theorem EqAdj.trans {n : Nat} {A B C : Adj} (h1 : EqAdj n A B) (h2 : EqAdj n B C) : EqAdj n A C :=
  fun i j hi hj => (h1 i j hi hj).trans (h2 i j hi hj)

theorem Simple.congr {n : Nat} {A B : Adj} (hA : Simple n A) (h : EqAdj n A B) : Simple n B :=
  ⟨fun i j hi hj => by rw [← h i j hi hj, ← h j i hj hi]; exact hA.1 i j hi hj,
   fun i hi => by rw [← h i i hi hi]; exact hA.2 i hi⟩

/-! ### local complementation: the specification -/

theorem localComp_toggle (A : Adj) (v i j : Nat) (hd : A i i = false ∨ i ≠ j) :
    localComp A v i j = xor (A i j) (decide (i ≠ j) && (A i v && A v j)) := by
  unfold localComp
  by_cases h : i = j
  · subst h
    rcases hd with hd | hd
    · simp [hd]
    · exact absurd rfl hd
  · simp [h]

theorem localComp_simple (n : Nat) (A : Adj) (v : Nat) (hv : v < n) (hA : Simple n A) : Simple n (localComp A v) := by
  refine ⟨fun i j hi hj => ?_, fun i _ => ?_⟩
  · unfold localComp
    by_cases h : i = j
    · subst h; rfl
    · have h' : ¬ j = i := fun e => h e.symm
      simp only [h, h', if_false]
      rw [hA.1 i j hi hj, hA.1 i v hi hv, hA.1 v j hv hj, Bool.and_comm]
  · simp [localComp]

theorem localComp_congr (n : Nat) (A B : Adj) (v : Nat) (hv : v < n) (h : EqAdj n A B) :
    EqAdj n (localComp A v) (localComp B v) := by
  intro i j hi hj
  unfold localComp
  rw [h i j hi hj, h i v hi hv, h v j hv hj]

theorem localComp_row (A : Adj) (v j : Nat) (hvv : A v v = false) : localComp A v v j = A v j := by
  unfold localComp
  by_cases h : v = j
  · subst h; simp [hvv]
  · simp [h, hvv]

theorem localComp_col (A : Adj) (v i : Nat) (hvv : A v v = false) : localComp A v i v = A i v := by
  unfold localComp
  by_cases h : i = v
  · subst h; simp [hvv]
  · simp [h, hvv]

theorem localComp_involution (A : Adj) (v : Nat) (hvv : A v v = false) (i j : Nat) (hij : i ≠ j) :
    localComp (localComp A v) v i j = A i j := by
  have e3 : localComp A v i j = xor (A i j) (A i v && A v j) := by simp [localComp, hij]
  show (if i = j then false else xor (localComp A v i j) (localComp A v i v && localComp A v v j)) = A i j
  rw [localComp_col A v i hvv, localComp_row A v j hvv, e3]
  simp only [hij, if_false]
  cases A i j <;> cases A i v <;> cases A v j <;> rfl

theorem localComp_involution_simple (n : Nat) (A : Adj) (v : Nat) (hv : v < n) (hA : Simple n A) :
    EqAdj n (localComp (localComp A v) v) A := by
  intro i j hi _
  by_cases h : i = j
  · subst h
    rw [hA.2 i hi]; simp [localComp]
  · exact localComp_involution A v (hA.2 v hv) i j h

/-! ### the matrix formula of `local_comp_graph` / `_apply_f` -/

theorem gammaMul (n : Nat) (M : Adj) (v k j : Nat) (hv : v < n) :
    matMul n (gammaM v) M k j = (decide (k = v) && M v j) := by
  unfold matMul gammaM
  rw [parityTo_one n v _ hv]
  · simp
  · intro l _ hl; simp [hl]

theorem lcFormula_eq (n : Nat) (M : Adj) (v i j : Nat) (hv : v < n) (hj : j < n) :
    lcFormula n M v i j = xor (M i j) (M i v && xor (M v j) (M v v && decide (j = v))) := by
  unfold lcFormula matMul lcBracket
  have hb : ∀ k, k < n →
      (M i k && xor (xor (matMul n (gammaM v) M k j) (M v v && gammaM v k j)) (idM k j)) =
      xor (decide (k = v) && (M i k && xor (M v j) (M v v && decide (j = v)))) (decide (k = j) && M i k) := by
    intro k _
    rw [gammaMul n M v k j hv]
    unfold gammaM idM
    by_cases e1 : k = v
    · subst e1
      by_cases e2 : k = j
      · subst e2; cases M i k <;> cases M k k <;> simp
      · have e3 : ¬ j = k := fun e => e2 e.symm
        cases M i k <;> cases M k j <;> cases M k k <;> simp [e2, e3]
    · by_cases e2 : k = j
      · subst e2
        have e3 : ¬ v = k := fun e => e1 e.symm
        cases M i k <;> simp [e1]
      · simp [e1, e2]
  rw [parityTo_congr n _ _ hb, parityTo_xor, parityTo_single n v _ hv, parityTo_single n j _ hj]
  cases M i j <;> cases M i v <;> cases M v j <;> cases M v v <;> cases decide (j = v) <;> rfl

/-- `local_comp_graph` computes the neighbour toggle -/
theorem localCompGraph_eq (n : Nat) (A : Adj) (v : Nat) (hv : v < n) (hvv : A v v = false) :
    EqAdj n (localCompGraph n A v) (localComp A v) := by
  intro i j _ hj
  unfold localCompGraph localComp
  by_cases h : i = j
  · simp [h]
  · simp only [h, if_false]
    rw [lcFormula_eq n A v i j hv hj, hvv]
    simp

/-! ### `Graph.local_complementation`: toggling every pair of neighbours -/

/-- parity of the number of pairs of the list that join `i` and `j` (in either orientation) -/
def pairParity (ps : List (Nat × Nat)) (i j : Nat) : Bool :=
  ps.foldl (fun acc e => xor acc (decide ((e.1 = i ∧ e.2 = j) ∨ (e.1 = j ∧ e.2 = i)))) false

theorem pairParity_cons (e : Nat × Nat) (l : List (Nat × Nat)) (i j : Nat) :
    pairParity (e :: l) i j = xor (decide ((e.1 = i ∧ e.2 = j) ∨ (e.1 = j ∧ e.2 = i))) (pairParity l i j) := by
  have key : ∀ (l : List (Nat × Nat)) (b c : Bool),
      l.foldl (fun acc e => xor acc (decide ((e.1 = i ∧ e.2 = j) ∨ (e.1 = j ∧ e.2 = i)))) (xor b c) =
      xor b (l.foldl (fun acc e => xor acc (decide ((e.1 = i ∧ e.2 = j) ∨ (e.1 = j ∧ e.2 = i)))) c) := by
    intro l
    induction l with
    | nil => intro b c; rfl
    | cons e' l ih => intro b c; simp only [List.foldl]; rw [Bool.xor_assoc, ih]
  unfold pairParity
  simp only [List.foldl]
  rw [Bool.false_xor]
  have := key l (decide ((e.1 = i ∧ e.2 = j) ∨ (e.1 = j ∧ e.2 = i))) false
  rw [Bool.xor_false] at this
  exact this

theorem pairParity_nodup (l : List (Nat × Nat)) (hl : l.Nodup) (hlt : ∀ e, e ∈ l → e.1 < e.2) (i j : Nat) (hij : i < j) :
    pairParity l i j = decide ((i, j) ∈ l) ∧ pairParity l j i = decide ((i, j) ∈ l) := by
  induction l with
  | nil => simp [pairParity]
  | cons e l ih =>
    obtain ⟨i1, i2⟩ := ih (List.nodup_cons.mp hl).2 (fun e' he' => hlt e' (List.mem_cons_of_mem _ he'))
    have he := hlt e List.mem_cons_self
    have hnot := (List.nodup_cons.mp hl).1
    rw [pairParity_cons, pairParity_cons, i1, i2]
    by_cases h : e = (i, j)
    · subst h
      have : (i, j) ∉ l := hnot
      simp [this]
    · have hm1 : ¬ ((e.1 = i ∧ e.2 = j) ∨ (e.1 = j ∧ e.2 = i)) := by
        rintro (⟨a, b⟩ | ⟨a, b⟩)
        · exact h (Prod.ext a b)
        · omega
      have hm2 : ¬ ((e.1 = j ∧ e.2 = i) ∨ (e.1 = i ∧ e.2 = j)) := fun hh => hm1 (hh.symm)
      have hne : ¬ ((i, j) = e) := fun hh => h hh.symm
      simp [hm1, hm2, hne]

theorem pairParity_self (l : List (Nat × Nat)) (hlt : ∀ e, e ∈ l → e.1 < e.2) (i : Nat) : pairParity l i i = false := by
  induction l with
  | nil => rfl
  | cons e l ih =>
    rw [pairParity_cons, ih (fun e' he' => hlt e' (List.mem_cons_of_mem _ he'))]
    have := hlt e List.mem_cons_self
    rw [decide_eq_false (by rintro (⟨a, b⟩ | ⟨a, b⟩) <;> omega)]; rfl

theorem toggleEdge_eq (A : Adj) (a b i j : Nat) :
    toggleEdge A a b i j = xor (A i j) (decide ((a = i ∧ b = j) ∨ (a = j ∧ b = i))) := by
  unfold toggleEdge
  by_cases h : (i = a ∧ j = b) ∨ (i = b ∧ j = a)
  · rw [if_pos h, decide_eq_true (h.imp (fun h => ⟨h.1.symm, h.2.symm⟩) (fun h => ⟨h.2.symm, h.1.symm⟩)), Bool.xor_true]
  · rw [if_neg h, decide_eq_false (fun h' => h (h'.imp (fun h => ⟨h.1.symm, h.2.symm⟩) (fun h => ⟨h.2.symm, h.1.symm⟩))),
      Bool.xor_false]

theorem fold_toggle (ps : List (Nat × Nat)) (A : Adj) (i j : Nat) :
    ps.foldl (fun acc p => toggleEdge acc p.1 p.2) A i j = xor (A i j) (pairParity ps i j) := by
  induction ps generalizing A with
  | nil => exact (Bool.xor_false _).symm
  | cons p ps ih => rw [List.foldl_cons, ih, toggleEdge_eq, pairParity_cons, Bool.xor_assoc]

theorem mem_combos2 (l : List Nat) (hl : l.Pairwise (· < ·)) (a b : Nat) :
    (a, b) ∈ combos2 l ↔ a ∈ l ∧ b ∈ l ∧ a < b := by
  induction l with
  | nil => simp [combos2]
  | cons x rest ih =>
    have hx := (List.pairwise_cons.mp hl).1
    rw [combos2, List.mem_append, ih (List.pairwise_cons.mp hl).2, List.mem_map]
    constructor
    · rintro (⟨c, hc, e⟩ | ⟨h1, h2, h3⟩)
      · obtain ⟨rfl, rfl⟩ := Prod.mk.inj e
        exact ⟨List.mem_cons_self, List.mem_cons_of_mem _ hc, hx _ hc⟩
      · exact ⟨List.mem_cons_of_mem _ h1, List.mem_cons_of_mem _ h2, h3⟩
    · rintro ⟨h1, h2, h3⟩
      rcases List.mem_cons.mp h1 with e1 | h1
      · rcases List.mem_cons.mp h2 with e2 | h2
        · omega
        · exact Or.inl ⟨b, h2, by rw [e1]⟩
      · rcases List.mem_cons.mp h2 with e2 | h2
        · have := hx a h1; omega
        · exact Or.inr ⟨h1, h2, h3⟩

theorem nodup_combos2 (l : List Nat) (hl : l.Pairwise (· < ·)) : (combos2 l).Nodup := by
  induction l with
  | nil => exact List.nodup_nil
  | cons x rest ih =>
    have hr := (List.pairwise_cons.mp hl).2
    rw [combos2, List.nodup_append]
    refine ⟨List.Pairwise.map (fun b => (x, b)) (fun a b h e => h (Prod.mk.inj e).2) (hr.imp Nat.ne_of_lt), ih hr, ?_⟩
    intro p h1 q h2 e
    subst e
    obtain ⟨c, _, e⟩ := List.mem_map.mp h1
    subst e
    have := (List.pairwise_cons.mp hl).1 x ((mem_combos2 rest hr x c).mp h2).1
    omega

/-- `Graph.local_complementation` computes the neighbour toggle: every pair of distinct neighbours of `v` occurs once among the
    pairs of the (increasing) neighbour list -/
theorem localCompPairs_eq (n : Nat) (A : Adj) (v : Nat) (hv : v < n) (hA : Simple n A) :
    EqAdj n (localCompPairs n A v) (localComp A v) := by
  have hs : (filterTo n fun j => A v j).Pairwise (· < ·) := List.Pairwise.filter _ List.pairwise_lt_range
  have hlt : ∀ e, e ∈ combos2 (filterTo n fun j => A v j) → e.1 < e.2 := fun e he => ((mem_combos2 _ hs e.1 e.2).mp he).2.2
  have hnd := nodup_combos2 _ hs
  have key : ∀ i j, i < n → j < n → i < j → decide ((i, j) ∈ combos2 (filterTo n fun j => A v j)) = (A i v && A v j) := by
    intro i j hi hj hij
    rw [hA.1 i v hi hv]
    apply Bool.eq_iff_iff.mpr
    simp only [decide_eq_true_eq, mem_combos2 _ hs, mem_filterTo, Bool.and_eq_true]
    exact ⟨fun h => ⟨h.1.2, h.2.1.2⟩, fun h => ⟨⟨hi, h.1⟩, ⟨hj, h.2⟩, hij⟩⟩
  intro i j hi hj
  unfold localCompPairs
  rw [fold_toggle]
  unfold localComp
  rcases Nat.lt_trichotomy i j with h | h | h
  · rw [if_neg (Nat.ne_of_lt h), (pairParity_nodup _ hnd hlt i j h).1, key i j hi hj h]
  · subst h
    rw [if_pos rfl, pairParity_self _ hlt, hA.2 i hi]; rfl
  · rw [if_neg (Nat.ne_of_gt h), (pairParity_nodup _ hnd hlt j i h).2, key j i hj hi h, hA.1 i v hi hv, hA.1 v j hv hj,
      Bool.and_comm]

/-! ### relabelling -/

def InjLabels (n : Nat) (p : List Nat) : Prop :=
  p.length = n ∧ ∀ i j, i < n → j < n → p[i]? = p[j]? → i = j

theorem perm2matrix_row (n : Nat) (p : List Nat) (hp : InjLabels n p) (u a : Nat) (hu : u < n)
    (ha : p[u]? = some a) (i : Nat) : perm2matrix p i a = if i = u then 1 else 0 := by
  unfold perm2matrix
  by_cases h : i = u
  · subst h; simp [ha]
  · simp only [h, if_false]
    by_cases hi : i < n
    · have : p[i]? ≠ some a := by
        intro e
        exact h (hp.2 i u hi hu (by rw [e, ha]))
      simp [this]
    · have : p[i]? = none := by
        apply List.getElem?_eq_none
        rw [hp.1]; omega
      simp [this]

theorem relabel_perm (n : Nat) (A : Adj) (p : List Nat) (hp : InjLabels n p) (u v a b : Nat) (hu : u < n) (hv : v < n)
    (ha : p[u]? = some a) (hb : p[v]? = some b) :
    relabel n A p a b = Bool.toInt' (A u v) := by
  unfold relabel
  rw [sumTo_single n u _ hu]
  · rw [perm2matrix_row n p hp u a hu ha u, sumTo_single n v _ hv]
    · rw [perm2matrix_row n p hp v b hv hb v]; simp
    · intro j hj
      rw [perm2matrix_row n p hp v b hv hb j]; simp [hj]
  · intro i hi
    rw [perm2matrix_row n p hp u a hu ha i]; simp [hi]

theorem injLabels_of_perm (n : Nat) (p : List Nat) (h : p.Perm (List.range n)) : InjLabels n p := by
  have hl : p.length = n := by rw [h.length_eq]; simp
  have hn : p.Nodup := h.nodup_iff.mpr List.nodup_range
  refine ⟨hl, fun i j hi hj e => ?_⟩
  have hi' : i < p.length := by omega
  have hj' : j < p.length := by omega
  rw [List.getElem?_eq_getElem hi', List.getElem?_eq_getElem hj'] at e
  exact (List.getElem_inj hn).mp (Option.some.inj e)

theorem perm_surj (n : Nat) (p : List Nat) (h : p.Perm (List.range n)) (a : Nat) (ha : a < n) :
    ∃ u, u < n ∧ p[u]? = some a := by
  have hm : a ∈ p := h.mem_iff.mpr (List.mem_range.mpr ha)
  obtain ⟨u, hu, e⟩ := List.getElem_of_mem hm
  refine ⟨u, ?_, ?_⟩
  · rw [h.length_eq] at hu; simpa using hu
  · rw [List.getElem?_eq_getElem hu, e]


/-! ### LC orbits: membership by construction -/

def InOrbit (n : Nat) (A : Adj) (g : BMat) : Prop :=
  g.r = n ∧ g.c = n ∧ ∃ vs : List Nat, (∀ v ∈ vs, v < n) ∧ EqAdj n g.f (applySeq A vs)

theorem applySeq_append (A : Adj) (vs : List Nat) (v : Nat) : applySeq A (vs ++ [v]) = localComp (applySeq A vs) v := by
  simp [applySeq, List.foldl_append]

theorem applySeq_simple (n : Nat) (A : Adj) (vs : List Nat) (hA : Simple n A) (hvs : ∀ v ∈ vs, v < n) :
    Simple n (applySeq A vs) :=
  Loop.foldl_inv (Simple n) (fun B v hv hB => localComp_simple n B v (hvs v hv) hB) hA

theorem inOrbit_self (n : Nat) (g : BMat) (hr : g.r = n) (hc : g.c = n) : InOrbit n g.f g :=
  ⟨hr, hc, [], by simp, EqAdj.refl n _⟩

theorem InOrbit.simple {n : Nat} {A : Adj} {g : BMat} (hA : Simple n A) (hg : InOrbit n A g) : Simple n g.f := by
  obtain ⟨_, _, vs, hvs, e⟩ := hg
  exact (applySeq_simple n A vs hA hvs).congr e.symm

theorem applySeq_congr (n : Nat) (A B : Adj) (vs : List Nat) (hvs : ∀ v ∈ vs, v < n) (e : EqAdj n A B) :
    EqAdj n (applySeq A vs) (applySeq B vs) := by
  induction vs generalizing A B with
  | nil => exact e
  | cons v rest ih =>
    exact ih (localComp A v) (localComp B v) (fun w hw => hvs w (List.mem_cons_of_mem _ hw))
      (localComp_congr n A B v (hvs v (by simp)) e)

theorem applySeq_reverse_cancel (n : Nat) (A : Adj) (vs : List Nat) (hA : Simple n A) (hvs : ∀ v ∈ vs, v < n) :
    EqAdj n (applySeq (applySeq A vs) vs.reverse) A := by
  induction vs generalizing A with
  | nil => exact EqAdj.refl n A
  | cons v rest ih =>
    have hv : v < n := hvs v (by simp)
    have hrest : ∀ w ∈ rest, w < n := fun w hw => hvs w (List.mem_cons_of_mem _ hw)
    have h1 := ih (localComp A v) (localComp_simple n A v hv hA) hrest
    rw [List.reverse_cons, applySeq_append]
    show EqAdj n (localComp (applySeq (applySeq (localComp A v) rest) rest.reverse) v) A
    exact (localComp_congr n _ _ v hv h1).trans (localComp_involution_simple n A v hv hA)

theorem InOrbit.back {n : Nat} {A : Adj} {g : BMat} (hA : Simple n A) (hg : InOrbit n A g) :
    ∃ vs : List Nat, (∀ v ∈ vs, v < n) ∧ EqAdj n (applySeq g.f vs) A := by
  obtain ⟨_, _, vs, hvs, e⟩ := hg
  have hr : ∀ v ∈ vs.reverse, v < n := fun v hv => hvs v (List.mem_reverse.mp hv)
  exact ⟨vs.reverse, hr, (applySeq_congr n _ _ vs.reverse hr e).trans (applySeq_reverse_cancel n A vs hA hvs)⟩

theorem lcStep_inOrbit (n : Nat) (A : Adj) (g : BMat) (v : Nat) (hA : Simple n A) (hg : InOrbit n A g) (hv : v < n) :
    InOrbit n A (lcStep g v) := by
  have hs := hg.simple hA
  obtain ⟨hr, hc, vs, hvs, e⟩ := hg
  refine ⟨by simp [lcStep, BMat.ofAdj, hr], by simp [lcStep, BMat.ofAdj, hr], vs ++ [v], ?_, ?_⟩
  · intro w hw
    rcases List.mem_append.mp hw with h | h
    · exact hvs w h
    · simp at h; rw [h]; exact hv
  · rw [applySeq_append]
    intro i j hi hj
    have h1 : (lcStep g v).f i j = localCompGraph g.r g.f v i j := by
      unfold lcStep
      apply BMat.norm_agree
      · simp [BMat.ofAdj, hr]; exact hi
      · simp [BMat.ofAdj, hr]; exact hj
    rw [h1, hr, localCompGraph_eq n g.f v hv (hs.2 v hv) i j hi hj]
    exact localComp_congr n g.f _ v hv e i j hi hj

theorem localCompGraph?_inOrbit (n : Nat) (A : Adj) (g h : BMat) (v : Nat) (hA : Simple n A) (hg : InOrbit n A g)
    (e : localCompGraph? g v = .ok h) : InOrbit n A h := by
  unfold localCompGraph? at e
  split at e
  · rename_i hv
    cases e
    exact lcStep_inOrbit n A g v hA hg (by rw [← hg.1]; exact hv)
  · cases e

theorem applyScript_inOrbit (n : Nat) (A : Adj) (g h : BMat) (ops : List Nat) (hA : Simple n A) (hg : InOrbit n A g)
    (e : applyScript g ops = .ok h) : InOrbit n A h := by
  induction ops generalizing g with
  | nil => simp [applyScript] at e; cases e; exact hg
  | cons v rest ih =>
    simp only [applyScript] at e
    split at e
    · cases e
    · rename_i g1 e1
      exact ih g1 (localCompGraph?_inOrbit n A g g1 v hA hg e1) e

theorem applyScripts_inOrbit (n : Nat) (A : Adj) (g : BMat) (scripts : List (List Nat)) (out : List BMat) (hA : Simple n A)
    (hg : InOrbit n A g) (e : applyScripts g scripts = .ok out) : ∀ h ∈ out, InOrbit n A h := by
  induction scripts generalizing out with
  | nil => simp [applyScripts] at e; cases e; simp
  | cons ops rest ih =>
    simp only [applyScripts] at e
    split at e
    · cases e
    · rename_i h1 e1
      split at e
      · cases e
      · rename_i hs e2
        cases e
        intro h hh
        rcases List.mem_cons.mp hh with hh | hh
        · rw [hh]; exact applyScript_inOrbit n A g h1 ops hA hg e1
        · exact ih hs e2 h hh


def ValidNodes (n : Nat) (l : List Nat) : Prop := ∀ v ∈ l, v < n

/-- what an invariant `Inv` of the growing orbit list has to satisfy to survive the loops of `lc_orbit_finder` -/
structure OrbInv (n : Nat) (cfg : OrbCfg) (iso : BMat → BMat → Bool) (Inv : List BMat → Prop) (Good : BMat → Prop) : Prop where
  grow : ∀ o g v, Inv o → Good g → v < n →
    (cfg.repAllowed = false → checkIsomorphism iso (lcStep g v) o cfg.withIso = false) → Inv (o ++ [lcStep g v])
  take : ∀ o t, Inv o → Inv (o.take t)
  good : ∀ o, Inv o → ∀ g ∈ o, Good g

theorem lcOrbitNodes_inv {n : Nat} {cfg : OrbCfg} {iso : BMat → BMat → Bool} {Inv : List BMat → Prop} {Good : BMat → Prop}
    (H : OrbInv n cfg iso Inv Good) (g : BMat) (hg : Good g) (lenBefore : Nat) (nodes : List Nat) (orbit : List BMat)
    (hn : ValidNodes n nodes) (ho : Inv orbit) : Inv (lcOrbitNodes cfg iso g lenBefore nodes orbit).1 := by
  induction nodes generalizing orbit with
  | nil => simpa [lcOrbitNodes] using ho
  | cons node rest ih =>
    have hrest : ValidNodes n rest := fun v hv => hn v (List.mem_cons_of_mem _ hv)
    have hnode : node < n := hn node (by simp)
    simp only [lcOrbitNodes]
    generalize hO : (if degree g.r g.f node > 1 then
        if (!cfg.repAllowed) = true then
          if (!checkIsomorphism iso (lcStep g node) orbit cfg.withIso) = true then orbit ++ [lcStep g node] else orbit
        else orbit ++ [lcStep g node]
      else orbit) = orbit1
    have hP1 : Inv orbit1 := by
      rw [← hO]
      split
      · split
        · rename_i hrep
          split
          · rename_i hchk
            exact H.grow orbit g node ho hg hnode (fun _ => by simpa using hchk)
          · exact ho
        · rename_i hrep
          exact H.grow orbit g node ho hg hnode (fun h => by simp [h] at hrep)
      · exact ho
    split
    · split
      · exact H.take _ _ hP1
      · split
        · exact hP1
        · exact ih orbit1 hrest hP1
    · split
      · exact hP1
      · exact ih orbit1 hrest hP1

theorem lcOrbitGraphs_inv {n : Nat} {cfg : OrbCfg} {iso : BMat → BMat → Bool} {Inv : List BMat → Prop} {Good : BMat → Prop}
    (H : OrbInv n cfg iso Inv Good) (lenBefore : Nat) (recent : List BMat) (nodeList : List Nat) (shuffles : List (List Nat))
    (orbit : List BMat) (hr : ∀ g ∈ recent, Good g) (hn : ValidNodes n nodeList) (hs : ∀ s ∈ shuffles, ValidNodes n s)
    (ho : Inv orbit) :
    Inv (lcOrbitGraphs cfg iso lenBefore recent nodeList shuffles orbit).1 ∧
    ValidNodes n (lcOrbitGraphs cfg iso lenBefore recent nodeList shuffles orbit).2.2.1 ∧
    (∀ s ∈ (lcOrbitGraphs cfg iso lenBefore recent nodeList shuffles orbit).2.2.2, ValidNodes n s) := by
  induction recent generalizing nodeList shuffles orbit with
  | nil => exact ⟨by simpa [lcOrbitGraphs] using ho, by simpa [lcOrbitGraphs] using hn, by simpa [lcOrbitGraphs] using hs⟩
  | cons g rest ih =>
    simp only [lcOrbitGraphs]
    generalize hNS : (if cfg.rand = true then (shuffles.headD nodeList, shuffles.tail) else (nodeList, shuffles)) = ns
    obtain ⟨nl1, sh1⟩ := ns
    have hn1 : ValidNodes n nl1 ∧ ∀ s ∈ sh1, ValidNodes n s := by
      split at hNS
      · cases hNS
        constructor
        · cases shuffles with
          | nil => simpa using hn
          | cons s t => simp; exact hs s (by simp)
        · intro s hs'; exact hs s (List.mem_of_mem_tail hs')
      · cases hNS; exact ⟨hn, hs⟩
    have hg : Good g := hr g (by simp)
    have hrest : ∀ g ∈ rest, Good g := fun h hh => hr h (List.mem_cons_of_mem _ hh)
    have h1 := lcOrbitNodes_inv H g hg lenBefore nl1 orbit hn1.1 ho
    simp only []
    generalize hR : lcOrbitNodes cfg iso g lenBefore nl1 orbit = res at h1
    obtain ⟨o1, returned, brk⟩ := res
    simp only []
    split
    · exact ⟨h1, hn1.1, hn1.2⟩
    · exact ih nl1 sh1 o1 hrest hn1.1 hn1.2 h1

theorem lcOrbitWhile_inv {n : Nat} {cfg : OrbCfg} {iso : BMat → BMat → Bool} {Inv : List BMat → Prop} {Good : BMat → Prop}
    (H : OrbInv n cfg iso Inv Good) (fuel i newGraphs : Nat) (nodeList : List Nat) (shuffles : List (List Nat))
    (orbit out : List BMat) (hn : ValidNodes n nodeList) (hs : ∀ s ∈ shuffles, ValidNodes n s) (ho : Inv orbit)
    (e : lcOrbitWhile cfg iso fuel i newGraphs nodeList shuffles orbit = .ok out) : Inv out := by
  induction fuel generalizing i newGraphs nodeList shuffles orbit with
  | zero => simp [lcOrbitWhile] at e
  | succ fuel ih =>
    simp only [lcOrbitWhile] at e
    split at e
    · have hrec : ∀ g ∈ orbit.drop (orbit.length - newGraphs), Good g :=
        fun g hg => H.good orbit ho g (List.mem_of_mem_drop hg)
      have h1 := lcOrbitGraphs_inv H orbit.length _ nodeList shuffles orbit hrec hn hs ho
      split at e
      · cases e; exact h1.1
      · split at e
        · cases e; exact h1.1
        · exact ih _ _ _ _ _ h1.2.1 h1.2.2 h1.1 e
    · cases e; exact ho

theorem orbInv_inOrbit (n : Nat) (A : Adj) (hA : Simple n A) (cfg : OrbCfg) (iso : BMat → BMat → Bool) :
    OrbInv n cfg iso (fun o => ∀ h ∈ o, InOrbit n A h) (InOrbit n A) where
  grow := by
    intro o g v ho hg hv _ h hh
    rcases List.mem_append.mp hh with h1 | h1
    · exact ho h h1
    · simp at h1; rw [h1]; exact lcStep_inOrbit n A g v hA hg hv
  take := fun o t ho h hh => ho h (List.mem_of_mem_take hh)
  good := fun o ho g hg => ho g hg

/-- the comparison used by `check_isomorphism` -/
def relOf (cfg : OrbCfg) (iso : BMat → BMat → Bool) (g h : BMat) : Bool := if cfg.withIso then g.beq h else iso g h

theorem checkIsomorphism_false (cfg : OrbCfg) (iso : BMat → BMat → Bool) (g : BMat) (o : List BMat)
    (h : checkIsomorphism iso g o cfg.withIso = false) : ∀ x ∈ o, relOf cfg iso g x = false := by
  intro x hx
  unfold checkIsomorphism at h
  rw [List.any_eq_false] at h
  have := h x hx
  simpa [relOf] using this

theorem orbInv_pairwise (n : Nat) (cfg : OrbCfg) (iso : BMat → BMat → Bool) (hrep : cfg.repAllowed = false) :
    OrbInv n cfg iso (fun o => o.Pairwise (fun earlier later => relOf cfg iso later earlier = false)) (fun _ => True) where
  grow := by
    intro o g v ho _ _ hc
    rw [List.pairwise_append]
    refine ⟨ho, by simp, ?_⟩
    intro x hx y hy
    simp at hy; rw [hy]
    exact checkIsomorphism_false cfg iso _ o (hc hrep) x hx
  take := fun o t ho => List.Pairwise.sublist (List.take_sublist t o) ho
  good := fun _ _ _ _ => trivial

theorem lcOrbitFinder_inv {cfg : OrbCfg} {iso : BMat → BMat → Bool} {Inv : List BMat → Prop} {Good : BMat → Prop}
    (fuel : Nat) (g : BMat) (draws : List Nat) (shuffles : List (List Nat)) (out : List BMat)
    (H : OrbInv g.r cfg iso Inv Good) (hs : ∀ s ∈ shuffles, ValidNodes g.r s)
    (hstart : ∀ h, (h = g ∨ ∃ script, applyScript g script = .ok h) → Inv [h])
    (e : lcOrbitFinder cfg iso fuel g draws shuffles = .ok out) : Inv out := by
  unfold lcOrbitFinder at e
  simp only [] at e
  generalize hst : (if cfg.rand = true then
      match applyScript g (List.take (min 10 g.r) draws) with
      | Except.error e => Except.error e
      | Except.ok h => Except.ok [h]
    else Except.ok [g]) = start at e
  have hstart' : ∀ o, start = .ok o → Inv o := by
    intro o eo
    rw [← hst] at eo
    split at eo
    · split at eo
      · cases eo
      · rename_i h1 e1
        cases eo
        exact hstart h1 (Or.inr ⟨_, e1⟩)
    · cases eo
      exact hstart g (Or.inl rfl)
  cases start with
  | error err => simp at e
  | ok o =>
    simp only [] at e
    split at e
    · cases e; exact hstart' _ rfl
    · exact lcOrbitWhile_inv H fuel 0 1 (List.range g.r) shuffles o out (fun v hv => List.mem_range.mp hv) hs (hstart' o rfl) e

/-- **`lc_orbit_finder`: every returned graph lies in the LC orbit of the input** (all option sets, all depths and
    thresholds, every value of the random draws and shuffles, any isomorphism oracle) -/
theorem lcOrbitFinder_inOrbit (cfg : OrbCfg) (iso : BMat → BMat → Bool) (fuel : Nat) (g : BMat) (draws : List Nat)
    (shuffles : List (List Nat)) (out : List BMat) (hsq : g.c = g.r) (hA : Simple g.r g.f)
    (hs : ∀ s ∈ shuffles, ValidNodes g.r s) (e : lcOrbitFinder cfg iso fuel g draws shuffles = .ok out) :
    ∀ h ∈ out, InOrbit g.r g.f h := by
  have hself : InOrbit g.r g.f g := inOrbit_self g.r g rfl hsq
  refine lcOrbitFinder_inv fuel g draws shuffles out (orbInv_inOrbit g.r g.f hA cfg iso) hs (fun h hh h' hm => ?_) e
  rw [List.mem_singleton.mp hm]
  rcases hh with rfl | ⟨script, es⟩
  · exact hself
  · exact applyScript_inOrbit g.r g.f g h script hA hself es

/-- **`lc_orbit_finder` with `rep_allowed = False`: the returned graphs are pairwise different** — pairwise unequal
    adjacency matrices for `with_iso = True`, pairwise non-isomorphic (as judged by the oracle) otherwise -/
theorem lcOrbitFinder_pairwise (cfg : OrbCfg) (iso : BMat → BMat → Bool) (fuel : Nat) (g : BMat) (draws : List Nat)
    (shuffles : List (List Nat)) (out : List BMat) (hrep : cfg.repAllowed = false)
    (hs : ∀ s ∈ shuffles, ValidNodes g.r s) (e : lcOrbitFinder cfg iso fuel g draws shuffles = .ok out) :
    out.Pairwise (fun earlier later => relOf cfg iso later earlier = false) :=
  lcOrbitFinder_inv fuel g draws shuffles out (orbInv_pairwise g.r cfg iso hrep) hs
    (fun _ _ => List.pairwise_singleton _ _) e


theorem rgsGo_inOrbit (n : Nat) (A : Adj) (hA : Simple n A) (first : Nat) (hf : first < n) (fuel : Nat) (cores : List Nat)
    (cur : BMat) (acc : List BMat) (hc : ValidNodes n cores) (hcur : InOrbit n A cur) (hacc : ∀ h ∈ acc, InOrbit n A h) :
    ∀ h ∈ rgsGo first fuel cores cur acc, InOrbit n A h := by
  induction fuel generalizing cores cur acc with
  | zero => simpa [rgsGo] using hacc
  | succ f ih =>
    cases cores with
    | nil => simpa [rgsGo] using hacc
    | cons c cs =>
      have ha := lcStep_inOrbit n A cur c hA hcur (hc c (by simp))
      have hb := lcStep_inOrbit n A _ first hA ha hf
      cases cs with
      | nil =>
        simp only [rgsGo]
        exact List.forall_mem_append.mpr ⟨hacc, List.forall_mem_cons.mpr ⟨ha, List.forall_mem_cons.mpr ⟨hb, nofun⟩⟩⟩
      | cons c2 cs2 =>
        simp only [rgsGo]
        have hd := lcStep_inOrbit n A _ c2 hA ha (hc c2 (by simp))
        exact ih cs2 _ _ (fun v hv => hc v (by simp [hv])) hd
          (List.forall_mem_append.mpr
            ⟨hacc, List.forall_mem_cons.mpr ⟨ha, List.forall_mem_cons.mpr ⟨hb, List.forall_mem_cons.mpr ⟨hd, nofun⟩⟩⟩⟩)

/-- **`rgs_orbit_finder`: every returned graph lies in the LC orbit of the input** -/
theorem rgsOrbitFinder_inOrbit (g : BMat) (out : List BMat) (hsq : g.c = g.r) (hA : Simple g.r g.f)
    (e : rgsOrbitFinder g = .ok out) : ∀ h ∈ out, InOrbit g.r g.f h := by
  have hself : InOrbit g.r g.f g := inOrbit_self g.r g rfl hsq
  unfold rgsOrbitFinder at e
  simp only [] at e
  split at e
  · cases e
  · split at e
    · cases e
    · rename_i first rest hcore
      cases e
      have hmem : ∀ v ∈ first :: rest, v < g.r := by
        intro v hv
        rw [← hcore] at hv
        exact ((mem_filterTo _ _ v).mp hv).1
      have hf : first < g.r := hmem first (by simp)
      have h1 := lcStep_inOrbit g.r g.f g first hA hself hf
      apply rgsGo_inOrbit g.r g.f hA first hf _ rest _ _ (fun v hv => hmem v (by simp [hv])) h1
      intro h hh
      simp at hh; rcases hh with hh | hh <;> (rw [hh]; assumption)

/-- **`linear_partial_orbit`: every returned graph lies in the LC orbit of the input** -/
theorem linearPartialOrbit_inOrbit (g : BMat) (out : List BMat) (hsq : g.c = g.r) (hA : Simple g.r g.f)
    (e : linearPartialOrbit g = .ok out) : ∀ h ∈ out, InOrbit g.r g.f h := by
  unfold linearPartialOrbit at e
  simp only [] at e
  split at e
  · cases e
  · split at e
    · cases e
    · exact applyScripts_inOrbit g.r g.f g _ out hA (inOrbit_self g.r g rfl hsq) e

/-- **`depth_first_orbit`: every returned graph lies in the LC orbit of the input** (any isomorphism oracle) -/
theorem depthFirstOrbit_inOrbit (iso : BMat → BMat → Bool) (fuel : Nat) (g : BMat) (paths : List (List Nat)) (out : List BMat)
    (hsq : g.c = g.r) (hA : Simple g.r g.f) (e : depthFirstOrbit iso fuel g = .ok (paths, out)) :
    ∀ h ∈ out, InOrbit g.r g.f h := by
  unfold depthFirstOrbit at e
  split at e
  · cases e
  · simp only [] at e
    split at e
    · cases e
    · rename_i gs e2
      cases e
      exact applyScripts_inOrbit g.r g.f g _ out hA (inOrbit_self g.r g rfl hsq) e2


/-! ### `automorph_check` and `iso_finder` -/

def RelabelOf (g : BMat) (labels : List (List Nat)) (m : List Int) : Prop := ∃ p ∈ labels, relabel? g p = .ok m

theorem automorphGo_spec (g : BMat) (a0 : List Int) (all labels : List (List Nat)) (acc out : List (List Int))
    (hsub : ∀ p ∈ labels, p ∈ all) (hn : acc.Nodup) (h0 : a0 ∉ acc) (hr : ∀ m ∈ acc, RelabelOf g all m)
    (e : automorphGo g a0 labels acc = .ok out) : out.Nodup ∧ a0 ∉ out ∧ ∀ m ∈ out, RelabelOf g all m := by
  induction labels generalizing acc with
  | nil =>
    simp [automorphGo] at e
    cases e
    exact ⟨(List.reverse_perm acc).nodup_iff.mpr hn, by simpa using h0, fun m hm => hr m (by simpa using hm)⟩
  | cons p rest ih =>
    simp only [automorphGo] at e
    split at e
    · cases e
    · rename_i m em
      have hrest : ∀ q ∈ rest, q ∈ all := fun q hq => hsub q (List.mem_cons_of_mem _ hq)
      split at e
      · exact ih acc hrest hn h0 hr e
      · rename_i hc
        have hc1 : ¬ m = a0 := fun x => hc (Or.inl x)
        have hc2 : m ∉ acc := fun x => hc (Or.inr (by simpa using x))
        apply ih (m :: acc) hrest (List.nodup_cons.mpr ⟨hc2, hn⟩) _ _ e
        · intro x; rcases List.mem_cons.mp x with x | x
          · exact hc1 x.symm
          · exact h0 x
        · intro x hx; rcases List.mem_cons.mp hx with hx | hx
          · rw [hx]; exact ⟨p, hsub p (by simp), em⟩
          · exact hr x hx

/-- `automorph_check`: the input first, then pairwise distinct matrices different from it, each a relabelling of the input -/
theorem automorphCheck_spec (g : BMat) (labels : List (List Nat)) (out : List (List Int))
    (e : automorphCheck g labels = .ok out) :
    ∃ tail, out = flatInt g :: tail ∧ out.Nodup ∧ ∀ m ∈ tail, RelabelOf g labels m := by
  unfold automorphCheck at e
  split at e
  · cases e
  · rename_i tail et
    cases e
    obtain ⟨h1, h2, h3⟩ := automorphGo_spec g (flatInt g) labels labels [] tail (fun _ h => h) (by simp) (by simp) (by simp) et
    exact ⟨tail, rfl, List.nodup_cons.mpr ⟨h2, h1⟩, h3⟩

/-- the labels produced so far: the identity first, everything else the identity or one of the recorded draws -/
def LabelsOK (n : Nat) (draws : List (List (List Nat))) (labels : List (List Nat)) : Prop :=
  labels.head? = some (List.range n) ∧ ∀ p ∈ labels, p = List.range n ∨ ∃ ds ∈ draws, p ∈ ds

theorem labelSetLoop_grows (nLabel thr fuel : Nat) (set : List (List Nat)) (count : Nat) (ds : List (List Nat)) :
    ∃ extra, (labelSetLoop nLabel thr fuel set count ds).1 = set ++ extra ∧ ∀ p ∈ extra, p ∈ ds := by
  induction fuel generalizing set count ds with
  | zero => exact ⟨[], by simp [labelSetLoop], nofun⟩
  | succ f ih =>
    simp only [labelSetLoop]
    split
    · cases ds with
      | nil => exact ⟨[], by simp, nofun⟩
      | cons d rest =>
        obtain ⟨extra, e, h⟩ := ih (if set.contains d then set else set ++ [d]) (count + 1) rest
        simp only []
        rw [e]
        split
        · exact ⟨extra, rfl, fun p hp => List.mem_cons_of_mem _ (h p hp)⟩
        · exact ⟨d :: extra, by simp, fun p hp => (List.mem_cons.mp hp).elim (fun e => e ▸ List.mem_cons_self)
            (fun hp => List.mem_cons_of_mem _ (h p hp))⟩
    · exact ⟨[], by simp, nofun⟩

theorem labelFinder_spec (nLabel nNode : Nat) (labelSet : Option (List (List Nat))) (exh : Bool) (thresh : Option Nat)
    (ds : List (List Nat)) (labels : List (List Nat)) (used : Nat)
    (hset : ∀ s, labelSet = some s → s.head? = some (List.range nNode))
    (e : labelFinder nLabel nNode labelSet exh thresh ds = .ok (labels, used)) :
    labels.head? = some (List.range nNode) ∧
    ∀ p ∈ labels, p = List.range nNode ∨ p ∈ ds ∨ ∃ s, labelSet = some s ∧ p ∈ s := by
  unfold labelFinder at e
  simp only [] at e
  split at e
  · cases e
  · split at e
    · split at e
      · cases e
        exact ⟨rfl, fun p hp => Or.inl (by simpa using hp)⟩
      · split at e
        · cases e
        · cases e
          refine ⟨rfl, fun p hp => ?_⟩
          rcases List.mem_cons.mp hp with h | h
          · left; exact h
          · right; left; exact List.mem_of_mem_take h
    · injection e with e'
      obtain ⟨extra, eg, hex⟩ := labelSetLoop_grows nLabel (threshOf thresh nLabel) (threshOf thresh nLabel + 1)
        (set0Of labelSet nNode) 0 ds
      have hl : labels = set0Of labelSet nNode ++ extra := by rw [← eg, e']
      -- the initial set has the identity first, and consists of the identity or of the set handed in
      have h0 : (set0Of labelSet nNode).head? = some (List.range nNode) ∧
          ∀ p ∈ set0Of labelSet nNode, p = List.range nNode ∨ ∃ s, labelSet = some s ∧ p ∈ s := by
        cases labelSet with
        | none => exact ⟨rfl, fun p hp => Or.inl (by simpa [set0Of] using hp)⟩
        | some s => exact ⟨hset s rfl, fun p hp => Or.inr ⟨s, rfl, hp⟩⟩
      rw [hl]
      refine ⟨?_, fun p hp => ?_⟩
      · cases hs : set0Of labelSet nNode with
        | nil => rw [hs] at h0; cases h0.1
        | cons x xs => rw [hs] at h0; exact h0.1
      · rcases List.mem_append.mp hp with h | h
        · exact (h0.2 p h).imp id Or.inr
        · exact Or.inr (Or.inl (hex p h))

theorem dedupe_grows (l acc : List (List Nat)) :
    ∃ extra, l.foldl (fun acc p => if acc.contains p then acc else acc ++ [p]) acc = acc ++ extra ∧ ∀ p ∈ extra, p ∈ l :=
  Loop.foldl_inv (fun s => ∃ extra, s = acc ++ extra ∧ ∀ p ∈ extra, p ∈ l) (fun s x hx ⟨extra, e, h⟩ => by
    split
    · exact ⟨extra, e, h⟩
    · exact ⟨extra ++ [x], by rw [e, List.append_assoc],
        fun p hp => (List.mem_append.mp hp).elim (h p) (fun hp => List.mem_singleton.mp hp ▸ hx)⟩) ⟨[], by simp, nofun⟩

theorem addLabels_spec (n : Nat) (all : List (List (List Nat))) (labels : List (List Nat)) (addN : Nat) (exh : Bool)
    (thresh : Option Nat) (ds : List (List Nat)) (labels' : List (List Nat)) (used : Nat)
    (hds : ds = [] ∨ ds ∈ all) (hl : LabelsOK n all labels)
    (e : addLabels labels addN exh thresh ds = .ok (labels', used)) : LabelsOK n all labels' := by
  unfold addLabels at e
  cases labels with
  | nil => simp at e
  | cons l0 rest =>
    simp only [] at e
    have hl0 : l0 = List.range n := by
      have := hl.1; simpa using this
    have hlen : l0.length = n := by rw [hl0]; simp
    rw [hlen] at e
    obtain ⟨extra, eg, hex⟩ := dedupe_grows rest [l0]
    have eg' : (l0 :: rest).foldl (fun acc p => if acc.contains p then acc else acc ++ [p]) [] = l0 :: extra := by
      simpa using eg
    obtain ⟨h1, h2⟩ := labelFinder_spec _ n _ exh thresh ds labels' used
      (fun s hs => by
        injection hs with hs
        rw [← hs, eg', hl0]; rfl) e
    refine ⟨h1, fun p hp => ?_⟩
    rcases h2 p hp with h | h | ⟨s, hs, hps⟩
    · left; exact h
    · right
      rcases hds with hd | hd
      · rw [hd] at h; simp at h
      · exact ⟨ds, hd, h⟩
    · injection hs with hs
      rw [← hs, eg'] at hps
      exact hl.2 p (List.mem_cons.mpr ((List.mem_cons.mp hps).imp id (hex p)))

/-- the list of matrices held by `iso_finder`: the input first, pairwise distinct, every other entry the input relabelled
    by the identity or by one of the recorded generator draws -/
def AdjOK (g : BMat) (all : List (List (List Nat))) (adj : List (List Int)) : Prop :=
  ∃ tail, adj = flatInt g :: tail ∧ adj.Nodup ∧
    ∀ m ∈ tail, ∃ p, (p = List.range g.r ∨ ∃ ds ∈ all, p ∈ ds) ∧ relabel? g p = .ok m

theorem adjOK_of_automorph (g : BMat) (all : List (List (List Nat))) (labels : List (List Nat)) (adj : List (List Int))
    (hl : LabelsOK g.r all labels) (e : automorphCheck g labels = .ok adj) : AdjOK g all adj := by
  obtain ⟨tail, h1, h2, h3⟩ := automorphCheck_spec g labels adj e
  refine ⟨tail, h1, h2, fun m hm => ?_⟩
  obtain ⟨p, hp, ep⟩ := h3 m hm
  exact ⟨p, hl.2 p hp, ep⟩

theorem headD_mem_or_nil (rem : List (List (List Nat))) (all : List (List (List Nat))) (h : ∀ ds ∈ rem, ds ∈ all) :
    rem.headD [] = [] ∨ rem.headD [] ∈ all := by
  cases rem with
  | nil => left; rfl
  | cons a t => right; exact h a (by simp)

theorem isoLoop_spec (cfg : IsoCfg) (g : BMat) (nMax : Nat) (all : List (List (List Nat))) (fuel : Nat)
    (rem : List (List (List Nat))) (labels : List (List Nat)) (adj : List (List Int)) (nLabel : Nat) (relInc : Float)
    (allChecked : Bool) (rounds : Nat) (consumed : List Nat) (r : IsoRes)
    (hrem : ∀ ds ∈ rem, ds ∈ all) (hl : LabelsOK g.r all labels) (ha : AdjOK g all adj)
    (e : isoLoop cfg g nMax fuel rem labels adj nLabel relInc allChecked rounds consumed = .ok r) :
    AdjOK g all r.full ∧ r.nOut ≤ cfg.nIso ∧ r.nOut ≤ r.full.length := by
  induction fuel generalizing rem labels adj nLabel relInc allChecked rounds consumed with
  | zero => simp [isoLoop] at e
  | succ f ih =>
    simp only [isoLoop] at e
    split at e
    · rename_i hcond
      split at e
      · cases e
        exact ⟨ha, Nat.le_of_lt hcond.1, Nat.le_refl _⟩
      · split at e
        · cases e
        · rename_i labels1 used e1
          have hl1 := addLabels_spec g.r all labels _ _ cfg.thresh (rem.headD []) labels1 used
            (headD_mem_or_nil rem all hrem) hl e1
          split at e
          · cases e
          · rename_i adj1 e2
            exact ih rem.tail labels1 adj1 _ _ _ _ _ (fun ds hd => hrem ds (List.mem_of_mem_tail hd)) hl1
              (adjOK_of_automorph g all labels1 adj1 hl1 e2) e
    · cases e
      exact ⟨ha, Nat.min_le_left _ _, Nat.min_le_right _ _⟩

/-- **`iso_finder`, every return path**: the list from which the result is cut has the input first, is pairwise distinct,
    every other entry is the input relabelled by the identity or a recorded draw; and at most `n_iso` entries are returned -/
theorem isoFinder_spec (cfg : IsoCfg) (g : BMat) (draws : List (List (List Nat))) (r : IsoRes)
    (e : isoFinder cfg g draws = .ok r) :
    AdjOK g draws r.full ∧ r.nOut ≤ cfg.nIso ∧ r.nOut ≤ r.full.length := by
  unfold isoFinder at e
  simp only [] at e
  split at e
  · cases e
  · rename_i labels used e1
    obtain ⟨h1, h2⟩ := labelFinder_spec _ g.r none false cfg.thresh (draws.headD []) labels used (fun s hs => by cases hs) e1
    have hl : LabelsOK g.r draws labels := by
      refine ⟨h1, fun p hp => ?_⟩
      rcases h2 p hp with h | h | ⟨s, hs, _⟩
      · left; exact h
      · right
        rcases headD_mem_or_nil draws draws (fun _ h => h) with hd | hd
        · rw [hd] at h; simp at h
        · exact ⟨_, hd, h⟩
      · cases hs
    split at e
    · cases e
    · rename_i adj e2
      have ha := adjOK_of_automorph g draws labels adj hl e2
      split at e
      · rename_i hge
        cases e
        exact ⟨ha, Nat.le_refl _, hge⟩
      · exact isoLoop_spec cfg g _ draws _ draws.tail labels adj _ _ _ _ _ r
          (fun ds hd => List.mem_of_mem_tail hd) hl ha e


def relabelAdj (n : Nat) (A : Adj) (p : List Nat) : Adj := fun a b => decide (relabel n A p a b ≠ 0)

theorem getD_of_getElem? (p : List Nat) (u a d : Nat) (h : p[u]? = some a) : p.getD u d = a := by
  simp [List.getD, h]

theorem isIsoMap_iff (n : Nat) (A B : Adj) (m : List Nat) :
    isIsoMap n A B m = true ↔
      m.length = n ∧ (∀ u, u < n → m.getD u n < n) ∧ (∀ u v, u < n → v < n → m.getD u n = m.getD v n → u = v) ∧
      ∀ u v, u < n → v < n → A u v = B (m.getD u n) (m.getD v n) := by
  unfold isIsoMap
  simp only [Bool.and_eq_true, beq_iff_eq, List.all_eq_true, List.mem_range, decide_eq_true_eq, Bool.or_eq_true, ne_eq]
  constructor
  · rintro ⟨⟨⟨h1, h2⟩, h3⟩, h4⟩
    exact ⟨h1, h2, fun u v hu hv e => (h3 u hu v hv).elim id (fun h => absurd e h), fun u v hu hv => h4 u hu v hv⟩
  · rintro ⟨h1, h2, h3, h4⟩
    exact ⟨⟨⟨h1, h2⟩, fun u hu v hv => (Decidable.em (u = v)).imp id (fun e h => e (h3 u v hu hv h))⟩, fun u hu v hv => h4 u v hu hv⟩

theorem perm_getD (n : Nat) (p : List Nat) (hp : p.Perm (List.range n)) :
    p.length = n ∧ (∀ u, u < n → p.getD u n < n) ∧ (∀ u v, u < n → v < n → p.getD u n = p.getD v n → u = v) := by
  have hinj := injLabels_of_perm n p hp
  have hlen : p.length = n := hinj.1
  have hget : ∀ u, (hu : u < n) → p.getD u n = p[u]'(by omega) := by
    intro u hu
    have hu' : u < p.length := by omega
    simp [List.getD, List.getElem?_eq_getElem hu']
  refine ⟨hlen, fun u hu => ?_, fun u v hu hv e => ?_⟩
  · rw [hget u hu]
    exact List.mem_range.mp (hp.mem_iff.mp (List.getElem_mem _))
  · rw [hget u hu, hget v hv] at e
    apply hinj.2 u v hu hv
    rw [List.getElem?_eq_getElem (by omega), List.getElem?_eq_getElem (by omega), e]

theorem perm_iso (n : Nat) (A B : Adj) (p : List Nat) (hp : p.Perm (List.range n))
    (hB : ∀ u v, u < n → v < n → B (p.getD u n) (p.getD v n) = A u v) : isIsoMap n A B p = true := by
  obtain ⟨hlen, hr, hinj⟩ := perm_getD n p hp
  exact (isIsoMap_iff n A B p).mpr ⟨hlen, hr, hinj, fun u v hu hv => (hB u v hu hv).symm⟩

/-- a permutation `p` is an isomorphism from `A` to `relabel A p` (as judged by the specification recorded for
    networkx's matcher) -/
theorem relabel_iso (n : Nat) (A : Adj) (p : List Nat) (hp : p.Perm (List.range n)) :
    isIsoMap n A (relabelAdj n A p) p = true := by
  refine perm_iso n A _ p hp (fun u v hu hv => ?_)
  have hl := (injLabels_of_perm n p hp).1
  have e : ∀ w, w < n → p[w]? = some (p.getD w n) := fun w hw => by
    simp [List.getD, List.getElem?_eq_getElem (show w < p.length by omega)]
  unfold relabelAdj
  rw [relabel_perm n A p (injLabels_of_perm n p hp) u v _ _ hu hv (e u hu) (e v hv)]
  cases A u v <;> simp [Bool.toInt']

/-- equal graphs: the identity is reported (`{-1: 'self', 0: 0, 1: 1, …}`), and it is an isomorphism -/
theorem identity_iso (n : Nat) (A : Adj) : isIsoMap n A A (List.range n) = true := by
  have hg : ∀ u, u < n → (List.range n).getD u n = u := fun u hu => by simp [List.getD, hu]
  refine (isIsoMap_iff n A A _).mpr ⟨List.length_range, fun u hu => by rw [hg u hu]; exact hu,
    fun u v hu hv e => by rwa [hg u hu, hg v hv] at e, fun u v hu hv => by rw [hg u hu, hg v hv]⟩


/-! ### the metric-guided LC walks of utils/preprocessing.py stay in the orbit -/

theorem mem_dropLast {α : Type} (l : List α) (a : α) (h : a ∈ l.dropLast) : a ∈ l :=
  (List.dropLast_sublist l).subset h

theorem mem_pyInsert {α : Type} (l : List α) (k : Nat) (v a : α) (h : a ∈ pyInsert l k v) : a = v ∨ a ∈ l := by
  unfold pyInsert at h
  rcases List.mem_append.mp h with h | h
  · right; exact List.mem_of_mem_take h
  · rcases List.mem_cons.mp h with h | h
    · left; exact h
    · right; exact List.mem_of_mem_drop h

theorem selectGraphs_mem (cands : List (Float × BMat)) (g : BMat) (limit : Nat) (val : Float) (c : Float × BMat)
    (h : c ∈ selectGraphs cands g limit val) : c ∈ cands ∨ c.2 = g := by
  unfold selectGraphs at h
  split at h
  · rcases List.mem_append.mp h with h | h
    · left; exact h
    · right; simp at h; rw [h]
  · split at h
    · rcases mem_pyInsert _ _ _ _ (mem_dropLast _ _ h) with h | h
      · right; rw [h]
      · left; exact h
    · left; exact h

theorem lcWalkTrial_inOrbit (n : Nat) (A : Adj) (hA : Simple n A) (nodeScore : BMat → Nat → Nat) (metric : BMat → Float)
    (limit : Nat) (cands : List (Float × BMat)) (hc : ∀ c ∈ cands, InOrbit n A c.2) :
    ∀ c ∈ lcWalkTrial nodeScore metric limit cands, InOrbit n A c.2 := by
  unfold lcWalkTrial
  simp only []
  have htmp : ∀ g ∈ (cands.flatMap fun c => (maxNodes c.2.r (nodeScore c.2)).map fun v => lcStep c.2 v), InOrbit n A g := by
    intro g hg
    simp only [List.mem_flatMap, List.mem_map] at hg
    obtain ⟨c, hcm, v, hv, e⟩ := hg
    rw [← e]
    have hin := hc c hcm
    apply lcStep_inOrbit n A c.2 v hA hin
    have : v < c.2.r := by
      unfold maxNodes at hv
      exact ((mem_filterTo _ _ v).mp hv).1
    rw [← hin.1]; exact this
  refine Loop.foldl_inv (fun acc : List (Float × BMat) => ∀ c ∈ acc, InOrbit n A c.2) (fun acc g hg hacc c hcm => ?_) hc
  rcases selectGraphs_mem acc g limit (metric g) c hcm with h | h
  · exact hacc c h
  · rw [h]; exact htmp g hg

/-- **`get_lc_graph_by_max_edge` / `get_lc_graph_by_max_neighbor_edge`**: every candidate graph they return is obtained
    from the input by local complementations — for every metric, every limit and every number of trials -/
theorem lcWalk_inOrbit (nodeScore : BMat → Nat → Nat) (metric : BMat → Float) (g : BMat) (limit trials : Nat)
    (out : List (Float × BMat)) (hsq : g.c = g.r) (hA : Simple g.r g.f) (e : lcWalk nodeScore metric g limit trials = .ok out) :
    ∀ c ∈ out, InOrbit g.r g.f c.2 := by
  unfold lcWalk at e
  split at e
  · cases e
  · injection e with e
    rw [← e]
    refine Loop.foldl_inv (fun cands => ∀ c ∈ cands, InOrbit g.r g.f c.2)
      (fun cands _ _ h => lcWalkTrial_inOrbit g.r g.f hA nodeScore metric limit cands h) (fun c hc => ?_)
    rw [List.mem_singleton.mp hc]
    exact inOrbit_self g.r g rfl hsq

end Graphiq
