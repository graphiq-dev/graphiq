/-
  Proofs/LC.lean — the GF(2) linear algebra of the LC-equivalence test: row reduction preserves the solution space (that it leaves
  an echelon matrix is Proofs/LCTotalEch.lean; `Piv` and the entries after `eliminate` are here), the coefficient matrix encodes the equations of Van den Nest–Dehaene–De Moor, sums of basis vectors, `A (A⁻¹ b) + b = 0`
  (`solF_of_kept`, `_vec_solution_finder`).  The decision is read off a run of the function in Proofs/LCTotal.lean.
-/
import GraphiqModel.Model.LC
import GraphiqModel.Proofs.GraphOps
import GraphiqModel.Proofs.Loop
import GraphiqModel.Proofs.BitEchelon
namespace Graphiq.LC
open Graphiq

/-! ### lists of indices -/

theorem filter_range_nodup (n : Nat) (p : Nat → Bool) : ((List.range n).filter p).Nodup :=
  List.Nodup.sublist List.filter_sublist List.nodup_range

theorem getD_of_lt (l : List Nat) (t : Nat) (ht : t < l.length) : l.getD t 0 = l[t] := by
  simp [List.getD, List.getElem?_eq_getElem ht]

theorem getD_mem_of_lt (l : List Nat) (t : Nat) (ht : t < l.length) : l.getD t 0 ∈ l := by
  rw [getD_of_lt l t ht]; exact List.getElem_mem ht

theorem exists_getD_of_mem (l : List Nat) (x : Nat) (h : x ∈ l) : ∃ t, t < l.length ∧ l.getD t 0 = x := by
  obtain ⟨t, ht, e⟩ := List.mem_iff_getElem.mp h
  exact ⟨t, ht, by rw [getD_of_lt l t ht]; exact e⟩

/-! ### solutions of a homogeneous system -/

def rowDot (m : BMat) (i : Nat) (v : Nat → Bool) : Bool := parityTo m.c fun j => m.f i j && v j

/-- `v` solves `M v = 0` over GF(2) -/
def SolF (m : BMat) (v : Nat → Bool) : Prop := ∀ i, i < m.r → rowDot m i v = false

theorem solves_iff (m : BMat) (v : List Bool) : solves m v = true ↔ SolF m (vget v) := by
  unfold solves SolF
  rw [List.all_eq_true]
  constructor
  · intro h i hi
    have := h i (List.mem_range.mpr hi)
    simpa [dotRow, rowDot] using this
  · intro h i hi
    have := h i (List.mem_range.mp hi)
    simpa [dotRow, rowDot] using this

theorem rowDot_norm (m : BMat) (i : Nat) (v : Nat → Bool) (hi : i < m.r) : rowDot m.norm i v = rowDot m i v := by
  unfold rowDot
  apply parityTo_congr
  intro j hj
  rw [BMat.norm_agree m i j hi hj]

theorem solF_norm (m : BMat) (v : Nat → Bool) : SolF m.norm v ↔ SolF m v := by
  constructor
  · intro h i hi; rw [← rowDot_norm m i v hi]; exact h i hi
  · intro h i hi; rw [rowDot_norm m i v hi]; exact h i hi

theorem parityTo_xor_and (m : BMat) (f g : Nat → Bool) (v : Nat → Bool) :
    (parityTo m.c fun j => xor (f j) (g j) && v j) = xor (parityTo m.c fun j => f j && v j) (parityTo m.c fun j => g j && v j) := by
  rw [← parityTo_xor]
  apply parityTo_congr
  intro j _
  cases f j <;> cases g j <;> cases v j <;> rfl

theorem solF_xor (m : BMat) (v w : Nat → Bool) (hv : SolF m v) (hw : SolF m w) : SolF m (fun j => xor (v j) (w j)) := by
  intro i hi
  unfold rowDot
  have : (parityTo m.c fun j => m.f i j && xor (v j) (w j)) =
      xor (parityTo m.c fun j => m.f i j && v j) (parityTo m.c fun j => m.f i j && w j) := by
    rw [← parityTo_xor]
    apply parityTo_congr
    intro j _
    cases m.f i j <;> cases v j <;> cases w j <;> rfl
  rw [this]
  have h1 := hv i hi
  have h2 := hw i hi
  unfold rowDot at h1 h2
  rw [h1, h2]; rfl

theorem solF_congr (m : BMat) (v w : Nat → Bool) (h : ∀ j, j < m.c → v j = w j) : SolF m v ↔ SolF m w := by
  have e : ∀ i, rowDot m i v = rowDot m i w := by
    intro i
    unfold rowDot
    apply parityTo_congr
    intro j hj
    rw [h j hj]
  constructor
  · intro hv i hi; rw [← e i]; exact hv i hi
  · intro hw i hi; rw [e i]; exact hw i hi

/-! ### row operations preserve the solution space -/

theorem rowSwap_sol (m : BMat) (a b : Nat) (v : Nat → Bool) (ha : a < m.r) (hb : b < m.r) :
    SolF (rowSwap m a b) v ↔ SolF m v := by
  have hrow : ∀ i, rowDot (rowSwap m a b) i v = rowDot m (if i = a then b else if i = b then a else i) v := by
    intro i
    unfold rowDot rowSwap
    simp only []
    by_cases h1 : i = a
    · simp [h1]
    · by_cases h2 : i = b
      · have h3 : ¬ b = a := fun e => h1 (h2.trans e)
        simp [h2, h3]
      · simp [h1, h2]
  constructor
  · intro h i hi
    by_cases h1 : i = a
    · have := h b hb
      rw [hrow] at this
      by_cases h3 : b = a
      · rw [h1, ← h3]; simpa [h3] using this
      · rw [h1]; simpa [h3] using this
    · by_cases h2 : i = b
      · have := h a ha
        rw [hrow] at this
        rw [h2]; simpa using this
      · have := h i hi
        rw [hrow] at this
        simpa [h1, h2] using this
  · intro h i hi
    rw [hrow]
    show rowDot m _ v = false
    split
    · exact h b hb
    · split
      · exact h a ha
      · exact h i hi

theorem addRows_sol (m : BMat) (s t : Nat) (v : Nat → Bool) (hs : s < m.r) (hst : s ≠ t) :
    SolF (addRows m s t) v ↔ SolF m v := by
  have hrow : ∀ i, rowDot (addRows m s t) i v = if i = t then xor (rowDot m s v) (rowDot m t v) else rowDot m i v := by
    intro i
    unfold rowDot addRows
    simp only []
    by_cases h1 : i = t
    · simp only [h1, if_true]
      exact parityTo_xor_and m (m.f s) (m.f t) v
    · simp [h1]
  constructor
  · intro h i hi
    by_cases h1 : i = t
    · have h2 := h t (by rw [← h1]; exact hi)
      have h3 := h s hs
      rw [hrow] at h2 h3
      simp only [if_true] at h2
      simp only [hst, if_false] at h3
      rw [h3] at h2
      rw [h1]; simpa using h2
    · have := h i hi
      rw [hrow] at this
      simpa [h1] using this
  · intro h i hi
    rw [hrow]
    split
    · rename_i h1
      rw [h s hs, h t (by rw [← h1]; exact hi)]; rfl
    · exact h i hi

@[simp] theorem rowSwap_r (m : BMat) (a b : Nat) : (rowSwap m a b).r = m.r := rfl
@[simp] theorem rowSwap_c (m : BMat) (a b : Nat) : (rowSwap m a b).c = m.c := rfl
@[simp] theorem addRows_r (m : BMat) (a b : Nat) : (addRows m a b).r = m.r := rfl
@[simp] theorem addRows_c (m : BMat) (a b : Nat) : (addRows m a b).c = m.c := rfl

theorem foldAdd_dims (m : BMat) (pr : Nat) (rest : List Nat) :
    (rest.foldl (fun acc j => addRows acc pr j) m).r = m.r ∧ (rest.foldl (fun acc j => addRows acc pr j) m).c = m.c := by
  refine Loop.foldl_inv (fun a : BMat => a.r = m.r ∧ a.c = m.c) (fun _ _ _ h => ?_) ⟨rfl, rfl⟩
  exact h

theorem foldAdd_sol (m : BMat) (pr : Nat) (rest : List Nat) (v : Nat → Bool) (hpr : pr < m.r)
    (hr : ∀ j ∈ rest, pr ≠ j) : SolF (rest.foldl (fun acc j => addRows acc pr j) m) v ↔ SolF m v := by
  refine (Loop.foldl_inv (fun a : BMat => a.r = m.r ∧ (SolF a v ↔ SolF m v)) (fun a j hj h => ?_) ⟨rfl, Iff.rfl⟩).2
  exact ⟨h.1, (addRows_sol a pr j v (h.1 ▸ hpr) (hr j hj)).trans h.2⟩

theorem eliminate_dims (m : BMat) (pr first : Nat) (rest : List Nat) :
    (eliminate m pr first rest).r = m.r ∧ (eliminate m pr first rest).c = m.c := by
  unfold eliminate
  have := foldAdd_dims (rowSwap m first pr) pr rest
  simpa using this

theorem eliminate_sol (m : BMat) (pr first : Nat) (rest : List Nat) (v : Nat → Bool) (hpr : pr < m.r) (hf : first < m.r)
    (hr : ∀ j ∈ rest, pr ≠ j) : SolF (eliminate m pr first rest) v ↔ SolF m v := by
  unfold eliminate
  rw [solF_norm, foldAdd_sol (rowSwap m first pr) pr rest v (by simpa using hpr) hr]
  exact rowSwap_sol m first pr v hf hpr

/-- the rows below (and including) the pivot row with a 1 in the pivot column: increasing, in range, not above the pivot -/
theorem theOnes_spec (m : BMat) (lo c o : Nat) (rest : List Nat) (h : theOnes m lo c = o :: rest) :
    o < m.r ∧ lo ≤ o ∧ ∀ j ∈ rest, o < j := by
  obtain ⟨hf, _, hrest, _, _⟩ := Elim.ones_cons (q := fun i => m.f i c) h
  exact ⟨hf.2.1, hf.1, fun j hj => ((hrest j).1 hj).1⟩

/-- what one call of `_row_red_one_step` at the pivot `(pr, pc)` does: in the last column it stops (the returned row index drops
    by one when the column is empty from `pr` on); in the last row it stops on a set entry and moves right otherwise; elsewhere
    it moves right, one row down after an elimination -/
inductive RRCase (x z : BMat) (pr pc : Nat) : RRStep → Prop
  | lastColEmpty : pc + 1 = x.c → theOnes x pr pc = [] → RRCase x z pr pc ⟨x, z, (pr : Int) - 1, pc, false⟩
  | lastColElim (o : Nat) (rest : List Nat) : pc + 1 = x.c → theOnes x pr pc = o :: rest →
      RRCase x z pr pc ⟨eliminate x pr o rest, eliminate z pr o rest, pr, pc, false⟩
  | lastRowSet : pc + 1 ≠ x.c → pr + 1 = x.r → x.f pr pc = true → RRCase x z pr pc ⟨x, z, pr, pc, false⟩
  | lastRowSkip : pc + 1 ≠ x.c → pr + 1 = x.r → x.f pr pc = false → RRCase x z pr pc ⟨x, z, pr, pc + 1, true⟩
  | skip : pc + 1 ≠ x.c → pr + 1 ≠ x.r → theOnes x pr pc = [] → RRCase x z pr pc ⟨x, z, pr, pc + 1, true⟩
  | elim (o : Nat) (rest : List Nat) : pc + 1 ≠ x.c → pr + 1 ≠ x.r → theOnes x pr pc = o :: rest →
      RRCase x z pr pc ⟨eliminate x pr o rest, eliminate z pr o rest, (pr : Int) + 1, pc + 1, true⟩

theorem rowRedOneStep_case (x z : BMat) (pr pc : Nat) : RRCase x z pr pc (rowRedOneStep x z pr pc) := by
  unfold rowRedOneStep
  split
  · rename_i hlast
    split
    · exact .lastColEmpty hlast ‹_›
    · exact .lastColElim _ _ hlast ‹_›
  · rename_i hlast
    split
    · rename_i hrow
      split
      · exact .lastRowSet hlast hrow ‹_›
      · exact .lastRowSkip hlast hrow (by simpa using ‹¬ x.f pr pc = true›)
    · rename_i hrow
      split
      · exact .skip hlast hrow ‹_›
      · exact .elim _ _ hlast hrow ‹_›

/-- one step of the row reduction keeps the shape, the solution space, and (when it continues) a pivot row in range -/
theorem rowRedOneStep_spec (x z : BMat) (pr pc : Nat) (v : Nat → Bool) (hpr : pr < x.r) :
    (rowRedOneStep x z pr pc).x.r = x.r ∧ (rowRedOneStep x z pr pc).x.c = x.c ∧
    (SolF (rowRedOneStep x z pr pc).x v ↔ SolF x v) ∧
    ((rowRedOneStep x z pr pc).cont = true → (rowRedOneStep x z pr pc).pr.toNat < x.r ∧ (rowRedOneStep x z pr pc).pc = pc + 1) := by
  have h := rowRedOneStep_case x z pr pc
  generalize rowRedOneStep x z pr pc = s at h ⊢
  have elimOK : ∀ o rest, theOnes x pr pc = o :: rest → (eliminate x pr o rest).r = x.r ∧ (eliminate x pr o rest).c = x.c ∧
      (SolF (eliminate x pr o rest) v ↔ SolF x v) := fun o rest ho => by
    obtain ⟨h1, _, h3⟩ := theOnes_spec x pr pc o rest ho
    exact ⟨(eliminate_dims x pr o rest).1, (eliminate_dims x pr o rest).2,
      eliminate_sol x pr o rest v hpr h1 (fun j hj => by have := h3 j hj; omega)⟩
  cases h with
  | lastColEmpty _ _ => exact ⟨rfl, rfl, Iff.rfl, by simp⟩
  | lastColElim o rest _ ho => exact ⟨(elimOK o rest ho).1, (elimOK o rest ho).2.1, (elimOK o rest ho).2.2, by simp⟩
  | lastRowSet _ _ _ => exact ⟨rfl, rfl, Iff.rfl, by simp⟩
  | lastRowSkip _ _ _ => exact ⟨rfl, rfl, Iff.rfl, fun _ => ⟨by simpa using hpr, rfl⟩⟩
  | skip _ _ _ => exact ⟨rfl, rfl, Iff.rfl, fun _ => ⟨by simpa using hpr, rfl⟩⟩
  | elim o rest _ hrow ho =>
    refine ⟨(elimOK o rest ho).1, (elimOK o rest ho).2.1, (elimOK o rest ho).2.2, fun _ => ⟨?_, rfl⟩⟩
    show ((pr : Int) + 1).toNat < x.r
    omega

theorem rowReductionLoop_spec (fuel : Nat) (x z : BMat) (pr pc : Nat) (v : Nat → Bool) (hpr : pr < x.r) :
    (rowReductionLoop fuel x z pr pc).1.r = x.r ∧ (rowReductionLoop fuel x z pr pc).1.c = x.c ∧
    (SolF (rowReductionLoop fuel x z pr pc).1 v ↔ SolF x v) := by
  induction fuel generalizing x z pr pc with
  | zero => exact ⟨rfl, rfl, Iff.rfl⟩
  | succ f ih =>
    simp only [rowReductionLoop]
    obtain ⟨h1, h2, h3, h4⟩ := rowRedOneStep_spec x z pr pc v hpr
    split
    · rename_i hc
      obtain ⟨h5, _⟩ := h4 hc
      obtain ⟨i1, i2, i3⟩ := ih (rowRedOneStep x z pr pc).x (rowRedOneStep x z pr pc).z (rowRedOneStep x z pr pc).pr.toNat
        (rowRedOneStep x z pr pc).pc (by rw [h1]; exact h5)
      exact ⟨i1.trans h1, i2.trans h2, i3.trans h3⟩
    · exact ⟨h1, h2, h3⟩

/-- **row reduction preserves the solution space** (and the shape) -/
theorem rowReduction_spec (x z : BMat) (v : Nat → Bool) (hr : 0 < x.r) :
    (rowReduction x z).1.r = x.r ∧ (rowReduction x z).1.c = x.c ∧ (SolF (rowReduction x z).1 v ↔ SolF x v) :=
  rowReductionLoop_spec x.c x z 0 0 v hr

theorem anyRow_false (m : BMat) (i : Nat) (v : Nat → Bool)
    (h : ((List.range m.c).any fun j => m.f i j) = false) : rowDot m i v = false := by
  unfold rowDot
  apply parityTo_zero
  intro j hj
  rw [List.any_eq_false] at h
  have := h j (List.mem_range.mpr hj)
  simp at this
  simp [this]

theorem selectRows_sol (m : BMat) (v : Nat → Bool) : SolF (selectRows m (nonzeroRows m)) v ↔ SolF m v := by
  have hrow : ∀ k, rowDot (selectRows m (nonzeroRows m)) k v = rowDot m ((nonzeroRows m).getD k 0) v := fun _ => rfl
  constructor
  · intro h i hi
    by_cases hz : ((List.range m.c).any fun j => m.f i j) = true
    · have hm : i ∈ nonzeroRows m := by
        simp only [nonzeroRows, List.mem_filter, List.mem_range]
        exact ⟨hi, hz⟩
      obtain ⟨k, hk, e⟩ := List.getElem_of_mem hm
      have := h k hk
      rw [hrow] at this
      have e2 : (nonzeroRows m).getD k 0 = i := by
        simp [List.getD, List.getElem?_eq_getElem hk, e]
      rw [e2] at this; exact this
    · exact anyRow_false m i v (by simpa using hz)
  · intro h k hk
    rw [hrow]
    have hk' : k < (nonzeroRows m).length := hk
    have hm : (nonzeroRows m).getD k 0 ∈ nonzeroRows m := by
      simp [List.getD, List.getElem?_eq_getElem hk']
    simp only [nonzeroRows, List.mem_filter, List.mem_range] at hm
    exact h _ hm.1

/-! ### sums of basis vectors -/

theorem vget_vxor (a b : List Bool) (j : Nat) (h : a.length = b.length) : vget (vxor a b) j = xor (vget a j) (vget b j) := by
  unfold vget vxor
  by_cases hj : j < a.length
  · have hjb : j < b.length := by omega
    simp [List.getD, List.getElem?_zipWith, List.getElem?_eq_getElem hj, List.getElem?_eq_getElem hjb]
  · have hjb : ¬ j < b.length := by omega
    have h1 : a[j]? = none := List.getElem?_eq_none (by omega)
    have h2 : b[j]? = none := List.getElem?_eq_none (by omega)
    simp [List.getD, List.getElem?_zipWith, h1, h2]

theorem vxor_length (a b : List Bool) (h : a.length = b.length) : (vxor a b).length = a.length := by
  simp [vxor, h]

def GoodVec (m : BMat) (v : List Bool) : Prop := v.length = m.c ∧ SolF m (vget v)

theorem goodVec_vxor (m : BMat) (a b : List Bool) (ha : GoodVec m a) (hb : GoodVec m b) : GoodVec m (vxor a b) := by
  have hl : a.length = b.length := by rw [ha.1, hb.1]
  refine ⟨by rw [vxor_length a b hl, ha.1], ?_⟩
  rw [solF_congr m _ (fun j => xor (vget a j) (vget b j)) (fun j _ => vget_vxor a b j hl)]
  exact solF_xor m _ _ ha.2 hb.2

theorem vget_replicate_false (w pos : Nat) : vget (List.replicate w false) pos = false := by
  simp only [vget, List.getD, List.getElem?_replicate]
  split <;> rfl

theorem goodVec_zero (m : BMat) : GoodVec m (List.replicate m.c false) := by
  refine ⟨by simp, ?_⟩
  intro i _
  unfold rowDot
  apply parityTo_zero
  intro j _
  rw [vget_replicate_false]; simp

theorem getD_mem_or (basis : List (List Bool)) (j : Nat) (hj : j < basis.length) : basis.getD j [] ∈ basis := by
  simp [List.getD, List.getElem?_eq_getElem hj]

theorem goodVec_lin (m : BMat) (basis : List (List Bool)) (coef : List Bool) (hb : ∀ v ∈ basis, GoodVec m v) :
    GoodVec m (lin m.c basis coef) := by
  unfold lin
  refine Loop.foldl_inv (GoodVec m) (fun acc p hp h => ?_) (goodVec_zero m)
  split
  · exact goodVec_vxor m _ _ h (hb p.2 (List.of_mem_zip hp).2)
  · exact h

theorem mem_pairs {α : Type} (l : List α) (p : α × α) (h : p ∈ pairs l) : p.1 ∈ l ∧ p.2 ∈ l := by
  induction l with
  | nil => simp [pairs] at h
  | cons a t ih =>
    simp only [pairs, List.mem_append, List.mem_map] at h
    rcases h with ⟨b, hb, e⟩ | h
    · rw [← e]; exact ⟨by simp, List.mem_cons_of_mem _ hb⟩
    · exact ⟨List.mem_cons_of_mem _ (ih h).1, List.mem_cons_of_mem _ (ih h).2⟩

/-! ### the linear system, equation by equation -/

theorem parityTo_blocks4 (n : Nat) (f : Nat → Bool) :
    parityTo (4 * n) f = parityTo n fun m => xor (xor (f (4 * m)) (f (4 * m + 1))) (xor (f (4 * m + 2)) (f (4 * m + 3))) := by
  induction n with
  | zero => rfl
  | succ k ih =>
    have : 4 * (k + 1) = 4 * k + 1 + 1 + 1 + 1 := by omega
    rw [this]
    simp only [parityTo, ih]
    cases parityTo k _ <;> cases f (4 * k) <;> cases f (4 * k + 1) <;> cases f (4 * k + 2) <;> cases f (4 * k + 3) <;> rfl

/-- equation `(j, k)` of `_coeff_maker(θ, θ')`:
    `Σ_m θ_mj θ'_mk c_m + θ_jk a_k + θ'_jk d_j + δ_jk b_j` (Van den Nest–Dehaene–De Moor, eq. (6)) -/
def equation (n : Nat) (z1 z2 : Adj) (v : Nat → Bool) (j k : Nat) : Bool :=
  xor (xor (parityTo n fun m => z1 m j && z2 m k && v (4 * m + 2)) (z1 j k && v (4 * k)))
      (xor (z2 j k && v (4 * j + 3)) (decide (j = k) && v (4 * j + 1)))

theorem equation_eq_sum (n : Nat) (z1 z2 : Adj) (v : Nat → Bool) (j k : Nat) (hj : j < n) (hk : k < n) :
    equation n z1 z2 v j k = parityTo n fun m =>
      xor (xor (z1 m j && z2 m k && v (4 * m + 2)) (decide (m = k) && (z1 j k && v (4 * k))))
          (xor (decide (m = j) && (z2 j k && v (4 * j + 3))) (decide (m = k) && (decide (j = k) && v (4 * j + 1)))) := by
  unfold equation
  rw [parityTo_xor, parityTo_xor, parityTo_xor, parityTo_single n k _ hk, parityTo_single n j _ hj, parityTo_single n k _ hk]

theorem coeffMaker_row (n : Nat) (z1 z2 : Adj) (v : Nat → Bool) (j k : Nat) (hj : j < n) (hk : k < n) :
    rowDot (coeffMaker n z1 z2) (n * j + k) v = equation n z1 z2 v j k := by
  have hn : 0 < n := by omega
  have hdiv : (n * j + k) / n = j := by
    rw [Nat.mul_add_div hn, Nat.div_eq_of_lt hk]; rfl
  have hmod : (n * j + k) % n = k := by
    rw [Nat.mul_add_mod, Nat.mod_eq_of_lt hk]
  have ht : ∀ m t, t < 4 → (coeffMaker n z1 z2).f (n * j + k) (4 * m + t) = coeffEntry z1 z2 j k m t := by
    intro m t ht
    show coeffEntry z1 z2 ((n * j + k) / n) ((n * j + k) % n) ((4 * m + t) / 4) ((4 * m + t) % 4) = _
    rw [hdiv, hmod]
    have : (4 * m + t) / 4 = m := by omega
    rw [this]
    have : (4 * m + t) % 4 = t := by omega
    rw [this]
  have ht0 : ∀ m, (coeffMaker n z1 z2).f (n * j + k) (4 * m) = coeffEntry z1 z2 j k m 0 := fun m => ht m 0 (by omega)
  unfold rowDot
  show parityTo (4 * n) _ = _
  rw [parityTo_blocks4, equation_eq_sum n z1 z2 v j k hj hk]
  apply parityTo_congr
  intro m _
  rw [ht0 m, ht m 1 (by omega), ht m 2 (by omega), ht m 3 (by omega)]
  simp only [coeffEntry]
  by_cases h1 : m = k <;> by_cases h2 : m = j
  · subst h1; subst h2; simp
    cases z1 m m <;> cases z2 m m <;> cases v (4 * m) <;> cases v (4 * m + 1) <;> cases v (4 * m + 2) <;> cases v (4 * m + 3) <;> rfl
  · subst h1
    have h3 : ¬ j = m := fun e => h2 e.symm
    simp [h2, h3]
    cases z1 j m <;> cases z1 m j <;> cases z2 m m <;> cases v (4 * m) <;> cases v (4 * m + 2) <;> rfl
  · subst h2
    simp [h1]
  · simp [h1, h2]

/-- a solution of the model's coefficient matrix is a solution of every equation of the paper, and conversely -/
theorem solF_coeff_iff (n : Nat) (z1 z2 : Adj) (v : Nat → Bool) :
    SolF (coeffMaker n z1 z2) v ↔ ∀ j k, j < n → k < n → equation n z1 z2 v j k = false := by
  constructor
  · intro h j k hj hk
    rw [← coeffMaker_row n z1 z2 v j k hj hk]
    apply h
    show n * j + k < n * n
    calc n * j + k < n * j + n := by omega
      _ = n * (j + 1) := by rw [Nat.mul_succ]
      _ ≤ n * n := Nat.mul_le_mul_left n hj
  · intro h i hi
    have hi' : i < n * n := hi
    have hn : 0 < n := by
      rcases Nat.eq_zero_or_pos n with e | e
      · subst e; simp at hi'
      · exact e
    have e : i = n * (i / n) + i % n := (Nat.div_add_mod i n).symm
    rw [e, coeffMaker_row n z1 z2 v (i / n) (i % n) (Nat.div_lt_of_lt_mul hi') (Nat.mod_lt i hn)]
    exact h _ _ (Nat.div_lt_of_lt_mul hi') (Nat.mod_lt i hn)


/-! ### the entries of a combination of basis vectors -/

theorem allCoefs_complete (c : List Bool) : c ∈ allCoefs c.length := by
  induction c with
  | nil => simp [allCoefs]
  | cons b t ih =>
    simp only [List.length_cons, allCoefs, List.mem_append, List.mem_map]
    cases b
    · left; exact ⟨t, ih, rfl⟩
    · right; exact ⟨t, ih, rfl⟩

theorem vget_cons_succ (b : Bool) (l : List Bool) (t : Nat) : vget (b :: l) (t + 1) = vget l t := by
  simp [vget]

theorem vget_cons_zero (b : Bool) (l : List Bool) : vget (b :: l) 0 = b := by simp [vget]

theorem lin_fold_vget (width : Nat) (basis : List (List Bool)) (coef : List Bool) (acc : List Bool) (pos : Nat)
    (hlen : coef.length = basis.length) (hb : ∀ v ∈ basis, v.length = width) (hacc : acc.length = width) :
    vget ((List.zip coef basis).foldl (fun acc p => if p.1 then vxor acc p.2 else acc) acc) pos =
      xor (vget acc pos) (parityTo basis.length fun t => vget coef t && vget (basis.getD t []) pos) := by
  induction basis generalizing coef acc with
  | nil => simp [parityTo]
  | cons b bs ih =>
    cases coef with
    | nil => simp at hlen
    | cons c cs =>
      simp only [List.zip_cons_cons, List.foldl_cons, List.length_cons]
      have hbl : b.length = width := hb b (by simp)
      have hacc' : (if c = true then vxor acc b else acc).length = width := by
        split
        · rw [vxor_length acc b (by rw [hacc, hbl]), hacc]
        · exact hacc
      rw [ih cs _ (by simpa using hlen) (fun v hv => hb v (List.mem_cons_of_mem _ hv)) hacc', parityTo_succ_left]
      have e1 : vget (c :: cs) 0 = c := vget_cons_zero c cs
      have e2 : (b :: bs).getD 0 [] = b := by simp
      have e3 : ∀ t, vget (c :: cs) (t + 1) = vget cs t := fun t => vget_cons_succ c cs t
      have e4 : ∀ t, (b :: bs).getD (t + 1) [] = bs.getD t [] := fun t => by simp
      simp only [e1, e2, e3, e4]
      cases c
      · simp
      · simp only [if_true, Bool.true_and]
        rw [vget_vxor acc b pos (by rw [hacc, hbl])]
        cases vget acc pos <;> cases vget b pos <;> cases parityTo bs.length _ <;> rfl

theorem lin_vget (width : Nat) (basis : List (List Bool)) (coef : List Bool) (pos : Nat)
    (hlen : coef.length = basis.length) (hb : ∀ v ∈ basis, v.length = width) :
    vget (lin width basis coef) pos = parityTo basis.length fun t => vget coef t && vget (basis.getD t []) pos := by
  unfold lin
  rw [lin_fold_vget width basis coef _ pos hlen hb (by simp), vget_replicate_false]
  simp


/-! ### sums over a sub-list of the columns; the exact inverse; the kept columns -/

theorem getD_append_left (l1 l2 : List Nat) (k : Nat) (hk : k < l1.length) : (l1 ++ l2).getD k 0 = l1.getD k 0 := by
  simp [List.getD, List.getElem?_append_left hk]

theorem parityTo_filter (c : Nat) (p : Nat → Bool) (f : Nat → Bool) :
    parityTo c (fun j => p j && f j) =
      parityTo ((List.range c).filter p).length (fun k => f (((List.range c).filter p).getD k 0)) := by
  induction c with
  | zero => rfl
  | succ c ih =>
    rw [List.range_succ, List.filter_append]
    by_cases hp : p c = true
    · have e : List.filter p [c] = [c] := by simp [hp]
      rw [e, List.length_append]
      show xor (parityTo c _) (p c && f c) = xor (parityTo _ _) _
      rw [ih, hp]
      congr 1
      · apply parityTo_congr
        intro k hk
        rw [getD_append_left _ _ k hk]
      · simp [List.getD, List.getElem?_append_right]
    · have hp' : p c = false := by simpa using hp
      have e : List.filter p [c] = [] := by simp [hp']
      rw [e, List.append_nil]
      show xor (parityTo c _) (p c && f c) = _
      rw [ih, hp']; simp


theorem isInverse_spec (k : Nat) (t a : Adj) (h : isInverse k t a = true) (i j : Nat) (hi : i < k) (hj : j < k) :
    matMul k t a i j = decide (i = j) ∧ matMul k a t i j = decide (i = j) := by
  unfold isInverse at h
  rw [List.all_eq_true] at h
  have h1 := h i (List.mem_range.mpr hi)
  rw [List.all_eq_true] at h1
  have h2 := h1 j (List.mem_range.mpr hj)
  simp only [Bool.and_eq_true, beq_iff_eq, idM] at h2
  exact h2

theorem gf2Inv_spec (a ainv : BMat) (h : gf2Inv a = .ok ainv) :
    a.r = a.c ∧ ∀ i j, i < a.r → j < a.r →
      matMul a.r ainv.f a.f i j = decide (i = j) ∧ matMul a.r a.f ainv.f i j = decide (i = j) := by
  unfold gf2Inv at h
  split at h
  · cases h
  · rename_i hsq
    split at h
    · cases h
    · split at h
      · rename_i hinv
        cases h
        exact ⟨by simpa using hsq, fun i j hi hj => isInverse_spec _ _ _ hinv i j hi hj⟩
      · cases h

/-- the columns that are not free -/
def keepCols (m : BMat) (colList : List Nat) : List Nat := (List.range m.c).filter fun j => !colList.contains j

theorem isValidClifford_zero (n : Nat) (hn : 0 < n) (v : List Bool) (hz : ∀ j, j < 4 * n → vget v j = false) :
    isValidClifford n v = false := by
  unfold isValidClifford
  rw [List.all_eq_false]
  refine ⟨0, List.mem_range.mpr hn, ?_⟩
  rw [hz 0 (by omega), hz 1 (by omega), hz 2 (by omega), hz 3 (by omega)]
  simp

theorem isValidClifford_congr (n : Nat) (u v : List Bool) (h : ∀ j, j < 4 * n → vget u j = vget v j) :
    isValidClifford n u = isValidClifford n v := by
  unfold isValidClifford
  rw [Bool.eq_iff_iff, List.all_eq_true, List.all_eq_true]
  constructor
  · intro hh i hi
    have hi' : i < n := List.mem_range.mp hi
    rw [← h (4 * i) (by omega), ← h (4 * i + 1) (by omega), ← h (4 * i + 2) (by omega), ← h (4 * i + 3) (by omega)]
    exact hh i hi
  · intro hh i hi
    have hi' : i < n := List.mem_range.mp hi
    rw [h (4 * i) (by omega), h (4 * i + 1) (by omega), h (4 * i + 2) (by omega), h (4 * i + 3) (by omega)]
    exact hh i hi

/-! ### soundness of `_vec_solution_finder` (mode = "random") -/

theorem vget_map_range (c : Nat) (f : Nat → Bool) (j : Nat) (hj : j < c) : vget ((List.range c).map f) j = f j :=
  getD_map_range c j f hj

theorem keepCols_nodup (m : BMat) (colList : List Nat) : (keepCols m colList).Nodup :=
  filter_range_nodup m.c _

theorem findIdx_keep (l : List Nat) (hn : l.Nodup) (k : Nat) (hk : k < l.length) :
    l.findIdx? (· == l.getD k 0) = some k := by
  have hget : l.getD k 0 = l[k] := by simp [List.getD, List.getElem?_eq_getElem hk]
  rw [hget, List.findIdx?_eq_some_iff_getElem]
  refine ⟨hk, by simp, fun j hj => ?_⟩
  have hjl : j < l.length := by omega
  have : l[j] ≠ l[k] := fun e => by
    have := (List.getElem_inj hn).mp e
    omega
  simpa using this

theorem findIdx_none_of_not_mem (l : List Nat) (j : Nat) (h : j ∉ l) : l.findIdx? (· == j) = none := by
  rw [List.findIdx?_eq_none_iff]
  intro x hx
  have : x ≠ j := fun e => h (e ▸ hx)
  simpa using this

/-- **`A (A⁻¹ b) + b = 0`**: a vector whose entries on the kept (pivot) columns are `A⁻¹ b`, where `b` is the product of `m` with its
    entries on the listed (free) columns, solves the system -/
theorem solF_of_kept (m : BMat) (colList : List Nat) (ainv : BMat) (hinv : gf2Inv (deleteCols m colList) = .ok ainv)
    (s : Nat → Bool)
    (hk : ∀ t, t < m.r → s ((keepCols m colList).getD t 0) =
      parityTo m.r fun l => ainv.f t l && parityTo m.c fun j => colList.contains j && (m.f l j && s j)) : SolF m s := by
  obtain ⟨hsq, hI⟩ := gf2Inv_spec _ _ hinv
  have hr : (deleteCols m colList).r = m.r := rfl
  have hkl : m.r = (keepCols m colList).length := by rw [← hr, hsq]; rfl
  intro i hi
  unfold rowDot
  have esplit : ∀ j, j < m.c → (m.f i j && s j) =
      xor ((!colList.contains j) && (m.f i j && s j)) (colList.contains j && (m.f i j && s j)) := by
    intro j _
    cases colList.contains j <;> simp
  rw [parityTo_congr m.c _ _ esplit, parityTo_xor, parityTo_filter]
  generalize hb : (fun l => parityTo m.c fun j => colList.contains j && (m.f l j && s j)) = b
  have hbl : ∀ l, (parityTo m.c fun j => colList.contains j && (m.f l j && s j)) = b l := fun l => congrFun hb l
  rw [hbl i]
  show xor (parityTo (keepCols m colList).length fun t =>
    m.f i ((keepCols m colList).getD t 0) && s ((keepCols m colList).getD t 0)) (b i) = false
  rw [← hkl]
  have e1 : ∀ t, t < m.r → (m.f i ((keepCols m colList).getD t 0) && s ((keepCols m colList).getD t 0)) =
      parityTo m.r (fun l => (deleteCols m colList).f i t && ainv.f t l && b l) := by
    intro t ht
    rw [hk t ht, ← parityTo_and_const]
    apply parityTo_congr
    intro l _
    rw [hbl l, Bool.and_assoc]; rfl
  rw [parityTo_congr m.r _ _ e1, parityTo_fubini]
  have e2 : ∀ l, l < m.r → (parityTo m.r fun t => (deleteCols m colList).f i t && ainv.f t l && b l) =
      (decide (i = l) && b l) := by
    intro l hl
    rw [parityTo_const_and]
    have := (hI i l (by rw [hr]; exact hi) (by rw [hr]; exact hl)).2
    rw [hr] at this
    unfold matMul at this
    rw [this]
  rw [parityTo_congr m.r _ _ e2, parityTo_single_symm m.r i _ hi]
  cases b i <;> rfl

/-- `_vec_solution_finder` returns a solution of the reduced system, whatever the random free coordinates were: the returned
    vector agrees with `var` (the drawn bits, 0 on the kept columns) on the listed columns and with `A⁻¹ (M var)` on the kept
    ones, which is the hypothesis of `solF_of_kept` -/
theorem vecSolutionFinder_sound (m : BMat) (colList : List Nat) (bits s : List Bool)
    (e : vecSolutionFinder m colList bits = .ok s) : s.length = m.c ∧ SolF m (vget s) := by
  unfold vecSolutionFinder at e
  simp only [] at e
  split at e
  · cases e
  · rename_i ainv hinv
    injection e with e
    have hr : (deleteCols m colList).r = m.r := rfl
    have hkl : m.r = (keepCols m colList).length := by rw [← hr, (gf2Inv_spec _ _ hinv).1]; rfl
    refine ⟨by rw [← e]; simp, solF_of_kept m colList ainv hinv _ fun t ht => ?_⟩
    generalize hvar : ((List.range m.c).map fun j =>
        match colList.findIdx? (· == j) with
        | some k => bits.getD k false
        | none => false) = var at e
    generalize hb : ((List.range m.r).map fun i => dotRow m i var) = b at e
    generalize hx : ((List.range (deleteCols m colList).r).map fun k =>
        parityTo (deleteCols m colList).r fun l => ainv.f k l && vget b l) = x at e
    have hkeep : ((List.range m.c).filter fun j => !colList.contains j) = keepCols m colList := rfl
    rw [hkeep] at e
    have hs_free : ∀ j, j < m.c → colList.contains j = true → vget s j = vget var j := by
      intro j hj hcj
      rw [← e, vget_map_range m.c _ j hj]
      have : j ∉ keepCols m colList := by
        simp only [keepCols, List.mem_filter, List.mem_range, not_and]
        intro _; rw [hcj]; simp
      rw [findIdx_none_of_not_mem _ j this]
    have hvar_keep : ∀ j, j < m.c → colList.contains j = false → vget var j = false := by
      intro j hj hcj
      rw [← hvar, vget_map_range m.c _ j hj]
      have : j ∉ colList := by simpa using hcj
      rw [findIdx_none_of_not_mem _ j this]
    have htk : t < (keepCols m colList).length := by rw [← hkl]; exact ht
    have hlt : (keepCols m colList).getD t 0 < m.c := by
      have hmem : (keepCols m colList).getD t 0 ∈ keepCols m colList := by
        simp [List.getD, List.getElem?_eq_getElem htk]
      simp only [keepCols, List.mem_filter, List.mem_range] at hmem; exact hmem.1
    have hs_keep : vget s ((keepCols m colList).getD t 0) = vget x t := by
      rw [← e, vget_map_range m.c _ _ hlt, findIdx_keep _ (keepCols_nodup m colList) t htk]
    rw [hs_keep, ← hx, hr, vget_map_range m.r _ t ht]
    apply parityTo_congr
    intro l hl
    rw [← hb, vget_map_range m.r _ l hl]
    congr 1
    unfold dotRow
    apply parityTo_congr
    intro j hj
    cases hcj : colList.contains j
    · rw [hvar_keep j hj hcj]; simp
    · rw [hs_free j hj hcj]; simp


theorem randomChecker_sound (n : Nat) (m : BMat) (colList : List Nat) (ts : List (List Bool)) (k k' : Nat) (s : List Bool)
    (e : randomChecker n m colList ts k = .ok (some s, k')) :
    s.length = m.c ∧ SolF m (vget s) ∧ isValidClifford n s = true := by
  induction ts generalizing k with
  | nil => simp [randomChecker] at e
  | cons t rest ih =>
    simp only [randomChecker] at e
    split at e
    · cases e
    · rename_i s1 e1
      split at e
      · rename_i hv
        injection e with e
        injection e with e2 _
        injection e2 with e2
        rw [← e2]
        obtain ⟨h1, h2⟩ := vecSolutionFinder_sound m colList t s1 e1
        exact ⟨h1, h2, hv⟩
      · exact ih (k + 1) e

/-! ### pivots, and the entries of a matrix after `eliminate` -/

/-- rows `0..k-1` carry pivots at strictly increasing columns below `bound`; every pivot column is zero below its pivot -/
structure Piv (x : BMat) (k bound : Nat) (piv : Nat → Nat) : Prop where
  one : ∀ i, i < k → x.f i (piv i) = true
  below : ∀ i i', i < k → i < i' → i' < x.r → x.f i' (piv i) = false
  incr : ∀ i i', i < i' → i' < k → piv i < piv i'
  bound : ∀ i, i < k → piv i < bound

theorem foldAdd_entry (m : BMat) (pr : Nat) (rest : List Nat) (i j : Nat) (hn : rest.Nodup) (hpr : pr ∉ rest) :
    (rest.foldl (fun acc t => addRows acc pr t) m).f i j = if i ∈ rest then xor (m.f pr j) (m.f i j) else m.f i j := by
  induction rest generalizing m with
  | nil => simp
  | cons t rest' ih =>
    have hnt : t ∉ rest' := (List.nodup_cons.mp hn).1
    have hprt : pr ≠ t := fun e => hpr (by simp [e])
    have hpr' : pr ∉ rest' := fun e => hpr (List.mem_cons_of_mem _ e)
    simp only [List.foldl_cons]
    rw [ih (addRows m pr t) (List.nodup_cons.mp hn).2 hpr']
    have e1 : (addRows m pr t).f pr j = m.f pr j := by simp [addRows, hprt]
    rw [e1]
    by_cases hit : i = t
    · subst hit
      simp [hnt, addRows]
    · have : (addRows m pr t).f i j = m.f i j := by simp [addRows, hit]
      rw [this]
      simp [hit]

theorem mem_theOnes (m : BMat) (lo c i : Nat) : i ∈ theOnes m lo c ↔ i < m.r ∧ lo ≤ i ∧ m.f i c = true := by
  simp [theOnes, List.mem_filter]

/-- entry of the matrix after `eliminate` (swap the first 1 into the pivot row, add the pivot row to the other rows with a 1) -/
theorem eliminate_entry (x : BMat) (pr o : Nat) (rest : List Nat) (hnd : rest.Nodup) (hprn : pr ∉ rest)
    (i j : Nat) (hi : i < x.r) (hj : j < x.c) :
    (eliminate x pr o rest).f i j =
      if i ∈ rest then xor ((rowSwap x o pr).f pr j) ((rowSwap x o pr).f i j) else (rowSwap x o pr).f i j := by
  unfold eliminate
  rw [BMat.norm_agree _ i j (by rw [(foldAdd_dims _ pr rest).1]; exact hi) (by rw [(foldAdd_dims _ pr rest).2]; exact hj)]
  exact foldAdd_entry _ pr rest i j hnd hprn

theorem rowSwap_entry (x : BMat) (o pr i j : Nat) :
    (rowSwap x o pr).f i j = if i = o then x.f pr j else if i = pr then x.f o j else x.f i j := rfl

end Graphiq.LC
