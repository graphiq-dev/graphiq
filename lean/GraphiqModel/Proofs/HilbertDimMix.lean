/-
  Proofs/HilbertDimMix.lean — how the site-wise partial trace, the Kronecker product and `partial_trace` fit together.

  * `ptraceList_kronB` : `Tr_B (A ⊗ B) = tr(B) · A` for the iterated partial trace over the last block, in particular
    `Tr_B (ρ(a) ⊗ ρ(b)) = ρ(a)` with the removal list of `partial_trace`;
  * `ptraceList_eq_mixture` : for *every* valid tableau (no product assumption) the true reduced state `Tr_rem ρ(t)` is the
    uniform mixture, over the outcome choices, of the states that `partial_trace` returns — the code's answer is always a pure
    stabilizer state (the reduced state of the post-measurement state);
  * `rho_product_of_marginals` : a state that is a product across a cut is the Kronecker product of its two marginals.
-/
import GraphiqModel.Proofs.HilbertDimPtrace
import GraphiqModel.Proofs.HilbertDimTensor
namespace Graphiq
namespace Hilbert
open Matrix PRow TabSpec Tab

/-! ### `Tr_B (A ⊗ B) = tr(B) A` -/

theorem leftB_insB_last {m k : Nat} (a : Bits (m + k)) (s : Bool) :
    leftB (m := m) (n := k + 1) (insB (m + k) a s) = leftB (m := m) (n := k) a := by
  apply bits_ext
  intro j hj
  rw [bx_leftB _ j hj, bx_leftB _ j hj, bx_insB (m + k) a s j (by omega), if_pos (by omega)]

theorem rightB_insB_last {m k : Nat} (a : Bits (m + k)) (s : Bool) :
    rightB (m := m) (n := k + 1) (insB (m + k) a s) = insB k (rightB (m := m) (n := k) a) s := by
  apply bits_ext
  intro j hj
  rw [bx_rightB _ j hj, bx_insB (m + k) a s (m + j) (by omega), bx_insB k _ s j hj]
  by_cases h1 : j < k
  · rw [if_pos (by omega), if_pos h1, bx_rightB _ j h1]
  · have e : j = k := by omega
    rw [if_neg (by omega), if_pos (by omega), if_neg h1, if_pos e]

theorem ptraceSite_kronB_last {m k : Nat} (A : Matrix (Bits m) (Bits m) ℂ) (B : Matrix (Bits (k + 1)) (Bits (k + 1)) ℂ) :
    ptraceSite (m := m + k) (m + k) (kronB (m := m) (n := k + 1) A B) = kronB (m := m) (n := k) A (ptraceSite k B) := by
  ext a b
  rw [ptraceSite_apply, kronB_apply, kronB_apply, kronB_apply, ptraceSite_apply]
  simp only [leftB_insB_last, rightB_insB_last]
  ring

theorem kronB_zero {m : Nat} (A : Matrix (Bits m) (Bits m) ℂ) (B : Matrix (Bits 0) (Bits 0) ℂ) :
    kronB (m := m) (n := 0) A B = Matrix.trace B • A := by
  ext a b
  have e : ∀ c : Bits (m + 0), leftB (m := m) (n := 0) c = c := by
    intro c; apply bits_ext; intro j hj; rw [bx_leftB _ j hj]
  have u : ∀ c d : Bits 0, c = d := fun c d => funext (fun j => j.elim0)
  have hB : Matrix.trace B = B (rightB (m := m) (n := 0) a) (rightB (m := m) (n := 0) b) := by
    unfold Matrix.trace
    rw [Fintype.sum_eq_single (rightB (m := m) (n := 0) a) (fun c hc => absurd (u c _) hc)]
    rw [Matrix.diag_apply, u (rightB (m := m) (n := 0) b) (rightB (m := m) (n := 0) a)]
  rw [Matrix.smul_apply, smul_eq_mul, hB, kronB_apply, e a, e b, _root_.mul_comm]

/-- `rem` is the list `[m + (k-1), …, m + 1, m]`: the sites of the last block, highest first -/
def lastBlock (m : Nat) : List Nat → Prop
  | [] => True
  | q :: rest => q = m + rest.length ∧ lastBlock m rest

theorem ptraceList_kronB {m : Nat} (rem : List Nat) (h : lastBlock m rem) (A : Matrix (Bits m) (Bits m) ℂ)
    (B : Matrix (Bits rem.length) (Bits rem.length) ℂ) :
    ptraceList rem (kronB A B) = Matrix.trace B • A := by
  induction rem with
  | nil => exact kronB_zero A B
  | cons q rest ih =>
    obtain ⟨hq, hrest⟩ := h
    subst hq
    show ptraceList rest (ptraceSite (m := m + rest.length) (m + rest.length)
      (kronB (m := m) (n := rest.length + 1) A B)) = _
    rw [ptraceSite_kronB_last, ih hrest, trace_ptraceSite rest.length (Nat.le_refl _)]

theorem lastBlock_range (m k : Nat) : lastBlock m (((List.range k).map (fun x => m + x)).reverse) ∧
    (((List.range k).map (fun x => m + x)).reverse).length = k := by
  induction k with
  | zero => exact ⟨trivial, rfl⟩
  | succ j ih =>
    simp only [List.range_succ, List.map_append, List.reverse_append, List.map_cons, List.map_nil, List.reverse_cons,
      List.reverse_nil, List.nil_append, List.singleton_append]
    refine ⟨⟨?_, ih.1⟩, ?_⟩
    · rw [ih.2]
    · rw [List.length_cons, ih.2]

theorem removalList_range_eq (na nb : Nat) :
    removalList (na + nb) (List.range na) = ((List.range nb).map (fun x => na + x)).reverse := by
  unfold removalList
  rw [List.range_add, List.filter_append]
  have h1 : (List.range na).filter (fun i => !(List.range na).contains i) = [] := by
    rw [List.filter_eq_nil_iff]
    intro i hi
    simp only [List.mem_range] at hi
    simp [hi]
  have h2 : ((List.range nb).map (fun x => na + x)).filter (fun i => !(List.range na).contains i)
      = (List.range nb).map (fun x => na + x) := by
    rw [List.filter_eq_self]
    intro i hi
    simp only [List.mem_map, List.mem_range] at hi
    obtain ⟨k, _, rfl⟩ := hi
    simp
  rw [h1, h2, List.nil_append]

theorem lastBlock_removalList (na nb : Nat) : lastBlock na (removalList (na + nb) (List.range na)) := by
  rw [removalList_range_eq]; exact (lastBlock_range na nb).1

theorem rho_tensor_dim (a b : Tab) (k : Nat) (hk : k = b.n) :
    rho (a.n + k) (STab.ofTab (tensor2 a b)) = kronB (rho a.n (STab.ofTab a)) (rho k (STab.ofTab b)) := by
  subst hk; exact rho_tensor a b

theorem ptrace_tensor_state (a b : Tab) (hb : b.Valid) :
    ptraceList (removalList (a.n + b.n) (List.range a.n))
      (rho (a.n + (removalList (a.n + b.n) (List.range a.n)).length) (STab.ofTab (tensor2 a b)))
      = rho a.n (STab.ofTab a) := by
  have hk : (removalList (a.n + b.n) (List.range a.n)).length = b.n := removalList_range_length a.n b.n
  rw [rho_tensor_dim a b _ hk, ptraceList_kronB _ (lastBlock_removalList a.n b.n)]
  have tr := rho_ofTab_trace b hb
  rw [← hk] at tr
  rw [tr, one_smul]

/-! ### the reduced state is the mixture of the results of `partial_trace` over the outcomes -/

/-- the uniform mixture over the outcome choices of the density matrices that `partial_trace` returns -/
noncomputable def mixGo (m : Nat) : List Nat → Tab → Matrix (Bits m) (Bits m) ℂ
  | [], t => rho m (STab.ofTab t)
  | q :: rest, t =>
    (1 / 2 : ℂ) • (match t.removeQubit? q false with
      | .ok t1 => mixGo m rest t1.norm
      | .error _ => 0)
    + (1 / 2 : ℂ) • (match t.removeQubit? q true with
      | .ok t1 => mixGo m rest t1.norm
      | .error _ => 0)

/-- **the reduced state is the mixture of the code's answers.**  For every valid tableau and every strictly descending
    removal list: `Tr_rem ρ(t)` equals the uniform mixture over the measurement-outcome choices of the (pure) states that
    `partial_trace` returns. -/
theorem ptraceList_eq_mixture (rem : List Nat) :
    ∀ (m : Nat) (t : Tab), t.n = m + rem.length → t.Valid → t.StabReal → rem.Pairwise (· > ·) →
      (∀ q, q ∈ rem → q < t.n) → ptraceList rem (rho (m + rem.length) (STab.ofTab t)) = mixGo m rem t := by
  induction rem with
  | nil => intro m t _ _ _ _ _; rfl
  | cons q rest ih =>
    intro m t hn hv hr hpw hlt
    have hq : q < t.n := hlt q List.mem_cons_self
    have hpw' := List.pairwise_cons.mp hpw
    have hn' : t.n = (m + rest.length) + 1 := hn
    have branch : ∀ o : Bool, ∃ tq, t.removeQubit q o = .ok tq ∧ t.removeQubit? q o = .ok tq ∧
        ptraceList rest (rho (m + rest.length) (STab.ofTab tq)) = mixGo m rest tq.norm := by
      intro o
      obtain ⟨tq, hq1⟩ := removeQubit_total t q o hq hv
      have hq1' : t.removeQubit? q o = .ok tq := by unfold removeQubit?; rw [if_pos hq]; exact hq1
      obtain ⟨n1, v1, r1, _⟩ := removeQubit_grp t tq q o hq hv hr hq1
      have hn1 : tq.norm.n = m + rest.length := by show tq.n = _; omega
      have hlt1 : ∀ q', q' ∈ rest → q' < tq.norm.n := by
        intro q' hq'
        have := hpw'.1 q' hq'
        rw [hn1]; omega
      have ihh := ih m tq.norm hn1 (Tab.norm_valid tq v1) (norm_stabReal tq r1) hpw'.2 hlt1
      have e : tq.n = m + rest.length := hn1
      have hnorm := rho_tab_norm tq
      rw [e] at hnorm
      rw [hnorm] at ihh
      exact ⟨tq, hq1, hq1', ihh⟩
    obtain ⟨t0, h0, h0', e0⟩ := branch false
    obtain ⟨t1, h1, h1', e1⟩ := branch true
    have mix := ptrace_remove_mix (m + rest.length) t t0 t1 q hn' hq hv hr h0 h1
    show ptraceList rest (ptraceSite q (rho (m + rest.length + 1) (STab.ofTab t))) = _
    rw [mix, ptraceList_add, ptraceList_smul, ptraceList_smul, e0, e1]
    simp only [mixGo, h0', h1']

theorem rho_one_qubit_Z (t : Tab) (hn : t.n = 1) (hv : t.Valid) (hr : t.StabReal) (s : Bool) (hz : Grp t (Zq 0 s)) :
    rho 1 (STab.ofTab t) = proj 1 (Zq 0 s) := by
  have g := ofTab_good t hv
  have i1 := rho_idem _ g
  have h1 := rho_hermitian _ g
  have t1 := rho_ofTab_trace t hv
  have fix := grp_mul_rho t hv hr _ hz
  have e : (STab.ofTab t).n = t.n := rfl
  rw [e, hn] at i1 h1
  rw [hn] at t1 fix
  symm
  apply projector_eq_of_le _ _ (proj_idem 1 _ rfl) (proj_hermitian 1 _ rfl) i1 h1 (proj_mul_of_fixed 1 _ _ fix)
  rw [t1, proj_Zq_site 0 0 (Nat.le_refl 0) s, trace_insSite 0 (Nat.le_refl 0), Matrix.trace_one, card_bits, trace_ketbra]
  norm_num

theorem embedCols_range_eq_truncCols (na nb : Nat) (P' : PRow) :
    EqOn (na + nb) (embedCols (removalList (na + nb) (List.range na)) P') (P'.truncCols na) := by
  have hpw := removalList_desc (na + nb) (List.range na)
  refine ⟨fun j hj => ?_, (embedCols_r _ P').1, (embedCols_r _ P').2⟩
  by_cases hlt : j < na
  · have := embedCols_low _ na (fun x hx => ((mem_removalList_range na nb x).mp hx).1) P' j hlt
    simp [PRow.truncCols, hlt, this.1, this.2]
  · have := embedCols_idOn _ hpw P' j ((mem_removalList_range na nb j).mpr ⟨by omega, hj⟩)
    simp [PRow.truncCols, hlt, this.1, this.2]

theorem embedCols_right_eq_shiftCols (na nb : Nat) (Q' : PRow) :
    EqOn (na + nb) (embedCols (removalList (na + nb) (rightSites na nb)) Q') (Q'.shiftCols na) := by
  have hpw := removalList_desc (na + nb) (rightSites na nb)
  refine ⟨fun j _ => ?_, (embedCols_r _ Q').1, (embedCols_r _ Q').2⟩
  by_cases hlt : j < na
  · have := embedCols_idOn _ hpw Q' j ((mem_removalList_right na nb j).mpr hlt)
    simp [PRow.shiftCols, hlt, this.1, this.2]
  · have := embedCols_high _ hpw Q' j (fun x hx => by have := (mem_removalList_right na nb x).mp hx; omega)
    rw [removalList_right_length] at this
    simp [PRow.shiftCols, hlt, this.1, this.2]

/-- **a state that is a product across the cut `first na | last nb` is the Kronecker product of its two marginals**: if
    the stabilizer group factorises across the cut (both ways), then `ρ(t) = ρ(partial_trace onto the first na qubits) ⊗
    ρ(partial_trace onto the last nb qubits)` — the converse of `rho_tensor` -/
theorem rho_product_of_marginals (na nb : Nat) (t tA tB : Tab) (osA osB : List Bool) (hn : t.n = na + nb)
    (hv : t.Valid) (hr : t.StabReal)
    (hfB : Factor t (removalList t.n (List.range na))) (hfA : Factor t (removalList t.n (rightSites na nb)))
    (hA : t.partialTrace (List.range na) osA = .ok tA) (hB : t.partialTrace (rightSites na nb) osB = .ok tB) :
    rho (na + nb) (STab.ofTab t) = kronB (rho na (STab.ofTab tA)) (rho nb (STab.ofTab tB)) := by
  obtain ⟨nA, gA⟩ := partialTrace_factor_grp t tA (List.range na) osA hv hr hfB hA
  obtain ⟨nB, gB⟩ := partialTrace_factor_grp t tB (rightSites na nb) osB hv hr hfA hB
  rw [hn] at nA gA nB gB
  rw [removalList_range_length] at nA
  rw [removalList_right_length] at nB
  have hnA : tA.n = na := by omega
  have hnB : tB.n = nb := by omega
  have vA := partialTrace_valid t tA _ osA hv hA
  have vB := partialTrace_valid t tB _ osB hv hB
  have rA : tA.StabReal := by
    intro i h1 h2
    have := grp_real t hv hr _ ((gA _).mp (grp_row tA i h1 h2))
    rw [(embedCols_r _ _).2] at this; exact this
  have rB : tB.StabReal := by
    intro i h1 h2
    have := grp_real t hv hr _ ((gB _).mp (grp_row tB i h1 h2))
    rw [(embedCols_r _ _).2] at this; exact this
  subst hnA; subst hnB
  rw [← rho_tensor tA tB]
  apply rho_eq_of_gens (tA.n + tB.n) t (tensor2 tA tB) hn rfl hv hr (tensor2_valid tA tB vA vB)
    (tensor_stabReal tA tB rA rB)
  intro i hi
  by_cases hlt : i < tA.n
  · rw [tensor_stab_left tA tB i hlt]
    exact InSpan.eqv _ _ ((gA _).mp (grp_gen tA i hlt)) (hn ▸ embedCols_range_eq_truncCols tA.n tB.n _)
  · rw [tensor_stab_right tA tB i (by omega)]
    exact InSpan.eqv _ _ ((gB _).mp (grp_gen tB (i - tA.n) (by omega))) (hn ▸ embedCols_right_eq_shiftCols tA.n tB.n _)

end Hilbert
end Graphiq
