/-
  Proofs/Commuting.lean — fidelity and trace distance of simultaneously diagonalisable density matrices, as functions
  of the eigenvalue vectors (Mathlib reals).  For `ρ = U diag(p) U†`, `σ = U diag(q) U†` the Uhlmann fidelity is
  `(Σ √(p_i q_i))²` and the trace distance `½ Σ |p_i − q_i|` (proved in Proofs/C17BridgeUhlmann.lean) — this file proves that
  these closed forms have the properties C17 asks of fidelity and trace distance, for every dimension.
-/
import Mathlib.Analysis.SpecialFunctions.Pow.Real
import Mathlib.Analysis.SpecialFunctions.Sqrt
import Mathlib.Algebra.Order.BigOperators.Ring.Finset
import Mathlib.Algebra.Order.Chebyshev
import Mathlib.Tactic.Ring
import Mathlib.Tactic.Linarith
import Mathlib.Tactic.Positivity
namespace Graphiq.Commuting
open Finset

variable {ι : Type} [Fintype ι]

/-- eigenvalue vector of a density matrix: non-negative, summing to one -/
structure IsProb (p : ι → ℝ) : Prop where
  nonneg : ∀ i, 0 ≤ p i
  sum_one : ∑ i, p i = 1

/-- Bhattacharyya coefficient `Σ √(p_i q_i)` = `√F` -/
noncomputable def bc (p q : ι → ℝ) : ℝ := ∑ i, Real.sqrt (p i * q i)
/-- fidelity of a commuting pair -/
noncomputable def F (p q : ι → ℝ) : ℝ := (bc p q) ^ 2
/-- trace distance of a commuting pair -/
noncomputable def T (p q : ι → ℝ) : ℝ := (1 / 2) * ∑ i, |p i - q i|

theorem bc_nonneg (p q : ι → ℝ) : 0 ≤ bc p q := Finset.sum_nonneg fun _ _ => Real.sqrt_nonneg _

theorem bc_comm (p q : ι → ℝ) : bc p q = bc q p := by
  unfold bc; apply Finset.sum_congr rfl; intro i _; rw [mul_comm]

theorem term_identity {a b : ℝ} (ha : 0 ≤ a) (hb : 0 ≤ b) :
    (Real.sqrt a - Real.sqrt b) ^ 2 = a + b - 2 * Real.sqrt (a * b) := by
  rw [Real.sqrt_mul ha]
  have h1 := Real.sq_sqrt ha
  have h2 := Real.sq_sqrt hb
  nlinarith [h1, h2]

theorem sum_sq_diff {p q : ι → ℝ} (hp : IsProb p) (hq : IsProb q) :
    ∑ i, (Real.sqrt (p i) - Real.sqrt (q i)) ^ 2 = 2 - 2 * bc p q := by
  have : ∀ i, (Real.sqrt (p i) - Real.sqrt (q i)) ^ 2 = p i + q i - 2 * Real.sqrt (p i * q i) :=
    fun i => term_identity (hp.nonneg i) (hq.nonneg i)
  simp only [this, Finset.sum_sub_distrib, Finset.sum_add_distrib, hp.sum_one, hq.sum_one, ← Finset.mul_sum, bc]
  ring

theorem sum_sq_sum {p q : ι → ℝ} (hp : IsProb p) (hq : IsProb q) :
    ∑ i, (Real.sqrt (p i) + Real.sqrt (q i)) ^ 2 = 2 + 2 * bc p q := by
  have : ∀ i, (Real.sqrt (p i) + Real.sqrt (q i)) ^ 2 = p i + q i + 2 * Real.sqrt (p i * q i) := by
    intro i
    rw [Real.sqrt_mul (hp.nonneg i)]
    have h1 := Real.sq_sqrt (hp.nonneg i)
    have h2 := Real.sq_sqrt (hq.nonneg i)
    nlinarith [h1, h2]
  simp only [this, Finset.sum_add_distrib, hp.sum_one, hq.sum_one, ← Finset.mul_sum, bc]
  ring

theorem bc_le_one {p q : ι → ℝ} (hp : IsProb p) (hq : IsProb q) : bc p q ≤ 1 := by
  have h := sum_sq_diff hp hq
  have : 0 ≤ ∑ i, (Real.sqrt (p i) - Real.sqrt (q i)) ^ 2 := Finset.sum_nonneg fun _ _ => sq_nonneg _
  linarith

theorem F_range {p q : ι → ℝ} (hp : IsProb p) (hq : IsProb q) : 0 ≤ F p q ∧ F p q ≤ 1 := by
  refine ⟨sq_nonneg _, ?_⟩
  have h0 := bc_nonneg p q
  have h1 := bc_le_one hp hq
  unfold F; nlinarith

theorem F_symm (p q : ι → ℝ) : F p q = F q p := by unfold F; rw [bc_comm]

theorem F_eq_one_iff {p q : ι → ℝ} (hp : IsProb p) (hq : IsProb q) : F p q = 1 ↔ p = q := by
  constructor
  · intro h
    have h0 := bc_nonneg p q
    have hb : bc p q = 1 := by
      unfold F at h
      have : (bc p q - 1) * (bc p q + 1) = 0 := by nlinarith
      rcases mul_eq_zero.1 this with h' | h'
      · linarith
      · linarith
    have hs := sum_sq_diff hp hq
    rw [hb] at hs
    have hz : ∀ i ∈ (Finset.univ : Finset ι), (Real.sqrt (p i) - Real.sqrt (q i)) ^ 2 = 0 := by
      apply (Finset.sum_eq_zero_iff_of_nonneg fun _ _ => sq_nonneg _).1
      linarith
    funext i
    have := hz i (Finset.mem_univ i)
    have e : Real.sqrt (p i) = Real.sqrt (q i) := by
      have := pow_eq_zero_iff (two_ne_zero) |>.1 this
      linarith
    calc p i = Real.sqrt (p i) ^ 2 := (Real.sq_sqrt (hp.nonneg i)).symm
      _ = Real.sqrt (q i) ^ 2 := by rw [e]
      _ = q i := Real.sq_sqrt (hq.nonneg i)
  · intro h
    subst h
    unfold F bc
    have : ∀ i, Real.sqrt (p i * p i) = p i := fun i => Real.sqrt_mul_self (hp.nonneg i)
    simp only [this, hp.sum_one]; norm_num

/-! ### trace distance: a metric bounded by 1 -/

theorem T_nonneg (p q : ι → ℝ) : 0 ≤ T p q := by
  unfold T; have : 0 ≤ ∑ i, |p i - q i| := Finset.sum_nonneg fun _ _ => abs_nonneg _
  linarith

theorem T_symm (p q : ι → ℝ) : T p q = T q p := by
  unfold T; congr 1; apply Finset.sum_congr rfl; intro i _; exact abs_sub_comm _ _

theorem T_self (p : ι → ℝ) : T p p = 0 := by simp [T]

theorem T_eq_zero_iff (p q : ι → ℝ) : T p q = 0 ↔ p = q := by
  constructor
  · intro h
    have hs : ∑ i, |p i - q i| = 0 := by unfold T at h; linarith
    have hz := (Finset.sum_eq_zero_iff_of_nonneg fun i _ => abs_nonneg (p i - q i)).1 hs
    funext i
    have := abs_eq_zero.1 (hz i (Finset.mem_univ i))
    linarith
  · intro h; subst h; exact T_self p

theorem T_triangle (p q r : ι → ℝ) : T p r ≤ T p q + T q r := by
  unfold T
  have : ∑ i, |p i - r i| ≤ ∑ i, (|p i - q i| + |q i - r i|) := by
    apply Finset.sum_le_sum; intro i _
    have := abs_sub_le (p i) (q i) (r i)
    exact this
  rw [Finset.sum_add_distrib] at this
  linarith

theorem T_le_one {p q : ι → ℝ} (hp : IsProb p) (hq : IsProb q) : T p q ≤ 1 := by
  unfold T
  have : ∑ i, |p i - q i| ≤ ∑ i, (p i + q i) := by
    apply Finset.sum_le_sum; intro i _
    have h1 := hp.nonneg i; have h2 := hq.nonneg i
    rw [abs_le]; constructor <;> linarith
  rw [Finset.sum_add_distrib, hp.sum_one, hq.sum_one] at this
  linarith

/-! ### Fuchs – van de Graaf for commuting pairs -/

theorem abs_diff_factor {a b : ℝ} (ha : 0 ≤ a) (hb : 0 ≤ b) :
    |a - b| = |Real.sqrt a - Real.sqrt b| * (Real.sqrt a + Real.sqrt b) := by
  have h1 := Real.sq_sqrt ha
  have h2 := Real.sq_sqrt hb
  have hs : 0 ≤ Real.sqrt a + Real.sqrt b := add_nonneg (Real.sqrt_nonneg _) (Real.sqrt_nonneg _)
  have : a - b = (Real.sqrt a - Real.sqrt b) * (Real.sqrt a + Real.sqrt b) := by nlinarith
  rw [this, abs_mul, abs_of_nonneg hs]

theorem fvdg_lower {p q : ι → ℝ} (hp : IsProb p) (hq : IsProb q) : 1 - bc p q ≤ T p q := by
  have key : ∀ i, (Real.sqrt (p i) - Real.sqrt (q i)) ^ 2 ≤ |p i - q i| := by
    intro i
    rw [abs_diff_factor (hp.nonneg i) (hq.nonneg i)]
    have h1 : |Real.sqrt (p i) - Real.sqrt (q i)| ≤ Real.sqrt (p i) + Real.sqrt (q i) := by
      rw [abs_le]; constructor <;> linarith [Real.sqrt_nonneg (p i), Real.sqrt_nonneg (q i)]
    have h0 : 0 ≤ |Real.sqrt (p i) - Real.sqrt (q i)| := abs_nonneg _
    calc (Real.sqrt (p i) - Real.sqrt (q i)) ^ 2 = |Real.sqrt (p i) - Real.sqrt (q i)| * |Real.sqrt (p i) - Real.sqrt (q i)| := by
            rw [abs_mul_abs_self]; ring
      _ ≤ |Real.sqrt (p i) - Real.sqrt (q i)| * (Real.sqrt (p i) + Real.sqrt (q i)) :=
            mul_le_mul_of_nonneg_left h1 h0
  have hsum : ∑ i, (Real.sqrt (p i) - Real.sqrt (q i)) ^ 2 ≤ ∑ i, |p i - q i| :=
    Finset.sum_le_sum fun i _ => key i
  rw [sum_sq_diff hp hq] at hsum
  unfold T; linarith

/-- **upper bound `T ≤ √(1 − F)`** (Cauchy–Schwarz) -/
theorem fvdg_upper {p q : ι → ℝ} (hp : IsProb p) (hq : IsProb q) : T p q ≤ Real.sqrt (1 - F p q) := by
  have hcs := Finset.sum_mul_sq_le_sq_mul_sq (Finset.univ : Finset ι)
    (fun i => |Real.sqrt (p i) - Real.sqrt (q i)|) (fun i => Real.sqrt (p i) + Real.sqrt (q i))
  have e1 : ∑ i, |Real.sqrt (p i) - Real.sqrt (q i)| * (Real.sqrt (p i) + Real.sqrt (q i)) = ∑ i, |p i - q i| :=
    Finset.sum_congr rfl fun i _ => (abs_diff_factor (hp.nonneg i) (hq.nonneg i)).symm
  have e2 : ∑ i, |Real.sqrt (p i) - Real.sqrt (q i)| ^ 2 = 2 - 2 * bc p q := by
    rw [← sum_sq_diff hp hq]; apply Finset.sum_congr rfl; intro i _; exact sq_abs _
  rw [e1, e2, sum_sq_sum hp hq] at hcs
  have hT : (T p q) ^ 2 ≤ 1 - F p q := by
    unfold T F; nlinarith
  have h0 := T_nonneg p q
  have h1 : 0 ≤ 1 - F p q := by linarith [(F_range hp hq).2]
  rw [Real.le_sqrt h0 h1]; exact hT

theorem sqrt_F (p q : ι → ℝ) : Real.sqrt (F p q) = bc p q := by
  unfold F; exact Real.sqrt_sq (bc_nonneg p q)

/-- **Fuchs – van de Graaf**: `1 − √F ≤ T ≤ √(1 − F)` -/
theorem fuchs_van_de_graaf {p q : ι → ℝ} (hp : IsProb p) (hq : IsProb q) :
    1 - Real.sqrt (F p q) ≤ T p q ∧ T p q ≤ Real.sqrt (1 - F p q) := by
  rw [sqrt_F]; exact ⟨fvdg_lower hp hq, fvdg_upper hp hq⟩

end Graphiq.Commuting
