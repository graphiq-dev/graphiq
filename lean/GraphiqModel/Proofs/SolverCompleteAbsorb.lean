/-
  Proofs/SolverCompleteAbsorb.lean — completeness of the time-reversed solver: the photon absorption.

  `_add_photon_absorption(photon)` RETURNS when (i) some generator has its leftmost non-trivial site at `photon`, (ii) every such
  generator acts on some emitter (`emitter_indices[0]` exists) and (iii) is trivial on the already absorbed photons (so that, once
  its Paulis on the photon and the emitters are turned into `Z`, it has no X/Y left: `assert not np.any(x_matrix[g])`).
  Afterwards column `photon` is literal: the chosen generator is exactly `+Z_photon` and no other generator acts on the photon.
-/
import GraphiqModel.Proofs.SolverCompleteTrm
namespace Graphiq.Solver
open Graphiq Graphiq.Cliff PRow STab

/-- multiplying a generator that is exactly `+Z_photon` into every other generator with a `Z` on the photon leaves the photon's column
    literal: a generator commuting with `Z_photon` has `I` or `Z` there -/
theorem absorbRows_lit (t : STab) (g photon : Nat) (hgood : t.Good) (hg : g < t.n) (hq : photon < t.n)
    (hrow : EqOn t.n (t.row g) (Zq photon)) : (absorbRows t g photon).Lit photon := by
  have hpt : t.ptype g photon = 3 := by
    rw [ptype_eq, PRow.pt_congr _ (Zq photon) photon (hrow.1 photon hq).1 (hrow.1 photon hq).2]
    simp [PRow.pt, Zq]
  unfold absorbRows
  have hgz : g ∉ (((List.range t.n).filter fun i => t.ptype i photon = 3).filter fun i => i ≠ g) := by
    simp
  have hrows := foldl_rowSum_row g _ t (zs_sorted t.n (fun i => t.ptype i photon = 3) (fun i => i ≠ g)) hgz
  have hnf := foldl_rowSum_n g (((List.range t.n).filter fun i => t.ptype i photon = 3).filter fun i => i ≠ g) t
  generalize (((List.range t.n).filter fun i => t.ptype i photon = 3).filter fun i => i ≠ g).foldl
    (fun acc i => acc.rowSum g i) t = tf at hrows hnf
  refine ⟨g, by show g < tf.n; rw [hnf]; exact hg, ?_, ?_⟩
  · show EqOn tf.n (tf.norm.row g) (Zq photon)
    refine (norm_row tf g (by rw [hnf]; exact hg)).trans ?_
    rw [hrows g, if_neg hgz, hnf]
    exact hrow
  · intro k hk hkg
    have hk' : k < t.n := hnf ▸ (hk : k < tf.n)
    show tf.norm.ptype k photon = 0
    rw [ptype_norm tf k photon (by rw [hnf]; exact hk') (by rw [hnf]; exact hq), ptype_eq, hrows k]
    split
    · next hmem =>
      simp only [List.mem_filter, List.mem_range, decide_eq_true_eq] at hmem
      rw [pt_stabMul, show (t.row g).pt photon = 3 from hpt, show (t.row k).pt photon = 3 from hmem.1.2]; rfl
    · next hmem =>
      have hne3 : (t.row k).pt photon ≠ 3 := fun h3 => hmem (by
        simp only [List.mem_filter, List.mem_range, decide_eq_true_eq]
        exact ⟨⟨hk', h3⟩, hkg⟩)
      have hcomm := hgood.comm k g hk' hg
      rw [sp_eqOn t.n _ _ _ _ (EqOn.refl _ _) hrow, sp_Zq _ _ _ _ hq] at hcomm
      revert hne3
      unfold PRow.pt
      rw [hcomm]
      cases (t.row k).z photon <;> simp

/-- the emission CNOT turns a generator that is `+Z_photon Z_e` (no X/Y anywhere) into `+Z_photon`; then `absorbRows_lit` -/
theorem emission_lit (t : STab) (g e photon : Nat) (hgood : t.Good) (hg : g < t.n) (he : e < t.n) (hq : photon < t.n)
    (hep : e ≠ photon) (hx : ∀ j, j < t.n → (t.row g).x j = false)
    (hz : ∀ j, j < t.n → (t.row g).z j = (decide (j = photon) || decide (j = e))) (hr : (t.row g).r = false) :
    (absorbRows ((t.applyGate (.CNOT e photon)).norm) g photon).Lit photon := by
  have hG : (Gate.CNOT e photon).WF t.n := ⟨he, hq, hep⟩
  have hgood6 : ((t.applyGate (.CNOT e photon)).norm).Good := gateNorm_good _ _ hG hgood
  refine absorbRows_lit _ g photon hgood6 hg hq ?_
  have hr' := gateNorm_row t (.CNOT e photon) g hg
  refine ⟨fun j hj => ?_, ?_, hgood6.real g hg⟩
  · obtain ⟨a1, a2⟩ := hr'.1 j hj
    rw [a1, a2]
    show (if j = photon then xor ((t.row g).x j) ((t.row g).x e) else (t.row g).x j) = false ∧
      (if j = e then xor ((t.row g).z j) ((t.row g).z photon) else (t.row g).z j) = decide (j = photon)
    rw [hx j hj, hx _ he, hz j hj, hz photon hq]
    by_cases hj1 : j = e
    · have : j ≠ photon := fun h => hep (hj1.symm.trans h)
      simp [hj1, hep]
    · simp [hj1]
  · rw [hr'.2.1]
    show xor (t.row g).r ((t.row g).x e && (t.row g).z photon &&
      (xor (xor ((t.row g).x photon) ((t.row g).z e)) true)) = false
    rw [hr, hx _ he]; rfl

/-- **`_add_photon_absorption` returns**, under (i) a generator starts at `photon`, (ii) every such generator acts on an emitter,
    (iii) every such generator is trivial on the photons right of `photon`; the photon's column is literal afterwards -/
theorem addPhotonAbsorption_ok (s : St) (photon : Nat) (hn : s.t.n = s.np + s.ne) (hph : photon < s.np) (hg : s.t.Good)
    (hex : ∃ i, i < s.t.n ∧ s.t.leftmost i = some photon)
    (hem : ∀ i, i < s.t.n → s.t.leftmost i = some photon → ∃ c, s.np ≤ c ∧ c < s.t.n ∧ s.t.ptype i c ≠ 0)
    (hxq : ∀ i, i < s.t.n → s.t.leftmost i = some photon → ∀ j, photon < j → j < s.np → s.t.ptype i j = 0) :
    ∃ s', addPhotonAbsorption s photon = .ok s' ∧ s'.t.Lit photon := by
  obtain ⟨g, hsel, hgn, hlm⟩ := absorb_select s.t photon hex
  obtain ⟨hq, hlow, hnt⟩ := leftmost_some s.t g photon hlm
  obtain ⟨s1, h1, n1, hnp1, hne1, c5, c6, c7⟩ := absorbStart s g photon hgn hq
  -- on the photons the generator is now `Z_photon`: it was trivial left of the photon and on the absorbed photons
  have hphot1 : ∀ j, j < s.np → (s1.t.row g).x j = false ∧ (s1.t.row g).z j = decide (j = photon) := by
    intro j hj
    by_cases hjp : j = photon
    · subst hjp
      exact ⟨c5, by rw [c6, ptype_ne_zero_bits _ _ hnt]; exact (decide_eq_true rfl).symm⟩
    · obtain ⟨b1, b2⟩ := c7 j (hn ▸ Nat.lt_of_lt_of_le hj (Nat.le_add_right _ _)) hjp
      have hz0 : s.t.ptype g j = 0 := (Nat.lt_or_gt_of_ne hjp).elim (hlow j) (fun hlt => hxq g hgn hlm j hlt hj)
      rw [b1, b2, (PRow.pt_zero_bits _ _ hz0).1, (PRow.pt_zero_bits _ _ hz0).2]
      exact ⟨rfl, (decide_eq_false hjp).symm⟩
  -- it acts on an emitter, as it did before
  have hemi : emitterIndices s1 g = emitterIndices s g :=
    emitterIndices_congr s s1 g hnp1 hne1 (fun e he => c7 _ (hn ▸ Nat.add_lt_add_left he s.np) (Nat.ne_of_gt (Nat.lt_of_lt_of_le hph (Nat.le_add_right _ _))))
  obtain ⟨c, hc1, hc2, hc3⟩ := hem g hgn hlm
  have hmem : c - s.np ∈ emitterIndices s1 g := by
    rw [hemi]
    simp only [emitterIndices, List.mem_filter, List.mem_range]
    have hc : s.np + (c - s.np) = c := Nat.add_sub_cancel' hc1
    exact ⟨Nat.sub_lt_left_of_lt_add hc1 (hn ▸ hc2), by rw [hc]; exact ptype_ne_zero_bits _ _ hc3⟩
  obtain ⟨e, erest, hem'⟩ := List.exists_cons_of_ne_nil (List.ne_nil_of_mem hmem)
  have hee : e ∈ emitterIndices s1 g := hem' ▸ List.mem_cons_self
  have hene : e < s.ne := by
    have := hee
    simp only [emitterIndices, List.mem_filter, List.mem_range] at this
    exact hne1 ▸ this.1
  -- `Z` on every emitter, CNOTs onto `e`, the sign: gates on the emitters
  have hn1 : s1.t.n = s1.np + s1.ne := by rw [n1, hnp1, hne1]; exact hn
  obtain ⟨s2, s3, s4, h2, h3, h4, hx4, zp4, ze4, r4⟩ := singleOut_ok s1 g e false hn1 (n1 ▸ hgn)
    (fun j hj => (hphot1 j (hnp1 ▸ hj)).1) hee
  rw [hnp1] at zp4 ze4
  rw [hne1] at ze4
  rw [n1] at hx4
  have q14 := singleOut_quiet s1 s2 s3 s4 g e hn1 (hne1.symm ▸ hene) false h2 h3 h4
  rw [hnp1] at q14
  have q : Quiet (fun c => c = photon ∨ s.np ≤ c) s s4 :=
    (changeToZ_quiet s s1 g photon (Or.inl rfl) hq h1).trans (q14.mono (fun c hc => Or.inr hc))
  have hnn4 : s4.t.n = s.t.n := q.keeps.n_eq
  -- before the emission CNOT the generator is `+Z_photon Z_e`
  have hz4 : ∀ j, j < s.t.n → (s4.t.row g).z j = (decide (j = photon) || decide (j = s.np + e)) :=
    hn ▸ z_row_split s.np s.ne e _ (fun j => decide (j = photon)) (fun j hj => decide_eq_false (Nat.ne_of_gt (Nat.lt_of_lt_of_le hph hj)))
      (fun j hj => (zp4 j hj).trans (hphot1 j hj).2) ze4
  have hG : (Gate.CNOT (s.np + e) photon).WF s4.t.n := by
    show s.np + e < s4.t.n ∧ photon < s4.t.n ∧ s.np + e ≠ photon
    rw [hnn4, hn]
    exact ⟨Nat.add_lt_add_left hene s.np, Nat.lt_of_lt_of_le hph (Nat.le_add_right _ _),
      Nat.ne_of_gt (Nat.lt_of_lt_of_le hph (Nat.le_add_right _ _))⟩
  have hlit := emission_lit s4.t g (s.np + e) photon ((q.via hn).good hg) (hnn4 ▸ hgn) hG.1 hG.2.1 hG.2.2
    (fun j hj => hx4 j (hnn4 ▸ hj)) (fun j hj => hz4 j (hnn4 ▸ hj)) r4
  exact ⟨_, (addPhotonAbsorption_ok_iff s _ photon).2 ⟨g, s1, e, erest, s2, s3, s4, _, hsel, h1, hem', h2, h3, h4, rfl, rfl⟩, hlit⟩

end Graphiq.Solver
