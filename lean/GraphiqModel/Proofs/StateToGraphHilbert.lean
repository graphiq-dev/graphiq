/-
  Proofs/StateToGraphHilbert.lean — the Hilbert-space reading of the completeness + soundness theorem of `state_to_graph`, using the
  verified matrix semantics of the C07 development (`rho T = ∏ (1 + P_i)/2`, `circMat` = the unitary of a gate list):
  for every stabilizer state `t` (n ≥ 1) the modelled `state_to_graph` returns `(G, gates)` with
      `U_gates · ρ(t) · U_gates† = |G⟩⟨G|`,
  where `|G⟩⟨G| := U_prep |0…0⟩⟨0…0| U_prep†`, `U_prep` = Hadamard on every qubit followed by one CZ per edge (the textbook graph state,
  the construction `_graph_to_density_pure` runs), and `ρ(graphSTab n A) = |G⟩⟨G|` for every simple graph; its entries are
  `s(a) · 2⁻ⁿ · s(b)` with the sign `s(a) = ∏_{(u,v) ∈ E} (−1)^{a_u a_v}` (`rho_graph_apply`).-/
import GraphiqModel.Proofs.StateToGraphTotal
import GraphiqModel.Proofs.GraphStateGroup
import GraphiqModel.Proofs.HilbertPure
namespace Graphiq
open PRow Tab STab S2G Matrix Hilbert

/-- the textbook preparation of `|G⟩` from `|0…0⟩`: `H` on every qubit, then `CZ` on every edge `u < v` (in the order of `list(graph.edges)`) -/
def graphPrep (n : Nat) (A : Adj) : List Gate :=
  (List.range n).map Gate.H ++ (edgesOf n A).map fun e => Gate.CZ e.1 e.2

/-- `|G⟩⟨G| = U_prep |0…0⟩⟨0…0| U_prep†` as a `2ⁿ × 2ⁿ` complex matrix (`rho n (STab.zero n)` is `|0…0⟩⟨0…0|`: `rho_zero`) -/
noncomputable def graphStateMat (n : Nat) (A : Adj) : Matrix (Bits n) (Bits n) ℂ :=
  circMat n (graphPrep n A) * rho n (STab.zero n) * (circMat n (graphPrep n A))ᴴ

theorem actCirc_H_r (l : List Nat) (hl : l.Nodup) (p : PRow) (h : ∀ q, q ∈ l → (p.x q && p.z q) = false) :
    (actCirc (l.map Gate.H) p).r = p.r := by
  induction l generalizing p with
  | nil => rfl
  | cons q rest ih =>
    have e : actCirc ((q :: rest).map Gate.H) p = actCirc (rest.map Gate.H) (PRow.h q p) := rfl
    have hq : q ∉ rest := (List.nodup_cons.mp hl).1
    rw [e, ih (List.nodup_cons.mp hl).2 (PRow.h q p) (fun q' hq' => by
      have hne : q' ≠ q := fun e => hq (e ▸ hq')
      have := h q' (List.mem_cons_of_mem _ hq')
      simpa [PRow.h, hne] using this)]
    have := h q List.mem_cons_self
    simp [PRow.h, this]

theorem actCirc_H_Zq (n i : Nat) : EqOn n (actCirc ((List.range n).map Gate.H) (Zq i)) (Xq i) := by
  refine ⟨fun j hj => ?_, ?_, ?_⟩
  · obtain ⟨h1, h2, _⟩ := actCirc_H_bits (List.range n) List.nodup_range (Zq i) j
    rw [h1, h2]
    have hc : (List.range n).contains j = true := List.contains_iff_mem.mpr (List.mem_range.mpr hj)
    simp only [hadBits, hc, if_true]
    exact ⟨rfl, rfl⟩
  · rw [actCirc_H_r (List.range n) List.nodup_range (Zq i) (fun q _ => rfl)]; rfl
  · rw [(actCirc_H_bits (List.range n) List.nodup_range (Zq i) 0).2.2]; rfl

/-- the rows of `_graph_to_density_pure`'s CZ loop are the images of the rows under the CZ gate list -/
theorem czEdges_row (t : STab) (edges : List (Nat × Nat)) (i : Nat) :
    (czEdges t edges).row i = actCirc (edges.map fun e => Gate.CZ e.1 e.2) (t.row i) := by
  induction edges generalizing t with
  | nil => rfl
  | cons e rest ih =>
    show (czEdges (t.map (PRow.cz e.1 e.2)) rest).row i = _
    rw [ih]; rfl

theorem graphPrep_wf (n : Nat) (A : Adj) : ∀ g, g ∈ graphPrep n A → g.WF n := by
  intro g hg
  simp only [graphPrep, List.mem_append, List.mem_map, List.mem_range] at hg
  rcases hg with ⟨q, hq, e⟩ | ⟨e', he, e⟩
  · rw [← e]; exact hq
  · rw [← e]
    have hm := (List.mem_filter.mp he).1
    have := (mem_pairsLt_iff n e'.1 e'.2).mp hm
    exact ⟨by omega, this.2, by omega⟩

/-- a tableau whose rows are those of `_graph_to_density_pure`'s generators has the density matrix of `graph_to_stabilizer(G)` -/
theorem rho_of_czEdges_rows (n : Nat) (A : Adj) (hsym : ∀ i j, i < n → j < n → A i j = A j i) (hirr : ∀ i, i < n → A i i = false)
    (R : STab) (hR : R.Good) (nR : R.n = n)
    (rows : ∀ i, i < n → EqOn n (R.row i) ((czEdges (plusSTab n) (edgesOf n A)).row i)) :
    rho n R = rho n (graphSTab n A) := by
  have nC : (czEdges (plusSTab n) (edgesOf n A)).n = n := czEdges_n _ _
  have s1 : SpanEq R (czEdges (plusSTab n) (edgesOf n A)) :=
    spanEq_of_rows _ _ (nR.trans nC.symm) (fun i hi => by rw [nR] at hi ⊢; exact rows i hi)
  have hgauge := rho_spanEq _ _ (s1.trans (czEdges_edgesOf_spanEq n A hsym hirr)) hR (graphSTab_good n A hsym)
  rw [nR] at hgauge
  exact hgauge

/-- `ρ(graph_to_stabilizer(G))` is the textbook graph state `CZ_E H^{⊗n} |0…0⟩⟨0…0| H^{⊗n} CZ_E` -/
theorem rho_graphSTab (n : Nat) (A : Adj) (hsym : ∀ i j, i < n → j < n → A i j = A j i) (hirr : ∀ i, i < n → A i i = false) :
    rho n (graphSTab n A) = graphStateMat n A := by
  have wf := graphPrep_wf n A
  have hcov := rho_runCircuit (STab.zero n) (graphPrep n A) wf
  have hz : (STab.zero n).Good := ⟨fun _ _ => rfl, fun i k _ _ => by
    show sp n (Zq i) (Zq k) = false
    unfold sp; apply parityTo_zero; intro j _; simp [Zq]⟩
  have tr := tracks_runCircuit (STab.zero n) hz (graphPrep n A) wf
  have nR : ((STab.zero n).runCircuit (graphPrep n A)).n = n := runCircuit_n _ _
  -- the prepared tableau has the rows of the CZ-on-|+…+⟩ tableau
  have rows : ∀ i, i < n → EqOn n (((STab.zero n).runCircuit (graphPrep n A)).row i)
      ((czEdges (plusSTab n) (edgesOf n A)).row i) := by
    intro i hi
    have h1 := runCircuit_row (STab.zero n) (graphPrep n A) wf i hi
    refine h1.trans ?_
    rw [czEdges_row]
    unfold graphPrep
    rw [actCirc_app]
    apply actCirc_congr n
    · intro g hg
      exact wf g (List.mem_append_right _ hg)
    · exact actCirc_H_Zq n i
  unfold graphStateMat
  have hn0 : (STab.zero n).n = n := rfl
  rw [hn0] at hcov
  rw [hcov, rho_of_czEdges_rows n A hsym hirr _ tr.good nR rows]

/-! ### `_graph_to_density_pure`: `create_n_plus_state(n)` followed by one `apply_cz` per edge -/

/-- `create_n_plus_state(n)`: the Kronecker product of `n` copies of `|+⟩⟨+| = [[½,½],[½,½]]` — every entry is `2⁻ⁿ` -/
noncomputable def plusMat (n : Nat) : Matrix (Bits n) (Bits n) ℂ := fun _ _ => (1 / 2 : ℂ) ^ n

theorem pexp_Xq (n k : Nat) (c : Bits n) : pexp n (Xq k) c = 0 := by
  unfold pexp
  rw [sumTo_congr n _ (fun _ => 0) (fun j _ => by simp [Xq, sFun, Bool.toInt']), sumTo_zero]
  rfl

/-- the partial products `∏_{m<k} (1 + X_m)/2`: all entries between basis states that agree from bit `k` on are `2⁻ᵏ`, the others vanish -/
theorem rhoTo_plus (n k : Nat) (hk : k ≤ n) (a c : Bits n) :
    rhoTo n (fun i => Xq i) k a c = if (∀ m : Fin n, k ≤ m.val → a m = c m) then (1 / 2 : ℂ) ^ k else 0 := by
  induction k generalizing a c with
  | zero =>
    show (1 : Matrix (Bits n) (Bits n) ℂ) a c = _
    rw [Matrix.one_apply]
    by_cases h : a = c
    · subst h; simp
    · have : ¬ (∀ m : Fin n, 0 ≤ m.val → a m = c m) := fun h' => h (funext fun m => h' m (Nat.zero_le _))
      rw [if_neg h, if_neg this]
  | succ k ih =>
    show (rhoTo n (fun i => Xq i) k * proj n (Xq k)) a c = _
    unfold proj
    rw [Matrix.mul_smul, Matrix.smul_apply, Matrix.mul_add, Matrix.mul_one, Matrix.add_apply]
    unfold pauliMat
    rw [mul_mono_apply, pexp_Xq, iPow_zero, _root_.mul_one, ih (by omega), ih (by omega)]
    have hkn : k < n := by omega
    have hflip : ∀ m : Fin n, (flip (Xq k).x c) m = xor (c m) (decide (m.val = k)) := fun m => rfl
    by_cases h : ∀ m : Fin n, k + 1 ≤ m.val → a m = c m
    · rw [if_pos h]
      -- exactly one of `c`, `c ⊕ e_k` agrees with `a` at bit `k`
      by_cases hb : a ⟨k, hkn⟩ = c ⟨k, hkn⟩
      · have h1 : ∀ m : Fin n, k ≤ m.val → a m = c m := by
          intro m hm
          by_cases e : m.val = k
          · have : m = ⟨k, hkn⟩ := Fin.ext e
            rw [this]; exact hb
          · exact h m (by omega)
        have h2 : ¬ (∀ m : Fin n, k ≤ m.val → a m = (flip (Xq k).x c) m) := by
          intro h'
          have := h' ⟨k, hkn⟩ (Nat.le_refl k)
          rw [hflip, hb] at this
          simp at this
        rw [if_pos h1, if_neg h2, add_zero, smul_eq_mul, pow_succ]
        ring
      · have h1 : ¬ (∀ m : Fin n, k ≤ m.val → a m = c m) := fun h' => hb (h' ⟨k, hkn⟩ (Nat.le_refl k))
        have h2 : ∀ m : Fin n, k ≤ m.val → a m = (flip (Xq k).x c) m := by
          intro m hm
          rw [hflip]
          by_cases e : m.val = k
          · have : m = ⟨k, hkn⟩ := Fin.ext e
            rw [this, decide_eq_true rfl, Bool.xor_true]
            exact Bool.eq_not.mpr hb
          · simp [e, h m (by omega)]
        rw [if_neg h1, if_pos h2, zero_add, smul_eq_mul, pow_succ]
        ring
    · rw [if_neg h]
      have h1 : ¬ (∀ m : Fin n, k ≤ m.val → a m = c m) := fun h' => h (fun m hm => h' m (by omega))
      have h2 : ¬ (∀ m : Fin n, k ≤ m.val → a m = (flip (Xq k).x c) m) := by
        intro h'
        apply h
        intro m hm
        have := h' m (by omega)
        rw [hflip] at this
        have e : ¬ (m.val = k) := by omega
        simpa [e] using this
      rw [if_neg h1, if_neg h2, add_zero, smul_zero]

/-- the density matrix of the generators `X_0 … X_{n-1}` is `create_n_plus_state(n)`: every entry `2⁻ⁿ` -/
theorem rho_plusSTab (n : Nat) : rho n (plusSTab n) = plusMat n := by
  ext a c
  show rhoTo n (fun i => Xq i) n a c = _
  rw [rhoTo_plus n n (Nat.le_refl n) a c, if_pos (fun m hm => absurd m.isLt (by omega))]
  rfl

/-- `_graph_to_density_pure(G)` is the graph state: `create_n_plus_state(n)` conjugated by one CZ per edge of `list(graph.edges)` is
    `|G⟩⟨G|` (= `ρ(graph_to_stabilizer(G))` = `CZ_E H^{⊗n}|0…0⟩⟨0…0|H^{⊗n}CZ_E`), for every simple graph -/
theorem graph_to_density_mat (n : Nat) (A : Adj) (hsym : ∀ i j, i < n → j < n → A i j = A j i) (hirr : ∀ i, i < n → A i i = false) :
    circMat n ((edgesOf n A).map fun e => Gate.CZ e.1 e.2) * plusMat n * (circMat n ((edgesOf n A).map fun e => Gate.CZ e.1 e.2))ᴴ =
      graphStateMat n A := by
  have wf : ∀ g, g ∈ (edgesOf n A).map (fun e => Gate.CZ e.1 e.2) → g.WF n :=
    fun g hg => graphPrep_wf n A g (List.mem_append_right _ hg)
  have hp : (plusSTab n).Good := ⟨fun _ _ => rfl, fun i k _ _ => by
    show sp n (Xq i) (Xq k) = false
    unfold sp; apply parityTo_zero; intro j _; simp [Xq]⟩
  have hcov := rho_runCircuit (plusSTab n) _ wf
  have hn0 : (plusSTab n).n = n := rfl
  rw [hn0, rho_plusSTab] at hcov
  rw [hcov, ← rho_graphSTab n A hsym hirr]
  -- the tableau after the CZ gates has the rows of `czEdges`
  refine rho_of_czEdges_rows n A hsym hirr _ (tracks_runCircuit (plusSTab n) hp _ wf).good (runCircuit_n _ _) (fun i hi => ?_)
  rw [czEdges_row]
  exact runCircuit_row (plusSTab n) _ wf i hi

/-! ### the entries of a graph state

  The CZ gates along an edge list are one diagonal matrix, so `|G⟩⟨G| a b = s(a) · 2⁻ⁿ · s(b)` with the sign
  `s(a) = ∏_{(u,v) ∈ E} (−1)^{a_u a_v}`. -/

/-- the exponent of `i` that the CZ gates along `es` put on the basis state `b`: `2 · #{(u, v) ∈ es : b_u = b_v = 1}` -/
def czExp {n : Nat} (es : List (Nat × Nat)) (b : Bits n) : ℤ :=
  (es.map fun e => 2 * Bool.toInt' (bx b e.1 && bx b e.2)).sum

theorem circMat_cz (n : Nat) (es : List (Nat × Nat)) :
    circMat n (es.map fun e => Gate.CZ e.1 e.2) = mono id (czExp es) := by
  induction es with
  | nil => exact mono_id_zero.symm
  | cons e es ih =>
    show circMat n (es.map fun e => Gate.CZ e.1 e.2) * ctrlQ n e.1 e.2 sigmaZ = _
    rw [ih, ctrlQ_sigmaZ, mono_mul_mono]
    apply mono_congr rfl
    intro b
    show (czExp es b + _) % 4 = (_ + czExp es b) % 4
    rw [Int.add_comm]

/-- the sign `∏_{(u,v) ∈ es} (−1)^{b_u b_v}` -/
noncomputable def czSign {n : Nat} (es : List (Nat × Nat)) (b : Bits n) : ℂ := iPow (czExp es b)

theorem czSign_nil {n : Nat} (b : Bits n) : czSign [] b = 1 := iPow_zero

theorem czSign_cons {n : Nat} (e : Nat × Nat) (es : List (Nat × Nat)) (b : Bits n) :
    czSign (e :: es) b = (if (bx b e.1 && bx b e.2) then -1 else 1) * czSign es b := by
  show iPow (2 * Bool.toInt' (bx b e.1 && bx b e.2) + czExp es b) = _
  rw [iPow_add, iPow_two_mul_toInt']
  rfl

theorem czExp_even {n : Nat} (es : List (Nat × Nat)) (b : Bits n) : ∃ k, czExp es b = 2 * k := by
  induction es with
  | nil => exact ⟨0, rfl⟩
  | cons e es ih =>
    obtain ⟨k, hk⟩ := ih
    exact ⟨Bool.toInt' (bx b e.1 && bx b e.2) + k, by
      show 2 * Bool.toInt' (bx b e.1 && bx b e.2) + czExp es b = _
      rw [hk]; ring⟩

theorem cz_plus_apply (n : Nat) (es : List (Nat × Nat)) (a b : Bits n) :
    (circMat n (es.map fun e => Gate.CZ e.1 e.2) * plusMat n * (circMat n (es.map fun e => Gate.CZ e.1 e.2))ᴴ) a b =
      czSign es a * (1 / 2 : ℂ) ^ n * czSign es b := by
  rw [circMat_cz, mono_conjTranspose _ (fun _ => rfl), mul_mono_apply, mono_mul_apply _ _ (fun _ => rfl)]
  obtain ⟨k, hk⟩ := czExp_even es b
  -- the exponents are even, so conjugation does not change the sign
  have : iPow (-(czExp es (id b))) = czSign es b := by
    show iPow (-(czExp es b)) = iPow (czExp es b)
    rw [hk]; exact iPow_congr (by omega)
  rw [this]
  rfl

theorem rho_graph_apply (n : Nat) (A : Adj) (hsym : ∀ i j, i < n → j < n → A i j = A j i) (hirr : ∀ i, i < n → A i i = false)
    (a b : Bits n) :
    rho n (graphSTab n A) a b = czSign (edgesOf n A) a * (1 / 2 : ℂ) ^ n * czSign (edgesOf n A) b := by
  rw [rho_graphSTab n A hsym hirr, ← graph_to_density_mat n A hsym hirr, cz_plus_apply]

/-- Hilbert-space form of completeness + soundness: the modelled `state_to_graph` returns
    `(G, gates)` and conjugating the density matrix of the input by the unitary of `gates` gives exactly `|G⟩⟨G|` -/
theorem stateToGraph_hilbert (t : STab) (hn : 0 < t.n) (hg : t.Good) (hi : Indep (XZ.ofSTab t)) :
    ∃ adj gates, stateToGraph t = .ok (adj, gates) ∧ (∀ g, g ∈ gates → g.WF t.n) ∧
      circMat t.n gates * rho t.n t * (circMat t.n gates)ᴴ = graphStateMat t.n adj.f := by
  obtain ⟨adj, gates, e⟩ := stateToGraph_complete t hn hg hi
  obtain ⟨wf, s, hsym, hirr⟩ := stateToGraph_sound t hg.real adj gates e
  refine ⟨adj, gates, e, wf, ?_⟩
  have tr := tracks_runCircuit t hg gates wf
  have hgauge := rho_spanEq _ _ s tr.good (graphSTab_good t.n adj.f hsym)
  have nR : (t.runCircuit gates).n = t.n := runCircuit_n _ _
  rw [nR] at hgauge
  rw [rho_runCircuit t gates wf, hgauge, rho_graphSTab t.n adj.f hsym hirr]

end Graphiq
