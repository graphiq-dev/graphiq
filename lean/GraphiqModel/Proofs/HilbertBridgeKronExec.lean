/-
  Proofs/HilbertBridgeKronExec.lean — the *closed forms* in which `Model/DMSem.lean` writes graphiq's gate builders are the
  *literal* Kronecker constructions of functions.py, for every `n` and every position (`Mat.kron` = `np.kron`,
  `Mat.eye` = `np.eye`/`np.identity`), as equalities of executable matrices (`Mat.EqOn`):

  * `getOneQubitGate_eq_kron` : `np.kron(np.kron(I_{2^q}, g), I_{2^(n-q-1)})`;
  * `getTwoQubitControlledGate_eq_literal` : `np.eye(2^n) + K/2` with
      `K = kron(kron(kron(kron(I_{2^c}, I₂ − Z), I_{2^(t-c-1)}), g − I₂), I_{2^(n-t-1)})` for `c < t` and
      `K = kron(kron(kron(kron(I_{2^t}, g − I₂), I_{2^(c-t-1)}), I₂ − Z), I_{2^(n-c-1)})` for `c > t`;
  * `projectorsZ_eq_literal` : `reduce(np.kron, [P_s if i == q else I₂ for i in range(n)])`;
  * `rho0_eq_literal` : `reduce(np.kron, n * [|0⟩⟨0|])` (`create_n_product_state`).

  Method: `Rep` is compatible with `kron` by a 2×2 block on a new last qubit (`rep_kronLast`) and by an identity block
  (`rep_kronEye`); on the Hilbert side the chains are `oneQ` / `twoQ` by the Kronecker recursions of
  Proofs/HilbertKron.lean and Proofs/HilbertBridgeKron.lean; two executable matrices representing the same complex
  matrix are entrywise equal (`rep_eqOn`).
-/
import GraphiqModel.Proofs.HilbertBridgeKron
import GraphiqModel.Proofs.HilbertBridgeDensity
import GraphiqModel.Proofs.HilbertBridgeMethods
namespace Graphiq
namespace Hilbert
open Matrix

/-- **the closed form of the executable one-qubit embedding is the literal double Kronecker product**
    `np.kron(np.kron(np.identity(a), g), np.identity(b))` of `get_one_qubit_gate` -/
theorem embed1_eq_kron (a b : Nat) (g : Mat) (hg : g.n = 2) :
    Mat.EqOn (DM.embed1 a b g) (Mat.kron (Mat.kron (Mat.eye a) g) (Mat.eye b)) := by
  refine ⟨by show a * 2 * b = a * g.n * b; rw [hg], fun i j _ _ => ?_⟩
  show (if i / (2 * b) = j / (2 * b) ∧ i % b = j % b then g.e ((i / b) % 2) ((j / b) % 2) else 0)
    = ((if i / b / g.n = j / b / g.n then (1 : GQ) else 0) * g.e (i / b % g.n) (j / b % g.n)) * (if i % b = j % b then 1 else 0)
  rw [hg, Nat.div_div_eq_div_mul, Nat.div_div_eq_div_mul, Nat.mul_comm b 2]
  by_cases h1 : i / (2 * b) = j / (2 * b)
  · by_cases h2 : i % b = j % b
    · rw [if_pos ⟨h1, h2⟩, if_pos h1, if_pos h2, one_mul, mul_one]
    · rw [if_neg (fun h => h2 h.2), if_neg h2, mul_zero]
  · rw [if_neg (fun h => h1 h.1), if_neg h1, zero_mul, zero_mul]

theorem getOneQubitGate_eq_kron (n q : Nat) (g : Mat) (hg : g.n = 2) (hn : n ≠ 1) :
    Mat.EqOn (DM.getOneQubitGate n q g)
      (Mat.kron (Mat.kron (Mat.eye (DM.pow2 q)) g) (Mat.eye (DM.pow2 (n - q - 1)))) := by
  have : DM.getOneQubitGate n q g = DM.embed1 (DM.pow2 q) (DM.pow2 (n - q - 1)) g := by
    unfold DM.getOneQubitGate DM.embed1
    rw [if_neg hn]
  rw [this]
  exact embed1_eq_kron _ _ g hg

/-! ### Kronecker products on the Hilbert side -/

/-- `X ⊗ v` with the 2×2 block `v` on a new last qubit -/
noncomputable def kronLast {m : Nat} (X : DMat m) (v : Matrix Bool Bool ℂ) : DMat (m + 1) :=
  Matrix.of fun a b => X (initB a) (initB b) * v (lastB a) (lastB b)

/-- `X ⊗ 1_{2^k}` -/
noncomputable def kronEye {m : Nat} (X : DMat m) : (k : Nat) → DMat (m + k)
  | 0 => X
  | k + 1 => kronLast (kronEye X k) 1

theorem kronLast_one (m : Nat) (v : Matrix Bool Bool ℂ) : kronLast (1 : DMat m) v = oneQ (m + 1) m v := by
  ext a b; exact (oneQ_succ_last m v a b).symm

theorem kronEye_oneQ (m q : Nat) (hq : q < m) (u : Matrix Bool Bool ℂ) : ∀ k, kronEye (oneQ m q u) k = oneQ (m + k) q u
  | 0 => rfl
  | k + 1 => by
    show kronLast (kronEye (oneQ m q u) k) 1 = oneQ (m + k + 1) q u
    rw [kronEye_oneQ m q hq u k]
    ext a b; exact (oneQ_succ_lower (m + k) q (by omega) u a b).symm

theorem kronLast_oneQ (m c : Nat) (hc : c < m) (u v : Matrix Bool Bool ℂ) : kronLast (oneQ m c u) v = twoQ (m + 1) c m u v := by
  ext a b; exact (twoQ_succ_target_last m c hc u v a b).symm

theorem kronEye_twoQ (m c t : Nat) (hc : c < m) (ht : t < m) (u v : Matrix Bool Bool ℂ) :
    ∀ k, kronEye (twoQ m c t u v) k = twoQ (m + k) c t u v
  | 0 => rfl
  | k + 1 => by
    show kronLast (kronEye (twoQ m c t u v) k) 1 = twoQ (m + k + 1) c t u v
    rw [kronEye_twoQ m c t hc ht u v k]
    ext a b; exact (twoQ_succ_lower (m + k) c t (by omega) (by omega) u v a b).symm

/-! ### `Rep` and `Mat.kron` -/

theorem idx_succ_div (m : Nat) (a : Bits (m + 1)) : idx (m + 1) a / 2 = idx m (initB a) := by
  simp only [idx]; split <;> omega

theorem idx_succ_mod (m : Nat) (a : Bits (m + 1)) : idx (m + 1) a % 2 = b2n (lastB a) := by
  simp only [idx, b2n]; split <;> omega

theorem rep_kronLast {m : Nat} {x y : Mat} {X : DMat m} {v : Matrix Bool Bool ℂ} (hx : Rep m x X) (hy : Rep2 y v) :
    Rep (m + 1) (Mat.kron x y) (kronLast X v) := by
  refine ⟨by show x.n * y.n = 2 ^ (m + 1); rw [hx.1, hy.1, pow_succ], fun a b => ?_⟩
  show gqC (x.e (idx (m + 1) a / y.n) (idx (m + 1) b / y.n) * y.e (idx (m + 1) a % y.n) (idx (m + 1) b % y.n)) = _
  rw [hy.1, idx_succ_div, idx_succ_div, idx_succ_mod, idx_succ_mod, RingHom.map_mul, hx.2, hy.2]
  rfl

theorem mod_pow_succ_eq_iff (i j k : Nat) :
    i % 2 ^ (k + 1) = j % 2 ^ (k + 1) ↔ (i / 2) % 2 ^ k = (j / 2) % 2 ^ k ∧ i % 2 = j % 2 := by
  rw [show 2 ^ (k + 1) = 2 * 2 ^ k by rw [pow_succ, Nat.mul_comm], Nat.mod_mul, Nat.mod_mul]
  constructor
  · intro h
    have h2 : i % 2 = j % 2 := by
      have := congrArg (· % 2) h
      simpa [Nat.add_mul_mod_self_left] using this
    refine ⟨?_, h2⟩
    rw [h2] at h
    exact Nat.eq_of_mul_eq_mul_left (by norm_num : 0 < 2) (Nat.add_left_cancel h)
  · intro ⟨h1, h2⟩; rw [h1, h2]

/-- `np.kron(x, np.eye(2^(k+1)))` is `np.kron(np.kron(x, np.eye(2^k)), np.eye(2))` -/
theorem kron_eye_succ (x : Mat) (k : Nat) :
    Mat.EqOn (Mat.kron x (Mat.eye (2 ^ (k + 1)))) (Mat.kron (Mat.kron x (Mat.eye (2 ^ k))) Mat.id2) := by
  refine ⟨by show x.n * 2 ^ (k + 1) = x.n * 2 ^ k * 2; rw [pow_succ, Nat.mul_assoc], fun i j _ _ => ?_⟩
  show x.e (i / 2 ^ (k + 1)) (j / 2 ^ (k + 1)) * (if i % 2 ^ (k + 1) = j % 2 ^ (k + 1) then 1 else 0)
    = (x.e (i / 2 / 2 ^ k) (j / 2 / 2 ^ k) * (if i / 2 % 2 ^ k = j / 2 % 2 ^ k then 1 else 0)) * Mat.id2.e (i % 2) (j % 2)
  rw [Mat.id2_e _ _ (Nat.mod_lt _ (by norm_num)) (Nat.mod_lt _ (by norm_num)), Nat.div_div_eq_div_mul,
    Nat.div_div_eq_div_mul, show 2 * 2 ^ k = 2 ^ (k + 1) by rw [pow_succ, Nat.mul_comm]]
  by_cases h : i % 2 ^ (k + 1) = j % 2 ^ (k + 1)
  · obtain ⟨h1, h2⟩ := (mod_pow_succ_eq_iff i j k).mp h
    rw [if_pos h, if_pos h1, if_pos h2, mul_one, mul_one]
  · rw [if_neg h, mul_zero]
    by_cases h1 : i / 2 % 2 ^ k = j / 2 % 2 ^ k
    · have h2 : ¬ i % 2 = j % 2 := fun h2 => h ((mod_pow_succ_eq_iff i j k).mpr ⟨h1, h2⟩)
      rw [if_neg h2, mul_zero]
    · rw [if_neg h1, mul_zero, zero_mul]

theorem rep_kronEye {m : Nat} {x : Mat} {X : DMat m} (hx : Rep m x X) :
    ∀ k, Rep (m + k) (Mat.kron x (Mat.eye (2 ^ k))) (kronEye X k)
  | 0 => by
    refine ⟨by show x.n * 2 ^ 0 = 2 ^ m; rw [hx.1]; simp, fun a b => ?_⟩
    show gqC (x.e (idx m a / 2 ^ 0) (idx m b / 2 ^ 0) * (if idx m a % 2 ^ 0 = idx m b % 2 ^ 0 then 1 else 0)) = X a b
    simp only [pow_zero, Nat.div_one, Nat.mod_one, if_true, mul_one]
    exact hx.2 a b
  | k + 1 => (rep_kronLast (rep_kronEye hx k) rep2_id2).of_eqOn (kron_eye_succ x k)

theorem rep2_sub {g h : Mat} {u v : Matrix Bool Bool ℂ} (hg : Rep2 g u) (hh : Rep2 h v) : Rep2 (Mat.sub g h) (u - v) := by
  refine ⟨hg.1, fun x y => ?_⟩
  show gqC (g.e _ _ - h.e _ _) = _
  rw [RingHom.map_sub, hg.2, hh.2, Matrix.sub_apply]

theorem rep2_self (g : Mat) (hg : g.n = 2) : Rep2 g (Matrix.of fun x y => gqC (g.e (b2n x) (b2n y))) := ⟨hg, fun _ _ => rfl⟩

/-! ### the controlled gate -/

/-- the literal construction of `get_two_qubit_controlled_gate` (both branches) -/
def literalCtrl (n c t : Nat) (g : Mat) : Mat :=
  let K : Mat :=
    if c < t then
      Mat.kron (Mat.kron (Mat.kron (Mat.kron (Mat.eye (2 ^ c)) (Mat.sub Mat.id2 Mat.sigmaz)) (Mat.eye (2 ^ (t - c - 1))))
        (Mat.sub g Mat.id2)) (Mat.eye (2 ^ (n - t - 1)))
    else
      Mat.kron (Mat.kron (Mat.kron (Mat.kron (Mat.eye (2 ^ t)) (Mat.sub g Mat.id2)) (Mat.eye (2 ^ (c - t - 1))))
        (Mat.sub Mat.id2 Mat.sigmaz)) (Mat.eye (2 ^ (n - c - 1)))
  Mat.add (Mat.eye (2 ^ n)) (Mat.smul (1 / 2) K)

/-- the five-factor chain with 2×2 blocks at positions `p < p + 1 + B`, on `p + 1 + B + 1 + C` qubits -/
theorem rep_chain (p B C : Nat) (g h : Mat) (u v : Matrix Bool Bool ℂ) (hg : Rep2 g u) (hh : Rep2 h v) :
    Rep (p + 1 + B + 1 + C) (Mat.kron (Mat.kron (Mat.kron (Mat.kron (Mat.eye (2 ^ p)) g) (Mat.eye (2 ^ B))) h) (Mat.eye (2 ^ C)))
      (twoQ (p + 1 + B + 1 + C) p (p + 1 + B) u v) := by
  have h1 := rep_kronLast (Rep.eye p) hg
  rw [kronLast_one] at h1
  have h2 := rep_kronEye h1 B
  rw [kronEye_oneQ (p + 1) p (by omega)] at h2
  have h3 := rep_kronLast h2 hh
  rw [kronLast_oneQ (p + 1 + B) p (by omega)] at h3
  have h4 := rep_kronEye h3 C
  rw [kronEye_twoQ (p + 1 + B + 1) p (p + 1 + B) (by omega) (by omega)] at h4
  exact h4

theorem rep_literalCtrl (n c t : Nat) (hc : c < n) (ht : t < n) (hct : c ≠ t) (g : Mat) (u : Matrix Bool Bool ℂ)
    (hg : Rep2 g u) : Rep n (literalCtrl n c t g) (ctrlG n c t u) := by
  have hZ := rep2_sub rep2_id2 rep2_sigmaz
  have hU := rep2_sub hg rep2_id2
  have half : (((1 / 2 : Rat) : ℝ) : ℂ) = 1 / 2 := by norm_num
  unfold literalCtrl ctrlG
  simp only
  by_cases hlt : c < t
  · rw [if_pos hlt]
    obtain ⟨B, rfl⟩ : ∃ B, t = c + 1 + B := ⟨t - c - 1, by omega⟩
    obtain ⟨C, rfl⟩ : ∃ C, n = c + 1 + B + 1 + C := ⟨n - (c + 1 + B) - 1, by omega⟩
    rw [show c + 1 + B - c - 1 = B by omega, show c + 1 + B + 1 + C - (c + 1 + B) - 1 = C by omega, ← half]
    exact Rep.add (Rep.eye _) (Rep.smul (1 / 2) (rep_chain c B C _ _ _ _ hZ hU))
  · rw [if_neg hlt]
    obtain ⟨B, rfl⟩ : ∃ B, c = t + 1 + B := ⟨c - t - 1, by omega⟩
    obtain ⟨C, rfl⟩ : ∃ C, n = t + 1 + B + 1 + C := ⟨n - (t + 1 + B) - 1, by omega⟩
    rw [show t + 1 + B - t - 1 = B by omega, show t + 1 + B + 1 + C - (t + 1 + B) - 1 = C by omega, ← half, twoQ_comm]
    exact Rep.add (Rep.eye _) (Rep.smul (1 / 2) (rep_chain t B C _ _ _ _ hU hZ))

/-- **the closed form of the executable controlled gate is the literal Kronecker construction of
    `get_two_qubit_controlled_gate`**, every `n`, every pair of distinct positions, every 2×2 target block -/
theorem getTwoQubitControlledGate_eq_literal (n c t : Nat) (hc : c < n) (ht : t < n) (hct : c ≠ t) (g : Mat) (hg : g.n = 2) :
    ∃ m, DM.getTwoQubitControlledGate n c t g = .ok m ∧ Mat.EqOn m (literalCtrl n c t g) := by
  have hg2 := rep2_self g hg
  obtain ⟨m, e, hrep⟩ := rep_getTwoQubitControlledGate n c t hc ht hct g _ hg2
  refine ⟨m, e, ?_⟩
  have h2 := rep_literalCtrl n c t hc ht hct g _ hg2
  rw [ctrlG_eq n c t hc ht hct] at h2
  exact rep_eqOn hrep h2

/-! ### `reduce(np.kron, …)`: the Z projectors and the initial state -/

/-- `functools.reduce(np.kron, list)` (no initial value: starts from the first element) -/
def reduceKron : List Mat → Mat
  | [] => Mat.eye 1
  | x :: rest => rest.foldl Mat.kron x

theorem reduceKron_snoc (l : List Mat) (y : Mat) (hl : l ≠ []) : reduceKron (l ++ [y]) = Mat.kron (reduceKron l) y := by
  cases l with
  | nil => exact absurd rfl hl
  | cons x rest => simp [reduceKron, List.foldl_append]

theorem rep1_of_rep2 {g : Mat} {u : Matrix Bool Bool ℂ} (hg : Rep2 g u) : Rep 1 g (oneQ 1 0 u) := by
  have := rep_getOneQubitGate 1 0 (by norm_num) g u hg
  unfold DM.getOneQubitGate at this
  rwa [if_pos rfl] at this

/-- the list `[blk if i == q else I₂ for i in range(m+1)]` reduced by `np.kron` -/
theorem rep_reduce_site (q : Nat) (blk : Mat) (u : Matrix Bool Bool ℂ) (hb : Rep2 blk u) : ∀ m : Nat,
    Rep (m + 1) (reduceKron ((List.range (m + 1)).map fun i => if i = q then blk else Mat.id2))
      (if q ≤ m then oneQ (m + 1) q u else 1)
  | 0 => by
    show Rep 1 (if 0 = q then blk else Mat.id2) _
    by_cases h : q = 0
    · subst h
      rw [if_pos rfl, if_pos (Nat.le_refl 0)]
      exact rep1_of_rep2 hb
    · rw [if_neg (fun e => h e.symm), if_neg (by omega)]
      have := rep1_of_rep2 rep2_id2
      rwa [oneQ_one] at this
  | m + 1 => by
    rw [List.range_succ, List.map_append, List.map_singleton, reduceKron_snoc _ _ (by simp)]
    have ih := rep_reduce_site q blk u hb m
    by_cases h1 : q ≤ m
    · rw [if_pos h1] at ih
      have hne : ¬ m + 1 = q := by omega
      rw [if_neg hne, if_pos (by omega)]
      have := rep_kronLast ih rep2_id2
      refine this.congr ?_
      ext a b
      exact (oneQ_succ_lower (m + 1) q (by omega) u a b).symm
    · rw [if_neg h1] at ih
      by_cases h2 : q = m + 1
      · subst h2
        rw [if_pos rfl, if_pos (Nat.le_refl _)]
        have := rep_kronLast ih hb
        rwa [kronLast_one] at this
      · rw [if_neg (fun e => h2 e.symm), if_neg (by omega)]
        have := rep_kronLast ih rep2_id2
        rwa [kronLast_one, oneQ_one] at this

theorem rep2_proj0 : Rep2 Mat.proj0 (ketBra2 false false) := rep2_ketBra00
theorem rep2_proj1 : Rep2 Mat.proj1 (ketBra2 true true) :=
  rep2_m2 _ _ _ _ _ (map_zero gqC) (map_zero gqC) (map_zero gqC) (map_one gqC)

/-- **`projectors_zbasis`: the closed form is the literal `reduce(np.kron, [P_s if i == q else I₂ …])`** -/
theorem projectorsZ_eq_literal (n q : Nat) (hq : q < n) :
    ∃ p0 p1, DM.projectorsZ n q = .ok (p0, p1) ∧
      Mat.EqOn p0 (reduceKron ((List.range n).map fun i => if i = q then Mat.proj0 else Mat.id2)) ∧
      Mat.EqOn p1 (reduceKron ((List.range n).map fun i => if i = q then Mat.proj1 else Mat.id2)) := by
  obtain ⟨p0, p1, e, r0, r1⟩ := rep_projectorsZ n q hq
  obtain ⟨m, hm⟩ : ∃ m, n = m + 1 := ⟨n - 1, by omega⟩
  subst hm
  have l0 := rep_reduce_site q Mat.proj0 _ rep2_proj0 m
  have l1 := rep_reduce_site q Mat.proj1 _ rep2_proj1 m
  rw [if_pos (by omega)] at l0 l1
  exact ⟨p0, p1, e, rep_eqOn r0 l0, rep_eqOn r1 l1⟩

/-- `create_n_product_state(n, |0⟩)` = `reduce(np.kron, n * [|0⟩⟨0|])` -/
theorem rep_reduce_ket0 : ∀ m : Nat,
    Rep (m + 1) (reduceKron (List.replicate (m + 1) Mat.proj0)) (DMH.ket0H (m + 1))
  | 0 => by
    have := rep1_of_rep2 rep2_proj0
    refine this.congr ?_
    ext a b
    rw [ket0H_succ 0 a b, oneQ_succ_last 0 _ a b]
    congr 1
  | m + 1 => by
    rw [List.replicate_succ', reduceKron_snoc _ _ (by simp)]
    have := rep_kronLast (rep_reduce_ket0 m) rep2_proj0
    refine this.congr ?_
    ext a b
    exact (ket0H_succ (m + 1) a b).symm

/-- the initial matrix of `compileDM` is the literal `reduce(np.kron, n * [|0⟩⟨0|])` -/
theorem rho0_eq_literal (m : Nat) :
    Mat.EqOn (⟨DM.pow2 (m + 1), fun i j => if i = 0 ∧ j = 0 then 1 else 0⟩ : Mat) (reduceKron (List.replicate (m + 1) Mat.proj0)) :=
  rep_eqOn (rep_rho0 (m + 1)) (rep_reduce_ket0 m)

end Hilbert
end Graphiq
