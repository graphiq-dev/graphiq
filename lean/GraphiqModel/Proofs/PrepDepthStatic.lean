/-
  PrepDepthStatic.lean — schedules of a circuit and the *static* depth theorem (C18).

  A schedule `L` of a circuit `c` (w.r.t. its wires `P`) is a duplicate-free list of all operation nodes with their
  operations such that the wire of every register is `inp, (the nodes of L acting on the register, in L-order), out`.
  Every circuit satisfying DagInv has one (Proofs/MetricsHist.lean); after `add`, `unwrap_nodes`, `remove_identity` there is one
  holding the edited operation list (Proofs/PrepDepthSched.lean), so the prepared copy of the emitter metrics has one too.

  Static depth theorem: for ANY circuit satisfying DagInv that has a schedule `L`, `_max_depth` (relation `HasDepth`) of
  the k-th node of `L` is the ASAP layer of the k-th operation of `L` minus one, and `_max_depth(out r)` is the ASAP
  depth of register `r` — no reference to how the circuit was constructed.
-/
import GraphiqModel.Proofs.PrepOrder
namespace Graphiq
namespace Metrics
open Dag Relation

def schedWire (L : List (NodeId × Op)) (r : Reg) : List NodeId :=
  (L.filter (fun p => decide (r ∈ opRegs p.2))).map (·.1)

theorem schedWire_append (L1 L2 : List (NodeId × Op)) (r : Reg) :
    schedWire (L1 ++ L2) r = schedWire L1 r ++ schedWire L2 r := by
  simp [schedWire, List.filter_append]

theorem schedWire_cons_pos {p : NodeId × Op} {L : List (NodeId × Op)} {r : Reg} (h : r ∈ opRegs p.2) :
    schedWire (p :: L) r = p.1 :: schedWire L r := by
  simp [schedWire, h]

theorem schedWire_cons_neg {p : NodeId × Op} {L : List (NodeId × Op)} {r : Reg} (h : r ∉ opRegs p.2) :
    schedWire (p :: L) r = schedWire L r := by
  simp [schedWire, h]

theorem mem_schedWire {L : List (NodeId × Op)} {r : Reg} {n : NodeId} :
    n ∈ schedWire L r ↔ ∃ p ∈ L, r ∈ opRegs p.2 ∧ p.1 = n := by
  unfold schedWire
  rw [List.mem_map]
  constructor
  · rintro ⟨p, hp, rfl⟩
    obtain ⟨h1, h2⟩ := List.mem_filter.mp hp
    exact ⟨p, h1, by simpa using h2, rfl⟩
  · rintro ⟨p, hp, hr, rfl⟩
    exact ⟨p, List.mem_filter.mpr ⟨hp, by simpa using hr⟩, rfl⟩

/-- **the operation of a node as the circuit wires it**: the operation with only those classical registers on whose wire
    the node lies.  `add` threads a node on the wires of all its `c_registers`; `insert_at` (by design) only on the quantum
    registers of the given edges, so an operation inserted with `insert_at` holds a `c_register` that creates no dependency
    in the graph.  The registers of `wiredOp P n o` are exactly the registers whose wire contains `n` (`mem_opRegs_wiredOp`). -/
def wiredOp (P : Paths) (n : NodeId) (o : Op) : Op :=
  { o with cregs := o.cregs.filter (fun j => decide (n ∈ P ⟨.c, j⟩)) }

@[simp] theorem wiredOp_kind (P : Paths) (n : NodeId) (o : Op) : (wiredOp P n o).kind = o.kind := rfl
@[simp] theorem wiredOp_qregs (P : Paths) (n : NodeId) (o : Op) : (wiredOp P n o).qregs = o.qregs := rfl
@[simp] theorem wiredOp_labels (P : Paths) (n : NodeId) (o : Op) : (wiredOp P n o).labels = o.labels := rfl
@[simp] theorem wiredOp_inner (P : Paths) (n : NodeId) (o : Op) : (wiredOp P n o).inner = o.inner := rfl
@[simp] theorem wiredOp_indexKeys (P : Paths) (n : NodeId) (o : Op) : (wiredOp P n o).indexKeys = o.indexKeys := rfl
theorem wiredOp_cregs (P : Paths) (n : NodeId) (o : Op) :
    (wiredOp P n o).cregs = o.cregs.filter (fun j => decide (n ∈ P ⟨.c, j⟩)) := rfl

theorem wiredOp_of_cregs_nil {P : Paths} {n : NodeId} {o : Op} (h : o.cregs = []) : wiredOp P n o = o := by
  cases o; simp only [wiredOp] at *; simp [h]

theorem cregView_wiredOp (P : Paths) : CregView (wiredOp P) := ⟨fun _ _ h => wiredOp_of_cregs_nil h, fun _ _ => rfl⟩

theorem wiredOp_congr {P P' : Paths} {n : NodeId} {o : Op} (h : ∀ j ∈ o.cregs, (n ∈ P' ⟨.c, j⟩ ↔ n ∈ P ⟨.c, j⟩)) :
    wiredOp P' n o = wiredOp P n o := by
  unfold wiredOp
  congr 1
  apply List.filter_congr
  intro j hj
  simp [h j hj]

theorem wiredOp_eq_self {P : Paths} {n : NodeId} {o : Op} (h : ∀ j ∈ o.cregs, n ∈ P ⟨.c, j⟩) : wiredOp P n o = o := by
  cases o with
  | mk k q cr l i =>
    simp only [wiredOp, Op.mk.injEq, true_and, and_true]
    exact List.filter_eq_self.mpr (fun j hj => by simpa using h j hj)

theorem wiredOp_wf {P : Paths} {n : NodeId} {o : Op} (h : OpWF o) : OpWF (wiredOp P n o) :=
  { not_input := h.not_input, not_output := h.not_output, qregs_ne := h.qregs_ne, qregs_nodup := h.qregs_nodup,
    cregs_nodup := h.cregs_nodup.sublist List.filter_sublist, qregs_quantum := h.qregs_quantum,
    wrapper_shape := fun hk => by
      obtain ⟨a, b, c⟩ := h.wrapper_shape hk
      exact ⟨a, by rw [wiredOp_cregs, b]; rfl, c⟩
    wrapper_key := h.wrapper_key }

theorem mem_opRegs_wiredOp {c : Dag} {P : Paths} (g : Good c P) {i : Nat} {o : Op} (hm : (NodeId.op i, o) ∈ c.nodes) (r : Reg) :
    r ∈ opRegs (wiredOp P (.op i) o) ↔ NodeId.op i ∈ P r := by
  unfold opRegs
  rw [List.mem_append, wiredOp_qregs, wiredOp_cregs]
  by_cases hr : r.ty = .c
  · obtain ⟨t, j⟩ := r
    simp only at hr; subst hr
    constructor
    · rintro (h | h)
      · exact absurd rfl ((g.inv.op_wf i o hm).qregs_quantum _ h)
      · obtain ⟨j', hj', e⟩ := List.mem_map.mp h
        injection e with _ e; subst e
        simpa using (List.mem_filter.mp hj').2
    · intro h
      refine Or.inr (List.mem_map.mpr ⟨j, List.mem_filter.mpr ⟨g.mem.mem_c i o hm j h, by simpa using h⟩, rfl⟩)
  · rw [g.mem.mem_q i o hm r hr]
    constructor
    · rintro (h | h)
      · exact h
      · obtain ⟨j', _, e⟩ := List.mem_map.mp h
        exact absurd (by rw [← e]) hr
    · exact Or.inl

/-- a schedule of the circuit: all operation nodes, each once — each with its operation as wired (`wiredOp`: the
    operation restricted to the classical registers the node is threaded on) — ordered consistently with every wire -/
structure Sched (c : Dag) (P : Paths) (L : List (NodeId × Op)) : Prop where
  wire : ∀ r, c.live r → P r = .inp r :: (schedWire L r ++ [.out r])
  nodes : ∀ p, p ∈ L ↔ (∃ i, p.1 = NodeId.op i) ∧ ∃ o, (p.1, o) ∈ c.nodes ∧ p.2 = wiredOp P p.1 o
  nodup : (L.map (·.1)).Nodup
  live : ∀ p ∈ L, ∀ r ∈ opRegs p.2, c.live r

/-- on a circuit satisfying DagInv the last field follows from the second: a scheduled node lies on the wire of every register
    of its wired operation, and the wire of a register that does not exist is empty -/
theorem Sched.of_good {c : Dag} {P : Paths} {L : List (NodeId × Op)} (g : Good c P)
    (wire : ∀ r, c.live r → P r = .inp r :: (schedWire L r ++ [.out r]))
    (nodes : ∀ p, p ∈ L ↔ (∃ i, p.1 = NodeId.op i) ∧ ∃ o, (p.1, o) ∈ c.nodes ∧ p.2 = wiredOp P p.1 o)
    (nodup : (L.map (·.1)).Nodup) : Sched c P L := by
  refine ⟨wire, nodes, nodup, ?_⟩
  intro p hp r hr
  obtain ⟨⟨i, hi⟩, o, hm, ho⟩ := (nodes p).mp hp
  rw [hi] at hm ho
  rw [ho, mem_opRegs_wiredOp g hm] at hr
  exact g.inv.live_of_mem hr

theorem Sched.congr {c c' : Dag} {P : Paths} {L : List (NodeId × Op)} (hS : Sched c P L) (hlive : ∀ r, c'.live r ↔ c.live r)
    (hn : ∀ i o, (NodeId.op i, o) ∈ c'.nodes ↔ (NodeId.op i, o) ∈ c.nodes) : Sched c' P L := by
  refine ⟨fun r hl => hS.wire r ((hlive r).mp hl), fun p => ?_, hS.nodup, fun p hp r hr => (hlive r).mpr (hS.live p hp r hr)⟩
  rw [hS.nodes p]
  constructor <;> rintro ⟨⟨i, hi⟩, o, hm, ho⟩ <;> refine ⟨⟨i, hi⟩, o, ?_, ho⟩ <;> rw [hi] at hm ⊢
  · exact (hn i o).mpr hm
  · exact (hn i o).mp hm

theorem fst_inj_of_nodup {L : List (NodeId × Op)} (hnd : (L.map (·.1)).Nodup) {p q : NodeId × Op} (hp : p ∈ L) (hq : q ∈ L)
    (h : p.1 = q.1) : p = q := by
  induction L with
  | nil => simp at hp
  | cons a t ih =>
    rw [List.map_cons, List.nodup_cons] at hnd
    rcases List.mem_cons.mp hp with rfl | hp' <;> rcases List.mem_cons.mp hq with rfl | hq'
    · rfl
    · exact absurd (List.mem_map.mpr ⟨q, hq', h.symm⟩) hnd.1
    · exact absurd (List.mem_map.mpr ⟨p, hp', h⟩) hnd.1
    · exact ih hnd.2 hp' hq'

def lastOn (L : List (NodeId × Op)) (r : Reg) : NodeId := ((schedWire L r).getLast?).getD (.inp r)

theorem lastOn_nil (r : Reg) : lastOn [] r = .inp r := rfl

theorem lastOn_snoc_pos {L : List (NodeId × Op)} {p : NodeId × Op} {r : Reg} (h : r ∈ opRegs p.2) :
    lastOn (L ++ [p]) r = p.1 := by
  unfold lastOn
  rw [schedWire_append, schedWire_cons_pos h]
  simp [schedWire]

theorem lastOn_snoc_neg {L : List (NodeId × Op)} {p : NodeId × Op} {r : Reg} (h : r ∉ opRegs p.2) :
    lastOn (L ++ [p]) r = lastOn L r := by
  unfold lastOn
  rw [schedWire_append, schedWire_cons_neg h]
  simp [schedWire]

theorem inp_cons_schedWire (L : List (NodeId × Op)) (r : Reg) :
    ∃ l1, NodeId.inp r :: schedWire L r = l1 ++ [lastOn L r] := by
  unfold lastOn
  rcases List.eq_nil_or_concat (schedWire L r) with h | ⟨l, a, h⟩
  · rw [h]; exact ⟨[], rfl⟩
  · rw [h, List.concat_eq_append, List.getLast?_concat]
    exact ⟨NodeId.inp r :: l, rfl⟩

section static
variable {c : Dag} {P : Paths} {L : List (NodeId × Op)}

theorem Sched.op_node (hS : Sched c P L) {p : NodeId × Op} (hp : p ∈ L) :
    ∃ i o, p.1 = NodeId.op i ∧ (NodeId.op i, o) ∈ c.nodes ∧ p.2 = wiredOp P (.op i) o := by
  obtain ⟨⟨i, hi⟩, o, hm, ho⟩ := (hS.nodes p).mp hp
  refine ⟨i, o, hi, ?_, ?_⟩
  · rw [← hi]; exact hm
  · rw [← hi]; exact ho

theorem Sched.mem_nodeIds (hS : Sched c P L) {p : NodeId × Op} (hp : p ∈ L) : p.1 ∈ c.nodeIds := by
  obtain ⟨_, o, hm, _⟩ := (hS.nodes p).mp hp
  exact Dag.mem_nodeIds.mpr ⟨o, hm⟩

theorem Sched.mem_of_node (hS : Sched c P L) {i : Nat} {o : Op} (hm : (NodeId.op i, o) ∈ c.nodes) :
    (NodeId.op i, wiredOp P (.op i) o) ∈ L := (hS.nodes _).mpr ⟨⟨i, rfl⟩, o, hm, rfl⟩

theorem Sched.wf (g : Good c P) (hS : Sched c P L) {p : NodeId × Op} (hp : p ∈ L) : OpWF p.2 := by
  obtain ⟨i, o, _, hm, hpo⟩ := hS.op_node hp
  exact hpo ▸ wiredOp_wf (g.inv.op_wf i o hm)

theorem Sched.opRegs_ne (g : Good c P) (hS : Sched c P L) {p : NodeId × Op} (hp : p ∈ L) : opRegs p.2 ≠ [] :=
  fun h => (hS.wf g hp).qregs_ne (List.append_eq_nil_iff.mp h).1

theorem Sched.wire_split (hS : Sched c P L) {pre suf : List (NodeId × Op)} {p : NodeId × Op} (hL : L = pre ++ p :: suf)
    {r : Reg} (hr : r ∈ opRegs p.2) :
    ∃ l1, P r = l1 ++ lastOn pre r :: p.1 :: (schedWire suf r ++ [.out r]) := by
  have hl : c.live r := hS.live p (by rw [hL]; simp) r hr
  obtain ⟨l1, h1⟩ := inp_cons_schedWire pre r
  refine ⟨l1, ?_⟩
  rw [hS.wire r hl, hL, schedWire_append, schedWire_cons_pos hr]
  calc NodeId.inp r :: (schedWire pre r ++ p.1 :: schedWire suf r ++ [NodeId.out r])
      = (NodeId.inp r :: schedWire pre r) ++ p.1 :: (schedWire suf r ++ [NodeId.out r]) := by simp
    _ = _ := by rw [h1]; simp

/-- the in-edges of the node at a split point: one per register of its operation, from the last earlier node on it -/
theorem Sched.inEdges_split (g : Good c P) (hS : Sched c P L) {pre suf : List (NodeId × Op)} {p : NodeId × Op}
    (hL : L = pre ++ p :: suf) (e : Edge) :
    (e ∈ c.edges ∧ e.dst = p.1) ↔ ∃ r ∈ opRegs p.2, e = ⟨lastOn pre r, p.1, r⟩ := by
  have hpL : p ∈ L := by rw [hL]; simp
  constructor
  · rintro ⟨he, hd⟩
    have hc := (g.inv.edges_iff e).mp he
    rw [hd] at hc
    have hmem := hc.mem.2
    have hl : c.live e.key := g.inv.live_of_mem hmem
    obtain ⟨i, _, hi, _, _⟩ := hS.op_node hpL
    have hr : e.key ∈ opRegs p.2 := by
      rw [hS.wire _ hl, hi] at hmem
      have : NodeId.op i ∈ schedWire L e.key := by simpa using hmem
      obtain ⟨q, hq, hqr, hq1⟩ := mem_schedWire.mp this
      have : q = p := fst_inj_of_nodup hS.nodup hq hpL (by rw [hq1, hi])
      rw [← this]; exact hqr
    obtain ⟨l1, hP⟩ := hS.wire_split hL hr
    have hc2 : Consec (P e.key) (lastOn pre e.key) p.1 := consec_iff_append.mpr ⟨l1, _, hP⟩
    have := consec_pred_unique (g.inv.nodup e.key) hc hc2
    refine ⟨e.key, hr, ?_⟩
    obtain ⟨s, d, k⟩ := e
    simp only at hd this ⊢
    rw [hd, this]
  · rintro ⟨r, hr, rfl⟩
    refine ⟨?_, rfl⟩
    rw [g.inv.edges_iff]
    obtain ⟨l1, hP⟩ := hS.wire_split hL hr
    exact consec_iff_append.mpr ⟨l1, _, hP⟩

/-- depth invariant of a prefix of the schedule: the last node of the prefix on every register has the ASAP front of
    the register (minus one; the input node: −1) -/
def FrontDepth (c : Dag) (pre : List (NodeId × Op)) : Prop :=
  ∀ r, c.live r → HasDepth c (lastOn pre r) ((Spec.frontGet (Spec.fronts (pre.map (·.2))) r : Int) - 1)

theorem frontDepth_nil (g : Good c P) : FrontDepth c [] := by
  intro r hl
  rw [lastOn_nil]
  have : ((Spec.frontGet (Spec.fronts (([] : List (NodeId × Op)).map (·.2))) r : Nat) : Int) - 1 = -1 := by
    simp [Spec.fronts, Spec.frontGet]
  rw [this]
  exact HasDepth.input (isInputNode_inp g.inv hl)

theorem sched_depth_step (g : Good c P) (hS : Sched c P L) (hkey : ∀ p ∈ L, "Input" ∉ p.2.indexKeys)
    {pre suf : List (NodeId × Op)} {p : NodeId × Op} (hL : L = pre ++ p :: suf) (hF : FrontDepth c pre) :
    HasDepth c p.1 ((Spec.layerOf (Spec.fronts (pre.map (·.2))) p.2 : Int) - 1) ∧ FrontDepth c (pre ++ [p]) := by
  have hpL : p ∈ L := by rw [hL]; simp
  obtain ⟨i, o, hi, hnode, hpo⟩ := hS.op_node hpL
  obtain ⟨a1, a2, a3⟩ := foldl_max_nat (fun r => Spec.frontGet (Spec.fronts (pre.map (·.2))) r) (opRegs p.2) 0
  have hne : opRegs p.2 ≠ [] := hS.opRegs_ne g hpL
  have hex : ∃ k ∈ opRegs p.2, Spec.frontGet (Spec.fronts (pre.map (·.2))) k =
      (opRegs p.2).foldl (fun m r => max m (Spec.frontGet (Spec.fronts (pre.map (·.2))) r)) 0 := by
    rcases a3 with h0 | h
    · obtain ⟨k, hk⟩ := List.exists_mem_of_ne_nil _ hne
      exact ⟨k, hk, by have := a2 k hk; omega⟩
    · exact h
  have hlayer : Spec.layerOf (Spec.fronts (pre.map (·.2))) p.2 =
      1 + (opRegs p.2).foldl (fun m r => max m (Spec.frontGet (Spec.fronts (pre.map (·.2))) r)) 0 := rfl
  have hnin : ¬ isInputNode c p.1 := by
    rw [isInputNode_iff g.inv, hi]
    unfold keysAt
    rw [(opOf_eq_some g.inv.ids_nodup).mpr hnode]
    have := hkey p hpL
    rw [hpo, wiredOp_indexKeys] at this
    simpa [indexKeysOf] using this
  have hdn : HasDepth c p.1 ((Spec.layerOf (Spec.fronts (pre.map (·.2))) p.2 : Int) - 1) := by
    have : HasDepth c p.1
        (((((opRegs p.2).foldl (fun m r => max m (Spec.frontGet (Spec.fronts (pre.map (·.2))) r)) 0 : Nat) : Int) - 1) + 1) := by
      apply HasDepth.node (fun e => (Spec.frontGet (Spec.fronts (pre.map (·.2))) e.key : Int) - 1) hnin
      · intro e he hd
        obtain ⟨r, hr, rfl⟩ := (hS.inEdges_split g hL e).mp ⟨he, hd⟩
        exact hF r (hS.live p hpL r hr)
      · intro e he hd
        obtain ⟨r, hr, rfl⟩ := (hS.inEdges_split g hL e).mp ⟨he, hd⟩
        have := a2 r hr
        simp only; omega
      · obtain ⟨k, hk, hkM⟩ := hex
        have := (hS.inEdges_split g hL ⟨lastOn pre k, p.1, k⟩).mpr ⟨k, hk, rfl⟩
        exact ⟨_, this.1, this.2, by simp only; omega⟩
    rw [hlayer]
    have e : ((1 + (opRegs p.2).foldl (fun m r => max m (Spec.frontGet (Spec.fronts (pre.map (·.2))) r)) 0 : Nat) : Int) - 1 =
        ((((opRegs p.2).foldl (fun m r => max m (Spec.frontGet (Spec.fronts (pre.map (·.2))) r)) 0 : Nat) : Int) - 1) + 1 := by
      push_cast; omega
    rw [e]; exact this
  refine ⟨hdn, ?_⟩
  intro r hl
  rw [List.map_append, List.map_cons, List.map_nil, fronts_append, frontGet_pushLayer]
  by_cases hr : r ∈ opRegs p.2
  · rw [lastOn_snoc_pos hr, if_pos hr]; exact hdn
  · rw [lastOn_snoc_neg hr, if_neg hr]; exact hF r hl

theorem sched_depth_aux (g : Good c P) (hS : Sched c P L) (hkey : ∀ p ∈ L, "Input" ∉ p.2.indexKeys) :
    ∀ (suf pre : List (NodeId × Op)), L = pre ++ suf → FrontDepth c pre →
      (∀ s1 p s2, suf = s1 ++ p :: s2 →
        HasDepth c p.1 ((Spec.layerOf (Spec.fronts ((pre ++ s1).map (·.2))) p.2 : Int) - 1)) ∧ FrontDepth c L := by
  intro suf
  induction suf with
  | nil =>
    intro pre hL hF
    refine ⟨?_, ?_⟩
    · intro s1 p s2 h; simp at h
    · rw [hL, List.append_nil]; exact hF
  | cons q rest ih =>
    intro pre hL hF
    obtain ⟨hq, hF'⟩ := sched_depth_step g hS hkey hL hF
    obtain ⟨h1, h2⟩ := ih (pre ++ [q]) (by rw [hL]; simp) hF'
    refine ⟨?_, h2⟩
    intro s1 p s2 hsplit
    cases s1 with
    | nil =>
      simp only [List.nil_append, List.cons.injEq] at hsplit
      obtain ⟨rfl, _⟩ := hsplit
      simpa using hq
    | cons a s1' =>
      simp only [List.cons_append, List.cons.injEq] at hsplit
      obtain ⟨rfl, hrest⟩ := hsplit
      have := h1 s1' p s2 hrest
      simpa [List.append_assoc] using this

theorem predOut_eq_lastOn (hS : Sched c P L) {r : Reg} (hl : c.live r) : predOut P r = lastOn L r := by
  unfold predOut
  obtain ⟨l1, h1⟩ := inp_cons_schedWire L r
  have : P r = (l1 ++ [lastOn L r]) ++ [.out r] := by
    rw [hS.wire r hl, ← h1]; simp
  rw [this, List.dropLast_concat, List.getLast?_concat]
  rfl

/-- **static depth theorem**: on a circuit with DagInv and a schedule `L`, the node at every split point of `L` has depth
    "ASAP layer of its operation − 1", and every output node has the ASAP depth of its register -/
theorem sched_depth (g : Good c P) (hS : Sched c P L) (hkey : ∀ p ∈ L, "Input" ∉ p.2.indexKeys) :
    (∀ pre p suf, L = pre ++ p :: suf →
      HasDepth c p.1 ((Spec.layerOf (Spec.fronts (pre.map (·.2))) p.2 : Int) - 1)) ∧
    (∀ r, c.live r → HasDepth c (.out r) (Spec.regDepth (L.map (·.2)) r : Int)) := by
  obtain ⟨h1, h2⟩ := sched_depth_aux g hS hkey L [] rfl (frontDepth_nil g)
  refine ⟨fun pre p suf hL => by simpa using h1 pre p suf hL, ?_⟩
  intro r hl
  have := HasDepth.out_of_pred g.inv hl (d := (Spec.frontGet (Spec.fronts (L.map (·.2))) r : Int) - 1)
    (by rw [predOut_eq_lastOn hS hl]; exact h2 r hl)
  have e : (Spec.frontGet (Spec.fronts (L.map (·.2))) r : Int) - 1 + 1 = (Spec.regDepth (L.map (·.2)) r : Int) := by
    unfold Spec.regDepth; omega
  rw [e] at this; exact this

end static

end Metrics
end Graphiq
