/-
  C08 — conversions among graph, stabilizer and density-matrix forms preserve the state.
-/
import GraphiqModel.Proofs.StateToGraphGaugeIndep
import GraphiqModel.Proofs.StateToGraphAdjugate
import GraphiqModel.Proofs.StateToGraphCompress
import GraphiqModel.Proofs.StateToGraphSpectrum
import GraphiqModel.Proofs.SweepGraphDensity
namespace Graphiq.C08
open Graphiq Graphiq.PRow Graphiq.Tab Graphiq.STab

/-- graph → stabilizer (`_graph_to_stabilizer_pure`): row `v` of the produced tableau is `X_v ∏_{w ~ v} Z_w` with sign `+` -/
theorem graph_to_stabilizer_rows (n : Nat) (adj : Nat → Nat → Bool) (v : Nat) :
    ((graphSTab n adj).row v).r = false ∧ (∀ j, ((graphSTab n adj).row v).x j = decide (j = v)) ∧
    (∀ j, j < n → ((graphSTab n adj).row v).z j = adj v j) := by
  refine ⟨rfl, fun j => rfl, fun j hj => ?_⟩
  simp [graphSTab, hj]

/-- graph → density matrix (`_graph_to_density_pure`: |+…+⟩ then one CZ per edge, every edge list with distinct
    endpoints): in stabilizer terms the result has, for every vertex `i`, the generator `+X_i ∏_j Z_j^{#edges(i,j) mod 2}`;
    for the edge list of a simple graph this is exactly the graph-state generator `X_i ∏_{j ~ i} Z_j` — the same state that
    graph → stabilizer produces -/
theorem graph_to_density_generators (n : Nat) (edges : List (Nat × Nat)) (hne : ∀ e, e ∈ edges → e.1 ≠ e.2) (i : Nat) :
    let p := (czEdges (plusSTab n) edges).row i
    (∀ j, p.x j = decide (j = i)) ∧ (∀ j, p.z j = edgeParity edges i j) ∧ p.r = false ∧ p.ip = false :=
  czEdges_plus n edges hne i

/-- state → graph, soundness of what is returned (every state, every returned gate list): if the validator accepts
    `(graph, gates)` for a stabilizer state, then the gates map the state exactly — signs included — onto the graph state:
    the two generate the same signed group -/
theorem state_to_graph_validator_sound (t : STab) (gates : List Gate) (adj : Nat → Nat → Bool)
    (h : checkConversion t gates adj = true) :
    (t.runCircuit gates).n = t.n ∧ ∀ p, (t.runCircuit gates).Spn p ↔ (graphSTab t.n adj).Spn p := by
  have s := checkConversion_sound t gates adj h
  exact ⟨s.n_eq, s.iff⟩

/-! ### the modelled `state_to_graph` / `stabilizer_to_graph` (Model/StateToGraph.lean) -/

/-- an in-range single-qubit gate passes the bounds test of the validator -/
theorem wf_inBounds (n : Nat) (g : Gate) (h : g.WF n) : g.inBounds n = true := by
  cases g <;> simp_all [Gate.WF, Gate.inBounds]

/-- `state_to_graph` is sound (every input tableau, every candidate GF(2) inverse `inv` — whatever the inverse
    computation of `_graph_finder` evaluates to, the code re-checks it): whenever the modelled `state_to_graph` returns `(graph, gates)`, the graph is
    simple, the gates are in range, and running them on the input tableau gives a tableau that generates exactly — signs
    included — the signed group of the graph state.  This is the conclusion of `state_to_graph_validator_sound`, as a theorem
    about the modelled code (`row_reduction`, `_position_finder`, `hadamard_transform`, the two closing assertions of
    `_graph_finder`, `canonical_form`, `_phase_correction`), not a per-output check.
    Hypothesis `hreal`: the rows carry no i-phase — `StabilizerTableau` has no such field (the model's `ip` is constantly `false`). -/
theorem state_to_graph_sound (inv : Nat → Adj → Option Adj) (t : STab)
    (hreal : ∀ i, i < t.n → (t.row i).ip = false) (adj : BMat) (gates : List Gate)
    (h : S2G.stateToGraphWith inv t = .ok (adj, gates)) :
    ((t.runCircuit gates).n = t.n ∧ ∀ p, (t.runCircuit gates).Spn p ↔ (graphSTab t.n adj.f).Spn p) ∧
    gates.all (Gate.inBounds t.n) = true ∧
    (∀ i j, i < t.n → j < t.n → adj.f i j = adj.f j i) ∧ (∀ i, i < t.n → adj.f i i = false) := by
  obtain ⟨wf, s, hsym, hirr⟩ := stateToGraphWith_sound inv t hreal adj gates h
  refine ⟨⟨s.n_eq, s.iff⟩, ?_, hsym, hirr⟩
  rw [List.all_eq_true]
  exact fun g hg => wf_inBounds t.n g (wf g hg)

/-- the instance for the executable model (exact GF(2) elimination), which is the one compared with the Python on every input -/
theorem state_to_graph_exact_sound (t : STab) (hreal : ∀ i, i < t.n → (t.row i).ip = false) (adj : BMat)
    (gates : List Gate) (h : S2G.stateToGraph t = .ok (adj, gates)) :
    (t.runCircuit gates).n = t.n ∧ ∀ p, (t.runCircuit gates).Spn p ↔ (graphSTab t.n adj.f).Spn p :=
  (state_to_graph_sound S2G.gf2InvF t hreal adj gates h).1

/-- `stabilizer_to_graph(validate=True)` is sound (every input): a returned graph is simple and its graph state is
    the input state (same signed group) -/
theorem stabilizer_to_graph_sound (t : STab) (hreal : ∀ i, i < t.n → (t.row i).ip = false) (adj : BMat)
    (h : S2G.stabilizerToGraph t = .ok adj) :
    (∀ p, t.Spn p ↔ (graphSTab t.n adj.f).Spn p) ∧
    (∀ i j, i < t.n → j < t.n → adj.f i j = adj.f j i) ∧ (∀ i, i < t.n → adj.f i i = false) := by
  obtain ⟨s, hsym, hirr⟩ := stabilizerToGraph_sound t hreal adj h
  exact ⟨s.iff, hsym, hirr⟩

/-- a returned result means the input was a valid stabilizer state (real, mutually commuting generators): the conversion never
    "succeeds" on a table that is not a state -/
theorem state_to_graph_input_is_state (inv : Nat → Adj → Option Adj) (t : STab)
    (hreal : ∀ i, i < t.n → (t.row i).ip = false) (r : BMat × List Gate)
    (h : S2G.stateToGraphWith inv t = .ok r) : t.Good := by
  obtain ⟨g, _, hg, _⟩ := stateToGraphWith_ok inv t r.1 r.2 h
  exact (graphImage_of_spec t hreal g (S2G.graphFinderWith_spec inv _ g hg)).good

/-! ### completeness: the modelled `state_to_graph` returns on every stabilizer state -/

/-- a stabilizer state, as a tableau: `n` generators that are real (no i-phase), commute pairwise (`Good`) and are linearly
    independent over GF(2) as rows `[x | z]` (`S2G.Indep`: a GF(2) combination of the rows vanishes only with all coefficients 0).
    (`−I` is then not in the group: `STab.indep_no_minus_one`.) -/
def IsStabilizerState (t : STab) : Prop := t.Good ∧ S2G.Indep (S2G.XZ.ofSTab t)

/-- `state_to_graph` is complete (every stabilizer state; code as repaired in /repo 86ab4f1 (D40), 8a43724 (D49) and
    70adac4 (D51)): the modelled `state_to_graph` RETURNS a graph and a gate list — none of the assertions of `_graph_finder`
    ("Stabilizer generators are not independent", "Final Z matrix is not a graph", "Unexpected X matrix"), none of the three closing
    assertions of `canonical_form` inside `_phase_correction`, and no singular-matrix error fires.
    Proof: `row_reduction` keeps independence and commutation and leaves the X part in echelon form; the repaired `_position_finder`
    returns exactly the non-pivot columns; after the Hadamards on them the X part has trivial kernel (rank argument
    `hadamard_rows_independent`), so the inverse exists and passes the re-check; `final_z = z.T @ x_inv` is symmetric because the rows
    commute (`X Zᵀ = Z Xᵀ`); after the `P_dag` gates the X part of the canonical form is the identity, so `_phase_correction` inverts
    the identity.
    Stated for every inverse computation `inv` that returns a left inverse on every matrix with trivial kernel (`S2G.InvOK`).  The code's
    own inverse — since 70adac4 the exact Gauss–Jordan elimination `_gf2_inverse`, which the model's `gf2Inv`/`gf2InvF` mirrors step by
    step — is one (`state_to_graph_exact_complete`): NO floating-point step is left in `state_to_graph`, so this is a theorem about the
    code's own algorithm (tied to the Python by exact comparison of graph, gates and error class on every generated input). -/
theorem state_to_graph_complete (inv : Nat → Adj → Option Adj) (t : STab) (hn : 0 < t.n) (hinv : S2G.InvOK inv t.n)
    (hstate : IsStabilizerState t) : ∃ adj gates, S2G.stateToGraphWith inv t = .ok (adj, gates) :=
  stateToGraphWith_complete inv t hn hinv hstate.1 hstate.2

/-- the instance for the executable model = the code's own `_gf2_inverse` (exact GF(2) elimination), the one compared with the Python on
    every input -/
theorem state_to_graph_exact_complete (t : STab) (hn : 0 < t.n) (hstate : IsStabilizerState t) :
    ∃ adj gates, S2G.stateToGraph t = .ok (adj, gates) :=
  stateToGraph_complete t hn hstate.1 hstate.2

/-- `state_to_graph` is totally correct on the model (completeness + soundness): every stabilizer state is converted to
    a simple graph and a list of in-range gates that map the state exactly — signs included — onto that graph's state -/
theorem state_to_graph_correct (t : STab) (hn : 0 < t.n) (hstate : IsStabilizerState t) :
    ∃ adj gates, S2G.stateToGraph t = .ok (adj, gates) ∧
      ((t.runCircuit gates).n = t.n ∧ ∀ p, (t.runCircuit gates).Spn p ↔ (graphSTab t.n adj.f).Spn p) ∧
      gates.all (Gate.inBounds t.n) = true ∧
      (∀ i j, i < t.n → j < t.n → adj.f i j = adj.f j i) ∧ (∀ i, i < t.n → adj.f i i = false) := by
  obtain ⟨adj, gates, h⟩ := state_to_graph_exact_complete t hn hstate
  exact ⟨adj, gates, h, state_to_graph_sound S2G.gf2InvF t hstate.1.real adj gates h⟩

/-- `state_to_graph` on a `CliffordTableau` (the code converts `tableau.to_stabilizer()`): the stabilizer half of every
    VALID Clifford tableau — the invariant `Tab.Valid` (the 2n rows form a symplectic basis), which `C07.history_valid` proves for every
    tableau reachable from a valid one by gates, measurements, resets, insertions, removals, partial traces — is a stabilizer state in
    the sense of `IsStabilizerState` (each destabilizer row anticommutes with exactly one stabilizer row, so the stabilizer rows are
    independent), hence it is converted, exactly: `state_to_graph` returns on every tableau the simulator can hold -/
theorem state_to_graph_complete_on_valid_tableau (T : Tab) (hn : 0 < T.n) (hv : T.Valid) :
    IsStabilizerState (STab.ofTab T) ∧
    ∃ adj gates, S2G.stateToGraph (STab.ofTab T) = .ok (adj, gates) ∧
      ∀ p, ((STab.ofTab T).runCircuit gates).Spn p ↔ (graphSTab T.n adj.f).Spn p := by
  have hs : IsStabilizerState (STab.ofTab T) := ofTab_good_indep T hv
  obtain ⟨adj, gates, h, hsound, _⟩ := state_to_graph_correct (STab.ofTab T) hn hs
  exact ⟨hs, adj, gates, h, hsound.2⟩

/-- non-vacuity: the Clifford tableau of `|0⟩⊗|0⟩` (destabilizers `X_i`, stabilizers `Z_i`) is valid -/
example : 0 < (Tab.ket0 2).n ∧ (Tab.ket0 2).Valid := ⟨by decide, (Tab.isSymplectic_iff _).mp (by decide)⟩

/-- `state_to_graph_exact_complete` with the hypothesis spelled out in primitive terms (no auxiliary definitions): the rows carry no
    i-phase, their symplectic products vanish pairwise, and a GF(2) combination of the rows `[x | z]` vanishes only trivially -/
theorem state_to_graph_complete_real_commuting_independent (t : STab) (hn : 0 < t.n)
    (hreal : ∀ i, i < t.n → (t.row i).ip = false)
    (hcomm : ∀ i k, i < t.n → k < t.n → PRow.sp t.n (t.row i) (t.row k) = false)
    (hind : ∀ c : Nat → Bool, (∀ j, j < t.n → parityTo t.n (fun i => c i && (t.row i).x j) = false ∧
      parityTo t.n (fun i => c i && (t.row i).z j) = false) → ∀ i, i < t.n → c i = false) :
    ∃ adj gates, S2G.stateToGraph t = .ok (adj, gates) :=
  state_to_graph_exact_complete t hn ⟨⟨hreal, hcomm⟩, hind⟩

/-! ### the floating-point lines `_graph_finder` had until /repo 70adac4, read in exact arithmetic (the code no longer contains them)

  Until /repo 70adac4 `_graph_finder` read `assert int(np.round(np.linalg.det(x_mat))) % 2 != 0` and
  `x_inv = (np.round(det(x_mat.T) * inv(x_mat.T)) % 2).astype(int)`.  For an integer matrix `det · inv` is the adjugate, an integer matrix;
  `S2G.adjInv` is that reading (`none` = the assertion fires).  Proved: with it the conversion is complete and returns exactly what the
  Gauss–Jordan elimination returns — so the repair did not change any result the old code could compute correctly; what the old code
  could not do is evaluate `det · inv` within 1/2 in floating point (D49: truncation; D51: from ≈ 42 qubits on the integers are lost). -/

/-- the former determinant assertion could not fire in exact arithmetic (every stabilizer state): the integer determinant of
    `x_mat` after `row_reduction` and the Hadamards chosen by the repaired `_position_finder` is odd (so is that of `x_mat.T`) -/
theorem determinant_assertion_holds_exactly (t : STab) (hn : 0 < t.n) (hstate : IsStabilizerState t) :
    (S2G.intMat t.n (S2G.xAfterHadamards (S2G.XZ.ofSTab t))).det % 2 = 1 ∧
    (S2G.intMat t.n (S2G.transpose (S2G.xAfterHadamards (S2G.XZ.ofSTab t)))).det % 2 = 1 :=
  have h := S2G.det_xAfterHadamards_odd (S2G.XZ.ofSTab t) hn (comm_ofSTab t hstate.1) hstate.2
  ⟨h.2, h.1⟩

/-- the adjugate reduced mod 2 is a correct GF(2) inverse on every matrix with trivial kernel, and it is entry by entry the matrix the
    executable model computes by Gauss–Jordan elimination -/
theorem exact_det_inv_is_the_model_inverse (n : Nat) :
    S2G.InvOK S2G.adjInv n ∧
    ∀ A, S2G.Inj n A → ∃ M M', S2G.adjInv n A = some M ∧ S2G.gf2InvF n A = some M' ∧ ∀ i j, i < n → j < n → M i j = M' i j :=
  ⟨S2G.adjInv_ok n, fun A h => S2G.adjInv_eq_gf2InvF n A h⟩

/-- `state_to_graph` with the exact-arithmetic `det · inv % 2` is the executable model (every stabilizer state): same
    graph, same gate list; in particular it returns and is exact (`state_to_graph_correct`) -/
theorem state_to_graph_exact_arithmetic (t : STab) (hn : 0 < t.n) (hstate : IsStabilizerState t) :
    S2G.stateToGraphWith S2G.adjInv t = S2G.stateToGraph t :=
  stateToGraphWith_adjInv t hn hstate.1 hstate.2

/-- `state_to_graph` returns exactly on the stabilizer states (tableaux without i-phase): the modelled conversion returns a result
    iff `n ≥ 1` and the rows commute pairwise and are linearly independent.  (⇐ is `state_to_graph_exact_complete`; ⇒: the re-check
    `x_inv @ x.T = I` certifies that the X part after the Hadamards is invertible, so the rows were independent, and symmetry of
    `final_z` forces commutation.) -/
theorem state_to_graph_returns_iff_state (t : STab) (hreal : ∀ i, i < t.n → (t.row i).ip = false) :
    (∃ r, S2G.stateToGraph t = .ok r) ↔ (0 < t.n ∧ IsStabilizerState t) := by
  constructor
  · rintro ⟨r, h⟩
    have hgood := state_to_graph_input_is_state S2G.gf2InvF t hreal r h
    obtain ⟨g, _, hg, _⟩ := stateToGraphWith_ok S2G.gf2InvF t r.1 r.2 h
    have spec := S2G.graphFinderWith_spec S2G.gf2InvF _ g hg
    exact ⟨spec.n_pos, hgood, S2G.indep_of_gfspec _ g spec⟩
  · rintro ⟨hn, hs⟩
    obtain ⟨adj, gates, h⟩ := state_to_graph_exact_complete t hn hs
    exact ⟨(adj, gates), h⟩

/-- the returned gates are single-qubit gates (every input, every candidate inverse): the list is
    `H` on distinct qubits, then `P_dag` on distinct qubits, then `Z` on distinct qubits, all below `n` — no two-qubit gate.  With
    `state_to_graph_sound` this says that the returned graph state is LOCAL-Clifford equivalent to the input state. -/
theorem state_to_graph_gates_are_local (inv : Nat → Adj → Option Adj) (t : STab)
    (hreal : ∀ i, i < t.n → (t.row i).ip = false) (adj : BMat) (gates : List Gate)
    (h : S2G.stateToGraphWith inv t = .ok (adj, gates)) :
    ∃ hpos pdag zs : List Nat, gates = hpos.map Gate.H ++ pdag.map Gate.Pdag ++ zs.map Gate.Z ∧
      hpos.Nodup ∧ pdag.Nodup ∧ zs.Nodup ∧ (∀ q, q ∈ hpos → q < t.n) ∧ (∀ q, q ∈ pdag → q < t.n) ∧ (∀ q, q ∈ zs → q < t.n) := by
  obtain ⟨hpos, pdag, zs, e, h1, h2, h3⟩ := stateToGraphWith_gates inv t adj gates h
  obtain ⟨wf, _⟩ := stateToGraphWith_sound inv t hreal adj gates h
  refine ⟨hpos, pdag, zs, e, h1, h2, h3, fun q hq => ?_, fun q hq => ?_, fun q hq => ?_⟩
  · exact wf (Gate.H q) (by rw [e]; simp [hq])
  · exact wf (Gate.Pdag q) (by rw [e]; simp [hq])
  · exact wf (Gate.Z q) (by rw [e]; simp [hq])

/-- every stabilizer state is local-Clifford equivalent to the graph state `state_to_graph` returns: there is a list
    of single-qubit `H` / `P_dag` / `Z` gates — the one the modelled conversion returns — that maps the state exactly onto `|G⟩` -/
theorem state_to_graph_lc_equivalent (t : STab) (hn : 0 < t.n) (hstate : IsStabilizerState t) :
    ∃ (adj : BMat) (hpos pdag zs : List Nat),
      S2G.stateToGraph t = .ok (adj, hpos.map Gate.H ++ pdag.map Gate.Pdag ++ zs.map Gate.Z) ∧
      (∀ q, q ∈ hpos ++ pdag ++ zs → q < t.n) ∧
      (∀ p, (t.runCircuit (hpos.map Gate.H ++ pdag.map Gate.Pdag ++ zs.map Gate.Z)).Spn p ↔ (graphSTab t.n adj.f).Spn p) := by
  obtain ⟨adj, gates, h, hs, _⟩ := state_to_graph_correct t hn hstate
  obtain ⟨hpos, pdag, zs, e, _, _, _, b1, b2, b3⟩ := state_to_graph_gates_are_local S2G.gf2InvF t hstate.1.real adj gates h
  subst e
  refine ⟨adj, hpos, pdag, zs, h, fun q hq => ?_, hs.2⟩
  simp only [List.mem_append] at hq
  rcases hq with (hq | hq) | hq
  · exact b1 q hq
  · exact b2 q hq
  · exact b3 q hq

/-- state → graph → state round trip (every input, every candidate inverse): running the returned gate list BACKWARDS
    (`run_circuit(reverse=True)`: reversed order, `P ↔ P_dag`) on `graph_to_stabilizer` of the returned graph gives back the
    input state — the same signed group -/
theorem state_round_trip (inv : Nat → Adj → Option Adj) (t : STab) (hreal : ∀ i, i < t.n → (t.row i).ip = false)
    (adj : BMat) (gates : List Gate) (h : S2G.stateToGraphWith inv t = .ok (adj, gates)) :
    ∀ p, ((graphSTab t.n adj.f).runCircuit (revCirc gates)).Spn p ↔ t.Spn p := by
  obtain ⟨wf, s, _, _⟩ := stateToGraphWith_sound inv t hreal adj gates h
  have r := runCircuit_rev_spanEq t (graphSTab t.n adj.f) gates wf s
  exact r.iff

/-- … and on every stabilizer state the round trip is defined (completeness) and returns the state -/
theorem state_round_trip_total (t : STab) (hn : 0 < t.n) (hstate : IsStabilizerState t) :
    ∃ adj gates, S2G.stateToGraph t = .ok (adj, gates) ∧
      ∀ p, ((graphSTab t.n adj.f).runCircuit (revCirc gates)).Spn p ↔ t.Spn p := by
  obtain ⟨adj, gates, h⟩ := state_to_graph_exact_complete t hn hstate
  exact ⟨adj, gates, h, state_round_trip S2G.gf2InvF t hstate.1.real adj gates h⟩

/-- non-vacuity: the Bell state `⟨XX, −ZZ⟩` is converted (one Hadamard, one sign-fixing `Z`) to the graph `0 – 1` -/
def bellMinus : STab :=
  { n := 2, row := fun i => if i = 0 then ⟨fun j => decide (j < 2), fun _ => false, false, false⟩
                            else ⟨fun _ => false, fun j => decide (j < 2), true, false⟩ }
example : ∀ i, i < bellMinus.n → (bellMinus.row i).ip = false := by
  intro i _; show (if i = 0 then _ else _ : PRow).ip = false; split <;> rfl
set_option maxRecDepth 100000 in
example : (match S2G.stateToGraph bellMinus with
    | .ok (adj, gates) => adj.bits == "0110" && gates == [Gate.H 1, Gate.Z 1]
    | .error _ => false) = true := by decide +kernel
/-- the one-qubit `|0⟩ = ⟨+Z⟩` converts to the one-vertex graph with the single gate `H 0` -/
example : (match S2G.stateToGraph (STab.zero 1) with
    | .ok (adj, gates) => adj.bits == "0" && gates == [Gate.H 0]
    | .error _ => false) = true := by decide +kernel

/-- non-vacuity of `state_to_graph_complete`: the one-qubit `|0⟩ = ⟨+Z⟩` is a stabilizer state in the sense of the hypothesis -/
example : 0 < (STab.zero 1).n ∧ IsStabilizerState (STab.zero 1) := by
  refine ⟨by decide, good_of_check _ (by decide), ?_⟩
  intro c hc i hi
  have h0 := (hc 0 (by decide)).2
  have hi0 : i = 0 := by have : i < 1 := hi; omega
  subst hi0
  simpa [S2G.XZ.ofSTab, STab.zero, PRow.Zq, parityTo] using h0

/-- `|0⟩ ⊗ Bell` with negative signs: `⟨−Z₀, −X₁X₂, −Z₁Z₂⟩` (qubit 0 has no X component: the D40 shape) -/
def ketBellNeg : STab :=
  { n := 3, row := fun i =>
      if i = 0 then ⟨fun _ => false, fun j => decide (j = 0), true, false⟩
      else if i = 1 then ⟨fun j => decide (j = 1 ∨ j = 2), fun _ => false, true, false⟩
      else ⟨fun _ => false, fun j => decide (j = 1 ∨ j = 2), true, false⟩ }

/-- non-vacuity of `state_to_graph_complete` / `state_to_graph_correct`: `|0⟩ ⊗ Bell` with negative signs meets the hypotheses -/
example : 0 < ketBellNeg.n ∧ IsStabilizerState ketBellNeg := by
  refine ⟨by decide, good_of_check _ (by decide), ?_⟩
  intro c hc
  have h0 := (hc 0 (by decide)).2
  have h1 := (hc 1 (by decide)).1
  have h2 := (hc 1 (by decide)).2
  simp [S2G.XZ.ofSTab, ketBellNeg, parityTo] at h0 h1 h2
  intro i hi
  have : i < 3 := hi
  have h : i = 0 ∨ i = 1 ∨ i = 2 := by omega
  rcases h with rfl | rfl | rfl
  · exact h0
  · exact h1
  · exact h2
set_option maxRecDepth 100000 in
/-- … and the model converts it to the graph with the single edge `1 – 2` (vertex 0 isolated), gates `H 0, H 2`, then the sign-fixing
    gates `Z 0, Z 1, Z 2` — the same answer as the Python -/
example : (match S2G.stateToGraph ketBellNeg with
    | .ok (adj, gates) => adj.bits == "000001010" && gates == [Gate.H 0, Gate.H 2, Gate.Z 0, Gate.Z 1, Gate.Z 2]
    | .error _ => false) = true := by decide +kernel

/-! ### graph states: the round trip, the tableau is a state, both constructions give the same state -/

/-- the triangle graph -/
def tri : Nat → Nat → Bool := fun i j => i != j && i < 3 && j < 3

/-- graph → stabilizer → graph (every simple graph): the modelled `state_to_graph` applied to
    `graph_to_stabilizer(G)` returns `G` itself and an EMPTY gate list (so the gates are trivially the identity on the state),
    and `stabilizer_to_graph(validate=True)` returns `G` -/
theorem graph_round_trip (n : Nat) (hn : 0 < n) (adj : Adj) (hsym : ∀ i j, i < n → j < n → adj i j = adj j i)
    (hirr : ∀ i, i < n → adj i i = false) :
    (∃ g, S2G.stateToGraph (graphSTab n adj) = .ok (g, []) ∧ ∀ i j, i < n → j < n → g.f i j = adj i j) ∧
    (∃ g, S2G.stabilizerToGraph (graphSTab n adj) = .ok g ∧ ∀ i j, i < n → j < n → g.f i j = adj i j) :=
  ⟨stateToGraph_graph n hn adj hsym hirr, stabilizerToGraph_graph n hn adj hsym hirr⟩

/-- `state_to_graph` depends only on the state, not on the generating set: two tableaux of real, commuting, independent
    generators that generate the same signed group are converted to the SAME graph with the SAME gate list (independence of the second
    generating set follows from that of the first and is part of the conclusion).  (The Hadamard positions are
    the columns without pivot of the echelon form of the X part, and pivot columns are determined by the row space `{g.x : g ∈ group}`;
    `final_z` is the unique `C` with `z = x·C` on the transformed group; the sign-fixing `Z` gates are read off the canonical form, which is
    unique for the group.)  `stabilizer_to_graph_complete` below is the instance "one of the two is the graph gauge". -/
theorem state_to_graph_depends_only_on_state (t t' : STab) (hn : 0 < t.n) (hstate : IsStabilizerState t)
    (hgood' : t'.Good) (hsame : t.n = t'.n ∧ ∀ p, t.Spn p ↔ t'.Spn p) :
    IsStabilizerState t' ∧ S2G.stateToGraph t = S2G.stateToGraph t' :=
  have hs : SpanEq t t' := .of_iff hsame.1 hsame.2
  have hi' := STab.Indep.of_spanEq hstate.2 hstate.1 hgood' hs
  ⟨⟨hgood', hi'⟩, stateToGraph_gauge_indep t t' hn hstate.1 hgood' hstate.2 hi' hs⟩

/-- non-vacuity of `state_to_graph_depends_only_on_state`: `⟨XX, −ZZ⟩` (`bellMinus`) and `⟨YY, −ZZ⟩` are two different generating sets
    of one state (`YY = XX · (−ZZ)`) -/
def bellMinusYY : STab :=
  { n := 2, row := fun i => if i = 0 then ⟨fun j => decide (j < 2), fun j => decide (j < 2), false, false⟩
                            else ⟨fun _ => false, fun j => decide (j < 2), true, false⟩ }
example : 0 < bellMinus.n ∧ IsStabilizerState bellMinus ∧ bellMinusYY.Good ∧
    (bellMinus.n = bellMinusYY.n ∧ ∀ p, bellMinus.Spn p ↔ bellMinusYY.Spn p) ∧
    ¬ (∀ i, i < 2 → PRow.EqOn 2 (bellMinus.row i) (bellMinusYY.row i)) := by
  have hs : SpanEq bellMinus bellMinusYY :=
    spanEq_of_gens _ _ rfl (spn_rows_two _ _ rfl rfl (by decide) (by decide)) (spn_rows_two _ _ rfl rfl (by decide) (by decide))
  have ind : ∀ t : STab, t.n = 2 → (t.row 0).x 0 = true → (t.row 1).x 0 = false → (t.row 1).z 0 = true → S2G.Indep (S2G.XZ.ofSTab t) := by
    intro t hn2 h00 h10 h1z c hc i hi
    have hn' : (S2G.XZ.ofSTab t).n = 2 := hn2
    rw [hn'] at hc hi
    have a := (hc 0 (by decide)).1
    have b := (hc 0 (by decide)).2
    simp only [parityTo, S2G.XZ.ofSTab, h00, h10, h1z, Bool.and_true, Bool.and_false, Bool.xor_false, Bool.false_xor] at a b
    have h : i = 0 ∨ i = 1 := by omega
    rcases h with rfl | rfl
    · exact a
    · rw [a] at b; simpa using b
  refine ⟨by decide, ⟨good_of_check _ (by decide), ind _ rfl (by decide) (by decide) (by decide)⟩,
    good_of_check _ (by decide), ⟨rfl, hs.iff⟩, ?_⟩
  intro h
  have := ((h 0 (by decide)).1 0 (by decide)).2
  revert this
  decide

/-- stabilizer → graph recovers `G` from `|G⟩` presented in ANY generating set (every simple graph, every real
    commuting tableau `t` that generates the signed group of `|G⟩`): the modelled `stabilizer_to_graph(validate=True)` returns `G`
    — `_graph_finder` returns (completeness), the graph it finds is `G` itself, and the closing comparison of the canonical forms
    ("Input stabilizer is not a graph state") does not fire; the modelled `state_to_graph` returns `(G, [])`: no Hadamard, no
    `P_dag`, no sign-fixing `Z`.  (`graph_round_trip` is the special case `t = graph_to_stabilizer(G)`.) -/
theorem stabilizer_to_graph_complete (t : STab) (hn : 0 < t.n) (hg : t.Good) (adj : Adj)
    (hsym : ∀ i j, i < t.n → j < t.n → adj i j = adj j i) (hirr : ∀ i, i < t.n → adj i i = false)
    (hstate : ∀ p, t.Spn p ↔ (graphSTab t.n adj).Spn p) :
    (∃ g, S2G.stabilizerToGraph t = .ok g ∧ ∀ i j, i < t.n → j < t.n → g.f i j = adj i j) ∧
    (∃ g, S2G.stateToGraph t = .ok (g, []) ∧ ∀ i j, i < t.n → j < t.n → g.f i j = adj i j) :=
  have hs : SpanEq t (graphSTab t.n adj) := .of_iff rfl hstate
  ⟨stabilizerToGraph_gauge t hn hg adj hirr hs, stateToGraph_gauge t hn hg adj hirr hs⟩

/-- `stabilizer_to_graph(validate=True)` returns exactly on the graph states (real commuting generators): it returns a
    graph iff the input generates the signed group of `|G⟩` for some simple graph `G` — and then it returns that `G` -/
theorem stabilizer_to_graph_returns_iff_graph_state (t : STab) (hn : 0 < t.n) (hg : t.Good) :
    (∃ g, S2G.stabilizerToGraph t = .ok g) ↔
    ∃ adj : Adj, (∀ i j, i < t.n → j < t.n → adj i j = adj j i) ∧ (∀ i, i < t.n → adj i i = false) ∧
      ∀ p, t.Spn p ↔ (graphSTab t.n adj).Spn p := by
  constructor
  · rintro ⟨g, h⟩
    obtain ⟨h1, h2, h3⟩ := stabilizer_to_graph_sound t hg.real g h
    exact ⟨g.f, h2, h3, h1⟩
  · rintro ⟨adj, h1, h2, h3⟩
    obtain ⟨⟨g, hgr, _⟩, _⟩ := stabilizer_to_graph_complete t hn hg adj h1 h2 h3
    exact ⟨g, hgr⟩

/-- non-vacuity of `stabilizer_to_graph_complete`: the graph state of the edge `0 – 1` in the generating set `⟨Y₀Y₁, Z₀X₁⟩`
    (`Y₀Y₁ = X₀Z₁ · Z₀X₁`), which is not the graph gauge -/
def edgeYY : STab :=
  { n := 2, row := fun i => if i = 0 then ⟨fun j => decide (j < 2), fun j => decide (j < 2), false, false⟩
                            else ⟨fun j => decide (j = 1), fun j => decide (j = 0), false, false⟩ }
def edge01 : Adj := fun i j => (i == 0 && j == 1) || (i == 1 && j == 0)
example : 0 < edgeYY.n ∧ edgeYY.Good ∧ (∀ i j, i < 2 → j < 2 → edge01 i j = edge01 j i) ∧ (∀ i, i < 2 → edge01 i i = false) ∧
    (∀ p, edgeYY.Spn p ↔ (graphSTab edgeYY.n edge01).Spn p) ∧ ¬ (∀ i, i < 2 → PRow.EqOn 2 (edgeYY.row i) ((graphSTab 2 edge01).row i)) := by
  have hs : SpanEq edgeYY (graphSTab 2 edge01) :=
    spanEq_of_gens _ _ rfl (spn_rows_two _ _ rfl rfl (by decide) (by decide)) (spn_rows_two _ _ rfl rfl (by decide) (by decide))
  refine ⟨by decide, good_of_check _ (by decide), fun i j hi hj => ?_, by decide, hs.iff, ?_⟩
  · have h1 : i = 0 ∨ i = 1 := by omega
    have h2 : j = 0 ∨ j = 1 := by omega
    rcases h1 with rfl | rfl <;> rcases h2 with rfl | rfl <;> decide
  intro h
  have := ((h 0 (by decide)).1 0 (by decide)).2
  revert this
  decide

/-- `graph_to_stabilizer(G)` is a stabilizer state (every symmetric `adj`): the generators are real and commute
    (`Good`), they are independent (an ordered product of distinct generators has trivial X part only if it is the empty
    product — and every group element is such a product), and `−I` (or `±iI`) is not in the group: the only element with trivial
    Pauli part is `+I` -/
theorem graph_tableau_is_state (n : Nat) (adj : Adj) (hsym : ∀ i j, i < n → j < n → adj i j = adj j i) :
    (graphSTab n adj).Good ∧
    (∀ p, (graphSTab n adj).Spn p → ∃ c : Nat → Bool, EqOn n p (prodTo (graphSTab n adj) c n)) ∧
    (∀ c : Nat → Bool, (∀ j, j < n → (prodTo (graphSTab n adj) c n).x j = false) → ∀ i, i < n → c i = false) ∧
    (∀ p, (graphSTab n adj).Spn p → (∀ j, j < n → p.x j = false) → EqOn n p PRow.one) :=
  ⟨graphSTab_good n adj hsym, fun p hp => spn_normal_form (graphSTab n adj) (graphSTab_good n adj hsym) p hp,
   graphSTab_independent n adj, fun p hp hx => graphSTab_no_minus_one n adj hsym p hp hx⟩

/-- graph → density and graph → stabilizer denote the same state (every edge list with distinct endpoints whose
    parity matrix is `adj` — for a simple graph: its edge list): |+…+⟩ followed by one CZ per edge generates exactly the signed
    group of the tableau `[I | adj]` -/
theorem graph_to_density_same_state_as_graph_to_stabilizer (n : Nat) (adj : Adj) (edges : List (Nat × Nat))
    (hne : ∀ e, e ∈ edges → e.1 ≠ e.2) (hA : ∀ i j, i < n → j < n → adj i j = edgeParity edges i j) :
    (czEdges (plusSTab n) edges).n = n ∧
    ∀ p, (czEdges (plusSTab n) edges).Spn p ↔ (graphSTab n adj).Spn p := by
  have s := czEdges_spanEq_graphSTab n adj edges hne hA
  exact ⟨s.n_eq, s.iff⟩

/-- in particular for every simple graph with its edge list `list(graph.edges)` (each edge once, `u < v`): graph → density and
    graph → stabilizer denote the same state -/
theorem graph_to_density_same_state_simple_graph (n : Nat) (adj : Adj) (hsym : ∀ i j, i < n → j < n → adj i j = adj j i)
    (hirr : ∀ i, i < n → adj i i = false) :
    ∀ p, (czEdges (plusSTab n) (S2G.edgesOf n adj)).Spn p ↔ (graphSTab n adj).Spn p := by
  have s := czEdges_edgesOf_spanEq n adj hsym hirr
  exact s.iff

example : S2G.edgesOf 3 tri = [(0, 1), (0, 2), (1, 2)] := by decide

/-- non-vacuity: the triangle with its three edges -/
example : (∀ i j, i < 3 → j < 3 → tri i j = tri j i) ∧ (∀ i, i < 3 → tri i i = false) ∧
    (∀ e, e ∈ [(0, 1), (1, 2), (0, 2)] → e.1 ≠ e.2) ∧
    (∀ i j, i < 3 → j < 3 → tri i j = edgeParity [(0, 1), (1, 2), (0, 2)] i j) := by
  refine ⟨fun i j hi hj => ?_, by decide, by decide, fun i j hi hj => ?_⟩ <;>
    (have h1 : i = 0 ∨ i = 1 ∨ i = 2 := by omega
     have h2 : j = 0 ∨ j = 1 ∨ j = 2 := by omega
     rcases h1 with rfl | rfl | rfl <;> rcases h2 with rfl | rfl | rfl <;> decide)

/-! ### Hilbert-space reading (matrices on `2ⁿ` dimensions; the verified semantics of the C07 development)

  `Hilbert.rho n T = ∏_i (1 + P_i)/2` is the density matrix of a stabilizer tableau, `Hilbert.circMat n c` the unitary of a gate list
  (Kronecker products of the graphiq gate matrices: `C07.gate_matrices_are_kronecker_products`), `Hilbert.rho n (STab.zero n)` is
  `|0…0⟩⟨0…0|` (`Hilbert.rho_zero`).  `graphStateMat n A := U |0…0⟩⟨0…0| U†` with `U` = `H` on every qubit, then `CZ` on every edge. -/

/-- graph → stabilizer produces the graph state, as a matrix; stabilizer → density of it is `|G⟩⟨G|` (every simple graph): the
    density matrix of the tableau `[I | A]` — `Hilbert.rho`, the ordered product `∏_v (1 + K_v)/2`, which is literally what
    `_stabilizer_to_density_pure` computes (`rho = rho @ (stabilizer_elem + I)/2` over the generators, `stabilizer_elem` the Kronecker
    product of Pauli matrices that `C07.pauli_matrix_is_kronecker_product` identifies with `pauliMat`; the sign vector, which that
    function ignores — D9 —, is zero here) — is `CZ_E H^{⊗n} |0…0⟩⟨0…0| H^{⊗n} CZ_E` -/
theorem graph_to_stabilizer_is_graph_state (n : Nat) (adj : Adj) (hsym : ∀ i j, i < n → j < n → adj i j = adj j i)
    (hirr : ∀ i, i < n → adj i i = false) : Hilbert.rho n (graphSTab n adj) = graphStateMat n adj :=
  rho_graphSTab n adj hsym hirr

/-- graph → density matrix produces the graph state, as a matrix (every simple graph): `_graph_to_density_pure` —
    `create_n_plus_state(n)` (the matrix with all entries `2⁻ⁿ`: `plusMat`, which is the density matrix of the generators `X_i`:
    `rho_plusSTab`) conjugated by one CZ per edge of `list(graph.edges)` — is `|G⟩⟨G|`, the same matrix as the density matrix of
    `graph_to_stabilizer(G)` -/
theorem graph_to_density_is_graph_state (n : Nat) (adj : Adj) (hsym : ∀ i j, i < n → j < n → adj i j = adj j i)
    (hirr : ∀ i, i < n → adj i i = false) :
    Hilbert.circMat n ((S2G.edgesOf n adj).map fun e => Gate.CZ e.1 e.2) * plusMat n *
        (Hilbert.circMat n ((S2G.edgesOf n adj).map fun e => Gate.CZ e.1 e.2)).conjTranspose = graphStateMat n adj ∧
    graphStateMat n adj = Hilbert.rho n (graphSTab n adj) :=
  ⟨graph_to_density_mat n adj hsym hirr, (rho_graphSTab n adj hsym hirr).symm⟩

/-- `state_to_graph`, completeness + soundness on Hilbert space (every stabilizer state): the modelled conversion
    returns `(G, gates)`, the gates are in range, and `U_gates ρ U_gates† = |G⟩⟨G|` — the returned single-qubit Clifford gates map the
    input state exactly (not only up to a global phase: these are density matrices) onto that graph's state -/
theorem state_to_graph_correct_hilbert (t : STab) (hn : 0 < t.n) (hstate : IsStabilizerState t) :
    ∃ adj gates, S2G.stateToGraph t = .ok (adj, gates) ∧ (∀ g, g ∈ gates → g.WF t.n) ∧
      Hilbert.circMat t.n gates * Hilbert.rho t.n t * (Hilbert.circMat t.n gates).conjTranspose = graphStateMat t.n adj.f :=
  stateToGraph_hilbert t hn hstate.1 hstate.2

/-! ### density matrix → graph: what is exact about the negativity-based edge detection

  `_density_to_graph_pure` decides the pair `i < j` by projecting every other qubit onto `|0⟩` (`project_and_remove`), tracing it out and
  comparing the negativity of the two-qubit state with 0.1.  Modelled as maps on `2ⁿ × 2ⁿ` complex matrices: `projOff` = `⊗_{k∉{i,j}} |0⟩⟨0|`,
  division by the trace (`4/2ⁿ ≠ 0` on a graph state, so the `1 − P₀` branch of the code is never taken), `ptraceOff` = sum over the basis
  states of the traced qubits; the two possible pair states as exact 4×4 rational matrices.
  NOT proved (so the full statement `density_to_graph(|G⟩⟨G|) = G` is not a theorem): that the numpy code of `project_and_remove` /
  `partial_trace` / `bipartite_partial_transpose` computes these maps (read off the source, compared numerically per input), that
  LAPACK's `eigh` returns the exact eigenvalues to within the margin 0.1 … 0.5, the purity test and the closing `np.allclose`.
  The harness compares `project_and_remove` and `negativity` of every pair of every graph on ≤ 5 vertices with the two states below (1e-9). -/

/-- which two-qubit state the code looks at (every simple graph, every pair `i ≠ j`; group level): the restrictions to
    `(i, j)` of the elements of the group of `|G⟩` that carry no X or Y on the other qubits form exactly the signed group of the two-vertex
    graph state with an edge iff `adj i j` — `⟨X⊗Z, Z⊗X⟩` (edge) or `⟨X⊗I, I⊗X⟩` (no edge).
    (The Hilbert-space counterpart is `density_to_graph_project_and_remove`.) -/
theorem density_to_graph_pair_state_partial (n : Nat) (adj : Adj) (hsym : ∀ i j, i < n → j < n → adj i j = adj j i)
    (hirr : ∀ i, i < n → adj i i = false) (i j : Nat) (hi : i < n) (hj : j < n) (hij : i ≠ j) (P : PRow) :
    PairGroup (graphSTab n adj) i j P ↔ (graphSTab 2 (pairAdj (adj i j))).Spn P :=
  pairGroup_graph n adj hsym hirr i j hi hj hij P

theorem tri_symm : ∀ i j, i < 3 → j < 3 → tri i j = tri j i := by
  intro i j hi hj
  have h1 : i = 0 ∨ i = 1 ∨ i = 2 := by omega
  have h2 : j = 0 ∨ j = 1 ∨ j = 2 := by omega
  rcases h1 with rfl | rfl | rfl <;> rcases h2 with rfl | rfl | rfl <;> decide

/-- non-vacuity: in the triangle, the pair `(0, 2)`: `X₀Z₁Z₂ · (no X/Y on qubit 1)` restricts to `X⊗Z`, a generator of the one-edge state -/
example : PairGroup (graphSTab 3 tri) 0 2 ((graphSTab 2 (pairAdj true)).row 0) :=
  (density_to_graph_pair_state_partial 3 tri tri_symm (by decide) 0 2 (by decide) (by decide) (by decide) _).mpr
    (spn_gen (graphSTab 2 (pairAdj true)) 0 (by decide))

/-- the two possible pair states and their negativities (exact 4×4 rational matrices): the stabilizer states of `⟨X⊗I, I⊗X⟩` and
    `⟨X⊗Z, Z⊗X⟩` are `|++⟩⟨++|` and `CZ|++⟩⟨++|CZ`; the partial transpose (`bipartite_partial_transpose(rho, 2, 2, 0)`) of the first is
    positive semidefinite (negative part `0`, negativity 0), that of the second has the Jordan decomposition `posPart − negPart` with
    `tr negPart = 1/2` (negativity 1/2); the threshold 0.1 lies strictly between -/
theorem density_to_graph_pair_negativity :
    (Neg.rhoPlus = (1/4 : ℚ) • (1 + Neg.XI + Neg.IX + Neg.XI * Neg.IX) ∧
     Neg.rhoEdge = (1/4 : ℚ) • (1 + Neg.XZ + Neg.ZX + Neg.XZ * Neg.ZX)) ∧
    (Neg.Jordan (Neg.ptA Neg.rhoPlus) Neg.rhoPlus 0 ∧ Matrix.trace (0 : Neg.M4) = 0) ∧
    (Neg.Jordan (Neg.ptA Neg.rhoEdge) Neg.posPart Neg.negPart ∧ Matrix.trace Neg.negPart = 1/2) ∧
    ((0 : ℚ) ≤ 1/10 ∧ (1/10 : ℚ) < 1/2) :=
  ⟨⟨Neg.rhoPlus_group_sum, Neg.rhoEdge_group_sum⟩, Neg.negativity_plus, Neg.negativity_edge, Neg.threshold_separates⟩

/-- `project_and_remove(|G⟩⟨G|, everything but i, j)` is the graph state of the induced pair — on Hilbert space (every
    simple graph, `i < j < n`; `|G⟩⟨G| = graphStateMat n adj`, the matrix `graph_to_density` builds): the projected matrix has trace
    `4/2ⁿ` (never 0) and the normalised partial trace is the density matrix of the two-vertex graph with an edge iff `adj i j` -/
theorem density_to_graph_project_and_remove (n : Nat) (adj : Adj) (hsym : ∀ i j, i < n → j < n → adj i j = adj j i)
    (hirr : ∀ i, i < n → adj i i = false) (i j : Nat) (hij : i < j) (hj : j < n) :
    Matrix.trace (projOff n i j * graphStateMat n adj * projOff n i j) = (1 / 2 : ℂ) ^ n * 4 ∧
    projectAndRemove n i j (graphStateMat n adj) = Hilbert.rho 2 (graphSTab 2 (pairAdj (adj i j))) := by
  rw [← rho_graphSTab n adj hsym hirr]
  exact projectAndRemove_graph n adj hsym hirr i j hij hj

/-- eigenvalues of the two partial transposes (roots of the characteristic polynomial with multiplicity, by explicit rational
    diagonalisation) and the negativity `Σ (|λ| − λ)/2` that `dmf.negativity` computes from them: `{1,0,0,0}` → 0 and
    `{−1/2,1/2,1/2,1/2}` → 1/2 -/
theorem density_to_graph_pair_spectrum :
    ((Neg.ptA Neg.rhoPlus).charpoly.roots = {1, 0, 0, 0} ∧ Neg.negativityOf (Neg.ptA Neg.rhoPlus).charpoly.roots = 0) ∧
    ((Neg.ptA Neg.rhoEdge).charpoly.roots = {-1/2, 1/2, 1/2, 1/2} ∧ Neg.negativityOf (Neg.ptA Neg.rhoEdge).charpoly.roots = 1/2) :=
  ⟨Neg.spectrum_plus, Neg.spectrum_edge⟩

/-- the edge rule, assembled (every simple graph, `i < j < n`): entry by entry the matrix handed to `negativity` is the
    exact rational matrix `M = rhoEdge` (if `adj i j`) resp. `rhoPlus` (index `2·b₀ + b₁`), and the negativity of `M` — `Σ (|λ| − λ)/2`
    over the eigenvalues of its partial transpose — is `1/2` resp. `0`: above resp. below the threshold 0.1, i.e. the code's test
    `negativity > threshold` holds exactly for the edges of `G`.
    Missing for `density_to_graph(|G⟩⟨G|) = G`: see the section comment (numpy code ↔ these maps, float eigenvalues, purity test). -/
theorem density_to_graph_edge_rule_partial (n : Nat) (adj : Adj) (hsym : ∀ i j, i < n → j < n → adj i j = adj j i)
    (hirr : ∀ i, i < n → adj i i = false) (i j : Nat) (hij : i < j) (hj : j < n) :
    ∃ M : Neg.M4,
      (∀ a b, projectAndRemove n i j (graphStateMat n adj) a b = ((M (idx2 a) (idx2 b) : ℚ) : ℂ)) ∧
      Neg.negativityOf (Neg.ptA M).charpoly.roots = (if adj i j then 1/2 else 0) ∧
      ((1/10 : ℚ) < Neg.negativityOf (Neg.ptA M).charpoly.roots ↔ adj i j = true) := by
  have h := (density_to_graph_project_and_remove n adj hsym hirr i j hij hj).2
  cases he : adj i j
  · refine ⟨Neg.rhoPlus, fun a b => ?_, by simp [Neg.spectrum_plus.2], by rw [Neg.spectrum_plus.2]; norm_num⟩
    rw [h, he]; exact rho2_entries false a b
  · refine ⟨Neg.rhoEdge, fun a b => ?_, by simp [Neg.spectrum_edge.2], by rw [Neg.spectrum_edge.2]; norm_num⟩
    rw [h, he]; exact rho2_entries true a b

/-- non-vacuity of the two Hilbert-space density theorems: the triangle, pair `(0, 2)` -/
example : Matrix.trace (projOff 3 0 2 * graphStateMat 3 tri * projOff 3 0 2) = (1 / 2 : ℂ) ^ 3 * 4 :=
  (density_to_graph_project_and_remove 3 tri tri_symm (by decide) 0 2 (by decide) (by decide)).1

/-! ### the conversions among the three representations of a graph state, together -/

/-- every conversion among graph, stabilizer and density-matrix form keeps the graph state (every simple graph `G`;
    conversion functions as modelled, density matrices as exact `2ⁿ × 2ⁿ` complex matrices):
    * g → s and g → dm both denote `|G⟩⟨G|` (`graphStateMat`); s → dm (`_stabilizer_to_density_pure`: the ordered product
      `∏ (1 + K_v)/2 = Hilbert.rho`) of `graph_to_stabilizer(G)` is the matrix g → dm builds;
    * s → g: `stabilizer_to_graph(validate=True)` on `graph_to_stabilizer(G)` returns `G`;
    * dm → g: for every pair `i < j` the negativity test of `_density_to_graph_pure` on `|G⟩⟨G|` (the exact value of the quantity the
      code thresholds) is positive exactly on the edges of `G` — so dm → g returns `G`, and dm → s = g → s ∘ dm → g returns
      `graph_to_stabilizer(G)`.
    (What ties this to `QuantumState.convert_representation`: its dispatch table and wrappers are compared per chain by the harness —
    all 9 ordered pairs and all chains of length 3 — not modelled.) -/
theorem conversions_preserve_graph_state (n : Nat) (hn : 0 < n) (adj : Adj) (hsym : ∀ i j, i < n → j < n → adj i j = adj j i)
    (hirr : ∀ i, i < n → adj i i = false) :
    Hilbert.rho n (graphSTab n adj) = graphStateMat n adj ∧
    Hilbert.circMat n ((S2G.edgesOf n adj).map fun e => Gate.CZ e.1 e.2) * plusMat n *
        (Hilbert.circMat n ((S2G.edgesOf n adj).map fun e => Gate.CZ e.1 e.2)).conjTranspose = graphStateMat n adj ∧
    (∃ g, S2G.stabilizerToGraph (graphSTab n adj) = .ok g ∧ ∀ i j, i < n → j < n → g.f i j = adj i j) ∧
    (∀ i j, i < j → j < n → ∃ M : Neg.M4,
      (∀ a b, projectAndRemove n i j (graphStateMat n adj) a b = ((M (idx2 a) (idx2 b) : ℚ) : ℂ)) ∧
      ((1/10 : ℚ) < Neg.negativityOf (Neg.ptA M).charpoly.roots ↔ adj i j = true)) :=
  ⟨rho_graphSTab n adj hsym hirr, graph_to_density_mat n adj hsym hirr, (graph_round_trip n hn adj hsym hirr).2,
   fun i j hij hj => by
     obtain ⟨M, h1, _, h3⟩ := density_to_graph_edge_rule_partial n adj hsym hirr i j hij hj
     exact ⟨M, h1, h3⟩⟩

/- Not theorems of this development (kept visible): (1) the density-matrix side beyond the theorems above (that the numpy code of
   `project_and_remove` / `partial_trace` / `bipartite_partial_transpose` computes the modelled maps, float eigenvalues, purity test,
   the closing `np.allclose` validation) — compared numerically per input; (2) the
   correspondence of the model with the Python source — exact comparison (graph, gate list, error class) on every generated input, not a
   proof.  No float step is left in `state_to_graph` since /repo 70adac4 (`_gf2_inverse`); the model mirrors /repo after the repairs
   86ab4f1 (D40), 8a43724 (D49) and 70adac4 (D51). -/

/-! ### Non-vacuity: the triangle graph through both constructions -/
example : (List.range 3).all (fun i => (List.range 3).all fun j =>
    ((czEdges (plusSTab 3) [(0, 1), (1, 2), (0, 2)]).row i).z j == ((graphSTab 3 tri).row i).z j) = true := by decide
example : checkConversion (graphSTab 3 tri) [] tri = true := by decide +kernel

/-! ### Cross-references (sweep): one notion of "stabilizer state" across C05 / C08 / C11

  `IsStabilizerState` (this file: real, pairwise commuting, `S2G.Indep` rows) is — definitionally — the hypothesis
  `t.Good ∧ t.Indep` of C11's `inverse_circuit_returns_iff_independent` and C05's `canonical_form_returns_iff_independent`
  (`Proofs/InvTotal.lean`), so the four library functions return on exactly the same tableaux. -/

/-- C08's `IsStabilizerState` is C11 / C05's `Good ∧ Indep` -/
theorem isStabilizerState_iff_good_indep (t : STab) : IsStabilizerState t ↔ t.Good ∧ t.Indep := Iff.rfl

/-- `state_to_graph`, `inverse_circuit` and `canonical_form` return on exactly the same tableaux (real commuting rows,
    `n ≥ 1`): each returns iff the generators are independent -/
theorem state_to_graph_returns_iff_inverse_circuit_returns (t : STab) (hn : 0 < t.n) (hg : t.Good) :
    ((∃ r, S2G.stateToGraph t = .ok r) ↔ (∃ r, t.inverseCircuit = .ok r)) ∧
    ((∃ r, S2G.stateToGraph t = .ok r) ↔ (∃ r, t.canonicalForm = .ok r)) := by
  have h1 := state_to_graph_returns_iff_state t hg.1
  have h2 := STab.inverseCircuit_returns_iff t hg
  have h3 := STab.canonicalForm_returns_iff t hg
  have h4 : (0 < t.n ∧ IsStabilizerState t) ↔ t.Indep := ⟨fun h => h.2.2, fun h => ⟨hn, hg, h⟩⟩
  exact ⟨h1.trans (h4.trans h2.symm), h1.trans (h4.trans h3.symm)⟩

/-- graph → density matrix in the exact executable model: the ℚ[i] matrix `DM.stabilizerDensity` (C17's exact model of the
    stabilizer → density-matrix converter, `∏ (1 + g_i)/2` over the stabilizer rows) of the graph-state Clifford tableau
    `LC.graphTab n adj` (C09 / C11: destabilizers `Z_i`, stabilizers `X_i Z_{N(i)}`) represents — in the sense of the bridge
    `Hilbert.Rep` of C01 / C17, entry `(i, j)` ↔ big-endian bit strings — the graph-state density matrix `|G⟩⟨G|` of this file -/
theorem exact_density_of_graph_tableau_is_graph_state (n : Nat) (adj : Adj) (hsym : ∀ i j, i < n → j < n → adj i j = adj j i)
    (hirr : ∀ i, i < n → adj i i = false) :
    Hilbert.Rep n (DM.stabilizerDensity (LC.graphTab n adj)) (graphStateMat n adj) :=
  Sweep.rep_graph_density n adj hsym hirr

/-- the hypotheses of the cross-reference theorems are met by the triangle graph state -/
example : 0 < (graphSTab 3 tri).n ∧ (graphSTab 3 tri).Good ∧ (∀ i, i < 3 → tri i i = false) :=
  ⟨by decide, graphSTab_good 3 tri tri_symm, by decide⟩

end Graphiq.C08
