/-
  PrepOrder.lean — `unwrap_nodes` and `remove_identity` on the wires, in order: on every wire the sequence of operations becomes
  `flatMap unwrap` / the non-identity part of the old sequence — for the operations seen through any view that only re-threads
  classical registers (`CregView`), so for the operations as held (`unwrapNodes_wires`, `removeIdentity_wires`) and as wired
  (Proofs/MetricsHistWires.lean).
-/
import GraphiqModel.Proofs.WireOps
namespace Graphiq
namespace Metrics
open Dag Relation

theorem wireOps_range' (c : Dag) (g : Nat → NodeId) (hg : ∀ j, ∃ i, g j = .op i) (os : List Op) :
    ∀ s, (∀ p ∈ os.zipIdx s, c.opOf? (g p.2) = some p.1) → wireOps c ((List.range' s os.length).map g) = os := by
  induction os with
  | nil => intro s _; rfl
  | cons o rest ih =>
    intro s h
    rw [List.length_cons, List.range'_succ, List.map_cons]
    have h0 : c.opOf? (g s) = some o := h (o, s) (by simp [List.zipIdx_cons])
    have hrest := ih (s + 1) (fun p hp => h p (by rw [List.zipIdx_cons]; exact List.mem_cons_of_mem _ hp))
    obtain ⟨i, hi⟩ := hg s
    unfold wireOps at hrest ⊢
    rw [List.filterMap_cons]
    rw [hi] at h0 ⊢
    simp only [h0]
    rw [hrest]

theorem wireOpsF_of_cregs_nil {f : NodeId → Op → Op} (hV : CregView f) {c : Dag} {l : List NodeId}
    (h : ∀ n ∈ l, ∀ o, c.opOf? n = some o → o.cregs = []) : wireOpsF f c l = wireOps c l := by
  induction l with
  | nil => rfl
  | cons a t ih =>
    have ht := ih (fun n hn => h n (List.mem_cons_of_mem _ hn))
    unfold wireOpsF wireOps at ht ⊢
    rw [List.filterMap_cons, List.filterMap_cons, ht]
    cases a with
    | inp r => rfl
    | out r => rfl
    | op i =>
      cases ho : c.opOf? (.op i) with
      | none => rfl
      | some o => simp only [Option.map_some, hV.of_cregs_nil _ o (h _ (by simp) o ho)]

theorem flatMap_unwrap_of_base {l : List Op} (h : ∀ o ∈ l, o.kind ≠ .wrapper) : l.flatMap Op.unwrap = l := by
  induction l with
  | nil => rfl
  | cons a t ih =>
    rw [List.flatMap_cons, unwrap_of_not_wrapper (h a (by simp)), ih (fun o ho => h o (List.mem_cons_of_mem _ ho))]
    rfl

theorem unwrapNode_wires {f : NodeId → Op → Op} (hV : CregView f) {c : Dag} {P : Paths} (g : Good c P) {i : Nat} {w : Op}
    (hw : (NodeId.op i, w) ∈ c.nodes) (hk : w.kind = .wrapper) (hp : PlainOp' w) :
    ∃ P', Good ((c.unwrapOne (.op i) w.unwrap).1.removeOp (.op i)).1 P' ∧
      (∀ r, (wireOpsF f ((c.unwrapOne (.op i) w.unwrap).1.removeOp (.op i)).1 (P' r)).flatMap Op.unwrap =
        (wireOpsF f c (P r)).flatMap Op.unwrap) ∧
      (∀ x, x ≠ .op i → x ∈ c.nodeIds → ((c.unwrapOne (.op i) w.unwrap).1.removeOp (.op i)).1.opOf? x = c.opOf? x) := by
  obtain ⟨r, X, Y, P', hq, hP, g2, hP', hoth, hnew⟩ := unwrapNode_refines g hw hk
  have hwf := g.inv.op_wf i w hw
  obtain ⟨_, hc, _⟩ := hwf.wrapper_shape hk
  have hopsR := unwrap_ops_wf hwf hk hq
  -- operations of the other old nodes are unchanged
  obtain ⟨_, u2⟩ := opsOf_unwrapOne g hw hq hc w.unwrap hopsR
  obtain ⟨_, P1, s1, a4⟩ := unwrapOne_chain g hw hq hc w.unwrap hopsR
  have g1 := s1.good g
  have hold : ∀ x, x ≠ .op i → x ∈ c.nodeIds →
      ((c.unwrapOne (.op i) w.unwrap).1.removeOp (.op i)).1.opOf? x = c.opOf? x := by
    intro x hx hxm
    exact (removeOp_opOf g1.inv a4 hx).trans (u2 x hx hxm)
  refine ⟨P', g2, ?_, hold⟩
  intro r'
  by_cases hr : r' = r
  · subst hr
    rw [hP', hP]
    have e1 : X ++ NodeId.op i :: Y = X ++ ([NodeId.op i] ++ Y) := rfl
    rw [e1, wireOpsF_append, wireOpsF_append, wireOpsF_append, wireOpsF_append]
    obtain ⟨hwX, hwY⟩ := wireOpsF_cut (f := f) g.inv hold hP
    rw [hwX, hwY]
    -- the new nodes hold the unwrapped gates, which have no classical register: every view shows them as they are
    have hnews : wireOpsF f ((c.unwrapOne (.op i) w.unwrap).1.removeOp (.op i)).1
        ((List.range w.unwrap.length).map fun j => NodeId.op (c.nodeId + 1 + j)) = w.unwrap := by
      have hop : ∀ p ∈ w.unwrap.zipIdx 0,
          ((c.unwrapOne (.op i) w.unwrap).1.removeOp (.op i)).1.opOf? (NodeId.op (c.nodeId + 1 + p.2)) = some p.1 :=
        fun p hp => (opOf_eq_some g2.inv.ids_nodup).mpr (hnew p hp)
      rw [wireOpsF_of_cregs_nil hV, List.range_eq_range']
      · exact wireOps_range' _ (fun j => NodeId.op (c.nodeId + 1 + j)) (fun j => ⟨_, rfl⟩) w.unwrap 0 hop
      · intro n hn o ho
        obtain ⟨j, hj, rfl⟩ := List.mem_map.mp hn
        have hj' : j < w.unwrap.length := List.mem_range.mp hj
        have := hop (w.unwrap[j], j) (by rw [List.mem_zipIdx_iff_getElem?]; simp [hj'])
        rw [this] at ho
        injection ho with ho
        exact ho ▸ (hopsR _ (List.getElem_mem hj')).2.2
    rw [hnews, wireOpsF_op g.inv.ids_nodup hw, hV.of_cregs_nil _ w hc]
    simp only [List.flatMap_append, List.flatMap_cons, List.flatMap_nil, List.append_nil]
    rw [flatMap_unwrap_of_base (unwrap_base_of_plain hp), List.append_assoc]
  · rw [hoth r' hr]
    have hn' : NodeId.op i ∉ P r' := fun hm => hr ((g.single_wire hw hq hc r').mp hm)
    rw [wireOpsF_congr (fun x hx => hold x (fun e => hn' (e ▸ hx)) (g.inv.mem_nodes r' x hx))]


theorem allPlain_of_unwrapChain {c c' : Dag} {P P' : Paths} (s : Chain IsUnwrapStep c P c' P') (g : Good c P) (hpl : AllPlain c) :
    AllPlain c' := by
  intro j o hjo
  rcases s.ops_from g hjo with h | ⟨p, a, hb, _⟩
  · exact hpl j o h
  · rcases a with a | ⟨w, o', es, _, hk, ho', rfl⟩
    · exact (a.brings_nothing hb).elim
    · rw [show o = o' from hb]
      unfold Op.unwrap at ho'; rw [hk] at ho'
      obtain ⟨k, _, rfl⟩ := List.mem_map.mp ho'
      exact plain_oneQubit k _

theorem unwrapLoop_wires {f : NodeId → Op → Op} (hV : CregView f) {c : Dag} {P : Paths} (g : Good c P) (hpl : AllPlain c)
    (ns : List NodeId)
    (hns : ∀ n ∈ ns, (∃ j, n = NodeId.op j ∧ j ≤ c.nodeId) ∧ ∀ op, (n, op) ∈ c.nodes → op.kind = .wrapper) :
    ∃ P', Chain IsUnwrapStep c P (c.unwrapLoop ns).1 P' ∧
      ∀ r, (wireOpsF f (c.unwrapLoop ns).1 (P' r)).flatMap Op.unwrap = (wireOpsF f c (P r)).flatMap Op.unwrap := by
  obtain ⟨P', s, _, h⟩ := unwrapLoop_chain_induct
    (M := fun d D => AllPlain d ∧ ∀ r, (wireOpsF f d (D r)).flatMap Op.unwrap = (wireOpsF f c (P r)).flatMap Op.unwrap)
    (by
      rintro d D i w gd ⟨hpd, hw⟩ hm hk P2 s
      obtain ⟨P3, g3, hfl, _⟩ := unwrapNode_wires hV gd hm hk (hpd i w hm)
      refine ⟨allPlain_of_unwrapChain s gd hpd, fun r => ?_⟩
      rw [show P2 = P3 from funext fun r => (s.good gd).inv.paths_unique g3.inv r]; exact (hfl r).trans (hw r))
    g ns hns ⟨hpl, fun _ => rfl⟩
  exact ⟨P', s, h⟩

theorem mem_wireOpsF {f : NodeId → Op → Op} {c : Dag} (hnd : c.nodeIds.Nodup) {l : List NodeId} {o : Op}
    (h : o ∈ wireOpsF f c l) : ∃ n o', o = f n o' ∧ o' ∈ opsOf c := by
  unfold wireOpsF at h
  obtain ⟨n, _, hn⟩ := List.mem_filterMap.mp h
  cases n with
  | inp r => simp at hn
  | out r => simp at hn
  | op i =>
    cases ho : c.opOf? (.op i) with
    | none => rw [ho] at hn; simp at hn
    | some o' =>
      rw [ho] at hn
      exact ⟨.op i, o', by simpa using hn.symm, mem_opsOf.mpr ⟨i, (opOf_eq_some hnd).mp ho⟩⟩

theorem unwrapNodes_view {f : NodeId → Op → Op} (hV : CregView f) {c : Dag} {P : Paths} (g : Good c P) (hpl : AllPlain c) :
    ∃ P', Chain IsUnwrapStep c P c.unwrapNodes.1 P' ∧
      ∀ r, wireOpsF f c.unwrapNodes.1 (P' r) = (wireOpsF f c (P r)).flatMap Op.unwrap := by
  obtain ⟨P', s, hfl⟩ := unwrapLoop_wires hV g hpl _ (wrapperList_spec g)
  rw [← unwrapNodes_eq_loop] at s hfl
  refine ⟨P', s, fun r => ?_⟩
  rw [← hfl r]
  refine (flatMap_unwrap_of_base fun o ho => ?_).symm
  obtain ⟨n, o', rfl, ho'⟩ := mem_wireOpsF (s.good g).inv.ids_nodup ho
  rw [hV.kind_eq]
  exact unwrapNodes_no_wrapper g hpl o' ho'

theorem unwrapNodes_wires {c : Dag} {P : Paths} (g : Good c P) (hpl : AllPlain c) :
    ∃ P', Good c.unwrapNodes.1 P' ∧ ∀ r, wireOps c.unwrapNodes.1 (P' r) = (wireOps c (P r)).flatMap Op.unwrap := by
  obtain ⟨P', s, h⟩ := unwrapNodes_view cregView_id g hpl
  exact ⟨P', s.good g, fun r => by rw [wireOps_eq_view, wireOps_eq_view]; exact h r⟩


theorem removeNode_wires {f : NodeId → Op → Op} {c : Dag} {P : Paths} (g : Good c P) {i : Nat} {w : Op}
    (hw : (NodeId.op i, w) ∈ c.nodes) (q : Op → Bool) (hq : q (f (.op i) w) = false) :
    Good (c.removeOp (.op i)).1 (erasePaths P (.op i)) ∧
    (∀ r, (wireOpsF f (c.removeOp (.op i)).1 (erasePaths P (.op i) r)).filter q = (wireOpsF f c (P r)).filter q) ∧
    (∀ x, x ≠ .op i → x ∈ c.nodeIds → (c.removeOp (.op i)).1.opOf? x = c.opOf? x) := by
  have hi := mem_nodeIds.mpr ⟨w, hw⟩
  obtain ⟨_, g2, _, _⟩ := removeOp_good g hi
  have hold : ∀ x, x ≠ .op i → x ∈ c.nodeIds → (c.removeOp (.op i)).1.opOf? x = c.opOf? x :=
    fun x hx _ => removeOp_opOf g.inv hw hx
  refine ⟨g2, ?_, hold⟩
  intro r
  unfold erasePaths
  by_cases hn : NodeId.op i ∈ P r
  · obtain ⟨X, Y, hP⟩ := List.append_of_mem hn
    obtain ⟨hwX, hwY⟩ := wireOpsF_cut (f := f) g.inv hold hP
    rw [hP, erase_append_mid (g.inv.cut hP).1]
    have e1 : X ++ NodeId.op i :: Y = X ++ ([NodeId.op i] ++ Y) := rfl
    rw [e1, wireOpsF_append, wireOpsF_append, wireOpsF_append, hwX, hwY, wireOpsF_op g.inv.ids_nodup hw]
    simp [List.filter_append, hq]
  · rw [List.erase_of_not_mem hn]
    rw [wireOpsF_congr (fun x hx => hold x (fun e => hn (e ▸ hx)) (g.inv.mem_nodes r x hx))]

/-- that the listed nodes hold operations with `q = false` is kept by erasures (`Prim.mem_run_nodes`), so the loop needs
    neither a duplicate-free list nor the presence of the listed nodes -/
theorem removeAll_wires {f : NodeId → Op → Op} {c : Dag} {P : Paths} (g : Good c P) (q : Op → Bool) (ns : List NodeId)
    (hns : ∀ n ∈ ns, (∃ j, n = NodeId.op j) ∧ ∀ op, (n, op) ∈ c.nodes → q (f n op) = false) :
    ∃ P', Chain (fun p => ∃ i, NodeId.op i ∈ ns ∧ p = .erase i) c P (c.removeAll ns).1 P' ∧
      ∀ r, (wireOpsF f (c.removeAll ns).1 (P' r)).filter q = (wireOpsF f c (P r)).filter q := by
  obtain ⟨P', s⟩ := removeAll_chain g ns (fun n hn => (hns n hn).1)
  have := s.preserves
    (Q := fun d D => (∀ n ∈ ns, ∀ op, (n, op) ∈ d.nodes → q (f n op) = false) ∧
      ∀ r, (wireOpsF f d (D r)).filter q = (wireOpsF f c (P r)).filter q)
    (by
      rintro d D p gd ⟨i, hi, rfl⟩ _ ⟨hq, hw⟩
      refine ⟨fun n hn op hop => ?_, fun r => ?_⟩
      · obtain ⟨j, rfl⟩ := (hns n hn).1
        exact (Prim.mem_run_nodes gd (p := .erase i) trivial hop).elim (hq _ hn op) (fun h => h.1.elim)
      · by_cases hp : NodeId.op i ∈ d.nodeIds
        · obtain ⟨w, hw'⟩ := mem_nodeIds.mp hp
          exact ((removeNode_wires gd hw' q (hq _ hi w hw')).2.1 r).trans (hw r)
        · show (wireOpsF f (d.removeOp (.op i)).1 (erasePaths D (.op i) r)).filter q = _
          rw [removeOp_absent (opOf_eq_none.mpr hp), Prim.erasePaths_absent gd.inv hp]; exact hw r)
    g ⟨fun n hn => (hns n hn).2, fun _ => rfl⟩
  exact ⟨P', s, this.2.2⟩

theorem removeIdentity_view {f : NodeId → Op → Op} (hV : CregView f) {c : Dag} {P : Paths} (g : Good c P) (hpl : AllPlain c) :
    ∃ P', Chain Prim.IsErase c P c.removeIdentity.1 P' ∧
      ∀ r, wireOpsF f c.removeIdentity.1 (P' r) = (wireOpsF f c (P r)).filter (fun o => !decide (o.kind = .identity)) := by
  obtain ⟨_, hmem⟩ := classList_spec g hpl .identity (by decide) (by decide)
  have hname : Kind.identity.name = "Identity" := rfl
  rw [hname] at hmem
  have hns : ∀ n ∈ dictGet c.nodeDict "Identity", (∃ j, n = NodeId.op j) ∧
      ∀ op, (n, op) ∈ c.nodes → (fun o : Op => !decide (o.kind = .identity)) (f n op) = false := by
    intro n hn
    obtain ⟨i, op, rfl, hm, hk⟩ := (hmem n).mp hn
    refine ⟨⟨i, rfl⟩, fun op' hm' => ?_⟩
    obtain rfl := g.op_unique hm hm'
    simp [hV.kind_eq, hk]
  obtain ⟨P', s, hfl⟩ := removeAll_wires g (fun o => !decide (o.kind = .identity)) _ hns
  rw [← removeIdentity_eq_all] at s hfl
  refine ⟨P', s.mono (fun p ⟨i, _, e⟩ => by rw [e]; trivial), fun r => ?_⟩
  rw [← hfl r]
  refine (List.filter_eq_self.mpr fun o ho => ?_).symm
  obtain ⟨n, o', rfl, ho'⟩ := mem_wireOpsF (s.good g).inv.ids_nodup ho
  simpa [hV.kind_eq] using removeIdentity_no_identity g hpl o' ho'

theorem removeIdentity_wires {c : Dag} {P : Paths} (g : Good c P) (hpl : AllPlain c) :
    ∃ P', Good c.removeIdentity.1 P' ∧
      ∀ r, wireOps c.removeIdentity.1 (P' r) = (wireOps c (P r)).filter (fun o => !decide (o.kind = .identity)) := by
  obtain ⟨P', s, h⟩ := removeIdentity_view cregView_id g hpl
  exact ⟨P', s.good g, fun r => by rw [wireOps_eq_view, wireOps_eq_view]; exact h r⟩

end Metrics
end Graphiq
