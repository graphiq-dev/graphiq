/-
  Proofs/CompareRepairDirect.lean — the model of `compare(method="direct")` as coded (`direct`: build both DAGs,
  `unwrap_nodes`, `remove_identity`, then walk every register of both graphs in lock-step) equals its operation-list form
  `directL` on well-formed circuits: the normalised DAG is the DAG of the flattened operation list (`OpDag.normalise`), so the walk
  never raises and compares, node by node, the executed operations on each register.  Soundness of the walk follows.
-/
import GraphiqModel.Proofs.CompareRepairNorm
namespace Graphiq.Compare
open Graphiq Graphiq.Export

theorem directMatch_gate (a b : Op) : directMatch (.gate a) (.gate b) = opMatchL a b := by
  unfold directMatch opMatchL
  congr 1
  cases a <;> cases b <;> rfl

/-- the relation the lock-step walk establishes between two nodes -/
def DirectMatched (g1 g2 : MG) (a b : Nd) : Prop :=
  ∃ o1 o2, g1.opOf a = some o1 ∧ g2.opOf b = some o2 ∧ directMatch o1 o2 = true

/-! ## the register counters survive the normalisation -/

def SameCnt (g g' : MG) : Prop := g'.ne = g.ne ∧ g'.np = g.np ∧ g'.nc = g.nc

theorem SameCnt.refl (g : MG) : SameCnt g g := ⟨rfl, rfl, rfl⟩
theorem SameCnt.trans {a b c : MG} (h1 : SameCnt a b) (h2 : SameCnt b c) : SameCnt a c :=
  ⟨h2.1.trans h1.1, h2.2.1.trans h1.2.1, h2.2.2.trans h1.2.2⟩

theorem sameCnt_removeOp (g : MG) (n : Nd) : SameCnt g (g.removeOp n) := by
  rw [removeOp_eq]
  show SameCnt g (rmEdges g n)
  unfold rmEdges
  refine Loop.foldl_inv (f := rmOut) (fun g' : MG => SameCnt g g') (fun b a _ hb => hb) ?_
  refine Loop.foldl_inv (fun g' : MG => SameCnt g g') ?_ (SameCnt.refl g)
  intro b a _ hb
  show SameCnt g (List.foldl (addNew a) b _)
  refine Loop.foldl_inv (fun g' : MG => SameCnt g g') ?_ hb
  intro b' a' _ hb'
  unfold addNew; split <;> exact hb'

theorem sameCnt_insertAll (p : Nd) (wq : Wire) (us : List Op) (g : MG) : SameCnt g (insertAll p wq us g) := by
  unfold insertAll
  refine Loop.foldl_inv (fun g' : MG => SameCnt g g') ?_ (SameCnt.refl g)
  intro b o _ hb
  cases b.inEdge p wq <;> exact hb

theorem normalise_counts (g : MG) : g.normalise.ne = g.ne ∧ g.normalise.np = g.np ∧ g.normalise.nc = g.nc := by
  have h1 : SameCnt g g.unwrapNodes := by
    rw [unwrapNodes_eq]
    refine Loop.foldl_inv (fun g' : MG => SameCnt g g') ?_ (SameCnt.refl g)
    intro b p _ hb
    unfold unwrapStep
    split
    · exact hb.trans ((sameCnt_insertAll _ _ _ b).trans (sameCnt_removeOp _ _))
    · exact hb
  have h2 : SameCnt g.unwrapNodes g.unwrapNodes.removeIdentity := by
    rw [removeIdentity_eq]
    refine Loop.foldl_inv (fun g' : MG => SameCnt g.unwrapNodes g') ?_ (SameCnt.refl _)
    intro b p _ hb
    exact hb.trans (sameCnt_removeOp b p.1)
  exact h1.trans h2

/-! ## `direct` equals its operation-list form -/

/-- the boolean the lock-step walk computes on the remaining parts of two register paths -/
def walkB (g1 g2 : MG) : List Nd → List Nd → Bool
  | [], _ => true
  | a :: as, b :: bs =>
    (match g1.opOf a, g2.opOf b with
      | some o1, some o2 => directMatch o1 o2
      | _, _ => false) && walkB g1 g2 as bs
  | _ :: _, [] => false

theorem Rep0.path_opOf_some {g : MG} {W : List Wire} {body : Wire → List Nd} (r : Rep0 g W body) (w : Wire) (hw : w ∈ W)
    (n : Nd) (hn : n ∈ pathOf body w) : ∃ o, g.opOf n = some o := by
  rcases (mem_pathOf body w n).1 hn with rfl | h | rfl
  · exact ⟨_, r.inpOp w hw⟩
  · obtain ⟨_, o, _, ho, _⟩ := r.bodyOp w hw n h
    exact ⟨_, ho⟩
  · exact ⟨_, r.outOp w hw⟩

/-- **the lock-step walk never raises on circuit DAGs and computes `walkB`** -/
theorem directWalk_eq (g1 g2 : MG) (W1 W2 : List Wire) (B1 B2 : Wire → List Nd) (r1 : Rep0 g1 W1 B1) (r2 : Rep0 g2 W2 B2)
    (w : Wire) (hw1 : w ∈ W1) (hw2 : w ∈ W2) :
    ∀ (fuel : Nat) (rest1 pre1 : List Nd) (n1 : Nd) (pre2 : List Nd) (n2 : Nd) (rest2 : List Nd),
      pathOf B1 w = pre1 ++ n1 :: rest1 → pathOf B2 w = pre2 ++ n2 :: rest2 → rest1.length ≤ fuel →
      DirectMatched g1 g2 n1 n2 → directWalk g1 g2 w fuel n1 n2 = .ok (walkB g1 g2 rest1 rest2) := by
  intro fuel
  induction fuel with
  | zero =>
    intro rest1 pre1 n1 pre2 n2 rest2 _ _ hlen _
    have : rest1 = [] := List.length_eq_zero_iff.1 (Nat.le_zero.1 hlen)
    subst this
    rfl
  | succ k ih =>
    intro rest1 pre1 n1 pre2 n2 rest2 h1 h2 hlen hm
    cases rest1 with
    | nil =>
      rw [directWalk, pathOf_last B1 w pre1 n1 h1]
      simp [walkB]
    | cons v1 rest1' =>
      have hadj : Adj (pathOf B1 w) n1 v1 := ⟨pre1, rest1', h1⟩
      have hn1ne : n1 ≠ .out w := by
        intro hh
        rw [hh] at h1
        cases pathOf_out_last B1 w (r1.pathNodup w hw1) pre1 _ h1
      have hn1 : (n1 == Nd.out w) = false := by simpa using hn1ne
      obtain ⟨e1, hf1, _, hd1⟩ := r1.outEdge_next hw1 h1
      -- the second path goes on as well: otherwise `n2` is an output node matched with a non-output node
      cases rest2 with
      | nil =>
        exfalso
        have hn2 : n2 = .out w := pathOf_last B2 w pre2 n2 h2
        obtain ⟨o1, o2, ho1, ho2, hd⟩ := hm
        rw [hn2, r2.outOp w hw2] at ho2
        injection ho2 with ho2
        subst ho2
        have : ∃ w', o1 = .output w' := by
          cases o1 with
          | output w' => exact ⟨w', rfl⟩
          | input _ => simp [directMatch, isInstance] at hd
          | gate _ => simp [directMatch, isInstance] at hd
        obtain ⟨w', rfl⟩ := this
        obtain ⟨hn1', _⟩ := r1.kindOut _ _ ho1
        have hmem : n1 ∈ pathOf B1 w := by rw [h1]; simp
        rw [hn1'] at hmem
        have := r1.out_on_path w w' hw1 hmem
        subst this
        exact hn1ne hn1'
      | cons v2 rest2' =>
        have hadj2 : Adj (pathOf B2 w) n2 v2 := ⟨pre2, rest2', h2⟩
        obtain ⟨e2, hf2, _, hd2⟩ := r2.outEdge_next hw2 h2
        obtain ⟨o1, ho1⟩ := r1.path_opOf_some w hw1 v1 (adj_mem_right hadj)
        obtain ⟨o2, ho2⟩ := r2.path_opOf_some w hw2 v2 (adj_mem_right hadj2)
        rw [directWalk]
        simp only [hn1, Bool.false_eq_true, if_false, hf1, hf2, hd1, hd2, ho1, ho2, walkB]
        cases hdm : directMatch o1 o2 with
        | false => simp
        | true =>
          simp only [if_true, Bool.true_and]
          have h1' : pathOf B1 w = (pre1 ++ [n1]) ++ v1 :: rest1' := by rw [h1]; simp
          have h2' : pathOf B2 w = (pre2 ++ [n2]) ++ v2 :: rest2' := by rw [h2]; simp
          exact ih rest1' _ v1 _ v2 rest2' h1' h2' (by simpa using hlen) ⟨o1, o2, ho1, ho2, hdm⟩

theorem directMatch_output (w : Wire) : directMatch (.output w) (.output w) = true := by
  simp [directMatch, isInstance]

theorem directMatch_input (w : Wire) : directMatch (.input w) (.input w) = true := by
  simp [directMatch, isInstance]

/-- on two register paths (operation nodes, then the output node) `walkB` is the operation-list walk `walkL` -/
theorem walkB_eq_walkL (g1 g2 : MG) (w : Wire) (ho1 : g1.opOf (.out w) = some (.output w)) (ho2 : g2.opOf (.out w) = some (.output w)) :
    ∀ (b1 b2 : List Nd), (∀ n ∈ b1, ∃ o, g1.opOf n = some (.gate o)) → (∀ n ∈ b2, ∃ o, g2.opOf n = some (.gate o)) →
      walkB g1 g2 (b1 ++ [Nd.out w]) (b2 ++ [Nd.out w]) = walkL (b1.filterMap (gateAt g1)) (b2.filterMap (gateAt g2)) := by
  intro b1
  induction b1 with
  | nil =>
    intro b2 _ h2
    cases b2 with
    | nil => simp [walkB, walkL, ho1, ho2, directMatch_output]
    | cons b b2' =>
      obtain ⟨o, ho⟩ := h2 b (by simp)
      have hg : gateAt g2 b = some o := by unfold gateAt; rw [ho]
      simp [walkB, walkL, ho1, ho, hg, directMatch, isInstance]
  | cons a b1' ih =>
    intro b2 h1 h2
    obtain ⟨oa, hoa⟩ := h1 a (by simp)
    have hga : gateAt g1 a = some oa := by unfold gateAt; rw [hoa]
    cases b2 with
    | nil => simp [walkB, walkL, hoa, ho2, hga, directMatch, isInstance]
    | cons b b2' =>
      obtain ⟨ob, hob⟩ := h2 b (by simp)
      have hgb : gateAt g2 b = some ob := by unfold gateAt; rw [hob]
      simp only [List.cons_append, walkB, hoa, hob, List.filterMap_cons, hga, hgb, walkL, directMatch_gate]
      rw [ih b2' (fun n hn => h1 n (List.mem_cons_of_mem _ hn)) (fun n hn => h2 n (List.mem_cons_of_mem _ hn))]

theorem foldlM_eq_all (step : Bool → Wire → Except Err Bool) (b : Wire → Bool)
    (hs1 : ∀ w, step false w = .ok false) :
    ∀ (ws : List Wire) (acc : Bool), (∀ w ∈ ws, step true w = .ok (b w)) → ws.foldlM step acc = .ok (acc && ws.all b) := by
  intro ws
  induction ws with
  | nil => intro acc _; simp [pure, Except.pure]
  | cons w rest ih =>
    intro acc h
    rw [List.foldlM_cons]
    cases acc with
    | false =>
      rw [hs1]
      show rest.foldlM step false = _
      rw [ih false (fun w' hw' => h w' (List.mem_cons_of_mem _ hw'))]
      simp
    | true =>
      rw [h w (by simp)]
      show rest.foldlM step (b w) = _
      rw [ih (b w) (fun w' hw' => h w' (List.mem_cons_of_mem _ hw'))]
      simp

theorem all_congr_mem {α : Type} (l1 l2 : List α) (p : α → Bool) (h : ∀ x, x ∈ l1 ↔ x ∈ l2) : l1.all p = l2.all p := by
  apply Bool.eq_iff_iff.2
  simp only [List.all_eq_true]
  constructor
  · intro h' x hx; exact h' x ((h x).2 hx)
  · intro h' x hx; exact h' x ((h x).1 hx)

/-- **the walks of `direct` over all registers of two circuit DAGs with the same registers never raise**, and compute the
    operation-list walk register by register -/
theorem directWalks_eq {W : List Wire} {g1 g2 : MG} {L1 L2 : List (Nat × Op)} (d1 : OpDag W g1 L1) (d2 : OpDag W g2 L2) :
    g1.inputs.foldlM (fun (acc : Bool) w => do
        if !acc then return false
        directWalk g1 g2 w (g1.nodes.length + 1) (.inp w) (.inp w)) true
      = .ok (W.all fun w => walkL ((L1.map (·.2)).filter (touches w)) ((L2.map (·.2)).filter (touches w))) := by
  have r1 := d1.rep
  have r2 := d2.rep
  have hwalk : ∀ w ∈ g1.inputs, directWalk g1 g2 w (g1.nodes.length + 1) (.inp w) (.inp w)
      = .ok (walkL ((L1.map (·.2)).filter (touches w)) ((L2.map (·.2)).filter (touches w))) := by
    intro w hwin
    have hw : w ∈ W := r1.inputsW w ((mem_inputs _ _).1 hwin)
    have hfuel : (bodyL L1 w ++ [Nd.out w]).length ≤ g1.nodes.length + 1 := by
      have := r1.path_length_le w hw
      unfold pathOf at this
      simp only [List.length_cons] at this
      omega
    rw [directWalk_eq _ _ _ _ _ _ r1 r2 w hw hw _ _ [] _ [] _ _ rfl rfl hfuel
        ⟨_, _, r1.inpOp w hw, r2.inpOp w hw, directMatch_input w⟩,
      walkB_eq_walkL _ _ w (r1.outOp w hw) (r2.outOp w hw) (bodyL L1 w) (bodyL L2 w)
        (fun n hn => by obtain ⟨_, o, _, ho, _⟩ := r1.bodyOp w hw n hn; exact ⟨o, ho⟩)
        (fun n hn => by obtain ⟨_, o, _, ho, _⟩ := r2.bodyOp w hw n hn; exact ⟨o, ho⟩)]
    exact congrArg₂ (fun a b => Except.ok (walkL a b)) (d1.wireOps_eq w) (d2.wireOps_eq w)
  rw [foldlM_eq_all _ _ (fun w => rfl) g1.inputs true hwalk, Bool.true_and]
  congr 1
  apply all_congr_mem
  intro w
  rw [mem_inputs]
  exact ⟨r1.inputsW w, fun hm => opOf_some_mem _ _ _ (r1.inpOp w hm)⟩

/-- **the model of `direct` (walk over the two normalised DAGs) never raises on well-formed circuits and returns exactly its
    operation-list form `directL`** — so every theorem about `directL` (soundness, reflexivity, symmetry, insensitivity to
    wrapping and identities) is a theorem about the walk -/
theorem direct_eq_directL (c1 c2 : Circuit) (h1 : ∀ o ∈ c1.ops, OpOK (wiresN c1.ne c1.np c1.nc) o)
    (h2 : ∀ o ∈ c2.ops, OpOK (wiresN c2.ne c2.np c2.nc) o) : direct c1 c2 = .ok (directL c1 c2) := by
  obtain ⟨g1, _, hb1, d1, l1, a1, a2, a3⟩ := build_opDag c1 h1
  obtain ⟨g2, _, hb2, d2, l2, b1, b2, b3⟩ := build_opDag c2 h2
  obtain ⟨L1, n1, f1⟩ := d1.normalise
  obtain ⟨L2, n2, f2⟩ := d2.normalise
  rw [l1] at f1
  rw [l2] at f2
  have hc1 := normalise_counts g1
  have hc2 := normalise_counts g2
  unfold direct
  rw [hb1, hb2]
  simp only [bind, Except.bind]
  rw [hc1.1, hc1.2.1, hc1.2.2, hc2.1, hc2.2.1, hc2.2.2, a1, a2, a3, b1, b2, b3]
  unfold directL
  rw [allWires_eq]
  by_cases hreg : c1.ne = c2.ne ∧ c1.np = c2.np ∧ c1.nc = c2.nc
  · obtain ⟨e1, e2, e3⟩ := hreg
    have hW : wiresN c2.ne c2.np c2.nc = wiresN c1.ne c1.np c1.nc := by rw [e1, e2, e3]
    rw [hW] at n2
    -- with the same registers, the node counts agree exactly when the numbers of executed operations do
    have hn : (g1.normalise.nodes.length == g2.normalise.nodes.length)
        = ((Export.flat c1.ops).length == (Export.flat c2.ops).length) := by
      rw [n1.count, n2.count, ← List.length_map (·.2) (as := L1), ← List.length_map (·.2) (as := L2), f1, f2]
      exact Bool.eq_iff_iff.2 (by simp only [beq_iff_eq]; omega)
    have hb : (c1.ne == c2.ne && c1.np == c2.np && c1.nc == c2.nc) = true := by simp [e1, e2, e3]
    rw [directWalks_eq n1 n2, hn, f1, f2, hb]
    cases (Export.flat c1.ops).length == (Export.flat c2.ops).length <;> rfl
  · have hcond : (c1.ne == c2.ne && c1.np == c2.np && c1.nc == c2.nc) = false := by
      apply Bool.eq_false_iff.2
      intro hh
      simp only [Bool.and_eq_true, beq_iff_eq] at hh
      exact hreg ⟨hh.1.1, hh.1.2, hh.2⟩
    rw [hcond]
    rfl

/-- **soundness of `direct` for the model of the code itself**: if the lock-step walk over the two normalised DAGs reports
    equal, the circuits have the same register counts and the same executed operations on every quantum register -/
theorem direct_graph_sound (c1 c2 : Circuit) (h1 : ∀ o ∈ c1.ops, OpOK (wiresN c1.ne c1.np c1.nc) o)
    (h2 : ∀ o ∈ c2.ops, OpOK (wiresN c2.ne c2.np c2.nc) o) (h : direct c1 c2 = .ok true) : wiresEq c1 c2 = true := by
  rw [direct_eq_directL c1 c2 h1 h2] at h
  exact directL_sound c1 c2 (Except.ok.inj h)

end Graphiq.Compare
