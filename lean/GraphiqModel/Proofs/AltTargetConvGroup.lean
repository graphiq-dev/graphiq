/-
  Proofs/AltTargetConvGroup.lean — the LC-conversion gate list of `AlternateTargetSolver.solve` (C10) as a row action: `namesAct` of a list of
  named gates is `actCirc` of the list translated by `LC.toGate` (`namesAct_eq`), so the facts about gate lists of the stabilizer backend apply;
  truncation to the photon columns (`inSpan_lift`, `namesAct_trunc`, `namesAct_fix_right`) lifts from the `n` photons to photons + emitters;
  `conv_group_iff`: the images of the generators of `|a⟩` under an accepted list generate the group of `|b⟩`.
-/
import GraphiqModel.Proofs.AltTargetConvDefs
import GraphiqModel.Proofs.LCTableaux
import GraphiqModel.Proofs.SolverCompleteDefs
import GraphiqModel.Proofs.TabSpecHom
namespace Graphiq
namespace Alt
open Graphiq PRow Tab

/-- the supported names of `run_circuit` -/
def GoodName (name : String) : Prop :=
  name = "I" ∨ name = "H" ∨ name = "P" ∨ name = "P_dag" ∨ name = "X" ∨ name = "Y" ∨ name = "Z"

/-! ### a named gate list acts as the `Gate` list it is translated to -/

theorem nameAct_eq_gateRow : nameAct = LC.gateRow := by
  funext name q
  unfold nameAct LC.gateRow
  split <;> first | rfl | (split <;> first | rfl | exact absurd rfl (by assumption))

theorem nameAct_eq (g : String × Nat) : nameAct g.1 g.2 = (LC.toGate g).act := by
  rw [LC.toGate_act, nameAct_eq_gateRow]

theorem namesAct_eq (gates : List (String × Nat)) (p : PRow) : namesAct gates p = actCirc (gates.map LC.toGate) p := by
  unfold namesAct actCirc
  rw [List.foldl_map]
  simp only [nameAct_eq]

@[simp] theorem namesAct_nil (p : PRow) : namesAct [] p = p := rfl
@[simp] theorem namesAct_cons (g : String × Nat) (rest : List (String × Nat)) (p : PRow) :
    namesAct (g :: rest) p = namesAct rest (nameAct g.1 g.2 p) := rfl

theorem namesAct_append (l1 l2 : List (String × Nat)) (p : PRow) :
    namesAct (l1 ++ l2) p = namesAct l2 (namesAct l1 p) := by
  unfold namesAct; rw [List.foldl_append]

theorem namesAct_congr (n : Nat) (gates : List (String × Nat)) (hq : ∀ g, g ∈ gates → g.2 < n) (a b : PRow)
    (h : EqOn n a b) : EqOn n (namesAct gates a) (namesAct gates b) := by
  rw [namesAct_eq, namesAct_eq]; exact actCirc_congr n _ (LC.toGates_wf n gates hq) a b h

theorem namesAct_mul (n : Nat) (gates : List (String × Nat)) (hq : ∀ g, g ∈ gates → g.2 < n) (a b : PRow) :
    EqOn n (namesAct gates (PRow.mul n a b)) (PRow.mul n (namesAct gates a) (namesAct gates b)) := by
  simp only [namesAct_eq]; exact actCirc_mul n _ (LC.toGates_wf n gates hq) a b

theorem runGates_names (t t' : Tab) (gates : List (String × Nat)) (e : LC.runGates t gates = .ok t') :
    ∀ g, g ∈ gates → GoodName g.1 := fun g hg => (((LC.runGates_iff t t' gates).mp e).1 g hg).1

/-! ### lifting to `n + m` qubits -/

@[simp] theorem truncCols_x (n : Nat) (p : PRow) (j : Nat) : (truncCols n p).x j = (decide (j < n) && p.x j) := rfl
@[simp] theorem truncCols_z (n : Nat) (p : PRow) (j : Nat) : (truncCols n p).z j = (decide (j < n) && p.z j) := rfl
@[simp] theorem truncCols_r (n : Nat) (p : PRow) : (truncCols n p).r = p.r := rfl
@[simp] theorem truncCols_ip (n : Nat) (p : PRow) : (truncCols n p).ip = p.ip := rfl

theorem truncCols_idem (n N : Nat) (p : PRow) : EqOn N (truncCols n (truncCols n p)) (truncCols n p) :=
  ⟨fun j _ => by simp, rfl, rfl⟩

theorem truncCols_of_trivial (n N : Nat) (p : PRow) (h : ∀ j, n ≤ j → j < N → p.x j = false ∧ p.z j = false) :
    EqOn N (truncCols n p) p := by
  refine ⟨fun j hj => ?_, rfl, rfl⟩
  simp only [truncCols_x, truncCols_z]
  by_cases hn : j < n
  · simp [hn]
  · simp [hn, (h j (by omega) hj).1, (h j (by omega) hj).2]

theorem inSpan_mono (n m m' : Nat) (gens : Nat → PRow) (a : PRow) (hm : m ≤ m') (h : InSpan n m gens a) :
    InSpan n m' gens a :=
  InSpan.le (fun i hi => InSpan.gen i (Nat.lt_of_lt_of_le hi hm)) h

theorem inSpan_lift (n m k k' : Nat) (gens : Nat → PRow) (gens' : Nat → PRow) (a : PRow)
    (hg : ∀ i, i < k → PRow.EqOn (n + m) (gens' i) (PRow.truncCols n (gens i))) (hk : k ≤ k')
    (h : InSpan n k gens a) : InSpan (n + m) k' gens' (PRow.truncCols n a) :=
  InSpan.map (TabSpec.truncCols_isHom n m)
    (fun i hi => InSpan.eqv _ _ (InSpan.gen i (Nat.lt_of_lt_of_le hi hk)) (hg i hi)) h

theorem nameAct_lift (name : String) (q : Nat) : ∃ t, nameAct name q = Solver.lift q t := by
  unfold nameAct
  split
  · exact ⟨_, (Solver.lift_tH q).symm⟩
  · exact ⟨_, (Solver.lift_tS q).symm⟩
  · exact ⟨_, (Solver.lift_tSdg q).symm⟩
  · exact ⟨_, (Solver.lift_tX q).symm⟩
  · exact ⟨_, (Solver.lift_tY q).symm⟩
  · exact ⟨_, (Solver.lift_tZ q).symm⟩
  · exact ⟨.one, funext fun a => (Solver.lift_one q a).symm⟩

theorem lift_truncCols (n q : Nat) (hq : q < n) (t : Solver.L1) (p : PRow) :
    Solver.lift q t (truncCols n p) = truncCols n (Solver.lift q t p) := by
  apply Solver.prow_ext
  · intro j
    by_cases e : j = q
    · subst e; simp [Solver.lift, hq]
    · simp [Solver.lift, e]
  · intro j
    by_cases e : j = q
    · subst e; simp [Solver.lift, hq]
    · simp [Solver.lift, e]
  · simp [Solver.lift, hq]
  · rfl

theorem namesAct_trunc (n : Nat) (gates : List (String × Nat)) (hq : ∀ g, g ∈ gates → g.2 < n) (p : PRow) :
    namesAct gates (PRow.truncCols n p) = PRow.truncCols n (namesAct gates p) := by
  induction gates generalizing p with
  | nil => rfl
  | cons g rest ih =>
    obtain ⟨t, e⟩ := nameAct_lift g.1 g.2
    rw [namesAct_cons, namesAct_cons, e, lift_truncCols n g.2 (hq g List.mem_cons_self) t p]
    exact ih (fun g' hg' => hq g' (List.mem_cons_of_mem _ hg')) _

theorem namesAct_fix_right (n m : Nat) (gates : List (String × Nat)) (hq : ∀ g, g ∈ gates → g.2 < n) (p : PRow)
    (hp : ∀ j, j < n → p.x j = false ∧ p.z j = false) : PRow.EqOn (n + m) (namesAct gates p) p := by
  rw [namesAct_eq, actCirc_of_triv]
  · exact EqOn.refl _ _
  · exact fun g hg q hqc => hp q (Gate.cols_lt_of_wf (LC.toGates_wf n gates hq g hg) q hqc)

theorem graphSTab_row_gen (n : Nat) (A : Adj) (i : Nat) : EqOn n ((graphSTab n A).row i) (LC.graphGen A i) :=
  ⟨fun j hj => ⟨rfl, by show (decide (j < n) && A i j) = A i j; simp [hj]⟩, rfl, rfl⟩

/-- **group equality on the photons**: if `lc_check(a, b, validate=True)` accepts with the list `gates`, the images of the
    generators `K_i(a)` under the row action of the list generate exactly the stabilizer group of `|b⟩`: the tableau of the images
    and `|b⟩` are both the image of `|a⟩` under the list -/
theorem conv_group_iff (a b : BMat) (gates : List (String × Nat)) (hA : Simple a.r a.f) (hB : Simple a.r b.f)
    (e : LC.lcCheckR a b true = .ok (true, gates)) (P : PRow) :
    InSpan a.r a.r (fun i => namesAct gates (LC.graphGen a.f i)) P ↔ InSpan a.r a.r (fun q => LC.graphGen b.f q) P := by
  obtain ⟨hq, img⟩ := LC.lc_gates_image_validated a b hA hB gates e
  have img' : CircImage a.r (gates.map LC.toGate) (graphSTab a.r a.f)
      { n := a.r, row := fun i => namesAct gates (LC.graphGen a.f i) } :=
    circImage_of_rows _ _ img.wf _ _ rfl rfl (fun i _ => by
      rw [← namesAct_eq]; exact namesAct_congr a.r gates hq _ _ (graphSTab_row_gen a.r a.f i).symm)
  have s := circImage_unique img' img
  exact ⟨fun h => InSpan.congr_gens (fun i _ => graphSTab_row_gen a.r b.f i) (s.sub P h),
    fun h => s.sup P (InSpan.congr_gens (fun i _ => (graphSTab_row_gen a.r b.f i).symm) h)⟩

end Alt
end Graphiq
