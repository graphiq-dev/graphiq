/-
  Proofs/AltTargetFinal.lean — the parts of `AlternateTargetSolver.solve` instantiated (C10):
  * the relabel map: the decidable specification recorded for networkx `GraphMatcher.mapping` (`isIsoMap`, evaluated on every observed
    call) implies that the relabelled target IS the target renamed by the map (`iso_of_isIsoMap`);
  * the LC conversion: appending `str_to_op(lc_check(lc, iso, validate=True))` to a circuit that generates |lc⟩ ⊗ |0…0⟩ gives a circuit that
    generates |iso⟩ ⊗ |0…0⟩ (`conv_generates`): the group after the appended gates is the image of the group before, the group of |iso⟩ is
    the image of that of |lc⟩ under the same gates (C09 `lc_gates_image_validated`), and an image on the photons is an image on
    photons + emitters (`circImage_pad`).
-/
import Mathlib.Data.Fintype.Card
import Mathlib.Data.Fintype.Pi
import Mathlib.Data.Finite.Defs
import GraphiqModel.Proofs.AltTargetLoop
import GraphiqModel.Proofs.AltTargetConvRun
import GraphiqModel.Proofs.AltTargetReturnsConv
namespace Graphiq
namespace Alt
open PRow STab Tab

theorem inj_surj (n : Nat) (m : Nat → Nat) (hr : ∀ u, u < n → m u < n) (hi : ∀ u v, u < n → v < n → m u = m v → u = v)
    (a : Nat) (ha : a < n) : ∃ u, u < n ∧ m u = a := by
  let φ : Fin n → Fin n := fun u => ⟨m u.val, hr u.val u.isLt⟩
  have hinj : Function.Injective φ := by
    intro u v h
    apply Fin.ext
    exact hi u.val v.val u.isLt v.isLt (congrArg Fin.val h)
  obtain ⟨u, hu⟩ := (Finite.injective_iff_surjective.1 hinj) ⟨a, ha⟩
  exact ⟨u.val, u.isLt, congrArg Fin.val hu⟩

/-- **the matcher's specification gives the renamed target**: if `m` passes the isomorphism test `isIsoMap n A B m` (what is recorded for
    networkx `GraphMatcher.mapping` and evaluated on every observed `get_relabel_map`), then on the vertices `B` is `A` renamed by `m` -/
theorem iso_of_isIsoMap (n : Nat) (A B : Adj) (m : List Nat) (h : isIsoMap n A B m = true) :
    ∀ a b, a < n → b < n → B a b = relabelAdj n A m a b := by
  obtain ⟨_, hr, hinj, hedge⟩ := (isIsoMap_iff n A B m).mp h
  intro a b ha hb
  obtain ⟨u, hu, eu⟩ := inj_surj n (fun u => m.getD u n) hr hinj a ha
  obtain ⟨v, hv, ev⟩ := inj_surj n (fun u => m.getD u n) hr hinj b hb
  rw [← eu, ← ev, ← hedge u v hu hv]
  exact (relabelAdj_edge n A m hinj u v hu hv).symm

theorem simple_of_isIsoMap (n : Nat) (A B : Adj) (m : List Nat) (hA : Simple n A) (h : isIsoMap n A B m = true) : Simple n B := by
  obtain ⟨_, hr, hinj, hedge⟩ := (isIsoMap_iff n A B m).mp h
  constructor
  · intro a b ha hb
    obtain ⟨u, hu, eu⟩ := inj_surj n (fun u => m.getD u n) hr hinj a ha
    obtain ⟨v, hv, ev⟩ := inj_surj n (fun u => m.getD u n) hr hinj b hb
    rw [← eu, ← ev, ← hedge u v hu hv, ← hedge v u hv hu]
    exact hA.1 u v hu hv
  · intro a ha
    obtain ⟨u, hu, eu⟩ := inj_surj n (fun u => m.getD u n) hr hinj a ha
    rw [← eu, ← hedge u u hu hu]
    exact hA.2 u hu

theorem cutAdj_symm (n : Nat) (A : Adj) (hA : Simple n A) : ∀ i j, cutAdj n A i j = cutAdj n A j i := by
  intro i j
  unfold cutAdj
  by_cases hi : i < n <;> by_cases hj : j < n <;> simp [hi, hj]
  exact hA.1 i j hi hj

theorem cutAdj_agree (n : Nat) (A : Adj) : ∀ i j, i < n → j < n → cutAdj n A i j = A i j := by
  intro i j hi hj
  simp [cutAdj, hi, hj]

theorem countMeas_append (a b : List COp) : countMeas (a ++ b) = countMeas a + countMeas b := by
  induction a with
  | nil => simp [countMeas]
  | cons o r ih =>
    cases o <;> simp only [List.cons_append, countMeas, ih] <;> omega

theorem gateCOp_noMeas (g : String × Nat) (o : COp) (h : gateCOp g = some o) : countMeas [o] = 0 := by
  unfold gateCOp at h
  split at h <;> first | (injection h with h; rw [← h]; rfl) | cases h

theorem gatesCOps_noMeas (gates : List (String × Nat)) (gops : List COp) (h : gatesCOps gates = some gops) : countMeas gops = 0 := by
  induction gates generalizing gops with
  | nil =>
    injection h with h
    rw [← h]; rfl
  | cons g rest ih =>
    obtain ⟨o, os, hg, hr, rfl⟩ := gatesCOps_cons g rest gops h
    exact (countMeas_append [o] os).trans (by rw [gateCOp_noMeas g o hg, ih os hr])

/-! ### the LC conversion step -/

theorem target_row_lt (np ne : Nat) (A : Adj) (i : Nat) (hi : i < np) : (targetSTab np ne A).row i = (graphSTab np A).row i := by
  simp [targetSTab, graphSTab, hi]

theorem graphSTab_trunc (np N : Nat) (A : Adj) (i : Nat) (hi : i < np) :
    EqOn N (truncCols np ((graphSTab np A).row i)) ((graphSTab np A).row i) := by
  refine ⟨fun j _ => ⟨?_, ?_⟩, rfl, rfl⟩
  · show (decide (j < np) && decide (j = i)) = decide (j = i)
    by_cases e : j = i
    · subst e; simp [hi]
    · simp [e]
  · show (decide (j < np) && (decide (j < np) && A i j)) = (decide (j < np) && A i j)
    cases decide (j < np) <;> rfl

theorem target_row_emitter (np ne : Nat) (A : Adj) (i : Nat) (hi : np ≤ i) : (targetSTab np ne A).row i = PRow.Zq i := by
  have : ¬ i < np := by omega
  simp [targetSTab, this]

/-- gates on the photons: if the list maps the signed group of `|A⟩` onto that of `|B⟩`, it maps the group of `|A⟩ ⊗ |0…0⟩`
    onto that of `|B⟩ ⊗ |0…0⟩` -/
theorem circImage_pad (np ne : Nat) (gates : List (String × Nat)) (hq : ∀ g, g ∈ gates → g.2 < np) (A B : Adj)
    (h : CircImage np (gates.map LC.toGate) (graphSTab np A) (graphSTab np B)) :
    CircImage (np + ne) (gates.map LC.toGate) (targetSTab np ne A) (targetSTab np ne B) := by
  have hqN : ∀ g, g ∈ gates → g.2 < np + ne := fun g hg => Nat.lt_of_lt_of_le (hq g hg) (Nat.le_add_right ..)
  have wfN := LC.toGates_wf (np + ne) gates hqN
  -- the padded source mapped row by row is an image by construction; it remains to compare it with the padded target
  let L' : STab := { n := np + ne, row := fun i => actCirc (gates.map LC.toGate) ((targetSTab np ne A).row i) }
  have hL' : CircImage (np + ne) (gates.map LC.toGate) (targetSTab np ne A) L' :=
    circImage_of_rows _ _ wfN _ L' rfl rfl (fun i _ => EqOn.refl _ _)
  have trunc : ∀ p, actCirc (gates.map LC.toGate) (truncCols np p) = truncCols np (actCirc (gates.map LC.toGate) p) :=
    fun p => by rw [← namesAct_eq, ← namesAct_eq]; exact namesAct_trunc np gates hq p
  have rowT : ∀ (C : Adj) i, i < np → EqOn (np + ne) ((targetSTab np ne C).row i) (truncCols np ((graphSTab np C).row i)) :=
    fun C i hi => by rw [target_row_lt np ne C i hi]; exact (graphSTab_trunc np _ C i hi).symm
  have himgP : ∀ i, i < np → EqOn (np + ne) (L'.row i) (truncCols np (actCirc (gates.map LC.toGate) ((graphSTab np A).row i))) :=
    fun i hi => trunc _ ▸ actCirc_congr _ _ wfN _ _ (rowT A i hi)
  have himgE : ∀ i, np ≤ i → EqOn (np + ne) (L'.row i) (PRow.Zq i) := by
    intro i hi
    show EqOn (np + ne) (actCirc _ ((targetSTab np ne A).row i)) _
    rw [target_row_emitter np ne A i hi, ← namesAct_eq]
    refine namesAct_fix_right np ne gates hq _ (fun j hj => ⟨rfl, ?_⟩)
    show decide (j = i) = false
    have : ¬ j = i := by omega
    simp [this]
  refine hL'.congr (SpanEq.refl _) (spanEq_of_gens L' (targetSTab np ne B) rfl (fun q hq' => ?_) (fun i hi => ?_))
  · by_cases hqp : q < np
    · obtain ⟨a, ha, ea⟩ := h.bwd _ (spn_gen (graphSTab np B) q hqp)
      have h1 := hL'.fwd _ (inSpan_lift np ne np (np + ne) _ (targetSTab np ne A).row a (rowT A) (by omega) ha)
      exact InSpan.eqv _ _ h1 (trunc a ▸ (TabSpec.truncCols_congr np ne _ _ ea).trans (rowT B q hqp).symm)
    · rw [target_row_emitter np ne B q (by omega)]
      exact InSpan.eqv _ _ (InSpan.gen q hq') (himgE q (by omega))
  · by_cases hip : i < np
    · exact InSpan.eqv _ _ (inSpan_lift np ne np (np + ne) _ (targetSTab np ne B).row _ (rowT B) (by omega)
        (h.fwd _ (spn_gen (graphSTab np A) i hip))) (himgP i hip).symm
    · have h2 : InSpan (np + ne) (np + ne) (targetSTab np ne B).row ((targetSTab np ne B).row i) := InSpan.gen i hi
      rw [target_row_emitter np ne B i (by omega)] at h2
      exact InSpan.eqv _ _ h2 (himgE i (by omega)).symm

/-- **appending the validated LC-conversion gates**: if `lc_check(lc, iso, validate=True)` succeeds and `ops` generates `|lc⟩ ⊗ |0…0⟩` under
    every outcome script, then `ops ++ str_to_op(gates)` generates `|iso⟩ ⊗ |0…0⟩` under every outcome script -/
theorem conv_generates (np ne : Nat) (lc iso : BMat) (hr : lc.r = np) (hA : Simple np lc.f) (hB : Simple np iso.f)
    (gops : List COp) (hc : convModel lc iso = some gops) (ops : List COp) (hgen : Generates ne np ops lc.f) :
    Generates ne np (ops ++ gops) iso.f := by
  obtain ⟨gates, hl, hc⟩ := (convModel_eq_some lc iso gops).mp hc
  obtain ⟨hrange, img⟩ := LC.lc_gates_image_validated lc iso (hr ▸ hA) (hr ▸ hB) gates hl
  rw [hr] at hrange img
  intro script hlen
  rw [countMeas_append, gatesCOps_noMeas gates gops hc, Nat.add_zero] at hlen
  obtain ⟨rs, hs, se⟩ := hgen script hlen
  have hn : rs.t.n = ne + np := (show (STab.ofTab rs.t).n = np + ne from se.n_eq).trans (Nat.add_comm ..)
  obtain ⟨rs', hrun, img'⟩ := append_gates_image ne np script ops gops gates hc hrange rs hs hn
  rw [Nat.add_comm] at img'
  exact ⟨rs', hrun, spanEq_image img' (circImage_pad np ne gates hrange lc.f iso.f img) se⟩

end Alt
end Graphiq
