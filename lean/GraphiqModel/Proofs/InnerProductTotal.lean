/-
  Proofs/InnerProductTotal.lean — `inner_product` returns (no internal assertion fails) on every pair of valid states:
  the only way the model can fail after `inverse_circuit` returned is the final assert of `canonical_form` on the
  transformed second state, and that assert passes because a gate list maps a group with `n` independent generators and
  without `−I` to a group of the same kind, for which Gaussian elimination finds `n` pivots (`canonicalForm_total`,
  Proofs/CanonTotal.lean).
-/
import GraphiqModel.Proofs.InnerProductDim
namespace Graphiq
open PRow Tab
namespace STab

/-- **`inner_product` returns on every pair of valid states** (same size, real commuting generators, `inverse_circuit`
    returned on the first, `canonical_form`'s assert passes on the second — i.e. its generators are independent) -/
theorem innerProduct_total (a b : Tab) (s1 cb : STab) (circ : List Gate) (ga : (STab.ofTab a).Good)
    (gb : (STab.ofTab b).Good) (hn : a.n = b.n) (hs : (STab.ofTab a).inverseCircuit = .ok (s1, circ))
    (hcb : (STab.ofTab b).canonicalForm = .ok cb) : ∃ r, STab.innerProduct a b = .ok r := by
  obtain ⟨_, _, wf, _, _⟩ := inverseCircuit_tracks (STab.ofTab a) s1 circ ga hs
  have nA : (STab.ofTab a).n = a.n := rfl
  rw [nA] at wf
  obtain ⟨img, gB'⟩ := ofTab_runCircuit_image a.n circ wf b hn.symm gb
  obtain ⟨sc, gcb⟩ := canonicalForm_spanEq _ cb gb hcb
  have ic := (canonicalForm_canon _ cb hcb).indep
  have ncb : cb.n = a.n := sc.n_eq.symm.trans img.nT
  have nB' := img.nT'
  have tot : ∃ s2, (STab.ofTab (b.runCircuit circ)).canonicalForm = .ok s2 := by
    apply canonicalForm_total _ gB' (fun i => actCirc circ (cb.row i))
    · intro i hi
      rw [nB'] at hi
      exact img.fwd _ (sc.sup _ (spn_gen cb i (by rw [ncb]; exact hi)))
    · intro S hS
      rw [nB'] at hS ⊢
      have e := actCirc_sprod a.n circ wf cb.row S a.n
      have : EqOn a.n (sprod a.n cb.row S a.n) PRow.one :=
        actCirc_inj a.n circ wf _ _ ((e.trans hS).trans (actCirc_one a.n circ wf).symm)
      rw [← ncb] at this
      have := indep_sprod cb ic S this.1
      rw [ncb] at this; exact this
    · intro hneg
      obtain ⟨g, hgB, eg⟩ := img.bwd _ hneg
      have e1 : EqOn a.n (actCirc circ (PRow.neg PRow.one)) (PRow.neg PRow.one) := by
        rw [actCirc_neg]; exact neg_congr a.n _ _ (actCirc_one a.n circ wf)
      have e2 : EqOn a.n g (PRow.neg PRow.one) := actCirc_inj a.n circ wf _ _ (eg.trans e1.symm)
      apply indep_no_minus_one cb gcb ic
      have h1 := sc.sub _ hgB
      unfold Spn at h1 ⊢
      rw [ncb] at h1 ⊢
      exact InSpan.eqv _ _ h1 e2
  obtain ⟨s2, h2⟩ := tot
  exact ⟨_, innerProduct_eq a b s1 s2 circ hn hs h2⟩

/-- the fidelity of a state with itself: once the synthesis returns, `inner_product` returns, and returns 1 (`some 0`: the exponent of `IsOverlap`) -/
theorem innerProduct_self (a : Tab) (s1 : STab) (circ : List Gate) (ga : (STab.ofTab a).Good)
    (hs : (STab.ofTab a).inverseCircuit = .ok (s1, circ)) : STab.innerProduct a a = .ok (some 0) := by
  obtain ⟨cb, _, hcb, _⟩ := inverseCircuit_eq _ s1 circ hs
  obtain ⟨r, hr⟩ := innerProduct_total a a s1 cb circ ga ga rfl hs hcb
  rw [hr, innerProduct_self_val a r ga hr]

end STab
end Graphiq
