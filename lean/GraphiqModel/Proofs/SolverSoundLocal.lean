/-
  Proofs/SolverSoundLocal.lean — one-qubit gate words as *local* row maps.

  Every one-qubit gate of transformation.py acts on a signed Pauli row by looking only at the two bits of its own column and by
  flipping the sign; such a map is `lift q t` for a four-entry table `t : L1` (Proofs/PauliLocal.lean).  Words over {I,H,P,X,Y,Z} (what a
  `OneQubitGateWrapper` holds) therefore act as `lift q (tblW w)`, and two words with the same table act identically.
  This is the interface between `simplify_local_clifford` (matrices up to a scalar) and the tableau semantics.
-/
import GraphiqModel.Model.Solver
import GraphiqModel.Model.Circuit
import GraphiqModel.Proofs.InverseCircuit
namespace Graphiq.Solver
open Graphiq Graphiq.Cliff PRow

theorem xg_ip (q : Nat) (p : PRow) : (PRow.xg q p).ip = p.ip := by
  rw [xg_eq_lift]; rfl

/-- the table of one generator of the one-qubit Clifford library -/
def genTbl : Gen → L1
  | .I => L1.one | .H => tH | .P => tS | .X => tX | .Y => tY | .Z => tZ

/-- the row map `gen1` applies for one generator (`Model/Circuit.lean`) -/
def genRow (g : Gen) (q : Nat) : PRow → PRow :=
  match g with
  | .I => id | .H => PRow.h q | .P => PRow.s q | .X => PRow.xg q | .Y => PRow.yg q | .Z => PRow.zg q

theorem genRow_eq_lift (g : Gen) (q : Nat) (a : PRow) : genRow g q a = lift q (genTbl g) a := by
  cases g
  · exact (lift_one q a).symm
  · exact h_eq_lift q a
  · exact s_eq_lift q a
  · exact xg_eq_lift q a
  · exact yg_eq_lift q a
  · exact zg_eq_lift q a

/-- forward action of a wrapper holding the word `w` on column `q`: the LAST listed gate acts first (`unwrap()` reverses) -/
def actW (q : Nat) (w : List Gen) (a : PRow) : PRow := w.foldr (fun g a => genRow g q a) a

def tblW (w : List Gen) : L1 := w.foldr (fun g t => (genTbl g).comp t) L1.one

theorem actW_eq_lift (q : Nat) (w : List Gen) (a : PRow) : actW q w a = lift q (tblW w) a := by
  induction w with
  | nil => exact (lift_one q a).symm
  | cons g rest ih =>
    show genRow g q (actW q rest a) = lift q ((genTbl g).comp (tblW rest)) a
    rw [ih, genRow_eq_lift, lift_comp]

theorem tblW_append (w1 w2 : List Gen) : tblW (w1 ++ w2) = (tblW w1).comp (tblW w2) := by
  induction w1 with
  | nil => exact (L1.one_comp _).symm
  | cons g rest ih =>
    show (genTbl g).comp (tblW (rest ++ w2)) = ((genTbl g).comp (tblW rest)).comp (tblW w2)
    rw [ih, L1.comp_assoc]

theorem actW_append (q : Nat) (w1 w2 : List Gen) (a : PRow) : actW q (w1 ++ w2) a = actW q w1 (actW q w2 a) := by
  simp [actW, List.foldr_append]

theorem actW_of_tbl (q : Nat) (w1 w2 : List Gen) (h : tblW w1 = tblW w2) (a : PRow) : actW q w1 a = actW q w2 a := by
  rw [actW_eq_lift, actW_eq_lift, h]

theorem genRow_isAut (n : Nat) (g : Gen) (q : Nat) (hq : q < n) : IsAut n (genRow g q) := by
  cases g
  · exact isAut_id n
  · exact isAut_h n q hq
  · exact isAut_s n q hq
  · exact isAut_xg n q hq
  · exact isAut_yg n q hq
  · exact isAut_zg n q hq

theorem actW_isAut (n q : Nat) (hq : q < n) (w : List Gen) : IsAut n (actW q w) := by
  induction w with
  | nil => exact isAut_id n
  | cons g rest ih => exact (genRow_isAut n g q hq).comp ih

theorem lift_ip (q : Nat) (t : L1) (a : PRow) : (lift q t a).ip = a.ip := rfl

theorem actW_ip (q : Nat) (w : List Gen) (a : PRow) : (actW q w a).ip = a.ip := by
  rw [actW_eq_lift]; rfl

/-! ### locality: maps on different columns commute, exactly -/

theorem lift_lift_comm (q q' : Nat) (h : q ≠ q') (t t' : L1) (a : PRow) :
    lift q t (lift q' t' a) = lift q' t' (lift q t a) :=
  Graphiq.Commute.Local.comm (Graphiq.Commute.local_lift q t) (Graphiq.Commute.local_lift q' t')
    (fun _ hj hj' => h (hj.symm.trans hj')) a

theorem lift_cnot_comm (q c t : Nat) (hc : q ≠ c) (ht : q ≠ t) (tb : L1) (a : PRow) :
    lift q tb (PRow.cnot c t a) = PRow.cnot c t (lift q tb a) :=
  Graphiq.Commute.Local.comm (Graphiq.Commute.local_lift q tb) (Graphiq.Commute.local_cnot c t)
    (fun _ hj hj' => hj'.elim (fun e => hc (hj.symm.trans e)) (fun e => ht (hj.symm.trans e))) a

/-- tables that fix the identity column (every word's table does: see `tblW_fix`) -/
def L1.Fix (t : L1) : Prop := t.t00 = (false, false, false)

theorem lift_Zq_ne (n q e : Nat) (h : e ≠ q) (t : L1) (ht : t.Fix) (sg : Bool) : EqOn n (lift q t (Zq e sg)) (Zq e sg) := by
  have hq : q ≠ e := Ne.symm h
  have e0 : t.ap false false = (false, false, false) := ht
  refine ⟨fun j _ => ?_, ?_, ?_⟩
  · by_cases e1 : j = q
    · subst e1; simp [lift, Zq, hq, e0]
    · simp [lift, Zq, e1]
  · simp [lift, Zq, hq, e0]
  · rfl

theorem lift_one_row (n q : Nat) (t : L1) (ht : t.Fix) : EqOn n (lift q t PRow.one) PRow.one := by
  have e0 : t.ap false false = (false, false, false) := ht
  refine ⟨fun j _ => ?_, ?_, ?_⟩
  · by_cases e1 : j = q <;> simp [lift, PRow.one, e1, e0]
  · simp [lift, PRow.one, e0]
  · rfl

theorem fix_comp (a b : L1) (ha : a.Fix) (hb : b.Fix) : (a.comp b).Fix := by
  have e1 : a.ap false false = (false, false, false) := ha
  have e2 : b.ap false false = (false, false, false) := hb
  show (a.comp b).ap false false = _
  simp [L1.comp, e1, e2]

theorem genTbl_fix (g : Gen) : (genTbl g).Fix := by cases g <;> (unfold L1.Fix; decide)

theorem tblW_fix (w : List Gen) : (tblW w).Fix := by
  induction w with
  | nil => unfold L1.Fix; decide
  | cons g rest ih => exact fix_comp _ _ (genTbl_fix g) ih

end Graphiq.Solver
