/-
  C04 — generated and mutated circuits respect the photonic emission constraints.

  The theorems of the property; the lemmas they are assembled from are in Proofs/Wire.lean and Proofs/EvoMoves.lean.

  Objects.  `Wire.Circuit` is the wire-level view of a `CircuitDAG` (per-register sequences of node ids, a node table,
  the `_node_id` counter).  `c.step m` is the transition system of the mutation moves of `EvolutionarySolver` /
  `HybridEvolutionarySolver`: it computes the candidate set of the move exactly as the Python filters do and performs
  the edit for the candidate carried by `m` (`none` if `m` is not a candidate).  `initialization ea ma` is
  `EvolutionarySolver.initialization`; `getEmissionAssignment np ne draws` is `get_emission_assignment` driven by the
  results of `np.random.randint`.

  `EmitInv c` := `c.WF` (node ids bounded by `_node_id`, every node exactly on the wires of its quantum registers,
  wires duplicate-free) ∧ `c.Acyclic` (the DAG edge relation induced by the wires, `_in`/`_out` nodes included, has no
  cycle — this is what `validate()` asserts) ∧ `c.EmitC` (no two-qubit operation between two photons; the first node on
  every photon wire is a `Fixed` CNOT from an emitter onto that photon; every later node on that wire is a one-qubit
  gate on it or a classically controlled operation with an emitter control and this photon as target).

  All theorems are for every number of registers, every circuit and every finite history.  What is *not* a theorem:
  that the model is the code (correspondence run, see harness/c04.py).  For the deterministic (time-reversed) and the
  alternate-target solver the theorem is about their *construction order* (`solverCircuit`: every operation is spliced
  in directly after the input nodes, nothing touches a photon once its emission has been placed, except one-qubit gates
  appended at the end); which gates the tableau arithmetic selects is not modelled — the run checks that every
  observed construction history is accepted by `solverCircuit` and yields exactly the returned circuit.
-/
import GraphiqModel.Proofs.EvoMoves
namespace Graphiq.C04
open Graphiq Graphiq.Wire

/-! ## 1. initial population -/

/-- `get_emission_assignment` assigns every photon an existing emitter (`assignment[i] < n_emitter`) and returns one
    entry per photon, whatever the random draws were -/
theorem emission_assignment_in_range (np ne : Nat) (draws ea : List Nat) (hne : 1 ≤ ne) (hnp : 1 ≤ np)
    (h : getEmissionAssignment np ne draws = some ea) : (∀ x, x ∈ ea → x < ne) ∧ ea.length = np := by
  unfold getEmissionAssignment at h
  by_cases h1 : ne = 1
  · rw [if_pos h1] at h
    cases h
    exact ⟨fun x hx => by rw [(List.mem_replicate.mp hx).2]; exact hne, List.length_replicate⟩
  · rw [if_neg h1] at h
    have h0 : EAInv ne ⟨[0], 2, 1, draws, true⟩ 1 :=
      ⟨fun x hx => by rw [List.mem_singleton.mp hx]; exact hne, Nat.le_refl 1, hne, show 2 ≤ ne by omega, fun _ => rfl, fun _ => rfl⟩
    have hfold := Loop.foldl_ind (l := List.range' 1 (np - 1)) (fun k s => EAInv ne s (k + 1)) (fun k s i hi hI =>
      eaStep_inv np ne s (k + 1) i (by have := List.mem_range'_1.mp (List.mem_of_getElem? hi); omega) hI) h0
    generalize (List.range' 1 (np - 1)).foldl (eaStep np ne) ⟨[0], 2, 1, draws, true⟩ = s at h hfold
    by_cases hok : s.ok = true
    · rw [if_pos hok] at h
      cases h
      refine ⟨hfold.lt, ?_⟩
      rw [hfold.len hok, List.length_range']
      omega
    · rw [if_neg hok] at h
      cases h

/-- `initialization` never raises on in-range assignments and its circuit satisfies the invariant -/
theorem initial_circuit_satisfies_invariant (ea ma : List Nat) (hea : ∀ x, x ∈ ea → x < ma.length)
    (hma : ∀ x, x ∈ ma → x < ea.length) :
    ∃ c, initialization ea ma = Except.ok c ∧ c.EmitInv ∧ c.ne = ma.length ∧ c.np = ea.length := by
  obtain ⟨c1, hc1, hinv1⟩ := init_photon_loop ma.length ea.length ea _ (InitInv_empty _ _) hea (Nat.le_refl _)
  obtain ⟨c2, hc2, hinv2⟩ := init_mcr_loop ma.length ea.length ma c1 hinv1 hma (Nat.le_refl _)
  refine ⟨c2, ?_, hinv2.inv.emitInv fun j hj => List.mem_range.mpr (hinv2.hnp ▸ hj), hinv2.hne, hinv2.hnp⟩
  unfold initialization
  rw [hc1]
  exact hc2

/-- the initial circuit of `population_initialization` for any draws of the two assignment functions
    (`get_measurement_assignment` is `randint(n_photon, size=n_emitter)`, i.e. any list of `ne` entries below `np`) -/
theorem initial_population_member_satisfies_invariant (np ne : Nat) (draws ea ma : List Nat) (hne : 1 ≤ ne) (hnp : 1 ≤ np)
    (hea : getEmissionAssignment np ne draws = some ea) (hlen : ma.length = ne) (hma : ∀ x, x ∈ ma → x < np) :
    ∃ c, initialization ea ma = Except.ok c ∧ c.EmitInv := by
  obtain ⟨hlt, hl⟩ := emission_assignment_in_range np ne draws ea hne hnp hea
  obtain ⟨c, hc, hinv, _⟩ := initial_circuit_satisfies_invariant ea ma (by rw [hlen]; exact hlt) (by rw [hl]; exact hma)
  exact ⟨c, hc, hinv⟩

/-- every circuit the deterministic solver (and the alternate-target solver on top of it) can build in its construction
    order — any choice of gates, any number of emitters — satisfies the invariant -/
theorem deterministic_solver_circuit_satisfies_invariant (ne np : Nat) (ops : List BuildOp) (c : Circuit)
    (h : solverCircuit ne np ops = some c) : c.EmitInv := by
  unfold solverCircuit at h
  split at h
  · rename_i s hrun
    split at h
    · rename_i hall
      cases h
      obtain ⟨hinv, hnp, _⟩ := BuildSt.run_inv _ s ops (BInv_empty ne np) hrun
      simp only [List.all_eq_true, List.mem_range, decide_eq_true_eq] at hall
      exact hinv.emitInv fun j hj => hall j (by rw [hnp] at hj; exact hj)
    · cases h
  · cases h

/-! ## 2. moves and histories -/

/-- every allowed move (add emitter gate, add photon gate, replace photon / emitter gate, add emitter CNOT, remove op,
    add measure-and-reset — with the fall-through behaviour of the Python) preserves the invariant -/
theorem move_preserves_invariant (c : Circuit) (m : Move) (c' : Circuit) (hinv : c.EmitInv) (h : c.step m = some c') :
    c'.EmitInv :=
  (step_edit h).preserves hinv

/-- … hence every finite history of moves does -/
theorem history_preserves_invariant (c : Circuit) (ms : List Move) (c' : Circuit) (hinv : c.EmitInv)
    (h : c.run ms = some c') : c'.EmitInv :=
  run_induction (fun _ => rfl) (fun _ _ _ => rfl) move_preserves_invariant ms c c' hinv h

/-- from any initial population member, after any finite sequence of moves -/
theorem evolved_circuit_satisfies_invariant (ea ma : List Nat) (hea : ∀ x, x ∈ ea → x < ma.length)
    (hma : ∀ x, x ∈ ma → x < ea.length) (c0 c' : Circuit) (ms : List Move)
    (h0 : initialization ea ma = Except.ok c0) (h : c0.run ms = some c') : c'.EmitInv := by
  obtain ⟨c, hc, hinv, _⟩ := initial_circuit_satisfies_invariant ea ma hea hma
  rw [h0] at hc
  cases hc
  exact history_preserves_invariant c0 ms c' hinv h

/-- the hybrid solver: a deterministic solver circuit, then any finite sequence of moves -/
theorem hybrid_evolved_circuit_satisfies_invariant (ne np : Nat) (ops : List BuildOp) (c0 c' : Circuit) (ms : List Move)
    (h0 : solverCircuit ne np ops = some c0) (h : c0.run ms = some c') : c'.EmitInv :=
  history_preserves_invariant c0 ms c' (deterministic_solver_circuit_satisfies_invariant ne np ops c0 h0) h

/-- a `Fixed` two-qubit operation (emission CNOT, measure-and-reset placed at initialisation) is never removed,
    changed or taken off one of its wires by a move … -/
theorem fixed_operation_survives_move (c : Circuit) (m : Move) (c' : Circuit) (hinv : c.EmitInv) (h : c.step m = some c')
    (n : Nat) (op : Op) (hn : c.node n = some op) (hfix : op.fixed = true) (hk : op.kind.isTwoQubit = true) :
    c'.node n = some op ∧ ∀ r, n ∈ c.wire r → n ∈ c'.wire r :=
  (step_edit h).keeps hinv.1 hn hfix hk

/-- … nor by a history of moves -/
theorem fixed_operation_survives_history (c : Circuit) (ms : List Move) (c' : Circuit) (hinv : c.EmitInv)
    (h : c.run ms = some c') (n : Nat) (op : Op) (hn : c.node n = some op) (hfix : op.fixed = true)
    (hk : op.kind.isTwoQubit = true) : c'.node n = some op ∧ ∀ r, n ∈ c.wire r → n ∈ c'.wire r := by
  refine (run_induction (P := fun c1 => c1.EmitInv ∧ Keeps c c1 n op) (fun _ => rfl) (fun _ _ _ => rfl) ?_ ms c c'
    ⟨hinv, hn, fun _ hr => hr⟩ h).2
  intro c1 m c2 ⟨hinv1, hn1, hw1⟩ h1
  obtain ⟨hn2, hw2⟩ := fixed_operation_survives_move c1 m c2 hinv1 h1 n op hn1 hfix hk
  exact ⟨move_preserves_invariant c1 m c2 hinv1 h1, hn2, fun r hr => hw2 r (hw1 r hr)⟩

/-! ## 3. which edge pairs admit a two-qubit insertion -/

/-- the ancestor / descendant sets computed for `find_incompatible_edges` are always complete on a well-formed circuit
    (the executable closedness test that `step` performs never fails) -/
theorem incompatible_edge_search_is_complete (c : Circuit) (hwf : c.WF) (e : Edge) : (c.incompatInfo e).closed = true := by
  have hs : ∀ x y, y ∈ succsIn c.edgesV x → y ∈ c.universe := fun x y h =>
    (E_universe hwf ((mem_succs c x y).mp h)).2
  have hp : ∀ x y, y ∈ predsIn c.edgesV x → y ∈ c.universe := fun x y h =>
    (E_universe hwf ((mem_preds c y x).mp h)).1
  obtain ⟨hd1, hd2⟩ := search_closed c (succsIn c.edgesV) hs (c.dst e)
  obtain ⟨ha1, ha2⟩ := search_closed c (predsIn c.edgesV) hp (c.src e)
  simp only [Circuit.incompatInfo, Bool.and_eq_true, List.all_eq_true, decide_eq_true_eq]
  exact ⟨⟨⟨ha1, hd1⟩, ha2⟩, hd2⟩

/-- soundness of `find_incompatible_edges`: an edge `e2` outside the incompatible set of `e1` is a different edge, lies
    on a different wire, and neither head reaches the other's tail … -/
theorem compatible_edges_are_safe (c : Circuit) (hwf : c.WF) (e1 e2 : Edge) (hv1 : c.validReg e1.r = true)
    (hv2 : c.validReg e2.r = true) (hp1 : e1.pos ≤ (c.wire e1.r).length) (hp2 : e2.pos ≤ (c.wire e2.r).length)
    (hinc : c.isIncompatible e1 (c.incompatInfo e1) e2 = false) :
    e1.r ≠ e2.r ∧ ¬ Relation.ReflTransGen c.E (c.dst e1) (c.src e2) ∧ ¬ Relation.ReflTransGen c.E (c.dst e2) (c.src e1) := by
  obtain ⟨hne, h12, h21⟩ := compatible_of_not_incompatible c e1 e2 hv2 (incompatible_edge_search_is_complete c hwf e1) hinc
  exact ⟨distinct_wires_of_compatible c e1 e2 hv1 hp1 hp2 hne h12 h21, h12, h21⟩

/-- … and inserting a node on edges none of whose heads reaches any of their tails keeps the DAG acyclic -/
theorem insertion_on_safe_edges_is_acyclic (c : Circuit) (op : Op) (es : List Edge) (hwf : c.WF) (hac : c.Acyclic)
    (hnd : (es.map (·.r)).Nodup)
    (hsafe : ∀ e1, e1 ∈ es → ∀ e2, e2 ∈ es → ¬ Relation.ReflTransGen c.E (c.dst e2) (c.src e1)) :
    (c.insertAt op es).Acyclic :=
  acyclic_insertAt c op es hwf hac hnd hsafe

/-- removing a node never creates a cycle -/
theorem removal_is_acyclic (c : Circuit) (n : Nat) (hac : c.Acyclic) : (c.removeOp n).Acyclic :=
  acyclic_removeOp c n hac

/-! ## 4. the executable check run on every implementation circuit -/

/-- the Boolean check `emitCB` (evaluated by the driver on every circuit the solvers return) implies the emission
    constraints -/
theorem checker_is_sound (c : Circuit) (hwf : c.WF) (h : c.emitCB = true) : c.EmitC := by
  unfold Circuit.emitCB at h
  simp only [Bool.and_eq_true, List.all_eq_true, List.mem_range] at h
  obtain ⟨hA, hB⟩ := h
  constructor
  · intro n op hnode r1 r2 hq
    have := hA n (mem_nodeIds c hwf n op hnode)
    rw [hnode] at this
    simp only [hq, Bool.not_eq_true', Bool.and_eq_false_iff, decide_eq_false_iff_not] at this
    rintro ⟨h1, h2⟩
    rcases this with h | h
    · exact h h1
    · exact h h2
  · intro j hj
    have := hB j hj
    split at this
    · rename_i h' rest hw
      simp only [Bool.and_eq_true, List.all_eq_true] at this
      exact ⟨h', rest, hw, isEmissionB_sound c j h' this.1, fun n hn => laterOkB_sound c j n (this.2 n hn)⟩
    · cases this

/-! ## 5. non-vacuity: concrete objects satisfying the hypotheses -/

/-- three photons, two emitters: `initialization([0, 0, 1], [1, 0])` -/
def exC : Circuit := match initialization [0, 0, 1] [1, 0] with
  | .ok c => c
  | .error _ => default

example : initialization [0, 0, 1] [1, 0] = Except.ok exC := by
  obtain ⟨c, hc, _⟩ := initial_circuit_satisfies_invariant [0, 0, 1] [1, 0] (by decide) (by decide)
  simp only [exC, hc]

/-- the example circuit satisfies the invariant (hypothesis of the move theorems) -/
example : exC.EmitInv := by
  obtain ⟨c, hc, hinv, _⟩ := initial_circuit_satisfies_invariant [0, 0, 1] [1, 0] (by decide) (by decide)
  simp only [exC, hc]
  exact hinv

example : getEmissionAssignment 3 2 [0] = some [0, 0, 1] := by decide +kernel
example : exC.wire ⟨.p, 0⟩ = [1, 2, 8] ∧ exC.wire ⟨.e, 0⟩ = [1, 3, 7] ∧ exC.wire ⟨.e, 1⟩ = [5, 8] := by decide +kernel

def exMove1 : Move := ⟨.addEmitterCnot, .pair ⟨⟨.e, 0⟩, 1⟩ ⟨⟨.e, 1⟩, 0⟩, 0⟩
def exMove2 : Move := ⟨.addMeasurementCnotAndReset, .pair ⟨⟨.e, 0⟩, 1⟩ ⟨⟨.p, 2⟩, 1⟩, 0⟩
def exMove3 : Move := ⟨.addPhotonOneQubitOp, .node 2, 5⟩
def exMove4 : Move := ⟨.removeOp, .node 9, 0⟩
def exMove5 : Move := ⟨.addMeasurementCnotAndReset, .pair ⟨⟨.e, 0⟩, 2⟩ ⟨⟨.p, 2⟩, 1⟩, 0⟩
def exMove6 : Move := ⟨.addPhotonOneQubitOp, .edge ⟨⟨.p, 2⟩, 1⟩, 5⟩

/-- allowed moves exist (hypothesis `c.step m = some c'`), also in sequence -/
example : (exC.step exMove1).isSome = true ∧ (exC.step exMove2).isSome = true ∧ (exC.step exMove3).isSome = true := by decide +kernel
example : (exC.run [exMove1, exMove5, exMove6, exMove3, exMove4]).isSome = true := by decide +kernel

/-- a refused choice: after a CNOT from `e0` to `e1`, a CNOT placed before it on `e0` and after it on `e1` would
    close a cycle; `find_incompatible_edges` excludes the pair and `step` returns `none` -/
example : ((exC.step exMove1).bind fun c => c.step ⟨.addEmitterCnot, .pair ⟨⟨.e, 0⟩, 0⟩ ⟨⟨.e, 1⟩, 1⟩, 0⟩).isSome = false := by
  decide +kernel

/-- removing a `Fixed` node is not a move -/
example : (exC.step ⟨.removeOp, .node 1, 0⟩).isSome = false := by decide +kernel

/-- a `Fixed` two-qubit node exists in the example (hypotheses of `fixed_operation_survives_move`) -/
example : (exC.node 1).map (fun op => (op.fixed, op.kind.isTwoQubit)) = some (true, true) := by decide +kernel

example : exC.emitCB = true ∧ exC.wfB = true ∧ exC.acyclicB = true := by decide +kernel

/-- a construction history of the time-reversed solver (3-qubit path graph: one emitter) is accepted, one that touches
    a photon after its emission is refused -/
def exBuild : List BuildOp :=
  [.frontGate ⟨.p, 2⟩ [.H, .I], .frontGate ⟨.e, 0⟩ [.H, .I], .emission 0 2, .frontGate ⟨.e, 0⟩ [.H, .I],
   .replaceFront ⟨.e, 0⟩ [.H, .X], .emission 0 1, .frontGate ⟨.e, 0⟩ [.H, .I], .removeFront ⟨.e, 0⟩, .mcr 0 0,
   .emission 0 0, .appendGate 1 .Z]

example : (solverCircuit 1 3 exBuild).isSome = true := by decide +kernel
example : (solverCircuit 1 3 (exBuild ++ [.frontGate ⟨.p, 2⟩ [.H]])).isSome = false := by decide +kernel
example : (solverCircuit 1 3 (exBuild.take 6)).isSome = false := by decide +kernel

end Graphiq.C04
