/-
  Proofs/Tableau.lean — the Clifford-tableau model operation by operation: each API operation keeps the tableau valid
  (symplectic pairing); gates, Z measurement and tabulation keep its stabilizer rows real (the other operations: TabSpecOps);
  what an accepted call returned and which argument check it passed (`applyOp_inv`, `removeQubit?_ok`,
  `partialTrace_go_cons_ok`); `z_measurement_gate` and `remove_qubit` branch by branch as equations (`zMeasure_random_eq`,
  `zMeasure_det_eq`, `removeQubit_ok`); the stabilizer group as a span (`InSpan`; its lemmas are in Proofs/PauliSpan.lean).
-/
import GraphiqModel.Model.Tableau
import GraphiqModel.Proofs.PauliCols
import GraphiqModel.Proofs.Tabulate
import GraphiqModel.Proofs.Loop
namespace Graphiq
open PRow

namespace Tab

/-- the tableau invariant ("symplectic, every destabilizer paired to its stabilizer"):
    rows `i`, `k` anticommute iff they are a destabilizer/stabilizer pair -/
def Valid (t : Tab) : Prop :=
  ∀ i k, i < 2 * t.n → k < 2 * t.n → sp t.n (t.row i) (t.row k) = decide (i + t.n = k ∨ k + t.n = i)

def StabReal (t : Tab) : Prop := ∀ i, t.n ≤ i → i < 2 * t.n → (t.row i).ip = false

theorem isSymplectic_iff (t : Tab) : t.isSymplectic = true ↔ t.Valid := by
  unfold isSymplectic Valid
  simp only [List.all_eq_true, List.mem_range, beq_iff_eq]
  constructor
  · intro h i k hi hk; exact h i hi k hk
  · intro h i hi k hk; exact h i k hi hk

/-- validity block by block: destabilizers commute with each other, stabilizers commute with each other, and
    destabilizer `j` anticommutes with stabilizer `j'` exactly when `j = j'` -/
theorem valid_iff_blocks (t : Tab) : t.Valid ↔
    ∀ j j', j < t.n → j' < t.n →
      sp t.n (t.row j) (t.row j') = false ∧ sp t.n (t.row (j + t.n)) (t.row (j' + t.n)) = false ∧
      sp t.n (t.row j) (t.row (j' + t.n)) = decide (j = j') := by
  constructor
  · intro hv j j' hj hj'
    refine ⟨?_, ?_, ?_⟩
    · rw [hv j j' (by omega) (by omega)]; exact decide_eq_false (by omega)
    · rw [hv _ _ (by omega) (by omega)]; exact decide_eq_false (by omega)
    · rw [hv _ _ (by omega) (by omega)]; exact decide_eq_decide.mpr (by omega)
  · intro hb i k hi hk
    by_cases h1 : i < t.n <;> by_cases h2 : k < t.n
    · rw [(hb i k h1 h2).1]; exact (decide_eq_false (by omega)).symm
    · obtain ⟨k', rfl⟩ := Nat.exists_eq_add_of_le' (Nat.le_of_not_lt h2)
      rw [(hb i k' h1 (by omega)).2.2]; exact decide_eq_decide.mpr (by omega)
    · obtain ⟨i', rfl⟩ := Nat.exists_eq_add_of_le' (Nat.le_of_not_lt h1)
      rw [sp_comm, (hb k i' h2 (by omega)).2.2]; exact decide_eq_decide.mpr (by omega)
    · obtain ⟨i', rfl⟩ := Nat.exists_eq_add_of_le' (Nat.le_of_not_lt h1)
      obtain ⟨k', rfl⟩ := Nat.exists_eq_add_of_le' (Nat.le_of_not_lt h2)
      rw [(hb i' k' (by omega) (by omega)).2.1]; exact (decide_eq_false (by omega)).symm

/-! ### maps of rows that preserve the symplectic product; gates -/

theorem sameBits_refl (n : Nat) (a : PRow) : SameBits n a a := fun _ _ => ⟨rfl, rfl⟩

theorem valid_of_isometry {t t' : Tab} (f : PRow → PRow) (hf : ∀ a b, sp t.n (f a) (f b) = sp t.n a b) (hv : t.Valid)
    (hn : t'.n = t.n) (h : ∀ i, i < 2 * t.n → SameBits t.n (t'.row i) (f (t.row i))) : t'.Valid := by
  intro i k hi hk
  rw [hn] at hi hk ⊢
  rw [sp_congr _ _ _ _ _ (h i hi) (h k hk), hf]
  exact hv i k hi hk

theorem map_valid (t : Tab) (f : PRow → PRow) (hf : IsAut t.n f) (hv : t.Valid) : (t.map f).Valid :=
  valid_of_isometry f hf.sp hv rfl fun _ _ => sameBits_refl _ _

theorem hGate_valid (t : Tab) (q : Nat) (hq : q < t.n) (hv : t.Valid) : (t.hGate q).Valid :=
  map_valid t _ (isAut_h t.n q hq) hv
theorem sGate_valid (t : Tab) (q : Nat) (hq : q < t.n) (hv : t.Valid) : (t.sGate q).Valid :=
  map_valid t _ (isAut_s t.n q hq) hv
theorem sdgGate_valid (t : Tab) (q : Nat) (hq : q < t.n) (hv : t.Valid) : (t.sdgGate q).Valid :=
  map_valid t _ (isAut_sdg t.n q hq) hv
theorem xGate_valid (t : Tab) (q : Nat) (hq : q < t.n) (hv : t.Valid) : (t.xGate q).Valid :=
  map_valid t _ (isAut_xg t.n q hq) hv
theorem yGate_valid (t : Tab) (q : Nat) (hq : q < t.n) (hv : t.Valid) : (t.yGate q).Valid :=
  map_valid t _ (isAut_yg t.n q hq) hv
theorem zGate_valid (t : Tab) (q : Nat) (hq : q < t.n) (hv : t.Valid) : (t.zGate q).Valid :=
  map_valid t _ (isAut_zg t.n q hq) hv
theorem cnotGate_valid (t : Tab) (c tg : Nat) (hc : c < t.n) (ht : tg < t.n) (hct : c ≠ tg) (hv : t.Valid) :
    (t.cnotGate c tg).Valid :=
  map_valid t _ (isAut_cnot t.n c tg hc ht hct) hv
theorem czGate_valid (t : Tab) (c tg : Nat) (hc : c < t.n) (ht : tg < t.n) (hct : c ≠ tg) (hv : t.Valid) :
    (t.czGate c tg).Valid :=
  map_valid t _ (isAut_cz t.n c tg hc ht hct) hv

/-! ### measurement, random branch (`p` the pivot row, `d` its destabilizer partner `p - n`, `o` any other row, `g` the old pivot row) -/

theorem pivot_spec (t : Tab) (q p : Nat) (h : t.pivot q = some p) :
    t.n ≤ p ∧ p < 2 * t.n ∧ (t.row p).x q = true := findFrom_spec _ _ _ p h

/-- multiplying by the pivot `g` whenever a row has an X on `q` -/
def addIf (n : Nat) (c : Bool) (g a : PRow) : PRow := if c then PRow.mul n g a else a

theorem meas_pair (n : Nat) (g t1 t2 : PRow) (a1 a2 : Bool)
    (h1 : sp n t1 g = false) (h2 : sp n t2 g = false) :
    sp n (addIf n a1 g t1) (addIf n a2 g t2) = sp n t1 t2 := by
  have h1' : sp n g t1 = false := by rw [sp_comm]; exact h1
  have h2' : sp n g t2 = false := by rw [sp_comm]; exact h2
  cases a1 <;> cases a2 <;>
    simp [addIf, sp_mul_left, sp_mul_right, sp_self, h1, h2']

theorem meas_commZ (n q : Nat) (g t : PRow) (s : Bool) (hq : q < n) (hg : g.x q = true) :
    sp n (addIf n (t.x q) g t) (Zq q s) = false := by
  rw [sp_Zq n q _ s hq]
  unfold addIf
  cases h : t.x q <;> simp [h, hg]

theorem meas_commG (n : Nat) (g t : PRow) (a : Bool) (h : sp n t g = false) :
    sp n (addIf n a g t) g = false := by
  cases a <;> simp [addIf, sp_mul_left, sp_self, h]

theorem mr_row_p (t : Tab) (q p : Nat) (o : Bool) :
    SameBits t.n ((t.measRandom q p o).row p) (Zq q) := by
  intro j _; simp [measRandom, Zq]

theorem mr_row_d (t : Tab) (q p i : Nat) (o : Bool) (h1 : i ≠ p) (h2 : i + t.n = p) :
    SameBits t.n ((t.measRandom q p o).row i) (t.row p) := by
  intro j _; simp [measRandom, h1, h2]

theorem mr_row_o (t : Tab) (q p i : Nat) (o : Bool) (h1 : i ≠ p) (h2 : i + t.n ≠ p) :
    (t.measRandom q p o).row i = addIf t.n ((t.row i).x q) (t.row p) (t.row i) := by
  simp only [measRandom, h1, h2, if_false, addIf]
  by_cases hx : (t.row i).x q = true <;> simp [hx, h1]

/-- every new row is `Z_q` (row `p`), the old pivot's bits (its destabilizer partner, `mr_row_d`) or `addIf … g r` (the others,
    `mr_row_o`); the nine products of the three kinds are `sp_self`, `sp_Zq`, `meas_commZ`, `meas_commG`, `meas_pair` -/
theorem measRandom_valid (t : Tab) (q p : Nat) (o : Bool)
    (hv : t.Valid) (hq : q < t.n) (hp1 : t.n ≤ p) (hp2 : p < 2 * t.n)
    (hx : (t.row p).x q = true) : (t.measRandom q p o).Valid := by
  intro i k hi hk
  have hn : (t.measRandom q p o).n = t.n := rfl
  rw [hn] at hi hk ⊢
  have hg : ∀ j, j < 2 * t.n → j + t.n ≠ p → j ≠ p → sp t.n (t.row j) (t.row p) = false := by
    intro j hj h1 h2
    rw [hv j p hj hp2]
    exact decide_eq_false (by omega)
  have R := sameBits_refl t.n
  by_cases hip : i = p
  · by_cases hkp : k = p
    · subst hip; subst hkp; rw [sp_self]
      exact (decide_eq_false (by omega)).symm
    · by_cases hkd : k + t.n = p
      · subst hip
        rw [sp_congr _ _ _ _ _ (mr_row_p t q i o) (mr_row_d t q i k o hkp hkd), sp_comm, sp_Zq _ _ _ _ hq, hx]
        exact (decide_eq_true (by omega)).symm
      · subst hip
        rw [sp_congr _ _ _ _ _ (mr_row_p t q i o) (R _), mr_row_o t q i k o hkp hkd, sp_comm,
            meas_commZ t.n q (t.row i) (t.row k) false hq hx]
        exact (decide_eq_false (by omega)).symm
  · by_cases hid : i + t.n = p
    · by_cases hkp : k = p
      · subst hkp
        rw [sp_congr _ _ _ _ _ (mr_row_d t q k i o hip hid) (mr_row_p t q k o), sp_Zq _ _ _ _ hq, hx]
        exact (decide_eq_true (by omega)).symm
      · by_cases hkd : k + t.n = p
        · rw [sp_congr _ _ _ _ _ (mr_row_d t q p i o hip hid) (mr_row_d t q p k o hkp hkd), sp_self]
          exact (decide_eq_false (by omega)).symm
        · rw [sp_congr _ _ _ _ _ (mr_row_d t q p i o hip hid) (R _), mr_row_o t q p k o hkp hkd, sp_comm,
              meas_commG t.n (t.row p) (t.row k) _ (hg k hk hkd hkp)]
          exact (decide_eq_false (by omega)).symm
    · by_cases hkp : k = p
      · subst hkp
        rw [sp_congr _ _ _ _ _ (R _) (mr_row_p t q k o), mr_row_o t q k i o hip hid,
            meas_commZ t.n q (t.row k) (t.row i) false hq hx]
        exact (decide_eq_false (by omega)).symm
      · by_cases hkd : k + t.n = p
        · rw [sp_congr _ _ _ _ _ (R _) (mr_row_d t q p k o hkp hkd), mr_row_o t q p i o hip hid,
              meas_commG t.n (t.row p) (t.row i) _ (hg i hi hid hip)]
          exact (decide_eq_false (by omega)).symm
        · rw [mr_row_o t q p i o hip hid, mr_row_o t q p k o hkp hkd,
              meas_pair t.n (t.row p) (t.row i) (t.row k) _ _ (hg i hi hid hip) (hg k hk hkd hkp)]
          exact hv i k hi hk

theorem zMeasure_random_eq (t : Tab) (q p : Nat) (o : Bool) (hp : t.pivot q = some p) :
    t.zMeasure q o = (t.measRandom q p o, o, p) := by
  simp [zMeasure, hp]

theorem zMeasure_det_eq (t : Tab) (q : Nat) (o : Bool) (hp : t.pivot q = none) :
    t.zMeasure q o = (t, (t.measScratch q).r, 0) := by
  simp [zMeasure, hp]

theorem zMeasure_n (t : Tab) (q : Nat) (o : Bool) : (t.zMeasure q o).1.n = t.n := by
  unfold zMeasure; split <;> rfl

theorem zMeasure_valid (t : Tab) (q : Nat) (o : Bool) (hq : q < t.n) (hv : t.Valid) :
    (t.zMeasure q o).1.Valid := by
  unfold zMeasure
  split
  · next p hp =>
    obtain ⟨h1, h2, h3⟩ := pivot_spec t q p hp
    exact measRandom_valid t q p o hv hq h1 h2 h3
  · exact hv

theorem setPhase_valid (t : Tab) (p : Nat) (r ip : Bool) (hv : t.Valid) :
    Valid { t with row := upd t.row p { (t.row p) with r := r, ip := ip } } :=
  valid_of_isometry id (fun _ _ => rfl) hv rfl fun j _ m _ => by
    show ((upd t.row p { (t.row p) with r := r, ip := ip }) j).x m = _ ∧ _
    unfold upd
    by_cases h : j = p <;> simp [h]

theorem resetZ_n (t : Tab) (q : Nat) (intended o : Bool) : (t.resetZ q intended o).n = t.n := by
  unfold resetZ
  have := zMeasure_n t q o
  generalize t.zMeasure q o = m at *
  obtain ⟨t1, outcome, p⟩ := m
  simp only at this ⊢
  split <;> split <;> exact this

theorem resetZ_valid (t : Tab) (q : Nat) (intended o : Bool) (hq : q < t.n) (hv : t.Valid) :
    (t.resetZ q intended o).Valid := by
  unfold resetZ
  have hn := zMeasure_n t q o
  have hv1 := zMeasure_valid t q o hq hv
  generalize t.zMeasure q o = m at *
  obtain ⟨t1, outcome, p⟩ := m
  simp only at hn hv1 ⊢
  have hv2 : Valid (if p ≠ 0 then { t1 with row := upd t1.row p { (t1.row p) with ip := false } } else t1) := by
    split
    · exact setPhase_valid t1 p (t1.row p).r false hv1
    · exact hv1
  have hn2 : (if p ≠ 0 then { t1 with row := upd t1.row p { (t1.row p) with ip := false } } else t1).n = t.n := by
    split <;> exact hn
  split
  · exact hv2
  · exact xGate_valid _ q (hn2 ▸ hq) hv2

theorem resetX_valid (t : Tab) (q : Nat) (intended o : Bool) (hq : q < t.n) (hv : t.Valid) :
    (t.resetX q intended o).Valid :=
  hGate_valid _ q (by rw [resetZ_n]; exact hq) (resetZ_valid t q intended o hq hv)

theorem resetY_valid (t : Tab) (q : Nat) (intended o : Bool) (hq : q < t.n) (hv : t.Valid) :
    (t.resetY q intended o).Valid :=
  sGate_valid _ q (by show q < ((t.resetZ q intended o).hGate q).n; exact (resetZ_n t q intended o) ▸ hq)
    (hGate_valid _ q (by rw [resetZ_n]; exact hq) (resetZ_valid t q intended o hq hv))

/-! ### the stabilizer rows stay real -/

theorem map_real (t : Tab) (f : PRow → PRow) (hf : ∀ a, (f a).ip = a.ip) (hr : t.StabReal) : (t.map f).StabReal := by
  intro i h1 h2
  show (f (t.row i)).ip = false
  rw [hf]; exact hr i h1 h2

theorem measRandom_real (t : Tab) (hv : t.Valid) (hr : t.StabReal) (q p : Nat) (o : Bool)
    (hp1 : t.n ≤ p) (hp2 : p < 2 * t.n) : (t.measRandom q p o).StabReal := by
  intro i hi1 hi2
  have hn : (t.measRandom q p o).n = t.n := rfl
  rw [hn] at hi1 hi2
  by_cases hip : i = p
  · subst hip
    simp only [measRandom, if_true]
    exact hr i hp1 hp2
  · have h2 : i + t.n ≠ p := by omega
    rw [mr_row_o t q p i o hip h2]
    unfold addIf
    split
    · exact mul_real t.n _ _ (hr p hp1 hp2) (hr i hi1 hi2)
        (by rw [hv p i hp2 hi2]; exact decide_eq_false (by omega))
    · exact hr i hi1 hi2

theorem zMeasure_real (t : Tab) (q : Nat) (o : Bool) (hv : t.Valid) (hr : t.StabReal) : (t.zMeasure q o).1.StabReal := by
  cases hp : t.pivot q with
  | some p =>
    obtain ⟨h1, h2, _⟩ := pivot_spec t q p hp
    rw [zMeasure_random_eq t q p o hp]
    exact measRandom_real t hv hr q p o h1 h2
  | none => rw [zMeasure_det_eq t q o hp]; exact hr

/-! ### initial states -/

theorem ket0_valid (n : Nat) : (ket0 n).Valid := by
  rw [valid_iff_blocks]
  intro j j' hj hj'
  have hj2 : ¬ (j + n < n) := by omega
  have hj2' : ¬ (j' + n < n) := by omega
  have hn : (ket0 n).n = n := rfl
  rw [hn] at hj hj' ⊢
  simp only [ket0, if_pos hj, if_pos hj', if_neg hj2, if_neg hj2', Nat.add_sub_cancel]
  rw [sp_Xq n j' _ false hj', sp_Zq n j' _ false hj', sp_Zq n j' _ false hj']
  exact ⟨rfl, rfl, decide_eq_decide.mpr ⟨Eq.symm, Eq.symm⟩⟩

theorem ket0_real (n : Nat) : (ket0 n).StabReal := by
  intro i h1 _
  have : ¬ i < n := Nat.not_lt.mpr h1
  simp [ket0, this, Zq]

theorem swapGate_valid (t : Tab) (a b : Nat) (ha : a < t.n) (hb : b < t.n) (hv : t.Valid) : (t.swapGate a b).Valid :=
  valid_of_isometry (PRow.swap a b) (sp_swap t.n a b ha hb) hv rfl fun _ _ => sameBits_refl _ _

/-! ### qubit insertion -/

theorem sp_insertCol_Xq (n p : Nat) (hp : p ≤ n) (u : PRow) : sp (n + 1) (u.insertCol p) (Xq p) = false := by
  rw [sp_Xq (n + 1) p _ false (by omega)]; simp [PRow.insertCol]
theorem sp_insertCol_Zq (n p : Nat) (hp : p ≤ n) (u : PRow) : sp (n + 1) (u.insertCol p) (Zq p) = false := by
  rw [sp_Zq (n + 1) p _ false (by omega)]; simp [PRow.insertCol]

/-- index of the old row behind a new row of `insertQubit` (for rows that are not the two new ones) -/
def insSrc (n p i : Nat) : Nat :=
  if i < n + 1 then (if i < p then i else i - 1)
  else (if i - (n + 1) < p then n + (i - (n + 1)) else n + (i - (n + 1)) - 1)

theorem insertQubit_row_old (t : Tab) (p i : Nat) (h1 : i ≠ p) (h2 : i ≠ t.n + 1 + p) :
    (t.insertQubit p).row i = (t.row (insSrc t.n p i)).insertCol p := by
  unfold insertQubit insSrc
  by_cases a : i < t.n + 1
  · by_cases b : i < p
    · simp [a, b]
    · simp [a, b, h1]
  · have c : i - (t.n + 1) ≠ p := by omega
    by_cases b : i - (t.n + 1) < p
    · simp [a, b]
    · simp [a, b, c]

theorem insertQubit_row_p (t : Tab) (p : Nat) (hp : p ≤ t.n) : (t.insertQubit p).row p = Xq p := by
  unfold insertQubit
  have : p < t.n + 1 := by omega
  simp [this]

theorem insertQubit_row_np (t : Tab) (p : Nat) : (t.insertQubit p).row (t.n + 1 + p) = Zq p := by
  unfold insertQubit
  have : ¬ (t.n + 1 + p < t.n + 1) := by omega
  simp [this]

/-- the old column behind column `j ≠ p` after an insertion at `p` -/
def skipDown (p j : Nat) : Nat := if j < p then j else j - 1

theorem insertQubit_row_d (t : Tab) (p j : Nat) (hp : p ≤ t.n) (hj : j < t.n + 1) :
    (t.insertQubit p).row j = if j = p then Xq p else (t.row (skipDown p j)).insertCol p := by
  split
  · next h => rw [h]; exact insertQubit_row_p t p hp
  · next h =>
    rw [insertQubit_row_old t p j h (by omega)]
    unfold insSrc skipDown
    rw [if_pos hj]

theorem insertQubit_row_s (t : Tab) (p j : Nat) (hp : p ≤ t.n) :
    (t.insertQubit p).row (j + (t.n + 1)) = if j = p then Zq p else (t.row (skipDown p j + t.n)).insertCol p := by
  split
  · next h => rw [h, Nat.add_comm]; exact insertQubit_row_np t p
  · next h =>
    rw [insertQubit_row_old t p _ (by omega) (by omega)]
    unfold insSrc skipDown
    rw [if_neg (by omega), Nat.add_sub_cancel]
    congr 2
    split <;> omega

theorem insertQubit_valid (t : Tab) (p : Nat) (hp : p ≤ t.n) (hv : t.Valid) : (t.insertQubit p).Valid := by
  rw [valid_iff_blocks] at hv ⊢
  intro j j' hj hj'
  have hn : (t.insertQubit p).n = t.n + 1 := rfl
  rw [hn] at hj hj' ⊢
  rw [insertQubit_row_d t p j hp hj, insertQubit_row_d t p j' hp hj', insertQubit_row_s t p j hp, insertQubit_row_s t p j' hp]
  have hX : sp (t.n + 1) (Xq p) (Zq p) = true := by rw [sp_Zq _ _ _ _ (by omega)]; simp [Xq]
  by_cases e : j = p <;> by_cases e' : j' = p <;> simp only [e, e', if_true, if_false]
  · exact ⟨sp_self _ _, sp_self _ _, by rw [hX]; simp⟩
  · refine ⟨?_, ?_, ?_⟩
    · rw [sp_comm]; exact sp_insertCol_Xq _ _ hp _
    · rw [sp_comm]; exact sp_insertCol_Zq _ _ hp _
    · rw [sp_comm, sp_insertCol_Xq _ _ hp]; exact (decide_eq_false (by omega)).symm
  · refine ⟨sp_insertCol_Xq _ _ hp _, sp_insertCol_Zq _ _ hp _, ?_⟩
    rw [sp_insertCol_Zq _ _ hp]; rfl
  · have s : skipDown p j < t.n := by unfold skipDown; split <;> omega
    have s' : skipDown p j' < t.n := by unfold skipDown; split <;> omega
    obtain ⟨h1, h2, h3⟩ := hv _ _ s s'
    rw [sp_insertCol _ _ hp, sp_insertCol _ _ hp, sp_insertCol _ _ hp]
    refine ⟨h1, h2, h3.trans (decide_eq_decide.mpr ?_)⟩
    unfold skipDown
    split <;> split <;> omega

theorem addQubit_valid (t : Tab) (hv : t.Valid) : t.addQubit.Valid :=
  insertQubit_valid t t.n (Nat.le_refl _) hv

/-! ### the stabilizer group as a span, and what a measurement does to it -/

/-- membership in the group generated (under the signed product) by the rows `gens i`, `i < m` -/
inductive InSpan (n m : Nat) (gens : Nat → PRow) : PRow → Prop
  | one : InSpan n m gens PRow.one
  | gen (i : Nat) (h : i < m) : InSpan n m gens (gens i)
  | mul (a b : PRow) : InSpan n m gens a → InSpan n m gens b → InSpan n m gens (PRow.mul n a b)
  | eqv (a b : PRow) : InSpan n m gens a → EqOn n a b → InSpan n m gens b

def stab (t : Tab) : Nat → PRow := fun i => t.row (i + t.n)

theorem foldl_inSpan (t : Tab) (l : List Nat) (acc : PRow) (hl : ∀ d ∈ l, d < t.n)
    (hacc : InSpan t.n t.n t.stab acc) :
    InSpan t.n t.n t.stab (l.foldl (fun acc d => PRow.mul t.n (t.row (d + t.n)) acc) acc) := by
  induction l generalizing acc with
  | nil => exact hacc
  | cons d rest ih =>
    simp only [List.foldl]
    apply ih
    · intro e he; exact hl e (List.mem_cons_of_mem _ he)
    · exact InSpan.mul _ _ (InSpan.gen d (hl d (List.mem_cons_self))) hacc

theorem measScratch_inSpan (t : Tab) (q : Nat) : InSpan t.n t.n t.stab (t.measScratch q) := by
  unfold measScratch
  apply foldl_inSpan
  · exact fun d hd => ((mem_filterTo _ _ d).1 hd).1
  · exact InSpan.one

theorem sp_foldl_stab (t : Tab) (hv : t.Valid) (l : List Nat) (hl : ∀ d ∈ l, d < t.n) (hnd : l.Nodup) (acc : PRow)
    (i : Nat) (hi : i < 2 * t.n) :
    sp t.n (l.foldl (fun acc d => PRow.mul t.n (t.row (d + t.n)) acc) acc) (t.row i) =
      xor (sp t.n acc (t.row i)) (decide (i ∈ l)) := by
  induction l generalizing acc with
  | nil => simp
  | cons d rest ih =>
    have hd := hl d List.mem_cons_self
    have hnd' := List.nodup_cons.mp hnd
    simp only [List.foldl_cons]
    rw [ih (fun e he => hl e (List.mem_cons_of_mem _ he)) hnd'.2, sp_mul_left, hv (d + t.n) i (by omega) hi]
    have e1 : decide (d + t.n + t.n = i ∨ i + t.n = d + t.n) = decide (i = d) := by
      apply decide_eq_decide.mpr; omega
    rw [e1]
    by_cases e : i = d
    · subst e
      have : i ∉ rest := hnd'.1
      simp [this]
    · simp [e, List.mem_cons]

theorem measRandom_stab_inSpan (t : Tab) (q p : Nat) (o : Bool) (hp1 : t.n ≤ p) (hp2 : p < 2 * t.n)
    (i : Nat) (hi : i < t.n) (hip : i + t.n ≠ p) :
    InSpan t.n t.n t.stab ((t.measRandom q p o).stab i) := by
  show InSpan t.n t.n t.stab ((t.measRandom q p o).row (i + t.n))
  have h2 : i + t.n + t.n ≠ p := by omega
  rw [mr_row_o t q p (i + t.n) o hip h2]
  unfold addIf
  have gi : InSpan t.n t.n t.stab (t.row (i + t.n)) := InSpan.gen i hi
  have gp : InSpan t.n t.n t.stab (t.row p) := by
    have : t.row p = t.stab (p - t.n) := by unfold stab; congr 1; omega
    rw [this]; exact InSpan.gen (p - t.n) (by omega)
  split
  · exact InSpan.mul _ _ gp gi
  · exact gi

theorem measRandom_pivot_row (t : Tab) (q p : Nat) (o : Bool) :
    SameBits t.n ((t.measRandom q p o).row p) (Zq q) ∧ ((t.measRandom q p o).row p).r = o := by
  refine ⟨mr_row_p t q p o, ?_⟩
  simp [measRandom]

/-- random branch: every new stabilizer generator commutes with `Z_q` (the post-measurement state is a `Z_q` eigenstate) -/
theorem measRandom_commutes_Zq (t : Tab) (q p : Nat) (o : Bool) (hv : t.Valid) (hq : q < t.n)
    (hp1 : t.n ≤ p) (hp2 : p < 2 * t.n) (hx : (t.row p).x q = true) (i : Nat) (hi : i < t.n) :
    ((t.measRandom q p o).stab i).x q = false := by
  have hv' := measRandom_valid t q p o hv hq hp1 hp2 hx
  have e := hv' (i + t.n) p (by show i + t.n < 2 * t.n; omega) hp2
  have hn : (t.measRandom q p o).n = t.n := rfl
  rw [hn] at e
  rw [sp_congr _ _ _ _ _ (sameBits_refl _ _) (mr_row_p t q p o), sp_Zq _ _ _ _ hq] at e
  show ((t.measRandom q p o).row (i + t.n)).x q = false
  rw [e]; exact decide_eq_false (by omega)

/-! ### tensor product -/

theorem sp_shift_trunc (na nb : Nat) (u v : PRow) :
    sp (na + nb) (u.shiftCols na) (v.truncCols na) = false := by
  rw [sp_comm]; exact sp_trunc_shift na nb v u

theorem tensor2_row_d (a b : Tab) (j : Nat) (hj : j < a.n + b.n) :
    (tensor2 a b).row j = if j < a.n then (a.row j).truncCols a.n else (b.row (j - a.n)).shiftCols a.n := by
  unfold tensor2
  simp only
  split
  · rfl
  · rfl

theorem tensor2_row_s (a b : Tab) (j : Nat) :
    (tensor2 a b).row (j + (a.n + b.n)) =
      if j < a.n then (a.row (j + a.n)).truncCols a.n else (b.row (j - a.n + b.n)).shiftCols a.n := by
  unfold tensor2
  simp only
  rw [if_neg (by omega), if_neg (by omega)]
  split
  · rw [if_pos (by omega)]; congr 2; omega
  · rw [if_neg (by omega)]; congr 2; omega

theorem tensor2_valid (a b : Tab) (ha : a.Valid) (hb : b.Valid) : (tensor2 a b).Valid := by
  rw [valid_iff_blocks] at ha hb ⊢
  intro j j' hj hj'
  have hn : (tensor2 a b).n = a.n + b.n := rfl
  rw [hn] at hj hj' ⊢
  rw [tensor2_row_d a b j hj, tensor2_row_d a b j' hj', tensor2_row_s, tensor2_row_s]
  by_cases c : j < a.n <;> by_cases c' : j' < a.n <;> simp only [c, c', if_true, if_false]
  · rw [sp_trunc_trunc, sp_trunc_trunc, sp_trunc_trunc]
    exact ha j j' c c'
  · rw [sp_trunc_shift, sp_trunc_shift, sp_trunc_shift]
    exact ⟨rfl, rfl, (decide_eq_false (by omega)).symm⟩
  · rw [sp_shift_trunc, sp_shift_trunc, sp_shift_trunc]
    exact ⟨rfl, rfl, (decide_eq_false (by omega)).symm⟩
  · rw [sp_shift_shift, sp_shift_shift, sp_shift_shift]
    obtain ⟨h1, h2, h3⟩ := hb (j - a.n) (j' - a.n) (by omega) (by omega)
    exact ⟨h1, h2, h3.trans (decide_eq_decide.mpr (by omega))⟩

/-! ### removing a qubit -/

/-- the old index behind a row of `deletePair … d` on an `n`-qubit tableau -/
def delSrc (n d i : Nat) : Nat := if i < d then i else if i + 1 < d + n then i + 1 else i + 2

theorem deletePair_row (t : Tab) (q d i : Nat) : (t.deletePair q d).row i = (t.row (delSrc t.n d i)).deleteCol q := rfl

/-- deleting column `q` after absorbing `g` into some rows: nothing changes in the symplectic product of two rows that
    commute with `g`, provided no X is left on `q` -/
theorem sp_addIf_deleteCol (n q : Nat) (hq : q < n) (g u v : PRow) (a b : Bool)
    (hu : sp n u g = false) (hv : sp n v g = false) (gx : g.x q = false) (ux : u.x q = false) (vx : v.x q = false) :
    sp (n - 1) ((addIf n a g u).deleteCol q) ((addIf n b g v).deleteCol q) = sp n u v := by
  have hn : n - 1 + 1 = n := by omega
  have key := sp_deleteCol (n - 1) q (by omega) (addIf n a g u) (addIf n b g v) (by
    have xa : (addIf n a g u).x q = false := by cases a <;> simp [addIf, gx, ux]
    have xb : (addIf n b g v).x q = false := by cases b <;> simp [addIf, gx, vx]
    simp [xa, xb])
  rw [hn] at key
  rw [key, meas_pair n g u v a b hu hv]

/-- the old column behind column `j` after the deletion of column `d` -/
def skipUp (d j : Nat) : Nat := if j < d then j else j + 1

theorem delSrc_lo (n d j : Nat) (hd : d < n) (hj : j < n - 1) : delSrc n d j = skipUp d j := by
  unfold delSrc skipUp
  split
  · rfl
  · rw [if_pos (by omega)]

theorem delSrc_hi (n d j : Nat) (hd : d < n) : delSrc n d (j + (n - 1)) = skipUp d j + n := by
  unfold delSrc skipUp
  rw [if_neg (by omega)]
  split <;> split <;> omega

theorem deletePair_valid (t : Tab) (q d : Nat) (hd : d < t.n)
    (h : ∀ I K, I < 2 * t.n → K < 2 * t.n → I ≠ d → I ≠ d + t.n → K ≠ d → K ≠ d + t.n →
      sp (t.n - 1) ((t.row I).deleteCol q) ((t.row K).deleteCol q) = decide (I + t.n = K ∨ K + t.n = I)) :
    (t.deletePair q d).Valid := by
  rw [valid_iff_blocks]
  intro j j' hj hj'
  have hn : (t.deletePair q d).n = t.n - 1 := rfl
  rw [hn] at hj hj' ⊢
  rw [deletePair_row, deletePair_row, deletePair_row, deletePair_row, delSrc_lo _ _ j hd hj, delSrc_lo _ _ j' hd hj',
    delSrc_hi _ _ j hd, delSrc_hi _ _ j' hd]
  have s : skipUp d j < t.n ∧ skipUp d j ≠ d := by unfold skipUp; split <;> omega
  have s' : skipUp d j' < t.n ∧ skipUp d j' ≠ d := by unfold skipUp; split <;> omega
  have inj : skipUp d j = skipUp d j' ↔ j = j' := by unfold skipUp; split <;> split <;> omega
  generalize skipUp d j = J at s inj
  generalize skipUp d j' = J' at s' inj
  rw [h J J' (by omega) (by omega) (by omega) (by omega) (by omega) (by omega),
    h (J + t.n) (J' + t.n) (by omega) (by omega) (by omega) (by omega) (by omega) (by omega),
    h J (J' + t.n) (by omega) (by omega) (by omega) (by omega) (by omega) (by omega)]
  exact ⟨decide_eq_false (by omega), decide_eq_false (by omega), decide_eq_decide.mpr (by omega)⟩

/-- row `i` after the `Z` factors on `q` have been absorbed: multiplied by row `zRow` if it has a `Z` on `q` and is neither
    that row nor its destabilizer partner -/
def absorbZ (n : Nat) (t2 : Tab) (q zRow i : Nat) : PRow :=
  if i ≠ zRow ∧ i + n ≠ zRow ∧ (t2.row i).z q then PRow.mul n (t2.row zRow) (t2.row i) else t2.row i

/-- the last step of `remove_qubit`: absorb the `Z` factors on `q`, delete the pair of `zRow` and the column `q`
    (`n` = number of qubits before the removal) -/
def dropQubitN (n : Nat) (t2 : Tab) (q zRow : Nat) : Tab :=
  ({ t2 with row := absorbZ n t2 q zRow } : Tab).deletePair q (zRow - n)

theorem dropQubitN_row (n : Nat) (t2 : Tab) (q zRow i : Nat) :
    (dropQubitN n t2 q zRow).row i = (absorbZ n t2 q zRow (delSrc t2.n (zRow - n) i)).deleteCol q := rfl

theorem dropQubitN_stab_row (t2 : Tab) (q zRow i : Nat) (hz : zRow - t2.n < t2.n) :
    (dropQubitN t2.n t2 q zRow).row (i + (t2.n - 1)) =
      (absorbZ t2.n t2 q zRow (skipUp (zRow - t2.n) i + t2.n)).deleteCol q := by
  rw [dropQubitN_row, delSrc_hi _ _ i hz]

/-- **core of `remove_qubit`**: from a valid tableau in which only the destabilizer partner of row `zRow` still has an X on
    qubit `q`, multiplying the rows that have a Z on `q` by row `zRow` and deleting the pair and the column leaves a valid tableau -/
theorem dropQubit_valid (t2 : Tab) (q zRow : Nat) (hv : t2.Valid) (hq : q < t2.n) (hz1 : t2.n ≤ zRow) (hz2 : zRow < 2 * t2.n)
    (hx : ∀ i, i < 2 * t2.n → i + t2.n ≠ zRow → (t2.row i).x q = false) : (dropQubitN t2.n t2 q zRow).Valid := by
  apply deletePair_valid _ q (zRow - t2.n) (by show zRow - t2.n < t2.n; omega)
  intro I K hI hK _ hId _ hKd
  have comm : ∀ J, J < 2 * t2.n → J + t2.n ≠ zRow → sp t2.n (t2.row J) (t2.row zRow) = false := by
    intro J hJ hJd
    rw [hv J zRow hJ hz2]; exact decide_eq_false (by omega)
  have hId' : I + t2.n ≠ zRow := by intro e; apply hId; show I = zRow - t2.n + t2.n; omega
  have hKd' : K + t2.n ≠ zRow := by intro e; apply hKd; show K = zRow - t2.n + t2.n; omega
  show sp (t2.n - 1) (PRow.deleteCol q _) (PRow.deleteCol q _) = decide (I + t2.n = K ∨ K + t2.n = I)
  rw [← hv I K hI hK, ← sp_addIf_deleteCol t2.n q hq (t2.row zRow) (t2.row I) (t2.row K)
    (decide (I ≠ zRow ∧ I + t2.n ≠ zRow ∧ (t2.row I).z q)) (decide (K ≠ zRow ∧ K + t2.n ≠ zRow ∧ (t2.row K).z q))
    (comm I hI hId') (comm K hK hKd') (hx zRow hz2 (by omega)) (hx I hI hId') (hx K hK hKd')]
  simp only [absorbZ, addIf, decide_eq_true_eq]

theorem measRandom_x (t : Tab) (q p : Nat) (o : Bool) (hx : (t.row p).x q = true) (i : Nat) (hip : i + t.n ≠ p) :
    ((t.measRandom q p o).row i).x q = false := by
  by_cases h1 : i = p
  · subst h1; simp [measRandom, Zq]
  · rw [mr_row_o t q p i o h1 hip]
    unfold addIf
    cases h : (t.row i).x q <;> simp [h, hx]

/-- the dual pair of row sums of the deterministic branch of `remove_qubit`: `D_b ← D_a·D_b`, `S_a ← S_b·S_a` -/
def pairSum (t : Tab) (a b : Nat) : Tab := (t.rowSum a b).rowSum (b + t.n) (a + t.n)

theorem pairSum_row (t : Tab) (a b : Nat) (hb : b < t.n) (i : Nat) :
    (t.pairSum a b).row i =
      if i = a + t.n then PRow.mul t.n (t.row (b + t.n)) (t.row (a + t.n))
      else if i = b then PRow.mul t.n (t.row a) (t.row b) else t.row i := by
  unfold pairSum rowSum
  simp only [upd]
  have h2 : a + t.n ≠ b := by omega
  have h3 : t.n ≠ 0 := by omega
  have h4 : b ≠ a + t.n := by omega
  by_cases e1 : i = a + t.n
  · simp [e1, h2, h3]
  · by_cases e2 : i = b
    · simp [e2, h4]
    · simp [e1, e2]

/-- the shear `v ↦ v · u^[v,w] · w^[v,u]` along a commuting pair `u`, `w` -/
def shear (n : Nat) (u w v : PRow) : PRow := addIf n (sp n v u) w (addIf n (sp n v w) u v)

theorem sp_shear (n : Nat) (u w : PRow) (huw : sp n u w = false) (v v' : PRow) :
    sp n (shear n u w v) (shear n u w v') = sp n v v' := by
  have hwu : sp n w u = false := by rw [sp_comm]; exact huw
  unfold shear addIf
  cases h1 : sp n v u <;> cases h2 : sp n v w <;> cases h3 : sp n v' u <;> cases h4 : sp n v' w <;>
    simp [sp_mul_left, sp_mul_right, sp_self, huw, hwu, h1, h2, h3, h4, sp_comm n u v', sp_comm n w v']

/-- the dual pair of row sums is the shear along `D_a`, `S_b`: on a valid tableau `[r_i, S_b] = [i = b]` and
    `[r_i, D_a] = [i = a + n]`, so exactly the rows `b` and `a + n` are multiplied -/
theorem pairSum_valid (t : Tab) (a b : Nat) (hab : a ≠ b) (ha : a < t.n) (hb : b < t.n) (hv : t.Valid) :
    (t.pairSum a b).Valid := by
  refine valid_of_isometry (shear t.n (t.row a) (t.row (b + t.n)))
    (sp_shear _ _ _ (by rw [hv _ _ (by omega) (by omega)]; exact decide_eq_false (by omega))) hv rfl fun i hi => ?_
  rw [pairSum_row t a b hb i]
  unfold shear
  rw [hv i a hi (by omega), hv i (b + t.n) hi (by omega)]
  by_cases e1 : i = a + t.n
  · subst e1
    rw [if_pos rfl, decide_eq_true (by omega), decide_eq_false (by omega)]
    exact sameBits_refl _ _
  · by_cases e2 : i = b
    · subst e2
      rw [if_neg e1, if_pos rfl, decide_eq_false (by omega), decide_eq_true (by omega)]
      exact sameBits_refl _ _
    · rw [if_neg e1, if_neg e2, decide_eq_false (by omega), decide_eq_false (by omega)]
      exact sameBits_refl _ _

/-- invariant of the destabilizer-combining loop of the deterministic branch of `remove_qubit` -/
structure CombInv (n q om : Nat) (rem : List Nat) (acc : Tab) : Prop where
  valid : acc.Valid
  n_eq : acc.n = n
  xom : (acc.row om).x q = true
  xoth : ∀ i, i < 2 * n → i ≠ om → i ∉ rem → (acc.row i).x q = false
  xrem : ∀ i, i ∈ rem → (acc.row i).x q = true

/-- one `pairSum om r` per remaining destabilizer `r` with an X on `q`: it clears that X (and nothing else changes on `q`),
    so at the end only row `om` has one -/
theorem comb_fold (n q om : Nat) (hom : om < n) (rest : List Nat) (hlt : ∀ i, i ∈ rest → i < n) (hne : ∀ i, i ∈ rest → i ≠ om)
    (hnd : rest.Nodup) (acc : Tab) (h : CombInv n q om rest acc) :
    CombInv n q om [] (rest.foldl (fun acc row => (acc.rowSum om row).rowSum (row + n) (om + n)) acc) := by
  induction rest generalizing acc with
  | nil => exact h
  | cons r tl ih =>
    simp only [List.foldl]
    have hr : r < n := hlt r List.mem_cons_self
    have hro : r ≠ om := hne r List.mem_cons_self
    have hrt : r ∉ tl := (List.nodup_cons.mp hnd).1
    apply ih (fun i hi => hlt i (List.mem_cons_of_mem _ hi)) (fun i hi => hne i (List.mem_cons_of_mem _ hi))
      (List.nodup_cons.mp hnd).2
    have hn := h.n_eq
    have e : (acc.rowSum om r).rowSum (r + n) (om + n) = acc.pairSum om r := by
      unfold pairSum; rw [hn]
    rw [e]
    have row := pairSum_row acc om r (hn ▸ hr)
    refine ⟨pairSum_valid acc om r (Ne.symm hro) (hn ▸ hom) (hn ▸ hr) h.valid, hn, ?_, ?_, ?_⟩
    · rw [row om]
      have h0 : acc.n ≠ 0 := by omega
      simp [h0, Ne.symm hro, h.xom]
    · intro i hi hio hit
      rw [row i, hn]
      by_cases e1 : i = om + n
      · simp only [e1, if_true, mul_x]
        have a1 := h.xoth (r + n) (by omega) (by omega) (by
          intro hm; have := hlt (r + n) hm; omega)
        have a2 := h.xoth (om + n) (by omega) (by omega) (by
          intro hm; have := hlt (om + n) hm; omega)
        simp [a1, a2]
      · by_cases e2 : i = r
        · subst e2
          simp only [e1, if_false, if_true, mul_x]
          have a1 := h.xom
          have a2 := h.xrem i List.mem_cons_self
          rw [a1, a2]; rfl
        · simp only [e1, e2, if_false]
          exact h.xoth i hi hio (by
            intro hm
            rcases List.mem_cons.mp hm with hm | hm
            · exact e2 hm
            · exact hit hm)
    · intro i hi
      rw [row i, hn]
      have hin : i < n := hlt i (List.mem_cons_of_mem _ hi)
      have e1 : i ≠ om + n := by omega
      have e2 : i ≠ r := fun he => hrt (he ▸ hi)
      simp only [e1, e2, if_false]
      exact h.xrem i (List.mem_cons_of_mem _ hi)

theorem comb_fold_gens (G : PRow → Prop) (n om : Nat) (hom : om < n) (hmul : ∀ a b, G a → G b → G (PRow.mul n a b))
    (rest : List Nat) (hlt : ∀ i, i ∈ rest → i < n) (hne : ∀ i, i ∈ rest → i ≠ om) (acc : Tab) (hn : acc.n = n)
    (hg : ∀ i, i < n → G (acc.row (i + n))) :
    ∀ i, i < n → G ((rest.foldl (fun acc row => (acc.rowSum om row).rowSum (row + n) (om + n)) acc).row (i + n)) := by
  induction rest generalizing acc with
  | nil => exact hg
  | cons r tl ih =>
    simp only [List.foldl]
    have hr : r < n := hlt r List.mem_cons_self
    have hro : r ≠ om := hne r List.mem_cons_self
    have e : (acc.rowSum om r).rowSum (r + n) (om + n) = acc.pairSum om r := by
      unfold pairSum; rw [hn]
    rw [e]
    apply ih (fun i hi => hlt i (List.mem_cons_of_mem _ hi)) (fun i hi => hne i (List.mem_cons_of_mem _ hi))
      (acc.pairSum om r) hn
    intro i hi
    rw [pairSum_row acc om r (hn ▸ hr), hn]
    by_cases e1 : i + n = om + n
    · simp only [e1, if_true]
      exact hmul _ _ (hg r hr) (hg om hom)
    · have e2 : i + n ≠ r := by omega
      simp only [e1, e2, if_false]
      exact hg i hi

theorem removeQubit_random (t : Tab) (q p : Nat) (o : Bool) (hp : t.pivot q = some p) :
    t.removeQubit q o = .ok (dropQubitN t.n (t.measRandom q p o) q p) := by
  obtain ⟨p1, p2, _⟩ := pivot_spec t q p hp
  have hpz : p ≠ 0 := by omega
  unfold removeQubit
  simp only [zMeasure, hp, hpz, ne_eq, not_false_eq_true, if_true]
  rfl

theorem removeQubit_det (t : Tab) (q : Nat) (o : Bool) (hp : t.pivot q = none) (om : Nat) (rest : List Nat)
    (hf : filterTo t.n (fun i => (t.row i).x q) = om :: rest) :
    t.removeQubit q o = .ok (dropQubitN t.n
      (rest.foldl (fun acc row => (acc.rowSum om row).rowSum (row + t.n) (om + t.n)) t) q (om + t.n)) := by
  unfold removeQubit
  simp only [zMeasure, hp, ne_eq, not_true_eq_false, if_false, hf]
  rfl

theorem removeQubit_det_nil (t : Tab) (q : Nat) (o : Bool) (hp : t.pivot q = none)
    (hf : filterTo t.n (fun i => (t.row i).x q) = []) : t.removeQubit q o = .error .assertion := by
  unfold removeQubit
  simp only [zMeasure, hp, ne_eq, not_true_eq_false, if_false, hf]

/-- **what an accepted `remove_qubit` returned**: the last step (`dropQubitN`) applied to a valid tableau `t2` on the same
    qubits in which only the destabilizer partner of row `zRow` still has an X on `q`; `t2` is the measured tableau (random
    branch) or the input after the destabilizer-combining loop, whose stabilizer rows are products of the input's
    (deterministic branch) -/
theorem removeQubit_ok (t t' : Tab) (q : Nat) (o : Bool) (hq : q < t.n) (hv : t.Valid)
    (h : t.removeQubit q o = .ok t') :
    ∃ t2 zRow, t' = dropQubitN t.n t2 q zRow ∧ t2.n = t.n ∧ t2.Valid ∧ t.n ≤ zRow ∧ zRow < 2 * t.n ∧
      (∀ i, i < 2 * t.n → i + t.n ≠ zRow → (t2.row i).x q = false) ∧
      ((∃ p, t.pivot q = some p ∧ t2 = t.measRandom q p o) ∨
       (t.pivot q = none ∧ ∀ i, i < t.n → InSpan t.n t.n t.stab (t2.row (i + t.n)))) := by
  cases hp : t.pivot q with
  | some p =>
    obtain ⟨p1, p2, p3⟩ := pivot_spec t q p hp
    rw [removeQubit_random t q p o hp] at h
    injection h with h
    exact ⟨_, p, h.symm, rfl, measRandom_valid t q p o hv hq p1 p2 p3, p1, p2,
      fun i _ hip => measRandom_x t q p o p3 i hip, Or.inl ⟨p, rfl, rfl⟩⟩
  | none =>
    cases hf : filterTo t.n (fun i => (t.row i).x q) with
    | nil => rw [removeQubit_det_nil t q o hp hf] at h; cases h
    | cons om rest =>
      rw [removeQubit_det t q o hp om rest hf] at h
      injection h with h
      have hmem : ∀ i, i ∈ om :: rest → i < t.n ∧ (t.row i).x q = true :=
        fun i hi => (mem_filterTo _ _ i).1 (hf ▸ hi)
      have hnd : (om :: rest).Nodup := by
        rw [← hf]; unfold filterTo
        exact List.Nodup.sublist List.filter_sublist List.nodup_range
      have hom := hmem om List.mem_cons_self
      have inv0 : CombInv t.n q om rest t := by
        refine ⟨hv, rfl, hom.2, ?_, fun i hi => (hmem i (List.mem_cons_of_mem _ hi)).2⟩
        intro i hi hio hir
        by_cases hin : i < t.n
        · cases hx : (t.row i).x q
          · rfl
          · exfalso
            have : i ∈ om :: rest := hf ▸ (mem_filterTo _ _ i).2 ⟨hin, hx⟩
            rcases List.mem_cons.mp this with e | e
            · exact hio e
            · exact hir e
        · exact findFrom_none _ _ _ hp i (by omega) hi
      have hlt : ∀ i, i ∈ rest → i < t.n := fun i hi => (hmem i (List.mem_cons_of_mem _ hi)).1
      have hne : ∀ i, i ∈ rest → i ≠ om := fun i hi he => (List.nodup_cons.mp hnd).1 (he ▸ hi)
      have inv := comb_fold t.n q om hom.1 rest hlt hne (List.nodup_cons.mp hnd).2 t inv0
      exact ⟨_, om + t.n, h.symm, inv.n_eq, inv.valid, by omega, by omega,
        fun i hi hio => inv.xoth i hi (by omega) (by simp), Or.inr ⟨rfl,
          comb_fold_gens _ t.n om hom.1 InSpan.mul rest hlt hne t rfl fun i hi => InSpan.gen i hi⟩⟩

theorem removeQubit_valid (t t' : Tab) (q : Nat) (o : Bool) (hq : q < t.n) (hv : t.Valid)
    (h : t.removeQubit q o = .ok t') : t'.Valid := by
  obtain ⟨t2, zRow, rfl, hn, v2, h1, h2, hx, _⟩ := removeQubit_ok t t' q o hq hv h
  rw [← hn] at hq h1 h2 hx ⊢
  exact dropQubit_valid t2 q zRow v2 hq h1 h2 hx

theorem removeQubit?_ok (t t' : Tab) (q : Nat) (o : Bool) (h : t.removeQubit? q o = .ok t') :
    q < t.n ∧ t.removeQubit q o = .ok t' := by
  unfold removeQubit? at h
  by_cases hq : q < t.n
  · rw [if_pos hq] at h; exact ⟨hq, h⟩
  · rw [if_neg hq] at h; cases h

theorem removeQubit?_valid (t t' : Tab) (q : Nat) (o : Bool) (hv : t.Valid) (h : t.removeQubit? q o = .ok t') : t'.Valid :=
  removeQubit_valid t t' q o (removeQubit?_ok t t' q o h).1 hv (removeQubit?_ok t t' q o h).2

theorem norm_valid (t : Tab) (hv : t.Valid) : t.norm.Valid :=
  valid_of_isometry id (fun _ _ => rfl) hv (norm_n t) fun i hi => (norm_row t i hi).1

theorem norm_stabReal (t : Tab) (hr : t.StabReal) : t.norm.StabReal := by
  intro i h1 h2
  have h1' : t.n ≤ i := h1
  have h2' : i < 2 * t.n := h2
  rw [(norm_row t i h2').2.2]; exact hr i h1' h2'

theorem partialTrace_go_cons_ok (t t' : Tab) (q : Nat) (rest : List Nat) (os : List Bool)
    (h : partialTrace.go t (q :: rest) os = .ok t') :
    ∃ t1, t.removeQubit? q (os.headD false) = .ok t1 ∧
      partialTrace.go t1.norm rest (if (t.pivot q).isSome then os.tail else os) = .ok t' := by
  simp only [partialTrace.go] at h
  cases hr : t.removeQubit? q (os.headD false) with
  | error e => rw [hr] at h; cases h
  | ok t1 => rw [hr] at h; exact ⟨t1, rfl, h⟩

theorem partialTrace_go_valid (rem : List Nat) (t t' : Tab) (os : List Bool) (hv : t.Valid)
    (h : partialTrace.go t rem os = .ok t') : t'.Valid := by
  induction rem generalizing t os with
  | nil => simp [partialTrace.go] at h; rw [← h]; exact hv
  | cons q rest ih =>
    obtain ⟨t1, hr, h⟩ := partialTrace_go_cons_ok t t' q rest os h
    exact ih t1.norm _ (norm_valid t1 (removeQubit?_valid t t1 q _ hv hr)) h

theorem partialTrace_valid (t t' : Tab) (keep : List Nat) (os : List Bool) (hv : t.Valid)
    (h : t.partialTrace keep os = .ok t') : t'.Valid := by
  unfold partialTrace at h
  exact partialTrace_go_valid _ t t' os hv h

theorem applyOp_inv (t t' : Tab) (op : Tab.Op) (out : Option (Bool × Bool)) :
    t.applyOp op = .ok (t', out) →
    match op with
    | .h q => q < t.n ∧ t' = t.hGate q
    | .s q => q < t.n ∧ t' = t.sGate q
    | .sdg q => q < t.n ∧ t' = t.sdgGate q
    | .x q => q < t.n ∧ t' = t.xGate q
    | .y q => q < t.n ∧ t' = t.yGate q
    | .z q => q < t.n ∧ t' = t.zGate q
    | .cnot c tg => (c < t.n ∧ tg < t.n) ∧ t' = t.cnotGate c tg
    | .cz c tg => (c < t.n ∧ tg < t.n) ∧ t' = t.czGate c tg
    | .swap a b => (a < t.n ∧ b < t.n) ∧ t' = t.swapGate a b
    | .meas q o => q < t.n ∧ t' = (t.zMeasure q o).1
    | .resetZ q i o => q < t.n ∧ t' = t.resetZ q i o
    | .resetX q i o => q < t.n ∧ t' = t.resetX q i o
    | .resetY q i o => q < t.n ∧ t' = t.resetY q i o
    | .insert p => p ≤ t.n ∧ t' = t.insertQubit p
    | .add => t' = t.addQubit
    | .remove q o => t.removeQubit? q o = .ok t'
    | .ptrace keep os => t.partialTrace keep os = .ok t' := by
  intro h
  cases op with
  | add =>
    simp only [applyOp, Except.ok.injEq, Prod.mk.injEq] at h
    exact h.1.symm
  | remove q o =>
    show t.removeQubit? q o = .ok t'
    simp only [applyOp] at h
    cases hrm : t.removeQubit? q o with
    | error e => rw [hrm] at h; cases h
    | ok t1 => rw [hrm] at h; cases h; rfl
  | ptrace keep os =>
    show t.partialTrace keep os = .ok t'
    simp only [applyOp] at h
    cases hrm : t.partialTrace keep os with
    | error e => rw [hrm] at h; cases h
    | ok t1 => rw [hrm] at h; cases h; rfl
  | _ => exact (Loop.ite_error_right.1 h).imp_right fun h => (congrArg Prod.fst (Except.ok.inj h)).symm

end Tab
end Graphiq
