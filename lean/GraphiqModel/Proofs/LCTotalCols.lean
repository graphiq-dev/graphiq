/-
  Proofs/LCTotalCols.lean — towards totality of `is_lc_equivalent`: the first two internal assertions cannot fire:
  the non-zero rows of an echelon matrix are its pivot rows `0 … k-1` ("The number of remaining rows is less than the rank!"), and
  `_col_finder` on the matrix of those rows returns exactly the non-pivot columns, `columns − rank` of them ("column list is not correct").
-/
import GraphiqModel.Proofs.LCTotalEch
namespace Graphiq.LC
open Graphiq

/-! ### non-zero rows -/

theorem filter_lt_range (r k : Nat) (hk : k ≤ r) : (List.range r).filter (fun i => decide (i < k)) = List.range k := by
  induction r with
  | zero =>
    have : k = 0 := by omega
    subst this; rfl
  | succ r ih =>
    rw [List.range_succ, List.filter_append]
    by_cases e : k = r + 1
    · subst e
      have h1 : (List.range r).filter (fun i => decide (i < r + 1)) = List.range r := by
        rw [List.filter_eq_self]
        intro a ha
        have := List.mem_range.mp ha
        simp; omega
      rw [h1, List.range_succ]
      simp
    · rw [ih (by omega)]
      have : ¬ r < k := by omega
      simp [this]

theorem nonzeroRows_ech (x : BMat) (k : Nat) (piv : Nat → Nat) (hP : Piv x k x.c piv) (hE : Ech x k x.c piv)
    (hk : k ≤ x.r) : nonzeroRows x = List.range k := by
  unfold nonzeroRows
  rw [← filter_lt_range x.r k hk]
  apply List.filter_congr
  intro i hi
  have hi' := List.mem_range.mp hi
  by_cases h : i < k
  · have : ((List.range x.c).any fun j => x.f i j) = true :=
      List.any_eq_true.mpr ⟨piv i, List.mem_range.mpr (hP.bound i h), hP.one i h⟩
    rw [this]; simp [h]
  · have : ((List.range x.c).any fun j => x.f i j) = false := by
      rw [List.any_eq_false]
      intro j hj
      rw [hE.low i (by omega) hi' j (List.mem_range.mp hj)]
      simp
    rw [this]; simp [h]

/-- the matrix of the pivot rows (`np.array([row for row in m if row.any()])`) keeps the echelon structure -/
theorem selectRows_ech (x : BMat) (k : Nat) (piv : Nat → Nat) (hP : Piv x k x.c piv) (hE : Ech x k x.c piv)
    (hk : k ≤ x.r) :
    (selectRows x (List.range k)).norm.r = k ∧ (selectRows x (List.range k)).norm.c = x.c ∧
      Piv (selectRows x (List.range k)).norm k x.c piv ∧
      ∀ i, i < k → ∀ j, j < piv i → (selectRows x (List.range k)).norm.f i j = false := by
  have hr : (selectRows x (List.range k)).norm.r = k := by simp [selectRows]
  have hc : (selectRows x (List.range k)).norm.c = x.c := rfl
  have hf : ∀ i j, i < k → j < x.c → (selectRows x (List.range k)).norm.f i j = x.f i j := by
    intro i j hi hj
    rw [BMat.norm_agree (selectRows x (List.range k)) i j (by simp [selectRows]; exact hi) hj]
    show x.f ((List.range k).getD i 0) j = x.f i j
    have : (List.range k).getD i 0 = i := by simp [List.getD, hi]
    rw [this]
  refine ⟨hr, hc, ⟨?_, ?_, hP.incr, hP.bound⟩, ?_⟩
  · intro i hi
    rw [hf i _ hi (hP.bound i hi)]; exact hP.one i hi
  · intro i i' hi hii' hi'r
    rw [hr] at hi'r
    rw [hf i' _ hi'r (hP.bound i hi)]
    exact hP.below i i' hi hii' (by omega)
  · intro i hi j hj
    have := hP.bound i hi
    rw [hf i j hi (by omega)]
    exact hE.left i hi j hj

/-! ### pivot and non-pivot columns -/

/-- is `j` one of the pivot columns `piv 0 … piv (k-1)`? -/
def isPiv (k : Nat) (piv : Nat → Nat) (j : Nat) : Bool := (List.range k).any fun i => piv i == j

theorem isPiv_iff (k : Nat) (piv : Nat → Nat) (j : Nat) : isPiv k piv j = true ↔ ∃ i, i < k ∧ piv i = j := by
  unfold isPiv
  rw [List.any_eq_true]
  constructor
  · rintro ⟨i, hi, e⟩
    exact ⟨i, List.mem_range.mp hi, by simpa using e⟩
  · rintro ⟨i, hi, e⟩
    exact ⟨i, List.mem_range.mpr hi, by simpa using e⟩

theorem isPiv_false_iff (k : Nat) (piv : Nat → Nat) (j : Nat) : isPiv k piv j = false ↔ ∀ i, i < k → piv i ≠ j := by
  constructor
  · intro h i hi e
    have := (isPiv_iff k piv j).mpr ⟨i, hi, e⟩
    rw [h] at this; cases this
  · intro h
    cases hp : isPiv k piv j
    · rfl
    · obtain ⟨i, hi, e⟩ := (isPiv_iff k piv j).mp hp
      exact absurd e (h i hi)

/-- the pivot columns below `c`, listed in increasing order, are `piv 0, …, piv (t-1)`; the two conditions on `t` (the pivots
    `< t` lie below `c`, the others do not) are the invariant of the induction on `c` -/
theorem filter_isPiv_aux (k : Nat) (piv : Nat → Nat) (hinc : ∀ i i', i < i' → i' < k → piv i < piv i') (c : Nat) :
    ∀ t, t ≤ k → (∀ i, i < t → piv i < c) → (∀ i, t ≤ i → i < k → c ≤ piv i) →
      (List.range c).filter (isPiv k piv) = (List.range t).map piv := by
  induction c with
  | zero =>
    intro t _ h1 _
    have : t = 0 := by
      rcases Nat.eq_zero_or_pos t with e | e
      · exact e
      · have := h1 0 e; omega
    subst this; rfl
  | succ c ih =>
    intro t ht h1 h2
    rw [List.range_succ, List.filter_append]
    cases hp : isPiv k piv c
    · have hne := (isPiv_false_iff k piv c).mp hp
      rw [ih t ht (fun i hi => by have := h1 i hi; have := hne i (by omega); omega)
        (fun i hi hik => by have := h2 i hi hik; omega)]
      simp [hp]
    · obtain ⟨i0, hi0, e0⟩ := (isPiv_iff k piv c).mp hp
      have hi0t : i0 < t := by
        rcases Nat.lt_or_ge i0 t with h | h
        · exact h
        · have := h2 i0 h hi0
          omega
      have ht1 : i0 + 1 = t := by
        rcases Nat.lt_or_ge (i0 + 1) t with hlt | h
        · have := hinc i0 (i0 + 1) (by omega) (by omega)
          have := h1 (i0 + 1) hlt
          omega
        · omega
      subst ht1
      rw [ih i0 (by omega)
        (fun i hi => by have := hinc i i0 hi hi0; omega)
        (fun i hi hik => by
          rcases Nat.eq_or_lt_of_le hi with e | hlt
          · rw [← e, e0]; omega
          · have := hinc i0 i hlt hik; omega)]
      rw [List.range_succ, List.map_append]
      simp [hp, e0]

theorem filter_isPiv (k c : Nat) (piv : Nat → Nat) (hinc : ∀ i i', i < i' → i' < k → piv i < piv i')
    (hb : ∀ i, i < k → piv i < c) : (List.range c).filter (isPiv k piv) = (List.range k).map piv :=
  filter_isPiv_aux k piv hinc c k (Nat.le_refl _) hb (fun i hi hik => by omega)

theorem length_filter_not (l : List Nat) (p : Nat → Bool) :
    (l.filter fun j => !p j).length + (l.filter p).length = l.length := by
  induction l with
  | nil => rfl
  | cons a l ih =>
    simp only [List.filter_cons]
    cases p a <;> simp <;> omega

theorem filter_range_split (c a : Nat) (p : Nat → Bool) (ha : a ≤ c) :
    (List.range c).filter p = (List.range a).filter p ++ (List.range c).filter (fun j => decide (a ≤ j) && p j) := by
  induction c with
  | zero =>
    have : a = 0 := by omega
    subst this; rfl
  | succ c ih =>
    by_cases e : a = c + 1
    · subst e
      have : (List.range (c + 1)).filter (fun j => decide (c + 1 ≤ j) && p j) = [] := by
        rw [List.filter_eq_nil_iff]
        intro j hj
        have := List.mem_range.mp hj
        simp; omega
      rw [this, List.append_nil]
    · have ha' : a ≤ c := by omega
      rw [List.range_succ, List.filter_append, List.filter_append, ih ha', List.append_assoc]
      congr 1
      congr 1
      have : decide (a ≤ c) = true := by simp [ha']
      simp [List.filter_cons, this]

/-! ### `_col_finder` -/

/-- the staircase walk of `_col_finder`, started with the non-pivot columns `< pc` collected and the pivot of row `pr` not yet
    passed, returns all non-pivot columns -/
theorem colFinderLoop_exact (m : BMat) (k : Nat) (piv : Nat → Nat) (hr : m.r = k) (hP : Piv m k m.c piv)
    (hL : ∀ i, i < k → ∀ j, j < piv i → m.f i j = false) (fuel pr pc : Nat) (deps : List Nat)
    (hpr : pr < k) (hpc : pc ≤ piv pr) (hprev : ∀ i, i < pr → piv i < pc)
    (hdeps : deps = (List.range pc).filter fun j => !isPiv k piv j) (hfuel : pc + fuel + 1 = m.c) :
    colFinderLoop m fuel pr pc deps = (List.range m.c).filter fun j => !isPiv k piv j := by
  induction fuel generalizing pr pc deps with
  | zero =>
    simp only [colFinderLoop]
    have hb := hP.bound pr hpr
    have e : piv pr = pc := by omega
    have hp : isPiv k piv pc = true := (isPiv_iff k piv pc).mpr ⟨pr, hpr, e⟩
    have : m.c = pc + 1 := by omega
    rw [this, List.range_succ, List.filter_append, hdeps]
    simp [hp]
  | succ f ih =>
    simp only [colFinderLoop]
    by_cases hx : m.f pr pc = true
    · rw [if_pos hx]
      have e : piv pr = pc := by
        rcases Nat.lt_or_ge pc (piv pr) with h | h
        · rw [hL pr hpr pc h] at hx; cases hx
        · omega
      have hp : isPiv k piv pc = true := (isPiv_iff k piv pc).mpr ⟨pr, hpr, e⟩
      have hdeps' : deps = (List.range (pc + 1)).filter fun j => !isPiv k piv j := by
        rw [List.range_succ, List.filter_append, hdeps]; simp [hp]
      by_cases hlast : pr + 1 = m.r
      · rw [if_pos hlast]
        rw [filter_range_split m.c (pc + 1) (fun j => !isPiv k piv j) (by omega), ← hdeps']
        congr 1
        apply List.filter_congr
        intro j hj
        by_cases hj' : pc + 1 ≤ j
        · have : isPiv k piv j = false := by
            rw [isPiv_false_iff]
            intro i hi ej
            have : piv i ≤ piv pr := by
              rcases Nat.lt_or_ge i pr with h | h
              · have := hP.incr i pr h hpr; omega
              · have : i = pr := by omega
                rw [this]; exact Nat.le_refl _
            omega
          simp [hj', this]
        · simp [hj']
      · rw [if_neg hlast]
        have hpr' : pr + 1 < k := by omega
        apply ih (pr + 1) (pc + 1) deps hpr'
        · have := hP.incr pr (pr + 1) (by omega) hpr'; omega
        · intro i hi
          rcases Nat.lt_or_ge i pr with h | h
          · have := hprev i h; omega
          · have : i = pr := by omega
            rw [this]; omega
        · exact hdeps'
        · omega
    · rw [if_neg hx]
      have hne : piv pr ≠ pc := by
        intro e
        rw [← e, hP.one pr hpr] at hx
        exact hx rfl
      have hlt : pc < piv pr := by omega
      have hp : isPiv k piv pc = false := by
        rw [isPiv_false_iff]
        intro i hi ei
        rcases Nat.lt_or_ge i pr with h | h
        · have := hprev i h; omega
        · rcases Nat.eq_or_lt_of_le h with e | h'
          · rw [← e] at ei; omega
          · have := hP.incr pr i h' hi; omega
      apply ih pr (pc + 1) (deps ++ [pc]) hpr (by omega) (fun i hi => by have := hprev i hi; omega)
      · rw [List.range_succ, List.filter_append, hdeps]; simp [hp]
      · omega

/-- **`_col_finder` returns exactly the non-pivot columns** of the echelon matrix of the pivot rows, in increasing order -/
theorem colFinder_exact (m : BMat) (k : Nat) (piv : Nat → Nat) (hk : 0 < k) (hr : m.r = k) (hP : Piv m k m.c piv)
    (hL : ∀ i, i < k → ∀ j, j < piv i → m.f i j = false) :
    colFinder m = (List.range m.c).filter fun j => !isPiv k piv j := by
  unfold colFinder
  have hc : 0 < m.c := by have := hP.bound 0 hk; omega
  exact colFinderLoop_exact m k piv hr hP hL (m.c - 1) 0 0 [] hk (Nat.zero_le _) (fun i hi => by omega) rfl (by omega)

/-- hence their number is `columns − rank`: the assertion "column list is not correct" cannot fire -/
theorem colFinder_length (m : BMat) (k : Nat) (piv : Nat → Nat) (hk : 0 < k) (hr : m.r = k) (hP : Piv m k m.c piv)
    (hL : ∀ i, i < k → ∀ j, j < piv i → m.f i j = false) : (colFinder m).length + k = m.c := by
  rw [colFinder_exact m k piv hk hr hP hL]
  have h1 := length_filter_not (List.range m.c) (isPiv k piv)
  rw [filter_isPiv k m.c piv hP.incr hP.bound] at h1
  simpa using h1

/-- the columns kept by `np.delete(m, col_list, axis=1)` are the pivot columns, in order -/
theorem keepCols_eq_pivots (m : BMat) (k : Nat) (piv : Nat → Nat) (hk : 0 < k) (hr : m.r = k) (hP : Piv m k m.c piv)
    (hL : ∀ i, i < k → ∀ j, j < piv i → m.f i j = false) : keepCols m (colFinder m) = (List.range k).map piv := by
  unfold keepCols
  rw [← filter_isPiv k m.c piv hP.incr hP.bound, colFinder_exact m k piv hk hr hP hL]
  apply List.filter_congr
  intro j hj
  have hj' := List.mem_range.mp hj
  cases hp : isPiv k piv j
  · have : ((List.range m.c).filter fun j => !isPiv k piv j).contains j = true := by
      simp only [List.contains_iff_mem, List.mem_filter, List.mem_range]
      exact ⟨hj', by simp [hp]⟩
    rw [this]; rfl
  · have : ((List.range m.c).filter fun j => !isPiv k piv j).contains j = false := by
      cases hc : ((List.range m.c).filter fun j => !isPiv k piv j).contains j
      · rfl
      · simp only [List.contains_iff_mem, List.mem_filter, List.mem_range] at hc
        rw [hp] at hc; simp at hc
    rw [this]; rfl

end Graphiq.LC
