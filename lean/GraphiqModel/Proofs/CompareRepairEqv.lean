/-
  Proofs/CompareRepairEqv.lean — the repaired comparison is an equivalence relation on well-formed circuits (as `compare`
  calls it and as the filters call it, `isoVia ν` for either preparation `ν`): reflexive, symmetric (the inverse of a map
  passing the check passes it, and the model's search is complete), transitive (the exact characterisation, and renamings
  compose).
-/
import GraphiqModel.Proofs.CompareRepairLin
namespace Graphiq.Compare
open Graphiq Graphiq.Export

/-! ## renamings compose -/

theorem renOp_comp (W : List Wire) (π1 π2 : Wire → Wire) (hπ1 : IsRenaming W π1) (o : Op) (ho : ∀ w ∈ opWires o, w ∈ W) :
    renOp (π2 ∘ π1) o = renOp π2 (renOp π1 o) := by
  have hq : ∀ q : QReg, Wire.ofQ q ∈ opWires o → renQ (π2 ∘ π1) q = renQ π2 (renQ π1 q) := by
    intro q hq
    unfold renQ
    simp only [Function.comp]
    have := ofQ_renQ π1 q (hπ1.ty _ (ho _ hq))
    unfold renQ at this
    rw [this]
  have hc : ∀ m : Nat, (⟨.c, m⟩ : Wire) ∈ opWires o → renC (π2 ∘ π1) m = renC π2 (renC π1 m) := by
    intro m hm
    unfold renC
    simp only [Function.comp]
    have := c_renC π1 m (hπ1.ty _ (ho _ hm))
    unfold renC at this
    rw [this]
  cases o with
  | one g q => simp only [renOp]; rw [hq q (by simp [opWires, Op.qRegs])]
  | wrap gs q => simp only [renOp]; rw [hq q (by simp [opWires, Op.qRegs])]
  | ctrl g a b => simp only [renOp]; rw [hq a (by simp [opWires, Op.qRegs]), hq b (by simp [opWires, Op.qRegs])]
  | cctrl g a b m =>
    simp only [renOp]
    rw [hq a (by simp [opWires, Op.qRegs]), hq b (by simp [opWires, Op.qRegs]), hc m (by simp [opWires, Op.qRegs, Op.cRegs])]
  | meas q m =>
    simp only [renOp]
    rw [hq q (by simp [opWires, Op.qRegs]), hc m (by simp [opWires, Op.qRegs, Op.cRegs])]

theorem RenamedBy.trans {π1 π2 : Wire → Wire} {c1 c2 c3 : Circuit} (h12 : RenamedBy π1 c1 c2) (h23 : RenamedBy π2 c2 c3)
    (h1 : ∀ o ∈ c1.ops, OpOK (wiresN c1.ne c1.np c1.nc) o) : RenamedBy (π2 ∘ π1) c1 c3 := by
  have hW : wiresN c2.ne c2.np c2.nc = wiresN c1.ne c1.np c1.nc := by rw [h12.ne, h12.np, h12.nc]
  have i23 := h23.into; have j23 := h23.inj; have s23 := h23.surj; have w23 := h23.wires
  rw [hW] at i23 j23 s23 w23
  refine ⟨h12.ne.trans h23.ne, h12.np.trans h23.np, h12.nc.trans h23.nc, ?_, ?_, ?_, ?_⟩
  · intro w hw
    obtain ⟨a, b⟩ := h12.into w hw
    obtain ⟨a', b'⟩ := i23 _ a
    exact ⟨a', b'.trans b⟩
  · intro w hw w' hw' hww
    exact h12.inj w hw w' hw' (j23 _ (h12.into w hw).1 _ (h12.into w' hw').1 hww)
  · intro w3 hw3
    obtain ⟨w2, hw2, rfl⟩ := s23 w3 hw3
    obtain ⟨w1, hw1, rfl⟩ := h12.surj w2 hw2
    exact ⟨w1, hw1, rfl⟩
  · intro w hw
    show c3.ops.filter (touches (π2 (π1 w))) = _
    rw [w23 _ (h12.into w hw).1, h12.wires w hw, List.map_map]
    apply List.map_congr_left
    intro o ho
    exact (renOp_comp _ π1 π2 h12.isRenaming o (h1 o (List.mem_filter.1 ho).1).1).symm

/-! ## the model function is an equivalence -/

section
variable {ν : MG → MG} {F : List Op → List Op}

theorem isoVia_refl (v : View ν F) (c : Circuit) (h : ∀ o ∈ c.ops, OpOK (wiresN c.ne c.np c.nc) o) : isoVia ν c c = .ok true :=
  isoVia_complete v c c h h id (RenamedBy.refl _)

theorem isoVia_symm (v : View ν F) (c1 c2 : Circuit) (h1 : ∀ o ∈ c1.ops, OpOK (wiresN c1.ne c1.np c1.nc) o)
    (h2 : ∀ o ∈ c2.ops, OpOK (wiresN c2.ne c2.np c2.nc) o) (h : isoVia ν c1 c2 = .ok true) : isoVia ν c2 c1 = .ok true := by
  obtain ⟨g1, g2, L1, L2, e, e', d1, _, d2, _⟩ := v.on_built c1 c2 h1 h2
  rw [e] at h
  rw [e', isoGraphs2_symm g1 g2 _ _ _ _ d1.rep d2.rep d2.names (Except.ok.inj h)]

theorem isoVia_trans (v : View ν F) (c1 c2 c3 : Circuit) (h1 : ∀ o ∈ c1.ops, OpOK (wiresN c1.ne c1.np c1.nc) o)
    (h2 : ∀ o ∈ c2.ops, OpOK (wiresN c2.ne c2.np c2.nc) o) (h3 : ∀ o ∈ c3.ops, OpOK (wiresN c3.ne c3.np c3.nc) o)
    (h12 : isoVia ν c1 c2 = .ok true) (h23 : isoVia ν c2 c3 = .ok true) : isoVia ν c1 c3 = .ok true := by
  obtain ⟨π1, a⟩ := isoVia_sound v c1 c2 h1 h2 h12
  obtain ⟨π2, b⟩ := isoVia_sound v c2 c3 h2 h3 h23
  exact isoVia_complete v c1 c3 h1 h3 _ (a.trans b (v.ok h1))

end

end Graphiq.Compare
