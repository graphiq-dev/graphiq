/-
  Refine.lean — the wires are determined by the circuit (`Inv.paths_unique`); the wire-level effect of `_add` (it
  appends) and of unwrapping one wrapper node (the list of its unwrapped gates is spliced in place of the node) as
  explicit list edits.  The list edits of the other primitives are `Prim.wires` (Proofs/Dag.lean).
-/
import GraphiqModel.Proofs.Reach
import GraphiqModel.Proofs.Metrics
namespace Graphiq
namespace Dag
open Relation

theorem Inv.paths_unique {c : Dag} {P P' : Paths} (h : Inv c P) (h' : Inv c P') (r : Reg) : P r = P' r := by
  by_cases hl : c.live r
  · have a := regGateHistory_eq_wire h hl
    have b := regGateHistory_eq_wire h' hl
    rw [a] at b; injection b
  · rw [h.dead r hl, h'.dead r hl]

theorem add_refines {c : Dag} {P : Paths} (g : Good c P) {op : Op} (hop : OpWF op) (hlive : ∀ r ∈ opRegs op, c.live r) :
    ∃ P', Inv (c.add_ op) P' ∧ (∀ k ∉ opRegs op, P' k = P k) ∧
      ∀ k ∈ opRegs op, ∃ pre, P k = pre ++ [.out k] ∧ P' k = pre ++ [.op (c.nodeId + 1), .out k] := by
  have hinv := (add_spec g hop hlive).1.inv
  have hkeys := lastEdge_keys P (opRegs op)
  have hknd : (((opRegs op).map (lastEdge P)).map (·.key)).Nodup := by rw [hkeys]; exact opRegs_nodup hop
  refine ⟨_, hinv, ?_, ?_⟩
  · intro k hk
    exact splicePaths_other _ _ P k (by rw [hkeys]; exact hk)
  · intro k hk
    have hmemE : lastEdge P k ∈ (opRegs op).map (lastEdge P) := List.mem_map.mpr ⟨k, hk, rfl⟩
    have := splicePaths_mem (.op (c.nodeId + 1)) _ P hknd (lastEdge P k) hmemE
    simp only [lastEdge] at this
    obtain ⟨pre, hpre⟩ := g.inv.path_split_last (hlive k hk)
    refine ⟨pre ++ [predOut P k], by rw [hpre]; simp, ?_⟩
    rw [this, hpre]
    rw [show pre ++ [predOut P k, NodeId.out k] = pre ++ predOut P k :: [NodeId.out k] by rfl,
      insertAfter_append (g.inv.cut hpre).1]
    simp

theorem range_map_shift {γ : Type} (N k : Nat) (f : Nat → γ) :
    (List.range (k + 1)).map (fun j => f (N + 1 + j)) = f (N + 1) :: (List.range k).map (fun j => f (N + 1 + 1 + j)) := by
  rw [List.range_succ_eq_map, List.map_cons, List.map_map]
  congr 1
  apply List.map_congr_left
  intro j _
  simp only [Function.comp]
  congr 1
  omega

theorem zipIdx_map_shift {α β : Type} (N : Nat) (o : α) (rest : List α) (g : Nat → α → β) :
    ((o :: rest).zipIdx.map fun p => g (N + 1 + p.2) p.1) =
      g (N + 1) o :: (rest.zipIdx.map fun p => g (N + 1 + 1 + p.2) p.1) := by
  rw [List.zipIdx_cons, List.map_cons]
  congr 1
  rw [show (0 : Nat) + 1 = 0 + 1 from rfl, List.zipIdx_succ, List.map_map]
  apply List.map_congr_left
  intro p _
  simp only [Function.comp]
  congr 1
  omega

theorem insertOn_refines {c : Dag} {P : Paths} (g : Good c P) {w : Op} (hwf : OpWF w) {r : Reg} (hq : w.qregs = [r])
    (hc : w.cregs = []) {l1 l2 : List NodeId} {u v : NodeId} (hP : P r = l1 ++ u :: v :: l2) :
    ∃ P', Good (c.insertAt w [⟨u, v, r⟩]).1 P' ∧ (c.insertAt w [⟨u, v, r⟩]).2 = none ∧
      P' r = l1 ++ u :: .op (c.nodeId + 1) :: v :: l2 ∧ (∀ k, k ≠ r → P' k = P k) ∧
      (c.insertAt w [⟨u, v, r⟩]).1.nodes = c.nodes ++ [(.op (c.nodeId + 1), w)] ∧
      (c.insertAt w [⟨u, v, r⟩]).1.regs = c.regs ∧ (c.insertAt w [⟨u, v, r⟩]).1.nodeId = c.nodeId + 1 := by
  have hedge : (⟨u, v, r⟩ : Edge) ∈ c.edges := (g.inv.edges_iff _).mpr (consec_iff_append.mpr ⟨l1, l2, hP⟩)
  obtain ⟨hS, heq⟩ := insertAt_single_prim g hwf hq hc hedge rfl
  obtain ⟨hother, hsplice⟩ := Prim.insert_wires_spec g.inv hS
  rw [heq]
  refine ⟨_, Prim.good g (p := .insert w _) hS, rfl, ?_, fun k hk => hother k (by simpa using hk),
    Prim.insert_nodes g.inv _ _, Prim.insert_regs _ _ _, Prim.insert_nodeId _ _ _⟩
  obtain ⟨m1, m2, hl, hl'⟩ := hsplice ⟨u, v, r⟩ (by simp)
  simp only at hl hl'
  rw [hl']
  have hnd := g.inv.nodup r
  have e1 : m1 ++ u :: v :: m2 = (m1 ++ [u]) ++ v :: m2 := by simp
  have e2 : l1 ++ u :: v :: l2 = (l1 ++ [u]) ++ v :: l2 := by simp
  rw [hl, e1] at hP
  rw [hl, e1] at hnd
  rw [e2] at hP
  obtain ⟨hX, hY⟩ := split_unique hnd hP
  have hX' : m1 = l1 := List.append_cancel_right hX
  rw [hX', hY]

/-- one `insert_at(op, in_edges(node))` of `unwrap_nodes` -/
theorem insertBefore_refines {c : Dag} {P : Paths} (g : Good c P) {i : Nat} {w : Op} (hw : (NodeId.op i, w) ∈ c.nodes)
    {r : Reg} (hq : w.qregs = [r]) (hc : w.cregs = []) {o : Op} (hwf : OpWF o) (hoq : o.qregs = [r]) (hoc : o.cregs = [])
    {X Y : List NodeId} (hP : P r = X ++ .op i :: Y) :
    ∃ P', Good (c.insertAt o (c.inEdges (.op i))).1 P' ∧ (c.insertAt o (c.inEdges (.op i))).2 = none ∧
      P' r = X ++ .op (c.nodeId + 1) :: .op i :: Y ∧ (∀ k, k ≠ r → P' k = P k) ∧
      (c.insertAt o (c.inEdges (.op i))).1.nodes = c.nodes ++ [(.op (c.nodeId + 1), o)] ∧
      (c.insertAt o (c.inEdges (.op i))).1.nodeId = c.nodeId + 1 := by
  obtain ⟨a, hin, hedge⟩ := inEdges_single g hw hq hc
  obtain ⟨l1, l2, hl⟩ := consec_iff_append.mp ((g.inv.edges_iff _).mp hedge)
  simp only at hl
  obtain ⟨P', g', e, hP', hoth, hn, _, hid⟩ := insertOn_refines g hwf hoq hoc hl
  have hnd := g.inv.nodup r
  have e1 : l1 ++ a :: NodeId.op i :: l2 = (l1 ++ [a]) ++ NodeId.op i :: l2 := by simp
  rw [hl, e1] at hP hnd
  obtain ⟨hX, hY⟩ := split_unique hnd hP
  rw [hin]
  exact ⟨P', g', e, by rw [hP', ← hX, ← hY]; simp, hoth, hn, hid⟩

/-- the loop `for op in op_list: insert_at(op, in_edges(node))` of `unwrap_nodes`, before `remove_op(node)`: the wrapper
    node is still on its wire, after the new nodes -/
theorem unwrapOne_refines {c : Dag} {P : Paths} (g : Good c P) {i : Nat} {w : Op} (hw : (NodeId.op i, w) ∈ c.nodes) {r : Reg}
    (hq : w.qregs = [r]) (hc : w.cregs = []) (os : List Op) (hos : ∀ o ∈ os, OpWF o ∧ o.qregs = [r] ∧ o.cregs = [])
    {X Y : List NodeId} (hP : P r = X ++ .op i :: Y) :
    ∃ P', Good (c.unwrapOne (.op i) os).1 P' ∧ (c.unwrapOne (.op i) os).2 = none ∧
      P' r = X ++ ((List.range os.length).map fun j => NodeId.op (c.nodeId + 1 + j)) ++ .op i :: Y ∧
      (∀ k, k ≠ r → P' k = P k) ∧
      (c.unwrapOne (.op i) os).1.nodes = c.nodes ++ (os.zipIdx.map fun p => (NodeId.op (c.nodeId + 1 + p.2), p.1)) := by
  induction os generalizing c P X with
  | nil => exact ⟨P, g, rfl, by simpa using hP, fun _ _ => rfl, by simp [unwrapOne]⟩
  | cons o rest ih =>
    obtain ⟨hwf, hoq, hoc⟩ := hos o (by simp)
    obtain ⟨P1, g1, e1, hP1, hoth1, hn1, hid1⟩ := insertBefore_refines g hw hq hc hwf hoq hoc hP
    unfold unwrapOne
    cases hres : c.insertAt o (c.inEdges (.op i)) with
    | mk c1 err =>
      rw [hres] at g1 e1 hn1 hid1
      simp only at g1 e1 hn1 hid1
      subst e1
      simp only
      have hw1 : (NodeId.op i, w) ∈ c1.nodes := by rw [hn1]; exact List.mem_append_left _ hw
      have hP1' : P1 r = (X ++ [.op (c.nodeId + 1)]) ++ .op i :: Y := by rw [hP1]; simp
      obtain ⟨P2, g2, e2, hP2, hoth2, hn2⟩ := ih g1 hw1 (fun o' ho' => hos o' (List.mem_cons_of_mem _ ho')) hP1'
      refine ⟨P2, g2, e2, ?_, fun k hk => (hoth2 k hk).trans (hoth1 k hk), ?_⟩
      · rw [hP2, hid1, List.length_cons, range_map_shift c.nodeId rest.length NodeId.op]
        simp only [List.append_assoc, List.cons_append, List.nil_append]
      · rw [hn2, hn1, hid1, zipIdx_map_shift c.nodeId o rest (fun j a => (NodeId.op j, a))]
        simp only [List.append_assoc, List.cons_append, List.nil_append]


/-- `unwrap_nodes` on one wrapper node (`for op in unwrap(): insert_at(op, in_edges(i))`, then `remove_op(i)`): the new
    nodes, holding the unwrapped gates in application order, take the place of node `i` on its wire -/
theorem unwrapNode_refines {c : Dag} {P : Paths} (g : Good c P) {i : Nat} {w : Op} (hw : (NodeId.op i, w) ∈ c.nodes)
    (hk : w.kind = .wrapper) :
    ∃ r X Y P', w.qregs = [r] ∧ P r = X ++ .op i :: Y ∧
      Good ((c.unwrapOne (.op i) w.unwrap).1.removeOp (.op i)).1 P' ∧
      P' r = X ++ ((List.range w.unwrap.length).map fun j => NodeId.op (c.nodeId + 1 + j)) ++ Y ∧
      (∀ k, k ≠ r → P' k = P k) ∧
      ∀ p ∈ w.unwrap.zipIdx, (NodeId.op (c.nodeId + 1 + p.2), p.1) ∈ ((c.unwrapOne (.op i) w.unwrap).1.removeOp (.op i)).1.nodes := by
  have hwf := g.inv.op_wf i w hw
  obtain ⟨⟨r, hq⟩, hc, _⟩ := hwf.wrapper_shape hk
  have hrq : r.ty ≠ .c := hwf.qregs_quantum r (by rw [hq]; simp)
  have hon : NodeId.op i ∈ P r := (g.mem.mem_q i w hw r hrq).mpr (by rw [hq]; simp)
  obtain ⟨X, Y, hP⟩ := List.append_of_mem hon
  obtain ⟨P1, g1, e1, hP1, hoth1, hn1⟩ := unwrapOne_refines g hw hq hc w.unwrap (unwrap_ops_wf hwf hk hq) hP
  have hw1 : (NodeId.op i, w) ∈ (c.unwrapOne (.op i) w.unwrap).1.nodes := by rw [hn1]; exact List.mem_append_left _ hw
  have hi1 : NodeId.op i ∈ (c.unwrapOne (.op i) w.unwrap).1.nodeIds := mem_nodeIds.mpr ⟨w, hw1⟩
  obtain ⟨_, g2, _, _⟩ := removeOp_good g1 hi1
  refine ⟨r, X, Y, erasePaths P1 (.op i), hq, hP, g2, ?_, ?_, ?_⟩
  · unfold erasePaths
    rw [hP1]
    exact erase_append_mid (g1.inv.cut hP1).1
  · intro k hk'
    unfold erasePaths
    rw [hoth1 k hk']
    exact List.erase_of_not_mem fun hm => hk' ((g.single_wire hw hq hc k).mp hm)
  · intro p hp
    have hrm := removeOp_eq ((opOf_eq_some g1.inv.ids_nodup).mpr hw1)
    rw [hrm]
    have F := removeFacts g1.inv (.op i)
    simp only [removed, F.frame.nodes]
    rw [List.mem_filter]
    refine ⟨?_, by simp; intro e; have := g.inv.op_range i (mem_nodeIds.mpr ⟨w, hw⟩); omega⟩
    rw [hn1]
    exact List.mem_append_right _ (List.mem_map.mpr ⟨p, hp, rfl⟩)

end Dag
end Graphiq
