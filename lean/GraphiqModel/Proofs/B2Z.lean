/-
  Proofs/B2Z.lean — Booleans as elements of GF(2): the one definition shared by the GF(2) matrix file of the C08/C09 chain
  (Proofs/GF2Matrix.lean) and the entropy file of the C03/C02 chain (Proofs/HeightEntropy.lean), so that both chains can be imported
  into one module; `parityTo` is the sum in GF(2).
-/
import Mathlib.Data.ZMod.Basic
import Mathlib.Algebra.BigOperators.Fin
import GraphiqModel.Model.Bits
namespace Graphiq

def b2z (b : Bool) : ZMod 2 := if b then 1 else 0

theorem b2z_xor (a b : Bool) : b2z (xor a b) = b2z a + b2z b := by cases a <;> cases b <;> decide
theorem b2z_and (a b : Bool) : b2z (a && b) = b2z a * b2z b := by cases a <;> cases b <;> decide
theorem b2z_eq_zero (a : Bool) : b2z a = 0 ↔ a = false := by cases a <;> decide

theorem b2z_inj (a b : Bool) (h : b2z a = b2z b) : a = b := by
  cases a <;> cases b <;> first | rfl | exact absurd h (by decide)

theorem b2z_parity (m : Nat) (f : Nat → Bool) : b2z (parityTo m f) = ∑ k : Fin m, b2z (f k.val) := by
  induction m with
  | zero => simp [parityTo, b2z]
  | succ k ih => rw [Fin.sum_univ_castSucc]; simp [parityTo, b2z_xor, ih]

end Graphiq
