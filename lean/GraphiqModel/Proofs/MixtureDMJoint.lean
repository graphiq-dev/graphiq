/-
  Proofs/MixtureDMJoint.lean — the repaired `MixedStabilizer.apply_measurement` (joint measurement, `Mix.measure` of
  Model/Noise.lean; the per-branch measurement of graphiq before the repair of finding F2 is `Mix.measureOld`).

  * `measureJoint_state` : for **every** mixture of valid tableaux (no agreement between the branches needed), every n, the
    candidate list of outcome `o` satisfies `Σ (measureJoint q o m) = Π_o (Σ m) Π_o` and `weight[o] = tr((Σ m) Π_o)`;
  * `joint_measurement_is_dm_measurement` : whenever `DensityMatrix.apply_measurement` returns a matrix, it reports the outcome
    `Mix.measure` reports and its matrix is `Σ_k w_k ρ(T_k)` of the mixture `Mix.measure` returns — for all mixtures with
    non-negative weights, no weight threshold.
-/
import GraphiqModel.Proofs.MixtureDMPhysMeas
import GraphiqModel.Proofs.MixtureDMWeights
namespace Graphiq
namespace MixDM
open Matrix Hilbert Noise DM PRow

theorem jointBranch_state (n : Nat) (w : Rat) (t : Tab) (hn : t.n = n) (hv : t.Valid) (hr : t.StabReal) (q : Nat) (hq : q < n)
    (o : Bool) :
    mixRho n (Mix.jointBranch q o (w, t)).toList = ((w : ℚ) : ℂ) • (projZ n q o * tabRho n t * projZ n q o) := by
  unfold Mix.jointBranch
  cases hp : t.pivot q with
  | some p =>
    obtain ⟨b1, _, _⟩ := branch_random n t hn hv hr q hq o p hp
    show ((w / 2 : ℚ) : ℂ) • tabRho n (t.zMeasure q o).1.norm + 0 = _
    rw [b1, smul_smul, add_zero]
    congr 1
    push_cast
    ring
  | none =>
    obtain ⟨b1, b2, _, _⟩ := branch_det n t hn hv hr q hq o hp
    simp only
    by_cases ho : (t.zMeasure q o).2.1 = o
    · rw [if_pos ho]
      rw [ho] at b2
      show ((w : ℚ) : ℂ) • tabRho n (t.zMeasure q o).1.norm + 0 = _
      rw [b1, b2, add_zero]
    · rw [if_neg ho]
      have e : (!(t.zMeasure q o).2.1) = o := by
        revert ho; cases (t.zMeasure q o).2.1 <;> cases o <;> simp
      have hl := fixed_other_left q hq _ _ b2
      rw [e] at hl
      show (0 : HMat n) = _
      rw [hl]; simp

/-- **the joint measurement projects the state of the mixture**, whatever the branches look like: the candidate list
    of outcome `o` stands for `Π_o R Π_o`, and its weight is `tr(R Π_o)` -/
theorem measureJoint_state (n q : Nat) (hq : q < n) (o : Bool) (m : Mixture) (hg : MixGood n m) :
    mixRho n (Mix.measureJoint q o m) = projZ n q o * mixRho n m * projZ n q o ∧
    ((Mix.total (Mix.measureJoint q o m) : ℚ) : ℂ) = (mixRho n m * projZ n q o).trace := by
  have h1 : mixRho n (Mix.measureJoint q o m) = projZ n q o * mixRho n m * projZ n q o :=
    mixRho_filterMap n (fun R => projZ n q o * R * projZ n q o) (by simp) (fun a b => by rw [Matrix.mul_add, Matrix.add_mul])
      _ m (fun x hx => by
        obtain ⟨hn, hv, hr⟩ := hg x hx
        rw [jointBranch_state n x.1 x.2 hn hv hr q hq o, Matrix.mul_smul, Matrix.smul_mul])
  refine ⟨h1, ?_⟩
  rw [← mixRho_trace n _ (measureJoint_all (fun o => (valid_closed n).op (.meas hq o)) o m hg.ok), h1]
  exact (trace_mul_projZ q o _).symm

theorem measureJoint_spec (n q : Nat) (hq : q < n) (o : Bool) : ∀ (m : Mixture), MixGood n m →
    mixRho n (Mix.measureJoint q o m) = projZ n q o * mixRho n m * projZ n q o ∧
    ((Mix.total (Mix.measureJoint q o m) : ℚ) : ℂ) = (mixRho n m * projZ n q o).trace ∧
    MixGood n (Mix.measureJoint q o m) ∧ (MixNonneg m → MixNonneg (Mix.measureJoint q o m)) :=
  fun m hg => ⟨(measureJoint_state n q hq o m hg).1, (measureJoint_state n q hq o m hg).2,
    measureJoint_all (fun o => (good_closed n).op (.meas hq o)) o m hg, measureJoint_nonneg q o m⟩

/-- a branch of `cand[o]` was measured with reported outcome `o` -/
theorem jointBranch_outcome (n : Nat) (t : Tab) (hn : t.n = n) (hv : t.Valid) (hr : t.StabReal) (q : Nat) (hq : q < n)
    (o : Bool) (w : Rat) (y : Rat × Tab) (hj : Mix.jointBranch q o (w, t) = some y) : (t.zMeasure q o).2.1 = o := by
  unfold Mix.jointBranch at hj
  cases hp : t.pivot q with
  | some p => exact (branch_random n t hn hv hr q hq o p hp).2.1
  | none =>
    simp only [hp] at hj
    split at hj
    · assumption
    · cases hj

theorem measureJoint_fixed (n q : Nat) (hq : q < n) (o : Bool) (m : Mixture) (hg : MixGood n m) :
    Fixed n q o (Mix.measureJoint q o m) := by
  intro y hy
  unfold Mix.measureJoint at hy
  rw [List.mem_filterMap] at hy
  obtain ⟨⟨w, t⟩, hx, hj⟩ := hy
  obtain ⟨hn, hv, hr⟩ := hg (w, t) hx
  have hf := zMeasure_fixed n t hn hv hr q hq o
  rw [jointBranch_outcome n t hn hv hr q hq o w y hj] at hf
  rw [(jointBranch_tab q o (w, t) y hj).1]
  exact hf

theorem photonLoss_mixN' (n : Nat) (r : Rat) (m : Mixture) (h : MixGood n m) : MixGood n (Mix.photonLoss r m) :=
  photonLoss_all (P := fun t => t.n = n ∧ t.Valid ∧ t.StabReal) r m h

theorem mixRho_map_scale (n : Nat) (c d : Rat) (m : Mixture) :
    mixRho n (m.map fun x => (x.1 * c / d, x.2)) = (((c / d : ℚ)) : ℂ) • mixRho n m := by
  refine mixRho_map n (fun R => (((c / d : ℚ)) : ℂ) • R) (smul_zero _) (smul_add _) _ m (fun x _ => ?_)
  rw [smul_smul]
  congr 1
  push_cast
  ring

theorem mixRho_map_zero (n : Nat) (f : Tab → Tab) (m : Mixture) : mixRho n (m.map fun x => (0 * x.1, f x.2)) = 0 :=
  mixRho_map n (fun _ => 0) rfl (fun _ _ => (add_zero _).symm) _ m (fun x _ => by simp)

def ZeroW (m : Mixture) : Prop := ∀ x ∈ m, x.1 = 0

theorem mixRho_zeroW (n : Nat) : ∀ (m : Mixture), ZeroW m → mixRho n m = 0
  | [], _ => mixRho_nil n
  | (w, t) :: rest, h => by
    rw [mixRho_cons, mixRho_zeroW n rest (fun x hx => h x (List.mem_cons_of_mem _ hx))]
    have : w = 0 := h (w, t) List.mem_cons_self
    rw [this]; simp

theorem zeroW_of_total (m : Mixture) (hnn : MixNonneg m) (ht : Mix.total m = 0) : ZeroW m := by
  induction m with
  | nil => intro x hx; cases hx
  | cons y ys ih =>
    obtain ⟨w, t⟩ := y
    rw [Mix.total_cons] at ht
    have hw : 0 ≤ w := hnn (w, t) List.mem_cons_self
    have hr := total_nonneg ys (fun z hz => hnn z (List.mem_cons_of_mem _ hz))
    have hw0 : w = 0 := by linarith
    have hr0 : Mix.total ys = 0 := by linarith
    intro x hx
    rcases List.mem_cons.1 hx with e | hx
    · rw [e]; exact hw0
    · exact ih (fun z hz => hnn z (List.mem_cons_of_mem _ hz)) hr0 x hx

theorem zeroW_map_zero (f : Tab → Tab) (m : Mixture) : ZeroW (m.map fun x => (0 * x.1, f x.2)) := by
  intro x hx
  simp only [List.mem_map] at hx
  obtain ⟨y, _, rfl⟩ := hx
  simp

theorem zeroW_mapTab (f : Tab → Tab) (m : Mixture) (h : ZeroW m) : ZeroW (Mix.mapTab f m) := by
  intro x hx
  simp only [Mix.mapTab, List.mem_map] at hx
  obtain ⟨⟨p, t⟩, hy, rfl⟩ := hx
  exact h (p, t) hy

theorem measure_good_new (n q : Nat) (hq : q < n) (det : Bool) (m : Mixture) (hg : MixGood n m) :
    MixGood n (Mix.measure q det m).1 :=
  measure_all (fun o => (good_closed n).op (.meas hq o)) det m hg

/-- the outcome the repaired measurement reports (`[outcome] * len`) -/
def measOutcome (q : Nat) (det : Bool) (m : Mixture) : Bool :=
  if det then !isclose0 (Mix.total (Mix.measureJoint q true m)) else isclose0 (Mix.total (Mix.measureJoint q false m))

theorem measure_outcomes (q : Nat) (det : Bool) (m : Mixture) :
    (Mix.measure q det m).2 = List.replicate (Mix.measure q det m).1.length (measOutcome q det m) := rfl

/-- **the repaired `apply_measurement` agrees with the density-matrix backend on every mixture** (valid branches, non-negative
    weights; no agreement between the branches, no weight threshold): whenever `DensityMatrix.apply_measurement` returns a
    matrix, the outcome is the one `Mix.measure` reports and the matrix is `Σ_k w_k ρ(T_k)` of the mixture it returns; that
    mixture is either made of branches fixed by `Π_o`, or has all weights `0` (the `0.0 · p_i` branch of the code). -/
theorem joint_measurement_is_dm_measurement (n q : Nat) (hq : q < n) (det : Bool) (m : Mixture) (ρ p0 p1 : Mat)
    (hg : MixGood n m) (hnn : MixNonneg m) (hρn : ρ.n = 2 ^ n) (hρ : toC n ρ = mixRho n m)
    (hp : projectorsZ n q = .ok (p0, p1)) (ρ' : Mat) (o : Bool) (h : applyMeasurement ρ p0 p1 det = .ok (some ρ', o)) :
    o = measOutcome q det m ∧ toC n ρ' = mixRho n (Mix.measure q det m).1 ∧ ρ'.n = 2 ^ n ∧
      (Fixed n q o (Mix.measure q det m).1 ∨ ZeroW (Mix.measure q det m).1) := by
  obtain ⟨e0, e1, n0, n1⟩ := toC_projectorsZ n q hq p0 p1 hp
  obtain ⟨a1, a2⟩ := measureJoint_state n q hq false m hg
  obtain ⟨b1, b2⟩ := measureJoint_state n q hq true m hg
  have t0 : (ρ.mul p0).trace.re = Mix.total (Mix.measureJoint q false m) :=
    trace_re_of n ρ p0 hρn _ (by rw [hρ, e0, a2])
  have t1 : (ρ.mul p1).trace.re = Mix.total (Mix.measureJoint q true m) :=
    trace_re_of n ρ p1 hρn _ (by rw [hρ, e1, b2])
  have x0n := total_nonneg _ (measureJoint_nonneg q false m hnn)
  have x1n := total_nonneg _ (measureJoint_nonneg q true m hnn)
  have pr0 := prOf_eq t0 x0n
  have pr1 := prOf_eq t1 x1n
  have hpair := Mix.total_measureJoint_pair q m
  obtain ⟨_, ho, norm, hz, hnorm, hρ'⟩ := applyMeasurement_some ρ p0 p1 det ρ' o h
  rw [pr0, pr1] at ho hnorm
  obtain ⟨c1, _⟩ := measureJoint_state n q hq o m hg
  obtain ⟨hsz, hdm⟩ := toC_projected n q hq p0 p1 hp o (1 / norm) ρ
  rw [← hρ'] at hsz hdm
  rw [hρ] at hdm
  unfold measOutcome Mix.measure
  simp only
  generalize Mix.total (Mix.measureJoint q false m) = q0 at *
  generalize Mix.total (Mix.measureJoint q true m) = q1 at *
  rw [← ho]
  have hwo0 : 0 ≤ (if o = true then q1 else q0) := by cases o <;> simp [x0n, x1n]
  refine ⟨rfl, ?_, hsz, ?_⟩
  · by_cases hw : 0 < (if o = true then q1 else q0)
    · have htot : 0 < q0 + q1 := by cases o <;> simp at hw <;> linarith
      rw [if_pos hw, hdm, hnorm, if_pos htot, one_div_div, mixRho_map_scale, c1]
    · have hw0 : (if o = true then q1 else q0) = 0 := le_antisymm (not_lt.1 hw) hwo0
      have htot : ¬ 0 < q0 + q1 := by
        intro hpos
        rw [if_pos hpos, hw0, zero_div] at hnorm
        exact hz hnorm
      have hT : Mix.total m = 0 := by rw [← hpair]; linarith
      rw [if_neg hw, hdm, mixRho_map_zero n (fun t => (t.zMeasure q o).1.norm) m, mixRho_zeroW n m (zeroW_of_total m hnn hT)]
      simp
  · by_cases hw : 0 < (if o = true then q1 else q0)
    · left
      rw [if_pos hw]
      intro x hx
      simp only [List.mem_map] at hx
      obtain ⟨z, hz', rfl⟩ := hx
      exact measureJoint_fixed n q hq o m hg z hz'
    · right
      rw [if_neg hw]
      exact zeroW_map_zero (fun t => (t.zMeasure q o).1.norm) m

end MixDM
end Graphiq
