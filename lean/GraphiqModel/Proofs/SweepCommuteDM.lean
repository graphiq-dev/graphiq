/-
  Proofs/SweepCommuteDM.lean — the commutation hypothesis `hcomm` of C13's abstract theorems, discharged for a
  density-matrix semantics of the compile sequence (the stabilizer semantics is `Commute.appG`, Proofs/CommuteSem.lean).

  `appD ne np : SOp → DSt → DSt` reads an operation of the compile sequence exactly as `Commute.appRaw` does — same
  decoding into primitives (`Commute.decode`), same outcome streams attached to the measured registers — but acts on
  complex `2ⁿ × 2ⁿ` matrices: a gate conjugates by its unitary (`Hilbert.gateMat`, C07 / C01), a measurement with recorded
  outcome `o` conjugates by the projector `Hilbert.projZ n q o` (the *unnormalised* post-measurement branch: its trace is
  the probability of the recorded outcomes, an impossible branch is the zero matrix), classically controlled corrections
  are applied when the recorded outcome is 1.  Operations on disjoint registers act through matrices that are local on
  disjoint qubit sets, so they commute (`Hilbert.local_conj_comm`, Proofs/HilbertBridgeCommute.lean).
-/
import GraphiqModel.Proofs.CommuteSem
import GraphiqModel.Proofs.HilbertBridgeCommute
namespace Graphiq.Commute
open Graphiq Matrix Classical
open Graphiq.Wire (Reg RegType SOp Item Kind G1 runSeq)

/-- the matrix of one primitive on `n` qubits; a recorded measurement outcome is its projector -/
noncomputable def primMat (n : Nat) : Tab.Op → Hilbert.DMat n
  | .h q => Hilbert.gateMat n (.H q)
  | .s q => Hilbert.gateMat n (.P q)
  | .sdg q => Hilbert.gateMat n (.Pdag q)
  | .x q => Hilbert.gateMat n (.X q)
  | .y q => Hilbert.gateMat n (.Y q)
  | .z q => Hilbert.gateMat n (.Z q)
  | .cnot c t => Hilbert.gateMat n (.CNOT c t)
  | .cz c t => Hilbert.gateMat n (.CZ c t)
  | .meas q o => Hilbert.projZ n q o
  | _ => 1

/-- a gate primitive that passes the compiler's assertions is a well-formed `Gate`: same row action, same matrix, same qubits -/
theorem gatePrim_gate (n : Nat) (p : Tab.Op) (hg : isGatePrim p = true) (hok : primOk n p = true) :
    ∃ g : Gate, g.WF n ∧ rowP p = g.act ∧ primMat n p = Hilbert.gateMat n g ∧
      ∀ j, Hilbert.gateSites g j → j ∈ primSupp p := by
  cases p with
  | h q => exact ⟨.H q, (show q < n by simpa [primOk] using hok), rfl, rfl, fun j hj => List.mem_singleton.mpr hj⟩
  | s q => exact ⟨.P q, (show q < n by simpa [primOk] using hok), rfl, rfl, fun j hj => List.mem_singleton.mpr hj⟩
  | sdg q => exact ⟨.Pdag q, (show q < n by simpa [primOk] using hok), rfl, rfl, fun j hj => List.mem_singleton.mpr hj⟩
  | x q => exact ⟨.X q, (show q < n by simpa [primOk] using hok), rfl, rfl, fun j hj => List.mem_singleton.mpr hj⟩
  | y q => exact ⟨.Y q, (show q < n by simpa [primOk] using hok), rfl, rfl, fun j hj => List.mem_singleton.mpr hj⟩
  | z q => exact ⟨.Z q, (show q < n by simpa [primOk] using hok), rfl, rfl, fun j hj => List.mem_singleton.mpr hj⟩
  | cnot c t =>
    exact ⟨.CNOT c t, (show c < n ∧ t < n ∧ c ≠ t by simpa [primOk] using hok), rfl, rfl,
      fun j (hj : j = c ∨ j = t) => by simpa [primSupp] using hj⟩
  | cz c t =>
    exact ⟨.CZ c t, (show c < n ∧ t < n ∧ c ≠ t by simpa [primOk] using hok), rfl, rfl,
      fun j (hj : j = c ∨ j = t) => by simpa [primSupp] using hj⟩
  | swap _ _ | meas _ _ | resetZ _ _ _ | resetX _ _ _ | resetY _ _ _ | insert _ | add | remove _ _ | ptrace _ _ =>
    cases hg

theorem primMat_local (n : Nat) (p : Tab.Op) (hok : primOk n p = true) :
    Hilbert.Local n (fun j => j ∈ primSupp p) (primMat n p) := by
  rcases prim_cases_rowP n p hok with ⟨q, o, rfl, hq⟩ | ⟨hg, _, _⟩
  · exact (Hilbert.projZ_local n q hq o).mono (fun j hj => List.mem_singleton.mpr hj)
  · obtain ⟨g, hwf, _, hmat, hsites⟩ := gatePrim_gate n p hg hok
    rw [hmat]
    exact (Hilbert.gateMat_local n g hwf).mono hsites

/-- **density-matrix semantics of a primitive**: conjugation by its matrix; undefined when a compiler assertion fails -/
noncomputable def appPD (n : Nat) (op : Tab.Op) (s : Option (Hilbert.DMat n)) : Option (Hilbert.DMat n) :=
  if primOk n op then s.map fun ρ => primMat n op * ρ * (primMat n op)ᴴ else none

theorem appPD_none (n : Nat) (op : Tab.Op) : appPD n op none = none := by
  unfold appPD; split <;> rfl

theorem appPD_not_ok (n : Nat) (op : Tab.Op) (h : primOk n op ≠ true) (s : Option (Hilbert.DMat n)) : appPD n op s = none := by
  unfold appPD; rw [if_neg h]

theorem appPD_ok (n : Nat) (op : Tab.Op) (h : primOk n op = true) (ρ : Hilbert.DMat n) :
    appPD n op (some ρ) = some (primMat n op * ρ * (primMat n op)ᴴ) := by
  unfold appPD; rw [if_pos h]; rfl

theorem appPD_comm (n : Nat) (a b : Tab.Op) (hd : ∀ j, j ∈ primSupp a → j ∉ primSupp b) (s : Option (Hilbert.DMat n)) :
    appPD n a (appPD n b s) = appPD n b (appPD n a s) := by
  by_cases hoa : primOk n a = true
  · by_cases hob : primOk n b = true
    · cases s with
      | none => rw [appPD_none, appPD_none, appPD_none]
      | some ρ =>
        rw [appPD_ok n b hob, appPD_ok n a hoa, appPD_ok n a hoa, appPD_ok n b hob,
          Hilbert.local_conj_comm (primMat_local n a hoa) (primMat_local n b hob) hd ρ]
    · rw [appPD_not_ok n b hob, appPD_not_ok n b hob, appPD_none]
  · rw [appPD_not_ok n a hoa, appPD_not_ok n a hoa, appPD_none]

/-- run a list of primitives, first element first -/
noncomputable def runPD (n : Nat) (l : List Tab.Op) (s : Option (Hilbert.DMat n)) : Option (Hilbert.DMat n) :=
  l.foldl (fun s a => appPD n a s) s

theorem runPD_cons (n : Nat) (a : Tab.Op) (l : List Tab.Op) (s : Option (Hilbert.DMat n)) :
    runPD n (a :: l) s = runPD n l (appPD n a s) := rfl

theorem runPD_none (n : Nat) (l : List Tab.Op) : runPD n l none = none := by
  induction l with
  | nil => rfl
  | cons a l ih => rw [runPD_cons, appPD_none, ih]

theorem runPD_comm (n : Nat) (l1 l2 : List Tab.Op)
    (hd : ∀ a, a ∈ l1 → ∀ b, b ∈ l2 → ∀ j, j ∈ primSupp a → j ∉ primSupp b) (s : Option (Hilbert.DMat n)) :
    runPD n l1 (runPD n l2 s) = runPD n l2 (runPD n l1 s) :=
  Wire.runSeq_comm (appPD n) (fun _ => True) (fun _ _ _ => trivial) l1 l2 (fun a ha b hb s _ => appPD_comm n a b (hd a ha b hb) s)
    s trivial

/-- density matrix + unread outcome streams, or `none` = "a compiler assertion failed / no outcome supplied" -/
abbrev DSt (n : Nat) := Option (Hilbert.DMat n × Script)

/-- **density-matrix semantics of one operation of the compile sequence** (same decoding, same outcome streams as the
    stabilizer semantics `appRaw`) -/
noncomputable def appD (ne np : Nat) (a : SOp) (s : DSt (ne + np)) : DSt (ne + np) :=
  s.bind fun st =>
    match decode ne np a with
    | none => none
    | some d =>
      if d.has st.2 then (runPD (ne + np) (d.prims (d.out st.2)) (some st.1)).map fun ρ' => (ρ', d.pop st.2) else none

theorem appD_eq_appDec (ne np : Nat) (a : SOp) (s : DSt (ne + np)) :
    appD ne np a s = appDec (runPD (ne + np)) (decode ne np a) s := rfl

theorem appD_none (ne np : Nat) (a : SOp) : appD ne np a none = none := rfl

theorem appD_map (ne np : Nat) (a : SOp) (d : Dec) (h : decode ne np a = some d) (og : Option (Hilbert.DMat (ne + np)))
    (sc : Script) :
    appD ne np a (og.map fun g => (g, sc)) =
      if d.has sc then (runPD (ne + np) (d.prims (d.out sc)) og).map fun g' => (g', d.pop sc) else none := by
  rw [appD_eq_appDec, h, appDec_map (runPD_none _)]

/-- **operations on disjoint quantum registers commute in the density-matrix semantics** — for every matrix, every
    assignment of outcomes -/
theorem appD_comm (ne np : Nat) (a b : SOp) (hd : ∀ r, r ∈ a.regs → r ∉ b.regs) (s : DSt (ne + np)) :
    appD ne np a (appD ne np b s) = appD ne np b (appD ne np a s) := by
  cases s with
  | none => rfl
  | some st =>
    obtain ⟨ρ, sc⟩ := st
    simp only [appD_eq_appDec]
    exact appDec_comm (runPD_none _) (decode ne np a) (decode ne np b) ρ sc
      (fun da db hda hdb => (decode_within ne np a da hda).mreg_ne (decode_within ne np b db hdb) hd)
      (fun da db hda hdb o o' => runPD_comm (ne + np) _ _
        ((decode_within ne np a da hda).supp_disjoint (decode_within ne np b db hdb) hd o o') (some ρ))

end Graphiq.Commute
