/-
  Proofs/HilbertBridgeBase.lean — what every reading of graphiq's `DensityMatrix` as a complex matrix starts from: the
  matrix type `DMat n` (indexed by bit strings `Bits n`, qubit 0 = left-most Kronecker factor), `herm` (`hermitianize`),
  the density matrix `tabRho` of a Clifford tableau, the 2×2 block `|s⟩⟨s'|` with its chains (`oneQ_ketBra2_diag`: the chain of
  `|s⟩⟨s|` is `(1 + (−1)^s Z_q)/2`; `resetKraus1_eq`), the algebra of those projectors (`proj_Zq_*`) and the start state
  `DMH.ket0H` of the compile loops.  Kept apart from
  Proofs/HilbertBridgeOps.lean so that the bridge to the executable matrices (Proofs/HilbertBridgeMat.lean) can be used
  where the names of the compile-loop model (`Model/Circuit.lean`) are not wanted.

  Two vocabularies name these objects, and both are fixed.  The C01 / C17 chain says `Hilbert.DMat`, `herm`, `tabRho`, `idx n b`, `gqC`
  (a ring homomorphism), `projZ` (the Kronecker chain, HilbertBridgeOps), `applyUnitary`, `applyChannel`, `resetKraus`, `Rep`; the C06 chain
  (`namespace MixDM`, which opens `Hilbert`, `Noise`, `DM`) says `MixDM.HMat`, `hermH`, `tabRho`, `idx b`, `gqC` (a function), `projZ`
  (`proj n (Zq q s)`, equal to `Hilbert.projZ` for `q < n` only: `Hilbert.projZ_eq`), `conjH`, and meets `DM.applyUnitary`,
  `DM.applyChannel`, `DM.resetKraus`, `DM.Rep` (executable model) under the same last names.  The definitions agree by `rfl`
  (`Sweep.tabRho_eq`, `Sweep.gqC_eq`) or by `MixDM.idx_eq`, and `MixDM.rep_iff_toC` (Proofs/MixtureDMBridgeMat.lean) turns a statement
  `Rep n m M` into `toC n m = M`.  A file of the C06 chain must not import HilbertBridgeOps or `Model/Circuit.lean`: `projZ`,
  `applyUnitary`, `applyChannel`, `COp`, `qIndex` would become ambiguous there and in the statements of Properties/C06.lean.
-/
import GraphiqModel.Proofs.HilbertTab
import GraphiqModel.Proofs.HilbertKron
namespace Graphiq
namespace Hilbert
open Matrix PRow

abbrev DMat (n : Nat) := Matrix (Bits n) (Bits n) ℂ

/-- `hermitianize(m) = (m + m†)/2` -/
noncomputable def herm {n : Nat} (M : DMat n) : DMat n := (1 / 2 : ℂ) • (M + Mᴴ)

theorem herm_of_hermitian {n : Nat} (M : DMat n) (h : Mᴴ = M) : herm M = M := by
  unfold herm
  rw [h, ← two_smul ℂ M, smul_smul]
  norm_num

theorem conj_hermitian {n : Nat} (U ρ : DMat n) (h : ρᴴ = ρ) : (U * ρ * Uᴴ)ᴴ = U * ρ * Uᴴ := by
  rw [Matrix.conjTranspose_mul, Matrix.conjTranspose_mul, Matrix.conjTranspose_conjTranspose, h, Matrix.mul_assoc]

/-- the density matrix of the stabilizer half of a Clifford tableau, on `n` qubits (`n = t.n` in every use) -/
noncomputable def tabRho (n : Nat) (t : Tab) : DMat n := rho n (STab.ofTab t)

/-- `|s⟩⟨s'|` : `projector_ketz0()` = `ketBra2 0 0`, `projector_ketz1()` = `ketBra2 1 1`, the reset Kraus block
    `[[0,1],[0,0]]` = `ketBra2 0 1` -/
noncomputable def ketBra2 (s s' : Bool) : Matrix Bool Bool ℂ := Matrix.of fun a b => if a = s ∧ b = s' then 1 else 0

theorem ketBra2_diagonal (s : Bool) : ketBra2 s s = Matrix.diagonal fun x => if x = s then 1 else 0 := by
  ext a b
  cases a <;> cases b <;> simp [ketBra2]

/-- `projectors_zbasis`: the Kronecker chain with `|s⟩⟨s|` at position `q` is `(1 + (-1)^s Z_q)/2` -/
theorem oneQ_ketBra2_diag (n q : Nat) (hq : q < n) (s : Bool) : oneQ n q (ketBra2 s s) = proj n (Zq q s) := by
  rw [proj_Zq n q hq s, ketBra2_diagonal, oneQ_diagonal]

theorem ketBra2_ft : ketBra2 false true = ketBra2 false false * sigmaX := by
  ext a b
  cases a <;> cases b <;> simp [ketBra2, sigmaX, Matrix.mul_apply]

theorem ketBra2_ft' : ketBra2 false true = sigmaX * ketBra2 true true := by
  ext a b
  cases a <;> cases b <;> simp [ketBra2, sigmaX, Matrix.mul_apply]

/-- the second reset Kraus operator of `get_reset_qubit_kraus` is `Π_0 X_q` -/
theorem resetKraus1_eq (n q : Nat) (hq : q < n) :
    oneQ n q (ketBra2 false true) = proj n (Zq q false) * pauliMat n (Xq q) := by
  rw [ketBra2_ft, ← oneQ_mul n q hq, oneQ_ketBra2_diag n q hq, oneQ_sigmaX n q hq]

theorem proj_Zq_hermitian (n q : Nat) (s : Bool) : (proj n (Zq q s))ᴴ = proj n (Zq q s) := proj_hermitian n _ rfl
theorem proj_Zq_idem (n q : Nat) (s : Bool) : proj n (Zq q s) * proj n (Zq q s) = proj n (Zq q s) := proj_idem n _ rfl

theorem proj_Zq_orth (n q : Nat) (s : Bool) : proj n (Zq q s) * proj n (Zq q (!s)) = 0 := by
  have hneg : pauliMat n (Zq q (!s)) = -pauliMat n (Zq q s) := pauliMat_neg n (Zq q s)
  have hc : proj n (Zq q s) * pauliMat n (Zq q s) = proj n (Zq q s) := by
    rw [← commute_proj n (pauliMat n (Zq q s)) (Zq q s) rfl, pauli_mul_proj n _ rfl]
  rw [show proj n (Zq q (!s)) = (1 / 2 : ℂ) • (1 + pauliMat n (Zq q (!s))) from rfl, hneg, mul_smul_comm, mul_add,
    Matrix.mul_one, Matrix.mul_neg, hc, add_neg_cancel, smul_zero]

theorem trace_mul_proj {n : Nat} (ρ : DMat n) (q : Nat) (s : Bool) :
    Matrix.trace (ρ * proj n (Zq q s)) = Matrix.trace (proj n (Zq q s) * ρ * proj n (Zq q s)) := by
  rw [Matrix.trace_mul_comm (proj n (Zq q s) * ρ), ← Matrix.mul_assoc, proj_Zq_idem, Matrix.trace_mul_comm]

theorem proj_Zq_mul_Xq (n q : Nat) (hq : q < n) (s : Bool) :
    proj n (Zq q s) * pauliMat n (Xq q) = pauliMat n (Xq q) * proj n (Zq q (!s)) := by
  have hanti : pauliMat n (Xq q) * pauliMat n (Zq q s) = -(pauliMat n (Zq q s) * pauliMat n (Xq q)) :=
    pauliMat_anticomm n _ _ (by rw [sp_Zq n q _ s hq]; simp [Xq])
  have hneg : pauliMat n (Zq q (!s)) = -pauliMat n (Zq q s) := pauliMat_neg n (Zq q s)
  unfold proj
  rw [smul_mul_assoc, mul_smul_comm, hneg, add_mul, mul_add, Matrix.one_mul, Matrix.mul_one, Matrix.mul_neg, hanti,
    neg_neg]

theorem proj_Zq_comm_Xq (n q t : Nat) (hq : q < n) (hqt : q ≠ t) (s : Bool) :
    proj n (Zq q s) * pauliMat n (Xq t) = pauliMat n (Xq t) * proj n (Zq q s) :=
  (commute_proj n _ _ (pauliMat_comm n _ _ (by rw [sp_Zq n q _ s hq]; simp [Xq, hqt]))).symm

theorem proj_Zq_comm_Zq (n q t : Nat) (s : Bool) :
    proj n (Zq q s) * pauliMat n (Zq t) = pauliMat n (Zq t) * proj n (Zq q s) :=
  (commute_proj n _ _ (pauliMat_comm n _ _ (by
    unfold sp
    rw [parityTo_congr n _ (fun _ => false) (by intro j _; simp [Zq])]
    exact parityTo_false n))).symm

end Hilbert

/-- `create_n_product_state(n, state_ketz0())` : `|0…0⟩⟨0…0|` -/
noncomputable def DMH.ket0H (n : Nat) : Hilbert.DMat n :=
  Matrix.of fun a b => if a = (fun _ => false) ∧ b = (fun _ => false) then 1 else 0

end Graphiq
