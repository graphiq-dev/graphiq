/-
  Proofs/AltTargetConvRun.lean — running the translated conversion gate list (`str_to_op`) after a circuit on the stabilizer
  backend: the appended operations are `run_circuit` of the `Gate` list on the tableau reached so far, so the signed group after is
  the image (`CircImage`) of the group before.
-/
import GraphiqModel.Proofs.AltTargetConvGroup
namespace Graphiq
namespace Alt
open PRow Tab

theorem nameAct_one (n : Nat) (name : String) (q : Nat) : PRow.EqOn n (nameAct name q PRow.one) PRow.one := by
  rw [nameAct_eq (name, q), Gate.act_one_eq]
  exact PRow.EqOn.refl _ _

theorem stepOp_gate (np n : Nat) (d : Det) (s : RunState) (g : String × Nat) (op : COp)
    (hg : gateCOp g = some op) (hq : g.2 < n) :
    stepOp np n d s op = some { s with t := (s.t.map (nameAct g.1 g.2)).norm } := by
  obtain ⟨name, q⟩ := g
  have hix : qIndex np ⟨.p, q⟩ = q := rfl
  unfold gateCOp at hg
  simp only at hg hq
  split at hg <;> cases hg
  all_goals simp only [stepOp, hix, hq, if_true]
  all_goals rfl

theorem gatesCOps_cons (g : String × Nat) (gates : List (String × Nat)) (gops : List COp)
    (h : gatesCOps (g :: gates) = some gops) :
    ∃ op rest, gateCOp g = some op ∧ gatesCOps gates = some rest ∧ gops = op :: rest := by
  unfold gatesCOps at h ⊢
  rw [List.mapM_cons] at h
  cases h1 : gateCOp g with
  | none => simp [h1] at h
  | some op =>
    cases h2 : gates.mapM gateCOp with
    | none => simp [h1, h2] at h
    | some rest =>
      simp [h1, h2] at h
      exact ⟨op, rest, rfl, rfl, h.symm⟩

theorem gates_run (np N : Nat) (d : Det) (gates : List (String × Nat)) :
    ∀ (gops : List COp) (s : RunState), gatesCOps gates = some gops → (∀ g, g ∈ gates → g.2 < N) →
      gops.foldlM (stepOp np N d) s = some { s with t := s.t.runCircuit (gates.map LC.toGate) } := by
  induction gates with
  | nil =>
    intro gops s hg _
    have : gops = [] := by simpa [gatesCOps] using hg.symm
    subst this
    rfl
  | cons g gates ih =>
    intro gops s hg hq
    obtain ⟨op, rest, h1, h2, rfl⟩ := gatesCOps_cons g gates gops hg
    rw [List.foldlM_cons, stepOp_gate np N d s g op h1 (hq g (List.mem_cons_self ..)), nameAct_eq]
    exact ih rest _ h2 (fun g' hg' => hq g' (List.mem_cons_of_mem _ hg'))

theorem append_gates_image (ne np : Nat) (script : List Bool) (ops gops : List COp) (gates : List (String × Nat))
    (hg : gatesCOps gates = some gops) (hq : ∀ g, g ∈ gates → g.2 < np) (rs : RunState)
    (h : stabRun ne np .prob script ops = some rs) (hn : rs.t.n = ne + np) :
    ∃ rs', stabRun ne np .prob script (ops ++ gops) = some rs' ∧
      CircImage (ne + np) (gates.map LC.toGate) (STab.ofTab rs.t) (STab.ofTab rs'.t) := by
  have hq' : ∀ g, g ∈ gates → g.2 < ne + np := fun g hg' => Nat.lt_of_lt_of_le (hq g hg') (Nat.le_add_left ..)
  have wf := LC.toGates_wf (ne + np) gates hq'
  refine ⟨{ rs with t := rs.t.runCircuit (gates.map LC.toGate) }, ?_,
    circImage_of_rows _ _ wf _ _ hn (Tab.runCircuit_rows _ _ wf rs.t hn).1
      (fun i hi => ofTab_runCircuit_row _ _ wf rs.t hn i hi)⟩
  unfold stabRun stabRunFrom at h ⊢
  rw [List.foldlM_append]
  have hk : (Tab.ket0 (ne + np)).n = ne + np := rfl
  rw [hk] at h ⊢
  rw [h]
  exact gates_run np (ne + np) .prob gates gops rs hg hq'

end Alt
end Graphiq
