/-
  C12 — the circuit DAG stays structurally consistent under any edit history.

  Property theorems only (lemmas: the modules imported below, chiefly Proofs/Dag.lean and Proofs/DagChain.lean; model:
  Model/Dag.lean).

  `DagInv c` (Proofs/Dag.lean) = there are per-register wires `P k = inp k, n₁, …, n_m, out k` (duplicate-free lists of
  node ids, one per existing register) such that
    * the keyed edges of the graph are exactly the consecutive pairs of the wires (so every register's edges form ONE
      path from its input to its output), the edge list has no duplicates;
    * nodes: ids are unique, the I/O nodes are exactly those of the existing registers and hold Input/Output operations,
      operation nodes have ids in `1.._node_id`;
    * `node_dict[label]` lists each node exactly as often as the label occurs among the node's keys (labels, class name,
      register-type description; "Input"/"Output" for I/O nodes), `edge_dict[t]` lists each edge of type `t` exactly once;
    * the wire of a quantum register visits exactly the operation nodes acting on that register (a classical wire only
      operations that name it);
    * the graph is acyclic.
  The theorems say: DagInv holds initially and after every edit of every finite history (for all sizes), what DagInv
  gives (sources/sinks, single path, indexes, register counts), that a two-qubit insertion on a pair the circuit reports
  compatible keeps it, which edits can change the register counts, and that every linear extension (what
  `nx.topological_sort` returns) runs along every wire in wire order; and (§7) every edit is the obvious list edit on the
  wires — `group_one_qubit_gates` included: it replaces every maximal run of adjacent one-qubit gates of a wire by one
  wrapper holding the run's classes in the order the code collects them, and changes nothing else
  (`group_is_fuse_of_runs_on_wires`).
  Further: `validate()` passes on every such circuit (§3); a topological order restricted to a register IS the
  wire (§6); `GroupHyp` — the hypothesis of the fuse refinement — is an invariant of the whole edit API for graphiq-constructed
  operation arguments, so the refinement holds after any history (§9), also with the classical threading of every operation
  (`group_is_fuse_of_runs_on_wired_wires`), as do flatMap-unwrap / filter for `unwrap_nodes` / `remove_identity`, giving a closed-form
  interpreter for rewrite histories (`rewrite_history_on_wired_wires`); `find_incompatible_edges` is characterised exactly, complete
  for cycles and conservative; insertions on input / output edges and on reported-compatible pairs are well-formed calls (§9–§10).
-/
import GraphiqModel.Proofs.PrepOrder
import GraphiqModel.Proofs.Topo
import GraphiqModel.Proofs.FuseLoop
import GraphiqModel.Proofs.MetricsHistReach
import GraphiqModel.Proofs.MetricsHist
import GraphiqModel.Proofs.MetricsHistCheck
import GraphiqModel.Proofs.MetricsHistWires
import GraphiqModel.Proofs.MetricsHistValidate
namespace Graphiq.C12
open Graphiq Graphiq.Dag Graphiq.Metrics Relation

/-! ## 1. the edit API -/

/-- the edits of the `CircuitDAG` API (node arguments are operation nodes: integers) -/
inductive Edit where
  | add (op : Op)
  | insertAt (op : Op) (edges : List Edge)
  | removeOp (node : Nat)
  | replaceOp (node : Nat) (op : Op)
  | unwrapNodes
  | removeIdentity
  | groupOneQubitGates
  | addRegister (t : RegType) (size : Nat)

/-- the model's result of an edit: the circuit afterwards (also when the call raises) and the error class -/
def apply (c : Dag) : Edit → Dag.Res
  | .add op => c.add op
  | .insertAt op es => c.insertAt op es
  | .removeOp i => c.removeOp (.op i)
  | .replaceOp i op => c.replaceOp (.op i) op
  | .unwrapNodes => c.unwrapNodes
  | .removeIdentity => c.removeIdentity
  | .groupOneQubitGates => c.groupOneQubitGates
  | .addRegister t size => c.addRegister t size

/-- well-formed use of the API in state `c` (everything else is unconstrained: absent nodes, discontinuous register
    numbers, wrong register sets, register sizes ≠ 1 are allowed and make the call raise) -/
def EditOK (c : Dag) : Edit → Prop
  | .add op => OpWF op
  | .insertAt op es => OpWF op ∧ InsertOK c op es
  | .replaceOp _ op => OpWF op
  | _ => True

/-- run a history; a raising edit leaves its partially applied state and the history continues -/
def run (c : Dag) : List Edit → Dag
  | [] => c
  | e :: es => run (apply c e).1 es

/-- every edit of the history is a well-formed call in the state it is applied to -/
def HistOK (c : Dag) : List Edit → Prop
  | [] => True
  | e :: es => EditOK c e ∧ HistOK (apply c e).1 es

/-! ## 2. DagInv holds initially and after every edit of every history -/

/-- `CircuitDAG(n_emitter, n_photon, n_classical)` satisfies DagInv, for all register counts -/
theorem init_dagInv (ne np nc : Nat) : DagInv (Dag.init ne np nc) := init_good ne np nc

/-- the kinds of primitive each edit of the API is made of -/
def Allowed : Edit → Prim → Prop
  | .add op, p => p.IsNewReg ∨ ∃ es, p = .insert op es
  | .insertAt op es, p => p.IsNewReg ∨ p = .insert op es
  | .removeOp i, p => p = .erase i
  | .replaceOp i op, p => p = .relabel i op
  | .unwrapNodes, p => IsUnwrapStep p
  | .removeIdentity, p => p.IsErase
  | .groupOneQubitGates, p => IsGroupStep p
  | .addRegister _ _, p => p.IsNewReg

/-- **every well-formed edit is a chain of primitives** of the kinds its name allows — whether it succeeds or raises -/
theorem edit_chain {c : Dag} {P : Reg → List NodeId} (g : Good c P) (e : Edit) (he : EditOK c e) :
    ∃ P', Chain (Allowed e) c P (apply c e).1 P' := by
  cases e with
  | add op => exact add_chain g he
  | insertAt op es => exact (insertAt_chain g he.1 (InsertOK.of_pre g he.2)).1
  | removeOp i => exact ⟨_, removeOp_chain i⟩
  | replaceOp i op => exact ⟨_, replaceOp_chain i he⟩
  | unwrapNodes => exact unwrapNodes_chain g
  | removeIdentity => exact removeIdentity_chain g
  | groupOneQubitGates => exact groupOneQubitGates_chain g
  | addRegister t size => exact addRegister_chain g t size

/-- every well-formed edit keeps DagInv — whether it succeeds or raises -/
theorem edit_preserves_dagInv {c : Dag} (h : DagInv c) (e : Edit) (he : EditOK c e) : DagInv (apply c e).1 := by
  obtain ⟨P, g⟩ := h
  obtain ⟨P', s⟩ := edit_chain g e he
  exact ⟨P', s.good g⟩

/-- **every history of well-formed edits is one chain of primitives**: the wires at the end are obtained from those at
    the start by the list edits `Prim.wires` of the chain, for all eight kinds of edit (which insertion edges the rewrites
    use depends on the states on the way, so the chain is not a function of the history alone) -/
theorem history_chain (es : List Edit) : ∀ {c : Dag} {P : Reg → List NodeId}, Good c P → HistOK c es →
    ∃ P', Chain (fun _ => True) c P (run c es) P' := by
  induction es with
  | nil => intro c P _ _; exact ⟨P, .refl _ _⟩
  | cons e rest ih =>
    intro c P g hok
    obtain ⟨P1, s1⟩ := edit_chain g e hok.1
    obtain ⟨P2, s2⟩ := ih (s1.good g) hok.2
    exact ⟨P2, (s1.mono fun _ _ => trivial).trans s2⟩

/-- **History theorem.**  From any circuit satisfying DagInv, after any finite history of well-formed edits — in any
    order, successful or raising — the circuit satisfies DagInv. -/
theorem history_dagInv (es : List Edit) : ∀ {c : Dag}, DagInv c → HistOK c es → DagInv (run c es) := by
  intro c ⟨P, g⟩ hok
  obtain ⟨P', s⟩ := history_chain es g hok
  exact ⟨P', s.good g⟩

/-- … in particular from every freshly constructed circuit -/
theorem history_from_init (ne np nc : Nat) (es : List Edit) (hok : HistOK (Dag.init ne np nc) es) :
    DagInv (run (Dag.init ne np nc) es) := history_dagInv es (init_dagInv ne np nc) hok

/-- a well-formed `insert_at` does not raise once the register prologue has passed -/
theorem insertAt_succeeds {c : Dag} (h : DagInv c) {op : Op} {es : List Edge} (hop : OpWF op)
    (hok : InsertOK c op es) (hpro : (c.ensureRegs op).2 = none) : (c.insertAt op es).2 = none := by
  obtain ⟨P, g⟩ := h; exact (insertAt_chain g hop (InsertOK.of_pre g hok)).2 hpro

/-! ## 3. what DagInv says -/

/-- the circuit is a DAG -/
theorem dagInv_acyclic {c : Dag} (h : DagInv c) : ∀ a, ¬ TransGen c.E a a := by
  obtain ⟨P, g⟩ := h; exact g.acyc

/-- the only sources are the register inputs, the only sinks the register outputs; the I/O nodes present are exactly
    those of the existing registers -/
theorem dagInv_sources_sinks {c : Dag} (h : DagInv c) :
    (∀ n ∈ c.nodeIds, (∀ a, ¬ c.E a n) ↔ ∃ r, n = .inp r) ∧ (∀ n ∈ c.nodeIds, (∀ b, ¬ c.E n b) ↔ ∃ r, n = .out r) ∧
    (∀ r, NodeId.inp r ∈ c.nodeIds ↔ r.idx < c.regs r.ty) ∧ (∀ r, NodeId.out r ∈ c.nodeIds ↔ r.idx < c.regs r.ty) := by
  obtain ⟨P, g⟩ := h
  exact ⟨fun n hn => g.source_iff hn, fun n hn => g.sink_iff hn, g.inv.inp_iff, g.inv.out_iff⟩

/-- every existing register's wire is a single path `in → … → out`: there is a duplicate-free list `mid` of operation
    nodes such that the edges keyed by the register are exactly the consecutive pairs of `in, mid…, out`; for a quantum
    register `mid` consists of exactly the operation nodes acting on it; no edge is keyed by a register that does not
    exist -/
theorem dagInv_wires {c : Dag} (h : DagInv c) (k : Reg) :
    (k.idx < c.regs k.ty →
      ∃ mid : List NodeId, (NodeId.inp k :: (mid ++ [NodeId.out k])).Nodup ∧
        (∀ u v, (⟨u, v, k⟩ : Edge) ∈ c.edges ↔ Consec (NodeId.inp k :: (mid ++ [NodeId.out k])) u v) ∧
        (k.ty ≠ .c → ∀ i op, (NodeId.op i, op) ∈ c.nodes → (NodeId.op i ∈ mid ↔ k ∈ op.qregs)) ∧
        (∀ n ∈ mid, ∃ i, n = NodeId.op i ∧ n ∈ c.nodeIds)) ∧
    (¬ k.idx < c.regs k.ty → ∀ u v, (⟨u, v, k⟩ : Edge) ∉ c.edges) := by
  obtain ⟨P, g⟩ := h
  constructor
  · intro hl
    obtain ⟨mid, hP, hmid⟩ := g.inv.shape k hl
    refine ⟨mid, hP ▸ g.inv.nodup k, ?_, ?_, ?_⟩
    · intro u v; rw [g.inv.edges_iff, hP]
    · intro hq i op hop
      rw [← g.mem.mem_q i op hop k hq, hP]
      simp
    · intro n hn
      obtain ⟨i, hi⟩ := hmid n hn
      exact ⟨i, hi, g.inv.mem_nodes k n (by rw [hP]; simp [hn])⟩
  · intro hl u v hm
    exact hl (g.inv.live_of_edge hm)

/-- the label index and the edge index agree with the graph (as multisets): `node_dict[l]` contains node `n` exactly as
    often as `l` occurs among the keys of `n`'s operation, `edge_dict[t]` contains each edge of type `t` exactly once
    and nothing else; the graph's edge list itself has no duplicates -/
theorem dagInv_indexes {c : Dag} (h : DagInv c) :
    (∀ l n, (dictGet c.nodeDict l).count n = c.indexCount n l) ∧
    (∀ t e, (dictGet c.edgeDict t).count e = if e ∈ c.edges ∧ e.key.ty = t then 1 else 0) ∧ c.edges.Nodup ∧
    c.nodeIds.Nodup := by
  obtain ⟨P, g⟩ := h
  exact ⟨g.inv.nodeDict_ok, g.inv.edgeDict_ok, g.inv.edges_nodup, g.inv.ids_nodup⟩

/-- register counts = number of input nodes per type -/
theorem dagInv_register_counts {c : Dag} (h : DagInv c) (t : RegType) :
    (c.nodeIds.filter (fun n => match n with | .inp r => r.ty = t | _ => false)).length = c.regs t := by
  obtain ⟨P, g⟩ := h; exact g.inv.input_count t

/-- **the code's own structural check passes**: `CircuitDAG.validate()` — acyclic (the model's Kahn-style `isAcyclicB`), every node
    without in-edges holds an `Input`, every node without out-edges an `Output` — returns without raising on every circuit
    satisfying DagInv -/
theorem validate_passes {c : Dag} (h : DagInv c) : c.validate = none := by
  obtain ⟨P, g⟩ := h; exact validate_of_good g

/-- … hence after every history of well-formed edits from a fresh circuit -/
theorem validate_passes_after_every_history (ne np nc : Nat) (es : List Edit) (hok : HistOK (Dag.init ne np nc) es) :
    (run (Dag.init ne np nc) es).validate = none :=
  validate_passes (history_from_init ne np nc es hok)

/-! ## 4. inserting on a pair the circuit reports compatible never creates a cycle -/

/-- **Compatible insertion.**  Let `anc`, `desc` be what networkx returns for `ancestors(first.src)` and
    `descendants(first.dst)` (recorded specification: exactly the nodes with a non-empty path to / from the node).  If
    `second` is an edge of the circuit that `find_incompatible_edges(first)` does not contain, then `insert_at` of an
    operation on the registers of the two edges succeeds and the circuit still satisfies DagInv — in particular it is
    acyclic.  (All register counts and sizes; the registers of the operation exist because its edges do.) -/
theorem compatible_insert_keeps_dagInv {c : Dag} (h : DagInv c) {op : Op} (hop : OpWF op) {first second : Edge}
    {anc desc : List NodeId} {L : List Edge} (hanc : AncSpec c first.src anc) (hdesc : DescSpec c first.dst desc)
    (hL : c.findIncompatibleEdgesWith anc desc first = .ok L) (h1 : first ∈ c.edges) (h2 : second ∈ c.edges)
    (hcompat : second ∉ L) (hq : op.qregs = [first.key, second.key]) (hc : ∀ r ∈ op.cregs, r < c.regs .c) :
    (c.insertAt op [first, second]).2 = none ∧ DagInv (c.insertAt op [first, second]).1 := by
  obtain ⟨P, g⟩ := h
  have hlive : ∀ r ∈ opRegs op, c.live r := by
    intro r hr
    unfold opRegs at hr
    rcases List.mem_append.mp hr with hr | hr
    · rw [hq] at hr; simp at hr
      rcases hr with rfl | rfl
      · exact g.inv.live_of_edge h1
      · exact g.inv.live_of_edge h2
    · obtain ⟨j, hj, rfl⟩ := List.mem_map.mp hr
      exact hc j hj
  have hens : c.ensureRegs op = (c, none) := ensureRegs_live_eq g.inv hop.qregs_ne hlive
  obtain ⟨n1, n2⟩ := compatible_no_path hanc hdesc hL h2 hcompat
  have hok : InsertOK (c.ensureRegs op).1 op [first, second] := by rw [hens]; exact InsertOK.pair h1 h2 hq n1 n2
  obtain ⟨⟨P', s⟩, hnone⟩ := insertAt_chain g hop hok
  exact ⟨hnone (by rw [hens]), P', s.good g⟩

/-- the model's own breadth-first instances of `ancestors` / `descendants` meet the recorded networkx specification on
    every circuit satisfying DagInv — so the set the model computes for `find_incompatible_edges` (which the harness
    compares with the implementation's on every query) is a verified computation -/
theorem model_reachability_meets_nx_spec {c : Dag} (h : DagInv c) (n : NodeId) :
    AncSpec c n (c.ancestors n) ∧ DescSpec c n (c.descendants n) := by
  obtain ⟨P, g⟩ := h
  exact ⟨ancestors_spec g n, descendants_spec g n⟩

/-- … hence: an edge pair that the model's `find_incompatible_edges` reports compatible can always be used for a
    two-qubit `insert_at`, which succeeds and keeps DagInv (no hypothesis about networkx left) -/
theorem model_compatible_insert_keeps_dagInv {c : Dag} (h : DagInv c) {op : Op} (hop : OpWF op) {first second : Edge}
    {L : List Edge} (hL : c.findIncompatibleEdges first = .ok L) (h1 : first ∈ c.edges) (h2 : second ∈ c.edges)
    (hcompat : second ∉ L) (hq : op.qregs = [first.key, second.key]) (hc : ∀ r ∈ op.cregs, r < c.regs .c) :
    (c.insertAt op [first, second]).2 = none ∧ DagInv (c.insertAt op [first, second]).1 :=
  compatible_insert_keeps_dagInv h hop (model_reachability_meets_nx_spec h first.src).1
    (model_reachability_meets_nx_spec h first.dst).2 hL h1 h2 hcompat hq hc

/-! ## 5. only register-adding edits change the register counts -/

/-- `remove_op`, `replace_op`, `unwrap_nodes`, `remove_identity`, `group_one_qubit_gates` never change the register
    counts; `add` / `insert_at` do not when every register of the operation already exists (otherwise they add exactly
    the missing registers, `ensureRegs`); only `add_*_register` and operations on new registers change them -/
theorem register_counts_change_only_by_register_adding {c : Dag} (h : DagInv c) (e : Edit) (he : EditOK c e) :
    match e with
    | .addRegister _ _ => True
    | .add op => (∀ r ∈ opRegs op, r.idx < c.regs r.ty) → (apply c e).1.regs = c.regs
    | .insertAt op _ => (∀ r ∈ opRegs op, r.idx < c.regs r.ty) → (apply c e).1.regs = c.regs
    | _ => (apply c e).1.regs = c.regs := by
  obtain ⟨P, g⟩ := h
  obtain ⟨P', s⟩ := edit_chain g e he
  cases e with
  | addRegister t s => trivial
  | add op =>
    intro hl
    show (c.add op).1.regs = c.regs
    rw [add_eq_of_live g.inv he hl]
    exact (add_spec g he hl).2.1
  | insertAt op es =>
    intro hl
    show (c.insertAt op es).1.regs = c.regs
    rw [insertAt_eq_of_live g.inv he.1 he.2.keys hl, insertAt_eq_prim g (he.2.spliceOK g he.1)]
    exact Prim.insert_regs _ _ _
  | removeOp i => exact s.regs (fun p (e : p = .erase i) => by rw [e]; exact id) g
  | replaceOp i op => exact s.regs (fun p (e : p = .relabel i op) => by rw [e]; exact id) g
  | unwrapNodes => exact s.regs (fun _ a => a.not_newReg) g
  | removeIdentity => exact s.regs (fun _ a => a.not_newReg) g
  | groupOneQubitGates => exact s.regs (fun _ a => a.not_newReg) g

/-! ## 6. the sequence handed to compilers -/

/-- **Any linear extension is a valid sequence.**  `sequence()` is `nx.topological_sort(dag)`; its recorded
    specification is "a linear extension of the edge relation" (position function `pos`).  For every such order and
    every register, the operations on the register's wire appear in wire order: if `x` comes before `y` on the wire
    then `pos x < pos y`.  (That networkx returns a linear extension is its recorded contract; the harness checks every
    returned sequence to be one.  Existence: `sequence_is_topological_order` below.) -/
theorem linear_extension_respects_wires {c : Dag} (h : DagInv c) {pos : NodeId → Nat} (hlin : LinearExt c pos) :
    ∃ P : Reg → List NodeId,
      (∀ e, e ∈ c.edges ↔ Consec (P e.key) e.src e.dst) ∧
      ∀ k l1 l2 l3 x y, P k = l1 ++ x :: (l2 ++ y :: l3) → pos x < pos y := by
  obtain ⟨P, g⟩ := h
  exact ⟨P, g.inv.edges_iff, fun k l1 l2 l3 x y hP => pos_lt_of_before g.inv hlin k l1 l2 l3 x y hP⟩

/-- **a topological order exists**: every circuit satisfying DagInv has a position function that increases along
    every edge and is injective on the nodes — so `nx.topological_sort`, whose contract is to return a linear extension
    of an acyclic graph, has something to return, and by `linear_extension_respects_wires` whatever it returns applies
    the operations of every register in wire order -/
theorem sequence_is_topological_order {c : Dag} (h : DagInv c) :
    ∃ pos : NodeId → Nat, LinearExt c pos ∧ ∀ a ∈ c.nodeIds, ∀ b ∈ c.nodeIds, pos a = pos b → a = b :=
  topo_exists h

/-- **a topological order, restricted to a register, IS the wire** (not only ordered like it): for every position function that
    increases along every edge and is injective on the nodes, list the operation nodes by increasing position; the sublist of those
    lying on the wire of an existing register `r` is exactly `wire(r)` without its input and output node — in order, complete, nothing
    else.  (`schedOf` pairs every node with its operation as wired; `Sched.wire` is the statement.) -/
theorem topological_order_restricted_to_register_is_wire {c : Dag} {P : Reg → List NodeId} (g : Good c P) {pos : NodeId → Nat}
    (hlin : LinearExt c pos) (hinj : ∀ a ∈ c.nodeIds, ∀ b ∈ c.nodeIds, pos a = pos b → a = b) (r : Reg) (hl : r.idx < c.regs r.ty) :
    P r = .inp r :: (((schedOf c P pos).map (·.1)).filter (fun n => decide (n ∈ P r)) ++ [.out r]) := by
  have hS := schedOf_sched g hlin hinj
  have key : schedWire (schedOf c P pos) r = ((schedOf c P pos).map (·.1)).filter (fun n => decide (n ∈ P r)) := by
    unfold schedWire
    rw [List.filter_map]
    congr 1
    apply List.filter_congr
    intro p hp
    obtain ⟨i, o, hi, hm, hpo⟩ := hS.op_node hp
    simp only [Function.comp]
    have := mem_opRegs_wiredOp g hm r
    by_cases h : NodeId.op i ∈ P r
    · have h1 : r ∈ opRegs p.2 := hpo ▸ this.mpr h
      have h2 : p.1 ∈ P r := hi ▸ h
      simp [h1, h2]
    · have h1 : r ∉ opRegs p.2 := fun hh => h (this.mp (hpo ▸ hh))
      have h2 : p.1 ∉ P r := fun hh => h (hi ▸ hh)
      simp [h1, h2]
  rw [← key]
  exact hS.wire r hl

/-! ## 7. refinement: every concrete edit is the obvious list edit on the wires

  `Inv c P` relates the concrete state to the abstract wires `P` (unique: `wires_are_determined`).  The primitives act on
  the wires as list edits: append (`_add`), insert between two consecutive entries (`_insert_at`), erase (`remove_op`),
  nothing (`replace_op`), splice-in a list (`unwrap_nodes`, per wrapper node), fuse of the maximal runs of adjacent
  one-qubit gates (`group_one_qubit_gates`). -/

theorem wires_are_determined {c : Dag} {P P' : Reg → List NodeId} (h : Inv c P) (h' : Inv c P') (r : Reg) : P r = P' r :=
  h.paths_unique h' r

theorem add_is_append {c : Dag} {P : Reg → List NodeId} (g : Good c P) {op : Op} (hop : OpWF op)
    (hlive : ∀ r ∈ opRegs op, r.idx < c.regs r.ty) :
    ∃ P', Inv (c.add_ op) P' ∧ (∀ k ∉ opRegs op, P' k = P k) ∧
      ∀ k ∈ opRegs op, ∃ pre, P k = pre ++ [.out k] ∧ P' k = pre ++ [.op (c.nodeId + 1), .out k] :=
  add_refines g hop hlive

theorem insert_at_is_insert_between {c : Dag} {P : Reg → List NodeId} (g : Good c P) {op : Op} (hop : OpWF op)
    {es : List Edge} (hok : InsertOK c op es) :
    ∃ P', Inv (c.insertAt_ op es).1 P' ∧ (∀ k ∉ es.map (·.key), P' k = P k) ∧
      ∀ e ∈ es, ∃ l1 l2, P e.key = l1 ++ e.src :: e.dst :: l2 ∧
        P' e.key = l1 ++ e.src :: .op (c.nodeId + 1) :: e.dst :: l2 := by
  have hS := hok.spliceOK g hop
  rw [insertAt_eq_prim g hS]
  exact ⟨_, (Prim.good g (p := .insert op es) hS).inv, Prim.insert_wires_spec g.inv hS⟩

theorem remove_op_is_erase {c : Dag} {P : Reg → List NodeId} (g : Good c P) {i : Nat} (hi : NodeId.op i ∈ c.nodeIds) :
    Inv (c.removeOp (.op i)).1 (fun k => (P k).erase (.op i)) := (removeOp_good g hi).2.1.inv

theorem replace_op_keeps_wires {c : Dag} {P : Reg → List NodeId} (g : Good c P) {i : Nat} {new : Op} (hnew : OpWF new) :
    Inv (c.replaceOp (.op i) new).1 P := (replaceOp_good g hnew).1.inv

theorem unwrap_is_splice_in {c : Dag} {P : Reg → List NodeId} (g : Good c P) {i : Nat} {w : Op}
    (hw : (NodeId.op i, w) ∈ c.nodes) (hk : w.kind = .wrapper) :
    ∃ r X Y P', w.qregs = [r] ∧ P r = X ++ .op i :: Y ∧
      Good ((c.unwrapOne (.op i) w.unwrap).1.removeOp (.op i)).1 P' ∧
      P' r = X ++ ((List.range w.unwrap.length).map fun j => NodeId.op (c.nodeId + 1 + j)) ++ Y ∧
      (∀ k, k ≠ r → P' k = P k) ∧
      ∀ p ∈ w.unwrap.zipIdx,
        (NodeId.op (c.nodeId + 1 + p.2), p.1) ∈ ((c.unwrapOne (.op i) w.unwrap).1.removeOp (.op i)).1.nodes :=
  unwrapNode_refines g hw hk

/-- **`unwrap_nodes`, whole edit, on the wires**: on a circuit of plain operations (no user labels; wrappers wrap base
    gate classes) every wire afterwards carries, in order, the unwrapped operations of what it carried before
    (`wireOps` = the operations held by the operation nodes of a wire, in wire order) -/
theorem unwrap_nodes_is_flatMap_on_wires {c : Dag} {P : Reg → List NodeId} (g : Good c P) (hpl : AllPlain c) :
    ∃ P', Good c.unwrapNodes.1 P' ∧ ∀ r, wireOps c.unwrapNodes.1 (P' r) = (wireOps c (P r)).flatMap Op.unwrap :=
  unwrapNodes_wires g hpl

/-- **`remove_identity`, whole edit, on the wires**: every wire afterwards carries, in order, the non-identity
    operations it carried before -/
theorem remove_identity_is_filter_on_wires {c : Dag} {P : Reg → List NodeId} (g : Good c P) (hpl : AllPlain c) :
    ∃ P', Good c.removeIdentity.1 P' ∧
      ∀ r, wireOps c.removeIdentity.1 (P' r) = (wireOps c (P r)).filter (fun o => !decide (o.kind = .identity)) :=
  removeIdentity_wires g hpl

/-! ### `group_one_qubit_gates` = fuse of runs

  Definitions (Proofs/Fuse.lean, all pure list functions):
    `gOp o`          the operation is groupable: it carries the label "one-qubit" and its class is a one-qubit gate class
                     (`c.groupable n = gOp (operation of n)` on every circuit satisfying DagInv: `groupable_is_gOp`);
    `kindsOf o`      `o.inner` for a wrapper (`gate_list += op.operations`), `[o.kind]` otherwise;
    `runKinds run`   `run.reverse.flatMap kindsOf` — the loop walks the wire backwards, so the classes of the LAST
                     operation of the run come first (the wrapper's convention: `unwrap()` reverses once more);
    `fuseRun r run`  `[OneQubitGateWrapper(runKinds run, r)]`, or `[]` if that gate list is empty (`if … and gate_list`);
    `fuseWire r l`   forward scan of `l` replacing every maximal run by `fuseRun`;
    `flatOps l`      the primitive gate classes of groupable operations in application order, other operations as they are. -/

/-- on a circuit satisfying DagInv the code's `groupable(node)` is the predicate `gOp` of the node's operation -/
theorem groupable_is_gOp {c : Dag} {P : Reg → List NodeId} (g : Good c P) {i : Nat} {o : Op} (hm : (NodeId.op i, o) ∈ c.nodes) :
    c.groupable (.op i) = gOp o ∧ (∀ r, c.groupable (.inp r) = false ∧ c.groupable (.out r) = false) :=
  ⟨groupable_op g.inv hm, fun r => ⟨groupable_inp g.inv r, groupable_out g.inv r⟩⟩

/-- **what `fuseWire` is** (these equations determine it): a non-groupable operation stays where it is; a maximal run of
    adjacent groupable operations — followed by nothing or by a non-groupable operation — is replaced by `fuseRun` of it,
    i.e. by ONE wrapper on the register whose gate list is `runKinds run` (the run's classes, last operation first;
    nothing if that list is empty); the code's backward scan with a pending gate list (`fuseBack`) computes the same -/
theorem fuse_wire_is_fuse_of_maximal_runs (r : Reg) :
    fuseWire r [] = [] ∧
    (∀ o t, gOp o = false → fuseWire r (o :: t) = o :: fuseWire r t) ∧
    (∀ run t, (∀ o ∈ run, gOp o = true) → (t = [] ∨ ∃ o t', t = o :: t' ∧ gOp o = false) →
      fuseWire r (run ++ t) = fuseRun r run ++ fuseWire r t) ∧
    (∀ run, fuseRun r run =
      if run.reverse.flatMap kindsOf = [] then []
      else [⟨.wrapper, [r], [], ["one-qubit"], run.reverse.flatMap kindsOf⟩]) ∧
    (∀ l, fuseBack r l.reverse [] = fuseWire r l) :=
  ⟨rfl, fun _ t ho => fuseWire_cons_ng r ho t, fun run t hrun hmax => fuseWire_run r run hrun t hmax, fun _ => rfl,
    fuseBack_eq_fuseWire r⟩

/-- fusing does not change the flattened sequence of a wire (pure list fact; the wrapper convention and the backward
    collection order cancel) -/
theorem fuse_preserves_flat (r : Reg) (l : List Op) : flatOps (fuseWire r l) = flatOps l := flatOps_fuseWire r l

/-- **`group_one_qubit_gates`, whole edit, on the wires.**  On a circuit satisfying DagInv whose operations are as
    graphiq constructs them (`GroupHyp`: no user labels, wrappers wrap base classes, every groupable operation is a
    one-qubit gate object — one quantum register, no classical register) the call does not raise, and with `P'` the wires
    afterwards:
      * on every wire the operation sequence is `fuseWire` of what it was: every maximal run of adjacent groupable
        operations is replaced by one wrapper holding the run's classes in the order the code builds the list, every
        other operation stays in place;
      * the nodes that are not groupable stay on their wires, in their order (`Sublist`), and keep their operations
        (only groupable nodes are removed; the wrappers are new nodes);
      * hence the flattened sequence of every wire is unchanged. -/
theorem group_is_fuse_of_runs_on_wires {c : Dag} {P : Reg → List NodeId} (g : Good c P) (hh : GroupHyp c) :
    c.groupOneQubitGates.2 = none ∧ ∃ P', Good c.groupOneQubitGates.1 P' ∧
      (∀ r, wireOps c.groupOneQubitGates.1 (P' r) = fuseWire r (wireOps c (P r))) ∧
      (∀ r, ((P r).filter (fun x => !c.groupable x)).Sublist (P' r)) ∧
      (∀ x, x ∈ c.nodeIds → c.groupable x = false → c.groupOneQubitGates.1.opOf? x = c.opOf? x) ∧
      (∀ r, flatOps (wireOps c.groupOneQubitGates.1 (P' r)) = flatOps (wireOps c (P r))) := by
  obtain ⟨e, P', g', _, hw, hsub, hkeep⟩ := groupOneQubitGates_wires g hh
  exact ⟨e, P', g', hw, hsub, hkeep, fun r => by rw [hw r]; exact flatOps_fuseWire r _⟩

/-! ## 8. non-vacuity: concrete operations, edges and a history satisfy the hypotheses -/

def hE0 : Op := Op.oneQubit .hadamard ⟨.e, 0⟩
def cnotE0P0 : Op := ⟨.cnot, [⟨.e, 0⟩, ⟨.p, 0⟩], [], ["two-qubit"], []⟩
def mcrE0P1 : Op := ⟨.mcr, [⟨.e, 0⟩, ⟨.p, 1⟩], [0], ["two-qubit"], []⟩
def wrapP0 : Op := ⟨.wrapper, [⟨.p, 0⟩], [], ["one-qubit"], [.hadamard, .phase]⟩

example : OpWF hE0 := oneQubit_wf rfl (by decide)

theorem cnot_wf : OpWF cnotE0P0 :=
  opWF_of_not_wrapper (by decide) (by decide) (by decide) (by decide)

theorem mcr_wf : OpWF mcrE0P1 :=
  opWF_of_not_wrapper (by decide) (by decide) (by decide) (by decide)

theorem wrap_wf : OpWF wrapP0 :=
  { not_input := by decide, not_output := by decide, qregs_ne := by decide, qregs_nodup := by decide,
    cregs_nodup := by decide, qregs_quantum := by decide,
    wrapper_shape := fun _ => ⟨⟨_, rfl⟩, rfl, by decide⟩,
    wrapper_key := fun _ => rfl }

/-- a history over the whole API, with a register-adding operation, a raising call and an insertion, is well-formed
    from `CircuitDAG(1, 1, 0)` — so `history_from_init` applies to it -/
example : HistOK (Dag.init 1 1 0)
    [.add hE0, .insertAt hE0 [⟨.op 1, .out ⟨.e, 0⟩, ⟨.e, 0⟩⟩], .add cnotE0P0, .add mcrE0P1, .add wrapP0, .removeOp 1,
     .removeOp 77, .replaceOp 3 cnotE0P0, .addRegister .e 1, .addRegister .p 2, .unwrapNodes, .removeIdentity,
     .groupOneQubitGates] :=
  ⟨oneQubit_wf rfl (by decide),
   ⟨oneQubit_wf rfl (by decide), InsertOK.single (by decide) rfl⟩,
   cnot_wf, mcr_wf, wrap_wf, trivial, trivial, cnot_wf, trivial, trivial, trivial, trivial, trivial, trivial⟩

/-- a well-formed single-edge insertion: the edge exists (kernel-evaluated on the model) and is keyed by the register -/
example : InsertOK (Dag.init 1 1 0) hE0 [⟨.inp ⟨.e, 0⟩, .out ⟨.e, 0⟩, ⟨.e, 0⟩⟩] :=
  InsertOK.single (by decide) rfl

/-- a two-qubit insertion on a pair the model reports compatible: on `CircuitDAG(1, 1, 0)` the hypotheses of
    `model_compatible_insert_keeps_dagInv` hold for `CNOT e0→p0` on the two (only) edges -/
example :
    (Dag.init 1 1 0).findIncompatibleEdges ⟨.inp ⟨.e, 0⟩, .out ⟨.e, 0⟩, ⟨.e, 0⟩⟩ =
      .ok [⟨.inp ⟨.e, 0⟩, .out ⟨.e, 0⟩, ⟨.e, 0⟩⟩] ∧
    (⟨.inp ⟨.e, 0⟩, .out ⟨.e, 0⟩, ⟨.e, 0⟩⟩ : Edge) ∈ (Dag.init 1 1 0).edges ∧
    (⟨.inp ⟨.p, 0⟩, .out ⟨.p, 0⟩, ⟨.p, 0⟩⟩ : Edge) ∈ (Dag.init 1 1 0).edges ∧
    (⟨.inp ⟨.p, 0⟩, .out ⟨.p, 0⟩, ⟨.p, 0⟩⟩ : Edge) ∉ [(⟨.inp ⟨.e, 0⟩, .out ⟨.e, 0⟩, ⟨.e, 0⟩⟩ : Edge)] ∧
    cnotE0P0.qregs = [⟨.e, 0⟩, ⟨.p, 0⟩] ∧ ∀ r ∈ cnotE0P0.cregs, r < (Dag.init 1 1 0).regs .c :=
  ⟨by rfl, by decide, by decide, by decide, rfl, by decide⟩

/-! ### `group_is_fuse_of_runs_on_wires` -/

def pE0 : Op := Op.oneQubit .phase ⟨.e, 0⟩
def zE0 : Op := Op.oneQubit .sigmaZ ⟨.e, 0⟩
def xP0 : Op := Op.oneQubit .sigmaX ⟨.p, 0⟩

/-- `H e0; P e0; CNOT e0→p0; W[H,P] p0; X p0; MCR e0→p1 (c0); Z e0` -/
def gseq : List Op := [hE0, pE0, cnotE0P0, wrapP0, xP0, mcrE0P1, zE0]

/-- the circuit built from it satisfies the hypotheses of `group_is_fuse_of_runs_on_wires` -/
example : DagInv (build 1 2 1 gseq).1 ∧ GroupHyp (build 1 2 1 gseq).1 := by
  apply groupHyp_of_built 1 2 1 gseq _ (by decide +kernel)
  intro op hop
  simp [gseq] at hop
  rcases hop with rfl | rfl | rfl | rfl | rfl | rfl | rfl
  · exact ⟨oneQubit_wf rfl (by decide), plain_oneQubit _ _, fun _ => ⟨⟨_, rfl⟩, rfl⟩⟩
  · exact ⟨oneQubit_wf rfl (by decide), plain_oneQubit _ _, fun _ => ⟨⟨_, rfl⟩, rfl⟩⟩
  · exact ⟨cnot_wf, ⟨⟨by decide, by decide⟩, by decide⟩, fun h => absurd h (by decide)⟩
  · exact ⟨wrap_wf, ⟨⟨by decide, by decide⟩, by decide⟩, fun _ => ⟨⟨_, rfl⟩, rfl⟩⟩
  · exact ⟨oneQubit_wf rfl (by decide), plain_oneQubit _ _, fun _ => ⟨⟨_, rfl⟩, rfl⟩⟩
  · exact ⟨mcr_wf, ⟨⟨by decide, by decide⟩, by decide⟩, fun h => absurd h (by decide)⟩
  · exact ⟨oneQubit_wf rfl (by decide), plain_oneQubit _ _, fun _ => ⟨⟨_, rfl⟩, rfl⟩⟩

/-- the operations on the wire that `reg_gate_history` returns -/
def opsOnWire (c : Dag) (r : Reg) : List Op :=
  match c.regGateHistory r with
  | .ok h => wireOps c h
  | .error _ => []

/-- on it the edit acts non-trivially (kernel-evaluated on the model; the real `group_one_qubit_gates` returns the same
    wires): `H; P` on `e0` become one wrapper with gate list `[Phase, Hadamard]`, the trailing `Z` one with `[SigmaZ]`,
    `W[H,P]; X` on `p0` one with `[SigmaX, Hadamard, Phase]`; CNOT and the measurement stay -/
example : (build 1 2 1 gseq).1.groupOneQubitGates.2 = none ∧
    opsOnWire (build 1 2 1 gseq).1.groupOneQubitGates.1 ⟨.e, 0⟩ =
      [wrapperOn ⟨.e, 0⟩ [.phase, .hadamard], cnotE0P0, mcrE0P1, wrapperOn ⟨.e, 0⟩ [.sigmaZ]] ∧
    opsOnWire (build 1 2 1 gseq).1.groupOneQubitGates.1 ⟨.p, 0⟩ =
      [cnotE0P0, wrapperOn ⟨.p, 0⟩ [.sigmaX, .hadamard, .phase]] := by decide +kernel

example : fuseWire ⟨.e, 0⟩ [hE0, pE0, cnotE0P0, mcrE0P1, zE0] =
      [wrapperOn ⟨.e, 0⟩ [.phase, .hadamard], cnotE0P0, mcrE0P1, wrapperOn ⟨.e, 0⟩ [.sigmaZ]] ∧
    fuseWire ⟨.p, 0⟩ [cnotE0P0, wrapP0, xP0] = [cnotE0P0, wrapperOn ⟨.p, 0⟩ [.sigmaX, .hadamard, .phase]] ∧
    flatOps [cnotE0P0, wrapP0, xP0] = [.inr cnotE0P0, .inl .phase, .inl .hadamard, .inl .sigmaX] := by decide +kernel

/-! ## 9. `GroupHyp` is an invariant of the edit API: it holds on every reachable circuit

  `GroupHyp c` (hypothesis of `group_is_fuse_of_runs_on_wires`) says that every operation held by the circuit is as
  graphiq's own classes construct it: no user labels, at most two quantum registers, wrappers wrap base gate classes, and an
  operation that carries the label "one-qubit" and is of a one-qubit gate class acts on ONE quantum register and NO classical
  register.  It is a statement about the operation objects only, so it can only be violated by handing the API an operation
  object that graphiq's constructors cannot produce (`GraphiqOp` fails) — never by the edits themselves: -/

/-- a well-formed call whose operation argument (if any) is an object graphiq's classes construct -/
def EditOKg (c : Dag) : Edit → Prop
  | .add op => GraphiqOp op
  | .insertAt op es => GraphiqOp op ∧ InsertOK c op es
  | .replaceOp _ op => GraphiqOp op
  | _ => True

def HistOKg (c : Dag) : List Edit → Prop
  | [] => True
  | e :: es => EditOKg c e ∧ HistOKg (apply c e).1 es

theorem EditOKg.toEditOK {c : Dag} {e : Edit} (h : EditOKg c e) : EditOK c e := by
  cases e with
  | add op => exact h.wf
  | insertAt op es => exact ⟨h.1.wf, h.2⟩
  | replaceOp i op => exact h.wf
  | removeOp i => trivial
  | unwrapNodes => trivial
  | removeIdentity => trivial
  | groupOneQubitGates => trivial
  | addRegister t s => trivial

theorem HistOKg.toHistOK : ∀ {es : List Edit} {c : Dag}, HistOKg c es → HistOK c es
  | [], _, _ => trivial
  | _ :: _, _, h => ⟨h.1.toEditOK, HistOKg.toHistOK h.2⟩

/-- `GroupHyp` along a chain: it speaks of the operations held, and an operation held afterwards was held before or
    was brought by a primitive of the chain -/
theorem groupHyp_of_chain {A : Prim → Prop} {c c' : Dag} {P P' : Reg → List NodeId} (s : Chain A c P c' P') (g : Good c P)
    (hh : GroupHyp c) (hb : ∀ p, A p → ∀ o, p.brings o → PlainOp' o ∧ (gOp o = true → (∃ r, o.qregs = [r]) ∧ o.cregs = [])) :
    GroupHyp c' := by
  constructor
  · intro j o hm
    rcases s.ops_from g hm with h | ⟨p, a, hbr, _⟩
    · exact hh.plain j o h
    · exact (hb p a o hbr).1
  · intro j o hm
    rcases s.ops_from g hm with h | ⟨p, a, hbr, _⟩
    · exact hh.shape j o h
    · exact (hb p a o hbr).2

/-- **every edit keeps `GroupHyp`** — `group_one_qubit_gates` itself included (the wrappers it creates are one-qubit gate
    objects wrapping base classes), whether the call succeeds or raises -/
theorem edit_preserves_groupHyp {c : Dag} (h : DagInv c) (hh : GroupHyp c) (e : Edit) (he : EditOKg c e) :
    GroupHyp (apply c e).1 := by
  obtain ⟨P, g⟩ := h
  have key : ∀ {A : Prim → Prop} {c' : Dag}, (∃ P', Chain A c P c' P') →
      (∀ p, A p → ∀ o, p.brings o → PlainOp' o ∧ (gOp o = true → (∃ r, o.qregs = [r]) ∧ o.cregs = [])) → GroupHyp c' :=
    fun ⟨_, s⟩ hb => groupHyp_of_chain s g hh hb
  cases e with
  | add op =>
    refine key (add_chain g he.wf) fun p a o hb => ?_
    rcases a with a | ⟨es, rfl⟩
    · exact (a.brings_nothing hb).elim
    · rw [show o = op from hb]; exact ⟨he.plain, he.shape⟩
  | insertAt op es =>
    refine key (insertAt_chain g he.1.wf (InsertOK.of_pre g he.2)).1 fun p a o hb => ?_
    rcases a with a | rfl
    · exact (a.brings_nothing hb).elim
    · rw [show o = op from hb]; exact ⟨he.1.plain, he.1.shape⟩
  | removeOp i => exact key ⟨_, removeOp_chain i⟩ fun p (a : p = .erase i) o hb => by rw [a] at hb; exact hb.elim
  | replaceOp i op =>
    refine key ⟨_, replaceOp_chain i he.wf⟩ fun p (a : p = .relabel i op) o hb => ?_
    rw [a] at hb; rw [show o = op from hb]; exact ⟨he.plain, he.shape⟩
  | removeIdentity => exact key (removeIdentity_chain g) fun p a o hb => (a.brings_nothing hb).elim
  | addRegister t sz => exact key (addRegister_chain g t sz) fun p a o hb => (a.brings_nothing hb).elim
  | unwrapNodes =>
    refine key (unwrapNodes_chain g) fun p a o hb => ?_
    rcases a with a | ⟨w, o', es, _, hk, ho', rfl⟩
    · exact (a.brings_nothing hb).elim
    · rw [show o = o' from hb]
      unfold Op.unwrap at ho'
      rw [hk] at ho'
      obtain ⟨k, _, rfl⟩ := List.mem_map.mp ho'
      exact ⟨plain_oneQubit k _, fun _ => ⟨⟨_, rfl⟩, rfl⟩⟩
  | groupOneQubitGates =>
    -- that the wrappers are plain rests on the walk's own invariant (its gate lists hold no wrapper class)
    obtain ⟨_, _, _, hh', _⟩ := groupOneQubitGates_wires g hh
    exact hh'

/-- … hence every history does -/
theorem history_groupHyp (es : List Edit) : ∀ {c : Dag}, DagInv c → GroupHyp c → HistOKg c es →
    DagInv (run c es) ∧ GroupHyp (run c es) := by
  induction es with
  | nil => intro c h hh _; exact ⟨h, hh⟩
  | cons e rest ih =>
    intro c h hh hok
    exact ih (edit_preserves_dagInv h e hok.1.toEditOK) (edit_preserves_groupHyp h hh e hok.1) hok.2

/-- **`GroupHyp` holds on every circuit reachable from `CircuitDAG(ne, np, nc)`** by any history over the whole edit API —
    add, insert_at, remove_op, replace_op, unwrap_nodes, remove_identity, group_one_qubit_gates, add_*_register, in any
    order, successful or raising — whose operation arguments are graphiq-constructed objects.  So `GroupHyp` is no
    restriction on the circuits `group_one_qubit_gates` can meet: it restricts only the operation objects handed in. -/
theorem groupHyp_on_every_reachable_circuit (ne np nc : Nat) (es : List Edit) (hok : HistOKg (Dag.init ne np nc) es) :
    DagInv (run (Dag.init ne np nc) es) ∧ GroupHyp (run (Dag.init ne np nc) es) :=
  history_groupHyp es (init_dagInv ne np nc) (init_groupHyp ne np nc) hok

/-- **`group_one_qubit_gates` = fuse of runs, with no hypothesis on the circuit**: after any history of edits (with
    graphiq-constructed operations) from a fresh circuit, the call does not raise and acts on the wires as
    `group_is_fuse_of_runs_on_wires` says -/
theorem group_is_fuse_of_runs_after_any_history (ne np nc : Nat) (es : List Edit) (hok : HistOKg (Dag.init ne np nc) es) :
    ∃ P, Good (run (Dag.init ne np nc) es) P ∧
      (run (Dag.init ne np nc) es).groupOneQubitGates.2 = none ∧
      ∃ P', Good (run (Dag.init ne np nc) es).groupOneQubitGates.1 P' ∧
        (∀ r, wireOps (run (Dag.init ne np nc) es).groupOneQubitGates.1 (P' r) =
          fuseWire r (wireOps (run (Dag.init ne np nc) es) (P r))) ∧
        (∀ r, flatOps (wireOps (run (Dag.init ne np nc) es).groupOneQubitGates.1 (P' r)) =
          flatOps (wireOps (run (Dag.init ne np nc) es) (P r))) := by
  obtain ⟨⟨P, g⟩, hh⟩ := groupHyp_on_every_reachable_circuit ne np nc es hok
  obtain ⟨e, P', g', hw, _, _, hfl⟩ := group_is_fuse_of_runs_on_wires g hh
  exact ⟨P, g, e, P', g', hw, hfl⟩

/-- **`group_one_qubit_gates` = fuse of runs, classical wiring included.**  `wiredWire c P r` is the operation sequence of the wire of
    `r` with every operation restricted to the classical registers it is actually threaded on (`insert_at` threads none).  On every
    circuit satisfying DagInv with graphiq-constructed operations the call does not raise, keeps `GroupHyp` and the register counts,
    and every wire's sequence becomes `fuseWire` of what it was: the persisting operations keep their classical threading (classical
    wires are literally unchanged), the wrappers are threaded on their quantum register only. -/
theorem group_is_fuse_of_runs_on_wired_wires {c : Dag} {P : Reg → List NodeId} (g : Good c P) (hh : GroupHyp c) :
    c.groupOneQubitGates.2 = none ∧ ∃ P', Good c.groupOneQubitGates.1 P' ∧ GroupHyp c.groupOneQubitGates.1 ∧
      c.groupOneQubitGates.1.regs = c.regs ∧
      ∀ r, wiredWire c.groupOneQubitGates.1 P' r = fuseWire r (wiredWire c P r) :=
  groupOneQubitGates_wiredWire g hh

/-- **`unwrap_nodes` on the wire sequences as wired**: succeeds, and every wire carries the flatMap-unwrap of what it carried
    (the classical threading of the other operations is unchanged) -/
theorem unwrap_nodes_is_flatMap_on_wired_wires {c : Dag} {P : Reg → List NodeId} (g : Good c P) (hpl : AllPlain c) :
    c.unwrapNodes.2 = none ∧ ∃ P', Good c.unwrapNodes.1 P' ∧ AllPlain c.unwrapNodes.1 ∧
      ∀ r, wiredWire c.unwrapNodes.1 P' r = (wiredWire c P r).flatMap Op.unwrap :=
  unwrapNodes_wiredWire g hpl

/-- **`remove_identity` on the wire sequences as wired**: succeeds, and every wire carries its non-identity operations, in order -/
theorem remove_identity_is_filter_on_wired_wires {c : Dag} {P : Reg → List NodeId} (g : Good c P) (hpl : AllPlain c) :
    c.removeIdentity.2 = none ∧ ∃ P', Good c.removeIdentity.1 P' ∧ AllPlain c.removeIdentity.1 ∧
      ∀ r, wiredWire c.removeIdentity.1 P' r = (wiredWire c P r).filter (fun o => !decide (o.kind = .identity)) :=
  removeIdentity_wiredWire g hpl

/-- the three rewrites of the API (no node argument) -/
inductive Rewrite where
  | unwrapNodes | removeIdentity | groupOneQubitGates

def Rewrite.toEdit : Rewrite → Edit
  | .unwrapNodes => .unwrapNodes
  | .removeIdentity => .removeIdentity
  | .groupOneQubitGates => .groupOneQubitGates

/-- the list edit of a rewrite on the operation sequence of the wire of register `r` -/
def Rewrite.onWire (r : Reg) : Rewrite → List Op → List Op
  | .unwrapNodes, l => l.flatMap Op.unwrap
  | .removeIdentity, l => l.filter (fun o => !decide (o.kind = .identity))
  | .groupOneQubitGates, l => fuseWire r l

/-- **any sequence of rewrites, on the wires as wired**: starting from a circuit satisfying DagInv with graphiq-constructed
    operations, no call raises, and the operation sequence of every wire at the end is obtained from the one at the start by
    applying the rewrites' list edits in order — a closed-form interpreter for rewrite histories (the node identities created on the
    way do not appear) -/
theorem rewrite_history_on_wired_wires (rws : List Rewrite) : ∀ {c : Dag} {P : Reg → List NodeId}, Good c P → GroupHyp c →
    ∃ P', Good (run c (rws.map Rewrite.toEdit)) P' ∧ GroupHyp (run c (rws.map Rewrite.toEdit)) ∧
      (run c (rws.map Rewrite.toEdit)).regs = c.regs ∧
      ∀ r, wiredWire (run c (rws.map Rewrite.toEdit)) P' r = rws.foldl (fun l rw => rw.onWire r l) (wiredWire c P r) := by
  induction rws with
  | nil => intro c P g hh; exact ⟨P, g, hh, rfl, fun _ => rfl⟩
  | cons rw rest ih =>
    intro c P g hh
    cases rw with
    | unwrapNodes =>
      obtain ⟨_, P1, g1, _, hw1⟩ := unwrapNodes_wiredWire g hh.plain
      have hr1 := register_counts_change_only_by_register_adding ⟨P, g⟩ .unwrapNodes trivial
      obtain ⟨P2, g2, hh2, hr2, hw2⟩ := ih g1 (edit_preserves_groupHyp ⟨P, g⟩ hh .unwrapNodes trivial)
      exact ⟨P2, g2, hh2, hr2.trans hr1, fun r => (hw2 r).trans (by rw [hw1 r]; rfl)⟩
    | removeIdentity =>
      obtain ⟨_, P1, g1, _, hw1⟩ := removeIdentity_wiredWire g hh.plain
      have hr1 := register_counts_change_only_by_register_adding ⟨P, g⟩ .removeIdentity trivial
      obtain ⟨P2, g2, hh2, hr2, hw2⟩ := ih g1 (edit_preserves_groupHyp ⟨P, g⟩ hh .removeIdentity trivial)
      exact ⟨P2, g2, hh2, hr2.trans hr1, fun r => (hw2 r).trans (by rw [hw1 r]; rfl)⟩
    | groupOneQubitGates =>
      obtain ⟨_, P1, g1, hh1, hr1, hw1⟩ := groupOneQubitGates_wiredWire g hh
      obtain ⟨P2, g2, hh2, hr2, hw2⟩ := ih g1 hh1
      exact ⟨P2, g2, hh2, hr2.trans hr1, fun r => (hw2 r).trans (by rw [hw1 r]; rfl)⟩

/-- … evaluated in the kernel on the circuit of §8 with a measurement inserted by `insert_at` (classical register `c0` left
    unthreaded) before the last gate of `e0`: every wire of the grouped circuit, as `reg_gate_history` returns it, carries `fuseWire`
    of the wire before -/
def gInsC : Dag :=
  ((build 1 2 1 gseq).1.insertAt mcrE0P1 [⟨.op 6, .op 7, ⟨.e, 0⟩⟩, ⟨.op 6, .out ⟨.p, 1⟩, ⟨.p, 1⟩⟩]).1

example : gInsC.groupOneQubitGates.2 = none ∧
    ∀ r ∈ liveRegs gInsC, wiredWire gInsC.groupOneQubitGates.1 (wireOf gInsC.groupOneQubitGates.1) r =
      fuseWire r (wiredWire gInsC (wireOf gInsC) r) := by decide +kernel

/-- the hypothesis is sharp in the only direction left: an operation object that is groupable but is NOT a one-qubit gate
    object (here: class `Hadamard`, label "one-qubit", two quantum registers — not constructible with graphiq's classes)
    is not a `GraphiqOp`, and a circuit holding it violates `GroupHyp` -/
def badH : Op := ⟨.hadamard, [⟨.e, 0⟩, ⟨.e, 1⟩], [], ["one-qubit"], []⟩

example : ¬ GraphiqOp badH := fun h => by
  obtain ⟨⟨r, hr⟩, _⟩ := h.shape (by decide)
  simp [badH] at hr

example : ¬ GroupHyp ((Dag.init 2 0 0).add badH).1 := fun hh => by
  obtain ⟨⟨r, hr⟩, _⟩ := hh.shape 1 badH (by decide +kernel) (by decide +kernel)
  simp [badH] at hr

/-- non-vacuity: the history of §8 (with graphiq-constructed operations) satisfies `HistOKg` -/
example : HistOKg (Dag.init 1 1 0)
    [.add hE0, .insertAt hE0 [⟨.op 1, .out ⟨.e, 0⟩, ⟨.e, 0⟩⟩], .add cnotE0P0, .add mcrE0P1, .add wrapP0, .removeOp 1,
     .removeOp 77, .replaceOp 3 cnotE0P0, .addRegister .e 1, .addRegister .p 2, .unwrapNodes, .removeIdentity,
     .groupOneQubitGates] :=
  have gH : GraphiqOp hE0 := graphiqOp_oneQubit rfl (by decide)
  have gC : GraphiqOp cnotE0P0 := ⟨cnot_wf, ⟨⟨by decide, by decide⟩, by decide⟩, fun h => absurd h (by decide)⟩
  have gM : GraphiqOp mcrE0P1 := ⟨mcr_wf, ⟨⟨by decide, by decide⟩, by decide⟩, fun h => absurd h (by decide)⟩
  have gW : GraphiqOp wrapP0 := ⟨wrap_wf, ⟨⟨by decide, by decide⟩, by decide⟩, fun _ => ⟨⟨_, rfl⟩, rfl⟩⟩
  ⟨gH, ⟨gH, InsertOK.single (by decide) rfl⟩,
   gC, gM, gW, trivial, trivial, gC, trivial, trivial, trivial, trivial, trivial, trivial⟩

/-- **an edge pair the circuit reports compatible is a well-formed `insert_at` argument** (`InsertOK`, the hypothesis of
    `HistOKg` / `edit_preserves_dagInv`): both edges exist, are keyed by the operation's registers, and are pairwise path-free -/
theorem compatible_pair_is_well_formed {c : Dag} (h : DagInv c) {op : Op} {first second : Edge} {L : List Edge}
    (hL : c.findIncompatibleEdges first = .ok L) (h1 : first ∈ c.edges) (h2 : second ∈ c.edges) (hcompat : second ∉ L)
    (hq : op.qregs = [first.key, second.key]) : InsertOK c op [first, second] := by
  obtain ⟨n1, n2⟩ := compatible_no_path (model_reachability_meets_nx_spec h first.src).1
    (model_reachability_meets_nx_spec h first.dst).2 hL h2 hcompat
  exact InsertOK.pair h1 h2 hq n1 n2

/-- **inserting at the beginning of wires is always a well-formed call** (the time-reversed solver's pattern:
    `insert_at(gate, [first out-edge of e<i>_in, first out-edge of p<j>_in])`): existing edges that leave input nodes, one per
    quantum register of the operation and keyed by it, satisfy `InsertOK` — nothing reaches an input node, so no path condition
    is left to check -/
theorem insert_at_input_edges_is_well_formed {c : Dag} (h : DagInv c) {op : Op} {es : List Edge}
    (hmem : ∀ e ∈ es, e ∈ c.edges) (hkeys : es.map (·.key) = op.qregs) (hsrc : ∀ e ∈ es, ∃ r, e.src = NodeId.inp r) :
    InsertOK c op es := by
  obtain ⟨P, g⟩ := h; exact insertOK_of_input_edges g hmem hkeys hsrc

/-- … and so is inserting at the end of wires (edges entering output nodes: appending a gate) -/
theorem insert_at_output_edges_is_well_formed {c : Dag} (h : DagInv c) {op : Op} {es : List Edge}
    (hmem : ∀ e ∈ es, e ∈ c.edges) (hkeys : es.map (·.key) = op.qregs) (hdst : ∀ e ∈ es, ∃ r, e.dst = NodeId.out r) :
    InsertOK c op es := by
  obtain ⟨P, g⟩ := h; exact insertOK_of_output_edges g hmem hkeys hdst

/-- the hypotheses are met by the solver's call on a fresh `CircuitDAG(1, 1, 0)`: a two-qubit gate on the first edges of `e0` and `p0` -/
example : InsertOK (Dag.init 1 1 0) cnotE0P0 [⟨.inp ⟨.e, 0⟩, .out ⟨.e, 0⟩, ⟨.e, 0⟩⟩, ⟨.inp ⟨.p, 0⟩, .out ⟨.p, 0⟩, ⟨.p, 0⟩⟩] :=
  insert_at_input_edges_is_well_formed (init_dagInv 1 1 0) (by decide) rfl
    (by intro e he; simp at he; rcases he with rfl | rfl <;> exact ⟨_, rfl⟩)

/-! ## 9b. the node-addressed edits as functions on the wires

  For `add`, `insert_at`, `remove_op`, `replace_op` — on operations whose registers exist, so that the register prologue does
  nothing — the wires after the edit are an explicit FUNCTION of the wires before and of `_node_id` (no existential): splice the
  new node `_node_id + 1` in front of the output of every register of the operation (`add`) / between the two ends of every given
  edge (`insert_at`), erase the node (`remove_op`), keep everything (`replace_op`).  Folding it over a history gives the wires after
  the history as a closed-form function of the history — the node-level counterpart of `rewrite_history_on_wired_wires`. -/

/-- the list edit of a node-addressed edit on the wires; second component: `_node_id` afterwards -/
def wiresStep (P : Reg → List NodeId) (nid : Nat) : Edit → (Reg → List NodeId) × Nat
  | .add op => (splicePaths (.op (nid + 1)) ((opRegs op).map (lastEdge P)) P, nid + 1)
  | .insertAt _ es => (splicePaths (.op (nid + 1)) es P, nid + 1)
  | .removeOp i => (erasePaths P (.op i), nid)
  | _ => (P, nid)

/-- well-formed node-addressed calls that add no register -/
def NodeEditOK (c : Dag) : Edit → Prop
  | .add op => OpWF op ∧ ∀ r ∈ opRegs op, c.live r
  | .insertAt op es => OpWF op ∧ InsertOK c op es ∧ ∀ r ∈ opRegs op, c.live r
  | .removeOp _ => True
  | .replaceOp _ op => OpWF op
  | _ => False

def NodeHistOK (c : Dag) : List Edit → Prop
  | [] => True
  | e :: es => NodeEditOK c e ∧ NodeHistOK (apply c e).1 es

def wiresRun (P : Reg → List NodeId) (nid : Nat) : List Edit → (Reg → List NodeId) × Nat
  | [] => (P, nid)
  | e :: es => wiresRun (wiresStep P nid e).1 (wiresStep P nid e).2 es

/-- **one node-addressed edit = the list edit `wiresStep` on the wires** -/
theorem node_edit_wires {c : Dag} {P : Reg → List NodeId} (g : Good c P) (e : Edit) (he : NodeEditOK c e) :
    Good (apply c e).1 (wiresStep P c.nodeId e).1 ∧ (apply c e).1.nodeId = (wiresStep P c.nodeId e).2 := by
  cases e with
  | add op =>
    show Good (c.add op).1 _ ∧ (c.add op).1.nodeId = _
    rw [add_eq_of_live g.inv he.1 he.2]
    exact ⟨(add_spec g he.1 he.2).1, (add_spec g he.1 he.2).2.2.1⟩
  | insertAt op es =>
    have hS := he.2.1.spliceOK g he.1
    show Good (c.insertAt op es).1 _ ∧ (c.insertAt op es).1.nodeId = _
    rw [insertAt_eq_of_live g.inv he.1 he.2.1.keys he.2.2, insertAt_eq_prim g hS]
    exact ⟨Prim.good g (p := .insert op es) hS, Prim.insert_nodeId _ _ _⟩
  | removeOp i => exact ⟨Prim.good g (p := .erase i) trivial, Prim.run_nodeId_eq g (p := .erase i) trivial id⟩
  | replaceOp i op => exact ⟨Prim.good g (p := .relabel i op) he, Prim.run_nodeId_eq g (p := .relabel i op) he id⟩
  | unwrapNodes => exact absurd he id
  | removeIdentity => exact absurd he id
  | groupOneQubitGates => exact absurd he id
  | addRegister t s => exact absurd he id

/-- **any history of node-addressed edits: the wires are computed by the list edits** — `wiresRun` is a function of the wires at the
    start, of `_node_id` and of the edits only -/
theorem node_history_wires (es : List Edit) : ∀ {c : Dag} {P : Reg → List NodeId}, Good c P → NodeHistOK c es →
    Good (run c es) (wiresRun P c.nodeId es).1 ∧ (run c es).nodeId = (wiresRun P c.nodeId es).2 := by
  induction es with
  | nil => intro c P g _; exact ⟨g, rfl⟩
  | cons e rest ih =>
    intro c P g hok
    obtain ⟨g1, hid⟩ := node_edit_wires g e hok.1
    have := ih g1 hok.2
    rw [hid] at this
    exact this

/-- non-vacuity: on `CircuitDAG(2, 1, 1)` — `add CNOT e0→e1`, `add H p0`, `insert_at` a measurement before both outputs, `insert_at`
    a phase gate before the CNOT, `remove_op 2` — and the wires computed by the list edits (kernel-evaluated): `e0: in, 4, 1, out`,
    `e1: in, 1, 3, out`, `p0: in, 3, out` -/
def nodeHist : List Edit :=
  [.add ⟨.cnot, [⟨.e, 0⟩, ⟨.e, 1⟩], [], ["two-qubit"], []⟩, .add (Op.oneQubit .hadamard ⟨.p, 0⟩),
   .insertAt ⟨.mcr, [⟨.e, 1⟩, ⟨.p, 0⟩], [0], ["two-qubit"], []⟩ [⟨.op 1, .out ⟨.e, 1⟩, ⟨.e, 1⟩⟩, ⟨.op 2, .out ⟨.p, 0⟩, ⟨.p, 0⟩⟩],
   .insertAt (Op.oneQubit .phase ⟨.e, 0⟩) [⟨.inp ⟨.e, 0⟩, .op 1, ⟨.e, 0⟩⟩],
   .removeOp 2]

example : (wiresRun (fun r => [.inp r, .out r]) 0 nodeHist).2 = 4 ∧
    (wiresRun (fun r => [.inp r, .out r]) 0 nodeHist).1 ⟨.e, 0⟩ = [.inp ⟨.e, 0⟩, .op 4, .op 1, .out ⟨.e, 0⟩] ∧
    (wiresRun (fun r => [.inp r, .out r]) 0 nodeHist).1 ⟨.e, 1⟩ = [.inp ⟨.e, 1⟩, .op 1, .op 3, .out ⟨.e, 1⟩] ∧
    (wiresRun (fun r => [.inp r, .out r]) 0 nodeHist).1 ⟨.p, 0⟩ = [.inp ⟨.p, 0⟩, .op 3, .out ⟨.p, 0⟩] ∧
    (wiresRun (fun r => [.inp r, .out r]) 0 nodeHist).1 ⟨.c, 0⟩ = [.inp ⟨.c, 0⟩, .out ⟨.c, 0⟩] := by decide +kernel

/-- … and the history satisfies the hypothesis of `node_history_wires` from `CircuitDAG(2, 1, 1)` -/
example : NodeHistOK (Dag.init 2 1 1) nodeHist := by
  have wfC : OpWF ⟨.cnot, [⟨.e, 0⟩, ⟨.e, 1⟩], [], ["two-qubit"], []⟩ :=
    opWF_of_not_wrapper (by decide) (by decide) (by decide) (by decide)
  have wfM : OpWF ⟨.mcr, [⟨.e, 1⟩, ⟨.p, 0⟩], [0], ["two-qubit"], []⟩ :=
    opWF_of_not_wrapper (by decide) (by decide) (by decide) (by decide)
  have wfH : OpWF (Op.oneQubit .hadamard ⟨.p, 0⟩) := oneQubit_wf rfl (by decide)
  have wfP : OpWF (Op.oneQubit .phase ⟨.e, 0⟩) := oneQubit_wf rfl (by decide)
  have h2 : DagInv (run (Dag.init 2 1 1) [.add ⟨.cnot, [⟨.e, 0⟩, ⟨.e, 1⟩], [], ["two-qubit"], []⟩, .add (Op.oneQubit .hadamard ⟨.p, 0⟩)]) :=
    history_from_init 2 1 1 _ ⟨wfC, wfH, trivial⟩
  refine ⟨⟨wfC, by decide⟩, ⟨wfH, by decide⟩, ⟨wfM, ?_, by decide⟩, ⟨wfP, InsertOK.single (by decide) rfl, by decide⟩,
    trivial, trivial⟩
  exact insert_at_output_edges_is_well_formed h2 (by decide) rfl
    (by intro e he; simp at he; rcases he with rfl | rfl <;> exact ⟨_, rfl⟩)

/-! ## 10. `find_incompatible_edges`: exactly which edges are reported -/

/-- **Characterisation.**  With `anc` / `desc` meeting the recorded networkx specification, `find_incompatible_edges(first)`
    returns `first` and exactly the edges whose source is a proper ancestor of `first`'s source, or `first`'s target, or a
    descendant of it (the in-edge term of the code is redundant). -/
theorem find_incompatible_edges_characterised {c : Dag} {first : Edge} {anc desc : List NodeId} {L : List Edge}
    (hanc : AncSpec c first.src anc) (hdesc : DescSpec c first.dst desc)
    (hL : c.findIncompatibleEdgesWith anc desc first = .ok L) (e : Edge) :
    e ∈ L ↔ e = first ∨ (e ∈ c.edges ∧ (TransGen c.E e.src first.src ∨ ReflTransGen c.E first.dst e.src)) :=
  findIncompatibleEdgesWith_iff hanc hdesc hL e

/-- **Completeness with respect to cycles**: every edge of the graph on which a joint insertion with `first` would close a cycle
    (a path from `first`'s target to the edge's source, or from the edge's target to `first`'s source) is reported — the
    converse of `compatible_insert_keeps_dagInv`'s use of the set; for the model's own reachability no networkx hypothesis is left -/
theorem find_incompatible_edges_complete {c : Dag} (h : DagInv c) {first e : Edge} {L : List Edge}
    (hL : c.findIncompatibleEdges first = .ok L) (he : e ∈ c.edges)
    (hcyc : ReflTransGen c.E first.dst e.src ∨ ReflTransGen c.E e.dst first.src) : e ∈ L :=
  findIncompatibleEdgesWith_complete (model_reachability_meets_nx_spec h first.src).1
    (model_reachability_meets_nx_spec h first.dst).2 hL he hcyc

/-- **the reported set is conservative, not exact** (kernel-checked witness): on `CNOT e0→e1; H e1`, for `first` = the edge from
    `H` to the output of `e1`, the edge from the CNOT to the output of `e0` is reported incompatible (its source, the CNOT, is
    an ancestor of `H`) although a joint insertion there — appending a two-qubit gate on `e1, e0` — closes no cycle: the call
    succeeds and keeps DagInv.  So the code loses candidate edge pairs but never admits a cyclic one. -/
def cnotE0E1 : Op := ⟨.cnot, [⟨.e, 0⟩, ⟨.e, 1⟩], [], ["two-qubit"], []⟩
def hE1 : Op := Op.oneQubit .hadamard ⟨.e, 1⟩
def cnotE1E0 : Op := ⟨.cnot, [⟨.e, 1⟩, ⟨.e, 0⟩], [], ["two-qubit"], []⟩
def consC : Dag := run (Dag.init 2 0 0) [.add cnotE0E1, .add hE1]

example : (∃ L, consC.findIncompatibleEdges ⟨.op 2, .out ⟨.e, 1⟩, ⟨.e, 1⟩⟩ = .ok L ∧
      (⟨.op 1, .out ⟨.e, 0⟩, ⟨.e, 0⟩⟩ : Edge) ∈ L) ∧
    (consC.insertAt cnotE1E0 [⟨.op 2, .out ⟨.e, 1⟩, ⟨.e, 1⟩⟩, ⟨.op 1, .out ⟨.e, 0⟩, ⟨.e, 0⟩⟩]).2 = none ∧
    (consC.insertAt cnotE1E0 [⟨.op 2, .out ⟨.e, 1⟩, ⟨.e, 1⟩⟩, ⟨.op 1, .out ⟨.e, 0⟩, ⟨.e, 0⟩⟩]).1.isAcyclicB = true :=
  ⟨⟨_, rfl, by decide +kernel⟩, by decide +kernel, by decide +kernel⟩

end Graphiq.C12
