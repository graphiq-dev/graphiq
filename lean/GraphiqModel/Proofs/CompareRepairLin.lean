/-
  Proofs/CompareRepairLin.lean — completeness of the repaired comparison, as `compare` calls it and as
  `remove_redundant_circuits` calls it (after `unwrap_nodes` and `remove_identity`): circuits whose (executed) operations are
  renamings of each other register by register are reported isomorphic.  The normalised DAG is not a built DAG (node ids
  are no longer the operation indices), so the argument is made once for the DAG of any labelled operation list (`OpDag`,
  which a built DAG is and the normalisation keeps): a renaming of the registers, a reordering that changes no register path
  and a relabelling of the operation nodes make a node map that passes the check (`iso_of_relabelled`, `isoGraphs2_of_renamed`).
-/
import GraphiqModel.Proofs.CompareRepairExact
import GraphiqModel.Proofs.CompareRepairSearch
namespace Graphiq.Compare
open Graphiq Graphiq.Export

/-- **two circuit DAGs, the operation list of the second being that of the first with the operations renamed by `π`, reordered
    without changing a register path, and relabelled by `f`, are isomorphic for the repaired check** -/
theorem iso_of_relabelled {W : List Wire} {g1 g2 : MG} {L1 L' : List (Nat × Op)} {f : Nat → Nat} (d1 : OpDag W g1 L1)
    (d2 : OpDag W g2 (L'.map (relab f))) (π : Wire → Wire) (hπ : IsRenaming W π) (hsurj : ∀ w2 ∈ W, ∃ w ∈ W, π w = w2)
    (hperm : L'.Perm (L1.map fun p => (p.1, renOp π p.2)))
    (hbody : ∀ w, bodyL L' w = bodyL (L1.map fun p => (p.1, renOp π p.2)) w) :
    IsoFacts2 g1.addControlTarget2 g2.addControlTarget2 (nodeMap π f) := by
  have r1 := d1.rep
  have r2 := d2.rep
  have hmem : ∀ p ∈ L1, (p.1, renOp π p.2) ∈ L' := fun p hp => hperm.mem_iff.2 (List.mem_map.2 ⟨p, hp, rfl⟩)
  have hgate2 : ∀ p ∈ L1, g2.opOf (.op (f p.1)) = some (.gate (renOp π p.2)) :=
    fun p hp => d2.gate _ (List.mem_map.2 ⟨_, hmem p hp, rfl⟩)
  have hfinj : ∀ p ∈ L1, ∀ q ∈ L1, f p.1 = f q.1 → p.1 = q.1 := by
    have := d2.labels
    rw [List.map_map] at this
    intro p hp q hq e
    exact (Prod.mk.inj (List.inj_on_of_nodup_map this (hmem p hp) (hmem q hq) e)).1
  rw [addControlTarget2_eq g1 W _ r1, addControlTarget2_eq g2 W _ r2]
  apply iso2_of_paths g1.labelled g2.labelled W W _ _ r1.labelled r2.labelled (tripNodup_labelled g1 d1.trips)
    (tripNodup_labelled g2 d2.trips) (nodeMap π f) π hπ.into hsurj hπ.inj
  · show (g1.nodes.map (·.1)).length = (g2.nodes.map (·.1)).length
    rw [List.length_map, List.length_map, d1.count, d2.count, List.length_map, hperm.length_eq, List.length_map]
  · intro a ha b hb hab
    rcases d1.node_cases a ha with ⟨w, hw, rfl, _⟩ | ⟨w, hw, rfl, _⟩ | ⟨i, o, rfl, hi⟩ <;>
      rcases d1.node_cases b hb with ⟨w', hw', rfl, _⟩ | ⟨w', hw', rfl, _⟩ | ⟨j, o', rfl, hj⟩ <;>
      simp only [nodeMap, Nd.inp.injEq, Nd.out.injEq, Nd.op.injEq, reduceCtorEq] at hab
    · rw [hπ.inj w hw w' hw' hab]
    · rw [hπ.inj w hw w' hw' hab]
    · exact congrArg Nd.op (hfinj _ hi _ hj hab)
  · exact d1.names
  · intro n hn
    show nodeMap π f n ∈ g2.nodes.map (·.1)
    rcases d1.node_cases n hn with ⟨w, hw, rfl, _⟩ | ⟨w, hw, rfl, _⟩ | ⟨i, o, rfl, hi⟩
    · exact opOf_some_mem g2 _ _ (r2.inpOp _ (hπ.into w hw))
    · exact opOf_some_mem g2 _ _ (r2.outOp _ (hπ.into w hw))
    · exact opOf_some_mem g2 _ _ (hgate2 _ hi)
  · intro n hn
    show ∃ a b, g1.opOf n = some a ∧ g2.opOf (nodeMap π f n) = some b ∧ nodeMatch a b = true
    rcases d1.node_cases n hn with ⟨w, hw, rfl, ho⟩ | ⟨w, hw, rfl, ho⟩ | ⟨i, o, rfl, hi⟩
    · exact ⟨_, _, ho, r2.inpOp _ (hπ.into w hw), (nodeMatch_io_of_type w (π w) (hπ.ty w hw)).1⟩
    · exact ⟨_, _, ho, r2.outOp _ (hπ.into w hw), (nodeMatch_io_of_type w (π w) (hπ.ty w hw)).2⟩
    · exact ⟨_, _, d1.gate _ hi, hgate2 _ hi, nodeMatch_renOp π _⟩
  · intro w hw
    unfold pathOf
    rw [bodyL_relab π f, hbody, bodyL_renOp W π hπ L1 d1.wires w hw]
    simp only [List.map_cons, List.map_append, List.map_nil, nodeMap]
  · intro w hw n hn
    show role (g2.opOf (nodeMap π f n)) (π w) = role (g1.opOf n) w
    rcases (mem_pathOf _ w n).1 hn with rfl | hb | rfl
    · rw [r1.inpOp w hw]; exact congrArg (role · (π w)) (r2.inpOp _ (hπ.into w hw))
    · obtain ⟨p, hp, _, rfl⟩ := mem_bodyL.1 hb
      rw [d1.gate p hp]
      exact (congrArg (role · (π w)) (hgate2 p hp)).trans (role_renOp W π hπ _ (d1.wires p hp) w hw)
    · rw [r1.outOp w hw]; exact congrArg (role · (π w)) (r2.outOp _ (hπ.into w hw))

/-- **two circuit DAGs whose operation lists are, register by register, renamings of each other are reported isomorphic.**
    The renamed first list and the second have the same sequence on every register, so they differ by exchanges of
    neighbours that share no register (`swapW_of_wires`), which change no register path of the labelled list
    (`SwapW.relabel`), and by the labels (`exists_relab`): `iso_of_relabelled` applies. -/
theorem isoGraphs2_of_renamed {W : List Wire} {g1 g2 : MG} {L1 L2 : List (Nat × Op)} (d1 : OpDag W g1 L1) (d2 : OpDag W g2 L2)
    (π : Wire → Wire) (hπ : IsRenaming W π) (hsurj : ∀ w2 ∈ W, ∃ w ∈ W, π w = w2)
    (hwires : ∀ w ∈ W, (L2.map (·.2)).filter (touches (π w)) = ((L1.map (·.2)).filter (touches w)).map (renOp π)) :
    isoGraphs2 g1 g2 = true := by
  have hall := ren_filter_all W π hπ hsurj _ _ d1.opsWires d2.opsWires hwires
  obtain ⟨L', hs, hperm, hbody⟩ := (swapW_of_wires _ _ hall).relabel (L1.map fun p => (p.1, renOp π p.2))
    (by rw [List.map_map, List.map_map]; rfl)
  have hn' : (L'.map (·.1)).Nodup := (hperm.map _).nodup_iff.2 (by rw [List.map_map]; exact d1.labels)
  obtain ⟨f, rfl⟩ := exists_relab L' L2 hn' hs.symm
  exact isoGraphs2_complete g1 g2 _ _ _ _ d1.rep d2.rep d1.names _ (iso_of_relabelled d1 d2 π hπ hsurj hperm hbody)

/-! ## completeness of the comparison -/

section
variable {ν : MG → MG} {F : List Op → List Op}

/-- **completeness of the repaired comparison**: circuits whose operations (as the comparison sees them) are renamings of
    each other register by register are reported isomorphic, whatever the order in which operations on different registers
    were appended -/
theorem isoVia_complete (v : View ν F) (c1 c2 : Circuit) (h1 : ∀ o ∈ c1.ops, OpOK (wiresN c1.ne c1.np c1.nc) o)
    (h2 : ∀ o ∈ c2.ops, OpOK (wiresN c2.ne c2.np c2.nc) o) (π : Wire → Wire) (h : RenamedBy π (mapOps F c1) (mapOps F c2)) :
    isoVia ν c1 c2 = .ok true := by
  obtain ⟨g1, g2, L1, L2, e, _, d1, e1, d2, e2⟩ := v.on_built c1 c2 h1 h2
  have hW : wiresN c2.ne c2.np c2.nc = wiresN c1.ne c1.np c1.nc := by
    have a : c1.ne = c2.ne := h.ne
    have b : c1.np = c2.np := h.np
    have c : c1.nc = c2.nc := h.nc
    rw [a, b, c]
  rw [hW] at d2
  rw [e, isoGraphs2_of_renamed d1 d2 π h.isRenaming h.surj (by rw [e1, e2]; exact h.wires)]

/-- **the repaired comparison decides exactly "equal up to a renaming of the registers within each type"**, of the operations
    as it sees them -/
theorem isoVia_exact (v : View ν F) (c1 c2 : Circuit) (h1 : ∀ o ∈ c1.ops, OpOK (wiresN c1.ne c1.np c1.nc) o)
    (h2 : ∀ o ∈ c2.ops, OpOK (wiresN c2.ne c2.np c2.nc) o) :
    isoVia ν c1 c2 = .ok true ↔ ∃ π, RenamedBy π (mapOps F c1) (mapOps F c2) :=
  ⟨isoVia_sound v c1 c2 h1 h2, fun ⟨π, h⟩ => isoVia_complete v c1 c2 h1 h2 π h⟩

end

theorem RenamedBy.reported {π : Wire → Wire} {c1 c2 : Circuit} (h : RenamedBy π c1 c2)
    (h1 : ∀ o ∈ c1.ops, OpOK (wiresN c1.ne c1.np c1.nc) o) (h2 : ∀ o ∈ c2.ops, OpOK (wiresN c2.ne c2.np c2.nc) o) :
    circuitIsIsomorphic2 c1 c2 = .ok true :=
  isoVia_complete .plain c1 c2 h1 h2 π h

/-! ## renamed copies, and a circuit against itself -/

theorem renamedBy_copy (c : Circuit) (h : ∀ o ∈ c.ops, OpOK (wiresN c.ne c.np c.nc) o) (π : Wire → Wire)
    (hπ : IsRenaming (wiresN c.ne c.np c.nc) π) (hsurj : ∀ w2 ∈ wiresN c.ne c.np c.nc, ∃ w ∈ wiresN c.ne c.np c.nc, π w = w2) :
    RenamedBy π c ⟨c.ne, c.np, c.nc, c.ops.map (renOp π)⟩ :=
  ⟨rfl, rfl, rfl, fun w hw => ⟨hπ.into w hw, hπ.ty w hw⟩, hπ.inj, hsurj,
    fun w hw => ren_filter _ π hπ c.ops (fun o ho => (h o ho).1) w hw⟩

/-- **a renamed copy is reported isomorphic by the model function itself** -/
theorem renamed_copy_reported (c : Circuit) (h : ∀ o ∈ c.ops, OpOK (wiresN c.ne c.np c.nc) o) (π : Wire → Wire)
    (hπ : IsRenaming (wiresN c.ne c.np c.nc) π) (hsurj : ∀ w2 ∈ wiresN c.ne c.np c.nc, ∃ w ∈ wiresN c.ne c.np c.nc, π w = w2) :
    circuitIsIsomorphic2 c ⟨c.ne, c.np, c.nc, c.ops.map (renOp π)⟩ = .ok true :=
  (renamedBy_copy c h π hπ hsurj).reported h
    (fun o ho => by obtain ⟨o', ho', rfl⟩ := List.mem_map.1 ho; exact opOK_renOp _ π hπ o' (h o' ho'))

theorem renamed_copy_iso (c : Circuit) (h : ∀ o ∈ c.ops, OpOK (wiresN c.ne c.np c.nc) o) (π : Wire → Wire)
    (hπ : IsRenaming (wiresN c.ne c.np c.nc) π) (hsurj : ∀ w2 ∈ wiresN c.ne c.np c.nc, ∃ w ∈ wiresN c.ne c.np c.nc, π w = w2) :
    ∃ g1 g2 f, MG.build c = .ok g1 ∧ MG.build ⟨c.ne, c.np, c.nc, c.ops.map (renOp π)⟩ = .ok g2 ∧
      isoCheck2 g1.addControlTarget2 g2.addControlTarget2 f = true := by
  have hrep := renamed_copy_reported c h π hπ hsurj
  unfold circuitIsIsomorphic2 at hrep
  cases hb1 : MG.build c with
  | error e => rw [hb1] at hrep; cases hrep
  | ok g1 =>
    cases hb2 : MG.build ⟨c.ne, c.np, c.nc, c.ops.map (renOp π)⟩ with
    | error e => rw [hb1, hb2] at hrep; cases hrep
    | ok g2 =>
      rw [hb1, hb2] at hrep
      obtain ⟨f, hf⟩ := isoGraphs2_witness g1 g2 (Except.ok.inj hrep)
      exact ⟨g1, g2, f, rfl, rfl, hf⟩

theorem renOp_id (o : Op) : renOp id o = o := by cases o <;> rfl

theorem RenamedBy.refl (c : Circuit) : RenamedBy id c c :=
  ⟨rfl, rfl, rfl, fun _ hw => ⟨hw, rfl⟩, fun _ _ _ _ h => h, fun w hw => ⟨w, hw, rfl⟩, fun w _ => by
    rw [List.map_congr_left (fun o _ => renOp_id o), List.map_id']; rfl⟩

/-- **`remove_redundant_circuits` with the repaired comparison keeps no two circuits that are renamings of each other**
    (on their executed operations) -/
theorem removeRedundant2_minimal (l : List Circuit) (hl : ∀ c ∈ l, ∀ o ∈ c.ops, OpOK (wiresN c.ne c.np c.nc) o) :
    (removeRedundant2 l).Pairwise (fun a b => ¬ ∃ π, RenamedBy π (flatC a) (flatC b)) := by
  have hsub : (removeRedundant2 l).Sublist l := (removeRedundantWith_spec _ l).1
  refine List.Pairwise.imp_of_mem ?_ (removeRedundantWith_pairwise _ l)
  intro a b ha hb hab
  rintro ⟨π, hπ⟩
  have : isoNormalised2 a b = .ok true := isoVia_complete .normalised a b (hl a (hsub.subset ha)) (hl b (hsub.subset hb)) π hπ
  rw [this] at hab
  cases hab

end Graphiq.Compare
