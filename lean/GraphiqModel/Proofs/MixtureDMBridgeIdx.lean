/-
  Proofs/MixtureDMBridgeIdx.lean — the index map `MixDM.idx` of the C06 chain (rows / columns of the executable density
  matrix numbered `0 … 2^n − 1`, qubit 0 the most significant bit as in graphiq's `np.kron` chains) is the index map
  `Hilbert.idx` of Proofs/HilbertBridgeIdx.lean (`idx_eq`); its facts are that library's, restated for the implicit-`n` form
  (`sum_idx` turns the model's `gsum` loops into Mathlib sums; `oneSite_iff` reads the index test of `get_one_qubit_gate`).
-/
import GraphiqModel.Proofs.HilbertBridgeIdx
namespace Graphiq
namespace MixDM
open Hilbert

/-- big-endian number of a bit string (qubit 0 is the most significant bit) -/
def idx : {n : Nat} → Bits n → Nat
  | 0, _ => 0
  | _ + 1, a => 2 * idx (initB a) + (if lastB a then 1 else 0)

theorem idx_succ {n : Nat} (a : Bits (n + 1)) : idx a = 2 * idx (initB a) + (if lastB a then 1 else 0) := rfl

theorem idx_eq : ∀ {n : Nat} (a : Bits n), idx a = Hilbert.idx n a
  | 0, _ => rfl
  | n + 1, a => by rw [idx_succ, idx_eq (initB a)]; rfl

def b2n (b : Bool) : Nat := if b then 1 else 0

theorem b2n_lt (b : Bool) : b2n b < 2 := by cases b <;> decide
theorem b2n_inj (a b : Bool) (h : b2n a = b2n b) : a = b := by cases a <;> cases b <;> simp_all [b2n]

theorem idx_lt {n : Nat} (a : Bits n) : idx a < 2 ^ n := idx_eq a ▸ Hilbert.idx_lt n a

/-- bit `k` (from the left) of `idx a` is `a_k` -/
theorem idx_bit {n : Nat} (a : Bits n) (k : Nat) (hk : k < n) : (idx a / 2 ^ (n - k - 1)) % 2 = b2n (bx a k) :=
  idx_eq a ▸ idx_digit n a k hk

theorem idx_injective {n : Nat} (a b : Bits n) (h : idx a = idx b) : a = b :=
  Hilbert.idx_injective n (idx_eq a ▸ idx_eq b ▸ h)

theorem idx_surj {n : Nat} (i : Nat) (hi : i < 2 ^ n) : ∃ a : Bits n, idx a = i :=
  ⟨bitsOf n i, (idx_eq _).trans (idx_bitsOf n i hi)⟩

theorem sum_idx {M : Type} [AddCommMonoid M] (n : Nat) (F : Nat → M) :
    ∑ a : Bits n, F (idx a) = ∑ i ∈ Finset.range (2 ^ n), F i := by
  simp only [idx_eq]
  exact (sum_range_pow n F).symm

theorem idx_eq_zero {n : Nat} (a : Bits n) : idx a = 0 ↔ a = fun _ => false := idx_eq a ▸ idx_eq_zero_iff n a

theorem oneSite_iff (n q : Nat) (hq : q < n) (a c : Bits n) :
    (idx a / (2 * 2 ^ (n - q - 1)) = idx c / (2 * 2 ^ (n - q - 1)) ∧ idx a % 2 ^ (n - q - 1) = idx c % 2 ^ (n - q - 1))
      ↔ ∀ j : Fin n, j.val ≠ q → a j = c j :=
  idx_eq a ▸ idx_eq c ▸ idx_off_site_iff n a c q hq

end MixDM
end Graphiq
