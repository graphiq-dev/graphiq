/-
  Proofs/StateToGraphSpectrum.lean — the eigenvalues (roots of the characteristic polynomial, with multiplicity) of the partial transposes
  of the two two-qubit states of Proofs/StateToGraphNegativity.lean, and the negativity `Σ (|λ| − λ)/2` that `dmf.negativity` computes
  from them: `{1, 0, 0, 0}` → 0 for `|++⟩⟨++|`, `{−1/2, 1/2, 1/2, 1/2}` → 1/2 for the one-edge graph state.
  By explicit rational diagonalisations `M = U D U⁻¹`.  Finite computations on concrete matrices.
-/
import GraphiqModel.Proofs.StateToGraphNegativity
import Mathlib.LinearAlgebra.Matrix.Charpoly.Basic
import Mathlib.Algebra.Polynomial.Roots
namespace Graphiq
namespace Neg
open Matrix Polynomial

def uEdge : M4 := !![-1, 1, 1, 1; 1, 1, 0, 0; 1, 0, 1, 0; 1, 0, 0, 1]
def vEdge : M4 := !![-1/4, 1/4, 1/4, 1/4; 1/4, 3/4, -1/4, -1/4; 1/4, -1/4, 3/4, -1/4; 1/4, -1/4, -1/4, 3/4]
def dEdge : Fin 4 → ℚ := ![-1/2, 1/2, 1/2, 1/2]

def uPlus : M4 := !![1, 1, 1, 1; 1, -1, 0, 0; 1, 0, -1, 0; 1, 0, 0, -1]
def vPlus : M4 := !![1/4, 1/4, 1/4, 1/4; 1/4, -3/4, 1/4, 1/4; 1/4, 1/4, -3/4, 1/4; 1/4, 1/4, 1/4, -3/4]
def dPlus : Fin 4 → ℚ := ![1, 0, 0, 0]

theorem uvEdge : uEdge * vEdge = 1 ∧ vEdge * uEdge = 1 := by
  decide +kernel

theorem uvPlus : uPlus * vPlus = 1 ∧ vPlus * uPlus = 1 := by
  decide +kernel

theorem diag_edge : quarterH = uEdge * Matrix.diagonal dEdge * vEdge := by
  decide +kernel

theorem diag_plus : rhoPlus = uPlus * Matrix.diagonal dPlus * vPlus := by
  decide +kernel

theorem charpoly_of_diag (M U V : M4) (d : Fin 4 → ℚ) (h1 : U * V = 1) (h2 : V * U = 1) (hM : M = U * Matrix.diagonal d * V) :
    M.charpoly = ∏ i, (X - C (d i)) := by
  let u : M4ˣ := ⟨U, V, h1, h2⟩
  have hv : V = u.val⁻¹ := by
    have : (u⁻¹ : M4ˣ).val = u.val⁻¹ := Matrix.coe_units_inv u
    rw [← this]
    rfl
  rw [hM, hv]
  show (u.val * Matrix.diagonal d * u.val⁻¹).charpoly = _
  rw [Matrix.charpoly_units_conj, Matrix.charpoly_diagonal]

theorem roots_of_diag (M U V : M4) (d : Fin 4 → ℚ) (h1 : U * V = 1) (h2 : V * U = 1) (hM : M = U * Matrix.diagonal d * V) :
    M.charpoly.roots = (Finset.univ.val.map d) := by
  rw [charpoly_of_diag M U V d h1 h2 hM]
  have : (∏ i : Fin 4, (X - C (d i))) = ((Finset.univ.val.map d).map fun a => X - C a).prod := by
    rw [Multiset.map_map]; rfl
  rw [this, Polynomial.roots_multiset_prod_X_sub_C]

/-- `Σ (|λ| − λ)/2` over a multiset of eigenvalues: `np.sum(np.abs(eig_vals) − eig_vals) / 2` -/
def negativityOf (s : Multiset ℚ) : ℚ := (s.map fun l => (|l| - l) / 2).sum

theorem spectrum_edge : (ptA rhoEdge).charpoly.roots = {-1/2, 1/2, 1/2, 1/2} ∧ negativityOf (ptA rhoEdge).charpoly.roots = 1/2 := by
  have h := roots_of_diag (ptA rhoEdge) uEdge vEdge dEdge uvEdge.1 uvEdge.2 (by rw [ptA_rhoEdge]; exact diag_edge)
  have e : (Finset.univ.val.map dEdge : Multiset ℚ) = {-1/2, 1/2, 1/2, 1/2} := by decide +kernel
  rw [h, e]
  exact ⟨rfl, by decide +kernel⟩

theorem spectrum_plus : (ptA rhoPlus).charpoly.roots = {1, 0, 0, 0} ∧ negativityOf (ptA rhoPlus).charpoly.roots = 0 := by
  have h := roots_of_diag (ptA rhoPlus) uPlus vPlus dPlus uvPlus.1 uvPlus.2 (by rw [ptA_rhoPlus]; exact diag_plus)
  have e : (Finset.univ.val.map dPlus : Multiset ℚ) = {1, 0, 0, 0} := by decide +kernel
  rw [h, e]
  exact ⟨rfl, by decide +kernel⟩

end Neg
end Graphiq
