/-
  Proofs/HilbertKron.lean — the entrywise definitions of `pauliMat`, `oneQ`, `ctrlQ` are the Kronecker-product
  constructions of graphiq's density-matrix backend:

  * `pauliMat_succ` : `pauliMat (n+1) p = pauliMat n p ⊗ σ(x_n, z_n)` entrywise (the last qubit is the right-most,
    least significant Kronecker factor; by induction qubit 0 is the left-most one, as in `np.kron` chains), with
    `σ(0,0) = 1`, `σ(1,0) = sigmax()`, `σ(1,1) = sigmay()`, `σ(0,1) = sigmaz()`;
  * `oneQ_succ_last`, `oneQ_succ_lower` : `oneQ` puts the 2×2 matrix at its site and identities elsewhere
    (`get_one_qubit_gate`);
  * `ctrlQ_eq_graphiq` : `ctrlQ n c t u = 1 + (1 - Z_c)(u_t - 1)/2`, the formula of `get_two_qubit_controlled_gate`.
-/
import GraphiqModel.Proofs.HilbertPure
namespace Graphiq
namespace Hilbert
open Matrix PRow

def initB {n : Nat} (b : Bits (n + 1)) : Bits n := fun j => b ⟨j.val, Nat.lt_succ_of_lt j.isLt⟩
def lastB {n : Nat} (b : Bits (n + 1)) : Bool := b ⟨n, Nat.lt_succ_self n⟩

theorem bx_initB {n : Nat} (b : Bits (n + 1)) (j : Nat) (hj : j < n) : bx (initB b) j = bx b j := by
  rw [bx_lt _ _ hj, bx_lt _ _ (Nat.lt_succ_of_lt hj)]; rfl

theorem bx_lastB {n : Nat} (b : Bits (n + 1)) : bx b n = lastB b := bx_lt _ _ (Nat.lt_succ_self n)

theorem bits_succ_ext {n : Nat} (a b : Bits (n + 1)) : a = b ↔ initB a = initB b ∧ lastB a = lastB b := by
  constructor
  · intro h; subst h; exact ⟨rfl, rfl⟩
  · intro ⟨h1, h2⟩
    apply bits_ext
    intro j hj
    by_cases e : j = n
    · subst e; rw [bx_lastB, bx_lastB, h2]
    · have hj' : j < n := by omega
      rw [← bx_initB a j hj', ← bx_initB b j hj', h1]

/-- the 2×2 matrix `σ(x,z)`: `σ(x,z)|b⟩ = i^(x z + 2 z b)|b ⊕ x⟩` -/
noncomputable def sigma (x z : Bool) : Matrix Bool Bool ℂ :=
  Matrix.of fun a b => if a = xor b x then iPow (sFun x z b) else 0

theorem sigma_ff : sigma false false = 1 := by
  ext a b; cases a <;> cases b <;> simp [sigma, sFun, Bool.toInt', iPow_zero]
theorem sigma_tf : sigma true false = sigmaX := by
  ext a b; cases a <;> cases b <;> simp [sigma, sigmaX, sFun, Bool.toInt', iPow_zero]
theorem sigma_tt : sigma true true = sigmaY := by
  ext a b; cases a <;> cases b <;> simp [sigma, sigmaY, sFun, Bool.toInt', iPow_one, iPow_three]
theorem sigma_ft : sigma false true = sigmaZ := by
  ext a b; cases a <;> cases b <;> simp [sigma, sigmaZ, sFun, Bool.toInt', iPow_zero, iPow_two]

/-- **Kronecker structure.**  `pauliMat (n+1) p = pauliMat n p ⊗ σ(x_n, z_n)`: the entry at `((a', a_n), (b', b_n))`
    is the product of the entries.  (The phase bits are carried by the first factor.) -/
theorem pauliMat_succ (n : Nat) (p : PRow) (a b : Bits (n + 1)) :
    pauliMat (n + 1) p a b = pauliMat n p (initB a) (initB b) * sigma (p.x n) (p.z n) (lastB a) (lastB b) := by
  rw [pauliMat_apply, pauliMat_apply]
  simp only [sigma, Matrix.of_apply]
  have hf : a = flip p.x b ↔ initB a = flip p.x (initB b) ∧ lastB a = xor (lastB b) (p.x n) := by
    rw [bits_succ_ext]
    have e1 : initB (flip p.x b) = flip p.x (initB b) := rfl
    have e2 : lastB (flip p.x b) = xor (lastB b) (p.x n) := rfl
    rw [e1, e2]
  have he : pexp (n + 1) p b = pexp n p (initB b) + sFun (p.x n) (p.z n) (lastB b) := by
    unfold pexp
    show p.ph + (sumTo n _ + sFun (p.x n) (p.z n) (bx b n)) = _
    rw [bx_lastB, sumTo_congr n _ (fun j => sFun (p.x j) (p.z j) (bx (initB b) j))
      (fun j hj => by rw [bx_initB b j hj])]
    omega
  by_cases h1 : initB a = flip p.x (initB b)
  · by_cases h2 : lastB a = xor (lastB b) (p.x n)
    · rw [if_pos (hf.mpr ⟨h1, h2⟩), if_pos h1, if_pos h2, he, iPow_add]
    · rw [if_neg (fun h => h2 (hf.mp h).2), if_neg h2, mul_zero]
  · rw [if_neg (fun h => h1 (hf.mp h).1), if_neg h1, zero_mul]

theorem oneQ_succ_last (n : Nat) (u : Matrix Bool Bool ℂ) (a b : Bits (n + 1)) :
    oneQ (n + 1) n u a b = (1 : Matrix (Bits n) (Bits n) ℂ) (initB a) (initB b) * u (lastB a) (lastB b) := by
  rw [oneQ_apply, Matrix.one_apply, bx_lastB, bx_lastB]
  have h : (∀ j : Fin (n + 1), j.val ≠ n → a j = b j) ↔ initB a = initB b := by
    constructor
    · intro h; funext j; exact h ⟨j.val, Nat.lt_succ_of_lt j.isLt⟩ (by have := j.isLt; simp; omega)
    · intro h j hj
      have hj' : j.val < n := by have := j.isLt; omega
      have := congrFun h ⟨j.val, hj'⟩
      exact this
  by_cases h1 : initB a = initB b
  · rw [if_pos (h.mpr h1), if_pos h1, _root_.one_mul]
  · rw [if_neg (fun h2 => h1 (h.mp h2)), if_neg h1, zero_mul]

theorem oneQ_succ_lower (n q : Nat) (hq : q < n) (u : Matrix Bool Bool ℂ) (a b : Bits (n + 1)) :
    oneQ (n + 1) q u a b = oneQ n q u (initB a) (initB b) * (1 : Matrix Bool Bool ℂ) (lastB a) (lastB b) := by
  rw [oneQ_apply, oneQ_apply, Matrix.one_apply, bx_initB a q hq, bx_initB b q hq]
  have h : (∀ j : Fin (n + 1), j.val ≠ q → a j = b j) ↔
      (∀ j : Fin n, j.val ≠ q → initB a j = initB b j) ∧ lastB a = lastB b := by
    constructor
    · intro h
      exact ⟨fun j hj => h ⟨j.val, Nat.lt_succ_of_lt j.isLt⟩ hj, h ⟨n, Nat.lt_succ_self n⟩ (by simp; omega)⟩
    · intro ⟨h1, h2⟩ j hj
      by_cases e : j.val = n
      · have : j = ⟨n, Nat.lt_succ_self n⟩ := Fin.ext e
        rw [this]; exact h2
      · have hj' : j.val < n := by have := j.isLt; omega
        exact h1 ⟨j.val, hj'⟩ hj
  by_cases h1 : ∀ j : Fin n, j.val ≠ q → initB a j = initB b j
  · by_cases h2 : lastB a = lastB b
    · rw [if_pos (h.mpr ⟨h1, h2⟩), if_pos h1, if_pos h2, _root_.mul_one]
    · rw [if_neg (fun h3 => h2 (h.mp h3).2), if_neg h2, mul_zero]
  · rw [if_neg (fun h3 => h1 (h.mp h3).1), if_neg h1, zero_mul]

/-- **graphiq's controlled-gate formula**: `get_two_qubit_controlled_gate(n, c, t, u) = 1 + (1 - Z_c)(u_t - 1)/2` -/
theorem ctrlQ_eq_graphiq (n c t : Nat) (hc : c < n) (hct : c ≠ t) (u : Matrix Bool Bool ℂ) :
    ctrlQ n c t u = 1 + (1 / 2 : ℂ) • ((1 - pauliMat n (Zq c)) * oneQ n t (u - 1)) := by
  have hZ : (1 : Matrix (Bits n) (Bits n) ℂ) - pauliMat n (Zq c) = (2 : ℂ) • proj n (Zq c true) := by
    have hneg : pauliMat n (Zq c true) = -pauliMat n (Zq c) := pauliMat_neg n (Zq c)
    unfold proj
    rw [hneg, smul_smul]; norm_num [sub_eq_add_neg]
  rw [hZ, smul_mul_assoc, smul_smul, proj_Zq n c hc true]
  norm_num
  ext a b
  rw [ctrlQ_apply, Matrix.add_apply, Matrix.one_apply, Matrix.diagonal_mul, oneQ_apply]
  by_cases h1 : ∀ j : Fin n, j.val ≠ t → a j = b j
  · have hcb : bx a c = bx b c := by rw [bx_lt _ _ hc, bx_lt _ _ hc]; exact h1 ⟨c, hc⟩ hct
    have hab : a = b ↔ bx a t = bx b t := by
      rw [bits_eq_iff_site t a b]; exact ⟨fun h => h.2, fun h => ⟨h1, h⟩⟩
    rw [if_pos h1, if_pos h1, ← hcb]
    cases hca : bx a c
    · by_cases h2 : bx a t = bx b t
      · simp [hab.mpr h2]
      · have hne : ¬ a = b := fun h => h2 (hab.mp h)
        simp [h2, hne]
    · by_cases h2 : bx a t = bx b t
      · simp [hab.mpr h2, Matrix.sub_apply]
      · have hne : ¬ a = b := fun h => h2 (hab.mp h)
        simp [h2, hne, Matrix.sub_apply]
  · have : a ≠ b := fun h => h1 (fun j _ => by rw [h])
    rw [if_neg h1, if_neg h1, if_neg this]; simp

end Hilbert
end Graphiq
