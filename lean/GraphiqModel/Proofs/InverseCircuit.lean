/-
  Proofs/InverseCircuit.lean — gate lists of `run_circuit` (`Gate.WF`, the row action `actCirc`, every gate and every list an
  automorphism of the signed Pauli group; the reversed list `revCirc` undoes the list), and soundness of `inverse_circuit`
  by a tracking invariant: at every point of the synthesis the current tableau generates exactly the image, under the gate
  list collected so far, of the input's stabilizer group.
-/
import GraphiqModel.Proofs.Echelon
import GraphiqModel.Proofs.Loop
namespace Graphiq
open PRow Tab

/-- a gate whose arguments are in range (and distinct for two-qubit gates) -/
def Gate.WF (n : Nat) : Gate → Prop
  | .H q | .P q | .Pdag q | .X q | .Y q | .Z q => q < n
  | .I _ => True
  | .CNOT c t | .CZ c t => c < n ∧ t < n ∧ c ≠ t

theorem isAut_id (n : Nat) : IsAut n (id : PRow → PRow) :=
  ⟨fun _ _ => rfl, fun _ _ => EqOn.refl _ _, fun _ _ h => h⟩

theorem Gate.isAut (n : Nat) (g : Gate) (h : g.WF n) : IsAut n g.act := by
  cases g with
  | H q => exact isAut_h n q h
  | P q => exact isAut_s n q h
  | Pdag q => exact isAut_sdg n q h
  | X q => exact isAut_xg n q h
  | Y q => exact isAut_yg n q h
  | Z q => exact isAut_zg n q h
  | I q => exact isAut_id n
  | CNOT c t => exact isAut_cnot n c t h.1 h.2.1 h.2.2
  | CZ c t => exact isAut_cz n c t h.1 h.2.1 h.2.2

theorem Gate.act_ip (g : Gate) (a : PRow) : (g.act a).ip = a.ip := by
  cases g <;> rfl

namespace PRow

theorem h_one (q : Nat) : h q one = one := by simp [h, one]
theorem s_one (q : Nat) : s q one = one := by simp [s, one]
theorem cnot_one (c t : Nat) : cnot c t one = one := by simp [cnot, one]

end PRow

/-- every gate is a composition of `h`, `s` and `cnot`, and each of these fixes the identity row -/
theorem Gate.act_one_eq (g : Gate) : g.act PRow.one = PRow.one := by
  cases g <;> simp only [Gate.act, sdg, zg, xg, yg, cz, h_one, s_one, cnot_one, id]

theorem Gate.act_one (n : Nat) (g : Gate) : EqOn n (g.act PRow.one) PRow.one := by
  rw [Gate.act_one_eq]
  exact EqOn.refl _ _

/-- action of a gate list on a row, first gate first -/
def actCirc (c : List Gate) (a : PRow) : PRow := c.foldl (fun a g => g.act a) a

theorem actCirc_app (c d : List Gate) (a : PRow) : actCirc (c ++ d) a = actCirc d (actCirc c a) := by
  unfold actCirc; rw [List.foldl_append]

theorem actCirc_append (c : List Gate) (g : Gate) (a : PRow) : actCirc (c ++ [g]) a = g.act (actCirc c a) :=
  actCirc_app c [g] a

theorem Gate.isAut1 (n : Nat) (g : Gate) (h : g.WF n) : TabSpec.IsAut1 n g.act :=
  ⟨g.isAut n h, Gate.act_one n g, Gate.act_ip g⟩

theorem actCirc_isAut1 (n : Nat) (c : List Gate) (hc : ∀ g, g ∈ c → g.WF n) : TabSpec.IsAut1 n (actCirc c) := by
  induction c with
  | nil => exact TabSpec.isAut1_id n
  | cons g rest ih =>
    exact (ih fun g' hg' => hc g' (List.mem_cons_of_mem _ hg')).comp (g.isAut1 n (hc g List.mem_cons_self))

namespace STab

theorem applyGate_fwd (t : STab) (g : Gate) (hg : g.WF t.n) (b : PRow) (hb : t.Spn b) :
    (t.applyGate g).Spn (g.act b) :=
  InSpan.map_gens (g.isAut1 t.n hg).isHom hb

theorem applyGate_bwd (t : STab) (g : Gate) (hg : g.WF t.n) (b' : PRow) (hb : (t.applyGate g).Spn b') :
    ∃ b, t.Spn b ∧ EqOn t.n (g.act b) b' :=
  InSpan.of_map (g.isAut1 t.n hg).isHom (fun _ _ => EqOn.refl _ _) hb

theorem applyGate_good (t : STab) (g : Gate) (hg : g.WF t.n) (hgood : t.Good) : (t.applyGate g).Good := by
  have aut := g.isAut t.n hg
  constructor
  · intro i hi
    show (g.act (t.row i)).ip = false
    rw [Gate.act_ip]; exact hgood.real i hi
  · intro i k hi hk
    show sp t.n (g.act (t.row i)) (g.act (t.row k)) = false
    rw [aut.sp]; exact hgood.comm i k hi hk

end STab

open STab

structure Tracks (t0 : STab) (st : InvState) : Prop where
  n_eq : st.t.n = t0.n
  good : st.t.Good
  wf : ∀ g, g ∈ st.circ → g.WF t0.n
  fwd : ∀ a, t0.Spn a → st.t.Spn (actCirc st.circ a)
  bwd : ∀ b, st.t.Spn b → ∃ a, t0.Spn a ∧ EqOn t0.n (actCirc st.circ a) b

theorem tracks_init (t0 : STab) (hg : t0.Good) : Tracks t0 { t := t0, circ := [] } where
  n_eq := rfl
  good := hg
  wf := fun _ h => by simp at h
  fwd := fun a ha => ha
  bwd := fun b hb => ⟨b, hb, EqOn.refl _ _⟩

theorem tracks_spanEq (t0 : STab) (st : InvState) (t' : STab) (h : Tracks t0 st) (hs : SpanEq st.t t') (hg : t'.Good) :
    Tracks t0 { st with t := t' } :=
  ⟨hs.n_eq.symm.trans h.n_eq, hg, h.wf, fun a ha => hs.sub _ (h.fwd a ha), fun b hb => h.bwd b (hs.sup b hb)⟩

theorem tracks_swap (t0 : STab) (st : InvState) (a b : Nat) (h : Tracks t0 st) (ha : a < st.t.n) (hb : b < st.t.n) :
    Tracks t0 (st.swap a b) :=
  tracks_spanEq t0 st _ h ((rowSwap_spanEq st.t a b ha hb).trans (norm_spanEq _))
    (norm_good _ (rowSwap_good st.t a b ha hb h.good))

theorem tracks_rsum (t0 : STab) (st : InvState) (a b : Nat) (h : Tracks t0 st) (ha : a < st.t.n) (hb : b < st.t.n)
    (hne : a ≠ b) : Tracks t0 (st.rsum a b) :=
  tracks_spanEq t0 st _ h ((rowSum_spanEq st.t a b ha hb hne h.good).trans (norm_spanEq _))
    (norm_good _ (rowSum_good st.t a b ha hb h.good))

theorem tracks_gate (t0 : STab) (st : InvState) (g : Gate) (h : Tracks t0 st) (hg : g.WF st.t.n) :
    Tracks t0 (st.gate g) := by
  have hg0 : g.WF t0.n := h.n_eq ▸ hg
  have aut := g.isAut t0.n hg0
  have sN := norm_spanEq (st.t.applyGate g)
  refine ⟨?_, norm_good _ (applyGate_good st.t g hg h.good), ?_, ?_, ?_⟩
  · exact h.n_eq
  · intro g' hm
    simp only [InvState.gate, List.mem_append, List.mem_singleton] at hm
    rcases hm with hm | hm
    · exact h.wf g' hm
    · rw [hm]; exact hg0
  · intro a ha
    show (st.t.applyGate g).norm.Spn (actCirc (st.circ ++ [g]) a)
    rw [actCirc_append]
    exact sN.sub _ (applyGate_fwd st.t g hg _ (h.fwd a ha))
  · intro b' hb'
    have hb2 : (st.t.applyGate g).Spn b' := sN.sup b' hb'
    obtain ⟨b, hb, eb⟩ := applyGate_bwd st.t g hg b' hb2
    obtain ⟨a, ha, ea⟩ := h.bwd b hb
    refine ⟨a, ha, ?_⟩
    show EqOn t0.n (actCirc (st.circ ++ [g]) a) b'
    rw [actCirc_append]
    have eb' : EqOn t0.n (g.act b) b' := h.n_eq ▸ eb
    exact (aut.congr _ _ ea).trans eb'

theorem mem_pairsLt (n : Nat) (jk : Nat × Nat) (h : jk ∈ pairsLt n) : jk.1 < jk.2 ∧ jk.2 < n := by
  simp only [pairsLt, List.mem_flatMap, List.mem_range, List.mem_map, List.mem_filter, decide_eq_true_eq] at h
  obtain ⟨j, _, k, ⟨hk, hjk⟩, e⟩ := h
  rw [← e]; exact ⟨hjk, hk⟩

theorem tracks_invClear (t0 : STab) (st : InvState) (j : Nat) (h : Tracks t0 st) (hj : j < t0.n) :
    Tracks t0 (invClear t0.n j st) := by
  unfold invClear
  refine Loop.foldl_inv (Tracks t0) (fun st' i hi h' => ?_) h
  simp only [List.mem_filter, List.mem_range, decide_eq_true_eq] at hi
  show Tracks t0 (if _ then _ else _)
  split
  · exact tracks_rsum t0 st' j i h' (by rw [h'.n_eq]; exact hj) (by rw [h'.n_eq]; exact hi.1) (by omega)
  · exact h'

/-- **what a returned column step of block 1 did**, with what its pivot search knew: a swap with a row `f ≥ j` that is non-trivial
    at column `j`; nothing, when no row from `j` on is non-trivial there; or a swap with a row carrying `Z` there, the clearing loop,
    and an `H j` exactly when the pivot row still acts right of `j` -/
theorem STab.invStep1_cases (n : Nat) (st st' : InvState) (j : Nat) (h : invStep1 n st j = .ok st') :
    (∃ f, j ≤ f ∧ f < st.t.n ∧ st.t.ptype f j ≠ 0 ∧ st' = st.swap j f) ∨
    ((∀ k, j ≤ k → k < st.t.n → st.t.ptype k j = 0) ∧ st' = st) ∨
    ∃ f, j ≤ f ∧ f < st.t.n ∧ st.t.ptype f j = 3 ∧
      st' = if ((List.range n).filter fun k => j < k).any fun k =>
          ((invClear n j (st.swap j f)).t.row j).x k || ((invClear n j (st.swap j f)).t.row j).z k
        then (invClear n j (st.swap j f)).gate (.H j) else invClear n j (st.swap j f) := by
  have hxs : ∀ m, m ∈ (st.t.pauliTypeFinder j j).1 ↔ j ≤ m ∧ m < st.t.n ∧ st.t.ptype m j = 1 := fun m => by
    rw [← pickType_1]; exact mem_pickType_iff st.t j j 1 m
  have hys : ∀ m, m ∈ (st.t.pauliTypeFinder j j).2.1 ↔ j ≤ m ∧ m < st.t.n ∧ st.t.ptype m j = 2 := fun m => by
    rw [← pickType_2]; exact mem_pickType_iff st.t j j 2 m
  have hzs : ∀ m, m ∈ (st.t.pauliTypeFinder j j).2.2 ↔ j ≤ m ∧ m < st.t.n ∧ st.t.ptype m j = 3 := fun m => by
    rw [← pickType_3]; exact mem_pickType_iff st.t j j 3 m
  unfold invStep1 at h
  generalize st.t.pauliTypeFinder j j = ft at h hxs hys hzs
  obtain ⟨xs, ys, zs⟩ := ft
  simp only at h hxs hys hzs
  split at h
  · next f hf =>
    injection h with h
    have := (hxs f).1 (List.mem_of_mem_head? hf)
    exact .inl ⟨f, this.1, this.2.1, by rw [this.2.2]; decide, h.symm⟩
  · next hx =>
    split at h
    · next f hf =>
      injection h with h
      have := (hys f).1 (List.mem_of_mem_head? hf)
      exact .inl ⟨f, this.1, this.2.1, by rw [this.2.2]; decide, h.symm⟩
    · next hy =>
      split at h
      · next hz =>
        injection h with h
        refine .inr (.inl ⟨fun k hjk hk => ?_, h.symm⟩)
        -- a non-trivial entry would be in one of the three (empty) lists
        have hle := PRow.pt_le (st.t.row k) j
        have h1 : st.t.ptype k j ≠ 1 := fun e => by
          have := (hxs k).2 ⟨hjk, hk, e⟩; rw [List.head?_eq_none_iff.1 hx] at this; cases this
        have h2 : st.t.ptype k j ≠ 2 := fun e => by
          have := (hys k).2 ⟨hjk, hk, e⟩; rw [List.head?_eq_none_iff.1 hy] at this; cases this
        have h3 : st.t.ptype k j ≠ 3 := fun e => by
          have := (hzs k).2 ⟨hjk, hk, e⟩; rw [List.isEmpty_iff.1 hz] at this; cases this
        rw [ptype_eq] at h1 h2 h3 ⊢
        omega
      · split at h
        · cases h
        · next f hf =>
          injection h with h
          have := (hzs f).1 (List.mem_filter.mp (List.mem_of_getLast? hf)).1
          exact .inr (.inr ⟨f, this.1, this.2.1, this.2.2, h.symm⟩)

theorem tracks_step1 (t0 : STab) (st st' : InvState) (j : Nat) (h : Tracks t0 st) (hj : j < t0.n)
    (hs : invStep1 t0.n st j = .ok st') : Tracks t0 st' := by
  have hjn : j < st.t.n := h.n_eq ▸ hj
  rcases invStep1_cases t0.n st st' j hs with ⟨f, _, hf, _, e⟩ | ⟨_, e⟩ | ⟨f, _, hf, _, e⟩
  · rw [e]; exact tracks_swap t0 st j f h hjn hf
  · rw [e]; exact h
  · rw [e]
    have h2 := tracks_invClear t0 _ j (tracks_swap t0 st j f h hjn hf) hj
    split
    · exact tracks_gate t0 _ (.H j) h2 (by rw [h2.n_eq]; exact hj)
    · exact h2

/-- the steps of blocks 2 to 5: a gate under a condition -/
theorem tracks_ite_gate (t0 : STab) (st : InvState) (c : Bool) (g : Gate) (h : Tracks t0 st) (hg : g.WF t0.n) :
    Tracks t0 (if c then st.gate g else st) := by
  cases c
  · exact h
  · exact tracks_gate t0 st g h (h.n_eq ▸ hg)

theorem tracks_step6 (t0 : STab) (st : InvState) (jk : Nat × Nat) (h : Tracks t0 st) (hm : jk ∈ pairsLt t0.n) :
    Tracks t0 (invStep6 st jk) := by
  have hb := mem_pairsLt _ _ hm
  unfold invStep6
  split
  · exact tracks_rsum t0 st jk.1 jk.2 h (by rw [h.n_eq]; omega) (by rw [h.n_eq]; omega) (by omega)
  · exact h

theorem tracks_invRest (t0 : STab) (s1 : InvState) (h1 : Tracks t0 s1) : Tracks t0 (invRest t0.n s1) := by
  unfold invRest
  have pair : ∀ jk, jk ∈ pairsLt t0.n → jk.1 < t0.n ∧ jk.2 < t0.n ∧ jk.1 ≠ jk.2 := fun jk hm => by
    have := mem_pairsLt t0.n jk hm; omega
  have h2 := Loop.foldl_inv (f := invStep2) (Tracks t0)
    (fun st jk hm h => tracks_ite_gate t0 st _ (.CNOT jk.1 jk.2) h (pair jk hm)) h1
  have h3 := Loop.foldl_inv (f := invStep3) (Tracks t0)
    (fun st jk hm h => tracks_ite_gate t0 st _ (.CZ jk.1 jk.2) h (pair jk hm)) h2
  have h4 := Loop.foldl_inv (f := invStep4) (Tracks t0)
    (fun st j hm h => tracks_ite_gate t0 st _ (.P j) h (List.mem_range.mp hm)) h3
  have h5 := Loop.foldl_inv (f := invStep5) (Tracks t0)
    (fun st j hm h => tracks_ite_gate t0 st _ (.H j) h (List.mem_range.mp hm)) h4
  have h6 := Loop.foldl_inv (f := invStep6) (Tracks t0) (fun st jk hm h => tracks_step6 t0 st jk h hm) h5
  exact Loop.foldl_inv (f := invStep7) (Tracks t0)
    (fun st j hm h => tracks_gate t0 st (.X j) h (h.n_eq ▸ List.mem_range.mp (List.mem_filter.mp hm).1)) h6

theorem invBlocks_ok (t0 : STab) (s : InvState) (h : invBlocks t0 = .ok s) :
    ∃ s1, invBlock1 t0 = .ok s1 ∧ invRest t0.n s1 = s := by
  unfold invBlocks at h
  split at h
  · cases h
  · next s1 h1 => injection h with h; exact ⟨s1, h1, h⟩

theorem tracks_invBlocks (t0 : STab) (hg : t0.Good) (s : InvState) (h : invBlocks t0 = .ok s) : Tracks t0 s := by
  obtain ⟨s1, h1, e⟩ := invBlocks_ok t0 s h
  rw [← e]
  exact tracks_invRest t0 s1 (Loop.foldlM_range (fun _ s => Tracks t0 s)
    (fun i s s1 hi hp e => tracks_step1 t0 s s1 i hp hi e) (tracks_init t0 hg) h1)

theorem invBlocks_of_block1 (t0 : STab) (s1 : InvState) (h : invBlock1 t0 = .ok s1) :
    invBlocks t0 = .ok (invRest t0.n s1) := by
  unfold invBlocks
  rw [h]

theorem inverseCircuit_of_blocks (t t0 : STab) (s : InvState) (hc : t.canonicalForm = .ok t0) (hs : invBlocks t0 = .ok s) :
    t.inverseCircuit = .ok (s.t, s.circ) := by
  unfold STab.inverseCircuit
  rw [hc]
  simp only
  rw [hs]

theorem inverseCircuit_eq (t t' : STab) (circ : List Gate) (h : t.inverseCircuit = .ok (t', circ)) :
    ∃ t0 s, t.canonicalForm = .ok t0 ∧ invBlocks t0 = .ok s ∧ s.t = t' ∧ s.circ = circ := by
  unfold STab.inverseCircuit at h
  split at h
  · cases h
  · next t0 hc =>
    split at h
    · cases h
    · next s hs =>
      injection h with h
      exact ⟨t0, s, hc, hs, congrArg Prod.fst h, congrArg Prod.snd h⟩

/-! ### running the reversed list (with `P ↔ P_dag`) undoes the circuit: `run_circuit(..., reverse=True)` -/

namespace PRow

theorem h_invol (q : Nat) (a : PRow) : h q (h q a) = a := by
  obtain ⟨x, z, r, ip⟩ := a
  simp only [h, mk.injEq, and_true]
  refine ⟨?_, ?_, ?_⟩
  · funext j; by_cases e : j = q <;> simp [e]
  · funext j; by_cases e : j = q <;> simp [e]
  · cases x q <;> cases z q <;> cases r <;> rfl

theorem s_pow4 (q : Nat) (a : PRow) : s q (s q (s q (s q a))) = a := by
  obtain ⟨x, z, r, ip⟩ := a
  simp only [s, mk.injEq, true_and, and_true]
  refine ⟨?_, ?_⟩
  · funext j; by_cases e : j = q <;> simp [e]
  · cases x q <;> cases z q <;> cases r <;> rfl

theorem cnot_invol (c t : Nat) (hct : c ≠ t) (a : PRow) : cnot c t (cnot c t a) = a := by
  have htc : t ≠ c := Ne.symm hct
  obtain ⟨x, z, r, ip⟩ := a
  simp only [cnot, mk.injEq, and_true]
  refine ⟨?_, ?_, ?_⟩
  · funext j; by_cases e : j = t <;> simp [e, hct]
  · funext j; by_cases e : j = c <;> simp [e, htc]
  · simp [hct, htc]
    cases x c <;> cases z c <;> cases x t <;> cases z t <;> cases r <;> rfl

end PRow

theorem cnot_cnot (n c t : Nat) (hct : c ≠ t) (a : PRow) : EqOn n (PRow.cnot c t (PRow.cnot c t a)) a := by
  rw [cnot_invol c t hct]
  exact EqOn.refl _ _

/-- every gate is undone by its `rev`, as an equality of rows: written out in `h`, `s`, `cnot`, the composition collapses
    by `h h = id`, `s⁴ = id`, `cnot cnot = id` (e.g. `X X = H S S (H H) S S H`) -/
theorem Gate.rev_act (n : Nat) (g : Gate) (hg : g.WF n) (a : PRow) : g.rev.act (g.act a) = a := by
  cases g with
  | CNOT c t => exact cnot_invol c t hg.2.2 a
  | CZ c t => simp only [Gate.rev, Gate.act, cz, h_invol, cnot_invol c t hg.2.2]
  | I q => rfl
  | _ => simp only [Gate.rev, Gate.act, sdg, zg, xg, yg, h_invol, s_pow4]

theorem Gate.rev_cancel (n : Nat) (g : Gate) (hg : g.WF n) (a : PRow) : EqOn n (g.rev.act (g.act a)) a := by
  rw [Gate.rev_act n g hg]
  exact EqOn.refl _ _

theorem Gate.rev_WF (n : Nat) (g : Gate) (hg : g.WF n) : g.rev.WF n := by
  cases g <;> exact hg

theorem actCirc_congr (n : Nat) (c : List Gate) (hc : ∀ g, g ∈ c → g.WF n) (a b : PRow) (h : EqOn n a b) :
    EqOn n (actCirc c a) (actCirc c b) :=
  (actCirc_isAut1 n c hc).aut.congr a b h

/-- the reversed gate list with `P ↔ P_dag`, as executed by `run_circuit(reverse=True)` -/
def revCirc (c : List Gate) : List Gate := c.reverse.map Gate.rev

theorem revCirc_cancel (n : Nat) (c : List Gate) (hc : ∀ g, g ∈ c → g.WF n) (a : PRow) :
    EqOn n (actCirc (revCirc c) (actCirc c a)) a := by
  induction c generalizing a with
  | nil => exact EqOn.refl _ _
  | cons g rest ih =>
    have hrest : ∀ g', g' ∈ rest → g'.WF n := fun g' hg' => hc g' (List.mem_cons_of_mem _ hg')
    have hg := hc g List.mem_cons_self
    have e1 : actCirc (g :: rest) a = actCirc rest (g.act a) := rfl
    have e2 : revCirc (g :: rest) = revCirc rest ++ [g.rev] := by simp [revCirc]
    rw [e1, e2, actCirc_append]
    have := ih hrest (g.act a)
    exact ((g.rev.isAut n (Gate.rev_WF n g hg)).congr _ _ this).trans (Gate.rev_cancel n g hg a)

theorem isZero_rows (t : STab) (hg : t.Good) (hz : t.isZero = true) (i : Nat) (hi : i < t.n) :
    EqOn t.n (t.row i) (PRow.Zq i) := by
  unfold STab.isZero at hz
  simp only [List.all_eq_true, List.mem_range] at hz
  have := beqOn_eqOn _ _ _ (hz i hi)
  rw [with_ip_false _ (hg.real i hi)] at this
  exact this

theorem spanEq_zero_of_rows (t : STab) (rows : ∀ i, i < t.n → EqOn t.n (t.row i) (PRow.Zq i)) : SpanEq t (STab.zero t.n) :=
  spanEq_of_gens t (STab.zero t.n) rfl (fun i hi => InSpan.eqv _ _ (spn_gen t i hi) (rows i hi))
    (fun i hi => InSpan.eqv _ _ (spn_gen (STab.zero t.n) i hi) (rows i hi).symm)

theorem isZero_spanEq (t : STab) (hg : t.Good) (hz : t.isZero = true) : SpanEq t (STab.zero t.n) :=
  spanEq_zero_of_rows t (isZero_rows t hg hz)

theorem inverseCircuit_tracks (t t' : STab) (circ : List Gate) (hg : t.Good) (h : t.inverseCircuit = .ok (t', circ)) :
    t'.n = t.n ∧ t'.Good ∧ (∀ g, g ∈ circ → g.WF t.n) ∧
    (∀ a, t.Spn a → t'.Spn (actCirc circ a)) ∧
    (∀ b, t'.Spn b → ∃ a, t.Spn a ∧ EqOn t.n (actCirc circ a) b) := by
  obtain ⟨t0, s, hc, hs, e1, e2⟩ := inverseCircuit_eq t t' circ h
  obtain ⟨sc, g0⟩ := canonicalForm_spanEq t t0 hg hc
  have tr := tracks_invBlocks t0 g0 s hs
  have hn : t0.n = t.n := sc.n_eq.symm
  subst e1; subst e2
  refine ⟨tr.n_eq.trans hn, tr.good, fun g hgm => hn ▸ tr.wf g hgm, ?_, ?_⟩
  · intro a ha; exact tr.fwd a (sc.sub a ha)
  · intro b hb
    obtain ⟨a, ha, ea⟩ := tr.bwd b hb
    exact ⟨a, sc.sup a ha, hn ▸ ea⟩

end Graphiq
