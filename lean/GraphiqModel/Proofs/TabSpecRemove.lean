/-
  Proofs/TabSpecRemove.lean — what `remove_qubit` and `partial_trace` do to the stabilizer group, for every size.
  `remove_qubit` is "Z-measure, then drop the site" (`removeQubit_grp`).  If the group is a product across the cut between the
  removed qubits and the rest (`Factor`; qubits carrying a single-site stabilizer are the special case `factor_of_unentangled`),
  `partial_trace` leaves the reduced state of the kept factor whatever the outcomes (`partialTrace_factor_grp`).
-/
import GraphiqModel.Proofs.TabSpecOps
namespace Graphiq.TabSpec
open Graphiq PRow Tab STab

/-! ### the last step of `remove_qubit` -/

theorem isStabGrp_pullIns (m q : Nat) (hq : q ≤ m) (H : PRow → Prop) (hH : IsStabGrp (m + 1) H) :
    IsStabGrp m (fun P' => H (P'.insertCol q)) := by
  have hc := (insertCol_isHom m q hq).preimage (S := H) ⟨hH.one, hH.mul, hH.eqv⟩
  refine ⟨hc.one, hc.mul, hc.eqv, ?_, ?_, ?_⟩
  · intro a ha
    exact hH.real (a.insertCol q) ha
  · intro a b ha hb
    rw [← sp_insertCol m q hq a b]; exact hH.comm _ _ ha hb
  · intro h
    exact hH.noNeg (hH.eqv _ _ h (negate_congr (m + 1) _ _ (insertCol_one (m + 1) q)))

/-- in the situation of the last step of `remove_qubit` the row `zRow` is `±Z_q` -/
theorem drop_zrow (t2 : Tab) (q zRow : Nat) (hv : t2.Valid) (hq : q < t2.n) (hz1 : t2.n ≤ zRow) (hz2 : zRow < 2 * t2.n)
    (hx : ∀ i, i < 2 * t2.n → i + t2.n ≠ zRow → (t2.row i).x q = false) :
    SameBits t2.n (t2.row zRow) (Zq q) := by
  have spZ : ∀ i, sp t2.n (Zq q) (t2.row i) = (t2.row i).x q := by
    intro i; rw [sp_comm]; exact sp_Zq _ _ _ _ hq
  have hpart : (t2.row (zRow - t2.n)).x q = true := by
    cases h : (t2.row (zRow - t2.n)).x q
    · exfalso
      have hall : ∀ i, i < 2 * t2.n → sp t2.n (Zq q) (t2.row i) = false := by
        intro i hi
        rw [spZ]
        by_cases e : i + t2.n = zRow
        · have : i = zRow - t2.n := by omega
          rw [this]; exact h
        · exact hx i hi e
      have := (valid_nondeg t2 hv (Zq q) hall q hq).2
      simp [Zq] at this
    · rfl
  apply sameBits_of_sp t2 hv
  intro i hi
  rw [spZ, hv _ _ hz2 hi]
  by_cases e : i + t2.n = zRow
  · have : i = zRow - t2.n := by omega
    rw [this, hpart]
    exact decide_eq_true (by omega)
  · rw [hx i hi e]
    exact decide_eq_false (by omega)

/-- **core of `remove_qubit`, group level**: `P'` is in the group after the removal iff `P'` with an identity inserted
    at site `q` is in the group before.  By `grp_unique`: the pull-back `{P' | Grp t2 (P'.insertCol q)}` is a stabilizer group
    (`isStabGrp_pullIns`) and contains every new generator, an old generator with its `Z_q` factor absorbed by row `zRow` -/
theorem drop_grp (n : Nat) (t2 : Tab) (hn : t2.n = n) (q zRow : Nat) (hv : t2.Valid) (hr : t2.StabReal) (hq : q < n)
    (hz1 : n ≤ zRow) (hz2 : zRow < 2 * n)
    (hx : ∀ i, i < 2 * n → i + n ≠ zRow → (t2.row i).x q = false) :
    (dropQubitN n t2 q zRow).Valid ∧ (dropQubitN n t2 q zRow).StabReal ∧
    ∀ P', Grp (dropQubitN n t2 q zRow) P' ↔ Grp t2 (P'.insertCol q) := by
  subst hn
  have hv' : (dropQubitN t2.n t2 q zRow).Valid := dropQubit_valid t2 q zRow hv hq hz1 hz2 hx
  have hn1 : t2.n - 1 + 1 = t2.n := by omega
  have hH0 : IsStabGrp (t2.n - 1 + 1) (Grp t2) := by rw [hn1]; exact grp_isStabGrp t2 hv hr
  have hH : IsStabGrp (t2.n - 1) (fun P' => Grp t2 (P'.insertCol q)) :=
    isStabGrp_pullIns (t2.n - 1) q (by omega) (Grp t2) hH0
  suffices hgen : ∀ i, i < (dropQubitN t2.n t2 q zRow).n → Grp t2 (((dropQubitN t2.n t2 q zRow).stab i).insertCol q) from
    ⟨hv', stabReal_of_gens (dropQubitN t2.n t2 q zRow) _ hH hgen, grp_unique (dropQubitN t2.n t2 q zRow) hv' _ hH hgen⟩
  intro i hi
  have hi' : i < t2.n - 1 := hi
  have zb := drop_zrow t2 q zRow hv hq hz1 hz2 hx
  have zx : (t2.row zRow).x q = false := hx zRow hz2 (by omega)
  have zz : (t2.row zRow).z q = true := by rw [(zb q hq).2]; simp [Zq]
  have hd : zRow - t2.n < t2.n := by omega
  have s : skipUp (zRow - t2.n) i < t2.n ∧ skipUp (zRow - t2.n) i ≠ zRow - t2.n := by unfold skipUp; split <;> omega
  show Grp t2 (((dropQubitN t2.n t2 q zRow).row (i + (t2.n - 1))).insertCol q)
  rw [dropQubitN_stab_row t2 q zRow i hd]
  generalize skipUp (zRow - t2.n) i = K at s ⊢
  obtain ⟨J, hJ⟩ : ∃ J, J = K + t2.n := ⟨_, rfl⟩
  rw [← hJ]
  unfold absorbZ
  have J1 : J < 2 * t2.n := by omega
  have J4 : t2.n ≤ J := by omega
  have gJ : Grp t2 (t2.row J) := grp_row t2 J J4 J1
  have gz : Grp t2 (t2.row zRow) := grp_row t2 zRow hz1 hz2
  have xJ : (t2.row J).x q = false := hx J J1 (by omega)
  have back : ∀ R : PRow, R.x q = false → R.z q = false → Grp t2 R → Grp t2 ((R.deleteCol q).insertCol q) :=
    fun R h1 h2 h3 => InSpan.eqv _ _ h3 (insertCol_deleteCol t2.n q R h1 h2).symm
  by_cases hzq : (t2.row J).z q = true
  · have c : J ≠ zRow ∧ J + t2.n ≠ zRow ∧ (t2.row J).z q = true := ⟨by omega, by omega, hzq⟩
    rw [if_pos c]
    exact back _ (by simp [zx, xJ]) (by simp [zz, hzq]) (InSpan.mul _ _ gz gJ)
  · have c : ¬ (J ≠ zRow ∧ J + t2.n ≠ zRow ∧ (t2.row J).z q = true) := fun h => hzq h.2.2
    rw [if_neg c]
    exact back _ xJ (by simpa using hzq) gJ

/-! ### `remove_qubit` -/

/-- in the deterministic branch some destabilizer has an `X` on `q` (the `assert len(non_zero) > 0` never fires) -/
theorem filterTo_ne_nil (t : Tab) (hv : t.Valid) (q : Nat) (hq : q < t.n) (hp : t.pivot q = none) :
    filterTo t.n (fun i => (t.row i).x q) ≠ [] := by
  intro hf
  have hall : ∀ i, i < 2 * t.n → sp t.n (Zq q) (t.row i) = false := by
    intro i hi
    rw [sp_comm, sp_Zq _ _ _ _ hq]
    by_cases hin : i < t.n
    · cases hx : (t.row i).x q
      · rfl
      · exfalso
        have : i ∈ filterTo t.n (fun i => (t.row i).x q) := (mem_filterTo _ _ i).mpr ⟨hin, hx⟩
        rw [hf] at this; cases this
    · exact findFrom_none _ _ _ hp i (by omega) hi
  have := (valid_nondeg t hv (Zq q) hall q hq).2
  simp [Zq] at this

theorem removeQubit_total (t : Tab) (q : Nat) (o : Bool) (hq : q < t.n) (hv : t.Valid) :
    ∃ t', t.removeQubit q o = .ok t' := by
  cases hp : t.pivot q with
  | some p => exact ⟨_, removeQubit_random t q p o hp⟩
  | none =>
    cases hf : filterTo t.n (fun i => (t.row i).x q) with
    | nil => exact absurd hf (filterTo_ne_nil t hv q hq hp)
    | cons om rest => exact ⟨_, removeQubit_det t q o hp om rest hf⟩

/-- **`remove_qubit` = Z-measure, then drop** (group level, all three internal cases): `P'` is in the new group iff
    `P'` with an identity at site `q` is in the group of the measured tableau -/
theorem removeQubit_grp (t t' : Tab) (q : Nat) (o : Bool) (hq : q < t.n) (hv : t.Valid) (hr : t.StabReal)
    (h : t.removeQubit q o = .ok t') :
    t'.n = t.n - 1 ∧ t'.Valid ∧ t'.StabReal ∧
    ∀ P', Grp t' P' ↔ Grp (t.zMeasure q o).1 (P'.insertCol q) := by
  obtain ⟨t2, zRow, rfl, hn2, v2, hz1, hz2, hx, hb⟩ := removeQubit_ok t t' q o hq hv h
  -- the tableau handed to the last step has the group of the measured tableau
  have g2 : t2.StabReal ∧ ∀ P, Grp t2 P ↔ Grp (t.zMeasure q o).1 P := by
    rcases hb with ⟨p, hp, rfl⟩ | ⟨hp, hgens⟩
    · rw [zMeasure_random_eq t q p o hp]
      exact ⟨Tab.measRandom_real t hv hr q p o (pivot_spec t q p hp).1 (pivot_spec t q p hp).2.1, fun _ => Iff.rfl⟩
    · rw [zMeasure_det_eq t q o hp]
      have hHt : IsStabGrp t2.n (Grp t) := by rw [hn2]; exact grp_isStabGrp t hv hr
      have hgen2 : ∀ i, i < t2.n → Grp t (t2.stab i) := fun i hi => by
        show Grp t (t2.row (i + t2.n))
        rw [hn2]; exact hgens i (hn2 ▸ hi)
      exact ⟨stabReal_of_gens t2 (Grp t) hHt hgen2, grp_unique t2 v2 (Grp t) hHt hgen2⟩
  obtain ⟨v, r, g⟩ := drop_grp t.n t2 hn2 q zRow v2 g2.1 hq hz1 hz2 hx
  exact ⟨by show t2.n - 1 = t.n - 1; rw [hn2], v, r, fun P' => (g P').trans (g2.2 _)⟩

theorem removeQubit?_grp (t t' : Tab) (q : Nat) (o : Bool) (hv : t.Valid) (hr : t.StabReal)
    (h : t.removeQubit? q o = .ok t') :
    q < t.n ∧ t'.n = t.n - 1 ∧ t'.Valid ∧ t'.StabReal ∧
    ∀ P', Grp t' P' ↔ Grp (t.zMeasure q o).1 (P'.insertCol q) := by
  obtain ⟨hq, h⟩ := removeQubit?_ok t t' q o h
  exact ⟨hq, removeQubit_grp t t' q o hq hv hr h⟩


/-- insert identities at the removed positions (listed highest first, as `partial_trace` removes them) -/
def embedCols : List Nat → PRow → PRow
  | [], P => P
  | q :: rest, P => (embedCols rest P).insertCol q

/-- the removal list of `partial_trace`: qubits not kept, highest first -/
def removalList (n : Nat) (keep : List Nat) : List Nat := ((List.range n).filter fun i => !keep.contains i).reverse

theorem removalList_desc (n : Nat) (keep : List Nat) : (removalList n keep).Pairwise (· > ·) := by
  unfold removalList
  rw [List.pairwise_reverse]
  exact List.Pairwise.sublist List.filter_sublist List.pairwise_lt_range

theorem mem_removalList (n : Nat) (keep : List Nat) (q : Nat) : q ∈ removalList n keep ↔ q < n ∧ q ∉ keep := by
  unfold removalList
  simp [List.mem_filter]

theorem partialTrace_eq (t : Tab) (keep : List Nat) (os : List Bool) :
    t.partialTrace keep os = partialTrace.go t (removalList t.n keep) os := rfl

/-! ### product across a cut -/

/-- the row with the sites listed in `A` replaced by the identity -/
def restrictOff (A : List Nat) (P : PRow) : PRow :=
  { P with x := fun j => if j ∈ A then false else P.x j, z := fun j => if j ∈ A then false else P.z j }

def IdOn (A : List Nat) (P : PRow) : Prop := ∀ a, a ∈ A → P.x a = false ∧ P.z a = false

/-- the state is a product across the cut `A | complement of A` -/
def Factor (t : Tab) (A : List Nat) : Prop :=
  ∀ P, Grp t P → Grp t (restrictOff A P) ∨ Grp t (negate (restrictOff A P))

theorem restrictOff_idOn (A : List Nat) (P : PRow) : IdOn A (restrictOff A P) := by
  intro a ha; simp [restrictOff, ha]

theorem restrictOff_ip (A : List Nat) (P : PRow) : (restrictOff A P).ip = P.ip := rfl

/-- measuring a qubit of a product factor `A` does not change which rows acting as the identity on `A` are in the group -/
theorem zMeasure_grp_of_idOn (t : Tab) (q : Nat) (o : Bool) (A : List Nat) (hq : q < t.n) (hqA : q ∈ A) (hv : t.Valid)
    (hr : t.StabReal) (hf : Factor t A) (R : PRow) (hR : IdOn A R) :
    Grp (t.zMeasure q o).1 R ↔ Grp t R := by
  cases hp : t.pivot q with
  | none =>
    have e : (t.zMeasure q o).1 = t := by rw [zMeasure_det_eq t q o hp]
    rw [e]
  | some p =>
    have e : (t.zMeasure q o).1 = t.measRandom q p o := by rw [zMeasure_random_eq t q p o hp]
    rw [e, measRandom_grp t q p o hv hr hq hp]
    obtain ⟨p1, p2, p3⟩ := pivot_spec t q p hp
    have hG := grp_isStabGrp t hv hr
    have Rx : R.x q = false := (hR q hqA).1
    constructor
    · rintro ⟨_, h | h⟩
      · exact h
      · -- R·Z_q ∈ G: its restriction off A is ±R
        have rRZ : (PRow.mul t.n R (Zq q o)).ip = false := hG.real _ h
        have rR : R.ip = false := real_of_mul_real t.n R (Zq q o) rRZ rfl (by rw [sp_Zq _ _ _ _ hq, Rx])
        have sb : SameBits t.n (restrictOff A (PRow.mul t.n R (Zq q o))) R := by
          intro j _
          by_cases hj : j ∈ A
          · simp [restrictOff, hj, (hR j hj).1, (hR j hj).2]
          · have hjq : j ≠ q := fun e => hj (e ▸ hqA)
            simp [restrictOff, hj, Zq, hjq]
        have key : UpToSign (Grp t) R :=
          UpToSign.of_sameBits hG.eqv (hf _ h) sb (by rw [restrictOff_ip, rRZ, rR])
        rcases key with k | k
        · exact k
        · exfalso
          -- (-R)(R Z_q) = -Z_q would be in the group, but the pivot anticommutes with Z_q
          have hm := hG.mul _ _ k h
          have c := hG.comm _ _ hm (grp_row t p p1 p2)
          rw [sp_mul_left, sp_mul_left, sp_negate_left] at c
          have c2 : sp t.n (Zq q o) (t.row p) = true := by rw [sp_comm, sp_Zq _ _ _ _ hq]; exact p3
          rw [c2] at c
          cases hs : sp t.n R (t.row p) <;> rw [hs] at c <;> simp at c
    · intro h
      exact ⟨Rx, Or.inl h⟩

theorem factor_measure (t : Tab) (q : Nat) (o : Bool) (A : List Nat) (hq : q < t.n) (hqA : q ∈ A) (hv : t.Valid)
    (hr : t.StabReal) (hf : Factor t A) : Factor (t.zMeasure q o).1 A := by
  have M := zMeasure_grp_of_idOn t q o A hq hqA hv hr hf
  have up : ∀ Q : PRow, Grp t Q →
      Grp (t.zMeasure q o).1 (restrictOff A Q) ∨ Grp (t.zMeasure q o).1 (negate (restrictOff A Q)) := by
    intro Q hQ
    rcases hf Q hQ with h | h
    · exact Or.inl ((M _ (restrictOff_idOn A Q)).mpr h)
    · exact Or.inr ((M (negate (restrictOff A Q)) (restrictOff_idOn A Q)).mpr h)
  cases hp : t.pivot q with
  | none =>
    have e : (t.zMeasure q o).1 = t := by rw [zMeasure_det_eq t q o hp]
    rw [e]; exact hf
  | some p =>
    have e : (t.zMeasure q o).1 = t.measRandom q p o := by rw [zMeasure_random_eq t q p o hp]
    intro P hP
    have hP' := hP
    rw [e, measRandom_grp t q p o hv hr hq hp] at hP'
    obtain ⟨Px, h | h⟩ := hP'
    · exact up P h
    · -- P·Z_q ∈ G; restrictions of P·Z_q and P off A agree up to sign
      have hG := grp_isStabGrp t hv hr
      have rPZ : (PRow.mul t.n P (Zq q o)).ip = false := hG.real _ h
      have rP : P.ip = false := real_of_mul_real t.n P (Zq q o) rPZ rfl (by rw [sp_Zq _ _ _ _ hq, Px])
      have sb : SameBits t.n (restrictOff A (PRow.mul t.n P (Zq q o))) (restrictOff A P) := by
        intro j _
        by_cases hj : j ∈ A
        · simp [restrictOff, hj]
        · have hjq : j ≠ q := fun e => hj (e ▸ hqA)
          simp [restrictOff, hj, Zq, hjq]
      have hG1 : ∀ a b, Grp (t.zMeasure q o).1 a → EqOn t.n a b → Grp (t.zMeasure q o).1 b := by
        intro a b ha hab
        exact InSpan.eqv a b ha (by rw [zMeasure_n]; exact hab)
      exact UpToSign.of_sameBits hG1 (up _ h) sb (by rw [restrictOff_ip, restrictOff_ip, rPZ, rP])

theorem restrictOff_insertCol (n q : Nat) (rest : List Nat) (hlt : ∀ a, a ∈ rest → a < q) (P' : PRow) :
    EqOn n (restrictOff (q :: rest) (P'.insertCol q)) ((restrictOff rest P').insertCol q) := by
  refine ⟨fun j _ => ?_, rfl, rfl⟩
  simp only [restrictOff, PRow.insertCol, List.mem_cons]
  by_cases h1 : j < q
  · have hne : j ≠ q := by omega
    simp [h1, hne]
  · by_cases h2 : j = q
    · simp [h2]
    · have h3 : j ∉ rest := fun h => by have := hlt j h; omega
      have h4 : j - 1 ∉ rest := fun h => by have := hlt (j - 1) h; omega
      simp [h1, h2, h3, h4]

theorem factor_drop (t1 t' : Tab) (q : Nat) (rest : List Nat) (hlt : ∀ a, a ∈ rest → a < q)
    (g : ∀ P', Grp t' P' ↔ Grp t1 (P'.insertCol q)) (hf : Factor t1 (q :: rest)) : Factor t' rest := by
  intro P' hP'
  have e := restrictOff_insertCol t1.n q rest hlt P'
  rcases hf _ ((g P').mp hP') with h | h
  · exact Or.inl ((g _).mpr (InSpan.eqv _ _ h e))
  · refine Or.inr ((g _).mpr ?_)
    rw [insertCol_negate]
    exact InSpan.eqv _ _ h (negate_congr _ _ _ e)

theorem embedCols_idOn (rem : List Nat) (hpw : rem.Pairwise (· > ·)) (P' : PRow) : IdOn rem (embedCols rem P') := by
  induction rem with
  | nil => intro a ha; cases ha
  | cons q rest ih =>
    have hp := List.pairwise_cons.mp hpw
    intro a ha
    rcases List.mem_cons.mp ha with e | e
    · subst e
      exact ⟨insertCol_x _ _, insertCol_z _ _⟩
    · have hlt : a < q := hp.1 a e
      have := ih hp.2 a e
      simp only [embedCols, PRow.insertCol, hlt, if_true]
      exact this

theorem factor_norm (t : Tab) (A : List Nat) (hf : Factor t A) : Factor t.norm A := by
  intro P hP
  rcases hf P ((norm_grp t P).mp hP) with h | h
  · exact Or.inl ((norm_grp t _).mpr h)
  · exact Or.inr ((norm_grp t _).mpr h)

theorem partialTrace_go_factor (rem : List Nat) :
    ∀ (t t' : Tab) (os : List Bool), t.Valid → t.StabReal → rem.Pairwise (· > ·) → (∀ q, q ∈ rem → q < t.n) →
      Factor t rem → partialTrace.go t rem os = .ok t' →
      t'.n + rem.length = t.n ∧ ∀ P', Grp t' P' ↔ Grp t (embedCols rem P') := by
  induction rem with
  | nil =>
    intro t t' os _ _ _ _ _ h
    simp [partialTrace.go] at h
    subst h
    exact ⟨rfl, fun _ => Iff.rfl⟩
  | cons q rest ih =>
    intro t t' os hv hr hpw hlt hf h
    obtain ⟨t1, hrm, h⟩ := partialTrace_go_cons_ok t t' q rest os h
    obtain ⟨hq, hrm'⟩ := removeQubit?_ok t t1 q _ hrm
    obtain ⟨n1, v1, r1, g1⟩ := removeQubit_grp t t1 q _ hq hv hr hrm'
    have hpw' := List.pairwise_cons.mp hpw
    have hn1 : t1.norm.n = t.n - 1 := n1
    have hfm := factor_measure t q (os.headD false) (q :: rest) hq List.mem_cons_self hv hr hf
    have hf1 : Factor t1 rest :=
      factor_drop (t.zMeasure q (os.headD false)).1 t1 q rest hpw'.1 g1 hfm
    obtain ⟨n', g'⟩ := ih t1.norm t' _ (Tab.norm_valid t1 v1) (norm_stabReal t1 r1) hpw'.2
      (by
        intro q' hq'
        have := hpw'.1 q' hq'
        rw [hn1]; omega)
      (factor_norm t1 rest hf1) h
    refine ⟨?_, ?_⟩
    · simp only [List.length_cons]; rw [hn1] at n'; omega
    · intro P'
      rw [g', norm_grp, g1]
      exact zMeasure_grp_of_idOn t q _ (q :: rest) hq List.mem_cons_self hv hr hf _ (embedCols_idOn (q :: rest) hpw P')

/-- **`partial_trace` of a pure product factor** (the traced-out qubits may be entangled among themselves): the result is
    the state of the kept qubits, whatever the outcomes -/
theorem partialTrace_factor_grp (t t' : Tab) (keep : List Nat) (os : List Bool) (hv : t.Valid) (hr : t.StabReal)
    (hf : Factor t (removalList t.n keep)) (h : t.partialTrace keep os = .ok t') :
    t'.n + (removalList t.n keep).length = t.n ∧
    ∀ P', Grp t' P' ↔ Grp t (embedCols (removalList t.n keep) P') := by
  rw [partialTrace_eq] at h
  exact partialTrace_go_factor (removalList t.n keep) t t' os hv hr (removalList_desc t.n keep)
    (fun q hq => ((mem_removalList t.n keep q).mp hq).1) hf h

/-! ### unentangled qubits -/

def SingleSite (n q : Nat) (σ : PRow) : Prop :=
  (σ.x q = true ∨ σ.z q = true) ∧ ∀ j, j < n → j ≠ q → σ.x j = false ∧ σ.z j = false

/-- qubit `q` is a pure product factor: some single-site Pauli on `q` is in the stabilizer group -/
def Unentangled (t : Tab) (q : Nat) : Prop := ∃ σ, Grp t σ ∧ SingleSite t.n q σ

/-- an element of the group, with the site of a single-site stabilizer `σ` erased, is in the group up to sign: it commutes
    with `σ`, so its letter there is `I` or that of `σ`, and it or its product with `σ` has the erased string -/
theorem erase_single (t : Tab) (hv : t.Valid) (hr : t.StabReal) (q : Nat) (hq : q < t.n) (hu : Unentangled t q)
    (R : PRow) (hR : Grp t R) : UpToSign (Grp t) (restrictOff [q] R) := by
  obtain ⟨σ, gσ, hσ1, hσ2⟩ := hu
  have hG := grp_isStabGrp t hv hr
  have c := hG.comm R σ hR gσ
  have e : sp t.n R σ = xor (R.x q && σ.z q) (R.z q && σ.x q) := by
    unfold sp
    exact parityTo_one t.n q _ hq (fun j hj hjq => by simp [(hσ2 j hj hjq).1, (hσ2 j hj hjq).2])
  rw [e] at c
  by_cases h0 : R.x q = false ∧ R.z q = false
  · refine Or.inl (hG.eqv _ _ hR ⟨fun j _ => ?_, rfl, rfl⟩)
    by_cases hj : j = q
    · subst hj; simp [restrictOff, h0.1, h0.2]
    · simp [restrictOff, hj]
  · have hs : R.x q = σ.x q ∧ R.z q = σ.z q := by
      revert c h0 hσ1
      cases R.x q <;> cases R.z q <;> cases σ.x q <;> cases σ.z q <;> simp
    refine UpToSign.of_sameBits hG.eqv (Or.inl (hG.mul _ _ hR gσ)) (fun j hj => ?_)
      ((hG.real _ (hG.mul _ _ hR gσ)).trans (hG.real _ hR).symm)
    by_cases hjq : j = q
    · subst hjq; simp [restrictOff, hs.1, hs.2]
    · simp [restrictOff, hjq, (hσ2 j hj hjq).1, (hσ2 j hj hjq).2]

theorem factor_of_unentangled (t : Tab) (hv : t.Valid) (hr : t.StabReal) (A : List Nat)
    (h : ∀ q, q ∈ A → q < t.n ∧ Unentangled t q) : Factor t A := by
  have hG := grp_isStabGrp t hv hr
  induction A with
  | nil =>
    intro P hP
    exact Or.inl (hG.eqv _ _ hP ⟨fun j _ => by simp [restrictOff], rfl, rfl⟩)
  | cons q rest ih =>
    intro P hP
    have hq := h q List.mem_cons_self
    have step : UpToSign (Grp t) (restrictOff [q] (restrictOff rest P)) := by
      rcases ih (fun a ha => h a (List.mem_cons_of_mem _ ha)) P hP with g | g
      · exact erase_single t hv hr q hq.1 hq.2 _ g
      · exact (erase_single t hv hr q hq.1 hq.2 _ g).neg
    refine UpToSign.of_sameBits hG.eqv step (fun j _ => ?_) rfl
    by_cases hj : j = q
    · simp [restrictOff, hj]
    · by_cases hm : j ∈ rest <;> simp [restrictOff, hj, hm]

theorem measure_unentangled (t : Tab) (q : Nat) (o : Bool) (hq : q < t.n) (hv : t.Valid) (hr : t.StabReal)
    (hu : Unentangled t q) (R : PRow) (hR : R.x q = false ∧ R.z q = false) :
    Grp (t.zMeasure q o).1 R ↔ Grp t R :=
  zMeasure_grp_of_idOn t q o [q] hq List.mem_cons_self hv hr
    (factor_of_unentangled t hv hr [q] (fun a ha => by rw [List.mem_singleton.mp ha]; exact ⟨hq, hu⟩)) R
    (fun a ha => by rw [List.mem_singleton.mp ha]; exact hR)

/-- **removing an unentangled qubit** (in particular one in a computational-basis state, `±Z_q` in the group) leaves the
    state of the others unchanged, whatever the drawn / forced outcome: `P'` is in the new group iff `P'` with an
    identity inserted at `q` is in the old group -/
theorem removeQubit_unentangled_grp (t t' : Tab) (q : Nat) (o : Bool) (hq : q < t.n) (hv : t.Valid) (hr : t.StabReal)
    (hu : Unentangled t q) (h : t.removeQubit q o = .ok t') :
    ∀ P', Grp t' P' ↔ Grp t (P'.insertCol q) := by
  intro P'
  rw [(removeQubit_grp t t' q o hq hv hr h).2.2.2 P']
  exact measure_unentangled t q o hq hv hr hu _ ⟨insertCol_x q P', insertCol_z q P'⟩

theorem unentangled_of_Zq (t : Tab) (q : Nat) (s : Bool) (hz : Grp t (Zq q s)) : Unentangled t q := by
  refine ⟨Zq q s, hz, Or.inr (by simp [Zq]), fun j _ hj => ?_⟩
  simp [Zq, hj]

/-- every element of the old group, reduced to the remaining qubits (the factor `Z_q` replaced by its sign), is in
    the new group -/
theorem removeQubit_Zq_image (t t' : Tab) (q : Nat) (o s : Bool) (hq : q < t.n) (hv : t.Valid) (hr : t.StabReal)
    (hz : Grp t (Zq q s)) (h : t.removeQubit q o = .ok t') (P : PRow) (hP : Grp t P) :
    P.x q = false ∧
    Grp t' ((if P.z q then PRow.mul t.n P (Zq q s) else P).deleteCol q) := by
  have g := removeQubit_unentangled_grp t t' q o hq hv hr (unentangled_of_Zq t q s hz) h
  have px : P.x q = false := by
    have := grp_comm t hv hr _ _ hP hz
    rw [sp_Zq _ _ _ _ hq] at this; exact this
  refine ⟨px, ?_⟩
  rw [g]
  by_cases hzq : P.z q = true
  · rw [if_pos hzq]
    exact InSpan.eqv _ _ (InSpan.mul _ _ hP hz)
      (insertCol_deleteCol t.n q _ (by simp [px, Zq]) (by simp [hzq, Zq])).symm
  · rw [if_neg hzq]
    exact InSpan.eqv _ _ hP (insertCol_deleteCol t.n q _ px (by simpa using hzq)).symm

/-- **`partial_trace` of a pure product factor**: if every traced-out qubit is unentangled (carries a single-site
    stabilizer), the result is the state of the kept qubits — `P'` is in the new group iff `P'` with identities inserted
    at the traced-out positions is in the old group — independently of the drawn / forced outcomes -/
theorem partialTrace_product_grp (t t' : Tab) (keep : List Nat) (os : List Bool) (hv : t.Valid) (hr : t.StabReal)
    (hu : ∀ q, q < t.n → q ∉ keep → Unentangled t q) (h : t.partialTrace keep os = .ok t') :
    t'.n + (removalList t.n keep).length = t.n ∧
    ∀ P', Grp t' P' ↔ Grp t (embedCols (removalList t.n keep) P') :=
  partialTrace_factor_grp t t' keep os hv hr
    (factor_of_unentangled t hv hr _ (fun q hq =>
      ⟨((mem_removalList t.n keep q).mp hq).1,
       hu q ((mem_removalList t.n keep q).mp hq).1 ((mem_removalList t.n keep q).mp hq).2⟩)) h

end Graphiq.TabSpec
