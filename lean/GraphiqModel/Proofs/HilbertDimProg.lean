/-
  Proofs/HilbertDimProg.lean — programs over the tableau API: start from `CliffordTableau(n)` (or any given tableau), run
  histories of API calls, and combine results with `tensor`.  `Prog.run` executes the model, `Prog.den` is the denotation
  in Hilbert space, defined without any reference to tableaux for `init`, `seq` and `tensor`:
  `|0…0⟩⟨0…0|`, the quantum operations `dOps`, and the Kronecker product.
-/
import GraphiqModel.Proofs.HilbertDimBorn
import GraphiqModel.Proofs.HilbertDimTensor
namespace Graphiq
namespace Hilbert
open Matrix PRow TabSpec Tab

/-- a program: leaves are given tableaux or `CliffordTableau(n)`; inner nodes are histories of API calls and `tensor` -/
inductive Prog where
  | leaf (t : Tab)
  | init (n : Nat)
  | seq (p : Prog) (ops : List Tab.Op)
  | tensor (p q : Prog)

def Prog.run : Prog → Except Err Tab
  | .leaf t => .ok t
  | .init n => .ok (Tab.ket0 n)
  | .seq p ops =>
    match p.run with
    | .ok t => t.runOps ops
    | .error e => .error e
  | .tensor p q =>
    match p.run with
    | .ok a =>
      match q.run with
      | .ok b => .ok (Tab.tensor2 a b)
      | .error e => .error e
    | .error e => .error e

/-- side conditions: given tableaux are valid with real stabilizer rows; control ≠ target in two-qubit gates -/
def Prog.WF : Prog → Prop
  | .leaf t => t.Valid ∧ t.StabReal
  | .init _ => True
  | .seq p ops => p.WF ∧ ∀ op ∈ ops, OpWF op
  | .tensor p q => p.WF ∧ q.WF

noncomputable def zeroKet (n : Nat) : Matrix (Bits n) (Bits n) ℂ :=
  Matrix.of fun a b => if a = (fun _ => false) ∧ b = (fun _ => false) then 1 else 0

noncomputable def dTensor (s1 s2 : DState) : DState := ⟨s1.n + s2.n, kronB s1.ρ s2.ρ⟩

noncomputable def Prog.den : Prog → DState
  | .leaf t => dstate t
  | .init n => ⟨n, zeroKet n⟩
  | .seq p ops => dOps ops p.den
  | .tensor p q => dTensor p.den q.den

theorem dstate_ket0 (n : Nat) : dstate (Tab.ket0 n) = ⟨n, zeroKet n⟩ := by
  have h : rho n (STab.ofTab (Tab.ket0 n)) = zeroKet n := by
    ext a b
    rw [rho_ket0, rho_zero]
    rfl
  exact congrArg (DState.mk n) h

theorem dstate_tensor (a b : Tab) : dstate (Tab.tensor2 a b) = dTensor (dstate a) (dstate b) :=
  congrArg (DState.mk (a.n + b.n)) (rho_tensor a b)

theorem Prog.run_seq_ok {p : Prog} {ops : List Tab.Op} {t : Tab} (h : (Prog.seq p ops).run = .ok t) :
    ∃ t0, p.run = .ok t0 ∧ t0.runOps ops = .ok t := by
  simp only [Prog.run] at h
  cases hp : p.run with
  | error e => rw [hp] at h; cases h
  | ok t0 => rw [hp] at h; exact ⟨t0, rfl, h⟩

theorem Prog.run_tensor_ok {p q : Prog} {t : Tab} (h : (Prog.tensor p q).run = .ok t) :
    ∃ a b, p.run = .ok a ∧ q.run = .ok b ∧ t = Tab.tensor2 a b := by
  simp only [Prog.run] at h
  cases hp : p.run with
  | error e => rw [hp] at h; cases h
  | ok a =>
    rw [hp] at h
    cases hq : q.run with
    | error e => rw [hq] at h; cases h
    | ok b => rw [hq] at h; cases h; exact ⟨a, b, rfl, rfl, rfl⟩

theorem Prog.tracks (p : Prog) : ∀ t, p.WF → p.run = .ok t → t.Valid ∧ t.StabReal ∧ dstate t = p.den := by
  induction p with
  | leaf t0 => intro t hw h; cases h; exact ⟨hw.1, hw.2, rfl⟩
  | init n => intro t _ h; cases h; exact ⟨Tab.ket0_valid n, Tab.ket0_real n, dstate_ket0 n⟩
  | seq p ops ih =>
    intro t hw h
    obtain ⟨t0, hp, hrun⟩ := Prog.run_seq_ok h
    obtain ⟨v0, r0, d0⟩ := ih t0 hw.1 hp
    have s := history_tracked ops hw.2 t0 t v0 r0 hrun
    exact ⟨s.valid, s.real, by rw [s.dens, d0]; rfl⟩
  | tensor p q ihp ihq =>
    intro t hw h
    obtain ⟨a, b, hp, hq, rfl⟩ := Prog.run_tensor_ok h
    obtain ⟨va, ra, da⟩ := ihp a hw.1 hp
    obtain ⟨vb, rb, db⟩ := ihq b hw.2 hq
    exact ⟨tensor2_valid a b va vb, tensor_stabReal a b ra rb, by rw [dstate_tensor, da, db]; rfl⟩

/-- `tensor(list_of_tables)` of clifford.py: the left fold of the two-factor step over the list -/
def tensorL (t : Tab) (ts : List Tab) : Tab := ts.foldl Tab.tensor2 t

/-- **`tensor` of a whole list is the iterated Kronecker product** (left to right, as the Python loop) -/
theorem dstate_tensorL (t : Tab) (ts : List Tab) :
    dstate (tensorL t ts) = (ts.map dstate).foldl dTensor (dstate t) := by
  induction ts generalizing t with
  | nil => rfl
  | cons a rest ih =>
    show dstate (tensorL (Tab.tensor2 t a) rest) = _
    rw [ih, dstate_tensor]
    rfl

end Hilbert
end Graphiq
