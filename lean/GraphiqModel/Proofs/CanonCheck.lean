/-
  Proofs/CanonCheck.lean — the executable checker `isCanon` is sound for the shape `Canon`.
-/
import GraphiqModel.Model.CanonCheck
import GraphiqModel.Proofs.CanonShape
namespace Graphiq
namespace STab

theorem pinvB_sound (n : Nat) (B : Nat → Nat → Bool) (p : Nat → Nat) (lo pr : Nat) (h : pinvB n B p lo pr = true) :
    PInv n B p lo pr n := by
  unfold pinvB at h
  simp only [Bool.and_eq_true, decide_eq_true_eq, List.all_eq_true, List.mem_range] at h
  obtain ⟨⟨h1, h2⟩, h3⟩ := h
  have piv : ∀ i, lo ≤ i → i < pr →
      (p i < n ∧ B i (p i) = true) ∧ (∀ m, m < n → (decide (m = i) || !B m (p i)) = true) ∧
      (∀ j, j < n → (decide (p i ≤ j) || !B i j) = true) ∧
      (∀ i', i' < n → (!(decide (i < i') && decide (i' < pr)) || decide (p i < p i')) = true) := by
    intro i hi1 hi2
    have := h3 i (by omega)
    rw [if_pos ⟨hi1, hi2⟩] at this
    simp only [Bool.and_eq_true, decide_eq_true_eq, List.all_eq_true, List.mem_range] at this
    exact ⟨⟨this.1.1.1.1, this.1.1.1.2⟩, this.1.1.2, this.1.2, this.2⟩
  constructor
  · exact h1
  · exact h2
  · intro i hi1 hi2; exact (piv i hi1 hi2).1.1
  · intro i hi1 hi2; exact (piv i hi1 hi2).1.2
  · intro i m hi1 hi2 hm hne
    have := (piv i hi1 hi2).2.1 m hm
    simp only [Bool.or_eq_true, decide_eq_true_eq, Bool.not_eq_true'] at this
    rcases this with e | e
    · exact absurd e hne
    · exact e
  · intro i j hi1 hi2 hj
    have hp := (piv i hi1 hi2).1.1
    have := (piv i hi1 hi2).2.2.1 j (by omega)
    simp only [Bool.or_eq_true, decide_eq_true_eq, Bool.not_eq_true'] at this
    rcases this with e | e
    · omega
    · exact e
  · intro i i' hi1 hlt hi2
    have := (piv i hi1 (by omega)).2.2.2 i' (by omega)
    simp only [Bool.or_eq_true, decide_eq_true_eq, Bool.not_eq_true', Bool.and_eq_false_iff, decide_eq_false_iff_not] at this
    rcases this with (e | e) | e
    · exact absurd hlt e
    · exact absurd hi2 e
    · exact e
  · intro m j hm1 hm2 hj
    have := h3 m hm2
    have hno : ¬ (lo ≤ m ∧ m < pr) := by omega
    rw [if_neg hno, if_pos hm1] at this
    simp only [List.all_eq_true, List.mem_range, Bool.not_eq_true'] at this
    exact this j hj

theorem isCanon_sound (c : STab) (h : c.isCanon = true) : Canon c := by
  unfold isCanon at h
  simp only [Bool.and_eq_true] at h
  exact ⟨_, _, _, pinvB_sound _ _ _ _ _ h.1, pinvB_sound _ _ _ _ _ h.2⟩

end STab
end Graphiq
