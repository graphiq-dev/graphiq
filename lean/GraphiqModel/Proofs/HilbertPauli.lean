/-
  Proofs/HilbertPauli.lean — the matrix of a signed Pauli row, for every number of qubits, and the bridge
  theorems between the model's row algebra (`PRow.mul` = graphiq's `row_sum` with the `g_function` phase
  bookkeeping, `PRow.sp` = the symplectic form) and matrix algebra over ℂ:

  * `pauliMat n p` is the `2^n × 2^n` matrix of `i^ip (-1)^r ⊗_j σ(x_j, z_j)` (σ(1,1) = Y = [[0,-i],[i,0]]),
    indexed by bit strings; `σ(x,z)|b⟩ = i^(x z) (-1)^(z b) |b ⊕ x⟩`;
  * `pauliMat_mul` : `pauliMat (PRow.mul n a b) = pauliMat a * pauliMat b` (the homomorphism);
  * `pauliMat_conjTranspose`, Hermitian / unitary / square ±1;
  * `pauliMat_comm_iff`, `pauliMat_anticomm_iff` : `sp` is the commutation bit of the matrices.
-/
import GraphiqModel.Proofs.HilbertBasic
namespace Graphiq
namespace Hilbert
open Matrix PRow

/-- exponent of `i` in the entry of `σ(x,z)` in column `b`: `σ(x,z)|b⟩ = i^(x z + 2 z b) |b ⊕ x⟩` -/
def sFun (x z b : Bool) : Int := Bool.toInt' (x && z) + 2 * Bool.toInt' (z && b)

/-- exponent of `i` of the (only) non-zero entry of column `b` of the matrix of row `p` -/
def pexp (n : Nat) (p : PRow) (b : Bits n) : Int :=
  p.ph + sumTo n fun j => sFun (p.x j) (p.z j) (bx b j)

/-- the matrix `i^ip (-1)^r ⊗_j σ(x_j, z_j)` on `n` qubits, in the computational basis -/
noncomputable def pauliMat (n : Nat) (p : PRow) : Matrix (Bits n) (Bits n) ℂ := mono (flip p.x) (pexp n p)

theorem pauliMat_apply (n : Nat) (p : PRow) (a b : Bits n) :
    pauliMat n p a b = if a = flip p.x b then iPow (pexp n p b) else 0 := rfl

theorem pauliMat_congr (n : Nat) (a b : PRow) (h : EqOn n a b) : pauliMat n a = pauliMat n b := by
  unfold pauliMat
  apply mono_congr
  · exact flip_congr _ _ (fun j hj => (h.1 j hj).1)
  · intro c
    unfold pexp
    rw [h.ph, sumTo_congr n _ (fun j => sFun (b.x j) (b.z j) (bx c j))
      (fun j hj => by rw [(h.1 j hj).1, (h.1 j hj).2])]

/-! ### the homomorphism: `row_sum` / `g_function` is matrix multiplication -/

/-- per-site identity behind the homomorphism: the `g_function` exponent is exactly the phase picked up by
    `σ(x1,z1) σ(x2,z2) = i^g σ(x1⊕x2, z1⊕z2)` in every column `b` -/
theorem sFun_mul (x1 z1 x2 z2 b : Bool) :
    (gFun x1 z1 x2 z2 + sFun (xor x1 x2) (xor z1 z2) b) % 4 = (sFun x1 z1 (xor b x2) + sFun x2 z2 b) % 4 := by
  cases x1 <;> cases z1 <;> cases x2 <;> cases z2 <;> cases b <;> decide

theorem pexp_mul (n : Nat) (a b : PRow) (c : Bits n) :
    pexp n (mul n a b) c % 4 = (pexp n a (flip b.x c) + pexp n b c) % 4 := by
  unfold pexp
  rw [mul_ph]
  have key : (gSum n a b + sumTo n fun j => sFun ((mul n a b).x j) ((mul n a b).z j) (bx c j)) % 4
      = ((sumTo n fun j => sFun (a.x j) (a.z j) (bx (flip b.x c) j))
          + sumTo n fun j => sFun (b.x j) (b.z j) (bx c j)) % 4 := by
    unfold gSum
    rw [← sumTo_add, ← sumTo_add]
    apply sumTo_mod4_congr
    intro j hj
    rw [bx_flip _ _ _ hj]
    exact sFun_mul _ _ _ _ _
  omega

/-- **Homomorphism.**  The matrix of the model's signed row product is the product of the matrices:
    `row_sum` with the `g_function` phase bookkeeping (mod 4, decoded into `r`, `ip`) is matrix multiplication,
    for every number of qubits. -/
theorem pauliMat_mul (n : Nat) (a b : PRow) : pauliMat n (mul n a b) = pauliMat n a * pauliMat n b := by
  unfold pauliMat
  rw [mono_mul_mono]
  apply mono_congr
  · funext c; exact (flip_flip a.x b.x c).symm
  · intro c; exact pexp_mul n a b c

theorem pexp_one (n : Nat) (c : Bits n) : pexp n PRow.one c = 0 := by
  unfold pexp
  rw [one_ph, sumTo_congr n _ (fun _ => 0) (fun j _ => by simp [PRow.one, sFun, Bool.toInt']), sumTo_zero]
  rfl

theorem pauliMat_one (n : Nat) : pauliMat n PRow.one = 1 := by
  unfold pauliMat
  rw [← mono_id_zero]
  apply mono_congr
  · funext c; exact flip_false c
  · intro c; rw [pexp_one]

def bare (p : PRow) : PRow := { p with r := false, ip := false }

theorem pexp_bare (n : Nat) (p : PRow) (c : Bits n) : pexp n p c = p.ph + pexp n (bare p) c := by
  unfold pexp bare PRow.ph
  simp [Bool.toInt']

theorem pauliMat_phase (n : Nat) (p : PRow) : pauliMat n p = iPow p.ph • pauliMat n (bare p) := by
  ext a c
  simp only [Matrix.smul_apply, pauliMat_apply, smul_eq_mul]
  show (if a = flip p.x c then _ else _) = iPow p.ph * (if a = flip p.x c then _ else _)
  split
  · rw [pexp_bare, iPow_add]
  · simp

theorem pauliMat_neg (n : Nat) (p : PRow) : pauliMat n { p with r := !p.r } = -pauliMat n p := by
  rw [pauliMat_phase n { p with r := !p.r }, pauliMat_phase n p]
  have hb : bare { p with r := !p.r } = bare p := rfl
  rw [hb]
  have : iPow (PRow.ph { p with r := !p.r }) = -iPow p.ph := by
    have e : PRow.ph { p with r := !p.r } % 4 = (p.ph + 2) % 4 := by
      have h : ∀ r ip : Bool, (2 * Bool.toInt' (!r) + Bool.toInt' ip) % 4
          = (2 * Bool.toInt' r + Bool.toInt' ip + 2) % 4 := by decide
      exact h p.r p.ip
    rw [iPow_congr e, iPow_add, iPow_two]; ring
  rw [this, neg_smul]

theorem pauliMat_xor_r (n : Nat) (p : PRow) (s : Bool) :
    pauliMat n { p with r := xor p.r s } = (if s then (-1 : ℂ) else 1) • pauliMat n p := by
  cases s
  · simp
  · have : ({ p with r := xor p.r true } : PRow) = { p with r := !p.r } := by simp
    rw [this, pauliMat_neg]; simp

theorem sFun_adj (x z b : Bool) : (-(sFun x z (xor b x))) % 4 = sFun x z b % 4 := by
  cases x <;> cases z <;> cases b <;> decide

/-- the adjoint row: `(i^ip (-1)^r P)† = (-i)^ip (-1)^r P` -/
def adj (p : PRow) : PRow := { p with r := xor p.r p.ip }

theorem adj_ph (p : PRow) : (adj p).ph % 4 = (-p.ph) % 4 := by
  have h : ∀ r ip : Bool, (2 * Bool.toInt' (xor r ip) + Bool.toInt' ip) % 4
      = (-(2 * Bool.toInt' r + Bool.toInt' ip)) % 4 := by decide
  exact h p.r p.ip

theorem pauliMat_conjTranspose (n : Nat) (p : PRow) : (pauliMat n p)ᴴ = pauliMat n (adj p) := by
  unfold pauliMat
  rw [mono_conjTranspose _ (flip_involutive p.x)]
  apply mono_congr
  · rfl
  · intro c
    unfold pexp
    have key : (-(sumTo n fun j => sFun (p.x j) (p.z j) (bx (flip p.x c) j))) % 4
        = (sumTo n fun j => sFun ((adj p).x j) ((adj p).z j) (bx c j)) % 4 := by
      rw [← sumTo_neg]
      apply sumTo_mod4_congr
      intro j hj
      rw [bx_flip _ _ _ hj]
      exact sFun_adj _ _ _
    have := adj_ph p
    omega

theorem pauliMat_hermitian (n : Nat) (p : PRow) (hp : p.ip = false) : (pauliMat n p)ᴴ = pauliMat n p := by
  rw [pauliMat_conjTranspose]
  have : adj p = p := by
    cases p with
    | mk x z r ip => simp only at hp; subst hp; simp [adj]
  rw [this]

theorem pauliMat_mul_conjTranspose (n : Nat) (p : PRow) : pauliMat n p * (pauliMat n p)ᴴ = 1 :=
  mono_mul_conjTranspose _ (flip_involutive p.x) _

theorem pauliMat_conjTranspose_mul (n : Nat) (p : PRow) : (pauliMat n p)ᴴ * pauliMat n p = 1 :=
  mono_conjTranspose_mul _ (flip_involutive p.x) _

theorem pauliMat_sq (n : Nat) (p : PRow) (hp : p.ip = false) : pauliMat n p * pauliMat n p = 1 := by
  rw [← pauliMat_mul, pauliMat_congr n _ _ (mul_self n p hp), pauliMat_one]

theorem pauliMat_sq_imag (n : Nat) (p : PRow) (hp : p.ip = true) : pauliMat n p * pauliMat n p = -1 := by
  rw [← pauliMat_mul]
  have h : EqOn n (mul n p p) { PRow.one with r := !PRow.one.r } := by
    apply eqOn_of
    · intro j _; simp [PRow.one]
    · rw [mul_ph, gSum_self]
      unfold PRow.ph; rw [hp]
      cases p.r <;> decide
  rw [pauliMat_congr n _ _ h, pauliMat_neg, pauliMat_one]

/-! ### the symplectic form is the commutation bit of the matrices -/

theorem pauliMat_swap (n : Nat) (a b : PRow) :
    pauliMat n a * pauliMat n b = (if sp n a b then (-1 : ℂ) else 1) • (pauliMat n b * pauliMat n a) := by
  rw [← pauliMat_mul, ← pauliMat_mul, pauliMat_congr n _ _ (mul_swap n a b), pauliMat_xor_r]

theorem pauliMat_comm (n : Nat) (a b : PRow) (h : sp n a b = false) :
    pauliMat n a * pauliMat n b = pauliMat n b * pauliMat n a := by
  rw [pauliMat_swap, h]; simp

theorem pauliMat_anticomm (n : Nat) (a b : PRow) (h : sp n a b = true) :
    pauliMat n a * pauliMat n b = -(pauliMat n b * pauliMat n a) := by
  rw [pauliMat_swap, h]; simp

theorem pauliMat_mul_ne_zero (n : Nat) (a b : PRow) : pauliMat n a * pauliMat n b ≠ 0 := by
  intro h
  have h1 : (pauliMat n a * pauliMat n b) * ((pauliMat n b)ᴴ * (pauliMat n a)ᴴ) = 1 := by
    rw [Matrix.mul_assoc, ← Matrix.mul_assoc (pauliMat n b), pauliMat_mul_conjTranspose, Matrix.one_mul,
      pauliMat_mul_conjTranspose]
  rw [h, Matrix.zero_mul] at h1
  have : (0 : Matrix (Bits n) (Bits n) ℂ) (fun _ => false) (fun _ => false) = 1 := by
    rw [h1]; simp
  simp at this

theorem pauliMat_anticomm_iff (n : Nat) (a b : PRow) :
    sp n a b = true ↔ pauliMat n a * pauliMat n b = -(pauliMat n b * pauliMat n a) := by
  constructor
  · exact pauliMat_anticomm n a b
  · intro h
    cases hs : sp n a b
    · exfalso
      have hc := pauliMat_comm n a b hs
      rw [hc] at h
      have h2 : pauliMat n b * pauliMat n a + pauliMat n b * pauliMat n a = 0 := by
        nth_rewrite 1 [h]; simp
      have h3 : (2 : ℂ) • (pauliMat n b * pauliMat n a) = 0 := by rw [two_smul]; exact h2
      have h4 := (smul_eq_zero.mp h3).resolve_left (by norm_num)
      exact pauliMat_mul_ne_zero n b a h4
    · rfl

theorem pauliMat_comm_iff (n : Nat) (a b : PRow) :
    sp n a b = false ↔ pauliMat n a * pauliMat n b = pauliMat n b * pauliMat n a := by
  constructor
  · exact pauliMat_comm n a b
  · intro h
    cases hs : sp n a b
    · rfl
    · exfalso
      have hc := pauliMat_anticomm n a b hs
      rw [h] at hc
      have h2 : pauliMat n b * pauliMat n a + pauliMat n b * pauliMat n a = 0 := by
        nth_rewrite 1 [hc]; simp
      have h3 : (2 : ℂ) • (pauliMat n b * pauliMat n a) = 0 := by rw [two_smul]; exact h2
      have h4 := (smul_eq_zero.mp h3).resolve_left (by norm_num)
      exact pauliMat_mul_ne_zero n b a h4

/-! ### textbook entries of the one-site generators -/

/-- the unit vector `e_q` as a bit mask -/
def unitMask (q : Nat) : Nat → Bool := fun j => decide (j = q)

theorem pauliMat_Zq_apply (n q : Nat) (s : Bool) (hq : q < n) (a b : Bits n) :
    pauliMat n (Zq q s) a b = if a = b then (if xor s (bx b q) then (-1 : ℂ) else 1) else 0 := by
  rw [pauliMat_apply]
  have hf : flip (Zq q s).x b = b := flip_false b
  have he : pexp n (Zq q s) b = 2 * Bool.toInt' s + 2 * Bool.toInt' (bx b q) := by
    unfold pexp
    rw [sumTo_single n q _ hq (by intro j hj; simp [Zq, sFun, hj, Bool.toInt'])]
    cases s <;> simp [Zq, sFun, PRow.ph, Bool.toInt']
  rw [hf, he]
  split
  · cases s <;> cases bx b q <;> simp [Bool.toInt', iPow_zero, iPow_two, iPow_four]
  · rfl

theorem pauliMat_Xq_apply (n q : Nat) (s : Bool) (a b : Bits n) :
    pauliMat n (Xq q s) a b = if a = flip (unitMask q) b then (if s then (-1 : ℂ) else 1) else 0 := by
  rw [pauliMat_apply]
  have he : pexp n (Xq q s) b = 2 * Bool.toInt' s := by
    unfold pexp
    rw [sumTo_congr n _ (fun _ => 0) (fun j _ => by simp [Xq, sFun, Bool.toInt']), sumTo_zero]
    cases s <;> simp [Xq, PRow.ph, Bool.toInt']
  rw [he]
  show (if a = flip (unitMask q) b then _ else _) = _
  split
  · cases s <;> simp [Bool.toInt', iPow_zero, iPow_two]
  · rfl

/-- the Hermitian `Y_q` row -/
def Yrow (q : Nat) (sign : Bool := false) : PRow := ⟨fun j => decide (j = q), fun j => decide (j = q), sign, false⟩

theorem pauliMat_Yq_apply (n q : Nat) (s : Bool) (hq : q < n) (a b : Bits n) :
    pauliMat n (Yrow q s) a b
      = if a = flip (unitMask q) b then (if xor s (bx b q) then -Complex.I else Complex.I) else 0 := by
  rw [pauliMat_apply]
  have he : pexp n (Yrow q s) b = 2 * Bool.toInt' s + (1 + 2 * Bool.toInt' (bx b q)) := by
    unfold pexp
    rw [sumTo_single n q _ hq (by intro j hj; simp [Yrow, sFun, hj, Bool.toInt'])]
    cases s <;> simp [Yrow, sFun, PRow.ph, Bool.toInt']
  rw [he, iPow_add, iPow_add, iPow_two_mul_toInt', iPow_two_mul_toInt', iPow_one]
  show (if a = flip (unitMask q) b then _ else _) = _
  split
  · cases s <;> cases bx b q <;> simp
  · rfl

end Hilbert
end Graphiq
