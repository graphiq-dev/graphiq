/-
  Proofs/InnerProductExec.lean — the brute-force executable specification (Model/OverlapSpec.lean) decides the
  specification predicates: `orthB a b = true ↔ Orth a b`, and `commonB a b ma = true ↔` the subset product `ma` of
  `a`'s rows lies in the group of `b`.  (The enumeration is exponential; the driver uses it for n ≤ 3.)
-/
import GraphiqModel.Model.OverlapSpec
import GraphiqModel.Proofs.InnerProduct
namespace Graphiq
open PRow Tab
namespace STab

theorem mprod_eq_sprod (n : Nat) (row : Nat → PRow) (mask m : Nat) :
    mprod n row mask m = sprod n row (fun i => mask.testBit i) m := by
  induction m with
  | zero => rfl
  | succ k ih => simp only [mprod, sprod, ih]

theorem mask_of_subset (n : Nat) (S : Nat → Bool) : ∃ m, m < 2 ^ n ∧ ∀ i, i < n → m.testBit i = S i := by
  induction n with
  | zero => exact ⟨0, by decide, fun i hi => by omega⟩
  | succ k ih =>
    obtain ⟨m, hm, hb⟩ := ih
    cases hS : S k
    · refine ⟨m, by rw [Nat.pow_succ]; omega, fun i hi => ?_⟩
      by_cases hik : i = k
      · subst hik; rw [hS]; exact Nat.testBit_lt_two_pow hm
      · exact hb i (by omega)
    · refine ⟨2 ^ k + m, by rw [Nat.pow_succ]; omega, fun i hi => ?_⟩
      by_cases hik : i = k
      · subst hik; rw [hS, Nat.testBit_two_pow_add_eq, Nat.testBit_lt_two_pow hm]; rfl
      · have hlt : i < k := by omega
        rw [Nat.testBit_two_pow_add_gt hlt]; exact hb i hlt

/-- membership in the signed group of a real commuting tableau = being one of the `2^n` subset products -/
theorem spn_iff_mask (t : STab) (hg : t.Good) (g : PRow) :
    t.Spn g ↔ ∃ m, m < 2 ^ t.n ∧ EqOn t.n g (mprod t.n t.row m t.n) := by
  constructor
  · intro h
    obtain ⟨S, hS⟩ := spn_repr t hg g h
    obtain ⟨m, hm, hb⟩ := mask_of_subset t.n S
    refine ⟨m, hm, ?_⟩
    rw [mprod_eq_sprod, sprod_congr t.n t.row _ S t.n hb]
    exact hS
  · rintro ⟨m, _, e⟩
    rw [mprod_eq_sprod] at e
    exact InSpan.eqv _ _ (sprod_spn t _ t.n (Nat.le_refl _)) e.symm

/-- two tableaux whose generators are subset products (given as masks) of each other, by evaluation -/
theorem spanEq_of_masks (a b : STab) (hn : b.n = a.n) (ma mb : Nat → Nat)
    (h : (List.range a.n).all (fun i => PRow.beqOn a.n (b.row i) (mprod a.n a.row (ma i) a.n) &&
      PRow.beqOn a.n (a.row i) (mprod a.n b.row (mb i) a.n)) = true) : SpanEq a b := by
  simp only [List.all_eq_true, List.mem_range, Bool.and_eq_true] at h
  apply spanEq_of_gens a b hn
  · intro i hi
    have e := beqOn_eqOn _ _ _ (h i (hn ▸ hi)).1
    rw [mprod_eq_sprod] at e
    exact InSpan.eqv _ _ (sprod_spn a _ a.n (Nat.le_refl _)) e.symm
  · intro i hi
    have e := beqOn_eqOn _ _ _ (h i hi).2
    rw [mprod_eq_sprod, ← hn] at e
    exact InSpan.eqv _ _ (sprod_spn b _ b.n (Nat.le_refl _)) e.symm

theorem orthB_iff (a b : STab) (ga : a.Good) (gb : b.Good) (hn : a.n = b.n) : a.orthB b = true ↔ Orth a b := by
  unfold orthB
  simp only [List.any_eq_true, List.mem_range]
  constructor
  · rintro ⟨ma, hma, mb, hmb, he⟩
    have e := beqOn_eqOn _ _ _ he
    refine ⟨mprod a.n a.row ma a.n, (spn_iff_mask a ga _).2 ⟨ma, hma, EqOn.refl _ _⟩, ?_⟩
    have hb : b.Spn (mprod a.n b.row mb a.n) := by
      rw [hn] at hmb ⊢
      exact (spn_iff_mask b gb _).2 ⟨mb, hmb, EqOn.refl _ _⟩
    have e2 : EqOn a.n (PRow.neg (mprod a.n a.row ma a.n)) (mprod a.n b.row mb a.n) := by
      have := neg_congr a.n _ _ e
      rw [show ({ (mprod a.n b.row mb a.n) with r := !(mprod a.n b.row mb a.n).r } : PRow)
        = PRow.neg (mprod a.n b.row mb a.n) from rfl, neg_neg] at this
      exact this
    unfold Spn at hb ⊢
    rw [← hn] at hb ⊢
    exact InSpan.eqv _ _ hb e2.symm
  · rintro ⟨P, hA, hB⟩
    obtain ⟨ma, hma, ea⟩ := (spn_iff_mask a ga P).1 hA
    obtain ⟨mb, hmb, eb⟩ := (spn_iff_mask b gb _).1 hB
    rw [← hn] at hmb eb
    refine ⟨ma, hma, mb, hmb, eqOn_beqOn _ _ _ ?_⟩
    show EqOn a.n (mprod a.n a.row ma a.n) (PRow.neg (mprod a.n b.row mb a.n))
    have := neg_congr a.n _ _ eb
    rw [neg_neg] at this
    exact ea.symm.trans this

/-- **the executable membership test is exact**: the subset product `ma` of `a`'s rows lies in the group of `b` -/
theorem commonB_iff (a b : STab) (gb : b.Good) (hn : a.n = b.n) (ma : Nat) :
    a.commonB b ma = true ↔ b.Spn (mprod a.n a.row ma a.n) := by
  unfold commonB
  simp only [List.any_eq_true, List.mem_range]
  constructor
  · rintro ⟨mb, hmb, he⟩
    have e := beqOn_eqOn _ _ _ he
    refine (spn_iff_mask b gb _).2 ?_
    rw [← hn]
    exact ⟨mb, hmb, e⟩
  · intro h
    obtain ⟨mb, hmb, eb⟩ := (spn_iff_mask b gb _).1 h
    rw [← hn] at hmb eb
    exact ⟨mb, hmb, eqOn_beqOn _ _ _ eb⟩

end STab
end Graphiq
