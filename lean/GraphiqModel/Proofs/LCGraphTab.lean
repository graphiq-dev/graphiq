/-
  Proofs/LCGraphTab.lean — graph states as Clifford tableaux and the named gates of `lc_check` on them: the graph-state tableau is
  valid, gate lists keep validity, `groupSign` / `isGraphState` exhibit members of the stabilizer group (the checked path of
  `lc_check`, here for `lcCheck` over the whole-graph algorithm), and the 2×2 → gate-name table of `local_clifford_ops` is
  complete and acts as the block.
-/
import GraphiqModel.Model.LC
import GraphiqModel.Proofs.GraphOps
import GraphiqModel.Proofs.Tableau
namespace Graphiq.LC
open Graphiq PRow Tab

/-! ### gates on graph states -/

theorem graphTab_valid (n : Nat) (A : Adj) (hA : Simple n A) : (graphTab n A).Valid := by
  intro i k hi hk
  have hi' : i < 2 * n := hi
  have hk' : k < 2 * n := hk
  show sp n ((graphTab n A).row i) ((graphTab n A).row k) = decide (i + n = k ∨ k + n = i)
  unfold graphTab
  simp only []
  by_cases h1 : i < n <;> by_cases h2 : k < n
  · simp only [h1, h2, if_true]
    rw [sp_Zq n k _ false h2]
    simp [Zq]; omega
  · simp only [h1, h2, if_true, if_false]
    rw [sp_comm, sp_Zq n i _ false h1]
    simp only [graphGen]
    apply decide_eq_decide.mpr; omega
  · simp only [h1, h2, if_true, if_false]
    rw [sp_Zq n k _ false h2]
    simp only [graphGen]
    apply decide_eq_decide.mpr; omega
  · -- K_a, K_b commute: one Z–X crossing each way, equal by symmetry
    simp only [h1, h2, if_false]
    have ha : i - n < n := by omega
    have hb : k - n < n := by omega
    unfold sp graphGen
    simp only []
    have e : ∀ j, j < n → xor (decide (j = i - n) && A (k - n) j) (A (i - n) j && decide (j = k - n)) =
        xor (decide (j = i - n) && A (k - n) j) (decide (j = k - n) && A (i - n) j) := by
      intro j _; rw [Bool.and_comm (A (i - n) j)]
    rw [parityTo_congr n _ _ e, parityTo_xor, parityTo_single n (i - n) _ ha, parityTo_single n (k - n) _ hb,
      hA.1 (k - n) (i - n) hb ha]
    have : decide (i + n = k ∨ k + n = i) = false := by apply decide_eq_false; omega
    rw [this]
    cases A (i - n) (k - n) <;> rfl

theorem graphTab_stab (n : Nat) (A : Adj) (i : Nat) : (graphTab n A).row (i + n) = graphGen A i := by
  show (if i + n < n then PRow.Zq (i + n) else graphGen A (i + n - n)) = _
  rw [if_neg (by omega), Nat.add_sub_cancel]

theorem graphTab_ip (n : Nat) (A : Adj) (i : Nat) : ((graphTab n A).row i).ip = false := by
  show (if i < n then PRow.Zq i else graphGen A (i - n)).ip = false
  split <;> rfl

theorem applyGate_spec (t t' : Tab) (name : String) (q : Nat) (hv : t.Valid) (e : applyGate t name q = .ok t') :
    t'.n = t.n ∧ t'.Valid := by
  unfold applyGate at e
  split at e
  · rename_i hq
    split at e <;> (try cases e)
    · exact ⟨rfl, hv⟩
    · exact ⟨rfl, hGate_valid t q hq hv⟩
    · exact ⟨rfl, sGate_valid t q hq hv⟩
    · exact ⟨rfl, sdgGate_valid t q hq hv⟩
    · exact ⟨rfl, xGate_valid t q hq hv⟩
    · exact ⟨rfl, yGate_valid t q hq hv⟩
    · exact ⟨rfl, zGate_valid t q hq hv⟩
  · cases e


theorem runGates_spec (t t' : Tab) (gates : List (String × Nat)) (hv : t.Valid) (e : runGates t gates = .ok t') :
    t'.n = t.n ∧ t'.Valid := by
  induction gates generalizing t with
  | nil => simp [runGates] at e; cases e; exact ⟨rfl, hv⟩
  | cons g rest ih =>
    simp only [runGates] at e
    split at e
    · cases e
    · rename_i t1 e1
      obtain ⟨h1, h2⟩ := applyGate_spec t t1 g.1 g.2 hv e1
      obtain ⟨h3, h4⟩ := ih t1.norm (Tab.norm_valid t1 h2) e
      exact ⟨h3.trans ((Tab.norm_n t1).trans h1), h4⟩


theorem groupSign_inSpan (t : Tab) (g : PRow) (s : Bool) (h : groupSign t g = some s) :
    InSpan t.n t.n t.stab { g with r := s } := by
  unfold groupSign at h
  simp only [] at h
  split at h
  · rename_i hc
    cases h
    simp only [Bool.and_eq_true] at hc
    have hp : InSpan t.n t.n t.stab (groupProduct t g) := by
      unfold groupProduct
      apply foldl_inSpan
      · intro d hd
        exact ((mem_filterTo _ _ d).mp hd).1
      · exact InSpan.one
    exact InSpan.eqv _ _ hp (beqOn_eqOn _ _ _ hc.1)
  · cases h

theorem isGraphState_inSpan (t : Tab) (B : Adj) (h : isGraphState t B = true) (q : Nat) (hq : q < t.n) :
    InSpan t.n t.n t.stab (graphGen B q) := by
  unfold isGraphState at h
  rw [List.all_eq_true] at h
  have := h q (List.mem_range.mpr hq)
  simp only [beq_iff_eq] at this
  exact groupSign_inSpan t (graphGen B q) false this

/-- **the checked path of `lc_check` over the whole-graph algorithm** (`lcCheck`; what /repo runs is `lcCheckR`, over the repaired
    `is_lc_equivalent`: `lcCheckR_sound`): whenever `lc_check(A, B, validate=True)` answers `(True, gates)`, running the gates
    with the verified tableau semantics on the graph state of `A` gives a valid tableau whose stabilizer group contains
    every generator `K_q(B) = X_q ∏_{j~q} Z_j` of the graph state of `B` with sign `+` -/
theorem lcCheck_sound (a b : BMat) (gates : List (String × Nat)) (hA : Simple a.r a.f)
    (e : lcCheck a b true = .ok (true, gates)) :
    ∃ t, runGates (graphTab a.r a.f) gates = .ok t ∧ t.n = a.r ∧ t.Valid ∧
      ∀ q, q < a.r → InSpan t.n t.n t.stab (graphGen b.f q) := by
  unfold lcCheck at e
  split at e
  · cases e
  · simp only [if_true] at e
    split at e
    · cases e
    · rename_i t et
      split at e
      · rename_i hg
        cases e
        obtain ⟨h1, h2⟩ := runGates_spec _ t gates (graphTab_valid a.r a.f hA) et
        refine ⟨t, et, h1, h2, fun q hq => isGraphState_inSpan t b.f hg q (by rw [h1]; exact hq)⟩
      · cases e


/-! ### the 2×2 → gate-name table -/

/-- row-wise action of a named gate (what `applyGate` does to every row of the tableau) -/
def gateRow (name : String) (q : Nat) : PRow → PRow :=
  match name with
  | "H" => PRow.h q
  | "P" => PRow.s q
  | "P_dag" => PRow.sdg q
  | "X" => PRow.xg q
  | "Y" => PRow.yg q
  | "Z" => PRow.zg q
  | _ => id

theorem gateRow_I (q : Nat) : gateRow "I" q = id := rfl
theorem gateRow_H (q : Nat) : gateRow "H" q = PRow.h q := rfl
theorem gateRow_P (q : Nat) : gateRow "P" q = PRow.s q := rfl
theorem gateRow_Pdag (q : Nat) : gateRow "P_dag" q = PRow.sdg q := rfl

/-- the gates of a written name act rightmost-first (`ops.split()[::-1]` in `converter_gate_list`) -/
def applyNames (names : List String) (q : Nat) (p : PRow) : PRow :=
  names.reverse.foldl (fun acc nm => gateRow nm q acc) p

theorem blockOps_complete (a b c d : Bool) : (blockOps a b c d).isSome = xor (a && d) (b && c) := by
  cases a <;> cases b <;> cases c <;> cases d <;> rfl

/-- the named gates act on the `(z, x)` bits of their qubit exactly as the block `[[a, b], [c, d]]` does on the column
    vector `(z; x)`, and leave every other qubit alone — for every row of every tableau of every size -/
theorem blockOps_action (a b c d : Bool) (names : List String) (h : blockOps a b c d = some names) (q : Nat) (p : PRow) :
    (applyNames names q p).z q = xor (a && p.z q) (b && p.x q) ∧
    (applyNames names q p).x q = xor (c && p.z q) (d && p.x q) ∧
    ∀ j, j ≠ q → (applyNames names q p).x j = p.x j ∧ (applyNames names q p).z j = p.z j := by
  -- block by block: the word of the block, written out as row operations, is compared bit by bit
  cases a <;> cases b <;> cases c <;> cases d <;> cases h <;>
    (refine ⟨?_, ?_, fun j hj => ⟨?_, ?_⟩⟩) <;>
    simp only [applyNames, List.reverse_cons, List.reverse_nil, List.nil_append, List.cons_append, List.foldl_cons,
      List.foldl_nil, gateRow_I, gateRow_H, gateRow_P, gateRow_Pdag, PRow.h, PRow.s, PRow.sdg, id, if_true, if_false,
      Bool.true_and, Bool.false_and, Bool.xor_false, Bool.false_xor, *] <;>
    cases p.x q <;> cases p.z q <;> rfl


end Graphiq.LC
