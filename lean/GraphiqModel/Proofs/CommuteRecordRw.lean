/-
  Proofs/CommuteRecordRw.lean — the rewrites of C13 and the classical wires.

  `flat` does not contain the classical wires.  For a circuit whose measuring operations are threaded on the classical wire
  they write (`CThreaded`), every rewrite keeps them threaded and keeps, for every classical register, the sequence of
  operations on its wire (`CFlat`):
  * `unwrap_nodes`, `remove_identity`, `group_one_qubit_gates` only insert / remove one-qubit gates, which have no
    classical register and are not on classical wires: the classical wires and the nodes on them are untouched (`CInv`);
  * `assign_noise(∅)` re-`add`s every operation along a linear extension, which threads it on its classical wires in the
    order of the old classical wire (`AssignInvC`).
  Consequence (`rewrites_proj_regsC_eq`): all per-register projections — classical registers included — of a compile
  sequence of the rewritten circuit and of the original agree, so `same_wires_same_state` applies to the semantics with
  the classical record.
-/
import GraphiqModel.Proofs.CommuteRecord
import GraphiqModel.Proofs.CommuteComplete
namespace Graphiq.Commute
open Graphiq
open Graphiq.Wire

/-- per classical register: the operations on its wire, in wire order -/
def CFlat (c c' : Circuit) : Prop :=
  ∀ i, (c'.wire ⟨.c, i⟩).flatMap c'.sopsOfNode = (c.wire ⟨.c, i⟩).flatMap c.sopsOfNode

/-- invariant of the gate-only edits (`insertAt` of a one-qubit gate on a quantum edge, `removeOp` of a one-qubit gate)
    relative to the circuit `c0` the rewrite started from -/
structure CInv (c0 c : Circuit) : Prop where
  wbound : ∀ r n, n ∈ c.wire r → n ≤ c.nid
  nbound : ∀ n op, c.node n = some op → n ≤ c.nid
  qty : ∀ n op, c.node n = some op → ∀ r, r ∈ op.q → r.ty ≠ .c
  gateOff : ∀ n op, c.node n = some op → op.kind.isGate1 = true → ∀ i, n ∉ c.wire ⟨.c, i⟩
  keepW : ∀ i, c.wire ⟨.c, i⟩ = c0.wire ⟨.c, i⟩
  keepN : ∀ i n, n ∈ c0.wire ⟨.c, i⟩ → c.node n = c0.node n
  thr : CThreaded c

theorem cinv_refl (c : Circuit) (hgood : c.Good) (hthr : CThreaded c) : CInv c c where
  wbound r n h := hgood.1.wire_le h
  nbound n op h := (hgood.1.bound n op h).2
  qty n op h r hr := (hgood.1.qvalid n op h r hr).2
  gateOff n op h hg i hin := by
    have := hgood.1.cwire n op h i hin
    rw [((good_arity1 hgood) n op h hg).2] at this
    cases this
  keepW _ := rfl
  keepN _ _ _ := rfl
  thr := hthr

theorem cinv_insertAt {c0 c : Circuit} (h : CInv c0 c) (op : Op) (hcr : op.cr = [])
    (hq : ∀ r, r ∈ op.q → r.ty ≠ .c) (e : Edge) (he : e.r.ty ≠ .c) : CInv c0 (c.insertAt op [e]) := by
  have hnd : (([e] : List Edge).map (·.r)).Nodup := by simp
  have hcw : ∀ i, (c.insertAt op [e]).wire ⟨.c, i⟩ = c.wire ⟨.c, i⟩ := by
    intro i
    apply insertAt_wire_of_not_mem
    simp only [List.map_cons, List.map_nil, List.mem_singleton]
    intro hh
    exact he (by rw [← hh])
  -- a node on a classical wire is an old node
  have hold : ∀ i n, n ∈ c.wire ⟨.c, i⟩ → n ≠ c.nid + 1 := fun i n hn => by have := h.wbound _ n hn; omega
  refine ⟨?_, ?_, ?_, ?_, ?_, ?_, ?_⟩
  · intro r n hn
    rw [insertAt_nid]
    rcases (mem_insertAt_wire c op [e] hnd r n).mp hn with h1 | ⟨h1, _⟩
    · have := h.wbound r n h1; omega
    · omega
  · intro n op' hn
    rw [insertAt_nid]
    rcases insertAt_node_some hn with ⟨hk, _⟩ | ⟨_, hn⟩
    · omega
    · have := h.nbound n op' hn; omega
  · intro n op' hn r hr
    rcases insertAt_node_some hn with ⟨_, rfl⟩ | ⟨_, hn⟩
    · exact hq r hr
    · exact h.qty n op' hn r hr
  · intro n op' hn hg' i hin
    rw [hcw] at hin
    rcases insertAt_node_some hn with ⟨hk, _⟩ | ⟨_, hn⟩
    · exact hold i n hin hk
    · exact h.gateOff n op' hn hg' i hin
  · intro i; rw [hcw]; exact h.keepW i
  · intro i n hn
    rw [insertAt_node, if_neg (hold i n (h.keepW i ▸ hn))]
    exact h.keepN i n hn
  · intro n op' hn i hi
    rw [hcw]
    rcases insertAt_node_some hn with ⟨_, rfl⟩ | ⟨_, hn⟩
    · rw [hcr] at hi; cases hi
    · exact h.thr n op' hn i hi

theorem cinv_removeOp {c0 c : Circuit} (h : CInv c0 c) (n : Nat) (op : Op) (hn : c.node n = some op)
    (hg : op.kind.isGate1 = true) : CInv c0 (c.removeOp n) := by
  have hoff := h.gateOff n op hn hg
  have hcw : ∀ i, (c.removeOp n).wire ⟨.c, i⟩ = c.wire ⟨.c, i⟩ := fun i => filter_ne_of_not_mem _ n (hoff i)
  refine ⟨?_, ?_, ?_, ?_, ?_, ?_, ?_⟩
  · intro r m hm
    exact h.wbound r m ((mem_removeOp_wire c n m r).mp hm).1
  · intro m op' hm
    exact h.nbound m op' (removeOp_node_some hm).2
  · intro m op' hm
    exact h.qty m op' (removeOp_node_some hm).2
  · intro m op' hm hg' i hin
    rw [hcw] at hin
    exact h.gateOff m op' (removeOp_node_some hm).2 hg' i hin
  · intro i; rw [hcw]; exact h.keepW i
  · intro i m hm
    have hk : m ≠ n := fun e => hoff i (e ▸ h.keepW i ▸ hm)
    rw [removeOp_node, if_neg hk]
    exact h.keepN i m hm
  · intro m op' hm i hi
    rw [hcw]
    exact h.thr m op' (removeOp_node_some hm).2 i hi

theorem CInv.cflat {c0 c : Circuit} (h : CInv c0 c) : CFlat c0 c := by
  intro i
  rw [h.keepW i]
  apply flatMap_congr'
  intro n hn
  unfold Circuit.sopsOfNode
  rw [h.keepN i n hn]

theorem cinv_unwrapNode {c0 c : Circuit} (h : CInv c0 c) (n : Nat) : CInv c0 (c.unwrapNode n) := by
  unfold Circuit.unwrapNode
  split
  · next gs r cr fx hnode =>
    have hr : r.ty ≠ .c := h.qty n _ hnode r (by simp)
    -- the inserted gates get fresh identifiers: node `n` is still the wrapper when it is removed
    obtain ⟨h1, h2⟩ := Loop.foldl_inv (fun c' => CInv c0 c' ∧ c'.node n = some ⟨.wrapper gs, [r], cr, fx⟩)
      (f := fun c' g => c'.insertAt (Op.base1 g r) [⟨r, (c'.wire r).idxOf n⟩]) (l := unwrapList gs)
      (fun c' g _ ⟨h', hn⟩ => ⟨cinv_insertAt h' (Op.base1 g r) rfl
          (fun r' hr' => by simp only [Op.base1, List.mem_singleton] at hr'; rw [hr']; exact hr) _ hr,
        by rw [insertAt_node_of_le _ _ _ (h'.nbound n _ hn)]; exact hn⟩) ⟨h, hnode⟩
    exact cinv_removeOp h1 n _ h2 rfl
  · exact h

theorem cinv_unwrapNodes {c0 c : Circuit} (h : CInv c0 c) (order : List Nat) : CInv c0 (c.unwrapNodes order) :=
  Loop.foldl_inv (CInv c0) (fun _ n _ h' => cinv_unwrapNode h' n) h

theorem cinv_removeIdentity {c0 c : Circuit} (h : CInv c0 c) (order : List Nat) : CInv c0 (c.removeIdentity order) :=
  Loop.foldl_inv (CInv c0) (fun c' n _ h' => by
    split
    · next q cr fx hnode => exact cinv_removeOp h' n _ hnode rfl
    · exact h') h

theorem cinv_gStep1 {c0 : Circuit} (s : GroupSt) (n : Nat) (h : CInv c0 s.c) : CInv c0 (gStep1 s n).c := by
  unfold gStep1
  split
  · next hgr =>
    unfold Circuit.groupable at hgr
    cases hnode : s.c.node n with
    | none => simp [hnode] at hgr
    | some op =>
      simp only [hnode] at hgr
      exact cinv_removeOp h n op hnode hgr
  · exact h

theorem cinv_gStep2 {c0 : Circuit} (r : Reg) (hr : r.ty ≠ .c) (rest : List Nat) (s : GroupSt) (h : CInv c0 s.c) :
    CInv c0 (gStep2 r rest s).c := by
  unfold gStep2
  split
  · exact cinv_insertAt h _ rfl (fun r' hr' => by simp only [List.mem_singleton] at hr'; rw [hr']; exact hr) _ hr
  · exact h

theorem cinv_groupWalk {c0 : Circuit} (r : Reg) (hr : r.ty ≠ .c) (rest : List Nat) (s : GroupSt) (h : CInv c0 s.c) :
    CInv c0 (groupWalk r rest s).c := by
  induction rest generalizing s with
  | nil => exact h
  | cons n rest ih =>
    rw [groupWalk_cons]
    exact ih _ (cinv_gStep2 r hr rest _ (cinv_gStep1 s n h))

theorem cinv_group {c : Circuit} (hgood : c.Good) (hthr : CThreaded c) (order : List Reg) :
    CInv c (c.groupOneQubitGates order) :=
  (Loop.foldl_inv (fun s : GroupSt => s.c.WF ∧ s.c.Arity1 ∧ CInv c s.c)
    (f := fun s r => groupWalk r (s.c.wire r).reverse { s with gates := [] }) (l := order)
    (fun s r _ ⟨hwf, har, h⟩ => by
      obtain ⟨h1, h2, _⟩ := groupWalk_reg r s hwf har
      refine ⟨h1, h2, ?_⟩
      by_cases hty : r.ty = .c
      · rw [groupWalk_classical r hty _ { s with gates := [] } hwf har rfl (fun m hm => by simpa using hm)]
        exact h
      · exact cinv_groupWalk r hty _ _ h)
    (s := ⟨c, []⟩) ⟨hgood.1, good_arity1 hgood, cinv_refl c hgood hthr⟩).2.2

structure AssignInvC (c c' : Circuit) (P : List Nat) : Prop where
  base : AssignInv c c' P
  cflat : ∀ i, (c'.wire ⟨.c, i⟩).flatMap c'.sopsOfNode =
    (P.filter fun n => decide (n ∈ c.wire ⟨.c, i⟩)).flatMap c.sopsOfNode
  thr : CThreaded c'

theorem assignC_step (c c' : Circuit) (P : List Nat) (n : Nat) (op : Op) (hwf : c.WF) (hok : c.OpsOk) (hthr : CThreaded c)
    (hnode : c.node n = some op) (hinv : AssignInvC c c' P) :
    c'.add op = Except.ok (c'.addCore op) ∧ AssignInvC c (c'.addCore op) (P ++ [n]) := by
  obtain ⟨hadd, hbase⟩ := assign_step c c' P n op hwf hok hnode hinv.base
  refine ⟨hadd, hbase, ?_, ?_⟩
  · intro i
    have hnd := (hok n op hnode).1
    have hwire := addCore_wire c' op hnd ⟨.c, i⟩
    have hold : ∀ m, m ∈ c'.wire ⟨.c, i⟩ → (c'.addCore op).sopsOfNode m = c'.sopsOfNode m := by
      intro m hm
      have := hinv.base.bound _ m hm
      unfold Circuit.sopsOfNode
      rw [addCore_eq, insertAt_node, if_neg (by omega)]
    have hnew : (c'.addCore op).sopsOfNode (c'.nid + 1) = c.sopsOfNode n := by
      unfold Circuit.sopsOfNode
      rw [addCore_eq, insertAt_node, if_pos rfl, hnode]
    have hmem : (⟨.c, i⟩ : Reg) ∈ op.addRegs ↔ n ∈ c.wire ⟨.c, i⟩ := by
      simp only [Op.addRegs, List.mem_append, List.mem_map]
      constructor
      · rintro (h | ⟨j, hj, hje⟩)
        · exact absurd rfl (hwf.qvalid n op hnode _ h).2
        · simp only [Reg.mk.injEq, true_and] at hje
          subst hje
          exact hthr n op hnode j hj
      · intro h
        exact Or.inr ⟨i, hwf.cwire n op hnode i h, rfl⟩
    rw [hwire, List.filter_append, List.flatMap_append]
    by_cases hin : n ∈ c.wire ⟨.c, i⟩
    · rw [if_pos (hmem.mpr hin), List.flatMap_append, flatMap_congr' hold, hinv.cflat i]
      congr 1
      simp [hin, hnew]
    · rw [if_neg (fun h => hin (hmem.mp h)), flatMap_congr' hold, hinv.cflat i]
      simp [hin]
  · intro m op' hm i hi
    have hnd := (hok n op hnode).1
    rw [addCore_wire c' op hnd]
    rw [addCore_eq] at hm
    rcases insertAt_node_some hm with ⟨hk, rfl⟩ | ⟨_, hm⟩
    · have : (⟨.c, i⟩ : Reg) ∈ op'.addRegs := by
        simp only [Op.addRegs, List.mem_append, List.mem_map]
        exact Or.inr ⟨i, hi, rfl⟩
      rw [if_pos this, hk]
      simp
    · have := hinv.thr m op' hm i hi
      split
      · exact List.mem_append_left _ this
      · exact this

theorem assignC_fold (c : Circuit) (hwf : c.WF) (hok : c.OpsOk) (hthr : CThreaded c) (seq : List Nat) (c' : Circuit)
    (P : List Nat) (cf : Circuit) (hinv : AssignInvC c c' P)
    (h : seq.foldlM (fun c'' n => match c.node n with
      | some op => c''.add op
      | none => Except.error Err.key) c' = Except.ok cf) :
    AssignInvC c cf (P ++ seq) := by
  induction seq generalizing c' P with
  | nil =>
    simp only [List.foldlM_nil] at h
    cases h
    simpa using hinv
  | cons n seq ih =>
    rw [List.foldlM_cons] at h
    cases hnode : c.node n with
    | none => simp [hnode] at h; cases h
    | some op =>
      simp only [hnode] at h
      obtain ⟨hadd, hinv'⟩ := assignC_step c c' P n op hwf hok hthr hnode hinv
      rw [hadd] at h
      have := ih (c'.addCore op) (P ++ [n]) hinv' h
      simpa using this

theorem cflat_assignNoise (c : Circuit) (hgood : c.Good) (hthr : CThreaded c) (seq : List Nat) (cf : Circuit)
    (h : c.assignNoise seq = Except.ok cf) : CFlat c cf ∧ CThreaded cf := by
  have hwf := hgood.1
  have hok := good_opsOk hgood
  obtain ⟨hlin, h⟩ := assignNoise_ok h
  have h0 : AssignInvC c (Circuit.empty c.ne c.np c.nc) [] :=
    ⟨⟨rfl, rfl, rfl, rfl, fun r m hm => by simp [Circuit.empty] at hm, fun r _ => rfl,
      WF_empty _ _ _, fun m op h => by simp [Circuit.empty] at h⟩,
     fun i => rfl, fun m op h => by simp [Circuit.empty] at h⟩
  have hinv := assignC_fold c hwf hok hthr seq _ [] cf h0 h
  refine ⟨fun i => ?_, hinv.thr⟩
  rw [hinv.cflat i, List.nil_append, isLinearExtension_filter hwf hlin]

theorem Rewrites.carity {c c' : Circuit} (hgood : c.Good) (hca : CArity c) (h : Rewrites c c') : CArity c' :=
  h.nodesSat hgood hca (fun _ _ => rfl) (fun _ _ _ => rfl)

/-- **every rewrite keeps the operations on every classical wire, and keeps the circuit threaded** -/
theorem Rewrites.cflat {c c' : Circuit} (hgood : c.Good) (hthr : CThreaded c) (h : Rewrites c c') :
    CFlat c c' ∧ CThreaded c' := by
  cases h with
  | copy => exact ⟨fun _ => rfl, hthr⟩
  | unwrap order =>
    have := cinv_unwrapNodes (cinv_refl c hgood hthr) order
    exact ⟨this.cflat, this.thr⟩
  | removeIdentity order =>
    have := cinv_removeIdentity (cinv_refl c hgood hthr) order
    exact ⟨this.cflat, this.thr⟩
  | group order =>
    have := cinv_group hgood hthr order
    exact ⟨this.cflat, this.thr⟩
  | assignNoise seq c' h => exact cflat_assignNoise c hgood hthr seq c' h

theorem proj_regsC_eq_of (c c' : Circuit) (hgood : c.Good) (hthr : CThreaded c) (hca : CArity c) (hgood' : c'.Good)
    (hthr' : CThreaded c') (hca' : CArity c') (hcf : CFlat c c') (hflat : c'.flat = c.flat)
    (seq seq' : List Nat) (hl : c.isLinearExtension seq = true) (hl' : c'.isLinearExtension seq' = true) (r : Reg) :
    projReg regsC r (c'.sops seq') = projReg regsC r (c.sops seq) := by
  by_cases hty : r.ty = .c
  · obtain ⟨ty, i⟩ := r
    simp only at hty
    subst hty
    rw [proj_regsC_classical c' hgood' hthr' hca' seq' hl' i, proj_regsC_classical c hgood hthr hca seq hl i]
    exact hcf i
  · have hconv : ∀ l : List SOp, projReg regsC r l = projReg SOp.regs r l := fun l =>
      List.filter_congr fun a _ => by simp only [decide_eq_decide]; exact mem_regsC_quantum a r hty
    rw [hconv, hconv]
    exact proj_sops_eq_of_flat_eq c' c hgood'.1 hgood.1 (good_arity1 hgood') (good_arity1 hgood) seq' seq hl' hl hflat r

theorem proj_regsC_eq (c : Circuit) (hgood : c.Good) (hthr : CThreaded c) (hca : CArity c) (seq1 seq2 : List Nat)
    (hl1 : c.isLinearExtension seq1 = true) (hl2 : c.isLinearExtension seq2 = true) (r : Reg) :
    projReg regsC r (c.sops seq1) = projReg regsC r (c.sops seq2) :=
  proj_regsC_eq_of c c hgood hthr hca hgood hthr hca (fun _ => rfl) rfl seq2 seq1 hl2 hl1 r

theorem rewrites_proj_regsC_eq (c c' : Circuit) (hgood : c.Good) (hthr : CThreaded c) (hca : CArity c) (h : Rewrites c c')
    (seq seq' : List Nat) (hl : c.isLinearExtension seq = true) (hl' : c'.isLinearExtension seq' = true) (r : Reg) :
    projReg regsC r (c'.sops seq') = projReg regsC r (c.sops seq) :=
  proj_regsC_eq_of c c' hgood hthr hca (h.good hgood) (Rewrites.cflat hgood hthr h).2 (Rewrites.carity hgood hca h)
    (Rewrites.cflat hgood hthr h).1 (h.flat_eq hgood) seq seq' hl hl' r

theorem RewritesStar.carity {c c' : Circuit} (hgood : c.Good) (hca : CArity c) (h : RewritesStar c c') : CArity c' :=
  h.nodesSat hgood hca (fun _ _ => rfl) (fun _ _ _ => rfl)

theorem RewritesStar.cflat {c c' : Circuit} (hgood : c.Good) (hthr : CThreaded c) (h : RewritesStar c c') :
    CFlat c c' ∧ CThreaded c' := by
  induction h with
  | refl => exact ⟨fun _ => rfl, hthr⟩
  | tail h1 r ih =>
    obtain ⟨hcf, hthr1⟩ := ih
    obtain ⟨hcf2, hthr2⟩ := Rewrites.cflat (h1.good hgood) hthr1 r
    exact ⟨fun i => (hcf2 i).trans (hcf i), hthr2⟩

theorem chain_proj_regsC_eq (c c' : Circuit) (hgood : c.Good) (hthr : CThreaded c) (hca : CArity c)
    (h : RewritesStar c c') (seq seq' : List Nat) (hl : c.isLinearExtension seq = true)
    (hl' : c'.isLinearExtension seq' = true) (r : Reg) :
    projReg regsC r (c'.sops seq') = projReg regsC r (c.sops seq) :=
  proj_regsC_eq_of c c' hgood hthr hca (h.good hgood) (h.cflat hgood hthr).2 (h.carity hgood hca)
    (h.cflat hgood hthr).1 (h.flat_eq hgood) seq seq' hl hl' r

/-! ### two sane threaded circuits with the same `flat` and the same operations on every classical wire -/

theorem flat_eq_state_and_record (ne np : Nat) (c c' : Circuit) (hgood : c.Good) (hthr : CThreaded c) (hca : CArity c)
    (hgood' : c'.Good) (hthr' : CThreaded c') (hca' : CArity c') (hcf : CFlat c c') (hflat : c'.flat = c.flat)
    (seq seq' : List Nat) (hl : c.isLinearExtension seq = true) (hl' : c'.isLinearExtension seq' = true) (s : CSt ne np) :
    runSeq (appC ne np) (c'.sops seq') s = runSeq (appC ne np) (c.sops seq) s :=
  Wire.runSeq_eq_of_proj_eq regsC (appC ne np) (appC_comm ne np) (c'.sops seq') (c.sops seq) (regsC_ne_nil c' hgood' seq')
    (regsC_ne_nil c hgood seq) (proj_regsC_eq_of c c' hgood hthr hca hgood' hthr' hca' hcf hflat seq seq' hl hl') s

/-- **runs of the compile loop in which every measuring operation recorded the same outcome end with the same signed
    stabilizer group and the same final values of the classical registers** -/
theorem flat_eq_compiled_record (c c' : Circuit) (hgood : c.Good) (har : ArityOk c) (hthr : CThreaded c) (hca : CArity c)
    (hgood' : c'.Good) (har' : ArityOk c') (hthr' : CThreaded c') (hca' : CArity c') (hcf : CFlat c c')
    (hflat : c'.flat = c.flat) (seq seq' : List Nat) (hl : c.isLinearExtension seq = true)
    (hl' : c'.isLinearExtension seq' = true) (d d' : Det) (script script' : List Bool) (s s' : RunState)
    (h1 : stabRun c.ne c.np d script ((c.sops seq).map toCOp) = some s)
    (h2 : stabRun c'.ne c'.np d' script' ((c'.sops seq').map toCOp) = some s')
    (hout : feed c.ne c.np (c.sops seq) s.outs (fun _ => []) = feed c'.ne c'.np (c'.sops seq') s'.outs (fun _ => [])) :
    (∀ P, TabSpec.Grp s.t P ↔ TabSpec.Grp s'.t P) ∧ finalRecord c.nc s.writes = finalRecord c'.nc s'.writes := by
  refine ⟨flat_eq_compiled_tableau c c' hgood har hgood' har' hflat seq seq' hl hl' d d' script script' s s' h1 h2 hout, ?_⟩
  obtain ⟨hne, hnp⟩ := flat_counts hflat
  have r1 := stabRun_refines_record c hgood har seq d script s h1 (fun _ => [])
  have r2 := stabRun_refines_record c' hgood' har' seq' d' script' s' h2 (fun _ => [])
  rw [hne, hnp] at r2 hout
  have e := flat_eq_state_and_record c.ne c.np c c' hgood hthr hca hgood' hthr' hca' hcf hflat seq seq' hl hl'
    (CSt.init c.ne c.np (feed c.ne c.np (c.sops seq) s.outs (fun _ => [])))
  have e' := (runSeq_appC_val _ _ _ _).symm.trans ((congrArg Subtype.val e).trans (runSeq_appC_val _ _ _ _))
  have e3 : some (TabSpec.gstate s'.t, (fun _ => [] : Script), recOf s'.writes) =
      some (TabSpec.gstate s.t, (fun _ => [] : Script), recOf s.writes) := by
    rw [← r1, ← r2, ← hout]; exact e'
  simp only [Option.some.injEq, Prod.mk.injEq, true_and] at e3
  rw [finalRecord_eq, finalRecord_eq, e3.2, Wire.flat_nc hflat]

end Graphiq.Commute
