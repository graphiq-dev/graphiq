/-
  Proofs/StabTableau.lean — the stabilizer group of a tableau as a span (`Spn`, `SpanEq`, `Good`): the row operations of
  stabilizer.py (row swap, row sum, pivot-clearing sweeps, tabulation) keep it, hence so does `canonical_form`
  (`canonicalForm_spanEq`, through the inversions `canonStepXY_cases`, `canonStepZ_cases`, `canonicalForm_ok_iff` of its two
  loops); `_process_two_pauli` and `one_step_rref` inverted (`processTwo_unfold`, `oneStepRref_cases`); the
  stabilizer half `ofTab t` of a Clifford tableau.
-/
import GraphiqModel.Model.StabTableau
import GraphiqModel.Proofs.PauliSpan
import GraphiqModel.Proofs.Loop
namespace Graphiq
open PRow Tab

namespace STab

/-- membership in the signed group generated by the rows of `t` -/
def Spn (t : STab) (a : PRow) : Prop := InSpan t.n t.n t.row a

/-- real, mutually commuting generators -/
structure Good (t : STab) : Prop where
  real : ∀ i, i < t.n → (t.row i).ip = false
  comm : ∀ i k, i < t.n → k < t.n → sp t.n (t.row i) (t.row k) = false

theorem good_of_check (t : STab)
    (h : (List.range t.n).all (fun i => (t.row i).ip == false &&
      (List.range t.n).all fun k => PRow.sp t.n (t.row i) (t.row k) == false) = true) : t.Good := by
  simp only [List.all_eq_true, List.mem_range, Bool.and_eq_true, beq_iff_eq] at h
  exact ⟨fun i hi => (h i hi).1, fun i k hi hk => (h i hi).2 k hk⟩

/-- same signed group -/
structure SpanEq (t t' : STab) : Prop where
  n_eq : t.n = t'.n
  sub : ∀ a, t.Spn a → t'.Spn a
  sup : ∀ a, t'.Spn a → t.Spn a

theorem SpanEq.refl (t : STab) : SpanEq t t := ⟨rfl, fun _ h => h, fun _ h => h⟩
theorem SpanEq.symm {t t' : STab} (h : SpanEq t t') : SpanEq t' t := ⟨h.n_eq.symm, h.sup, h.sub⟩
theorem SpanEq.trans {a b c : STab} (h1 : SpanEq a b) (h2 : SpanEq b c) : SpanEq a c :=
  ⟨h1.n_eq.trans h2.n_eq, fun x hx => h2.sub x (h1.sub x hx), fun x hx => h1.sup x (h2.sup x hx)⟩

theorem span_le_of_gens (t t' : STab) (hn : t'.n = t.n) (hg : ∀ i, i < t'.n → t.Spn (t'.row i)) :
    ∀ a, t'.Spn a → t.Spn a :=
  fun _ ha => InSpan.least (hn ▸ InSpan.closed t.n t.n t.row) hg ha

theorem spanEq_of_gens (t t' : STab) (hn : t'.n = t.n) (h1 : ∀ i, i < t'.n → t.Spn (t'.row i))
    (h2 : ∀ i, i < t.n → t'.Spn (t.row i)) : SpanEq t t' :=
  ⟨hn.symm, span_le_of_gens t' t hn.symm h2, span_le_of_gens t t' hn h1⟩

theorem spn_gen (t : STab) (i : Nat) (hi : i < t.n) : t.Spn (t.row i) := InSpan.gen i hi

theorem SpanEq.iff {a b : STab} (h : SpanEq a b) (p : PRow) : a.Spn p ↔ b.Spn p := ⟨h.sub p, h.sup p⟩

theorem SpanEq.of_iff {a b : STab} (hn : a.n = b.n) (h : ∀ p, a.Spn p ↔ b.Spn p) : SpanEq a b :=
  ⟨hn, fun p => (h p).1, fun p => (h p).2⟩

theorem _root_.Graphiq.spanEq_of_rows (T U : STab) (hn : T.n = U.n) (h : ∀ i, i < T.n → EqOn T.n (T.row i) (U.row i)) :
    SpanEq T U :=
  spanEq_of_gens T U hn.symm (fun i hi => InSpan.eqv _ _ (spn_gen T i (hn ▸ hi)) (h i (hn ▸ hi)))
    (fun i hi => InSpan.eqv _ _ (spn_gen U i (hn ▸ hi)) (hn ▸ (h i hi).symm))

/-! ### tabulation does not change rows (below the sizes) -/

theorem norm_spanEq (t : STab) : SpanEq t t.norm := by
  apply spanEq_of_gens t t.norm rfl
  · intro i hi
    exact InSpan.eqv _ _ (spn_gen t i hi) (norm_row t i hi).symm
  · intro i hi
    exact InSpan.eqv _ _ (spn_gen t.norm i hi) (norm_row t i hi)

theorem good_of_eqOn (t t' : STab) (hn : t'.n = t.n) (he : ∀ i, i < t.n → EqOn t.n (t'.row i) (t.row i))
    (hg : t.Good) : t'.Good := by
  constructor
  · intro i hi; rw [(he i (hn ▸ hi)).2.2]; exact hg.real i (hn ▸ hi)
  · intro i k hi hk
    rw [hn, sp_eqOn _ _ _ _ _ (he i (hn ▸ hi)) (he k (hn ▸ hk))]
    exact hg.comm i k (hn ▸ hi) (hn ▸ hk)

theorem norm_good (t : STab) (hg : t.Good) : t.norm.Good :=
  good_of_eqOn t t.norm rfl (fun i hi => norm_row t i hi) hg

theorem runCircuit_n (t : STab) (c : List Gate) : (t.runCircuit c).n = t.n := by
  induction c generalizing t with
  | nil => rfl
  | cons g rest ih => simp only [runCircuit, List.foldl]; exact ih _

/-! ### row swap -/

theorem rowSwap_spanEq (t : STab) (a b : Nat) (ha : a < t.n) (hb : b < t.n) : SpanEq t (t.rowSwap a b) := by
  apply spanEq_of_gens t (t.rowSwap a b) rfl
  · intro i hi
    simp only [rowSwap]
    split
    · exact spn_gen t b hb
    · split
      · exact spn_gen t a ha
      · exact spn_gen t i hi
  · intro i hi
    by_cases h1 : i = a
    · subst h1
      have : (t.rowSwap i b).row b = t.row i := by
        simp only [rowSwap]; by_cases e : b = i <;> simp [e]
      rw [← this]; exact spn_gen (t.rowSwap i b) b hb
    · by_cases h2 : i = b
      · subst h2
        have : (t.rowSwap a i).row a = t.row i := by simp [rowSwap]
        rw [← this]; exact spn_gen (t.rowSwap a i) a ha
      · have : (t.rowSwap a b).row i = t.row i := by simp [rowSwap, h1, h2]
        rw [← this]; exact spn_gen (t.rowSwap a b) i hi

theorem rowSwap_good (t : STab) (a b : Nat) (ha : a < t.n) (hb : b < t.n) (hg : t.Good) : (t.rowSwap a b).Good := by
  have src : ∀ i, i < t.n → ∃ k, k < t.n ∧ (t.rowSwap a b).row i = t.row k := by
    intro i hi
    simp only [rowSwap]
    split
    · exact ⟨b, hb, rfl⟩
    · split
      · exact ⟨a, ha, rfl⟩
      · exact ⟨i, hi, rfl⟩
  constructor
  · intro i hi
    obtain ⟨k, hk, e⟩ := src i hi
    rw [e]; exact hg.real k hk
  · intro i k hi hk
    obtain ⟨i', hi', e1⟩ := src i hi
    obtain ⟨k', hk', e2⟩ := src k hk
    show sp t.n _ _ = false
    rw [e1, e2]; exact hg.comm i' k' hi' hk'

/-! ### row sum -/

theorem with_ip_false (a : PRow) (h : a.ip = false) : { a with ip := false } = a := by
  cases a; simp at h; simp [h]

/-- on real commuting rows `tab_row_sum`'s product is the group product -/
theorem stabMul_eq (n : Nat) (a b : PRow) (ha : a.ip = false) (hb : b.ip = false) (hc : sp n a b = false) :
    stabMul n a b = PRow.mul n a b := by
  unfold stabMul
  simp only [with_ip_false a ha, with_ip_false b hb]
  exact with_ip_false _ (mul_real n a b ha hb hc)

theorem sp_one_left (n : Nat) (b : PRow) : sp n PRow.one b = false := PRow.sp_one_left n b

theorem spn_comm_gens (t : STab) (hg : t.Good) (a : PRow) (ha : t.Spn a) :
    ∀ k, k < t.n → sp t.n a (t.row k) = false := fun k hk =>
  InSpan.least (commutant_closed t.n fun b => ∃ k, k < t.n ∧ b = t.row k)
    (fun i hi _ ⟨k, hk, e⟩ => e ▸ hg.comm i k hi hk) ha _ ⟨k, hk, rfl⟩

theorem spn_comm (t : STab) (hg : t.Good) (a b : PRow) (ha : t.Spn a) (hb : t.Spn b) : sp t.n a b = false := by
  rw [sp_comm]
  exact InSpan.least (commutant_closed t.n t.Spn)
    (fun i hi a ha => by rw [sp_comm]; exact spn_comm_gens t hg a ha i hi) hb a ha

theorem spn_real (t : STab) (hg : t.Good) (a : PRow) (ha : t.Spn a) : a.ip = false := by
  have ha0 := ha
  unfold Spn at ha
  induction ha with
  | one => rfl
  | gen i hi => exact hg.real i hi
  | mul a b ha' hb' iha ihb =>
    exact mul_real _ a b (iha ha') (ihb hb') (spn_comm t hg a b ha' hb')
  | eqv a b ha' hab iha => rw [← hab.2.2]; exact iha ha'

theorem rowSum_good (t : STab) (add tgt : Nat) (ha : add < t.n) (ht : tgt < t.n) (hg : t.Good) :
    (t.rowSum add tgt).Good := by
  have e : stabMul t.n (t.row add) (t.row tgt) = PRow.mul t.n (t.row add) (t.row tgt) :=
    stabMul_eq _ _ _ (hg.real add ha) (hg.real tgt ht) (hg.comm add tgt ha ht)
  have row : ∀ i, (t.rowSum add tgt).row i = if i = tgt then PRow.mul t.n (t.row add) (t.row tgt) else t.row i := by
    intro i; simp only [rowSum, upd, e]
  constructor
  · intro i hi
    rw [row i]; split
    · exact mul_real _ _ _ (hg.real add ha) (hg.real tgt ht) (hg.comm add tgt ha ht)
    · exact hg.real i hi
  · intro i k hi hk
    show sp t.n _ _ = false
    rw [row i, row k]
    split <;> split
    · exact sp_self _ _
    · rw [sp_mul_left, hg.comm add k ha hk, hg.comm tgt k ht hk]; rfl
    · rw [sp_mul_right, hg.comm i add hi ha, hg.comm i tgt hi ht]; rfl
    · exact hg.comm i k hi hk

/-! ### a pivot-clearing sweep: every selected row (other than the pivot) is multiplied by the pivot row -/

theorem sweep_row (t : STab) (pr : Nat) (sel : Nat → Bool) (hp : pr < t.n) (hg : t.Good) (m : Nat) (hm : m < t.n) :
    (t.sweep pr sel).row m = if m ≠ pr ∧ sel m then PRow.mul t.n (t.row pr) (t.row m) else t.row m := by
  simp only [sweep]
  split
  · exact stabMul_eq _ _ _ (hg.real pr hp) (hg.real m hm) (hg.comm pr m hp hm)
  · rfl

theorem sweep_spanEq (t : STab) (pr : Nat) (sel : Nat → Bool) (hp : pr < t.n) (hg : t.Good) : SpanEq t (t.sweep pr sel) := by
  have rp : (t.sweep pr sel).row pr = t.row pr := by simp [sweep]
  apply spanEq_of_gens t (t.sweep pr sel) rfl
  · intro i hi
    rw [sweep_row t pr sel hp hg i hi]
    split
    · exact InSpan.mul _ _ (spn_gen t pr hp) (spn_gen t i hi)
    · exact spn_gen t i hi
  · intro i hi
    by_cases h : i ≠ pr ∧ sel i
    · have ri : (t.sweep pr sel).row i = PRow.mul t.n (t.row pr) (t.row i) := by
        rw [sweep_row t pr sel hp hg i hi]; simp [h]
      have g1 : (t.sweep pr sel).Spn (t.row pr) := by rw [← rp]; exact spn_gen (t.sweep pr sel) pr hp
      have g2 : (t.sweep pr sel).Spn (PRow.mul t.n (t.row pr) (t.row i)) := by
        rw [← ri]; exact spn_gen (t.sweep pr sel) i hi
      have g3 := InSpan.mul _ _ g1 g2
      have n_eq : (t.sweep pr sel).n = t.n := rfl
      rw [n_eq] at g3
      refine InSpan.eqv _ _ g3 ?_
      exact mul_cancel_left t.n _ _ (hg.real pr hp)
    · have ri : (t.sweep pr sel).row i = t.row i := by
        rw [sweep_row t pr sel hp hg i hi]; simp [h]
      rw [← ri]; exact spn_gen (t.sweep pr sel) i hi

theorem rowSum_eq_sweep (t : STab) (add tgt : Nat) (hne : add ≠ tgt) :
    t.rowSum add tgt = t.sweep add (fun m => decide (m = tgt)) := by
  unfold rowSum sweep upd
  congr 1
  funext i
  by_cases h : i = tgt
  · subst h; simp [Ne.symm hne]
  · simp [h]

/-- `tab_row_sum(t, add, target)` (distinct rows) keeps the signed group -/
theorem rowSum_spanEq (t : STab) (add tgt : Nat) (ha : add < t.n) (_ht : tgt < t.n) (hne : add ≠ tgt) (hg : t.Good) :
    SpanEq t (t.rowSum add tgt) := by
  rw [rowSum_eq_sweep t add tgt hne]; exact sweep_spanEq t add _ ha hg

theorem sweep_good (t : STab) (pr : Nat) (sel : Nat → Bool) (hp : pr < t.n) (hg : t.Good) : (t.sweep pr sel).Good := by
  have inS : ∀ i, i < t.n → t.Spn ((t.sweep pr sel).row i) := by
    intro i hi
    rw [sweep_row t pr sel hp hg i hi]
    split
    · exact InSpan.mul _ _ (spn_gen t pr hp) (spn_gen t i hi)
    · exact spn_gen t i hi
  constructor
  · intro i hi; exact spn_real t hg _ (inS i hi)
  · intro i k hi hk; exact spn_comm t hg _ _ (inS i hi) (inS k hk)

/-! ### `canonical_form` keeps the signed group -/

theorem mem_typeFinder (t : STab) (pr pc f : Nat) :
    (f ∈ (t.pauliTypeFinder pr pc).1 ∨ f ∈ (t.pauliTypeFinder pr pc).2.1 ∨ f ∈ (t.pauliTypeFinder pr pc).2.2) →
    pr ≤ f ∧ f < t.n := by
  simp only [pauliTypeFinder, List.mem_filter, List.mem_range, decide_eq_true_eq]
  intro h
  rcases h with h | h | h <;> exact ⟨h.1.2, h.1.1⟩

/-- swap the pivot into place, tabulate, sweep, tabulate (the body of both loops of `canonical_form`) -/
def pivotStep (t : STab) (pr f : Nat) (sel : STab → Nat → Bool) : STab :=
  ((t.rowSwap pr f).norm.sweep pr (sel (t.rowSwap pr f).norm)).norm

theorem pivotStep_inv (t : STab) (pr f : Nat) (sel : STab → Nat → Bool) (hpr : pr ≤ f) (hf : f < t.n) (hg : t.Good) :
    SpanEq t (pivotStep t pr f sel) ∧ (pivotStep t pr f sel).Good := by
  have hp : pr < t.n := by omega
  have s1 := rowSwap_spanEq t pr f hp hf
  have g1 := rowSwap_good t pr f hp hf hg
  have s2 := norm_spanEq (t.rowSwap pr f)
  have g2 := norm_good _ g1
  have hp2 : pr < (t.rowSwap pr f).norm.n := hp
  have s3 := sweep_spanEq _ pr (sel (t.rowSwap pr f).norm) hp2 g2
  have g3 := sweep_good _ pr (sel (t.rowSwap pr f).norm) hp2 g2
  exact ⟨((s1.trans s2).trans s3).trans (norm_spanEq _), norm_good _ g3⟩

theorem ptype_x (t : STab) (i j : Nat) : (t.ptype i j = 1 ∨ t.ptype i j = 2) ↔ (t.row i).x j = true := by
  unfold ptype
  cases (t.row i).x j <;> cases (t.row i).z j <;> simp

theorem ptype_z (t : STab) (i j : Nat) : t.ptype i j = 3 ↔ ((t.row i).x j = false ∧ (t.row i).z j = true) := by
  unfold ptype
  cases (t.row i).x j <;> cases (t.row i).z j <;> simp

theorem mem_xs (t : STab) (pr j m : Nat) :
    m ∈ (t.pauliTypeFinder pr j).1 ↔ (pr ≤ m ∧ m < t.n ∧ t.ptype m j = 1) := by
  simp only [pauliTypeFinder, List.mem_filter, List.mem_range, decide_eq_true_eq]
  constructor
  · intro h; exact ⟨h.1.2, h.1.1, h.2⟩
  · intro h; exact ⟨⟨h.2.1, h.1⟩, h.2.2⟩

theorem mem_ys (t : STab) (pr j m : Nat) :
    m ∈ (t.pauliTypeFinder pr j).2.1 ↔ (pr ≤ m ∧ m < t.n ∧ t.ptype m j = 2) := by
  simp only [pauliTypeFinder, List.mem_filter, List.mem_range, decide_eq_true_eq]
  constructor
  · intro h; exact ⟨h.1.2, h.1.1, h.2⟩
  · intro h; exact ⟨⟨h.2.1, h.1⟩, h.2.2⟩

theorem mem_zs (t : STab) (pr j m : Nat) :
    m ∈ t.zTypeFinder pr j ↔ (pr ≤ m ∧ m < t.n ∧ t.ptype m j = 3) := by
  simp only [zTypeFinder, List.mem_filter, List.mem_range, decide_eq_true_eq]
  constructor
  · intro h; exact ⟨h.1.2, h.1.1, h.2⟩
  · intro h; exact ⟨⟨h.2.1, h.1⟩, h.2.2⟩

/-- first loop, one column: either no row from `pr` on has an x-bit in column `j` and nothing happens, or a row `f ≥ pr`
    with x-bit 1 is made the pivot -/
theorem canonStepXY_cases (t : STab) (pr j : Nat) :
    (t.canonStepXY pr j = (t, pr) ∧ ∀ m, pr ≤ m → m < t.n → (t.row m).x j = false) ∨
    (∃ f, pr ≤ f ∧ f < t.n ∧ (t.row f).x j = true ∧
      t.canonStepXY pr j = (pivotStep t pr f (fun t1 m => (t1.row m).x j), pr + 1)) := by
  have hxs := mem_xs t pr j
  have hys := mem_ys t pr j
  unfold canonStepXY
  generalize t.pauliTypeFinder pr j = ft at hxs hys
  obtain ⟨xs, ys, zs⟩ := ft
  simp only at hxs hys ⊢
  split
  · next hnone =>
    left
    refine ⟨rfl, fun m h1 h2 => ?_⟩
    have exs : xs = [] := by
      cases xs with
      | nil => rfl
      | cons a l => simp at hnone
    have eys : ys = [] := by
      subst exs
      cases ys with
      | nil => rfl
      | cons a l => simp at hnone
    cases hx : (t.row m).x j
    · rfl
    · rcases (ptype_x t m j).2 hx with h | h
      · have := (hxs m).2 ⟨h1, h2, h⟩; rw [exs] at this; cases this
      · have := (hys m).2 ⟨h1, h2, h⟩; rw [eys] at this; cases this
  · next f hf =>
    right
    have hmem : f ∈ xs ∨ f ∈ ys := by
      by_cases hx : xs.isEmpty
      · simp [hx] at hf; exact Or.inr (List.mem_of_mem_head? hf)
      · simp [hx] at hf; exact Or.inl (List.mem_of_mem_head? hf)
    refine ⟨f, ?_, ?_, ?_, rfl⟩
    · rcases hmem with h | h
      · exact ((hxs f).1 h).1
      · exact ((hys f).1 h).1
    · rcases hmem with h | h
      · exact ((hxs f).1 h).2.1
      · exact ((hys f).1 h).2.1
    · rcases hmem with h | h
      · exact (ptype_x t f j).1 (Or.inl ((hxs f).1 h).2.2)
      · exact (ptype_x t f j).1 (Or.inr ((hys f).1 h).2.2)

theorem canonStepZ_cases (t : STab) (pr j : Nat) :
    (t.canonStepZ pr j = (t, pr) ∧ ∀ m, pr ≤ m → m < t.n → ¬ ((t.row m).x j = false ∧ (t.row m).z j = true)) ∨
    (∃ f, pr ≤ f ∧ f < t.n ∧ (t.row f).x j = false ∧ (t.row f).z j = true ∧
      t.canonStepZ pr j = (pivotStep t pr f (fun t1 m => (t1.row m).z j), pr + 1)) := by
  have hzs := mem_zs t pr j
  unfold canonStepZ
  generalize t.zTypeFinder pr j = zs at hzs
  split
  · next hnone =>
    left
    refine ⟨rfl, fun m h1 h2 hc => ?_⟩
    have ezs : zs = [] := by
      cases zs with
      | nil => rfl
      | cons a l => simp at hnone
    have := (hzs m).2 ⟨h1, h2, (ptype_z t m j).2 hc⟩
    rw [ezs] at this; cases this
  · next f hf =>
    right
    have hm := (hzs f).1 (List.mem_of_mem_head? hf)
    have := (ptype_z t f j).1 hm.2.2
    exact ⟨f, hm.1, hm.2.1, this.1, this.2, rfl⟩

theorem canonicalForm_ok_iff (t c : STab) : t.canonicalForm = .ok c ↔ t.canonLoops.2 = t.n ∧ t.canonLoops.1 = c := by
  unfold canonicalForm
  split
  · next h =>
    constructor
    · intro e; injection e with e; exact ⟨h, e⟩
    · intro e; rw [e.2]
  · next h =>
    constructor
    · intro e; cases e
    · intro e; exact absurd e.1 h

theorem canonStepXY_inv (t : STab) (pr j : Nat) (hg : t.Good) :
    SpanEq t (t.canonStepXY pr j).1 ∧ (t.canonStepXY pr j).1.Good := by
  rcases canonStepXY_cases t pr j with ⟨e, _⟩ | ⟨f, h1, h2, _, e⟩
  · rw [e]; exact ⟨SpanEq.refl t, hg⟩
  · rw [e]; exact pivotStep_inv t pr f (fun t1 m => (t1.row m).x j) h1 h2 hg

theorem canonStepZ_inv (t : STab) (pr j : Nat) (hg : t.Good) :
    SpanEq t (t.canonStepZ pr j).1 ∧ (t.canonStepZ pr j).1.Good := by
  rcases canonStepZ_cases t pr j with ⟨e, _⟩ | ⟨f, h1, h2, _, _, e⟩
  · rw [e]; exact ⟨SpanEq.refl t, hg⟩
  · rw [e]; exact pivotStep_inv t pr f (fun t1 m => (t1.row m).z j) h1 h2 hg

theorem canonLoops_inv (t : STab) (hg : t.Good) : SpanEq t t.canonLoops.1 ∧ t.canonLoops.1.Good := by
  unfold canonLoops
  have i1 := Loop.foldl_inv (l := List.range t.n) (fun acc : STab × Nat => SpanEq t acc.1 ∧ acc.1.Good)
    (fun acc j _ h => ⟨h.1.trans (canonStepXY_inv acc.1 acc.2 j h.2).1, (canonStepXY_inv acc.1 acc.2 j h.2).2⟩)
    (s := (t, 0)) ⟨SpanEq.refl t, hg⟩
  exact Loop.foldl_inv (fun acc : STab × Nat => SpanEq t acc.1 ∧ acc.1.Good)
    (fun acc j _ h => ⟨h.1.trans (canonStepZ_inv acc.1 acc.2 j h.2).1, (canonStepZ_inv acc.1 acc.2 j h.2).2⟩) i1

/-- **`canonical_form` preserves the state**: whenever it returns, the result generates the same signed group
    (and is again a real commuting generating set) -/
theorem canonicalForm_spanEq (t t' : STab) (hg : t.Good) (h : t.canonicalForm = .ok t') : SpanEq t t' ∧ t'.Good := by
  rw [← ((canonicalForm_ok_iff t t').1 h).2]
  exact canonLoops_inv t hg

/-! ### the steps of `rref`, inverted -/

theorem mem_pickType (t : STab) (pr pc ty f : Nat) (h : f ∈ t.pickType pr pc ty) : pr ≤ f ∧ f < t.n := by
  unfold pickType at h
  apply mem_typeFinder t pr pc f
  split at h
  · exact Or.inl h
  · split at h
    · exact Or.inr (Or.inl h)
    · exact Or.inr (Or.inr h)

theorem foldl_rowSum_n (pr : Nat) (l : List Nat) (t : STab) : (l.foldl (fun acc i => acc.rowSum pr i) t).n = t.n := by
  induction l generalizing t with
  | nil => rfl
  | cons x rest ih => simp only [List.foldl]; rw [ih]; rfl

/-- the shape of a successful `_process_two_pauli`: two row swaps bring the first rows of the two Pauli types to `pr`, `pr+1`
    (tableau `T2`), then two elimination loops -/
theorem processTwo_unfold (t t' : STab) (pr pc ty1 ty2 : Nat) (hr : t.processTwo pr pc ty1 ty2 = some t') :
    ∃ f1 f2 l1 l2, pr ≤ f1 ∧ f1 < t.n ∧ pr ≤ f2 ∧ f2 < t.n ∧ pr + 1 < t.n ∧
      (((t.rowSwap pr f1).norm.rowSwap (pr + 1) f2).norm).pickType pr pc ty1 = pr :: l1 ∧
      (((t.rowSwap pr f1).norm.rowSwap (pr + 1) f2).norm).pickType pr pc ty2 = (pr + 1) :: l2 ∧
      t' = (l2.foldl (fun acc i => acc.rowSum (pr + 1) i)
              (l1.foldl (fun acc i => acc.rowSum pr i) (((t.rowSwap pr f1).norm.rowSwap (pr + 1) f2).norm))).norm := by
  unfold processTwo at hr
  split at hr
  · cases hr
  · next f1 r1 e1 =>
    have b1 := mem_pickType t pr pc ty1 f1 (by rw [e1]; exact List.mem_cons_self)
    simp only at hr
    split at hr
    · cases hr
    · next f2 r2 e2 =>
      have b2 := mem_pickType _ pr pc ty2 f2 (by rw [e2]; exact List.mem_cons_self)
      split at hr
      · next hp1 =>
        split at hr
        · next a l1 b l2 ea eb =>
          split at hr
          · next hab =>
            injection hr with hr
            obtain ⟨ha, hb⟩ := hab
            subst ha; subst hb
            exact ⟨f1, f2, l1, l2, b1.1, b1.2, b2.1, b2.2, hp1, ea, eb, hr.symm⟩
          · cases hr
        · cases hr
      · cases hr

theorem processTwo_n (t t' : STab) (pr pc ty1 ty2 : Nat) (hr : t.processTwo pr pc ty1 ty2 = some t') :
    t'.n = t.n ∧ pr + 1 < t.n := by
  obtain ⟨f1, f2, l1, l2, _, _, _, _, hp1, _, _, rfl⟩ := processTwo_unfold t t' pr pc ty1 ty2 hr
  refine ⟨?_, hp1⟩
  show (STab.norm _).n = t.n
  rw [norm_n, foldl_rowSum_n, foldl_rowSum_n]; rfl

theorem pickType_1 (t : STab) (pr pc : Nat) : t.pickType pr pc 1 = (t.pauliTypeFinder pr pc).1 := by simp [pickType]
theorem pickType_2 (t : STab) (pr pc : Nat) : t.pickType pr pc 2 = (t.pauliTypeFinder pr pc).2.1 := by simp [pickType]
theorem pickType_3 (t : STab) (pr pc : Nat) : t.pickType pr pc 3 = (t.pauliTypeFinder pr pc).2.2 := by simp [pickType]

/-- the four things `one_step_rref` can do at pivot `[pr, pc]`, by which Pauli types occur in column `pc` from row `pr` on:
    nothing; one type, `processOne`; two types `ty1`, `ty2`, `processTwo`; all three, `processTwo` on x and z and then both
    pivot rows multiplied onto the remaining y rows -/
theorem oneStepRref_cases (t t' : STab) (pr pc pr' pc' : Nat) (b : String)
    (hr : t.oneStepRref pr pc = some (t', pr', pc', b)) :
    pc' = pc + 1 ∧
    ((t' = t ∧ pr' = pr ∧ t.pickType pr pc 1 = [] ∧ t.pickType pr pc 2 = [] ∧ t.pickType pr pc 3 = []) ∨
     (∃ ty, (ty = 1 ∨ ty = 2 ∨ ty = 3) ∧ t.pickType pr pc ty ≠ [] ∧
        ((1 ≠ ty → t.pickType pr pc 1 = []) ∧ (2 ≠ ty → t.pickType pr pc 2 = []) ∧ (3 ≠ ty → t.pickType pr pc 3 = [])) ∧
        t' = t.processOne pr (t.pickType pr pc ty) ∧ pr' = pr + 1) ∨
     (∃ ty1 ty2 ty3, ((ty1 = 2 ∧ ty2 = 3 ∧ ty3 = 1) ∨ (ty1 = 1 ∧ ty2 = 3 ∧ ty3 = 2) ∨ (ty1 = 1 ∧ ty2 = 2 ∧ ty3 = 3)) ∧
        t.pickType pr pc ty3 = [] ∧ t.processTwo pr pc ty1 ty2 = some t' ∧ pr' = pr + 2) ∨
     (∃ t1, t.processTwo pr pc 1 3 = some t1 ∧
        t' = ((t1.pickType pr pc 2).foldl (fun acc k => (acc.rowSum pr k).rowSum (pr + 1) k) t1).norm ∧ pr' = pr + 2)) := by
  unfold oneStepRref at hr
  have ex : (t.pauliTypeFinder pr pc).1 = t.pickType pr pc 1 := (pickType_1 t pr pc).symm
  have ey : (t.pauliTypeFinder pr pc).2.1 = t.pickType pr pc 2 := (pickType_2 t pr pc).symm
  have ez : (t.pauliTypeFinder pr pc).2.2 = t.pickType pr pc 3 := (pickType_3 t pr pc).symm
  generalize t.pauliTypeFinder pr pc = ft at hr ex ey ez
  obtain ⟨xs, ys, zs⟩ := ft
  simp only at hr ex ey ez
  subst ex; subst ey; subst ez
  by_cases c0 : ((t.pickType pr pc 1).isEmpty && (t.pickType pr pc 2).isEmpty && (t.pickType pr pc 3).isEmpty) = true
  · rw [if_pos c0] at hr
    simp only [Bool.and_eq_true, List.isEmpty_iff] at c0
    simp only [Option.some.injEq, Prod.mk.injEq] at hr
    obtain ⟨rfl, rfl, rfl, _⟩ := hr
    exact ⟨rfl, Or.inl ⟨rfl, rfl, c0.1.1, c0.1.2, c0.2⟩⟩
  rw [if_neg c0] at hr
  by_cases c1 : (!(t.pickType pr pc 1).isEmpty && (t.pickType pr pc 2).isEmpty && (t.pickType pr pc 3).isEmpty) = true
  · rw [if_pos c1] at hr
    simp only [Bool.and_eq_true, List.isEmpty_iff, Bool.not_eq_true', List.isEmpty_eq_false_iff] at c1
    simp only [Option.some.injEq, Prod.mk.injEq] at hr
    obtain ⟨rfl, rfl, rfl, _⟩ := hr
    exact ⟨rfl, Or.inr (Or.inl ⟨1, Or.inl rfl, c1.1.1, ⟨fun h => absurd rfl h, fun _ => c1.1.2, fun _ => c1.2⟩, rfl, rfl⟩)⟩
  rw [if_neg c1] at hr
  by_cases c2 : (!(t.pickType pr pc 2).isEmpty && (t.pickType pr pc 1).isEmpty && (t.pickType pr pc 3).isEmpty) = true
  · rw [if_pos c2] at hr
    simp only [Bool.and_eq_true, List.isEmpty_iff, Bool.not_eq_true', List.isEmpty_eq_false_iff] at c2
    simp only [Option.some.injEq, Prod.mk.injEq] at hr
    obtain ⟨rfl, rfl, rfl, _⟩ := hr
    exact ⟨rfl, Or.inr (Or.inl ⟨2, Or.inr (Or.inl rfl), c2.1.1, ⟨fun _ => c2.1.2, fun h => absurd rfl h, fun _ => c2.2⟩, rfl, rfl⟩)⟩
  rw [if_neg c2] at hr
  by_cases c3 : (!(t.pickType pr pc 3).isEmpty && (t.pickType pr pc 1).isEmpty && (t.pickType pr pc 2).isEmpty) = true
  · rw [if_pos c3] at hr
    simp only [Bool.and_eq_true, List.isEmpty_iff, Bool.not_eq_true', List.isEmpty_eq_false_iff] at c3
    simp only [Option.some.injEq, Prod.mk.injEq] at hr
    obtain ⟨rfl, rfl, rfl, _⟩ := hr
    exact ⟨rfl, Or.inr (Or.inl ⟨3, Or.inr (Or.inr rfl), c3.1.1, ⟨fun _ => c3.1.2, fun _ => c3.2, fun h => absurd rfl h⟩, rfl, rfl⟩)⟩
  rw [if_neg c3] at hr
  by_cases c4 : (t.pickType pr pc 1).isEmpty = true
  · rw [if_pos c4] at hr
    simp only [Option.map_eq_some_iff, Prod.mk.injEq] at hr
    obtain ⟨t2, hpt, rfl, rfl, rfl, _⟩ := hr
    exact ⟨rfl, Or.inr (Or.inr (Or.inl ⟨2, 3, 1, Or.inl ⟨rfl, rfl, rfl⟩, List.isEmpty_iff.mp c4, hpt, rfl⟩))⟩
  rw [if_neg c4] at hr
  by_cases c5 : (t.pickType pr pc 2).isEmpty = true
  · rw [if_pos c5] at hr
    simp only [Option.map_eq_some_iff, Prod.mk.injEq] at hr
    obtain ⟨t2, hpt, rfl, rfl, rfl, _⟩ := hr
    exact ⟨rfl, Or.inr (Or.inr (Or.inl ⟨1, 3, 2, Or.inr (Or.inl ⟨rfl, rfl, rfl⟩), List.isEmpty_iff.mp c5, hpt, rfl⟩))⟩
  rw [if_neg c5] at hr
  by_cases c6 : (t.pickType pr pc 3).isEmpty = true
  · rw [if_pos c6] at hr
    simp only [Option.map_eq_some_iff, Prod.mk.injEq] at hr
    obtain ⟨t2, hpt, rfl, rfl, rfl, _⟩ := hr
    exact ⟨rfl, Or.inr (Or.inr (Or.inl ⟨1, 2, 3, Or.inr (Or.inr ⟨rfl, rfl, rfl⟩), List.isEmpty_iff.mp c6, hpt, rfl⟩))⟩
  rw [if_neg c6] at hr
  cases hpt : t.processTwo pr pc 1 3 with
  | none => rw [hpt] at hr; cases hr
  | some t1 =>
    rw [hpt] at hr
    simp only [Option.some.injEq, Prod.mk.injEq] at hr
    obtain ⟨rfl, rfl, rfl, _⟩ := hr
    exact ⟨rfl, Or.inr (Or.inr (Or.inr ⟨t1, rfl, by rw [pickType_2], rfl⟩))⟩

/-! ### the stabilizer half of a Clifford tableau -/

theorem ofTab_good (t : Tab) (hv : t.Valid) : (ofTab t).Good := by
  refine ⟨fun _ _ => rfl, fun i k hi hk => ?_⟩
  have hi' : i < t.n := hi
  have hk' : k < t.n := hk
  show sp t.n (t.row (i + t.n)) (t.row (k + t.n)) = false
  rw [hv (i + t.n) (k + t.n) (by omega) (by omega)]
  exact decide_eq_false (by omega)

theorem ofTab_row (t : Tab) (hr : t.StabReal) (i : Nat) (hi : i < t.n) : (ofTab t).row i = t.row (i + t.n) :=
  with_ip_false _ (hr (i + t.n) (by omega) (by omega))

theorem ofTab_spn_iff (t : Tab) (hr : t.StabReal) (a : PRow) : (ofTab t).Spn a ↔ InSpan t.n t.n t.stab a :=
  ⟨InSpan.congr_gens fun i hi => by rw [ofTab_row t hr i hi]; exact EqOn.refl _ _,
   InSpan.congr_gens fun i hi => by rw [ofTab_row t hr i hi]; exact EqOn.refl _ _⟩

end STab

theorem Gate.act_with_ip (g : Gate) (p : PRow) : g.act { p with ip := false } = { g.act p with ip := false } := by
  cases g <;> rfl

end Graphiq
