/-
  MetricsHistValidate.lean — the code's own structural check `CircuitDAG.validate()` (acyclic; every node without in-edges is an
  Input, every node without out-edges an Output) passes on every circuit satisfying DagInv (C12): the model's `validate`
  (Kahn-style `isAcyclicB` + source/sink scan) returns `none`.
-/
import GraphiqModel.Proofs.Topo
namespace Graphiq
namespace Dag
open Relation

theorem exists_min_of_ne_nil {α : Type} (f : α → Nat) : ∀ (l : List α), l ≠ [] → ∃ a ∈ l, ∀ b ∈ l, f a ≤ f b
  | [], h => absurd rfl h
  | [a], _ => ⟨a, by simp, by intro b hb; simp at hb; rw [hb]; exact Nat.le_refl _⟩
  | a :: b :: t, _ => by
    obtain ⟨m, hm, hmin⟩ := exists_min_of_ne_nil f (b :: t) (by simp)
    by_cases h : f a ≤ f m
    · refine ⟨a, by simp, ?_⟩
      intro x hx
      rcases List.mem_cons.mp hx with rfl | hx
      · exact Nat.le_refl _
      · exact Nat.le_trans h (hmin x hx)
    · refine ⟨m, List.mem_cons_of_mem _ hm, ?_⟩
      intro x hx
      rcases List.mem_cons.mp hx with rfl | hx
      · omega
      · exact hmin x hx

/-- the Kahn loop succeeds on a set of remaining nodes of an acyclic circuit when the remaining edges are exactly the edges whose
    source remains and the fuel is at least the number of remaining nodes -/
theorem kahn_go {c : Dag} {P : Paths} (g : Good c P) : ∀ (fuel : Nat) (ns : List NodeId) (es : List Edge),
    (∀ n ∈ ns, n ∈ c.nodeIds) → (∀ e, e ∈ es ↔ e ∈ c.edges ∧ e.src ∈ ns) → ns.length ≤ fuel →
    isAcyclicB.go fuel ns es = true := by
  intro fuel
  induction fuel with
  | zero =>
    intro ns es _ _ hlen
    have : ns = [] := List.length_eq_zero_iff.mp (by omega)
    subst this
    simp [isAcyclicB.go]
  | succ f ih =>
    intro ns es hns hes hlen
    unfold isAcyclicB.go
    simp only
    by_cases hne : ns = []
    · subst hne; simp
    · -- a remaining node of minimal position is free
      obtain ⟨m, hm, hmin⟩ := exists_min_of_ne_nil (topoPos c) ns hne
      have hmfree : m ∈ ns.filter (fun n => !(es.any fun e => e.dst = n)) := by
        apply List.mem_filter.mpr
        refine ⟨hm, ?_⟩
        simp only [Bool.not_eq_true', List.any_eq_false, decide_eq_true_eq]
        intro e he hd
        obtain ⟨hec, hsrc⟩ := (hes e).mp he
        have hE : c.E e.src e.dst := ⟨e, hec, rfl, rfl⟩
        have hlt := topoPos_lt (E_nodes g.inv hE).1 (ancCount_lt g hE)
        have := hmin e.src hsrc
        rw [hd] at hlt
        omega
      have hfne : (ns.filter (fun n => !(es.any fun e => e.dst = n))).isEmpty = false := by
        cases hf : ns.filter (fun n => !(es.any fun e => e.dst = n)) with
        | nil => rw [hf] at hmfree; simp at hmfree
        | cons a t => rfl
      rw [hfne]
      simp only [Bool.false_eq_true, if_false]
      apply ih
      · intro n hn; exact hns n (List.mem_filter.mp hn).1
      · intro e
        rw [List.mem_filter, hes e]
        constructor
        · rintro ⟨⟨h1, h2⟩, h3⟩
          refine ⟨h1, List.mem_filter.mpr ⟨h2, h3⟩⟩
        · rintro ⟨h1, h2⟩
          obtain ⟨h3, h4⟩ := List.mem_filter.mp h2
          exact ⟨⟨h1, h3⟩, h4⟩
      · have hlt : (ns.filter (fun n => !(ns.filter (fun n => !(es.any fun e => e.dst = n))).contains n)).length < ns.length := by
          exact List.length_filter_lt_length_iff_exists.mpr ⟨m, hm, by simp [hmfree]⟩
        omega
theorem isAcyclicB_of_good {c : Dag} {P : Paths} (g : Good c P) : c.isAcyclicB = true := by
  unfold isAcyclicB
  apply kahn_go g
  · intro n hn; exact hn
  · intro e
    constructor
    · intro he; exact ⟨he, (g.inv.edge_nodes he).1⟩
    · intro h; exact h.1
  · simp [nodeIds]

theorem io_kind (k : Kind) (r : Reg) : (Op.io k r).kind = k := by
  unfold Op.io; cases r.ty <;> rfl

/-- **`validate()` passes on every circuit satisfying DagInv** -/
theorem validate_of_good {c : Dag} {P : Paths} (g : Good c P) : c.validate = none := by
  unfold validate
  rw [isAcyclicB_of_good g]
  simp only [Bool.not_true, Bool.false_eq_true, if_false]
  have hsrc : (c.nodes.any fun p => (c.inEdges p.1).isEmpty && decide (p.2.kind ≠ .input)) = false := by
    rw [List.any_eq_false]
    intro p hp
    simp only [Bool.and_eq_true, decide_eq_true_eq, not_and, not_not]
    intro hemp
    have hnoin : ∀ a, ¬ c.E a p.1 := by
      rintro a ⟨e, he, _, hd⟩
      have : e ∈ c.inEdges p.1 := by simp [inEdges, he, hd]
      rw [List.isEmpty_iff.mp hemp] at this; simp at this
    obtain ⟨r, hr⟩ := (g.source_iff (mem_nodeIds.mpr ⟨p.2, hp⟩)).mp hnoin
    have := g.inv.inp_op r p.2 (by rw [← hr]; exact hp)
    rw [this]; exact io_kind _ _
  have hsnk : (c.nodes.any fun p => (c.outEdges p.1).isEmpty && decide (p.2.kind ≠ .output)) = false := by
    rw [List.any_eq_false]
    intro p hp
    simp only [Bool.and_eq_true, decide_eq_true_eq, not_and, not_not]
    intro hemp
    have hnoout : ∀ b, ¬ c.E p.1 b := by
      rintro b ⟨e, he, hs, _⟩
      have : e ∈ c.outEdges p.1 := by simp [outEdges, he, hs]
      rw [List.isEmpty_iff.mp hemp] at this; simp at this
    obtain ⟨r, hr⟩ := (g.sink_iff (mem_nodeIds.mpr ⟨p.2, hp⟩)).mp hnoout
    have := g.inv.out_op r p.2 (by rw [← hr]; exact hp)
    rw [this]; exact io_kind _ _
  rw [hsrc, hsnk]
  rfl

end Dag
end Graphiq
