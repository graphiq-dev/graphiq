/-
  Proofs/CanonPivot.lean — the loop invariant of one elimination pass of `canonical_form` on an abstract bit matrix
  (`B m j` = the x-bit, resp. z-bit, of row `m` at column `j`): after the columns `< J` were processed and the pivots
  were put into the rows `lo ≤ i < pr`, the matrix is in *reduced echelon shape* on those rows.  No Mathlib.
-/
import GraphiqModel.Proofs.Bits
namespace Graphiq
namespace STab

/-- reduced echelon shape of the rows `lo ≤ i < pr` of the bit matrix `B` (size `n × n`), pivot columns `p i < J`:
    the pivot entry is 1, the pivot column is cleared in every other row of the whole matrix, the pivot is the leading
    entry of its row, pivot columns increase, and the rows from `pr` on vanish on the columns `< J`. -/
structure PInv (n : Nat) (B : Nat → Nat → Bool) (p : Nat → Nat) (lo pr J : Nat) : Prop where
  lo_le : lo ≤ pr
  pr_le : pr ≤ n
  piv_lt : ∀ i, lo ≤ i → i < pr → p i < J
  piv_one : ∀ i, lo ≤ i → i < pr → B i (p i) = true
  piv_clear : ∀ i m, lo ≤ i → i < pr → m < n → m ≠ i → B m (p i) = false
  lead : ∀ i j, lo ≤ i → i < pr → j < p i → B i j = false
  mono : ∀ i i', lo ≤ i → i < i' → i' < pr → p i < p i'
  below : ∀ m j, pr ≤ m → m < n → j < J → B m j = false

theorem PInv.init (n : Nat) (B : Nat → Nat → Bool) (p : Nat → Nat) (lo : Nat) (h : lo ≤ n) : PInv n B p lo lo 0 where
  lo_le := Nat.le_refl _
  pr_le := h
  piv_lt := fun i h1 h2 => by omega
  piv_one := fun i h1 h2 => by omega
  piv_clear := fun i m h1 h2 => by omega
  lead := fun i j h1 h2 => by omega
  mono := fun i i' h1 h2 h3 => by omega
  below := fun m j _ _ h => by omega

theorem PInv.col {n : Nat} {B : Nat → Nat → Bool} {p : Nat → Nat} {lo pr J : Nat} (h : PInv n B p lo pr J) {i m : Nat}
    (h1 : lo ≤ i) (h2 : i < pr) (hm : m < n) : B m (p i) = decide (m = i) := by
  by_cases e : m = i
  · rw [e, h.piv_one i h1 h2]; simp
  · rw [h.piv_clear i m h1 h2 hm e]; simp [e]

theorem PInv.congr {n : Nat} {B B' : Nat → Nat → Bool} {p : Nat → Nat} {lo pr J : Nat} (h : PInv n B p lo pr J)
    (hJ : J ≤ n) (e : ∀ m j, m < n → j < n → B' m j = B m j) : PInv n B' p lo pr J where
  lo_le := h.lo_le
  pr_le := h.pr_le
  piv_lt := h.piv_lt
  piv_one := fun i h1 h2 => by
    rw [e i (p i) (by have := h.pr_le; omega) (by have := h.piv_lt i h1 h2; omega)]; exact h.piv_one i h1 h2
  piv_clear := fun i m h1 h2 h3 h4 => by
    rw [e m (p i) h3 (by have := h.piv_lt i h1 h2; omega)]; exact h.piv_clear i m h1 h2 h3 h4
  lead := fun i j h1 h2 h3 => by
    rw [e i j (by have := h.pr_le; omega) (by have := h.piv_lt i h1 h2; omega)]; exact h.lead i j h1 h2 h3
  mono := h.mono
  below := fun m j h1 h2 h3 => by rw [e m j h2 (by omega)]; exact h.below m j h1 h2 h3

theorem PInv.skip {n : Nat} {B : Nat → Nat → Bool} {p : Nat → Nat} {lo pr J : Nat} (h : PInv n B p lo pr J)
    (h0 : ∀ m, pr ≤ m → m < n → B m J = false) : PInv n B p lo pr (J + 1) where
  lo_le := h.lo_le
  pr_le := h.pr_le
  piv_lt := fun i h1 h2 => Nat.lt_succ_of_lt (h.piv_lt i h1 h2)
  piv_one := h.piv_one
  piv_clear := h.piv_clear
  lead := h.lead
  mono := h.mono
  below := fun m j h1 h2 h3 => by
    by_cases hj : j = J
    · subst hj; exact h0 m h1 h2
    · exact h.below m j h1 h2 (by omega)

/-- the row permutation of `tab_row_swap(a, b)` -/
def swp (a b m : Nat) : Nat := if m = a then b else if m = b then a else m

theorem swp_left (a b : Nat) : swp a b a = b := by simp [swp]

theorem swp_lt (a b m : Nat) (h : m < a) (hb : a ≤ b) : swp a b m = m := by
  unfold swp
  have h1 : m ≠ a := by omega
  have h2 : m ≠ b := by omega
  simp [h1, h2]

theorem swp_ge (a b m : Nat) (h : a ≤ m) (hb : a ≤ b) : a ≤ swp a b m := by
  unfold swp; split
  · exact hb
  · split
    · exact Nat.le_refl _
    · exact h

theorem swp_bound (a b m n : Nat) (ha : a < n) (hb : b < n) (hm : m < n) : swp a b m < n := by
  unfold swp; split
  · exact hb
  · split
    · exact ha
    · exact hm

theorem swp_invol (a b m : Nat) : swp a b (swp a b m) = m := by
  unfold swp
  by_cases h1 : m = a
  · subst h1; by_cases h2 : b = m <;> simp [h2]
  · by_cases h2 : m = b
    · subst h2; simp [h1]
    · simp [h1, h2]

theorem swp_self (a m : Nat) : swp a a m = m := by
  unfold swp; split
  · next h => exact h.symm
  · rfl

theorem PInv.swap {n : Nat} {B B1 : Nat → Nat → Bool} {p : Nat → Nat} {lo pr J : Nat} (h : PInv n B p lo pr J)
    (f : Nat) (hf : pr ≤ f) (hfn : f < n) (hJ : J ≤ n)
    (e : ∀ m j, m < n → j < n → B1 m j = B (swp pr f m) j) : PInv n B1 p lo pr J where
  lo_le := h.lo_le
  pr_le := h.pr_le
  piv_lt := h.piv_lt
  piv_one := fun i h1 h2 => by
    rw [e i (p i) (by omega) (by have := h.piv_lt i h1 h2; omega), swp_lt pr f i h2 hf]; exact h.piv_one i h1 h2
  piv_clear := fun i m h1 h2 h3 h4 => by
    rw [e m (p i) h3 (by have := h.piv_lt i h1 h2; omega)]
    apply h.piv_clear i _ h1 h2 (swp_bound pr f m n (by omega) hfn h3)
    unfold swp; split
    · omega
    · split
      · omega
      · exact h4
  lead := fun i j h1 h2 h3 => by
    rw [e i j (by omega) (by have := h.piv_lt i h1 h2; omega), swp_lt pr f i h2 hf]; exact h.lead i j h1 h2 h3
  mono := h.mono
  below := fun m j h1 h2 h3 => by
    rw [e m j h2 (by omega)]
    exact h.below _ j (swp_ge pr f m h1 hf) (swp_bound pr f m n (by omega) hfn h2) h3

theorem PInv.sweep {n : Nat} {B1 B' : Nat → Nat → Bool} {p : Nat → Nat} {lo pr J : Nat} (h : PInv n B1 p lo pr J)
    (hp : pr < n) (hJ : J < n) (h1 : B1 pr J = true)
    (e : ∀ m j, m < n → j < n →
      B' m j = if m ≠ pr ∧ B1 m J = true then xor (B1 pr j) (B1 m j) else B1 m j) :
    PInv n B' (fun i => if i = pr then J else p i) lo (pr + 1) (J + 1) := by
  have hlo := h.lo_le
  -- the pivot row vanishes on the columns `< J`
  have prow : ∀ j, j < J → B1 pr j = false := fun j hj => h.below pr j (Nat.le_refl _) hp hj
  -- entries of the new matrix on the old columns
  have old : ∀ m j, m < n → j < J → B' m j = B1 m j := by
    intro m j hm hj
    rw [e m j hm (by omega), prow j hj]
    split <;> simp
  have colJ : ∀ m, m < n → m ≠ pr → B' m J = false := by
    intro m hm hne
    rw [e m J hm hJ, h1]
    by_cases hb : B1 m J = true
    · simp [hne, hb]
    · simp [hb]
  have rowP : ∀ j, j < n → B' pr j = B1 pr j := by
    intro j hj; rw [e pr j hp hj]; simp
  constructor
  · omega
  · omega
  · intro i h1' h2
    by_cases hi : i = pr
    · simp [hi]
    · simp only [hi, if_false]; have := h.piv_lt i h1' (by omega); omega
  · intro i h1' h2
    by_cases hi : i = pr
    · subst hi; simp only [if_true]; rw [rowP J hJ]; exact h1
    · simp only [hi, if_false]
      have hi' : i < pr := by omega
      rw [old i (p i) (by omega) (h.piv_lt i h1' hi')]; exact h.piv_one i h1' hi'
  · intro i m h1' h2 hm hne
    by_cases hi : i = pr
    · subst hi; simp only [if_true]; exact colJ m hm hne
    · simp only [hi, if_false]
      have hi' : i < pr := by omega
      rw [old m (p i) hm (h.piv_lt i h1' hi')]; exact h.piv_clear i m h1' hi' hm hne
  · intro i j h1' h2 hj
    by_cases hi : i = pr
    · subst hi; simp only [if_true] at hj; rw [rowP j (by omega)]; exact prow j hj
    · simp only [hi, if_false] at hj
      have hi' : i < pr := by omega
      have := h.piv_lt i h1' hi'
      rw [old i j (by omega) (by omega)]; exact h.lead i j h1' hi' hj
  · intro i i' h1' h2 h3
    have hi : i ≠ pr := by omega
    simp only [hi, if_false]
    by_cases hi' : i' = pr
    · simp only [hi', if_true]; exact h.piv_lt i h1' (by omega)
    · simp only [hi', if_false]; exact h.mono i i' h1' h2 (by omega)
  · intro m j h1' h2 hj
    by_cases hjJ : j = J
    · subst hjJ; exact colJ m h2 (by omega)
    · rw [old m j h2 (by omega)]; exact h.below m j (by omega) h2 (by omega)

end STab
end Graphiq
