/-
  Proofs/LCEval.lean — the deterministic run of `is_lc_equivalent` in a form the kernel evaluates quickly.

  `BMat.norm` tabulates a matrix into arrays so that compiled code does not stack closures.  The kernel gains nothing from
  that: it remembers every term it has reduced, so a stack of closures is read once per entry anyway, while the array of
  `Array.ofFn` is a chain of `push`es that it walks again for every lookup.  As a function the tabulated matrix is the matrix
  cut off at its shape (`BMat.norm_eq_clip`), and `isLcEquivalentC` is `isLcEquivalent` in mode `det` with `clip` written for
  `norm` (`isLcEquivalent_det`); `isLcEquivalentRC`, `lcCheckRC` are the repaired function and `lc_check` over it
  (`isLcEquivalentR_det`, `lcCheckR_eq_clip`).  Concrete witnesses are evaluated on these.
-/
import GraphiqModel.Proofs.LCTotal
namespace Graphiq
open Graphiq.LC

/-- the matrix with every entry outside its shape read as 0 -/
def BMat.clip (m : BMat) : BMat := { m with f := fun i j => decide (i < m.r) && decide (j < m.c) && m.f i j }

theorem BMat.norm_eq_clip (m : BMat) : m.norm = m.clip := by
  simp only [BMat.norm, BMat.clip, BMat.mk.injEq, true_and]
  funext i j
  by_cases hi : i < m.r
  · by_cases hj : j < m.c
    · simp [lookup2, Array.getD, hi, hj]
    · simp [lookup2, Array.getD, hi, hj]
  · simp [lookup2, Array.getD, hi]

namespace LC

def eliminateC (m : BMat) (pr : Nat) (first : Nat) (rest : List Nat) : BMat :=
  (rest.foldl (fun acc j => addRows acc pr j) (rowSwap m first pr)).clip

theorem eliminate_eq_clip (m : BMat) (pr first : Nat) (rest : List Nat) :
    eliminate m pr first rest = eliminateC m pr first rest :=
  BMat.norm_eq_clip _

def rowRedOneStepC (x z : BMat) (pr pc : Nat) : RRStep :=
  if pc + 1 = x.c then
    match theOnes x pr pc with
    | [] => { x := x, z := z, pr := (pr : Int) - 1, pc := pc, cont := false }
    | o :: rest => { x := eliminateC x pr o rest, z := eliminateC z pr o rest, pr := pr, pc := pc, cont := false }
  else if pr + 1 = x.r then
    if x.f pr pc then { x := x, z := z, pr := pr, pc := pc, cont := false }
    else { x := x, z := z, pr := pr, pc := pc + 1, cont := true }
  else
    match theOnes x pr pc with
    | [] => { x := x, z := z, pr := pr, pc := pc + 1, cont := true }
    | o :: rest =>
      { x := eliminateC x pr o rest, z := eliminateC z pr o rest, pr := (pr : Int) + 1, pc := pc + 1, cont := true }

theorem rowRedOneStep_eq_clip (x z : BMat) (pr pc : Nat) : rowRedOneStep x z pr pc = rowRedOneStepC x z pr pc := by
  unfold rowRedOneStep
  simp only [eliminate_eq_clip]
  rfl

def rowReductionLoopC : Nat → BMat → BMat → Nat → Nat → BMat × BMat × Int
  | 0, x, z, pr, _ => (x, z, pr)
  | fuel + 1, x, z, pr, pc =>
    let s := rowRedOneStepC x z pr pc
    if s.cont then rowReductionLoopC fuel s.x s.z s.pr.toNat s.pc else (s.x, s.z, s.pr)

theorem rowReductionLoop_eq_clip (fuel : Nat) (x z : BMat) (pr pc : Nat) :
    rowReductionLoop fuel x z pr pc = rowReductionLoopC fuel x z pr pc := by
  induction fuel generalizing x z pr pc with
  | zero => rfl
  | succ fuel ih => simp only [rowReductionLoop, rowReductionLoopC, rowRedOneStep_eq_clip, ih]

def gjColumnC (st : Except Err (BMat × BMat)) (c : Nat) : Except Err (BMat × BMat) :=
  match st with
  | .error e => .error e
  | .ok (m, t) =>
    match theOnes m c c with
    | [] => .error .value
    | p :: _ =>
      let m1 := rowSwap m p c
      let t1 := rowSwap t p c
      let others := (List.range m.r).filter fun i => decide (i ≠ c) && m1.f i c
      .ok ((others.foldl (fun acc i => addRows acc c i) m1).clip, (others.foldl (fun acc i => addRows acc c i) t1).clip)

theorem gjColumn_eq_clip : gjColumn = gjColumnC := by
  funext st c
  unfold gjColumn
  simp only [BMat.norm_eq_clip]
  rfl

def gf2InvC (a : BMat) : Except Err BMat :=
  if a.r ≠ a.c then .error .value
  else
    match (List.range a.r).foldl gjColumnC (.ok (a.clip, (identM a.r).clip)) with
    | .error e => .error e
    | .ok (_, t) =>
      if isInverse a.r t.f a.f then .ok { r := a.r, c := a.r, f := t.f } else .error .value

theorem gf2Inv_eq_clip (a : BMat) : gf2Inv a = gf2InvC a := by
  unfold gf2Inv
  simp only [BMat.norm_eq_clip, gjColumn_eq_clip]
  rfl

def solutionBasisFinderC (m : BMat) (colList : List Nat) : Except Err (List (List Bool)) :=
  if colList.length > 0 ∧ m.r + colList.length ≠ m.c then .error .value
  else
    match gf2InvC (deleteCols m colList) with
    | .error e => .error e
    | .ok ainv =>
      let basis : List (List Bool) := (List.range colList.length).map fun i => basisVec m colList ainv i
      if basis.all (fun v => v.length == m.c && solves m v) then .ok basis else .error .assertion

theorem solutionBasisFinder_eq_clip (m : BMat) (colList : List Nat) :
    solutionBasisFinder m colList = solutionBasisFinderC m colList := by
  unfold solutionBasisFinder
  simp only [gf2Inv_eq_clip]
  rfl

/-- `isLcEquivalent a b .det draws` (the draws are not read in this mode) -/
def isLcEquivalentC (a b : BMat) : Except Err EqOut :=
  let n := a.r
  if n ≠ b.r then .error .assertion
  else
    let coeff := (coeffMaker n a.f b.f).clip
    let rr := rowReductionLoopC coeff.c coeff { coeff with f := fun _ _ => false } 0 0
    let red := rr.1
    let rank : Int := rr.2.2 + 1
    if rank ≥ 4 * n then .ok { sol := none, rank := rank, dim := 0, path := "full-rank" }
    else
      let keep := nonzeroRows red
      if (keep.length : Int) ≠ rank then .error .assertion
      else
        let m := (selectRows red keep).clip
        let colList := colFinder m
        if (colList.length : Int) ≠ 4 * n - rank then .error .assertion
        else
          match solutionBasisFinderC m colList with
          | .error e => .error e
          | .ok basis => search n .det [] m colList basis rank

theorem isLcEquivalent_det (a b : BMat) (draws : List Bool) : isLcEquivalent a b .det draws = isLcEquivalentC a b := by
  unfold isLcEquivalent rowReduction
  simp only [BMat.norm_eq_clip, rowReductionLoop_eq_clip, solutionBasisFinder_eq_clip]
  rfl

/-- `componentLoop a b .det` -/
def componentLoopC (a b : BMat) :
    List (List Nat) → List (List Bool) → List Bool → List EqOut → Except Err (Option (List Bool) × List EqOut)
  | [], _, sol, parts => .ok (some sol, parts)
  | nodes :: rest, draws, sol, parts =>
    match isLcEquivalentC (subMat a nodes) (subMat b nodes) with
    | .error e => .error e
    | .ok out =>
      match out.sol with
      | none => .ok (none, parts ++ [out])
      | some q =>
        componentLoopC a b rest (if out.path = "random" then draws.tail else draws) (scatter sol nodes q) (parts ++ [out])

theorem componentLoop_det (a b : BMat) (comps : List (List Nat)) (draws : List (List Bool)) (sol : List Bool)
    (parts : List EqOut) : componentLoop a b .det comps draws sol parts = componentLoopC a b comps draws sol parts := by
  induction comps generalizing draws sol parts with
  | nil => rfl
  | cons nodes rest ih =>
    simp only [componentLoop, componentLoopC, isLcEquivalent_det, ih]
    rfl

/-- `isLcEquivalentR a b .det draws` -/
def isLcEquivalentRC (a b : BMat) (draws : List (List Bool)) : Except Err EqOutR :=
  let n := a.r
  if n ≠ b.r then .error .assertion
  else
    let comps := connectedComponents n a.f
    if comps ≠ connectedComponents n b.f then .ok { sol := none, comps := comps, parts := [], path := "components-differ" }
    else
      match componentLoopC a b comps draws (List.replicate (4 * n) false) [] with
      | .error e => .error e
      | .ok (sol, parts) => .ok { sol := sol, comps := comps, parts := parts, path := "per-component" }

theorem isLcEquivalentR_det (a b : BMat) (draws : List (List Bool)) :
    isLcEquivalentR a b .det draws = isLcEquivalentRC a b draws := by
  unfold isLcEquivalentR
  simp only [componentLoop_det]
  rfl

/-- `lcCheckR` over `isLcEquivalentRC` (`converterGateListR` written out) -/
def lcCheckRC (a b : BMat) (validate : Bool) : Except Err (Bool × List (String × Nat)) :=
  let conv : Except Err (List (String × Nat) × Bool) :=
    match isLcEquivalentRC a b [] with
    | .error e => .error e
    | .ok out =>
      match out.sol with
      | none => .error .assertion
      | some s =>
        let names := localCliffordOps a.r s
        let gates : List (String × Nat) := (names.zipIdx).flatMap fun (ops, i) => ops.reverse.map fun o => (o, i)
        match runGates (graphTab a.r a.f) gates with
        | .error e => .error e
        | .ok t =>
          match phaseCorrection t b.f with
          | some zs => .ok (gates ++ zs, true)
          | none => .ok (gates, false)
  match conv with
  | .error _ => .ok (false, [])
  | .ok (gates, _) =>
    if validate then
      match runGates (graphTab a.r a.f) gates with
      | .error e => .error e
      | .ok t => if isGraphState t b.f then .ok (true, gates) else .error .warning
    else .ok (true, gates)

theorem lcCheckR_eq_clip (a b : BMat) (validate : Bool) : lcCheckR a b validate = lcCheckRC a b validate := by
  unfold lcCheckR converterGateListR
  rw [isLcEquivalentR_det]
  rfl

end LC
end Graphiq
