/-
  Proofs/EchelonCheck.lean — the executable predicate `STab.echelonB` is equivalent to the echelon form `Echelon` proved of `rref`.
-/
import GraphiqModel.Model.Echelon
import GraphiqModel.Proofs.EchelonRref
namespace Graphiq
namespace STab

theorem leftmost_some (t : STab) (i c : Nat) (h : t.leftmost i = some c) :
    c < t.n ∧ (∀ j, j < c → t.ptype i j = 0) ∧ t.ptype i c ≠ 0 := by
  unfold leftmost at h
  rw [List.head?_filter, List.find?_range_eq_some] at h
  refine ⟨List.mem_range.1 h.2.1, ?_, ?_⟩
  · intro j hj
    have := h.2.2 j hj
    apply (PRow.pt_eq_zero_iff _ _).2
    cases hb : ((t.row i).x j || (t.row i).z j)
    · rfl
    · rw [hb] at this; cases this
  · intro e
    have := (PRow.pt_eq_zero_iff _ _).1 e
    rw [this] at h; cases h.1

theorem echelonB_of_echelon (t : STab) (piv : Nat → Nat) (he : Echelon t piv) : t.echelonB = true := by
  unfold echelonB
  have hm : (List.range t.n).mapM (fun i => t.leftmost i) = some ((List.range t.n).map piv) := by
    apply Loop.mapM_map
    intro i hi
    have hl := he.lead i (List.mem_range.1 hi)
    exact leftmost_of_lead t i (piv i) hl.1 hl.2.1 hl.2.2
  rw [hm]
  simp only [List.all_eq_true, List.mem_range]
  intro i hi k hk
  rw [getD_map_range t.n i piv hi, getD_map_range t.n k piv hk]
  by_cases hik : i < k
  · have hs := he.sorted i k hik hk
    simp only [hik, decide_true, Bool.not_true, Bool.false_or, Bool.and_eq_true, decide_eq_true_eq, Bool.or_eq_true,
      bne_iff_ne, beq_iff_eq]
    refine ⟨hs.1, ?_⟩
    by_cases e : piv i = piv k
    · right; exact ⟨(hs.2 e).1, (hs.2 e).2⟩
    · left; exact e
  · simp [hik]

theorem echelon_of_echelonB (t : STab) (h : t.echelonB = true) : ∃ piv, Echelon t piv := by
  unfold echelonB at h
  cases hm : (List.range t.n).mapM (fun i => t.leftmost i) with
  | none => rw [hm] at h; cases h
  | some lm =>
    rw [hm] at h
    obtain ⟨hlm, hsome⟩ := mapM_option_some _ _ _ hm
    simp only [List.all_eq_true, List.mem_range] at h
    have hget : ∀ i, i < t.n → t.leftmost i = some (lm.getD i 0) := by
      intro i hi
      have hs := hsome i (List.mem_range.2 hi)
      rw [hlm, getD_map_range t.n i _ hi]
      cases hl : t.leftmost i with
      | none => rw [hl] at hs; cases hs
      | some c => rfl
    refine ⟨fun i => lm.getD i 0, ⟨fun i hi => leftmost_some t i _ (hget i hi), ?_⟩⟩
    intro i k hik hk
    have := h i (by omega) k hk
    simp only [hik, decide_true, Bool.not_true, Bool.false_or, Bool.and_eq_true, decide_eq_true_eq, Bool.or_eq_true,
      bne_iff_ne, beq_iff_eq] at this
    refine ⟨this.1, fun e => ?_⟩
    rcases this.2 with h2 | h2
    · exact absurd e h2
    · exact ⟨h2.1, h2.2⟩

theorem echelonB_iff (t : STab) : t.echelonB = true ↔ ∃ piv, Echelon t piv :=
  ⟨echelon_of_echelonB t, fun ⟨piv, he⟩ => echelonB_of_echelon t piv he⟩

/-- **every output of `rref` passes the executable echelon check**, unless its last row is the identity -/
theorem rref_echelonB (t t' : STab) (brs : List String) (hr : t.rref = .ok (t', brs)) :
    t'.echelonB = true ∨ (0 < t'.n ∧ ∀ j, j < t'.n → t'.ptype (t'.n - 1) j = 0) := by
  rcases rref_echelon_or_trivial t t' brs hr with ⟨piv, he⟩ | h
  · exact Or.inl (echelonB_of_echelon t' piv he)
  · exact Or.inr h

end STab
end Graphiq
