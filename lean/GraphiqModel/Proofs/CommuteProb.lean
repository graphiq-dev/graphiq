/-
  Proofs/CommuteProb.lean — the *probability* of an outcome assignment does not depend on the order.

  A Z measurement on a stabilizer state is either deterministic (probability 1 for the feasible outcome) or random
  (probability ½ for each outcome).  The probability of a whole outcome assignment is therefore `2^(-r)`, `r` = the number of
  measurements that were random when they were executed.  This file adds that counter to the state and proves that it, too,
  is the same in both orders of two operations on disjoint registers (`appRawR_comm`), and that the compile loop's `rand`
  record refines it (`run_refines_rand`).

  Key facts: a gate elsewhere does not change whether a measurement is random (`random_image_iff`); for two measurements
  `[q' random in G] + [q random after q'] = [q random in G] + [q' random after q]` (`random_count_comm`, from closure of
  the group under products alone).
-/
import GraphiqModel.Proofs.CommuteCircuit
namespace Graphiq.Commute
open Graphiq PRow Tab TabSpec Classical
open Graphiq.Wire (Reg RegType SOp Item Kind G1 runSeq)

/-! ## group level -/

theorem random_image_iff {n : Nat} {S : Nat → Prop} {f : PRow → PRow} (hl : Local S f) (H : PRow → Prop) {q : Nat}
    (hq : q < n) (hqS : ¬ S q) : Random (imageGrp n f H) q ↔ Random H q := by
  constructor
  · rintro ⟨P, ⟨Q, hQ, e⟩, hx⟩
    refine ⟨Q, hQ, ?_⟩
    rw [← hl.x_off hqS Q, ← (e.1 q hq).1]; exact hx
  · rintro ⟨Q, hQ, hx⟩
    exact ⟨f Q, ⟨Q, hQ, EqOn.refl _ _⟩, by rw [hl.x_off hqS Q]; exact hx⟩

theorem random_measG_iff {n : Nat} (H : PRow → Prop) (q q' : Nat) (o' : Bool) :
    Random (measG n q' o' H) q ↔ ∃ h, H h ∧ h.x q' = false ∧ h.x q = true := by
  constructor
  · rintro ⟨P, ⟨hx', hP | hP⟩, hx⟩
    · exact ⟨P, hP, hx', hx⟩
    · refine ⟨_, hP, ?_, ?_⟩
      · simp only [mul_x, hx']; simp [Zq]
      · simp only [mul_x, hx]; simp [Zq]
  · rintro ⟨h, hh, hx', hx⟩
    exact ⟨h, ⟨hx', Or.inl hh⟩, hx⟩

def b2n (p : Prop) [Decidable p] : Nat := if p then 1 else 0

theorem b2n_congr {p q : Prop} [Decidable p] [Decidable q] (h : p ↔ q) : b2n p = b2n q := by
  unfold b2n
  by_cases hp : p
  · rw [if_pos hp, if_pos (h.mp hp)]
  · rw [if_neg hp, if_neg (fun hq => hp (h.mpr hq))]

/-- some element of `H` has the X bits `(a, b)` on the qubits `(q, q')`; these pairs form a subgroup of `F₂²` (`XPair.mul`) -/
def XPair (H : PRow → Prop) (q q' : Nat) (a b : Bool) : Prop := ∃ h, H h ∧ h.x q = a ∧ h.x q' = b

theorem XPair.mul {n : Nat} {H : PRow → Prop} (hmul : ∀ a b, H a → H b → H (PRow.mul n a b)) {q q' : Nat} {a b a' b' : Bool}
    (h1 : XPair H q q' a b) (h2 : XPair H q q' a' b') : XPair H q q' (xor a a') (xor b b') := by
  obtain ⟨h, hh, rfl, rfl⟩ := h1
  obtain ⟨k, hk, rfl, rfl⟩ := h2
  exact ⟨PRow.mul n h k, hmul _ _ hh hk, rfl, rfl⟩

theorem XPair.swap {H : PRow → Prop} {q q' : Nat} {a b : Bool} : XPair H q' q b a ↔ XPair H q q' a b :=
  ⟨fun ⟨h, hh, h1, h2⟩ => ⟨h, hh, h2, h1⟩, fun ⟨h, hh, h1, h2⟩ => ⟨h, hh, h2, h1⟩⟩

theorem random_iff_xpair (H : PRow → Prop) (q q' : Nat) : Random H q ↔ XPair H q q' true false ∨ XPair H q q' true true := by
  constructor
  · rintro ⟨h, hh, hx⟩
    cases hx' : h.x q'
    · exact Or.inl ⟨h, hh, hx, hx'⟩
    · exact Or.inr ⟨h, hh, hx, hx'⟩
  · rintro (⟨h, hh, hx, _⟩ | ⟨h, hh, hx, _⟩) <;> exact ⟨h, hh, hx⟩

/-- **the number of random measurements among two Z measurements does not depend on their order** — only closure of the
    group under products is used: both sides are the dimension of the subgroup of `F₂²` formed by the X bits on `(q, q')` -/
theorem random_count_comm {n : Nat} (H : PRow → Prop) (hmul : ∀ a b, H a → H b → H (PRow.mul n a b)) (q q' : Nat)
    (o o' : Bool) :
    b2n (Random H q') + b2n (Random (measG n q' o' H) q) = b2n (Random H q) + b2n (Random (measG n q o H) q') := by
  have hA : Random (measG n q' o' H) q ↔ XPair H q q' true false := (random_measG_iff H q q' o').trans XPair.swap
  have hB : Random (measG n q o H) q' ↔ XPair H q q' false true := random_measG_iff H q' q o
  have hq' : Random H q' ↔ XPair H q q' false true ∨ XPair H q q' true true :=
    (random_iff_xpair H q' q).trans (or_congr XPair.swap XPair.swap)
  rw [b2n_congr hq', b2n_congr hA, b2n_congr (random_iff_xpair H q q'), b2n_congr hB]
  by_cases a : XPair H q q' true false
  · by_cases c : XPair H q q' true true
    · have b : XPair H q q' false true := a.mul hmul c
      simp [b2n, a, b, c]
    · by_cases b : XPair H q q' false true
      · exact absurd (a.mul hmul b) c
      · simp [b2n, a, b, c]
  · by_cases c : XPair H q q' true true
    · have b : ¬ XPair H q q' false true := fun b => a (b.mul hmul c)
      simp [b2n, a, b, c]
    · by_cases b : XPair H q q' false true <;> simp [b2n, a, b, c]

/-! ## the shape of a decoded operation: at most one measurement, and it comes first -/

def isMeasP : Tab.Op → Bool
  | .meas .. => true
  | _ => false

theorem g1Prims_noMeas (g : G1) (q : Nat) : ∀ p, p ∈ g1Prims g q → isMeasP p = false := by
  intro p hp
  cases g <;> simp only [g1Prims, List.mem_singleton, List.not_mem_nil] at hp <;> subst hp <;> rfl

theorem decode_shape (ne np : Nat) (a : SOp) (d : Dec) (hdec : decode ne np a = some d) :
    (d.mreg = none ∧ ∀ o p, p ∈ d.prims o → isMeasP p = false) ∨
    (∃ r q, d.mreg = some r ∧ regIx ne np r = some q ∧
      ∀ o, ∃ rest, d.prims o = .meas q o :: rest ∧ ∀ p, p ∈ rest → isMeasP p = false) := by
  cases decodes_of_decode hdec with
  | g1 g r q hq => exact Or.inl ⟨rfl, fun o p hp => g1Prims_noMeas g q p hp⟩
  | cnot | cz => exact Or.inl ⟨rfl, fun o p hp => by cases List.mem_singleton.mp hp; rfl⟩
  | measZ x cr r q hq => exact Or.inr ⟨r, q, rfl, hq, fun o => ⟨[], rfl, fun p hp => by cases hp⟩⟩
  | ccnot x cr c t qc qt hc ht | ccz x cr c t qc qt hc ht | mcr x cr c t qc qt hc ht =>
    refine Or.inr ⟨c, qc, rfl, hc, fun o => ⟨_, rfl, fun p hp => ?_⟩⟩
    cases o <;> simp only [if_true, Bool.false_eq_true, if_false, List.mem_cons, List.not_mem_nil, or_false] at hp
    rcases hp with rfl | rfl <;> rfl

theorem random_runP_gates (n : Nat) (l : List Tab.Op) (hl : ∀ p, p ∈ l → isMeasP p = false) (q : Nat) (hq : q < n)
    (hsupp : ∀ p, p ∈ l → q ∉ primSupp p) (g g' : GState) (hg : IsTab n g) (h : runP n l (some g) = some g') :
    Random g'.G q ↔ Random g.G q := by
  induction l generalizing g with
  | nil => simp only [runP_nil, Option.some.injEq] at h; rw [h]
  | cons p l ih =>
    rw [runP_cons] at h
    by_cases hok : primOk n p = true
    · rcases prim_cases_rowP n p hok with ⟨q0, o0, rfl, _⟩ | ⟨_, hf, haf⟩
      · have := hl _ List.mem_cons_self; simp [isMeasP] at this
      · rw [hf] at h
        have hT' := isTab_gate hg (rowP p) haf
        have := ih (fun p' hp' => hl p' (List.mem_cons_of_mem _ hp')) (fun p' hp' => hsupp p' (List.mem_cons_of_mem _ hp'))
          (specGate (rowP p) g) hT' h
        rw [this]
        show Random (imageGrp g.n (rowP p) g.G) q ↔ _
        rw [hg.n_eq]
        exact random_image_iff (local_rowP p) g.G hq (hsupp p List.mem_cons_self)
    · rw [appP_not_ok n p hok, runP_none] at h; cases h

/-! ## the semantics with the counter of random measurements -/

def mqubit (ne np : Nat) (a : SOp) : Option Nat := (decode ne np a).bind fun d => d.mreg.bind (regIx ne np)

def randOf (ne np : Nat) (a : SOp) (g : GState) : Prop :=
  match mqubit ne np a with
  | some q => Random g.G q
  | none => False

/-- stabilizer group + outcome streams + number of random measurements so far -/
abbrev RawR := Option (GState × Script × Nat)

noncomputable def appRawR (ne np : Nat) (a : SOp) (s : RawR) : RawR :=
  s.bind fun st => (appRaw ne np a (some (st.1, st.2.1))).map fun x => (x.1, x.2, st.2.2 + b2n (randOf ne np a st.1))

theorem appRawR_eq (ne np : Nat) (a : SOp) (g : GState) (sc : Script) (k : Nat) :
    appRawR ne np a (some (g, sc, k)) =
      (appRaw ne np a (some (g, sc))).map fun x => (x.1, x.2, k + b2n (randOf ne np a g)) := rfl

/-- whether a measurement on `q` (a qubit the operation `a` does not touch) is random after `a` -/
theorem random_after (ne np : Nat) (a : SOp) (g ga : GState) (sc sca : Script) (hT : IsTab (ne + np) g)
    (h : appRaw ne np a (some (g, sc)) = some (ga, sca)) (q : Nat) (hq : q < ne + np)
    (hqa : ∀ r, r ∈ a.regs → regIx ne np r ≠ some q) :
    Random ga.G q ↔
      match mqubit ne np a with
      | some qa => Random (measG (ne + np) qa (outOf ne np a sc) g.G) q
      | none => Random g.G q := by
  obtain ⟨d, hd, _, hr, _⟩ := appRaw_some h
  have hw := decode_within ne np a d hd
  have hsupp : ∀ p, p ∈ d.prims (d.out sc) → q ∉ primSupp p := by
    intro p hp hin
    obtain ⟨r, hr', hrq⟩ := hw.2 _ p hp q hin
    exact hqa r hr' hrq
  have hout : outOf ne np a sc = d.out sc := by simp [outOf, hd]
  rcases decode_shape ne np a d hd with ⟨hm, hng⟩ | ⟨r, qa, hm, hrq, hsh⟩
  · have hmq : mqubit ne np a = none := by simp [mqubit, hd, hm]
    rw [hmq]
    exact random_runP_gates (ne + np) _ (hng _) q hq hsupp g ga hT hr
  · have hmq : mqubit ne np a = some qa := by simp [mqubit, hd, hm, hrq]
    rw [hmq, hout]
    obtain ⟨rest, hprims, hrest⟩ := hsh (d.out sc)
    rw [hprims, runP_cons, appP_meas _ _ _ (regIx_lt hrq), measStep_some hT qa _ (regIx_lt hrq)] at hr
    split at hr
    · rw [runP_none] at hr; cases hr
    · next hfe =>
      have hT1 := isTab_measG hT qa (d.out sc) (regIx_lt hrq) hfe
      have hs2 : ∀ p, p ∈ rest → q ∉ primSupp p := fun p hp => hsupp p (by rw [hprims]; exact List.mem_cons_of_mem _ hp)
      exact random_runP_gates (ne + np) rest hrest q hq hs2 _ ga hT1 hr

theorem mqubit_mem (ne np : Nat) (a : SOp) (q : Nat) (h : mqubit ne np a = some q) :
    q < ne + np ∧ ∃ r, r ∈ a.regs ∧ regIx ne np r = some q := by
  unfold mqubit at h
  cases hd : decode ne np a with
  | none => rw [hd] at h; cases h
  | some d =>
    rw [hd] at h
    simp only [Option.bind_some] at h
    cases hm : d.mreg with
    | none => rw [hm] at h; cases h
    | some r =>
      rw [hm] at h
      simp only [Option.bind_some] at h
      exact ⟨regIx_lt h, r, (decode_within ne np a d hd).1 r hm, h⟩

/-- **the counter of random measurements commutes too**: two operations on disjoint registers, both orders possible -/
theorem rand_count_comm (ne np : Nat) (a b : SOp) (hd : ∀ r, r ∈ a.regs → r ∉ b.regs) (g ga gb : GState)
    (sc sca scb : Script) (hT : IsTab (ne + np) g) (ha : appRaw ne np a (some (g, sc)) = some (ga, sca))
    (hb : appRaw ne np b (some (g, sc)) = some (gb, scb)) :
    b2n (randOf ne np b g) + b2n (randOf ne np a gb) = b2n (randOf ne np a g) + b2n (randOf ne np b ga) := by
  have hmul := hT.stab.mul
  unfold randOf
  cases hqa : mqubit ne np a with
  | none =>
    simp only [b2n, if_false, Nat.add_zero, Nat.zero_add]
    cases hqb : mqubit ne np b with
    | none => rfl
    | some qb =>
      simp only
      obtain ⟨hqb_lt, rb, hrb, hrbq⟩ := mqubit_mem ne np b qb hqb
      have := random_after ne np a g ga sc sca hT ha qb hqb_lt
        (fun r hr e => hd r hr (regIx_inj e hrbq ▸ hrb))
      rw [hqa] at this
      simp only at this
      by_cases hR : Random g.G qb
      · rw [if_pos hR, if_pos (this.mpr hR)]
      · rw [if_neg hR, if_neg (fun h => hR (this.mp h))]
  | some qa =>
    obtain ⟨hqa_lt, ra, hra, hraq⟩ := mqubit_mem ne np a qa hqa
    have hA := random_after ne np b g gb sc scb hT hb qa hqa_lt
      (fun r hr e => hd ra hra (regIx_inj hraq e ▸ hr))
    cases hqb : mqubit ne np b with
    | none =>
      rw [hqb] at hA
      simp only at hA ⊢
      simp only [b2n, if_false, Nat.add_zero, Nat.zero_add]
      by_cases hR : Random g.G qa
      · rw [if_pos hR, if_pos (hA.mpr hR)]
      · rw [if_neg hR, if_neg (fun h => hR (hA.mp h))]
    | some qb =>
      obtain ⟨hqb_lt, rb, hrb, hrbq⟩ := mqubit_mem ne np b qb hqb
      have hB := random_after ne np a g ga sc sca hT ha qb hqb_lt
        (fun r hr e => hd r hr (regIx_inj e hrbq ▸ hrb))
      rw [hqb] at hA
      rw [hqa] at hB
      simp only at hA hB ⊢
      have key := random_count_comm (n := ne + np) g.G hmul qa qb (outOf ne np a sc) (outOf ne np b sc)
      rw [b2n_congr hA, b2n_congr hB]
      exact key

def OkRawR (n : Nat) (s : RawR) : Prop := ∀ g sc k, s = some (g, sc, k) → IsTab n g

theorem appRawR_none (ne np : Nat) (a : SOp) : appRawR ne np a none = none := rfl

/-- **operations on disjoint quantum registers commute, the number of random measurements included** — so an outcome
    assignment has the same probability `2^(-r)` in both orders -/
theorem appRawR_comm (ne np : Nat) (a b : SOp) (hd : ∀ r, r ∈ a.regs → r ∉ b.regs) (s : RawR)
    (hs : OkRawR (ne + np) s) : appRawR ne np a (appRawR ne np b s) = appRawR ne np b (appRawR ne np a s) := by
  cases s with
  | none => rfl
  | some st =>
    obtain ⟨g, sc, k⟩ := st
    have hT := hs g sc k rfl
    have hok : OkRaw (ne + np) (some (g, sc)) := fun g' sc' h => by cases h; exact hT
    have hcomm := appRaw_comm ne np a b hd (some (g, sc)) hok
    rw [appRawR_eq, appRawR_eq]
    cases hb : appRaw ne np b (some (g, sc)) with
    | none =>
      rw [hb, appRaw_none] at hcomm
      cases ha : appRaw ne np a (some (g, sc)) with
      | none => rfl
      | some xa =>
        obtain ⟨ga, sca⟩ := xa
        rw [ha] at hcomm
        simp only [Option.map_none, Option.map_some, appRawR_none, appRawR_eq, ← hcomm]
    | some xb =>
      obtain ⟨gb, scb⟩ := xb
      rw [hb] at hcomm
      cases ha : appRaw ne np a (some (g, sc)) with
      | none =>
        rw [ha, appRaw_none] at hcomm
        simp only [Option.map_none, Option.map_some, appRawR_none, appRawR_eq, hcomm]
      | some xa =>
        obtain ⟨ga, sca⟩ := xa
        rw [ha] at hcomm
        simp only [Option.map_some, appRawR_eq, hcomm]
        have hcnt := rand_count_comm ne np a b hd g ga gb sc sca scb hT ha hb
        have : k + b2n (randOf ne np b g) + b2n (randOf ne np a gb) = k + b2n (randOf ne np a g) + b2n (randOf ne np b ga) := by
          omega
        rw [this]

theorem appRawR_ok (ne np : Nat) (a : SOp) {s : RawR} (hs : OkRawR (ne + np) s) : OkRawR (ne + np) (appRawR ne np a s) := by
  intro g' sc' k' h
  cases s with
  | none => cases h
  | some st =>
    obtain ⟨g, sc, k⟩ := st
    rw [appRawR_eq] at h
    exact (appRaw_ok ne np a (s := some (g, sc)) (fun g0 sc0 h0 => by cases h0; exact hs g sc k rfl)).map _ g' sc' k' h

def RSt (ne np : Nat) : Type := { s : RawR // OkRawR (ne + np) s }

noncomputable def appR (ne np : Nat) (a : SOp) (s : RSt ne np) : RSt ne np := ⟨appRawR ne np a s.1, appRawR_ok ne np a s.2⟩

theorem appR_comm (ne np : Nat) (a b : SOp) (hd : ∀ r, r ∈ a.regs → r ∉ b.regs) (s : RSt ne np) :
    appR ne np a (appR ne np b s) = appR ne np b (appR ne np a s) :=
  Subtype.ext (appRawR_comm ne np a b hd s.1 s.2)

theorem runSeq_appR_val (ne np : Nat) (l : List SOp) (s : RSt ne np) :
    (runSeq (appR ne np) l s).1 = runSeq (appRawR ne np) l s.1 :=
  Wire.runSeq_subtype_val (appRawR ne np) (fun a _ h => appRawR_ok ne np a h) l s

noncomputable def RSt.init (ne np : Nat) (sc : Script) : RSt ne np :=
  ⟨some (gstate (Tab.ket0 (ne + np)), sc, 0), fun g sc' k h => by
    simp only [Option.some.injEq, Prod.mk.injEq] at h
    rw [← h.1]; exact isTab_ket0 _⟩

/-! ## the compile loop's `rand` record refines the counter -/

theorem decode_mq (ne np : Nat) (a : SOp) (d : Dec) (hdec : decode ne np a = some d) :
    mqubit ne np a = (toCOp a).mq np := by
  unfold mqubit
  rw [hdec]
  cases decodes_of_decode hdec with
  | g1 g r q hq => cases g <;> rfl
  | cnot | cz => rfl
  | measZ x cr r q hq => exact hq.trans (by rw [← regIx_qIndex hq]; rfl)
  | ccnot x cr c t qc qt hc ht | ccz x cr c t qc qt hc ht | mcr x cr c t qc qt hc ht =>
    exact hc.trans (by rw [← regIx_qIndex hc]; rfl)

/-- **a whole run with the counter**: the number of measurements the compile loop found random (`rand`) is the counter of
    the group semantics -/
theorem run_refines_rand (ne np : Nat) (d : Det) (l : List SOp)
    (hok : ∀ a, a ∈ l → (decode ne np a).isSome = true ∧ a.regs.Nodup) (s s' : RunState) (ht : TInv (ne + np) s.t)
    (hs : (l.map toCOp).foldlM (stepOp np (ne + np) d) s = some s') :
    ∃ new : List Bool, s'.outs = s.outs ++ new ∧
      ∀ sc, runSeq (appRawR ne np) l (some (gstate s.t, feed ne np l new sc, s.rand.count true)) =
        some (gstate s'.t, sc, s'.rand.count true) := by
  refine (run_refines_of_step (appRawR ne np) (fun s X => some (gstate s.t, X, s.rand.count true)) ne np d l hok ?_
    s s' ht hs).2
  intro a ha s s1 ht h1 new _ X hraw _
  obtain ⟨dd, hdd⟩ := Option.isSome_iff_exists.mp (hok a ha).1
  rw [appRawR_eq, hraw, Option.map_some]
  have hf := stepOp_fields np (ne + np) d s s1 (toCOp a) h1
  have hmq := decode_mq ne np a dd hdd
  unfold randOf
  rw [hmq]
  cases hq : (toCOp a).mq np with
  | none => rw [hq] at hf; rw [hf.2.2.1]; simp [b2n]
  | some q =>
    rw [hq] at hf
    have hlt : q < s.t.n := by rw [ht.n_eq]; exact (mqubit_mem ne np a q (hmq.trans hq)).1
    rw [hf.2.2, List.count_append,
      b2n_congr (show Random (gstate s.t).G q ↔ (s.t.pivot q).isSome = true from random_iff_pivot s.t q hlt)]
    cases (s.t.pivot q).isSome <;> simp [b2n]

theorem stabRun_refines_rand (c : Wire.Circuit) (hgood : c.Good) (har : ArityOk c) (seq : List Nat) (d : Det)
    (script : List Bool) (s' : RunState) (h : stabRun c.ne c.np d script ((c.sops seq).map toCOp) = some s') :
    ∀ sc, runSeq (appRawR c.ne c.np) (c.sops seq)
        (some (gstate (Tab.ket0 (c.ne + c.np)), feed c.ne c.np (c.sops seq) s'.outs sc, 0)) =
      some (gstate s'.t, sc, s'.rand.count true) := by
  obtain ⟨new, hnew, hrun⟩ := run_refines_rand c.ne c.np d (c.sops seq) (sops_ok c hgood har seq)
    { t := Tab.ket0 (c.ne + c.np), writes := [], script := script, rand := [], outs := [] } s' (tinv_ket0 _) h
  simp only [List.nil_append] at hnew
  rw [hnew]
  intro sc
  exact hrun sc

/-- **two sane circuits with the same `flat`: runs in which every measuring operation recorded the same outcome found the
    same number of measurements random**, i.e. that outcome assignment has the same probability `2^(-r)` -/
theorem flat_eq_outcome_probability (c c' : Wire.Circuit) (hgood : c.Good) (har : ArityOk c) (hgood' : c'.Good)
    (har' : ArityOk c') (hflat : c'.flat = c.flat) (seq seq' : List Nat) (hl : c.isLinearExtension seq = true)
    (hl' : c'.isLinearExtension seq' = true) (d d' : Det) (script script' : List Bool) (s s' : RunState)
    (h1 : stabRun c.ne c.np d script ((c.sops seq).map toCOp) = some s)
    (h2 : stabRun c'.ne c'.np d' script' ((c'.sops seq').map toCOp) = some s')
    (hout : feed c.ne c.np (c.sops seq) s.outs (fun _ => []) = feed c'.ne c'.np (c'.sops seq') s'.outs (fun _ => [])) :
    s.rand.count true = s'.rand.count true := by
  obtain ⟨hne, hnp⟩ := flat_counts hflat
  have r1 := stabRun_refines_rand c hgood har seq d script s h1 (fun _ => [])
  have r2 := stabRun_refines_rand c' hgood' har' seq' d' script' s' h2 (fun _ => [])
  rw [hne, hnp] at r2 hout
  have e := denote_eq_of_good_flat_eq (appR c.ne c.np) (appR_comm c.ne c.np) c c' hgood hgood' hflat seq seq' hl hl'
    (RSt.init c.ne c.np (feed c.ne c.np (c.sops seq) s.outs (fun _ => [])))
  have e' := (runSeq_appR_val _ _ _ _).symm.trans ((congrArg Subtype.val e).trans (runSeq_appR_val _ _ _ _))
  have e3 : some (gstate s'.t, (fun _ => [] : Script), s'.rand.count true) =
      some (gstate s.t, (fun _ => [] : Script), s.rand.count true) := by
    rw [← r1, ← r2, ← hout]; exact e'
  simp only [Option.some.injEq, Prod.mk.injEq, true_and] at e3
  exact e3.2.symm

end Graphiq.Commute
