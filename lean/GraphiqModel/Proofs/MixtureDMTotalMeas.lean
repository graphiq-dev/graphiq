/-
  Proofs/MixtureDMTotalMeas.lean — both compilers *return* on every circuit of the classes the clauses of C06 speak about, so
  their hypotheses "if the compile returns" are met by the whole class (all n):

  * `OpRuns`  : measurement-free operations on existing qubits (control ≠ target) whose class the stabilizer compiler accepts,
    with additive noise (no replacement noise), depolarizing probabilities in `[0,1]` and a valid Pauli name;
  * `OpRuns2` : those, and noiseless `MeasurementZ` / `ClassicalCNOT` / `ClassicalCZ` / `MeasurementCNOTandReset` on existing qubits.

  `compileStab_runs2`, `compileDM_runs2` : both compiles return on `OpRuns2` circuits (no `assert`, no shape mismatch, no
  `np.isclose` failure, no empty mixture; the density-matrix compile may return the NaN state `ρ = none` after a measurement whose
  conditional probability is 0 — it still returns).  On `OpRuns` circuits the density-matrix compile returns a matrix, equal to
  `Σ_k w_k ρ(T_k)` of the mixture (`dm_equals_mixture_total`).
-/
import GraphiqModel.Proofs.MixtureDMJointCircuit
namespace Graphiq
namespace MixDM
open Matrix Hilbert Noise DM

/-- `PauliError` with a valid name -/
def NoBad : NoiseM → Prop
  | .pauli .bad _ => False
  | _ => True

/-- the operations on which both compilers are guaranteed to return -/
structure OpRuns (n np : Nat) (op : COp) : Prop where
  ok : OpOK n np op
  notParam : op.kind ≠ .param
  add0 : op.n0.isAdditive = true
  add1 : op.kind.isCtrlPair = true → op.n1.isAdditive = true
  bad0 : NoBad op.n0
  bad1 : op.kind.isCtrlPair = true → NoBad op.n1

theorem OpRuns.supported {n np : Nat} {op : COp} (h : OpRuns n np op) : Supported op := ⟨h.ok.mfree, h.add0, h.add1⟩

/-- a noise application that cannot fail -/
def NoiseRuns (nm : NoiseM) : Prop := nm.isAdditive = true ∧ NoBad nm ∧ ParamOK nm

/-! ### steps that cannot fail -/

theorem stabGate_runs (np n : Nat) (det : Bool) (op : COp) (hf : MFree op) (hw : OpWF n np op) (hk : op.kind ≠ .param)
    (s : StabSt) : ∃ s1, stabGate np n det op s = .ok s1 ∧ (s.mix ≠ [] → s1.mix ≠ []) := by
  obtain ⟨g, _, e⟩ := stabGate_eq np n det op hf hk s
  rw [e]
  split
  · exact ⟨s, rfl, id⟩
  · rw [if_pos ⟨hw.1, fun hc => hw.2.1 (Or.inl hc)⟩]
    exact ⟨_, rfl, mapTab_ne_nil _ s.mix⟩

theorem applyNoise_runs (nm : NoiseM) (hr : NoiseRuns nm) (q : Nat) (m : Mixture) (hm : m ≠ []) :
    ∃ m', Mix.applyNoise nm q m = .ok m' ∧ m' ≠ [] := by
  obtain ⟨ha, hb, hp⟩ := hr
  cases nm with
  | none => exact ⟨m, rfl, hm⟩
  | depol p a =>
    obtain ⟨m', h⟩ := Mix.depolarize_ok p q m hp.1 hp.2 hm
    refine ⟨m', h, ?_⟩
    obtain ⟨_, hne, rfl⟩ := Mix.depolarize_inv h
    exact reduce_ne_nil _ _ (List.length_pos_of_ne_nil hne) hne
  | pauli k a =>
    cases k
    · exact ⟨m, rfl, hm⟩
    · exact ⟨_, rfl, mapTab_ne_nil _ m hm⟩
    · exact ⟨_, rfl, mapTab_ne_nil _ m hm⟩
    · exact ⟨_, rfl, mapTab_ne_nil _ m hm⟩
    · exact absurd hb (by simp [NoBad])
  | loss r a =>
    refine ⟨_, rfl, ?_⟩
    cases m with
    | nil => exact absurd rfl hm
    | cons x xs => simp [Mix.photonLoss]
  | replace => simp [NoiseM.isAdditive] at ha
  | other => simp [NoiseM.isAdditive] at ha

theorem applyUnitary_runs (ρ : Mat) (u : SMat) (h : ρ.n = u.m.n) : ∃ r, applyUnitary ρ u = .ok r ∧ r.n = u.m.n :=
  ⟨_, applyUnitary_of_size h, applyUnitary_n (applyUnitary_of_size h)⟩

theorem dmGate_runs (np n : Nat) (det : Bool) (op : COp) (hf : MFree op) (hw : OpWF n np op) (hk : op.kind ≠ .param)
    (d : DmSt) (ρ : Mat) (hd : d.ρ = some ρ) (hρ : ρ.n = 2 ^ n) :
    ∃ d1 ρ1, dmGate np n det op d = .ok d1 ∧ d1.ρ = some ρ1 ∧ ρ1.n = 2 ^ n := by
  obtain ⟨ρ', e, hn, -⟩ := dmGate_mfree np n det op hf hw hk d ρ hd hρ
  exact ⟨_, ρ', e, rfl, hn⟩

theorem chanFold_n (ρ : Mat) : ∀ (ks : List SMat) (acc : Mat),
    (ks.foldl (fun acc k => (Mat.add acc (Mat.smul k.sq (Mat.conjBy k.m ρ)).norm).norm) acc).n = acc.n
  | [], _ => rfl
  | k :: ks, acc => by
    rw [List.foldl_cons, chanFold_n ρ ks, Mat.norm_n, add_n]

theorem applyChannel_cons {ρ : Mat} {k0 : SMat} (ks : List SMat) (h : ρ.n = k0.m.n) :
    applyChannel ρ (k0 :: ks) = .ok (Mat.hermitianize ((k0 :: ks).foldl
      (fun acc k => (Mat.add acc (Mat.smul k.sq (Mat.conjBy k.m ρ)).norm).norm) (Mat.zero ρ.n))).norm := by
  unfold applyChannel
  exact if_neg (not_not.mpr h)

theorem applyChannel_runs (ρ : Mat) (k0 : SMat) (ks : List SMat) (h : ρ.n = k0.m.n) :
    ∃ r, applyChannel ρ (k0 :: ks) = .ok r ∧ r.n = ρ.n := by
  refine ⟨_, applyChannel_cons ks h, ?_⟩
  rw [Mat.norm_n, hermitianize_n, chanFold_n]
  rfl

theorem dmNoise_runs (n q : Nat) (hq : q < n) (nm : NoiseM) (hr : NoiseRuns nm) (ρ : Mat) (hρ : ρ.n = 2 ^ n) :
    ∃ ρ1, DMx.applyNoise n nm q ρ = .ok ρ1 ∧ ρ1.n = 2 ^ n := by
  obtain ⟨ha, hb, _⟩ := hr
  cases nm with
  | none => exact ⟨ρ, rfl, hρ⟩
  | depol p a =>
    simp only [DMx.applyNoise, DMx.depolarize]
    rw [show List.range 4 = 0 :: [1, 2, 3] from rfl, List.map_cons]
    refine (applyChannel_runs ρ _ _ ?_).imp fun r h => ⟨h.1, by rw [h.2, hρ]⟩
    rw [hρ]
    exact (embed1_n n q hq _).symm
  | pauli k a =>
    simp only [DMx.applyNoise]
    have one : ∀ g : Mat, g.n = 2 → ∃ ρ1, applyUnitary ρ ⟨1, getOneQubitGate n q g⟩ = .ok ρ1 ∧ ρ1.n = 2 ^ n := by
      intro g hg
      have hs := oneQubitGate_n n q hq g hg
      obtain ⟨r, e, hr⟩ := applyUnitary_runs ρ ⟨1, getOneQubitGate n q g⟩ (by rw [hρ, hs])
      exact ⟨r, e, by rw [hr, hs]⟩
    cases k <;> simp only [DMx.pauliError]
    · obtain ⟨r, e, hr⟩ := applyUnitary_runs ρ ⟨1, Mat.eye (pow2 n)⟩ (by rw [hρ]; rfl)
      exact ⟨r, e, by rw [hr]; rfl⟩
    · exact one _ rfl
    · exact one _ rfl
    · exact one _ rfl
    · exact absurd hb (by simp [NoBad])
  | loss r a => exact ⟨_, rfl, hρ⟩
  | replace => simp [NoiseM.isAdditive] at ha
  | other => simp [NoiseM.isAdditive] at ha

/-- runnable operations, measurements included -/
inductive OpRuns2 (n np : Nat) (op : COp) : Prop
  | unitary (h : OpRuns n np op)
  | meas (hk : MeasAny op.kind) (hw : OpWF n np op) (h0 : op.n0.isNone = true) (h1 : op.n1.isNone = true)

theorem OpRuns2.gate {n np : Nat} {op : COp} (h : OpRuns2 n np op) :
    OpWF n np op ∧ op.kind ≠ .param ∧ (MFree op ∨ MeasAny op.kind) := by
  cases h with
  | unitary h => exact ⟨h.ok.wf, h.notParam, Or.inl h.ok.mfree⟩
  | meas hk hw _ _ =>
    refine ⟨hw, ?_, Or.inr hk⟩
    intro e
    rcases hk with h | h | h | h <;> rw [e] at h <;> cases h

theorem noiseRuns_of_none (nm : NoiseM) (h : nm.isNone = true) : NoiseRuns nm := by
  cases nm <;> simp_all [NoiseM.isNone, NoiseRuns, NoiseM.isAdditive, NoBad, ParamOK]

theorem OpRuns2.noise {n np : Nat} {op : COp} (h : OpRuns2 n np op) :
    (qIndex np op.r1 op.t1 < n ∧ NoiseRuns op.n0) ∧
    (op.kind.isCtrlPair = true → qIndex np op.r2 op.t2 < n ∧ NoiseRuns op.n1) := by
  cases h with
  | unitary h =>
    exact ⟨⟨h.ok.wf.1, h.add0, h.bad0, h.ok.p0⟩, fun hc => ⟨h.ok.wf.2.1 (Or.inl hc), h.add1 hc, h.bad1 hc, h.ok.p1⟩⟩
  | meas _ hw h0 h1 => exact ⟨⟨hw.1, noiseRuns_of_none _ h0⟩, fun hc => ⟨hw.2.1 (Or.inl hc), noiseRuns_of_none _ h1⟩⟩

theorem OpRuns2.places {n np : Nat} {op : COp} (h : OpRuns2 n np op) (ns : Bool) (be : Backend) (k : Nat) :
    ∃ acts, placeOp ns be np op k = .ok acts := by
  cases h with
  | meas _ _ h0 h1 => exact ⟨_, placeOp_none ns be np op k h0 h1⟩
  | unitary h =>
    cases ns with
    | false => exact ⟨_, placeOp_off be np op k⟩
    | true => exact ⟨_, placeOp_supported be np op k h.supported⟩

/-! ### the stabilizer side -/

theorem conditioned_ne_nil (f : Tab → Tab) (outs : List Bool) (m : Mixture) (hl : outs.length = m.length) (h : m ≠ []) :
    Mix.conditioned f outs m ≠ [] := by
  cases m with
  | nil => exact absurd rfl h
  | cons x xs =>
    cases outs with
    | nil => simp at hl
    | cons o os => simp [Mix.conditioned]

theorem stabMeasGate_runs (np n : Nat) (det : Bool) (op : COp) (hk : MeasAny op.kind) (hw : OpWF n np op) (s : StabSt) :
    ∃ s1, stabGate np n det op s = .ok s1 ∧ (s.mix ≠ [] → s1.mix ≠ []) := by
  have hq1 := hw.1
  unfold stabGate
  simp only
  have cls : ∀ (f : Tab → Tab) (reset : Bool), op.kind.isClassicalCtrl = true →
      ∃ s1, stabClassical n (qIndex np op.r1 op.t1) (qIndex np op.r2 op.t2) op.c det f reset s = .ok s1 ∧
        (s.mix ≠ [] → s1.mix ≠ []) := by
    intro f reset hc
    unfold stabClassical
    rw [if_pos ⟨hq1, hw.2.1 (Or.inr hc)⟩]
    refine ⟨_, rfl, ?_⟩
    intro hm
    have hl := Mix.measure_lengths (qIndex np op.r1 op.t1) det s.mix
    have h2 := conditioned_ne_nil f _ _ hl (measure_ne_nil _ det s.mix hm)
    cases reset
    · simpa using h2
    · simpa using mapTab_ne_nil _ _ h2
  rcases hk with hk | hk | hk | hk <;> simp only [hk]
  · unfold stabMeasZ
    rw [if_pos hq1]
    exact ⟨_, rfl, measure_ne_nil _ det s.mix⟩
  · exact cls _ _ (by simp [hk, Kind.isClassicalCtrl])
  · exact cls _ _ (by simp [hk, Kind.isClassicalCtrl])
  · exact cls _ _ (by simp [hk, Kind.isClassicalCtrl])

theorem stabAct_runs2 (np n : Nat) (det : Bool) (arr : Array COp) (a : Act)
    (ha : ActP (OpRuns2 n np) (fun q nm => q < n ∧ NoiseRuns nm) arr a) (s : StabSt)
    (hm : s.mix ≠ []) : ∃ s1, stabAct np n det arr s a = .ok s1 ∧ s1.mix ≠ [] := by
  cases a with
  | gate k =>
    simp only [stabAct]
    cases hk : arr[k]? with
    | none =>
      rw [getD_none arr k hk]
      exact ⟨s, rfl, hm⟩
    | some op =>
      rw [getD_some arr k op hk]
      obtain ⟨h1, h2, h3⟩ := (ha op hk).gate
      rcases h3 with hf | hme
      · obtain ⟨s1, e1, e2⟩ := stabGate_runs np n det op hf h1 h2 s
        exact ⟨s1, e1, e2 hm⟩
      · obtain ⟨s1, e1, e2⟩ := stabMeasGate_runs np n det op hme h1 s
        exact ⟨s1, e1, e2 hm⟩
  | noise k side q nm =>
    simp only [stabAct]
    obtain ⟨m', e1, e2⟩ := applyNoise_runs nm ha.2 q s.mix hm
    rw [e1]
    exact ⟨_, rfl, e2⟩
  | replace k => obtain ⟨_, _, hadd, _⟩ := ha; cases hadd

theorem compileStab_runs2 (ns : Bool) (ne np nc : Nat) (det : Bool) (ops : List COp)
    (hw : ∀ op ∈ ops, OpRuns2 (ne + np) np op) : ∃ s, compileStab ns ne np nc det ops = .ok s := by
  obtain ⟨tr, htr⟩ := traceGo_ok (ns := ns) (be := .stab) (np := np) ops 0 (fun op ho j => (hw op ho).places ns .stab j)
  obtain ⟨s, hs, _⟩ := runActs_runs (fun s : StabSt => s.mix ≠ []) _ (stabAct_runs2 np (ne + np) det ops.toArray) tr
    { mix := [(1, (Tab.ket0 (ne + np)).norm)], creg := List.replicate nc 0 }
    (trace_actP (toArray_forall hw) (fun op ho => (hw op ho).noise) htr) (by simp)
  exact ⟨s, stabGo_run.2 ⟨fun op ho => (hw op ho).gate.2.1, tr, htr, hs⟩⟩

/-! ### the density-matrix side -/

def DSize (n : Nat) (d : DmSt) : Prop := ∀ ρ, d.ρ = some ρ → ρ.n = 2 ^ n

theorem applyMeasurement_runs (ρ p0 p1 : Mat) (det : Bool) (hn : ρ.n = p0.n) (hp : p1.n = p0.n) :
    ∃ r o, applyMeasurement ρ p0 p1 det = .ok (r, o) ∧ ∀ ρ', r = some ρ' → ρ'.n = p0.n := by
  rw [applyMeasurement_eq ρ p0 p1 det hn]
  simp only
  generalize (if det = true then !isclose0 (prOf ρ p1) else isclose0 (prOf ρ p0)) = oc
  by_cases hz : (if 0 < prOf ρ p0 + prOf ρ p1 then (if oc = true then prOf ρ p1 else prOf ρ p0) / (prOf ρ p0 + prOf ρ p1) else 1) = 0
  · rw [if_pos hz]; exact ⟨none, oc, rfl, fun ρ' h => by cases h⟩
  · rw [if_neg hz]
    refine ⟨_, oc, rfl, ?_⟩
    intro ρ' h
    injection h with h; subst h
    rw [Mat.norm_n, smul_n, conjBy_n]
    cases oc
    exacts [rfl, hp]

theorem dmMeas_runs (n q1 q2 c : Nat) (det : Bool) (creg : List Nat) (ρ : Mat) (g : Option Mat) (reset : Bool) (hq1 : q1 < n)
    (hρn : ρ.n = 2 ^ n) (hg : ∀ m, g = some m → (getOneQubitGate n q2 m).n = 2 ^ n) :
    ∃ d1, dmMeas n q1 q2 c det creg ρ g reset = .ok d1 ∧ DSize n d1 := by
  have hproj : ∃ p0 p1, projectorsZ n q1 = .ok (p0, p1) ∧ p0.n = 2 ^ n ∧ p1.n = 2 ^ n := by
    unfold projectorsZ; rw [if_pos hq1]; exact ⟨_, _, rfl, rfl, rfl⟩
  obtain ⟨p0, p1, hp, n0, n1⟩ := hproj
  obtain ⟨r, o, ha, hr⟩ := applyMeasurement_runs ρ p0 p1 det (by rw [hρn, n0]) (by rw [n0, n1])
  unfold dmMeas
  rw [hp]
  simp only
  rw [ha]
  cases r with
  | none => exact ⟨_, rfl, fun ρ' h => by cases h⟩
  | some ρ1 =>
    simp only
    have hs1 : ρ1.n = 2 ^ n := by rw [hr ρ1 rfl, n0]
    have fin : ∀ ρ2 : Mat, ρ2.n = 2 ^ n →
        ∃ d1, ((if reset then applyChannel ρ2 (resetKraus n q1) else .ok ρ2 : Except Err Mat).map
          fun r => ({ ρ := some r, creg := setRec creg c (if o then 1 else 0) } : DmSt)) = .ok d1 ∧ DSize n d1 := by
      intro ρ2 hs2
      cases reset with
      | false =>
        refine ⟨_, rfl, ?_⟩
        intro ρ' h; injection h with h; subst h; exact hs2
      | true =>
        simp only [if_true]
        have hk0 := oneQubitGate_n n q1 hq1 (Mat.m2 1 0 0 0) rfl
        obtain ⟨r3, e3, hr3⟩ := applyChannel_runs ρ2 ⟨1, getOneQubitGate n q1 (Mat.m2 1 0 0 0)⟩
          [⟨1, getOneQubitGate n q1 (Mat.m2 0 1 0 0)⟩] (by rw [hs2, hk0])
        have e3' : applyChannel ρ2 (resetKraus n q1) = .ok r3 := e3
        rw [e3']
        refine ⟨_, rfl, ?_⟩
        intro ρ' h; injection h with h; subst h; rw [hr3, hs2]
    cases g with
    | none => exact fin ρ1 hs1
    | some m =>
      cases o with
      | false => exact fin ρ1 hs1
      | true =>
        have hgs := hg m rfl
        obtain ⟨r2, e, hr2⟩ := applyUnitary_runs ρ1 ⟨1, getOneQubitGate n q2 m⟩ (by rw [hs1, hgs])
        simp only [if_true]
        rw [e]
        exact fin r2 (by rw [hr2, hgs])

theorem dmMeasGate_runs (np n : Nat) (det : Bool) (op : COp) (hk : MeasAny op.kind) (hw : OpWF n np op) (d : DmSt)
    (hd : DSize n d) : ∃ d1, dmGate np n det op d = .ok d1 ∧ DSize n d1 := by
  cases hρ : d.ρ with
  | none => exact ⟨d, by unfold dmGate; rw [hρ], hd⟩
  | some ρ =>
    rw [dmGate_meas hk hρ]
    exact dmMeas_runs n _ _ _ det _ ρ _ _ hw.1 (hd ρ hρ)
      (fun m hm => (measPauli_spec hm n _ (hw.2.1 (Or.inr (measPauli_ctrl hm)))).1)

theorem dmAct_runs2 (np n : Nat) (det : Bool) (arr : Array COp) (a : Act)
    (ha : ActP (OpRuns2 n np) (fun q nm => q < n ∧ NoiseRuns nm) arr a) (d : DmSt)
    (hd : DSize n d) : ∃ d1, dmAct np n det arr d a = .ok d1 ∧ DSize n d1 := by
  cases a with
  | gate k =>
    simp only [dmAct]
    cases hk : arr[k]? with
    | none =>
      rw [getD_none arr k hk]
      refine ⟨d, ?_, hd⟩
      unfold dmGate
      cases d.ρ <;> rfl
    | some op =>
      rw [getD_some arr k op hk]
      obtain ⟨h1, h2, h3⟩ := (ha op hk).gate
      rcases h3 with hf | hme
      · cases hρ : d.ρ with
        | none =>
          refine ⟨d, ?_, hd⟩
          unfold dmGate; rw [hρ]
        | some ρ =>
          obtain ⟨d1, ρ1, e1, e2, e3⟩ := dmGate_runs np n det op hf h1 h2 d ρ hρ (hd ρ hρ)
          exact ⟨d1, e1, fun ρ' h => by rw [e2] at h; injection h with h; subst h; exact e3⟩
      · exact dmMeasGate_runs np n det op hme h1 d hd
  | noise k side q nm =>
    simp only [dmAct]
    cases hρ : d.ρ with
    | none => exact ⟨d, rfl, hd⟩
    | some ρ =>
      simp only
      obtain ⟨ρ1, e1, n1⟩ := dmNoise_runs n q ha.1 nm ha.2 ρ (hd ρ hρ)
      rw [e1]
      exact ⟨_, rfl, fun ρ' h => by injection h with h; subst h; exact n1⟩
  | replace k => obtain ⟨_, _, hadd, _⟩ := ha; cases hadd

theorem compileDM_runs2 (ns : Bool) (ne np nc : Nat) (det : Bool) (ops : List COp)
    (hw : ∀ op ∈ ops, OpRuns2 (ne + np) np op) : ∃ d, compileDM ns ne np nc det ops = .ok d := by
  obtain ⟨tr, htr⟩ := traceGo_ok (ns := ns) (be := .dm) (np := np) ops 0 (fun op ho j => (hw op ho).places ns .dm j)
  obtain ⟨d, hd, _⟩ := runActs_runs (DSize (ne + np)) _ (dmAct_runs2 np (ne + np) det ops.toArray) tr
    { ρ := some (⟨pow2 (ne + np), fun i j => if i = 0 ∧ j = 0 then 1 else 0⟩ : Mat).norm, creg := List.replicate nc 0 }
    (trace_actP (toArray_forall hw) (fun op ho => (hw op ho).noise) htr)
    (fun ρ h => by injection h with h; subst h; rfl)
  exact ⟨d, dmGo_run.2 ⟨tr, htr, hd⟩⟩

/-! ### measurement-free circuits -/

theorem compileStab_runs (ns : Bool) (ne np nc : Nat) (det : Bool) (ops : List COp)
    (hw : ∀ op ∈ ops, OpRuns (ne + np) np op) : ∃ s, compileStab ns ne np nc det ops = .ok s :=
  compileStab_runs2 ns ne np nc det ops (fun op h => .unitary (hw op h))

/-- **`DensityMatrixCompiler.compile` returns a matrix** on every circuit of the class: it returns, and what it returns on a
    measurement-free circuit is never the NaN state (`compileDM_toC`) -/
theorem compileDM_runs (ns : Bool) (ne np nc : Nat) (det : Bool) (ops : List COp)
    (hw : ∀ op ∈ ops, OpRuns (ne + np) np op) : ∃ d ρ, compileDM ns ne np nc det ops = .ok d ∧ d.ρ = some ρ := by
  obtain ⟨d, hd⟩ := compileDM_runs2 ns ne np nc det ops (fun op h => .unitary (hw op h))
  obtain ⟨_, _, ρ, hρ, _⟩ := compileDM_toC ns ne np nc det ops (fun op h => (hw op h).ok) d hd
  exact ⟨d, ρ, hd, hρ⟩

/-- **C06 (c), unconditional on the class**: on every measurement-free circuit of runnable operations both compilers return,
    and the density matrix equals `Σ_k w_k ρ(T_k)` of the mixture.  Every number of qubits. -/
theorem dm_equals_mixture_total (ns : Bool) (ne np nc : Nat) (det : Bool) (ops : List COp)
    (hw : ∀ op ∈ ops, OpRuns (ne + np) np op) :
    ∃ s d ρ, compileStab ns ne np nc det ops = .ok s ∧ compileDM ns ne np nc det ops = .ok d ∧ d.ρ = some ρ ∧
      Mat.EqOn ρ (mixtureDensity (ne + np) s.mix) := by
  obtain ⟨s, hs⟩ := compileStab_runs ns ne np nc det ops hw
  obtain ⟨d, ρ, hd, hρ⟩ := compileDM_runs ns ne np nc det ops hw
  exact ⟨s, d, ρ, hs, hd, hρ, dm_equals_mixture ns ne np nc det ops (fun op h => (hw op h).ok) s d ρ hs hd hρ⟩

end MixDM
end Graphiq
