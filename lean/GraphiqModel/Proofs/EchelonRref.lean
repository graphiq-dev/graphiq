/-
  Proofs/EchelonRref.lean — `rref` (stabilizer.py) returns a tableau in echelon form and keeps the signed group.
  What one call of `one_step_rref` does (`StepSpec`), the loop invariant of `rref` (`Inv`), and what a returning `rref` did
  (`rref_spec`, `rref_spanEq`).
-/
import GraphiqModel.Proofs.Echelon
import GraphiqModel.Proofs.Loop
namespace Graphiq
open PRow
namespace STab

/-- what one successful call of `one_step_rref(tableau, [pr, pc])` guarantees about the new tableau `t'` and pivot row `pr'` -/
structure StepSpec (t t' : STab) (pr pc pr' : Nat) : Prop where
  ops : Ops pr t t'
  le : pr ≤ pr' ∧ pr' ≤ pr + 2 ∧ pr' ≤ t.n
  lead : ∀ i, pr ≤ i → i < pr' → t'.ptype i pc ≠ 0
  rest : ∀ i, pr' ≤ i → i < t.n → t'.ptype i pc = 0
  two : pr' = pr + 2 → t'.ptype pr pc ≠ t'.ptype (pr + 1) pc

theorem type_trich (t : STab) (pr pc i : Nat) (hi : pr ≤ i) (hin : i < t.n) :
    t.ptype i pc = 0 ∨ i ∈ t.pickType pr pc 1 ∨ i ∈ t.pickType pr pc 2 ∨ i ∈ t.pickType pr pc 3 := by
  have h := ptype_le t i pc
  simp only [mem_pickType_iff]
  have c1 : tyCode 1 = 1 := rfl
  have c2 : tyCode 2 = 2 := rfl
  have c3 : tyCode 3 = 3 := rfl
  rw [c1, c2, c3]
  omega

theorem step_none (t : STab) (pr pc : Nat) (hpr : pr < t.n)
    (h1 : t.pickType pr pc 1 = []) (h2 : t.pickType pr pc 2 = []) (h3 : t.pickType pr pc 3 = []) :
    StepSpec t t pr pc pr := by
  refine ⟨Ops.refl, ⟨Nat.le_refl _, by omega, by omega⟩, fun i a b => by omega, ?_, fun h => by omega⟩
  intro i hi hin
  rcases type_trich t pr pc i hi hin with h | h | h | h
  · exact h
  · rw [h1] at h; cases h
  · rw [h2] at h; cases h
  · rw [h3] at h; cases h

/-- one Pauli type in the column: its first row becomes the pivot row, the other rows of that type are multiplied by it -/
theorem step_one (t : STab) (pr pc ty : Nat) (hpc : pc < t.n) (hty : ty = 1 ∨ ty = 2 ∨ ty = 3)
    (hne : t.pickType pr pc ty ≠ [])
    (hoth : (1 ≠ ty → t.pickType pr pc 1 = []) ∧ (2 ≠ ty → t.pickType pr pc 2 = []) ∧ (3 ≠ ty → t.pickType pr pc 3 = [])) :
    StepSpec t (t.processOne pr (t.pickType pr pc ty)) pr pc (pr + 1) := by
  have hc : tyCode ty = ty := by rcases hty with e | e | e <;> subst e <;> rfl
  have hl : ∀ i, i ∈ t.pickType pr pc ty ↔ pr ≤ i ∧ i < t.n ∧ t.ptype i pc = ty := by
    intro i; rw [mem_pickType_iff, hc]
  have hex : ∃ f, f ∈ t.pickType pr pc ty := by
    cases h : t.pickType pr pc ty with
    | nil => exact absurd h hne
    | cons f r => exact ⟨f, List.mem_cons_self⟩
  obtain ⟨f, hf⟩ := hex
  have hfb := (hl f).1 hf
  have hoth' : ∀ i, pr ≤ i → i < t.n → t.ptype i pc = ty ∨ t.ptype i pc = 0 := by
    intro i hi hin
    rcases type_trich t pr pc i hi hin with h | h | h | h
    · exact Or.inr h
    · by_cases e : (1 : Nat) = ty
      · left; rw [← e]; exact ((mem_pickType_iff t pr pc 1 i).1 h).2.2
      · rw [hoth.1 e] at h; cases h
    · by_cases e : (2 : Nat) = ty
      · left; rw [← e]; exact ((mem_pickType_iff t pr pc 2 i).1 h).2.2
      · rw [hoth.2.1 e] at h; cases h
    · by_cases e : (3 : Nat) = ty
      · left; rw [← e]; exact ((mem_pickType_iff t pr pc 3 i).1 h).2.2
      · rw [hoth.2.2 e] at h; cases h
  have col := processOne_col t pr pc ty (t.pickType pr pc ty) hpc hl (pickType_sorted t pr pc ty) hne hoth'
  refine ⟨processOne_ops t pr _ (pickType_sorted t pr pc ty) (fun i hi => ⟨((hl i).1 hi).1, ((hl i).1 hi).2.1⟩),
    ⟨by omega, by omega, by omega⟩, ?_, ?_, fun h => by omega⟩
  · intro i h1 h2
    have : i = pr := by omega
    subst this
    rw [col.1]; rcases hty with e | e | e <;> omega
  · intro i h1 h2
    exact col.2 i (by omega) h2

/-- two Pauli types in the column (the third is absent): two pivot rows, one per type; a row of either type is multiplied by
    the pivot row of its type -/
theorem step_two (t t' : STab) (pr pc ty1 ty2 ty3 : Nat) (hpc : pc < t.n)
    (hty : (ty1 = 2 ∧ ty2 = 3 ∧ ty3 = 1) ∨ (ty1 = 1 ∧ ty2 = 3 ∧ ty3 = 2) ∨ (ty1 = 1 ∧ ty2 = 2 ∧ ty3 = 3))
    (h3 : t.pickType pr pc ty3 = []) (hr : t.processTwo pr pc ty1 ty2 = some t') :
    StepSpec t t' pr pc (pr + 2) := by
  have hc : tyCode ty1 = ty1 ∧ tyCode ty2 = ty2 ∧ tyCode ty3 = ty3 ∧ ty1 ≠ ty2 ∧ ty1 ≠ 0 ∧ ty2 ≠ 0 ∧ ty1 + ty2 + ty3 = 6 := by
    rcases hty with ⟨a, b, c⟩ | ⟨a, b, c⟩ | ⟨a, b, c⟩ <;> subst a <;> subst b <;> subst c <;> decide
  obtain ⟨c1, c2, c3, hne, p1, p2, hsum⟩ := hc
  have col := processTwo_col t t' pr pc ty1 ty2 hpc (by rw [c1, c2]; exact hne) hr
  rw [c1, c2] at col
  have hn := processTwo_n t t' pr pc ty1 ty2 hr
  refine ⟨processTwo_ops t t' pr pc ty1 ty2 hr, ⟨by omega, by omega, by omega⟩, ?_, ?_, ?_⟩
  · intro i h1 h2
    have : i = pr ∨ i = pr + 1 := by omega
    rcases this with e | e <;> subst e
    · rw [col.1]; exact p1
    · rw [col.2.1]; exact p2
  · intro i h1 h2
    rcases col.2.2 i h1 h2 with h | ⟨n1, n2, k, hk1, hk2, hk⟩
    · exact h
    · have hk3 : t.ptype k pc ≠ ty3 := by
        intro e
        have : k ∈ t.pickType pr pc ty3 := (mem_pickType_iff t pr pc ty3 k).2 ⟨hk1, hk2, by rw [c3]; exact e⟩
        rw [h3] at this; cases this
      have hle := ptype_le t k pc
      rw [hk] at n1 n2 ⊢
      rcases hty with ⟨a, b, c⟩ | ⟨a, b, c⟩ | ⟨a, b, c⟩ <;> subst a <;> subst b <;> subst c <;> omega
  · intro _
    rw [col.1, col.2.1]; exact hne

/-- all three types: after the two-type step for X and Z every remaining Y row is multiplied by both pivot rows (X·Z·Y = ±I there) -/
theorem step_three (t t1 : STab) (pr pc : Nat) (hpc : pc < t.n) (hr : t.processTwo pr pc 1 3 = some t1) :
    StepSpec t ((t1.pickType pr pc 2).foldl (fun acc k => (acc.rowSum pr k).rowSum (pr + 1) k) t1).norm pr pc (pr + 2) := by
  have col := processTwo_col t t1 pr pc 1 3 hpc (by decide) hr
  have c1 : tyCode 1 = 1 := rfl
  have c3 : tyCode 3 = 3 := rfl
  rw [c1, c3] at col
  have hn := processTwo_n t t1 pr pc 1 3 hr
  have o1 := processTwo_ops t t1 pr pc 1 3 hr
  have hm : ∀ i, i ∈ t1.pickType pr pc 2 ↔ pr ≤ i ∧ i < t.n ∧ t1.ptype i pc = 2 := by
    intro i; rw [mem_pickType_iff, hn.1]; rfl
  have n1 : pr ∉ t1.pickType pr pc 2 := fun h => by have := ((hm pr).1 h).2.2; omega
  have n2 : pr + 1 ∉ t1.pickType pr pc 2 := fun h => by have := ((hm (pr + 1)).1 h).2.2; omega
  have hrow := foldl_rowSum2_row pr (t1.pickType pr pc 2) t1 (pickType_sorted t1 pr pc 2) n1 n2
  have hnf : ((t1.pickType pr pc 2).foldl (fun acc k => (acc.rowSum pr k).rowSum (pr + 1) k) t1).n = t.n := by
    rw [foldl_rowSum2_n, hn.1]
  have hpt : ∀ i, i < t.n →
      (((t1.pickType pr pc 2).foldl (fun acc k => (acc.rowSum pr k).rowSum (pr + 1) k) t1).norm).ptype i pc
        = (((t1.pickType pr pc 2).foldl (fun acc k => (acc.rowSum pr k).rowSum (pr + 1) k) t1).row i).pt pc := by
    intro i hi
    rw [ptype_norm _ i pc (by rw [hnf]; exact hi) (by rw [hnf]; exact hpc)]; rfl
  have v0 : (((t1.pickType pr pc 2).foldl (fun acc k => (acc.rowSum pr k).rowSum (pr + 1) k) t1).norm).ptype pr pc = 1 := by
    rw [hpt pr (by omega), hrow pr, if_neg n1]; exact col.1
  have v1 : (((t1.pickType pr pc 2).foldl (fun acc k => (acc.rowSum pr k).rowSum (pr + 1) k) t1).norm).ptype (pr + 1) pc = 3 := by
    rw [hpt (pr + 1) hn.2, hrow (pr + 1), if_neg n2]; exact col.2.1
  refine ⟨?_, ⟨by omega, by omega, by omega⟩, ?_, ?_, ?_⟩
  · apply Ops.trans o1
    apply Ops.norm
    apply Ops.foldl_sum2 pr (Nat.le_refl _) (by rw [hn.1]; exact hn.2) _ _ t1 Ops.refl
    intro i hi
    have := (hm i).1 hi
    refine ⟨this.1, by rw [hn.1]; exact this.2.1, ?_, ?_⟩
    · intro e; subst e; exact n1 hi
    · intro e; subst e; exact n2 hi
  · intro i h1 h2
    have : i = pr ∨ i = pr + 1 := by omega
    rcases this with e | e <;> subst e
    · rw [v0]; omega
    · rw [v1]; omega
  · intro i h1 h2
    rw [hpt i h2, hrow i]
    by_cases hi : i ∈ t1.pickType pr pc 2
    · rw [if_pos hi, pt_stabMul, pt_stabMul]
      have e0 : (t1.row pr).pt pc = 1 := col.1
      have e1 : (t1.row (pr + 1)).pt pc = 3 := col.2.1
      have e2 : (t1.row i).pt pc = 2 := ((hm i).1 hi).2.2
      rw [e0, e1, e2]; decide
    · rw [if_neg hi]
      have hle := ptype_le t1 i pc
      have hne2 : t1.ptype i pc ≠ 2 := fun e => hi ((hm i).2 ⟨by omega, h2, e⟩)
      rcases col.2.2 i h1 h2 with h | ⟨a, b, _⟩
      · exact h
      · show t1.ptype i pc = 0; omega
  · intro _; rw [v0, v1]; omega

theorem oneStepRref_spec (t t' : STab) (pr pc pr' pc' : Nat) (b : String) (hpr : pr < t.n) (hpc : pc < t.n)
    (hr : t.oneStepRref pr pc = some (t', pr', pc', b)) : StepSpec t t' pr pc pr' ∧ pc' = pc + 1 := by
  obtain ⟨hpc', ⟨rfl, rfl, hx, hy, hz⟩ | ⟨ty, hty, hne, hoth, rfl, rfl⟩ | ⟨ty1, ty2, ty3, hty, h3, hpt, rfl⟩ | ⟨t1, hpt, rfl, rfl⟩⟩ :=
    oneStepRref_cases t t' pr pc pr' pc' b hr
  · exact ⟨step_none _ _ pc hpr hx hy hz, hpc'⟩
  · exact ⟨step_one t pr pc ty hpc hty hne hoth, hpc'⟩
  · exact ⟨step_two t t' pr pc ty1 ty2 ty3 hpc hty h3 hpt, hpc'⟩
  · exact ⟨step_three t t1 pr pc hpc hpt, hpc'⟩

theorem oneStepRref_n (t t' : STab) (pr pc pr' pc' : Nat) (b : String)
    (hr : t.oneStepRref pr pc = some (t', pr', pc', b)) (hg : t.Good) (hp : pr < t.n) (hpc : pc < t.n) : t'.n = t.n :=
  (oneStepRref_spec t t' pr pc pr' pc' b hp hpc hr).1.ops.n_eq

/-! ### the loop invariant of `rref` -/

/-- loop invariant at pivot `[pr, pc]`: rows `< pr` are finished generators with leading sites `piv i < pc` in echelon order,
    rows `≥ pr` are trivial on the sites `< pc` -/
structure Inv (t : STab) (pr pc : Nat) (piv : Nat → Nat) : Prop where
  pr_le : pr ≤ t.n
  pc_le : pc ≤ t.n
  lead : ∀ i, i < pr → piv i < pc ∧ (∀ j, j < piv i → t.ptype i j = 0) ∧ t.ptype i (piv i) ≠ 0
  sorted : ∀ i k, i < k → k < pr →
    piv i ≤ piv k ∧ (piv i = piv k → k = i + 1 ∧ t.ptype i (piv i) ≠ t.ptype k (piv i))
  zero : ∀ i, pr ≤ i → i < t.n → ∀ j, j < pc → t.ptype i j = 0

theorem Inv.init (t : STab) : Inv t 0 0 (fun _ => 0) :=
  ⟨Nat.zero_le _, Nat.zero_le _, fun i h => by omega, fun i k _ h => by omega, fun i _ _ j h => by omega⟩

theorem Inv.step {t t' : STab} {pr pc pr' : Nat} {piv : Nat → Nat} (h : Inv t pr pc piv) (hpr : pr < t.n) (hpc : pc < t.n)
    (s : StepSpec t t' pr pc pr') : Inv t' pr' (pc + 1) (fun i => if i < pr then piv i else pc) := by
  have hn := s.ops.n_eq
  have low := s.ops.low
  have zero := s.ops.zero pc h.pc_le h.zero
  have hle := s.le
  refine ⟨by rw [hn]; exact hle.2.2, by rw [hn]; omega, ?_, ?_, ?_⟩
  · intro i hi
    by_cases hip : i < pr
    · simp only [if_pos hip]
      have hl := h.lead i hip
      have hin : i < t.n := by omega
      refine ⟨by omega, ?_, ?_⟩
      · intro j hj; rw [low i hip hin j (by omega)]; exact hl.2.1 j hj
      · rw [low i hip hin _ (by omega)]; exact hl.2.2
    · simp only [if_neg hip]
      refine ⟨by omega, ?_, ?_⟩
      · intro j hj; exact zero i (by omega) (by omega) j hj
      · exact s.lead i (by omega) hi
  · intro i k hik hk
    by_cases hkp : k < pr
    · have hip : i < pr := by omega
      simp only [if_pos hkp, if_pos hip]
      have hs := h.sorted i k hik hkp
      refine ⟨hs.1, fun e => ⟨(hs.2 e).1, ?_⟩⟩
      have hl := h.lead i hip
      rw [low i hip (by omega) _ (by omega), low k hkp (by omega) _ (by omega)]
      exact (hs.2 e).2
    · simp only [if_neg hkp]
      by_cases hip : i < pr
      · simp only [if_pos hip]
        have hl := h.lead i hip
        exact ⟨by omega, fun e => by omega⟩
      · simp only [if_neg hip]
        refine ⟨Nat.le_refl _, fun _ => ?_⟩
        have e1 : i = pr := by omega
        have e2 : k = pr + 1 := by omega
        subst e1; subst e2
        exact ⟨rfl, s.two (by omega)⟩
  · intro i hi hin j hj
    rw [hn] at hin
    by_cases hjc : j < pc
    · exact zero i (by omega) hin j hjc
    · have : j = pc := by omega
      subst this
      exact s.rest i hi hin

theorem rrefLoop_inv (fuel : Nat) (t : STab) (pr pc : Nat) (brs : List String) (piv : Nat → Nat)
    (t' : STab) (pr' pc' : Nat) (brs' : List String) (h : Inv t pr pc piv) (hf : t.n + 1 ≤ fuel + pc)
    (hr : rrefLoop fuel t pr pc brs = .ok (t', pr', pc', brs')) :
    ∃ piv', Inv t' pr' pc' piv' ∧ (t'.n ≤ pr' ∨ t'.n ≤ pc') ∧ Ops 0 t t' := by
  induction fuel generalizing t pr pc brs piv with
  | zero =>
    simp only [rrefLoop] at hr
    simp only [Except.ok.injEq, Prod.mk.injEq] at hr
    obtain ⟨rfl, rfl, rfl, _⟩ := hr
    exact ⟨piv, h, Or.inr (by omega), Ops.refl⟩
  | succ fuel ih =>
    simp only [rrefLoop] at hr
    split at hr
    · next hb =>
      split at hr
      · cases hr
      · next t1 pr1 pc1 b hs =>
        have sp := oneStepRref_spec t t1 pr pc pr1 pc1 b (by omega) (by omega) hs
        obtain ⟨sp, rfl⟩ := sp
        have h1 := h.step (by omega) (by omega) sp
        have hn := sp.ops.n_eq
        obtain ⟨piv', i1, i2, i3⟩ := ih t1 pr1 (pc + 1) _ _ h1 (by rw [hn]; omega) hr
        refine ⟨piv', i1, i2, Ops.trans ?_ i3⟩
        exact Ops.mono (Nat.zero_le _) sp.ops
    · simp only [Except.ok.injEq, Prod.mk.injEq] at hr
      obtain ⟨rfl, rfl, rfl, _⟩ := hr
      exact ⟨piv, h, by omega, Ops.refl⟩

/-! ### the result of `rref` -/

/-- **echelon form** (New J. Phys. 7, 170 (2005), as produced by `rref`): every generator `i` has a leading (leftmost
    non-identity) site `piv i`; leading sites are non-decreasing down the rows; at most two generators share a leading site,
    they are adjacent and carry two different Paulis there -/
structure Echelon (t : STab) (piv : Nat → Nat) : Prop where
  lead : ∀ i, i < t.n → piv i < t.n ∧ (∀ j, j < piv i → t.ptype i j = 0) ∧ t.ptype i (piv i) ≠ 0
  sorted : ∀ i k, i < k → k < t.n →
    piv i ≤ piv k ∧ (piv i = piv k → k = i + 1 ∧ t.ptype i (piv i) ≠ t.ptype k (piv i))

theorem Inv.echelon {t : STab} {pc : Nat} {piv : Nat → Nat} (h : Inv t t.n pc piv) : Echelon t piv :=
  ⟨fun i hi => ⟨by have := (h.lead i hi).1; have := h.pc_le; omega, (h.lead i hi).2⟩, h.sorted⟩

/-- **what a returning `rref` did**: a sequence of row swaps and products of two distinct rows, ending in an echelon form —
    except that the last row may be trivial (the case `pivot[0] = n - 1` of the final assertion, reached when the columns are
    exhausted first) -/
theorem rref_spec (t t' : STab) (brs : List String) (hr : t.rref = .ok (t', brs)) :
    Ops 0 t t' ∧ ((∃ piv, Echelon t' piv) ∨ (0 < t'.n ∧ ∀ j, j < t'.n → t'.ptype (t'.n - 1) j = 0)) := by
  unfold rref at hr
  split at hr
  · cases hr
  · next t1 pr1 pc1 brs1 hl =>
    split at hr
    · next hfin =>
      simp only [Except.ok.injEq, Prod.mk.injEq] at hr
      obtain ⟨rfl, _⟩ := hr
      obtain ⟨piv, inv, hex, o⟩ := rrefLoop_inv (t.n + 1) t 0 0 [] _ t1 pr1 pc1 brs1 (Inv.init t) (by omega) hl
      refine ⟨o, ?_⟩
      have hn := o.n_eq
      by_cases hfull : t1.n ≤ pr1
      · left
        have e : pr1 = t1.n := Nat.le_antisymm inv.pr_le hfull
        subst e
        exact ⟨piv, inv.echelon⟩
      · right
        have hpc : t1.n ≤ pc1 := by omega
        have e : pc1 = t1.n := Nat.le_antisymm inv.pc_le hpc
        subst e
        refine ⟨by omega, fun j hj => inv.zero (t1.n - 1) (by omega) (by omega) j hj⟩
    · cases hr

theorem rref_ops (t t' : STab) (brs : List String) (hr : t.rref = .ok (t', brs)) : Ops 0 t t' := (rref_spec t t' brs hr).1

/-- **`rref` keeps the stabilizer group, signs included**: the echelon form
    generates exactly the signed group of the input, and is again a real commuting set -/
theorem rref_spanEq (t t' : STab) (brs : List String) (hg : t.Good) (hr : t.rref = .ok (t', brs)) :
    SpanEq t t' ∧ t'.Good := (rref_ops t t' brs hr).spanEq hg

theorem rref_echelon_or_trivial (t t' : STab) (brs : List String) (hr : t.rref = .ok (t', brs)) :
    (∃ piv, Echelon t' piv) ∨ (0 < t'.n ∧ ∀ j, j < t'.n → t'.ptype (t'.n - 1) j = 0) := (rref_spec t t' brs hr).2

/-! ### `leftmost_nontrivial_index` on an echelon form -/

theorem leftmost_of_lead (t : STab) (i c : Nat) (hc : c < t.n) (hz : ∀ j, j < c → t.ptype i j = 0) (hl : t.ptype i c ≠ 0) :
    t.leftmost i = some c := by
  unfold leftmost
  rw [List.head?_filter, List.find?_range_eq_some]
  refine ⟨?_, List.mem_range.2 hc, ?_⟩
  · cases h : ((t.row i).x c || (t.row i).z c)
    · exact absurd ((PRow.pt_eq_zero_iff _ _).2 h) hl
    · rfl
  · intro j hj
    have := (PRow.pt_eq_zero_iff (t.row i) j).1 (hz j hj)
    rw [this]; rfl

theorem leftmost_none (t : STab) (i : Nat) (hz : ∀ j, j < t.n → t.ptype i j = 0) : t.leftmost i = none := by
  unfold leftmost
  rw [List.head?_filter, List.find?_range_eq_none]
  intro j hj
  have := (PRow.pt_eq_zero_iff (t.row i) j).1 (hz j hj)
  rw [this]; rfl

theorem mapM_option_some {α : Type} (f : α → Option Nat) (l : List α) (r : List Nat) (h : l.mapM f = some r) :
    r = l.map (fun a => (f a).getD 0) ∧ ∀ a, a ∈ l → (f a).isSome = true := by
  have h := Loop.mapM_iff.1 h
  constructor
  · have : (l.map f).map (·.getD 0) = r := by rw [h, List.map_map]; exact List.map_id' _
    rw [← this, List.map_map]; rfl
  · intro a ha
    have : f a ∈ r.map pure := h ▸ List.mem_map_of_mem ha
    obtain ⟨b, _, hb⟩ := List.mem_map.1 this
    rw [← hb]; rfl

end STab
end Graphiq
