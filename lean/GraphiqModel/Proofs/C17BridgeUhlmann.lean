/-
  Proofs/C17BridgeUhlmann.lean — for simultaneously diagonalisable pairs `ρ = U diag(p) U†`, `σ = U diag(q) U†`
  (`U` unitary, `p, q ≥ 0`) the Uhlmann fidelity `(tr √(√ρ σ √ρ))²` and the trace distance `½ tr √((ρ−σ)†(ρ−σ))` — with
  `√` the positive semidefinite square root of Mathlib (`CFC.sqrt` on matrices) — are the closed forms
  `F p q = (Σ √(p_i q_i))²` and `T p q = ½ Σ |p_i − q_i|` of Proofs/Commuting.lean.  Any dimension.
  Then, for arbitrary positive semidefinite arguments: a pure argument gives `tr(ρσ)`, `F(ρ, ρ) = (tr ρ)²`, `F ≥ 0`, and
  `F` is symmetric because `M M†` and `M† M` have the same characteristic polynomial.
-/
import GraphiqModel.Proofs.Commuting
import Mathlib.Analysis.Matrix.Order
import Mathlib.Analysis.SpecialFunctions.ContinuousFunctionalCalculus.Rpow.Basic
import Mathlib.Analysis.Complex.Order
import Mathlib.Analysis.Matrix.HermitianFunctionalCalculus
import Mathlib.LinearAlgebra.Matrix.Charpoly.Basic
namespace Graphiq
namespace C17B
open Matrix
open scoped MatrixOrder ComplexOrder

variable {ι : Type} [Fintype ι] [DecidableEq ι]

noncomputable def rdiag (d : ι → ℝ) : Matrix ι ι ℂ := Matrix.diagonal fun i => ((d i : ℝ) : ℂ)

theorem rdiag_mul (a b : ι → ℝ) : rdiag a * rdiag b = rdiag (fun i => a i * b i) := by
  unfold rdiag
  rw [Matrix.diagonal_mul_diagonal]
  congr 1; funext i; push_cast; rfl

theorem rdiag_sub (a b : ι → ℝ) : rdiag a - rdiag b = rdiag (fun i => a i - b i) := by
  unfold rdiag
  rw [Matrix.diagonal_sub]
  congr 1; funext i; push_cast; rfl

theorem rdiag_conjTranspose (a : ι → ℝ) : (rdiag a)ᴴ = rdiag a := by
  unfold rdiag
  rw [Matrix.diagonal_conjTranspose]
  congr 1; funext i; simp

omit [Fintype ι] in
theorem rdiag_psd (d : ι → ℝ) (hd : ∀ i, 0 ≤ d i) : (rdiag d).PosSemidef := by
  unfold rdiag
  apply Matrix.PosSemidef.diagonal
  intro i
  show (0 : ℂ) ≤ ((d i : ℝ) : ℂ)
  exact Complex.zero_le_real.mpr (hd i)

theorem trace_rdiag (d : ι → ℝ) : Matrix.trace (rdiag d) = ((∑ i, d i : ℝ) : ℂ) := by
  unfold rdiag
  rw [Matrix.trace_diagonal]; push_cast; rfl

noncomputable def conjDiag (U : Matrix ι ι ℂ) (d : ι → ℝ) : Matrix ι ι ℂ := U * rdiag d * Uᴴ

theorem conjDiag_mul (U : Matrix ι ι ℂ) (hU : Uᴴ * U = 1) (a b : ι → ℝ) :
    conjDiag U a * conjDiag U b = conjDiag U (fun i => a i * b i) := by
  unfold conjDiag
  have : U * rdiag a * Uᴴ * (U * rdiag b * Uᴴ) = U * (rdiag a * (Uᴴ * U) * rdiag b) * Uᴴ := by
    simp only [Matrix.mul_assoc]
  rw [this, hU, Matrix.mul_one, rdiag_mul]

theorem conjDiag_sub (U : Matrix ι ι ℂ) (a b : ι → ℝ) : conjDiag U a - conjDiag U b = conjDiag U (fun i => a i - b i) := by
  unfold conjDiag
  rw [← rdiag_sub, Matrix.mul_sub, Matrix.sub_mul]

theorem conjDiag_conjTranspose (U : Matrix ι ι ℂ) (a : ι → ℝ) : (conjDiag U a)ᴴ = conjDiag U a := by
  unfold conjDiag
  rw [Matrix.conjTranspose_mul, Matrix.conjTranspose_mul, Matrix.conjTranspose_conjTranspose, rdiag_conjTranspose,
    Matrix.mul_assoc]

theorem trace_conjDiag (U : Matrix ι ι ℂ) (hU : Uᴴ * U = 1) (d : ι → ℝ) :
    Matrix.trace (conjDiag U d) = ((∑ i, d i : ℝ) : ℂ) := by
  unfold conjDiag
  rw [Matrix.trace_mul_comm, ← Matrix.mul_assoc, hU, Matrix.one_mul, trace_rdiag]

theorem sqrt_conjDiag (U : Matrix ι ι ℂ) (hU : Uᴴ * U = 1) (d : ι → ℝ) (hd : ∀ i, 0 ≤ d i) :
    CFC.sqrt (conjDiag U d) = conjDiag U (fun i => Real.sqrt (d i)) := by
  apply CFC.sqrt_unique
  · rw [conjDiag_mul U hU]
    congr 1
    funext i
    exact Real.mul_self_sqrt (hd i)
  · rw [Matrix.nonneg_iff_posSemidef]
    exact (rdiag_psd _ (fun i => Real.sqrt_nonneg _)).mul_mul_conjTranspose_same U

/-- Uhlmann fidelity `(tr √(√ρ σ √ρ))²` -/
noncomputable def uhlmann (ρ σ : Matrix ι ι ℂ) : ℂ :=
  (Matrix.trace (CFC.sqrt (CFC.sqrt ρ * σ * CFC.sqrt ρ))) ^ 2

/-- trace distance `½ tr |ρ − σ|`, `|A| = √(A†A)` -/
noncomputable def traceDist (ρ σ : Matrix ι ι ℂ) : ℂ :=
  (1 / 2 : ℂ) * Matrix.trace (CFC.sqrt ((ρ - σ)ᴴ * (ρ - σ)))

open Graphiq.Commuting in
theorem uhlmann_commuting (U : Matrix ι ι ℂ) (hU : Uᴴ * U = 1) (p q : ι → ℝ) (hp : ∀ i, 0 ≤ p i) (hq : ∀ i, 0 ≤ q i) :
    uhlmann (conjDiag U p) (conjDiag U q) = ((F p q : ℝ) : ℂ) := by
  unfold uhlmann
  rw [sqrt_conjDiag U hU p hp, conjDiag_mul U hU, conjDiag_mul U hU,
    sqrt_conjDiag U hU _ (fun i => mul_nonneg (mul_nonneg (Real.sqrt_nonneg _) (hq i)) (Real.sqrt_nonneg _)),
    trace_conjDiag U hU]
  unfold F bc
  push_cast
  congr 1
  apply Finset.sum_congr rfl
  intro i _
  congr 1
  have : Real.sqrt (p i) * q i * Real.sqrt (p i) = p i * q i := by
    have := Real.mul_self_sqrt (hp i)
    calc Real.sqrt (p i) * q i * Real.sqrt (p i) = (Real.sqrt (p i) * Real.sqrt (p i)) * q i := by ring
      _ = p i * q i := by rw [this]
  rw [this]

open Graphiq.Commuting in
theorem traceDist_commuting (U : Matrix ι ι ℂ) (hU : Uᴴ * U = 1) (p q : ι → ℝ) :
    traceDist (conjDiag U p) (conjDiag U q) = ((T p q : ℝ) : ℂ) := by
  unfold traceDist
  rw [conjDiag_sub, conjDiag_conjTranspose, conjDiag_mul U hU,
    sqrt_conjDiag U hU _ (fun i => mul_self_nonneg _), trace_conjDiag U hU]
  unfold T
  push_cast
  congr 2
  funext i
  congr 1
  rw [← sq, Real.sqrt_sq_eq_abs]

/-! ### a pure argument: the shortcut `tr(ρσ)` of the code is the Uhlmann fidelity -/


noncomputable def ketBra (ψ : ι → ℂ) : Matrix ι ι ℂ := vecMulVec ψ (star ψ)

theorem ketBra_mul_self (ψ : ι → ℂ) (hψ : star ψ ⬝ᵥ ψ = 1) : ketBra ψ * ketBra ψ = ketBra ψ := by
  unfold ketBra
  rw [vecMulVec_mul_vecMulVec, hψ, one_smul]

theorem ketBra_psd (ψ : ι → ℂ) : (ketBra ψ).PosSemidef := posSemidef_vecMulVec_self_star ψ

theorem trace_ketBra (ψ : ι → ℂ) (hψ : star ψ ⬝ᵥ ψ = 1) : Matrix.trace (ketBra ψ) = 1 := by
  unfold ketBra
  rw [trace_vecMulVec, dotProduct_comm, hψ]

theorem trace_ketBra_mul (ψ : ι → ℂ) (σ : Matrix ι ι ℂ) : Matrix.trace (ketBra ψ * σ) = star ψ ⬝ᵥ σ *ᵥ ψ := by
  unfold ketBra
  rw [vecMulVec_mul, trace_vecMulVec, dotProduct_comm, dotProduct_mulVec]

theorem ofReal_re_of_nonneg {s : ℂ} (h : 0 ≤ s) : ((s.re : ℝ) : ℂ) = s := by
  apply Complex.ext
  · simp
  · simpa using (Complex.le_def.mp h).2

theorem trace_sqrt_ketBra (φ : ι → ℂ) :
    (Matrix.trace (CFC.sqrt (ketBra φ))) ^ 2 = star φ ⬝ᵥ φ := by
  have h0 : (0 : ℂ) ≤ star φ ⬝ᵥ φ := dotProduct_star_self_nonneg φ
  have hφ0 : star φ ⬝ᵥ φ = 0 → φ = 0 := dotProduct_star_self_eq_zero.mp
  have hAA : ketBra φ * ketBra φ = (star φ ⬝ᵥ φ) • ketBra φ := by
    unfold ketBra
    rw [vecMulVec_mul_vecMulVec, vecMulVec_smul]
  have htr : Matrix.trace (ketBra φ) = star φ ⬝ᵥ φ := by
    unfold ketBra; rw [trace_vecMulVec, dotProduct_comm]
  generalize star φ ⬝ᵥ φ = t at h0 hφ0 hAA htr ⊢
  obtain ⟨r, rfl⟩ : ∃ r : ℝ, t = (r : ℂ) := ⟨t.re, (ofReal_re_of_nonneg h0).symm⟩
  have hr0 : 0 ≤ r := Complex.zero_le_real.mp h0
  by_cases hz : r = 0
  · have : ketBra φ = 0 := by unfold ketBra; rw [hφ0 (by rw [hz]; rfl)]; simp
    rw [this, CFC.sqrt_zero, Matrix.trace_zero, hz]; simp
  · -- `√|φ⟩⟨φ| = |φ⟩⟨φ| / ‖φ‖`, of trace `‖φ‖² / ‖φ‖`
    have hs := Real.mul_self_sqrt hr0
    have hq : Real.sqrt r ≠ 0 := fun e => hz (by rw [← hs, e, mul_zero])
    have hroot : CFC.sqrt (ketBra φ) = (((Real.sqrt r)⁻¹ : ℝ) : ℂ) • ketBra φ := by
      apply CFC.sqrt_unique
      · have e : (Real.sqrt r)⁻¹ * (Real.sqrt r)⁻¹ * r = 1 := by rw [← mul_inv, hs, inv_mul_cancel₀ hz]
        rw [smul_mul_smul_comm, hAA, smul_smul, ← Complex.ofReal_mul, ← Complex.ofReal_mul, e, Complex.ofReal_one, one_smul]
      · rw [Matrix.nonneg_iff_posSemidef]
        exact (ketBra_psd φ).smul (Complex.zero_le_real.mpr (inv_nonneg.mpr (Real.sqrt_nonneg _)))
    have e : (Real.sqrt r)⁻¹ * r = Real.sqrt r := by
      nth_rewrite 2 [← hs]
      rw [← mul_assoc, inv_mul_cancel₀ hq, one_mul]
    rw [hroot, Matrix.trace_smul, htr, smul_eq_mul, ← Complex.ofReal_mul, ← Complex.ofReal_pow, e, sq, hs]

/-- **the pure-state shortcut is the Uhlmann fidelity**: for `σ` positive semidefinite and `ρ = |ψ⟩⟨ψ|`,
    `(tr √(√σ ρ √σ))² = tr(σ ρ) = ⟨ψ|σ|ψ⟩` -/
theorem uhlmann_pure_right (ψ : ι → ℂ) (σ : Matrix ι ι ℂ) (hσ : σ.PosSemidef) :
    uhlmann σ (ketBra ψ) = Matrix.trace (σ * ketBra ψ) := by
  have hrH : (CFC.sqrt σ)ᴴ = CFC.sqrt σ := (Matrix.nonneg_iff_posSemidef.mp (CFC.sqrt_nonneg σ)).1
  have hrr : CFC.sqrt σ * CFC.sqrt σ = σ := CFC.sqrt_mul_sqrt_self σ (Matrix.nonneg_iff_posSemidef.mpr hσ)
  unfold uhlmann
  generalize CFC.sqrt σ = R at hrH hrr ⊢
  have hsand : R * ketBra ψ * R = ketBra (R *ᵥ ψ) := by
    unfold ketBra
    rw [mul_vecMulVec, vecMulVec_mul, star_mulVec, hrH]
  rw [hsand, trace_sqrt_ketBra, star_mulVec, hrH, ← dotProduct_mulVec, mulVec_mulVec, hrr]
  unfold ketBra
  rw [mul_vecMulVec, trace_vecMulVec, dotProduct_comm]



/-- **`F(ρ, ρ) = (tr ρ)²`**, in particular 1 for a density matrix -/
theorem uhlmann_self (ρ : Matrix ι ι ℂ) (hρ : ρ.PosSemidef) : uhlmann ρ ρ = (Matrix.trace ρ) ^ 2 := by
  have h0 : (0 : Matrix ι ι ℂ) ≤ ρ := Matrix.nonneg_iff_posSemidef.mpr hρ
  have hrr := CFC.sqrt_mul_sqrt_self ρ h0
  unfold uhlmann
  generalize CFC.sqrt ρ = R at hrr ⊢
  have e : R * ρ * R = ρ * ρ := by
    rw [← hrr]; simp only [Matrix.mul_assoc]
  rw [e, CFC.sqrt_mul_self ρ h0]

/-- `uhlmann ρ σ` is a nonnegative real number, for any two matrices -/
theorem uhlmann_nonneg (ρ σ : Matrix ι ι ℂ) : 0 ≤ uhlmann ρ σ := by
  unfold uhlmann
  have h := (Matrix.nonneg_iff_posSemidef.mp (CFC.sqrt_nonneg (CFC.sqrt ρ * σ * CFC.sqrt ρ))).trace_nonneg
  exact pow_nonneg h 2


/-! ### symmetry -/


theorem trace_sqrt_eq_sum {A : Matrix ι ι ℂ} (hA : A.PosSemidef) :
    Matrix.trace (CFC.sqrt A) = ∑ i, ((Real.sqrt (hA.1.eigenvalues i) : ℝ) : ℂ) := by
  rw [CFC.sqrt_eq_cfc, cfc_nnreal_eq_real _ A, hA.1.cfc_eq]
  simp only [IsHermitian.cfc, Unitary.conjStarAlgAut_apply]
  rw [Matrix.trace_mul_comm, ← Matrix.mul_assoc]
  simp [Matrix.trace_diagonal]
  apply Finset.sum_congr rfl
  intro i _
  rw [max_eq_left (hA.eigenvalues_nonneg i)]

/-- `M M†` and `M† M` have the same characteristic polynomial, so their square roots have the same trace -/
theorem trace_sqrt_mul_conjTranspose_comm (M : Matrix ι ι ℂ) :
    Matrix.trace (CFC.sqrt (M * Mᴴ)) = Matrix.trace (CFC.sqrt (Mᴴ * M)) := by
  have p1 := posSemidef_self_mul_conjTranspose M
  have p2 := posSemidef_conjTranspose_mul_self M
  have heig : p1.1.eigenvalues = p2.1.eigenvalues :=
    (Matrix.IsHermitian.eigenvalues_eq_eigenvalues_iff p1.1 p2.1).2 (Matrix.charpoly_mul_comm _ _)
  rw [trace_sqrt_eq_sum p1, trace_sqrt_eq_sum p2, heig]

/-- **the Uhlmann fidelity is symmetric** (any dimension): `(tr √(√ρ σ √ρ))² = (tr √(√σ ρ √σ))²` — the two matrices are
    `(AB)(AB)†` and `(AB)†(AB)` for `A = √ρ`, `B = √σ` -/
theorem uhlmann_symm (ρ σ : Matrix ι ι ℂ) (hρ : ρ.PosSemidef) (hσ : σ.PosSemidef) : uhlmann ρ σ = uhlmann σ ρ := by
  have hAH : (CFC.sqrt ρ)ᴴ = CFC.sqrt ρ := (Matrix.nonneg_iff_posSemidef.mp (CFC.sqrt_nonneg ρ)).1
  have hBH : (CFC.sqrt σ)ᴴ = CFC.sqrt σ := (Matrix.nonneg_iff_posSemidef.mp (CFC.sqrt_nonneg σ)).1
  have hAA := CFC.sqrt_mul_sqrt_self ρ (Matrix.nonneg_iff_posSemidef.mpr hρ)
  have hBB := CFC.sqrt_mul_sqrt_self σ (Matrix.nonneg_iff_posSemidef.mpr hσ)
  unfold uhlmann
  generalize CFC.sqrt ρ = A at hAH hAA ⊢
  generalize CFC.sqrt σ = B at hBH hBB ⊢
  have e1 : A * σ * A = (A * B) * (A * B)ᴴ := by
    rw [Matrix.conjTranspose_mul, hAH, hBH, ← hBB]
    simp only [Matrix.mul_assoc]
  have e2 : B * ρ * B = (A * B)ᴴ * (A * B) := by
    rw [Matrix.conjTranspose_mul, hAH, hBH, ← hAA]
    simp only [Matrix.mul_assoc]
  rw [e1, e2, trace_sqrt_mul_conjTranspose_comm]

theorem uhlmann_pure_left (ψ : ι → ℂ) (σ : Matrix ι ι ℂ) (hσ : σ.PosSemidef) :
    uhlmann (ketBra ψ) σ = Matrix.trace (ketBra ψ * σ) := by
  rw [uhlmann_symm _ _ (ketBra_psd ψ) hσ, uhlmann_pure_right ψ σ hσ, Matrix.trace_mul_comm]

end C17B
end Graphiq
