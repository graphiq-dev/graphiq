/-
  The projection lemma of trace theory.  Elements of a list carry *keys* (the registers an operation acts on); two
  lists with the same subsequence for every key differ by exchanges of neighbours without a common key
  (`swapK_of_keys`), and such exchanges do not change a fold whose steps commute when they share no key
  (`SwapK.foldl_eq`).  Core Lean only.
-/
namespace Graphiq.Trace

section
variable {α κ : Type} [DecidableEq κ] (keys : α → List κ)

def disjK (a b : α) : Bool := (keys a).all fun k => !(keys b).contains k

def onK (k : κ) (o : α) : Bool := (keys o).contains k

/-- equivalence generated by exchanging two neighbours without a common key -/
inductive SwapK : List α → List α → Prop
  | refl (l : List α) : SwapK l l
  | swap (pre : List α) (a b : α) (post : List α) (h : disjK keys a b = true) :
      SwapK (pre ++ a :: b :: post) (pre ++ b :: a :: post)
  | trans {l1 l2 l3 : List α} : SwapK l1 l2 → SwapK l2 l3 → SwapK l1 l3

variable {keys}

theorem disjK_iff (a b : α) : disjK keys a b = true ↔ ∀ k ∈ keys a, k ∉ keys b := by
  unfold disjK
  simp only [List.all_eq_true, Bool.not_eq_true', List.contains_eq_mem, decide_eq_false_iff_not]

theorem onK_iff (k : κ) (o : α) : onK keys k o = true ↔ k ∈ keys o := by
  unfold onK
  simp only [List.contains_eq_mem, decide_eq_true_eq]

theorem SwapK.cons (a : α) {l1 l2 : List α} (h : SwapK keys l1 l2) : SwapK keys (a :: l1) (a :: l2) := by
  induction h with
  | refl l => exact .refl _
  | swap pre x y post hd => exact .swap (a :: pre) x y post hd
  | trans _ _ ih1 ih2 => exact .trans ih1 ih2

theorem SwapK.symm {x y : List α} (h : SwapK keys x y) : SwapK keys y x := by
  induction h with
  | refl l => exact .refl _
  | swap pre a b post hd =>
    exact .swap pre b a post ((disjK_iff b a).2 fun k hb ha => (disjK_iff a b).1 hd k ha hb)
  | trans _ _ ih1 ih2 => exact .trans ih2 ih1

theorem SwapK.length_eq {x y : List α} (h : SwapK keys x y) : x.length = y.length := by
  induction h with
  | refl l => rfl
  | swap pre a b post _ => simp only [List.length_append, List.length_cons]
  | trans _ _ ih1 ih2 => exact ih1.trans ih2

theorem moveFrontK (pre : List α) (a : α) (post : List α) (h : ∀ b ∈ pre, disjK keys b a = true) :
    SwapK keys (pre ++ a :: post) (a :: pre ++ post) := by
  induction pre with
  | nil => exact .refl _
  | cons b rest ih =>
    have h1 : SwapK keys (b :: (rest ++ a :: post)) (b :: (a :: rest ++ post)) :=
      SwapK.cons b (ih (fun x hx => h x (List.mem_cons_of_mem _ hx)))
    have h2 : SwapK keys ([] ++ b :: a :: (rest ++ post)) ([] ++ a :: b :: (rest ++ post)) :=
      .swap [] b a (rest ++ post) (h b List.mem_cons_self)
    exact .trans h1 h2

theorem filter_onK_disj (pre : List α) (a : α) (k : κ) (hk : onK keys k a = true)
    (h : ∀ b ∈ pre, disjK keys b a = true) : pre.filter (onK keys k) = [] := by
  rw [List.filter_eq_nil_iff]
  intro b hb hbk
  exact (disjK_iff b a).1 (h b hb) k ((onK_iff k b).1 hbk) ((onK_iff k a).1 hk)

theorem split_first_touching (a : α) (l : List α) (h : ∃ b ∈ l, disjK keys b a = false) :
    ∃ pre b post, l = pre ++ b :: post ∧ (∀ x ∈ pre, disjK keys x a = true) ∧ disjK keys b a = false := by
  induction l with
  | nil => obtain ⟨b, hb, _⟩ := h; cases hb
  | cons x rest ih =>
    by_cases hx : disjK keys x a = true
    · have : ∃ b ∈ rest, disjK keys b a = false := by
        obtain ⟨b, hb, hd⟩ := h
        rcases List.mem_cons.1 hb with rfl | hb
        · rw [hx] at hd; cases hd
        · exact ⟨b, hb, hd⟩
      obtain ⟨pre, b, post, he, hp, hb⟩ := ih this
      refine ⟨x :: pre, b, post, by rw [he]; rfl, ?_, hb⟩
      intro y hy
      rcases List.mem_cons.1 hy with rfl | hy
      · exact hx
      · exact hp y hy
    · exact ⟨[], x, rest, rfl, fun y hy => absurd hy List.not_mem_nil, Bool.eq_false_iff.mpr hx⟩

theorem head_split (a : α) (hne : keys a ≠ []) (rest l2 : List α)
    (hw : ∀ k, (a :: rest).filter (onK keys k) = l2.filter (onK keys k)) :
    ∃ pre post, l2 = pre ++ a :: post ∧ (∀ x ∈ pre, disjK keys x a = true) ∧
      ∀ k, rest.filter (onK keys k) = (pre ++ post).filter (onK keys k) := by
  obtain ⟨k0, hk0⟩ := List.exists_mem_of_ne_nil _ hne
  have hk0' : onK keys k0 a = true := (onK_iff k0 a).2 hk0
  have hex : ∃ b ∈ l2, disjK keys b a = false := by
    have h0 := hw k0
    rw [List.filter_cons_of_pos hk0'] at h0
    have hmem : a ∈ l2.filter (onK keys k0) := h0 ▸ List.mem_cons_self
    exact ⟨a, (List.mem_filter.1 hmem).1, Bool.eq_false_iff.2 fun hall => (disjK_iff a a).1 hall k0 hk0 hk0⟩
  obtain ⟨pre, b, post, he, hpre, hb⟩ := split_first_touching a l2 hex
  subst he
  -- `b` shares a key `k1` with `a`; for that key `a` is first in the one list and `b` is first in the other
  obtain ⟨k1, hk1b, hk1a⟩ : ∃ k, k ∈ keys b ∧ k ∈ keys a := Classical.byContradiction fun hcon => by
    rw [(disjK_iff b a).2 fun k hkb hka => hcon ⟨k, hkb, hka⟩] at hb
    cases hb
  have hk1a' : onK keys k1 a = true := (onK_iff k1 a).2 hk1a
  have hk1b' : onK keys k1 b = true := (onK_iff k1 b).2 hk1b
  have hba : b = a := by
    have h1 := hw k1
    rw [List.filter_append, filter_onK_disj pre a k1 hk1a' hpre, List.filter_cons_of_pos hk1a',
      List.filter_cons_of_pos hk1b'] at h1
    exact (List.cons.inj h1).1.symm
  subst hba
  refine ⟨pre, post, rfl, hpre, fun k => ?_⟩
  have h1 := hw k
  rw [List.filter_append] at h1 ⊢
  by_cases hka : onK keys k b = true
  · rw [filter_onK_disj pre b k hka hpre] at h1 ⊢
    rw [List.filter_cons_of_pos hka, List.filter_cons_of_pos hka] at h1
    exact (List.cons.inj h1).2
  · rw [List.filter_cons_of_neg hka, List.filter_cons_of_neg hka] at h1
    exact h1

/-- **the subsequences for all keys determine the list up to commuting exchanges**, if every element has a key -/
theorem swapK_of_keys (l1 l2 : List α) (hne1 : ∀ o ∈ l1, keys o ≠ []) (hne2 : ∀ o ∈ l2, keys o ≠ [])
    (hw : ∀ k, l1.filter (onK keys k) = l2.filter (onK keys k)) : SwapK keys l1 l2 := by
  induction l1 generalizing l2 with
  | nil =>
    cases l2 with
    | nil => exact .refl _
    | cons b rest =>
      exfalso
      cases hks : keys b with
      | nil => exact hne2 b List.mem_cons_self hks
      | cons k _ =>
        have h0 := hw k
        have hb : onK keys k b = true := (onK_iff k b).2 (by rw [hks]; exact List.mem_cons_self)
        rw [List.filter_cons_of_pos hb] at h0
        cases h0
  | cons a rest ih =>
    obtain ⟨pre, post, rfl, hpre, hw'⟩ := head_split a (hne1 a List.mem_cons_self) rest l2 hw
    refine .trans (SwapK.cons a (ih (pre ++ post) (fun o ho => hne1 o (List.mem_cons_of_mem _ ho)) (fun o ho => hne2 o ?_) hw'))
      (moveFrontK pre a post hpre).symm
    exact (List.mem_append.mp ho).elim (List.mem_append_left _) fun h => List.mem_append_right _ (List.mem_cons_of_mem _ h)

theorem SwapK.foldl_eq {σ : Type} {f : σ → α → σ} {Inv : σ → Prop} (hinv : ∀ s a, Inv s → Inv (f s a))
    (hcomm : ∀ a b, (∀ k, k ∈ keys a → k ∉ keys b) → ∀ s, Inv s → f (f s a) b = f (f s b) a)
    {l1 l2 : List α} (h : SwapK keys l1 l2) (s : σ) (hs : Inv s) : l1.foldl f s = l2.foldl f s := by
  induction h generalizing s with
  | refl => rfl
  | swap pre a b post hab =>
    have hpre : Inv (pre.foldl f s) := List.foldlRecOn pre f hs fun _ hb a _ => hinv _ a hb
    simp only [List.foldl_append, List.foldl_cons]
    rw [hcomm a b ((disjK_iff a b).mp hab) _ hpre]
  | trans h12 _ ih1 ih2 =>
    rw [ih1 s hs, ih2 s hs]

end

end Graphiq.Trace
