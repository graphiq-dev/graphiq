/-
  FuseLoop.lean — `group_one_qubit_gates`, whole edit: on every wire the operation sequence becomes `fuseWire` of what it
  was (Proofs/Fuse.lean), for circuits of graphiq-constructed operations — the operations seen through any `CregView`, so both
  as held by the nodes (`groupOneQubitGates_wires`) and as wired (Proofs/MetricsHistWires.lean).  At the end: `GraphiqOp`, the
  hypothesis on the operation arguments of an edit history under which `GroupHyp` holds on every reachable circuit.
-/
import GraphiqModel.Proofs.FuseWalk
namespace Graphiq
namespace Dag
open Relation Metrics

theorem output_not_key {op : Op} (hwf : OpWF op) (hp : PlainOp op) : "Output" ∉ op.indexKeys :=
  List.count_eq_zero.mp ((count_kindName_keys hwf hp .output (by decide)).trans (if_neg hwf.not_output))

theorem wireOps_out (c : Dag) (r : Reg) : wireOps c [NodeId.out r] = [] := by simp [wireOps]

/-- `node_dict["Output"]` of a plain circuit: the output nodes of the existing registers, each once -/
theorem outputList_spec {c : Dag} {P : Paths} (g : Good c P) (hpl : AllPlain c) :
    (dictGet c.nodeDict "Output").Nodup ∧
    (∀ n ∈ dictGet c.nodeDict "Output", ∃ r, n = NodeId.out r ∧ c.live r) ∧
    (∀ r, c.live r → NodeId.out r ∈ dictGet c.nodeDict "Output") := by
  have hcount : ∀ n, (dictGet c.nodeDict "Output").count n = match n with | .out r => (if c.live r then 1 else 0) | _ => 0 := by
    intro n
    rw [g.inv.nodeDict_ok]
    unfold indexCount
    cases ho : c.opOf? n with
    | none =>
      cases n with
      | out r =>
        have : ¬ c.live r := fun hl => (opOf_eq_none.mp ho) ((g.inv.out_iff r).mpr hl)
        simp [this]
      | inp r => rfl
      | op i => rfl
    | some o =>
      have hm := (opOf_eq_some g.inv.ids_nodup).mp ho
      cases n with
      | out r =>
        have : c.live r := (g.inv.out_iff r).mp (mem_nodeIds.mpr ⟨o, hm⟩)
        simp [indexKeysOf, this]
      | inp r => simp [indexKeysOf]
      | op i =>
        simp only [indexKeysOf]
        exact List.count_eq_zero.mpr (output_not_key (g.inv.op_wf i o hm) (hpl i o hm).toPlainOp)
  refine ⟨?_, ?_, ?_⟩
  · rw [List.nodup_iff_count]
    intro n
    rw [hcount n]
    cases n with
    | out r => by_cases hl : c.live r <;> simp [hl]
    | inp r => simp
    | op i => simp
  · intro n hn
    have hpos : 0 < (dictGet c.nodeDict "Output").count n := List.count_pos_iff.mpr hn
    rw [hcount n] at hpos
    cases n with
    | out r =>
      by_cases hl : c.live r
      · exact ⟨r, rfl, hl⟩
      · simp [hl] at hpos
    | inp r => simp at hpos
    | op i => simp at hpos
  · intro r hl
    apply List.count_pos_iff.mp
    rw [hcount]; simp [hl]

theorem fuseWire_nil (r : Reg) : fuseWire r [] = [] := rfl

theorem groupable_out {c : Dag} {P : Paths} (h : Inv c P) (r : Reg) : c.groupable (.out r) = false := by
  rw [groupable_eq h]
  cases c.opOf? (.out r) with
  | none => rfl
  | some o => simp [indexKeysOf]

def ng (c : Dag) (x : NodeId) : Bool := !c.groupable x

/-- one register of the outer loop: the walk from the node before `out r` -/
theorem groupReg_wires {f : NodeId → Op → Op} (hV : CregView f) {c : Dag} {P : Paths} (g : Good c P) (hh : GroupHyp c)
    {r : Reg} (hl : c.live r) :
    (groupWalk r (c.nodes.length + 1) c (predOut P r) []).2 = none ∧
    ∃ P', Good (groupWalk r (c.nodes.length + 1) c (predOut P r) []).1 P' ∧
      GroupHyp (groupWalk r (c.nodes.length + 1) c (predOut P r) []).1 ∧
      (groupWalk r (c.nodes.length + 1) c (predOut P r) []).1.regs = c.regs ∧
      wireOpsF f (groupWalk r (c.nodes.length + 1) c (predOut P r) []).1 (P' r) = fuseWire r (wireOpsF f c (P r)) ∧
      (∀ k, k ≠ r → P' k = P k ∧ wireOpsF f (groupWalk r (c.nodes.length + 1) c (predOut P r) []).1 (P' k) = wireOpsF f c (P k)) ∧
      ((P r).filter (ng c)).Sublist (P' r) ∧
      (∀ x, x ∈ c.nodeIds → c.groupable x = false →
        (groupWalk r (c.nodes.length + 1) c (predOut P r) []).1.opOf? x = c.opOf? x) ∧
      (∀ j, P' ⟨.c, j⟩ = P ⟨.c, j⟩) := by
  obtain ⟨pre, hP⟩ := g.inv.path_split_last hl
  have hP' : P r = pre ++ predOut P r :: [NodeId.out r] := hP
  have hlen : pre.length + 1 ≤ c.nodes.length + 1 := by
    have h1 := (g.inv.nodup r).length_le_of_subset (fun x hx => g.inv.mem_nodes r x hx)
    rw [hP] at h1
    simp [nodeIds] at h1
    omega
  obtain ⟨e, P', g', hh', hw, hoth, hsub, hkeep, hcl⟩ :=
    groupWalk_wires r hV (c.nodes.length + 1) g hh pre [NodeId.out r] (predOut P r) [] hP' (by simp) hlen (by simp) (by simp)
  obtain ⟨_, sw⟩ := groupWalk_chain r (c.nodes.length + 1) g (predOut P r) []
  have hregs := sw.regs (fun _ h => h.not_newReg) g
  have hclass : ∀ j, P' ⟨.c, j⟩ = P ⟨.c, j⟩ := by
    intro j
    by_cases h : (⟨.c, j⟩ : Reg) = r
    · subst h; exact hcl rfl
    · exact (hoth _ h).1
  refine ⟨e, P', g', hh', hregs, ?_, hoth, ?_, fun x hxm hxg => hkeep x hxm (fun _ => hxg), hclass⟩
  · rw [hw, wireOpsF_out f, List.append_nil, fuseBack_eq_fuseWire, hP,
      show pre ++ [predOut P r, NodeId.out r] = (pre ++ [predOut P r]) ++ [NodeId.out r] by simp,
      wireOpsF_append f c (pre ++ [predOut P r]) [NodeId.out r], wireOpsF_out f, List.append_nil]
  · have : (P r).filter (ng c) = (pre ++ [predOut P r]).filter (fun x => !c.groupable x) ++ [NodeId.out r] := by
      rw [hP, show pre ++ [predOut P r, NodeId.out r] = (pre ++ [predOut P r]) ++ [NodeId.out r] by simp,
        List.filter_append]
      congr 1
      simp [ng, groupable_out g.inv]
    rw [this]; exact hsub

theorem groupLoop_wires {f : NodeId → Op → Op} (hV : CregView f) : ∀ (os : List NodeId) {c : Dag} {P : Paths},
    Good c P → GroupHyp c → os.Nodup → (∀ n ∈ os, ∃ r, n = NodeId.out r ∧ c.live r) →
    (c.groupLoop os).2 = none ∧ ∃ P', Good (c.groupLoop os).1 P' ∧ GroupHyp (c.groupLoop os).1 ∧
      (∀ r, wireOpsF f (c.groupLoop os).1 (P' r) =
        if NodeId.out r ∈ os then fuseWire r (wireOpsF f c (P r)) else wireOpsF f c (P r)) ∧
      (∀ r, ((P r).filter (ng c)).Sublist (P' r)) ∧
      (∀ x, x ∈ c.nodeIds → c.groupable x = false → (c.groupLoop os).1.opOf? x = c.opOf? x) ∧
      (∀ j, P' ⟨.c, j⟩ = P ⟨.c, j⟩) := by
  intro os
  induction os with
  | nil =>
    intro c P g hh _ _
    exact ⟨rfl, P, g, hh, fun r => by simp [groupLoop], fun r => List.filter_sublist, fun _ _ _ => rfl, fun _ => rfl⟩
  | cons n rest ih =>
    intro c P g hh hnd hos
    obtain ⟨r0, rfl, hl⟩ := hos n (by simp)
    have hnd' := List.nodup_cons.mp hnd
    obtain ⟨op, hop⟩ := mem_nodeIds.mp ((g.inv.out_iff r0).mpr hl)
    have hopo : c.opOf? (.out r0) = some op := (opOf_eq_some g.inv.ids_nodup).mpr hop
    have hedge : edgeFromReg (c.inEdges (.out r0)) r0 = some (lastEdge P r0) := by
      unfold edgeFromReg
      rw [g.inv.inEdges_out hl]
      simp [lastEdge]
    obtain ⟨e1, P1, g1, hh1, hregs1, hw1, hoth1, hsub1, hkeep1, hcl1⟩ := groupReg_wires hV g hh hl
    unfold groupLoop
    rw [hopo]
    simp only [outReg, hedge, lastEdge]
    cases hres : groupWalk r0 (c.nodes.length + 1) c (predOut P r0) [] with
    | mk c1 err =>
      rw [hres] at e1 g1 hh1 hregs1 hw1 hoth1 hkeep1
      simp only at e1 g1 hh1 hregs1 hw1 hoth1 hkeep1
      subst e1
      simp only
      have hos1 : ∀ n ∈ rest, ∃ r, n = NodeId.out r ∧ c1.live r := by
        intro n hn
        obtain ⟨r, hr, hlr⟩ := hos n (List.mem_cons_of_mem _ hn)
        exact ⟨r, hr, (live_eq_of_regs hregs1 r).mpr hlr⟩
      obtain ⟨e2, P2, g2, hh2, hw2, hsub2, hkeep2, hcl2⟩ := ih g1 hh1 hnd'.2 hos1
      -- a node that is not groupable stays, with its operation, and stays not groupable
      have hstay : ∀ x, x ∈ c.nodeIds → c.groupable x = false → x ∈ c1.nodeIds ∧ c1.groupable x = false := by
        intro x hxm hxg
        have h1 := hkeep1 x hxm hxg
        exact ⟨mem_nodeIds_of_opOf_eq h1 hxm, by rw [groupable_congr g.inv g1.inv h1]; exact hxg⟩
      refine ⟨e2, P2, g2, hh2, ?_, ?_, ?_, fun j => (hcl2 j).trans (hcl1 j)⟩
      · intro r
        rw [hw2 r]
        by_cases hr : r = r0
        · subst hr
          rw [if_neg hnd'.1, if_pos (by simp), hw1]
        · have hne : NodeId.out r ≠ NodeId.out r0 := fun e => hr (by injection e)
          rw [(hoth1 r hr).2]
          by_cases hm : NodeId.out r ∈ rest
          · rw [if_pos hm, if_pos (List.mem_cons_of_mem _ hm)]
          · rw [if_neg hm, if_neg (by simp [hne, hm])]
      · intro r
        have hS1 : ((P r).filter (ng c)).Sublist (P1 r) := by
          by_cases hr : r = r0
          · subst hr; exact hsub1
          · rw [(hoth1 r hr).1]; exact List.filter_sublist
        have hSelf : ((P r).filter (ng c)).filter (ng c1) = (P r).filter (ng c) := by
          rw [List.filter_eq_self]
          intro x hx
          obtain ⟨hxP, hxg⟩ := List.mem_filter.mp hx
          have hxg' : c.groupable x = false := by simpa [ng] using hxg
          have := (hstay x (g.inv.mem_nodes r x hxP) hxg').2
          simp [ng, this]
        rw [← hSelf]
        exact List.Sublist.trans (List.Sublist.filter _ hS1) (hsub2 r)
      · intro x hxm hxg
        obtain ⟨hxm1, hxg1⟩ := hstay x hxm hxg
        exact (hkeep2 x hxm1 hxg1).trans (hkeep1 x hxm hxg)

/-- **`group_one_qubit_gates` is the fuse of runs on every wire**, for the operations seen through any `CregView`: on a circuit of
    graphiq-constructed operations the call does not raise, keeps DagInv, the operation sequence of every wire becomes `fuseWire` of
    what it was, the nodes that are not groupable stay on their wires in their order and keep their operations, and the classical
    wires are unchanged -/
theorem groupOneQubitGates_view {f : NodeId → Op → Op} (hV : CregView f) {c : Dag} {P : Paths} (g : Good c P) (hh : GroupHyp c) :
    c.groupOneQubitGates.2 = none ∧ ∃ P', Good c.groupOneQubitGates.1 P' ∧ GroupHyp c.groupOneQubitGates.1 ∧
      (∀ r, wireOpsF f c.groupOneQubitGates.1 (P' r) = fuseWire r (wireOpsF f c (P r))) ∧
      (∀ r, ((P r).filter (ng c)).Sublist (P' r)) ∧
      (∀ x, x ∈ c.nodeIds → c.groupable x = false → c.groupOneQubitGates.1.opOf? x = c.opOf? x) ∧
      (∀ j, P' ⟨.c, j⟩ = P ⟨.c, j⟩) := by
  obtain ⟨hnd, hmem, hall⟩ := outputList_spec g hh.plain
  obtain ⟨e, P', g', hh', hw, hsub, hkeep, hcl⟩ := groupLoop_wires hV (dictGet c.nodeDict "Output") g hh hnd hmem
  unfold groupOneQubitGates
  refine ⟨e, P', g', hh', ?_, hsub, hkeep, hcl⟩
  intro r
  rw [hw r]
  by_cases hl : c.live r
  · rw [if_pos (hall r hl)]
  · have hn : NodeId.out r ∉ dictGet c.nodeDict "Output" := by
      intro hm
      obtain ⟨r', hr', hl'⟩ := hmem _ hm
      injection hr' with hr'; subst hr'; exact hl hl'
    rw [if_neg hn, g.inv.dead r hl]
    rfl

theorem groupOneQubitGates_wires {c : Dag} {P : Paths} (g : Good c P) (hh : GroupHyp c) :
    c.groupOneQubitGates.2 = none ∧ ∃ P', Good c.groupOneQubitGates.1 P' ∧ GroupHyp c.groupOneQubitGates.1 ∧
      (∀ r, wireOps c.groupOneQubitGates.1 (P' r) = fuseWire r (wireOps c (P r))) ∧
      (∀ r, ((P r).filter (ng c)).Sublist (P' r)) ∧
      (∀ x, x ∈ c.nodeIds → c.groupable x = false → c.groupOneQubitGates.1.opOf? x = c.opOf? x) := by
  obtain ⟨e, P', g', hh', hw, hsub, hkeep, _⟩ := groupOneQubitGates_view cregView_id g hh
  exact ⟨e, P', g', hh', fun r => by rw [wireOps_eq_view, wireOps_eq_view]; exact hw r, hsub, hkeep⟩

theorem groupHyp_of_built (ne np nc : Nat) (seq : List Op)
    (hseq : ∀ op ∈ seq, OpWF op ∧ PlainOp' op ∧ (gOp op = true → (∃ r, op.qregs = [r]) ∧ op.cregs = []))
    (hok : (build ne np nc seq).2 = none) : DagInv (build ne np nc seq).1 ∧ GroupHyp (build ne np nc seq).1 := by
  obtain ⟨hops, hinv⟩ := build_spec ne np nc seq (fun op h => (hseq op h).1) hok
  refine ⟨hinv, ?_, ?_⟩
  · intro i o hm
    have : o ∈ opsOf (build ne np nc seq).1 := mem_opsOf.mpr ⟨i, hm⟩
    rw [hops] at this; exact (hseq o this).2.1
  · intro i o hm
    have : o ∈ opsOf (build ne np nc seq).1 := mem_opsOf.mpr ⟨i, hm⟩
    rw [hops] at this; exact (hseq o this).2.2

/-! ## the declarative reading of `fuseWire`: maximal runs -/

theorem fuseRun_nil (r : Reg) : fuseRun r [] = [] := rfl

theorem fuseFwd_run (r : Reg) (run : List Op) (hrun : ∀ o ∈ run, gOp o = true) (pre t : List Op) :
    fuseFwd r pre (run ++ t) = fuseFwd r (pre ++ run) t := by
  induction run generalizing pre with
  | nil => simp
  | cons a rest ih =>
    simp only [List.cons_append, fuseFwd, hrun a (by simp), if_true]
    rw [ih (fun o ho => hrun o (List.mem_cons_of_mem _ ho))]
    simp

theorem fuseWire_cons_ng (r : Reg) {o : Op} (ho : gOp o = false) (t : List Op) : fuseWire r (o :: t) = o :: fuseWire r t := by
  simp [fuseWire, fuseFwd, ho, fuseRun_nil]

/-- a maximal run (all groupable; followed by nothing or by a non-groupable operation) is replaced by `fuseRun` of it -/
theorem fuseWire_run (r : Reg) (run : List Op) (hrun : ∀ o ∈ run, gOp o = true) (t : List Op)
    (hmax : t = [] ∨ ∃ o t', t = o :: t' ∧ gOp o = false) : fuseWire r (run ++ t) = fuseRun r run ++ fuseWire r t := by
  unfold fuseWire
  rw [fuseFwd_run r run hrun [] t, List.nil_append]
  rcases hmax with rfl | ⟨o, t', rfl, ho⟩
  · simp [fuseFwd, fuseRun_nil]
  · simp [fuseFwd, ho, fuseRun_nil]

end Dag
end Graphiq

namespace Graphiq
namespace Metrics
open Dag Relation

/-- **an operation object as graphiq's classes construct it**: a gate on distinct quantum registers (`OpWF`), labels (user
    labels included) outside the reserved names, at most two quantum registers, a wrapper wraps base gate classes (`PlainOp'`), and an operation that carries
    the label "one-qubit" and is of a one-qubit gate class acts on one quantum register and no classical register
    (`OneQubitOperationBase.__init__`) -/
structure GraphiqOp (op : Op) : Prop where
  wf : OpWF op
  plain : PlainOp' op
  shape : gOp op = true → (∃ r, op.qregs = [r]) ∧ op.cregs = []

theorem graphiqOp_oneQubit {k : Kind} {r : Reg} (hk : k.isOneQubitBase = true) (hr : r.ty ≠ .c) :
    GraphiqOp (Op.oneQubit k r) :=
  ⟨oneQubit_wf hk hr, plain_oneQubit k r, fun _ => ⟨⟨r, rfl⟩, rfl⟩⟩

theorem opWF_of_not_wrapper {op : Op} (hk : op.kind ≠ .input ∧ op.kind ≠ .output ∧ op.kind ≠ .wrapper)
    (hq : op.qregs ≠ [] ∧ op.qregs.Nodup ∧ ∀ r ∈ op.qregs, r.ty ≠ .c) (hc : op.cregs.Nodup)
    (hkey : "OneQubitGateWrapper" ∉ op.indexKeys) : OpWF op :=
  { not_input := hk.1, not_output := hk.2.1, qregs_ne := hq.1, qregs_nodup := hq.2.1, cregs_nodup := hc,
    qregs_quantum := hq.2.2,
    wrapper_shape := fun h => absurd h hk.2.2,
    wrapper_key := fun h => absurd h hkey }

theorem init_groupHyp (ne np nc : Nat) : GroupHyp (Dag.init ne np nc) := by
  have h0 := opsOf_init ne np nc
  constructor
  · intro i o hm
    have := mem_opsOf.mpr ⟨i, hm⟩
    rw [h0] at this; simp at this
  · intro i o hm
    have := mem_opsOf.mpr ⟨i, hm⟩
    rw [h0] at this; simp at this

end Metrics
end Graphiq
