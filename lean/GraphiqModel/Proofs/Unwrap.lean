/-
  Unwrap.lean — the multiset of operations held by the circuit through `unwrap_nodes` and `remove_identity`
  (what `CircuitUnitaryCount` and `CircuitMaxEmitDepth` compute on the copy they prepare).
-/
import GraphiqModel.Proofs.Depth
namespace Graphiq
namespace Metrics
open Dag Relation

theorem countP_opsOf (c : Dag) (p : Op → Bool) :
    (opsOf c).countP p = c.nodes.countP (fun pr => isOpNode pr && p pr.2) := by
  unfold opsOf
  rw [List.countP_map, List.countP_filter]
  apply countP_congr_mem
  intro a _
  simp [Bool.and_comm]

theorem opsOf_of_nodes_append {c c' : Dag} {j : Nat} {w : Op} (h : c'.nodes = c.nodes ++ [(.op j, w)]) :
    opsOf c' = opsOf c ++ [w] := by
  unfold opsOf
  rw [h, List.filter_append]
  have : List.filter isOpNode [(NodeId.op j, w)] = [(NodeId.op j, w)] := by
    rw [List.filter_cons_of_pos (by simp [isOpNode])]; rfl
  rw [this]; simp

theorem countP_filter_ne {l : List (NodeId × Op)} (hnd : (l.map (·.1)).Nodup) {n : NodeId} {w : Op} (hm : (n, w) ∈ l)
    (q : NodeId × Op → Bool) :
    (l.filter (fun p => p.1 ≠ n)).countP q + (if q (n, w) then 1 else 0) = l.countP q := by
  induction l with
  | nil => simp at hm
  | cons a t ih =>
    have hnd' : a.1 ∉ t.map (·.1) ∧ (t.map (·.1)).Nodup := by
      rw [List.map_cons] at hnd; exact List.nodup_cons.mp hnd
    rcases List.mem_cons.mp hm with rfl | hm
    · -- the head is the removed node; it does not occur in the tail
      have htail : t.filter (fun p => decide (p.1 ≠ n)) = t := by
        rw [List.filter_eq_self]
        intro p hp
        have : p.1 ≠ n := fun e => hnd'.1 (e ▸ List.mem_map.mpr ⟨p, hp, rfl⟩)
        simpa using this
      rw [List.filter_cons_of_neg (by simp), htail, List.countP_cons]
    · have hne : a.1 ≠ n := fun e => hnd'.1 (e ▸ List.mem_map.mpr ⟨(n, w), hm, rfl⟩)
      rw [List.filter_cons_of_pos (by simpa using hne), List.countP_cons, List.countP_cons]
      have := ih hnd'.2 hm
      omega

theorem countP_opsOf_removed {c : Dag} {P : Paths} (g : Good c P) {i : Nat} {w : Op} (hw : (NodeId.op i, w) ∈ c.nodes)
    (p : Op → Bool) :
    (opsOf (c.removed (.op i) w)).countP p + (if p w then 1 else 0) = (opsOf c).countP p := by
  rw [countP_opsOf, countP_opsOf, removed_nodes g.inv (.op i) w]
  have hnd : (c.nodes.map (·.1)).Nodup := g.inv.ids_nodup
  have := countP_filter_ne hnd hw (fun pr => isOpNode pr && p pr.2)
  simpa [isOpNode] using this

/-! ## `unwrap_nodes` -/

theorem opsOf_unwrapOne {c : Dag} {P : Paths} (g : Good c P) {i : Nat} {w : Op} (hw : (NodeId.op i, w) ∈ c.nodes) {r : Reg}
    (hq : w.qregs = [r]) (hc : w.cregs = []) (os : List Op)
    (hos : ∀ o ∈ os, OpWF o ∧ o.qregs = [r] ∧ o.cregs = []) :
    opsOf (c.unwrapOne (.op i) os).1 = opsOf c ++ os ∧
    (∀ x, x ≠ .op i → x ∈ c.nodeIds → (c.unwrapOne (.op i) os).1.opOf? x = c.opOf? x) := by
  induction os generalizing c P with
  | nil => exact ⟨by simp [unwrapOne], fun _ _ _ => rfl⟩
  | cons o rest ih =>
    obtain ⟨hwf, hoq, hoc⟩ := hos o (by simp)
    obtain ⟨a, hin, hedge⟩ := inEdges_single g hw hq hc
    obtain ⟨hS, heq⟩ := insertAt_single_prim g hwf hoq hoc hedge rfl
    have hS : (Prim.insert o [⟨a, .op i, r⟩]).OK c := hS
    have hn1 := Prim.insert_nodes g.inv o [⟨a, .op i, r⟩]
    rw [unwrapOne, hin, heq]
    obtain ⟨b1, b2⟩ := ih (Prim.good g hS) (by rw [hn1]; exact List.mem_append_left _ hw)
      (fun o' ho' => hos o' (List.mem_cons_of_mem _ ho'))
    refine ⟨by rw [b1, opsOf_of_nodes_append hn1]; simp, ?_⟩
    intro x hx hxm
    have hx1 : x ∈ ((Prim.insert o [⟨a, .op i, r⟩]).run c).nodeIds := by
      simp only [nodeIds, hn1, List.map_append]; exact List.mem_append_left _ hxm
    rw [b2 x hx hx1, g.inv.opOf_append_fresh hn1 hxm]

def opsAt (c : Dag) (ns : List NodeId) : List Op := ns.filterMap c.opOf?

theorem opsAt_congr {c c' : Dag} {ns : List NodeId} (h : ∀ x ∈ ns, c'.opOf? x = c.opOf? x) : opsAt c' ns = opsAt c ns := by
  unfold opsAt
  induction ns with
  | nil => rfl
  | cons a t ih =>
    rw [List.filterMap_cons, List.filterMap_cons, h a (by simp), ih (fun x hx => h x (List.mem_cons_of_mem _ hx))]

theorem unwrapLoop_count {c : Dag} {P : Paths} (g : Good c P) (ns : List NodeId) (hnd : ns.Nodup)
    (hns : ∀ n ∈ ns, (∃ j, n = NodeId.op j ∧ j ≤ c.nodeId) ∧ n ∈ c.nodeIds ∧ ∀ op, (n, op) ∈ c.nodes → op.kind = .wrapper)
    (p : Op → Bool) :
    (c.unwrapLoop ns).2 = none ∧
    (opsOf (c.unwrapLoop ns).1).countP p + (opsAt c ns).countP p = (opsOf c).countP p + ((opsAt c ns).flatMap Op.unwrap).countP p := by
  induction ns generalizing c P with
  | nil => exact ⟨rfl, by simp [unwrapLoop, opsAt]⟩
  | cons n rest ih =>
    obtain ⟨⟨i, rfl, hile⟩, hpres, hkind⟩ := hns n (by simp)
    have hnd' := List.nodup_cons.mp hnd
    obtain ⟨w, hw⟩ := mem_nodeIds.mp hpres
    have ho : c.opOf? (.op i) = some w := (opOf_eq_some g.inv.ids_nodup).mpr hw
    have hk := hkind w hw
    have hwf := g.inv.op_wf i w hw
    obtain ⟨⟨r, hq⟩, hc, _⟩ := hwf.wrapper_shape hk
    obtain ⟨a1, P1, s1, a4⟩ := unwrapOne_chain g hw hq hc w.unwrap (unwrap_ops_wf hwf hk hq)
    have g1 := s1.good g
    have a3 := s1.nodeId_le g
    obtain ⟨u1, u2⟩ := opsOf_unwrapOne g hw hq hc w.unwrap (unwrap_ops_wf hwf hk hq)
    obtain ⟨b1, b2, _, b4⟩ := removeOp_good g1 (mem_nodeIds.mpr ⟨w, a4⟩)
    rw [unwrapLoop_cons ho a1 b1]
    have hrem := countP_opsOf_removed g1 a4 p
    rw [u1, List.countP_append] at hrem
    generalize (c.unwrapOne (.op i) w.unwrap).1 = c1 at g1 a3 a4 u2 b2 b4 hrem ⊢
    have hc2 : (c1.removeOp (.op i)).1 = c1.removed (.op i) w := by
      rw [removeOp_eq ((opOf_eq_some g1.inv.ids_nodup).mpr a4)]
    rw [← hc2] at hrem
    -- the operations at the remaining nodes are unchanged
    have hop2 : ∀ x ∈ rest, (c1.removeOp (.op i)).1.opOf? x = c.opOf? x ∧ x ∈ (c1.removeOp (.op i)).1.nodeIds := by
      intro x hx
      have hxne : x ≠ .op i := fun e => hnd'.1 (e ▸ hx)
      have hxm : x ∈ c.nodeIds := (hns x (List.mem_cons_of_mem _ hx)).2.1
      have e := (removeOp_opOf g1.inv a4 hxne).trans (u2 x hxne hxm)
      exact ⟨e, mem_nodeIds_of_opOf_eq e hxm⟩
    generalize (c1.removeOp (.op i)).1 = c2 at b2 b4 hrem hop2 ⊢
    have hns' : ∀ n ∈ rest, (∃ j, n = NodeId.op j ∧ j ≤ c2.nodeId) ∧ n ∈ c2.nodeIds ∧
        ∀ op, (n, op) ∈ c2.nodes → op.kind = .wrapper := by
      intro x hx
      obtain ⟨⟨j, rfl, hj⟩, _, hkj⟩ := hns x (List.mem_cons_of_mem _ hx)
      exact ⟨⟨j, rfl, by omega⟩, (hop2 _ hx).2,
        fun op hop => hkj op (mem_nodes_of_opOf_eq g.inv b2.inv (hop2 _ hx).1 hop)⟩
    obtain ⟨e1, e2⟩ := ih b2 hnd'.2 hns'
    refine ⟨e1, ?_⟩
    have hat0 : opsAt c (NodeId.op i :: rest) = w :: opsAt c rest := by
      unfold opsAt; rw [List.filterMap_cons, ho]
    rw [opsAt_congr (fun x hx => (hop2 x hx).1)] at e2
    rw [hat0, List.countP_cons, List.flatMap_cons, List.countP_append]
    omega


/-- plain operations, wrapping no wrapper -/
structure PlainOp' (op : Op) : Prop extends PlainOp op where
  inner_base : ∀ k ∈ op.inner, k ≠ .wrapper

def AllPlain (c : Dag) : Prop := ∀ i op, (NodeId.op i, op) ∈ c.nodes → PlainOp' op

/-- for a plain circuit, the `node_dict` list of a class name is duplicate-free and consists of exactly the nodes
    holding an operation of that class -/
theorem classList_spec {c : Dag} {P : Paths} (g : Good c P) (hpl : AllPlain c) (k : Kind)
    (hk0 : k.name ≠ "Input" ∧ k.name ≠ "Output")
    (hk3 : k.name ≠ "Emitter" ∧ k.name ≠ "Photonic" ∧ k.name ≠ "Emitter-Emitter" ∧ k.name ≠ "Emitter-Photonic" ∧
      k.name ≠ "Photonic-Emitter" ∧ k.name ≠ "Photonic-Photonic") :
    (dictGet c.nodeDict k.name).Nodup ∧
    ∀ n, n ∈ dictGet c.nodeDict k.name ↔ ∃ i op, n = NodeId.op i ∧ (n, op) ∈ c.nodes ∧ op.kind = k := by
  have hcount : ∀ n, (dictGet c.nodeDict k.name).count n =
      match c.opOf? n with
      | some op => (match n with | .op _ => (if op.kind = k then 1 else 0) | _ => 0)
      | none => 0 := by
    intro n
    rw [g.inv.nodeDict_ok]
    unfold indexCount
    cases ho : c.opOf? n with
    | none => rfl
    | some op =>
      simp only
      cases n with
      | inp r =>
        simp only [indexKeysOf]
        have : ¬ ("Input" = k.name) := fun e => hk0.1 e.symm
        simp [this]
      | out r =>
        simp only [indexKeysOf]
        have : ¬ ("Output" = k.name) := fun e => hk0.2 e.symm
        simp [this]
      | op i =>
        simp only [indexKeysOf]
        have hm := (opOf_eq_some g.inv.ids_nodup).mp ho
        exact count_kindName_keys (g.inv.op_wf i op hm) (hpl i op hm).toPlainOp k hk3
  constructor
  · rw [List.nodup_iff_count]
    intro n
    rw [hcount]
    cases c.opOf? n with
    | none => simp
    | some op => cases n <;> simp <;> split <;> simp
  · intro n
    rw [← List.count_pos_iff, hcount]
    constructor
    · intro h
      cases ho : c.opOf? n with
      | none => rw [ho] at h; simp at h
      | some op =>
        rw [ho] at h
        cases n with
        | inp r => simp at h
        | out r => simp at h
        | op i =>
          simp only at h
          by_cases hk : op.kind = k
          · exact ⟨i, op, rfl, (opOf_eq_some g.inv.ids_nodup).mp ho, hk⟩
          · simp [hk] at h
    · rintro ⟨i, op, rfl, hm, hk⟩
      rw [(opOf_eq_some g.inv.ids_nodup).mpr hm]
      simp [hk]


theorem opsAt_perm {c : Dag} {P : Paths} (g : Good c P) (k : Kind) (ns : List NodeId) (hnd : ns.Nodup)
    (hns : ∀ n, n ∈ ns ↔ ∃ i op, n = NodeId.op i ∧ (n, op) ∈ c.nodes ∧ op.kind = k) :
    (opsAt c ns).Perm ((opsOf c).filter (fun o => decide (o.kind = k))) := by
  let q : NodeId × Op → Bool := fun pr => isOpNode pr && decide (pr.2.kind = k)
  have hms_nd : ((c.nodes.filter q).map (·.1)).Nodup :=
    List.Nodup.sublist (List.Sublist.map _ List.filter_sublist) g.inv.ids_nodup
  have hperm : ns.Perm ((c.nodes.filter q).map (·.1)) := by
    rw [List.perm_iff_count]
    intro a
    rw [hnd.count, hms_nd.count]
    have : a ∈ ns ↔ a ∈ (c.nodes.filter q).map (·.1) := by
      rw [hns, List.mem_map]
      constructor
      · rintro ⟨i, op, rfl, hm, hk⟩
        exact ⟨(.op i, op), List.mem_filter.mpr ⟨hm, by simp [q, isOpNode, hk]⟩, rfl⟩
      · rintro ⟨pr, hpr, rfl⟩
        obtain ⟨hm, hq⟩ := List.mem_filter.mp hpr
        obtain ⟨n, op⟩ := pr
        cases n with
        | inp r => simp [q, isOpNode] at hq
        | out r => simp [q, isOpNode] at hq
        | op i => exact ⟨i, op, rfl, hm, by simpa [q, isOpNode] using hq⟩
    by_cases h : a ∈ ns
    · rw [if_pos h, if_pos (this.mp h)]
    · rw [if_neg h, if_neg (fun h' => h (this.mpr h'))]
  have h1 : (opsAt c ns).Perm (((c.nodes.filter q).map (·.1)).filterMap c.opOf?) := hperm.filterMap _
  have h2 : ((c.nodes.filter q).map (·.1)).filterMap c.opOf? = (c.nodes.filter q).map (·.2) := by
    rw [List.filterMap_map]
    have : ∀ (l : List (NodeId × Op)), (∀ pr ∈ l, pr ∈ c.nodes) → l.filterMap (c.opOf? ∘ (·.1)) = l.map (·.2) := by
      intro l
      induction l with
      | nil => intro _; rfl
      | cons a t iht =>
        intro h
        have ha : c.opOf? a.1 = some a.2 := (opOf_eq_some g.inv.ids_nodup).mpr (h a (by simp))
        rw [List.filterMap_cons, List.map_cons]
        simp only [Function.comp, ha]
        rw [← iht (fun pr hpr => h pr (List.mem_cons_of_mem _ hpr))]
    exact this _ (fun pr hpr => (List.mem_filter.mp hpr).1)
  have h3 : (opsOf c).filter (fun o => decide (o.kind = k)) = (c.nodes.filter q).map (·.2) := by
    unfold opsOf
    rw [List.filter_map, List.filter_filter]
    congr 1
    apply List.filter_congr
    intro pr _
    simp [q, Bool.and_comm]
  rw [h3, ← h2]; exact h1

theorem unwrap_of_not_wrapper {o : Op} (h : o.kind ≠ .wrapper) : o.unwrap = [o] := by
  unfold Op.unwrap
  cases hk : o.kind <;> first | rfl | exact absurd hk h

theorem countP_flatMap_unwrap (p : Op → Bool) (l : List Op) :
    (l.flatMap Op.unwrap).countP p + (l.filter (fun o => decide (o.kind = .wrapper))).countP p =
      l.countP p + ((l.filter (fun o => decide (o.kind = .wrapper))).flatMap Op.unwrap).countP p := by
  induction l with
  | nil => rfl
  | cons a t ih =>
    rw [List.flatMap_cons, List.countP_append, List.countP_cons]
    by_cases hk : a.kind = .wrapper
    · rw [List.filter_cons_of_pos (by simpa using hk), List.countP_cons, List.flatMap_cons, List.countP_append]
      omega
    · rw [List.filter_cons_of_neg (by simpa using hk), unwrap_of_not_wrapper hk]
      simp only [List.countP_cons, List.countP_nil]
      omega

theorem unwrapNodes_eq_loop (c : Dag) : c.unwrapNodes = c.unwrapLoop (dictGet c.nodeDict "OneQubitGateWrapper") := by
  unfold unwrapNodes
  by_cases hh : dictHas c.nodeDict "OneQubitGateWrapper" = true
  · rw [if_pos hh]
  · rw [if_neg hh, dictGet_of_not_has _ _ (by simpa using hh)]; rfl

/-- **`unwrap_nodes` on a plain circuit**: it succeeds, and the multiset of operations afterwards is the multiset of
    the unwrapped operations (`flatMap unwrap`) -/
theorem unwrapNodes_count {c : Dag} {P : Paths} (g : Good c P) (hpl : AllPlain c) (p : Op → Bool) :
    c.unwrapNodes.2 = none ∧ (opsOf c.unwrapNodes.1).countP p = ((opsOf c).flatMap Op.unwrap).countP p := by
  rw [unwrapNodes_eq_loop]
  obtain ⟨hnd, hmem⟩ := classList_spec g hpl .wrapper (by decide) (by decide)
  have hname : Kind.wrapper.name = "OneQubitGateWrapper" := rfl
  rw [hname] at hnd hmem
  have hns : ∀ n ∈ dictGet c.nodeDict "OneQubitGateWrapper", (∃ j, n = NodeId.op j ∧ j ≤ c.nodeId) ∧ n ∈ c.nodeIds ∧
      ∀ op, (n, op) ∈ c.nodes → op.kind = .wrapper := by
    intro n hn
    obtain ⟨i, op, rfl, hm, _⟩ := (hmem n).mp hn
    exact ⟨(wrapperList_spec g _ hn).1, mem_nodeIds.mpr ⟨op, hm⟩, (wrapperList_spec g _ hn).2⟩
  obtain ⟨e1, e2⟩ := unwrapLoop_count g _ hnd hns p
  refine ⟨e1, ?_⟩
  have hperm := opsAt_perm g .wrapper _ hnd hmem
  have c1 := hperm.countP_eq p
  have c2 := (hperm.flatMap_right Op.unwrap).countP_eq p
  have c3 := countP_flatMap_unwrap p (opsOf c)
  omega


/-! ## `remove_identity` -/

theorem removeAll_count {c : Dag} {P : Paths} (g : Good c P) (ns : List NodeId) (hnd : ns.Nodup)
    (hns : ∀ n ∈ ns, (∃ j, n = NodeId.op j) ∧ n ∈ c.nodeIds) (p : Op → Bool) :
    (c.removeAll ns).2 = none ∧ (opsOf (c.removeAll ns).1).countP p + (opsAt c ns).countP p = (opsOf c).countP p := by
  induction ns generalizing c P with
  | nil => exact ⟨rfl, by simp [removeAll, opsAt]⟩
  | cons n rest ih =>
    obtain ⟨⟨i, rfl⟩, hpres⟩ := hns n (by simp)
    have hnd' := List.nodup_cons.mp hnd
    obtain ⟨w, hw⟩ := mem_nodeIds.mp hpres
    have ho : c.opOf? (.op i) = some w := (opOf_eq_some g.inv.ids_nodup).mpr hw
    rw [removeAll_cons ho]
    have b2 := removed_good g hw
    have hop2 : ∀ x ∈ rest, (c.removed (.op i) w).opOf? x = c.opOf? x ∧ x ∈ (c.removed (.op i) w).nodeIds := by
      intro x hx
      have e := opOf_filter_ne (removed_nodes g.inv (.op i) w) (x := x) (fun e => hnd'.1 (e ▸ hx))
      exact ⟨e, mem_nodeIds_of_opOf_eq e (hns x (List.mem_cons_of_mem _ hx)).2⟩
    obtain ⟨e1, e2⟩ := ih b2 hnd'.2 (fun x hx => ⟨(hns x (List.mem_cons_of_mem _ hx)).1, (hop2 x hx).2⟩)
    refine ⟨e1, ?_⟩
    have hat0 : opsAt c (NodeId.op i :: rest) = w :: opsAt c rest := by
      unfold opsAt; rw [List.filterMap_cons, ho]
    rw [opsAt_congr (fun x hx => (hop2 x hx).1)] at e2
    have hrem := countP_opsOf_removed g hw p
    rw [hat0, List.countP_cons]
    omega

theorem removeIdentity_eq_all (c : Dag) : c.removeIdentity = c.removeAll (dictGet c.nodeDict "Identity") := by
  unfold removeIdentity
  by_cases hh : dictHas c.nodeDict "Identity" = true
  · rw [if_pos hh]
  · rw [if_neg hh, dictGet_of_not_has _ _ (by simpa using hh)]; rfl

/-- **`remove_identity` on a plain circuit**: it succeeds and removes exactly the identity operations -/
theorem removeIdentity_count {c : Dag} {P : Paths} (g : Good c P) (hpl : AllPlain c) (p : Op → Bool) :
    c.removeIdentity.2 = none ∧
    (opsOf c.removeIdentity.1).countP p = ((opsOf c).filter (fun o => !decide (o.kind = .identity))).countP p := by
  rw [removeIdentity_eq_all]
  obtain ⟨hnd, hmem⟩ := classList_spec g hpl .identity (by decide) (by decide)
  have hname : Kind.identity.name = "Identity" := rfl
  rw [hname] at hnd hmem
  have hns : ∀ n ∈ dictGet c.nodeDict "Identity", (∃ j, n = NodeId.op j) ∧ n ∈ c.nodeIds := by
    intro n hn
    obtain ⟨i, op, rfl, hm, _⟩ := (hmem n).mp hn
    exact ⟨⟨i, rfl⟩, mem_nodeIds.mpr ⟨op, hm⟩⟩
  obtain ⟨e1, e2⟩ := removeAll_count g _ hnd hns p
  refine ⟨e1, ?_⟩
  have hperm := opsAt_perm g .identity _ hnd hmem
  have c1 := hperm.countP_eq p
  have c2 := List.countP_eq_countP_filter_add (opsOf c) p (fun o => decide (o.kind = .identity))
  omega

/-! ## `prep` = `unwrap_nodes` then `remove_identity` -/

theorem mem_opsOf {c : Dag} {o : Op} : o ∈ opsOf c ↔ ∃ i, (NodeId.op i, o) ∈ c.nodes := by
  unfold opsOf
  rw [List.mem_map]
  constructor
  · rintro ⟨⟨n, o'⟩, hm, rfl⟩
    obtain ⟨hm1, hm2⟩ := List.mem_filter.mp hm
    cases n with
    | op i => exact ⟨i, hm1⟩
    | inp r => simp [isOpNode] at hm2
    | out r => simp [isOpNode] at hm2
  · rintro ⟨i, hm⟩
    exact ⟨(.op i, o), List.mem_filter.mpr ⟨hm, rfl⟩, rfl⟩

theorem mem_of_countP_eq {l1 l2 : List Op} (h : ∀ p : Op → Bool, l1.countP p = l2.countP p) (o : Op) : o ∈ l1 ↔ o ∈ l2 := by
  have key : ∀ {l1 l2 : List Op}, (∀ p : Op → Bool, l1.countP p = l2.countP p) → o ∈ l1 → o ∈ l2 := by
    intro l1 l2 h hm
    have h1 : 0 < l1.countP (fun x => decide (x = o)) := List.countP_pos_iff.mpr ⟨o, hm, by simp⟩
    rw [h] at h1
    obtain ⟨a, ha, hao⟩ := List.countP_pos_iff.mp h1
    exact of_decide_eq_true hao ▸ ha
  exact ⟨key h, key (fun p => (h p).symm)⟩

theorem unwrap_base_of_plain {w : Op} (hp : PlainOp' w) : ∀ o ∈ w.unwrap, o.kind ≠ .wrapper := by
  intro o ho
  by_cases hk : w.kind = .wrapper
  · unfold Op.unwrap at ho
    rw [hk] at ho
    obtain ⟨k, hk', rfl⟩ := List.mem_map.mp ho
    exact hp.inner_base k (List.mem_reverse.mp hk')
  · rw [unwrap_of_not_wrapper hk] at ho
    simp at ho; rw [ho]; exact hk

theorem unwrapNodes_no_wrapper {c : Dag} {P : Paths} (g : Good c P) (hpl : AllPlain c) :
    ∀ o ∈ opsOf c.unwrapNodes.1, o.kind ≠ .wrapper := by
  intro o ho
  obtain ⟨w, hw, how⟩ := List.mem_flatMap.mp ((mem_of_countP_eq (fun p => (unwrapNodes_count g hpl p).2) o).mp ho)
  obtain ⟨j, hj⟩ := mem_opsOf.mp hw
  exact unwrap_base_of_plain (hpl j w hj) o how

theorem removeIdentity_no_identity {c : Dag} {P : Paths} (g : Good c P) (hpl : AllPlain c) :
    ∀ o ∈ opsOf c.removeIdentity.1, o.kind ≠ .identity := by
  intro o ho
  have := (List.mem_filter.mp ((mem_of_countP_eq (fun p => (removeIdentity_count g hpl p).2) o).mp ho)).2
  simpa using this

theorem plain_oneQubit (k : Kind) (r : Reg) : PlainOp' (Op.oneQubit k r) :=
  { labels := by intro l hl; simp [Op.oneQubit] at hl; subst hl; decide
    arity := by simp [Op.oneQubit]
    inner_base := by intro k' hk'; simp [Op.oneQubit] at hk' }

theorem plain_flatMap_unwrap {l : List Op} (hl : ∀ o ∈ l, PlainOp' o) : ∀ o ∈ l.flatMap Op.unwrap, PlainOp' o := by
  intro o ho
  obtain ⟨w, hw, how⟩ := List.mem_flatMap.mp ho
  by_cases hk : w.kind = .wrapper
  · unfold Op.unwrap at how
    rw [hk] at how
    obtain ⟨k, _, rfl⟩ := List.mem_map.mp how
    exact plain_oneQubit k _
  · rw [unwrap_of_not_wrapper hk] at how
    simp at how; rw [how]; exact hl w hw


theorem unwrapSeq_eq (seq : List Op) :
    Spec.unwrapSeq seq = (seq.flatMap Op.unwrap).filter (fun o => !decide (o.kind = .identity)) := by
  unfold Spec.unwrapSeq
  apply List.filter_congr
  intro o _; simp

/-- **the copy the emitter/unitary metrics work on**: for a circuit built by `add` from a plain operation list,
    `unwrap_nodes(); remove_identity()` succeed, keep DagInv and the registers, and leave exactly the multiset of the
    unwrapped, identity-free operation list -/
theorem prep_spec (ne np nc : Nat) (seq : List Op) (hseq : ∀ op ∈ seq, OpWF op ∧ PlainOp' op) (hok : (build ne np nc seq).2 = none) :
    ∃ c', prep (build ne np nc seq).1 = .ok c' ∧ DagInv c' ∧ c'.regs = (build ne np nc seq).1.regs ∧
      ∀ p : Op → Bool, (opsOf c').countP p = (Spec.unwrapSeq seq).countP p := by
  obtain ⟨hops, ⟨P, g⟩⟩ := build_spec ne np nc seq (fun op h => (hseq op h).1) hok
  have hpl : AllPlain (build ne np nc seq).1 := by
    intro i o hm
    have : o ∈ opsOf (build ne np nc seq).1 := mem_opsOf.mpr ⟨i, hm⟩
    rw [hops] at this; exact (hseq o this).2
  obtain ⟨P1, s1⟩ := unwrapNodes_chain g
  have g1 := s1.good g
  have hr1 := s1.regs (fun _ a => a.not_newReg) g
  have hcount1 := fun p => (unwrapNodes_count g hpl p)
  have hmem1 := mem_of_countP_eq (fun p => (hcount1 p).2)
  have hpl1 : AllPlain (build ne np nc seq).1.unwrapNodes.1 := by
    intro i o hm
    have h1 : o ∈ opsOf (build ne np nc seq).1.unwrapNodes.1 := mem_opsOf.mpr ⟨i, hm⟩
    have h2 := (hmem1 o).mp h1
    rw [hops] at h2
    exact plain_flatMap_unwrap (fun o ho => (hseq o ho).2) o h2
  obtain ⟨P2, s2⟩ := removeIdentity_chain g1
  have g2 := s2.good g1
  have hr2 := s2.regs (fun _ a => a.not_newReg) g1
  have hcount2 := fun p => (removeIdentity_count g1 hpl1 p)
  unfold prep
  cases hu : (build ne np nc seq).1.unwrapNodes with
  | mk c1 e1 =>
    have he1 : e1 = none := by have := (hcount1 (fun _ => true)).1; rw [hu] at this; exact this
    subst he1
    rw [hu] at g1 hr1 hcount1 g2 hr2 hcount2
    simp only at g1 hr1 hcount1 g2 hr2 hcount2 ⊢
    cases hrm : c1.removeIdentity with
    | mk c2 e2 =>
      have he2 : e2 = none := by have := (hcount2 (fun _ => true)).1; rw [hrm] at this; exact this
      subst he2
      rw [hrm] at g2 hr2 hcount2
      simp only at g2 hr2 hcount2 ⊢
      refine ⟨c2, rfl, ⟨P2, g2⟩, hr2.trans hr1, ?_⟩
      intro p
      rw [(hcount2 p).2, unwrapSeq_eq, List.countP_filter, List.countP_filter]
      rw [(hcount1 _).2, hops]


/-! ## label queries count operations by class -/

theorem length_getNodeByLabels_single {c : Dag} (h : DagInv c) (l : String) (h1 : l ≠ "Input") (h2 : l ≠ "Output") :
    (if dictHas c.nodeDict l then (c.getNodeByLabels [l]).length else 0) =
      (opsOf c).countP (fun op => op.indexKeys.contains l) := by
  have hlen := length_getNodeByLabels_ops h [l] (by simp [h1]) (by simp [h2])
  have hsimp : (fun op : Op => [l].all (fun l => op.indexKeys.contains l)) = fun op => op.indexKeys.contains l := by
    funext op; simp
  rw [hsimp] at hlen
  rw [length_getNodeByLabels_guard c (List.mem_singleton.mpr rfl), hlen]

theorem contains_kindName_iff {op : Op} (hwf : OpWF op) (hp : PlainOp op) (k : Kind)
    (hk3 : k.name ≠ "Emitter" ∧ k.name ≠ "Photonic" ∧ k.name ≠ "Emitter-Emitter" ∧ k.name ≠ "Emitter-Photonic" ∧
      k.name ≠ "Photonic-Emitter" ∧ k.name ≠ "Photonic-Photonic") :
    op.indexKeys.contains k.name = decide (op.kind = k) := by
  have := count_kindName_keys hwf hp k hk3
  by_cases hk : op.kind = k
  · rw [if_pos hk] at this
    have hm : k.name ∈ op.indexKeys := List.count_pos_iff.mp (by omega)
    simp [hk, hm]
  · rw [if_neg hk] at this
    have hm : k.name ∉ op.indexKeys := List.count_eq_zero.mp this
    simp [hk, hm]

theorem countP_counted (l : List Op) :
    l.countP (fun o => Spec.isCountedUnitary o.kind) =
      l.countP (fun o => decide (o.kind = .sigmaX)) + l.countP (fun o => decide (o.kind = .sigmaY)) +
      l.countP (fun o => decide (o.kind = .sigmaZ)) + l.countP (fun o => decide (o.kind = .phase)) +
      l.countP (fun o => decide (o.kind = .phaseDagger)) + l.countP (fun o => decide (o.kind = .hadamard)) +
      l.countP (fun o => decide (o.kind = .cnot)) := by
  have hk : ∀ k : Kind, (if Spec.isCountedUnitary k = true then 1 else 0) =
      (if decide (k = .sigmaX) = true then 1 else 0) + (if decide (k = .sigmaY) = true then 1 else 0) +
      (if decide (k = .sigmaZ) = true then 1 else 0) + (if decide (k = .phase) = true then 1 else 0) +
      (if decide (k = .phaseDagger) = true then 1 else 0) + (if decide (k = .hadamard) = true then 1 else 0) +
      (if decide (k = .cnot) = true then 1 else 0) := by
    intro k; cases k <;> rfl
  induction l with
  | nil => rfl
  | cons a t ih =>
    simp only [List.countP_cons, ih, hk a.kind]
    omega

end Metrics
end Graphiq
