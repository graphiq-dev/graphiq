/-
  Proofs/InnerProductCanon.lean — the overlap of |0…0⟩ with a state given by a tableau in `Canon` shape is read off the
  tableau: the common subgroup is generated by the Z-block rows, and the two groups contain an element with opposite
  signs iff some Z-block row carries the sign `−`.  No Mathlib.
-/
import GraphiqModel.Proofs.InnerProductSpec
namespace Graphiq
open PRow Tab
namespace STab

section canon
variable (c : STab) (k : Nat) (px pz : Nat → Nat)
variable (hx : PInv c.n (xb c) px 0 k c.n) (hz : PInv c.n (zb c) pz k c.n c.n) (hg : c.Good)
include hx

/-- X-block rows have an x-bit, Z-block rows have none -/
theorem canon_hasX (i : Nat) (hi : i < c.n) : ((List.range c.n).any fun j => (c.row i).x j) = decide (i < k) := by
  by_cases hik : i < k
  · have h1 := hx.piv_lt i (Nat.zero_le _) hik
    have h2 : (c.row i).x (px i) = true := hx.piv_one i (Nat.zero_le _) hik
    simp only [hik, decide_true, List.any_eq_true, List.mem_range]
    exact ⟨px i, h1, h2⟩
  · simp only [hik, decide_false]
    apply Bool.eq_false_iff.2
    intro h
    simp only [List.any_eq_true, List.mem_range] at h
    obtain ⟨j, hj, hjx⟩ := h
    have : (c.row i).x j = false := hx.below i j (by omega) hi hj
    rw [this] at hjx; cases hjx

theorem canon_zrow_xfree (i : Nat) (hk : k ≤ i) (hi : i < c.n) : XFree c.n (c.row i) :=
  fun j hj => hx.below i j hk hi hj

include hg

/-- an element without x-bits is a product of Z-block rows only; its sign is the parity of their signs -/
theorem canon_xfree_repr (g : PRow) (hs : c.Spn g) (hxf : XFree c.n g) :
    ∃ S : Nat → Bool, (∀ m, m < k → S m = false) ∧ EqOn c.n g (sprod c.n c.row S c.n) ∧
      g.r = parityTo c.n (fun m => S m && (c.row m).r) := by
  obtain ⟨S, hS, bx, _⟩ := spn_bits c hg g hs
  have hS0 : ∀ m, m < k → S m = false := by
    intro m hm
    have hp := hx.piv_lt m (Nat.zero_le _) hm
    have := bx (px m) hp
    rw [hx.coef S m (Nat.zero_le _) hm, hxf (px m) hp] at this
    exact this.symm
  have sel : ∀ i, i < c.n → S i = true → k ≤ i := by
    intro i _ hSi
    apply Classical.byContradiction; intro hc
    have := hS0 i (by omega); rw [this] at hSi; cases hSi
  have h := sprod_xfree c.n c.row S c.n (fun i hi hSi => canon_zrow_xfree c k px hx i (sel i hi hSi) hi)
    (fun i hi _ => hg.real i hi)
  exact ⟨S, hS0, hS, by rw [hS.2.1]; exact h.2.2⟩

/-- **orthogonality to |0…0⟩ is visible in the canonical form**: the groups of |0…0⟩ and of a `Canon` tableau contain
    `P` and `−P` iff some Z-block row has the sign `−` -/
theorem orth_zero_canon : Orth (STab.zero c.n) c ↔ ∃ i, k ≤ i ∧ i < c.n ∧ (c.row i).r = true := by
  constructor
  · rintro ⟨P, hP, hN⟩
    obtain ⟨px0, pr0, _⟩ := (zero_spn_iff c.n P).1 hP
    obtain ⟨S, hS0, _, hr⟩ := canon_xfree_repr c k px hx hg (PRow.neg P) hN (xfree_neg c.n P px0)
    have : (PRow.neg P).r = true := by show (!P.r) = true; rw [pr0]; rfl
    rw [this] at hr
    obtain ⟨m, hm, hm1⟩ := parityTo_exists c.n _ hr.symm
    simp only [Bool.and_eq_true] at hm1
    refine ⟨m, ?_, hm, hm1.2⟩
    apply Classical.byContradiction; intro hc
    have := hS0 m (by omega); rw [this] at hm1; cases hm1.1
  · rintro ⟨i, hk, hi, hr⟩
    refine ⟨PRow.neg (c.row i), ?_, by rw [neg_neg]; exact spn_gen c i hi⟩
    apply (zero_spn_iff c.n _).2
    refine ⟨xfree_neg c.n _ (canon_zrow_xfree c k px hx i hk hi), ?_, hg.real i hi⟩
    show (!(c.row i).r) = false
    rw [hr]; rfl

include hz

/-- **the common subgroup with |0…0⟩ is generated by the Z-block rows** (when none of them has the sign `−`): the
    `n − k` rows `k..n-1` are an independent generating set of `⟨Z_0..Z_{n-1}⟩ ∩ group(c)` -/
theorem overlap_zero_canon (hpos : ∀ i, k ≤ i → i < c.n → (c.row i).r = false) :
    IsOverlapBasis (STab.zero c.n) c (c.n - k) (fun i => c.row (k + i)) := by
  have hkn : k ≤ c.n := hx.pr_le
  refine ⟨?_, ?_, ?_, ?_⟩
  · intro i hi
    have hin : k + i < c.n := by omega
    exact (zero_spn_iff c.n _).2 ⟨canon_zrow_xfree c k px hx (k + i) (by omega) hin, hpos (k + i) (by omega) hin, hg.real _ hin⟩
  · intro i hi
    exact spn_gen c (k + i) (by omega)
  · intro S hS i hi
    have hS : EqOn c.n (sprod c.n (fun i => c.row (k + i)) S (c.n - k)) PRow.one := hS
    have hin : k + i < c.n := by omega
    have hp := hz.piv_lt (k + i) (by omega) hin
    have hb := (hS.1 (pz (k + i)) hp).2
    rw [sprod_z] at hb
    have e : ∀ m, m < c.n - k → (S m && (c.row (k + m)).z (pz (k + i))) = (decide (m = i) && S m) := by
      intro m hm
      by_cases hmi : m = i
      · subst hmi
        have : (c.row (k + m)).z (pz (k + m)) = true := hz.piv_one (k + m) (by omega) hin
        rw [this]; simp
      · have : (c.row (k + m)).z (pz (k + i)) = false :=
          hz.piv_clear (k + i) (k + m) (by omega) hin (by omega) (by omega)
        rw [this]; simp [hmi]
    rw [parityTo_congr _ _ _ e, parityTo_single _ i S hi] at hb
    exact hb
  · intro P hA hB
    obtain ⟨pxf, _, _⟩ := (zero_spn_iff c.n P).1 hA
    obtain ⟨S, hS0, hS, _⟩ := canon_xfree_repr c k px hx hg P hB pxf
    have sh := sprod_shift c.n c.row S k (c.n - k) hS0
    rw [show k + (c.n - k) = c.n from by omega] at sh
    refine ⟨fun i => S (k + i), ?_⟩
    show EqOn c.n P (sprod c.n (fun i => c.row (k + i)) (fun i => S (k + i)) (c.n - k))
    rw [← sh]; exact hS

/-- the overlap of |0…0⟩ with a `Canon` tableau, read off its rows -/
theorem isOverlap_zero_canon (r : Option Nat)
    (hr : match r with
      | none => ∃ i, k ≤ i ∧ i < c.n ∧ (c.row i).r = true
      | some e => e = k ∧ ∀ i, k ≤ i → i < c.n → (c.row i).r = false) : IsOverlap (STab.zero c.n) c r := by
  cases r with
  | none => exact (orth_zero_canon c k px hx hg).2 hr
  | some e =>
    obtain ⟨rfl, hpos⟩ := hr
    refine ⟨hx.pr_le, fun o => ?_, _, overlap_zero_canon c e px pz hx hz hg hpos⟩
    obtain ⟨i, h1, h2, h3⟩ := (orth_zero_canon c e px hx hg).1 o
    rw [hpos i h1 h2] at h3
    cases h3

/-- a `Canon` tableau without X block and without negative signs is the tableau of |0…0⟩ -/
theorem canon_zero_rows (hk : k = 0) (hpos : ∀ i, i < c.n → (c.row i).r = false) (i : Nat) (hi : i < c.n) :
    EqOn c.n (c.row i) (PRow.Zq i) := by
  subst hk
  have hid := mono_id pz c.n (fun i i' h1 h2 => hz.mono i i' (Nat.zero_le _) h1 h2)
    (fun i hi => hz.piv_lt i (Nat.zero_le _) hi)
  refine ⟨fun j hj => ⟨canon_zrow_xfree c 0 px hx i (Nat.zero_le _) hi j hj, ?_⟩, hpos i hi, hg.real i hi⟩
  show (c.row i).z j = decide (j = i)
  by_cases hji : j = i
  · subst hji
    have := hz.piv_one j (Nat.zero_le _) hi
    rw [hid j hi] at this
    simp only [decide_true]; exact this
  · have := hz.piv_clear j i (Nat.zero_le _) hj hi (fun e => hji e.symm)
    rw [hid j hj] at this
    simp only [hji, decide_false]; exact this

theorem canon_zero_spanEq (hk : k = 0) (hpos : ∀ i, i < c.n → (c.row i).r = false) : SpanEq c (STab.zero c.n) :=
  spanEq_zero_of_rows c (canon_zero_rows c k px pz hx hz hg hk hpos)

omit hz hg in
/-- conversely, a `Canon` tableau of |0…0⟩ has no X block and no negative sign -/
theorem canon_of_zero (s : SpanEq c (STab.zero c.n)) : k = 0 ∧ ∀ i, i < c.n → (c.row i).r = false := by
  have rowz : ∀ i, i < c.n → XFree c.n (c.row i) ∧ (c.row i).r = false := by
    intro i hi
    have := (zero_spn_iff c.n _).1 (s.sub _ (spn_gen c i hi))
    exact ⟨this.1, this.2.1⟩
  refine ⟨?_, fun i hi => (rowz i hi).2⟩
  apply Classical.byContradiction; intro hc
  have h0 : 0 < k := by omega
  have hkn := hx.pr_le
  have h1 : (c.row 0).x (px 0) = true := hx.piv_one 0 (Nat.le_refl _) h0
  have h2 := (rowz 0 (by omega)).1 (px 0) (hx.piv_lt 0 (Nat.le_refl _) h0)
  rw [h2] at h1; cases h1

end canon

/-! ### the counting loop of `inner_product` -/

/-- the loop body of `inner_product` once the x-free rows are known to be compared with `+Z`-strings -/
def ipSimple (hasX ng : Nat → Bool) (acc : Option Nat) (i : Nat) : Option Nat :=
  match acc with
  | none => none
  | some counter => if hasX i then some (counter + 1) else if ng i then none else some counter

theorem ipSimple_none (hasX ng : Nat → Bool) (l : List Nat) : l.foldl (ipSimple hasX ng) none = none := by
  induction l with
  | nil => rfl
  | cons x rest ih => exact ih

/-- the loop over a tableau whose rows `< k` have x-bits and whose rows `≥ k` have none: it returns `none` iff a row
    `≥ k` is flagged, and otherwise the number of rows `< k` -/
theorem ipFold_spec (k : Nat) (ng : Nat → Bool) (m : Nat) :
    (∀ e, (List.range m).foldl (ipSimple (fun i => decide (i < k)) ng) (some 0) = some e →
        e = min m k ∧ ∀ i, k ≤ i → i < m → ng i = false) ∧
    ((List.range m).foldl (ipSimple (fun i => decide (i < k)) ng) (some 0) = none →
        ∃ i, k ≤ i ∧ i < m ∧ ng i = true) := by
  induction m with
  | zero =>
    refine ⟨fun e he => ?_, fun h => ?_⟩
    · simp only [List.range_zero, List.foldl_nil, Option.some.injEq] at he
      exact ⟨by omega, fun i _ hi => by omega⟩
    · simp at h
  | succ j ih =>
    rw [List.range_succ, List.foldl_append]
    cases hprev : (List.range j).foldl (ipSimple (fun i => decide (i < k)) ng) (some 0) with
    | none =>
      obtain ⟨i, h1, h2, h3⟩ := ih.2 hprev
      refine ⟨fun e he => ?_, fun _ => ⟨i, h1, by omega, h3⟩⟩
      simp [ipSimple] at he
    | some e0 =>
      obtain ⟨h1, h2⟩ := ih.1 e0 hprev
      simp only [List.foldl_cons, List.foldl_nil, ipSimple]
      by_cases hjk : j < k
      · simp only [hjk, decide_true, if_true]
        refine ⟨fun e he => ?_, fun h => by cases h⟩
        injection he with he
        exact ⟨by omega, fun i hi1 hi2 => h2 i hi1 (by omega)⟩
      · simp only [hjk, decide_false, Bool.false_eq_true, if_false]
        cases hn : ng j
        · simp only [Bool.false_eq_true, if_false]
          refine ⟨fun e he => ?_, fun h => by cases h⟩
          injection he with he
          refine ⟨by omega, fun i hi1 hi2 => ?_⟩
          by_cases hij : i = j
          · rw [hij]; exact hn
          · exact h2 i hi1 (by omega)
        · simp only [if_true]
          exact ⟨fun e he => (by cases he), fun _ => ⟨j, by omega, by omega, hn⟩⟩

end STab
end Graphiq
