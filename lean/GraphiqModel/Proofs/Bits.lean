/-
  Proofs/Bits.lean — the definitions of Model/Bits.lean with their lemmas.  For the parity fold `parityTo` and the integer sum
  `sumTo` over `0..n-1` the lemma that takes one summand out (`parityTo_site`, `sumTo_site`) carries the facts about summands
  that vanish, agree, are inserted or deleted away from one or two sites.
-/
import GraphiqModel.Model.Bits
namespace Graphiq

/-! ### `upd`, `filterTo`, `findFrom`, `countTo`, lists over `List.range` -/

theorem upd_same {α : Type} (f : Nat → α) (k : Nat) (v : α) : upd f k v k = v := if_pos rfl

theorem upd_ne {α : Type} (f : Nat → α) (k : Nat) (v : α) {i : Nat} (h : i ≠ k) : upd f k v i = f i := if_neg h

theorem mem_filterTo (n : Nat) (f : Nat → Bool) (j : Nat) : j ∈ filterTo n f ↔ j < n ∧ f j = true := by
  simp [filterTo]

theorem findFrom_spec (lo hi : Nat) (f : Nat → Bool) (p : Nat) (h : findFrom lo hi f = some p) :
    lo ≤ p ∧ p < hi ∧ f p = true := by
  unfold findFrom at h
  have hm : p ∈ (List.range hi).filter (fun i => decide (lo ≤ i) && f i) := List.mem_of_mem_head? h
  simp only [List.mem_filter, List.mem_range, Bool.and_eq_true, decide_eq_true_eq] at hm
  exact ⟨hm.2.1, hm.1, hm.2.2⟩

theorem findFrom_none (lo hi : Nat) (f : Nat → Bool) (h : findFrom lo hi f = none) (i : Nat) (h1 : lo ≤ i) (h2 : i < hi) :
    f i = false := by
  unfold findFrom at h
  cases hl : (List.range hi).filter (fun i => decide (lo ≤ i) && f i) with
  | nil =>
    cases hf : f i
    · rfl
    · have : i ∈ (List.range hi).filter (fun i => decide (lo ≤ i) && f i) := by
        simp only [List.mem_filter, List.mem_range, Bool.and_eq_true, decide_eq_true_eq]
        exact ⟨h2, h1, hf⟩
      rw [hl] at this; cases this
  | cons a l => rw [hl] at h; simp at h

theorem countTo_congr (n : Nat) (f g : Nat → Bool) (h : ∀ j, j < n → f j = g j) : countTo n f = countTo n g := by
  induction n with
  | zero => rfl
  | succ k ih =>
    simp only [countTo]
    rw [ih (fun j hj => h j (by omega)), h k (by omega)]

theorem countTo_le (n : Nat) (f : Nat → Bool) : countTo n f ≤ n := by
  induction n with
  | zero => exact Nat.le_refl 0
  | succ k ih =>
    simp only [countTo]
    split <;> omega

theorem countTo_clear (n v : Nat) (f g : Nat → Bool) (hv : v < n) (hf : f v = true) (hg : g v = false)
    (h : ∀ j, j ≠ v → g j = f j) : countTo n g + 1 = countTo n f := by
  induction n with
  | zero => omega
  | succ k ih =>
    simp only [countTo]
    by_cases e : v = k
    · subst e
      rw [hf, hg, countTo_congr v g f (fun j hj => h j (by omega))]
      simp
    · rw [h k (fun x => e x.symm)]
      have := ih (by omega)
      omega

theorem getD_map_range {α : Type} (n i : Nat) (g : Nat → α) {d : α} (hi : i < n) : ((List.range n).map g).getD i d = g i := by
  simp [List.getD_eq_getElem?_getD, hi]

/-! ### parities -/

theorem parityTo_false (n : Nat) : parityTo n (fun _ => false) = false := by
  induction n with
  | zero => rfl
  | succ k ih => simp [parityTo, ih]

theorem parityTo_xor (n : Nat) (f g : Nat → Bool) :
    parityTo n (fun j => xor (f j) (g j)) = xor (parityTo n f) (parityTo n g) := by
  induction n with
  | zero => rfl
  | succ k ih =>
    simp only [parityTo, ih]
    cases parityTo k f <;> cases parityTo k g <;> cases f k <;> cases g k <;> rfl

theorem parityTo_congr (n : Nat) (f g : Nat → Bool) (h : ∀ j, j < n → f j = g j) :
    parityTo n f = parityTo n g := by
  induction n with
  | zero => rfl
  | succ k ih =>
    simp only [parityTo]
    rw [ih (fun j hj => h j (Nat.lt_succ_of_lt hj)), h k (Nat.lt_succ_self k)]

theorem parityTo_zero (n : Nat) (f : Nat → Bool) (h : ∀ j, j < n → f j = false) :
    parityTo n f = false := by
  rw [parityTo_congr n f (fun _ => false) h]; exact parityTo_false n

theorem parityTo_site (m q : Nat) (hq : q ≤ m) (f : Nat → Bool) :
    parityTo (m + 1) f = xor (parityTo m fun j => if j < q then f j else f (j + 1)) (f q) := by
  induction m with
  | zero =>
    obtain rfl : q = 0 := by omega
    rfl
  | succ m ih =>
    by_cases hqm : q = m + 1
    · subst hqm
      rw [parityTo, parityTo_congr (m + 1) (fun j => if j < m + 1 then f j else f (j + 1)) f fun j hj => if_pos hj]
    · rw [parityTo, ih (by omega), parityTo, if_neg (by omega : ¬ m < q)]
      simp only [Bool.xor_assoc, Bool.xor_comm (f q)]

theorem parityTo_one (n q : Nat) (f : Nat → Bool) (hq : q < n) (h : ∀ j, j < n → j ≠ q → f j = false) :
    parityTo n f = f q := by
  obtain ⟨m, rfl⟩ : ∃ m, n = m + 1 := ⟨n - 1, by omega⟩
  rw [parityTo_site m q (by omega), parityTo_zero, Bool.false_xor]
  intro j hj
  split
  · exact h j (by omega) (by omega)
  · exact h (j + 1) (by omega) (by omega)

theorem parityTo_single (n q : Nat) (f : Nat → Bool) (hq : q < n) :
    parityTo n (fun j => decide (j = q) && f j) = f q := by
  rw [parityTo_one n q _ hq fun j _ hj => by simp [hj]]; simp

theorem parityTo_single_symm (n q : Nat) (f : Nat → Bool) (hq : q < n) :
    parityTo n (fun j => decide (q = j) && f j) = f q := by
  rw [parityTo_one n q _ hq fun j _ hj => by simp [Ne.symm hj]]; simp

theorem parityTo_single_right (n q : Nat) (f : Nat → Bool) (hq : q < n) :
    parityTo n (fun j => f j && decide (j = q)) = f q := by
  rw [parityTo_one n q _ hq fun j _ hj => by simp [hj]]; simp

theorem parityTo_succ_left (n : Nat) (f : Nat → Bool) : parityTo (n + 1) f = xor (f 0) (parityTo n fun t => f (t + 1)) := by
  rw [parityTo_site n 0 (Nat.zero_le n), Bool.xor_comm]; rfl

theorem parityTo_and_const (n : Nat) (c : Bool) (f : Nat → Bool) : parityTo n (fun j => c && f j) = (c && parityTo n f) := by
  cases c
  · simp [parityTo_false]
  · simp

theorem parityTo_const_and (n : Nat) (c : Bool) (f : Nat → Bool) : parityTo n (fun j => f j && c) = (parityTo n f && c) := by
  cases c
  · simp [parityTo_false]
  · simp

theorem parityTo_two' (n c t : Nat) (f : Nat → Bool) (hc : c < n) (ht : t < n) (hct : c ≠ t)
    (h : ∀ j, j < n → j ≠ c → j ≠ t → f j = false) : parityTo n f = xor (f c) (f t) := by
  rw [parityTo_congr n f (fun j => xor (xor (f j) (decide (j = t) && f t)) (decide (j = t) && f t))
      fun j _ => by cases f j <;> cases (decide (j = t) && f t) <;> rfl,
    parityTo_xor, parityTo_single n t (fun _ => f t) ht, parityTo_one n c _ hc fun j hj hjc => by
      by_cases hjt : j = t
      · simp [hjt]
      · simp [hjt, h j hj hjc hjt]]
  simp [hct]

theorem parityTo_two (n c t : Nat) (f : Nat → Bool) (hc : c < n) (ht : t < n) (hct : c ≠ t)
    (h : ∀ j, j ≠ c → j ≠ t → f j = false) : parityTo n f = xor (f c) (f t) :=
  parityTo_two' n c t f hc ht hct fun j _ => h j

theorem parityTo_fubini (a b : Nat) (g : Nat → Nat → Bool) :
    parityTo a (fun i => parityTo b (fun j => g i j)) = parityTo b (fun j => parityTo a (fun i => g i j)) := by
  induction a with
  | zero => simp only [parityTo]; rw [parityTo_false]
  | succ k ih =>
    simp only [parityTo]
    rw [ih, ← parityTo_xor]

theorem parityTo_swap (n a b : Nat) (f : Nat → Bool) (ha : a < n) (hb : b < n) :
    parityTo n (fun j => if j = a then f b else if j = b then f a else f j) = parityTo n f := by
  by_cases hab : a = b
  · subst hab
    apply parityTo_congr; intro j _
    by_cases h : j = a <;> simp [h]
  · have key : xor (parityTo n (fun j => if j = a then f b else if j = b then f a else f j)) (parityTo n f) = false := by
      rw [← parityTo_xor, parityTo_two n a b _ ha hb hab]
      · have hba : b ≠ a := Ne.symm hab
        simp [hba]
      · intro j h1 h2; simp [h1, h2]
    generalize parityTo n (fun j => if j = a then f b else if j = b then f a else f j) = u at key
    generalize parityTo n f = v at key
    cases u <;> cases v <;> simp at key ⊢

theorem parityTo_exists (n : Nat) (f : Nat → Bool) (h : parityTo n f = true) : ∃ m, m < n ∧ f m = true := by
  induction n with
  | zero => cases h
  | succ k ih =>
    simp only [parityTo] at h
    cases hk : f k
    · rw [hk] at h
      simp only [Bool.xor_false] at h
      obtain ⟨m, hm, hf⟩ := ih h
      exact ⟨m, by omega, hf⟩
    · exact ⟨k, by omega, hk⟩

theorem parityTo_and_left (n : Nat) (a : Nat → Bool) (f g : Nat → Bool) :
    parityTo n (fun k => a k && xor (f k) (g k)) = xor (parityTo n fun k => a k && f k) (parityTo n fun k => a k && g k) := by
  rw [← parityTo_xor]
  apply parityTo_congr
  intro k _
  cases a k <;> cases f k <;> cases g k <;> rfl

/-! ### integer sums -/

theorem sumTo_split (a b : Nat) (f : Nat → Int) :
    sumTo (a + b) f = sumTo a f + sumTo b (fun j => f (a + j)) := by
  induction b with
  | zero => simp [sumTo]
  | succ k ih =>
    show sumTo (a + k + 1) f = _
    simp only [sumTo, ih]
    omega

theorem sumTo_congr (n : Nat) (f g : Nat → Int) (h : ∀ j, j < n → f j = g j) : sumTo n f = sumTo n g := by
  induction n with
  | zero => rfl
  | succ k ih =>
    simp only [sumTo]
    rw [ih (fun j hj => h j (Nat.lt_succ_of_lt hj)), h k (Nat.lt_succ_self k)]

theorem sumTo_add (n : Nat) (f g : Nat → Int) : sumTo n (fun j => f j + g j) = sumTo n f + sumTo n g := by
  induction n with
  | zero => rfl
  | succ k ih => simp only [sumTo, ih]; omega

theorem sumTo_zero (n : Nat) : sumTo n (fun _ => 0) = 0 := by
  induction n with
  | zero => rfl
  | succ k ih => simp [sumTo, ih]

theorem sumTo_neg (n : Nat) (f : Nat → Int) : sumTo n (fun j => -(f j)) = -(sumTo n f) := by
  induction n with
  | zero => rfl
  | succ k ih => simp only [sumTo, ih]; omega

theorem sumTo_sub (n : Nat) (f g : Nat → Int) : sumTo n (fun j => f j - g j) = sumTo n f - sumTo n g := by
  induction n with
  | zero => rfl
  | succ k ih => simp only [sumTo, ih]; omega

theorem sumTo_site (m q : Nat) (hq : q ≤ m) (f : Nat → Int) :
    sumTo (m + 1) f = sumTo m (fun j => if j < q then f j else f (j + 1)) + f q := by
  induction m with
  | zero =>
    obtain rfl : q = 0 := by omega
    rfl
  | succ m ih =>
    by_cases hqm : q = m + 1
    · subst hqm
      rw [sumTo, sumTo_congr (m + 1) (fun j => if j < m + 1 then f j else f (j + 1)) f fun j hj => if_pos hj]
    · rw [sumTo, ih (by omega), sumTo, if_neg (by omega : ¬ m < q)]
      omega

theorem sumTo_diff_one (n q : Nat) (f f' : Nat → Int) (hq : q < n) (h : ∀ j, j < n → j ≠ q → f j = f' j) :
    sumTo n f - f q = sumTo n f' - f' q := by
  obtain ⟨m, rfl⟩ : ∃ m, n = m + 1 := ⟨n - 1, by omega⟩
  have e : sumTo m (fun j => if j < q then f j else f (j + 1)) = sumTo m (fun j => if j < q then f' j else f' (j + 1)) :=
    sumTo_congr m _ _ fun j hj => by
      split
      · exact h j (by omega) (by omega)
      · exact h (j + 1) (by omega) (by omega)
  rw [sumTo_site m q (by omega) f, sumTo_site m q (by omega) f', e]
  omega

theorem sumTo_single (n q : Nat) (f : Nat → Int) (hq : q < n) (h : ∀ j, j ≠ q → f j = 0) :
    sumTo n f = f q := by
  have := sumTo_diff_one n q f (fun _ => 0) hq fun j _ => h j
  rw [sumTo_zero] at this
  omega

theorem sumTo_diff_two (n c t : Nat) (f f' : Nat → Int) (hc : c < n) (ht : t < n) (hct : c ≠ t)
    (h : ∀ j, j < n → j ≠ c → j ≠ t → f j = f' j) :
    sumTo n f - f c - f t = sumTo n f' - f' c - f' t := by
  -- through a function that is `f` at `t` and `f'` elsewhere
  let m : Nat → Int := fun j => if j = t then f j else f' j
  have h1 : sumTo n f - f c = sumTo n m - m c := by
    apply sumTo_diff_one n c f m hc
    intro j hj hjc
    by_cases hjt : j = t
    · simp [m, hjt]
    · simp [m, hjt, h j hj hjc hjt]
  have h2 : sumTo n m - m t = sumTo n f' - f' t := by
    apply sumTo_diff_one n t m f' ht
    intro j _ hj; simp [m, hj]
  have mc : m c = f' c := by simp [m, hct]
  have mt : m t = f t := by simp [m]
  omega

theorem sumTo_insert (n k : Nat) (f : Nat → Int) (hk : k ≤ n) :
    sumTo (n + 1) (fun j => if j < k then f j else if j = k then 0 else f (j - 1)) = sumTo n f := by
  rw [sumTo_site n k hk, if_neg (Nat.lt_irrefl k), if_pos rfl, Int.add_zero]
  refine sumTo_congr n _ _ fun j _ => ?_
  by_cases h : j < k
  · simp [h]
  · simp [h, show ¬ j + 1 < k by omega, show j + 1 ≠ k by omega]

theorem sumTo_delete (n k : Nat) (f : Nat → Int) (hk : k ≤ n) (hz : f k = 0) :
    sumTo n (fun j => if j < k then f j else f (j + 1)) = sumTo (n + 1) f := by
  rw [sumTo_site n k hk, hz, Int.add_zero]

theorem sumTo_swap (n a b : Nat) (f : Nat → Int) (ha : a < n) (hb : b < n) :
    sumTo n (fun j => if j = a then f b else if j = b then f a else f j) = sumTo n f := by
  by_cases hab : a = b
  · subst hab
    apply sumTo_congr; intro j _
    by_cases h : j = a <;> simp [h]
  · have key := sumTo_diff_two n a b (fun j => if j = a then f b else if j = b then f a else f j) f ha hb hab
      (by intro j _ h1 h2; simp [h1, h2])
    have hba : b ≠ a := Ne.symm hab
    simp only [if_true, hba, if_false] at key
    omega

theorem sumTo_mod4_congr (n : Nat) (f g : Nat → Int) (h : ∀ j, j < n → f j % 4 = g j % 4) :
    sumTo n f % 4 = sumTo n g % 4 := by
  induction n with
  | zero => rfl
  | succ k ih =>
    simp only [sumTo]
    have h1 := ih (fun j hj => h j (Nat.lt_succ_of_lt hj))
    have h2 := h k (Nat.lt_succ_self k)
    omega

theorem sumTo_mod2_parity (n : Nat) (f : Nat → Int) (p : Nat → Bool)
    (h : ∀ j, j < n → f j % 2 = Bool.toInt' (p j)) : sumTo n f % 2 = Bool.toInt' (parityTo n p) := by
  induction n with
  | zero => rfl
  | succ k ih =>
    simp only [sumTo, parityTo]
    have h1 := ih (fun j hj => h j (Nat.lt_succ_of_lt hj))
    have h2 := h k (Nat.lt_succ_self k)
    cases hp : parityTo k p <;> cases hq : p k <;> simp [hp, hq, Bool.toInt'] at h1 h2 ⊢ <;> omega

theorem sumTo_two_mul_parity (n : Nat) (p : Nat → Bool) :
    (sumTo n fun j => 2 * Bool.toInt' (p j)) % 4 = (2 * Bool.toInt' (parityTo n p)) % 4 := by
  induction n with
  | zero => rfl
  | succ k ih =>
    simp only [sumTo, parityTo]
    cases hp : parityTo k p <;> cases hq : p k <;> simp [hp, Bool.toInt'] at ih ⊢ <;> omega

end Graphiq
