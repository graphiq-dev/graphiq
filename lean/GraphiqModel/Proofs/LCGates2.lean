/-
  Proofs/LCGates2.lean — the phase correction and the validation of `lc_check` never fail for a valid `Q`.  `groupSign_complete`:
  `groupSign` finds the sign with which a Hermitian row lies in the stabilizer group of a valid tableau.  `SignedGS t n B s`: `t` is
  the graph state of `B` with the sign `s k` on `K_k(B)`; the gates of a valid `Q` of `(A, B)` give such a state, a `Z` gate flips
  the sign of its own generator only, so the corrected gate list maps `|A⟩` exactly onto `|B⟩` (`converter_core`).
-/
import GraphiqModel.Proofs.LCGates
import GraphiqModel.Proofs.TabSpecOps
import GraphiqModel.Proofs.LCRepair
namespace Graphiq.LC
open Graphiq PRow Tab Graphiq.TabSpec

/-- **`groupSign` is complete**: if a member `Q` of the stabilizer group has the Pauli part of the Hermitian row `P` (so `Q` is
    `P` or `−P`), `groupSign t P` returns the sign of `Q` -/
theorem groupSign_complete (t : Tab) (hv : t.Valid) (hr : t.StabReal) (P Q : PRow) (hP : P.ip = false)
    (hQ : Grp t Q) (hb : SameBits t.n Q P) : groupSign t P = some Q.r := by
  have hgrp := grp_isStabGrp t hv hr
  -- the product selected by the anticommutation pattern with the destabilizers
  have hmem : ∀ d, d ∈ filterTo t.n (fun d => PRow.sp t.n P (t.row d)) ↔ d < t.n ∧ PRow.sp t.n P (t.row d) = true :=
    fun d => mem_filterTo _ _ d
  have hnd : (filterTo t.n fun d => PRow.sp t.n P (t.row d)).Nodup :=
    filter_range_nodup _ _
  have hp : Grp t (groupProduct t P) := by
    unfold groupProduct
    exact foldl_inSpan t _ _ (fun d hd => ((hmem d).mp hd).1) InSpan.one
  -- it has the bits of Q: same symplectic products with all rows
  have hbits : SameBits t.n (groupProduct t P) Q := by
    apply sameBits_of_sp t hv
    intro i hi
    rcases Nat.lt_or_ge i t.n with hlt | hge
    · unfold groupProduct
      rw [sp_foldl_stab t hv _ (fun d hd => ((hmem d).mp hd).1) hnd PRow.one i hi]
      have h1 : sp t.n PRow.one (t.row i) = false := STab.sp_one_left _ _
      rw [h1, sp_congr t.n Q P (t.row i) (t.row i) hb (sameBits_refl _ _)]
      by_cases hs : sp t.n P (t.row i) = true
      · have : i ∈ filterTo t.n (fun d => PRow.sp t.n P (t.row d)) := (hmem i).mpr ⟨hlt, hs⟩
        simp [this, hs]
      · have : i ∉ filterTo t.n (fun d => PRow.sp t.n P (t.row d)) := fun h => hs ((hmem i).mp h).2
        have hs' : sp t.n P (t.row i) = false := by simpa using hs
        simp [this, hs']
    · -- both are in the (abelian) group
      have hrow : Grp t (t.row i) := grp_row t i hge hi
      rw [hgrp.comm _ _ hp hrow, hgrp.comm _ _ hQ hrow]
  -- hence it is Q itself
  have heq : EqOn t.n (groupProduct t P) Q := by
    rcases eqOn_or_negate t.n _ _ hbits ((hgrp.real _ hp).trans (hgrp.real _ hQ).symm) with h | h
    · exact h
    · exact absurd (hgrp.eqv _ _ hp h) (hgrp.not_negate Q hQ)
  unfold groupSign
  simp only []
  have hip : (groupProduct t P).ip = false := hgrp.real _ hp
  have hcheck : PRow.beqOn t.n (groupProduct t P) { P with r := (groupProduct t P).r } = true := by
    apply eqOn_beqOn
    refine ⟨fun j hj => ?_, rfl, ?_⟩
    · exact ⟨((heq.1 j hj).1).trans (hb j hj).1, ((heq.1 j hj).2).trans (hb j hj).2⟩
    · show (groupProduct t P).ip = P.ip
      rw [hip, hP]
  rw [hcheck, hip]
  simp only [Bool.not_false, Bool.and_self, if_true]
  rw [heq.2.1]

theorem zg_eqOn (n q : Nat) (p : PRow) : EqOn n (PRow.zg q p) { p with r := xor p.r (p.x q) } := by
  refine ⟨fun j _ => ⟨rfl, ?_⟩, ?_, rfl⟩
  · show (if j = q then xor (if j = q then xor (p.z j) (p.x q) else p.z j) (p.x q) else
        (if j = q then xor (p.z j) (p.x q) else p.z j)) = p.z j
    by_cases e : j = q
    · simp [e]
    · simp [e]
  · show xor (xor p.r (p.x q && p.z q)) (p.x q && (if q = q then xor (p.z q) (p.x q) else p.z q)) = xor p.r (p.x q)
    simp
    cases p.r <;> cases p.x q <;> cases p.z q <;> rfl

theorem runGates_append (t t1 : Tab) (l1 l2 : List (String × Nat)) (h : runGates t l1 = .ok t1) :
    runGates t (l1 ++ l2) = runGates t1 l2 := by
  induction l1 generalizing t with
  | nil => simp only [runGates] at h; cases h; rfl
  | cons g rest ih =>
    simp only [List.cons_append, runGates] at h ⊢
    split at h
    · cases h
    · exact ih _ h

theorem filterMap_ite_eq_map_filter (l : List Nat) (c : Nat → Bool) :
    l.filterMap (fun q => if c q = true then some ("Z", q) else none) = (l.filter c).map fun q => ("Z", q) := by
  induction l with
  | nil => rfl
  | cons a l ih =>
    simp only [List.filterMap_cons, List.filter_cons]
    cases c a <;> simp [ih]

/-- `t` is the graph state of `B` on `n` qubits, generator `k` carrying the sign `s k` -/
structure SignedGS (t : Tab) (n : Nat) (B : Adj) (s : Nat → Bool) : Prop where
  n_eq : t.n = n
  valid : t.Valid
  real : t.StabReal
  gens : ∀ k, k < n → Grp t { graphGen B k with r := s k }

theorem SignedGS.sign {t : Tab} {n : Nat} {B : Adj} {s : Nat → Bool} (h : SignedGS t n B s) (k : Nat) (hk : k < n) :
    groupSign t (graphGen B k) = some (s k) :=
  groupSign_complete t h.valid h.real (graphGen B k) { graphGen B k with r := s k } rfl (h.gens k hk) (fun _ _ => ⟨rfl, rfl⟩)

theorem SignedGS.phaseCorrection {t : Tab} {n : Nat} {B : Adj} {s : Nat → Bool} (h : SignedGS t n B s) :
    phaseCorrection t B = some (((List.range n).filter s).map fun q => ("Z", q)) := by
  unfold LC.phaseCorrection
  simp only []
  rw [h.n_eq]
  have hmap : ((List.range n).map fun q => groupSign t (graphGen B q)) = (List.range n).map fun q => some (s q) :=
    List.map_congr_left fun q hq => h.sign q (List.mem_range.mp hq)
  rw [hmap, if_pos (by simp)]
  congr 1
  rw [← filterMap_ite_eq_map_filter]
  apply List.filterMap_congr
  intro q hq
  have : ((List.range n).map fun q => some (s q)).getD q none = some (s q) := by simp [List.getD, List.mem_range.mp hq]
  rw [this]
  cases s q <;> rfl

theorem SignedGS.isGraphState {t : Tab} {n : Nat} {B : Adj} (h : SignedGS t n B fun _ => false) :
    isGraphState t B = true := by
  unfold LC.isGraphState
  rw [List.all_eq_true]
  intro k hk
  rw [h.sign k (by rw [← h.n_eq]; exact List.mem_range.mp hk)]
  rfl

theorem SignedGS.congr {t : Tab} {n : Nat} {B : Adj} {s s' : Nat → Bool} (h : SignedGS t n B s)
    (hs : ∀ k, k < n → s k = s' k) : SignedGS t n B s' :=
  ⟨h.n_eq, h.valid, h.real, fun k hk => hs k hk ▸ h.gens k hk⟩

/-- **a `Z` gate flips the sign of its own generator only** (`Z_q` anticommutes with `K_q` and with no other `K_k`) -/
theorem SignedGS.zGate {t : Tab} {n : Nat} {B : Adj} {s : Nat → Bool} (h : SignedGS t n B s) (q : Nat) (hq : q < n) :
    SignedGS (t.zGate q).norm n B fun k => xor (s k) (decide (q = k)) := by
  have hq' : q < t.n := by rw [h.n_eq]; exact hq
  refine ⟨h.n_eq, Tab.norm_valid _ (zGate_valid t q hq' h.valid),
    norm_stabReal _ (Tab.map_real t _ (isAut1_zg t.n q hq').ip h.real), fun k hk => ?_⟩
  exact InSpan.eqv _ _ ((norm_grp (t.zGate q) _).mpr (map_grp_of t (PRow.zg q) (isAut1_zg t.n q hq') _ (h.gens k hk)))
    (zg_eqOn t.n q _)

theorem SignedGS.zGates {t : Tab} {n : Nat} {B : Adj} {s : Nat → Bool} (h : SignedGS t n B s) (l : List Nat)
    (hl : ∀ q ∈ l, q < n) (hnd : l.Nodup) :
    ∃ t', runGates t (l.map fun q => ("Z", q)) = .ok t' ∧ SignedGS t' n B fun k => xor (s k) (decide (k ∈ l)) := by
  induction l generalizing t s with
  | nil => exact ⟨t, rfl, h.congr fun k _ => by simp⟩
  | cons q rest ih =>
    have hq := hl q List.mem_cons_self
    have hnd' := List.nodup_cons.mp hnd
    obtain ⟨t', e', h'⟩ := ih (h.zGate q hq) (fun q' h' => hl q' (List.mem_cons_of_mem _ h')) hnd'.2
    refine ⟨t', ?_, h'.congr fun k _ => ?_⟩
    · simp only [List.map_cons, runGates, applyGate, if_pos (h.n_eq ▸ hq)]
      exact e'
    · by_cases e : q = k
      · subst e
        simp [hnd'.1]
      · have : ¬ k = q := fun x => e x.symm
        simp [e, this]

theorem SignedGS.corrected {t : Tab} {n : Nat} {B : Adj} {s : Nat → Bool} (h : SignedGS t n B s) :
    ∃ t', runGates t (((List.range n).filter s).map fun q => ("Z", q)) = .ok t' ∧ SignedGS t' n B fun _ => false := by
  obtain ⟨t', e, h'⟩ := h.zGates ((List.range n).filter s)
    (fun q hq => List.mem_range.mp (List.mem_filter.mp hq).1) (filter_range_nodup n s)
  refine ⟨t', e, h'.congr fun k hk => ?_⟩
  cases hs : s k <;> simp [hs, hk]

/-- **the gates of a valid `Q` give the graph state of `B` up to signs**, the sign of `K_k(B)` being the one `groupSign` reports -/
theorem gates_signedGS (n : Nat) (A B : Adj) (hA : Simple n A) (hB : Simple n B) (v : List Bool)
    (hq : ∀ j k, j < n → k < n → equation n A B (vget v) j k = false) (hv : isValidClifford n v = true) :
    ∃ t, runGates (graphTab n A) (qGates n v) = .ok t ∧
      SignedGS t n B fun k => groupSign t (graphGen B k) == some true := by
  obtain ⟨t, e, hn, hval, hreal, hK⟩ := gates_map_state_up_to_signs n A B hA hB v hq hv
  refine ⟨t, e, hn, hval, hreal, fun k hk => ?_⟩
  rcases hK k hk with h | h
  · rw [groupSign_complete t hval hreal _ _ rfl h (sameBits_refl _ _)]; exact h
  · rw [groupSign_complete t hval hreal (graphGen B k) (negate (graphGen B k)) rfl h (fun _ _ => ⟨rfl, rfl⟩)]; exact h

/-- **the gate list of `converter_gate_list` maps the graph state of `A` exactly onto the graph state of `B`, and the model's
    phase correction and validation cannot fail**: for every `Q` with invertible blocks that solves the system for `(A, B)`,
    the gates of `Q` run (`t1`), every `groupSign t1 (K_k(B))` is found, the `Z` gates on the qubits with sign `−` are the phase
    correction, the total list runs (`t2`), and `t2` is the graph state of `B` with all signs `+` -/
theorem converter_core (n : Nat) (A B : Adj) (hA : Simple n A) (hB : Simple n B) (v : List Bool)
    (hq : ∀ j k, j < n → k < n → equation n A B (vget v) j k = false) (hv : isValidClifford n v = true) :
    ∃ t1 zs t2, runGates (graphTab n A) (qGates n v) = .ok t1 ∧ phaseCorrection t1 B = some zs ∧
      runGates (graphTab n A) (qGates n v ++ zs) = .ok t2 ∧ isGraphState t2 B = true := by
  obtain ⟨t1, e1, h1⟩ := gates_signedGS n A B hA hB v hq hv
  obtain ⟨t2, e2, h2⟩ := h1.corrected
  exact ⟨t1, _, t2, e1, h1.phaseCorrection, by rw [runGates_append _ t1 _ _ e1]; exact e2, h2.isGraphState⟩

/-! ### `converter_gate_list` and `lc_check` -/

/-- `converter_gate_list` and `lc_check` over the whole-graph algorithm: after a `yes` they return the gates of `Q` followed by
    `Z` corrections — no assertion, no warning — with or without validation -/
theorem lcCheck_of_yes (a b : BMat) (out : EqOut) (s : List Bool) (hn : 0 < a.r) (hab : a.r = b.r)
    (ha : Simple a.r a.f) (hb : Simple b.r b.f) (e : isLcEquivalent a b .det [] = .ok out) (hs : out.sol = some s) :
    ∃ zs, converterGateList a b = .ok (qGates a.r s ++ zs, true) ∧
      ∀ validate, lcCheck a b validate = .ok (true, qGates a.r s ++ zs) := by
  obtain ⟨_, h2, h3⟩ := isLcEquivalent_sound_all a b .det [] out s hn e hs
  have h2' := (solF_coeff_iff a.r a.f b.f _).mp h2
  have hb' : Simple a.r b.f := by rw [hab]; exact hb
  obtain ⟨t1, zs, t2, e1, e2, e3, e4⟩ := converter_core a.r a.f b.f ha hb' s h2' h3
  have hconv : converterGateList a b = .ok (qGates a.r s ++ zs, true) := by
    unfold converterGateList
    rw [e]
    simp only [hs]
    show ((match runGates (graphTab a.r a.f) (qGates a.r s) with
      | Except.error e => Except.error e
      | Except.ok t => match phaseCorrection t b.f with
        | some zs => Except.ok (qGates a.r s ++ zs, true)
        | none => Except.ok (qGates a.r s, false)) : Except Err (List (String × Nat) × Bool)) = _
    rw [e1]
    simp only [e2]
  refine ⟨zs, hconv, fun validate => ?_⟩
  unfold lcCheck
  rw [hconv]
  simp only []
  cases validate
  · rfl
  · simp only [if_true, e3, e4]

/-- the same over the repaired function, with the corrections named: the `Z` gates on the qubits whose generator carries the sign
    `−` in the state `t1` reached by the gates of `Q` -/
theorem lcCheckR_of_yes_signs (a b : BMat) (out : EqOutR) (s : List Bool) (hab : a.r = b.r)
    (ha : Simple a.r a.f) (hb : Simple b.r b.f) (e : isLcEquivalentR a b .det [] = .ok out) (hs : out.sol = some s) :
    ∃ t1, runGates (graphTab a.r a.f) (qGates a.r s) = .ok t1 ∧
      converterGateListR a b = .ok (qGates a.r s ++
        ((List.range a.r).filter fun q => groupSign t1 (graphGen b.f q) == some true).map (fun q => ("Z", q)), true) ∧
      ∀ validate, lcCheckR a b validate = .ok (true, qGates a.r s ++
        ((List.range a.r).filter fun q => groupSign t1 (graphGen b.f q) == some true).map fun q => ("Z", q)) := by
  have hb' : Simple a.r b.f := by rw [hab]; exact hb
  obtain ⟨_, h2, h3⟩ := isLcEquivalentR_yes a b .det [] out s ha hb' e hs
  obtain ⟨t1, e1, h1⟩ := gates_signedGS a.r a.f b.f ha hb' s h2 h3
  obtain ⟨t2, e2, hg2⟩ := h1.corrected
  have hconv : converterGateListR a b = .ok (qGates a.r s ++
      ((List.range a.r).filter fun q => groupSign t1 (graphGen b.f q) == some true).map (fun q => ("Z", q)), true) := by
    unfold converterGateListR
    rw [e]
    simp only [hs]
    show ((match runGates (graphTab a.r a.f) (qGates a.r s) with
      | Except.error e => Except.error e
      | Except.ok t => match phaseCorrection t b.f with
        | some zs => Except.ok (qGates a.r s ++ zs, true)
        | none => Except.ok (qGates a.r s, false)) : Except Err (List (String × Nat) × Bool)) = _
    rw [e1]
    simp only [h1.phaseCorrection]
  refine ⟨t1, e1, hconv, fun validate => ?_⟩
  unfold lcCheckR
  rw [hconv]
  simp only []
  cases validate
  · rfl
  · simp only [if_true, runGates_append _ t1 _ _ e1, e2, hg2.isGraphState]

theorem lcCheckR_of_yes (a b : BMat) (out : EqOutR) (s : List Bool) (hab : a.r = b.r)
    (ha : Simple a.r a.f) (hb : Simple b.r b.f) (e : isLcEquivalentR a b .det [] = .ok out) (hs : out.sol = some s) :
    ∃ zs, converterGateListR a b = .ok (qGates a.r s ++ zs, true) ∧
      ∀ validate, lcCheckR a b validate = .ok (true, qGates a.r s ++ zs) := by
  obtain ⟨t1, _, h1, h2⟩ := lcCheckR_of_yes_signs a b out s hab ha hb e hs
  exact ⟨_, h1, h2⟩

/-- after a `no`, `lc_check` returns `(False, [])` (the assertion of `converter_gate_list` is swallowed by the bare `except`) -/
theorem lcCheckR_of_no (a b : BMat) (out : EqOutR) (e : isLcEquivalentR a b .det [] = .ok out) (hs : out.sol = none)
    (validate : Bool) : lcCheckR a b validate = .ok (false, []) := by
  unfold lcCheckR converterGateListR
  rw [e]
  simp only [hs]

end Graphiq.LC
