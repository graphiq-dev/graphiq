/-
  Proofs/SolverCompleteHelpers.lean — completeness of the time-reversed solver: the helpers of
  `Model/Solver.lean` that never look at anything but one generator row RETURN (no exception).

  `_add_one_qubit_gate` returns because `simplify_local_clifford` is total (`Cliff.simplify_correct`, C20);
  `_change_pauli_type`, the loop over the emitters, `_transform_generator_emitters` (its `assert not np.any(x_matrix[g])` holds as soon
  as the generator has no X/Y anywhere), the sign repair.
-/
import GraphiqModel.Proofs.SolverCompleteGates
import GraphiqModel.Proofs.Clifford1
import GraphiqModel.Proofs.SolverSoundInv
namespace Graphiq.Solver
open Graphiq Graphiq.Cliff PRow STab

/-- `_add_one_qubit_gate` never raises: `simplify_local_clifford` is total on words over the generators -/
theorem addOneQubit_ok (s : St) (gs : List Gen) (q : Nat) : ∃ s', addOneQubit s gs q = .ok s' := by
  unfold addOneQubit
  simp only
  generalize s.circ.takeWhile (fun o => !o.touches s.np q) = pre
  generalize s.circ.dropWhile (fun o => !o.touches s.np q) = post
  split
  · next old q' rest =>
    obtain ⟨m, hm, _, _⟩ := simplify_correct (old ++ gs)
    rw [hm]
    simp only
    split
    · exact ⟨_, rfl⟩
    · exact ⟨_, rfl⟩
  · obtain ⟨m, hm, _, _⟩ := simplify_correct gs
    rw [hm]
    simp only
    split
    · exact ⟨_, rfl⟩
    · exact ⟨_, rfl⟩

theorem gate_t (s : St) (G : Gate) : (s.gate G).t = (s.t.applyGate G).norm := rfl

theorem allEmittersToZ_ok (s : St) (g : Nat) (skip : Bool) : ∃ s', allEmittersToZ s g skip = .ok s' := by
  unfold allEmittersToZ
  obtain ⟨s', h, _⟩ := Loop.foldlM_ok (l := List.range s.ne) (s := s) (fun _ => True) (f := fun (acc : St) i =>
      let (a1, gl) := changeToZ acc g (acc.np + i)
      if skip && gl.isEmpty then Except.ok a1 else addOneQubit a1 gl (acc.np + i))
    (fun a i _ _ => by
      simp only
      split
      · exact ⟨_, rfl, trivial⟩
      · exact (addOneQubit_ok _ _ _).imp fun _ h => ⟨h, trivial⟩) trivial
  exact ⟨s', h⟩

/-- `_transform_generator_emitters` returns when the generator has no X/Y (its assertion) -/
theorem transformGeneratorEmitters_ok (s : St) (g e : Nat) (hx : ∀ j, j < s.t.n → (s.t.row g).x j = false) :
    ∃ s', transformGeneratorEmitters s g e = .ok s' := by
  unfold transformGeneratorEmitters
  split
  · exact ⟨s, rfl⟩
  · have hany : ((List.range s.t.n).any fun j => (s.t.row g).x j) = false := by
      rw [List.any_eq_false]
      intro j hj
      rw [hx j (List.mem_range.mp hj)]; simp
    rw [hany]
    exact ⟨_, rfl⟩

theorem fixSign_ok (s : St) (g e : Nat) : ∃ s', fixSign s g e = .ok s' := by
  unfold fixSign
  split
  · exact addOneQubit_ok _ _ _
  · exact ⟨s, rfl⟩

theorem absorb_select (t : STab) (photon : Nat) (hex : ∃ i, i < t.n ∧ t.leftmost i = some photon) :
    ∃ g, ((List.range t.n).reverse.filter fun i => t.leftmost i == some photon).head? = some g ∧ g < t.n ∧
      t.leftmost g = some photon := by
  obtain ⟨i, hi, hl⟩ := hex
  have hm : i ∈ ((List.range t.n).reverse.filter fun i => t.leftmost i == some photon) := by
    simp only [List.mem_filter, List.mem_reverse, List.mem_range, beq_iff_eq]
    exact ⟨hi, hl⟩
  obtain ⟨g, rest, e⟩ := List.exists_cons_of_ne_nil (List.ne_nil_of_mem hm)
  have hg : g ∈ ((List.range t.n).reverse.filter fun i => t.leftmost i == some photon) := e ▸ List.mem_cons_self
  simp only [List.mem_filter, List.mem_reverse, List.mem_range, beq_iff_eq] at hg
  exact ⟨g, by rw [e]; rfl, hg⟩

/-- the first step of `_add_photon_absorption`: the chosen generator's Pauli on the photon becomes `Z`; nothing else of it changes -/
theorem absorbStart (s : St) (g photon : Nat) (hg : g < s.t.n) (hq : photon < s.t.n) :
    ∃ s1, addOneQubit (changeToZ s g photon).1 (changeToZ s g photon).2 photon = .ok s1 ∧
      s1.t.n = s.t.n ∧ s1.np = s.np ∧ s1.ne = s.ne ∧ (s1.t.row g).x photon = false ∧
      (s1.t.row g).z photon = ((s.t.row g).x photon || (s.t.row g).z photon) ∧
      ∀ j, j < s.t.n → j ≠ photon → (s1.t.row g).x j = (s.t.row g).x j ∧ (s1.t.row g).z j = (s.t.row g).z j := by
  obtain ⟨c1, c2, c3, c5, c6, c7⟩ := changeToZ_row s g photon hg hq
  obtain ⟨s1, h1⟩ := addOneQubit_ok (changeToZ s g photon).1 (changeToZ s g photon).2 photon
  obtain ⟨e1, e2, e3⟩ := addOneQubit_t _ s1 _ photon h1
  rw [← e1] at c1 c5 c6 c7
  exact ⟨s1, h1, c1, e2.trans c2, e3.trans c3, c5, c6, c7⟩

theorem emitterIndices_congr (s s1 : St) (g : Nat) (hnp : s1.np = s.np) (hne : s1.ne = s.ne)
    (h : ∀ e, e < s.ne → (s1.t.row g).x (s.np + e) = (s.t.row g).x (s.np + e) ∧ (s1.t.row g).z (s.np + e) = (s.t.row g).z (s.np + e)) :
    emitterIndices s1 g = emitterIndices s g := by
  unfold emitterIndices
  rw [hnp, hne]
  exact List.filter_congr fun e he => by rw [(h e (List.mem_range.mp he)).1, (h e (List.mem_range.mp he)).2]

/-- the row products that end `_add_photon_absorption`: generator `g` is multiplied into the other generators with a `Z` on the photon -/
def absorbRows (t : STab) (g photon : Nat) : STab :=
  ((((List.range t.n).filter fun i => t.ptype i photon = 3).filter fun i => i ≠ g).foldl (fun acc i => acc.rowSum g i) t).norm

end Graphiq.Solver
