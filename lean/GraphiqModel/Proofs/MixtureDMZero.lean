/-
  Proofs/MixtureDMZero.lean — clause (d) of C06 for whole circuits, every number of qubits:

  * `compileStab_off`, `compileDM_off` : with noise simulation switched off both compilers return *literally* what they return
    on the circuit with every noise replaced by `NoNoise` (= the empty noise map) with the switch on — any circuit,
    measurements included;
  * `dmNoise_zero` : one application of a zero-strength noise returns a Hermitian density matrix entry by entry — the image
    under the embedding `toC` of `noiseH_zero`;
  * `dm_zero_strength` : for a measurement-free circuit all of whose noise has zero strength (`DepolarizingNoise(0)`,
    `PhotonLoss(0)`, `PauliError("I")`, `NoNoise`), the density matrix equals, entry by entry, the density matrix of the
    noiseless circuit; `mix_zero_strength` : the mixtures stand for the same state.
-/
import GraphiqModel.Proofs.MixtureDMTotalMeas
namespace Graphiq
namespace MixDM
open Matrix Hilbert Noise DM

/-- the operation with its noise removed (`NoNoise` on every slot: what an empty noise map attaches) -/
def strip (op : COp) : COp := { op with n0 := .none, n1 := .none }

theorem strip_default : strip { kind := .identity } = { kind := .identity } := rfl

/-- the array of the stripped circuit -/
def StripRel (arr arr' : Array COp) : Prop :=
  ∀ k, arr'.getD k { kind := .identity } = strip (arr.getD k { kind := .identity })

theorem stripRel_toArray (ops : List COp) : StripRel ops.toArray (ops.map strip).toArray := by
  intro k
  simp only [Array.getD_eq_getD_getElem?, List.getElem?_toArray, List.getElem?_map]
  cases ops[k]? <;> rfl

/-! ### noise simulation off = the noiseless circuit, exactly -/

theorem stabGo_off (np n : Nat) (det : Bool) (arr arr' : Array COp) (hr : StripRel arr arr') :
    ∀ (ops : List COp) (k : Nat) (s : StabSt),
      stabGo false np n det arr ops k s = stabGo true np n det arr' (ops.map strip) k s
  | [], _, _ => rfl
  | op :: rest, k, s => by
    simp only [List.map_cons, stabGo]
    have hk : (strip op).kind = op.kind := rfl
    rw [hk, placeOp_off, placeOp_none true .stab np (strip op) k rfl rfl]
    simp only [runStabActs, stabAct]
    rw [hr k]
    have hg : stabGate np n det (strip (arr.getD k { kind := .identity })) s
        = stabGate np n det (arr.getD k { kind := .identity }) s := rfl
    rw [hg]
    cases stabGate np n det (arr.getD k { kind := .identity }) s with
    | error e => rfl
    | ok s1 => simp only; rw [stabGo_off np n det arr arr' hr rest (k + 1) s1]

theorem dmGo_off (np n : Nat) (det : Bool) (arr arr' : Array COp) (hr : StripRel arr arr') :
    ∀ (ops : List COp) (k : Nat) (d : DmSt),
      dmGo false np n det arr ops k d = dmGo true np n det arr' (ops.map strip) k d
  | [], _, _ => rfl
  | op :: rest, k, d => by
    simp only [List.map_cons, dmGo]
    rw [placeOp_off, placeOp_none true .dm np (strip op) k rfl rfl]
    simp only [runDmActs, dmAct]
    rw [hr k]
    have hg : dmGate np n det (strip (arr.getD k { kind := .identity })) d
        = dmGate np n det (arr.getD k { kind := .identity }) d := rfl
    rw [hg]
    cases dmGate np n det (arr.getD k { kind := .identity }) d with
    | error e => rfl
    | ok d1 => simp only; rw [dmGo_off np n det arr arr' hr rest (k + 1) d1]

/-- **noise simulation off = empty noise map, stabilizer backend, any circuit**: the same result, literally -/
theorem compileStab_off (ne np nc : Nat) (det : Bool) (ops : List COp) :
    compileStab false ne np nc det ops = compileStab true ne np nc det (ops.map strip) := by
  unfold compileStab
  exact stabGo_off np (ne + np) det _ _ (stripRel_toArray ops) ops 0 _

/-- **noise simulation off = empty noise map, density-matrix backend, any circuit** -/
theorem compileDM_off (ne np nc : Nat) (det : Bool) (ops : List COp) :
    compileDM false ne np nc det ops = compileDM true ne np nc det (ops.map strip) := by
  unfold compileDM
  exact dmGo_off np (ne + np) det _ _ (stripRel_toArray ops) ops 0 _

/-! ### zero strength = noiseless, as states -/

theorem zero_additive (nm : NoiseM) (h : nm.isZeroStrength = true) : nm.isAdditive = true := by
  cases nm <;> simp_all [NoiseM.isZeroStrength, NoiseM.isAdditive]

theorem noiseH_zero (n : Nat) (nm : NoiseM) (h : nm.isZeroStrength = true) (q : Nat) (R : HMat n) : noiseH n nm q R = R := by
  cases nm with
  | none => rfl
  | depol p a =>
    have hp : p = 0 := by simpa [NoiseM.isZeroStrength] using h
    subst hp
    simp [noiseH, depolH]
  | pauli k a =>
    have hk : k = .I := by simpa [NoiseM.isZeroStrength] using h
    subst hk; rfl
  | loss r a =>
    have hr : r = 0 := by simpa [NoiseM.isZeroStrength] using h
    subst hr
    simp [noiseH]
  | replace => simp [NoiseM.isZeroStrength] at h
  | other => simp [NoiseM.isZeroStrength] at h

theorem toC_herm (n : Nat) (ρ : Mat) (hn : ρ.n = 2 ^ n) (hh : Mat.Herm ρ) : (toC n ρ)ᴴ = toC n ρ := by
  rw [← toC_dagger]
  exact toC_congr n _ _ hn ⟨rfl, fun i j hi hj => hh i j hi hj⟩

theorem zero_runs (nm : NoiseM) (hz : nm.isZeroStrength = true) : NoiseRuns nm := by
  cases nm with
  | depol p a =>
    have hp : p = 0 := by simpa [NoiseM.isZeroStrength] using hz
    subst hp; exact ⟨rfl, trivial, le_refl 0, zero_le_one⟩
  | pauli k a =>
    have hk : k = .I := by simpa [NoiseM.isZeroStrength] using hz
    subst hk; exact ⟨rfl, trivial, trivial⟩
  | loss r a => exact ⟨rfl, trivial, trivial⟩
  | none => exact ⟨rfl, trivial, trivial⟩
  | replace => simp [NoiseM.isZeroStrength] at hz
  | other => simp [NoiseM.isZeroStrength] at hz

/-- **zero strength ⇒ identity (density matrices)**: `DepolarizingNoise(0)`, `PhotonLoss(0)`, `PauliError("I")` and `NoNoise` on
    an existing qubit return a Hermitian state of the right size entry by entry (Hermitian, because `apply_unitary` and
    `apply_channel` hermitianize) -/
theorem dmNoise_zero (n q : Nat) (hq : q < n) (ρ : Mat) (hn : ρ.n = pow2 n) (hh : Mat.Herm ρ) (nm : NoiseM)
    (hz : nm.isZeroStrength = true) : ∃ ρ', DMx.applyNoise n nm q ρ = .ok ρ' ∧ Mat.EqOn ρ' ρ := by
  obtain ⟨ρ', h, hn'⟩ := dmNoise_runs n q hq nm (zero_runs nm hz) ρ hn
  refine ⟨ρ', h, toC_inj n ρ' ρ hn' hn ?_⟩
  rw [(dmNoise_toC n q hq nm ρ ρ' hn (toC_herm n ρ hn hh) h).1, noiseH_zero n nm hz]

def ZeroNoise (op : COp) : Prop := op.n0.isZeroStrength = true ∧ op.n1.isZeroStrength = true

theorem runH_wanted_zero (np n : Nat) (arr : Array COp) (op : COp) (k : Nat) (hz : ZeroNoise op) (af : Bool) (R : HMat n) :
    runH np n arr (wanted np op k af) R = R := by
  unfold wanted
  rw [runH_append]
  have h0 : runH np n arr (if (!op.n0.isNone && op.n0.after == af) = true
      then [Act.noise k 0 (qIndex np op.r1 op.t1) op.n0] else []) R = R := by
    split
    · exact noiseH_zero n op.n0 hz.1 _ R
    · rfl
  rw [h0]
  split
  · exact noiseH_zero n op.n1 hz.2 _ R
  · rfl

theorem stripRel_gateH (np n : Nat) (arr arr' : Array COp) (hr : StripRel arr arr') (k : Nat) (R : HMat n) :
    actH np n arr' (.gate k) R = actH np n arr (.gate k) R := by
  show gateH np n (arr'.getD k { kind := .identity }) R = gateH np n (arr.getD k { kind := .identity }) R
  rw [hr k]
  rfl

theorem runH_zero (ns : Bool) (be : Backend) (np n : Nat) (arr arr' : Array COp) (hr : StripRel arr arr') :
    ∀ (ops : List COp) (k : Nat) (tr tr0 : List Act), (∀ op ∈ ops, MFree op ∧ ZeroNoise op) →
      traceGo ns be np ops k = .ok tr → traceGo ns be np (ops.map strip) k = .ok tr0 →
      ∀ R : HMat n, runH np n arr tr R = runH np n arr' tr0 R
  | [], _, tr, tr0, _, h, h0 => by
    simp [traceGo] at h h0; subst h; subst h0; intro R; rfl
  | op :: rest, k, tr, tr0, hw, h, h0 => by
    obtain ⟨hf, hz⟩ := hw op List.mem_cons_self
    rw [List.map_cons] at h0
    obtain ⟨acts, tr', hp, hr1, rfl⟩ := traceGo_cons.1 h
    obtain ⟨acts0, tr0', hp0, hr0, rfl⟩ := traceGo_cons.1 h0
    rw [placeOp_none ns be np (strip op) k rfl rfl] at hp0
    injection hp0 with hp0; subst hp0
    have ih := runH_zero ns be np n arr arr' hr rest (k + 1) tr' tr0'
      (fun o ho => hw o (List.mem_cons_of_mem _ ho)) hr1 hr0
    intro R
    rw [runH_append, runH_append]
    have hop : runH np n arr acts R = runH np n arr' [.gate k] R := by
      show _ = actH np n arr' (.gate k) R
      rw [stripRel_gateH np n arr arr' hr k R]
      cases ns with
      | false => rw [placeOp_off] at hp; injection hp with hp; subst hp; rfl
      | true =>
        rw [placeOp_supported be np op k ⟨hf, zero_additive _ hz.1, fun _ => zero_additive _ hz.2⟩] at hp
        injection hp with hp; subst hp
        rw [runH_append, runH_append, runH_wanted_zero np n arr op k hz false, runH_wanted_zero np n arr op k hz true]
        rfl
    rw [hop]
    exact ih _

theorem strip_ok (n np : Nat) (op : COp) (h : OpOK n np op) : OpOK n np (strip op) :=
  ⟨h.wf, h.mfree, trivial, trivial⟩

/-- **zero strength ⇒ the noiseless density matrix, exactly** (measurement-free circuits on existing qubits, all n) -/
theorem dm_zero_strength (ns : Bool) (ne np nc : Nat) (det : Bool) (ops : List COp)
    (hw : ∀ op ∈ ops, OpOK (ne + np) np op) (hz : ∀ op ∈ ops, ZeroNoise op) (d d0 : DmSt) (ρ ρ0 : Mat)
    (hd : compileDM ns ne np nc det ops = .ok d) (hd0 : compileDM ns ne np nc det (ops.map strip) = .ok d0)
    (hρ : d.ρ = some ρ) (hρ0 : d0.ρ = some ρ0) : Mat.EqOn ρ ρ0 := by
  have hw0 : ∀ op ∈ ops.map strip, OpOK (ne + np) np op := by
    intro op ho
    obtain ⟨o, ho', rfl⟩ := List.mem_map.1 ho
    exact strip_ok _ _ o (hw o ho')
  obtain ⟨tr, htr, r, hr, e, hn, _⟩ := compileDM_toC ns ne np nc det ops hw d hd
  obtain ⟨tr0, htr0, r0, hr0, e0, hn0, _⟩ := compileDM_toC ns ne np nc det (ops.map strip) hw0 d0 hd0
  rw [hρ] at hr; injection hr with hr; subst hr
  rw [hρ0] at hr0; injection hr0 with hr0; subst hr0
  apply toC_inj (ne + np) _ _ hn hn0
  rw [e, e0]
  exact runH_zero ns .dm np (ne + np) _ _ (stripRel_toArray ops) ops 0 tr tr0
    (fun op ho => ⟨(hw op ho).mfree, hz op ho⟩) htr htr0 _

/-- on a zero-strength circuit the mixture of the stabilizer backend stands for the state of the noiseless circuit -/
theorem mix_zero_strength (ns : Bool) (ne np nc : Nat) (det : Bool) (ops : List COp)
    (hw : ∀ op ∈ ops, OpOK (ne + np) np op) (hz : ∀ op ∈ ops, ZeroNoise op) (s s0 : StabSt)
    (hs : compileStab ns ne np nc det ops = .ok s) (hs0 : compileStab ns ne np nc det (ops.map strip) = .ok s0) :
    mixRho (ne + np) s.mix = mixRho (ne + np) s0.mix := by
  have hw0 : ∀ op ∈ ops.map strip, OpOK (ne + np) np op := by
    intro op ho
    obtain ⟨o, ho', rfl⟩ := List.mem_map.1 ho
    exact strip_ok _ _ o (hw o ho')
  obtain ⟨tr, htr, e, _⟩ := compileStab_mixRho ns ne np nc det ops hw s hs
  obtain ⟨tr0, htr0, e0, _⟩ := compileStab_mixRho ns ne np nc det (ops.map strip) hw0 s0 hs0
  rw [e, e0]
  exact runH_zero ns .stab np (ne + np) _ _ (stripRel_toArray ops) ops 0 tr tr0
    (fun op ho => ⟨(hw op ho).mfree, hz op ho⟩) htr htr0 _

end MixDM
end Graphiq
