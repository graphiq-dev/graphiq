/-
  Proofs/SweepKet.lean — cross-references between the two developments of "a stabilizer state is a ket": C07 (purity ⇒ rank
  one, `Hilbert.stabilizer_ket_exists`, for valid Clifford tableaux with real stabilizer rows, `ψ` not computed) and C11 / C05
  (`ψ = V|0…0⟩` from the synthesised inverse circuit, `Hilbert.rho_rank_one`, for every independent real commuting generating
  set).  The two conclusion shapes are converted into each other, a ket is unique up to a phase, the two "same state ⇔ same
  group" criteria (`Grp` of C07, `Spn` of C05) are identified, and the value `inner_product` reports is the executable overlap
  specification.
-/
import GraphiqModel.Proofs.HilbertDimKet
import GraphiqModel.Proofs.HilbertDimExpect
import GraphiqModel.Proofs.HilbertDimOverlap
import GraphiqModel.Proofs.InvHilbert
import GraphiqModel.Proofs.InvValid
import GraphiqModel.Proofs.InvTotal
import GraphiqModel.Proofs.InnerProductHilbert
namespace Graphiq.Sweep
open Graphiq Graphiq.Hilbert Matrix

/-- the entrywise form `ρ a b = ψ a · conj ψ b` (C05 / C11 / C17) is the matrix form `ρ = |ψ⟩⟨ψ|` (C07) -/
theorem ketForm_iff {ι : Type} [Fintype ι] (R : Matrix ι ι ℂ) (ψ : ι → ℂ) :
    (∀ a b, R a b = ψ a * star (ψ b)) ↔ R = Matrix.vecMulVec ψ (star ψ) := by
  constructor
  · intro h; ext a b; rw [h a b]; rfl
  · intro h a b; rw [h]; rfl

/-- the two ways the norm is written -/
theorem ketNorm_iff {ι : Type} [Fintype ι] (ψ : ι → ℂ) : (∑ a, star (ψ a) * ψ a = 1) ↔ star ψ ⬝ᵥ ψ = 1 := by
  unfold dotProduct
  exact Iff.rfl

/-- **C11 ⇒ C07's shape, on every independent real commuting generating set** (not only valid Clifford tableaux): the
    state is `|ψ⟩⟨ψ|` with `⟨ψ|ψ⟩ = 1` in the matrix form C07 uses -/
theorem ket_of_good_indep (t : STab) (hg : t.Good) (hi : t.Indep) :
    ∃ ψ : Bits t.n → ℂ, rho t.n t = Matrix.vecMulVec ψ (star ψ) ∧ star ψ ⬝ᵥ ψ = 1 := by
  obtain ⟨t', circ, h, _⟩ := STab.inverseCircuit_complete t hg hi
  obtain ⟨h1, h2⟩ := rho_rank_one t t' circ hg h
  exact ⟨_, (ketForm_iff _ _).1 h1, (ketNorm_iff _).1 h2⟩

/-- **C07 ⇒ C11's shape on valid Clifford tableaux, without the completeness of `inverse_circuit`**: purity alone
    (`ρ² = ρ = ρ†`, `tr ρ = 1`) gives the entrywise rank-one form with a normalised `ψ` -/
theorem rank_one_of_valid (t : Tab) (hv : t.Valid) :
    ∃ ψ : Bits t.n → ℂ, (∑ a, star (ψ a) * ψ a = 1) ∧ ∀ a b, rho t.n (STab.ofTab t) a b = ψ a * star (ψ b) := by
  have hg := ofTab_good t hv
  obtain ⟨ψ, h1, h2⟩ := rank_one_of_pure (rho t.n (STab.ofTab t)) (rho_idem _ hg) (rho_hermitian _ hg) (rho_ofTab_trace t hv)
  exact ⟨ψ, (ketNorm_iff ψ).2 h2, (ketForm_iff _ ψ).2 h1⟩

/-- the two rank-one theorems give the same state vector up to a phase: two normalised kets with the same projector are
    proportional, `φ = ⟨ψ|φ⟩ ψ` -/
theorem ket_unique_up_to_phase {ι : Type} [Fintype ι] (ψ φ : ι → ℂ) (hψ : star ψ ⬝ᵥ ψ = 1)
    (h : Matrix.vecMulVec ψ (star ψ) = Matrix.vecMulVec φ (star φ)) (hφ : star φ ⬝ᵥ φ = 1) :
    φ = (star ψ ⬝ᵥ φ) • ψ := by
  -- apply both projectors to φ
  have e1 : Matrix.vecMulVec φ (star φ) *ᵥ φ = φ := by
    ext a
    simp only [Matrix.mulVec, Matrix.vecMulVec_apply, dotProduct]
    have : ∑ x, φ a * star φ x * φ x = φ a * ∑ x, star φ x * φ x := by
      rw [Finset.mul_sum]; apply Finset.sum_congr rfl; intro x _; ring
    rw [this]
    have h2 : ∑ x, star φ x * φ x = 1 := hφ
    rw [h2, mul_one]
  have e2 : Matrix.vecMulVec ψ (star ψ) *ᵥ φ = (star ψ ⬝ᵥ φ) • ψ := by
    ext a
    simp only [Matrix.mulVec, Matrix.vecMulVec_apply, dotProduct, Pi.smul_apply, smul_eq_mul]
    have : ∑ x, ψ a * star ψ x * φ x = (∑ x, star ψ x * φ x) * ψ a := by
      rw [Finset.sum_mul]; apply Finset.sum_congr rfl; intro x _; ring
    exact this
  calc φ = Matrix.vecMulVec φ (star φ) *ᵥ φ := e1.symm
    _ = Matrix.vecMulVec ψ (star ψ) *ᵥ φ := by rw [h]
    _ = (star ψ ⬝ᵥ φ) • ψ := e2

/-- **the two "same state ⇔ same group" criteria are one**: for tableaux with real stabilizer rows, C07's condition (the
    groups `Grp` generated by the stabilizer rows agree) is C05's condition (the spans `Spn` of the stabilizer halves
    agree) -/
theorem grp_criterion_iff_spn_criterion (a b : Tab) (ra : a.StabReal) (rb : b.StabReal) :
    (∀ P, TabSpec.Grp a P ↔ TabSpec.Grp b P) ↔ (∀ p, (STab.ofTab a).Spn p ↔ (STab.ofTab b).Spn p) := by
  constructor
  · intro h p
    rw [← spn_of_grp a ra p, ← spn_of_grp b rb p]; exact h p
  · intro h P
    rw [spn_of_grp a ra P, spn_of_grp b rb P]; exact h P

/-- C05's form of "same state ⇔ same group", derived from C07's (`rho_eq_iff_grp_eq`, Pauli expectation values) for
    tableaux with real stabilizer rows — an independent second proof of `C05.same_density_matrix_iff_same_group` on that
    domain -/
theorem same_state_iff_same_span_of_expectations (a b : Tab) (hn : a.n = b.n) (va : a.Valid) (ra : a.StabReal)
    (vb : b.Valid) (rb : b.StabReal) :
    rho a.n (STab.ofTab a) = rho a.n (STab.ofTab b) ↔ ∀ p, (STab.ofTab a).Spn p ↔ (STab.ofTab b).Spn p :=
  (rho_eq_iff_grp_eq a.n a b rfl hn.symm va ra vb rb).trans (grp_criterion_iff_spn_criterion a b ra rb)

/-- the squared modulus of the inner product in the two notations: C05 / C17 write `z · conj z`, C07 writes `|z|²` -/
theorem normSq_forms (z : ℂ) : z * star z = ((Complex.normSq z : ℝ) : ℂ) := by
  rw [Complex.star_def, Complex.mul_conj]

/-- **the value `inner_product` reports is the spec-level overlap** — the two Hilbert-space theorems about `tr(ρ_a ρ_b)`
    (C05: it is the reported value `ipVal r`; C07: it is `0` on orthogonal pairs, `|A ∩ B| / 2ⁿ` by the brute-force count of
    `Model/OverlapSpec.lean`, `2^{-(n-d)}` for `d = dim(A ∩ B)`) combined: the algorithm's answer equals the executable
    specification the harness compares with graphiq's `fidelity` -/
theorem reported_value_is_spec_overlap (a b : Tab) (r : Option Nat) (hn : a.n = b.n) (va : a.Valid) (ra : a.StabReal)
    (vb : b.Valid) (rb : b.StabReal) (h : STab.innerProduct a b = .ok r) :
    (STab.Orth (STab.ofTab a) (STab.ofTab b) → ipVal r = 0) ∧
    (¬ STab.Orth (STab.ofTab a) (STab.ofTab b) →
      ipVal r = ((STab.ofTab a).commonCount (STab.ofTab b) : ℂ) / 2 ^ b.n) ∧
    (∀ d, ¬ STab.Orth (STab.ofTab a) (STab.ofTab b) → STab.OverlapDim (STab.ofTab a) (STab.ofTab b) d →
      ipVal r = (1 / 2 : ℂ) ^ (b.n - d)) := by
  have ht := innerProduct_trace a b r (ofTab_good a va) (ofTab_good b vb) h
  rw [hn] at ht
  obtain ⟨h1, h2⟩ := stabilizer_overlap a b hn va ra vb rb
  refine ⟨fun ho => by rw [← ht]; exact h1 ho, fun hno => by rw [← ht]; exact h2 hno, ?_⟩
  intro d hno hd
  rw [← ht]
  exact (stabilizer_overlap_dim a b hn va ra vb rb d hno hd).2

end Graphiq.Sweep
