/-
  Proofs/SolverSoundRefine.lean — the executable tableau semantics of circuits (`stepOp` / `stabRun` of `Model/Circuit.lean`,
  on the Clifford tableaux of `Model/Tableau.lean`) REFINES the group-level semantics of `Proofs/SolverSoundSem.lean`.

  * `gspan T`, the signed stabilizer group of a Clifford tableau `T` (span of its stabilizer half), is C07's `TabSpec.Grp T`
    (`gspan_iff`); what the tableau operations do to it is read from the verified stabilizer semantics of the compile loop
    (`Proofs/CommuteRefine`);
  * a unitary operation of the compiled run maps `gspan` to its image under the row map of the gate (`map_refines`);
  * `MeasurementCNOTandReset` with a random outcome `o` maps `gspan` to `mcrPost … o` (`mcr_refines`): the step refines the
    primitives "measure, X on the photon and on the emitter iff 1" (`Commute.cop_refines`), whose action on the group is the
    textbook post-measurement group (`runP_mcr`), which is the solver's generated one (`measPost_iff`);
  * `stepOp_refines`, `run_refines`: one step / a whole run of the compiled circuit refine `gstep` / `GGen`.
  All sizes, all scripts of drawn bits.
-/
import GraphiqModel.Proofs.SolverSoundSem
import GraphiqModel.Proofs.CommuteRefine
namespace Graphiq.Solver
open Graphiq Graphiq.Cliff PRow STab Tab TabSpec

/-- invariant of the forward run: valid tableau, real stabilizer rows, `n` qubits -/
structure TOk (n : Nat) (T : Tab) : Prop where
  valid : T.Valid
  real : T.StabReal
  n_eq : T.n = n

/-- the signed stabilizer group of a Clifford tableau -/
def gspan (T : Tab) : PSet := (STab.ofTab T).Spn

theorem TOk.tinv {n : Nat} {T : Tab} (h : TOk n T) : Commute.TInv n T := ⟨h.valid, h.real, h.n_eq⟩

theorem tok_of_tinv {n : Nat} {T : Tab} (h : Commute.TInv n T) : TOk n T := ⟨h.valid, h.real, h.n_eq⟩

namespace Refine

theorem gspan_iff (T : Tab) (hr : T.StabReal) (a : PRow) : gspan T a ↔ Grp T a := STab.ofTab_spn_iff T hr a

theorem gspan_eq (T : Tab) (hr : T.StabReal) : gspan T = Grp T := pset_ext (gspan_iff T hr)

theorem gspan_real (T : Tab) (hv : T.Valid) (hr : T.StabReal) (a : PRow) (ha : gspan T a) : a.ip = false :=
  (grp_isStabGrp T hv hr).real a ((gspan_iff T hr a).mp ha)

theorem img_eq_imageGrp (n : Nat) (f : PRow → PRow) (S : PSet) : img n f S = imageGrp n f S :=
  pset_ext fun _ => ⟨fun ⟨a, ha, e⟩ => ⟨a, ha, e.symm⟩, fun ⟨a, ha, e⟩ => ⟨a, ha, e.symm⟩⟩

theorem gen1_eq_map (t : Tab) (g : Gen) (q : Nat) : gen1 t g q = t.map (genRow g q) := by
  cases g <;> rfl

/-- the gate list of a wrapper, applied in reverse list order, is the row map `actW` -/
theorem foldl_gen1 (gs : List Gen) (q : Nat) (T : Tab) :
    gs.reverse.foldl (fun t g => gen1 t g q) T = T.map (actW q gs) := by
  induction gs with
  | nil => rfl
  | cons g rest ih =>
    rw [List.reverse_cons, List.foldl_append, ih]
    show gen1 (T.map (actW q rest)) g q = _
    rw [gen1_eq_map]
    rfl

/-- **unitary step**: mapping the rows by a Pauli-group automorphism (and tabulating) maps the stabilizer group to its image -/
theorem map_refines (n : Nat) (f : PRow → PRow) (hf : GMap n f) (T : Tab) (hok : TOk n T) :
    TOk n (T.map f).norm ∧ gspan (T.map f).norm = img n f (gspan T) := by
  obtain ⟨hv, hr, rfl⟩ := hok
  have ha : IsAut1 T.n f := ⟨hf.aut, hf.one, hf.ip⟩
  have h := (Commute.TInv.map ⟨hv, hr, rfl⟩ f ha).norm
  refine ⟨tok_of_tinv h, ?_⟩
  rw [gspan_eq _ h.real, gspan_eq T hr, img_eq_imageGrp]
  exact pset_ext fun P => (norm_grp _ P).trans (map_grp T f ha P)

theorem addIf_false (n : Nat) (g a : PRow) : addIf n false g a = a := rfl
theorem addIf_true (n : Nat) (g a : PRow) : addIf n true g a = PRow.mul n g a := rfl

/-! ### `MeasurementCNOTandReset` -/

/-- the solver's post-measurement group, generated by `(-1)^o Z_q` and the elements commuting with `Z_q`, is the textbook
    one `{a : a commutes with Z_q, a ∈ S or a·(-1)^o Z_q ∈ S}` -/
theorem measPost_iff (n q : Nat) (hq : q < n) (o : Bool) (S : PSet) (hS : IsStabGrp n S) (hrand : ∃ g, S g ∧ g.x q = true)
    (a : PRow) : measPost n q o S a ↔ Commute.measG n q o S a := by
  have hM := isStabGrp_meas n q hq o S hS hrand
  constructor
  · refine cl_le n _ _ ⟨hM.one, hM.mul, hM.eqv⟩ ?_ a
    rintro b (hb | ⟨hb, hx⟩)
    · exact hM.eqv _ _ ⟨by simp [Zq], Or.inr (hS.eqv _ _ hS.one (mul_self n (Zq q o) rfl).symm)⟩ hb
    · exact ⟨hx, Or.inl hb⟩
  · rintro ⟨hx, ha | ha⟩
    · exact Cl.base a (Or.inr ⟨ha, hx⟩)
    · have hx' : (PRow.mul n a (Zq q o)).x q = false := by simp [hx, Zq]
      exact Cl.eqv _ _ (Cl.mul _ _ (Cl.base _ (Or.inr ⟨ha, hx'⟩)) (Cl.base _ (Or.inl (EqOn.refl _ _))))
        (mul_mul_cancel n a (Zq q o) rfl)

/-- the primitives of `MeasurementCNOTandReset` on a stabilizer group: the post-measurement group, then `X_p X_E` iff the
    outcome is 1 -/
theorem runP_mcr {n E p : Nat} (hE : E < n) (hp : p < n) {g g' : GState} (hT : Commute.IsTab n g) (o : Bool)
    (h : Commute.runP n (.meas E o :: if o then [.x p, .x E] else []) (some g) = some g') :
    g'.G = corr n E p o (Commute.measG n E o g.G) := by
  rw [Commute.runP_cons, Commute.appP_meas n E o hE, Commute.measStep_some hT E o hE] at h
  by_cases hfe : g.G (Zq E (!o))
  · rw [if_pos hfe, Commute.runP_none] at h; cases h
  · rw [if_neg hfe] at h
    cases o
    · simp only [Bool.false_eq_true, if_false, Commute.runP_nil, Option.some.injEq] at h
      rw [← h]; rfl
    · have hx : ∀ q, q < n → ∀ s, Commute.appP n (.x q) s = Commute.gateStep (PRow.xg q) s := fun q hq s =>
        Commute.appP_gate_aux n (.x q) (PRow.xg q) (by simpa [Commute.primOk] using hq) (fun _ h => h) (fun _ => rfl) s
      simp only [if_true, Commute.runP_cons, Commute.runP_nil, hx p hp, hx E hE, Commute.gateStep, Option.map_some,
        Option.some.injEq] at h
      rw [← h]
      show imageGrp n (PRow.xg E) (imageGrp n (PRow.xg p) _) = _
      rw [← img_eq_imageGrp, ← img_eq_imageGrp, img_img n _ _ (gmap_xg n E hE).aut]
      rfl

/-- **`MeasurementCNOTandReset` as a step of the compiled run**: the measurement is random; the step records an outcome `o`
    and ends in a valid tableau that generates `mcrPost … o` of the initial stabilizer group -/
theorem mcr_refines (np ne e p : Nat) (he : e < ne) (hp : p < np) (rs : RunState) (hok : TOk (np + ne) rs.t)
    (hrand : ∃ a, gspan rs.t a ∧ a.x (np + e) = true) :
    ∃ rs' o, stepOp np (np + ne) .prob rs (.mcr ⟨.e, e⟩ ⟨.p, p⟩ 0) = some rs' ∧ TOk (np + ne) rs'.t ∧
      gspan rs'.t = mcrPost (np + ne) (np + e) p o (gspan rs.t) := by
  have hE : qIndex np ⟨.e, e⟩ = np + e := Nat.add_comm e np
  have hEn : np + e < np + ne := by omega
  have hpn : p < np + ne := by omega
  obtain ⟨rs', hs⟩ : ∃ rs', stepOp np (np + ne) .prob rs (.mcr ⟨.e, e⟩ ⟨.p, p⟩ 0) = some rs' :=
    ⟨_, if_pos ⟨hE ▸ hEn, hpn⟩⟩
  have hwf : Commute.cWF2 np (.mcr ⟨.e, e⟩ ⟨.p, p⟩ 0) := by
    show qIndex np ⟨.e, e⟩ ≠ qIndex np ⟨.p, p⟩
    rw [hE]; show np + e ≠ p; omega
  obtain ⟨ht', new, _, _, hrun⟩ := Commute.cop_refines np (np + ne) .prob rs rs' _ hwf hok.tinv hs
  refine ⟨rs', new.headD false, hs, tok_of_tinv ht', ?_⟩
  rw [gspan_eq _ hok.real] at hrand
  rw [gspan_eq _ ht'.real, gspan_eq _ hok.real, show Grp rs'.t = (gstate rs'.t).G from rfl,
    runP_mcr hEn hpn hok.tinv.isTab (new.headD false) (by rw [← hE]; exact hrun)]
  congr 1
  exact (pset_ext (measPost_iff _ _ hEn _ _ (hok.n_eq ▸ grp_isStabGrp rs.t hok.valid hok.real) hrand)).symm

theorem qIndex_regOf (np q : Nat) : qIndex np (regOf np q) = q := by
  unfold regOf
  split
  · rfl
  · show q - np + np = q; omega

end Refine

open Refine

theorem tok_ket0 (n : Nat) : TOk n (Tab.ket0 n) := tok_of_tinv (Commute.tinv_ket0 n)

theorem gspan_ket0 (n : Nat) : gspan (Tab.ket0 n) = (STab.zero n).Spn := by
  have e : STab.ofTab (Tab.ket0 n) = STab.zero n := by
    unfold STab.ofTab STab.zero Tab.ket0
    congr 1
    funext i
    have e : ¬ (i + n < n) := by omega
    simp [e, Zq]
  unfold gspan
  rw [e]

theorem cnot_refines (np ne : Nat) (rs : RunState) (hok : TOk (np + ne) rs.t) (qa qb : QReg) (a b : Nat)
    (ha : qIndex np qa = a) (hb : qIndex np qb = b) (han : a < np + ne) (hbn : b < np + ne) (hab : a ≠ b) :
    ∃ rs', stepOp np (np + ne) .prob rs (.cnot qa qb) = some rs' ∧ TOk (np + ne) rs'.t ∧
      gspan rs'.t = img (np + ne) (PRow.cnot a b) (gspan rs.t) := by
  subst ha hb
  obtain ⟨h1, h2⟩ := map_refines (np + ne) (PRow.cnot _ _) (gmap_cnot _ _ _ han hbn hab) rs.t hok
  exact ⟨_, if_pos ⟨han, hbn⟩, h1, h2⟩

theorem stepOp_refines (np ne : Nat) (op : SOp) (rs : RunState) (hok : TOk (np + ne) rs.t)
    (hpre : gpre np ne op (gspan rs.t)) :
    ∃ rs' o, stepOp np (np + ne) .prob rs (op.toCOp np) = some rs' ∧ TOk (np + ne) rs'.t ∧
      gspan rs'.t = gstep np ne op o (gspan rs.t) := by
  obtain ⟨hwf, hrand⟩ := hpre
  cases op with
  | wrap gs q =>
    have hq : q < np + ne := hwf
    obtain ⟨h1, h2⟩ := map_refines (np + ne) (actW q gs) (gmap_actW _ q hq gs) rs.t hok
    refine ⟨{ rs with t := (rs.t.map (actW q gs)).norm }, false, ?_, h1, h2⟩
    simp only [SOp.toCOp, stepOp, qIndex_regOf, if_pos hq, foldl_gen1]
  | emit e p =>
    obtain ⟨he, hp⟩ : e < ne ∧ p < np := hwf
    obtain ⟨rs', h⟩ := cnot_refines np ne rs hok ⟨.e, e⟩ ⟨.p, p⟩ (np + e) p (Nat.add_comm e np) rfl (by omega) (by omega) (by omega)
    exact ⟨rs', false, h⟩
  | cnotEE c t =>
    obtain ⟨hc, ht, hct⟩ : c < ne ∧ t < ne ∧ c ≠ t := hwf
    obtain ⟨rs', h⟩ := cnot_refines np ne rs hok ⟨.e, c⟩ ⟨.e, t⟩ (np + c) (np + t) (Nat.add_comm c np) (Nat.add_comm t np)
      (by omega) (by omega) (by omega)
    exact ⟨rs', false, h⟩
  | mcr e p => exact mcr_refines np ne e p hwf.1 hwf.2 rs hok hrand

/-- a whole run: if the group semantics guarantees the target (`GGen`), the tableau run succeeds and ends in the target group,
    for EVERY remaining outcome script `rs.script` -/
theorem run_refines (np ne : Nat) (T0 : PSet) (c : List SOp) (rs : RunState) (hok : TOk (np + ne) rs.t)
    (hg : GGen np ne T0 c (gspan rs.t)) :
    ∃ rs', (c.map (SOp.toCOp np)).foldlM (stepOp np (np + ne) .prob) rs = some rs' ∧ TOk (np + ne) rs'.t ∧
      gspan rs'.t = T0 := by
  induction c generalizing rs with
  | nil => exact ⟨rs, rfl, hok, hg⟩
  | cons op rest ih =>
    obtain ⟨hpre, hall⟩ := hg
    obtain ⟨rs1, o, h1, hok1, hsp⟩ := stepOp_refines np ne op rs hok hpre
    obtain ⟨rs', h2, hok2, hfin⟩ := ih rs1 hok1 (by rw [hsp]; exact hall o)
    refine ⟨rs', ?_, hok2, hfin⟩
    simp only [List.map_cons, List.foldlM, h1, Option.bind_eq_bind, Option.bind_some]
    exact h2

end Graphiq.Solver
