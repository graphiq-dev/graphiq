/-
  Proofs/SolverCompleteFlag.lean — the executable form of `hfinal`: a real commuting tableau that generates the signed group of |0…0⟩
  passes the test `sameGroup · (zero n)` the driver evaluates (flag `zero=1`).

  `sameGroup` compares canonical forms.  It is complete on valid tableaux — real, commuting, independent generators of the same signed
  group have equal canonical forms — because `canonical_form` is a normal form (C05 `canon_unique`) and returns on them (it is the first
  step of `inverse_circuit`); the flag is the instance where the second tableau is `zero n`.
-/
import GraphiqModel.Proofs.SolverCompleteMain
import GraphiqModel.Proofs.Check
import GraphiqModel.Proofs.CanonUnique
namespace Graphiq.Solver
open Graphiq PRow STab Tab

/-- the generators `Z_0, …, Z_{n-1}` of |0…0⟩ are independent: they are `n` emitters appended to the empty graph state -/
theorem zero_linIndep (n : Nat) : (STab.zero n).LinIndep := by
  have e : targetSTab 0 n (fun _ _ => false) = STab.zero n := by simp [targetSTab, STab.zero]
  rw [← e]
  exact indep_of_spanEq _ _ (withEmitters_graph 0 n _) (indep_withEmitters _ (graph_indep 0 _) n)

theorem isGood_of_good (t : STab) (hg : t.Good) : t.isGood = true := by
  unfold STab.isGood
  simp only [List.all_eq_true, List.mem_range, Bool.and_eq_true, Bool.not_eq_true']
  exact fun i hi => ⟨hg.real i hi, fun k hk => hg.comm i k hi hk⟩

theorem sameRows_of_rows (a b : STab) (hn : a.n = b.n) (h : ∀ i, i < a.n → EqOn a.n (a.row i) (b.row i)) : a.sameRows b = true := by
  unfold STab.sameRows
  simp only [Bool.and_eq_true, beq_iff_eq, List.all_eq_true, List.mem_range]
  exact ⟨hn, fun i hi => eqOn_beqOn a.n _ _ (h i hi)⟩

/-- **`sameGroup` is complete on valid stabilizer tableaux**: real, commuting, independent generators of the same signed group have
    equal canonical forms (C05 normal form), and `canonical_form` returns on them (first step of `inverse_circuit`, C11) -/
theorem sameGroup_of_spanEq (a b : STab) (ga : a.Good) (gb : b.Good) (ia : a.LinIndep) (ib : b.LinIndep)
    (h : SpanEq a b) : a.sameGroup b = true := by
  obtain ⟨ta, ca, ha, _⟩ := a.inverseCircuit_complete ga (linIndep_bits a ia)
  obtain ⟨tb, cb, hb, _⟩ := b.inverseCircuit_complete gb (linIndep_bits b ib)
  obtain ⟨a0, _, hca, _⟩ := inverseCircuit_eq a ta ca ha
  obtain ⟨b0, _, hcb, _⟩ := inverseCircuit_eq b tb cb hb
  obtain ⟨sa, ga0⟩ := canonicalForm_spanEq a a0 ga hca
  obtain ⟨sb, gb0⟩ := canonicalForm_spanEq b b0 gb hcb
  have hs : SpanEq a0 b0 := (sa.symm.trans h).trans sb
  have hrows := canon_unique a0 b0 (canonicalForm_canon a a0 hca) (canonicalForm_canon b b0 hcb) ga0 gb0 hs
  unfold STab.sameGroup
  rw [isGood_of_good a ga, isGood_of_good b gb, hca, hcb]
  simp only [Bool.and_self, Bool.true_and]
  exact sameRows_of_rows a0 b0 hs.n_eq hrows

/-- **the executable test of `hfinal`**: a real commuting tableau with the signed group of |0…0⟩ passes `sameGroup · (zero n)` (converse of
    `sameGroup_sound` on this group) -/
theorem sameGroup_zero (n : Nat) (t : STab) (hg : t.Good) (hse : SpanEq t (STab.zero n)) :
    t.sameGroup (STab.zero n) = true :=
  sameGroup_of_spanEq t _ hg (zero_good n) (indep_of_spanEq _ _ hse.symm (zero_linIndep n)) (zero_linIndep n) hse

/-- completeness with the executable flag: `solve` returns and the driver's test `zero=1` succeeds -/
theorem solve_complete_graph_flag (hinv : InvComplete) (np : Nat) (adj : Nat → Nat → Bool) (hnp : 0 < np)
    (hsym : ∀ i j, adj i j = adj j i) (hirr : ∀ i, adj i i = false) (hiso : ∀ i, i < np → ∃ j, j < np ∧ adj i j = true) :
    ∃ s, solve (graphSTab np adj) = .ok s ∧ s.t.sameGroup (STab.zero (np + s.ne)) = true := by
  obtain ⟨s, hs, hse⟩ := solve_complete_graph np adj hnp hsym hirr hiso
  have inv := solve_inv (graphSTab np adj) (graphSTab_good np adj hsym) s hs
  exact ⟨s, hs, sameGroup_zero _ s.t inv.good hse⟩

end Graphiq.Solver
