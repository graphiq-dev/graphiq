/-
  Proofs/CompareRepairComplete.lean — the converse of `iso2_wires`: a node map that carries the register paths of one
  labelled circuit DAG onto the register paths of another (matching operations and roles) passes the repaired check
  (`iso2_of_paths`); a renamed operation matches the operation, and the renamed registers play the same roles at it;
  the node map of a renaming of the registers and a relabelling of the operation nodes (`nodeMap`).
-/
import GraphiqModel.Proofs.CompareRepairSound
namespace Graphiq.Compare
open Graphiq Graphiq.Export

/-! ## adjacency under an injective node map -/

theorem adj_map {l : List Nd} {u v : Nd} (φ : Nd → Nd) (h : Adj l u v) : Adj (l.map φ) (φ u) (φ v) := by
  obtain ⟨m1, m2, rfl⟩ := h
  exact ⟨m1.map φ, m2.map φ, by simp⟩

theorem adj_of_map {l : List Nd} {u v : Nd} (φ : Nd → Nd) (S : Nd → Prop) (hl : ∀ n ∈ l, S n) (hu : S u) (hv : S v)
    (hinj : ∀ a b, S a → S b → φ a = φ b → a = b) (h : Adj (l.map φ) (φ u) (φ v)) : Adj l u v := by
  obtain ⟨m1, m2, hm⟩ := h
  obtain ⟨a, rest, rfl, ha, hrest⟩ := List.map_eq_append_iff.1 hm
  obtain ⟨x, rest', rfl, hx, hrest'⟩ := List.map_eq_cons_iff.1 hrest
  obtain ⟨y, b, rfl, hy, _⟩ := List.map_eq_cons_iff.1 hrest'
  have ex : x = u := hinj x u (hl x (by simp)) hu hx
  have ey : y = v := hinj y v (hl y (by simp)) hv hy
  subst ex ey
  exact ⟨a, b, rfl⟩

/-! ## the edges between two nodes -/

/-- the registers whose path goes from `u` directly to `v` -/
theorem keys_between {g : MG} {W : List Wire} {body : Wire → List Nd} (r : Rep0 g W body) (u v : Nd) (k : Wire) :
    k ∈ (g.edgesBetween u v).map (·.key) ↔ k ∈ W ∧ Adj (pathOf body k) u v := by
  simp only [List.mem_map]
  constructor
  · rintro ⟨e, he, rfl⟩
    obtain ⟨hem, hs, hd⟩ := (mem_edgesBetween g u v e).1 he
    obtain ⟨a, b⟩ := r.edge_sound0 e hem
    rw [hs, hd] at b
    exact ⟨a, b⟩
  · rintro ⟨hk, hadj⟩
    obtain ⟨e, he, h1, h2, h3⟩ := r.edge_complete k hk u v hadj
    exact ⟨e, (mem_edgesBetween g u v e).2 ⟨he, h1, h2⟩, h3⟩

theorem keys_between_nodup {g : MG} (t : TripNodup g) (u v : Nd) : ((g.edgesBetween u v).map (·.key)).Nodup := by
  unfold TripNodup at t
  unfold MG.edgesBetween
  have h1 : ((g.edges.filter (fun e => e.src == u && e.dst == v)).map trip).Nodup :=
    t.sublist (List.Sublist.map _ List.filter_sublist)
  have h2 : (g.edges.filter (fun e => e.src == u && e.dst == v)).map trip
      = ((g.edges.filter (fun e => e.src == u && e.dst == v)).map (·.key)).map (fun k => (u, v, k)) := by
    rw [List.map_map]
    apply List.map_congr_left
    intro e he
    have := (List.mem_filter.1 he).2
    simp only [Bool.and_eq_true, beq_iff_eq] at this
    simp [trip, this.1, this.2]
  rw [h2] at h1
  exact List.Nodup.of_map _ h1

/-- on a labelled circuit DAG the attributes of the parallel edges from `u` to `v` are functions of their keys -/
theorem Rep.ct2_between {g : MG} {W : List Wire} {body : Wire → List Nd} (r : Rep g W body) (u v : Nd) :
    (g.edgesBetween u v).map (·.ct2)
      = ((g.edgesBetween u v).map (·.key)).map (fun k => (role (g.opOf u) k, role (g.opOf v) k)) := by
  rw [List.map_map]
  apply List.map_congr_left
  intro e he
  obtain ⟨hem, hs, hd⟩ := (mem_edgesBetween g u v e).1 he
  simp only [Function.comp, r.lab e hem, hs, hd]

/-- **a node map that carries register paths onto register paths, matching operations and roles, passes the repaired
    check** -/
theorem iso2_of_paths (g1 g2 : MG) (W1 W2 : List Wire) (B1 B2 : Wire → List Nd) (r1 : Rep g1 W1 B1) (r2 : Rep g2 W2 B2)
    (t1 : TripNodup g1) (t2 : TripNodup g2) (φ : Nd → Nd) (π : Wire → Wire)
    (hπ : ∀ w ∈ W1, π w ∈ W2) (hπs : ∀ w2 ∈ W2, ∃ w ∈ W1, π w = w2) (hπi : ∀ w ∈ W1, ∀ w' ∈ W1, π w = π w' → w = w')
    (hlen : (g1.nodes.map (·.1)).length = (g2.nodes.map (·.1)).length)
    (hinj : ∀ a ∈ g1.nodes.map (·.1), ∀ b ∈ g1.nodes.map (·.1), φ a = φ b → a = b)
    (hnd1 : (g1.nodes.map (·.1)).Nodup)
    (hinto : ∀ n ∈ g1.nodes.map (·.1), φ n ∈ g2.nodes.map (·.1))
    (hnm : ∀ n ∈ g1.nodes.map (·.1), ∃ a b, g1.opOf n = some a ∧ g2.opOf (φ n) = some b ∧ nodeMatch a b = true)
    (hpath : ∀ w ∈ W1, pathOf B2 (π w) = (pathOf B1 w).map φ)
    (hrole : ∀ w ∈ W1, ∀ n ∈ pathOf B1 w, role (g2.opOf (φ n)) (π w) = role (g1.opOf n) w) :
    IsoFacts2 g1 g2 φ := by
  refine ⟨hlen, (List.nodup_map_iff_inj_on hnd1).2 hinj, hinto, hnm, ?_⟩
  intro u hu v hv
  -- the keys of the two bundles of parallel edges correspond under `π`
  have hK1 := keys_between_nodup t1 u v
  have hK2 := keys_between_nodup t2 (φ u) (φ v)
  have hperm : ((g2.edgesBetween (φ u) (φ v)).map (·.key)).Perm (((g1.edgesBetween u v).map (·.key)).map π) := by
    have hmapnd : (((g1.edgesBetween u v).map (·.key)).map π).Nodup := by
      apply List.Nodup.map_on _ hK1
      intro a ha b hb hab
      exact hπi a ((keys_between r1.toRep0 u v a).1 ha).1 b ((keys_between r1.toRep0 u v b).1 hb).1 hab
    apply (List.perm_ext_iff_of_nodup hK2 hmapnd).2
    intro k2
    rw [keys_between r2.toRep0, List.mem_map]
    constructor
    · rintro ⟨hk2, hadj⟩
      obtain ⟨w, hw, rfl⟩ := hπs k2 hk2
      refine ⟨w, (keys_between r1.toRep0 u v w).2 ⟨hw, ?_⟩, rfl⟩
      rw [hpath w hw] at hadj
      exact adj_of_map φ (fun n => n ∈ g1.nodes.map (·.1)) (fun n hn => r1.toRep0.path_mem_nodes w hw n hn) hu hv
        (fun a b ha hb => hinj a ha b hb) hadj
    · rintro ⟨w, hw, rfl⟩
      obtain ⟨hwW, hadj⟩ := (keys_between r1.toRep0 u v w).1 hw
      exact ⟨hπ w hwW, by rw [hpath w hwW]; exact adj_map φ hadj⟩
  have hlab : ((g2.edgesBetween (φ u) (φ v)).map (·.ct2)).Perm ((g1.edgesBetween u v).map (·.ct2)) := by
    rw [r1.ct2_between u v, r2.ct2_between (φ u) (φ v)]
    refine (hperm.map _).trans ?_
    rw [List.map_map]
    apply List.Perm.of_eq
    apply List.map_congr_left
    intro k hk
    obtain ⟨hkW, hadj⟩ := (keys_between r1.toRep0 u v k).1 hk
    simp only [Function.comp]
    rw [hrole k hkW u (adj_mem_left hadj), hrole k hkW v (adj_mem_right hadj)]
  constructor
  · have := hlab.length_eq
    simpa using this.symm
  · unfold edgeMatch2
    simp only [List.all_eq_true, beq_iff_eq]
    intro x _
    exact (hlab.count_eq x).symm

/-! ## renaming an operation: node match and roles -/

theorem nodeMatch_io_of_type (w w2 : Wire) (h : w2.t = w.t) :
    nodeMatch (.input w) (.input w2) = true ∧ nodeMatch (.output w) (.output w2) = true := by
  cases w with | mk t k => cases w2 with | mk t' k' =>
  simp only at h
  subst h
  cases t' <;> simp [nodeMatch]

theorem nodeMatch_renOp (π : Wire → Wire) (o : Op) : nodeMatch (.gate o) (.gate (renOp π o)) = true := by
  cases o <;> simp [nodeMatch, renOp, Op.cls, Op.qRegs, renQ]

theorem slotRoles_renOp (π : Wire → Wire) (o : Op) : slotRoles (renOp π o) = slotRoles o := by cases o <;> rfl

theorem role_renOp (W : List Wire) (π : Wire → Wire) (hπ : IsRenaming W π) (o : Op) (ho : ∀ w ∈ opWires o, w ∈ W)
    (w : Wire) (hw : w ∈ W) : role (some (.gate (renOp π o))) (π w) = role (some (.gate o)) w := by
  rw [role_eq_slotRole, role_eq_slotRole, opWires_renOp W π hπ o ho, slotRoles_renOp]
  exact slotRole_map π w _ _ fun k hk e => hπ.inj k (ho k hk) w hw e

/-! ## node maps as lists of pairs -/

def nodeMap (π : Wire → Wire) (f : Nat → Nat) : Nd → Nd
  | .inp w => .inp (π w)
  | .out w => .out (π w)
  | .op k => .op (f k)

theorem tripNodup_labelled (g : MG) (h : TripNodup g) : TripNodup g.labelled := by
  unfold TripNodup MG.labelled at *
  rw [edges_withEdges, List.map_map]
  exact h

end Graphiq.Compare
