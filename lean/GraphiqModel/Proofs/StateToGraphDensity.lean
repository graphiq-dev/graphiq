/-
  Proofs/StateToGraphDensity.lean — what is exact about `density_to_graph` (`_density_to_graph_pure`), at the level of stabilizer groups.

  For every pair `i < j` the code projects every other qubit onto `|0⟩` (`project_and_remove`: `P₀ ρ P₀ / tr`, then partial trace) and
  declares an edge iff the negativity of the resulting two-qubit state exceeds 0.1.
  For a stabilizer state `ρ = 2⁻ⁿ Σ_{g ∈ S} g` the compression `⟨0_M| ρ |0_M⟩` (M = the other qubits) is `2⁻ⁿ Σ g|_{i,j}` over the elements
  `g ∈ S` that carry no X or Y on M (`⟨0|X|0⟩ = ⟨0|Y|0⟩ = 0`, `⟨0|Z|0⟩ = ⟨0|I|0⟩ = 1`) — textbook for a general stabilizer state and not
  proved here in that generality; for graph states, the case `density_to_graph` is used on, the Hilbert-space identity is
  `compress_rho_graph` / `projectAndRemove_graph` of Proofs/StateToGraphCompress.lean.  `PairGroup` is that set of restrictions (signs kept).
  Proved here, for every n and every simple graph: restriction is a group homomorphism on those elements (`pair_mul`), and for the graph
  state of `A` the pair group at `(i, j)` is exactly the signed group of the two-vertex graph state with an edge iff `A i j`
  (`pairGroup_graph`).  The two possible two-qubit states have negativity 0 and 1/2 (Proofs/StateToGraphNegativity.lean, exact 4×4
  rational matrices), on either side of the threshold 0.1.
-/
import GraphiqModel.Proofs.StateToGraph
import GraphiqModel.Proofs.GraphStateGroup
namespace Graphiq
open PRow Tab STab S2G

/-- restriction of a Pauli row to the sites `i, j` (site 0 := `i`, site 1 := `j`), sign and phase kept -/
def PRow.pair (i j : Nat) (g : PRow) : PRow :=
  ⟨fun s => if s = 0 then g.x i else g.x j, fun s => if s = 0 then g.z i else g.z j, g.r, g.ip⟩

/-- no X or Y outside the sites `i, j` -/
def XFreeOff (n i j : Nat) (g : PRow) : Prop := ∀ k, k < n → k ≠ i → k ≠ j → g.x k = false

/-- the signed group of `⟨0_M| ρ_S |0_M⟩`, M = all sites but `i, j`: the restrictions of the elements of `S` without X or Y on M -/
def PairGroup (t : STab) (i j : Nat) (P : PRow) : Prop :=
  ∃ g, t.Spn g ∧ XFreeOff t.n i j g ∧ EqOn 2 (PRow.pair i j g) P

/-- the two-vertex graph: an edge iff `a` -/
def pairAdj (a : Bool) : Adj := fun u v => a && ((u == 0 && v == 1) || (u == 1 && v == 0))

theorem pair_eqOn (n i j : Nat) (hi : i < n) (hj : j < n) (a b : PRow) (h : EqOn n a b) :
    EqOn 2 (PRow.pair i j a) (PRow.pair i j b) := by
  refine ⟨fun s _ => ?_, h.2.1, h.2.2⟩
  simp only [PRow.pair]
  split
  · exact h.1 i hi
  · exact h.1 j hj

theorem pair_mul (n i j : Nat) (hi : i < n) (hj : j < n) (hij : i ≠ j) (a b : PRow)
    (ha : XFreeOff n i j a) (hb : XFreeOff n i j b) :
    EqOn 2 (PRow.pair i j (PRow.mul n a b)) (PRow.mul 2 (PRow.pair i j a) (PRow.pair i j b)) := by
  apply eqOn_of
  · intro s _
    simp only [PRow.pair, mul_x, mul_z]
    split <;> exact ⟨rfl, rfl⟩
  · have e1 : (PRow.pair i j (PRow.mul n a b)).ph = (PRow.mul n a b).ph := rfl
    rw [e1, mul_ph, mul_ph]
    have e2 : (PRow.pair i j a).ph = a.ph := rfl
    have e3 : (PRow.pair i j b).ph = b.ph := rfl
    rw [e2, e3]
    have hs : gSum n a b = gFun (a.x i) (a.z i) (b.x i) (b.z i) + gFun (a.x j) (a.z j) (b.x j) (b.z j) := by
      have := sumTo_diff_two n i j (fun k => gFun (a.x k) (a.z k) (b.x k) (b.z k)) (fun _ => 0) hi hj hij
        (fun k hk h1 h2 => by rw [ha k hk h1 h2, hb k hk h1 h2]; exact gFun_xfree _ _)
      rw [sumTo_zero] at this
      show sumTo n (fun k => gFun (a.x k) (a.z k) (b.x k) (b.z k)) = _
      omega
    have hs2 : gSum 2 (PRow.pair i j a) (PRow.pair i j b) =
        gFun (a.x i) (a.z i) (b.x i) (b.z i) + gFun (a.x j) (a.z j) (b.x j) (b.z j) := by
      simp [gSum, sumTo, PRow.pair]
    rw [hs, hs2]

theorem xFreeOff_mul (n i j : Nat) (a b : PRow) (ha : XFreeOff n i j a) (hb : XFreeOff n i j b) :
    XFreeOff n i j (PRow.mul n a b) := by
  intro k hk h1 h2
  rw [mul_x, ha k hk h1 h2, hb k hk h1 h2]; rfl

theorem xFreeOff_eqOn (n i j : Nat) (a b : PRow) (h : EqOn n a b) (ha : XFreeOff n i j a) : XFreeOff n i j b :=
  fun k hk h1 h2 => by rw [← (h.1 k hk).1]; exact ha k hk h1 h2

theorem graphRow_xFreeOff (n : Nat) (A : Adj) (i j v : Nat) (hv : v = i ∨ v = j) : XFreeOff n i j ((graphSTab n A).row v) := by
  intro k _ h1 h2
  show decide (k = v) = false
  rcases hv with rfl | rfl <;> simp [h1, h2]

/-- the generators at `i` and `j` restrict to the generators of the two-vertex graph state -/
theorem pair_graphRow (n : Nat) (A : Adj) (hsym : ∀ i j, i < n → j < n → A i j = A j i) (hirr : ∀ i, i < n → A i i = false)
    (i j : Nat) (hi : i < n) (hj : j < n) (hij : i ≠ j) :
    EqOn 2 (PRow.pair i j ((graphSTab n A).row i)) ((graphSTab 2 (pairAdj (A i j))).row 0) ∧
    EqOn 2 (PRow.pair i j ((graphSTab n A).row j)) ((graphSTab 2 (pairAdj (A i j))).row 1) := by
  have hji : ¬ (j = i) := fun e => hij e.symm
  constructor
  · refine ⟨fun s hs => ?_, rfl, rfl⟩
    have : s = 0 ∨ s = 1 := by omega
    rcases this with rfl | rfl
    · refine ⟨?_, ?_⟩
      · show (if (0 : Nat) = 0 then decide (i = i) else decide (j = i)) = decide ((0 : Nat) = 0)
        simp
      · show (if (0 : Nat) = 0 then (decide (i < n) && A i i) else (decide (j < n) && A i j)) =
          (decide ((0 : Nat) < 2) && pairAdj (A i j) 0 0)
        simp [hirr i hi, pairAdj]
    · refine ⟨?_, ?_⟩
      · show (if (1 : Nat) = 0 then decide (i = i) else decide (j = i)) = decide ((1 : Nat) = 0)
        simp [hji]
      · show (if (1 : Nat) = 0 then (decide (i < n) && A i i) else (decide (j < n) && A i j)) =
          (decide ((1 : Nat) < 2) && pairAdj (A i j) 0 1)
        simp [hj, pairAdj]
  · refine ⟨fun s hs => ?_, rfl, rfl⟩
    have : s = 0 ∨ s = 1 := by omega
    rcases this with rfl | rfl
    · refine ⟨?_, ?_⟩
      · show (if (0 : Nat) = 0 then decide (i = j) else decide (j = j)) = decide ((0 : Nat) = 1)
        simp [hij]
      · show (if (0 : Nat) = 0 then (decide (i < n) && A j i) else (decide (j < n) && A j j)) =
          (decide ((0 : Nat) < 2) && pairAdj (A i j) 1 0)
        simp [hi, pairAdj, hsym j i hj hi]
    · refine ⟨?_, ?_⟩
      · show (if (1 : Nat) = 0 then decide (i = j) else decide (j = j)) = decide ((1 : Nat) = 1)
        simp
      · show (if (1 : Nat) = 0 then (decide (i < n) && A j i) else (decide (j < n) && A j j)) =
          (decide ((1 : Nat) < 2) && pairAdj (A i j) 1 1)
        simp [hirr j hj, pairAdj]

theorem pair_one (i j : Nat) : EqOn 2 (PRow.pair i j PRow.one) PRow.one :=
  ⟨fun s _ => by simp only [PRow.pair, PRow.one]; split <;> exact ⟨rfl, rfl⟩, rfl, rfl⟩

/-- the pair group of a graph state is the two-vertex graph state on the induced pair: projecting all other qubits of `|G⟩` onto
    `|0⟩` leaves, on the qubits `i, j`, the graph state of the single edge `i – j` if `A i j`, and `|+⟩|+⟩` otherwise -/
theorem pairGroup_graph (n : Nat) (A : Adj) (hsym : ∀ i j, i < n → j < n → A i j = A j i) (hirr : ∀ i, i < n → A i i = false)
    (i j : Nat) (hi : i < n) (hj : j < n) (hij : i ≠ j) (P : PRow) :
    PairGroup (graphSTab n A) i j P ↔ (graphSTab 2 (pairAdj (A i j))).Spn P := by
  have hG := graphSTab_good n A hsym
  obtain ⟨ri, rj⟩ := pair_graphRow n A hsym hirr i j hi hj hij
  have gi : (graphSTab 2 (pairAdj (A i j))).Spn (PRow.pair i j ((graphSTab n A).row i)) :=
    InSpan.eqv _ _ (spn_gen (graphSTab 2 (pairAdj (A i j))) 0 (show 0 < 2 by decide)) ri.symm
  have gj : (graphSTab 2 (pairAdj (A i j))).Spn (PRow.pair i j ((graphSTab n A).row j)) :=
    InSpan.eqv _ _ (spn_gen (graphSTab 2 (pairAdj (A i j))) 1 (show 1 < 2 by decide)) rj.symm
  have g1 : (graphSTab 2 (pairAdj (A i j))).Spn (PRow.pair i j PRow.one) := InSpan.eqv _ _ InSpan.one (pair_one i j).symm
  constructor
  · rintro ⟨g, hg, hx, e⟩
    refine InSpan.eqv _ _ ?_ e
    -- `g` is the product of the generators `i`, `j` selected by its X bits
    obtain ⟨c, ec⟩ := spn_normal_form (graphSTab n A) hG g hg
    have ec' : EqOn n g (prodTo (graphSTab n A) c n) := ec
    have hc : ∀ k, k < n → k ≠ i → k ≠ j → c k = false := by
      intro k hk h1 h2
      have := hx k hk h1 h2
      rw [(ec'.1 k hk).1, graph_prodTo_x] at this
      simpa [hk] using this
    let ci : Nat → Bool := fun m => c i && decide (m = i)
    let cj : Nat → Bool := fun m => c j && decide (m = j)
    have hsplit : prodTo (graphSTab n A) c n = prodTo (graphSTab n A) (fun m => xor (ci m) (cj m)) n := by
      apply prodTo_congr
      intro k hk
      simp only [ci, cj]
      by_cases h1 : k = i
      · subst h1
        have : ¬ (k = j) := hij
        simp [this]
      · by_cases h2 : k = j
        · subst h2; simp [h1]
        · simp [h1, h2, hc k hk h1 h2]
    have hmul := prodTo_mul (graphSTab n A) hG ci cj n (Nat.le_refl _)
    have hn' : (graphSTab n A).n = n := rfl
    rw [hn'] at hmul
    -- each factor is a generator or the identity
    have fac : ∀ (v : Nat), v < n → (v = i ∨ v = j) → ∃ R, EqOn n (prodTo (graphSTab n A) (fun m => c v && decide (m = v)) n) R ∧
        XFreeOff n i j R ∧ (graphSTab 2 (pairAdj (A i j))).Spn (PRow.pair i j R) := by
      intro v hv hvij
      cases hcv : c v
      · refine ⟨PRow.one, ?_, fun _ _ _ _ => rfl, g1⟩
        rw [prodTo_congr (graphSTab n A) _ (fun _ => false) n (fun m _ => by simp)]
        rw [prodTo_false]; exact EqOn.refl _ _
      · refine ⟨(graphSTab n A).row v, ?_, graphRow_xFreeOff n A i j v hvij, ?_⟩
        · rw [prodTo_congr (graphSTab n A) _ (fun m => decide (m = v)) n (fun m _ => by simp)]
          have := prodTo_single (graphSTab n A) v n
          rw [hn', if_pos hv] at this
          exact this
        · rcases hvij with rfl | rfl
          · exact gi
          · exact gj
    obtain ⟨Ri, eRi, xRi, sRi⟩ := fac i hi (Or.inl rfl)
    obtain ⟨Rj, eRj, xRj, sRj⟩ := fac j hj (Or.inr rfl)
    have eg : EqOn n g (PRow.mul n Ri Rj) := by
      rw [hsplit] at ec'
      exact ec'.trans (hmul.symm.trans (mul_congr n _ _ _ _ eRi eRj))
    have := (pair_eqOn n i j hi hj _ _ eg).trans (pair_mul n i j hi hj hij Ri Rj xRi xRj)
    exact InSpan.eqv _ _ (InSpan.mul _ _ sRi sRj) this.symm
  · intro hP
    unfold Spn at hP
    induction hP with
    | one => exact ⟨PRow.one, InSpan.one, fun _ _ _ _ => rfl, pair_one i j⟩
    | gen v hv =>
      have hv2 : v < 2 := hv
      have : v = 0 ∨ v = 1 := by omega
      rcases this with rfl | rfl
      · exact ⟨(graphSTab n A).row i, spn_gen _ i hi, graphRow_xFreeOff n A i j i (Or.inl rfl), ri⟩
      · exact ⟨(graphSTab n A).row j, spn_gen _ j hj, graphRow_xFreeOff n A i j j (Or.inr rfl), rj⟩
    | mul a b _ _ iha ihb =>
      obtain ⟨ga, sa, xa, ea⟩ := iha
      obtain ⟨gb, sb, xb, eb⟩ := ihb
      exact ⟨PRow.mul n ga gb, InSpan.mul _ _ sa sb, xFreeOff_mul n i j ga gb xa xb,
        (pair_mul n i j hi hj hij ga gb xa xb).trans (mul_congr 2 _ _ _ _ ea eb)⟩
    | eqv a b _ hab iha =>
      obtain ⟨ga, sa, xa, ea⟩ := iha
      exact ⟨ga, sa, xa, ea.trans hab⟩

end Graphiq
