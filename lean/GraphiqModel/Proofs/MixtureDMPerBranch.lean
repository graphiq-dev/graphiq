/-
  Proofs/MixtureDMPerBranch.lean — HISTORICAL (`Mix.measureOld`): what `MixedStabilizer.apply_measurement` of graphiq *before
  the repair of finding F2* (every branch measured on its own) did to the state `R = Σ_k w_k ρ(T_k)`, for every mixture and every number of qubits.  Split the mixture into the branches
  whose outcome is random (`R_rand`) and those whose outcome is deterministic (`R_det`).  Then

      Σ (measure q o m) = 2 · Π_o R_rand Π_o + R_det :

  the random branches are post-selected on the forced outcome `o` (and renormalised), the deterministic branches are left as they
  are *whatever their outcome* — i.e. measured non-selectively.  The density-matrix backend post-selects all of `R` on one
  outcome.  The two agree when the branches agree (Proofs/MixtureDMMeasure); this is the exact shape of finding F2 (repaired by the joint
  measurement `Mix.measure`, Proofs/MixtureDMJoint*.lean).
-/
import GraphiqModel.Proofs.MixtureDMMeasure
namespace Graphiq
namespace MixDM
open Matrix Hilbert Noise DM PRow

/-- the branches whose Z measurement of `q` is random / deterministic -/
def randomPart (q : Nat) (m : Mixture) : Mixture := m.filter fun x => (x.2.pivot q).isSome
def detPart (q : Nat) (m : Mixture) : Mixture := m.filter fun x => !(x.2.pivot q).isSome

theorem per_branch_measure_spec (n q : Nat) (hq : q < n) (o : Bool) : ∀ (m : Mixture), MixGood n m →
    mixRho n (Mix.measureOld q o m).1
      = (2 : ℂ) • (projZ n q o * mixRho n (randomPart q m) * projZ n q o) + mixRho n (detPart q m)
  | [], _ => by simp [Mix.measureOld, randomPart, detPart, mixRho_nil]
  | (w, t) :: rest, hg => by
    obtain ⟨hn, hv, hr⟩ := hg.head
    have ih := per_branch_measure_spec n q hq o rest hg.tail
    obtain ⟨c1, _⟩ := measure_cons q o w t rest
    rw [c1, mixRho_cons, ih]
    cases hp : t.pivot q with
    | some p =>
      obtain ⟨b1, _, _⟩ := branch_random n t hn hv hr q hq o p hp
      have e1 : randomPart q ((w, t) :: rest) = (w, t) :: randomPart q rest := by simp [randomPart, hp]
      have e2 : detPart q ((w, t) :: rest) = detPart q rest := by simp [detPart, hp]
      rw [e1, e2, mixRho_cons, b1, Matrix.mul_add, Matrix.add_mul, Matrix.mul_smul, Matrix.smul_mul, smul_add, smul_comm]
      abel
    | none =>
      obtain ⟨b1, _, _, _⟩ := branch_det n t hn hv hr q hq o hp
      have e1 : randomPart q ((w, t) :: rest) = randomPart q rest := by simp [randomPart, hp]
      have e2 : detPart q ((w, t) :: rest) = (w, t) :: detPart q rest := by simp [detPart, hp]
      rw [e1, e2, mixRho_cons, b1]
      abel

/-- when no branch is random the code leaves the state untouched — also when the branches *disagree* on the
    outcome (then the density-matrix backend, which post-selects, ends somewhere else: finding F2) -/
theorem per_branch_measure_all_det (n q : Nat) (hq : q < n) (o : Bool) (m : Mixture) (hg : MixGood n m)
    (hd : ∀ x ∈ m, x.2.pivot q = none) : mixRho n (Mix.measureOld q o m).1 = mixRho n m := by
  rw [per_branch_measure_spec n q hq o m hg]
  have e1 : randomPart q m = [] := by
    unfold randomPart
    rw [List.filter_eq_nil_iff]
    intro x hx; rw [hd x hx]; simp
  have e2 : detPart q m = m := by
    unfold detPart
    rw [List.filter_eq_self]
    intro x hx; rw [hd x hx]; simp
  rw [e1, e2, mixRho_nil]; simp

end MixDM
end Graphiq
