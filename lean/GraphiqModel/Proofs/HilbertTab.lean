/-
  Proofs/HilbertTab.lean — the unitary operations of the Clifford-tableau API (`Tab`) as Hilbert-space evolutions of
  the state `ρ(STab.ofTab t)` of the stabilizer half: every gate of `Gate` (`t.map g.act` = `hGate`, `sGate`, …,
  `cnotGate`, `czGate`) and the qubit swap (`swapGate`, with the permutation matrix that exchanges two bits); the state depends
  on the stabilizer rows only (`rho_ofTab_congr`), in particular not on tabulation.
  Trap: `STab.ofTab` (Model/StabTableau.lean) clears the i-phase bit of every row, so facts about `ρ(STab.ofTab t)` alone need only
  `Valid`, while every link to the rows or the group of `t` needs `StabReal` (`STab.ofTab_row`).
-/
import GraphiqModel.Proofs.HilbertMeasure
namespace Graphiq
namespace Hilbert
open Matrix PRow

/-- **Tableau gates are unitary evolution.**  `U_g ρ(t) U_g† = ρ(t.map g.act)` for the state of the stabilizer half
    of a Clifford tableau; `t.map (Gate.H q).act = t.hGate q`, …, `t.map (Gate.CZ c t).act = t.czGate c t` by
    definition. -/
theorem rho_tab_gate (t : Tab) (g : Gate) (hg : g.WF t.n) :
    gateMat t.n g * rho t.n (STab.ofTab t) * (gateMat t.n g)ᴴ = rho t.n (STab.ofTab (t.map g.act)) := by
  have h := rho_applyGate (STab.ofTab t) g hg
  have hn : (STab.ofTab t).n = t.n := rfl
  rw [hn] at h
  rw [h]
  apply rhoTo_congr
  intro i _
  show EqOn t.n (g.act { (t.row (i + t.n)) with ip := false }) { (g.act (t.row (i + t.n))) with ip := false }
  rw [Gate.act_with_ip]
  exact EqOn.refl _ _

theorem rho_ofTab_congr (t t' : Tab) (hn : t'.n = t.n)
    (h : ∀ i, t.n ≤ i → i < 2 * t.n → EqOn t.n (t.row i) (t'.row i)) :
    rho t.n (STab.ofTab t) = rho t.n (STab.ofTab t') := by
  show rhoTo t.n (STab.ofTab t).row t.n = rhoTo t.n (STab.ofTab t').row t'.n
  rw [hn]
  refine rhoTo_congr t.n _ _ t.n fun i hi => ?_
  show EqOn t.n { (t.row (i + t.n)) with ip := false } { (t'.row (i + t'.n)) with ip := false }
  rw [hn]
  have := h (i + t.n) (by omega) (by omega)
  exact ⟨this.1, this.2.1, rfl⟩

theorem rho_ofTab_norm (t : Tab) : rho t.n (STab.ofTab t.norm) = rho t.n (STab.ofTab t) :=
  (rho_ofTab_congr t t.norm rfl fun i _ hi => (Tab.norm_row t i hi).symm).symm

def swapB {n : Nat} (a b : Nat) (c : Bits n) : Bits n :=
  fun j => if j.val = a then bx c b else if j.val = b then bx c a else c j

theorem bx_swapB {n : Nat} (a b : Nat) (ha : a < n) (hb : b < n) (c : Bits n) (j : Nat) :
    bx (swapB a b c) j = if j = a then bx c b else if j = b then bx c a else bx c j := by
  by_cases hj : j < n
  · rw [bx_lt _ _ hj]
    simp only [swapB]
    by_cases h1 : j = a
    · simp [h1]
    · by_cases h2 : j = b
      · subst h2; simp [h1]
      · simp [h1, h2, bx_lt _ _ hj]
  · have h1 : j ≠ a := by omega
    have h2 : j ≠ b := by omega
    rw [bx_ge _ _ hj, if_neg h1, if_neg h2, bx_ge _ _ hj]

theorem swapB_involutive {n : Nat} (a b : Nat) (ha : a < n) (hb : b < n) :
    Function.Involutive (swapB (n := n) a b) := by
  intro c
  apply bits_ext
  intro j _
  rw [bx_swapB a b ha hb, bx_swapB a b ha hb, bx_swapB a b ha hb, bx_swapB a b ha hb]
  by_cases h1 : j = a
  · by_cases h3 : b = a
    · simp [h1, h3]
    · simp [h1, h3]
  · by_cases h2 : j = b
    · subst h2; simp [h1]
    · simp [h1, h2]

noncomputable def swapMat (n a b : Nat) : Matrix (Bits n) (Bits n) ℂ := mono (swapB a b) (fun _ => 0)

theorem loc2_swap (a b : Nat) (hab : a ≠ b) :
    Loc2 (PRow.swap a b) a b (fun _ _ xt _ => xt) (fun _ _ _ zt => zt) (fun xc _ _ _ => xc) (fun _ zc _ _ => zc)
      (fun _ _ _ _ => 0) where
  off p j h1 h2 := by simp [PRow.swap, h1, h2]
  xc p := by simp [PRow.swap]
  zc p := by simp [PRow.swap]
  xt p := by simp [PRow.swap, Ne.symm hab]
  zt p := by simp [PRow.swap, Ne.symm hab]
  ph p := by rw [Int.add_zero]; rfl

/-- for `a ≠ b` the swap is a two-site monomial gate like CNOT and CZ; for `a = b` both sides are the identity -/
theorem swap_intertwine (n a b : Nat) (ha : a < n) (hb : b < n) (p : PRow) :
    swapMat n a b * pauliMat n p = pauliMat n (PRow.swap a b p) * swapMat n a b := by
  unfold swapMat
  by_cases hab : a = b
  · subst hab
    have e1 : swapB (n := n) a a = id := funext fun c => bits_ext fun j _ => by
      rw [bx_swapB a a ha ha]; split <;> simp_all
    have e2 : pauliMat n (PRow.swap a a p) = pauliMat n p :=
      pauliMat_congr n _ _ ⟨fun j _ => by simp only [PRow.swap]; split <;> simp_all, rfl, rfl⟩
    rw [e1, e2, mono_id_zero, Matrix.one_mul, Matrix.mul_one]
  · exact mono2_intertwine n a b ha hb hab (swapB a b) (fun _ => 0) (fun _ bt => bt) (fun bc _ => bc) (fun _ _ => 0)
      (fun c j _ h1 h2 => by rw [bx_swapB a b ha hb, if_neg h1, if_neg h2])
      (fun c => by rw [bx_swapB a b ha hb, if_pos rfl])
      (fun c => by rw [bx_swapB a b ha hb, if_neg (Ne.symm hab), if_pos rfl])
      (fun _ => rfl) _ _ _ _ _ _ (loc2_swap a b hab) (by decide) p

theorem swap_unitary (n a b : Nat) (ha : a < n) (hb : b < n) :
    swapMat n a b * (swapMat n a b)ᴴ = 1 ∧ (swapMat n a b)ᴴ * swapMat n a b = 1 :=
  ⟨mono_mul_conjTranspose _ (swapB_involutive a b ha hb) _, mono_conjTranspose_mul _ (swapB_involutive a b ha hb) _⟩

theorem swap_conj (n a b : Nat) (ha : a < n) (hb : b < n) (p : PRow) :
    swapMat n a b * pauliMat n p * (swapMat n a b)ᴴ = pauliMat n (PRow.swap a b p) := by
  rw [swap_intertwine n a b ha hb, Matrix.mul_assoc, (swap_unitary n a b ha hb).1, Matrix.mul_one]

theorem rho_tab_swap (t : Tab) (a b : Nat) (ha : a < t.n) (hb : b < t.n) :
    swapMat t.n a b * rho t.n (STab.ofTab t) * (swapMat t.n a b)ᴴ = rho t.n (STab.ofTab (t.swapGate a b)) := by
  have h := conj_rhoTo t.n _ (swap_unitary t.n a b ha hb).1 (swap_unitary t.n a b ha hb).2 (STab.ofTab t).row
    (fun i => PRow.swap a b ((STab.ofTab t).row i)) t.n (fun i _ => swap_conj t.n a b ha hb _)
  exact h

end Hilbert
end Graphiq
