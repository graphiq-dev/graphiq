/-
  C13 — circuit rewrites preserve the state; library calls do not mutate their inputs.

  Property theorems only (helper lemmas live in Proofs/Wire.lean and Proofs/Commute*.lean).  The theorems of §2c–§2e′ about
  a chain of rewrites use the chain only through "both circuits are sane and have the same `flat`": they are instances of
  `Commute.flat_eq_compiled_tableau`, `flat_eq_compiled_run_exists`, `flat_eq_compiled_record`,
  `flat_eq_outcome_probability`, `flat_eq_gate_only_compiled`, and the theorems about one circuit in two topological orders
  are the empty chain.

  Objects.  `Wire.Circuit` is the wire-level view of a `CircuitDAG`.  `c.flat` is what the circuit *does*: the register
  counts and, for every quantum register, the sequence of base one-qubit gates (wrappers expanded in application
  order — a wrapper's class list is "last listed acts first" —, identities dropped) and of occurrences of
  multi-register / measuring operations.  `c.sops seq` is the compile sequence `sequence(unwrapped=True)` along a
  topological order `seq` (identities, no-ops of both compilers, dropped); `runSeq app l s` applies a list of
  operations to a state under an arbitrary semantics `app`.

  First half (rewrites): proved for every circuit, every iteration order of the Python dictionaries and every
  topological order.  §2 states the semantic theorems for an abstract semantics `app` under the hypothesis that operations
  on disjoint quantum registers commute; §2b discharges that hypothesis for the verified stabilizer semantics (C07's group
  transformers, outcomes attached to the measuring operations) and §2c ties that semantics to the compile loop `stabRun`,
  so that "rewrites preserve the compiled state / compile does not depend on the topological order" is a theorem about
  the tableaux the stabilizer backend produces, with no physical assumption.  §2d: gate-only circuits — literally the
  same tableau; §2e: the classical record; §2e′: the probability of the outcome assignment; §2f: the conclusions as
  equalities of density matrices; §2g (after §4, whose example circuits it uses): the hypothesis of §2 discharged for a
  density-matrix semantics too, which is tied operation by operation to the stabilizer semantics, to the compile loop and to
  C01's run of the density-matrix backend.
  Second half (aliasing): *partial by nature* — see §3.
-/
import GraphiqModel.Proofs.Wire
import GraphiqModel.Proofs.CommuteTableau
import GraphiqModel.Proofs.CommuteRecordRw
import GraphiqModel.Proofs.CommuteHilbert
import GraphiqModel.Proofs.CommuteProb
import GraphiqModel.Proofs.SweepCommuteDM
import GraphiqModel.Proofs.SweepCommuteDMRefine
import GraphiqModel.Proofs.DMCompileH
namespace Graphiq.C13
open Graphiq Graphiq.Wire

/-! ## 1. the rewrites are list identities on wires -/

theorem copy_preserves_flat (c : Circuit) : c.copy.flat = c.flat := flat_copy c

/-- `remove_identity`, for every iteration order of `node_dict["Identity"]` and every circuit -/
theorem remove_identity_preserves_flat (c : Circuit) (order : List Nat) : (c.removeIdentity order).flat = c.flat :=
  flat_removeIdentity c order

/-- `unwrap_nodes`, for every iteration order of `node_dict["OneQubitGateWrapper"]` -/
theorem unwrap_preserves_flat (c : Circuit) (order : List Nat) (hwf : c.WF) : (c.unwrapNodes order).flat = c.flat :=
  (flat_unwrapNodes c order hwf).2

/-- `group_one_qubit_gates`, for every register order: the backward collection order and the wrapper convention cancel;
    a `MeasurementZ` (which also carries the label `one-qubit`) is a boundary -/
theorem group_preserves_flat (c : Circuit) (order : List Reg) (hwf : c.WF) (har : c.Arity1) :
    (c.groupOneQubitGates order).flat = c.flat :=
  (flat_groupOneQubitGates c order hwf har).2.2

/-- `assign_noise(∅)`: re-adding every operation along any topological order -/
theorem assign_noise_preserves_flat (c : Circuit) (seq : List Nat) (c' : Circuit) (hwf : c.WF) (hok : c.OpsOk)
    (h : c.assignNoise seq = Except.ok c') : c'.flat = c.flat :=
  (flat_assignNoise c seq c' hwf hok h).1

/-- all five at once, on sane circuits (`Good`: well-formed wires; every operation has a quantum register,
    duplicate-free registers, existing classical registers; one-qubit gates act on one register) -/
theorem rewrite_preserves_flat (c c' : Circuit) (hgood : c.Good) (h : Rewrites c c') : c'.flat = c.flat :=
  h.flat_eq hgood

/-- sanity is preserved, so rewrites can be chained -/
theorem rewrite_preserves_sanity (c c' : Circuit) (hgood : c.Good) (h : Rewrites c c') : c'.Good := h.good hgood

/-! ## 2. the compiled state factors through `flat` -/

/-- two sequences of operations with the same per-register subsequences compute the same state, for every semantics in
    which operations on disjoint registers commute -/
theorem same_wires_same_state {ι σ : Type} [DecidableEq ι] (regs : ι → List Reg) (app : ι → σ → σ)
    (hcomm : ∀ a b, (∀ r, r ∈ regs a → r ∉ regs b) → ∀ s, app a (app b s) = app b (app a s))
    (l1 l2 : List ι) (hne1 : ∀ a, a ∈ l1 → regs a ≠ []) (hne2 : ∀ a, a ∈ l2 → regs a ≠ [])
    (h : ∀ r, projReg regs r l1 = projReg regs r l2) (s : σ) : runSeq app l1 s = runSeq app l2 s :=
  runSeq_eq_of_proj_eq regs app hcomm l1 l2 hne1 hne2 h s

/-- the state does not depend on which topological order `sequence()` returns -/
theorem compile_independent_of_topological_order {σ : Type} (app : SOp → σ → σ)
    (hcomm : ∀ a b : SOp, (∀ r, r ∈ a.regs → r ∉ b.regs) → ∀ s, app a (app b s) = app b (app a s))
    (c : Circuit) (hgood : c.Good) (seq1 seq2 : List Nat)
    (hl1 : c.isLinearExtension seq1 = true) (hl2 : c.isLinearExtension seq2 = true) (s : σ) :
    runSeq app (c.sops seq1) s = runSeq app (c.sops seq2) s :=
  Commute.denote_eq_of_good_flat_eq app hcomm c c hgood hgood rfl seq2 seq1 hl2 hl1 s

/-- **a finite chain of rewrites (`Commute.RewritesStar`: copy, unwrap, group, remove identities, empty noise map) does not
    change the state the circuit compiles to**, whatever topological orders the two compilations use (sanity is preserved
    along the chain) -/
theorem rewrite_chain_preserves_compiled_state {σ : Type} (app : SOp → σ → σ)
    (hcomm : ∀ a b : SOp, (∀ r, r ∈ a.regs → r ∉ b.regs) → ∀ s, app a (app b s) = app b (app a s))
    (c c' : Circuit) (hgood : c.Good) (h : Commute.RewritesStar c c') (seq seq' : List Nat)
    (hl : c.isLinearExtension seq = true) (hl' : c'.isLinearExtension seq' = true) (s : σ) :
    runSeq app (c'.sops seq') s = runSeq app (c.sops seq) s :=
  Commute.denote_eq_of_good_flat_eq app hcomm c c' hgood (h.good hgood) (h.flat_eq hgood) seq seq' hl hl' s

/-- **copying, unwrapping, grouping, removing identities and attaching an empty noise map do not change the state the
    circuit compiles to** — whatever topological orders the two compilations use -/
theorem rewrite_preserves_compiled_state {σ : Type} (app : SOp → σ → σ)
    (hcomm : ∀ a b : SOp, (∀ r, r ∈ a.regs → r ∉ b.regs) → ∀ s, app a (app b s) = app b (app a s))
    (c c' : Circuit) (hgood : c.Good) (h : Rewrites c c') (seq seq' : List Nat)
    (hl : c.isLinearExtension seq = true) (hl' : c'.isLinearExtension seq' = true) (s : σ) :
    runSeq app (c'.sops seq') s = runSeq app (c.sops seq) s :=
  rewrite_chain_preserves_compiled_state app hcomm c c' hgood (.single h) seq seq' hl hl' s

/-! ## 2b. the commutation hypothesis discharged: the verified stabilizer semantics

  `Commute.appG ne np : SOp → GSt ne np → GSt ne np` (Proofs/CommuteSem) is the semantics of one operation of the compile
  sequence on states "stabilizer group of a valid tableau on `ne + np` qubits + the unread measurement outcomes of every
  register" (or "cannot occur"): gates act by C07's `specGate`, measurements by C07's `specMeasure`; the outcome of a
  measuring operation is attached to the *operation* (the k-th measuring operation on a wire takes the k-th entry of that
  wire's outcome stream), and a recorded outcome of probability zero makes the run impossible.  In this semantics the
  hypothesis `hcomm` of the theorems of §2 is a theorem (`stabilizer_ops_on_disjoint_registers_commute`), so the three
  theorems hold for the stabilizer semantics with no physical assumption left. -/

/-- **operations on disjoint quantum registers commute in the stabilizer semantics** — gate/gate (pointwise on rows),
    gate/measurement, measurement/measurement (the same outcome pairs are possible in both orders and give the same group),
    classically controlled gates and measure-and-reset; for every state -/
theorem stabilizer_ops_on_disjoint_registers_commute (ne np : Nat) (a b : SOp) (h : ∀ r, r ∈ a.regs → r ∉ b.regs)
    (s : Commute.GSt ne np) :
    Commute.appG ne np a (Commute.appG ne np b s) = Commute.appG ne np b (Commute.appG ne np a s) :=
  Commute.appG_comm ne np a b h s

/-- `same_wires_same_state` for the stabilizer semantics, no hypothesis on the semantics left -/
theorem same_wires_same_state_stab (ne np : Nat) (l1 l2 : List SOp) (hne1 : ∀ a, a ∈ l1 → a.regs ≠ [])
    (hne2 : ∀ a, a ∈ l2 → a.regs ≠ []) (h : ∀ r, projReg SOp.regs r l1 = projReg SOp.regs r l2) (s : Commute.GSt ne np) :
    runSeq (Commute.appG ne np) l1 s = runSeq (Commute.appG ne np) l2 s :=
  same_wires_same_state SOp.regs (Commute.appG ne np) (Commute.appG_comm ne np) l1 l2 hne1 hne2 h s

/-- **the stabilizer state a circuit compiles to does not depend on the topological order** `sequence()` returns: same
    stabilizer group (and the same outcome assignments are possible), for every circuit, every pair of linear extensions,
    every initial state and every assignment of outcomes to the measuring operations -/
theorem compile_independent_of_topological_order_stab (ne np : Nat) (c : Circuit) (hgood : c.Good) (seq1 seq2 : List Nat)
    (hl1 : c.isLinearExtension seq1 = true) (hl2 : c.isLinearExtension seq2 = true) (s : Commute.GSt ne np) :
    runSeq (Commute.appG ne np) (c.sops seq1) s = runSeq (Commute.appG ne np) (c.sops seq2) s :=
  compile_independent_of_topological_order (Commute.appG ne np) (Commute.appG_comm ne np) c hgood seq1 seq2 hl1 hl2 s

/-- `rewrite_preserves_compiled_state_stab` (below) for any finite chain of the five rewrites (`Commute.RewritesStar`) -/
theorem rewrite_chain_preserves_compiled_state_stab (ne np : Nat) (c c' : Circuit) (hgood : c.Good) (h : Commute.RewritesStar c c')
    (seq seq' : List Nat) (hl : c.isLinearExtension seq = true) (hl' : c'.isLinearExtension seq' = true)
    (s : Commute.GSt ne np) :
    runSeq (Commute.appG ne np) (c'.sops seq') s = runSeq (Commute.appG ne np) (c.sops seq) s :=
  rewrite_chain_preserves_compiled_state (Commute.appG ne np) (Commute.appG_comm ne np) c c' hgood h seq seq' hl hl' s

/-- **copying, unwrapping, grouping, removing identities and attaching an empty noise map do not change the stabilizer
    state the circuit compiles to**, whatever topological orders the two compilations use, for every assignment of
    outcomes to the measuring operations (named by their position on the wire of the measured qubit, which the rewrites
    preserve) -/
theorem rewrite_preserves_compiled_state_stab (ne np : Nat) (c c' : Circuit) (hgood : c.Good) (h : Rewrites c c')
    (seq seq' : List Nat) (hl : c.isLinearExtension seq = true) (hl' : c'.isLinearExtension seq' = true)
    (s : Commute.GSt ne np) :
    runSeq (Commute.appG ne np) (c'.sops seq') s = runSeq (Commute.appG ne np) (c.sops seq) s :=
  rewrite_chain_preserves_compiled_state_stab ne np c c' hgood (Commute.RewritesStar.single h) seq seq' hl hl' s

/-- `rewrite_preserves_compiled_group` (below) for any finite chain of the five rewrites (`Commute.RewritesStar`) -/
theorem rewrite_chain_preserves_compiled_group (c c' : Circuit) (hgood : c.Good) (h : Commute.RewritesStar c c') (seq seq' : List Nat)
    (hl : c.isLinearExtension seq = true) (hl' : c'.isLinearExtension seq' = true) (sc : Commute.Script) :
    runSeq (Commute.appRaw c.ne c.np) (c'.sops seq') (some (TabSpec.gstate (Tab.ket0 (c.ne + c.np)), sc)) =
      runSeq (Commute.appRaw c.ne c.np) (c.sops seq) (some (TabSpec.gstate (Tab.ket0 (c.ne + c.np)), sc)) :=
  Commute.flat_eq_compiled_group c c' hgood (h.good hgood) (h.flat_eq hgood) seq seq' hl hl' sc

/-- read on the compile loop proper: started in `|0…0⟩` with the circuit's own register counts, the rewritten circuit
    ends in the same stabilizer group as the original (or both runs are impossible for that outcome assignment) -/
theorem rewrite_preserves_compiled_group (c c' : Circuit) (hgood : c.Good) (h : Rewrites c c') (seq seq' : List Nat)
    (hl : c.isLinearExtension seq = true) (hl' : c'.isLinearExtension seq' = true) (sc : Commute.Script) :
    runSeq (Commute.appRaw c.ne c.np) (c'.sops seq') (some (TabSpec.gstate (Tab.ket0 (c.ne + c.np)), sc)) =
      runSeq (Commute.appRaw c.ne c.np) (c.sops seq) (some (TabSpec.gstate (Tab.ket0 (c.ne + c.np)), sc)) :=
  rewrite_chain_preserves_compiled_group c c' hgood (Commute.RewritesStar.single h) seq seq' hl hl' sc

/-! ## 2c. the compile loop of the stabilizer backend refines that semantics

  `stabRun` / `stepOp` (Model/Circuit.lean) is the function-by-function model of `CompilerBase.compile` +
  `StabilizerCompiler.compile_one_gate` that C01 compares with the real compiler on every run.  Each of its steps, under
  every measurement setting (`Det`: forced 0, forced 1, probabilistic with a drawn script), acts on the stabilizer group of
  the tableau as `appRaw` does with the outcome the step recorded; so the theorems of §2b are theorems about the tableaux
  the compile loop produces. -/

/-- **the stabilizer compile loop refines the group semantics**: if the loop runs the compile sequence of a sane circuit
    (along any node order `seq`, under any measurement setting and drawn script) to the state `s'`, then the tableau stays
    valid and the group semantics, run on the outcome streams made of the outcomes `s'.outs` the loop recorded, is possible
    and ends in exactly the stabilizer group of the final tableau, with all outcomes read -/
theorem compile_loop_refines_stabilizer_semantics (c : Circuit) (hgood : c.Good) (har : Commute.ArityOk c) (seq : List Nat)
    (d : Det) (script : List Bool) (s' : RunState)
    (h : stabRun c.ne c.np d script ((c.sops seq).map Commute.toCOp) = some s') :
    s'.t.Valid ∧ ∀ sc, runSeq (Commute.appRaw c.ne c.np) (c.sops seq)
        (some (TabSpec.gstate (Tab.ket0 (c.ne + c.np)), Commute.feed c.ne c.np (c.sops seq) s'.outs sc)) =
      some (TabSpec.gstate s'.t, sc) :=
  ⟨(Commute.stabRun_refines c hgood har seq d script s' h).1.valid, (Commute.stabRun_refines c hgood har seq d script s' h).2⟩

/-- the hypothesis `hout` of the theorems below, spelled out: the per-register outcome streams of two runs agree iff on every
    register the measuring operations recorded, in the order of that wire, the same outcomes (`Commute.outsOn`) -/
theorem same_outcome_streams_iff (c c' : Circuit) (seq seq' : List Nat) (outs outs' : List Bool) :
    Commute.feed c.ne c.np (c.sops seq) outs (fun _ => []) = Commute.feed c'.ne c'.np (c'.sops seq') outs' (fun _ => []) ↔
      ∀ r, Commute.outsOn c.ne c.np (c.sops seq) outs r = Commute.outsOn c'.ne c'.np (c'.sops seq') outs' r :=
  Commute.feed_eq_iff _ _ _ _ _ _ _ _

/-- **and conversely (completeness)**: every run of the compile sequence that is possible in the group semantics — from
    `|0…0⟩`, reading the outcome streams `F` completely — is produced by the compile loop in probabilistic mode under some
    script of drawn bits: the loop ends in a tableau with exactly the final group and records exactly the outcomes read -/
theorem compile_loop_complete_for_stabilizer_semantics (c : Circuit) (hgood : c.Good) (har : Commute.ArityOk c)
    (seq : List Nat) (F : Commute.Script) (g' : TabSpec.GState)
    (h : runSeq (Commute.appRaw c.ne c.np) (c.sops seq) (some (TabSpec.gstate (Tab.ket0 (c.ne + c.np)), F)) =
      some (g', fun _ => [])) :
    ∃ (script : List Bool) (s' : RunState),
      stabRun c.ne c.np .prob script ((c.sops seq).map Commute.toCOp) = some s' ∧ TabSpec.gstate s'.t = g' ∧
        F = Commute.feed c.ne c.np (c.sops seq) s'.outs (fun _ => []) :=
  Commute.stabRun_complete c hgood har seq F g' h

/-- `rewrite_preserves_compiled_tableau` (below) for any finite chain of the five rewrites (`Commute.RewritesStar`) -/
theorem rewrite_chain_preserves_compiled_tableau (c c' : Circuit) (hgood : c.Good) (har : Commute.ArityOk c) (h : Commute.RewritesStar c c')
    (seq seq' : List Nat) (hl : c.isLinearExtension seq = true) (hl' : c'.isLinearExtension seq' = true)
    (d d' : Det) (script script' : List Bool) (s s' : RunState)
    (h1 : stabRun c.ne c.np d script ((c.sops seq).map Commute.toCOp) = some s)
    (h2 : stabRun c'.ne c'.np d' script' ((c'.sops seq').map Commute.toCOp) = some s')
    (hout : Commute.feed c.ne c.np (c.sops seq) s.outs (fun _ => []) =
      Commute.feed c'.ne c'.np (c'.sops seq') s'.outs (fun _ => [])) :
    ∀ P, TabSpec.Grp s.t P ↔ TabSpec.Grp s'.t P :=
  Commute.flat_eq_compiled_tableau c c' hgood har (h.good hgood) (h.arityOk hgood har) (h.flat_eq hgood) seq seq' hl hl'
    d d' script script' s s' h1 h2 hout

/-- **the tableau the stabilizer backend compiles to does not depend on the topological order**: two runs of the compile
    loop on the same sane circuit, along any two linear extensions of its DAG, under any measurement settings and scripts, in
    which every measuring operation recorded the same outcome (`hout`: the per-register outcome streams agree), end in
    tableaux with the same signed stabilizer group -/
theorem compiled_tableau_independent_of_topological_order (c : Circuit) (hgood : c.Good) (har : Commute.ArityOk c)
    (seq1 seq2 : List Nat) (hl1 : c.isLinearExtension seq1 = true) (hl2 : c.isLinearExtension seq2 = true)
    (d1 d2 : Det) (script1 script2 : List Bool) (s1 s2 : RunState)
    (h1 : stabRun c.ne c.np d1 script1 ((c.sops seq1).map Commute.toCOp) = some s1)
    (h2 : stabRun c.ne c.np d2 script2 ((c.sops seq2).map Commute.toCOp) = some s2)
    (hout : Commute.feed c.ne c.np (c.sops seq1) s1.outs (fun _ => []) =
      Commute.feed c.ne c.np (c.sops seq2) s2.outs (fun _ => [])) :
    ∀ P, TabSpec.Grp s1.t P ↔ TabSpec.Grp s2.t P :=
  rewrite_chain_preserves_compiled_tableau c c hgood har (.refl c) seq1 seq2 hl1 hl2 d1 d2 script1 script2 s1 s2 h1 h2 hout

/-- **the tableau the stabilizer backend compiles a rewritten circuit to**: the original and the copied / unwrapped /
    grouped / identity-free / empty-noise-map circuit, each compiled along any topological order under any measurement
    setting, with every measuring operation recording the same outcome in both runs, end in tableaux with the same signed
    stabilizer group -/
theorem rewrite_preserves_compiled_tableau (c c' : Circuit) (hgood : c.Good) (har : Commute.ArityOk c) (h : Rewrites c c')
    (seq seq' : List Nat) (hl : c.isLinearExtension seq = true) (hl' : c'.isLinearExtension seq' = true)
    (d d' : Det) (script script' : List Bool) (s s' : RunState)
    (h1 : stabRun c.ne c.np d script ((c.sops seq).map Commute.toCOp) = some s)
    (h2 : stabRun c'.ne c'.np d' script' ((c'.sops seq').map Commute.toCOp) = some s')
    (hout : Commute.feed c.ne c.np (c.sops seq) s.outs (fun _ => []) =
      Commute.feed c'.ne c'.np (c'.sops seq') s'.outs (fun _ => [])) :
    ∀ P, TabSpec.Grp s.t P ↔ TabSpec.Grp s'.t P :=
  rewrite_chain_preserves_compiled_tableau c c' hgood har (Commute.RewritesStar.single h)
    seq seq' hl hl' d d' script script' s s' h1 h2 hout

/-- `compiled_run_exists_after_rewrite` (below) for any finite chain of the five rewrites (`Commute.RewritesStar`) -/
theorem compiled_run_exists_after_rewrite_chain (c c' : Circuit) (hgood : c.Good) (har : Commute.ArityOk c) (h : Commute.RewritesStar c c')
    (seq seq' : List Nat) (hl : c.isLinearExtension seq = true) (hl' : c'.isLinearExtension seq' = true)
    (d : Det) (script : List Bool) (s : RunState)
    (h1 : stabRun c.ne c.np d script ((c.sops seq).map Commute.toCOp) = some s) :
    ∃ (script' : List Bool) (s' : RunState),
      stabRun c'.ne c'.np .prob script' ((c'.sops seq').map Commute.toCOp) = some s' ∧
      Commute.feed c.ne c.np (c.sops seq) s.outs (fun _ => []) =
        Commute.feed c'.ne c'.np (c'.sops seq') s'.outs (fun _ => []) ∧
      ∀ P, TabSpec.Grp s.t P ↔ TabSpec.Grp s'.t P :=
  Commute.flat_eq_compiled_run_exists c c' hgood har (h.good hgood) (h.arityOk hgood har) (h.flat_eq hgood) seq seq' hl hl'
    d script s h1

/-- **for every run along one topological order there is a run along any other one that records the same outcome at every
    measuring operation, and it ends in the same stabilizer group** — so the hypothesis `hout` of
    `compiled_tableau_independent_of_topological_order` can always be met: given a run of the compile loop along `seq1`
    (any measurement setting), the loop along `seq2` in probabilistic mode, under a suitable script of drawn bits, records
    the same per-register outcome streams and ends in a tableau with the same signed stabilizer group -/
theorem compiled_run_exists_in_every_topological_order (c : Circuit) (hgood : c.Good) (har : Commute.ArityOk c)
    (seq1 seq2 : List Nat) (hl1 : c.isLinearExtension seq1 = true) (hl2 : c.isLinearExtension seq2 = true)
    (d1 : Det) (script1 : List Bool) (s1 : RunState)
    (h1 : stabRun c.ne c.np d1 script1 ((c.sops seq1).map Commute.toCOp) = some s1) :
    ∃ (script2 : List Bool) (s2 : RunState),
      stabRun c.ne c.np .prob script2 ((c.sops seq2).map Commute.toCOp) = some s2 ∧
      Commute.feed c.ne c.np (c.sops seq1) s1.outs (fun _ => []) =
        Commute.feed c.ne c.np (c.sops seq2) s2.outs (fun _ => []) ∧
      ∀ P, TabSpec.Grp s1.t P ↔ TabSpec.Grp s2.t P :=
  compiled_run_exists_after_rewrite_chain c c hgood har (.refl c) seq1 seq2 hl1 hl2 d1 script1 s1 h1

/-- the same for the rewrites: for every run of the compile loop on the original circuit there is a run on the copied /
    unwrapped / grouped / identity-free / empty-noise-map circuit (any topological orders) that records the same outcome at
    every measuring operation and ends in the same signed stabilizer group -/
theorem compiled_run_exists_after_rewrite (c c' : Circuit) (hgood : c.Good) (har : Commute.ArityOk c) (h : Rewrites c c')
    (seq seq' : List Nat) (hl : c.isLinearExtension seq = true) (hl' : c'.isLinearExtension seq' = true)
    (d : Det) (script : List Bool) (s : RunState)
    (h1 : stabRun c.ne c.np d script ((c.sops seq).map Commute.toCOp) = some s) :
    ∃ (script' : List Bool) (s' : RunState),
      stabRun c'.ne c'.np .prob script' ((c'.sops seq').map Commute.toCOp) = some s' ∧
      Commute.feed c.ne c.np (c.sops seq) s.outs (fun _ => []) =
        Commute.feed c'.ne c'.np (c'.sops seq') s'.outs (fun _ => []) ∧
      ∀ P, TabSpec.Grp s.t P ↔ TabSpec.Grp s'.t P :=
  compiled_run_exists_after_rewrite_chain c c' hgood har (Commute.RewritesStar.single h) seq seq' hl hl' d script s h1

/-- the same from an arbitrary valid initial tableau (`compile(circuit, initial_state)`): two runs of the compile loop from
    `t0` along two linear extensions in which every measuring operation recorded the same outcome end in the same signed
    stabilizer group; and for every run along `seq1` such a run along `seq2` exists (probabilistic mode, some script) -/
theorem compiled_tableau_independent_of_topological_order_from (c : Circuit) (hgood : c.Good) (har : Commute.ArityOk c)
    (seq1 seq2 : List Nat) (hl1 : c.isLinearExtension seq1 = true) (hl2 : c.isLinearExtension seq2 = true)
    (t0 : Tab) (hv : t0.Valid) (hr : t0.StabReal) (hn : t0.n = c.ne + c.np)
    (d1 : Det) (script1 : List Bool) (s1 : RunState)
    (h1 : stabRunFrom t0 c.np d1 script1 ((c.sops seq1).map Commute.toCOp) = some s1) :
    (∀ (d2 : Det) (script2 : List Bool) (s2 : RunState),
      stabRunFrom t0 c.np d2 script2 ((c.sops seq2).map Commute.toCOp) = some s2 →
      Commute.feed c.ne c.np (c.sops seq1) s1.outs (fun _ => []) =
        Commute.feed c.ne c.np (c.sops seq2) s2.outs (fun _ => []) →
      ∀ P, TabSpec.Grp s1.t P ↔ TabSpec.Grp s2.t P) ∧
    ∃ (script2 : List Bool) (s2 : RunState),
      stabRunFrom t0 c.np .prob script2 ((c.sops seq2).map Commute.toCOp) = some s2 ∧
      Commute.feed c.ne c.np (c.sops seq1) s1.outs (fun _ => []) =
        Commute.feed c.ne c.np (c.sops seq2) s2.outs (fun _ => []) := by
  have h0 : Commute.TInv (c.ne + c.np) t0 := ⟨hv, hr, hn⟩
  have r1 := (Commute.stabRunFrom_refines c hgood har seq1 t0 h0 d1 script1 s1 h1).2 (fun _ => [])
  have e := compile_independent_of_topological_order_stab c.ne c.np c hgood seq1 seq2 hl1 hl2
    (Commute.GSt.ofTab c.ne c.np t0 h0 (Commute.feed c.ne c.np (c.sops seq1) s1.outs (fun _ => [])))
  have e' := congrArg Subtype.val e
  rw [Commute.runSeq_appG_val, Commute.runSeq_appG_val] at e'
  have e2 : runSeq (Commute.appRaw c.ne c.np) (c.sops seq2) (some (TabSpec.gstate t0,
      Commute.feed c.ne c.np (c.sops seq1) s1.outs (fun _ => []))) = some (TabSpec.gstate s1.t, fun _ => []) := by
    rw [← r1]; exact e'.symm
  refine ⟨fun d2 script2 s2 h2 hout P => ?_, ?_⟩
  · have r2 := (Commute.stabRunFrom_refines c hgood har seq2 t0 h0 d2 script2 s2 h2).2 (fun _ => [])
    rw [← hout, e2] at r2
    simp only [Option.some.injEq, Prod.mk.injEq, and_true] at r2
    show (TabSpec.gstate s1.t).G P ↔ (TabSpec.gstate s2.t).G P
    rw [r2]
  · obtain ⟨script2, s2, hs2, _, hF⟩ := Commute.stabRunFrom_complete c hgood har seq2 t0 h0 _ _ e2
    exact ⟨script2, s2, hs2, hF⟩

/-! ## 2d. gate-only circuits: literally the same tableau

  For circuits without measurements the statement holds for the *tables*, not only for the groups they generate: the row
  maps of gates on disjoint qubits commute pointwise and the compiler's tabulation identifies tables that agree on the
  qubits' sites. -/

/-- unitary-gate steps of the stabilizer compile loop on disjoint registers commute literally (same run state, same table,
    destabilizers included) -/
theorem gate_steps_on_disjoint_registers_commute (ne np : Nat) (a b : SOp) (h : ∀ r, r ∈ a.regs → r ∉ b.regs)
    (s : Commute.TSt ne np) :
    Commute.appTG ne np a (Commute.appTG ne np b s) = Commute.appTG ne np b (Commute.appTG ne np a s) :=
  Commute.appTG_comm ne np a b h s

/-- `gate_only_rewrite_preserves_compiled_tableau` (below) for any finite chain of the five rewrites (`Commute.RewritesStar`) -/
theorem gate_only_rewrite_chain_preserves_compiled_tableau (c c' : Circuit) (hgood : c.Good) (har : Commute.ArityOk c)
    (hgates : Commute.GateOnly c) (h : Commute.RewritesStar c c') (seq seq' : List Nat) (hl : c.isLinearExtension seq = true)
    (hl' : c'.isLinearExtension seq' = true) (d : Det) (script : List Bool) :
    stabRun c'.ne c'.np d script ((c'.sops seq').map Commute.toCOp) =
      stabRun c.ne c.np d script ((c.sops seq).map Commute.toCOp) :=
  Commute.flat_eq_gate_only_compiled c c' hgood har hgates (h.good hgood) (h.arityOk hgood har) (h.gateOnly hgood hgates)
    (h.flat_eq hgood) seq seq' hl hl' d script

/-- **a gate-only circuit compiles to literally the same run state (the same Clifford tableau, destabilizer and
    stabilizer rows and signs, entry by entry) along every topological order** -/
theorem gate_only_compile_independent_of_topological_order (c : Circuit) (hgood : c.Good) (har : Commute.ArityOk c)
    (hgates : Commute.GateOnly c) (seq1 seq2 : List Nat) (hl1 : c.isLinearExtension seq1 = true)
    (hl2 : c.isLinearExtension seq2 = true) (d : Det) (script : List Bool) :
    stabRun c.ne c.np d script ((c.sops seq1).map Commute.toCOp) =
      stabRun c.ne c.np d script ((c.sops seq2).map Commute.toCOp) :=
  gate_only_rewrite_chain_preserves_compiled_tableau c c hgood har hgates (.refl c) seq2 seq1 hl2 hl1 d script

/-- **a gate-only circuit and its copy / unwrapped / grouped / identity-free / empty-noise-map version compile to literally
    the same run state**, whatever topological orders the two compilations use -/
theorem gate_only_rewrite_preserves_compiled_tableau (c c' : Circuit) (hgood : c.Good) (har : Commute.ArityOk c)
    (hgates : Commute.GateOnly c) (h : Rewrites c c') (seq seq' : List Nat) (hl : c.isLinearExtension seq = true)
    (hl' : c'.isLinearExtension seq' = true) (d : Det) (script : List Bool) :
    stabRun c'.ne c'.np d script ((c'.sops seq').map Commute.toCOp) =
      stabRun c.ne c.np d script ((c.sops seq).map Commute.toCOp) :=
  gate_only_rewrite_chain_preserves_compiled_tableau c c' hgood har hgates (Commute.RewritesStar.single h)
    seq seq' hl hl' d script

/-! ## 2e. the classical record

  The classical registers are part of the state in `Commute.appC`: a measuring operation writes its outcome into its
  classical register.  Two measuring operations on different qubits that write the *same* classical register do not
  commute (the later write wins) — they are ordered by the classical wire.  `add` threads every operation on the wires of
  its classical registers; `insert_at` need not, and then the final register values genuinely depend on the order
  `topological_sort` returns (the quantum state does not: §2b).  Hence the hypothesis `CThreaded`. -/

/-- operations on disjoint quantum registers that do not write the same classical register commute, record included -/
theorem stabilizer_ops_commute_with_record (ne np : Nat) (a b : SOp) (h : ∀ r, r ∈ Commute.regsC a → r ∉ Commute.regsC b)
    (s : Commute.CSt ne np) :
    Commute.appC ne np a (Commute.appC ne np b s) = Commute.appC ne np b (Commute.appC ne np a s) :=
  Commute.appC_comm ne np a b h s

/-- **stabilizer state and classical record do not depend on the topological order**, for every sane circuit whose
    measuring operations lie on the classical wire of the register they write -/
theorem compile_with_record_independent_of_topological_order_stab (ne np : Nat) (c : Circuit) (hgood : c.Good)
    (hthr : Commute.CThreaded c) (hca : Commute.CArity c) (seq1 seq2 : List Nat)
    (hl1 : c.isLinearExtension seq1 = true) (hl2 : c.isLinearExtension seq2 = true) (s : Commute.CSt ne np) :
    runSeq (Commute.appC ne np) (c.sops seq1) s = runSeq (Commute.appC ne np) (c.sops seq2) s :=
  same_wires_same_state Commute.regsC (Commute.appC ne np) (Commute.appC_comm ne np) (c.sops seq1) (c.sops seq2)
    (Commute.regsC_ne_nil c hgood seq1) (Commute.regsC_ne_nil c hgood seq2)
    (Commute.proj_regsC_eq c hgood hthr hca seq1 seq2 hl1 hl2) s

/-- `rewrite_preserves_state_and_record_stab` (below) for any finite chain of the five rewrites (`Commute.RewritesStar`) -/
theorem rewrite_chain_preserves_state_and_record_stab (ne np : Nat) (c c' : Circuit) (hgood : c.Good) (hthr : Commute.CThreaded c)
    (hca : Commute.CArity c) (h : Commute.RewritesStar c c') (seq seq' : List Nat) (hl : c.isLinearExtension seq = true)
    (hl' : c'.isLinearExtension seq' = true) (s : Commute.CSt ne np) :
    runSeq (Commute.appC ne np) (c'.sops seq') s = runSeq (Commute.appC ne np) (c.sops seq) s :=
  same_wires_same_state Commute.regsC (Commute.appC ne np) (Commute.appC_comm ne np) (c'.sops seq') (c.sops seq)
    (Commute.regsC_ne_nil c' (h.good hgood) seq') (Commute.regsC_ne_nil c hgood seq)
    (Commute.chain_proj_regsC_eq c c' hgood hthr hca h seq seq' hl hl') s

/-- `rewrite_preserves_compiled_record` (below) for any finite chain of the five rewrites (`Commute.RewritesStar`) -/
theorem rewrite_chain_preserves_compiled_record (c c' : Circuit) (hgood : c.Good) (har : Commute.ArityOk c)
    (hthr : Commute.CThreaded c) (hca : Commute.CArity c) (h : Commute.RewritesStar c c')
    (seq seq' : List Nat) (hl : c.isLinearExtension seq = true) (hl' : c'.isLinearExtension seq' = true)
    (d d' : Det) (script script' : List Bool) (s s' : RunState)
    (h1 : stabRun c.ne c.np d script ((c.sops seq).map Commute.toCOp) = some s)
    (h2 : stabRun c'.ne c'.np d' script' ((c'.sops seq').map Commute.toCOp) = some s')
    (hout : Commute.feed c.ne c.np (c.sops seq) s.outs (fun _ => []) =
      Commute.feed c'.ne c'.np (c'.sops seq') s'.outs (fun _ => [])) :
    (∀ P, TabSpec.Grp s.t P ↔ TabSpec.Grp s'.t P) ∧ finalRecord c.nc s.writes = finalRecord c'.nc s'.writes :=
  Commute.flat_eq_compiled_record c c' hgood har hthr hca (h.good hgood) (h.arityOk hgood har) (h.cflat hgood hthr).2
    (h.carity hgood hca) (h.cflat hgood hthr).1 (h.flat_eq hgood) seq seq' hl hl' d d' script script' s s' h1 h2 hout

/-- **the classical registers the stabilizer backend ends with do not depend on the topological order**: two runs of the
    compile loop on the same sane, classically threaded circuit along two linear extensions in which every measuring
    operation recorded the same outcome end with the same signed stabilizer group *and* the same final register values -/
theorem compiled_record_independent_of_topological_order (c : Circuit) (hgood : c.Good) (har : Commute.ArityOk c)
    (hthr : Commute.CThreaded c) (hca : Commute.CArity c)
    (seq1 seq2 : List Nat) (hl1 : c.isLinearExtension seq1 = true) (hl2 : c.isLinearExtension seq2 = true)
    (d1 d2 : Det) (script1 script2 : List Bool) (s1 s2 : RunState)
    (h1 : stabRun c.ne c.np d1 script1 ((c.sops seq1).map Commute.toCOp) = some s1)
    (h2 : stabRun c.ne c.np d2 script2 ((c.sops seq2).map Commute.toCOp) = some s2)
    (hout : Commute.feed c.ne c.np (c.sops seq1) s1.outs (fun _ => []) =
      Commute.feed c.ne c.np (c.sops seq2) s2.outs (fun _ => [])) :
    (∀ P, TabSpec.Grp s1.t P ↔ TabSpec.Grp s2.t P) ∧ finalRecord c.nc s1.writes = finalRecord c.nc s2.writes :=
  rewrite_chain_preserves_compiled_record c c hgood har hthr hca (.refl c) seq1 seq2 hl1 hl2 d1 d2 script1 script2 s1 s2
    h1 h2 hout

/-- **the rewrites preserve stabilizer state and classical record**: for a sane circuit whose measuring operations lie on the
    classical wire they write, every rewrite keeps the operations on every classical wire (`Commute.Rewrites.cflat`), so the
    rewritten circuit, along any of its topological orders, gives the same state of the semantics with record -/
theorem rewrite_preserves_state_and_record_stab (ne np : Nat) (c c' : Circuit) (hgood : c.Good) (hthr : Commute.CThreaded c)
    (hca : Commute.CArity c) (h : Rewrites c c') (seq seq' : List Nat) (hl : c.isLinearExtension seq = true)
    (hl' : c'.isLinearExtension seq' = true) (s : Commute.CSt ne np) :
    runSeq (Commute.appC ne np) (c'.sops seq') s = runSeq (Commute.appC ne np) (c.sops seq) s :=
  rewrite_chain_preserves_state_and_record_stab ne np c c' hgood hthr hca (Commute.RewritesStar.single h) seq seq' hl hl' s

/-- **the classical registers the stabilizer backend ends with are preserved by the rewrites**: original and rewritten
    circuit, any topological orders, any measurement settings, every measuring operation recording the same outcome in both
    runs ⇒ same signed stabilizer group and the same final register values -/
theorem rewrite_preserves_compiled_record (c c' : Circuit) (hgood : c.Good) (har : Commute.ArityOk c)
    (hthr : Commute.CThreaded c) (hca : Commute.CArity c) (h : Rewrites c c')
    (seq seq' : List Nat) (hl : c.isLinearExtension seq = true) (hl' : c'.isLinearExtension seq' = true)
    (d d' : Det) (script script' : List Bool) (s s' : RunState)
    (h1 : stabRun c.ne c.np d script ((c.sops seq).map Commute.toCOp) = some s)
    (h2 : stabRun c'.ne c'.np d' script' ((c'.sops seq').map Commute.toCOp) = some s')
    (hout : Commute.feed c.ne c.np (c.sops seq) s.outs (fun _ => []) =
      Commute.feed c'.ne c'.np (c'.sops seq') s'.outs (fun _ => [])) :
    (∀ P, TabSpec.Grp s.t P ↔ TabSpec.Grp s'.t P) ∧ finalRecord c.nc s.writes = finalRecord c'.nc s'.writes :=
  rewrite_chain_preserves_compiled_record c c' hgood har hthr hca (Commute.RewritesStar.single h)
    seq seq' hl hl' d d' script script' s s' h1 h2 hout

/-! ## 2e′. the probability of the outcome assignment

  A Z measurement of a stabilizer state is deterministic (the feasible outcome has probability 1) or random (each outcome has
  probability ½ — C07 `measurement_random_is_projection`); an outcome assignment therefore has probability `2^(-r)`, `r` the
  number of measurements that were random when executed (`RunState.rand`).  `r` does not depend on the order either. -/

/-- operations on disjoint quantum registers commute, the count of random measurements included -/
theorem stabilizer_ops_commute_with_random_count (ne np : Nat) (a b : SOp) (h : ∀ r, r ∈ a.regs → r ∉ b.regs)
    (s : Commute.RSt ne np) :
    Commute.appR ne np a (Commute.appR ne np b s) = Commute.appR ne np b (Commute.appR ne np a s) :=
  Commute.appR_comm ne np a b h s

/-- `rewrite_preserves_outcome_probability` (below) for any finite chain of the five rewrites (`Commute.RewritesStar`) -/
theorem rewrite_chain_preserves_outcome_probability (c c' : Circuit) (hgood : c.Good) (har : Commute.ArityOk c)
    (h : Commute.RewritesStar c c') (seq seq' : List Nat) (hl : c.isLinearExtension seq = true)
    (hl' : c'.isLinearExtension seq' = true) (d d' : Det) (script script' : List Bool) (s s' : RunState)
    (h1 : stabRun c.ne c.np d script ((c.sops seq).map Commute.toCOp) = some s)
    (h2 : stabRun c'.ne c'.np d' script' ((c'.sops seq').map Commute.toCOp) = some s')
    (hout : Commute.feed c.ne c.np (c.sops seq) s.outs (fun _ => []) =
      Commute.feed c'.ne c'.np (c'.sops seq') s'.outs (fun _ => [])) :
    s.rand.count true = s'.rand.count true :=
  Commute.flat_eq_outcome_probability c c' hgood har (h.good hgood) (h.arityOk hgood har) (h.flat_eq hgood) seq seq' hl hl'
    d d' script script' s s' h1 h2 hout

/-- **the probability of the recorded outcomes does not depend on the topological order**: two runs of the compile loop on
    the same sane circuit along two linear extensions in which every measuring operation recorded the same outcome found
    the same number of measurements random (and ended in the same signed stabilizer group) -/
theorem compiled_outcome_probability_independent_of_topological_order (c : Circuit) (hgood : c.Good)
    (har : Commute.ArityOk c) (seq1 seq2 : List Nat) (hl1 : c.isLinearExtension seq1 = true)
    (hl2 : c.isLinearExtension seq2 = true) (d1 d2 : Det) (script1 script2 : List Bool) (s1 s2 : RunState)
    (h1 : stabRun c.ne c.np d1 script1 ((c.sops seq1).map Commute.toCOp) = some s1)
    (h2 : stabRun c.ne c.np d2 script2 ((c.sops seq2).map Commute.toCOp) = some s2)
    (hout : Commute.feed c.ne c.np (c.sops seq1) s1.outs (fun _ => []) =
      Commute.feed c.ne c.np (c.sops seq2) s2.outs (fun _ => [])) :
    s1.rand.count true = s2.rand.count true :=
  rewrite_chain_preserves_outcome_probability c c hgood har (.refl c) seq1 seq2 hl1 hl2 d1 d2 script1 script2 s1 s2 h1 h2 hout

/-- the same for the rewrites: original and rewritten circuit, same outcome at every measuring operation ⇒ the same number
    of random measurements, i.e. the same probability of that outcome assignment -/
theorem rewrite_preserves_outcome_probability (c c' : Circuit) (hgood : c.Good) (har : Commute.ArityOk c)
    (h : Rewrites c c') (seq seq' : List Nat) (hl : c.isLinearExtension seq = true)
    (hl' : c'.isLinearExtension seq' = true) (d d' : Det) (script script' : List Bool) (s s' : RunState)
    (h1 : stabRun c.ne c.np d script ((c.sops seq).map Commute.toCOp) = some s)
    (h2 : stabRun c'.ne c'.np d' script' ((c'.sops seq').map Commute.toCOp) = some s')
    (hout : Commute.feed c.ne c.np (c.sops seq) s.outs (fun _ => []) =
      Commute.feed c'.ne c'.np (c'.sops seq') s'.outs (fun _ => [])) :
    s.rand.count true = s'.rand.count true :=
  rewrite_chain_preserves_outcome_probability c c' hgood har (Commute.RewritesStar.single h)
    seq seq' hl hl' d d' script script' s s' h1 h2 hout

/-! ## 2f. read as quantum states

  C07's Hilbert-space reading: `Hilbert.rho n (STab.ofTab t)` is the density matrix `∏ᵢ (1 + gᵢ)/2` (over ℂ, indexed by bit
  strings) of the stabilizer state of the tableau `t`; tableaux with the same signed stabilizer group have the same density
  matrix.  So the conclusions of §2c are equalities of quantum states. -/

/-- `rewrite_preserves_compiled_density_matrix` (below) for any finite chain of the five rewrites (`Commute.RewritesStar`) -/
theorem rewrite_chain_preserves_compiled_density_matrix (c c' : Circuit) (hgood : c.Good) (har : Commute.ArityOk c)
    (h : Commute.RewritesStar c c') (seq seq' : List Nat) (hl : c.isLinearExtension seq = true)
    (hl' : c'.isLinearExtension seq' = true) (d d' : Det) (script script' : List Bool) (s s' : RunState)
    (h1 : stabRun c.ne c.np d script ((c.sops seq).map Commute.toCOp) = some s)
    (h2 : stabRun c'.ne c'.np d' script' ((c'.sops seq').map Commute.toCOp) = some s')
    (hout : Commute.feed c.ne c.np (c.sops seq) s.outs (fun _ => []) =
      Commute.feed c'.ne c'.np (c'.sops seq') s'.outs (fun _ => [])) :
    Hilbert.rho (c.ne + c.np) (STab.ofTab s.t) = Hilbert.rho (c.ne + c.np) (STab.ofTab s'.t) := by
  obtain ⟨hne, hnp⟩ := h.counts hgood
  have t2 := (Commute.stabRun_refines c' (h.good hgood) (h.arityOk hgood har) seq' d' script' s' h2).1
  rw [hne, hnp] at t2
  exact Commute.rho_eq_of_grp_eq (Commute.stabRun_refines c hgood har seq d script s h1).1 t2
    (rewrite_chain_preserves_compiled_tableau c c' hgood har h seq seq' hl hl' d d' script script' s s' h1 h2 hout)

/-- **the quantum state the stabilizer backend compiles to does not depend on the topological order**: under the
    hypotheses of `compiled_tableau_independent_of_topological_order` the two final tableaux denote the same density matrix -/
theorem compiled_density_matrix_independent_of_topological_order (c : Circuit) (hgood : c.Good) (har : Commute.ArityOk c)
    (seq1 seq2 : List Nat) (hl1 : c.isLinearExtension seq1 = true) (hl2 : c.isLinearExtension seq2 = true)
    (d1 d2 : Det) (script1 script2 : List Bool) (s1 s2 : RunState)
    (h1 : stabRun c.ne c.np d1 script1 ((c.sops seq1).map Commute.toCOp) = some s1)
    (h2 : stabRun c.ne c.np d2 script2 ((c.sops seq2).map Commute.toCOp) = some s2)
    (hout : Commute.feed c.ne c.np (c.sops seq1) s1.outs (fun _ => []) =
      Commute.feed c.ne c.np (c.sops seq2) s2.outs (fun _ => [])) :
    Hilbert.rho (c.ne + c.np) (STab.ofTab s1.t) = Hilbert.rho (c.ne + c.np) (STab.ofTab s2.t) :=
  rewrite_chain_preserves_compiled_density_matrix c c hgood har (.refl c) seq1 seq2 hl1 hl2 d1 d2 script1 script2 s1 s2
    h1 h2 hout

/-- **the rewrites preserve the quantum state the stabilizer backend compiles to**: under the hypotheses of
    `rewrite_preserves_compiled_tableau` the two final tableaux denote the same density matrix -/
theorem rewrite_preserves_compiled_density_matrix (c c' : Circuit) (hgood : c.Good) (har : Commute.ArityOk c)
    (h : Rewrites c c') (seq seq' : List Nat) (hl : c.isLinearExtension seq = true)
    (hl' : c'.isLinearExtension seq' = true) (d d' : Det) (script script' : List Bool) (s s' : RunState)
    (h1 : stabRun c.ne c.np d script ((c.sops seq).map Commute.toCOp) = some s)
    (h2 : stabRun c'.ne c'.np d' script' ((c'.sops seq').map Commute.toCOp) = some s')
    (hout : Commute.feed c.ne c.np (c.sops seq) s.outs (fun _ => []) =
      Commute.feed c'.ne c'.np (c'.sops seq') s'.outs (fun _ => [])) :
    Hilbert.rho (c.ne + c.np) (STab.ofTab s.t) = Hilbert.rho (c.ne + c.np) (STab.ofTab s'.t) :=
  rewrite_chain_preserves_compiled_density_matrix c c' hgood har (Commute.RewritesStar.single h)
    seq seq' hl hl' d d' script script' s s' h1 h2 hout

/-! ## 3. library calls do not mutate their inputs -/

/-- the full statement, over a semantics of the Python heap that this development does not model: `exec h call` is
    the heap after a library call, `observe h x` everything that is behaviour of the live object `x` (its compiled
    state under every outcome script, its openQASM text, its noise descriptors, a target's canonical state) -/
def library_calls_do_not_mutate_inputs_statement (Heap Obj Obs Call : Type) (exec : Heap → Call → Heap)
    (observe : Heap → Obj → Obs) (live : Heap → Obj → Prop) : Prop :=
  ∀ h call x, live h x → observe (exec h call) x = observe h x

/-- what is proved: the statement instantiated with the *functional model* of the calls (`World.exec`: a call reads the
    circuits it is given and appends the circuits it derives).  MISSING: that the Python objects behave like the model —
    object aliasing (`op.noise` written on shared operation objects, in-place conversion of a target, temporary noise
    swaps inside `compile`) cannot be exhibited by a functional model; this half of the property is established by
    differential testing only (random interleavings with before/after fingerprints, harness/c13.py part B). -/
theorem library_calls_do_not_mutate_inputs_partial :
    library_calls_do_not_mutate_inputs_statement World Nat (Option Nat × Option (Nat × Nat × Nat × List (List Item))) Call
      World.exec (fun w i => ((w.circuits[i]?).map (·.nid), (w.circuits[i]?).map Circuit.flat))
      (fun w i => i < w.circuits.length) := by
  intro w call i hi
  obtain ⟨c, hc⟩ : ∃ c, w.circuits[i]? = some c := ⟨w.circuits[i], List.getElem?_eq_getElem hi⟩
  simp only [exec_keeps_object w call i c hc, hc]

/-- in the model, repeating a compile is evaluating a function twice -/
theorem repeated_compile_agrees {σ : Type} (app : SOp → σ → σ) (c : Circuit) (seq : List Nat) (s : σ) :
    runSeq app (c.sops seq) s = runSeq app (c.sops seq) s := rfl

/-! ## 4. non-vacuity -/

/-- `H e0 ; W[P,H] e0 ; I p0 ; CNOT e0→p0 ; Z p0 ; W[I,X] p0 ; MCR e0→p0` -/
def exC : Circuit :=
  let ops : List Op := [⟨.base .H, [⟨.e, 0⟩], [], false⟩, ⟨.wrapper [.P, .H], [⟨.e, 0⟩], [], false⟩,
    ⟨.base .I, [⟨.p, 0⟩], [], false⟩, ⟨.cnot, [⟨.e, 0⟩, ⟨.p, 0⟩], [], true⟩, ⟨.base .Z, [⟨.p, 0⟩], [], false⟩,
    ⟨.wrapper [.I, .X], [⟨.p, 0⟩], [], false⟩, ⟨.mcr, [⟨.e, 0⟩, ⟨.p, 0⟩], [0], false⟩]
  ops.foldl (fun c op => c.addCore op) (Circuit.empty 1 1 1)

example : exC.wire ⟨.e, 0⟩ = [1, 2, 4, 7] ∧ exC.wire ⟨.p, 0⟩ = [3, 4, 5, 6, 7] := by decide +kernel

/-- the rewrites act non-trivially on the example and keep `flat` -/
example : (exC.unwrapNodes [2, 6]).wire ⟨.e, 0⟩ = [1, 8, 9, 4, 7] ∧ (exC.unwrapNodes [2, 6]).flat = exC.flat := by decide +kernel
example : (exC.removeIdentity [3]).wire ⟨.p, 0⟩ = [4, 5, 6, 7] ∧ (exC.removeIdentity [3]).flat = exC.flat := by decide +kernel
def okOr (x : Except Err Circuit) : Bool × Circuit := match x with
  | .ok c => (true, c)
  | .error _ => (false, default)

/-- grouping merges `H ; W[P,H]` on `e0` into one wrapper and keeps `flat` -/
example : (exC.groupOneQubitGates [⟨.e, 0⟩, ⟨.p, 0⟩, ⟨.c, 0⟩]).wire ⟨.e, 0⟩ = [8, 4, 7] ∧
    (exC.groupOneQubitGates [⟨.e, 0⟩, ⟨.p, 0⟩, ⟨.c, 0⟩]).flat = exC.flat := by decide +kernel
example : (okOr (exC.assignNoise [1, 3, 2, 4, 5, 6, 7])).1 = true ∧
    (okOr (exC.assignNoise [1, 3, 2, 4, 5, 6, 7])).2.flat = exC.flat := by decide +kernel
example : exC.isLinearExtension [1, 3, 2, 4, 5, 6, 7] = true ∧ exC.isLinearExtension [3, 1, 2, 4, 6, 5, 7] = false := by decide +kernel

/-- a `MeasurementZ` is a boundary for grouping: it stays on its wires, the gates before it are still merged -/
example : ((exC.addCore ⟨.measZ, [⟨.e, 0⟩], [0], false⟩).groupOneQubitGates [⟨.e, 0⟩, ⟨.c, 0⟩]).wire ⟨.e, 0⟩ = [9, 4, 7, 8] ∧
    ((exC.addCore ⟨.measZ, [⟨.e, 0⟩], [0], false⟩).groupOneQubitGates [⟨.e, 0⟩, ⟨.c, 0⟩]).flat =
      (exC.addCore ⟨.measZ, [⟨.e, 0⟩], [0], false⟩).flat := by decide +kernel

/-- the example is well-formed and sane (hypotheses `WF`, `Arity1`, `OpsOk`, `Good` of the theorems above) -/
theorem exC_good : exC.Good :=
  Commute.Good_foldl_addCore _ _ (Good_empty 1 1 1) (by decide +kernel)

example : exC.Good := exC_good

example : exC.wfB = true ∧ exC.acyclicB = true := by decide +kernel

/-! ### non-vacuity of §2b / §2c: a measurement and a gate on another qubit, in two topological orders -/

/-- `H e0 ; CNOT e0→p0 ; MeasurementZ p0→c0 ; H e0`: the last two operations act on different qubits -/
def exD : Circuit :=
  let ops : List Op := [⟨.base .H, [⟨.e, 0⟩], [], false⟩, ⟨.cnot, [⟨.e, 0⟩, ⟨.p, 0⟩], [], false⟩,
    ⟨.measZ, [⟨.p, 0⟩], [0], false⟩, ⟨.base .H, [⟨.e, 0⟩], [], false⟩]
  ops.foldl (fun c op => c.addCore op) (Circuit.empty 1 1 1)

/-- two different compile sequences of the same circuit: the measurement of `p0` before / after the Hadamard on `e0` -/
example : exD.isLinearExtension [1, 2, 3, 4] = true ∧ exD.isLinearExtension [1, 2, 4, 3] = true ∧
    exD.sops [1, 2, 3, 4] ≠ exD.sops [1, 2, 4, 3] := by decide +kernel

theorem exD_good : exD.Good :=
  Commute.Good_foldl_addCore _ _ (Good_empty 1 1 1) (by decide +kernel)

theorem exD_arity : Commute.ArityOk exD :=
  Commute.arityOk_addCore _ _ (Commute.arityOk_addCore _ _ (Commute.arityOk_addCore _ _
    (Commute.arityOk_addCore _ _ (Commute.arityOk_empty 1 1 1) trivial) ⟨_, _, rfl⟩) ⟨_, rfl⟩) trivial

/-- the hypotheses of `compiled_tableau_independent_of_topological_order` are met by the two orders of `exD` with the
    measurement forced to 1 (it is random in both orders, the recorded outcome is 1 in both), so the two final tableaux —
    which are different tables — have the same signed stabilizer group; the runs are not the impossible state -/
example : ∃ s1 s2 : RunState,
    stabRun 1 1 .one [] ((exD.sops [1, 2, 3, 4]).map Commute.toCOp) = some s1 ∧
    stabRun 1 1 .one [] ((exD.sops [1, 2, 4, 3]).map Commute.toCOp) = some s2 ∧
    s1.outs = [true] ∧ s2.outs = [true] ∧ ∀ P, TabSpec.Grp s1.t P ↔ TabSpec.Grp s2.t P := by
  have e1 : (stabRun 1 1 .one [] ((exD.sops [1, 2, 3, 4]).map Commute.toCOp)).map (·.outs) = some [true] := by
    decide +kernel
  have e2 : (stabRun 1 1 .one [] ((exD.sops [1, 2, 4, 3]).map Commute.toCOp)).map (·.outs) = some [true] := by
    decide +kernel
  obtain ⟨s1, h1, o1⟩ := Option.map_eq_some_iff.mp e1
  obtain ⟨s2, h2, o2⟩ := Option.map_eq_some_iff.mp e2
  refine ⟨s1, s2, h1, h2, o1, o2, ?_⟩
  refine compiled_tableau_independent_of_topological_order exD exD_good exD_arity [1, 2, 3, 4] [1, 2, 4, 3]
    (by decide +kernel) (by decide +kernel) .one .one [] [] s1 s2 h1 h2 ?_
  rw [o1, o2]
  rfl

/-- the feasibility half of the commutation, spelled out: an assignment of outcomes that cannot occur when `b` is
    compiled before `a` (the semantics returns `none`) cannot occur when `a` is compiled before `b` either -/
example (ne np : Nat) (a b : SOp) (h : ∀ r, r ∈ a.regs → r ∉ b.regs) (s : Commute.GSt ne np)
    (hb : (Commute.appG ne np a (Commute.appG ne np b s)).1 = none) :
    (Commute.appG ne np b (Commute.appG ne np a s)).1 = none := by
  rw [← Commute.appG_comm ne np a b h s]; exact hb

/-- `H e0 ; CNOT e0→p0 ; P p1 ; W[H,P] e0` — gate-only, with two operations on `p1` / `e0` that can be exchanged -/
def exG : Circuit :=
  let ops : List Op := [⟨.base .H, [⟨.e, 0⟩], [], false⟩, ⟨.cnot, [⟨.e, 0⟩, ⟨.p, 0⟩], [], false⟩,
    ⟨.base .P, [⟨.p, 1⟩], [], false⟩, ⟨.wrapper [.H, .P], [⟨.e, 0⟩], [], false⟩]
  ops.foldl (fun c op => c.addCore op) (Circuit.empty 1 2 0)

example : exG.isLinearExtension [1, 2, 3, 4] = true ∧ exG.isLinearExtension [3, 1, 2, 4] = true ∧
    exG.isLinearExtension [1, 2, 4, 3] = true ∧ exG.sops [1, 2, 3, 4] ≠ exG.sops [3, 1, 2, 4] := by decide +kernel

theorem exG_good : exG.Good :=
  Commute.Good_foldl_addCore _ _ (Good_empty 1 2 0) (by decide +kernel)

theorem exG_arity : Commute.ArityOk exG :=
  Commute.arityOk_addCore _ _ (Commute.arityOk_addCore _ _ (Commute.arityOk_addCore _ _
    (Commute.arityOk_addCore _ _ (Commute.arityOk_empty 1 2 0) trivial) ⟨_, _, rfl⟩) trivial) trivial

theorem exG_gates : Commute.GateOnly exG := by
  unfold Commute.GateOnly exG
  simp only [List.foldl_cons, List.foldl_nil, addCore_eq]
  repeat' (apply NodesSat_insertAt)
  any_goals exact fun n op h => by simp [Circuit.empty] at h
  all_goals trivial

/-- the hypotheses of `gate_only_compile_independent_of_topological_order` are met by `exG`, and the run is a real one
    (`stabRun` returns a state) -/
example : stabRun 1 2 .zero [] ((exG.sops [1, 2, 3, 4]).map Commute.toCOp) =
      stabRun 1 2 .zero [] ((exG.sops [3, 1, 2, 4]).map Commute.toCOp) ∧
    (stabRun 1 2 .zero [] ((exG.sops [1, 2, 3, 4]).map Commute.toCOp)).isSome = true :=
  ⟨gate_only_compile_independent_of_topological_order exG exG_good exG_arity exG_gates [1, 2, 3, 4] [3, 1, 2, 4]
    (by decide +kernel) (by decide +kernel) .zero [], by decide +kernel⟩

/-- `exD` was built by `add`: its measurement lies on the classical wire it writes; the record theorem applies to its two
    orders (hypotheses `CThreaded`, `CArity`) -/
example : Commute.CThreaded exD ∧ Commute.CArity exD :=
  ⟨Commute.cThreaded_of_check exD exD_good.1 (by decide +kernel), Commute.cArity_of_check exD exD_good.1 (by decide +kernel)⟩

/-- without threading the record *does* depend on the order: `MeasurementZ p0 → c0` and `MeasurementZ p1 → c0` with the second
    one `insert_at`ed on its quantum wire only are unordered, and the two compile sequences leave different values in `c0`
    when the outcomes differ (forced outcome 0 for `|0⟩`, and `X p1` before the second measurement makes its outcome 1) -/
example :
    let ops1 : List COp := [.gate1 .X ⟨.p, 1⟩, .measz ⟨.p, 0⟩ 0, .measz ⟨.p, 1⟩ 0]
    let ops2 : List COp := [.gate1 .X ⟨.p, 1⟩, .measz ⟨.p, 1⟩ 0, .measz ⟨.p, 0⟩ 0]
    (stabRun 0 2 .zero [] ops1).map (fun s => finalRecord 1 s.writes) = some [true] ∧
    (stabRun 0 2 .zero [] ops2).map (fun s => finalRecord 1 s.writes) = some [false] := by decide +kernel

/-- `H e0 ; CNOT e0→p0 ; X p0 ; MeasurementZ e0→c0 ; MeasurementZ p0→c1`: the two measurements are anticorrelated -/
def exF : Circuit :=
  let ops : List Op := [⟨.base .H, [⟨.e, 0⟩], [], false⟩, ⟨.cnot, [⟨.e, 0⟩, ⟨.p, 0⟩], [], false⟩,
    ⟨.base .X, [⟨.p, 0⟩], [], false⟩, ⟨.measZ, [⟨.e, 0⟩], [0], false⟩, ⟨.measZ, [⟨.p, 0⟩], [1], false⟩]
  ops.foldl (fun c op => c.addCore op) (Circuit.empty 1 1 2)

/-- **why the outcomes must be attached to the operations** (hypothesis `hout`): with a *forced-outcome setting*
    (`measurement_determinism = 0`) the state the loop compiles to does depend on the topological order — the measurement met
    first is random and gets the forced 0, the other one is then determined to be 1.  Along `[…,4,5]` the emitter ends in
    `|0⟩` (`+Z_e` is a stabilizer), along `[…,5,4]` in `|1⟩`; the per-register outcome streams differ, so `hout` fails. -/
example : exF.isLinearExtension [1, 2, 3, 4, 5] = true ∧ exF.isLinearExtension [1, 2, 3, 5, 4] = true ∧
    ∃ s1 s2 : RunState,
      stabRun 1 1 .zero [] ((exF.sops [1, 2, 3, 4, 5]).map Commute.toCOp) = some s1 ∧
      stabRun 1 1 .zero [] ((exF.sops [1, 2, 3, 5, 4]).map Commute.toCOp) = some s2 ∧
      TabSpec.Grp s1.t (PRow.Zq 1 false) ∧ TabSpec.Grp s2.t (PRow.Zq 1 true) ∧
      Commute.feed 1 1 (exF.sops [1, 2, 3, 4, 5]) s1.outs (fun _ => []) ⟨.e, 0⟩ = [false] ∧
      Commute.feed 1 1 (exF.sops [1, 2, 3, 5, 4]) s2.outs (fun _ => []) ⟨.e, 0⟩ = [true] := by
  refine ⟨by decide +kernel, by decide +kernel, ?_⟩
  have e1 : (stabRun 1 1 .zero [] ((exF.sops [1, 2, 3, 4, 5]).map Commute.toCOp)).map
      (fun s => (s.outs, Commute.grpCheck s.t (PRow.Zq 1 false))) = some ([false, true], true) := by decide +kernel
  have e2 : (stabRun 1 1 .zero [] ((exF.sops [1, 2, 3, 5, 4]).map Commute.toCOp)).map
      (fun s => (s.outs, Commute.grpCheck s.t (PRow.Zq 1 true))) = some ([false, true], true) := by decide +kernel
  obtain ⟨s1, h1, o1⟩ := Option.map_eq_some_iff.mp e1
  obtain ⟨s2, h2, o2⟩ := Option.map_eq_some_iff.mp e2
  simp only [Prod.mk.injEq] at o1 o2
  refine ⟨s1, s2, h1, h2, Commute.grp_of_grpCheck _ _ o1.2, Commute.grp_of_grpCheck _ _ o2.2, ?_, ?_⟩
  · rw [o1.1]; rfl
  · rw [o2.1]; rfl

/-- the example after `unwrap_nodes`, `group_one_qubit_gates` and `remove_identity` -/
def exC3 : Circuit :=
  ((exC.unwrapNodes [2, 6]).groupOneQubitGates [⟨.e, 0⟩, ⟨.p, 0⟩, ⟨.c, 0⟩]).removeIdentity []

/-- a chain of four rewrites on the example (unwrap, group, remove identities, empty noise map): hypotheses of the
    `rewrite_chain_…` theorems -/
example : ∃ c4, exC3.assignNoise [12, 14, 4, 13, 7] = .ok c4 ∧ Commute.RewritesStar exC c4 ∧ c4.flat = exC.flat := by
  have hok : (okOr (exC3.assignNoise [12, 14, 4, 13, 7])).1 = true := by decide +kernel
  cases hr : exC3.assignNoise [12, 14, 4, 13, 7] with
  | error e => rw [hr] at hok; cases hok
  | ok c4 =>
    have hchain : Commute.RewritesStar exC c4 :=
      .tail (.tail (.tail (.tail (.refl _) (.unwrap [2, 6])) (.group [⟨.e, 0⟩, ⟨.p, 0⟩, ⟨.c, 0⟩])) (.removeIdentity []))
        (.assignNoise _ c4 hr)
    exact ⟨c4, rfl, hchain, hchain.flat_eq exC_good⟩

/-! ## 2g. the commutation hypothesis discharged for a density-matrix semantics

  `Commute.appD ne np : SOp → DSt → DSt` (Proofs/SweepCommuteDM.lean) reads an operation of the compile sequence exactly as the
  stabilizer semantics `Commute.appRaw` does — same decoding (`Commute.decode`), outcomes attached to the measured registers —
  but acts on complex `2ⁿ × 2ⁿ` matrices: gates conjugate by their unitaries (`Hilbert.gateMat`), a measurement with recorded
  outcome `o` conjugates by the projector `Hilbert.projZ n q o` (unnormalised branch: the trace is the probability of the recorded
  outcomes; an impossible branch is the zero matrix).  The hypothesis `hcomm` of §2 is a theorem for it
  (`Hilbert.local_conj_comm` of `Proofs/HilbertBridgeCommute.lean`: matrices local on disjoint qubit sets commute),
  for **every** matrix — not only for stabilizer states —, so the three theorems of §2 hold for the density-matrix reading of the
  compile loop with no physical assumption.  (With *forced* measurement settings instead of attached outcomes independent
  measurements do not commute, see `exF` in §4; `DMH.dmRunH` of C01 is setting-driven and is tied to the stabilizer run by
  `C01.backends_agree`, hence to these statements through §2c / §2f.) -/

/-- **operations on disjoint quantum registers commute in the density-matrix semantics** (every matrix, every outcome
    assignment) -/
theorem density_matrix_ops_on_disjoint_registers_commute (ne np : Nat) (a b : SOp) (h : ∀ r, r ∈ a.regs → r ∉ b.regs)
    (s : Commute.DSt (ne + np)) :
    Commute.appD ne np a (Commute.appD ne np b s) = Commute.appD ne np b (Commute.appD ne np a s) :=
  Commute.appD_comm ne np a b h s

/-- `same_wires_same_state` for the density-matrix semantics -/
theorem same_wires_same_state_dm (ne np : Nat) (l1 l2 : List SOp) (hne1 : ∀ a, a ∈ l1 → a.regs ≠ [])
    (hne2 : ∀ a, a ∈ l2 → a.regs ≠ []) (h : ∀ r, projReg SOp.regs r l1 = projReg SOp.regs r l2) (s : Commute.DSt (ne + np)) :
    runSeq (Commute.appD ne np) l1 s = runSeq (Commute.appD ne np) l2 s :=
  same_wires_same_state SOp.regs (Commute.appD ne np) (Commute.appD_comm ne np) l1 l2 hne1 hne2 h s

/-- **the density matrix a circuit compiles to does not depend on the topological order** `sequence()` returns — every
    circuit, every pair of linear extensions, every initial matrix, every assignment of outcomes to the measuring operations -/
theorem compile_independent_of_topological_order_dm (ne np : Nat) (c : Circuit) (hgood : c.Good) (seq1 seq2 : List Nat)
    (hl1 : c.isLinearExtension seq1 = true) (hl2 : c.isLinearExtension seq2 = true) (s : Commute.DSt (ne + np)) :
    runSeq (Commute.appD ne np) (c.sops seq1) s = runSeq (Commute.appD ne np) (c.sops seq2) s :=
  compile_independent_of_topological_order (Commute.appD ne np) (Commute.appD_comm ne np) c hgood seq1 seq2 hl1 hl2 s

/-- **copying, unwrapping, grouping, removing identities and attaching an empty noise map — and any chain of them — do not
    change the density matrix the circuit compiles to** -/
theorem rewrite_chain_preserves_compiled_state_dm (ne np : Nat) (c c' : Circuit) (hgood : c.Good) (h : Commute.RewritesStar c c')
    (seq seq' : List Nat) (hl : c.isLinearExtension seq = true) (hl' : c'.isLinearExtension seq' = true)
    (s : Commute.DSt (ne + np)) :
    runSeq (Commute.appD ne np) (c'.sops seq') s = runSeq (Commute.appD ne np) (c.sops seq) s :=
  rewrite_chain_preserves_compiled_state (Commute.appD ne np) (Commute.appD_comm ne np) c c' hgood h seq seq' hl hl' s

/-- **the density-matrix semantics is tied to the compile loop**: on gate-only circuits, running `Commute.appD` along the
    compile sequence from `|0…0⟩⟨0…0|` gives the density matrix `ρ(t)` of the very tableau `t` the stabilizer backend
    (`stabRun`) returns for that sequence — for every topological order, setting and script (`Commute.appD` refines the
    stabilizer compile step `Commute.appT` gate by gate: `rho_tab_gate` of C07; weight exactly 1).  The general case, with
    measurements, is `density_matrix_run_is_weighted_rho_of_compiled_tableau` below. -/
theorem density_matrix_semantics_is_rho_of_compiled_tableau (c : Circuit) (hgood : c.Good) (har : Commute.ArityOk c)
    (hg : Commute.GateOnly c) (seq : List Nat) (d : Det) (script : List Bool) (sc : Commute.Script) :
    ∃ s, stabRun c.ne c.np d script ((c.sops seq).map Commute.toCOp) = some s ∧
      runSeq (Commute.appD c.ne c.np) (c.sops seq) (some (Hilbert.tabRho (c.ne + c.np) (Tab.ket0 (c.ne + c.np)), sc))
        = some (Hilbert.tabRho (c.ne + c.np) s.t, sc) := by
  have hok := Commute.sops_gate_ok c hgood har hg seq
  obtain ⟨s', h1, _, h2⟩ := Commute.runSeq_appD_refines c.ne c.np (c.sops seq) (fun a ha => ⟨(hok a ha).1, (Commute.sops_ok c hgood har seq a ha).2⟩)
    { t := Tab.ket0 (c.ne + c.np), writes := [], script := script, rand := [], outs := [] } rfl sc
  exact ⟨s', by rw [Commute.stabRun_eq_runSeq c hgood har hg seq d script c.ne c.np rfl rfl]; exact h1, h2⟩

/-- **the measurement primitive of the density-matrix semantics is the Born-weighted tableau measurement**: on `ρ(t)` (valid
    tableau, real stabilizer rows) with recorded outcome `o` it returns `w · ρ(t')`, `t'` the tableau `z_measurement_gate`
    returns (C07 `meas_density`), `w = tr(Π_o ρ)` the probability of the recorded outcome when it can occur — then it is the
    outcome the API reports — and `w = 0` (zero matrix: the branch cannot occur) otherwise; scalar weights pass through every
    primitive (`Commute.appPD_smul`), so weights multiply along a run -/
theorem density_matrix_measurement_is_born_weighted_tableau_measurement (t : Tab) (q : Nat) (o : Bool) (hq : q < t.n)
    (hv : t.Valid) (hr : t.StabReal) :
    Commute.appPD t.n (.meas q o) (some (Hilbert.tabRho t.n t)) =
      some ((if (t.zMeasure q o).2.1 = o then Matrix.trace (Hilbert.proj t.n (PRow.Zq q o) * Hilbert.tabRho t.n t) else 0) •
        Hilbert.tabRho t.n (t.zMeasure q o).1) :=
  Commute.appPD_meas_tab t q o hq hv hr

/-- the hypotheses of `density_matrix_semantics_is_rho_of_compiled_tableau` are met by `exG` (gate-only, good, arities right) -/
example (sc : Commute.Script) : ∃ s, stabRun exG.ne exG.np .zero [] ((exG.sops [1, 2, 3, 4]).map Commute.toCOp) = some s ∧
    runSeq (Commute.appD exG.ne exG.np) (exG.sops [1, 2, 3, 4])
      (some (Hilbert.tabRho (exG.ne + exG.np) (Tab.ket0 (exG.ne + exG.np)), sc)) = some (Hilbert.tabRho (exG.ne + exG.np) s.t, sc) :=
  density_matrix_semantics_is_rho_of_compiled_tableau exG exG_good exG_arity exG_gates [1, 2, 3, 4] .zero [] sc

/-- **every operation of the compile sequence, in the density-matrix semantics, refines the tableau API of C07 with Born
    weights**: on `c · ρ(t)` (valid tableau, real stabilizer rows) it returns `(c · w) · ρ(t')`, where `t'` is the tableau after
    the API calls the operation makes (`Commute.apiPs`: row maps for gates, `z_measurement_gate` with the recorded outcome, the
    classically controlled correction / reset flip iff the recorded outcome is 1) and `w` (`Commute.weightPs`) the product of the
    Born probabilities of the recorded outcomes — `0`, i.e. the zero matrix, iff a recorded outcome cannot occur.  Validity and
    realness of `t'` are part of the statement, so the theorem chains along a compile sequence. -/
theorem density_matrix_operation_refines_tableau_api (ne np : Nat) (a : SOp) (d : Commute.Dec)
    (hd : Commute.decode ne np a = some d) (t : Tab) (hn : t.n = ne + np) (hv : t.Valid) (hr : t.StabReal)
    (sc : Commute.Script) (hhas : d.has sc) (hok : ∀ p ∈ d.prims (d.out sc), Commute.primOk (ne + np) p = true) (c : ℂ) :
    Commute.appD ne np a (some (c • Hilbert.tabRho (ne + np) t, sc)) =
      some ((c * Commute.weightPs (d.prims (d.out sc)) t) • Hilbert.tabRho (ne + np) (Commute.apiPs (d.prims (d.out sc)) t),
        d.pop sc) ∧
    (Commute.apiPs (d.prims (d.out sc)) t).Valid ∧ (Commute.apiPs (d.prims (d.out sc)) t).StabReal ∧
    (Commute.apiPs (d.prims (d.out sc)) t).n = ne + np :=
  Commute.appD_api ne np a d hd t hn hv hr sc hhas hok c

/-- **the density-matrix semantics refines the stabilizer semantics of §2b, operation by operation** (gates, measurements,
    classically controlled corrections, measure-and-reset): on a valid tableau `t` with real stabilizer rows, with `t'` the
    tableau after the operation's API calls and `w` the Born weight of the recorded outcome,
    * `Commute.appRaw` on the group of `t` is undefined ("this outcome cannot occur") **iff** `w = 0`, and otherwise returns the
      group of `t'` with the outcome stream popped;
    * `Commute.appD` on `c · ρ(t)` returns `(c · w) · ρ(t')` with the same stream;
    * `t'` is again valid with real stabilizer rows, so the statement chains along any compile sequence: the matrix the
      density-matrix semantics carries is (probability of the recorded outcomes) × (density matrix of the stabilizer state the
      stabilizer semantics carries). -/
theorem density_matrix_semantics_refines_stabilizer_semantics (ne np : Nat) (a : SOp) (d : Commute.Dec)
    (hd : Commute.decode ne np a = some d) (t : Tab) (ht : Commute.TInv (ne + np) t) (sc : Commute.Script) (hhas : d.has sc)
    (hok : ∀ p ∈ d.prims (d.out sc), Commute.primOk (ne + np) p = true) (c : ℂ) :
    Commute.appRaw ne np a (some (TabSpec.gstate t, sc)) =
      (if Commute.weightPs (d.prims (d.out sc)) t = 0 then none
       else some (TabSpec.gstate (Commute.apiPs (d.prims (d.out sc)) t), d.pop sc)) ∧
    Commute.appD ne np a (some (c • Hilbert.tabRho (ne + np) t, sc)) =
      some ((c * Commute.weightPs (d.prims (d.out sc)) t) • Hilbert.tabRho (ne + np) (Commute.apiPs (d.prims (d.out sc)) t),
        d.pop sc) ∧
    Commute.TInv (ne + np) (Commute.apiPs (d.prims (d.out sc)) t) :=
  Commute.appD_refines_appRaw ne np a d hd t ht sc hhas hok c

/-- **the density-matrix semantics is tied to the compile loop, measurements included**: for every sane circuit, order, setting
    and script, if the stabilizer backend (`stabRun`) returns the state `s'`, then the density-matrix semantics run along the
    same compile sequence from `|0…0⟩⟨0…0|`, on the outcome streams made of the outcomes `stabRun` recorded, ends in
    `w · ρ(s'.t)` with `w ≠ 0` — the density matrix of the compiled tableau times the probability of the recorded outcomes —
    and has consumed exactly those outcomes.  (`Commute.run_refines_dm` + `Commute.stabRun_refines` + gauge independence
    `Commute.rho_eq_of_grp_eq`.) -/
theorem density_matrix_run_is_weighted_rho_of_compiled_tableau (c : Circuit) (hgood : c.Good) (har : Commute.ArityOk c)
    (seq : List Nat) (d : Det) (script : List Bool) (s' : RunState)
    (h : stabRun c.ne c.np d script ((c.sops seq).map Commute.toCOp) = some s') (sc : Commute.Script) :
    ∃ w : ℂ, w ≠ 0 ∧
      runSeq (Commute.appD c.ne c.np) (c.sops seq)
        (some (Hilbert.tabRho (c.ne + c.np) (Tab.ket0 (c.ne + c.np)), Commute.feed c.ne c.np (c.sops seq) s'.outs sc))
        = some (w • Hilbert.tabRho (c.ne + c.np) s'.t, sc) := by
  obtain ⟨hT, hrun⟩ := Commute.stabRun_refines c hgood har seq d script s' h
  obtain ⟨t', w, hw, ht', hg', hD⟩ := Commute.run_refines_dm c.ne c.np (c.sops seq) (Commute.sops_ok c hgood har seq)
    (Tab.ket0 (c.ne + c.np)) (Commute.feed c.ne c.np (c.sops seq) s'.outs sc) 1 (Commute.tinv_ket0 _) (TabSpec.gstate s'.t) sc (hrun sc)
  have hρ : Hilbert.tabRho (c.ne + c.np) t' = Hilbert.tabRho (c.ne + c.np) s'.t := by
    apply Commute.rho_eq_of_grp_eq ht' hT
    intro P
    have := congrArg TabSpec.GState.G hg'
    exact (iff_of_eq (congrFun this P)).symm
  rw [one_smul, one_mul, hρ] at hD
  exact ⟨w, hw, hD⟩

/-- **… and to C01's reading of the `DensityMatrixCompiler`**: `DMH.dmRunH` (C01: the setting- and script-driven Hilbert-space
    run of the density-matrix backend, normalised after every measurement) returns, on the same compile sequence, a state
    whose matrix is `ρ(s'.t)` (`C01.backends_agree`), and the outcome-attached, unnormalised run of `Commute.appD` ends in
    `w` times that matrix, `w ≠ 0` the probability of the recorded outcomes.  So the order-independence and rewrite-invariance
    theorems of this section (`compile_independent_of_topological_order_dm`, `rewrite_chain_preserves_compiled_state_dm`) speak
    about the very matrices C01's density-matrix run produces, branch by branch. -/
theorem density_matrix_compiler_run_is_normalised_appD_run (c : Circuit) (hgood : c.Good) (har : Commute.ArityOk c)
    (seq : List Nat) (d : Det) (script : List Bool) (s' : RunState)
    (h : stabRun c.ne c.np d script ((c.sops seq).map Commute.toCOp) = some s') (sc : Commute.Script) :
    ∃ (r : DMH.HState (c.ne + c.np)) (w : ℂ),
      DMH.dmRunH c.ne c.np d script ((c.sops seq).map Commute.toCOp) = some r ∧
      r.ρ = Hilbert.tabRho (c.ne + c.np) s'.t ∧ w ≠ 0 ∧
      runSeq (Commute.appD c.ne c.np) (c.sops seq)
        (some (Hilbert.tabRho (c.ne + c.np) (Tab.ket0 (c.ne + c.np)), Commute.feed c.ne c.np (c.sops seq) s'.outs sc))
        = some (w • r.ρ, sc) := by
  have hwf : ∀ op, op ∈ (c.sops seq).map Commute.toCOp → op.WF c.np := by
    intro op hop
    obtain ⟨a, ha, rfl⟩ := List.mem_map.1 hop
    obtain ⟨hsome, hnd⟩ := Commute.sops_ok c hgood har seq a ha
    obtain ⟨dd, hdd⟩ := Option.isSome_iff_exists.1 hsome
    have hw2 := (Commute.decode_toCOp c.ne c.np a dd hdd hnd).1
    cases hc : Commute.toCOp a <;> rw [hc] at hw2 <;> first | exact hw2 | trivial
  obtain ⟨w, hw, hD⟩ := density_matrix_run_is_weighted_rho_of_compiled_tableau c hgood har seq d script s' h sc
  exact ⟨_, w, DMH.dmRunH_eq_stab c.ne c.np d script _ hwf s' h, rfl, hw, hD⟩

/-- the hypotheses of `density_matrix_run_is_weighted_rho_of_compiled_tableau` are met by `exD` (a circuit with a measurement,
    forced to 1, which is random): `stabRun` returns, so the density-matrix run along its compile sequence ends in a non-zero
    multiple of the density matrix of the compiled tableau -/
example (sc : Commute.Script) : ∃ (s' : RunState) (w : ℂ), w ≠ 0 ∧
    runSeq (Commute.appD exD.ne exD.np) (exD.sops [1, 2, 3, 4])
      (some (Hilbert.tabRho (exD.ne + exD.np) (Tab.ket0 (exD.ne + exD.np)), Commute.feed exD.ne exD.np (exD.sops [1, 2, 3, 4]) s'.outs sc))
      = some (w • Hilbert.tabRho (exD.ne + exD.np) s'.t, sc) := by
  have e1 : (stabRun exD.ne exD.np .one [] ((exD.sops [1, 2, 3, 4]).map Commute.toCOp)).isSome = true := by decide +kernel
  obtain ⟨s1, h1⟩ := Option.isSome_iff_exists.mp e1
  obtain ⟨w, hw, hD⟩ := density_matrix_run_is_weighted_rho_of_compiled_tableau exD exD_good exD_arity [1, 2, 3, 4] .one [] s1 h1 sc
  exact ⟨s1, w, hw, hD⟩

/-- its hypotheses are met: `ClassicalCNOT(p0 → p1)` on two photons with recorded outcome 1 decodes to
    `[measure p0 ↦ 1, X p1]`, both within range, and an outcome is supplied -/
example : ∃ d, Commute.decode 0 2 ⟨.node .ccnot [⟨.p, 0⟩, ⟨.p, 1⟩] [0], [⟨.p, 0⟩, ⟨.p, 1⟩]⟩ = some d ∧
    d.has (fun _ => [true]) ∧ d.prims (d.out (fun _ => [true])) = [.meas 0 true, .x 1] ∧
    ∀ p ∈ d.prims (d.out (fun _ => [true])), Commute.primOk 2 p = true := by
  refine ⟨_, rfl, ?_, rfl, ?_⟩
  · show (fun _ : Reg => [true]) ⟨.p, 0⟩ ≠ []
    simp
  · intro p hp
    have : p ∈ [Tab.Op.meas 0 true, Tab.Op.x 1] := hp
    simp only [List.mem_cons, List.not_mem_nil, or_false] at this
    rcases this with rfl | rfl <;> rfl

/-- … and `|00⟩` satisfies the tableau invariant `Commute.TInv` -/
example : Commute.TInv (0 + 2) (Tab.ket0 2) := Commute.tinv_ket0 2

/-- the hypotheses of `density_matrix_measurement_is_born_weighted_tableau_measurement` are met by `|00⟩` -/
example : 0 < (Tab.ket0 2).n ∧ (Tab.ket0 2).Valid ∧ (Tab.ket0 2).StabReal :=
  ⟨by decide, (Commute.tinv_ket0 2).valid, (Commute.tinv_ket0 2).real⟩

/-- the hypothesis of the commutation theorems is met by real operations: a Hadamard on emitter 0 and a CNOT on photons 0, 1 -/
example : ∀ r, r ∈ [(⟨.e, 0⟩ : Reg)] → r ∉ [(⟨.p, 0⟩ : Reg), ⟨.p, 1⟩] := by decide

end Graphiq.C13
