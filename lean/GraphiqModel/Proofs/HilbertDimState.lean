/-
  Proofs/HilbertDimState.lean — a stabilizer state with an unentangled qubit is a product state, in Hilbert space.

  * `site1 σ q` : the one-qubit state `(1 + σ_q)/2` of a single-site stabilizer `σ` (`ketbra s = |s⟩⟨s|` for `±Z_q`);
  * `bloch x z r = (1 ± σ(x,z))/2`;
  * the images of the one-site generators `X_q`, `Y_q`, `Z_q` under `H`, `P` and CNOT, as equalities of rows;
  * **`rho_site_factor`** : if the stabilizer group of a valid tableau `t1` on `m+1` qubits contains a single-site Pauli
    `σ` on qubit `q` and, for every generator `P'` of a valid tableau `t'` on `m` qubits, the row `P'` with an identity
    inserted at `q`, then `ρ(t1) = ρ(t') ⊗_q (1 + σ_q)/2`.
  This one lemma turns the group-level specifications of `insert_qubit`, `remove_qubit` and `partial_trace`
  (`Proofs/TabSpec*.lean`) into statements about density matrices (`Proofs/HilbertDimOps.lean`).
-/
import GraphiqModel.Proofs.HilbertDimSite
import GraphiqModel.Proofs.TabSpecRemove
namespace Graphiq
namespace Hilbert
open Matrix PRow TabSpec

/-! ### one-qubit states -/

noncomputable def ketbra (s : Bool) : Matrix Bool Bool ℂ := Matrix.of fun a b => if a = s ∧ b = s then 1 else 0

noncomputable def bloch (x z r : Bool) : Matrix Bool Bool ℂ :=
  (1 / 2 : ℂ) • (1 + (if r then (-1 : ℂ) else 1) • sigma x z)

/-- the one-qubit state `(1 + σ_q)/2` fixed by the single-site stabilizer `σ` -/
noncomputable def site1 (σ : PRow) (q : Nat) : Matrix Bool Bool ℂ :=
  (1 / 2 : ℂ) • (1 + iPow σ.ph • sigma (σ.x q) (σ.z q))

theorem site1_eq_bloch (σ : PRow) (q : Nat) (hip : σ.ip = false) : site1 σ q = bloch (σ.x q) (σ.z q) σ.r := by
  unfold site1 bloch
  have : iPow σ.ph = if σ.r then (-1 : ℂ) else 1 := by
    unfold PRow.ph
    rw [hip]
    have e : 2 * Bool.toInt' σ.r + Bool.toInt' false = 2 * Bool.toInt' σ.r := by simp [Bool.toInt']
    rw [e, iPow_two_mul_toInt']
  rw [this]

theorem half_one_add_facts (u : Matrix Bool Bool ℂ) (c : ℂ) (hu : u * u = 1) (hh : uᴴ = u)
    (ht : Matrix.trace u = 0) (hc : c * c = 1) (hs : star c = c) :
    ((1 / 2 : ℂ) • (1 + c • u)) * ((1 / 2 : ℂ) • (1 + c • u)) = (1 / 2 : ℂ) • (1 + c • u) ∧
    ((1 / 2 : ℂ) • (1 + c • u))ᴴ = (1 / 2 : ℂ) • (1 + c • u) ∧
    Matrix.trace ((1 / 2 : ℂ) • (1 + c • u)) = 1 := by
  have half : (1 / 2 : ℂ) * (1 / 2) * 2 = 1 / 2 := by norm_num
  have shalf : star (1 / 2 : ℂ) = 1 / 2 := by rw [star_div₀, star_one, star_ofNat]
  refine ⟨?_, ?_, ?_⟩
  · have sq : (1 + c • u) * (1 + c • u) = (2 : ℂ) • (1 + c • u) := by
      rw [add_mul, mul_add, mul_add, Matrix.one_mul, Matrix.mul_one, Matrix.one_mul, smul_mul_smul_comm, hu, hc,
        one_smul, two_smul, add_comm (c • u) 1]
    rw [smul_mul_smul_comm, sq, smul_smul, half]
  · rw [Matrix.conjTranspose_smul, Matrix.conjTranspose_add, Matrix.conjTranspose_one, Matrix.conjTranspose_smul, hh, hs,
      shalf]
  · rw [Matrix.trace_smul, Matrix.trace_add, Matrix.trace_smul, ht, Matrix.trace_one, smul_zero, add_zero,
      Fintype.card_bool]
    norm_num

theorem sigma_facts :
    (sigmaX * sigmaX = 1 ∧ sigmaXᴴ = sigmaX ∧ Matrix.trace sigmaX = 0) ∧
    (sigmaY * sigmaY = 1 ∧ sigmaYᴴ = sigmaY ∧ Matrix.trace sigmaY = 0) ∧
    (sigmaZ * sigmaZ = 1 ∧ sigmaZᴴ = sigmaZ ∧ Matrix.trace sigmaZ = 0) := by
  refine ⟨⟨sigmaX_mul_self, sigmaX_conjTranspose, ?_⟩, ⟨sigmaY_mul_self, sigmaY_conjTranspose, ?_⟩,
    ⟨sigmaZ_mul_self, sigmaZ_conjTranspose, ?_⟩⟩
  · simp [sigmaX, Matrix.trace]
  · simp [sigmaY, Matrix.trace]
  · simp [sigmaZ, Matrix.trace]

theorem bloch_facts (x z r : Bool) (h : (x || z) = true) :
    bloch x z r * bloch x z r = bloch x z r ∧ (bloch x z r)ᴴ = bloch x z r ∧ Matrix.trace (bloch x z r) = 1 := by
  have hc : ((if r then (-1 : ℂ) else 1) * (if r then (-1 : ℂ) else 1) = 1) ∧
      star (if r then (-1 : ℂ) else 1) = (if r then (-1 : ℂ) else 1) := by cases r <;> simp
  obtain ⟨fx, fy, fz⟩ := sigma_facts
  unfold bloch
  cases x <;> cases z
  · simp at h
  · rw [sigma_ft]; exact half_one_add_facts _ _ fz.1 fz.2.1 fz.2.2 hc.1 hc.2
  · rw [sigma_tf]; exact half_one_add_facts _ _ fx.1 fx.2.1 fx.2.2 hc.1 hc.2
  · rw [sigma_tt]; exact half_one_add_facts _ _ fy.1 fy.2.1 fy.2.2 hc.1 hc.2

theorem site1_facts (σ : PRow) (q : Nat) (hip : σ.ip = false) (h : σ.x q = true ∨ σ.z q = true) :
    site1 σ q * site1 σ q = site1 σ q ∧ (site1 σ q)ᴴ = site1 σ q ∧ Matrix.trace (site1 σ q) = 1 := by
  rw [site1_eq_bloch σ q hip]
  apply bloch_facts
  rcases h with h | h <;> simp [h]

theorem bloch_Z (s : Bool) : bloch false true s = ketbra s := by
  unfold bloch
  rw [sigma_ft]
  ext a b
  simp only [ketbra, sigmaZ, Matrix.smul_apply, Matrix.add_apply, Matrix.of_apply, Matrix.one_apply, smul_eq_mul]
  cases s <;> cases a <;> cases b <;> norm_num

theorem trace_ketbra (s : Bool) : Matrix.trace (ketbra s) = 1 := by
  rw [← bloch_Z]
  exact (bloch_facts false true s rfl).2.2

theorem site1_Zq (q : Nat) (s : Bool) : site1 (Zq q s) q = ketbra s := by
  rw [site1_eq_bloch _ _ rfl]
  have e2 : (Zq q s).z q = true := by simp [Zq]
  show bloch false ((Zq q s).z q) s = ketbra s
  rw [e2, bloch_Z]

theorem site1_Xq (q : Nat) (s : Bool) : site1 (Xq q s) q = bloch true false s := by
  rw [site1_eq_bloch _ _ rfl]
  have e : (Xq q s).x q = true := by simp [Xq]
  show bloch ((Xq q s).x q) false s = _
  rw [e]

theorem site1_Yrow (q : Nat) (s : Bool) : site1 (Yrow q s) q = bloch true true s := by
  rw [site1_eq_bloch _ _ rfl]
  have e : decide (q = q) = true := decide_eq_true rfl
  show bloch (decide (q = q)) (decide (q = q)) s = _
  rw [e]

/-! ### a single-site stabilizer as an operator -/

theorem pauliMat_singleSite (m q : Nat) (hq : q ≤ m) (σ : PRow) (hσ : SingleSite (m + 1) q σ) :
    pauliMat (m + 1) σ = insSite q 1 (iPow σ.ph • sigma (σ.x q) (σ.z q)) := by
  rw [pauliMat_site m q hq σ]
  have h1 : pauliMat m (σ.deleteCol q) = iPow σ.ph • 1 := by
    rw [pauliMat_phase, TabSpec.deleteCol_ph]
    have : EqOn m (bare (σ.deleteCol q)) PRow.one := by
      refine ⟨fun j hj => ?_, rfl, rfl⟩
      show (σ.deleteCol q).x j = false ∧ (σ.deleteCol q).z j = false
      simp only [PRow.deleteCol]
      by_cases h : j < q
      · simp only [h, if_true]; exact hσ.2 j (by omega) (by omega)
      · simp only [h, if_false]; exact hσ.2 (j + 1) (by omega) (by omega)
    rw [pauliMat_congr m _ _ this, pauliMat_one]
  rw [h1, insSite_smul_left, insSite_smul_right]

theorem proj_singleSite (m q : Nat) (hq : q ≤ m) (σ : PRow) (hσ : SingleSite (m + 1) q σ) :
    proj (m + 1) σ = insSite q 1 (site1 σ q) := by
  unfold proj site1
  rw [pauliMat_singleSite m q hq σ hσ, insSite_smul_right q (1 / 2), insSite_add_right, insSite_one q hq,
    insSite_smul_right]

theorem proj_Zq_site (m q : Nat) (hq : q ≤ m) (s : Bool) : proj (m + 1) (Zq q s) = insSite q 1 (ketbra s) := by
  rw [proj_singleSite m q hq (Zq q s) ⟨Or.inr (by simp [Zq]), fun j _ hj => by simp [Zq, hj]⟩, site1_Zq]

theorem insSite_rhoTo (m q : Nat) (hq : q ≤ m) (r : Nat → PRow) (k : Nat) :
    insSite q (rhoTo m r k) 1 = rhoTo (m + 1) (fun i => (r i).insertCol q) k := by
  induction k with
  | zero => exact insSite_one q hq
  | succ j ih =>
    show insSite q (rhoTo m r j * proj m (r j)) 1 = rhoTo (m + 1) _ j * proj (m + 1) ((r j).insertCol q)
    rw [← ih, proj_insertCol m q hq, insSite_mul q hq, Matrix.mul_one]

/-! ### states of Clifford tableaux -/

theorem grp_mul_rho (t : Tab) (hv : t.Valid) (hr : t.StabReal) (g : PRow) (hg : Grp t g) :
    pauliMat t.n g * rho t.n (STab.ofTab t) = rho t.n (STab.ofTab t) :=
  span_mul_rho (STab.ofTab t) (ofTab_good t hv) g (inSpan_ofTab t hr g hg)

/-- **Product form.**  `t1` valid on `m+1` qubits, `t'` valid on `m` qubits; the group of `t1` contains a single-site
    Pauli `σ` on qubit `q` and every generator of `t'` with an identity inserted at `q`.  Then
    `ρ(t1) = ρ(t') ⊗_q (1 + σ_q)/2`.  (Both sides are Hermitian idempotents of trace one and the right side absorbs the left:
    `projector_eq_of_le`.) -/
theorem rho_site_factor (q : Nat) (t1 t' : Tab) (hq : q ≤ t'.n) (h1 : t1.n = t'.n + 1)
    (v1 : t1.Valid) (r1 : t1.StabReal) (v' : t'.Valid) (r' : t'.StabReal)
    (σ : PRow) (hσg : Grp t1 σ) (hσ : SingleSite (t'.n + 1) q σ)
    (hins : ∀ i, i < t'.n → Grp t1 ((t'.stab i).insertCol q)) :
    rho (t'.n + 1) (STab.ofTab t1) = insSite q (rho t'.n (STab.ofTab t')) (site1 σ q) := by
  have fix : ∀ g, Grp t1 g →
      pauliMat (t'.n + 1) g * rho (t'.n + 1) (STab.ofTab t1) = rho (t'.n + 1) (STab.ofTab t1) := by
    intro g hg
    have := grp_mul_rho t1 v1 r1 g hg
    rw [h1] at this; exact this
  have σreal : σ.ip = false := grp_real t1 v1 r1 σ hσg
  obtain ⟨s1, s2, s3⟩ := site1_facts σ q σreal hσ.1
  have g' := ofTab_good t' v'
  have idem' := rho_idem (STab.ofTab t') g'
  have herm' := rho_hermitian (STab.ofTab t') g'
  have tr' := rho_ofTab_trace t' v'
  have e' : (STab.ofTab t').n = t'.n := rfl
  rw [e'] at idem' herm'
  have g1 := ofTab_good t1 v1
  have idem1 := rho_idem (STab.ofTab t1) g1
  have herm1 := rho_hermitian (STab.ofTab t1) g1
  have tr1 := rho_ofTab_trace t1 v1
  have e1 : (STab.ofTab t1).n = t1.n := rfl
  rw [e1, h1] at idem1 herm1
  rw [h1] at tr1
  symm
  apply projector_eq_of_le
  · rw [insSite_mul q hq, idem', s1]
  · rw [insSite_conjTranspose, herm', s2]
  · exact idem1
  · exact herm1
  · -- the product state absorbs `ρ(t1)`: it is a product of projectors of elements of the group of `t1`
    have split : insSite q (rho t'.n (STab.ofTab t')) (site1 σ q)
        = rhoTo (t'.n + 1) (fun i => ((STab.ofTab t').row i).insertCol q) t'.n * proj (t'.n + 1) σ := by
      rw [proj_singleSite t'.n q hq σ hσ, ← insSite_rhoTo t'.n q hq, insSite_mul q hq, Matrix.mul_one, Matrix.one_mul]
      rfl
    rw [split, Matrix.mul_assoc, proj_mul_of_fixed (t'.n + 1) σ _ (fix σ hσg)]
    apply rhoTo_mul_of_fixed
    intro i hi
    have e : (STab.ofTab t').row i = t'.stab i := ofTab_row_real t' r' i hi
    rw [e]
    exact fix _ (hins i hi)
  · rw [trace_insSite q hq, tr', s3, tr1, _root_.mul_one]

/-! ### the one-site generators under `H`, `P` and CNOT, as rows (any sign; `k ≠ q`: a gate on `q` fixes the generators of `k`) -/

theorem h_Xq (q : Nat) (sg : Bool) : PRow.h q (Xq q sg) = Zq q sg := by
  simp only [PRow.h, Xq, Zq, PRow.mk.injEq, decide_true, Bool.and_false, Bool.xor_false, and_true]
  constructor <;> funext j <;> by_cases h : j = q <;> simp [h]

theorem h_Zq (q : Nat) (sg : Bool) : PRow.h q (Zq q sg) = Xq q sg := by
  simp only [PRow.h, Xq, Zq, PRow.mk.injEq, decide_true, Bool.false_and, Bool.xor_false, and_true]
  constructor <;> funext j <;> by_cases h : j = q <;> simp [h]

theorem h_Yq (q : Nat) (sg : Bool) : PRow.h q (Yrow q sg) = Yrow q (!sg) := by
  simp only [PRow.h, Yrow, PRow.mk.injEq, decide_true, Bool.and_true, Bool.xor_true, and_true]
  constructor <;> funext j <;> by_cases h : j = q <;> simp [h]

theorem s_Xq (q : Nat) (sg : Bool) : PRow.s q (Xq q sg) = Yrow q sg := by
  simp only [PRow.s, Xq, Yrow, PRow.mk.injEq, decide_true, Bool.and_false, Bool.xor_false, true_and, and_true]
  funext j
  by_cases h : j = q <;> simp [h]

theorem s_Yq (q : Nat) (sg : Bool) : PRow.s q (Yrow q sg) = Xq q (!sg) := by
  simp only [PRow.s, Xq, Yrow, PRow.mk.injEq, decide_true, Bool.and_true, Bool.xor_true, true_and, and_true]
  funext j
  by_cases h : j = q <;> simp [h]

theorem s_Zq (q : Nat) (sg : Bool) : PRow.s q (Zq q sg) = Zq q sg := by
  simp only [PRow.s, Zq, PRow.mk.injEq, decide_true, Bool.false_and, Bool.xor_false, true_and, and_true]
  funext j
  by_cases h : j = q <;> simp [h]

theorem h_Xq_off (q k : Nat) (hk : k ≠ q) (sg : Bool) : PRow.h q (Xq k sg) = Xq k sg := by
  have hqk : decide (q = k) = false := decide_eq_false (Ne.symm hk)
  simp only [PRow.h, Xq, PRow.mk.injEq, hqk, Bool.false_and, Bool.xor_false, and_true]
  constructor <;> funext j <;> by_cases h : j = q <;> simp [h, Ne.symm hk]

theorem h_Zq_off (q k : Nat) (hk : k ≠ q) (sg : Bool) : PRow.h q (Zq k sg) = Zq k sg := by
  have hqk : decide (q = k) = false := decide_eq_false (Ne.symm hk)
  simp only [PRow.h, Zq, PRow.mk.injEq, hqk, Bool.and_false, Bool.xor_false, and_true]
  constructor <;> funext j <;> by_cases h : j = q <;> simp [h, Ne.symm hk]

theorem s_Xq_off (q k : Nat) (hk : k ≠ q) (sg : Bool) : PRow.s q (Xq k sg) = Xq k sg := by
  have hqk : decide (q = k) = false := decide_eq_false (Ne.symm hk)
  simp only [PRow.s, Xq, hqk, Bool.and_false, Bool.xor_false, ite_self]

theorem s_Zq_off (q k : Nat) (hk : k ≠ q) (sg : Bool) : PRow.s q (Zq k sg) = Zq k sg := by
  have hqk : decide (q = k) = false := decide_eq_false (Ne.symm hk)
  simp only [PRow.s, Zq, hqk, Bool.and_false, Bool.xor_false, ite_self]

theorem cnot_Xq_target (c t : Nat) (hct : c ≠ t) (sg : Bool) : PRow.cnot c t (Xq t sg) = Xq t sg := by
  have hd : decide (c = t) = false := decide_eq_false hct
  simp only [PRow.cnot, Xq, hd, Bool.false_and, Bool.xor_false, ite_self]

theorem cnot_Zq_control (c t : Nat) (hct : c ≠ t) (sg : Bool) : PRow.cnot c t (Zq c sg) = Zq c sg := by
  have hd : decide (t = c) = false := decide_eq_false (Ne.symm hct)
  simp only [PRow.cnot, Zq, hd, Bool.false_and, Bool.and_false, Bool.xor_false, ite_self]

end Hilbert
end Graphiq
