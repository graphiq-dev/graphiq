/-
  Proofs/GraphStateGroup.lean — the signed group of a graph-state tableau: every element is an ordered product of distinct
  generators (normal form, for any commuting real generating set), the generators are independent, and −I is not in the group.
  Also: the CZ construction of graph → density and the tableau of graph → stabilizer generate the same signed group.
-/
import GraphiqModel.Proofs.StateToGraph
namespace Graphiq
open PRow Tab STab

namespace STab

/-- ordered product of the generators `i < k` selected by `c` -/
def prodTo (S : STab) (c : Nat → Bool) : Nat → PRow
  | 0 => PRow.one
  | k + 1 => if c k then PRow.mul S.n (prodTo S c k) (S.row k) else prodTo S c k

theorem prodTo_spn (S : STab) (c : Nat → Bool) (k : Nat) (hk : k ≤ S.n) : S.Spn (prodTo S c k) := by
  induction k with
  | zero => exact InSpan.one
  | succ k ih =>
    simp only [prodTo]
    split
    · exact InSpan.mul _ _ (ih (by omega)) (spn_gen S k (by omega))
    · exact ih (by omega)

theorem prodTo_congr (S : STab) (c c' : Nat → Bool) (k : Nat) (h : ∀ i, i < k → c i = c' i) :
    prodTo S c k = prodTo S c' k := by
  induction k with
  | zero => rfl
  | succ k ih =>
    simp only [prodTo]
    rw [ih (fun i hi => h i (by omega)), h k (Nat.lt_succ_self k)]

theorem prodTo_false (S : STab) (k : Nat) : prodTo S (fun _ => false) k = PRow.one := by
  induction k with
  | zero => rfl
  | succ k ih => simp only [prodTo, Bool.false_eq_true, if_false]; exact ih

theorem prodTo_single (S : STab) (i k : Nat) : 
    EqOn S.n (prodTo S (fun m => decide (m = i)) k) (if i < k then S.row i else PRow.one) := by
  induction k with
  | zero => simp only [prodTo, Nat.not_lt_zero, if_false]; exact EqOn.refl _ _
  | succ k ih =>
    simp only [prodTo]
    by_cases h : k = i
    · subst h
      simp only [decide_true, if_true, Nat.lt_succ_self]
      have : ¬ (k < k) := Nat.lt_irrefl k
      rw [if_neg this] at ih
      exact (mul_congr S.n _ _ _ _ ih (EqOn.refl _ _)).trans (one_mul S.n _)
    · have hd : decide (k = i) = false := by simp [h]
      simp only [hd, Bool.false_eq_true, if_false]
      by_cases h2 : i < k
      · rw [if_pos h2] at ih; rw [if_pos (by omega)]; exact ih
      · rw [if_neg h2] at ih; rw [if_neg (by omega)]; exact ih

theorem prodTo_eqOn_sprod (S : STab) (hg : S.Good) (c : Nat → Bool) (k : Nat) (hk : k ≤ S.n) :
    EqOn S.n (prodTo S c k) (sprod S.n S.row c k) := by
  induction k with
  | zero => exact EqOn.refl _ _
  | succ k ih =>
    simp only [prodTo, sprod]
    cases hc : c k
    · simpa using ih (by omega)
    · simp only [if_true, cond_true]
      exact (PRow.mul_comm S.n _ _ (spn_comm S hg _ _ (prodTo_spn S c k (by omega)) (spn_gen S k (by omega)))).trans
        (mul_congr S.n _ _ _ _ (EqOn.refl _ _) (ih (by omega)))

theorem prodTo_mul (S : STab) (hg : S.Good) (ca cb : Nat → Bool) (k : Nat) (hk : k ≤ S.n) :
    EqOn S.n (PRow.mul S.n (prodTo S ca k) (prodTo S cb k)) (prodTo S (fun m => xor (ca m) (cb m)) k) :=
  ((mul_congr S.n _ _ _ _ (prodTo_eqOn_sprod S hg ca k hk) (prodTo_eqOn_sprod S hg cb k hk)).trans
    (sprod_mul S hg ca cb k hk)).trans (prodTo_eqOn_sprod S hg _ k hk).symm

theorem spn_normal_form (S : STab) (hg : S.Good) (p : PRow) (hp : S.Spn p) :
    ∃ c : Nat → Bool, EqOn S.n p (prodTo S c S.n) := by
  obtain ⟨c, hc⟩ := InSpan.repr (spn_comm S hg) (spn_real S hg) hp
  exact ⟨c, hc.trans (prodTo_eqOn_sprod S hg c S.n (Nat.le_refl _)).symm⟩

end STab

theorem graph_prodTo_x (n : Nat) (A : Adj) (c : Nat → Bool) (k j : Nat) :
    (prodTo (graphSTab n A) c k).x j = (decide (j < k) && c j) := by
  induction k with
  | zero => simp [prodTo, PRow.one]
  | succ k ih =>
    simp only [prodTo]
    split
    · next h =>
      rw [mul_x, ih]
      show xor (decide (j < k) && c j) (decide (j = k)) = _
      by_cases e : j = k
      · subst e; simp [h]
      · have : (j < k + 1) ↔ (j < k) := by omega
        simp [e, this]
    · next h =>
      rw [ih]
      by_cases e : j = k
      · subst e; simp [h]
      · have : (j < k + 1) ↔ (j < k) := by omega
        simp [this]

theorem graphSTab_independent (n : Nat) (A : Adj) (c : Nat → Bool)
    (h : ∀ j, j < n → (prodTo (graphSTab n A) c n).x j = false) : ∀ i, i < n → c i = false := by
  intro i hi
  have := h i hi
  rw [graph_prodTo_x] at this
  simpa [hi] using this

theorem graphSTab_no_minus_one (n : Nat) (A : Adj) (hsym : ∀ i j, i < n → j < n → A i j = A j i) (p : PRow)
    (hp : (graphSTab n A).Spn p) (hx : ∀ j, j < n → p.x j = false) : EqOn n p PRow.one := by
  obtain ⟨c, e⟩ := spn_normal_form (graphSTab n A) (graphSTab_good n A hsym) p hp
  have e' : EqOn n p (prodTo (graphSTab n A) c n) := e
  have hc : ∀ i, i < n → c i = false :=
    graphSTab_independent n A c (fun j hj => by rw [← (e'.1 j hj).1]; exact hx j hj)
  rw [prodTo_congr (graphSTab n A) c (fun _ => false) n hc, prodTo_false] at e'
  exact e'

/-- |+…+⟩ followed by one CZ per edge (graph → density, in stabilizer terms) and `[I | A]` (graph → stabilizer) generate the
    same signed group, for every edge list with distinct endpoints whose parity matrix is `A` -/
theorem czEdges_spanEq_graphSTab (n : Nat) (A : Adj) (edges : List (Nat × Nat)) (hne : ∀ e, e ∈ edges → e.1 ≠ e.2)
    (hA : ∀ i j, i < n → j < n → A i j = edgeParity edges i j) :
    SpanEq (czEdges (plusSTab n) edges) (graphSTab n A) := by
  have hn : (czEdges (plusSTab n) edges).n = n := czEdges_n _ _
  refine spanEq_of_rows _ _ hn fun i hi => ?_
  rw [hn] at hi ⊢
  obtain ⟨h1, h2, h3, h4⟩ := czEdges_plus n edges hne i
  refine ⟨fun j hj => ⟨?_, ?_⟩, ?_, ?_⟩
  · rw [h1 j]; rfl
  · rw [h2 j]
    show edgeParity edges i j = (decide (j < n) && A i j)
    rw [hA i j hi hj]; simp [hj]
  · rw [h3]; rfl
  · rw [h4]; rfl

theorem edgeParity_cons (e : Nat × Nat) (l : List (Nat × Nat)) (i j : Nat) :
    edgeParity (e :: l) i j = xor (decide ((e.1 = i ∧ e.2 = j) ∨ (e.1 = j ∧ e.2 = i))) (edgeParity l i j) :=
  pairParity_cons e l i j

theorem edgeParity_nodup (l : List (Nat × Nat)) (hl : l.Nodup) (hlt : ∀ e, e ∈ l → e.1 < e.2) (i j : Nat) (hij : i < j) :
    edgeParity l i j = decide ((i, j) ∈ l) ∧ edgeParity l j i = decide ((i, j) ∈ l) :=
  pairParity_nodup l hl hlt i j hij

theorem mem_pairsLt_iff (n : Nat) (a b : Nat) : (a, b) ∈ STab.pairsLt n ↔ a < b ∧ b < n := by
  simp only [STab.pairsLt, List.mem_flatMap, List.mem_range, List.mem_map, List.mem_filter, decide_eq_true_eq,
    Prod.mk.injEq]
  constructor
  · rintro ⟨j, _, k, ⟨hk, hjk⟩, e1, e2⟩
    subst e1 e2; exact ⟨hjk, hk⟩
  · rintro ⟨h1, h2⟩
    exact ⟨a, by omega, b, ⟨h2, h1⟩, rfl, rfl⟩

theorem edgesOf_spec (n : Nat) (A : Adj) (hsym : ∀ i j, i < n → j < n → A i j = A j i) (hirr : ∀ i, i < n → A i i = false) :
    (∀ e, e ∈ S2G.edgesOf n A → e.1 ≠ e.2) ∧ ∀ i j, i < n → j < n → A i j = edgeParity (S2G.edgesOf n A) i j := by
  have hnd : (S2G.edgesOf n A).Nodup := List.Nodup.filter _ (STab.pairsLt_nodup n)
  have hlt : ∀ e, e ∈ S2G.edgesOf n A → e.1 < e.2 := by
    intro e he
    have := (List.mem_filter.mp he).1
    exact ((mem_pairsLt_iff n e.1 e.2).mp this).1
  have hmem : ∀ i j, i < j → j < n → ((i, j) ∈ S2G.edgesOf n A ↔ A i j = true) := by
    intro i j h1 h2
    simp only [S2G.edgesOf, List.mem_filter, mem_pairsLt_iff]
    exact ⟨fun h => h.2, fun h => ⟨⟨h1, h2⟩, h⟩⟩
  refine ⟨fun e he => Nat.ne_of_lt (hlt e he), fun i j hi hj => ?_⟩
  rcases Nat.lt_trichotomy i j with h | h | h
  · rw [(edgeParity_nodup _ hnd hlt i j h).1]
    cases hA : A i j
    · symm; apply decide_eq_false; intro hm; rw [(hmem i j h hj).mp hm] at hA; cases hA
    · symm; apply decide_eq_true; exact (hmem i j h hj).mpr hA
  · subst h
    rw [hirr i hi]
    symm
    exact pairParity_self _ hlt i
  · rw [(edgeParity_nodup _ hnd hlt j i h).2, hsym i j hi hj]
    cases hA : A j i
    · symm; apply decide_eq_false; intro hm; rw [(hmem j i h hi).mp hm] at hA; cases hA
    · symm; apply decide_eq_true; exact (hmem j i h hi).mpr hA

/-- for every simple graph: `_graph_to_density_pure` (|+…+⟩, one CZ per edge of `list(graph.edges)`) and
    `_graph_to_stabilizer_pure` (`[I | A]`) generate the same signed group -/
theorem czEdges_edgesOf_spanEq (n : Nat) (A : Adj) (hsym : ∀ i j, i < n → j < n → A i j = A j i)
    (hirr : ∀ i, i < n → A i i = false) : SpanEq (czEdges (plusSTab n) (S2G.edgesOf n A)) (graphSTab n A) := by
  obtain ⟨h1, h2⟩ := edgesOf_spec n A hsym hirr
  exact czEdges_spanEq_graphSTab n A _ h1 h2

end Graphiq
