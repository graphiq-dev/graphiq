/-
  Proofs/CommuteComplete.lean — the converse of `Proofs/CommuteRefine`: every run that is *possible* in the group semantics
  is produced by the stabilizer compile loop in probabilistic mode under a suitable script of drawn bits (a feasible outcome is
  what a deterministic measurement records anyway, and what a random one records when the script starts with it).  Refinement
  and completeness together give, for two sane circuits with the same `flat` (one circuit in two topological orders, a circuit
  and a rewritten one): runs that record the same outcomes end in the same signed stabilizer group, and such a run exists.
-/
import GraphiqModel.Proofs.CommuteCircuit
namespace Graphiq.Commute
open Graphiq PRow Tab TabSpec Classical
open Graphiq.Wire (Reg RegType SOp Item Kind G1 runSeq)

/-- every qubit index of the operation is in range (the compiler's assertions) -/
def cInRange (np n : Nat) : COp → Prop
  | .gate1 _ q | .pdag q | .measz q _ | .wrap _ q => qIndex np q < n
  | .cnot c t | .cz c t | .ccx c t _ | .ccz c t _ | .mcr c t _ => qIndex np c < n ∧ qIndex np t < n

/-- a feasible outcome is the one the compile loop records in probabilistic mode, when the script starts with it in the
    random case (a deterministic measurement draws nothing) -/
theorem measure_prob {n : Nat} (t : Tab) (w : List (Nat × Bool)) (rest rd os : List Bool) (ht : TInv n t) (q : Nat)
    (hq : q < n) (o : Bool) (hfe : ¬ Grp t (Zq q (!o))) :
    RunState.measure ⟨t, w, (if (t.pivot q).isSome then [o] else []) ++ rest, rd, os⟩ .prob q =
        (⟨(t.zMeasure q ((t.pivot q).isSome && o)).1.norm, w, rest, rd ++ [(t.pivot q).isSome], os ++ [o]⟩, o) ∧
      (t.zMeasure q ((t.pivot q).isSome && o)).2.1 = o := by
  have hq' : q < t.n := by rw [ht.n_eq]; exact hq
  cases hp : t.pivot q with
  | some p =>
    refine ⟨?_, ?_⟩
    · simp [RunState.measure, RunState.offer, hp, zMeasure_random_eq t q p _ hp]
    · rw [zMeasure_random_eq t q p _ hp]; rfl
  | none =>
    have hz := measDet_grp_Zq t ht.valid ht.real q hq' hp
    have ho : (t.measScratch q).r = o := by
      by_cases e : (t.measScratch q).r = o
      · exact e
      · exfalso
        have : (t.measScratch q).r = !o := by revert e; cases (t.measScratch q).r <;> cases o <;> simp
        rw [this] at hz; exact hfe hz
    refine ⟨?_, ?_⟩
    · simp [RunState.measure, RunState.offer, hp, zMeasure_det_eq t q _ hp, ho]
    · rw [zMeasure_det_eq t q _ hp]; exact ho

theorem feasible_of_runP {n : Nat} {t : Tab} {q : Nat} {o : Bool} {l : List Tab.Op} {g1 : GState} (hq : q < n)
    (h : runP n (.meas q o :: l) (some (gstate t)) = some g1) : ¬ Grp t (Zq q (!o)) := by
  intro hz
  rw [runP_cons, appP_meas n q o hq] at h
  have : measStep q o (some (gstate t)) = none := by
    simp only [measStep, Option.bind_some]
    rw [if_pos (show (gstate t).G (Zq q (!o)) from hz)]
  rw [this, runP_none] at h
  cases h

theorem complete_of_step (np n : Nat) (op : COp) (hwf : cWF2 np op) {t : Tab} (ht : TInv n t) (o : Bool) (g1 : GState)
    (hrun : runP n (copPrims np op o) (some (gstate t)) = some g1) (s s1 : RunState) (hst : s.t = t)
    (hstep : stepOp np n .prob s op = some s1) (houts : s1.outs = s.outs ++ (if cMeasures op then [o] else []))
    (hcp : cMeasures op = false → copPrims np op false = copPrims np op o) :
    TInv n s1.t ∧ gstate s1.t = g1 := by
  subst hst
  obtain ⟨ht1, new, hnew, hlen, hr⟩ := cop_refines np n .prob s s1 op hwf ht hstep
  refine ⟨ht1, ?_⟩
  have hn : new = if cMeasures op then [o] else [] := List.append_cancel_left (hnew.symm.trans houts)
  cases hm : cMeasures op with
  | false =>
    rw [hm] at hn
    simp only [Bool.false_eq_true, if_false] at hn
    rw [hn] at hr
    simp only [List.headD_nil] at hr
    rw [hcp hm, hrun] at hr
    exact (Option.some.inj hr).symm
  | true =>
    rw [hm] at hn
    simp only [if_true] at hn
    rw [hn] at hr
    simp only [List.headD_cons] at hr
    rw [hrun] at hr
    exact (Option.some.inj hr).symm

theorem stepOp_nomeas (np n : Nat) (d : Det) (op : COp) (hm : cMeasures op = false) (hin : cInRange np n op) :
    ∃ f : Tab → Tab, ∀ s : RunState, stepOp np n d s op = some { s with t := f s.t } := by
  cases op with
  | gate1 g q => exact ⟨fun t => (gen1 t g (qIndex np q)).norm, fun s => if_pos hin⟩
  | pdag q => exact ⟨fun t => (t.sdgGate (qIndex np q)).norm, fun s => if_pos hin⟩
  | cnot c tg => exact ⟨fun t => (t.cnotGate (qIndex np c) (qIndex np tg)).norm, fun s => if_pos hin⟩
  | cz c tg => exact ⟨fun t => (t.czGate (qIndex np c) (qIndex np tg)).norm, fun s => if_pos hin⟩
  | wrap gs q => exact ⟨fun t => (gs.reverse.foldl (fun t g => gen1 t g (qIndex np q)) t).norm, fun s => if_pos hin⟩
  | ccx _ _ _ | ccz _ _ _ | mcr _ _ _ | measz _ _ => cases hm

theorem copPrims_nomeas (np : Nat) (op : COp) (hm : cMeasures op = false) (o o' : Bool) :
    copPrims np op o = copPrims np op o' := by
  cases op with
  | gate1 _ _ | pdag _ | cnot _ _ | cz _ _ | wrap _ _ => rfl
  | ccx _ _ _ | ccz _ _ _ | mcr _ _ _ | measz _ _ => cases hm

theorem cop_complete_nomeas (np n : Nat) (op : COp) (hwf : cWF2 np op) (hin : cInRange np n op) {t : Tab} (ht : TInv n t) (o : Bool)
    (g1 : GState) (hrun : runP n (copPrims np op o) (some (gstate t)) = some g1) (hm : cMeasures op = false) :
    ∃ (pre : List Bool) (t1 : Tab), TInv n t1 ∧ gstate t1 = g1 ∧
      ∀ (rest : List Bool) (w : List (Nat × Bool)) (rd os : List Bool), ∃ w' rd',
        stepOp np n .prob ⟨t, w, pre ++ rest, rd, os⟩ op =
          some ⟨t1, w', rest, rd', os ++ (if cMeasures op then [o] else [])⟩ := by
  obtain ⟨f, hf⟩ := stepOp_nomeas np n .prob op hm hin
  have hstep : ∀ rest w rd os, stepOp np n .prob ⟨t, w, [] ++ rest, rd, os⟩ op = some ⟨f t, w, rest, rd, os ++ []⟩ := by
    intro rest w rd os
    rw [hf, List.append_nil]
    rfl
  obtain ⟨h1, h2⟩ := complete_of_step np n op hwf ht o g1 hrun _ _ rfl (hstep [] [] [] []) (by rw [hm]; rfl)
    (fun _ => copPrims_nomeas np op hm false o)
  rw [hm]
  exact ⟨[], f t, h1, h2, fun rest w rd os => ⟨_, _, hstep rest w rd os⟩⟩

theorem mq_of_measures (np n : Nat) (op : COp) (hm : cMeasures op = true) (hin : cInRange np n op) :
    ∃ q, op.mq np = some q ∧ q < n ∧ ∀ o, ∃ rest, copPrims np op o = .meas q o :: rest := by
  cases op with
  | gate1 _ _ | pdag _ | cnot _ _ | cz _ _ | wrap _ _ => cases hm
  | measz _ _ => exact ⟨_, rfl, hin, fun o => ⟨_, rfl⟩⟩
  | ccx _ _ _ | ccz _ _ _ | mcr _ _ _ => exact ⟨_, rfl, hin.1, fun o => ⟨_, rfl⟩⟩

/-- the measuring step in probabilistic mode, on a script that starts with the feasible outcome `o` if the measurement is
    random: the resulting table depends neither on the rest of the script nor on the bookkeeping fields -/
theorem stepOp_prob_meas (np n : Nat) (op : COp) (q : Nat) (hq : op.mq np = some q) (hwf : cWF2 np op)
    (hin : cInRange np n op) {t : Tab} (ht : TInv n t) (o : Bool) (hfe : ¬ Grp t (Zq q (!o))) :
    ∃ t1 : Tab, ∀ (rest : List Bool) (w : List (Nat × Bool)) (rd os : List Bool),
      stepOp np n .prob ⟨t, w, (if (t.pivot q).isSome then [o] else []) ++ rest, rd, os⟩ op =
        some ⟨t1, w ++ [(op.creg, o)], rest, rd ++ [(t.pivot q).isSome], os ++ [o]⟩ := by
  cases op with
  | gate1 _ _ | pdag _ | cnot _ _ | cz _ _ | wrap _ _ => cases hq
  | measz q' creg =>
    cases hq
    refine ⟨(t.zMeasure (qIndex np q') ((t.pivot (qIndex np q')).isSome && o)).1.norm, fun rest w rd os => ?_⟩
    simp only [stepOp]
    rw [if_pos (show qIndex np q' < n from hin), (measure_prob t w rest rd os ht _ hin o hfe).1]; rfl
  | ccx c tg creg =>
    cases hq
    refine ⟨if o = true then ((t.zMeasure (qIndex np c) ((t.pivot (qIndex np c)).isSome && o)).1.norm.xGate
        (qIndex np tg)).norm else (t.zMeasure (qIndex np c) ((t.pivot (qIndex np c)).isSome && o)).1.norm, fun rest w rd os => ?_⟩
    simp only [stepOp]
    rw [if_pos (show qIndex np c < n ∧ qIndex np tg < n from hin), (measure_prob t w rest rd os ht _ hin.1 o hfe).1]; rfl
  | ccz c tg creg =>
    cases hq
    refine ⟨if o = true then ((t.zMeasure (qIndex np c) ((t.pivot (qIndex np c)).isSome && o)).1.norm.zGate
        (qIndex np tg)).norm else (t.zMeasure (qIndex np c) ((t.pivot (qIndex np c)).isSome && o)).1.norm, fun rest w rd os => ?_⟩
    simp only [stepOp]
    rw [if_pos (show qIndex np c < n ∧ qIndex np tg < n from hin), (measure_prob t w rest rd os ht _ hin.1 o hfe).1]; rfl
  | mcr c tg creg =>
    cases hq
    have ho := (measure_prob t [] [] [] [] ht _ hin.1 o hfe).2
    generalize hoff : ((t.pivot (qIndex np c)).isSome && o) = off at ho
    have hm1 := (ht.meas _ off hin.1).norm
    have hokx : primOk n (.x (qIndex np tg)) = true := by simpa [primOk] using hin.2
    -- the reset reads no drawn bit: after the measurement and the correction on another qubit `Z_c` is still determined
    have hc := (cond_refines hm1 (.x (qIndex np tg)) rfl hokx o).2
    have hpiv := pivot_none_of_Zq _ hc.valid hc.real (qIndex np c) (hc.n_eq ▸ hin.1) o
      (cond_keeps_Zq hm1 (.x (qIndex np tg)) rfl hokx _ (by simpa [primSupp] using (show qIndex np c ≠ qIndex np tg from hwf)) o o
        (ho ▸ (norm_grp_iff _ _).mpr (meas_leaves_Zq ht _ off hin.1)))
    refine ⟨((if o = true then ((t.zMeasure (qIndex np c) off).1.norm.map (rowP (.x (qIndex np tg)))).norm
        else (t.zMeasure (qIndex np c) off).1.norm).resetZ (qIndex np c) false false).norm, fun rest w rd os => ?_⟩
    simp only [stepOp]
    rw [if_pos (show qIndex np c < n ∧ qIndex np tg < n from hin), (measure_prob t w rest rd os ht _ hin.1 o hfe).1, hoff]
    simp only [RunState.condX, RunState.write, RunState.resetQ, RunState.offer]
    rw [show (if o = true then ((t.zMeasure (qIndex np c) off).1.norm.xGate (qIndex np tg)).norm
        else (t.zMeasure (qIndex np c) off).1.norm).pivot (qIndex np c) = none from hpiv]
    rfl

/-- **one operation, converse direction**: if the primitives of `op` with outcome `o` are possible on the group of `t`,
    then in probabilistic mode, with the script starting with `pre` (= `[o]` if the measurement is random, else empty),
    the compile step records `o`, consumes exactly `pre`, and ends in a valid tableau `t1` (the same for every rest of
    the script) with the group `g1` -/
theorem cop_complete (np n : Nat) (op : COp) (hwf : cWF2 np op) (hin : cInRange np n op) {t : Tab} (ht : TInv n t) (o : Bool)
    (g1 : GState) (hrun : runP n (copPrims np op o) (some (gstate t)) = some g1) :
    ∃ (pre : List Bool) (t1 : Tab), TInv n t1 ∧ gstate t1 = g1 ∧
      ∀ (rest : List Bool) (w : List (Nat × Bool)) (rd os : List Bool), ∃ w' rd',
        stepOp np n .prob ⟨t, w, pre ++ rest, rd, os⟩ op =
          some ⟨t1, w', rest, rd', os ++ (if cMeasures op then [o] else [])⟩ := by
  cases hm : cMeasures op with
  | false => rw [← hm]; exact cop_complete_nomeas np n op hwf hin ht o g1 hrun hm
  | true =>
    obtain ⟨q, hq, hqn, hpr⟩ := mq_of_measures np n op hm hin
    obtain ⟨rest0, hp0⟩ := hpr o
    obtain ⟨t1, hstep⟩ := stepOp_prob_meas np n op q hq hwf hin ht o (feasible_of_runP hqn (hp0 ▸ hrun))
    obtain ⟨h1, h2⟩ := complete_of_step np n op hwf ht o g1 hrun _ _ rfl (hstep [] [] [] []) (by rw [hm]; rfl)
      (fun h => by rw [hm] at h; cases h)
    exact ⟨_, t1, h1, h2, fun rest w rd os => ⟨_, _, hstep rest w rd os⟩⟩

/-! ## a whole compile sequence -/

theorem decode_inRange (ne np : Nat) (a : SOp) (d : Dec) (hdec : decode ne np a = some d) :
    cInRange np (ne + np) (toCOp a) := by
  cases decodes_of_decode hdec with
  | g1 g r q hq =>
    have := regIx_lt hq
    rw [← regIx_qIndex hq] at this
    cases g <;> exact this
  | measZ x cr r q hq =>
    have := regIx_lt hq
    rw [← regIx_qIndex hq] at this
    exact this
  | cnot x cr c t qc qt hc ht | cz x cr c t qc qt hc ht | ccnot x cr c t qc qt hc ht | ccz x cr c t qc qt hc ht
  | mcr x cr c t qc qt hc ht =>
    have h1 := regIx_lt hc
    have h2 := regIx_lt ht
    rw [← regIx_qIndex hc] at h1
    rw [← regIx_qIndex ht] at h2
    exact ⟨h1, h2⟩

theorem runSeq_appRaw_none (ne np : Nat) (l : List SOp) : runSeq (appRaw ne np) l none = none :=
  Loop.foldl_inv (· = none) (fun _ a _ h => h ▸ appRaw_none ne np a) rfl

theorem pushOut_popReg (sc : Script) (r : Reg) (h : sc r ≠ []) : pushOut (popReg sc r) r ((sc r).headD false) = sc := by
  funext r'
  unfold pushOut popReg
  by_cases e : r' = r
  · subst e
    simp only [if_true]
    cases hs : sc r' with
    | nil => exact absurd hs h
    | cons o tl => rfl
  · simp [e]

/-- **completeness of the compile loop for the group semantics**: every run of the compile sequence `l` that is possible in
    the group semantics (from the group of a valid tableau `t`, reading the outcome streams `F` down to `F'`) is produced by
    the stabilizer compile loop in probabilistic mode: there is a script of drawn bits under which `stepOp` runs `l` from
    `t`, consumes exactly that script, ends in a valid tableau with the final group, and records exactly the outcomes that
    the semantics read (`F = feed l new F'`) -/
theorem run_complete (ne np : Nat) (l : List SOp) (hok : ∀ a, a ∈ l → (decode ne np a).isSome = true ∧ a.regs.Nodup)
    {t : Tab} (ht : TInv (ne + np) t) (F F' : Script) (g' : GState)
    (h : runSeq (appRaw ne np) l (some (gstate t, F)) = some (g', F')) :
    ∃ (script : List Bool) (t' : Tab) (new : List Bool), TInv (ne + np) t' ∧ gstate t' = g' ∧ F = feed ne np l new F' ∧
      ∀ (tail : List Bool) (w : List (Nat × Bool)) (rd os : List Bool), ∃ w' rd',
        (l.map toCOp).foldlM (stepOp np (ne + np) .prob) ⟨t, w, script ++ tail, rd, os⟩ =
          some ⟨t', w', tail, rd', os ++ new⟩ := by
  induction l generalizing t F with
  | nil =>
    simp only [runSeq, List.foldl_nil, Option.some.injEq, Prod.mk.injEq] at h
    refine ⟨[], t, [], ht, h.1, h.2, fun tail w rd os => ⟨w, rd, ?_⟩⟩
    simp
  | cons a l ih =>
    rw [Wire.runSeq_cons] at h
    cases h1 : appRaw ne np a (some (gstate t, F)) with
    | none => rw [h1, runSeq_appRaw_none] at h; cases h
    | some x =>
      obtain ⟨g1, F1⟩ := x
      obtain ⟨dd, hdd, hhas, hr, hF1⟩ := appRaw_some h1
      subst hF1
      obtain ⟨hwf, hpr, hms⟩ := decode_toCOp ne np a dd hdd (hok a List.mem_cons_self).2
      rw [h1] at h
      rw [hpr] at hr
      obtain ⟨pre, t1, ht1, hg1, hstep⟩ := cop_complete np (ne + np) (toCOp a) hwf (decode_inRange ne np a dd hdd) ht
        (dd.out F) g1 hr
      rw [← hg1] at h
      obtain ⟨script2, t', new2, ht', hg', hF, hrun⟩ := ih (fun b hb => hok b (List.mem_cons_of_mem _ hb)) ht1 _ h
      refine ⟨pre ++ script2, t', (if cMeasures (toCOp a) then [dd.out F] else []) ++ new2, ht', hg', ?_,
        fun tail w rd os => ?_⟩
      · -- the streams
        cases hm : dd.mreg with
        | none =>
          have hmf : cMeasures (toCOp a) = false := by rw [← hms, hm]; rfl
          have hpop : dd.pop F = F := by simp [Dec.pop, hm]
          rw [hpop] at hF
          simp only [hmf, Bool.false_eq_true, if_false, List.nil_append, feed, hdd, Option.bind_some, hm]
          exact hF
        | some r =>
          have hmt : cMeasures (toCOp a) = true := by rw [← hms, hm]; rfl
          have hpop : dd.pop F = popReg F r := by simp [Dec.pop, hm]
          have hout : dd.out F = (F r).headD false := by simp [Dec.out, hm]
          have hne : F r ≠ [] := by simpa [Dec.has, hm] using hhas
          rw [hpop] at hF
          simp only [hmt, if_true, List.singleton_append, feed, hdd, Option.bind_some, hm, List.tail_cons,
            List.headD_cons]
          rw [← hF, hout, pushOut_popReg F r hne]
      · obtain ⟨w1, rd1, hs1⟩ := hstep (script2 ++ tail) w rd os
        obtain ⟨w2, rd2, hs2⟩ := hrun tail w1 rd1 (os ++ (if cMeasures (toCOp a) then [dd.out F] else []))
        refine ⟨w2, rd2, ?_⟩
        simp only [List.map_cons, List.foldlM]
        rw [List.append_assoc, hs1]
        simp only [Option.bind_eq_bind, Option.bind_some]
        rw [hs2, List.append_assoc]

/-- completeness on a sane circuit, from any valid initial tableau (`compile(circuit, initial_state)`): a possible run of
    the group semantics along `seq` is produced by the compile loop in probabilistic mode under some script -/
theorem stabRunFrom_complete (c : Wire.Circuit) (hgood : c.Good) (har : ArityOk c) (seq : List Nat) (t0 : Tab)
    (h0 : TInv (c.ne + c.np) t0) (F : Script) (g' : GState)
    (h : runSeq (appRaw c.ne c.np) (c.sops seq) (some (gstate t0, F)) = some (g', fun _ => [])) :
    ∃ (script : List Bool) (s' : RunState),
      stabRunFrom t0 c.np .prob script ((c.sops seq).map toCOp) = some s' ∧ gstate s'.t = g' ∧
        F = feed c.ne c.np (c.sops seq) s'.outs (fun _ => []) := by
  obtain ⟨script, t', new, _, hg, hF, hrun⟩ := run_complete c.ne c.np (c.sops seq) (sops_ok c hgood har seq)
    h0 F (fun _ => []) g' h
  obtain ⟨w', rd', hs⟩ := hrun [] [] [] []
  refine ⟨script, ⟨t', w', [], rd', [] ++ new⟩, ?_, hg, by simpa using hF⟩
  unfold stabRunFrom
  rw [List.append_nil] at hs
  rw [h0.n_eq]
  exact hs

theorem stabRun_complete (c : Wire.Circuit) (hgood : c.Good) (har : ArityOk c) (seq : List Nat) (F : Script) (g' : GState)
    (h : runSeq (appRaw c.ne c.np) (c.sops seq) (some (gstate (Tab.ket0 (c.ne + c.np)), F)) = some (g', fun _ => [])) :
    ∃ (script : List Bool) (s' : RunState),
      stabRun c.ne c.np .prob script ((c.sops seq).map toCOp) = some s' ∧ gstate s'.t = g' ∧
        F = feed c.ne c.np (c.sops seq) s'.outs (fun _ => []) :=
  stabRunFrom_complete c hgood har seq _ (tinv_ket0 _) F g' h

noncomputable def GSt.ofTab (ne np : Nat) (t0 : Tab) (h0 : TInv (ne + np) t0) (sc : Script) : GSt ne np :=
  ⟨some (gstate t0, sc), fun g sc' h => by
    simp only [Option.some.injEq, Prod.mk.injEq] at h
    rw [← h.1]; exact h0.isTab⟩

/-! ## two sane circuits with the same `flat`

  The compile loop sees a circuit only through its compile sequences, and these only through `flat` (the trace-monoid lemma
  `Wire.denote_eq_of_flat_eq`): what follows holds of any two sane circuits with the same `flat`, each compiled along any of
  its topological orders — one circuit in two orders, or a circuit and the result of any chain of rewrites of C13. -/

/-- in the group semantics, from `|0…0⟩` and on the same outcome streams, both end in the same state (or both runs are
    impossible) -/
theorem flat_eq_compiled_group (c c' : Wire.Circuit) (hgood : c.Good) (hgood' : c'.Good) (hflat : c'.flat = c.flat)
    (seq seq' : List Nat) (hl : c.isLinearExtension seq = true) (hl' : c'.isLinearExtension seq' = true) (sc : Script) :
    runSeq (appRaw c.ne c.np) (c'.sops seq') (some (gstate (Tab.ket0 (c.ne + c.np)), sc)) =
      runSeq (appRaw c.ne c.np) (c.sops seq) (some (gstate (Tab.ket0 (c.ne + c.np)), sc)) := by
  have h := denote_eq_of_good_flat_eq (appG c.ne c.np) (appG_comm c.ne c.np) c c' hgood hgood' hflat seq seq' hl hl'
    (GSt.init c.ne c.np sc)
  have h2 := congrArg Subtype.val h
  rw [runSeq_appG_val, runSeq_appG_val] at h2
  exact h2

/-- **two runs of the compile loop in which every measuring operation recorded the same outcome (`hout`) end in tableaux
    with the same signed stabilizer group**, under any measurement settings and scripts -/
theorem flat_eq_compiled_tableau (c c' : Wire.Circuit) (hgood : c.Good) (har : ArityOk c) (hgood' : c'.Good)
    (har' : ArityOk c') (hflat : c'.flat = c.flat) (seq seq' : List Nat) (hl : c.isLinearExtension seq = true)
    (hl' : c'.isLinearExtension seq' = true) (d d' : Det) (script script' : List Bool) (s s' : RunState)
    (h1 : stabRun c.ne c.np d script ((c.sops seq).map toCOp) = some s)
    (h2 : stabRun c'.ne c'.np d' script' ((c'.sops seq').map toCOp) = some s')
    (hout : feed c.ne c.np (c.sops seq) s.outs (fun _ => []) = feed c'.ne c'.np (c'.sops seq') s'.outs (fun _ => [])) :
    ∀ P, Grp s.t P ↔ Grp s'.t P := by
  obtain ⟨hne, hnp⟩ := flat_counts hflat
  have r1 := (stabRun_refines c hgood har seq d script s h1).2 (fun _ => [])
  have r2 := (stabRun_refines c' hgood' har' seq' d' script' s' h2).2 (fun _ => [])
  rw [hne, hnp] at r2 hout
  have e := flat_eq_compiled_group c c' hgood hgood' hflat seq seq' hl hl' (feed c.ne c.np (c.sops seq) s.outs (fun _ => []))
  rw [r1] at e
  rw [hout, r2] at e
  simp only [Option.some.injEq, Prod.mk.injEq, and_true] at e
  intro P
  show (gstate s.t).G P ↔ (gstate s'.t).G P
  rw [e]

/-- **for every run on the one circuit there is a run on the other that records the same outcome at every measuring
    operation, and it ends in the same signed stabilizer group** (probabilistic mode, a suitable script of drawn bits) — so
    the hypothesis `hout` of `flat_eq_compiled_tableau` can always be met -/
theorem flat_eq_compiled_run_exists (c c' : Wire.Circuit) (hgood : c.Good) (har : ArityOk c) (hgood' : c'.Good)
    (har' : ArityOk c') (hflat : c'.flat = c.flat) (seq seq' : List Nat) (hl : c.isLinearExtension seq = true)
    (hl' : c'.isLinearExtension seq' = true) (d : Det) (script : List Bool) (s : RunState)
    (h1 : stabRun c.ne c.np d script ((c.sops seq).map toCOp) = some s) :
    ∃ (script' : List Bool) (s' : RunState),
      stabRun c'.ne c'.np .prob script' ((c'.sops seq').map toCOp) = some s' ∧
      feed c.ne c.np (c.sops seq) s.outs (fun _ => []) = feed c'.ne c'.np (c'.sops seq') s'.outs (fun _ => []) ∧
      ∀ P, Grp s.t P ↔ Grp s'.t P := by
  obtain ⟨hne, hnp⟩ := flat_counts hflat
  have r1 := (stabRun_refines c hgood har seq d script s h1).2 (fun _ => [])
  have e := flat_eq_compiled_group c c' hgood hgood' hflat seq seq' hl hl' (feed c.ne c.np (c.sops seq) s.outs (fun _ => []))
  rw [r1, ← hne, ← hnp] at e
  obtain ⟨script', s', hs', hg, hF⟩ := stabRun_complete c' hgood' har' seq' _ _ e
  refine ⟨script', s', hs', ?_, fun P => ?_⟩
  · rw [← hF, hne, hnp]
  · show (gstate s.t).G P ↔ (gstate s'.t).G P
    rw [hg]

end Graphiq.Commute
