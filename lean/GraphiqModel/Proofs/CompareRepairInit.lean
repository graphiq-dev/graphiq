/-
  Proofs/CompareRepairInit.lean — `MG.init` (the empty `CircuitDAG(n_emitter, n_photon, n_classical)`) is a family of
  two-node register paths, and `MG.build c` keeps the invariant: the graph is a family of register paths (`Rep0`) and the
  operations met along the path of register `w` are the operations of `c` that touch `w`, in order (`build_rep`).
-/
import GraphiqModel.Proofs.CompareRepairBuild
namespace Graphiq.Compare
open Graphiq Graphiq.Export

theorem hasNode_iff (g : MG) (n : Nd) : g.hasNode n = true ↔ n ∈ g.nodes.map (·.1) := by
  unfold MG.hasNode
  simp only [List.any_eq_true, beq_iff_eq, List.mem_map]

theorem nOf_setN (g : MG) (t t' : RT) (k : Nat) : (g.setN t k).nOf t' = if t' = t then k else g.nOf t' := by
  cases t <;> cases t' <;> simp [MG.setN, MG.nOf]

theorem nodes_setN (g : MG) (t : RT) (k : Nat) : (g.setN t k).nodes = g.nodes := by cases t <;> rfl
theorem edges_setN (g : MG) (t : RT) (k : Nat) : (g.setN t k).edges = g.edges := by cases t <;> rfl
theorem nodeId_setN (g : MG) (t : RT) (k : Nat) : (g.setN t k).nodeId = g.nodeId := by cases t <;> rfl
theorem opOf_setN (g : MG) (t : RT) (k : Nat) : (g.setN t k).opOf = g.opOf := by
  funext n; unfold MG.opOf; rw [nodes_setN]

/-! ## operation nodes and input/output nodes of a node list -/

def gateOfEntry (p : Nd × NOp) : Option Op :=
  match p.2 with
  | .gate o => some o
  | _ => none

def gateOpsOf (ns : List (Nd × NOp)) : List Op := ns.filterMap gateOfEntry

def ioOf (ns : List (Nd × NOp)) : List (Nd × NOp) := ns.filter fun p => (gateOfEntry p).isNone

theorem length_io_gate (ns : List (Nd × NOp)) : ns.length = (ioOf ns).length + (gateOpsOf ns).length := by
  induction ns with
  | nil => rfl
  | cons a rest ih =>
    unfold ioOf gateOpsOf at ih ⊢
    cases h : gateOfEntry a with
    | none => simp [h, ih]; omega
    | some o => simp [h, ih]; omega

/-! ## the empty circuit -/

structure InitInv (g : MG) (W : List Wire) : Prop where
  rep : Rep0 g W (fun _ => [])
  nodesW : ∀ n ∈ g.nodes.map (·.1), ∃ w ∈ W, n = .inp w ∨ n = .out w
  regs : ∀ w, w ∈ W ↔ w.i < g.nOf w.t
  nodeId : g.nodeId = 0
  count : g.nodes.length = 2 * W.length
  names : (g.nodes.map (·.1)).Nodup
  noGates : gateOpsOf g.nodes = []
  trips : TripNodup g

/-- the graph after `_add_reg_if_absent` of the next register of type `w.t` -/
def addedReg (g : MG) (w : Wire) : MG :=
  { g.setN w.t (g.nOf w.t + 1) with
    nodes := (g.setN w.t (g.nOf w.t + 1)).nodes ++ [(.inp w, .input w), (.out w, .output w)],
    edges := (g.setN w.t (g.nOf w.t + 1)).edges ++ [{ src := .inp w, dst := .out w, key := w }] }

theorem nodes_addedReg (g : MG) (w : Wire) : (addedReg g w).nodes = g.nodes ++ [(.inp w, .input w), (.out w, .output w)] := by
  unfold addedReg; simp only [nodes_setN]

theorem edges_addedReg (g : MG) (w : Wire) : (addedReg g w).edges = g.edges ++ [{ src := .inp w, dst := .out w, key := w }] := by
  unfold addedReg; simp only [edges_setN]

theorem nOf_addedReg (g : MG) (w : Wire) (t : RT) : (addedReg g w).nOf t = if t = w.t then g.nOf w.t + 1 else g.nOf t := by
  have : (addedReg g w).nOf t = (g.setN w.t (g.nOf w.t + 1)).nOf t := by
    unfold addedReg; cases t <;> rfl
  rw [this, nOf_setN]

theorem path_empty (w : Wire) : pathOf (fun _ => []) w = [Nd.inp w, Nd.out w] := rfl

theorem adj_pair (a b u v : Nd) (h : Adj [a, b] u v) : u = a ∧ v = b := by
  obtain ⟨m1, m2, hm⟩ := h
  cases m1 with
  | nil => simp only [List.nil_append, List.cons.injEq] at hm; exact ⟨hm.1.symm, hm.2.1.symm⟩
  | cons y m1' =>
    exfalso
    have := congrArg List.length hm
    simp at this
    omega

theorem InitInv.addReg {g : MG} {W : List Wire} (h : InitInv g W) (w : Wire) (hw : w.i = g.nOf w.t) :
    g.addRegIfAbsent w = .ok (addedReg g w) ∧ InitInv (addedReg g w) (W ++ [w]) := by
  have hwW : w ∉ W := by rw [h.regs]; omega
  have hin : Nd.inp w ∉ g.nodes.map (·.1) := by
    intro hm
    obtain ⟨w', hw', h1 | h1⟩ := h.nodesW _ hm
    · injection h1 with h1; exact hwW (h1 ▸ hw')
    · cases h1
  have hout : Nd.out w ∉ g.nodes.map (·.1) := by
    intro hm
    obtain ⟨w', hw', h1 | h1⟩ := h.nodesW _ hm
    · cases h1
    · injection h1 with h1; exact hwW (h1 ▸ hw')
  have hnodes := nodes_addedReg g w
  have hold : ∀ n ∈ g.nodes.map (·.1), (addedReg g w).opOf n = g.opOf n :=
    fun n hn => opOf_append_old g _ _ hnodes n hn
  have hopin : (addedReg g w).opOf (.inp w) = some (.input w) := by
    rw [opOf_append g _ _ hnodes, opOf_none_of_not_mem g _ hin]
    simp
  have hopout : (addedReg g w).opOf (.out w) = some (.output w) := by
    rw [opOf_append g _ _ hnodes, opOf_none_of_not_mem g _ hout]
    simp
  have hcases : ∀ n o, (addedReg g w).opOf n = some o →
      g.opOf n = some o ∨ (n = .inp w ∧ o = .input w) ∨ (n = .out w ∧ o = .output w) := by
    intro n o ho
    rw [opOf_append g _ _ hnodes] at ho
    cases hg : g.opOf n with
    | some o' => rw [hg] at ho; left; exact ho
    | none =>
      rw [hg] at ho
      simp only [Option.none_or, List.find?_cons, List.find?_nil] at ho
      by_cases h1 : Nd.inp w = n
      · simp only [h1, beq_self_eq_true, Option.map_some] at ho
        injection ho with ho
        right; left; exact ⟨h1.symm, ho.symm⟩
      · have : (Nd.inp w == n) = false := by simpa using h1
        simp only [this] at ho
        by_cases h2 : Nd.out w = n
        · simp only [h2, beq_self_eq_true, Option.map_some] at ho
          injection ho with ho
          right; right; exact ⟨h2.symm, ho.symm⟩
        · have : (Nd.out w == n) = false := by simpa using h2
          simp only [this] at ho
          cases ho
  constructor
  · unfold MG.addRegIfAbsent
    simp only [hw, if_true]
    have h2 : (g.setN w.t (g.nOf w.t + 1)).hasNode (.inp w) = false := by
      cases hh : (g.setN w.t (g.nOf w.t + 1)).hasNode (.inp w) with
      | false => rfl
      | true =>
        exfalso
        rw [hasNode_iff, nodes_setN] at hh
        exact hin hh
    simp only [h2, Bool.false_eq_true, if_false, gt_iff_lt, Nat.lt_irrefl]
    rfl
  -- the ten fields of `Rep0` in the order of its declaration (the only path that changes is the new one,
  -- `[inp w, out w]`), then `nodesW` … `trips`
  · refine ⟨⟨?_, ?_, ?_, ?_, ?_, ?_, ?_, ?_, ?_, ?_⟩, ?_, ?_, ?_, ?_, ?_, ?_, ?_⟩
    · intro w' _
      rw [path_empty]
      simp
    · intro w' _ n hn; cases hn
    · intro w' hw'
      rcases List.mem_append.1 hw' with h1 | h1
      · rw [hold _ (opOf_some_mem g _ _ (h.rep.inpOp w' h1))]; exact h.rep.inpOp w' h1
      · rw [List.mem_singleton] at h1; rw [h1]; exact hopin
    · intro w' hw'
      rcases List.mem_append.1 hw' with h1 | h1
      · rw [hold _ (opOf_some_mem g _ _ (h.rep.outOp w' h1))]; exact h.rep.outOp w' h1
      · rw [List.mem_singleton] at h1; rw [h1]; exact hopout
    · intro n w' ho
      rcases hcases n _ ho with h1 | ⟨h1, h2⟩ | ⟨_, h2⟩
      · obtain ⟨a, b⟩ := h.rep.kindIn n w' h1
        exact ⟨a, List.mem_append_left _ b⟩
      · injection h2 with h2; subst h2; exact ⟨h1, by simp⟩
      · cases h2
    · intro n w' ho
      rcases hcases n _ ho with h1 | ⟨_, h2⟩ | ⟨h1, h2⟩
      · obtain ⟨a, b⟩ := h.rep.kindOut n w' h1
        exact ⟨a, List.mem_append_left _ b⟩
      · cases h2
      · injection h2 with h2; subst h2; exact ⟨h1, by simp⟩
    · intro n o ho
      rcases hcases n _ ho with h1 | ⟨_, h2⟩ | ⟨_, h2⟩
      · exact h.rep.wiresNodup n o h1
      · cases h2
      · cases h2
    · intro e he
      rw [edges_addedReg] at he
      rcases List.mem_append.1 he with h1 | h1
      · obtain ⟨a, b⟩ := h.rep.edge_sound0 e h1
        exact ⟨List.mem_append_left _ a, b⟩
      · rw [List.mem_singleton] at h1
        subst h1
        exact ⟨by simp, [], [], rfl⟩
    · intro w' hw' u v hadj
      rw [edges_addedReg]
      rcases List.mem_append.1 hw' with h1 | h1
      · obtain ⟨e, he, hh⟩ := h.rep.edge_complete w' h1 u v hadj
        exact ⟨e, List.mem_append_left _ he, hh⟩
      · rw [List.mem_singleton] at h1
        subst h1
        rw [path_empty] at hadj
        obtain ⟨rfl, rfl⟩ := adj_pair _ _ _ _ hadj
        exact ⟨_, List.mem_append_right _ (List.mem_singleton.2 rfl), rfl, rfl, rfl⟩
    · intro w' hm
      rw [hnodes] at hm
      simp only [List.map_append, List.mem_append, List.map_cons, List.map_nil, List.mem_cons, List.not_mem_nil, or_false] at hm
      rcases hm with h1 | h1 | h1
      · exact List.mem_append_left _ (h.rep.inputsW w' h1)
      · injection h1 with h1; rw [h1]; simp
      · cases h1
    · intro n hn
      rw [hnodes] at hn
      simp only [List.map_append, List.mem_append, List.map_cons, List.map_nil, List.mem_cons, List.not_mem_nil, or_false] at hn
      rcases hn with h1 | h1 | h1
      · obtain ⟨w', a, b⟩ := h.nodesW n h1
        exact ⟨w', List.mem_append_left _ a, b⟩
      · exact ⟨w, by simp, Or.inl h1⟩
      · exact ⟨w, by simp, Or.inr h1⟩
    · intro w'
      rw [nOf_addedReg, List.mem_append, List.mem_singleton, h.regs]
      by_cases ht : w'.t = w.t
      · rw [if_pos ht]
        constructor
        · rintro (h1 | h1)
          · rw [ht] at h1; omega
          · rw [h1]; omega
        · intro h1
          by_cases h2 : w'.i < g.nOf w.t
          · left; rw [ht]; exact h2
          · right
            cases w' with | mk t' i' => cases w with | mk t i =>
            simp only at ht hw h1 h2 ⊢
            subst ht
            congr
            omega
      · rw [if_neg ht]
        constructor
        · rintro (h1 | h1)
          · exact h1
          · exact absurd (by rw [h1]) ht
        · intro h1; left; exact h1
    · have : (addedReg g w).nodeId = g.nodeId := by unfold addedReg; exact nodeId_setN g _ _
      rw [this]; exact h.nodeId
    · rw [hnodes, List.length_append, List.length_append, h.count]
      simp only [List.length_cons, List.length_nil]
      omega
    · rw [hnodes, List.map_append, List.nodup_append]
      refine ⟨h.names, by simp, ?_⟩
      intro a ha b hb hab
      simp only [List.map_cons, List.map_nil, List.mem_cons, List.not_mem_nil, or_false] at hb
      subst hab
      rcases hb with rfl | rfl
      · exact hin ha
      · exact hout ha
    · rw [hnodes]
      unfold gateOpsOf
      rw [List.filterMap_append]
      have := h.noGates
      unfold gateOpsOf at this
      rw [this]
      rfl
    · unfold TripNodup
      rw [edges_addedReg, List.map_append, List.nodup_append]
      refine ⟨h.trips, by simp, ?_⟩
      intro a ha b hb hab
      obtain ⟨e0, he0, rfl⟩ := List.mem_map.1 ha
      simp only [List.map_cons, List.map_nil, List.mem_singleton] at hb
      subst hb
      simp only [trip, Prod.mk.injEq] at hab
      apply hwW
      rw [← hab.2.2]
      exact (h.rep.edge_sound0 e0 he0).1

/-- the loop over one register type of `CircuitDAG.__init__` -/
def addAllRegs (g : MG) (t : RT) (n : Nat) : MG :=
  (List.range n).foldl (fun g i => match g.addRegIfAbsent ⟨t, i⟩ with | .ok g' => g' | .error _ => g) g

theorem init_eq (ne np nc : Nat) : MG.init ne np nc = addAllRegs (addAllRegs (addAllRegs {} .e ne) .p np) .c nc := rfl

theorem InitInv.addAll {g : MG} {W : List Wire} (h : InitInv g W) (t : RT) (h0 : g.nOf t = 0) (n : Nat) :
    InitInv (addAllRegs g t n) (W ++ (List.range n).map fun i => ⟨t, i⟩) ∧ (addAllRegs g t n).nOf t = n ∧
      ∀ t', t' ≠ t → (addAllRegs g t n).nOf t' = g.nOf t' := by
  induction n with
  | zero => simp [addAllRegs, h, h0]
  | succ k ih =>
    obtain ⟨hi, hn, hother⟩ := ih
    have hstep : addAllRegs g t (k + 1) = addedReg (addAllRegs g t k) ⟨t, k⟩ := by
      unfold addAllRegs
      rw [List.range_succ, List.foldl_append]
      simp only [List.foldl_cons, List.foldl_nil]
      have := (hi.addReg ⟨t, k⟩ (by simp only; exact hn.symm)).1
      unfold addAllRegs at this
      rw [this]
    rw [hstep]
    refine ⟨?_, ?_, ?_⟩
    · have := (hi.addReg ⟨t, k⟩ (by simp only; exact hn.symm)).2
      rw [List.range_succ, List.map_append, ← List.append_assoc]
      exact this
    · rw [nOf_addedReg]; simp [hn]
    · intro t' ht'
      rw [nOf_addedReg, if_neg ht']
      exact hother t' ht'

theorem initInv_empty : InitInv {} [] := by
  refine ⟨⟨?_, ?_, ?_, ?_, ?_, ?_, ?_, ?_, ?_, ?_⟩, ?_, ?_, rfl, rfl, List.nodup_nil, rfl, List.nodup_nil⟩
  · intro w hw; cases hw
  · intro w hw; cases hw
  · intro w hw; cases hw
  · intro w hw; cases hw
  · intro n w h; cases h
  · intro n w h; cases h
  · intro n o h; cases h
  · intro e he; cases he
  · intro w hw; cases hw
  · intro w h; cases h
  · intro n h; cases h
  · intro w
    cases w with | mk t i => cases t <;> simp [MG.nOf]

def wiresN (ne np nc : Nat) : List Wire :=
  (List.range ne).map (fun i => ⟨.e, i⟩) ++ (List.range np).map (fun i => ⟨.p, i⟩) ++ (List.range nc).map (fun i => ⟨.c, i⟩)

theorem allWires_eq (c : Circuit) : allWires c = wiresN c.ne c.np c.nc := rfl

theorem initInv_init (ne np nc : Nat) :
    InitInv (MG.init ne np nc) (wiresN ne np nc) ∧ (MG.init ne np nc).ne = ne ∧ (MG.init ne np nc).np = np ∧
      (MG.init ne np nc).nc = nc := by
  rw [init_eq]
  obtain ⟨h1, n1, o1⟩ := initInv_empty.addAll .e rfl ne
  obtain ⟨h2, n2, o2⟩ := h1.addAll .p (by rw [o1 .p (by decide)]; rfl) np
  obtain ⟨h3, n3, o3⟩ := h2.addAll .c (by rw [o2 .c (by decide), o1 .c (by decide)]; rfl) nc
  refine ⟨?_, ?_, ?_, ?_⟩
  · unfold wiresN
    simpa using h3
  · have := o3 .e (by decide)
    rw [o2 .e (by decide), n1] at this
    exact this
  · have := o3 .p (by decide)
    rw [n2] at this
    exact this
  · exact n3

/-! ## `MG.build` -/

def OpOK (W : List Wire) (o : Op) : Prop := (∀ w ∈ opWires o, w ∈ W) ∧ (opWires o).Nodup

/-- the operation nodes on register `w` of the DAG built from `l`: the `k`-th operation is node `k + 1` -/
def bodyOf (l : List Op) (w : Wire) : List Nd :=
  (l.zipIdx.filter (fun p => decide (w ∈ opWires p.1))).map (fun p => Nd.op (p.2 + 1))

theorem bodyOf_append (l : List Op) (o : Op) (w : Wire) :
    bodyOf (l ++ [o]) w = bodyOf l w ++ (if w ∈ opWires o then [Nd.op (l.length + 1)] else []) := by
  unfold bodyOf
  rw [List.zipIdx_append, List.filter_append, List.map_append]
  congr 1
  by_cases h : w ∈ opWires o
  · simp [List.zipIdx, h]
  · simp [List.zipIdx, h]

/-- the graph is a family of register paths over the registers `W`, every register exists, node ids are bounded by the
    counter, and the operations along the path of `w` are the operations of `l` that touch `w` -/
def BuildInv (W : List Wire) (g : MG) (l : List Op) : Prop :=
  ∃ body, Rep0 g W body ∧ (∀ w ∈ W, RegOK g w) ∧ (∀ n ∈ g.nodes.map (·.1), ∀ k, n = .op k → k ≤ g.nodeId) ∧
    (∀ w ∈ W, wireOps g body w = l.filter (touches w)) ∧
    (∀ n o, g.opOf n = some (.gate o) → ∀ w' ∈ opWires o, w' ∈ W ∧ n ∈ body w') ∧
    (g.nodes.map (·.1)).Nodup ∧ gateOpsOf g.nodes = l ∧ (ioOf g.nodes).length = 2 * W.length ∧
    g.nodeId = l.length ∧ (∀ w, body w = bodyOf l w) ∧
    (∀ k (hk : k < l.length), g.opOf (.op (k + 1)) = some (.gate l[k])) ∧ TripNodup g

theorem nOf_eq_of_counts (g g' : MG) (h1 : g'.ne = g.ne) (h2 : g'.np = g.np) (h3 : g'.nc = g.nc) (t : RT) :
    g'.nOf t = g.nOf t := by cases t <;> simp [MG.nOf, h1, h2, h3]

theorem wireOps_bodyOf (g : MG) (l : List Op) (hat : ∀ k (hk : k < l.length), g.opOf (.op (k + 1)) = some (.gate l[k]))
    (w : Wire) : wireOps g (bodyOf l) w = l.filter (touches w) := by
  unfold wireOps bodyOf
  conv_rhs => rw [← List.zipIdx_map_fst 0 l, List.filter_map]
  rw [List.filterMap_map, ← List.filterMap_eq_map,
    List.filter_congr (q := touches w ∘ (·.1)) (fun p _ => by simp [touches])]
  apply List.filterMap_congr
  intro p hp
  have := List.mem_zipIdx (List.mem_filter.1 hp).1
  simp only [Nat.zero_add, Nat.sub_zero] at this
  simp only [Function.comp, gateAt, hat p.2 this.2.1, this.2.2]

theorem BuildInv.add {W : List Wire} {g : MG} {l : List Op} (h : BuildInv W g l) (o : Op) (ho : OpOK W o) :
    ∃ g', g.add o = .ok g' ∧ BuildInv W g' (l ++ [o]) ∧ g'.ne = g.ne ∧ g'.np = g.np ∧ g'.nc = g.nc := by
  obtain ⟨body, r, hreg, hid, _, hcomp, hcount, hgl, hio, hnl, hbo, hat, htn⟩ := h
  obtain ⟨g', body', hadd, r', hb', hnodes, hnid, h1, h2, h3, htn'⟩ := r.add o ho.1 ho.2 hreg hid htn
  have hfreshN := fresh_op hid
  have hbo' : ∀ w, body' w = bodyOf (l ++ [o]) w := by
    intro w
    rw [hb' w, hbo w, bodyOf_append, hnl]
  have hat' : ∀ k (hk : k < (l ++ [o]).length), g'.opOf (.op (k + 1)) = some (.gate (l ++ [o])[k]) := by
    intro k hk
    by_cases hkl : k < l.length
    · have hmem := opOf_some_mem g _ _ (hat k hkl)
      rw [opOf_append_old g g' _ hnodes _ hmem, hat k hkl, List.getElem_append_left hkl]
    · have hkeq : k = l.length := by
        simp only [List.length_append, List.length_cons, List.length_nil] at hk
        omega
      subst hkeq
      have e1 : g'.opOf (Nd.op (l.length + 1)) = some (.gate o) := by
        rw [← hnl]; exact opOf_snoc_new g g' _ _ hnodes hfreshN
      rw [e1]
      simp
  -- `Rep0.add` gives the paths of `g'` (`body'` is `body` with the new node at the end of the registers of `o`); the
  -- bullets are the conjuncts of `BuildInv` from `RegOK` to the last but one, in order (the operations along a path follow
  -- from the last two, `hbo'` and `hat'`); old nodes keep what they carry
  refine ⟨g', hadd, ⟨body', r', ?_, ?_, ?_, ?_, ?_, ?_, ?_, ?_, ?_, ?_, htn'⟩, h1, h2, h3⟩
  · intro w hw
    obtain ⟨a, b⟩ := hreg w hw
    refine ⟨by rw [nOf_eq_of_counts g g' h1 h2 h3]; exact a, ?_⟩
    rw [hasNode_iff] at b ⊢
    rw [hnodes, List.map_append]
    exact List.mem_append_left _ b
  · intro n hn k hk
    rw [hnodes, List.map_append, List.mem_append] at hn
    rcases hn with hn | hn
    · have := hid n hn k hk; omega
    · simp only [List.map_cons, List.map_nil, List.mem_singleton] at hn
      rw [hn] at hk
      injection hk with hk
      omega
  · intro w _
    rw [funext hbo', wireOps_bodyOf g' _ hat']
  · intro n o' ho' w' hw'
    rw [hb' w', List.mem_append]
    rcases opOf_snoc_some g g' _ _ hnodes n _ ho' with hg | ⟨rfl, hgo⟩
    · obtain ⟨a, b⟩ := hcomp n o' hg w' hw'
      exact ⟨a, Or.inl b⟩
    · injection hgo with hgo
      subst hgo
      rw [if_pos hw']
      exact ⟨ho.1 w' hw', by simp⟩
  · rw [hnodes, List.map_append, List.nodup_append]
    refine ⟨hcount, by simp, ?_⟩
    intro a ha b hb hab
    simp only [List.map_cons, List.map_nil, List.mem_singleton] at hb
    subst hab hb
    exact hfreshN ha
  · rw [hnodes]
    unfold gateOpsOf at hgl ⊢
    rw [List.filterMap_append, hgl]
    rfl
  · rw [hnodes]
    unfold ioOf at hio ⊢
    rw [List.filter_append, List.length_append, hio]
    rfl
  · rw [hnid, hnl]; simp
  · exact hbo'
  · exact hat'

theorem build_fold (W : List Wire) : ∀ (todo : List Op) (g : MG) (done : List Op), BuildInv W g done →
    (∀ o ∈ todo, OpOK W o) →
    ∃ g', todo.foldlM MG.add g = .ok g' ∧ BuildInv W g' (done ++ todo) ∧ g'.ne = g.ne ∧ g'.np = g.np ∧ g'.nc = g.nc := by
  intro todo
  induction todo with
  | nil => intro g done h _; exact ⟨g, rfl, by simpa using h, rfl, rfl, rfl⟩
  | cons o todo' ih =>
    intro g done h hall
    obtain ⟨g1, hadd, h1, a1, a2, a3⟩ := h.add o (hall o (by simp))
    obtain ⟨g2, hf, h2, b1, b2, b3⟩ := ih g1 (done ++ [o]) h1 (fun o' ho' => hall o' (List.mem_cons_of_mem _ ho'))
    refine ⟨g2, ?_, by simpa using h2, b1.trans a1, b2.trans a2, b3.trans a3⟩
    rw [List.foldlM_cons, hadd]
    exact hf

theorem mem_wiresN (ne np nc : Nat) (w : Wire) :
    w ∈ wiresN ne np nc ↔ w.i < (match w.t with | .e => ne | .p => np | .c => nc) := by
  unfold wiresN
  cases w with | mk t i =>
  simp only [List.mem_append, List.mem_map, List.mem_range, Wire.mk.injEq]
  cases t <;> simp

theorem buildInv_init (ne np nc : Nat) : BuildInv (wiresN ne np nc) (MG.init ne np nc) [] := by
  obtain ⟨h, _, _, _⟩ := initInv_init ne np nc
  refine ⟨fun _ => [], h.rep, ?_, ?_, ?_, ?_, ?_, h.noGates, ?_, h.nodeId, fun _ => rfl, ?_, h.trips⟩
  · intro w hw
    refine ⟨(h.regs w).1 hw, ?_⟩
    rw [hasNode_iff]
    exact opOf_some_mem _ _ _ (h.rep.inpOp w hw)
  · intro n hn k hk
    obtain ⟨w, _, h1 | h1⟩ := h.nodesW n hn
    · rw [h1] at hk; cases hk
    · rw [h1] at hk; cases hk
  · intro w _; rfl
  · intro n o ho
    exfalso
    obtain ⟨w, _, h1 | h1⟩ := h.nodesW n (opOf_some_mem _ _ _ ho)
    · rw [h1, h.rep.inpOp w ‹_›] at ho; cases ho
    · rw [h1, h.rep.outOp w ‹_›] at ho; cases ho
  · exact h.names
  · have := length_io_gate (MG.init ne np nc).nodes
    rw [h.noGates, h.count] at this
    simpa using this.symm
  · intro k hk; cases hk

/-- **the multigraph of a circuit is a family of register paths** and the operations along the path of register `w` are
    the operations of the circuit that touch `w`, in the order they were added -/
theorem build_rep (c : Circuit) (h : ∀ o ∈ c.ops, OpOK (wiresN c.ne c.np c.nc) o) :
    ∃ g, MG.build c = .ok g ∧ BuildInv (wiresN c.ne c.np c.nc) g c.ops ∧ g.ne = c.ne ∧ g.np = c.np ∧ g.nc = c.nc := by
  obtain ⟨_, e1, e2, e3⟩ := initInv_init c.ne c.np c.nc
  obtain ⟨g, hf, hb, a1, a2, a3⟩ := build_fold (wiresN c.ne c.np c.nc) c.ops _ [] (buildInv_init c.ne c.np c.nc) h
  exact ⟨g, hf, by simpa using hb, a1.trans e1, a2.trans e2, a3.trans e3⟩

end Graphiq.Compare
