/-
  Proofs/HilbertDimReduced.lean — the reduced state of an arbitrary stabilizer state (no product assumption).

  For a valid Clifford tableau on `n = m + |rem|` qubits and a (strictly descending) list `rem` of traced-out sites, let
  `c_0 … c_{k-1}` be an independent generating set of the subgroup of stabilizers that act as the identity on `rem`.  Then

      Tr_rem ρ  =  (2^k / 2^m) · Π ,      Π = ∏_{i<k} (1 + c_i|_kept)/2   an orthogonal projector,

  i.e. the reduced state is maximally mixed on the subspace stabilized by the restricted subgroup: `σ² = (2^k/2^m) σ`,
  purity `tr σ² = 2^{-(m-k)}` — the entanglement entropy of the cut is `m − k` bits (Fattal et al.), the quantity behind the
  "height function" of C03.  `k = m` is the product-factor case (`rho_partialTrace_factor`: a pure state).

  * `ptraceSite_pauli`, `ptraceList_pauli` : the partial trace of a Pauli matrix;
  * `reduced_state_sum` : `Tr_rem ρ = 2^{-m} Σ_{g ∈ G, g = 1 on rem} g|_kept`;
  * `reduced_state_eq_proj` : the theorem above.
-/
import GraphiqModel.Proofs.HilbertDimGroupSum
import GraphiqModel.Proofs.HilbertDimAdjoint
import GraphiqModel.Proofs.TabSpecFactor
namespace Graphiq
namespace Hilbert
open Matrix PRow TabSpec Tab STab

/-! ### partial trace of a Pauli matrix -/

theorem trace_sigma (x z : Bool) : Matrix.trace (sigma x z) = if x = false ∧ z = false then 2 else 0 := by
  obtain ⟨fx, fy, fz⟩ := sigma_facts
  cases x <;> cases z
  · rw [sigma_ff, Matrix.trace_one]; simp
  · rw [sigma_ft, fz.2.2]; simp
  · rw [sigma_tf, fx.2.2]; simp
  · rw [sigma_tt, fy.2.2]; simp

theorem ptraceSite_pauli (m q : Nat) (hq : q ≤ m) (P : PRow) :
    ptraceSite q (pauliMat (m + 1) P)
      = (if P.x q = false ∧ P.z q = false then (2 : ℂ) else 0) • pauliMat m (P.deleteCol q) := by
  rw [pauliMat_site m q hq, ptraceSite_insSite q hq, trace_sigma]

def delCols : List Nat → PRow → PRow
  | [], P => P
  | q :: rest, P => delCols rest (P.deleteCol q)

theorem idOn_cons (q : Nat) (rest : List Nat) (hlt : ∀ a, a ∈ rest → a < q) (P : PRow) :
    IdOn (q :: rest) P ↔ (P.x q = false ∧ P.z q = false) ∧ IdOn rest (P.deleteCol q) := by
  constructor
  · intro h
    refine ⟨h q List.mem_cons_self, fun a ha => ?_⟩
    have := h a (List.mem_cons_of_mem _ ha)
    simp only [PRow.deleteCol, hlt a ha, if_true]
    exact this
  · intro ⟨h1, h2⟩ a ha
    rcases List.mem_cons.mp ha with e | e
    · rw [e]; exact h1
    · have := h2 a e
      simp only [PRow.deleteCol, hlt a e, if_true] at this
      exact this

open Classical in
theorem ptraceList_pauli {m : Nat} (rem : List Nat) (hpw : rem.Pairwise (· > ·))
    (hlt : ∀ q, q ∈ rem → q < m + rem.length) (P : PRow) :
    ptraceList rem (pauliMat (m + rem.length) P)
      = (if IdOn rem P then (2 : ℂ) ^ rem.length else 0) • pauliMat m (delCols rem P) := by
  induction rem generalizing P with
  | nil =>
    show pauliMat m P = _
    have h0 : IdOn ([] : List Nat) P := fun a ha => absurd ha List.not_mem_nil
    rw [if_pos h0]; simp [delCols]
  | cons q rest ih =>
    have hp := List.pairwise_cons.mp hpw
    have hq : q < m + (rest.length + 1) := hlt q List.mem_cons_self
    show ptraceList rest (ptraceSite q (pauliMat (m + rest.length + 1) P)) = _
    rw [ptraceSite_pauli (m + rest.length) q (by omega), ptraceList_smul,
      ih hp.2 (fun q' hq' => by have := hp.1 q' hq'; omega) (P.deleteCol q), smul_smul]
    congr 1
    have hiff := idOn_cons q rest hp.1 P
    by_cases h1 : P.x q = false ∧ P.z q = false
    · by_cases h2 : IdOn rest (P.deleteCol q)
      · rw [if_pos h1, if_pos h2, if_pos (hiff.mpr ⟨h1, h2⟩), List.length_cons, pow_succ, _root_.mul_comm]
      · rw [if_pos h1, if_neg h2, if_neg (fun h => h2 (hiff.mp h).2), mul_zero]
    · rw [if_neg h1, if_neg (fun h => h1 (hiff.mp h).1), zero_mul]

theorem ptraceList_zero {m : Nat} (rem : List Nat) :
    ptraceList (m := m) rem 0 = 0 := by
  have := ptraceList_smul (m := m) rem 0 0
  rw [zero_smul, zero_smul] at this
  exact this

theorem ptraceList_sum {m : Nat} {ι : Type} (rem : List Nat) (s : Finset ι)
    (f : ι → Matrix (Bits (m + rem.length)) (Bits (m + rem.length)) ℂ) :
    ptraceList rem (∑ i ∈ s, f i) = ∑ i ∈ s, ptraceList rem (f i) := by
  classical
  induction s using Finset.induction_on with
  | empty => simp [ptraceList_zero]
  | insert a s ha ih => rw [Finset.sum_insert ha, Finset.sum_insert ha, ptraceList_add, ih]

/-! ### column deletion on rows that are the identity there -/

theorem delCols_congr {m : Nat} (rem : List Nat) (a b : PRow) (h : EqOn (m + rem.length) a b) :
    EqOn m (delCols rem a) (delCols rem b) := by
  induction rem generalizing a b with
  | nil => exact h
  | cons q rest ih => exact ih _ _ (deleteCol_congr (m + rest.length) q a b h)

theorem delCols_mul {m : Nat} (rem : List Nat) (hpw : rem.Pairwise (· > ·))
    (hlt : ∀ q, q ∈ rem → q < m + rem.length) (a b : PRow) (ha : IdOn rem a) (hb : IdOn rem b) :
    EqOn m (delCols rem (PRow.mul (m + rem.length) a b)) (PRow.mul m (delCols rem a) (delCols rem b)) := by
  induction rem generalizing a b with
  | nil => exact EqOn.refl _ _
  | cons q rest ih =>
    have hp := List.pairwise_cons.mp hpw
    have hq : q < m + (rest.length + 1) := hlt q List.mem_cons_self
    have ha' := (idOn_cons q rest hp.1 a).mp ha
    have hb' := (idOn_cons q rest hp.1 b).mp hb
    have e1 := deleteCol_mul (m + rest.length) q (by omega) a b ha'.1.1 hb'.1.1
    exact (delCols_congr rest _ _ e1).trans
      (ih hp.2 (fun q' hq' => by have := hp.1 q' hq'; omega) _ _ ha'.2 hb'.2)

theorem delCols_one {m : Nat} (rem : List Nat) : EqOn m (delCols rem PRow.one) PRow.one := by
  induction rem with
  | nil => exact EqOn.refl _ _
  | cons q rest ih => exact (delCols_congr rest _ _ (deleteCol_one (m + rest.length) q)).trans ih

theorem delCols_ip (rem : List Nat) (a : PRow) : (delCols rem a).ip = a.ip := by
  induction rem generalizing a with
  | nil => rfl
  | cons q rest ih => exact ih _

theorem sp_delCols {m : Nat} (rem : List Nat) (hpw : rem.Pairwise (· > ·))
    (hlt : ∀ q, q ∈ rem → q < m + rem.length) (a b : PRow) (ha : IdOn rem a) (hb : IdOn rem b) :
    sp m (delCols rem a) (delCols rem b) = sp (m + rem.length) a b := by
  induction rem generalizing a b with
  | nil => rfl
  | cons q rest ih =>
    have hp := List.pairwise_cons.mp hpw
    have hq : q < m + (rest.length + 1) := hlt q List.mem_cons_self
    have ha' := (idOn_cons q rest hp.1 a).mp ha
    have hb' := (idOn_cons q rest hp.1 b).mp hb
    show sp m (delCols rest (a.deleteCol q)) (delCols rest (b.deleteCol q)) = _
    rw [ih hp.2 (fun q' hq' => by have := hp.1 q' hq'; omega) _ _ ha'.2 hb'.2,
      sp_deleteCol (m + rest.length) q (by omega) a b (by simp [ha'.1.1, ha'.1.2])]
    rfl

theorem idOn_mul (n : Nat) (rem : List Nat) (a b : PRow) (ha : IdOn rem a) (hb : IdOn rem b) :
    IdOn rem (PRow.mul n a b) := by
  intro q hq
  simp only [mul_x, mul_z, (ha q hq).1, (ha q hq).2, (hb q hq).1, (hb q hq).2]
  exact ⟨rfl, rfl⟩

theorem idOn_mprod (n : Nat) (rem : List Nat) (c : Nat → PRow) (k : Nat) (hc : ∀ i, i < k → IdOn rem (c i)) (s : Nat) :
    IdOn rem (mprod n c s k) := by
  induction k with
  | zero => intro q _; exact ⟨rfl, rfl⟩
  | succ j ih =>
    simp only [mprod]
    cases s.testBit j
    · exact ih (fun i hi => hc i (Nat.lt_succ_of_lt hi))
    · exact idOn_mul n rem _ _ (hc j (Nat.lt_succ_self j)) (ih (fun i hi => hc i (Nat.lt_succ_of_lt hi)))

theorem delCols_mprod {m : Nat} (rem : List Nat) (hpw : rem.Pairwise (· > ·))
    (hlt : ∀ q, q ∈ rem → q < m + rem.length) (c : Nat → PRow) (k : Nat) (hc : ∀ i, i < k → IdOn rem (c i)) (s : Nat) :
    EqOn m (delCols rem (mprod (m + rem.length) c s k)) (mprod m (fun i => delCols rem (c i)) s k) := by
  induction k with
  | zero => exact delCols_one rem
  | succ j ih =>
    have ih := ih (fun i hi => hc i (Nat.lt_succ_of_lt hi))
    simp only [mprod]
    cases s.testBit j
    · exact ih
    · exact (delCols_mul rem hpw hlt _ _ (hc j (Nat.lt_succ_self j))
        (idOn_mprod _ rem c j (fun i hi => hc i (Nat.lt_succ_of_lt hi)) s)).trans
        (mul_congr m _ _ _ _ (EqOn.refl _ _) ih)

open Classical in
/-- **`Tr_rem ρ = 2^{-m} Σ_{g ∈ G, g = 1 on rem} g|_kept`** (sum over the `2^n` subset products of the generators) -/
theorem reduced_state_sum (m : Nat) (t : Tab) (rem : List Nat) (hn : t.n = m + rem.length) (hv : t.Valid)
    (hpw : rem.Pairwise (· > ·)) (hlt : ∀ q, q ∈ rem → q < t.n) :
    ptraceList rem (rho (m + rem.length) (STab.ofTab t))
      = (1 / 2 : ℂ) ^ m • ∑ s ∈ Finset.range (2 ^ t.n),
          (if IdOn rem (mprod t.n (STab.ofTab t).row s t.n) then pauliMat m (delCols rem (mprod t.n (STab.ofTab t).row s t.n))
           else 0) := by
  have hg := (ofTab_good t hv).goodTo
  have e : (STab.ofTab t).n = t.n := rfl
  rw [e] at hg
  have hrho : rho (m + rem.length) (STab.ofTab t)
      = (1 / 2 : ℂ) ^ t.n • ∑ s ∈ Finset.range (2 ^ t.n), pauliMat (m + rem.length) (mprod t.n (STab.ofTab t).row s t.n) := by
    have := rhoTo_mask_sum t.n (STab.ofTab t).row t.n hg
    show rhoTo (m + rem.length) (STab.ofTab t).row t.n = _
    rw [hn] at this ⊢
    exact this
  rw [hrho, ptraceList_smul, ptraceList_sum]
  have hterm : ∀ s, ptraceList rem (pauliMat (m + rem.length) (mprod t.n (STab.ofTab t).row s t.n))
      = (2 : ℂ) ^ rem.length • (if IdOn rem (mprod t.n (STab.ofTab t).row s t.n)
          then pauliMat m (delCols rem (mprod t.n (STab.ofTab t).row s t.n)) else 0) := by
    intro s
    rw [ptraceList_pauli rem hpw (fun q hq => by have := hlt q hq; omega)]
    split <;> simp
  rw [Finset.sum_congr rfl (fun s _ => hterm s), ← Finset.smul_sum, smul_smul, hn, pow_add]
  congr 1
  rw [_root_.mul_assoc, ← mul_pow]
  norm_num

/-- `c_0 … c_{k-1}` is an independent generating set of the subgroup of the stabilizer group of `t` that acts as the identity
    on the sites of `rem` -/
structure IsLocalBasis (t : Tab) (rem : List Nat) (k : Nat) (c : Nat → PRow) : Prop where
  mem : ∀ i, i < k → Grp t (c i)
  idOn : ∀ i, i < k → IdOn rem (c i)
  indep : ∀ S : Nat → Bool, EqOn t.n (sprod t.n c S k) PRow.one → ∀ i, i < k → S i = false
  span : ∀ g, Grp t g → IdOn rem g → ∃ S : Nat → Bool, EqOn t.n g (sprod t.n c S k)

open Classical in
theorem local_sum_regroup (m : Nat) (t : Tab) (rem : List Nat) (hn : t.n = m + rem.length) (hv : t.Valid)
    (hr : t.StabReal) (hlt : ∀ q, q ∈ rem → q < t.n) (k : Nat) (c : Nat → PRow) (hb : IsLocalBasis t rem k c) :
    ∑ s ∈ Finset.range (2 ^ t.n),
        (if IdOn rem (mprod t.n (STab.ofTab t).row s t.n) then pauliMat m (delCols rem (mprod t.n (STab.ofTab t).row s t.n))
         else 0)
      = ∑ u ∈ Finset.range (2 ^ k), pauliMat m (delCols rem (mprod t.n c u k)) := by
  rw [← Finset.sum_filter]
  exact sum_regroup (STab.ofTab t) (ofTab_good t hv) (ofTab_indep t hv) (IdOn rem)
    (fun p p' h hp q hq => by rw [← (h.1 q (hlt q hq)).1, ← (h.1 q (hlt q hq)).2]; exact hp q hq) k c
    (fun i hi => (spn_of_grp t hr _).mp (hb.mem i hi))
    (fun u => by rw [← mprod_eq_sprod]; exact idOn_mprod t.n rem c k hb.idOn u) hb.indep
    (fun g hg hid => hb.span g ((spn_of_grp t hr g).mpr hg) hid)
    (fun g => pauliMat m (delCols rem g))
    (fun g g' h => pauliMat_congr m _ _ (delCols_congr rem _ _ (hn ▸ h)))

/-! ### the reduced state is a scaled projector -/

theorem localBasis_goodTo (m : Nat) (t : Tab) (rem : List Nat) (hn : t.n = m + rem.length) (hv : t.Valid)
    (hr : t.StabReal) (hpw : rem.Pairwise (· > ·)) (hlt : ∀ q, q ∈ rem → q < t.n) (k : Nat) (c : Nat → PRow)
    (hb : IsLocalBasis t rem k c) : GoodTo m (fun i => delCols rem (c i)) k := by
  constructor
  · intro i hi
    show (delCols rem (c i)).ip = false
    rw [delCols_ip]; exact grp_real t hv hr _ (hb.mem i hi)
  · intro i j hi hj
    show sp m (delCols rem (c i)) (delCols rem (c j)) = false
    rw [sp_delCols rem hpw (fun q hq => by have := hlt q hq; omega) _ _ (hb.idOn i hi) (hb.idOn j hj), ← hn]
    exact grp_comm t hv hr _ _ (hb.mem i hi) (hb.mem j hj)

/-- **The reduced state of a stabilizer state.**  `σ = Tr_rem ρ(t) = (2^k / 2^m) · Π` with
    `Π = ∏_{i<k} (1 + c_i|_kept)/2` an orthogonal projector; hence `σ² = (2^k/2^m) σ` and the purity is
    `tr σ² = 2^k / 2^m = 2^{-(m-k)}`: the state is maximally mixed on the subspace stabilized by the restricted subgroup. -/
theorem reduced_state_eq_proj (m : Nat) (t : Tab) (rem : List Nat) (hn : t.n = m + rem.length) (hv : t.Valid)
    (hr : t.StabReal) (hpw : rem.Pairwise (· > ·)) (hlt : ∀ q, q ∈ rem → q < t.n) (k : Nat) (c : Nat → PRow)
    (hb : IsLocalBasis t rem k c) :
    ptraceList rem (rho (m + rem.length) (STab.ofTab t))
      = ((2 : ℂ) ^ k / 2 ^ m) • rhoTo m (fun i => delCols rem (c i)) k ∧
    rhoTo m (fun i => delCols rem (c i)) k * rhoTo m (fun i => delCols rem (c i)) k
      = rhoTo m (fun i => delCols rem (c i)) k ∧
    (rhoTo m (fun i => delCols rem (c i)) k)ᴴ = rhoTo m (fun i => delCols rem (c i)) k ∧
    ptraceList rem (rho (m + rem.length) (STab.ofTab t)) * ptraceList rem (rho (m + rem.length) (STab.ofTab t))
      = ((2 : ℂ) ^ k / 2 ^ m) • ptraceList rem (rho (m + rem.length) (STab.ofTab t)) ∧
    Matrix.trace (ptraceList rem (rho (m + rem.length) (STab.ofTab t))
        * ptraceList rem (rho (m + rem.length) (STab.ofTab t))) = (2 : ℂ) ^ k / 2 ^ m := by
  have hgood := localBasis_goodTo m t rem hn hv hr hpw hlt k c hb
  have hidem := rhoTo_idem m _ k hgood
  have hherm := rhoTo_hermitian m _ k hgood
  have hσ : ptraceList rem (rho (m + rem.length) (STab.ofTab t))
      = ((2 : ℂ) ^ k / 2 ^ m) • rhoTo m (fun i => delCols rem (c i)) k := by
    rw [reduced_state_sum m t rem hn hv hpw hlt, local_sum_regroup m t rem hn hv hr hlt k c hb]
    have hterm : ∀ u, pauliMat m (delCols rem (mprod t.n c u k))
        = pauliMat m (mprod m (fun i => delCols rem (c i)) u k) := by
      intro u
      apply pauliMat_congr
      have := delCols_mprod (m := m) rem hpw (fun q hq => by have := hlt q hq; omega) c k hb.idOn u
      rw [← hn] at this
      exact this
    rw [Finset.sum_congr rfl (fun u _ => hterm u)]
    have hsum := rhoTo_mask_sum m (fun i => delCols rem (c i)) k hgood
    have h2k : (2 : ℂ) ^ k • rhoTo m (fun i => delCols rem (c i)) k
        = ∑ u ∈ Finset.range (2 ^ k), pauliMat m (mprod m (fun i => delCols rem (c i)) u k) := by
      rw [hsum, smul_smul, ← mul_pow]; norm_num
    rw [← h2k, smul_smul]
    congr 1
    rw [one_div, inv_pow]; field_simp
  have tr1 : Matrix.trace (ptraceList rem (rho (m + rem.length) (STab.ofTab t))) = 1 := by
    rw [trace_ptraceList rem (fun q hq => by have := hlt q hq; omega) hpw]
    have := rho_ofTab_trace t hv
    rw [hn] at this; exact this
  have hsq : ptraceList rem (rho (m + rem.length) (STab.ofTab t)) * ptraceList rem (rho (m + rem.length) (STab.ofTab t))
      = ((2 : ℂ) ^ k / 2 ^ m) • ptraceList rem (rho (m + rem.length) (STab.ofTab t)) := by
    rw [hσ, smul_mul_smul_comm, hidem, smul_smul]
  refine ⟨hσ, hidem, hherm, hsq, ?_⟩
  rw [hsq, Matrix.trace_smul, tr1, smul_eq_mul, _root_.mul_one]

end Hilbert
end Graphiq
