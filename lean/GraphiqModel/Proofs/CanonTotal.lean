/-
  Proofs/CanonTotal.lean — when `canonical_form` returns: on a real commuting tableau exactly if the rows are independent
  (`canonicalForm_returns_iff`), and more generally whenever the group holds `n` independent elements and not `−I`
  (`canonicalForm_total`: Gaussian elimination then finds `n` pivots and the final assert passes).  Hence independence
  of the generators is a property of the group (`Indep.of_spanEq`).

  Idea: were there fewer pivots, the row just below the last pivot would carry no bit at all, so it is `+I` or `−I`.
  `−I` is excluded; a row `+I` can be dropped from the generators (`sprod_drop`), leaving `n − 1` of them — too few for
  `n` independent elements, since `d` independent elements parametrise `2^d` distinct subset products and an injection
  of `2^d` subsets into `2^d'` subsets forces `d ≤ d'` (`indep_le_gen`; Mathlib only for the cardinality of `Fin d → Bool`).
  The converse drops a row that is a product of the others in the same way.
-/
import GraphiqModel.Proofs.CanonUnique
import Mathlib.Data.Fintype.BigOperators
namespace Graphiq
open PRow Tab
namespace STab

/-- a bit vector indexed by `Fin n`, read at a natural number -/
def extv {n : Nat} (S : Fin n → Bool) (i : Nat) : Bool := if h : i < n then S ⟨i, h⟩ else false

theorem extv_lt {n : Nat} (S : Fin n → Bool) (i : Nat) (h : i < n) : extv S i = S ⟨i, h⟩ := by
  unfold extv; rw [dif_pos h]

/-! ### independent elements need as many generators -/

theorem sprod_spn_gens (A : STab) (gens : Nat → PRow) (d : Nat) (hm : ∀ i, i < d → A.Spn (gens i)) (S : Nat → Bool)
    (m : Nat) (hmd : m ≤ d) : A.Spn (sprod A.n gens S m) :=
  (InSpan.closed _ _ _).sprod_mem (fun i hi => hm i (by omega)) S

theorem sprod_mul_gens (A : STab) (hg : A.Good) (gens : Nat → PRow) (d : Nat) (hm : ∀ i, i < d → A.Spn (gens i))
    (S T : Nat → Bool) (m : Nat) (hmd : m ≤ d) :
    EqOn A.n (PRow.mul A.n (sprod A.n gens S m) (sprod A.n gens T m)) (sprod A.n gens (fun i => xor (S i) (T i)) m) :=
  (InSpan.closed _ _ _).sprod_mul (spn_comm A hg) (spn_real A hg) (fun i hi => hm i (by omega)) S T

/-- `d` independent elements of a real commuting group, all of whose subset products are subset products of `d'`
    elements: `d ≤ d'` (an injection of the `2^d` subsets into the `2^d'` subsets) -/
theorem indep_le_gen (A : STab) (hg : A.Good) (gens : Nat → PRow) (d : Nat) (hm : ∀ i, i < d → A.Spn (gens i))
    (hind : ∀ S : Nat → Bool, EqOn A.n (sprod A.n gens S d) PRow.one → ∀ i, i < d → S i = false)
    (gens' : Nat → PRow) (d' : Nat)
    (hspan : ∀ S : Nat → Bool, ∃ T : Nat → Bool, EqOn A.n (sprod A.n gens S d) (sprod A.n gens' T d')) : d ≤ d' := by
  have repr : ∀ S : Fin d → Bool, ∃ T : Nat → Bool, EqOn A.n (sprod A.n gens (extv S) d) (sprod A.n gens' T d') :=
    fun S => hspan (extv S)
  let φ : (Fin d → Bool) → (Fin d' → Bool) := fun S j => Classical.choose (repr S) j.1
  have inj : Function.Injective φ := by
    intro S1 S2 e
    have e' : ∀ j, j < d' → Classical.choose (repr S1) j = Classical.choose (repr S2) j := by
      intro j hj
      exact congrFun e ⟨j, hj⟩
    have p1 := Classical.choose_spec (repr S1)
    have p2 := Classical.choose_spec (repr S2)
    rw [sprod_congr A.n gens' _ _ d' e'] at p1
    have e12 : EqOn A.n (sprod A.n gens (extv S1) d) (sprod A.n gens (extv S2) d) := p1.trans p2.symm
    have real1 := spn_real A hg _ (sprod_spn_gens A gens d hm (extv S1) d (Nat.le_refl _))
    have triv : EqOn A.n (sprod A.n gens (fun i => xor (extv S1 i) (extv S2 i)) d) PRow.one :=
      ((sprod_mul_gens A hg gens d hm (extv S1) (extv S2) d (Nat.le_refl _)).symm.trans
        (mul_congr A.n _ _ _ _ (EqOn.refl _ _) e12.symm)).trans (mul_self A.n _ real1)
    have z := hind _ triv
    funext i
    have := z i.1 i.2
    rw [extv_lt S1 i.1 i.2, extv_lt S2 i.1 i.2] at this
    revert this
    cases S1 i <;> cases S2 i <;> simp
  have hc := Fintype.card_le_of_injective φ inj
  rw [Fintype.card_fun, Fintype.card_fun, Fintype.card_bool, Fintype.card_fin, Fintype.card_fin] at hc
  exact (Nat.pow_le_pow_iff_right (by decide)).1 hc

/-! ### a generator that is `+I` can be dropped -/

def skip (p i : Nat) : Nat := if i < p then i else i + 1

theorem sprod_drop (n : Nat) (row : Nat → PRow) (S : Nat → Bool) (p : Nat) (hp : EqOn n (row p) PRow.one) (m : Nat)
    (hm : p ≤ m) :
    EqOn n (sprod n row S (m + 1)) (sprod n (fun i => row (skip p i)) (fun i => S (skip p i)) m) := by
  induction m with
  | zero =>
    have : p = 0 := by omega
    subst this
    simp only [sprod]
    cases S 0
    · exact EqOn.refl _ _
    · exact (mul_congr n _ _ _ _ hp (EqOn.refl _ _)).trans (one_mul n _)
  | succ j ih =>
    by_cases hpj : p = j + 1
    · -- the dropped row is the last one; below it nothing moves
      have e1 : sprod n (fun i => row (skip p i)) (fun i => S (skip p i)) (j + 1) = sprod n row S (j + 1) := by
        have key : ∀ q, q ≤ j + 1 → sprod n (fun i => row (skip p i)) (fun i => S (skip p i)) q = sprod n row S q := by
          intro q
          induction q with
          | zero => intro _; rfl
          | succ q ihq =>
            intro hq
            have hs : skip p q = q := by unfold skip; rw [if_pos (by omega)]
            simp only [sprod]
            rw [hs, ihq (by omega)]
        exact key (j + 1) (Nat.le_refl _)
      rw [e1]
      show EqOn n (bif S (j + 1) then PRow.mul n (row (j + 1)) (sprod n row S (j + 1)) else sprod n row S (j + 1)) _
      rw [← hpj]
      cases S p
      · exact EqOn.refl _ _
      · exact (mul_congr n _ _ _ _ hp (EqOn.refl _ _)).trans (one_mul n _)
    · have ih := ih (by omega)
      have hs : skip p j = j + 1 := by unfold skip; rw [if_neg (by omega)]
      show EqOn n (bif S (j + 1) then PRow.mul n (row (j + 1)) (sprod n row S (j + 1)) else sprod n row S (j + 1))
        (bif S (skip p j) then PRow.mul n (row (skip p j))
          (sprod n (fun i => row (skip p i)) (fun i => S (skip p i)) j)
         else sprod n (fun i => row (skip p i)) (fun i => S (skip p i)) j)
      rw [hs]
      cases S (j + 1)
      · exact ih
      · exact mul_congr n _ _ _ _ (EqOn.refl _ _) ih

/-! ### when `canonical_form` returns -/

/-- `canonical_form` returns on a real commuting tableau whose group has `n` independent elements and not `−I` -/
theorem canonicalForm_total (t : STab) (hg : t.Good) (gens : Nat → PRow) (hm : ∀ i, i < t.n → t.Spn (gens i))
    (hind : ∀ S : Nat → Bool, EqOn t.n (sprod t.n gens S t.n) PRow.one → ∀ i, i < t.n → S i = false)
    (hno : ¬ t.Spn (PRow.neg PRow.one)) : ∃ c, t.canonicalForm = .ok c := by
  obtain ⟨k, px, pz, hn, hx, hz⟩ := canonLoops_pinv t
  obtain ⟨sc, gc⟩ := canonLoops_inv t hg
  have hpr : t.canonLoops.2 = t.n := by
    apply Classical.byContradiction; intro hne
    have hle := hz.pr_le
    have hlt : t.canonLoops.2 < t.n := by omega
    generalize t.canonLoops.2 = pr at hz hlt hle
    generalize hc : t.canonLoops.1 = c at hn hx hz sc gc
    -- row `pr` of the result carries no bit at all
    have bits : SameBits t.n (c.row pr) PRow.one := by
      intro j hj
      exact ⟨hx.below pr j hz.lo_le hlt hj, hz.below pr j (Nat.le_refl _) hlt hj⟩
    have real : (c.row pr).ip = false := gc.real pr (by rw [hn]; exact hlt)
    have inC : c.Spn (c.row pr) := spn_gen c pr (by rw [hn]; exact hlt)
    cases hr : (c.row pr).r with
    | true =>
      -- it is `−I`
      apply hno
      have : EqOn t.n (c.row pr) (PRow.neg PRow.one) := ⟨bits, hr, real⟩
      have h1 := sc.sup _ inC
      unfold Spn at h1 ⊢
      exact InSpan.eqv _ _ h1 this
    | false =>
      have hone : EqOn t.n (c.row pr) PRow.one := ⟨bits, hr, real⟩
      -- `n` independent elements in a group generated by the `n − 1` other rows
      have le := indep_le_gen t hg gens t.n hm hind (fun i => c.row (skip pr i)) (t.n - 1) (by
        intro S
        have hs : c.Spn (sprod t.n gens S t.n) := sc.sub _ (sprod_spn_gens t gens t.n hm S t.n (Nat.le_refl _))
        obtain ⟨T, hT⟩ := spn_repr c gc _ hs
        rw [hn] at hT
        have drop := sprod_drop t.n c.row T pr hone (t.n - 1) (by omega)
        rw [show t.n - 1 + 1 = t.n from by omega] at drop
        exact ⟨fun i => T (skip pr i), hT.trans drop⟩)
      omega
  exact ⟨_, (canonicalForm_ok_iff t _).2 ⟨hpr, rfl⟩⟩

theorem indep_no_minus_one (t : STab) (hg : t.Good) (h : t.Indep) : ¬ t.Spn (PRow.neg PRow.one) := by
  intro hs
  obtain ⟨S, hS⟩ := spn_repr t hg _ hs
  have z := indep_sprod t h S (fun j hj => ⟨(hS.1 j hj).1.symm, (hS.1 j hj).2.symm⟩)
  rw [sprod_none t.n t.row S t.n z] at hS
  have := hS.2.1
  revert this
  decide

/-- **`canonical_form` returns on every independent real commuting generating set** (its final assert passes) -/
theorem canonicalForm_of_indep (t : STab) (hg : t.Good) (h : t.Indep) : ∃ c, t.canonicalForm = .ok c :=
  canonicalForm_total t hg t.row (fun i hi => spn_gen t i hi)
    (fun S hS => indep_sprod t h S hS.1) (indep_no_minus_one t hg h)

/-- **conversely, `canonical_form` returns only on independent generating sets**: a dependent selection of rows multiplies to
    `+I` (the group has no `−I`, its canonical form being independent), so one row is a product of the others and the group is
    generated by `n − 1` rows — too few for the `n` independent rows of the canonical form (`indep_le_gen`) -/
theorem indep_of_canonicalForm (t c : STab) (hg : t.Good) (hc : t.canonicalForm = .ok c) : t.Indep := by
  obtain ⟨sc, gc⟩ := canonicalForm_spanEq t c hg hc
  have ic := (canonicalForm_canon t c hc).indep
  have hn : c.n = t.n := sc.n_eq.symm
  intro S hS i0 hi0
  apply Classical.byContradiction; intro hne
  have hS0 : S i0 = true := by cases h : S i0 <;> simp_all
  have hmem := sprod_spn t S t.n (Nat.le_refl _)
  have bits : SameBits t.n (sprod t.n t.row S t.n) PRow.one := fun j hj => by
    rw [sprod_x, sprod_z]; exact hS j hj
  have real := spn_real t hg _ hmem
  have hone : EqOn t.n (sprod t.n t.row S t.n) PRow.one := by
    refine ⟨bits, ?_, real⟩
    cases hr : (sprod t.n t.row S t.n).r
    · rfl
    · exact absurd (sc.sub _ (InSpan.eqv _ _ hmem (⟨bits, hr, real⟩ : EqOn t.n _ (PRow.neg PRow.one))))
        (indep_no_minus_one c gc ic)
  -- row `i0`, never selected below, may be replaced by `+I` and then dropped
  let row' : Nat → PRow := fun i => if i = i0 then PRow.one else t.row i
  have le := indep_le_gen c gc c.row c.n (fun i hi => spn_gen c i hi) (fun U hU => indep_sprod c ic U hU.1)
    (fun i => row' (skip i0 i)) (t.n - 1) (by
      intro U
      obtain ⟨T, hT⟩ := spn_repr t hg _ (sc.sup _ (sprod_spn c U c.n (Nat.le_refl _)))
      -- multiply by the trivial product so that row `i0` is not selected
      let T2 : Nat → Bool := fun i => xor (T i) (T i0 && S i)
      have e2 : EqOn t.n (sprod t.n t.row T t.n) (sprod t.n t.row T2 t.n) := by
        cases hT0 : T i0
        · have : T2 = T := funext fun i => by simp [T2, hT0]
          rw [this]; exact EqOn.refl _ _
        · have : T2 = fun i => xor (T i) (S i) := funext fun i => by simp [T2, hT0]
          rw [this]
          exact ((mul_one t.n _).symm.trans (mul_congr t.n _ _ _ _ (EqOn.refl _ _) hone.symm)).trans
            (sprod_mul t hg T S t.n (Nat.le_refl _))
      have h0 : T2 i0 = false := by simp [T2, hS0]
      have e3 : sprod t.n t.row T2 t.n = sprod t.n row' T2 t.n :=
        sprod_rows_congr t.n t.row row' T2 t.n fun i _ hi => by
          by_cases e : i = i0
          · rw [e, h0] at hi; cases hi
          · simp [row', e]
      have drop := sprod_drop t.n row' T2 i0 (by simp [row']; exact EqOn.refl _ _) (t.n - 1) (by omega)
      rw [show t.n - 1 + 1 = t.n from by omega, ← e3] at drop
      rw [hn] at hT ⊢
      exact ⟨fun i => T2 (skip i0 i), (hT.trans e2).trans drop⟩)
  omega

theorem canonicalForm_returns_iff (t : STab) (hg : t.Good) : (∃ c, t.canonicalForm = .ok c) ↔ t.Indep :=
  ⟨fun ⟨c, hc⟩ => indep_of_canonicalForm t c hg hc, canonicalForm_of_indep t hg⟩

theorem Indep.of_spanEq {t t' : STab} (hi : t.Indep) (hg : t.Good) (hg' : t'.Good) (hs : SpanEq t t') : t'.Indep := by
  have hn : t'.n = t.n := hs.n_eq.symm
  obtain ⟨c, hc⟩ := canonicalForm_total t' hg' t.row (fun i h => hs.sub _ (spn_gen t i (hn ▸ h)))
    (fun S h => by rw [hn] at h ⊢; exact indep_sprod t hi S h.1) (fun h => indep_no_minus_one t hg hi (hs.sup _ h))
  exact indep_of_canonicalForm t' c hg' hc

/-- if the two loops of `canonical_form` find `n` pivots (its assert passes), the rows are independent -/
theorem indep_of_pivots (t : STab) (hg : t.Good) (h : t.canonLoops.2 = t.n) : t.Indep :=
  indep_of_canonicalForm t t.canonLoops.1 hg ((canonicalForm_ok_iff t _).2 ⟨h, rfl⟩)

end STab
end Graphiq
