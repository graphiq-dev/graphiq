/-
  Proofs/BitEchelon.lean — forward elimination on a bit matrix `B : Nat → Nat → Bool` with `r` rows, independent of how a
  model stores its matrices.  `RowEch` is the loop invariant of `row_reduction` (linalg.py) at pivot position `(pr, pc)`;
  `RowEch.skip`, `RowEch.take`, `RowEch.elim` are the three things a step can do.  The two models of `row_reduction`
  (`S2G.XZ.rowRedLoop`, `LC.rowReductionLoop`) only show that their step has the entries `RowEch.elim` asks for.
  Core Lean only.
-/
import GraphiqModel.Proofs.Bits
namespace Graphiq.Elim

/-- rows `< pr` carry their leading 1 in the increasing columns `p i < pc`; the rows from `pr` on vanish left of `pc` -/
structure RowEch (r : Nat) (B : Nat → Nat → Bool) (p : Nat → Nat) (pr pc : Nat) : Prop where
  piv_lt : ∀ i, i < pr → p i < pc
  mono : ∀ i k, i < k → k < pr → p i < p k
  one : ∀ i, i < pr → B i (p i) = true
  before : ∀ i j, i < pr → j < p i → B i j = false
  below : ∀ i j, pr ≤ i → i < r → j < pc → B i j = false

variable {r : Nat} {B B' : Nat → Nat → Bool} {p : Nat → Nat} {pr pc : Nat}

theorem RowEch.init (r : Nat) (B : Nat → Nat → Bool) (p : Nat → Nat) : RowEch r B p 0 0 :=
  ⟨fun _ h => by omega, fun _ _ _ h => by omega, fun _ h => by omega, fun _ _ h => by omega, fun _ _ _ _ h => by omega⟩

theorem RowEch.col_below (h : RowEch r B p pr pc) (i i' : Nat) (hi : i < pr) (hii : i < i') (hr : i' < r) :
    B i' (p i) = false := by
  by_cases hk : i' < pr
  · exact h.before i' (p i) hk (h.mono i i' hii hk)
  · exact h.below i' (p i) (by omega) hr (h.piv_lt i hi)

/-- the invariant only reads the rows `< r` left of `pc`: how it is carried to the matrix an elimination step returns -/
theorem RowEch.congr (h : RowEch r B p pr pc) (hpr : pr ≤ r)
    (e : ∀ i j, i < r → j < pc → B' i j = B i j) : RowEch r B' p pr pc :=
  ⟨h.piv_lt, h.mono, fun i hi => by rw [e i _ (by omega) (h.piv_lt i hi)]; exact h.one i hi,
   fun i j hi hj => by rw [e i j (by omega) (by have := h.piv_lt i hi; omega)]; exact h.before i j hi hj,
   fun i j h1 h2 hj => by rw [e i j h2 hj]; exact h.below i j h1 h2 hj⟩

/-- with no row left below, the column bound may be anything larger -/
theorem RowEch.widen (h : RowEch r B p pr pc) (hr : r ≤ pr) {pc' : Nat} (hpc : pc ≤ pc') : RowEch r B p pr pc' :=
  ⟨fun i hi => Nat.lt_of_lt_of_le (h.piv_lt i hi) hpc, h.mono, h.one, h.before, fun i _ h1 h2 => by omega⟩

theorem RowEch.skip (h : RowEch r B p pr pc) (h0 : ∀ i, pr ≤ i → i < r → B i pc = false) : RowEch r B p pr (pc + 1) :=
  ⟨fun i hi => Nat.lt_succ_of_lt (h.piv_lt i hi), h.mono, h.one, h.before, fun i j h1 h2 hj => by
    by_cases e : j = pc
    · rw [e]; exact h0 i h1 h2
    · exact h.below i j h1 h2 (by omega)⟩

theorem RowEch.take (h : RowEch r B p pr pc) (hpr : pr < r) (h1 : B pr pc = true)
    (h0 : ∀ i, pr < i → i < r → B i pc = false) :
    RowEch r B (fun i => if i = pr then pc else p i) (pr + 1) (pc + 1) := by
  refine ⟨fun i hi => ?_, fun i k hik hk => ?_, fun i hi => ?_, fun i j hi hj => ?_, fun i j h1' h2 hj => ?_⟩
  · by_cases e : i = pr
    · simp [e]
    · simp only [e, if_false]; exact Nat.lt_succ_of_lt (h.piv_lt i (by omega))
  · have e1 : ¬ i = pr := by omega
    simp only [e1, if_false]
    by_cases e : k = pr
    · simp only [e, if_true]; exact h.piv_lt i (by omega)
    · simp only [e, if_false]; exact h.mono i k hik (by omega)
  · by_cases e : i = pr
    · subst e; simpa using h1
    · simp only [e, if_false]; exact h.one i (by omega)
  · by_cases e : i = pr
    · subst e; simp only [if_true] at hj; exact h.below i j (Nat.le_refl _) hpr hj
    · simp only [e, if_false] at hj; exact h.before i j (by omega) hj
  · by_cases e : j = pc
    · subst e; exact h0 i (by omega) h2
    · exact h.below i j (by omega) h2 (by omega)

/-- `the_ones = f :: rest`: `f` is the first row from `pr` on with a 1 (under `q`), `rest` are the later ones -/
theorem ones_cons {pr f : Nat} {q : Nat → Bool} {rest : List Nat}
    (h : (List.range r).filter (fun i => decide (pr ≤ i) && q i) = f :: rest) :
    (pr ≤ f ∧ f < r ∧ q f = true) ∧ (∀ i, pr ≤ i → i < f → q i = false) ∧
      (∀ i, i ∈ rest ↔ f < i ∧ i < r ∧ q i = true) ∧ rest.Nodup ∧ pr ∉ rest := by
  have hm : ∀ i, i ∈ f :: rest ↔ i < r ∧ pr ≤ i ∧ q i = true := fun i => by
    rw [← h]; simp only [List.mem_filter, List.mem_range, Bool.and_eq_true, decide_eq_true_eq]
  have hs : (f :: rest).Pairwise (· < ·) := h ▸ List.Pairwise.filter _ List.pairwise_lt_range
  have hgt := (List.pairwise_cons.1 hs).1
  have hf := (hm f).1 List.mem_cons_self
  refine ⟨⟨hf.2.1, hf.1, hf.2.2⟩, fun i h1 h2 => ?_, fun i => ⟨fun hi => ?_, fun hi => ?_⟩,
    (List.pairwise_cons.1 hs).2.imp Nat.ne_of_lt, fun hi => by have := hgt pr hi; omega⟩
  · cases hq : q i
    · rfl
    · rcases List.mem_cons.1 ((hm i).2 ⟨by omega, h1, hq⟩) with e | e
      · omega
      · have := hgt i e; omega
  · have := (hm i).1 (List.mem_cons_of_mem _ hi)
    exact ⟨hgt i hi, this.1, this.2.2⟩
  · rcases List.mem_cons.1 ((hm i).2 ⟨hi.2.1, by omega, hi.2.2⟩) with e | e
    · omega
    · exact e

/-- **the elimination step**: the first row `f ≥ pr` with a 1 in column `pc` is swapped into row `pr` (`Bs`), then row `pr`
    is added to the later rows with a 1 there (`rest`): `(pr, pc)` becomes a pivot.  `c` bounds the columns on which the
    new matrix `B'` is known. -/
theorem RowEch.elim (h : RowEch r B p pr pc) {c f : Nat} {rest : List Nat} {Bs : Nat → Nat → Bool} (hpr : pr < r)
    (hpc : pc < c) (hf : pr ≤ f ∧ f < r ∧ B f pc = true) (hmin : ∀ i, pr ≤ i → i < f → B i pc = false)
    (hrest : ∀ i, i ∈ rest ↔ f < i ∧ i < r ∧ B i pc = true)
    (es : ∀ i j, Bs i j = if i = f then B pr j else if i = pr then B f j else B i j)
    (e : ∀ i j, i < r → j < c → B' i j = if i ∈ rest then xor (Bs pr j) (Bs i j) else Bs i j) :
    RowEch r B' (fun i => if i = pr then pc else p i) (pr + 1) (pc + 1) := by
  have spr : ∀ j, Bs pr j = B f j := fun j => by
    rw [es]; by_cases e1 : pr = f
    · rw [if_pos e1, e1]
    · rw [if_neg e1, if_pos rfl]
  -- a row of `rest` lies below `f`, so the swap does not move it
  have inR : ∀ i j, i ∈ rest → i < r → j < c → B' i j = xor (B f j) (B i j) := fun i j hi hir hj => by
    have := ((hrest i).1 hi).1
    rw [e i j hir hj, if_pos hi, spr, es, if_neg (by omega), if_neg (by omega)]
  have notR : ∀ i j, i ∉ rest → i < r → j < c → B' i j = if i = f then B pr j else if i = pr then B f j else B i j :=
    fun i j hi hir hj => by rw [e i j hir hj, if_neg hi, es]
  have prR : pr ∉ rest := fun hi => by have := ((hrest pr).1 hi).1; omega
  have old : RowEch r B' p pr pc := by
    refine h.congr (Nat.le_of_lt hpr) fun i j hir hj => ?_
    by_cases hip : i < pr
    · rw [notR i j (fun hi => by have := ((hrest i).1 hi).1; omega) hir (by omega), if_neg (by omega), if_neg (by omega)]
    · have z : ∀ k, pr ≤ k → k < r → B k j = false := fun k h1 h2 => h.below k j h1 h2 hj
      rw [z i (by omega) hir]
      by_cases hi : i ∈ rest
      · rw [inR i j hi hir (by omega), z f hf.1 hf.2.1, z i (by omega) hir]; rfl
      · rw [notR i j hi hir (by omega)]
        split
        · exact z pr (Nat.le_refl _) hpr
        · split
          · exact z f hf.1 hf.2.1
          · exact z i (by omega) hir
  refine old.take hpr ?_ fun i h1 h2 => ?_
  · rw [notR pr pc prR hpr hpc]
    by_cases e1 : pr = f
    · rw [if_pos e1, e1]; exact hf.2.2
    · rw [if_neg e1, if_pos rfl]; exact hf.2.2
  · by_cases hi : i ∈ rest
    · rw [inR i pc hi h2 hpc, hf.2.2, ((hrest i).1 hi).2.2]; rfl
    · rw [notR i pc hi h2 hpc, if_neg (by omega : ¬ i = pr)]
      by_cases e1 : i = f
      · rw [if_pos e1]; exact hmin pr (Nat.le_refl _) (by omega)
      · rw [if_neg e1]
        cases hq : B i pc
        · rfl
        · by_cases hlt : i < f
          · rw [hmin i (by omega) hlt] at hq; cases hq
          · exact absurd ((hrest i).2 ⟨by omega, h2, hq⟩) hi

end Graphiq.Elim
