/-
  Proofs/HilbertMeasure.lean — the Z-measurement update of clifford.py (`z_measurement_gate`) is the projective
  measurement `ρ ↦ Π ρ Π` with `Π = (1 ± Z_q)/2`:

  * `proj_rhoTo_proj` : if exactly one generator `r k` anticommutes with `Z_q`, then
    `Π ρ Π = ½ · ρ'` where `ρ'` is the product with the `k`-th generator replaced by `±Z_q`;
  * `measRandom_state` : the random branch of the model (other anticommuting rows are first multiplied by the
    pivot, then the pivot is replaced by `(-1)^o Z_q`) computes exactly the post-measurement state, each outcome
    with probability ½;
  * `measDet_state` : the deterministic branch (no stabilizer anticommutes with `Z_q`): the scratch row is `±Z_q`
    (`TabSpec.measScratch_sameBits`), the reported outcome has probability 1 and the state is unchanged.
-/
import GraphiqModel.Proofs.HilbertPure
import GraphiqModel.Proofs.TabSpecOps
namespace Graphiq
namespace Hilbert
open Matrix PRow

/-! ### projecting a product of commuting projectors -/

theorem proj_comm_of_sp (n : Nat) (a b : PRow) (h : sp n a b = false) : proj n a * proj n b = proj n b * proj n a :=
  proj_comm n a b (pauliMat_comm n a b h)

theorem proj_anti_proj (n : Nat) (z g : PRow) (hz : z.ip = false) (ha : sp n g z = true) :
    proj n z * pauliMat n g * proj n z = 0 := by
  have h1 : pauliMat n z * pauliMat n g = -(pauliMat n g * pauliMat n z) := by
    rw [pauliMat_anticomm n g z ha, neg_neg]
  -- `(1 + Z) G Π = G Π + Z G Π = G Π − G Z Π = G Π − G Π`
  rw [Matrix.mul_assoc]
  show ((1 / 2 : ℂ) • (1 + pauliMat n z)) * (pauliMat n g * proj n z) = 0
  rw [smul_mul_assoc, add_mul, Matrix.one_mul, ← Matrix.mul_assoc (pauliMat n z), h1, Matrix.neg_mul,
    Matrix.mul_assoc (pauliMat n g), pauli_mul_proj n z hz, add_neg_cancel, smul_zero]

theorem proj_proj_proj (n : Nat) (z g : PRow) (hz : z.ip = false) (ha : sp n g z = true) :
    proj n z * proj n g * proj n z = (1 / 2 : ℂ) • proj n z := by
  have h0 := proj_anti_proj n z g hz ha
  have h1 := proj_idem n z hz
  have e : proj n z * proj n g * proj n z
      = (1 / 2 : ℂ) • (proj n z * proj n z + proj n z * pauliMat n g * proj n z) := by
    conv_lhs => rw [show proj n g = (1 / 2 : ℂ) • (1 + pauliMat n g) from rfl]
    rw [mul_smul_comm, smul_mul_assoc, mul_add, add_mul, Matrix.mul_one]
  rw [e, h0, h1, add_zero]

def replaceRow (r : Nat → PRow) (k : Nat) (z : PRow) : Nat → PRow := fun i => if i = k then z else r i

/-- **Projection of a stabilizer product.**  `z` real; the generators commute with each other; exactly `r k`
    anticommutes with `z`.  Then `Π_z · ∏_{i<m} (1+r_i)/2 · Π_z = ½ · ∏ with r_k replaced by z`. -/
theorem proj_rhoTo_proj (n : Nat) (r : Nat → PRow) (m k : Nat) (z : PRow) (hk : k < m) (hz : z.ip = false)
    (ha : sp n (r k) z = true) (hc : ∀ i, i < m → i ≠ k → sp n (r i) z = false) :
    proj n z * rhoTo n r m * proj n z = (1 / 2 : ℂ) • rhoTo n (replaceRow r k z) m := by
  -- below the pivot nothing happens
  have hlow : proj n z * rhoTo n r k = rhoTo n r k * proj n z :=
    commute_rhoTo n _ r k (fun i hi => by
      have := hc i (by omega) (by omega)
      rw [sp_comm] at this
      exact proj_comm_of_sp n _ _ this)
  have hsame : rhoTo n (replaceRow r k z) k = rhoTo n r k :=
    rhoTo_congr n _ _ k (fun i hi => by
      have : i ≠ k := by omega
      simp only [replaceRow, this, if_false]; exact EqOn.refl _ _)
  -- from the pivot on
  have main : ∀ d, k + 1 + d ≤ m →
      proj n z * rhoTo n r (k + 1 + d) * proj n z = (1 / 2 : ℂ) • rhoTo n (replaceRow r k z) (k + 1 + d) := by
    intro d
    induction d with
    | zero =>
      intro _
      show proj n z * (rhoTo n r k * proj n (r k)) * proj n z
        = (1 / 2 : ℂ) • (rhoTo n (replaceRow r k z) k * proj n (replaceRow r k z k))
      have e1 : replaceRow r k z k = z := by simp [replaceRow]
      rw [e1, hsame, ← Matrix.mul_assoc, hlow, Matrix.mul_assoc, Matrix.mul_assoc, ← Matrix.mul_assoc (proj n z),
        proj_proj_proj n z (r k) hz ha, mul_smul_comm]
    | succ d ih =>
      intro hd
      have hi : k + 1 + d < m := by omega
      have hne : k + 1 + d ≠ k := by omega
      show proj n z * (rhoTo n r (k + 1 + d) * proj n (r (k + 1 + d))) * proj n z
        = (1 / 2 : ℂ) • (rhoTo n (replaceRow r k z) (k + 1 + d) * proj n (replaceRow r k z (k + 1 + d)))
      have e1 : replaceRow r k z (k + 1 + d) = r (k + 1 + d) := by simp [replaceRow, hne]
      have hcm : proj n (r (k + 1 + d)) * proj n z = proj n z * proj n (r (k + 1 + d)) :=
        proj_comm_of_sp n _ _ (hc _ hi hne)
      rw [e1, Matrix.mul_assoc, Matrix.mul_assoc, hcm, ← Matrix.mul_assoc (rhoTo n r (k + 1 + d)),
        ← Matrix.mul_assoc (proj n z), ← Matrix.mul_assoc (proj n z), ih (by omega), smul_mul_assoc]
  have := main (m - (k + 1)) (by omega)
  have e : k + 1 + (m - (k + 1)) = m := by omega
  rw [e] at this
  exact this

/-! ### the random branch of `z_measurement_gate` -/

/-- `STab.ofTab` clears the i-phase bit of every row; on real stabilizer rows it changes nothing -/
theorem ofTab_row_real (t : Tab) (hr : t.StabReal) (i : Nat) (hi : i < t.n) :
    (STab.ofTab t).row i = t.row (i + t.n) :=
  STab.ofTab_row t hr i hi

/-- **Random branch.**  Valid tableau, real stabilizer rows, a stabilizer row `p` with an X on `q`
    (so the outcome is random).  Then for both outcomes `o`
    `Π_o ρ Π_o = ½ · ρ(t.measRandom q p o)` with `Π_o = (1 + (-1)^o Z_q)/2`:
    the tableau update computes the post-measurement state and each outcome has probability ½. -/
theorem measRandom_state (t : Tab) (hv : t.Valid) (hr : t.StabReal) (q p : Nat) (o : Bool) (hq : q < t.n)
    (hp1 : t.n ≤ p) (hp2 : p < 2 * t.n) (hx : (t.row p).x q = true) :
    proj t.n (Zq q o) * rho t.n (STab.ofTab t) * proj t.n (Zq q o)
      = (1 / 2 : ℂ) • rho t.n (STab.ofTab (t.measRandom q p o)) := by
  have hgood := ofTab_good t hv
  let S := STab.ofTab t
  let k := p - t.n
  have hk : k < t.n := by show p - t.n < t.n; omega
  have hkp : k + t.n = p := by show p - t.n + t.n = p; omega
  let sel : Nat → Bool := fun m => (S.row m).x q
  let S1 := S.sweep k sel
  have hSn : S.n = t.n := rfl
  -- gauge step: multiply the other rows that anticommute with Z_q by the pivot
  have hgauge : rho t.n S = rho t.n S1 := rho_spanEq S S1 (STab.sweep_spanEq S k sel hk hgood) hgood
    (STab.sweep_good S k sel hk hgood)
  have hrow : ∀ m, m < t.n → S1.row m = if m ≠ k ∧ sel m then PRow.mul t.n (S.row k) (S.row m) else S.row m :=
    fun m hm => STab.sweep_row S k sel hk hgood m hm
  have hSk : S.row k = t.row p := by rw [ofTab_row_real t hr k hk, hkp]
  have hxk : (S1.row k).x q = true := by
    rw [hrow k hk]; simp only [ne_eq, not_true_eq_false, false_and, if_false]; rw [hSk]; exact hx
  have hxo : ∀ i, i < t.n → i ≠ k → (S1.row i).x q = false := by
    intro i hi hik
    rw [hrow i hi]
    by_cases hs : sel i = true
    · rw [if_pos ⟨hik, hs⟩]
      show xor ((S.row k).x q) ((S.row i).x q) = false
      have : (S.row i).x q = true := hs
      rw [this, hSk, hx]; rfl
    · rw [if_neg (fun h => hs h.2)]
      simpa [sel] using hs
  have hmain := proj_rhoTo_proj t.n S1.row t.n k (Zq q o) hk rfl
    (by rw [sp_Zq _ _ _ _ hq]; exact hxk)
    (fun i hi hik => by rw [sp_Zq _ _ _ _ hq]; exact hxo i hi hik)
  show proj t.n (Zq q o) * rho t.n S * proj t.n (Zq q o) = _
  rw [hgauge]
  show proj t.n (Zq q o) * rhoTo t.n S1.row t.n * proj t.n (Zq q o) = _
  rw [hmain]
  congr 1
  show rhoTo t.n (replaceRow S1.row k (Zq q o)) t.n = rhoTo t.n (STab.ofTab (t.measRandom q p o)).row t.n
  apply rhoTo_congr
  intro i hi
  rw [STab.ofTab_row _ (Tab.measRandom_real t hv hr q p o hp1 hp2) i hi]
  show EqOn t.n (replaceRow S1.row k (Zq q o) i) ((t.measRandom q p o).row (i + t.n))
  unfold replaceRow
  by_cases hik : i = k
  · rw [if_pos hik, hik, hkp]
    refine ⟨fun j _ => ?_, ?_, ?_⟩ <;> simp [Tab.measRandom, Zq, hr p hp1 hp2]
  · have hSi : S.row i = t.row (i + t.n) := ofTab_row_real t hr i hi
    rw [if_neg hik, hrow i hi, Tab.mr_row_o t q p (i + t.n) o (by omega) (by omega)]
    show EqOn t.n (if i ≠ k ∧ (S.row i).x q = true then PRow.mul t.n (S.row k) (S.row i) else S.row i) _
    rw [hSk, hSi]
    unfold Tab.addIf
    by_cases hs : (t.row (i + t.n)).x q = true
    · rw [if_pos ⟨hik, hs⟩, if_pos hs]; exact EqOn.refl _ _
    · rw [if_neg (fun h => hs h.2), if_neg hs]; exact EqOn.refl _ _

theorem measRandom_stabReal (t : Tab) (hv : t.Valid) (hr : t.StabReal) (q p : Nat) (o : Bool)
    (hp1 : t.n ≤ p) (hp2 : p < 2 * t.n) : (t.measRandom q p o).StabReal :=
  Tab.measRandom_real t hv hr q p o hp1 hp2

theorem measRandom_prob (t : Tab) (hv : t.Valid) (hr : t.StabReal) (q p : Nat) (o : Bool) (hq : q < t.n)
    (hp1 : t.n ≤ p) (hp2 : p < 2 * t.n) (hx : (t.row p).x q = true) :
    Matrix.trace (proj t.n (Zq q o) * rho t.n (STab.ofTab t) * proj t.n (Zq q o)) = 1 / 2 := by
  rw [measRandom_state t hv hr q p o hq hp1 hp2 hx, Matrix.trace_smul]
  have := rho_ofTab_trace (t.measRandom q p o) (Tab.measRandom_valid t q p o hv hq hp1 hp2 hx)
  have hn : (t.measRandom q p o).n = t.n := rfl
  rw [hn] at this
  rw [this]; simp

/-! ### the deterministic branch -/

theorem inSpan_ofTab (t : Tab) (hr : t.StabReal) (a : PRow) (h : Tab.InSpan t.n t.n t.stab a) :
    (STab.ofTab t).Spn a :=
  (STab.ofTab_spn_iff t hr a).2 h

theorem valid_nondegenerate (t : Tab) (hv : t.Valid) (m : PRow)
    (h : ∀ i, i < 2 * t.n → sp t.n (t.row i) m = false) : ∀ j, j < t.n → m.x j = false ∧ m.z j = false :=
  TabSpec.valid_nondeg t hv m (fun i hi => (sp_comm t.n m (t.row i)).trans (h i hi))

theorem measScratch_bits (t : Tab) (hv : t.Valid) (q : Nat) (hq : q < t.n) (hp : t.pivot q = none) :
    SameBits t.n (t.measScratch q) (Zq q) := TabSpec.measScratch_sameBits t hv q hq hp

/-- **Deterministic branch.**  Valid tableau, real stabilizer rows, no stabilizer row with an X on `q`: the scratch row is
    `±Z_q` (`measScratch_bits`) and lies in the stabilizer group, so with `s` = the reported outcome (`scratch.r`):
    `Z_q ρ = (-1)^s ρ`, the projector of the reported outcome fixes the state and the other projector annihilates it — the
    outcome has probability 1 and the state does not change, as the model's `zMeasure` says. -/
theorem measDet_state (t : Tab) (hv : t.Valid) (hr : t.StabReal) (q : Nat) (hq : q < t.n) (hp : t.pivot q = none) :
    pauliMat t.n (Zq q (t.measScratch q).r) * rho t.n (STab.ofTab t) = rho t.n (STab.ofTab t) ∧
    proj t.n (Zq q (t.measScratch q).r) * rho t.n (STab.ofTab t) * proj t.n (Zq q (t.measScratch q).r)
      = rho t.n (STab.ofTab t) ∧
    proj t.n (Zq q (!(t.measScratch q).r)) * rho t.n (STab.ofTab t) = 0 := by
  have hbits := measScratch_bits t hv q hq hp
  have hgood := ofTab_good t hv
  have hspan : (STab.ofTab t).Spn (t.measScratch q) := inSpan_ofTab t hr _ (Tab.measScratch_inSpan t q)
  have hreal : (t.measScratch q).ip = false := STab.spn_real _ hgood _ hspan
  have heq : EqOn t.n (t.measScratch q) (Zq q (t.measScratch q).r) := ⟨hbits, rfl, hreal⟩
  have hfix : pauliMat t.n (Zq q (t.measScratch q).r) * rho t.n (STab.ofTab t) = rho t.n (STab.ofTab t) := by
    rw [← pauliMat_congr t.n _ _ heq]
    exact span_mul_rho (STab.ofTab t) hgood _ hspan
  have hP : proj t.n (Zq q (t.measScratch q).r) * rho t.n (STab.ofTab t) = rho t.n (STab.ofTab t) :=
    proj_mul_of_fixed t.n _ _ hfix
  have hP' : rho t.n (STab.ofTab t) * proj t.n (Zq q (t.measScratch q).r) = rho t.n (STab.ofTab t) :=
    mul_eq_of_hermitian _ _ (proj_hermitian t.n _ rfl) (rho_hermitian (STab.ofTab t) hgood) hP
  refine ⟨hfix, by rw [hP, hP'], ?_⟩
  have hneg : pauliMat t.n (Zq q (!(t.measScratch q).r)) = -pauliMat t.n (Zq q (t.measScratch q).r) :=
    pauliMat_neg t.n (Zq q (t.measScratch q).r)
  exact proj_mul_of_neg t.n _ _ (by rw [hneg, Matrix.neg_mul, hfix])

theorem gate_stabReal (t : Tab) (g : Gate) (hr : t.StabReal) : (t.map g.act).StabReal :=
  Tab.map_real t _ (Gate.act_ip g) hr

theorem ket0_stabReal (n : Nat) : (Tab.ket0 n).StabReal := Tab.ket0_real n

/-- the stabilizer half of `CliffordTableau(n)` is `StabilizerTableau(n)`, i.e. the state `|0…0⟩⟨0…0|` -/
theorem rho_ket0 (n : Nat) : rho n (STab.ofTab (Tab.ket0 n)) = rho n (STab.zero n) := by
  apply rhoTo_congr
  intro i hi
  show EqOn n { (Tab.ket0 n).row (i + n) with ip := false } (Zq i)
  have h1 : ¬ i + n < n := by omega
  have h2 : i + n - n = i := by omega
  simp only [Tab.ket0, h1, if_false, h2]
  exact EqOn.refl _ _

end Hilbert
end Graphiq
