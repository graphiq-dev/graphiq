/-
  Proofs/HeightTotal.lean — totality: on linearly independent generators (every valid stabilizer tableau) `rref` returns an echelon
  form with no trivial row and `height_func_list` returns a list.  So the theorems "whenever `height_func_list` returns …" apply to
  every valid generating set.
-/
import GraphiqModel.Proofs.HeightEntropy
import GraphiqModel.Proofs.EchelonTotal
namespace Graphiq
open Module
namespace STab

theorem Ops.linIndep {pr : Nat} {t0 t : STab} (h : Ops pr t0 t)
    (hli : LinearIndependent (ZMod 2) (fun i : Fin t0.n => (t0.row i).vec t0.n)) :
    LinearIndependent (ZMod 2) (fun i : Fin t0.n => (t.row i).vec t0.n) := by
  rw [linearIndependent_iff_card_eq_finrank_span, Fintype.card_fin]
  show t0.n = finrank (ZMod 2) ↥(gspaceOf t0.n t.row)
  rw [h.gspace_eq]; exact ((linearIndependent_iff_finrank t0).1 hli).symm

/-- **`rref` returns on every independent generating set, and then all rows of the echelon form are non-trivial** -/
theorem rref_ok_of_indep (t : STab) (hli : LinearIndependent (ZMod 2) (fun i : Fin t.n => (t.row i).vec t.n)) :
    ∃ t' brs piv, t.rref = .ok (t', brs) ∧ Echelon t' piv := by
  obtain ⟨⟨t1, pr1, pc1, brs1⟩, hl⟩ := rrefLoop_ok (t.n + 1) t 0 0 []
  obtain ⟨piv, inv, hex, o⟩ := rrefLoop_inv (t.n + 1) t 0 0 [] _ t1 pr1 pc1 brs1 (Inv.init t) (by omega) hl
  have hn := o.n_eq
  have hfull : t1.n ≤ pr1 := by
    apply Nat.le_of_not_lt
    intro hlt
    -- an independent family has no zero member, but row `pr1` would be trivial on every site
    apply (o.linIndep hli).ne_zero (⟨pr1, by omega⟩ : Fin t.n)
    funext j
    have hb := PRow.pt_zero_bits _ _ (inv.zero pr1 (Nat.le_refl _) hlt j.val (by have := j.isLt; omega))
    show (b2z ((t1.row pr1).x j), b2z ((t1.row pr1).z j)) = 0
    rw [hb.1, hb.2]; rfl
  have e : pr1 = t1.n := Nat.le_antisymm inv.pr_le hfull
  refine ⟨t1, brs1, piv, ?_, ?_⟩
  · unfold rref
    rw [hl]
    simp only
    rw [if_pos (by omega)]
  · subst e
    exact inv.echelon

/-- **`height_func_list` returns on every independent generating set** (in particular on every valid stabilizer tableau) -/
theorem heightFuncList_total (t : STab) (hli : LinearIndependent (ZMod 2) (fun i : Fin t.n => (t.row i).vec t.n)) :
    ∃ l, t.heightFuncList = .ok l := by
  obtain ⟨t1, brs, piv, hr, he⟩ := rref_ok_of_indep (STab.map (fun p => { p with r := false, ip := false }) t) hli
  have hn1 : t1.n = t.n := (rref_ops _ t1 brs hr).n_eq
  unfold heightFuncList
  simp only
  rw [hr]
  simp only
  by_cases hz : t.n = 0
  · rw [if_pos hz]; exact ⟨_, rfl⟩
  · rw [if_neg hz]
    have hm : (List.range t.n).mapM (fun i => t1.leftmost i) = some ((List.range t.n).map piv) := by
      apply Loop.mapM_map
      intro i hi
      have hl := he.lead i (by rw [hn1]; exact List.mem_range.1 hi)
      exact leftmost_of_lead t1 i (piv i) hl.1 hl.2.1 hl.2.2
    rw [hm]
    exact ⟨_, rfl⟩

theorem heightFuncList_ok_indep (t : STab) (l : List Int) (h : t.heightFuncList = .ok l) :
    LinearIndependent (ZMod 2) (fun i : Fin t.n => (t.row i).vec t.n) :=
  (linearIndependent_iff_finrank t).2 (heightFuncList_ok_finrank t l h)

theorem heightFuncList_ok_iff_indep (t : STab) :
    (∃ l, t.heightFuncList = .ok l) ↔ LinearIndependent (ZMod 2) (fun i : Fin t.n => (t.row i).vec t.n) :=
  ⟨fun ⟨l, h⟩ => heightFuncList_ok_indep t l h, heightFuncList_total t⟩

/-- **unconditional form**: on independent generators `height_func_list` returns the list of `|B| − dim G_B` -/
theorem heightFuncList_of_indep (t : STab) (hli : LinearIndependent (ZMod 2) (fun i : Fin t.n => (t.row i).vec t.n)) :
    t.heightFuncList = .ok ((List.range t.n).map fun (k : Nat) =>
      Int.ofNat t.n - (Int.ofNat k + 1) - Int.ofNat (finrank (ZMod 2) ↥(t.gspace ⊓ rightOf t.n k))) := by
  obtain ⟨l, h⟩ := heightFuncList_total t hli
  rw [h, heightFuncList_eq_finrank t l h]

/-- the height list is unchanged by row operations: if it exists after them, it exists before them and is the same -/
theorem heightFuncList_ops (t t1 : STab) (o : Ops 0 t t1) (l1 : List Int) (h1 : t1.heightFuncList = .ok l1) :
    t.heightFuncList = .ok l1 := by
  have hli := (linearIndependent_iff_finrank t).2
    (o.of_gspace (P := fun n G => finrank (ZMod 2) ↥G = n) (heightFuncList_ok_finrank t1 l1 h1))
  rw [heightFuncList_of_indep t hli, heightFuncList_eq_finrank t1 l1 h1]
  exact o.of_gspace (P := fun n G => Except.ok ((List.range n).map fun (k : Nat) =>
      Int.ofNat n - (Int.ofNat k + 1) - Int.ofNat (finrank (ZMod 2) ↥(G ⊓ rightOf n k))) = (Except.ok _ : Except Err (List Int))) rfl

/-- in particular `height_func_list(rref(t))` (what `determine_n_emitters` evaluates) is `height_func_list(t)` -/
theorem heightFuncList_rref (t t1 : STab) (brs : List String) (hr : t.rref = .ok (t1, brs)) (l1 : List Int)
    (h1 : t1.heightFuncList = .ok l1) : t.heightFuncList = .ok l1 :=
  heightFuncList_ops t t1 (rref_ops t t1 brs hr) l1 h1

end STab
end Graphiq
