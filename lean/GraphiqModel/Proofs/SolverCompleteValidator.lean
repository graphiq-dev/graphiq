/-
  Proofs/SolverCompleteValidator.lean — the verified validator ACCEPTS every circuit the solver model returns (completeness of the
  validator on these circuits): `checkGenerates` runs every outcome script and compares the final group with the target through
  canonical forms (`sameGroup`); the runs succeed with exactly the target group (`solve_run`), and `sameGroup` is complete on valid
  tableaux (`sameGroup_of_spanEq`).
-/
import GraphiqModel.Proofs.SolverCompleteFinal
import GraphiqModel.Proofs.SolverCompleteFlag
import GraphiqModel.Proofs.InvValid
namespace Graphiq.Solver
open Graphiq Graphiq.Cliff PRow STab Tab

theorem targetSTab_good (np ne : Nat) (adj : Nat → Nat → Bool) (hsym : ∀ i j, adj i j = adj j i) : (targetSTab np ne adj).Good := by
  obtain ⟨g, n0⟩ := withEmitters_good (graphSTab np adj) (graphSTab_good np adj hsym) ne
  have hn : (withEmitters (graphSTab np adj) ne).n = np + ne := n0
  apply good_of_eqOn (withEmitters (graphSTab np adj) ne) (targetSTab np ne adj) (by rw [hn]; rfl) _ g
  intro i hi
  rw [hn] at hi ⊢
  exact (withEmitters_target_rows np ne adj i hi).symm

theorem targetSTab_linIndep (np ne : Nat) (adj : Nat → Nat → Bool) : (targetSTab np ne adj).LinIndep :=
  indep_of_spanEq _ _ (withEmitters_graph np ne adj) (indep_withEmitters _ (graph_indep np adj) ne)

/-- **the validator accepts the model solver's circuit** on every graph on ≥ 1 vertex without isolated vertex -/
theorem checkGenerates_solver (np : Nat) (adj : Nat → Nat → Bool) (hnp : 0 < np)
    (hsym : ∀ i j, adj i j = adj j i) (hirr : ∀ i, adj i i = false) (hiso : ∀ i, i < np → ∃ j, j < np ∧ adj i j = true) :
    ∃ s, solve (graphSTab np adj) = .ok s ∧ checkGenerates s.ne np s.cops adj = true := by
  obtain ⟨s, hs, hfinal⟩ := solve_complete_graph np adj hnp hsym hirr hiso
  refine ⟨s, hs, ?_⟩
  unfold checkGenerates
  simp only [List.all_eq_true]
  intro script _
  obtain ⟨rs, h1, h2, h3⟩ := solve_run (graphSTab np adj) (graphSTab_good np adj hsym) s hs hfinal script
  have h4 : SpanEq (STab.ofTab rs.t) (targetSTab np s.ne adj) := h3.trans (withEmitters_graph np s.ne adj)
  have h1' : stabRun s.ne np .prob script s.cops = some rs := h1
  unfold checkScript
  rw [h1']
  simp only
  exact sameGroup_of_spanEq _ _ (ofTab_good_of_valid rs.t h2) (targetSTab_good np s.ne adj hsym)
    (indep_of_spanEq _ _ h4.symm (targetSTab_linIndep np s.ne adj)) (targetSTab_linIndep np s.ne adj) h4

end Graphiq.Solver
