/-
  Proofs/MixtureDMPhysMeas.lean — the density-matrix backend is physical on circuits *with* measurements (no uniformity needed),
  every number of qubits: whenever `DensityMatrixCompiler.compile` returns a matrix (not NaN),

      it is positive semidefinite and its trace is exactly `∏ (1 − loss_j)`.

  Covers one-qubit gates, CNOT / CZ with additive noise (depolarizing probabilities in `[0,1]`, loss rates `≤ 1`, Pauli errors,
  either placement), `MeasurementZ`, `ClassicalCNOT`, `ClassicalCZ`, `MeasurementCNOTandReset`.  The point is
  `measurement_phys`: `apply_measurement` divides the projected state by the *conditional* probability, so it keeps the trace
  (the repair of the defect "a measurement after a photon loss renormalises the state", for every circuit), and
  `reset_phys`: the reset channel is trace preserving.
-/
import GraphiqModel.Proofs.MixtureDMLockstep
namespace Graphiq
namespace MixDM
open Matrix Hilbert Noise DM PRow
open scoped ComplexOrder

/-! ### the state invariant -/

/-- a physical density matrix of trace `τ` -/
structure DGood (n : Nat) (ρ : Mat) (τ : ℚ) : Prop where
  size : ρ.n = 2 ^ n
  psd : (toC n ρ).PosSemidef
  tr : (toC n ρ).trace = ((τ : ℚ) : ℂ)

theorem DGood.herm {n : Nat} {ρ : Mat} {τ : ℚ} (h : DGood n ρ τ) : (toC n ρ)ᴴ = toC n ρ := h.psd.isHermitian

/-! ### measurement -/

theorem projZ_sum (n q : Nat) (hq : q < n) : projZ n q false + projZ n q true = 1 := by
  unfold projZ
  rw [proj_Zq n q hq, proj_Zq n q hq, Matrix.diagonal_add, ← Matrix.diagonal_one]
  congr 1
  funext b
  cases bx b q <;> simp

theorem psd_projected {n : Nat} (q : Nat) (s : Bool) (R : HMat n) (h : R.PosSemidef) :
    (projZ n q s * R * projZ n q s).PosSemidef := by
  have := psd_conjH (projZ n q s) R h
  unfold conjH at this
  rwa [projZ_herm] at this

/-- on a positive semidefinite state the outcome "probability" `tr(ρ Π_s)` is a non-negative rational -/
theorem prob_rat (n q : Nat) (ρ p : Mat) (s : Bool) (hρn : ρ.n = 2 ^ n) (hpsd : (toC n ρ).PosSemidef)
    (hp : toC n p = projZ n q s) :
    0 ≤ (ρ.mul p).trace.re ∧ (toC n ρ * projZ n q s).trace = (((ρ.mul p).trace.re : ℚ) : ℂ) := by
  have h0 : 0 ≤ (toC n ρ * projZ n q s).trace := by
    rw [trace_mul_projZ]
    exact (psd_projected q s _ hpsd).trace_nonneg
  have e : gqC (ρ.mul p).trace = (toC n ρ * projZ n q s).trace := by rw [gqC_mulTrace n ρ p hρn, hp]
  rw [← e] at h0 ⊢
  obtain ⟨hre, him⟩ := Complex.nonneg_iff.1 h0
  simp only [gqC_re, gqC_im] at hre him
  refine ⟨by exact_mod_cast hre, ?_⟩
  apply Complex.ext
  · simp
  · simp only [gqC_im]
    rw [← him]; simp

/-- the two outcome "probabilities" `probs[k]` of `apply_measurement` on a physical state of trace `τ`: non-negative rationals
    `tr(ρ Π_k)` that sum to `τ` (nothing is clipped) -/
theorem meas_probs (n q : Nat) (hq : q < n) (ρ p0 p1 : Mat) (hp : projectorsZ n q = .ok (p0, p1)) (τ : ℚ) (hg : DGood n ρ τ) :
    0 ≤ prOf ρ p0 ∧ 0 ≤ prOf ρ p1 ∧ τ = prOf ρ p0 + prOf ρ p1 ∧
    (toC n ρ * projZ n q false).trace = ((prOf ρ p0 : ℚ) : ℂ) ∧ (toC n ρ * projZ n q true).trace = ((prOf ρ p1 : ℚ) : ℂ) := by
  obtain ⟨e0, e1, _, _⟩ := toC_projectorsZ n q hq p0 p1 hp
  obtain ⟨x0n, t0⟩ := prob_rat n q ρ p0 false hg.size hg.psd e0
  obtain ⟨x1n, t1⟩ := prob_rat n q ρ p1 true hg.size hg.psd e1
  rw [prOf_eq rfl x0n, prOf_eq rfl x1n]
  refine ⟨x0n, x1n, ?_, t0, t1⟩
  have : (toC n ρ).trace = (toC n ρ * projZ n q false).trace + (toC n ρ * projZ n q true).trace := by
    rw [← Matrix.trace_add, ← Matrix.mul_add, projZ_sum n q hq, Matrix.mul_one]
  rw [hg.tr, t0, t1] at this
  exact_mod_cast this

/-- **`apply_measurement` keeps the state physical and keeps its trace** (whatever the outcome) -/
theorem measurement_phys (n q : Nat) (hq : q < n) (ρ p0 p1 : Mat) (hp : projectorsZ n q = .ok (p0, p1)) (τ : ℚ)
    (hg : DGood n ρ τ) (det : Bool) (ρ' : Mat) (o : Bool) (h : applyMeasurement ρ p0 p1 det = .ok (some ρ', o)) :
    DGood n ρ' τ := by
  obtain ⟨x0n, x1n, hτ, t0, t1⟩ := meas_probs n q hq ρ p0 p1 hp τ hg
  obtain ⟨_, _, norm, hz, hnorm, hρ'⟩ := applyMeasurement_some ρ p0 p1 det ρ' o h
  generalize prOf ρ p0 = x0 at *
  generalize prOf ρ p1 = x1 at *
  have hto : (toC n ρ * projZ n q o).trace = (((if o then x1 else x0 : ℚ)) : ℂ) := by cases o <;> simp [t0, t1]
  have hxo : 0 ≤ (if o then x1 else x0 : ℚ) := by cases o <;> simp [x0n, x1n]
  have hnn : 0 ≤ norm := by
    rw [hnorm]
    split
    · rename_i hpos
      exact div_nonneg hxo (le_of_lt hpos)
    · norm_num
  obtain ⟨hsz, hc⟩ := toC_projected n q hq p0 p1 hp o (1 / norm) ρ
  rw [← hρ'] at hsz hc
  refine ⟨hsz, ?_, ?_⟩
  · rw [hc]
    exact psd_ratsmul _ (one_div_nonneg.2 hnn) _ (psd_projected q o _ hg.psd)
  · have key : (1 / norm) * (if o then x1 else x0 : ℚ) = x0 + x1 := by
      by_cases hpos : 0 < x0 + x1
      · rw [if_pos hpos] at hnorm
        have hx : (if o then x1 else x0 : ℚ) ≠ 0 := by
          intro e; rw [e, zero_div] at hnorm; exact hz hnorm
        rw [hnorm, one_div, inv_div, div_mul_cancel₀ _ hx]
      · obtain ⟨h0, h1⟩ := (add_eq_zero_iff_of_nonneg x0n x1n).1 (le_antisymm (not_lt.1 hpos) (add_nonneg x0n x1n))
        rw [h0, h1, ite_self, mul_zero, add_zero]
    rw [hc, Matrix.trace_smul, ← trace_mul_projZ, hto, smul_eq_mul, hτ, ← Rat.cast_mul, key]

/-! ### unitaries and the reset channel -/

theorem unitary_phys (n : Nat) (ρ : Mat) (u : Mat) (U : HMat n) (hu : u.n = 2 ^ n) (hU : toC n u = U) (hUU : Uᴴ * U = 1)
    (τ : ℚ) (hg : DGood n ρ τ) (ρ' : Mat) (h : applyUnitary ρ ⟨1, u⟩ = .ok ρ') : DGood n ρ' τ := by
  obtain ⟨e, hn⟩ := applyUnitary_toC n ρ ⟨1, u⟩ hg.size hu hg.herm ρ' h
  simp only [Rat.cast_one, one_smul] at e
  rw [hU] at e
  exact ⟨hn, by rw [e]; exact psd_conjH _ _ hg.psd, by rw [e, trace_conjH _ _ hUU]; exact hg.tr⟩

theorem trace_conjH_gram {n : Nat} (A R : HMat n) : (conjH A R).trace = (Aᴴ * A * R).trace := by
  unfold conjH
  rw [Matrix.trace_mul_cycle]

/-- **the reset channel keeps the state physical and keeps its trace** -/
theorem reset_phys (n q : Nat) (hq : q < n) (ρ : Mat) (τ : ℚ) (hg : DGood n ρ τ) (ρ' : Mat)
    (h : applyChannel ρ (resetKraus n q) = .ok ρ') : DGood n ρ' τ := by
  obtain ⟨e, hn⟩ := dmReset_toC n q hq ρ ρ' hg.size hg.herm h
  refine ⟨hn, ?_, ?_⟩
  · rw [e]; unfold resetH
    exact (psd_conjH _ _ hg.psd).add (psd_conjH _ _ hg.psd)
  · rw [e]; unfold resetH
    rw [Matrix.trace_add, trace_conjH_gram, trace_conjH_gram, projZ_herm, projZ_idem, Matrix.conjTranspose_mul, projZ_herm]
    have hx : projZ n q true * (gateMat n (.X q))ᴴ * (gateMat n (.X q) * projZ n q true) = projZ n q true := by
      calc projZ n q true * (gateMat n (.X q))ᴴ * (gateMat n (.X q) * projZ n q true)
          = projZ n q true * ((gateMat n (.X q))ᴴ * gateMat n (.X q)) * projZ n q true := by simp only [Matrix.mul_assoc]
        _ = projZ n q true := by rw [(gate_unitary n (.X q) hq).2, Matrix.mul_one, projZ_idem]
    rw [hx, ← Matrix.trace_add, ← Matrix.add_mul, projZ_sum n q hq, Matrix.one_mul]
    exact hg.tr

/-! ### gates with a measurement -/

/-- the operations with a measurement: `MeasurementZ`, `ClassicalCNOT`, `ClassicalCZ`, `MeasurementCNOTandReset` -/
def MeasAny (k : Kind) : Prop := k = .measZ ∨ k = .ccnot ∨ k = .ccz ∨ k = .mcr

theorem toC_oneQubit_X (n q : Nat) (hq : q < n) : toC n (getOneQubitGate n q Mat.sigmax) = gateMat n (.X q) := by
  rw [toC_oneQubitGate n q hq, toC2_sigmax]; rfl

theorem toC_oneQubit_Z (n q : Nat) (hq : q < n) : toC n (getOneQubitGate n q Mat.sigmaz) = gateMat n (.Z q) := by
  rw [toC_oneQubitGate n q hq, toC2_sigmaz]; rfl

theorem measPauli_spec {k : Kind} {g : Mat} (hg : measPauli k = some g) (n q2 : Nat) (hq2 : q2 < n) :
    (getOneQubitGate n q2 g).n = 2 ^ n ∧ ∃ gq : Gate, (gq = .X q2 ∨ (gq = .Z q2 ∧ k ≠ .mcr)) ∧
      toC n (getOneQubitGate n q2 g) = gateMat n gq := by
  have hX := toC_oneQubit_X n q2 hq2
  have hZ := toC_oneQubit_Z n q2 hq2
  cases k <;> simp only [measPauli] at hg <;> cases hg
  · exact ⟨oneQubitGate_n n q2 hq2 _ rfl, _, Or.inl rfl, hX⟩
  · exact ⟨oneQubitGate_n n q2 hq2 _ rfl, _, Or.inr ⟨rfl, by simp⟩, hZ⟩
  · exact ⟨oneQubitGate_n n q2 hq2 _ rfl, _, Or.inl rfl, hX⟩

theorem measPauli_ctrl {k : Kind} {g : Mat} (hg : measPauli k = some g) : k.isClassicalCtrl = true := by
  cases k <;> simp only [measPauli] at hg <;> first | rfl | cases hg

theorem cond_phys (n q2 : Nat) (hq2 : q2 < n) {k : Kind} {g : Mat} (hg : measPauli k = some g) (ρ1 ρ2 : Mat) (τ : ℚ)
    (h1 : DGood n ρ1 τ) (h : applyUnitary ρ1 ⟨1, getOneQubitGate n q2 g⟩ = .ok ρ2) : DGood n ρ2 τ := by
  obtain ⟨gn, gq, hgq, hU⟩ := measPauli_spec hg n q2 hq2
  have hw : gq.WF n := by rcases hgq with e | ⟨e, _⟩ <;> subst e <;> exact hq2
  exact unitary_phys n ρ1 _ _ gn hU (gate_unitary n gq hw).2 τ h1 ρ2 h

theorem dmMeasGate_phys (np n : Nat) (det : Bool) (op : COp) (hk : MeasAny op.kind) (hw : OpWF n np op) (d d1 : DmSt) (τ : ℚ)
    (hg : ∀ ρ, d.ρ = some ρ → DGood n ρ τ) (h : dmGate np n det op d = .ok d1) : ∀ ρ1, d1.ρ = some ρ1 → DGood n ρ1 τ := by
  intro ρ1 hρ1
  cases hd : d.ρ with
  | none =>
    simp only [dmGate, hd] at h
    injection h with h; subst h
    rw [hd] at hρ1; cases hρ1
  | some ρ =>
    rw [dmGate_meas hk hd] at h
    obtain ⟨p0, p1, r, o, hp, ha, _, hr⟩ := dmMeas_ok h
    cases r with
    | none => rw [show d1.ρ = none from hr] at hρ1; cases hρ1
    | some ρm =>
      obtain ⟨ρ2, ρ3, h2, h3, h4⟩ := hr
      rw [h4] at hρ1
      injection hρ1 with e; subst e
      have g1 := measurement_phys n _ hw.1 ρ p0 p1 hp τ (hg ρ hd) det ρm o ha
      have g2 : DGood n ρ2 τ := by
        cases hm : measPauli op.kind with
        | none => rw [hm] at h2; injection h2 with h2; subst h2; exact g1
        | some g =>
          rw [hm] at h2
          cases o with
          | false => injection h2 with h2; subst h2; exact g1
          | true => exact cond_phys n _ (hw.2.1 (Or.inr (measPauli_ctrl hm))) hm ρm ρ2 τ g1 h2
      cases hr : (op.kind == Kind.mcr) with
      | false => rw [hr] at h3; injection h3 with h3; subst h3; exact g2
      | true => rw [hr] at h3; exact reset_phys n _ hw.1 ρ2 τ g2 _ h3

/-! ### the compile loop -/

/-- the operations covered: measurement-free ones with physical noise parameters, and noiseless operations with a measurement -/
inductive OpOK3 (n np : Nat) (op : COp) : Prop
  | unitary (h : OpOK n np op) (l0 : ParamPhys op.n0) (l1 : ParamPhys op.n1)
  | meas (hk : MeasAny op.kind) (hw : OpWF n np op) (h0 : op.n0.isNone = true) (h1 : op.n1.isNone = true)

theorem OpOK3.wf {n np : Nat} {op : COp} (h : OpOK3 n np op) : OpWF n np op := by
  cases h with
  | unitary h => exact h.wf
  | meas _ hw _ _ => exact hw

theorem OpOK3.kind {n np : Nat} {op : COp} (h : OpOK3 n np op) : MFree op ∨ MeasAny op.kind := by
  cases h with
  | unitary h => exact Or.inl h.mfree
  | meas hk _ _ _ => exact Or.inr hk

theorem paramPhys_of_none (nm : NoiseM) (h : nm.isNone = true) : ParamPhys nm := by
  cases nm <;> simp_all [NoiseM.isNone, ParamPhys]

theorem OpOK3.noise {n np : Nat} {op : COp} (h : OpOK3 n np op) :
    (qIndex np op.r1 op.t1 < n ∧ ParamPhys op.n0) ∧
    (op.kind.isCtrlPair = true → qIndex np op.r2 op.t2 < n ∧ ParamPhys op.n1) := by
  cases h with
  | unitary h l0 l1 => exact ⟨⟨h.wf.1, l0⟩, fun hc => ⟨h.wf.2.1 (Or.inl hc), l1⟩⟩
  | meas _ hw h0 h1 => exact ⟨⟨hw.1, paramPhys_of_none _ h0⟩, fun hc => ⟨hw.2.1 (Or.inl hc), paramPhys_of_none _ h1⟩⟩

theorem dmAct_none (np n : Nat) (det : Bool) (arr : Array COp) (d d1 : DmSt) (a : Act) (hd : d.ρ = none)
    (h : dmAct np n det arr d a = .ok d1) : d1.ρ = none := by
  cases a with
  | gate k => simp only [dmAct, dmGate, hd] at h; injection h with h; subst h; exact hd
  | noise k side q nm => simp only [dmAct, hd] at h; injection h with h; subst h; exact hd
  | replace k => simp [dmAct] at h

theorem dmAct_phys (np n : Nat) (det : Bool) (arr : Array COp) (d d1 : DmSt) (a : Act)
    (ha : ActP (OpOK3 n np) (fun q nm => q < n ∧ ParamPhys nm) arr a) (τ : ℚ)
    (hg : ∀ ρ, d.ρ = some ρ → DGood n ρ τ) (h : dmAct np n det arr d a = .ok d1) :
    ∀ ρ1, d1.ρ = some ρ1 → DGood n ρ1 (lossOf a * τ) := by
  intro ρ1 hρ1
  cases hd : d.ρ with
  | none => rw [dmAct_none np n det arr d d1 a hd h] at hρ1; cases hρ1
  | some ρ =>
    have hgρ := hg ρ hd
    cases a with
    | gate k =>
      have e1 : lossOf (.gate k) * τ = τ := by simp [lossOf]
      rw [e1]
      simp only [dmAct] at h
      cases hk : arr[k]? with
      | none =>
        rw [getD_none arr k hk] at h
        simp only [dmGate, hd] at h
        injection h with h; subst h
        rw [hd] at hρ1; injection hρ1 with hρ1; subst hρ1; exact hgρ
      | some op =>
        rw [getD_some arr k op hk] at h
        have hw := (ha op hk).wf
        rcases (ha op hk).kind with hf | hm
        · obtain ⟨ρ', hρ', e2, n2⟩ := dmGate_toC np n det op hf hw d d1 ρ hd hgρ.size hgρ.herm h
          rw [hρ'] at hρ1; injection hρ1 with hρ1; subst hρ1
          exact ⟨n2, by rw [e2]; exact gateH_psd np n op _ hgρ.psd, by rw [e2, gateH_trace np n op hw]; exact hgρ.tr⟩
        · exact dmMeasGate_phys np n det op hm hw d d1 τ hg h ρ1 hρ1
    | noise k side q nm =>
      obtain ⟨r, hn, rfl⟩ := dmAct_noise_inv hd h
      injection hρ1 with hρ1; subst hρ1
      obtain ⟨e2, n2⟩ := dmNoise_toC n q ha.1 nm ρ r hgρ.size hgρ.herm hn
      refine ⟨n2, by rw [e2]; exact noiseH_psd n nm q ha.2 _ hgρ.psd, ?_⟩
      rw [e2, noiseH_trace n nm q ha.1, hgρ.tr]
      have e : lossOf (.noise k side q nm) = lossOf (.noise 0 0 q nm) := by cases nm <;> rfl
      rw [e]; push_cast; rfl
    | replace k => simp [dmAct] at h

/-- **the density-matrix result is physical on circuits with measurements**: whenever `DensityMatrixCompiler.compile` returns
    a matrix, it is positive semidefinite, Hermitian, of size `2^n`, and its trace is exactly `∏ (1 − loss_j)` over the loss
    events of the placement trace.  Every number of qubits; no condition on the measurement outcomes. -/
theorem compileDM_phys (ns : Bool) (ne np nc : Nat) (det : Bool) (ops : List COp)
    (hw : ∀ op ∈ ops, OpOK3 (ne + np) np op) (d : DmSt) (h : compileDM ns ne np nc det ops = .ok d) :
    ∃ tr, compileTrace ns .dm np ops = .ok tr ∧ ∀ ρ, d.ρ = some ρ → DGood (ne + np) ρ (lossFactor tr) := by
  obtain ⟨tr, htr, hrun⟩ := dmGo_run.1 h
  refine ⟨tr, htr, ?_⟩
  have e0 := toC_rho0 (ne + np)
  have := runActs_sim (fun a τ => lossOf a * τ) (fun d τ => ∀ ρ, d.ρ = some ρ → DGood (ne + np) ρ τ) _
    (fun d d1 a τ ha hr hd => dmAct_phys np (ne + np) det ops.toArray d d1 a ha τ hr hd) tr _ d 1
    (trace_actP (toArray_forall hw) (fun op ho => (hw op ho).noise) htr) (by
      intro ρ hρ
      injection hρ with hρ; subst hρ
      exact ⟨rfl, by rw [e0]; exact rho0_psd _, by rw [e0, rho0_trace]; simp⟩) hrun
  rwa [lossFactor_foldl, _root_.mul_one] at this

/-- **the density matrix of a measurement-free circuit is positive semidefinite** (depolarizing probabilities in `[0,1]`, loss
    rates `≤ 1`) -/
theorem compileDM_psd (ns : Bool) (ne np nc : Nat) (det : Bool) (ops : List COp)
    (hw : ∀ op ∈ ops, OpOK (ne + np) np op) (hl : ∀ op ∈ ops, ParamPhys op.n0 ∧ ParamPhys op.n1)
    (d : DmSt) (ρ : Mat) (h : compileDM ns ne np nc det ops = .ok d) (hρ : d.ρ = some ρ) :
    (toC (ne + np) ρ).PosSemidef := by
  obtain ⟨_, _, g⟩ := compileDM_phys ns ne np nc det ops (fun op h => .unitary (hw op h) (hl op h).1 (hl op h).2) d h
  exact (g ρ hρ).psd

theorem DGood.trace_exact {n : Nat} {ρ : Mat} {τ : ℚ} (h : DGood n ρ τ) : ρ.trace = ⟨τ, 0⟩ := by
  apply gqC_injective
  rw [gqC_trace n ρ h.size, h.tr, gqC_ofRat]

end MixDM
end Graphiq
