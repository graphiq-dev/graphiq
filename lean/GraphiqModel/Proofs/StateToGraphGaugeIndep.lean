/-
  Proofs/StateToGraphGaugeIndep.lean — the modelled `state_to_graph` is a function of the STATE, not of the generating set:
  two tableaux of real, commuting, independent generators that generate the same signed group get the same graph and the same gate list.
  * the Hadamard positions and `A + D` are functions of the row space of `[X | Z]` (`graphFinderWith_leads`, `GFSpec.entry`), and the
    row space is `{(g.x, g.z) : g ∈ group}`;
  * the sign-fixing `Z` gates are read off the canonical form of the transformed state (`phaseCorrection_spec`), which is unique for the
    group.
-/
import GraphiqModel.Proofs.StateToGraphGauge
namespace Graphiq
open PRow Tab STab S2G

namespace S2G

theorem sorted_ext (l l' : List Nat) (h : l.Pairwise (· < ·)) (h' : l'.Pairwise (· < ·)) (hm : ∀ q, q ∈ l ↔ q ∈ l') : l = l' :=
  ((List.perm_ext_iff_of_nodup (h.imp Nat.ne_of_lt) (h'.imp Nat.ne_of_lt)).mpr hm).eq_of_pairwise (le := (· < ·))
    (fun _ _ _ _ h1 h2 => absurd h1 (Nat.lt_asymm h2)) h h'

theorem norm_ext (n : Nat) (f f' : Adj)
    (h : ∀ i j, i < n → j < n → (BMat.ofAdj n f).norm.f i j = (BMat.ofAdj n f').norm.f i j) :
    (BMat.ofAdj n f).norm = (BMat.ofAdj n f').norm :=
  BMat.norm_congr _ _ rfl rfl fun i j hi hj => by
    rw [← BMat.norm_agree (BMat.ofAdj n f) i j hi hj, ← BMat.norm_agree (BMat.ofAdj n f') i j hi hj]
    exact h i j hi hj

theorem graphFinderTail_shape (m2 : XZ) (xinv : Adj) (hpos : List Nat) (rank : Int) (g : GraphFinderOut)
    (e : graphFinderTail m2 xinv hpos rank = .ok g) :
    (∃ f, g.adj = (BMat.ofAdj m2.n f).norm) ∧ g.zdiag.Pairwise (· < ·) := by
  obtain ⟨_, _, rfl⟩ := (graphFinderTail_ok_iff m2 xinv hpos rank g).mp e
  exact ⟨⟨_, rfl⟩, List.Pairwise.filter _ List.pairwise_lt_range⟩

theorem graphFinderWith_shape (inv : Nat → Adj → Option Adj) (m0 : XZ) (g : GraphFinderOut)
    (e : graphFinderWith inv m0 = .ok g) : (∃ f, g.adj = (BMat.ofAdj m0.n f).norm) ∧ g.zdiag.Pairwise (· < ·) := by
  obtain ⟨hn, xinv, rank, _, e⟩ := graphFinderWith_ok inv m0 g e
  have := graphFinderTail_shape _ _ _ _ g e
  rw [norm_n, XZ.hadamardTransform, (bequiv_rowReduction m0.norm (norm_pos hn)).2, norm_n] at this
  exact this

/-- `_graph_finder` depends only on the row space of `[X | Z]` (for every pair of candidate inverses): two inputs with the same row
    space get the same graph, Hadamard positions and `P_dag` positions -/
theorem graphFinderWith_rowspace (inv inv' : Nat → Adj → Option Adj) (m0 m0' : XZ) (hnn : m0'.n = m0.n)
    (h1 : ∀ i, i < m0.n → BSpan m0.n m0.n m0.x m0.z (m0'.x i) (m0'.z i))
    (h2 : ∀ i, i < m0.n → BSpan m0.n m0.n m0'.x m0'.z (m0.x i) (m0.z i))
    (g g' : GraphFinderOut) (e : graphFinderWith inv m0 = .ok g) (e' : graphFinderWith inv' m0' = .ok g') :
    g.adj = g'.adj ∧ g.hpos = g'.hpos ∧ g.zdiag = g'.zdiag := by
  have spec := graphFinderWith_spec inv m0 g e
  have spec' := graphFinderWith_spec inv' m0' g' e'
  obtain ⟨s, hm⟩ := graphFinderWith_leads inv m0 g e
  obtain ⟨s', hm'⟩ := graphFinderWith_leads inv' m0' g' e'
  rw [hnn] at hm'
  have hpos : g.hpos = g'.hpos :=
    sorted_ext _ _ s s' fun q => by rw [hm q, hm' q, isLead_congr m0.n m0.x m0.z m0'.x m0'.z h1 h2 q]
  -- `A + D` is read off the same elements of the common row space
  have hK : ∀ j j', j < m0.n → j' < m0.n →
      xor (g.adj.f j j') (decide (j = j') && g.zdiag.contains j') = xor (g'.adj.f j j') (decide (j = j') && g'.zdiag.contains j') := by
    intro j j' hj hj'
    obtain ⟨a, b, hab', hu⟩ := spec'.full j (by rw [hnn]; exact hj)
    rw [spec'.entry hab' j (by rw [hnn]; exact hj) hu j' (by rw [hnn]; exact hj')]
    rw [hnn] at hab' hu
    rw [← hpos] at hu ⊢
    exact spec.entry (BSpan.mono h1 hab') j hj hu j' hj'
  have irr' : ∀ i, i < m0.n → g'.adj.f i i = false := fun i hi => spec'.irrefl i (by rw [hnn]; exact hi)
  have hadj : ∀ i j, i < m0.n → j < m0.n → g.adj.f i j = g'.adj.f i j := by
    intro i j hi hj
    by_cases hij : i = j
    · subst hij; rw [spec.irrefl i hi, irr' i hi]
    · have := hK i j hi hj
      simpa [hij] using this
  have hzd : g.zdiag = g'.zdiag := by
    apply sorted_ext _ _ (graphFinderWith_shape inv m0 g e).2 (graphFinderWith_shape inv' m0' g' e').2
    intro q
    have key : ∀ q, q < m0.n → g.zdiag.contains q = g'.zdiag.contains q := by
      intro q hq
      have := hK q q hq hq
      rw [spec.irrefl q hq, irr' q hq] at this
      simpa using this
    constructor
    · intro h
      have hq := spec.zdiag_lt q h
      have : g'.zdiag.contains q = true := by rw [← key q hq]; exact List.contains_iff_mem.mpr h
      exact List.contains_iff_mem.mp this
    · intro h
      have hq : q < m0.n := by have := spec'.zdiag_lt q h; omega
      have : g.zdiag.contains q = true := by rw [key q hq]; exact List.contains_iff_mem.mpr h
      exact List.contains_iff_mem.mp this
  refine ⟨?_, hpos, hzd⟩
  obtain ⟨f, ef⟩ := (graphFinderWith_shape inv m0 g e).1
  obtain ⟨f', ef'⟩ := (graphFinderWith_shape inv' m0' g' e').1
  rw [hnn] at ef'
  rw [ef, ef'] at hadj ⊢
  exact norm_ext m0.n f f' hadj

end S2G

theorem bspan_of_spanEq (t t' : STab) (hs : SpanEq t t') (i : Nat) (hi : i < t.n) :
    BSpan t.n t.n (XZ.ofSTab t).x (XZ.ofSTab t).z ((XZ.ofSTab t').x i) ((XZ.ofSTab t').z i) :=
  spn_bspan t (t'.row i) (hs.sup _ (spn_gen t' i (hs.n_eq ▸ hi)))

/-- the sign-fixing `Z` gates depend only on the group of the input (same target graph, same local-Clifford gates) -/
theorem phaseCorrection_gauge (t t' : STab) (hs : SpanEq t t') (gates : List Gate) (B : Adj)
    (A : GraphImage t gates B) (A' : GraphImage t' gates B) (zs zs' : List Gate)
    (e : phaseCorrection t (graphSTab t.n B) gates = .ok zs)
    (e' : phaseCorrection t' (graphSTab t'.n B) gates = .ok zs') : zs = zs' := by
  obtain ⟨c, hc, rfl⟩ := phaseCorrection_spec t gates B A zs e
  obtain ⟨c', hc', rfl⟩ := phaseCorrection_spec t' gates B A' zs' e'
  have hrows := canon_unique c c' hc.canon hc'.canon hc.good hc'.good
    ((hc.span.symm.trans (runCircuit_spanEq t t' gates A.wf hs)).trans hc'.span)
  unfold signFix
  rw [← hs.n_eq]
  congr 1
  apply List.filter_congr
  intro i hi
  rw [(hrows i (hc.n_eq ▸ List.mem_range.mp hi)).2.1]

/-- `state_to_graph` depends only on the state: two generating sets (real, commuting, independent) of the same signed group are
    converted to the same graph with the same gate list -/
theorem stateToGraph_gauge_indep (t t' : STab) (hn : 0 < t.n) (hg : t.Good) (hg' : t'.Good)
    (hi : Indep (XZ.ofSTab t)) (hi' : Indep (XZ.ofSTab t')) (hs : SpanEq t t') : stateToGraph t = stateToGraph t' := by
  have hn' : 0 < t'.n := hs.n_eq ▸ hn
  obtain ⟨g, eg⟩ := graphFinderWith_complete gf2InvF (XZ.ofSTab t) hn (gf2InvF_ok t.n) (comm_ofSTab t hg) hi
  obtain ⟨g', eg'⟩ := graphFinderWith_complete gf2InvF (XZ.ofSTab t') hn' (gf2InvF_ok t'.n) (comm_ofSTab t' hg') hi'
  have hnn : (XZ.ofSTab t').n = (XZ.ofSTab t).n := hs.n_eq.symm
  obtain ⟨ha, hp, hz⟩ := graphFinderWith_rowspace gf2InvF gf2InvF (XZ.ofSTab t) (XZ.ofSTab t') hnn
    (fun i hi => bspan_of_spanEq t t' hs i hi)
    (fun i hi => by
      have := bspan_of_spanEq t' t hs.symm i (hs.n_eq ▸ hi)
      rw [← hs.n_eq] at this
      exact this) g g' eg eg'
  have A := graphImage_of_spec t hg.real g (graphFinderWith_spec gf2InvF _ g eg)
  have A' := graphImage_of_spec t' hg'.real g' (graphFinderWith_spec gf2InvF _ g' eg')
  obtain ⟨zs, ez⟩ := phaseCorrection_ok t hi _ _ A
  obtain ⟨zs', ez'⟩ := phaseCorrection_ok t' hi' _ _ A'
  have e' := stateToGraphWith_eq gf2InvF t' g' zs' eg' ez'
  rw [← ha, ← hp, ← hz] at A' ez' e'
  rw [stateToGraph, stateToGraph, stateToGraphWith_eq gf2InvF t g zs eg ez, e',
    phaseCorrection_gauge t t' hs _ _ A A' zs zs' ez ez']

end Graphiq
