/-
  Proofs/LCComp.lean — connected components for the repaired `is_lc_equivalent` (repair of D14).
  The breadth-first search of `_connected_components` computes the reachability class of its start (`mem_bfs`; `fuel = n` is enough,
  `bfsLoop_inv`), so the list of components depends on the graph only through reachability; local complementation does not change
  reachability (`reach_localComp`), hence graphs in one LC orbit have the same components as vertex sets.
-/
import GraphiqModel.Proofs.LC
namespace Graphiq.LC
open Graphiq

/-! ### reachability -/

/-- `j` is reachable from `i` by a path of edges of `A` between vertices `< n` -/
inductive Reach (n : Nat) (A : Adj) : Nat → Nat → Prop
  | refl (i : Nat) : Reach n A i i
  | tail {i j k : Nat} : Reach n A i j → j < n → k < n → A j k = true → Reach n A i k

theorem Reach.trans {n : Nat} {A : Adj} {i j k : Nat} (h1 : Reach n A i j) (h2 : Reach n A j k) : Reach n A i k := by
  induction h2 with
  | refl => exact h1
  | tail _ hj hk ha ih => exact Reach.tail ih hj hk ha

theorem Reach.single {n : Nat} {A : Adj} {i j : Nat} (hi : i < n) (hj : j < n) (h : A i j = true) : Reach n A i j :=
  Reach.tail (Reach.refl i) hi hj h

theorem Reach.lt_right {n : Nat} {A : Adj} {i j : Nat} (h : Reach n A i j) (hi : i < n) : j < n := by
  cases h with
  | refl => exact hi
  | tail _ _ hk _ => exact hk

theorem Reach.symm {n : Nat} {A : Adj} {i j : Nat} (hA : ∀ i j, i < n → j < n → A i j = A j i) (h : Reach n A i j) :
    Reach n A j i := by
  induction h with
  | refl => exact Reach.refl _
  | tail _ hj hk ha ih =>
    exact (Reach.single hk hj (by rw [hA _ _ hk hj]; exact ha)).trans ih

theorem Reach.mono_of {n : Nat} {A B : Adj} (h : ∀ i j, i < n → j < n → A i j = true → Reach n B i j) {i j : Nat}
    (r : Reach n A i j) : Reach n B i j := by
  induction r with
  | refl => exact Reach.refl _
  | tail _ hj hk ha ih => exact ih.trans (h _ _ hj hk ha)

theorem Reach.congr {n : Nat} {A B : Adj} (h : EqAdj n A B) {i j : Nat} (r : Reach n A i j) : Reach n B i j :=
  Reach.mono_of (fun i j hi hj ha => Reach.single hi hj (by rw [← h i j hi hj]; exact ha)) r

/-! ### the breadth-first search -/

/-- one pass of the inner loop appends, in order, the neighbours of `node` that are not yet listed -/
theorem bfsVisit_eq (n : Nat) (A : Adj) (node : Nat) (comp : List Nat) :
    bfsVisit n A node comp = comp ++ (List.range n).filter fun o => A node o && !comp.contains o := by
  unfold bfsVisit
  refine Loop.foldl_range (fun i (c : List Nat) => c = comp ++ (List.range i).filter fun o => A node o && !comp.contains o)
    (fun i c _ h => ?_) (by simp)
  have hc : c.contains i = comp.contains i := by
    rw [h, Bool.eq_iff_iff]
    simp
  rw [hc, List.range_succ, List.filter_append, h]
  by_cases hp : (A node i && !comp.contains i) = true
  · rw [if_pos hp, List.filter_cons_of_pos (p := fun o => A node o && !comp.contains o) hp, List.filter_nil, List.append_assoc]
  · rw [if_neg hp, List.filter_cons_of_neg (p := fun o => A node o && !comp.contains o) hp, List.filter_nil, List.append_nil]

theorem bfsVisit_spec (n : Nat) (A : Adj) (node : Nat) (comp : List Nat) :
    ∃ extra, bfsVisit n A node comp = comp ++ extra ∧ (∀ x ∈ extra, x < n ∧ A node x = true) ∧
      (∀ x, x < n → A node x = true → x ∈ comp ++ extra) ∧ (comp.Nodup → (comp ++ extra).Nodup) := by
  refine ⟨_, bfsVisit_eq n A node comp, fun x hx => ?_, fun x hx hax => ?_, fun hn => ?_⟩
  · simp only [List.mem_filter, List.mem_range, Bool.and_eq_true] at hx
    exact ⟨hx.1, hx.2.1⟩
  · by_cases hc : x ∈ comp
    · exact List.mem_append_left _ hc
    · exact List.mem_append_right _ (List.mem_filter.mpr ⟨List.mem_range.mpr hx, by simp [hax, hc]⟩)
  · refine List.nodup_append.mpr ⟨hn, filter_range_nodup n _, fun a ha b hb e => ?_⟩
    subst e
    simp only [List.mem_filter, Bool.and_eq_true] at hb
    simp [ha] at hb
/-- the invariant of `for node in component:`; `idx` = position of the iterator -/
structure BfsInv (n : Nat) (A : Adj) (start idx : Nat) (comp : List Nat) : Prop where
  nodup : comp.Nodup
  mem : ∀ x ∈ comp, x < n ∧ Reach n A start x
  start_mem : start ∈ comp
  idx_le : idx ≤ comp.length
  closed : ∀ t, t < idx → ∀ x, x < n → A (comp.getD t 0) x = true → x ∈ comp

theorem BfsInv.length_le {n : Nat} {A : Adj} {start idx : Nat} {comp : List Nat} (h : BfsInv n A start idx comp) :
    comp.length ≤ n := by
  have := h.nodup.length_le_of_subset (l₂ := List.range n) (fun x hx => List.mem_range.mpr (h.mem x hx).1)
  simpa using this

/-- the loop keeps the invariant and, with `fuel + idx ≥ n`, ends with the iterator at the end of the list -/
theorem bfsLoop_inv (n : Nat) (A : Adj) (start : Nat) (fuel idx : Nat) (comp : List Nat) (h : BfsInv n A start idx comp)
    (hf : n ≤ fuel + idx) :
    BfsInv n A start (bfsLoop n A fuel idx comp).length (bfsLoop n A fuel idx comp) := by
  induction fuel generalizing idx comp with
  | zero =>
    have hl := h.length_le
    have hi := h.idx_le
    have e : idx = comp.length := by omega
    show BfsInv n A start comp.length comp
    rw [← e]; exact h
  | succ fuel ih =>
    unfold bfsLoop
    by_cases hlt : idx < comp.length
    · rw [if_pos hlt]
      apply ih
      · obtain ⟨extra, e, h1, h2, h3⟩ := bfsVisit_spec n A (comp.getD idx 0) comp
        rw [e]
        have hnode := h.mem _ (getD_mem_of_lt comp idx hlt)
        refine ⟨h3 h.nodup, ?_, List.mem_append_left _ h.start_mem, by rw [List.length_append]; omega, ?_⟩
        · intro x hx
          rcases List.mem_append.mp hx with hx | hx
          · exact h.mem x hx
          · exact ⟨(h1 x hx).1, hnode.2.tail hnode.1 (h1 x hx).1 (h1 x hx).2⟩
        · intro t ht x hx hax
          have htl : t < comp.length := by omega
          rw [getD_append_left comp extra t htl] at hax
          by_cases hti : t < idx
          · exact List.mem_append_left _ (h.closed t hti x hx hax)
          · have : t = idx := by omega
            subst this
            exact h2 x hx hax
      · omega
    · rw [if_neg hlt]
      have hi := h.idx_le
      have e : idx = comp.length := by omega
      rw [← e]; exact h

theorem bfs_inv (n : Nat) (A : Adj) (start : Nat) (hs : start < n) :
    BfsInv n A start (bfsLoop n A n 0 [start]).length (bfsLoop n A n 0 [start]) :=
  bfsLoop_inv n A start n 0 [start]
    ⟨by simp, by intro x hx; have : x = start := by simpa using hx
                 rw [this]; exact ⟨hs, Reach.refl _⟩, by simp, by simp, by intro t ht; omega⟩ (by omega)

theorem mem_bfs (n : Nat) (A : Adj) (start : Nat) (hs : start < n) (x : Nat) :
    x ∈ bfsLoop n A n 0 [start] ↔ Reach n A start x := by
  have hfin := bfs_inv n A start hs
  constructor
  · intro hx
    exact (hfin.mem x hx).2
  · intro r
    induction r with
    | refl => exact hfin.start_mem
    | tail _ hj hk ha ih =>
      obtain ⟨t, ht, e⟩ := exists_getD_of_mem _ _ ih
      exact hfin.closed t ht _ hk (by rw [e]; exact ha)

theorem bfs_nodup (n : Nat) (A : Adj) (start : Nat) (hs : start < n) : (bfsLoop n A n 0 [start]).Nodup := by
  exact (bfs_inv n A start hs).nodup

/-- `componentOf` is a filter of `range n` (so it is sorted and duplicate-free) -/
theorem componentOf_eq_filter (n : Nat) (A : Adj) (start : Nat) :
    componentOf n A start = (List.range n).filter fun v => (bfsLoop n A n 0 [start]).contains v := rfl

theorem mem_componentOf (n : Nat) (A : Adj) (start : Nat) (hs : start < n) (x : Nat) :
    x ∈ componentOf n A start ↔ x < n ∧ Reach n A start x := by
  rw [componentOf_eq_filter, List.mem_filter, List.mem_range]
  have : ((bfsLoop n A n 0 [start]).contains x = true) ↔ x ∈ bfsLoop n A n 0 [start] := by simp
  rw [this, mem_bfs n A start hs x]

theorem self_mem_componentOf (n : Nat) (A : Adj) (start : Nat) (hs : start < n) : start ∈ componentOf n A start :=
  (mem_componentOf n A start hs start).mpr ⟨hs, Reach.refl _⟩

theorem componentOf_congr (n : Nat) (A B : Adj) (s s' : Nat) (hs : s < n) (hs' : s' < n)
    (h : ∀ x, x < n → (Reach n A s x ↔ Reach n B s' x)) : componentOf n A s = componentOf n B s' := by
  rw [componentOf_eq_filter, componentOf_eq_filter]
  apply List.filter_congr
  intro x hx
  have hx' := List.mem_range.mp hx
  have e1 : ((bfsLoop n A n 0 [s]).contains x = true) ↔ Reach n A s x := by
    rw [← mem_bfs n A s hs x]; simp
  have e2 : ((bfsLoop n B n 0 [s']).contains x = true) ↔ Reach n B s' x := by
    rw [← mem_bfs n B s' hs' x]; simp
  rw [Bool.eq_iff_iff, e1, e2]
  exact h x hx'

/-! ### the list of components -/

/-- what `connectedComponents` guarantees: every entry is the class of a vertex, different entries are disjoint -/
structure CCInv (n : Nat) (A : Adj) (comps : List (List Nat)) : Prop where
  isClass : ∀ c ∈ comps, ∃ s, s < n ∧ c = componentOf n A s
  disjoint : comps.Pairwise fun c1 c2 => ∀ v, v ∈ c1 → v ∉ c2

theorem componentOf_eq_of_common (n : Nat) (A : Adj) (hA : ∀ i j, i < n → j < n → A i j = A j i) (s1 s2 v : Nat)
    (h1 : s1 < n) (h2 : s2 < n) (hv1 : v ∈ componentOf n A s1) (hv2 : v ∈ componentOf n A s2) :
    componentOf n A s1 = componentOf n A s2 := by
  have r1 := ((mem_componentOf n A s1 h1 v).mp hv1).2
  have r2 := ((mem_componentOf n A s2 h2 v).mp hv2).2
  apply componentOf_congr n A A s1 s2 h1 h2
  intro x _
  constructor
  · intro r; exact (r2.trans (r1.symm hA)).trans r
  · intro r; exact (r1.trans (r2.symm hA)).trans r

/-- **`_connected_components` returns a partition of the vertex set into reachability classes** -/
theorem connectedComponents_spec (n : Nat) (A : Adj) (hA : ∀ i j, i < n → j < n → A i j = A j i) :
    CCInv n A (connectedComponents n A) ∧ ∀ v, v < n → ∃ c ∈ connectedComponents n A, v ∈ c := by
  unfold connectedComponents
  -- after the starts `< i`: classes, pairwise disjoint, covering the vertices `< i`
  have key := Loop.foldl_range (n := n)
    (f := fun comps start => if comps.any (fun c => c.contains start) then comps else comps ++ [componentOf n A start])
    (fun i comps => CCInv n A comps ∧ ∀ v, v < i → ∃ c ∈ comps, v ∈ c)
    (fun s comps hs h => by
      obtain ⟨hacc, hcov⟩ := h
      by_cases hany : (comps.any fun c => c.contains s) = true
      · rw [if_pos hany]
        refine ⟨hacc, fun v hv => ?_⟩
        rcases Nat.lt_succ_iff_lt_or_eq.mp hv with hv | rfl
        · exact hcov v hv
        · obtain ⟨c, hc, hcs⟩ := List.any_eq_true.mp hany
          exact ⟨c, hc, by simpa using hcs⟩
      · rw [if_neg hany]
        have hnone : ∀ c ∈ comps, s ∉ c := fun c hc hsc =>
          hany (List.any_eq_true.mpr ⟨c, hc, by simpa using hsc⟩)
        refine ⟨⟨fun c hc => ?_, ?_⟩, fun v hv => ?_⟩
        · rcases List.mem_append.mp hc with hc | hc
          · exact hacc.isClass c hc
          · exact ⟨s, hs, by simpa using hc⟩
        · rw [List.pairwise_append]
          refine ⟨hacc.disjoint, by simp, fun c1 hc1 c2 hc2 v hv1 hv2 => ?_⟩
          have e2 : c2 = componentOf n A s := by simpa using hc2
          obtain ⟨s1, hs1, e1⟩ := hacc.isClass c1 hc1
          rw [e1] at hv1
          rw [e2] at hv2
          apply hnone c1 hc1
          rw [e1, componentOf_eq_of_common n A hA s1 s v hs1 hs hv1 hv2]
          exact self_mem_componentOf n A s hs
        · rcases Nat.lt_succ_iff_lt_or_eq.mp hv with hv | rfl
          · obtain ⟨c, hc, hvc⟩ := hcov v hv
            exact ⟨c, List.mem_append_left _ hc, hvc⟩
          · exact ⟨_, by simp, self_mem_componentOf n A v hs⟩)
    ⟨⟨fun _ hc => absurd hc List.not_mem_nil, List.Pairwise.nil⟩, fun v hv => by omega⟩
  exact key

theorem connectedComponents_congr (n : Nat) (A B : Adj) (h : ∀ s, s < n → componentOf n A s = componentOf n B s) :
    connectedComponents n A = connectedComponents n B := by
  unfold connectedComponents
  apply Loop.foldl_congr
  intro acc s hs
  rw [h s (List.mem_range.mp hs)]

theorem connectedComponents_congr_reach (n : Nat) (A B : Adj) (h : ∀ i j, Reach n A i j ↔ Reach n B i j) :
    connectedComponents n A = connectedComponents n B :=
  connectedComponents_congr n A B fun s hs => componentOf_congr n A B s s hs hs fun x _ => h s x

/-! ### local complementation preserves the components -/

/-- an edge of the complemented graph is an edge or a path `i – v – j` of the original graph -/
theorem reach_of_localComp_edge (n : Nat) (A : Adj) (v : Nat) (hv : v < n) (i j : Nat) (hi : i < n) (hj : j < n)
    (h : localComp A v i j = true) : Reach n A i j := by
  unfold localComp at h
  by_cases e : i = j
  · rw [if_pos e] at h; cases h
  · rw [if_neg e] at h
    cases hij : A i j
    · rw [hij] at h
      have h' : (A i v && A v j) = true := by simpa using h
      have h1 : A i v = true := by
        cases hh : A i v
        · rw [hh] at h'; simp at h'
        · rfl
      have h2 : A v j = true := by
        cases hh : A v j
        · rw [hh] at h'; simp at h'
        · rfl
      exact (Reach.single hi hv h1).trans (Reach.single hv hj h2)
    · exact Reach.single hi hj hij

theorem reach_localComp (n : Nat) (A : Adj) (v : Nat) (hv : v < n) (hA : Simple n A) (i j : Nat) :
    Reach n (localComp A v) i j ↔ Reach n A i j := by
  constructor
  · exact Reach.mono_of (fun i j hi hj h => reach_of_localComp_edge n A v hv i j hi hj h)
  · intro r
    have hinv := localComp_involution_simple n A v hv hA
    have r' : Reach n (localComp (localComp A v) v) i j := Reach.congr hinv.symm r
    exact Reach.mono_of (fun i j hi hj h => reach_of_localComp_edge n (localComp A v) v hv i j hi hj h) r'

theorem reach_applySeq (n : Nat) (A : Adj) (vs : List Nat) (hA : Simple n A) (hvs : ∀ v ∈ vs, v < n) (i j : Nat) :
    Reach n (applySeq A vs) i j ↔ Reach n A i j := by
  induction vs generalizing A with
  | nil => exact Iff.rfl
  | cons v vs ih =>
    have hv : v < n := hvs v List.mem_cons_self
    show Reach n (applySeq (localComp A v) vs) i j ↔ _
    rw [ih (localComp A v) (localComp_simple n A v hv hA) (fun w hw => hvs w (List.mem_cons_of_mem _ hw))]
    exact reach_localComp n A v hv hA i j

theorem components_lc_invariant (n : Nat) (A B : Adj) (hA : Simple n A) (vs : List Nat) (hvs : ∀ v ∈ vs, v < n)
    (hB : EqAdj n (applySeq A vs) B) : connectedComponents n A = connectedComponents n B := by
  apply connectedComponents_congr_reach
  intro i j
  rw [← reach_applySeq n A vs hA hvs i j]
  exact ⟨Reach.congr hB, Reach.congr hB.symm⟩

end Graphiq.LC
