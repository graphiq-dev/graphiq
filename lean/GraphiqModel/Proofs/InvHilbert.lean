/-
  Proofs/InvHilbert.lean — the Hilbert-space reading of `inverse_circuit`: with `U` the unitary of the returned gate list,
  `U ρ(t) U† = |0…0⟩⟨0…0|`, and the unitary `V` of the reversed list (`run_circuit(reverse=True)`) prepares the state:
  `V |0…0⟩⟨0…0| V† = ρ(t)`.  Hence every stabilizer state is literally a rank-one projector `ρ = |ψ⟩⟨ψ|` with the unit
  vector `ψ = V|0…0⟩`; and the overlap of two rank-one projectors is the squared modulus of the inner product of the vectors.
-/
import GraphiqModel.Proofs.InnerProductHilbert
namespace Graphiq
namespace Hilbert
open Matrix PRow STab Tab

/-- **the synthesised circuit maps the state to |0…0⟩**: `U ρ(t) U† = ρ(|0…0⟩)` -/
theorem inverseCircuit_rho (t t' : STab) (circ : List Gate) (hg : t.Good) (h : t.inverseCircuit = .ok (t', circ)) :
    circMat t.n circ * rho t.n t * (circMat t.n circ)ᴴ = rho t.n (STab.zero t.n) :=
  conj_rho_image t.n circ t _ (inverseCircuit_image t t' circ hg h) hg (zero_good t.n)

/-- **the reversed circuit prepares the state**: `V ρ(|0…0⟩) V† = ρ(t)` for the unitary `V` of the reversed list -/
theorem inverseCircuit_prepares_rho (t t' : STab) (circ : List Gate) (hg : t.Good) (h : t.inverseCircuit = .ok (t', circ)) :
    circMat t.n (revCirc circ) * rho t.n (STab.zero t.n) * (circMat t.n (revCirc circ))ᴴ = rho t.n t :=
  conj_rho_image t.n (revCirc circ) _ t (inverseCircuit_image t t' circ hg h).rev (zero_good t.n) hg

def zbits (n : Nat) : Bits n := fun _ => false

theorem rho_zero_vecMulVec (n : Nat) :
    rho n (STab.zero n) = Matrix.vecMulVec (Pi.single (zbits n) (1 : ℂ)) (Pi.single (zbits n) (1 : ℂ)) := by
  ext a b
  rw [rho_zero, Matrix.vecMulVec_apply]
  by_cases ha : a = zbits n
  · by_cases hb : b = zbits n
    · subst ha; subst hb
      rw [if_pos ⟨rfl, rfl⟩]; simp
    · have : ¬ (a = (fun _ => false) ∧ b = (fun _ => false)) := fun hh => hb hh.2
      rw [if_neg this, Pi.single_eq_of_ne hb]; simp
  · have : ¬ (a = (fun _ => false) ∧ b = (fun _ => false)) := fun hh => ha hh.1
    rw [if_neg this, Pi.single_eq_of_ne ha]; simp

/-- conjugating `e₀ e₀ᵀ` by `V` gives `ψ ψ†` with `ψ` = column 0 of `V` -/
theorem conj_zero_entry (n : Nat) (V : Matrix (Bits n) (Bits n) ℂ) (a b : Bits n) :
    (V * rho n (STab.zero n) * Vᴴ) a b = V a (zbits n) * star (V b (zbits n)) := by
  rw [rho_zero_vecMulVec, Matrix.mul_vecMulVec, Matrix.vecMulVec_mul, Matrix.vecMulVec_apply,
    Matrix.mulVec_single_one, Matrix.single_one_vecMul]
  rfl

/-- **every stabilizer state is a rank-one projector** `ρ = |ψ⟩⟨ψ|`, `⟨ψ|ψ⟩ = 1`, with `ψ = V|0…0⟩` for the unitary `V` of
    the reversed synthesised circuit -/
theorem rho_rank_one (t t' : STab) (circ : List Gate) (hg : t.Good) (h : t.inverseCircuit = .ok (t', circ)) :
    let ψ : Bits t.n → ℂ := fun a => circMat t.n (revCirc circ) a (zbits t.n)
    (∀ a b, rho t.n t a b = ψ a * star (ψ b)) ∧ ∑ a, star (ψ a) * ψ a = 1 := by
  intro ψ
  constructor
  · intro a b
    rw [← inverseCircuit_prepares_rho t t' circ hg h, conj_zero_entry]
  · have hwf := (inverseCircuit_image t t' circ hg h).rev.wf
    have hU := (circ_unitary t.n (revCirc circ) hwf).2
    have := congrFun (congrFun hU (zbits t.n)) (zbits t.n)
    rw [Matrix.mul_apply, Matrix.one_apply_eq] at this
    rw [← this]
    apply Finset.sum_congr rfl
    intro a _
    rfl

theorem trace_rank_one {n : Nat} (A B : Matrix (Bits n) (Bits n) ℂ) (u w : Bits n → ℂ)
    (hA : ∀ a b, A a b = u a * star (u b)) (hB : ∀ a b, B a b = w a * star (w b)) :
    Matrix.trace (A * B) = (∑ x, star (u x) * w x) * star (∑ x, star (u x) * w x) := by
  unfold Matrix.trace
  simp only [Matrix.diag_apply, Matrix.mul_apply, hA, hB]
  rw [star_sum, Finset.sum_mul_sum]
  rw [Finset.sum_comm]
  apply Finset.sum_congr rfl
  intro x _
  apply Finset.sum_congr rfl
  intro y _
  rw [star_mul, star_star]
  ring

end Hilbert
end Graphiq
