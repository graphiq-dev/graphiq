/-
  Proofs/InnerProductFull.lean — `inner_product` on stabilizer states given by independent real commuting generators:
  it returns, the fidelity of a state with itself is 1, and it returns only when its first argument is such a generating
  set (the completeness of `inverse_circuit`, Proofs/InvTotal.lean).
-/
import GraphiqModel.Proofs.InvTotal
import GraphiqModel.Proofs.InnerProductTotal
namespace Graphiq
open PRow Tab
namespace STab

/-- **`inner_product` returns on every pair of stabilizer states of the same size** (independent real commuting
    generators on both sides; nothing else assumed) -/
theorem innerProduct_total_full (a b : Tab) (ga : (STab.ofTab a).Good) (gb : (STab.ofTab b).Good)
    (ia : (STab.ofTab a).Indep) (ib : (STab.ofTab b).Indep) (hn : a.n = b.n) : ∃ r, STab.innerProduct a b = .ok r := by
  obtain ⟨s1, circ, hs, _⟩ := inverseCircuit_complete _ ga ia
  obtain ⟨cb, hcb⟩ := canonicalForm_of_indep _ gb ib
  exact innerProduct_total a b s1 cb circ ga gb hn hs hcb

/-- **the fidelity of a stabilizer state with itself is 1**: the call returns, and returns 1 -/
theorem innerProduct_self_full (a : Tab) (ga : (STab.ofTab a).Good) (ia : (STab.ofTab a).Indep) :
    STab.innerProduct a a = .ok (some 0) := by
  obtain ⟨s1, circ, hs, _⟩ := inverseCircuit_complete _ ga ia
  exact innerProduct_self a s1 circ ga hs

theorem innerProduct_ok_indep (a b : Tab) (r : Option Nat) (ga : (STab.ofTab a).Good) (h : STab.innerProduct a b = .ok r) :
    a.n = b.n ∧ (STab.ofTab a).Indep := by
  obtain ⟨hn, s1, circ, _, h1, _, _⟩ := innerProduct_inv a b r h
  exact ⟨hn, (inverseCircuit_returns_iff _ ga).1 ⟨_, h1⟩⟩

end STab
end Graphiq
