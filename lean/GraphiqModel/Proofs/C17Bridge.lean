/-
  Proofs/C17Bridge.lean — the exact rational model of the density-matrix side (`DM.stabilizerDensity`, `DM.isDensityMatrix`,
  `DM.isPure`, `DM.stabOverlap`; Model/DMSem.lean) on stabilizer states, through the representation bridge `Hilbert.Rep`
  (Proofs/HilbertBridge*.lean): for every valid Clifford tableau the matrix `stabilizerDensity t` passes
  `is_density_matrix` and `is_pure`, and `stabOverlap a b` is exactly the value `inner_product` reports (0 or `2^{-e}`).
  All sizes.
-/
import GraphiqModel.Proofs.C17BridgePsd
import GraphiqModel.Proofs.HilbertBridgeDensity
import GraphiqModel.Proofs.HilbertPure
import GraphiqModel.Proofs.InnerProductHilbert
import GraphiqModel.Proofs.InvValid
import GraphiqModel.Proofs.InvHilbert
namespace Graphiq
namespace C17B
open Hilbert Matrix STab

theorem stabilizerDensity_isDensityMatrix (t : Tab) (hv : t.Valid) :
    DM.isDensityMatrix (DM.stabilizerDensity t) = true :=
  isDensityMatrix_of_rep (rep_stabilizerDensity t) (rho_ofTab_posSemidef t hv) (rho_ofTab_trace t hv)

theorem stabilizerDensity_isPure (t : Tab) (hv : t.Valid) : DM.isPure (DM.stabilizerDensity t) = true := by
  have g := STab.ofTab_good t hv
  exact isPure_of_rep (rep_stabilizerDensity t) (rho_idem _ g) (rho_ofTab_trace t hv)

def ipValQ : Option Nat → Rat
  | none => 0
  | some e => (1 / 2 : Rat) ^ e

theorem ipVal_eq (r : Option Nat) : ipVal r = ((ipValQ r : Rat) : ℂ) := by
  cases r with
  | none => simp [ipVal, ipValQ]
  | some e => simp [ipVal, ipValQ]

/-- **`stabOverlap` is the value `inner_product` reports**: `tr(ρ_a ρ_b)` computed in ℚ[i] is 0 or `2^{-e}` -/
theorem stabOverlap_eq (a b : Tab) (r : Option Nat) (ga : (STab.ofTab a).Good) (gb : (STab.ofTab b).Good)
    (h : STab.innerProduct a b = .ok r) : DM.stabOverlap a b = ipValQ r := by
  have hn : a.n = b.n := (innerProduct_inv a b r h).1
  have ra := rep_stabilizerDensity a
  have rb : Rep a.n (DM.stabilizerDensity b) (tabRho a.n b) := by
    have := rep_stabilizerDensity b
    rw [← hn] at this; exact this
  have ht := (ra.mul rb).trace_re
  rw [show Matrix.trace (tabRho a.n a * tabRho a.n b) = _ from innerProduct_trace a b r ga gb h, ipVal_eq,
    Complex.ratCast_re] at ht
  unfold DM.stabOverlap
  exact_mod_cast ht

theorem stabOverlap_trace (a b : Tab) (va : a.Valid) (vb : b.Valid) (hn : a.n = b.n) :
    ((DM.stabOverlap a b : Rat) : ℂ) = Matrix.trace (tabRho a.n a * tabRho a.n b) := by
  have ga := STab.ofTab_good a va
  have gb := STab.ofTab_good b vb
  obtain ⟨r, hr⟩ := innerProduct_total_full a b ga gb (ofTab_indep a va) (ofTab_indep b vb) hn
  rw [stabOverlap_eq a b r ga gb hr, ← ipVal_eq]
  exact (innerProduct_trace a b r ga gb hr).symm

/-- **the exact overlap is `|⟨ψ_a|ψ_b⟩|²`** for unit vectors with `ρ_a = |ψ_a⟩⟨ψ_a|`, `ρ_b = |ψ_b⟩⟨ψ_b|` -/
theorem stabOverlap_inner (a b : Tab) (va : a.Valid) (vb : b.Valid) (hn : a.n = b.n) :
    ∃ ψa ψb : Bits a.n → ℂ,
      (∑ x, star (ψa x) * ψa x = 1) ∧ (∑ x, star (ψb x) * ψb x = 1) ∧
      (∀ x y, tabRho a.n a x y = ψa x * star (ψa y)) ∧ (∀ x y, tabRho a.n b x y = ψb x * star (ψb y)) ∧
      ((DM.stabOverlap a b : Rat) : ℂ) = (∑ x, star (ψa x) * ψb x) * star (∑ x, star (ψa x) * ψb x) := by
  obtain ⟨ta, ca, ha, _⟩ := inverseCircuit_of_valid a va
  obtain ⟨tb, cb, hb, _⟩ := inverseCircuit_of_valid b vb
  obtain ⟨a1, a2⟩ := rho_rank_one _ ta ca (STab.ofTab_good a va) ha
  obtain ⟨b1, b2⟩ := rho_rank_one _ tb cb (STab.ofTab_good b vb) hb
  have nb : (STab.ofTab b).n = a.n := hn.symm
  rw [nb] at b1 b2
  exact ⟨_, _, a2, b2, a1, b1, (stabOverlap_trace a b va vb hn).trans (trace_rank_one _ _ _ _ a1 b1)⟩

theorem ipValQ_range (r : Option Nat) : 0 ≤ ipValQ r ∧ ipValQ r ≤ 1 := by
  cases r with
  | none => simp [ipValQ]
  | some e =>
    simp only [ipValQ]
    exact ⟨pow_nonneg (by norm_num) e, pow_le_one₀ (by norm_num) (by norm_num)⟩

theorem stabOverlap_range (a b : Tab) (va : a.Valid) (vb : b.Valid) (hn : a.n = b.n) :
    0 ≤ DM.stabOverlap a b ∧ DM.stabOverlap a b ≤ 1 := by
  have ga := STab.ofTab_good a va
  have gb := STab.ofTab_good b vb
  obtain ⟨r, hr⟩ := innerProduct_total_full a b ga gb (ofTab_indep a va) (ofTab_indep b vb) hn
  rw [stabOverlap_eq a b r ga gb hr]
  exact ipValQ_range r

end C17B
end Graphiq
