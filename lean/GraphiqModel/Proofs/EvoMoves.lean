/-
  Proofs/EvoMoves.lean — the emission invariant of C04.  One invariant serves the moves, `initialization` and the construction order of the
  deterministic solvers: `BInv ⟨c, em⟩`, the emission constraints with the photons `em` emitted so far (`EmitInv c`: all
  of them); each elementary edit keeps it (`BInv.insertAt`, `BInv.removeOp`, `BInv.setNode`).  A move that succeeds is one
  of five edits (`step_edit`); a two-qubit insertion is acyclic because the ancestor / descendant sets of
  `find_incompatible_edges` are closed under the edge relation (`search_closed`).
-/
import GraphiqModel.Proofs.Wire
import Batteries.Data.List.Perm
namespace Graphiq.Wire
open Relation

/-- the invariant of C04: well-formed wires, acyclic DAG, emission constraints -/
def Circuit.EmitInv (c : Circuit) : Prop := c.WF ∧ c.Acyclic ∧ c.EmitC

/-! ## the photon wires under the elementary edits -/

theorem ins_cons_succ (h : Nat) (rest : List Nat) (p k : Nat) : ins (h :: rest) (p + 1) k = h :: ins rest p k := by
  simp [ins]

theorem isEmission_congr {c c' : Circuit} {j n : Nat} (h : c'.node n = c.node n) (he : c.isEmission j n) :
    c'.isEmission j n := by
  obtain ⟨i, hi⟩ := he
  exact ⟨i, by rw [h, hi]⟩

theorem laterOk_congr {c c' : Circuit} {j n : Nat} (h : c'.node n = c.node n) (he : c.laterOk j n) :
    c'.laterOk j n := by
  obtain ⟨op, hop, hh⟩ := he
  exact ⟨op, by rw [h, hop], hh⟩

theorem ins_zero (w : List Nat) (k : Nat) : ins w 0 k = k :: w := by simp [ins]

/-- what an operation on photon `j` may be behind the emission: a one-qubit gate on `p_j`, or a classically controlled
    correction with an emitter control and `p_j` as target (`laterOk c j n`: node `n` holds such an operation) -/
def LaterShape (j : Nat) (op : Op) : Prop :=
  (op.kind.isGate1 = true ∧ op.q = [⟨.p, j⟩]) ∨ (op.kind.isClassicalControlled = true ∧ ∃ i, op.q = [⟨.e, i⟩, ⟨.p, j⟩])

/-- the wire `w` of photon `j` begins with the emission of `j` and goes on with operations allowed after it: the shape that
    `EmitC.photon`, `EmitPre.photon` and the first half of `photonOk` spell out for `w = c.wire ⟨.p, j⟩` -/
def Circuit.Emitted (c : Circuit) (j : Nat) (w : List Nat) : Prop :=
  ∃ h rest, w = h :: rest ∧ c.isEmission j h ∧ ∀ n, n ∈ rest → c.laterOk j n

theorem Circuit.Emitted.congr {c c' : Circuit} {j : Nat} {w : List Nat} (hn : ∀ n, n ∈ w → c'.node n = c.node n)
    (h : c.Emitted j w) : c'.Emitted j w := by
  obtain ⟨h0, rest, rfl, hemi, hlater⟩ := h
  exact ⟨h0, rest, rfl, isEmission_congr (hn h0 List.mem_cons_self) hemi,
    fun n hnr => laterOk_congr (hn n (List.mem_cons_of_mem _ hnr)) (hlater n hnr)⟩

theorem Circuit.Emitted.insert {c : Circuit} {j : Nat} {w : List Nat} {k : Nat} (h : c.Emitted j w) (p : Nat)
    (hk : c.laterOk j k) : c.Emitted j (ins w (p + 1) k) := by
  obtain ⟨h0, rest, rfl, hemi, hlater⟩ := h
  refine ⟨h0, ins rest p k, ins_cons_succ h0 rest p k, hemi, fun n hn => ?_⟩
  rcases mem_ins.mp hn with rfl | hn
  · exact hk
  · exact hlater n hn

theorem laterOk_removeOp {c : Circuit} {j n n0 : Nat} (hne : n ≠ n0) (h : c.laterOk j n) : (c.removeOp n0).laterOk j n :=
  laterOk_congr (by rw [removeOp_node, if_neg hne]) h

theorem Circuit.Emitted.removeOp {c : Circuit} {j : Nat} {w : List Nat} {n0 : Nat} (h : c.Emitted j w)
    (hne : ¬ c.isEmission j n0) : (c.removeOp n0).Emitted j (w.filter fun m => m ≠ n0) := by
  obtain ⟨h0, rest, rfl, hemi, hlater⟩ := h
  have hne0 : h0 ≠ n0 := fun he => hne (he ▸ hemi)
  refine ⟨h0, rest.filter fun m => m ≠ n0, List.filter_cons_of_pos (by simpa using hne0),
    isEmission_congr (by rw [removeOp_node, if_neg hne0]) hemi, fun n hn => ?_⟩
  obtain ⟨hn1, hn2⟩ := List.mem_filter.mp hn
  exact laterOk_removeOp (by simpa using hn2) (hlater n hn1)

section SetNode
variable {c : Circuit} {j n0 : Nat} {old op' : Op} (hold : c.node n0 = some old) (hk : old.kind.isWrapper = true)
  (hq : old.q = op'.q) (hk' : op'.kind.isGate1 = true)
include hold hk hq hk'

/-- a one-qubit gate standing where a wrapper stood is allowed wherever the wrapper was -/
theorem laterOk_setNode {n : Nat} (h : c.laterOk j n) : (c.setNode n0 (some op')).laterOk j n := by
  by_cases hn0 : n = n0
  · subst hn0
    obtain ⟨op, hop, hshape⟩ := h
    rw [hold] at hop
    cases hop
    refine ⟨op', if_pos rfl, ?_⟩
    rcases hshape with ⟨_, hq1⟩ | ⟨hcc, _⟩
    · exact Or.inl ⟨hk', by rw [← hq, hq1]⟩
    · cases hkind : old.kind <;> simp [hkind, Kind.isWrapper, Kind.isClassicalControlled] at hk hcc
  · exact laterOk_congr (if_neg hn0) h

theorem Circuit.Emitted.setNode {w : List Nat} (h : c.Emitted j w) : (c.setNode n0 (some op')).Emitted j w := by
  obtain ⟨h0, rest, rfl, hemi, hlater⟩ := h
  have hne : h0 ≠ n0 := by
    rintro rfl
    obtain ⟨i, hi⟩ := hemi
    rw [hold] at hi
    cases hi
    cases hk
  exact ⟨h0, rest, rfl, isEmission_congr (if_neg hne) hemi, fun n hn => laterOk_setNode hold hk hq hk' (hlater n hn)⟩

end SetNode

theorem insertAt_node_old {c : Circuit} (hwf : c.WF) (op : Op) (es : List Edge) {r : Reg} {n : Nat} (hn : n ∈ c.wire r) :
    (c.insertAt op es).node n = c.node n := by
  have := hwf.wire_le hn
  rw [insertAt_node, if_neg (by omega)]

theorem insertAt_node_new (c : Circuit) (op : Op) (es : List Edge) : (c.insertAt op es).node (c.nid + 1) = some op := by
  rw [insertAt_node, if_pos rfl]

/-! ## the invariant, with the photons that have been emitted -/

/-- the state of a photon wire during the construction -/
def Circuit.photonOk (c : Circuit) (emitted : List Nat) (j : Nat) : Prop :=
  (j ∈ emitted → ∃ h rest, c.wire ⟨.p, j⟩ = h :: rest ∧ c.isEmission j h ∧ ∀ n, n ∈ rest → c.laterOk j n) ∧
  (j ∉ emitted → ∀ n, n ∈ c.wire ⟨.p, j⟩ → c.laterOk j n)

structure BInv (s : BuildSt) : Prop where
  wf : s.c.WF
  ac : s.c.Acyclic
  noPP : ∀ n op, s.c.node n = some op → ∀ r1 r2, op.q = [r1, r2] → ¬ (r1.ty = .p ∧ r2.ty = .p)
  photon : ∀ j, j < s.c.np → s.c.photonOk s.emitted j

theorem photonOk_congr {c c' : Circuit} {emitted : List Nat} {j : Nat} (hw : c'.wire ⟨.p, j⟩ = c.wire ⟨.p, j⟩)
    (hn : ∀ n, n ∈ c.wire ⟨.p, j⟩ → c'.node n = c.node n) (h : c.photonOk emitted j) : c'.photonOk emitted j := by
  unfold Circuit.photonOk
  rw [hw]
  exact ⟨fun hj => Circuit.Emitted.congr hn (h.1 hj), fun hj n hnw => laterOk_congr (hn n hnw) (h.2 hj n hnw)⟩

/-- On an emitted photon the new node goes behind the emission and is allowed there; a photon becomes emitted because the
    node is its emission, placed first on a wire that so far held only operations allowed behind it.  Acyclicity is the
    caller's: it depends on where the edges lie, not on what the node is. -/
theorem BInv.insertAt {s : BuildSt} (h : BInv s) (op : Op) (es : List Edge) (em' : List Nat) (hfit : Fits s.c op es)
    (hac : (s.c.insertAt op es).Acyclic)
    (hpp : ∀ r1 r2, op.q = [r1, r2] → ¬ (r1.ty = .p ∧ r2.ty = .p))
    (hsub : ∀ j, j ∈ s.emitted → j ∈ em')
    (hnew : ∀ j, j ∈ em' → j ∉ s.emitted → (⟨.p, j⟩ : Reg) ∈ es.map (·.r))
    (hph : ∀ e, e ∈ es → ∀ j, e.r = ⟨.p, j⟩ →
      (j ∈ s.emitted → 1 ≤ e.pos ∧ LaterShape j op) ∧
      (j ∉ s.emitted → j ∈ em' → e.pos = 0 ∧ ∃ i, op = ⟨.cnot, [⟨.e, i⟩, ⟨.p, j⟩], [], true⟩) ∧
      (j ∉ em' → LaterShape j op)) :
    BInv ⟨s.c.insertAt op es, em'⟩ := by
  refine ⟨hfit.wf h.wf, hac, NodesSat_insertAt s.c op es h.noPP hpp, fun j hj => ?_⟩
  have hold := h.photon j (by rw [← insertAt_np s.c op es]; exact hj)
  have hnode : ∀ n, n ∈ s.c.wire ⟨.p, j⟩ → (s.c.insertAt op es).node n = s.c.node n :=
    fun n hn => insertAt_node_old h.wf op es hn
  have hk := insertAt_node_new s.c op es
  by_cases hr : (⟨.p, j⟩ : Reg) ∈ es.map (·.r)
  · obtain ⟨e, he, her⟩ := List.mem_map.mp hr
    obtain ⟨h1, h2, h3⟩ := hph e he j her
    have hw : (s.c.insertAt op es).wire ⟨.p, j⟩ = ins (s.c.wire ⟨.p, j⟩) e.pos (s.c.nid + 1) :=
      her ▸ insertAt_wire_of_mem s.c op es hfit.nodup e he
    show (_ → Circuit.Emitted _ j _) ∧ _
    rw [hw]
    by_cases hje : j ∈ s.emitted
    · obtain ⟨hpos, hshape⟩ := h1 hje
      obtain ⟨p, hp⟩ : ∃ p, e.pos = p + 1 := ⟨e.pos - 1, by omega⟩
      rw [hp]
      exact ⟨fun _ => (Circuit.Emitted.congr hnode (hold.1 hje)).insert p ⟨op, hk, hshape⟩,
        fun hne => absurd (hsub j hje) hne⟩
    · have hlater : ∀ n, n ∈ s.c.wire ⟨.p, j⟩ → (s.c.insertAt op es).laterOk j n :=
        fun n hn => laterOk_congr (hnode n hn) (hold.2 hje n hn)
      refine ⟨fun hje' => ?_, fun hje' n hn => ?_⟩
      · obtain ⟨hpos, i, hop⟩ := h2 hje hje'
        rw [hpos, ins_zero]
        exact ⟨_, _, rfl, ⟨i, by rw [← hop]; exact hk⟩, hlater⟩
      · rcases mem_ins.mp hn with rfl | hn
        · exact ⟨op, hk, h3 hje'⟩
        · exact hlater n hn
  · have hw := insertAt_wire_of_not_mem s.c op es ⟨.p, j⟩ hr
    have := photonOk_congr (emitted := s.emitted) hw hnode hold
    exact ⟨fun h' => this.1 (Classical.byContradiction fun hn => hr (hnew j h' hn)), fun h' => this.2 fun h'' => h' (hsub j h'')⟩

theorem BInv.removeOp {s : BuildSt} (h : BInv s) (n : Nat) (hne : ∀ j, ¬ s.c.isEmission j n) :
    BInv { s with c := s.c.removeOp n } := by
  refine ⟨WF_removeOp s.c n h.wf, acyclic_removeOp s.c n h.ac, NodesSat_removeOp s.c n h.noPP, fun j hj => ?_⟩
  have hold := h.photon j hj
  refine ⟨fun hje => Circuit.Emitted.removeOp (hold.1 hje) (hne j), fun hje m hm => ?_⟩
  obtain ⟨hm1, hm2⟩ := (mem_removeOp_wire s.c n m _).mp hm
  exact laterOk_removeOp hm2 (hold.2 hje m hm1)

theorem BInv.setNode {s : BuildSt} (h : BInv s) {n : Nat} {old op' : Op} {r : Reg} (hold : s.c.node n = some old)
    (hk : old.kind.isWrapper = true) (hq : old.q = [r]) (hq' : op'.q = [r]) (hcr : old.cr = op'.cr)
    (hk' : op'.kind.isGate1 = true) : BInv { s with c := s.c.setNode n (some op') } := by
  have hqq : old.q = op'.q := hq.trans hq'.symm
  refine ⟨WF_setNode s.c n old _ h.wf hold hqq hcr, acyclic_setNode s.c n _ h.ac,
    NodesSat_setNode s.c n h.noPP (fun _ _ hq2 => nomatch hq'.symm.trans hq2), fun j hj => ?_⟩
  have hold' := h.photon j hj
  exact ⟨fun hje => Circuit.Emitted.setNode hold hk hqq hk' (hold'.1 hje),
    fun hje m hm => laterOk_setNode hold hk hqq hk' (hold'.2 hje m hm)⟩

/-- the invariant of C04 is the case in which every photon has been emitted -/
theorem BInv.emitInv {s : BuildSt} (h : BInv s) (hall : ∀ j, j < s.c.np → j ∈ s.emitted) : s.c.EmitInv :=
  ⟨h.wf, h.ac, h.noPP, fun j hj => (h.photon j hj).1 (hall j hj)⟩

theorem Circuit.EmitInv.bInv {c : Circuit} (h : c.EmitInv) : BInv ⟨c, List.range c.np⟩ :=
  ⟨h.1, h.2.1, h.2.2.noPP, fun j hj => ⟨fun _ => h.2.2.photon j hj, fun hn => absurd (List.mem_range.mpr hj) hn⟩⟩

/-! ## reachability sets computed by saturation are complete once they are closed -/

theorem mem_succs (c : Circuit) (x y : V) : y ∈ c.succs x ↔ c.E x y := by
  unfold Circuit.succs Circuit.E
  rw [List.mem_filterMap]
  constructor
  · rintro ⟨⟨a, b⟩, hp, h⟩
    obtain ⟨rfl, hb⟩ := Option.ite_none_right_eq_some.mp h
    cases hb
    exact hp
  · intro h
    exact ⟨(x, y), h, if_pos rfl⟩

theorem mem_preds (c : Circuit) (x y : V) : x ∈ c.preds y ↔ c.E x y := by
  unfold Circuit.preds Circuit.E
  rw [List.mem_filterMap]
  constructor
  · rintro ⟨⟨a, b⟩, hp, h⟩
    obtain ⟨rfl, ha⟩ := Option.ite_none_right_eq_some.mp h
    cases ha
    exact hp
  · intro h
    exact ⟨(x, y), h, if_pos rfl⟩

theorem closedUnder_iff (step : V → List V) (S : List V) :
    closedUnder step S = true ↔ ∀ x, x ∈ S → ∀ y, y ∈ step x → y ∈ S := by
  simp [closedUnder, List.all_eq_true]

theorem closed_desc (c : Circuit) (D : List V) (b : V) (hcl : closedUnder c.succs D = true)
    (hs : ∀ x, x ∈ c.succs b → x ∈ D) {y : V} (h : TransGen c.E b y) : y ∈ D := by
  rw [closedUnder_iff] at hcl
  induction h with
  | single h => exact hs _ ((mem_succs c _ _).mpr h)
  | tail _ h ih => exact hcl _ ih _ ((mem_succs c _ _).mpr h)

theorem closed_anc (c : Circuit) (A : List V) (a : V) (hcl : closedUnder c.preds A = true)
    (hs : ∀ x, x ∈ c.preds a → x ∈ A) {x : V} (h : TransGen c.E x a) : x ∈ A := by
  rw [closedUnder_iff] at hcl
  induction h using TransGen.head_induction_on with
  | single h => exact hs _ ((mem_preds c _ _).mpr h)
  | head h _ ih => exact hcl _ ih _ ((mem_preds c _ _).mpr h)

theorem compatible_of_not_incompatible (c : Circuit) (e1 e2 : Edge) (hv2 : c.validReg e2.r = true)
    (hcl : (c.incompatInfo e1).closed = true) (hinc : c.isIncompatible e1 (c.incompatInfo e1) e2 = false) :
    e2 ≠ e1 ∧ ¬ ReflTransGen c.E (c.dst e1) (c.src e2) ∧ ¬ ReflTransGen c.E (c.dst e2) (c.src e1) := by
  unfold Circuit.incompatInfo at hcl hinc
  -- the two searches are named before `simp` so that it does not walk through them
  generalize c.ancestors (c.src e1) = A at hcl hinc
  generalize c.descendants (c.dst e1) = D at hcl hinc
  simp only [Circuit.isIncompatible, Bool.or_eq_false_iff, decide_eq_false_iff_not] at hinc
  obtain ⟨⟨⟨⟨hne, hds⟩, hanc⟩, hsd⟩, hdesc⟩ := hinc
  simp only [Bool.and_eq_true, List.all_eq_true, decide_eq_true_eq] at hcl
  obtain ⟨⟨⟨hclA, hclD⟩, hpa⟩, hsb⟩ := hcl
  refine ⟨hne, ?_, ?_⟩
  · intro h
    rcases reflTransGen_iff_eq_or_transGen.mp h with h | h
    · exact hsd h
    · exact hdesc (closed_desc c _ _ hclD hsb h)
  · intro h
    rcases reflTransGen_iff_eq_or_transGen.mp h with h | h
    · exact hds h.symm
    · exact hanc (closed_anc c _ _ hclA hpa (TransGen.head (E_src_dst c e2 hv2) h))

/-! ## two edges of one wire are never compatible -/

theorem src_succ (c : Circuit) (r : Reg) (p : Nat) (h : p < (c.wire r).length) : c.src ⟨r, p + 1⟩ = c.dst ⟨r, p⟩ := by
  have h1 : ((c.wire r).take (p + 1)).getLast? = some (c.wire r)[p] := by
    rw [List.getLast?_eq_getElem?, List.length_take, Nat.min_eq_left h, Nat.succ_sub_one,
      List.getElem?_take_of_lt (Nat.lt_succ_self p), List.getElem?_eq_getElem h]
  have h2 : ((c.wire r).drop p).head? = some (c.wire r)[p] := by
    rw [List.head?_drop, List.getElem?_eq_getElem h]
  simp only [Circuit.src, Circuit.dst, h1, h2]

theorem reach_along_wire (c : Circuit) (r : Reg) (p q : Nat) (hv : c.validReg r = true) (hpq : p < q)
    (hq : q ≤ (c.wire r).length) : ReflTransGen c.E (c.dst ⟨r, p⟩) (c.src ⟨r, q⟩) := by
  induction q with
  | zero => cases hpq
  | succ q ih =>
    rw [src_succ c r q hq]
    rcases Nat.lt_or_eq_of_le (Nat.le_of_lt_succ hpq) with hlt | rfl
    · exact (ih hlt (Nat.le_of_succ_le hq)).tail (E_src_dst c ⟨r, q⟩ hv)
    · exact ReflTransGen.refl

theorem distinct_wires_of_compatible (c : Circuit) (e1 e2 : Edge) (hv : c.validReg e1.r = true)
    (h1 : e1.pos ≤ (c.wire e1.r).length) (h2 : e2.pos ≤ (c.wire e2.r).length) (hne : e2 ≠ e1)
    (h12 : ¬ ReflTransGen c.E (c.dst e1) (c.src e2)) (h21 : ¬ ReflTransGen c.E (c.dst e2) (c.src e1)) :
    e1.r ≠ e2.r := by
  intro hr
  rcases e1 with ⟨r1, p1⟩
  rcases e2 with ⟨r2, p2⟩
  simp only at hr h1 h2 hv
  subst hr
  have hp : p1 ≠ p2 := fun h => hne (by rw [h])
  rcases Nat.lt_or_gt_of_ne hp with h | h
  · exact h12 (reach_along_wire c r1 p1 p2 hv h h2)
  · exact h21 (reach_along_wire c r1 p2 p1 hv h h1)

/-! ## every mutation move is an edit, every edit preserves the invariant -/

theorem mem_edgesOf {c : Circuit} {t : RegType} {e : Edge} (h : e ∈ c.edgesOf t) :
    e.r.ty = t ∧ c.validReg e.r = true ∧ e.pos ≤ (c.wire e.r).length := by
  simp only [Circuit.edgesOf, Circuit.regsOf, List.mem_flatMap, List.mem_map, List.mem_range] at h
  obtain ⟨r, ⟨i, hi, rfl⟩, p, hp, rfl⟩ := h
  refine ⟨rfl, ?_, by simp only; omega⟩
  simp [Circuit.validReg, hi]

theorem src_of_pos_zero (c : Circuit) (e : Edge) (h : e.pos = 0) : c.src e = V.inp e.r := by
  simp [Circuit.src, h]

theorem pos_ge_one_of_src_not_inp (c : Circuit) (e : Edge) (h : (c.src e).isInp = false) : 1 ≤ e.pos := by
  rcases Nat.eq_zero_or_pos e.pos with h0 | h0
  · rw [src_of_pos_zero c e h0] at h; simp [V.isInp] at h
  · exact h0

theorem src_not_inp_of_kindIs (c : Circuit) (e : Edge) (k : Kind) (h : c.kindIs (c.src e) k = true) :
    (c.src e).isInp = false := by
  cases hs : c.src e with
  | inp r => simp [Circuit.kindIs, Circuit.kindOfV, hs] at h
  | out r => rfl
  | op n => rfl

theorem reg_eta_e (r : Reg) (h : r.ty = .e) : r = ⟨.e, r.idx⟩ := by
  rcases r with ⟨ty, i⟩; simp only at h; subst h; rfl

theorem mem_pair {α : Type} {a b c : α} (h : a ∈ [b, c]) : a = b ∨ a = c := by
  rcases List.mem_cons.mp h with h | h
  · exact Or.inl h
  · exact Or.inr (List.mem_singleton.mp h)

theorem forall_mem_pair {α : Type} {P : α → Prop} {a b : α} (ha : P a) (hb : P b) : ∀ x, x ∈ [a, b] → P x := by
  intro x hx
  rcases mem_pair hx with rfl | rfl
  · exact ha
  · exact hb

theorem not_pp_of_e {op : Op} {r : Reg} {r' : Reg} (hq : op.q = [r, r']) (hr : r.ty = .e) :
    ∀ r1 r2, op.q = [r1, r2] → ¬ (r1.ty = .p ∧ r2.ty = .p) := by
  intro r1 r2 hq' hp
  rw [hq] at hq'
  cases hq'
  rw [hr] at hp
  cases hp.1

theorem mem_replaceCands {c : Circuit} {t : RegType} {n : Nat} (h : n ∈ c.replaceCands t) :
    ∃ gs r cr fx, c.node n = some ⟨.wrapper gs, [r], cr, fx⟩ ∧ r.ty = t := by
  simp only [Circuit.replaceCands, List.mem_filter] at h
  obtain ⟨_, h⟩ := h
  split at h
  · rename_i gs r cr fx hnode
    exact ⟨gs, r, cr, fx, hnode, by simpa using h⟩
  · cases h

theorem mem_removeCands {c : Circuit} {n : Nat} (h : n ∈ c.removeCands) :
    ∃ op, c.node n = some op ∧ op.fixed = false := by
  simp only [Circuit.removeCands, List.mem_filter] at h
  obtain ⟨_, h⟩ := h
  split at h
  · rename_i op hnode
    exact ⟨op, hnode, by simpa using h⟩
  · cases h

theorem exceptToOption_eq_some {α : Type} {x : Except Err α} {a : α} (h : exceptToOption x = some a) : x = .ok a := by
  cases x with
  | ok b => exact congrArg Except.ok (Option.some.inj h)
  | error e => cases h

theorem insertAtE_ok {c : Circuit} {op : Op} {es : List Edge} {c' : Circuit} (h : c.insertAtE op es = .ok c') :
    c' = c.insertAt op es := by
  unfold Circuit.insertAtE at h
  split at h
  · cases h
  · cases h; rfl

theorem replaceOpE_ok {c : Circuit} {n : Nat} {op : Op} {c' : Circuit} (h : c.replaceOpE n op = .ok c') :
    ∃ old, c.node n = some old ∧ old.q = op.q ∧ old.cr = op.cr ∧ c' = c.setNode n (some op) := by
  unfold Circuit.replaceOpE at h
  split at h
  · cases h
  · rename_i old hold
    split at h
    · cases h
    · rename_i hne
      cases h
      exact ⟨old, hold, Decidable.of_not_not fun hq => hne (Or.inl hq), Decidable.of_not_not fun hcr => hne (Or.inr hcr), rfl⟩

/-- the edits a move can make: nothing, a wrapper replaced by a one-qubit Clifford on the same register, a one-qubit
    Clifford put on an emitter or photon edge (not the first edge of a photon), a node that is not `Fixed` removed, a
    two-qubit gate put on an emitter edge and a compatible emitter or photon edge -/
inductive Edit (c : Circuit) : Circuit → Prop where
  | same : Edit c c
  | replace {n : Nat} {gs : List G1} {r : Reg} {fx0 : Bool} (g : Nat) (fx : Bool)
      (hold : c.node n = some ⟨.wrapper gs, [r], [], fx0⟩) : Edit c (c.setNode n (some (mkWrapper g r fx)))
  | gate {t : RegType} {e : Edge} (g : Nat) (he : e ∈ c.edgesOf t) (ht : t ≠ .c) (hpos : t = .p → 1 ≤ e.pos) :
      Edit c (c.insertAt (mkWrapper g e.r false) [e])
  | remove {n : Nat} {op : Op} (hn : c.node n = some op) (hnf : op.fixed = false) : Edit c (c.removeOp n)
  | pair {t2 : RegType} {e1 e2 : Edge} (kind : Kind) (cr : List Nat) (h1 : e1 ∈ c.edgesOf .e) (h2 : e2 ∈ c.edgesOf t2)
      (ht2 : t2 ≠ .c) (hcl : (c.incompatInfo e1).closed = true)
      (hinc : c.isIncompatible e1 (c.incompatInfo e1) e2 = false)
      (hph : t2 = .p → 1 ≤ e2.pos ∧ kind.isClassicalControlled = true) :
      Edit c (c.insertAt ⟨kind, [e1.r, e2.r], cr, false⟩ [e1, e2])

theorem same_edit {c c' : Circuit} {p : Prop} [Decidable p] (h : (if p then some c else none) = some c') : Edit c c' := by
  obtain ⟨_, hc⟩ := Option.ite_none_right_eq_some.mp h
  cases hc
  exact .same

theorem stepReplace_edit {c : Circuit} {t : RegType} {ch : Choice} {g : Nat} {c' : Circuit}
    (h : c.stepReplace t ch g = some c') : Edit c c' := by
  unfold Circuit.stepReplace at h
  split at h
  · exact same_edit h
  · split at h
    · rename_i n
      obtain ⟨hcond, h⟩ := Option.ite_none_right_eq_some.mp h
      obtain ⟨gs, r, cr, fx0, hnode, _⟩ := mem_replaceCands hcond.1
      rw [hnode] at h
      obtain ⟨old, hold, _, hcr, rfl⟩ := replaceOpE_ok (exceptToOption_eq_some h)
      rw [hnode] at hold
      cases hold
      cases hcr
      exact .replace g _ hnode
    · cases h

theorem stepPair_edit {c : Circuit} {kind : Kind} {cr : List Nat} {e1 e2 : Edge} {c' : Circuit} {t2 : RegType}
    (ht2 : t2 ≠ .c) (h1 : e1 ∈ c.edgesOf .e) (h2 : e2 ∈ c.edgesOf t2)
    (hcl : (c.incompatInfo e1).closed = true) (hinc : c.isIncompatible e1 (c.incompatInfo e1) e2 = false)
    (hph : t2 = .p → 1 ≤ e2.pos ∧ kind.isClassicalControlled = true)
    (h : c.stepPair kind cr e1 e2 = some c') : Edit c c' := by
  obtain ⟨_, h⟩ := Option.ite_none_right_eq_some.mp h
  rw [insertAtE_ok (exceptToOption_eq_some h)]
  exact .pair kind cr h1 h2 ht2 hcl hinc hph

/-- `add_emitter_one_qubit_op` / `add_photon_one_qubit_op` with candidate list `cands`: without a candidate the move falls
    through to the replacement, otherwise it inserts on the chosen candidate -/
theorem gate_edit {c : Circuit} {t : RegType} {cands : List Edge} {ch : Choice} {g : Nat} {c' : Circuit} (ht : t ≠ .c)
    (hc : ∀ e, e ∈ cands → e ∈ c.edgesOf t ∧ (t = .p → 1 ≤ e.pos))
    (h : (if cands = [] then c.stepReplace t ch g else match ch with
      | .edge e => if e ∈ cands ∧ g < 24 then exceptToOption (c.insertAtE (mkWrapper g e.r false) [e]) else none
      | _ => none) = some c') : Edit c c' := by
  split at h
  · exact stepReplace_edit h
  · split at h
    · obtain ⟨hcond, h⟩ := Option.ite_none_right_eq_some.mp h
      rw [insertAtE_ok (exceptToOption_eq_some h)]
      exact .gate g (hc _ hcond.1).1 ht (hc _ hcond.1).2
    · cases h

/-- **what a move does**: whenever `step` succeeds the new circuit arises by one of the edits of `Edit` -/
theorem step_edit {c : Circuit} {m : Move} {c' : Circuit} (h : c.step m = some c') : Edit c c' := by
  rcases m with ⟨t, ch, g⟩
  cases t <;> dsimp only [Circuit.step] at h
  · -- add_emitter_one_qubit_op
    exact gate_edit (t := .e) (by simp) (fun e he => ⟨(List.mem_filter.mp he).1, fun hp => nomatch hp⟩) h
  · -- add_photon_one_qubit_op: the edge leaves a CNOT, so it is not the first edge of its wire
    refine gate_edit (t := .p) (by simp) (fun e he => ?_) h
    obtain ⟨hmem, hf⟩ := List.mem_filter.mp he
    rw [Bool.and_eq_true] at hf
    exact ⟨hmem, fun _ => pos_ge_one_of_src_not_inp c _ (src_not_inp_of_kindIs c _ _ hf.1)⟩
  · exact stepReplace_edit h
  · exact stepReplace_edit h
  · -- add_emitter_cnot
    split at h
    · exact same_edit h
    · obtain ⟨⟨hcl, he1, he2, hinc⟩, h⟩ := Option.ite_none_right_eq_some.mp h
      exact stepPair_edit (t2 := .e) (by simp) (List.mem_filter.mp he1).1 (List.mem_filter.mp he2).1 hcl hinc
        (fun hp => nomatch hp) h
    · cases h
  · -- remove_op
    split at h
    · exact same_edit h
    · split at h
      · obtain ⟨hcond, h⟩ := Option.ite_none_right_eq_some.mp h
        cases h
        obtain ⟨op, hnode, hnf⟩ := mem_removeCands hcond
        exact .remove hnode hnf
      · cases h
  · -- add_measurement_cnot_and_reset: the photon edge does not leave an input node
    split at h
    · exact same_edit h
    · obtain ⟨⟨hcl, he1, he2, hinc⟩, h⟩ := Option.ite_none_right_eq_some.mp h
      obtain ⟨hmem2, hf2⟩ := List.mem_filter.mp he2
      simp only [Bool.and_eq_true, Bool.not_eq_true'] at hf2
      exact stepPair_edit (t2 := .p) (by simp) (List.mem_filter.mp he1).1 hmem2 hcl hinc
        (fun _ => ⟨pos_ge_one_of_src_not_inp c _ hf2.2, rfl⟩) h
    · cases h

theorem Edit.preserves {c c' : Circuit} (h : Edit c c') (hinv : c.EmitInv) : c'.EmitInv := by
  have hb := hinv.bInv
  have hall : ∀ j, j < c.np → j ∈ List.range c.np := fun j hj => List.mem_range.mpr hj
  cases h with
  | same => exact hinv
  | replace g fx hold => exact (hb.setNode (op' := mkWrapper g _ fx) hold rfl rfl rfl rfl rfl).emitInv hall
  | @gate t e g he ht hpos =>
    obtain ⟨hty, hv, _⟩ := mem_edgesOf he
    have hty' : _ ≠ RegType.c := hty ▸ ht
    refine (hb.insertAt (mkWrapper g e.r false) [e] _
      (.of_q rfl (List.pairwise_singleton _ _) fun r (hr : r ∈ [_]) => List.mem_singleton.mp hr ▸ ⟨hv, hty'⟩)
      (acyclic_insertAt c _ _ hinv.1 hinv.2.1 (List.pairwise_singleton _ _) fun e1 he1 e2 he2 => ?_)
      (fun _ _ hq => by cases hq) (fun _ hj => hj) (fun _ hj hn => absurd hj hn) fun e' he' j hj => ?_).emitInv
      (by rw [insertAt_np]; exact hall)
    · rw [List.mem_singleton.mp he1, List.mem_singleton.mp he2]
      exact ((c.acyclic_iff).mp hinv.2.1).no_back (E_src_dst c _ hv)
    · obtain rfl := List.mem_singleton.mp he'
      have hsh : LaterShape j (mkWrapper g e'.r false) := Or.inl ⟨rfl, congrArg (fun r => [r]) hj⟩
      exact ⟨fun _ => ⟨hpos (by rw [← hty, hj]), hsh⟩, fun hn hj' => absurd hj' hn, fun _ => hsh⟩
  | @remove n op hn hnf =>
    refine (hb.removeOp n fun j ⟨i, hi⟩ => ?_).emitInv hall
    rw [hn] at hi
    cases hi
    cases hnf
  | @pair t2 e1 e2 kind cr h1 h2 ht2 hcl hinc hph =>
    obtain ⟨hty1, hv1, hp1⟩ := mem_edgesOf h1
    obtain ⟨hty2, hv2, hp2⟩ := mem_edgesOf h2
    obtain ⟨hne, h12, h21⟩ := compatible_of_not_incompatible c _ _ hv2 hcl hinc
    have hrr : e1.r ≠ e2.r := distinct_wires_of_compatible c e1 e2 hv1 hp1 hp2 hne h12 h21
    have hnd : ([e1.r, e2.r] : List Reg).Nodup := by simp [hrr]
    refine (hb.insertAt _ [e1, e2] _
      (.of_q rfl hnd (forall_mem_pair ⟨hv1, by rw [hty1]; exact nofun⟩ ⟨hv2, hty2 ▸ ht2⟩))
      (acyclic_insertAt c _ _ hinv.1 hinv.2.1 hnd
        (forall_mem_pair (forall_mem_pair (((c.acyclic_iff).mp hinv.2.1).no_back (E_src_dst c _ hv1)) h21)
          (forall_mem_pair h12 (((c.acyclic_iff).mp hinv.2.1).no_back (E_src_dst c _ hv2)))))
      (not_pp_of_e rfl hty1) (fun _ hj => hj) (fun _ hj hn => absurd hj hn) ?_).emitInv
      (by rw [insertAt_np]; exact hall)
    refine forall_mem_pair (fun j hj => ?_) (fun j hj => ?_)
    · rw [hj] at hty1
      cases hty1
    · have hp : t2 = .p := by rw [← hty2, hj]
      have hsh : LaterShape j ⟨kind, [e1.r, e2.r], cr, false⟩ :=
        Or.inr ⟨(hph hp).2, e1.r.idx, by rw [← reg_eta_e e1.r hty1, hj]⟩
      exact ⟨fun _ => ⟨(hph hp).1, hsh⟩, fun hn hj' => absurd hj' hn, fun _ => hsh⟩

/-- a run of an option-valued step function keeps whatever every step keeps; `hnil`, `hcons` are the two equations of `run` -/
theorem run_induction {σ α : Type} {step : σ → α → Option σ} {run : σ → List α → Option σ}
    (hnil : ∀ s, run s [] = some s) (hcons : ∀ s a l, run s (a :: l) = (step s a).bind fun s' => run s' l)
    {P : σ → Prop} (hstep : ∀ s a s', P s → step s a = some s' → P s') (l : List α) (s s' : σ) (hs : P s)
    (h : run s l = some s') : P s' := by
  induction l generalizing s with
  | nil =>
    rw [hnil] at h
    cases h
    exact hs
  | cons a l ih =>
    rw [hcons] at h
    obtain ⟨s1, h1, h2⟩ := Option.bind_eq_some_iff.mp h
    exact ih s1 (hstep s a s1 hs h1) h2

/-! ## `get_emission_assignment` stays below `n_emitter` -/

structure EAInv (ne : Nat) (s : EAState) (k : Nat) : Prop where
  lt : ∀ x, x ∈ s.assignment → x < ne
  used_pos : 1 ≤ s.used
  used_le : s.used ≤ ne
  avail_le : s.avail ≤ ne
  avail_eq : s.used < ne → s.avail = s.used + 1
  len : s.ok = true → s.assignment.length = k

theorem EAInv.fail {ne : Nat} {s : EAState} {k : Nat} (h : EAInv ne s k) : EAInv ne { s with ok := false } (k + 1) :=
  ⟨h.lt, h.used_pos, h.used_le, h.avail_le, h.avail_eq, fun hok => by cases hok⟩

theorem EAInv.push {ne : Nat} {s : EAState} {k : Nat} (h : EAInv ne s k) {d : Nat} (hd : d < ne) (ds : List Nat) :
    EAInv ne { s with assignment := s.assignment ++ [d], draws := ds } (k + 1) := by
  refine ⟨?_, h.used_pos, h.used_le, h.avail_le, h.avail_eq, ?_⟩
  · intro x hx
    rcases List.mem_append.mp hx with hx | hx
    · exact h.lt x hx
    · rw [List.mem_singleton.mp hx]
      exact hd
  · intro hok
    rw [List.length_append, h.len hok]
    rfl

/-- emitter `used` is taken into use; the next one becomes available if there is one -/
theorem EAInv.bump {ne : Nat} {s : EAState} {k : Nat} (h : EAInv ne s k) (hu : s.used < ne) :
    EAInv ne { s with used := s.used + 1, avail := if s.used + 1 < ne then s.avail + 1 else s.avail } k := by
  have ha : s.avail = s.used + 1 := h.avail_eq hu
  refine ⟨h.lt, Nat.le_add_left 1 s.used, hu, ?_, ?_, h.len⟩
  · show (if s.used + 1 < ne then s.avail + 1 else s.avail) ≤ ne
    split
    · omega
    · exact h.avail_le
  · intro hlt
    show (if s.used + 1 < ne then s.avail + 1 else s.avail) = s.used + 1 + 1
    rw [if_pos hlt, ha]

theorem eaStep_inv (np ne : Nat) (s : EAState) (k i : Nat) (hi : i < np) (h : EAInv ne s k) :
    EAInv ne (eaStep np ne s i) (k + 1) := by
  obtain ⟨asg, avail, used, draws, ok⟩ := s
  unfold eaStep
  by_cases hforced : np - i = ne - used
  · have hu : used < ne := by omega
    rw [if_pos hforced]
    exact (h.push hu draws).bump hu
  · rw [if_neg hforced]
    cases draws with
    | nil => exact h.fail
    | cons d ds =>
      show EAInv ne (if d < avail then _ else _) (k + 1)
      by_cases hd : d < avail
      · have hdne : d < ne := Nat.lt_of_lt_of_le hd h.avail_le
        rw [if_pos hd]
        show EAInv ne (if d = used ∧ used < ne then _ else _) (k + 1)
        by_cases hnew : d = used ∧ used < ne
        · rw [if_pos hnew]
          exact (h.push hdne ds).bump hnew.2
        · rw [if_neg hnew]
          exact h.push hdne ds
      · rw [if_neg hd]
        exact h.fail

/-! ## the emission constraints while photons are still being emitted -/

structure Circuit.EmitPre (c : Circuit) : Prop where
  noPP : ∀ n op, c.node n = some op → ∀ r1 r2, op.q = [r1, r2] → ¬ (r1.ty = .p ∧ r2.ty = .p)
  photon : ∀ j, j < c.np → c.wire ⟨.p, j⟩ = [] ∨
    ∃ h rest, c.wire ⟨.p, j⟩ = h :: rest ∧ c.isEmission j h ∧ ∀ n, n ∈ rest → c.laterOk j n

theorem BInv.emitPre {s : BuildSt} (h : BInv s) (hempty : ∀ j, j ∉ s.emitted → s.c.wire ⟨.p, j⟩ = []) : s.c.EmitPre :=
  ⟨h.noPP, fun j hj => (Classical.em (j ∈ s.emitted)).elim (fun hje => Or.inr ((h.photon j hj).1 hje))
    fun hje => Or.inl (hempty j hje)⟩

theorem empty_E (ne np nc : Nat) (a b : V) (h : (Circuit.empty ne np nc).E a b) : ∃ r, a = V.inp r ∧ b = V.out r := by
  obtain ⟨r, _, hadj⟩ := (E_iff _ _ _).mp h
  simp only [Adj, Circuit.aug, Circuit.empty, List.map_nil, List.nil_append, pairs_cons_cons, pairs_singleton,
    List.mem_singleton, Prod.mk.injEq] at hadj
  exact ⟨r, hadj.1, hadj.2⟩

theorem acyclic_empty (ne np nc : Nat) : (Circuit.empty ne np nc).Acyclic := by
  intro v hv
  rcases TransGen.head'_iff.mp hv with ⟨y, hvy, hyv⟩
  obtain ⟨r, rfl, rfl⟩ := empty_E _ _ _ _ _ hvy
  have := reach_from_out _ _ _ hyv
  cases this

theorem BInv_empty (ne np : Nat) : BInv ⟨Circuit.empty ne np 1, []⟩ := by
  refine ⟨WF_empty ne np 1, acyclic_empty ne np 1, ?_, fun j _ => ⟨?_, ?_⟩⟩
  · intro n op hn
    cases hn
  · intro hj
    cases hj
  · intro _ n hn
    cases hn

/-! ## `initialization` -/

/-- state of the two loops of `initialization`: the photons below `i` have been emitted, the others are untouched -/
structure InitInv (c : Circuit) (ne np i : Nat) : Prop where
  inv : BInv ⟨c, List.range i⟩
  hne : c.ne = ne
  hnp : c.np = np
  hnc : c.nc = 1
  empty : ∀ j, i ≤ j → c.wire ⟨.p, j⟩ = []

theorem mem_addRegs_ep {j e p : Nat} {cr : List Nat}
    (h : (⟨.p, j⟩ : Reg) ∈ [(⟨.e, e⟩ : Reg), ⟨.p, p⟩] ++ cr.map (Reg.mk .c)) : j = p := by
  rcases List.mem_append.mp h with h | h
  · rcases mem_pair h with h | h
    · cases h
    · cases h
      rfl
  · obtain ⟨i, _, hi⟩ := List.mem_map.mp h
    cases hi

/-- one `add` of `initialization`; afterwards the photons below `i'` are emitted -/
theorem InitInv.add {c : Circuit} {ne np i : Nat} (h : InitInv c ne np i) (op : Op) (i' : Nat) (hii : i ≤ i')
    (hnd : op.addRegs.Nodup) (hq : ∀ r, r ∈ op.q → c.validReg r = true ∧ r.ty ≠ .c) (hc : ∀ j, j ∈ op.cr → j = 0)
    (hpp : ∀ r1 r2, op.q = [r1, r2] → ¬ (r1.ty = .p ∧ r2.ty = .p))
    (hph : ∀ j, (⟨.p, j⟩ : Reg) ∈ op.addRegs →
      (j < i → LaterShape j op) ∧ (i ≤ j → j < i' ∧ ∃ a, op = ⟨.cnot, [⟨.e, a⟩, ⟨.p, j⟩], [], true⟩))
    (hfill : ∀ j, i ≤ j → j < i' → (⟨.p, j⟩ : Reg) ∈ op.addRegs) :
    c.add op = .ok (c.addCore op) ∧ InitInv (c.addCore op) ne np i' := by
  obtain ⟨hb, hne, hnp, hnc, hemp⟩ := h
  have hcv : ∀ j, j ∈ op.cr → c.validReg ⟨.c, j⟩ = true := fun j hj =>
    validReg_c c j (by rw [hc j hj, hnc]; exact Nat.one_pos)
  have hge : ∀ {j}, j ∉ List.range i → i ≤ j := fun hn => Nat.le_of_not_lt fun hlt => hn (List.mem_range.mpr hlt)
  refine ⟨add_of_valid c op (fun r hr => (hq r hr).1) hcv, ?_, by rw [addCore_ne]; exact hne,
    by rw [addCore_np]; exact hnp, by rw [addCore_nc]; exact hnc, fun j hj => ?_⟩
  · refine hb.insertAt op (endEdges c op) _ (.endEdges hnd hq hcv) (acyclic_addCore c op hb.wf hb.ac hnd) hpp
      (fun j hj => List.mem_range.mpr (Nat.lt_of_lt_of_le (List.mem_range.mp hj) hii))
      (fun j hj hn => ?_) fun e he j hj => ?_
    · rw [endEdges_regs]
      exact hfill j (hge hn) (List.mem_range.mp hj)
    · -- the node goes to the end of the wire: behind the emission of an emitted photon, first on an empty wire
      obtain ⟨hreg, hpos⟩ := mem_endEdges he
      obtain ⟨h1, h2⟩ := hph j (hj ▸ hreg)
      refine ⟨fun hje => ⟨?_, h1 (List.mem_range.mp hje)⟩, fun hn _ => ⟨?_, (h2 (hge hn)).2⟩,
        fun hn => h1 (Nat.lt_of_not_le fun hle => hn (List.mem_range.mpr (h2 hle).1))⟩
      · obtain ⟨h0, rest, hw, _⟩ := (hb.photon j
          (of_decide_eq_true (hq _ ((mem_addRegs_q (r := ⟨.p, j⟩) nofun).mp (hj ▸ hreg))).1)).1 hje
        rw [hpos, hj, hw]
        exact Nat.succ_pos _
      · rw [hpos, hj, hemp j (hge hn)]
        rfl
  · rw [addCore_wire c op hnd, if_neg, hemp j (Nat.le_trans hii hj)]
    exact fun hm => absurd ((hph j hm).2 (Nat.le_trans hii hj)).1 (Nat.not_lt.mpr hj)

/-- one iteration of the photon loop: emission CNOT, then the `[Identity, Hadamard]` wrapper -/
theorem init_photon_step (c : Circuit) (ne np i a : Nat) (h : InitInv c ne np i) (hi : i < np) (ha : a < ne) :
    ∃ c2, (do let c' ← c.add (emissionOp a i); c'.add (initWrapperOp i)) = Except.ok c2 ∧ InitInv c2 ne np (i + 1) := by
  obtain ⟨hadd1, h1⟩ := h.add (emissionOp a i) (i + 1) (Nat.le_succ i) (by simp [emissionOp, Op.addRegs])
    (forall_mem_pair ⟨validReg_e c a (h.hne ▸ ha), nofun⟩ ⟨validReg_p c i (h.hnp ▸ hi), nofun⟩) (fun j hj => nomatch hj)
    (not_pp_of_e rfl rfl)
    (fun j hj => by
      obtain rfl := mem_addRegs_ep hj
      exact ⟨fun hlt => absurd hlt (Nat.lt_irrefl _), fun _ => ⟨Nat.lt_succ_self _, a, rfl⟩⟩)
    (fun j h1 h2 => by
      obtain rfl : j = i := Nat.le_antisymm (Nat.le_of_lt_succ h2) h1
      exact List.mem_cons_of_mem _ List.mem_cons_self)
  obtain ⟨hadd2, h2⟩ := h1.add (initWrapperOp i) (i + 1) (Nat.le_refl _) (by simp [initWrapperOp, Op.addRegs])
    (fun r hr => List.mem_singleton.mp hr ▸ ⟨validReg_p _ i (h1.hnp ▸ hi), nofun⟩) (fun j hj => nomatch hj)
    (fun _ _ hq => nomatch hq)
    (fun j hj => by
      obtain rfl : j = i := (Reg.mk.inj (List.mem_singleton.mp hj)).2
      exact ⟨fun _ => Or.inl ⟨rfl, rfl⟩, fun hle => absurd hle (Nat.not_succ_le_self _)⟩)
    (fun j h1 h2 => absurd h2 (Nat.not_lt.mpr h1))
  exact ⟨_, by rw [hadd1]; exact hadd2, h2⟩

theorem init_photon_loop (ne np : Nat) (l : List Nat) (c : Circuit) (h : InitInv c ne np 0)
    (hl : ∀ x, x ∈ l → x < ne) (hlen : l.length ≤ np) :
    ∃ c', l.zipIdx.foldlM (fun c (ai : Nat × Nat) => do
        let c' ← c.add (emissionOp ai.1 ai.2)
        c'.add (initWrapperOp ai.2)) c = Except.ok c' ∧ InitInv c' ne np l.length := by
  rw [← List.length_zipIdx (l := l)]
  refine Loop.foldlM_ind_ok (fun k c => InitInv c ne np k) (fun k c ai hk hI => ?_) h
  rw [List.getElem?_zipIdx] at hk
  obtain ⟨a, ha, rfl⟩ := Option.map_eq_some_iff.mp hk
  rw [Nat.zero_add]
  exact init_photon_step c ne np k a hI (Nat.lt_of_lt_of_le (List.getElem?_eq_some_iff.mp ha).1 hlen)
    (hl a (List.mem_of_getElem? ha))

/-- one iteration of the measurement loop; every photon has been emitted -/
theorem init_mcr_step (c : Circuit) (ne np j t : Nat) (h : InitInv c ne np np) (hj : j < ne) (ht : t < np) :
    ∃ c2, c.add (finalMcrOp j t) = Except.ok c2 ∧ InitInv c2 ne np np := by
  obtain ⟨hadd, h'⟩ := h.add (finalMcrOp j t) np (Nat.le_refl _) (by simp [finalMcrOp, Op.addRegs])
    (forall_mem_pair ⟨validReg_e c j (h.hne ▸ hj), nofun⟩ ⟨validReg_p c t (h.hnp ▸ ht), nofun⟩)
    (fun i hi => List.mem_singleton.mp hi) (not_pp_of_e rfl rfl)
    (fun j' hj' => by
      obtain rfl := mem_addRegs_ep hj'
      exact ⟨fun _ => Or.inr ⟨rfl, j, rfl⟩, fun hle => absurd ht (Nat.not_lt.mpr hle)⟩)
    (fun j' h1 h2 => absurd h2 (Nat.not_lt.mpr h1))
  exact ⟨_, hadd, h'⟩

theorem init_mcr_loop (ne np : Nat) (l : List Nat) (c : Circuit) (h : InitInv c ne np np)
    (hl : ∀ x, x ∈ l → x < np) (hlen : l.length ≤ ne) :
    ∃ c', l.zipIdx.foldlM (fun c (tj : Nat × Nat) => c.add (finalMcrOp tj.2 tj.1)) c = Except.ok c' ∧
      InitInv c' ne np np := by
  refine Loop.foldlM_ok (l := l.zipIdx) (fun c => InitInv c ne np np) (fun c tj htj hI => ?_) h
  obtain ⟨k, hk⟩ := List.mem_iff_getElem?.mp htj
  rw [List.getElem?_zipIdx] at hk
  obtain ⟨t, ht, rfl⟩ := Option.map_eq_some_iff.mp hk
  rw [Nat.zero_add]
  exact init_mcr_step c ne np k t hI (Nat.lt_of_lt_of_le (List.getElem?_eq_some_iff.mp ht).1 hlen)
    (hl t (List.mem_of_getElem? ht))

theorem InitInv_empty (ne np : Nat) : InitInv (Circuit.empty ne np 1) ne np 0 :=
  ⟨BInv_empty ne np, rfl, rfl, rfl, fun _ _ => rfl⟩

/-! ## Fixed two-qubit operations are never removed -/

theorem foldl_insertEdge_mem (k : Nat) (es : List Edge) (c0 : Circuit) (r : Reg) (n : Nat) (h : n ∈ c0.wire r) :
    n ∈ (es.foldl (Circuit.insertEdge k) c0).wire r := by
  induction es generalizing c0 with
  | nil => exact h
  | cons e es ih =>
    simp only [List.foldl_cons]
    apply ih
    simp only [Circuit.insertEdge, Circuit.setWire]
    split
    · rename_i hr
      subst hr
      exact (mem_ins (w := c0.wire e.r) (pos := e.pos) (k := k)).mpr (Or.inr h)
    · exact h

def Keeps (c c' : Circuit) (n : Nat) (op : Op) : Prop := c'.node n = some op ∧ ∀ r, n ∈ c.wire r → n ∈ c'.wire r

theorem keeps_insertAt (c : Circuit) (op' : Op) (es : List Edge) (hwf : c.WF) (n : Nat) (op : Op)
    (h : c.node n = some op) : Keeps c (c.insertAt op' es) n op := by
  have := (hwf.bound n op h).2
  exact ⟨by rw [insertAt_node, if_neg (by omega)]; exact h, fun r hr => foldl_insertEdge_mem _ es _ r n hr⟩

/-- an edit never removes (or changes, or takes off a wire) a `Fixed` two-qubit operation -/
theorem Edit.keeps {c c' : Circuit} (h : Edit c c') (hwf : c.WF) {n : Nat} {op : Op} (hn : c.node n = some op)
    (hfix : op.fixed = true) (hk : op.kind.isTwoQubit = true) : Keeps c c' n op := by
  cases h with
  | same => exact ⟨hn, fun _ hr => hr⟩
  | @replace n0 _ _ _ g fx hold =>
    have hne : n ≠ n0 := by
      rintro rfl
      rw [hold] at hn
      cases hn
      cases hk
    exact ⟨by show (if n = n0 then _ else c.node n) = _; rw [if_neg hne]; exact hn, fun _ hr => hr⟩
  | gate g he ht hpos => exact keeps_insertAt c _ _ hwf n op hn
  | @remove n0 op0 hn0 hnf =>
    have hne : n ≠ n0 := by
      rintro rfl
      rw [hn0] at hn
      cases hn
      rw [hfix] at hnf
      cases hnf
    exact ⟨by rw [removeOp_node, if_neg hne]; exact hn, fun r hr => (mem_removeOp_wire c n0 n r).mpr ⟨hr, hne⟩⟩
  | pair kind cr h1 h2 ht2 hcl hinc hph => exact keeps_insertAt c _ _ hwf n op hn

/-! ## the executable checker `emitCB` -/

theorem isEmissionB_sound (c : Circuit) (j n : Nat) (h : c.isEmissionB j n = true) : c.isEmission j n := by
  unfold Circuit.isEmissionB at h
  split at h
  · rename_i i j' hnode
    simp only [decide_eq_true_eq] at h
    subst h
    exact ⟨i, hnode⟩
  · cases h

theorem laterOkB_sound (c : Circuit) (j n : Nat) (h : c.laterOkB j n = true) : c.laterOk j n := by
  unfold Circuit.laterOkB at h
  split at h
  · rename_i op hnode
    refine ⟨op, hnode, ?_⟩
    simp only [Bool.or_eq_true, Bool.and_eq_true, decide_eq_true_eq] at h
    rcases h with ⟨h1, h2⟩ | ⟨h1, h2⟩
    · exact Or.inl ⟨h1, h2⟩
    · right
      refine ⟨h1, ?_⟩
      split at h2
      · rename_i i r2 hq
        simp only [decide_eq_true_eq] at h2
        exact ⟨i, by rw [hq, h2]⟩
      · cases h2
  · cases h

/-! ## construction order of the deterministic solvers -/

theorem adj_right_mem_tail {α : Type} {l : List α} {a b : α} (h : Adj l a b) : b ∈ l.tail := by
  unfold Adj pairs at h
  exact (List.of_mem_zip h).2

theorem inp_no_pred (c : Circuit) (r : Reg) (a : V) : ¬ c.E a (V.inp r) := by
  intro h
  obtain ⟨r', _, hadj⟩ := (E_iff c _ _).mp h
  have := adj_right_mem_tail hadj
  simp [Circuit.aug] at this

theorem reach_to_inp (c : Circuit) (r : Reg) (x : V) (h : ReflTransGen c.E x (V.inp r)) : x = V.inp r := by
  rcases ReflTransGen.cases_tail h with h | ⟨y, _, hy⟩
  · exact h.symm
  · exact absurd hy (inp_no_pred c r y)

theorem map_r_frontEdge (rs : List Reg) : (rs.map frontEdge).map (·.r) = rs := by
  rw [List.map_map]
  exact List.map_id'' (fun _ => rfl) rs

/-- nothing reaches an input node, so a node put directly after input nodes closes no cycle -/
theorem acyclic_frontInsert (c : Circuit) (op : Op) (rs : List Reg) (hwf : c.WF) (hac : c.Acyclic) (hnd : rs.Nodup) :
    (c.insertAt op (rs.map frontEdge)).Acyclic := by
  refine acyclic_insertAt c op _ hwf hac (by rw [map_r_frontEdge]; exact hnd) ?_
  intro e1 he1 e2 _ hreach
  obtain ⟨r1, _, rfl⟩ := List.mem_map.mp he1
  rw [src_of_pos_zero c (frontEdge r1) rfl] at hreach
  have := reach_to_inp c r1 _ hreach
  rcases dst_cases c e2 with h | ⟨n, _, h⟩ <;> rw [h] at this <;> cases this

/-- insertion directly behind the input nodes of the registers of `op`, none of them an emitted photon: a photon that
    becomes emitted does so because `op` is its emission; on any other photon of `op`, `op` is allowed behind the emission -/
theorem BInv.frontInsert {s : BuildSt} (h : BInv s) (op : Op) (em' : List Nat) (hnd : op.q.Nodup)
    (hv : ∀ r, r ∈ op.q → s.c.validReg r = true ∧ r.ty ≠ .c)
    (hpp : ∀ r1 r2, op.q = [r1, r2] → ¬ (r1.ty = .p ∧ r2.ty = .p))
    (hsub : ∀ j, j ∈ s.emitted → j ∈ em')
    (hnew : ∀ j, j ∈ em' → j ∉ s.emitted → ∃ i, op = ⟨.cnot, [⟨.e, i⟩, ⟨.p, j⟩], [], true⟩)
    (hshape : ∀ j, (⟨.p, j⟩ : Reg) ∈ op.q → j ∉ s.emitted ∧ (j ∉ em' → LaterShape j op)) :
    BInv ⟨s.c.insertAt op (op.q.map frontEdge), em'⟩ := by
  refine h.insertAt op _ em' (.of_q (map_r_frontEdge _) hnd hv) (acyclic_frontInsert s.c op op.q h.wf h.ac hnd) hpp hsub
    (fun j hj hn => ?_) fun e he j hj => ?_
  · obtain ⟨i, hop⟩ := hnew j hj hn
    rw [map_r_frontEdge, hop]
    exact List.mem_cons_of_mem _ List.mem_cons_self
  · obtain ⟨r, hr, rfl⟩ := List.mem_map.mp he
    obtain ⟨hfr, hsh⟩ := hshape j (hj ▸ hr)
    exact ⟨fun hje => absurd hje hfr, fun _ hje' => ⟨rfl, hnew j hje' hfr⟩, hsh⟩

theorem BInv.appendGate {s : BuildSt} (h : BInv s) (p : Nat) (g : G1) (hp : p < s.c.np) (hpe : p ∈ s.emitted) :
    BInv { s with c := s.c.addCore ⟨.base g, [⟨.p, p⟩], [], false⟩ } := by
  have hnd : ([⟨.p, p⟩] : List Reg).Nodup := List.pairwise_singleton _ _
  refine h.insertAt _ _ s.emitted
    (.of_q (endEdges_regs s.c _) hnd fun r hr => List.mem_singleton.mp hr ▸ ⟨validReg_p s.c p hp, nofun⟩)
    (acyclic_addCore s.c _ h.wf h.ac hnd) (fun _ _ hq => nomatch hq) (fun _ hj => hj) (fun _ hj hn => absurd hj hn)
    fun e he j hj => ?_
  obtain ⟨hreg, hpos⟩ := mem_endEdges he
  obtain rfl : j = p := (Reg.mk.inj ((List.mem_singleton.mp hreg).symm.trans hj)).2.symm
  have hsh : LaterShape j ⟨.base g, [⟨.p, j⟩], [], false⟩ := Or.inl ⟨rfl, rfl⟩
  refine ⟨fun hje => ⟨?_, hsh⟩, fun hn => absurd hpe hn, fun _ => hsh⟩
  obtain ⟨h0, rest, hw, _⟩ := (h.photon j hp).1 hje
  rw [hpos, hj, hw]
  exact Nat.succ_pos _

theorem mem_ep {j e p : Nat} (h : (⟨.p, j⟩ : Reg) ∈ [(⟨.e, e⟩ : Reg), ⟨.p, p⟩]) : j = p :=
  mem_addRegs_ep (cr := []) (List.mem_append_left _ h)

theorem BuildSt.step_inv (s s' : BuildSt) (op : BuildOp) (h : BInv s) (hs : s.step op = some s') :
    BInv s' ∧ s'.c.np = s.c.np ∧ s'.c.ne = s.c.ne := by
  cases op with
  | frontGate r gs =>
    obtain ⟨⟨hv, hty, hfree⟩, hs⟩ := Option.ite_none_right_eq_some.mp hs
    cases hs
    rw [decide_eq_true_eq] at hfree
    refine ⟨h.frontInsert ⟨.wrapper gs, [r], [], false⟩ s.emitted (List.pairwise_singleton _ _)
      (fun r' hr' => List.mem_singleton.mp hr' ▸ ⟨hv, hty⟩) (fun r1 r2 hq => nomatch hq) (fun _ hj => hj)
      (fun _ hj hn => absurd hj hn) fun j hj => ?_, insertAt_np _ _ _, insertAt_ne _ _ _⟩
    obtain rfl := List.mem_singleton.mp hj
    exact ⟨hfree rfl, fun _ => Or.inl ⟨rfl, rfl⟩⟩
  | replaceFront r gs =>
    obtain ⟨_, hs⟩ := Option.ite_none_right_eq_some.mp hs
    split at hs
    · split at hs
      · rename_i gs0 r' fx hnode
        obtain ⟨rfl, hs⟩ := Option.ite_none_right_eq_some.mp hs
        cases hs
        exact ⟨h.setNode hnode rfl rfl rfl rfl rfl, rfl, rfl⟩
      · cases hs
    · cases hs
  | removeFront r =>
    obtain ⟨_, hs⟩ := Option.ite_none_right_eq_some.mp hs
    split at hs
    · rename_i n rest hw
      split at hs
      · rename_i gs0 q0 cr0 fx hnode
        cases hs
        exact ⟨h.removeOp n fun j ⟨i, hi⟩ => (by rw [hnode] at hi; cases hi), rfl, rfl⟩
      · cases hs
    · cases hs
  | emitterCnot ctl tgt =>
    obtain ⟨⟨h1, h2, h3⟩, hs⟩ := Option.ite_none_right_eq_some.mp hs
    cases hs
    refine ⟨h.frontInsert ⟨.cnot, [⟨.e, ctl⟩, ⟨.e, tgt⟩], [], false⟩ s.emitted (by simp [h3])
      (forall_mem_pair ⟨validReg_e s.c ctl h1, nofun⟩ ⟨validReg_e s.c tgt h2, nofun⟩) (not_pp_of_e rfl rfl) (fun _ hj => hj)
      (fun _ hj hn => absurd hj hn) fun j hj => ?_, insertAt_np _ _ _, insertAt_ne _ _ _⟩
    rcases mem_pair hj with hj | hj <;> cases hj
  | emission e p =>
    obtain ⟨⟨h1, h2, h3⟩, hs⟩ := Option.ite_none_right_eq_some.mp hs
    cases hs
    refine ⟨h.frontInsert ⟨.cnot, [⟨.e, e⟩, ⟨.p, p⟩], [], true⟩ (p :: s.emitted) (by simp)
      (forall_mem_pair ⟨validReg_e s.c e h1, nofun⟩ ⟨validReg_p s.c p h2, nofun⟩) (not_pp_of_e rfl rfl)
      (fun _ hj => List.mem_cons_of_mem _ hj) (fun j hj hn => ?_) fun j hj => ?_, insertAt_np _ _ _, insertAt_ne _ _ _⟩
    · rcases List.mem_cons.mp hj with rfl | hj
      · exact ⟨e, rfl⟩
      · exact absurd hj hn
    · obtain rfl := mem_ep hj
      exact ⟨h3, fun hn => absurd List.mem_cons_self hn⟩
  | mcr e p =>
    obtain ⟨⟨h1, h2, h3, _⟩, hs⟩ := Option.ite_none_right_eq_some.mp hs
    cases hs
    refine ⟨h.frontInsert ⟨.mcr, [⟨.e, e⟩, ⟨.p, p⟩], [0], true⟩ s.emitted (by simp)
      (forall_mem_pair ⟨validReg_e s.c e h1, nofun⟩ ⟨validReg_p s.c p h2, nofun⟩) (not_pp_of_e rfl rfl) (fun _ hj => hj)
      (fun _ hj hn => absurd hj hn) fun j hj => ?_, insertAt_np _ _ _, insertAt_ne _ _ _⟩
    obtain rfl := mem_ep hj
    exact ⟨h3, fun _ => Or.inr ⟨rfl, e, rfl⟩⟩
  | appendGate p g =>
    obtain ⟨hc, hs⟩ := Option.ite_none_right_eq_some.mp hs
    cases hs
    exact ⟨h.appendGate p g hc.1 hc.2, addCore_np _ _, addCore_ne _ _⟩

theorem BuildSt.run_inv (s s' : BuildSt) (ops : List BuildOp) (h : BInv s) (hs : s.run ops = some s') :
    BInv s' ∧ s'.c.np = s.c.np ∧ s'.c.ne = s.c.ne := by
  refine run_induction (P := fun s1 => BInv s1 ∧ s1.c.np = s.c.np ∧ s1.c.ne = s.c.ne) (fun _ => rfl) (fun _ _ _ => rfl)
    ?_ ops s s' ⟨h, rfl, rfl⟩ hs
  intro s1 op s2 ⟨hi, hnp, hne⟩ h1
  obtain ⟨hi', hnp', hne'⟩ := BuildSt.step_inv s1 s2 op hi h1
  exact ⟨hi', hnp'.trans hnp, hne'.trans hne⟩

/-! ## the reachability search ends on a closed set -/

theorem freshOf_spec (visited l : List V) :
    (freshOf visited l).Nodup ∧ (∀ y, y ∈ freshOf visited l → y ∉ visited ∧ y ∈ l) ∧
    (∀ y, y ∈ l → y ∈ visited ∨ y ∈ freshOf visited l) := by
  induction l generalizing visited with
  | nil => simp [freshOf]
  | cons a l ih =>
    unfold freshOf
    split
    · rename_i ha
      obtain ⟨h1, h2, h3⟩ := ih visited
      refine ⟨h1, fun y hy => ⟨(h2 y hy).1, List.mem_cons_of_mem _ (h2 y hy).2⟩, ?_⟩
      intro y hy
      rcases List.mem_cons.mp hy with rfl | hy
      · exact Or.inl ha
      · exact h3 y hy
    · rename_i ha
      obtain ⟨h1, h2, h3⟩ := ih (visited ++ [a])
      refine ⟨?_, ?_, ?_⟩
      · rw [List.nodup_cons]
        exact ⟨fun h => (h2 a h).1 (by simp), h1⟩
      · intro y hy
        rcases List.mem_cons.mp hy with rfl | hy
        · exact ⟨ha, List.mem_cons_self⟩
        · exact ⟨fun h => (h2 y hy).1 (List.mem_append_left _ h), List.mem_cons_of_mem _ (h2 y hy).2⟩
      · intro y hy
        rcases List.mem_cons.mp hy with rfl | hy
        · exact Or.inr List.mem_cons_self
        · rcases h3 y hy with h | h
          · rcases List.mem_append.mp h with h | h
            · exact Or.inl h
            · simp only [List.mem_singleton] at h; subst h; exact Or.inr List.mem_cons_self
          · exact Or.inr (List.mem_cons_of_mem _ h)

/-- `U` is any `step`-closed list containing `visited`.  `visited` stays duplicate-free inside `U`, so every vertex added to
    it and to the frontier is paid for by `U`'s remaining room: `hfuel` is kept, and the fuel never runs out while the
    frontier is non-empty -/
theorem bfs_closed (step : V → List V) (U : List V) (hU : ∀ x, x ∈ U → ∀ y, y ∈ step x → y ∈ U)
    (fuel : Nat) (visited frontier : List V) (hvU : ∀ x, x ∈ visited → x ∈ U) (hnd : visited.Nodup)
    (hfv : ∀ x, x ∈ frontier → x ∈ visited)
    (hexp : ∀ x, x ∈ visited → x ∉ frontier → ∀ y, y ∈ step x → y ∈ visited)
    (hfuel : U.length + frontier.length ≤ fuel + visited.length) :
    (∀ x, x ∈ visited → x ∈ bfs step fuel visited frontier) ∧
    (∀ x, x ∈ bfs step fuel visited frontier → ∀ y, y ∈ step x → y ∈ bfs step fuel visited frontier) := by
  have hlen : visited.length ≤ U.length := (List.subperm_of_subset hnd hvU).length_le
  induction fuel generalizing visited frontier with
  | zero =>
    have : frontier = [] := by
      cases frontier with
      | nil => rfl
      | cons a l => simp only [List.length_cons] at hfuel; omega
    subst this
    simp only [bfs]
    exact ⟨fun x hx => hx, fun x hx => hexp x hx List.not_mem_nil⟩
  | succ f ih =>
    cases frontier with
    | nil =>
      simp only [bfs]
      exact ⟨fun x hx => hx, fun x hx => hexp x hx List.not_mem_nil⟩
    | cons x frontier =>
      simp only [bfs]
      obtain ⟨hn1, hn2, hn3⟩ := freshOf_spec visited (step x)
      have hxv : x ∈ visited := hfv x List.mem_cons_self
      have hvU' : ∀ z, z ∈ visited ++ freshOf visited (step x) → z ∈ U := by
        intro z hz
        rcases List.mem_append.mp hz with hz | hz
        · exact hvU z hz
        · exact hU x (hvU x hxv) z (hn2 z hz).2
      have hnd' : (visited ++ freshOf visited (step x)).Nodup := by
        rw [List.nodup_append]
        exact ⟨hnd, hn1, fun a ha b hb hab => (hn2 b hb).1 (hab ▸ ha)⟩
      have := ih (visited ++ freshOf visited (step x)) (frontier ++ freshOf visited (step x)) hvU' hnd'
        (by
          intro z hz
          rcases List.mem_append.mp hz with hz | hz
          · exact List.mem_append_left _ (hfv z (List.mem_cons_of_mem _ hz))
          · exact List.mem_append_right _ hz)
        (by
          intro z hz hzf y hy
          rcases List.mem_append.mp hz with hz | hz
          · by_cases hzx : z = x
            · subst hzx
              rcases hn3 y hy with h | h
              · exact List.mem_append_left _ h
              · exact List.mem_append_right _ h
            · have : z ∉ x :: frontier := by
                intro h
                rcases List.mem_cons.mp h with h | h
                · exact hzx h
                · exact hzf (List.mem_append_left _ h)
              exact List.mem_append_left _ (hexp z hz this y hy)
          · exact absurd (List.mem_append_right _ hz) hzf)
        (by simp only [List.length_append, List.length_cons] at hfuel ⊢; omega)
        ((List.subperm_of_subset hnd' hvU').length_le)
      exact ⟨fun z hz => this.1 z (List.mem_append_left _ hz), this.2⟩

/-- every vertex the DAG can have: input and output node of every register, and an op node for every id up to `_node_id` -/
def Circuit.universe (c : Circuit) : List V :=
  c.regs.map V.inp ++ c.regs.map V.out ++ (List.range (c.nid + 1)).map V.op

theorem regs_length (c : Circuit) : c.regs.length = c.ne + c.np + c.nc := by simp [Circuit.regs]; omega

theorem universe_length_le (c : Circuit) : c.universe.length ≤ c.fuel := by
  simp only [Circuit.universe, List.length_append, List.length_map, List.length_range, regs_length, Circuit.fuel]
  omega

theorem mem_universe_of_mem_aug {c : Circuit} (hwf : c.WF) {r : Reg} (hr : c.validReg r = true) {v : V} (h : v ∈ c.aug r) :
    v ∈ c.universe := by
  have hreg : r ∈ c.regs := (mem_regs_iff c r).mpr hr
  rcases mem_aug h with rfl | rfl | ⟨n, hn, rfl⟩
  · simp only [Circuit.universe, List.mem_append, List.mem_map]; exact Or.inl (Or.inl ⟨r, hreg, rfl⟩)
  · simp only [Circuit.universe, List.mem_append, List.mem_map]; exact Or.inl (Or.inr ⟨r, hreg, rfl⟩)
  · have := hwf.wire_le hn
    simp only [Circuit.universe, List.mem_append, List.mem_map, List.mem_range]
    exact Or.inr ⟨n, by omega, rfl⟩

theorem E_universe {c : Circuit} (hwf : c.WF) {x y : V} (h : c.E x y) : x ∈ c.universe ∧ y ∈ c.universe := by
  obtain ⟨r, hr, hadj⟩ := (E_iff c x y).mp h
  exact ⟨mem_universe_of_mem_aug hwf hr (adj_mem hadj).1, mem_universe_of_mem_aug hwf hr (adj_mem hadj).2⟩

theorem search_closed (c : Circuit) (step : V → List V) (hstep : ∀ x y, y ∈ step x → y ∈ c.universe) (v : V) :
    closedUnder step (bfs step c.fuel (freshOf [] (step v)) (freshOf [] (step v))) = true ∧
    ∀ y, y ∈ step v → y ∈ bfs step c.fuel (freshOf [] (step v)) (freshOf [] (step v)) := by
  obtain ⟨hn1, hn2, hn3⟩ := freshOf_spec [] (step v)
  have := bfs_closed step c.universe (fun x _ y hy => hstep x y hy) c.fuel (freshOf [] (step v)) (freshOf [] (step v))
    (fun x hx => hstep v x (hn2 x hx).2) hn1 (fun x hx => hx) (fun x hx hx' => absurd hx hx')
    (by have := universe_length_le c; omega)
  refine ⟨(closedUnder_iff _ _).mpr this.2, fun y hy => this.1 y ?_⟩
  rcases hn3 y hy with h | h
  · cases h
  · exact h

end Graphiq.Wire
