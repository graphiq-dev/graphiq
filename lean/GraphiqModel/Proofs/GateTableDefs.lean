/-
  Proofs/GateTableDefs.lean — the Boolean checks of the gate table (`gateUnitary`, `gateAgreesOn`, `allGateChecks`) on the exact
  matrices of the density-matrix model, over the table entries `gateSMat` / `rowGate` of Proofs/GateMatDefs.lean; stated over
  the model alone, the proofs are in Proofs/GateTable.lean.
-/
import GraphiqModel.Proofs.GateMatDefs
namespace Graphiq.Noise
open DM

/-- signed Hermitian Pauli matrix of a row -/
def pauliSigned (n : Nat) (p : PRow) : Mat := (Mat.smul (if p.r then -1 else 1) (pauliMat n p)).norm

/-- all `2·4^n` signed Hermitian Pauli rows on `n` sites -/
def allRows (n : Nat) : List PRow :=
  (List.range (2 ^ n)).flatMap fun xs => (List.range (2 ^ n)).flatMap fun zs => [false, true].map fun r =>
    PRow.ofArrays (Array.ofFn (n := n) fun j => (xs / 2 ^ j.val) % 2 = 1) (Array.ofFn (n := n) fun j => (zs / 2 ^ j.val) % 2 = 1) r false

/-- `U P U† = P'` where `P'` is the row the tableau gate produces, as exact matrices -/
def gateAgreesOn (n : Nat) (k : Kind) (q1 q2 : Nat) (p : PRow) : Bool :=
  match gateSMat n k q1 q2 with
  | none => false
  | some u => (Mat.smul u.sq (Mat.conjBy u.m (pauliSigned n p))).norm.beq (pauliSigned n (rowGate k q1 q2 p))

/-- the gate is unitary: `U U† = 1` -/
def gateUnitary (n : Nat) (k : Kind) (q1 q2 : Nat) : Bool :=
  match gateSMat n k q1 q2 with
  | none => false
  | some u => (Mat.smul u.sq (Mat.mul u.m u.m.dagger)).norm.beq (Mat.eye (pow2 n))

/-- the signed one-site generators `±X_k`, `±Z_k` -/
def genRows (n : Nat) : List PRow :=
  (List.range n).flatMap fun k => [PRow.Xq k, PRow.Xq k true, PRow.Zq k, PRow.Zq k true]

def oneQ : List Kind := [.h, .s, .sdg, .x, .y, .z]
def twoQ : List Kind := [.cnot, .cz]

def allGateChecks (n : Nat) (rows : List PRow) : Bool :=
  (oneQ.all fun k => (List.range n).all fun q =>
      gateUnitary n k q 0 && rows.all fun p => gateAgreesOn n k q 0 p) &&
  (twoQ.all fun k => (List.range n).all fun c => (List.range n).all fun t =>
      c = t || (gateUnitary n k c t && rows.all fun p => gateAgreesOn n k c t p))

end Graphiq.Noise
