/-
  Proofs/CommuteHilbert.lean — from "same signed stabilizer group" to "same quantum state", in the vocabulary of the C13 chain:
  two tableaux satisfying `TInv` with the same stabilizer group denote the same density matrix (C07's `rho_eq_iff_grp_eq`).
  A module of its own so that the rest of the Commute chain imports neither Proofs/HilbertMeasure.lean nor Mathlib; only
  Properties/C13.lean imports it.
-/
import GraphiqModel.Proofs.CommuteRefine
import GraphiqModel.Proofs.HilbertDimExpect
namespace Graphiq.Commute
open Graphiq PRow Tab TabSpec Hilbert

theorem rho_eq_of_grp_eq {n : Nat} {t1 t2 : Tab} (h1 : TInv n t1) (h2 : TInv n t2) (h : ∀ P, Grp t1 P ↔ Grp t2 P) :
    rho n (STab.ofTab t1) = rho n (STab.ofTab t2) :=
  (rho_eq_iff_grp_eq n t1 t2 h1.n_eq h2.n_eq h1.valid h1.real h2.valid h2.real).2 h

end Graphiq.Commute
