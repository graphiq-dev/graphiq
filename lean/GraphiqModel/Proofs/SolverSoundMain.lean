/-
  Proofs/SolverSoundMain.lean — soundness of the time-reversed solver model: the invariant of Proofs/SolverSoundInv.lean at the end
  of `solve`, combined with the refinement theorem (the tableau run refines the group semantics), and the description of the target
  `graph state ⊗ |0…0⟩` as the tableau `solve` starts from.
-/
import GraphiqModel.Proofs.SolverSteps
import GraphiqModel.Proofs.SolverSoundRefine
import GraphiqModel.Model.Convert
import GraphiqModel.Proofs.Check
namespace Graphiq.Solver
open Graphiq Graphiq.Cliff PRow STab Tab

/-- **soundness of the solver model, any stabilizer target** (`Good` = real, mutually commuting generators): if `solve` returns and its
    final working tableau generates the group of |0…0⟩, then the recorded circuit, run by the tableau semantics from all-|0⟩ under
    EVERY outcome script, succeeds, keeps the tableau valid and ends in exactly the signed group of `target ⊗ |0…0⟩` -/
theorem solve_run (target : STab) (hg : target.Good) (s : St) (h : solve target = .ok s)
    (hfinal : SpanEq s.t (STab.zero (target.n + s.ne))) (script : List Bool) :
    ∃ rs, stabRun s.ne target.n .prob script s.cops = some rs ∧ rs.t.Valid ∧
      SpanEq (STab.ofTab rs.t) (withEmitters target s.ne) := by
  have inv := solve_inv target hg s h
  have hgen : GGen target.n s.ne (withEmitters target s.ne).Spn s.circ (gspan (Tab.ket0 (target.n + s.ne))) := by
    rw [gspan_ket0, ← spanEq_spn _ _ hfinal]; exact inv.gen
  obtain ⟨rs, hrun, hok, hspan⟩ := run_refines target.n s.ne _ s.circ
    { t := Tab.ket0 (target.n + s.ne), writes := [], script := script, rand := [], outs := [] } (tok_ket0 _) hgen
  refine ⟨rs, ?_, hok.valid, ?_⟩
  · unfold stabRun stabRunFrom St.cops
    rw [inv.np_eq, Nat.add_comm s.ne target.n]
    exact hrun
  · have hn := (withEmitters_good target hg s.ne).2
    refine ⟨by show rs.t.n = _; rw [hok.n_eq, hn], fun a ha => ?_, fun a ha => ?_⟩
    · have : gspan rs.t a := ha
      rw [hspan] at this; exact this
    · show gspan rs.t a
      rw [hspan]; exact ha

/-- the same with an executable test on the final working tableau: it generates the group of |0…0⟩ (equal canonical forms) -/
theorem solve_run_zero (target : STab) (hg : target.Good) (s : St) (h : solve target = .ok s)
    (hfinal : s.t.sameGroup (STab.zero (target.n + s.ne)) = true) (script : List Bool) :
    ∃ rs, stabRun s.ne target.n .prob script s.cops = some rs ∧ rs.t.Valid ∧
      SpanEq (STab.ofTab rs.t) (withEmitters target s.ne) :=
  solve_run target hg s h (sameGroup_sound _ _ hfinal) script

/-! ### the target of the property: a graph state on the photons, every emitter in |0⟩ -/

theorem graphSTab_good (n : Nat) (adj : Nat → Nat → Bool) (hsym : ∀ i j, adj i j = adj j i) : (graphSTab n adj).Good := by
  constructor
  · intro i _; rfl
  · intro i k hi hk
    have hi' : i < n := hi
    have hk' : k < n := hk
    show sp n _ _ = false
    by_cases e : i = k
    · rw [e]; exact sp_self _ _
    · unfold sp
      rw [parityTo_two n i k _ hi' hk' e]
      · have e' : ¬ (k = i) := fun h => e h.symm
        simp [graphSTab, e, e', hi', hk', hsym k i]
      · intro j h1 h2
        simp [graphSTab, h1, h2]

/-- row `i` of `target ⊗ |0…0⟩`: the target's row cut to its own columns, or `Z_i` for an emitter -/
def extRow (t : STab) (i : Nat) : PRow := if i < t.n then (t.row i).truncCols t.n else Zq i

/-- `insertQubit` keeps the old rows on the old columns and adds the identity on the new
    column (`insertQubit_row_lt`), and its new row is `Z` on the new column (`insertQubit_row_n`) -/
theorem withEmitters_row (t : STab) (k : Nat) (i : Nat) (hi : i < t.n + k) :
    EqOn (t.n + k) ((withEmitters t k).row i) (extRow t i) := by
  induction k with
  | zero =>
    have hi' : i < t.n := hi
    refine ⟨fun j hj => ?_, ?_, ?_⟩ <;> simp [withEmitters, extRow, hi', PRow.truncCols]
    have hj' : j < t.n := hj
    simp [hj']
  | succ k ih =>
    have hn := withEmitters_n t k
    rw [withEmitters_succ]
    have hi' : i < ((withEmitters t k).insertQubit (withEmitters t k).n).n := by
      show i < (withEmitters t k).n + 1; rw [hn]; omega
    have e1 := norm_row ((withEmitters t k).insertQubit (withEmitters t k).n) i hi'
    have hn1 : ((withEmitters t k).insertQubit (withEmitters t k).n).n = t.n + (k + 1) := by
      show (withEmitters t k).n + 1 = _; rw [hn]; omega
    rw [hn1] at e1
    refine e1.trans ?_
    rw [hn]
    by_cases hlt : i < t.n + k
    · have ih' := ih hlt
      have hrow := insertQubit_row_lt (withEmitters t k) i (by rw [hn]; exact hlt)
      rw [hn] at hrow
      rw [hrow]
      refine ⟨fun j hj => ?_, ih'.2.1, ih'.2.2⟩
      by_cases hj1 : j < t.n + k
      · simp only [PRow.insertCol, hj1, if_true]; exact ih'.1 j hj1
      · have hj2 : j = t.n + k := by omega
        subst hj2
        simp only [PRow.insertCol, Nat.lt_irrefl, if_false, if_true]
        unfold extRow
        split
        · next hit =>
          have : ¬ (t.n + k < t.n) := by omega
          simp [PRow.truncCols, this]
        · have : ¬ (t.n + k = i) := by omega
          simp [Zq, this]
    · have hieq : i = t.n + k := by omega
      subst hieq
      have hrow := insertQubit_row_n (withEmitters t k)
      rw [hn] at hrow
      rw [hrow]
      have : ¬ (t.n + k < t.n) := by omega
      simp only [extRow, this, if_false]
      exact EqOn.refl _ _

/-- `solve`'s starting tableau for a graph target is, row by row, the property's target `|G⟩ ⊗ |0…0⟩` -/
theorem withEmitters_target_rows (np ne : Nat) (adj : Nat → Nat → Bool) (i : Nat) (hi : i < np + ne) :
    EqOn (np + ne) ((withEmitters (graphSTab np adj) ne).row i) ((targetSTab np ne adj).row i) := by
  refine (withEmitters_row (graphSTab np adj) ne i hi).trans ?_
  have hn : (graphSTab np adj).n = np := rfl
  unfold extRow targetSTab
  rw [hn]
  by_cases h : i < np
  · simp only [h, if_true]
    refine ⟨fun j hj => ?_, rfl, rfl⟩
    simp only [PRow.truncCols, graphSTab]
    constructor
    · by_cases e : j = i
      · subst e; simp [h]
      · simp [e]
    · cases hjn : decide (j < np) <;> simp
  · simp only [h, if_false]
    exact EqOn.refl _ _

theorem withEmitters_graph (np ne : Nat) (adj : Nat → Nat → Bool) :
    SpanEq (withEmitters (graphSTab np adj) ne) (targetSTab np ne adj) := by
  have hn : (withEmitters (graphSTab np adj) ne).n = np + ne := withEmitters_n (graphSTab np adj) ne
  have rows := withEmitters_target_rows np ne adj
  apply spanEq_of_gens _ _ (by rw [hn]; rfl)
  · intro i hi
    have hi' : i < np + ne := hi
    exact InSpan.eqv _ _ (spn_gen _ i (by rw [hn]; exact hi')) (by rw [hn]; exact rows i hi')
  · intro i hi
    have hi' : i < np + ne := hn ▸ hi
    exact InSpan.eqv _ _ (spn_gen (targetSTab np ne adj) i hi') (rows i hi').symm

/-- **Time-reversed measurement, tableau form (both outcomes).**  Let `t` be a real commuting generating set on
    `np + ne` qubits whose group contains `+Z` on emitter `e`.  From ANY valid Clifford tableau whose stabilizer group is that of
    `CNOT(e→p)·H_e·t`, with ANY remaining outcome script, the compiled `MeasurementCNOTandReset(e→p)` (Z-measurement of the emitter,
    X on the photon iff the outcome is 1, reset of the emitter) succeeds, keeps the tableau valid, and ends in exactly the signed
    group of `t` again. -/
theorem mcr_tab_key (np ne e p : Nat) (he : e < ne) (hp : p < np) (t : STab) (hn : t.n = np + ne) (hgood : t.Good)
    (hZ : t.Spn (Zq (np + e) false)) (rs : RunState) (hok : TOk (np + ne) rs.t)
    (hrs : gspan rs.t = img (np + ne) (fun a => PRow.cnot (np + e) p (PRow.h (np + e) a)) t.Spn) :
    ∃ rs', stepOp np (np + ne) .prob rs (.mcr ⟨.e, e⟩ ⟨.p, p⟩ 0) = some rs' ∧ TOk (np + ne) rs'.t ∧ gspan rs'.t = t.Spn := by
  have hcl : Closed (np + ne) t.Spn := hn ▸ spn_closed t
  have hx := spn_xfree t hgood (np + e) (by rw [hn]; omega) false hZ
  obtain ⟨k1, k2⟩ := mcr_key (np + ne) (np + e) p (by omega) (by omega) (by omega) t.Spn hcl hx hZ
  obtain ⟨rs', o, h1, h2, h3⟩ := stepOp_refines np ne (.mcr e p) rs hok ⟨⟨he, hp⟩, by rw [hrs]; exact k1⟩
  refine ⟨rs', h1, h2, ?_⟩
  rw [h3, hrs]
  exact k2 o

end Graphiq.Solver
