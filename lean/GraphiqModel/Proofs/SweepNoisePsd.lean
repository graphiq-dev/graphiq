/-
  Proofs/SweepNoisePsd.lean — a cross-property corollary of the bridge identity `Sweep.rep_iff_toC`: the density matrix
  the exact model of the noisy `DensityMatrixCompiler` returns (C06) passes the exact rational positivity test of C17
  (`DM.isPsd`, whose correctness `isPsd_rep_iff` is stated through `Hilbert.Rep`), and is Hermitian for the model's
  own test.  C06 proves positivity through `MixDM.toC`; the two embeddings coincide.
-/
import GraphiqModel.Proofs.SweepBridge
import GraphiqModel.Proofs.MixtureDMPhysMeas
import GraphiqModel.Proofs.C17BridgePsd
namespace Graphiq.Sweep
open Graphiq

open scoped ComplexOrder in
/-- **the compiled noisy density matrix passes the exact positivity test** -/
theorem compileDM_isPsd (ns : Bool) (ne np nc : Nat) (det : Bool) (ops : List Noise.COp)
    (hw : ∀ op ∈ ops, MixDM.OpOK (ne + np) np op) (hl : ∀ op ∈ ops, MixDM.ParamPhys op.n0 ∧ MixDM.ParamPhys op.n1)
    (d : Noise.DmSt) (ρ : Mat) (h : Noise.compileDM ns ne np nc det ops = .ok d) (hρ : d.ρ = some ρ) :
    DM.isPsd ρ = true ∧ Hilbert.Rep (ne + np) ρ (MixDM.toC (ne + np) ρ) := by
  obtain ⟨_, _, ρ', hρ', _, hn, _⟩ := MixDM.compileDM_toC ns ne np nc det ops hw d h
  rw [hρ] at hρ'
  injection hρ' with hρ'
  subst hρ'
  have hrep := MixDM.rep_toC hn
  exact ⟨C17B.isPsd_of_rep hrep (MixDM.compileDM_psd ns ne np nc det ops hw hl d ρ h hρ), hrep⟩

end Graphiq.Sweep
