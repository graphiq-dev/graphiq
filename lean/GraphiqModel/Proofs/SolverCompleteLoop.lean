/-
  Proofs/SolverCompleteLoop.lean — completeness of the time-reversed solver: the loop invariant of
  `for j in range(n_photon, 0, -1)` and the proof that every round returns and re-establishes it (Li–Economou–Barnes).

  `RInv I np ne m s` (before the round that absorbs photon `m - 1`; `I` is the set of isolated photons, see below): the working tableau is a real, commuting, independent generating
  set on `np + ne` qubits; the photons `m..np-1` are absorbed (their columns are literal: one generator is `+Z_q`, nobody else acts
  on `q`); no remaining photon `p < m` is a product qubit; and the emitter budget bounds the height of every cut left of the photon
  to be absorbed (`h(k) ≤ ne` for `k + 1 < m`; these cuts are never touched again, so this is inherited from `ne = max h(target)`).
  The invariant carries a set `I` of ISOLATED photons (product qubits `X_p`, column `LitX`): with `I` empty every round returns
  (`photonLoop_ok`); if some remaining photon is isolated the loop raises IndexError at the first one it meets (`photonLoop_err`, D3).
-/
import GraphiqModel.Proofs.SolverCompleteAbsorb
import GraphiqModel.Proofs.SolverCompleteCount
namespace Graphiq.Solver
open Graphiq Graphiq.Cliff PRow STab

/-! ### counting generators by leading site -/

def cnt (n : Nat) (f : Nat → Bool) : Nat := ((List.range n).filter f).length

theorem cnt_eq_countP (n : Nat) (f : Nat → Bool) : cnt n f = (List.range n).countP f := List.countP_eq_length_filter.symm

theorem cnt_succ (n : Nat) (f : Nat → Bool) : cnt (n + 1) f = cnt n f + (if f n then 1 else 0) := by
  rw [cnt_eq_countP, cnt_eq_countP, List.range_succ, List.countP_append, List.countP_singleton]

theorem cnt_pos_iff (n : Nat) (f : Nat → Bool) : 0 < cnt n f ↔ ∃ i, i < n ∧ f i = true := by
  rw [cnt_eq_countP, List.countP_pos_iff]
  exact exists_congr fun i => and_congr_left fun _ => List.mem_range

theorem cnt_true (n : Nat) : cnt n (fun _ => true) = n := by
  rw [cnt_eq_countP, List.countP_true, List.length_range]

theorem cnt_congr (n : Nat) (f g : Nat → Bool) (h : ∀ i, i < n → f i = g i) : cnt n f = cnt n g := by
  rw [cnt_eq_countP, cnt_eq_countP]
  exact List.countP_congr fun i hi => by rw [h i (List.mem_range.mp hi)]

theorem cnt_split (n : Nat) (P Q R : Nat → Bool) (h : ∀ i, i < n → P i = (Q i || R i))
    (hx : ∀ i, i < n → ¬ (Q i = true ∧ R i = true)) : cnt n P = cnt n Q + cnt n R := by
  induction n with
  | zero => rfl
  | succ k ih =>
    rw [cnt_succ, cnt_succ, cnt_succ, ih (fun i hi => h i (by omega)) (fun i hi => hx i (by omega))]
    have h2 := hx k (Nat.lt_succ_self k)
    rw [h k (Nat.lt_succ_self k)]
    cases hq : Q k <;> cases hr : R k
    exacts [rfl, rfl, Nat.add_right_comm _ _ 1, absurd ⟨hq, hr⟩ h2]

theorem cnt_le_one (n : Nat) (f : Nat → Bool) (h : ∀ i j, i < n → j < n → f i = true → f j = true → i = j) : cnt n f ≤ 1 := by
  induction n with
  | zero => exact Nat.zero_le 1
  | succ k ih =>
    rw [cnt_succ]
    have ih' := ih (fun i j hi hj => h i j (by omega) (by omega))
    split
    · next hf =>
      -- an earlier index with `f` would be `k` itself
      have : ¬ 0 < cnt k f := fun hpos => by
        obtain ⟨i, hi, hfi⟩ := (cnt_pos_iff k f).1 hpos
        have := h i k (by omega) (by omega) hfi hf
        omega
      omega
    · exact ih'

/-- the invariant of the solver's main loop before the round that absorbs photon `m - 1` (described in the header; `I` = the isolated
    photons).  Not `STab.RInv` (SolverCompleteInvLoc), the invariant of blocks 2 to 7 of `inverse_circuit`: SolverCompleteMain sees both. -/
structure RInv (I : Nat → Prop) (np ne m : Nat) (s : St) : Prop where
  m_le : m ≤ np
  np_eq : s.np = np
  ne_eq : s.ne = ne
  n_eq : s.t.n = np + ne
  good : s.t.Good
  indep : s.t.LinIndep
  lit : ∀ q, m ≤ q → q < np → s.t.Lit q
  notProd : ∀ p, p < m → ¬ I p → s.t.NotProd p
  litx : ∀ p, p < m → I p → s.t.LitX p
  cut : ∀ k, k + 1 < m → s.t.cutRank k ≤ ne + (k + 1)

/-- **the invariant along a run of the solver on photon `p` and the emitters**: everything is kept except what concerns `p` itself —
    it holds for the next round once `p` is absorbed, and again for this round as long as `p` is not a product qubit -/
theorem RInv.steps {I : Nat → Prop} {np ne p : Nat} {s s' : St} {fx : List SOp} (h : RInv I np ne (p + 1) s) (hp : p < np)
    (st : Steps (fun c => c = p ∨ s.np ≤ c) s fx s') :
    Reach (fun c => c = p ∨ np ≤ c) s.t s'.t ∧ (s'.t.Lit p → RInv I np ne p s') ∧
    (¬ I p → s'.t.NotProd p → RInv I np ne (p + 1) s') := by
  have hr := st.reach (by rw [h.n_eq, h.np_eq, h.ne_eq])
  rw [h.np_eq] at hr
  obtain ⟨f1, f2, _⟩ := st.fixed
  have hA : ∀ q, q ≠ p → q < np → ¬ (q = p ∨ np ≤ q) := fun q h1 h2 hA => hA.elim h1 (Nat.not_le_of_lt h2)
  have hlt : ∀ q, q < np → q < s.t.n := fun q hq => h.n_eq ▸ Nat.lt_of_lt_of_le hq (Nat.le_add_right np ne)
  have lit : ∀ q, p + 1 ≤ q → q < np → s'.t.Lit q := fun q hq1 hq2 =>
    hr.lit q (hlt q hq2) (hA q (Nat.ne_of_gt hq1) hq2) (h.lit q hq1 hq2)
  have notProd : ∀ p', p' < p → ¬ I p' → s'.t.NotProd p' := fun p' hp' hI =>
    hr.notProd h.good p' (hlt p' (Nat.lt_trans hp' hp)) (hA p' (Nat.ne_of_lt hp') (Nat.lt_trans hp' hp))
      (h.notProd p' (Nat.lt_succ_of_lt hp') hI)
  have litx : ∀ p', p' < p → I p' → s'.t.LitX p' := fun p' hp' hI =>
    hr.litX p' (hlt p' (Nat.lt_trans hp' hp)) (hA p' (Nat.ne_of_lt hp') (Nat.lt_trans hp' hp)) (h.litx p' (Nat.lt_succ_of_lt hp') hI)
  have cut : ∀ k, k + 1 < p + 1 → s'.t.cutRank k ≤ ne + (k + 1) := fun k hk => by
    have hkp : k < p := Nat.lt_of_succ_lt_succ hk
    rw [hr.cutRank_eq h.good k (fun c hA => hA.elim (fun e => e ▸ hkp) (fun e => Nat.lt_of_lt_of_le (Nat.lt_trans hkp hp) e))]
    exact h.cut k hk
  refine ⟨hr, fun hl => ?_, fun hI hnp => ?_⟩
  · refine ⟨Nat.le_of_lt hp, f1.trans h.np_eq, f2.trans h.ne_eq, hr.n_eq.trans h.n_eq, hr.good h.good, hr.indep h.good h.indep, ?_,
      notProd, litx, fun k hk => cut k (Nat.lt_succ_of_lt hk)⟩
    intro q hq1 hq2
    by_cases hqp : q = p
    · rw [hqp]; exact hl
    · exact lit q (Nat.lt_of_le_of_ne hq1 (Ne.symm hqp)) hq2
  · refine ⟨hp, f1.trans h.np_eq, f2.trans h.ne_eq, hr.n_eq.trans h.n_eq, hr.good h.good, hr.indep h.good h.indep, lit,
      ?_, ?_, cut⟩
    · intro p' hp' hI'
      by_cases e' : p' = p
      · rw [e']; exact hnp
      · exact notProd p' (Nat.lt_of_le_of_ne (Nat.le_of_lt_succ hp') e') hI'
    · intro p' hp' hI'
      by_cases e' : p' = p
      · rw [e'] at hI'; exact absurd hI' hI
      · exact litx p' (Nat.lt_of_le_of_ne (Nat.le_of_lt_succ hp') e') hI'

/-! ### consequences of the echelon gauge under the invariant -/

theorem piv_unique (t : STab) (piv : Nat → Nat) (he : Echelon t piv) (q : Nat) (hl : t.Lit q) (i k : Nat) (hi : i < t.n)
    (hk : k < t.n) (hpi : piv i = q) (hpk : piv k = q) : i = k := by
  obtain ⟨w, _, _, hoth⟩ := hl
  have hiw : i = w := by
    apply Classical.byContradiction
    intro hne
    have := (he.lead i hi).2.2
    rw [hpi] at this
    exact this (hoth i hi hne)
  have hkw : k = w := by
    apply Classical.byContradiction
    intro hne
    have := (he.lead k hk).2.2
    rw [hpk] at this
    exact this (hoth k hk hne)
  rw [hiw, hkw]

theorem lit_lead_unique (t : STab) (piv : Nat → Nat) (he : Echelon t piv) (q : Nat) (hl : t.Lit q) :
    cnt t.n (fun i => decide (piv i = q)) ≤ 1 := by
  apply cnt_le_one
  intro i j hi hj hfi hfj
  simp only [decide_eq_true_eq] at hfi hfj
  exact piv_unique t piv he q hl i j hi hj hfi hfj

theorem count_step (t : STab) (piv : Nat → Nat) (k : Nat) :
    cnt t.n (fun i => decide (k < piv i)) = cnt t.n (fun i => decide (k + 1 < piv i)) + cnt t.n (fun i => decide (piv i = k + 1)) := by
  apply cnt_split
  · intro i _
    rw [← Bool.decide_or]
    exact decide_eq_decide.mpr (by omega)
  · intro i _ ⟨h1, h2⟩
    have := of_decide_eq_true h1
    have := of_decide_eq_true h2
    omega

/-- **a free emitter exists** (Li–Economou–Barnes): in the echelon gauge, if the height at the photon `p` to be absorbed is below the
    emitter budget (`h(p) < ne`) and the photons right of `p` are absorbed, some generator acts on no photon at all -/
theorem free_emitter_exists (np ne p : Nat) (t : STab) (piv : Nat → Nat) (he : Echelon t piv) (hn : t.n = np + ne) (hp : p < np)
    (hlit : ∀ q, p + 1 ≤ q → q < np → t.Lit q) (hl : List Int) (hh : t.heightFuncList = .ok hl)
    (hcond : hl.getD p 0 < (ne : Int)) : ∃ i, i < t.n ∧ ∀ j, j < np → t.ptype i j = 0 := by
  have hstep : ∀ d, p + d < np → cnt t.n (fun i => decide (p < piv i)) ≤ cnt t.n (fun i => decide (p + d < piv i)) + d := by
    intro d
    induction d with
    | zero => exact fun _ => Nat.le_refl _
    | succ d ih =>
      intro hd
      have h1 := ih (Nat.lt_of_succ_lt hd)
      have h2 := count_step t piv (p + d)
      have h3 := lit_lead_unique t piv he (p + d + 1) (hlit (p + d + 1) (Nat.succ_le_succ (Nat.le_add_right p d)) hd)
      show _ ≤ cnt t.n (fun i => decide (p + d + 1 < piv i)) + (d + 1)
      omega
  have h1 := hstep (np - 1 - p) (by omega)
  have e : p + (np - 1 - p) = np - 1 := by omega
  rw [e] at h1
  have h2 : ((cnt t.n (fun i => decide (p < piv i)) : Nat) : Int) = (t.n : Int) - ((p : Int) + 1) - hl.getD p 0 :=
    echelon_count_right t piv he hl hh p (hn ▸ Nat.lt_of_lt_of_le hp (Nat.le_add_right np ne))
  have hpos : 0 < cnt t.n (fun i => decide (np - 1 < piv i)) := by omega
  obtain ⟨i, hi, hfi⟩ := (cnt_pos_iff _ _).1 hpos
  exact ⟨i, hi, fun j hj => (he.lead i hi).2.1 j (Nat.lt_of_le_of_lt (Nat.le_pred_of_lt hj) (of_decide_eq_true hfi))⟩

/-- in the echelon gauge the number of generators leading at `p` is `1 + h(p) - h(p-1)` (`h(-1) = 0`): the generators leading
    right of `p - 1` are those leading right of `p` and those leading at `p`, and each count is read off the height function -/
theorem lead_count (t : STab) (piv : Nat → Nat) (he : Echelon t piv) (hl : List Int) (hh : t.heightFuncList = .ok hl)
    (p : Nat) (hp : p < t.n) :
    ((cnt t.n (fun i => decide (piv i = p)) : Nat) : Int) = 1 + (0 :: hl).getD (p + 1) 0 - (0 :: hl).getD p 0 := by
  have hC : ∀ k, k < t.n → ((cnt t.n (fun i => decide (k < piv i)) : Nat) : Int) = (t.n : Int) - ((k : Int) + 1) - hl.getD k 0 :=
    fun k hk => echelon_count_right t piv he hl hh k hk
  have e1 : (0 :: hl).getD (p + 1) 0 = hl.getD p 0 := rfl
  rw [e1]
  cases p with
  | zero =>
    have e0 : (0 :: hl).getD 0 0 = 0 := rfl
    rw [e0]
    have hsplit : cnt t.n (fun _ => true) = cnt t.n (fun i => decide (0 < piv i)) + cnt t.n (fun i => decide (piv i = 0)) := by
      apply cnt_split
      · intro i _
        rw [← Bool.decide_or]
        exact (decide_eq_true (by omega)).symm
      · intro i _ ⟨h1, h2⟩
        have := of_decide_eq_true h1
        have := of_decide_eq_true h2
        omega
    rw [cnt_true] at hsplit
    have := hC 0 hp
    omega
  | succ p' =>
    have e2 : (0 :: hl).getD (p' + 1) 0 = hl.getD p' 0 := rfl
    rw [e2]
    have h1 := count_step t piv p'
    have h2 := hC p' (by omega)
    have h3 := hC (p' + 1) hp
    omega

/-- **a generator starts at the photon** when the height does not drop there (`h(p) ≥ h(p-1)`, the branch of `solve` without
    time-reversed measurement) -/
theorem row_at_exists (t : STab) (piv : Nat → Nat) (he : Echelon t piv) (hl : List Int) (hh : t.heightFuncList = .ok hl)
    (p : Nat) (hp : p < t.n) (hcond : ¬ ((0 :: hl).getD (p + 1) 0 < (0 :: hl).getD p 0)) : ∃ i, i < t.n ∧ piv i = p := by
  have hc := lead_count t piv he hl hh p hp
  obtain ⟨i, hi, hfi⟩ := (cnt_pos_iff t.n (fun i => decide (piv i = p))).1 (by omega)
  exact ⟨i, hi, of_decide_eq_true hfi⟩

theorem RInv.cops {I : Nat → Prop} {np ne m : Nat} {s : St} (h : RInv I np ne m s) (t' : STab) (o : COps s.t t') :
    RInv I np ne m { s with t := t' } := by
  have hr : Reach (fun _ => False) s.t t' := Reach.of_cops o
  have hlt : ∀ q, q < np → q < s.t.n := fun q hq => h.n_eq ▸ Nat.lt_of_lt_of_le hq (Nat.le_add_right np ne)
  refine ⟨h.m_le, h.np_eq, h.ne_eq, hr.n_eq.trans h.n_eq, hr.good h.good, hr.indep h.good h.indep, ?_, ?_, ?_, ?_⟩
  · intro q hq1 hq2
    exact hr.lit q (hlt q hq2) (fun f => f) (h.lit q hq1 hq2)
  · intro p hp hI
    exact hr.notProd h.good p (hlt p (Nat.lt_of_lt_of_le hp h.m_le)) (fun f => f) (h.notProd p hp hI)
  · intro p hp hI
    exact hr.litX p (hlt p (Nat.lt_of_lt_of_le hp h.m_le)) (fun f => f) (h.litx p hp hI)
  · intro k hk
    rw [hr.cutRank_eq h.good k (fun c f => f.elim)]
    exact h.cut k hk

/-- the hypotheses of `addPhotonAbsorption_ok` under the invariant: a generator starting at photon `p` is trivial on the absorbed
    photons (their columns are literal) and acts on some emitter (otherwise it would be supported on `{p}` alone: a product qubit) -/
theorem absorb_hyps (np p : Nat) (t : STab)
    (hlit : ∀ q, p + 1 ≤ q → q < np → t.Lit q) (hnp : t.NotProd p) :
    (∀ i, i < t.n → t.leftmost i = some p → ∃ c, np ≤ c ∧ c < t.n ∧ t.ptype i c ≠ 0) ∧
    (∀ i, i < t.n → t.leftmost i = some p → ∀ j, p < j → j < np → t.ptype i j = 0) := by
  have hxq : ∀ i, i < t.n → t.leftmost i = some p → ∀ j, p < j → j < np → t.ptype i j = 0 := by
    intro i hi hlm j hj1 hj2
    obtain ⟨w, hw, hrow, hoth⟩ := hlit j (by omega) hj2
    by_cases hiw : i = w
    · exfalso
      obtain ⟨hpn, _, hnt⟩ := leftmost_some t i p hlm
      apply hnt
      rw [hiw, ptype_of_Zq t w j p hpn hrow, if_neg (by omega)]
    · exact hoth i hi hiw
  refine ⟨?_, hxq⟩
  intro i hi hlm
  apply Classical.byContradiction
  intro hno
  obtain ⟨hpn, hlow, hnt⟩ := leftmost_some t i p hlm
  have hz : ∀ j, j < t.n → j ≠ p → t.ptype i j = 0 := by
    intro j hj hjp
    by_cases h1 : j < p
    · exact hlow j h1
    · by_cases h2 : j < np
      · exact hxq i hi hlm j (by omega) h2
      · apply Classical.byContradiction
        intro h3
        exact hno ⟨j, by omega, hj, h3⟩
  have := hnp (t.row i) (spn_gen t i hi) (fun j hj hjp => PRow.pt_zero_bits _ _ (hz j hj hjp))
  exact hnt (PRow.pt_of_bits _ _ this.1 this.2)

/-- **the absorption step of a round**: in the echelon gauge with a generator starting at photon `p`, `_add_photon_absorption` returns
    and the invariant holds for the next round -/
theorem absorb_round (I : Nat → Prop) (np ne p : Nat) (hp : p < np) (hI : ¬ I p) (s : St) (h : RInv I np ne (p + 1) s)
    (piv : Nat → Nat) (he : Echelon s.t piv)
    (hrow : ∃ i, i < s.t.n ∧ piv i = p) :
    ∃ s', addPhotonAbsorption s p = .ok s' ∧ RInv I np ne p s' ∧ Reach (fun c => c = p ∨ np ≤ c) s.t s'.t ∧
      mcrCount s'.circ = mcrCount s.circ := by
  have hn : s.t.n = s.np + s.ne := by rw [h.n_eq, h.np_eq, h.ne_eq]
  obtain ⟨h1, h2⟩ := absorb_hyps np p s.t h.lit (h.notProd p (Nat.lt_succ_self p) hI)
  obtain ⟨i, hi, hpi⟩ := hrow
  have hlm : s.t.leftmost i = some p := by
    have hl := he.lead i hi
    rw [← hpi]; exact leftmost_of_lead s.t i (piv i) hl.1 hl.2.1 hl.2.2
  have hps : p < s.np := by rw [h.np_eq]; exact hp
  obtain ⟨s', hs', hlit⟩ := addPhotonAbsorption_ok s p hn hps h.good ⟨i, hi, hlm⟩
    (by rw [h.np_eq]; exact h1) (by rw [h.np_eq]; exact h2)
  obtain ⟨_, st⟩ := addPhotonAbsorption_steps s s' p hn hps hs'
  obtain ⟨hr, hnext, _⟩ := h.steps hp st
  exact ⟨s', hs', hnext hlit, hr, addPhotonAbsorption_mcr s s' p hn hps hs'⟩

/-- the height function drops at photon `p` (`h(p) < h(p-1)`, `h(-1) = 0`), read off the cut ranks — a property of the group only -/
def dropAt (t : STab) (p : Nat) : Prop :=
  (t.cutRank p : Int) - ((p : Int) + 1) < (if p = 0 then 0 else (t.cutRank (p - 1) : Int) - (p : Int))

/-- the test `height_list[j] < height_list[j - 1]` of `solve` (with `j = p + 1`) is `dropAt` -/
theorem cond_iff_dropAt (t : STab) (hl : List Int) (hh : t.heightFuncList = .ok hl) (p : Nat) (hp : p < t.n) :
    ((0 :: hl).getD (p + 1) 0 < (0 :: hl).getD p 0) ↔ dropAt t p := by
  have e1 : (0 :: hl).getD (p + 1) 0 = hl.getD p 0 := rfl
  rw [e1, height_eq_cutRank t hl hh p hp]
  unfold dropAt
  cases p with
  | zero => exact Iff.rfl
  | succ p' =>
    have e2 : (0 :: hl).getD (p' + 1) 0 = hl.getD p' 0 := rfl
    rw [e2, height_eq_cutRank t hl hh p' (by omega), if_neg (Nat.succ_ne_zero p'), Nat.add_sub_cancel]
    omega

theorem dropAt_congr (t t' : STab) (p : Nat) (h1 : t'.cutRank p = t.cutRank p) (h2 : p ≠ 0 → t'.cutRank (p - 1) = t.cutRank (p - 1)) :
    dropAt t' p ↔ dropAt t p := by
  unfold dropAt
  rw [h1]
  by_cases hp : p = 0
  · simp [hp]
  · rw [h2 hp]

theorem dropAt_lt (t : STab) (ne p : Nat) (hcut : ∀ k, k + 1 = p → t.cutRank k ≤ ne + (k + 1)) (h : dropAt t p) :
    (t.cutRank p : Int) - ((p : Int) + 1) < (ne : Int) := by
  unfold dropAt at h
  cases p with
  | zero =>
    rw [if_pos rfl] at h
    omega
  | succ p' =>
    have hc := hcut p' rfl
    rw [if_neg (Nat.succ_ne_zero p'), Nat.add_sub_cancel] at h
    omega

/-- **the measurement half of a round**: in the echelon gauge, when the height at photon `p` is below the emitter budget, a free
    emitter exists, `_time_reversed_measurement` returns with one measure-and-reset recorded, the invariant still holds, and after
    the next `rref` some generator starts at `p` (the image `X_E X_p` of the emitter's `Z` forces it) -/
theorem measure_round (I : Nat → Prop) (np ne p : Nat) (hp : p < np) (hI : ¬ I p) (s : St) (h : RInv I np ne (p + 1) s)
    (piv : Nat → Nat) (he : Echelon s.t piv) (hl : List Int) (hh : s.t.heightFuncList = .ok hl) (hlp : hl.getD p 0 < (ne : Int)) :
    ∃ s2 t2 b2 piv2, timeReversedMeasurement s p = .ok s2 ∧ s2.t.rref = .ok (t2, b2) ∧
      RInv I np ne (p + 1) { s2 with t := t2 } ∧ Echelon t2 piv2 ∧ (∃ i, i < t2.n ∧ piv2 i = p) ∧
      Reach (fun c => c = p ∨ np ≤ c) s.t t2 ∧ mcrCount s2.circ = mcrCount s.circ + 1 := by
  have hfree := free_emitter_exists np ne p s.t piv he h.n_eq hp h.lit hl hh hlp
  have hnz : ∀ i, i < s.t.n → ∃ j, j < s.t.n ∧ s.t.ptype i j ≠ 0 := fun i hi => ⟨piv i, (he.lead i hi).1, (he.lead i hi).2.2⟩
  have hns : s.t.n = s.np + s.ne := by rw [h.n_eq, h.np_eq, h.ne_eq]
  obtain ⟨s2, htrm⟩ := timeReversedMeasurement_ok s p hns (by rw [h.np_eq]; exact hfree) hnz
  obtain ⟨e, t3, hene, v3, hZ, ht2⟩ := timeReversedMeasurement_tab s s2 p hns h.good htrm
  rw [h.np_eq] at v3 hZ ht2
  rw [h.ne_eq] at hene
  have hn3 : t3.n = np + ne := v3.n_eq.trans h.n_eq
  have hpe : p < np + e := Nat.lt_of_lt_of_le hp (Nat.le_add_right np e)
  have hE : np + e < t3.n := by rw [hn3]; exact Nat.add_lt_add_left hene np
  have hpn3 : p < t3.n := Nat.lt_trans hpe hE
  -- photon `p` is still not a product qubit, so the invariant holds again
  obtain ⟨_, st⟩ := timeReversedMeasurement_steps s s2 p hns (h.np_eq ▸ hp) htrm
  obtain ⟨hreach, _, hagain⟩ := h.steps hp st
  have i2 : RInv I np ne (p + 1) s2 := hagain hI (by
    rw [ht2]
    exact trm_notProd t3 (np + e) p hE hpn3 (Nat.ne_of_gt hpe) (v3.good h.good) hZ
      (v3.notProd p (v3.n_eq ▸ hpn3) (Nat.not_le_of_lt hp) (h.notProd p (Nat.lt_succ_self p) hI)))
  -- echelon gauge again
  obtain ⟨t2, brs2, piv2, hr2, he2⟩ := rref_ok_of_indep s2.t i2.indep
  have o2 := rref_cops s2.t t2 brs2 hr2
  have i3 := i2.cops t2 o2
  obtain ⟨a, ha, halow, hant⟩ := trm_xx t3 (np + e) p hE hpn3 hpe hZ
  rw [← ht2] at ha
  have ha2 : t2.Spn a := (o2.spanEq i2.good).1.sub a ha
  exact ⟨s2, t2, brs2, piv2, htrm, hr2, i3, he2, echelon_row_at t2 piv2 he2 p (by rw [i3.n_eq]; exact Nat.lt_of_lt_of_le hp (Nat.le_add_right np ne)) a ha2 halow hant,
    hreach.trans (Reach.of_cops o2), timeReversedMeasurement_mcr s s2 p hns htrm⟩

/-- **every round of the main loop returns and re-establishes the invariant**; it touches only the photon and the emitters, and records
    one measure-and-reset exactly when the height function drops at the photon -/
theorem round_ok (I : Nat → Prop) (np ne p : Nat) (hp : p < np) (hI : ¬ I p) (s : St) (h : RInv I np ne (p + 1) s) :
    ∃ s', photonRound s (p + 1) = .ok s' ∧ RInv I np ne p s' ∧ Reach (fun c => c = p ∨ np ≤ c) s.t s'.t ∧
      (dropAt s.t p → mcrCount s'.circ = mcrCount s.circ + 1) ∧ (¬ dropAt s.t p → mcrCount s'.circ = mcrCount s.circ) := by
  -- echelon gauge
  obtain ⟨t1, brs, piv, hr, he⟩ := rref_ok_of_indep s.t h.indep
  have o1 := rref_cops s.t t1 brs hr
  have i1 := h.cops t1 o1
  obtain ⟨hl, hh, _⟩ := heightFuncList_ok_of_indep t1 i1.indep
  have hp1 : p < t1.n := i1.n_eq ▸ Nat.lt_of_lt_of_le hp (Nat.le_add_right np ne)
  have hdrop : ((0 :: hl).getD (p + 1) 0 < (0 :: hl).getD p 0) ↔ dropAt s.t p := by
    rw [cond_iff_dropAt t1 hl hh p hp1]
    have se := (o1.spanEq h.good).1
    exact dropAt_congr s.t t1 p (cutRank_spanEq _ _ se p) (fun _ => cutRank_spanEq _ _ se (p - 1))
  by_cases hcond : (0 :: hl).getD (p + 1) 0 < (0 :: hl).getD p 0
  · -- the height drops at the photon, so it is below the emitter budget
    have hlp : hl.getD p 0 < (ne : Int) := by
      rw [height_eq_cutRank t1 hl hh p hp1]
      exact dropAt_lt t1 ne p (fun k hk => i1.cut k (hk ▸ Nat.lt_succ_self (k + 1))) ((cond_iff_dropAt t1 hl hh p hp1).1 hcond)
    obtain ⟨s2, t2, b2, piv2, htrm, hr2, i3, he2, hrow, hreach, hm2⟩ :=
      measure_round I np ne p hp hI { s with t := t1 } i1 piv he hl hh hlp
    obtain ⟨s', a1, a2, a3, a4⟩ := absorb_round I np ne p hp hI _ i3 piv2 he2 hrow
    refine ⟨s', (photonRound_ok_iff s s' (p + 1)).2 ⟨t1, brs, hl, _, hr, hh, Or.inr ⟨hcond, s2, t2, b2, htrm, hr2, rfl⟩, a1⟩, a2,
      ((Reach.of_cops o1).trans hreach).trans a3, fun _ => ?_, fun hnd => absurd (hdrop.1 hcond) hnd⟩
    have : mcrCount s'.circ = mcrCount s2.circ := a4
    rw [this, hm2]
  · have hrow := row_at_exists t1 piv he hl hh p hp1 hcond
    obtain ⟨s', a1, a2, a3, a4⟩ := absorb_round I np ne p hp hI _ i1 piv he hrow
    exact ⟨s', (photonRound_ok_iff s s' (p + 1)).2 ⟨t1, brs, hl, _, hr, hh, Or.inl ⟨hcond, rfl⟩, a1⟩, a2, (Reach.of_cops o1).trans a3,
      fun hd => absurd (hdrop.2 hd) hcond, fun _ => a4⟩

/-- **resource count of the main loop**: it records one measure-and-reset for each photon at which the height function of the tableau
    the loop started from drops (`d` is any Boolean reading of `dropAt t0`).  The cuts left of the current photon are never touched, so
    the test of round `p` sees the cut ranks of `t0`. -/
theorem photonLoop_count (I : Nat → Prop) (np ne : Nat) (t0 : STab) (hg0 : t0.Good) (m : Nat) (hI : ∀ p, p < m → ¬ I p) (s : St)
    (h : RInv I np ne m s) (hr : Reach (fun c => m ≤ c) t0 s.t) (d : Nat → Bool) (hd : ∀ p, p < m → (d p = true ↔ dropAt t0 p)) :
    ∃ s', photonLoop s ((List.range m).reverse.map (· + 1)) = .ok s' ∧ RInv I np ne 0 s' ∧
      mcrCount s'.circ = mcrCount s.circ + cnt m d := by
  induction m generalizing s with
  | zero => exact ⟨s, rfl, h, by simp [cnt]⟩
  | succ p ih =>
    have hp : p < np := h.m_le
    obtain ⟨s1, h1, i1, r1, c1, c2⟩ := round_ok I np ne p hp (hI p (Nat.lt_succ_self p)) s h
    have hdrop : dropAt s.t p ↔ dropAt t0 p :=
      dropAt_congr t0 s.t p (hr.cutRank_eq hg0 p (fun c hc => hc))
        (fun hp0 => hr.cutRank_eq hg0 (p - 1) (fun c hc => Nat.lt_of_lt_of_le (Nat.sub_lt (Nat.pos_of_ne_zero hp0) Nat.one_pos) (Nat.le_of_succ_le hc)))
    have hr1 : Reach (fun c => p ≤ c) t0 s1.t :=
      (hr.mono (fun c hc => Nat.le_of_succ_le hc)).trans (r1.mono (fun c hc => hc.elim (fun e => e ▸ Nat.le_refl p) (Nat.le_trans (Nat.le_of_lt hp))))
    obtain ⟨s', h2, i2, c3⟩ := ih (fun p' hp' => hI p' (Nat.lt_succ_of_lt hp')) s1 i1 hr1 (fun p' hp' => hd p' (Nat.lt_succ_of_lt hp'))
    refine ⟨s', ?_, i2, ?_⟩
    · rw [photonLoop_succ, h1]
      exact h2
    · rw [c3, cnt_succ]
      cases hdp : d p
      · have : ¬ dropAt s.t p := fun hh => by
          have := (hd p (Nat.lt_succ_self p)).2 (hdrop.1 hh)
          rw [hdp] at this; cases this
        rw [c2 this]; rfl
      · have : dropAt s.t p := hdrop.2 ((hd p (Nat.lt_succ_self p)).1 hdp)
        rw [c1 this]; exact Nat.add_right_comm _ 1 _

theorem photonLoop_ok (I : Nat → Prop) (np ne : Nat) (m : Nat) (hI : ∀ p, p < m → ¬ I p) (s : St) (h : RInv I np ne m s) :
    ∃ s', photonLoop s ((List.range m).reverse.map (· + 1)) = .ok s' ∧ RInv I np ne 0 s' := by
  obtain ⟨s', h1, h2, _⟩ := photonLoop_count I np ne s.t h.good m hI s h Reach.refl
    (fun p => @decide (dropAt s.t p) (Classical.propDecidable _)) (fun p _ => by simp)
  exact ⟨s', h1, h2⟩

/-! ### an isolated photon: the round raises IndexError (finding D3 as a theorem about the model) -/

/-- if a generator leads at `p`, the height does not drop at `p`: the branch without time-reversed measurement is taken -/
theorem no_drop_of_row (t : STab) (piv : Nat → Nat) (he : Echelon t piv) (hl : List Int) (hh : t.heightFuncList = .ok hl)
    (p : Nat) (hp : p < t.n) (hex : ∃ i, i < t.n ∧ piv i = p) : ¬ ((0 :: hl).getD (p + 1) 0 < (0 :: hl).getD p 0) := by
  obtain ⟨i, hi, hpi⟩ := hex
  have hpos : 0 < cnt t.n (fun i => decide (piv i = p)) := (cnt_pos_iff _ _).2 ⟨i, hi, decide_eq_true hpi⟩
  have hc := lead_count t piv he hl hh p hp
  omega

/-- `_add_photon_absorption` on an isolated photon (`X_p` alone in its column): the chosen generator acts on no emitter,
    `emitter_indices[0]` raises IndexError -/
theorem absorb_err (s : St) (p : Nat) (hn : s.t.n = s.np + s.ne) (hp : p < s.np) (hx : s.t.LitX p) :
    addPhotonAbsorption s p = .error .index := by
  obtain ⟨w, hw, hrow, hoth⟩ := hx
  have hpn : p < s.t.n := hn ▸ Nat.lt_of_lt_of_le hp (Nat.le_add_right _ _)
  have hptw : ∀ j, j < s.t.n → s.t.ptype w j = if j = p then 1 else 0 := fun j hj => ptype_of_Xq s.t w p j hj hrow
  have hlmw : s.t.leftmost w = some p := by
    apply leftmost_of_lead s.t w p hpn
    · intro j hj; rw [hptw j (Nat.lt_trans hj hpn), if_neg (Nat.ne_of_lt hj)]
    · rw [hptw p hpn, if_pos rfl]; decide
  obtain ⟨g, hsel, hgn, hlm⟩ := absorb_select s.t p ⟨w, hw, hlmw⟩
  have hgw : g = w := Classical.byContradiction fun hne => (leftmost_some s.t g p hlm).2.2 (hoth g hgn hne)
  subst hgw
  obtain ⟨s1, h1, _, hnp1, hne1, _, _, c7⟩ := absorbStart s g p hgn hpn
  -- the generator `X_p` acts on no emitter, before and after its Pauli on the photon is turned
  have hem : emitterIndices s1 g = [] := by
    rw [emitterIndices_congr s s1 g hnp1 hne1 (fun e he => c7 _ (by omega) (by omega))]
    unfold emitterIndices
    rw [List.filter_eq_nil_iff]
    intro e he
    have hj : s.np + e < s.t.n := hn ▸ Nat.add_lt_add_left (List.mem_range.mp he) s.np
    rw [(hrow _ hj).1, (hrow _ hj).2]
    simp [Xq, Nat.ne_of_gt (Nat.lt_of_lt_of_le hp (Nat.le_add_right s.np e))]
  unfold addPhotonAbsorption
  rw [hsel]
  simp only [h1, hem]

theorem round_err (I : Nat → Prop) (np ne p : Nat) (hp : p < np) (hI : I p) (s : St) (h : RInv I np ne (p + 1) s) :
    photonRound s (p + 1) = .error .index := by
  obtain ⟨t1, brs, piv, hr, he⟩ := rref_ok_of_indep s.t h.indep
  have i1 := h.cops t1 (rref_cops s.t t1 brs hr)
  obtain ⟨hl, hh, _⟩ := heightFuncList_ok_of_indep t1 i1.indep
  have hp1 : p < t1.n := i1.n_eq ▸ Nat.lt_of_lt_of_le hp (Nat.le_add_right np ne)
  have hx : t1.LitX p := i1.litx p (Nat.lt_succ_self p) hI
  have hexrow : ∃ i, i < t1.n ∧ piv i = p := by
    obtain ⟨w, hw, hrow, _⟩ := hx
    refine ⟨w, hw, ?_⟩
    have hl := he.lead w hw
    have := ptype_of_Xq t1 w p (piv w) hl.1 hrow
    by_cases e : piv w = p
    · exact e
    · rw [if_neg e] at this; exact absurd this hl.2.2
  have hcond := no_drop_of_row t1 piv he hl hh p hp1 hexrow
  unfold photonRound
  rw [hr]; simp only
  rw [hh]; simp only [Nat.add_sub_cancel]
  rw [if_neg hcond]
  simp only
  exact absorb_err { s with t := t1 } p (by show t1.n = s.np + s.ne; rw [h.np_eq, h.ne_eq]; exact i1.n_eq)
    (by show p < s.np; rw [h.np_eq]; exact hp) hx

theorem photonLoop_err (I : Nat → Prop) (np ne : Nat) (m : Nat) (hex : ∃ p, p < m ∧ I p) (s : St) (h : RInv I np ne m s) :
    photonLoop s ((List.range m).reverse.map (· + 1)) = .error .index := by
  induction m generalizing s with
  | zero => obtain ⟨p, hp, _⟩ := hex; omega
  | succ p ih =>
    have hp : p < np := h.m_le
    rw [photonLoop_succ]
    by_cases hI : I p
    · rw [round_err I np ne p hp hI s h]
    · obtain ⟨s1, h1, i1, _⟩ := round_ok I np ne p hp hI s h
      rw [h1]
      simp only
      apply ih _ s1 i1
      obtain ⟨q, hq, hIq⟩ := hex
      have : q ≠ p := fun e => hI (e ▸ hIq)
      exact ⟨q, by omega, hIq⟩

end Graphiq.Solver
