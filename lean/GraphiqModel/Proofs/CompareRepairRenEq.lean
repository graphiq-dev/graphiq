/-
  Proofs/CompareRepairRenEq.lean — the conclusion of `isoVia_sound` in the vocabulary of the original full statement of C15
  (`renEq`: the executable "some renaming of the registers within each type makes the two circuits the same, quantum wire
  by quantum wire", the notion the harness evaluates by brute force): `RenamedBy π c1 c2 → renEq c1 c2 = true`.
-/
import GraphiqModel.Proofs.CompareRepairSound
namespace Graphiq.Compare
open Graphiq Graphiq.Export

/-! ## `perms` lists every permutation -/

theorem mem_insertions (x : Nat) (a b : List Nat) : a ++ x :: b ∈ insertions x (a ++ b) := by
  induction a with
  | nil =>
    cases b with
    | nil => simp [insertions]
    | cons y ys => simp [insertions]
  | cons y a' ih =>
    simp only [List.cons_append, insertions, List.mem_cons, List.mem_map]
    right
    exact ⟨_, ih, rfl⟩

theorem mem_perms_of_perm : ∀ (l l' : List Nat), l'.Perm l → l' ∈ perms l := by
  intro l
  induction l with
  | nil =>
    intro l' h
    rw [List.perm_nil.1 h]
    simp [perms]
  | cons x xs ih =>
    intro l' h
    have hx : x ∈ l' := h.mem_iff.2 (by simp)
    obtain ⟨a, b, rfl⟩ := List.append_of_mem hx
    have h2 : (x :: (a ++ b)).Perm (x :: xs) := (List.perm_middle.symm).trans h
    have h3 : (a ++ b).Perm xs := List.Perm.cons_inv h2
    simp only [perms, List.mem_flatMap]
    exact ⟨a ++ b, ih _ h3, mem_insertions x a b⟩

/-! ## the renaming lists of a register map -/

def permOf (π : Wire → Wire) (t : RT) (n : Nat) : List Nat := (List.range n).map fun i => (π ⟨t, i⟩).i

theorem permOf_getD (π : Wire → Wire) (t : RT) (n i : Nat) (hi : i < n) : (permOf π t n).getD i i = (π ⟨t, i⟩).i := by
  unfold permOf
  rw [List.getD_eq_getElem?_getD, List.getElem?_map, List.getElem?_range hi]
  rfl

theorem permOf_perm (π : Wire → Wire) (t : RT) (n : Nat) (hinto : ∀ i, i < n → (π ⟨t, i⟩).i < n)
    (hinj : ∀ i, i < n → ∀ j, j < n → (π ⟨t, i⟩).i = (π ⟨t, j⟩).i → i = j) : (permOf π t n).Perm (List.range n) := by
  have hnd : (permOf π t n).Nodup := by
    unfold permOf
    apply List.Nodup.map_on _ List.nodup_range
    intro i hi j hj h
    exact hinj i (List.mem_range.1 hi) j (List.mem_range.1 hj) h
  have hsub : permOf π t n ⊆ List.range n := by
    intro k hk
    unfold permOf at hk
    obtain ⟨i, hi, rfl⟩ := List.mem_map.1 hk
    exact List.mem_range.2 (hinto i (List.mem_range.1 hi))
  exact (List.subperm_of_subset hnd hsub).perm_of_length_le (by simp [permOf])

def renamingOf (π : Wire → Wire) (ne np : Nat) : Renaming := ⟨permOf π .e ne, permOf π .p np, []⟩

theorem renamingOf_q (π : Wire → Wire) (ne np : Nat) (q : QReg) (hq : q.i < (match q.t with | .e => ne | .p => np)) :
    (renamingOf π ne np).q q = renQ π q := by
  cases q with | mk t i =>
  cases t with
  | e =>
    simp only at hq
    show (⟨.e, (permOf π .e ne).getD i i⟩ : QReg) = _
    rw [permOf_getD π .e ne i hq]; rfl
  | p =>
    simp only at hq
    show (⟨.p, (permOf π .p np).getD i i⟩ : QReg) = _
    rw [permOf_getD π .p np i hq]; rfl

theorem dropC_renamingOf (π : Wire → Wire) (ne np : Nat) (o : Op)
    (hq : ∀ q ∈ o.qRegs, q.i < (match q.t with | .e => ne | .p => np)) :
    dropC ((renamingOf π ne np).op o) = dropC (renOp π o) := by
  cases o with
  | one g q => simp only [Renaming.op, renOp, dropC]; rw [renamingOf_q π ne np q (hq q (by simp [Op.qRegs]))]
  | wrap gs q => simp only [Renaming.op, renOp, dropC]; rw [renamingOf_q π ne np q (hq q (by simp [Op.qRegs]))]
  | ctrl g a b =>
    simp only [Renaming.op, renOp, dropC]
    rw [renamingOf_q π ne np a (hq a (by simp [Op.qRegs])), renamingOf_q π ne np b (hq b (by simp [Op.qRegs]))]
  | cctrl g a b m =>
    simp only [Renaming.op, renOp, dropC]
    rw [renamingOf_q π ne np a (hq a (by simp [Op.qRegs])), renamingOf_q π ne np b (hq b (by simp [Op.qRegs]))]
  | meas q m => simp only [Renaming.op, renOp, dropC]; rw [renamingOf_q π ne np q (hq q (by simp [Op.qRegs]))]

theorem RenamedBy.permOf_mem {π : Wire → Wire} {c1 c2 : Circuit} (h : RenamedBy π c1 c2) (t : RT) (n : Nat)
    (hn : ∀ i, (⟨t, i⟩ : Wire) ∈ wiresN c1.ne c1.np c1.nc ↔ i < n) : permOf π t n ∈ perms (List.range n) := by
  apply mem_perms_of_perm
  apply permOf_perm
  · intro i hi
    obtain ⟨a, b⟩ := h.into _ ((hn i).2 hi)
    cases hπ : π ⟨t, i⟩ with | mk t' j =>
    rw [hπ] at a b
    simp only at b
    subst b
    exact (hn j).1 a
  · intro i hi j hj hij
    have hwi := (hn i).2 hi
    have hwj := (hn j).2 hj
    have : π ⟨t, i⟩ = π ⟨t, j⟩ := by
      have ti := (h.into _ hwi).2
      have tj := (h.into _ hwj).2
      cases hπi : π ⟨t, i⟩ with | mk t1 i1 =>
      cases hπj : π ⟨t, j⟩ with | mk t2 i2 =>
      rw [hπi] at ti hij; rw [hπj] at tj hij
      simp only at ti tj hij
      rw [ti, tj, hij]
    have := h.inj _ hwi _ hwj this
    injection this

/-- **the original reference notion holds**: a register-by-register renaming makes the executable `renEq` true -/
theorem RenamedBy.renEq {π : Wire → Wire} {c1 c2 : Circuit} (h : RenamedBy π c1 c2)
    (h1 : ∀ o ∈ c1.ops, OpOK (wiresN c1.ne c1.np c1.nc) o) (h2 : ∀ o ∈ c2.ops, OpOK (wiresN c2.ne c2.np c2.nc) o) :
    renEq c1 c2 = true := by
  have hf := h.flat
  have hok1 := flat_opOK _ _ h1
  have hok2 := flat_opOK _ _ h2
  unfold Compare.renEq
  simp only [Bool.and_eq_true, beq_iff_eq, List.any_eq_true]
  refine ⟨⟨h.ne, h.np⟩, renamingOf π c1.ne c1.np, ?_, ?_⟩
  · -- the renaming is one of the enumerated ones
    have he := h.permOf_mem .e c1.ne (fun i => mem_wiresN _ _ _ ⟨.e, i⟩)
    have hp := h.permOf_mem .p c1.np (fun i => mem_wiresN _ _ _ ⟨.p, i⟩)
    unfold renamings
    simp only [List.mem_flatMap, List.mem_map]
    exact ⟨_, he, _, hp, [], by simp [perms], rfl⟩
  · unfold renEqBy
    simp only [List.all_eq_true, beq_iff_eq]
    intro q _
    have hvalid : ∀ o ∈ Export.flat c1.ops, ∀ q' ∈ o.qRegs, q'.i < (match q'.t with | .e => c1.ne | .p => c1.np) := by
      intro o ho q' hq'
      have := (mem_wiresN _ _ _ _).1 ((hok1 o ho).1 (Wire.ofQ q') (by unfold opWires; exact List.mem_append_left _ (List.mem_map_of_mem hq')))
      cases q' with | mk t i => cases t <;> exact this
    have e1 : (Export.flat c1.ops).map (fun o => dropC ((renamingOf π c1.ne c1.np).op o))
        = ((Export.flat c1.ops).map (renOp π)).map dropC := by
      rw [List.map_map]
      apply List.map_congr_left
      intro o ho
      exact dropC_renamingOf π c1.ne c1.np o (hvalid o ho)
    rw [e1]
    have e2 := filter_map_dropC ((Export.flat c1.ops).map (renOp π)) q
    have e3 := hf.wires_q hok1 hok2 q
    show List.filter (onReg q) _ = _
    rw [e2]
    unfold wireOf
    congr 1

theorem flat_flat (l : List Op) : Export.flat (Export.flat l) = Export.flat l := by
  have h1 : (Export.flat l).flatMap Op.unwrap = Export.flat l := flatMap_unwrap_of_no_wrap _ (flat_no_wrap l)
  have h2 : Export.flat (Export.flat l) = ((Export.flat l).flatMap Op.unwrap).filter (fun o => !o.isIdentity) := rfl
  rw [h2, h1, List.filter_eq_self]
  intro o ho
  unfold Export.flat at ho
  exact (List.mem_filter.1 ho).2

theorem renEq_flatC (c1 c2 : Circuit) : Compare.renEq (flatC c1) (flatC c2) = Compare.renEq c1 c2 := by
  unfold Compare.renEq renEqBy wireOf flatC
  simp only [flat_flat]
  rfl

/-- **no renaming, no isomorphism**: on well-formed circuits the repaired comparison answers (it never raises), and where the
    reference notion `renEq` finds no renaming of what it sees it answers "not isomorphic" -/
theorem isoVia_rejects {ν : MG → MG} {F : List Op → List Op} (v : View ν F) (c1 c2 : Circuit)
    (h1 : ∀ o ∈ c1.ops, OpOK (wiresN c1.ne c1.np c1.nc) o) (h2 : ∀ o ∈ c2.ops, OpOK (wiresN c2.ne c2.np c2.nc) o)
    (h : Compare.renEq (mapOps F c1) (mapOps F c2) = false) : isoVia ν c1 c2 = .ok false := by
  obtain ⟨g1, g2, _, _, e, _⟩ := v.on_built c1 c2 h1 h2
  cases hi : isoGraphs2 g1 g2 with
  | false => rw [e, hi]
  | true =>
    obtain ⟨π, hπ⟩ := isoVia_sound v c1 c2 h1 h2 (by rw [e, hi])
    rw [hπ.renEq (v.ok h1) (v.ok h2)] at h; cases h

theorem rejects_of_not_renEq (c1 c2 : Circuit) (h1 : ∀ o ∈ c1.ops, OpOK (wiresN c1.ne c1.np c1.nc) o)
    (h2 : ∀ o ∈ c2.ops, OpOK (wiresN c2.ne c2.np c2.nc) o) (h : Compare.renEq c1 c2 = false) :
    circuitIsIsomorphic2 c1 c2 = .ok false ∧ isoNormalised2 c1 c2 = .ok false :=
  ⟨isoVia_rejects .plain c1 c2 h1 h2 h, isoVia_rejects .normalised c1 c2 h1 h2 ((renEq_flatC c1 c2).trans h)⟩

end Graphiq.Compare
