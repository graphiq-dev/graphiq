/-
  Proofs/SolverCompleteReach.lean — completeness of the time-reversed solver: one relation for everything a round of the
  solver does to its working tableau — gates on a set `A` of columns (the photon being absorbed and the emitters) and witnessed row
  operations (`rref`, the clearing products of the photon absorption) — and the facts it preserves:
  sizes, `Good`, independence of the generators, literal columns outside `A`, "qubit `p` is not a product qubit" for `p` outside
  `A`, and the rank of every cut `{0..k}` left of `A` (so the heights `h(k)` of the untouched photons never change: the emitter
  budget `ne = max h` of the target keeps bounding them).  Every run of the solver moves its tableau this way (`Steps.reach`).
-/
import GraphiqModel.Proofs.SolverCompleteGates
import GraphiqModel.Proofs.SolverCompleteOps
import GraphiqModel.Proofs.SolverCompleteLin
namespace Graphiq
open PRow
namespace STab

/-- `t` is reached from `t0` by gates on columns satisfying `A` and witnessed row operations -/
inductive Reach (A : Nat → Prop) (t0 : STab) : STab → Prop
  | refl : Reach A t0 t0
  | gate {t : STab} (G : Gate) : Reach A t0 t → G.WF t.n → (∀ c, c ∈ G.cols → A c) → Reach A t0 ((t.applyGate G).norm)
  | ops {t t' : STab} : Reach A t0 t → COps t t' → Reach A t0 t'

namespace Reach
variable {A : Nat → Prop} {t0 t : STab}

theorem n_eq (h : Reach A t0 t) : t.n = t0.n := by
  induction h with
  | refl => rfl
  | gate G _ _ _ ih => exact ih
  | ops _ o ih => exact o.n_eq.trans ih

theorem trans {t2 : STab} (h1 : Reach A t0 t) (h2 : Reach A t t2) : Reach A t0 t2 := by
  induction h2 with
  | refl => exact h1
  | gate G _ hG hA ih => exact Reach.gate G ih hG hA
  | ops _ o ih => exact Reach.ops ih o

theorem mono {B : Nat → Prop} (hAB : ∀ c, A c → B c) (h : Reach A t0 t) : Reach B t0 t := by
  induction h with
  | refl => exact Reach.refl
  | gate G _ hG hA ih => exact Reach.gate G ih hG (fun c hc => hAB c (hA c hc))
  | ops _ o ih => exact Reach.ops ih o

theorem of_gvia (h : GVia A t0 t) : Reach A t0 t := by
  induction h with
  | refl => exact Reach.refl
  | gate G _ hG hA ih => exact Reach.gate G ih hG hA

theorem of_cops (h : COps t0 t) : Reach A t0 t := Reach.ops Reach.refl h

theorem good (h : Reach A t0 t) (hg : t0.Good) : t.Good := by
  induction h with
  | refl => exact hg
  | gate G _ hG _ ih => exact gateNorm_good _ G hG ih
  | ops _ o ih => exact (o.spanEq ih).2

theorem indep (h : Reach A t0 t) (hg : t0.Good) (hi : t0.LinIndep) : t.LinIndep := by
  induction h with
  | refl => exact hi
  | gate G _ hG _ ih => exact indep_gate _ G hG ih
  | ops h1 o ih => exact indep_of_spanEq _ _ (o.spanEq (h1.good hg)).1 ih

theorem solo {P : PRow → Prop} {q : Nat} (h : Reach A t0 t) (hP : SoloPred t0.n q P) (hq : q < t0.n) (hA : ¬ A q)
    (hl : ∃ i, SoloAt P t0.n t0.row q i) : ∃ i, SoloAt P t0.n t.row q i := by
  induction h with
  | refl => exact hl
  | gate G h1 hG hc ih => exact solo_gateNorm h1.n_eq hP G (h1.n_eq ▸ hG) hq (fun hm => hA (hc q hm)) ih
  | ops h1 o ih =>
    have := o.solo (h1.n_eq.symm ▸ hP) (h1.n_eq.symm ▸ hq) (h1.n_eq.symm ▸ ih)
    rw [h1.n_eq] at this
    exact this

theorem lit (h : Reach A t0 t) (q : Nat) (hq : q < t0.n) (hA : ¬ A q) (hl : t0.Lit q) : t.Lit q := by
  have := h.solo (soloPred_Z t0.n q) hq hA ((lit_iff_solo t0 q).1 hl)
  rw [← h.n_eq] at this
  exact (lit_iff_solo t q).2 this

theorem litX (h : Reach A t0 t) (q : Nat) (hq : q < t0.n) (hA : ¬ A q) (hl : t0.LitX q) : t.LitX q := by
  have := h.solo (soloPred_X t0.n q) hq hA ((litX_iff_solo t0 q).1 hl)
  rw [← h.n_eq] at this
  exact (litX_iff_solo t q).2 this

theorem notProd (h : Reach A t0 t) (hg : t0.Good) (p : Nat) (hp : p < t0.n) (hA : ¬ A p) (hnp : t0.NotProd p) :
    t.NotProd p := by
  induction h with
  | refl => exact hnp
  | @gate t G h1 hG hc ih => exact gateNorm_notProd t G hG p (h1.n_eq ▸ hp) (fun hm => hA (hc p hm)) ih
  | ops h1 o ih => exact notProd_spanEq _ _ (o.spanEq (h1.good hg)).1 p ih

theorem cutRank_eq (h : Reach A t0 t) (hg : t0.Good) (k : Nat) (hA : ∀ c, A c → k < c) : t.cutRank k = t0.cutRank k := by
  induction h with
  | refl => rfl
  | @gate t G h1 hG hc ih => rw [cutRank_gate t G hG k (fun c hcm => hA c (hc c hcm))]; exact ih
  | ops h1 o ih => rw [cutRank_spanEq _ _ (o.spanEq (h1.good hg)).1 k]; exact ih

end Reach
end STab

namespace Solver
open STab

theorem Steps.reach {A : Nat → Prop} {s s' : St} {fx : List SOp} (h : Steps A s fx s') (hn : s.t.n = s.np + s.ne) :
    Reach A s.t s'.t := by
  induction h with
  | refl => exact Reach.refl
  | tab t' _ o ih => exact Reach.ops ih o
  | @quiet a a' fx h q ih =>
    exact ih.trans (Reach.of_gvia (q.via (h.fixed.size hn)))
  | @emit a fx e p h he hp hA hE ih =>
    refine Reach.gate _ ih ?_ (fun c hc => ?_)
    · show a.np + e < a.t.n ∧ p < a.t.n ∧ a.np + e ≠ p
      rw [h.fixed.size hn]; omega
    · simp only [Gate.cols, List.mem_cons, List.not_mem_nil, or_false] at hc
      rcases hc with e' | e' <;> rw [e'] <;> assumption
  | @mcr a fx e p h he hp hA hE _ ih =>
    have hlt : a.np + e < a.t.n ∧ p < a.t.n := by rw [h.fixed.size hn]; omega
    refine Reach.gate _ (Reach.gate _ ih hlt.1 (fun c hc => ?_)) ⟨hlt.1, hlt.2, by omega⟩ (fun c hc => ?_)
    · simp only [Gate.cols, List.mem_singleton] at hc; rw [hc]; exact hE
    · simp only [Gate.cols, List.mem_cons, List.not_mem_nil, or_false] at hc
      rcases hc with e' | e' <;> rw [e'] <;> assumption

end Solver
end Graphiq
