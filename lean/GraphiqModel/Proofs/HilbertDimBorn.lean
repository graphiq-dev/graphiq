/-
  Proofs/HilbertDimBorn.lean — the Born rule along every history.

  The stabilizer simulator draws the outcome of a Z-measurement uniformly when the measurement is random (a stabilizer row has an
  X on the qubit) and reports the forced value otherwise; the probability it thereby assigns to a whole outcome script is
  `2^{-#random measurements}`.  `dProbOps` is the Born probability of the same script: the product, over all measurements performed
  along the history (explicit measurements, resets, qubit removals, the removals inside partial traces), of `tr(Π ρ)` for the
  outcome that occurs, each evaluated on the density matrix reached so far.  The two agree.

  It is proved with the other readings of a step: `Tracks` holds of every primitive of the API and is closed under composition,
  hence of `partial_trace`, of every accepted call (`op_tracked`) and of every accepted history (`history_tracked`).
-/
import GraphiqModel.Proofs.HilbertDimHistory
namespace Graphiq
namespace Hilbert
open Matrix PRow TabSpec Tab

/-- Born probability `tr(Π ρ)` of the outcome that occurs in a Z-measurement of qubit `q` with forced / drawn outcome `o` -/
noncomputable def measProb (n q : Nat) (o : Bool) (ρ : Matrix (Bits n) (Bits n) ℂ) : ℂ :=
  Matrix.trace (proj n (Zq q (measOutcome n q o ρ)) * ρ)

open Classical in
noncomputable def dProbPtraceGo : List Nat → List Bool → DState → ℂ
  | [], _, _ => 1
  | q :: rest, os, s =>
    measProb s.n q (os.headD false) s.ρ *
      dProbPtraceGo rest (if dRandom q s then os.tail else os) (dRemove q (os.headD false) s)

noncomputable def dProbOp : Tab.Op → DState → ℂ
  | .meas q o, s => measProb s.n q o s.ρ
  | .resetZ q _ o, s => measProb s.n q o s.ρ
  | .resetX q _ o, s => measProb s.n q o s.ρ
  | .resetY q _ o, s => measProb s.n q o s.ρ
  | .remove q o, s => measProb s.n q o s.ρ
  | .ptrace keep os, s => dProbPtraceGo (removalList s.n keep) os s
  | _, _ => 1

noncomputable def dProbOps : List Tab.Op → DState → ℂ
  | [], _ => 1
  | op :: rest, s => dProbOp op s * dProbOps rest (dOp op s)

/-! ### the simulator's side: counting the random measurements -/

def randBit (t : Tab) (q : Nat) : Nat := if (t.pivot q).isSome then 1 else 0

/-- number of random measurements inside `partial_trace` (follows `partialTrace.go`) -/
def randPtraceGo : Tab → List Nat → List Bool → Nat
  | _, [], _ => 0
  | t, q :: rest, os =>
    randBit t q +
      match t.removeQubit? q (os.headD false) with
      | .ok t' => randPtraceGo t'.norm rest (if (t.pivot q).isSome then os.tail else os)
      | .error _ => 0

def randOp (t : Tab) : Tab.Op → Nat
  | .meas q _ => randBit t q
  | .resetZ q _ _ => randBit t q
  | .resetX q _ _ => randBit t q
  | .resetY q _ _ => randBit t q
  | .remove q _ => randBit t q
  | .ptrace keep os => randPtraceGo t (removalList t.n keep) os
  | _ => 0

def randOps : Tab → List Tab.Op → Nat
  | _, [] => 0
  | t, op :: rest =>
    randOp t op +
      match t.applyOp op with
      | .ok (t', _) => randOps t' rest
      | .error _ => 0

/-- **Born rule for one measurement**: the outcome that occurs has probability `½` when the measurement is random and `1`
    when it is deterministic -/
theorem measProb_tab (t : Tab) (q : Nat) (o : Bool) (hq : q < t.n) (hv : t.Valid) (hr : t.StabReal) :
    measProb t.n q o (rho t.n (STab.ofTab t)) = (1 / 2 : ℂ) ^ randBit t q := by
  unfold measProb randBit
  cases hp : t.pivot q with
  | some p =>
    obtain ⟨h1, h2, h3⟩ := pivot_spec t q p hp
    have ho := (meas_density t q o hq hv hr).1
    have e := zMeasure_random_eq t q p o hp
    rw [ho, e, ← trace_proj_sandwich t.n (Zq q o) rfl, measRandom_prob t hv hr q p o hq h1 h2 h3]
    simp
  | none =>
    have ho := (meas_density t q o hq hv hr).1
    have e := zMeasure_det_eq t q o hp
    obtain ⟨d1, _, _⟩ := measDet_state t hv hr q hq hp
    rw [ho, e, proj_mul_of_fixed t.n _ _ d1, rho_ofTab_trace t hv]
    simp

/-! ### one step of the tableau, all readings at once -/

/-- the step `t ↦ t'` of the tableau acts on the group as `G`, on the density matrix as `D`, and the outcomes it used have Born
    probability `p = 2^{-r}` (`r` random measurements) -/
structure Tracks (t t' : Tab) (G : GState → GState) (D : DState → DState) (p : DState → ℂ) (r : Nat) : Prop where
  valid : t'.Valid
  real : t'.StabReal
  grp : gstate t' = G (gstate t)
  dens : dstate t' = D (dstate t)
  born : p (dstate t) = (1 / 2 : ℂ) ^ r

namespace Tracks

theorem refl (t : Tab) (hv : t.Valid) (hr : t.StabReal) : Tracks t t id id (fun _ => 1) 0 :=
  ⟨hv, hr, rfl, rfl, (pow_zero _).symm⟩

theorem comp {t t1 t2 : Tab} {G1 G2 : GState → GState} {D1 D2 : DState → DState} {p1 p2 : DState → ℂ} {r1 r2 : Nat}
    (h1 : Tracks t t1 G1 D1 p1 r1) (h2 : Tracks t1 t2 G2 D2 p2 r2) :
    Tracks t t2 (fun s => G2 (G1 s)) (fun s => D2 (D1 s)) (fun s => p1 s * p2 (D1 s)) (r1 + r2) :=
  ⟨h2.valid, h2.real, by rw [h2.grp, h1.grp], by rw [h2.dens, h1.dens], by rw [h1.born, ← h1.dens, h2.born, pow_add]⟩

theorem andThen {t t1 t2 : Tab} {G1 G2 : GState → GState} {D1 D2 : DState → DState} {p1 : DState → ℂ} {r1 : Nat}
    (h1 : Tracks t t1 G1 D1 p1 r1) (h2 : Tracks t1 t2 G2 D2 (fun _ => 1) 0) :
    Tracks t t2 (fun s => G2 (G1 s)) (fun s => D2 (D1 s)) p1 r1 :=
  ⟨h2.valid, h2.real, by rw [h2.grp, h1.grp], by rw [h2.dens, h1.dens], h1.born⟩

/-- only the values at the state of `t` matter (for the calls whose semantics reads the number of qubits) -/
theorem congr {t t' : Tab} {G G' : GState → GState} {D D' : DState → DState} {p p' : DState → ℂ} {r : Nat}
    (h : Tracks t t' G D p r) (hG : G (gstate t) = G' (gstate t)) (hD : D (dstate t) = D' (dstate t))
    (hp : p (dstate t) = p' (dstate t)) : Tracks t t' G' D' p' r :=
  ⟨h.valid, h.real, h.grp.trans hG, h.dens.trans hD, hp ▸ h.born⟩

theorem gate (t : Tab) (g : Gate) (hg : g.WF t.n) (hv : t.Valid) (hr : t.StabReal) :
    Tracks t (t.map g.act) (specGate g.act) (dConj fun n => gateMat n g) (fun _ => 1) 0 :=
  have ha := Gate.isAut1 t.n g hg
  ⟨map_valid t _ ha.aut hv, (gate_tracks t _ ha hr).1, (gate_tracks t _ ha hr).2, gate_tracks_density t g hg,
    (pow_zero _).symm⟩

theorem swap (t : Tab) (a b : Nat) (ha : a < t.n) (hb : b < t.n) (hv : t.Valid) (hr : t.StabReal) :
    Tracks t (t.swapGate a b) (specSwap a b) (dConj fun n => swapMat n a b) (fun _ => 1) 0 :=
  ⟨swapGate_valid t a b ha hb hv, (swap_tracks t a b ha hb hr).1, (swap_tracks t a b ha hb hr).2,
    swap_tracks_density t a b ha hb, (pow_zero _).symm⟩

theorem meas (t : Tab) (q : Nat) (o : Bool) (hq : q < t.n) (hv : t.Valid) (hr : t.StabReal) :
    Tracks t (t.zMeasure q o).1 (specMeasure q o) (dMeas q o) (fun s => measProb s.n q o s.ρ) (randBit t q) :=
  ⟨zMeasure_valid t q o hq hv, zMeasure_stabReal t q o hq hv hr, measure_tracks t q o hq hv hr,
    meas_tracks_density t q o hq hv hr, measProb_tab t q o hq hv hr⟩

theorem resetZ (t : Tab) (q : Nat) (i o : Bool) (hq : q < t.n) (hv : t.Valid) (hr : t.StabReal) :
    Tracks t (t.resetZ q i o) (specResetZ q i o) (dResetZ q i o) (fun s => measProb s.n q o s.ρ) (randBit t q) :=
  ⟨resetZ_valid t q i o hq hv, (resetZ_tracks t q i o hq hv hr).1, (resetZ_tracks t q i o hq hv hr).2,
    resetZ_tracks_density t q i o hq hv hr, measProb_tab t q o hq hv hr⟩

theorem insert (t : Tab) (p : Nat) (hp : p ≤ t.n) (hv : t.Valid) (hr : t.StabReal) :
    Tracks t (t.insertQubit p) (specInsert p) (dInsert p) (fun _ => 1) 0 :=
  ⟨insertQubit_valid t p hp hv, (insert_tracks t p hp hv hr).1, (insert_tracks t p hp hv hr).2,
    insert_tracks_density t p hp hv hr, (pow_zero _).symm⟩

theorem remove (t t' : Tab) (q : Nat) (o : Bool) (hv : t.Valid) (hr : t.StabReal)
    (h : t.removeQubit? q o = .ok t') :
    Tracks t t' (specRemove q o) (dRemove q o) (fun s => measProb s.n q o s.ρ) (randBit t q) :=
  have hq := removeQubit?_ok t t' q o h
  have g := remove_tracks t t' q o hv hr h
  ⟨g.1, g.2.1, g.2.2, remove_tracks_density t t' q o hq.1 hv hr hq.2, measProb_tab t q o hq.1 hv hr⟩

theorem norm (t : Tab) (hv : t.Valid) (hr : t.StabReal) : Tracks t t.norm id id (fun _ => 1) 0 :=
  ⟨Tab.norm_valid t hv, norm_stabReal t hr, norm_gstate t, norm_tracks_density t, (pow_zero _).symm⟩

open Classical in
theorem ptraceGo (rem : List Nat) :
    ∀ (t t' : Tab) (os : List Bool), t.Valid → t.StabReal → partialTrace.go t rem os = .ok t' →
      Tracks t t' (specPtraceGo rem os) (dPtraceGo rem os) (dProbPtraceGo rem os) (randPtraceGo t rem os) := by
  induction rem with
  | nil =>
    intro t t' os hv hr h
    simp only [partialTrace.go, Except.ok.injEq] at h
    subst h
    exact .refl t hv hr
  | cons q rest ih =>
    intro t t' os hv hr h
    obtain ⟨t1, hrm, h2⟩ := partialTrace_go_cons_ok t t' q rest os h
    have hq := (removeQubit?_ok t t1 q _ hrm).1
    have s0 := remove t t1 q _ hv hr hrm
    have s1 := s0.andThen (norm t1 s0.valid s0.real)
    have s := s1.comp (ih t1.norm t' _ s1.valid s1.real h2)
    -- the three tests "is this measurement random?" agree, so the same outcomes are consumed
    have hg : Random (gstate t).G q ↔ (t.pivot q).isSome = true := random_iff_pivot t q hq
    have hd : dRandom q (dstate t) ↔ (t.pivot q).isSome = true := (meas_density t q (os.headD false) hq hv hr).2.2
    refine ⟨s.valid, s.real, s.grp.trans ?_, s.dens.trans ?_, ?_⟩
    · show _ = specPtraceGo rest (if Random (gstate t).G q then os.tail else os) _
      rw [if_congr hg rfl rfl]; rfl
    · show _ = dPtraceGo rest (if dRandom q (dstate t) then os.tail else os) _
      rw [if_congr hd rfl rfl]; rfl
    · show measProb _ q _ _ * dProbPtraceGo rest (if dRandom q (dstate t) then os.tail else os) _
        = (1 / 2 : ℂ) ^ (randBit t q + match t.removeQubit? q (os.headD false) with
          | .ok t' => randPtraceGo t'.norm rest (if (t.pivot q).isSome then os.tail else os)
          | .error _ => 0)
      rw [hrm, if_congr hd rfl rfl]
      exact s.born

theorem ptrace (t t' : Tab) (keep : List Nat) (os : List Bool) (hv : t.Valid) (hr : t.StabReal)
    (h : t.partialTrace keep os = .ok t') :
    Tracks t t' (specPtrace keep os) (dPtrace keep os) (fun s => dProbPtraceGo (removalList s.n keep) os s)
      (randPtraceGo t (removalList t.n keep) os) :=
  (ptraceGo _ t t' os hv hr h).congr rfl rfl rfl

end Tracks

/-! ### one API call, one history -/

theorem op_tracked (t t' : Tab) (op : Tab.Op) (out : Option (Bool × Bool)) (hop : OpWF op) (hv : t.Valid)
    (hr : t.StabReal) (h : t.applyOp op = .ok (t', out)) :
    Tracks t t' (specOp op) (dOp op) (dProbOp op) (randOp t op) := by
  cases op with
  | h q => obtain ⟨hq, rfl⟩ := Tab.applyOp_inv t t' _ out h; exact .gate t (.H q) hq hv hr
  | s q => obtain ⟨hq, rfl⟩ := Tab.applyOp_inv t t' _ out h; exact .gate t (.P q) hq hv hr
  | sdg q => obtain ⟨hq, rfl⟩ := Tab.applyOp_inv t t' _ out h; exact .gate t (.Pdag q) hq hv hr
  | x q => obtain ⟨hq, rfl⟩ := Tab.applyOp_inv t t' _ out h; exact .gate t (.X q) hq hv hr
  | y q => obtain ⟨hq, rfl⟩ := Tab.applyOp_inv t t' _ out h; exact .gate t (.Y q) hq hv hr
  | z q => obtain ⟨hq, rfl⟩ := Tab.applyOp_inv t t' _ out h; exact .gate t (.Z q) hq hv hr
  | cnot c tg =>
    obtain ⟨hb, rfl⟩ := Tab.applyOp_inv t t' _ out h
    exact .gate t (.CNOT c tg) ⟨hb.1, hb.2, hop⟩ hv hr
  | cz c tg =>
    obtain ⟨hb, rfl⟩ := Tab.applyOp_inv t t' _ out h
    exact .gate t (.CZ c tg) ⟨hb.1, hb.2, hop⟩ hv hr
  | swap a b => obtain ⟨hb, rfl⟩ := Tab.applyOp_inv t t' _ out h; exact .swap t a b hb.1 hb.2 hv hr
  | meas q o => obtain ⟨hq, rfl⟩ := Tab.applyOp_inv t t' _ out h; exact .meas t q o hq hv hr
  | resetZ q i o => obtain ⟨hq, rfl⟩ := Tab.applyOp_inv t t' _ out h; exact .resetZ t q i o hq hv hr
  | resetX q i o =>
    obtain ⟨hq, rfl⟩ := Tab.applyOp_inv t t' _ out h
    have s1 := Tracks.resetZ t q i o hq hv hr
    have hq1 : q < (t.resetZ q i o).n := by rw [resetZ_n]; exact hq
    exact s1.andThen (.gate _ (.H q) hq1 s1.valid s1.real)
  | resetY q i o =>
    obtain ⟨hq, rfl⟩ := Tab.applyOp_inv t t' _ out h
    have s1 := Tracks.resetZ t q i o hq hv hr
    have hq1 : q < (t.resetZ q i o).n := by rw [resetZ_n]; exact hq
    have s2 := s1.andThen (.gate _ (.H q) hq1 s1.valid s1.real)
    exact s2.andThen (.gate _ (.P q) hq1 s2.valid s2.real)
  | insert p => obtain ⟨hp, rfl⟩ := Tab.applyOp_inv t t' _ out h; exact .insert t p hp hv hr
  | add => obtain rfl := Tab.applyOp_inv t t' _ out h; exact (Tracks.insert t t.n (Nat.le_refl _) hv hr).congr rfl rfl rfl
  | remove q o => exact .remove t t' q o hv hr (Tab.applyOp_inv t t' _ out h)
  | ptrace k os => exact .ptrace t t' k os hv hr (Tab.applyOp_inv t t' _ out h)

theorem op_tracks_density (t t' : Tab) (op : Tab.Op) (out : Option (Bool × Bool)) (hop : OpWF op) (hv : t.Valid)
    (hr : t.StabReal) (h : t.applyOp op = .ok (t', out)) : dstate t' = dOp op (dstate t) :=
  (op_tracked t t' op out hop hv hr h).dens

/-- without `OpWF`: the two calls that need it measure nothing; otherwise `(op_tracked …).born` -/
theorem op_born (t t' : Tab) (op : Tab.Op) (out : Option (Bool × Bool)) (hv : t.Valid) (hr : t.StabReal)
    (h : t.applyOp op = .ok (t', out)) : dProbOp op (dstate t) = (1 / 2 : ℂ) ^ randOp t op := by
  cases op with
  | meas q o => exact measProb_tab t q o (Tab.applyOp_inv t t' _ out h).1 hv hr
  | resetZ q i o => exact measProb_tab t q o (Tab.applyOp_inv t t' _ out h).1 hv hr
  | resetX q i o => exact measProb_tab t q o (Tab.applyOp_inv t t' _ out h).1 hv hr
  | resetY q i o => exact measProb_tab t q o (Tab.applyOp_inv t t' _ out h).1 hv hr
  | remove q o => exact (Tracks.remove t t' q o hv hr (Tab.applyOp_inv t t' _ out h)).born
  | ptrace k os => exact (Tracks.ptrace t t' k os hv hr (Tab.applyOp_inv t t' _ out h)).born
  | _ => exact (pow_zero _).symm

theorem history_tracked (ops : List Tab.Op) (hops : ∀ op ∈ ops, OpWF op) :
    ∀ (t t' : Tab), t.Valid → t.StabReal → t.runOps ops = .ok t' →
      Tracks t t' (specOps ops) (dOps ops) (dProbOps ops) (randOps t ops) := by
  induction ops with
  | nil =>
    intro t t' hv hr h
    cases h
    exact .refl t hv hr
  | cons op rest ih =>
    intro t t' hv hr h
    obtain ⟨t1, out, h1, h2⟩ := runOps_cons_ok t t' op rest h
    have s1 := op_tracked t t1 op out (hops op List.mem_cons_self) hv hr h1
    have s := s1.comp (ih (fun o ho => hops o (List.mem_cons_of_mem _ ho)) t1 t' s1.valid s1.real h2)
    refine ⟨s.valid, s.real, s.grp, s.dens, ?_⟩
    show dProbOp op (dstate t) * dProbOps rest (dOp op (dstate t)) = (1 / 2 : ℂ) ^ (randOp t op +
      match t.applyOp op with
      | .ok (t', _) => randOps t' rest
      | .error _ => 0)
    rw [h1]
    exact s.born

end Hilbert
end Graphiq
