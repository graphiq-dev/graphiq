/-
  C05 — stabilizer state comparison and fidelity are exact.

  Contents (every theorem for every n; nothing conditional since `C11.inverse_circuit_complete`):
  * canonical form / equality   `canonical_form_preserves_state`, `canonical_form_returns_canon`, `canon_shape_unique`,
                                `canonical_form_is_normal_form`, `canonical_form_returns_iff_independent`,
                                `canonical_form_idempotent`, `canonical_form_depends_only_on_state`, `equality_sound`, `equality_exact`, `equality_is_equivalence`,
                                `sign_matters`, `shape_checker_sound`
  * fidelity, group level       `inner_product_zero_iff`, `inner_product_exponent`, `inner_product_exponent_counts`,
                                `overlap_dim_unique`, `fidelity_self`, `fidelity_self_returns`, `fidelity_one_iff`,
                                `fidelity_symmetric`, `fidelity_presentation_independent`, `fidelity_circuit_invariant`,
                                `fidelity_value_set`, `inner_product_returns`, `inner_product_returns_only_if`
  * fidelity, Hilbert space     `fidelity_is_state_overlap`, `fidelity_is_squared_inner_product`,
                                `fidelity_on_valid_tableaux`, `mixture_fidelity_is_state_overlap`,
                                `same_density_matrix_iff_same_group`, `same_state_iff_same_group`
  * executable specification    `overlap_spec_checker_exact`, `overlap_spec_count_exact`
-/
import GraphiqModel.Proofs.InverseCircuit
import GraphiqModel.Proofs.CanonUnique
import GraphiqModel.Proofs.CanonCheck
import GraphiqModel.Proofs.InnerProductTotal
import GraphiqModel.Proofs.InnerProductExec
import GraphiqModel.Proofs.InnerProductFull
import GraphiqModel.Proofs.InnerProductHilbert
import GraphiqModel.Proofs.InvHilbert
import GraphiqModel.Proofs.InvValid
import GraphiqModel.Proofs.InnerProductCount
import GraphiqModel.Proofs.InvClifford
import GraphiqModel.Proofs.InvGauge
import GraphiqModel.Proofs.SweepKet
namespace Graphiq.C05
open Graphiq Graphiq.PRow Graphiq.STab Graphiq.Tab

/-- **`canonical_form` depends only on, and preserves, the state** (one half: preservation; every n, every generating set):
    whenever it returns, its result generates the same signed group as its input — no sign is lost or flipped. -/
theorem canonical_form_preserves_state (t t' : STab) (hg : t.Good) (h : t.canonicalForm = .ok t') :
    t'.n = t.n ∧ (∀ a, t.Spn a ↔ t'.Spn a) := by
  obtain ⟨s, _⟩ := canonicalForm_spanEq t t' hg h
  exact ⟨s.n_eq.symm, fun a => ⟨s.sub a, s.sup a⟩⟩

/-- row-wise equality of two tableaux (what `StabilizerTableau.__eq__` compares: table and sign vector) -/
def SameRows (a b : STab) : Prop := a.n = b.n ∧ ∀ i, i < a.n → EqOn a.n (a.row i) (b.row i)

theorem spanEq_of_sameRows (a b : STab) (h : SameRows a b) : SpanEq a b := by
  apply spanEq_of_gens a b h.1.symm
  · intro i hi
    exact InSpan.eqv _ _ (spn_gen a i (h.1 ▸ hi)) (h.2 i (h.1 ▸ hi))
  · intro i hi
    have := (h.2 i hi).symm
    rw [h.1] at this
    exact InSpan.eqv _ _ (spn_gen b i (h.1 ▸ hi)) this

/-- **Soundness of state equality, sign-sensitive** (every n): if the canonical forms of two generating sets coincide
    row by row — which is what `Stabilizer.__eq__` tests — then the two sets generate the same signed group, i.e. the two
    objects are the same state. In particular two states that differ in the sign of a generator are never reported equal. -/
theorem equality_sound (a b ca cb : STab) (ha : a.Good) (hb : b.Good)
    (h1 : a.canonicalForm = .ok ca) (h2 : b.canonicalForm = .ok cb) (heq : SameRows ca cb) :
    a.n = b.n ∧ ∀ p, a.Spn p ↔ b.Spn p := by
  obtain ⟨s1, _⟩ := canonicalForm_spanEq a ca ha h1
  obtain ⟨s2, _⟩ := canonicalForm_spanEq b cb hb h2
  have s := (s1.trans (spanEq_of_sameRows ca cb heq)).trans s2.symm
  exact ⟨s.n_eq, fun p => ⟨s.sub p, s.sup p⟩⟩

/-- a sign flip changes the group: `+Z` and `−Z` generate different signed groups (so equality must, and does, separate them) -/
theorem sign_matters : ¬ (STab.zero 1).Spn (PRow.Zq 0 true) := by
  intro h
  -- every element of the span of {+Z_0} on one qubit has x-bit 0 and sign `+`, by induction
  have key : ∀ a, (STab.zero 1).Spn a → (a.x 0 = false ∧ a.r = false ∧ a.ip = false) := by
    intro a ha
    unfold Spn at ha
    induction ha with
    | one => exact ⟨rfl, rfl, rfl⟩
    | gen i hi =>
      have : i = 0 := by
        have : i < 1 := hi
        omega
      subst this; exact ⟨rfl, rfl, rfl⟩
    | mul a b _ _ iha ihb =>
      obtain ⟨ax, ar, ai⟩ := iha
      obtain ⟨bx, br, bi⟩ := ihb
      have hp := mul_ph 1 a b
      have g0 : gSum 1 a b = 0 := by
        unfold gSum sumTo sumTo
        rw [ax, bx]
        cases a.z 0 <;> cases b.z 0 <;> decide
      have pa : a.ph = 0 := by unfold PRow.ph; rw [ar, ai]; rfl
      have pb : b.ph = 0 := by unfold PRow.ph; rw [br, bi]; rfl
      rw [g0, pa, pb] at hp
      have hx : (PRow.mul 1 a b).x 0 = false := by simp [ax, bx]
      have hz : (PRow.mul 1 a b).ph = PRow.one.ph := by rw [hp]; rfl
      have := ph_inj _ _ hz
      exact ⟨hx, this.1, this.2⟩
    | eqv a b _ hab iha =>
      obtain ⟨ax, ar, ai⟩ := iha
      exact ⟨(hab.1 0 (by decide)).1 ▸ ax, hab.2.1 ▸ ar, hab.2.2 ▸ ai⟩
  have := (key _ h).2.1
  simp [PRow.Zq] at this

/-- **Postcondition of `canonical_form`** (every n, every input tableau, no hypothesis on the rows): whenever it returns,
    the result has the reduced echelon shape `STab.Canon` (Proofs/CanonShape.lean): there are `k` and pivot columns
    `px 0 < … < px (k-1)`, `pz k < … < pz (n-1)` such that
    * row `i < k` (X block) has x-bit 1 at column `px i`, no x-bit left of it, and *every other row* has x-bit 0 there;
    * the rows `k..n-1` (Z block) have no x-bit at all; row `i ≥ k` has z-bit 1 at column `pz i`, no z-bit left of it, and
      *every other row of the tableau*, X block included, has z-bit 0 there.
    Proved by loop invariants over the two `for` loops of the code (`canonStepXY`, `canonStepZ`). -/
theorem canonical_form_returns_canon (t c : STab) (h : t.canonicalForm = .ok c) : STab.Canon c :=
  canonicalForm_canon t c h

/-- **`canonical_form` returns exactly on the independent generating sets** (every n, real commuting rows): its final
    `assert pivot[0] == n` passes iff no non-empty subset of the generators multiplies to `±I` (`STab.Indep`; equivalently
    the 2n-bit vectors are linearly independent over GF(2), `C11.independent_iff_linear_independent`), and the only error it
    can raise is that `AssertionError`. -/
theorem canonical_form_returns_iff_independent (t : STab) (hg : t.Good) :
    ((∃ c, t.canonicalForm = .ok c) ↔ t.Indep) ∧ ∀ e, t.canonicalForm = .error e → e = .assertion :=
  ⟨canonicalForm_returns_iff t hg, canonicalForm_error t⟩

/-- **Uniqueness of the shape** (every n): two real commuting tableaux in `Canon` shape that generate the same signed
    group are equal row by row — Pauli strings *and* sign bits (uniqueness of the reduced row echelon form over the
    2n-bit symplectic vectors with the pivot order of `canonical_form`; a sign is determined by its Pauli string because
    the group of a `Canon` tableau does not contain `−I`). -/
theorem canon_shape_unique (a b : STab) (ha : STab.Canon a) (hb : STab.Canon b) (ga : a.Good) (gb : b.Good)
    (s : a.n = b.n ∧ ∀ p, a.Spn p ↔ b.Spn p) : SameRows a b :=
  ⟨s.1, canon_unique a b ha hb ga gb ⟨s.1, fun p => (s.2 p).1, fun p => (s.2 p).2⟩⟩

/-- **The executable shape checker is sound**: a tableau accepted by `STab.isCanon` (driver command `stab.iscanon`, which
    the correspondence harness runs on every canonical form the *real* `canonical_form` returns) has the shape `Canon`;
    so two accepted real commuting tableaux with the same signed group are row-wise equal (`canon_shape_unique`). -/
theorem shape_checker_sound (c : STab) (h : c.isCanon = true) : STab.Canon c := isCanon_sound c h

/-- the full normal-form statement: `canonical_form` is a *normal form* for the signed group — two real commuting
    generating sets of the same signed group have row-wise equal canonical forms (completeness of `Stabilizer.__eq__`:
    it never reports two equal states different).  Proved below as `canonical_form_is_normal_form`; it is pure Gaussian
    elimination and does not depend on `inverse_circuit`.

    The second half of C05, the value of the overlap, is proved further below (`inner_product_zero_iff`,
    `inner_product_exponent`, …), unconditionally since `inverse_circuit` is proved to reach |0…0⟩
    (`C11.inverse_circuit_ends_in_zero`; D42 repaired in graphiq 74abae4). -/
def canonical_form_is_normal_form_statement : Prop :=
  ∀ (a b ca cb : STab), a.Good → b.Good → (a.n = b.n ∧ ∀ p, a.Spn p ↔ b.Spn p) →
    a.canonicalForm = .ok ca → b.canonicalForm = .ok cb → SameRows ca cb

/-- **Completeness of state equality / `canonical_form` is a normal form** (every n, every pair of generating sets):
    if two real commuting tableaux generate the same signed group and `canonical_form` returns on both, the two results
    are equal row by row, sign bits included. -/
theorem canonical_form_is_normal_form : canonical_form_is_normal_form_statement := by
  intro a b ca cb ha hb hs h1 h2
  obtain ⟨s1, g1⟩ := canonicalForm_spanEq a ca ha h1
  obtain ⟨s2, g2⟩ := canonicalForm_spanEq b cb hb h2
  have s : SpanEq ca cb := (s1.symm.trans ⟨hs.1, fun p => (hs.2 p).1, fun p => (hs.2 p).2⟩).trans s2
  exact canon_shape_unique ca cb (canonicalForm_canon a ca h1) (canonicalForm_canon b cb h2) g1 g2
    ⟨s.n_eq, fun p => ⟨s.sub p, s.sup p⟩⟩

/-- **The canonical form depends only on the state — as a value** (every n ≥ 1): two real commuting generating sets of the
    same signed group get *equal* canonical forms (not only row-wise equal below the size: `canonical_form` returns a
    tabulated tableau), so everything computed from the canonical form alone — `Stabilizer.__eq__`, `inverse_circuit`,
    `fidelity` — is a function of the state. -/
theorem canonical_form_depends_only_on_state (a b ca cb : STab) (ga : a.Good) (gb : b.Good)
    (hs : a.n = b.n ∧ ∀ p, a.Spn p ↔ b.Spn p) (ha : a.canonicalForm = .ok ca) (hb : b.canonicalForm = .ok cb)
    (hn : 0 < a.n) : ca = cb :=
  canonicalForm_eq_of_spanEq a b ca cb ga gb ⟨hs.1, fun p => (hs.2 p).1, fun p => (hs.2 p).2⟩ ha hb hn

/-- **State equality is exact** (every n): for real commuting generating sets on which `canonical_form` returns, the
    canonical forms coincide row by row *iff* the two sets generate the same signed group (soundness `equality_sound` +
    completeness `canonical_form_is_normal_form`). -/
theorem equality_exact (a b ca cb : STab) (ha : a.Good) (hb : b.Good)
    (h1 : a.canonicalForm = .ok ca) (h2 : b.canonicalForm = .ok cb) :
    SameRows ca cb ↔ (a.n = b.n ∧ ∀ p, a.Spn p ↔ b.Spn p) :=
  ⟨equality_sound a b ca cb ha hb h1 h2, fun hs => canonical_form_is_normal_form a b ca cb ha hb hs h1 h2⟩


/-! ## The fidelity half: `inner_product` computes the stabilizer overlap

  Specification (Proofs/InnerProductSpec.lean), for the signed groups `A`, `B` of two `n`-qubit stabilizer states |a⟩, |b⟩:
  * `Orth A B`         — some Pauli `P` lies in `A` and `−P` lies in `B`;                          then ⟨a|b⟩ = 0;
  * `OverlapDim A B d` — `A ∩ B` has an independent generating set of `d` elements (`|A ∩ B| = 2^d`; `d` is unique:
                         `overlap_dim_unique`);                        then, if not `Orth A B`, |⟨a|b⟩|² = 2^{-(n-d)}.
  Both are properties of the two groups, not of the generating sets.  The Hilbert-space reading on the right (textbook:
  Aaronson–Gottesman 2004; Garcia–Markov–Cross 2012) is proved for the model:
  `fidelity_is_state_overlap`, `fidelity_is_squared_inner_product` below, and independently `C07.stabilizer_state_overlap`.

  The model `STab.innerProduct a b` returns `ok none` for the value `0` and `ok (some e)` for the value `2^{-e/2}`
  (fidelity `2^{-e}`).  The theorems below are **unconditional** (every n, every pair of real commuting generating sets,
  every destabilizer half): the former hypothesis `hzero` — the tableau `s1` that `inverse_circuit` returns for the
  first argument is the tableau of |0…0⟩ — is a theorem since the repair of D42 in graphiq 74abae4
  (`C11.inverse_circuit_ends_in_zero`, Proofs/InvBridge.lean).  The forms with the suffix `_of_zero` name the synthesis and `hzero` among their hypotheses (they are not needed);
  the correspondence harness still evaluates `isZero` on every input as a regression. -/

/-- `x = ok v`, from a Boolean evaluation (there is no `DecidableEq (Except _ _)`) -/
theorem ok_of_check (x : Except Err (Option Nat)) (v : Option Nat)
    (h : (match x with | .ok r => r == v | .error _ => false) = true) : x = .ok v := by
  cases x with
  | error e => simp at h
  | ok r => simp at h; rw [h]

/-- the statement as it was kept while D42 was open: the reported value is 0 exactly when the groups contain a Pauli with
    opposite signs -/
def inner_product_zero_iff_statement : Prop :=
  ∀ (a b : Tab) (r : Option Nat), (STab.ofTab a).Good → (STab.ofTab b).Good → STab.innerProduct a b = .ok r →
    (r = none ↔ Orth (STab.ofTab a) (STab.ofTab b))

/-- **Zero overlap is exact** (every n, every pair of generating sets, every destabilizer half): `inner_product` reports 0
    **iff** the two signed groups contain a Pauli `P` and its negative `−P` — which is when ⟨a|b⟩ = 0. -/
theorem inner_product_zero_iff : inner_product_zero_iff_statement :=
  fun a b r ga gb h => innerProduct_none_iff a b r ga gb h

/-- the same with the synthesis `hs` and `hzero` among the hypotheses; both always hold on a returning call and are not used -/
theorem inner_product_zero_iff_of_zero (a b : Tab) (s1 : STab) (circ : List Gate) (r : Option Nat)
    (ga : (STab.ofTab a).Good) (gb : (STab.ofTab b).Good)
    (hs : (STab.ofTab a).inverseCircuit = .ok (s1, circ)) (hzero : s1.isZero = true)
    (h : STab.innerProduct a b = .ok r) :
    r = none ↔ Orth (STab.ofTab a) (STab.ofTab b) :=
  innerProduct_none_iff a b r ga gb h

/-- a non-zero value `2^{-e/2}` has `e = n − dim(A ∩ B)` -/
def inner_product_exponent_statement : Prop :=
  ∀ (a b : Tab) (e : Nat), (STab.ofTab a).Good → (STab.ofTab b).Good → STab.innerProduct a b = .ok (some e) →
    e ≤ a.n ∧ ¬ Orth (STab.ofTab a) (STab.ofTab b) ∧ OverlapDim (STab.ofTab a) (STab.ofTab b) (a.n - e)

/-- **The non-zero overlap is exact** (every n).  If `inner_product` reports `2^{-e/2}` then `e ≤ n`, the groups are not
    orthogonal, and the common subgroup `A ∩ B` has an independent generating set of exactly `n − e` elements:
    `e = n − dim(A ∩ B)`, i.e. fidelity `2^{-(n - dim(A ∩ B))}` (`dim` is well defined: `overlap_dim_unique`). -/
theorem inner_product_exponent : inner_product_exponent_statement := by
  intro a b e ga gb h
  exact innerProduct_isOverlap a b (some e) ga gb h

/-- … moreover `e` is what the code counts: in the canonical form `s2` of the second state transformed by the gate list
    `circ` synthesised for the first, exactly the rows `i < e` carry an x-bit, and the `n − e` x-free rows `e..n-1` all
    have the sign `+`. -/
theorem inner_product_exponent_counts (a b : Tab) (e : Nat) (ga : (STab.ofTab a).Good) (gb : (STab.ofTab b).Good)
    (h : STab.innerProduct a b = .ok (some e)) :
    ∃ s1 circ s2, (STab.ofTab a).inverseCircuit = .ok (s1, circ) ∧
      (STab.ofTab (b.runCircuit circ)).canonicalForm = .ok s2 ∧
      (∀ i, i < a.n → (((List.range a.n).any fun j => (s2.row i).x j) = true ↔ i < e)) ∧
      (∀ i, e ≤ i → i < a.n → (s2.row i).r = false) :=
  innerProduct_some_rows a b e ga gb h

/-- the rank in `OverlapDim` is a property of the two groups: two independent generating sets of `A ∩ B` have the same size -/
theorem overlap_dim_unique (A B : STab) (hg : A.Good) (hn : A.n = B.n) (d d2 : Nat)
    (h : OverlapDim A B d) (h2 : OverlapDim A B d2) : d = d2 := overlapDim_unique A B hg hn d d2 h h2

/-- the fidelity of a state with itself is 1 -/
def fidelity_self_statement : Prop :=
  ∀ (a : Tab) (r : Option Nat), (STab.ofTab a).Good → STab.innerProduct a a = .ok r → r = some 0

/-- **Fidelity of a state with itself is 1** (every n): whatever `inner_product` of a real commuting generating set with
    itself returns is the value 1 … -/
theorem fidelity_self : fidelity_self_statement :=
  fun a r ga h => innerProduct_self_val a r ga h

/-- … **and on a stabilizer state (independent generators) it does return**: `inner_product a a = 1`. -/
theorem fidelity_self_returns (a : Tab) (ga : (STab.ofTab a).Good) (ia : (STab.ofTab a).Indep) :
    STab.innerProduct a a = .ok (some 0) :=
  innerProduct_self_full a ga ia

/-- with the synthesis `hs` among the hypotheses (`hzero` always holds and is not used) -/
theorem fidelity_self_of_zero (a : Tab) (s1 : STab) (circ : List Gate) (ga : (STab.ofTab a).Good)
    (hs : (STab.ofTab a).inverseCircuit = .ok (s1, circ)) (hzero : s1.isZero = true) :
    STab.innerProduct a a = .ok (some 0) :=
  innerProduct_self a s1 circ ga hs

/-- **`inner_product` returns on every pair of stabilizer states of the same size** (every n): for two tableaux of the
    same size whose stabilizer halves are independent real commuting generating sets, no internal assert of
    `inner_product`, `inverse_circuit` or `canonical_form` fails and no IndexError is raised. -/
theorem inner_product_returns (a b : Tab) (ga : (STab.ofTab a).Good) (gb : (STab.ofTab b).Good)
    (ia : (STab.ofTab a).Indep) (ib : (STab.ofTab b).Indep) (hn : a.n = b.n) : ∃ r, STab.innerProduct a b = .ok r :=
  innerProduct_total_full a b ga gb ia ib hn

/-- … and it returns *only* on pairs of the same size whose first argument is an independent generating set -/
theorem inner_product_returns_only_if (a b : Tab) (r : Option Nat) (ga : (STab.ofTab a).Good)
    (h : STab.innerProduct a b = .ok r) : a.n = b.n ∧ (STab.ofTab a).Indep :=
  innerProduct_ok_indep a b r ga h

/-- fidelity 1 iff same state -/
def fidelity_one_iff_statement : Prop :=
  ∀ (a b : Tab) (r : Option Nat), (STab.ofTab a).Good → (STab.ofTab b).Good → STab.innerProduct a b = .ok r →
    (r = some 0 ↔ ((STab.ofTab a).n = (STab.ofTab b).n ∧ ∀ p, (STab.ofTab a).Spn p ↔ (STab.ofTab b).Spn p))

/-- **Fidelity 1 exactly for equal states** (every n): `inner_product` reports 1 **iff** the two generating sets generate
    the same signed group. -/
theorem fidelity_one_iff : fidelity_one_iff_statement := by
  intro a b r ga gb h
  rw [innerProduct_one_iff a b r ga gb h]
  exact ⟨fun s => ⟨s.n_eq, fun p => ⟨s.sub p, s.sup p⟩⟩, fun s => ⟨s.1, fun p => (s.2 p).1, fun p => (s.2 p).2⟩⟩

/-- the two argument orders report the same value -/
def fidelity_symmetric_statement : Prop :=
  ∀ (a b : Tab) (rab rba : Option Nat), (STab.ofTab a).Good → (STab.ofTab b).Good →
    STab.innerProduct a b = .ok rab → STab.innerProduct b a = .ok rba → rab = rba

/-- **The fidelity is symmetric** (every n): the two argument orders report the same value — `Orth` is symmetric, and
    the rank of `A ∩ B` is symmetric and unique.  (Both calls return on stabilizer states: `inner_product_returns`.) -/
theorem fidelity_symmetric : fidelity_symmetric_statement :=
  fun a b rab rba ga gb hab hba => innerProduct_symm a b rab rba ga gb hab hba

/-- **The fidelity is a function of the two states, not of the generating sets or destabilizers** (every n): if `a`, `a'`
    generate the same signed group and so do `b`, `b'`, then `inner_product a b` and `inner_product a' b'` report the
    same value. -/
theorem fidelity_presentation_independent (a a' b b' : Tab) (r r' : Option Nat)
    (ga : (STab.ofTab a).Good) (gb : (STab.ofTab b).Good) (ga' : (STab.ofTab a').Good) (gb' : (STab.ofTab b').Good)
    (sa : SpanEq (STab.ofTab a) (STab.ofTab a')) (sb : SpanEq (STab.ofTab b) (STab.ofTab b'))
    (h : STab.innerProduct a b = .ok r) (h' : STab.innerProduct a' b' = .ok r') : r = r' :=
  innerProduct_congr a a' b b' r r' ga gb ga' gb' sa sb h h'

/-! ### The Hilbert-space reading: the reported value *is* the overlap of the two states

  `Hilbert.rho n T = ∏_i (1 + P_i)/2` is the density matrix of the stabilizer tableau `T` (matrices over ℂ indexed by bit
  strings; `pauliMat` is shown in C07 to be the Kronecker product graphiq builds).  For the stabilizer half of a valid
  Clifford tableau it is a pure state (`C07.stabilizer_state_is_pure`: `ρ² = ρ = ρ†`, `tr ρ = 1`, `ρ ≥ 0`), so
  `tr(ρ_a ρ_b) = |⟨a|b⟩|²`.  The textbook statement (Aaronson–Gottesman; Garcia–Markov–Cross) is proved here for the
  model. -/

/-- **The fidelity is the overlap of the two states** (every n, every pair of real commuting generating sets, every
    destabilizer half): if `inner_product` reports the value 0 then `tr(ρ_a ρ_b) = 0`, and if it reports `2^{-e/2}` then
    `tr(ρ_a ρ_b) = 2^{-e}` — which is the number `abs(2**(-e/2))**2` that `fidelity` returns.
    (`Hilbert.ipVal none = 0`, `Hilbert.ipVal (some e) = (1/2)^e`.) -/
theorem fidelity_is_state_overlap (a b : Tab) (r : Option Nat) (ga : (STab.ofTab a).Good) (gb : (STab.ofTab b).Good)
    (h : STab.innerProduct a b = .ok r) :
    Matrix.trace (Hilbert.rho a.n (STab.ofTab a) * Hilbert.rho a.n (STab.ofTab b)) = Hilbert.ipVal r :=
  Hilbert.innerProduct_trace a b r ga gb h

/-- the same for valid Clifford tableaux (what the stabilizer backend holds): both density matrices are pure states -/
theorem fidelity_is_state_overlap_of_valid (a b : Tab) (r : Option Nat) (va : a.Valid) (vb : b.Valid)
    (h : STab.innerProduct a b = .ok r) :
    Matrix.trace (Hilbert.rho a.n (STab.ofTab a) * Hilbert.rho a.n (STab.ofTab b)) = Hilbert.ipVal r ∧
    Matrix.trace (Hilbert.rho a.n (STab.ofTab a)) = 1 ∧ Matrix.trace (Hilbert.rho b.n (STab.ofTab b)) = 1 :=
  ⟨Hilbert.innerProduct_trace a b r (Hilbert.ofTab_good a va) (Hilbert.ofTab_good b vb) h,
    Hilbert.rho_ofTab_trace a va, Hilbert.rho_ofTab_trace b vb⟩

/-- **The fidelity is |⟨a|b⟩|²** (every n): for two stabilizer states (real commuting generators; the second one
    independent, the first one is because `inner_product` returned) there are unit vectors `ψ_a`, `ψ_b` with
    `ρ_a = |ψ_a⟩⟨ψ_a|`, `ρ_b = |ψ_b⟩⟨ψ_b|` — the states prepared from |0…0⟩ by the reversed synthesised circuits — and the
    squared modulus of their inner product is exactly the value reported: `0` for `none`, `2^{-e}` for `some e`. -/
theorem fidelity_is_squared_inner_product (a b : Tab) (r : Option Nat) (ga : (STab.ofTab a).Good)
    (gb : (STab.ofTab b).Good) (ib : (STab.ofTab b).Indep) (h : STab.innerProduct a b = .ok r) :
    ∃ ψa ψb : Hilbert.Bits a.n → ℂ,
      (∑ x, star (ψa x) * ψa x = 1) ∧ (∑ x, star (ψb x) * ψb x = 1) ∧
      (∀ x y, Hilbert.rho a.n (STab.ofTab a) x y = ψa x * star (ψa y)) ∧
      (∀ x y, Hilbert.rho a.n (STab.ofTab b) x y = ψb x * star (ψb y)) ∧
      (∑ x, star (ψa x) * ψb x) * star (∑ x, star (ψa x) * ψb x) = Hilbert.ipVal r := by
  obtain ⟨hn, ia⟩ := innerProduct_ok_indep a b r ga h
  obtain ⟨ta, ca, ha, _⟩ := inverseCircuit_complete _ ga ia
  obtain ⟨tb, cb, hb, _⟩ := inverseCircuit_complete _ gb ib
  obtain ⟨a1, a2⟩ := Hilbert.rho_rank_one _ ta ca ga ha
  obtain ⟨b1, b2⟩ := Hilbert.rho_rank_one _ tb cb gb hb
  have nb : (STab.ofTab b).n = a.n := hn.symm
  rw [nb] at b1 b2
  refine ⟨_, _, a2, b2, a1, b1, ?_⟩
  exact (Hilbert.trace_rank_one _ _ _ _ a1 b1).symm.trans (Hilbert.innerProduct_trace a b r ga gb h)

/-- **On valid Clifford tableaux — what the stabilizer backend holds — nothing is assumed** (every n): for two valid
    tableaux of the same size `inner_product` returns; the fidelity of a tableau with itself is 1; and the reported value
    is `|⟨ψ_a|ψ_b⟩|²` for unit vectors with `ρ_a = |ψ_a⟩⟨ψ_a|`, `ρ_b = |ψ_b⟩⟨ψ_b|`. -/
theorem fidelity_on_valid_tableaux (a b : Tab) (va : a.Valid) (vb : b.Valid) (hn : a.n = b.n) :
    STab.innerProduct a a = .ok (some 0) ∧
    ∃ r, STab.innerProduct a b = .ok r ∧
      ∃ ψa ψb : Hilbert.Bits a.n → ℂ,
        (∑ x, star (ψa x) * ψa x = 1) ∧ (∑ x, star (ψb x) * ψb x = 1) ∧
        (∀ x y, Hilbert.rho a.n (STab.ofTab a) x y = ψa x * star (ψa y)) ∧
        (∀ x y, Hilbert.rho a.n (STab.ofTab b) x y = ψb x * star (ψb y)) ∧
        (∑ x, star (ψa x) * ψb x) * star (∑ x, star (ψa x) * ψb x) = Hilbert.ipVal r := by
  have ga := ofTab_good_of_valid a va
  have gb := ofTab_good_of_valid b vb
  have ia := ofTab_indep a va
  have ib := ofTab_indep b vb
  obtain ⟨r, hr⟩ := inner_product_returns a b ga gb ia ib hn
  exact ⟨fidelity_self_returns a ga ia, r, hr, fidelity_is_squared_inner_product a b r ga gb ib hr⟩

/-- **The executable specification is exact** (every n): the brute-force test `STab.orthB` (driver command `stab.overlap`,
    which the correspondence harness compares with the *real* `fidelity` on every pair with n ≤ 3) decides `Orth`, and the
    membership test behind its count `STab.commonCount` decides "this subset product of `a`'s rows lies in the group of
    `b`" — so the predicates the fidelity theorems speak about are themselves checked against the code's values.
    That the count equals `2^dim(A ∩ B)` is `overlap_spec_count_exact` below. -/
theorem overlap_spec_checker_exact (a b : STab) (ga : a.Good) (gb : b.Good) (hn : a.n = b.n) :
    (a.orthB b = true ↔ Orth a b) ∧ ∀ ma, (a.commonB b ma = true ↔ b.Spn (mprod a.n a.row ma a.n)) :=
  ⟨orthB_iff a b ga gb hn, commonB_iff a b gb hn⟩

/-- **… and its count is `2^dim(A ∩ B)`** (every n): for independent real commuting generators of `A` the number
    `STab.commonCount` of subsets of `A`'s rows whose product lies in the group of `B` — the number the harness reads from
    the driver and compares with the real fidelity — is `2^d` whenever `A ∩ B` has an independent generating set of `d`
    elements (`|A ∩ B| = 2^dim`). -/
theorem overlap_spec_count_exact (a b : STab) (ga : a.Good) (gb : b.Good) (ia : a.Indep) (hn : a.n = b.n) (d : Nat)
    (h : OverlapDim a b d) : a.commonCount b = 2 ^ d :=
  commonCount_eq a b ga gb ia hn d h

/-! ### Further consequences -/

/-- **`canonical_form` is idempotent** (every n): on its own result it returns, and returns the same rows. -/
theorem canonical_form_idempotent (t c : STab) (hg : t.Good) (h : t.canonicalForm = .ok c) :
    ∃ c', c.canonicalForm = .ok c' ∧ SameRows c' c := by
  obtain ⟨s, gc⟩ := canonicalForm_spanEq t c hg h
  have it : t.Indep := (canonicalForm_returns_iff t hg).1 ⟨c, h⟩
  have ic : c.Indep := Canon.indep (canonicalForm_canon t c h)
  obtain ⟨c', hc'⟩ := canonicalForm_of_indep c gc ic
  refine ⟨c', hc', ?_⟩
  exact canonical_form_is_normal_form c t c' c gc hg ⟨s.n_eq.symm, fun p => ⟨s.sup p, s.sub p⟩⟩ hc' h

/-- **State equality via canonical forms is an equivalence relation** on generating sets on which `canonical_form` returns -/
theorem equality_is_equivalence (a b c ca cb cc : STab) (ga : a.Good) (gb : b.Good) (gc : c.Good)
    (ha : a.canonicalForm = .ok ca) (hb : b.canonicalForm = .ok cb) (hc : c.canonicalForm = .ok cc) :
    SameRows ca ca ∧ (SameRows ca cb → SameRows cb ca) ∧ (SameRows ca cb → SameRows cb cc → SameRows ca cc) := by
  refine ⟨⟨rfl, fun i _ => EqOn.refl _ _⟩, fun h => ?_, fun h1 h2 => ?_⟩
  · have := (equality_exact a b ca cb ga gb ha hb).1 h
    exact (equality_exact b a cb ca gb ga hb ha).2 ⟨this.1.symm, fun p => (this.2 p).symm⟩
  · have e1 := (equality_exact a b ca cb ga gb ha hb).1 h1
    have e2 := (equality_exact b c cb cc gb gc hb hc).1 h2
    exact (equality_exact a c ca cc ga gc ha hc).2 ⟨e1.1.trans e2.1, fun p => (e1.2 p).trans (e2.2 p)⟩

/-- **The fidelity takes values in `{0} ∪ {2^{-e} : e ≤ n}`**, is at most 1, and is 1 only for `e = 0` -/
theorem fidelity_value_set (a b : Tab) (r : Option Nat) (ga : (STab.ofTab a).Good) (gb : (STab.ofTab b).Good)
    (h : STab.innerProduct a b = .ok r) : r = none ∨ ∃ e, r = some e ∧ e ≤ a.n := by
  cases hr : r with
  | none => left; rfl
  | some e =>
    right
    rw [hr] at h
    exact ⟨e, rfl, (inner_product_exponent a b e ga gb h).1⟩


theorem half_pow_eq_one (e : Nat) (h : (1 / 2 : ℂ) ^ e = 1) : e = 0 := by
  cases e with
  | zero => rfl
  | succ k =>
    exfalso
    have h2 : (2 : ℂ) ^ (k + 1) = 1 := by
      have : (1 / 2 : ℂ) ^ (k + 1) * (2 : ℂ) ^ (k + 1) = 1 := by
        rw [← mul_pow]; norm_num
      rw [h, _root_.one_mul] at this
      exact this
    have h3 : ((2 ^ (k + 1) : ℕ) : ℂ) = ((1 : ℕ) : ℂ) := by push_cast; exact h2
    have h4 : 2 ^ (k + 1) = 1 := Nat.cast_injective h3
    have : 2 ^ (k + 1) ≥ 2 := by
      calc 2 ^ (k + 1) = 2 ^ k * 2 := pow_succ 2 k
        _ ≥ 1 * 2 := Nat.mul_le_mul_right 2 (Nat.one_le_two_pow)
    omega

/-- **Two valid tableaux describe the same density matrix iff their stabilizer halves generate the same signed group**
    (every n): the group-level semantics used throughout (C01, C02, C07, C08, C11) is *faithful* — equality of signed groups
    is exactly equality of states. -/
theorem same_density_matrix_iff_same_group (a b : Tab) (va : a.Valid) (vb : b.Valid) (hn : a.n = b.n) :
    Hilbert.rho a.n (STab.ofTab a) = Hilbert.rho a.n (STab.ofTab b) ↔
      ((STab.ofTab a).n = (STab.ofTab b).n ∧ ∀ p, (STab.ofTab a).Spn p ↔ (STab.ofTab b).Spn p) := by
  have ga := ofTab_good_of_valid a va
  have gb := ofTab_good_of_valid b vb
  constructor
  · intro h
    obtain ⟨r, hr⟩ := inner_product_returns a b ga gb (ofTab_indep a va) (ofTab_indep b vb) hn
    have ht := fidelity_is_state_overlap a b r ga gb hr
    have hid : Hilbert.rho a.n (STab.ofTab a) * Hilbert.rho a.n (STab.ofTab a) = Hilbert.rho a.n (STab.ofTab a) :=
      Hilbert.rho_idem _ ga
    rw [← h, hid, Hilbert.rho_ofTab_trace a va] at ht
    have hr0 : r = some 0 := by
      cases hr' : r with
      | none => rw [hr'] at ht; simp [Hilbert.ipVal] at ht
      | some e =>
        rw [hr'] at ht
        have : e = 0 := half_pow_eq_one e (by simpa [Hilbert.ipVal] using ht.symm)
        rw [this]
    exact (fidelity_one_iff a b r ga gb hr).1 hr0
  · intro h
    exact Hilbert.rho_spanEq _ _ ⟨h.1, fun p => (h.2 p).1, fun p => (h.2 p).2⟩ ga gb


/-- **… and the same for stabilizer tableaux** (`n` independent real commuting generators each): equal density matrices iff
    equal signed groups. -/
theorem same_state_iff_same_group (t t' : STab) (g : t.Good) (g' : t'.Good) (i : t.Indep) (i' : t'.Indep) (hn : t.n = t'.n) :
    Hilbert.rho t.n t = Hilbert.rho t.n t' ↔ (t.n = t'.n ∧ ∀ p, t.Spn p ↔ t'.Spn p) := by
  obtain ⟨T, _, n1, v1, _, s1⟩ := cliffordFromStabilizer_complete t g i
  obtain ⟨T', _, n2, v2, _, s2⟩ := cliffordFromStabilizer_complete t' g' i'
  have e1 : Hilbert.rho t.n (STab.ofTab T) = Hilbert.rho t.n t := by
    have := Hilbert.rho_spanEq (STab.ofTab T) t s1 (Hilbert.ofTab_good T v1) g
    have e : (STab.ofTab T).n = t.n := n1
    rw [e] at this; exact this
  have e2 : Hilbert.rho t.n (STab.ofTab T') = Hilbert.rho t.n t' := by
    have := Hilbert.rho_spanEq (STab.ofTab T') t' s2 (Hilbert.ofTab_good T' v2) g'
    have e : (STab.ofTab T').n = t.n := n2.trans hn.symm
    rw [e] at this; exact this
  have key := same_density_matrix_iff_same_group T T' v1 v2 (n1.trans (hn.trans n2.symm))
  rw [n1, e1, e2] at key
  rw [key]
  constructor
  · intro h
    have s : SpanEq t t' := (s1.symm.trans ⟨h.1, fun p => (h.2 p).1, fun p => (h.2 p).2⟩).trans s2
    exact ⟨s.n_eq, fun p => ⟨s.sub p, s.sup p⟩⟩
  · intro h
    have s : SpanEq (STab.ofTab T) (STab.ofTab T') := (s1.trans ⟨h.1, fun p => (h.2 p).1, fun p => (h.2 p).2⟩).trans s2.symm
    exact ⟨s.n_eq, fun p => ⟨s.sub p, s.sup p⟩⟩


/-! ### Non-vacuity -/
def bellMinus : STab :=   -- generators −XX, ZZ in the gauge (−XX·ZZ = YY, ZZ):  YY, ZZ
  STab.ofRows 2 #[
    PRow.ofArrays #[true,true] #[true,true] false false,
    PRow.ofArrays #[false,false] #[true,true] false false]

example : (match bellMinus.canonicalForm with | .ok c => c.n == 2 | .error _ => false) = true := by decide
example : (List.range 2).all (fun i => (bellMinus.row i).ip == false &&
    (List.range 2).all fun k => PRow.sp 2 (bellMinus.row i) (bellMinus.row k) == false) = true := by decide

/-- the same state from another generating set: −XX, ZZ -/
def bellMinusXX : STab :=
  STab.ofRows 2 #[
    PRow.ofArrays #[true,true] #[false,false] true false,
    PRow.ofArrays #[false,false] #[true,true] false false]

theorem bellMinus_good : bellMinus.Good := good_of_check _ (by decide)
theorem bellMinusXX_good : bellMinusXX.Good := good_of_check _ (by decide)

/-- `YY, ZZ` and `−XX, ZZ` generate the same signed group (`−XX = YY · ZZ`, `YY = −XX · ZZ`) -/
theorem bell_spanEq : SpanEq bellMinus bellMinusXX :=
  spanEq_of_masks _ _ rfl (fun i => if i = 0 then 3 else 2) (fun i => if i = 0 then 3 else 2) (by decide)

/-- the checker accepts a non-trivial tableau (−XX, ZZ) and rejects a non-reduced one (YY, ZZ) -/
example : bellMinusXX.isCanon = true ∧ bellMinus.isCanon = false := by decide

theorem canonicalForm_ok (t : STab) (h : t.canonLoops.2 = t.n) : t.canonicalForm = .ok t.canonLoops.1 :=
  (canonicalForm_ok_iff t _).2 ⟨h, rfl⟩

/-- the hypotheses of `canonical_form_is_normal_form` / `equality_exact` / `canon_shape_unique` /
    `canonical_form_returns_canon` are met by two *different* generating sets of one state on which `canonical_form`
    returns (so the conclusion `SameRows ca cb` is not the trivial reflexive one) -/
example : ∃ a b ca cb : STab, a.Good ∧ b.Good ∧ (a.n = b.n ∧ ∀ p, a.Spn p ↔ b.Spn p) ∧
    a.canonicalForm = .ok ca ∧ b.canonicalForm = .ok cb ∧ ¬ SameRows a b ∧
    STab.Canon ca ∧ STab.Canon cb ∧ ca.Good ∧ cb.Good ∧ SameRows ca cb := by
  have h1 := canonicalForm_ok bellMinus (by decide)
  have h2 := canonicalForm_ok bellMinusXX (by decide)
  have hs : bellMinus.n = bellMinusXX.n ∧ ∀ p, bellMinus.Spn p ↔ bellMinusXX.Spn p :=
    ⟨rfl, fun p => ⟨bell_spanEq.sub p, bell_spanEq.sup p⟩⟩
  refine ⟨bellMinus, bellMinusXX, _, _, bellMinus_good, bellMinusXX_good, hs, h1, h2, ?_,
    canonical_form_returns_canon _ _ h1, canonical_form_returns_canon _ _ h2,
    (canonicalForm_spanEq _ _ bellMinus_good h1).2, (canonicalForm_spanEq _ _ bellMinusXX_good h2).2,
    canonical_form_is_normal_form _ _ _ _ bellMinus_good bellMinusXX_good hs h1 h2⟩
  intro h
  have := (h.2 0 (by decide)).2.1
  revert this
  decide

/-! ### Non-vacuity of the fidelity theorems -/

/-- Clifford tableaux (destabilizers X_i resp. Z_i) of (XX, ZZ), (−XX, ZZ) and (Z_0, Z_1) -/
def bellPlusTab : Tab := Tab.ofRows 2 #[PRow.Zq 0, PRow.Xq 1,
    PRow.ofArrays #[true,true] #[false,false] false false,
    PRow.ofArrays #[false,false] #[true,true] false false]
def bellMinusTab : Tab := Tab.ofRows 2 #[PRow.Zq 0, PRow.Xq 1,
    PRow.ofArrays #[true,true] #[false,false] true false,
    PRow.ofArrays #[false,false] #[true,true] false false]
def ket00Tab : Tab := Tab.ofRows 2 #[PRow.Xq 0, PRow.Xq 1,
    PRow.ofArrays #[false,false] #[true,false] false false,
    PRow.ofArrays #[false,false] #[false,true] false false]

/-- the pair `inverse_circuit` returns (the input with an empty list where it raises) -/
def invOut (t : STab) : STab × List Gate :=
  match t.inverseCircuit with
  | .ok p => p
  | .error _ => (t, [])

theorem invOut_of_ok (t : STab) (p : STab × List Gate) (h : t.inverseCircuit = .ok p) : invOut t = p := by
  unfold invOut
  rw [h]

theorem inverseCircuit_ok (t : STab)
    (h : (match t.inverseCircuit with | .ok _ => true | .error _ => false) = true) :
    t.inverseCircuit = .ok ((invOut t).1, (invOut t).2) := by
  unfold invOut
  cases hx : t.inverseCircuit with
  | error e => rw [hx] at h; cases h
  | ok p => rfl

theorem bellPlus_good : (STab.ofTab bellPlusTab).Good := good_of_check _ (by decide)
theorem bellMinusTab_good : (STab.ofTab bellMinusTab).Good := good_of_check _ (by decide)
theorem ket00_good : (STab.ofTab ket00Tab).Good := good_of_check _ (by decide)

theorem bellPlus_valid : bellPlusTab.Valid := (Tab.isSymplectic_iff _).1 (by decide)
theorem bellMinusTab_valid : bellMinusTab.Valid := (Tab.isSymplectic_iff _).1 (by decide)
theorem ket00_valid : ket00Tab.Valid := (Tab.isSymplectic_iff _).1 (by decide)

/-- the three kinds of result of `inner_product`, each evaluated once: orthogonal, overlap `1/√2`, equal -/
theorem ip_bellPlus_bellMinus : STab.innerProduct bellPlusTab bellMinusTab = .ok none := ok_of_check _ _ (by decide +kernel)
theorem ip_bellPlus_ket00 : STab.innerProduct bellPlusTab ket00Tab = .ok (some 1) := ok_of_check _ _ (by decide +kernel)
theorem ip_bellPlus_self : STab.innerProduct bellPlusTab bellPlusTab = .ok (some 0) := ok_of_check _ _ (by decide +kernel)

/-- the hypotheses of the fidelity theorems are met by concrete pairs, with all three kinds of result:
    Φ⁺ against Φ⁻ (orthogonal: result 0), Φ⁺ against |00⟩ (overlap 1/√2: `some 1`), Φ⁺ against itself (`some 0`);
    the syntheses of Φ⁺ and of |00⟩ reach |0…0⟩ -/
example : ∃ s1 circ, (STab.ofTab bellPlusTab).Good ∧ (STab.ofTab bellMinusTab).Good ∧ (STab.ofTab ket00Tab).Good ∧
    (STab.ofTab bellPlusTab).inverseCircuit = .ok (s1, circ) ∧ s1.isZero = true ∧ 0 < circ.length ∧
    STab.innerProduct bellPlusTab bellMinusTab = .ok none ∧
    STab.innerProduct bellPlusTab ket00Tab = .ok (some 1) ∧
    STab.innerProduct bellPlusTab bellPlusTab = .ok (some 0) := by
  have h := inverseCircuit_ok (STab.ofTab bellPlusTab) (by decide +kernel)
  exact ⟨_, _, bellPlus_good, bellMinusTab_good, ket00_good, h, inverseCircuit_isZero _ _ _ bellPlus_good h,
    by decide +kernel, ip_bellPlus_bellMinus, ip_bellPlus_ket00, ip_bellPlus_self⟩

/-- … and in the other argument order (hypotheses of `fidelity_symmetric`) -/
example : ∃ s1 circ, (STab.ofTab ket00Tab).inverseCircuit = .ok (s1, circ) ∧ s1.isZero = true ∧
    STab.innerProduct ket00Tab bellPlusTab = .ok (some 1) := by
  have h := inverseCircuit_ok (STab.ofTab ket00Tab) (by decide +kernel)
  exact ⟨_, _, h, inverseCircuit_isZero _ _ _ ket00_good h, ok_of_check _ _ (by decide +kernel)⟩

/-- so the two groups of Φ⁺ and Φ⁻ do contain a Pauli with opposite signs (here `XX` and `−XX`), and those of Φ⁺ and
    |00⟩ share a subgroup of rank 1 (generated by `ZZ`) — consequences of the theorems, not evaluations -/
example : Orth (STab.ofTab bellPlusTab) (STab.ofTab bellMinusTab) ∧ OverlapDim (STab.ofTab bellPlusTab) (STab.ofTab ket00Tab) 1 := by
  exact ⟨(inner_product_zero_iff _ _ _ bellPlus_good bellMinusTab_good ip_bellPlus_bellMinus).1 rfl,
    (inner_product_exponent _ _ 1 bellPlus_good ket00_good ip_bellPlus_ket00).2.2⟩

/-- the hypotheses of `inner_product_returns` / `fidelity_self_returns`: Φ⁺, Φ⁻ and |00⟩ are independent generating sets —
    derived (`STab.indep_of_pivots`) from the fact that the assert of `canonical_form` passes on them, not assumed -/
theorem bell_indep : (STab.ofTab bellPlusTab).Indep ∧ (STab.ofTab bellMinusTab).Indep ∧ (STab.ofTab ket00Tab).Indep :=
  ⟨indep_of_pivots _ bellPlus_good (by decide +kernel), indep_of_pivots _ bellMinusTab_good (by decide +kernel),
   indep_of_pivots _ ket00_good (by decide +kernel)⟩

example : ∃ r, STab.innerProduct bellPlusTab ket00Tab = .ok r :=
  inner_product_returns _ _ bellPlus_good ket00_good bell_indep.1 bell_indep.2.2 rfl

/-- the hypotheses of `fidelity_is_state_overlap_of_valid` are met by Φ⁺ and |00⟩ (valid Clifford tableaux); the theorem
    gives `tr(ρ_{Φ⁺} ρ_{00}) = 1/2` and `tr(ρ_{Φ⁺} ρ_{Φ⁻}) = 0` -/
example : bellPlusTab.Valid ∧ ket00Tab.Valid ∧
    Matrix.trace (Hilbert.rho 2 (STab.ofTab bellPlusTab) * Hilbert.rho 2 (STab.ofTab ket00Tab)) = 1 / 2 ∧
    Matrix.trace (Hilbert.rho 2 (STab.ofTab bellPlusTab) * Hilbert.rho 2 (STab.ofTab bellMinusTab)) = 0 := by
  refine ⟨bellPlus_valid, ket00_valid, ?_, ?_⟩
  · have h := (fidelity_is_state_overlap_of_valid bellPlusTab ket00Tab (some 1) bellPlus_valid ket00_valid
      ip_bellPlus_ket00).1
    have e : Hilbert.ipVal (some 1) = 1 / 2 := by simp [Hilbert.ipVal]
    rw [e] at h; exact h
  · exact (fidelity_is_state_overlap_of_valid bellPlusTab bellMinusTab none bellPlus_valid bellMinusTab_valid
      ip_bellPlus_bellMinus).1

/-- the hypotheses of `fidelity_on_valid_tableaux` are met by Φ⁺ and |00⟩ -/
example : bellPlusTab.Valid ∧ ket00Tab.Valid ∧ bellPlusTab.n = ket00Tab.n :=
  ⟨bellPlus_valid, ket00_valid, rfl⟩

/-- the hypotheses of `overlap_spec_count_exact` are met by Φ⁺ against |00⟩ (rank 1 from `inner_product_exponent`): the
    theorem gives the count `2^1`, which is what the executable specification evaluates to -/
example : (STab.ofTab bellPlusTab).commonCount (STab.ofTab ket00Tab) = 2 ^ 1 := by
  have hd : OverlapDim (STab.ofTab bellPlusTab) (STab.ofTab ket00Tab) 1 :=
    (inner_product_exponent bellPlusTab ket00Tab 1 bellPlus_good ket00_good ip_bellPlus_ket00).2.2
  exact overlap_spec_count_exact (STab.ofTab bellPlusTab) (STab.ofTab ket00Tab) bellPlus_good ket00_good bell_indep.1 rfl 1 hd

/-- `overlap_spec_checker_exact` here evaluates to: orthogonal, two common elements with |00⟩ -/
example : (STab.ofTab bellPlusTab).orthB (STab.ofTab bellMinusTab) = true ∧
    (STab.ofTab bellPlusTab).commonCount (STab.ofTab ket00Tab) = 2 :=
  ⟨by decide +kernel, by decide +kernel⟩

/-- Φ⁻ in the other gauge `YY, ZZ`, with other destabilizers -/
def bellMinusYYTab : Tab := Tab.ofRows 2 #[PRow.Xq 0, PRow.Zq 1,
    PRow.ofArrays #[true,true] #[true,true] false false,
    PRow.ofArrays #[false,false] #[true,true] false false]

/-- the hypotheses of `fidelity_presentation_independent` are met by two different presentations of Φ⁻ (against |00⟩);
    both calls return the same value, as the theorem says -/
example : ∃ r r', (STab.ofTab bellMinusTab).Good ∧ (STab.ofTab bellMinusYYTab).Good ∧
    SpanEq (STab.ofTab bellMinusTab) (STab.ofTab bellMinusYYTab) ∧
    STab.innerProduct bellMinusTab ket00Tab = .ok r ∧ STab.innerProduct bellMinusYYTab ket00Tab = .ok r' ∧ r = r' := by
  have g1 := bellMinusTab_good
  have g2 : (STab.ofTab bellMinusYYTab).Good := good_of_check _ (by decide)
  have g3 := ket00_good
  have s : SpanEq (STab.ofTab bellMinusTab) (STab.ofTab bellMinusYYTab) :=
    spanEq_of_masks _ _ rfl (fun i => if i = 0 then 3 else 2) (fun i => if i = 0 then 3 else 2) (by decide)
  have h1 : STab.innerProduct bellMinusTab ket00Tab = .ok (some 1) := ok_of_check _ _ (by decide +kernel)
  have h2 : STab.innerProduct bellMinusYYTab ket00Tab = .ok (some 1) := ok_of_check _ _ (by decide +kernel)
  exact ⟨_, _, g1, g2, s, h1, h2,
    fidelity_presentation_independent _ _ _ _ _ _ g1 g3 g2 g3 s (SpanEq.refl _) h1 h2⟩

/-- **The fidelity is invariant under applying the same Clifford circuit to both states** (every n, every well-formed gate
    list `c` of `run_circuit`): `fidelity(c·a, c·b) = fidelity(a, b)`. -/
theorem fidelity_circuit_invariant (a b : Tab) (c : List Gate) (hc : ∀ g, g ∈ c → g.WF a.n) (hn : b.n = a.n)
    (ga : (STab.ofTab a).Good) (gb : (STab.ofTab b).Good) (r r' : Option Nat)
    (h : STab.innerProduct a b = .ok r) (h' : STab.innerProduct (a.runCircuit c) (b.runCircuit c) = .ok r') : r = r' :=
  innerProduct_circuit_invariant a b c hc hn ga gb r r' h h'

/-- the hypotheses of `fidelity_circuit_invariant` are met by Φ⁺, |00⟩ and the list `H₀, CNOT₀₁, P₁`; both calls return
    the same value, as the theorem says -/
example : (∀ g, g ∈ [Gate.H 0, Gate.CNOT 0 1, Gate.P 1] → g.WF bellPlusTab.n) ∧
    STab.innerProduct bellPlusTab ket00Tab = .ok (some 1) ∧
    STab.innerProduct (bellPlusTab.runCircuit [Gate.H 0, Gate.CNOT 0 1, Gate.P 1])
      (ket00Tab.runCircuit [Gate.H 0, Gate.CNOT 0 1, Gate.P 1]) = .ok (some 1) := by
  refine ⟨?_, ip_bellPlus_ket00, ok_of_check _ _ (by decide +kernel)⟩
  intro g hg
  simp only [List.mem_cons, List.mem_nil_iff, or_false] at hg
  rcases hg with rfl | rfl | rfl
  · show 0 < 2; decide
  · show 0 < 2 ∧ 1 < 2 ∧ 0 ≠ 1; decide
  · show 1 < 2; decide

/-- **Infidelity of a branched mixed stabilizer state against a pure target** (`graphiq.metrics.Infidelity.evaluate`, every n,
    every finite mixture): the fidelity it forms, `Σ_i p_i · fidelity(T_t, T_i)`, is the overlap `tr(ρ_t · Σ_i p_i ρ_i)` of the
    target with the mixed density matrix (entries of the list: weight `p_i`, tableau `T_i`, and the value `r_i` reported by
    `inner_product(T_t, T_i)`). -/
theorem mixture_fidelity_is_state_overlap (a : Tab) (ga : (STab.ofTab a).Good) (l : List (ℂ × Tab × Option Nat))
    (h : ∀ x, x ∈ l → (STab.ofTab x.2.1).Good ∧ STab.innerProduct a x.2.1 = .ok x.2.2) :
    Matrix.trace (Hilbert.rho a.n (STab.ofTab a) * (l.map fun x => x.1 • Hilbert.rho a.n (STab.ofTab x.2.1)).sum)
      = (l.map fun x => x.1 * Hilbert.ipVal x.2.2).sum :=
  Hilbert.mixture_trace a ga l h

/-- the hypothesis is met by the mixture {¼: Φ⁻, ¾: |00⟩} against the target Φ⁺ -/
example : ∀ x, x ∈ [((1 / 4 : ℂ), bellMinusTab, (none : Option Nat)), ((3 / 4 : ℂ), ket00Tab, some 1)] →
    (STab.ofTab x.2.1).Good ∧ STab.innerProduct bellPlusTab x.2.1 = .ok x.2.2 := by
  intro x hx
  simp only [List.mem_cons, List.mem_nil_iff, or_false] at hx
  rcases hx with rfl | rfl
  · exact ⟨bellMinusTab_good, ip_bellPlus_bellMinus⟩
  · exact ⟨ket00_good, ip_bellPlus_ket00⟩

/-- the witness of the repaired defect D42 (`C11.d42`: −XIYXI, −IXXZZ, IIZZX, −ZIIZI, IZZZI) as a Clifford tableau
    (the destabilizer half is not read by `inner_product` on its first argument) -/
def d42Tab : Tab := Tab.ofRows 5 #[PRow.one, PRow.one, PRow.one, PRow.one, PRow.one,
    PRow.ofArrays #[true,false,true,true,false] #[false,false,true,false,false] true false,
    PRow.ofArrays #[false,true,true,false,false] #[false,false,false,true,true] true false,
    PRow.ofArrays #[false,false,false,false,true] #[false,false,true,true,false] false false,
    PRow.ofArrays #[false,false,false,false,false] #[true,false,false,true,false] true false,
    PRow.ofArrays #[false,false,false,false,false] #[false,true,true,true,false] false false]

/-- **Regression for D42**: on the 5-qubit state for which `inverse_circuit` (before graphiq commit 74abae4) did not reach
    |0…0⟩ and `inner_product` reported `2^{-1/2}` (fidelity 1/2) for the state with itself, the repaired synthesis reaches
    |0…0⟩ and the fidelity of the state with itself is 1 — `inverseCircuit_complete` and `fidelity_self_returns` at the
    witness, whose hypotheses (real, commuting, independent) are kernel-checked. -/
theorem d42_witness_now_synthesised :
    (STab.ofTab d42Tab).Good ∧ (invOut (STab.ofTab d42Tab)).1.isZero = true ∧
    STab.innerProduct d42Tab d42Tab = .ok (some 0) := by
  have hg : (STab.ofTab d42Tab).Good := good_of_check _ (by decide +kernel)
  have hi : (STab.ofTab d42Tab).Indep := indep_of_pivots _ hg (by decide +kernel)
  obtain ⟨t', circ, h, hz⟩ := inverseCircuit_complete _ hg hi
  refine ⟨hg, ?_, fidelity_self_returns d42Tab hg hi⟩
  rw [invOut_of_ok _ _ h]
  exact hz

/-! ## Cross-references (sweep): C05 and C07 on "same state ⇔ same group" and on the overlap

  `same_density_matrix_iff_same_group` (this file: via the `inner_product` algorithm, valid tableaux, criterion `Spn`) and
  `C07.stabilizer_state_determines_group` (via Pauli expectation values, valid tableaux with real stabilizer rows, criterion
  `Grp`) are the same theorem: the two criteria coincide (`Sweep.grp_criterion_iff_spn_criterion`), and C07's proof gives this
  file's statement on its domain.  `fidelity_is_squared_inner_product` (`z · conj z`) and `C07.stabilizer_state_overlap`
  (`|z|²`) state the overlap in two notations (`Sweep.normSq_forms`). -/

/-- C07's criterion (`Grp`: groups generated by the stabilizer rows) and C05's (`Spn`: spans of the stabilizer halves) agree
    for tableaux with real stabilizer rows -/
theorem same_group_criteria_agree (a b : Tab) (ra : a.StabReal) (rb : b.StabReal) :
    (∀ P, TabSpec.Grp a P ↔ TabSpec.Grp b P) ↔ (∀ p, (STab.ofTab a).Spn p ↔ (STab.ofTab b).Spn p) :=
  Sweep.grp_criterion_iff_spn_criterion a b ra rb

/-- `same_density_matrix_iff_same_group`, second proof (C07's route through Pauli expectation values) on tableaux with real
    stabilizer rows -/
theorem same_density_matrix_iff_same_group_by_expectations (a b : Tab) (hn : a.n = b.n) (va : a.Valid) (ra : a.StabReal)
    (vb : b.Valid) (rb : b.StabReal) :
    Hilbert.rho a.n (STab.ofTab a) = Hilbert.rho a.n (STab.ofTab b) ↔
      ∀ p, (STab.ofTab a).Spn p ↔ (STab.ofTab b).Spn p :=
  Sweep.same_state_iff_same_span_of_expectations a b hn va ra vb rb

/-- the squared modulus in the two notations -/
theorem squared_inner_product_is_normSq (z : ℂ) : z * star z = ((Complex.normSq z : ℝ) : ℂ) := Sweep.normSq_forms z

/-- **the value `inner_product` reports is the executable specification** (`Model/OverlapSpec.lean`, the quantity the harness
    compares with graphiq's `fidelity`): C05's and C07's Hilbert-space theorems about `tr(ρ_a ρ_b)` combined, for valid
    tableaux with real stabilizer rows -/
theorem reported_value_is_the_overlap_specification (a b : Tab) (r : Option Nat) (hn : a.n = b.n) (va : a.Valid)
    (ra : a.StabReal) (vb : b.Valid) (rb : b.StabReal) (h : STab.innerProduct a b = .ok r) :
    (Orth (STab.ofTab a) (STab.ofTab b) → Hilbert.ipVal r = 0) ∧
    (¬ Orth (STab.ofTab a) (STab.ofTab b) →
      Hilbert.ipVal r = ((STab.ofTab a).commonCount (STab.ofTab b) : ℂ) / 2 ^ b.n) ∧
    (∀ d, ¬ Orth (STab.ofTab a) (STab.ofTab b) → OverlapDim (STab.ofTab a) (STab.ofTab b) d →
      Hilbert.ipVal r = (1 / 2 : ℂ) ^ (b.n - d)) :=
  Sweep.reported_value_is_spec_overlap a b r hn va ra vb rb h

/-- the hypotheses of the cross-reference theorems are met by `|00⟩`: valid, real stabilizer rows, and `inner_product` returns -/
example : (Tab.ket0 2).Valid ∧ (Tab.ket0 2).StabReal ∧ STab.innerProduct (Tab.ket0 2) (Tab.ket0 2) = .ok (some 0) :=
  ⟨(Tab.isSymplectic_iff _).mp (by decide), Hilbert.ket0_stabReal 2, by decide +kernel⟩

end Graphiq.C05
