/-
  Proofs/HilbertDimHistory.lean — the density-matrix semantics `dOp` of the calls of `Tab.Op` (`tensor` is in
  HilbertDimProg, the extended calls `Tab.OpX` in HilbertDimMeasXY), and for each primitive of the API
  (gate, swap, Z measurement, reset, insertion, removal, `norm`) the refinement lemma: the density matrix of the tableau after
  the call is the quantum operation of that call applied to the density matrix before it (all sizes, all outcome scripts).
  `rho_tab_circ`: a list of gates applied to a tableau is conjugation by the product of their unitaries.

  `DState` = (number of qubits, matrix on that many qubits).  The operations:
  gates and swap `ρ ↦ U ρ U†`; Z-measurement with a forced / drawn outcome `o` — the outcome that occurs is `o` unless it
  has probability `tr(Π_o ρ) = 0`, then it is `¬o`; the state becomes `Π ρ Π / tr(Π ρ)`; reset = measurement, then `X_q` iff
  the outcome is not the intended state; insertion `ρ ↦ ρ ⊗_p |0⟩⟨0|`; removal = measurement, then partial trace over the
  qubit; partial trace = removals, highest index first, a drawn outcome being consumed only by a random measurement.
-/
import GraphiqModel.Proofs.HilbertDimOps
import GraphiqModel.Proofs.HilbertTab
namespace Graphiq
namespace Hilbert
open Matrix PRow TabSpec Tab

structure DState where
  n : Nat
  ρ : Matrix (Bits n) (Bits n) ℂ

/-- the state described by (the stabilizer half of) a Clifford tableau -/
noncomputable def dstate (t : Tab) : DState := ⟨t.n, rho t.n (STab.ofTab t)⟩

theorem dstate_eq (t : Tab) (m : Nat) (h : t.n = m) : dstate t = ⟨m, rho m (STab.ofTab t)⟩ := by
  subst h; rfl

/-! ### the quantum operations -/

noncomputable def dConj (U : (n : Nat) → Matrix (Bits n) (Bits n) ℂ) (s : DState) : DState :=
  ⟨s.n, U s.n * s.ρ * (U s.n)ᴴ⟩

open Classical in
/-- the outcome of a Z-measurement of qubit `q` with forced / drawn outcome `o`: it is `o` unless `o` has probability 0 -/
noncomputable def measOutcome (n q : Nat) (o : Bool) (ρ : Matrix (Bits n) (Bits n) ℂ) : Bool :=
  if Matrix.trace (proj n (Zq q o) * ρ) = 0 then !o else o

/-- the normalised post-measurement state `Π ρ Π / tr(Π ρ)` for the outcome that occurs -/
noncomputable def postMeas (n q : Nat) (o : Bool) (ρ : Matrix (Bits n) (Bits n) ℂ) : Matrix (Bits n) (Bits n) ℂ :=
  (Matrix.trace (proj n (Zq q (measOutcome n q o ρ)) * ρ))⁻¹ •
    (proj n (Zq q (measOutcome n q o ρ)) * ρ * proj n (Zq q (measOutcome n q o ρ)))

noncomputable def dMeas (q : Nat) (o : Bool) (s : DState) : DState := ⟨s.n, postMeas s.n q o s.ρ⟩

noncomputable def dResetZ (q : Nat) (i o : Bool) (s : DState) : DState :=
  if measOutcome s.n q o s.ρ = i then dMeas q o s else dConj (fun n => gateMat n (.X q)) (dMeas q o s)

noncomputable def dInsert (p : Nat) (s : DState) : DState := ⟨s.n + 1, insSite p s.ρ (ketbra false)⟩

noncomputable def dRemove (q : Nat) (o : Bool) : DState → DState
  | ⟨0, ρ⟩ => ⟨0, ρ⟩
  | ⟨m + 1, ρ⟩ => ⟨m, ptraceSite q (postMeas (m + 1) q o ρ)⟩

def dRandom (q : Nat) (s : DState) : Prop :=
  Matrix.trace (proj s.n (Zq q false) * s.ρ) ≠ 0 ∧ Matrix.trace (proj s.n (Zq q true) * s.ρ) ≠ 0

open Classical in
noncomputable def dPtraceGo : List Nat → List Bool → DState → DState
  | [], _, s => s
  | q :: rest, os, s => dPtraceGo rest (if dRandom q s then os.tail else os) (dRemove q (os.headD false) s)

noncomputable def dPtrace (keep : List Nat) (os : List Bool) (s : DState) : DState :=
  dPtraceGo (removalList s.n keep) os s

/-- **density-matrix semantics of one API call** (the outcome scripts are part of `Op`) -/
noncomputable def dOp : Tab.Op → DState → DState
  | .h q, s => dConj (fun n => gateMat n (.H q)) s
  | .s q, s => dConj (fun n => gateMat n (.P q)) s
  | .sdg q, s => dConj (fun n => gateMat n (.Pdag q)) s
  | .x q, s => dConj (fun n => gateMat n (.X q)) s
  | .y q, s => dConj (fun n => gateMat n (.Y q)) s
  | .z q, s => dConj (fun n => gateMat n (.Z q)) s
  | .cnot c t, s => dConj (fun n => gateMat n (.CNOT c t)) s
  | .cz c t, s => dConj (fun n => gateMat n (.CZ c t)) s
  | .swap a b, s => dConj (fun n => swapMat n a b) s
  | .meas q o, s => dMeas q o s
  | .resetZ q i o, s => dResetZ q i o s
  | .resetX q i o, s => dConj (fun n => gateMat n (.H q)) (dResetZ q i o s)
  | .resetY q i o, s => dConj (fun n => gateMat n (.P q)) (dConj (fun n => gateMat n (.H q)) (dResetZ q i o s))
  | .insert p, s => dInsert p s
  | .add, s => dInsert s.n s
  | .remove q o, s => dRemove q o s
  | .ptrace keep os, s => dPtrace keep os s

noncomputable def dOps : List Tab.Op → DState → DState
  | [], s => s
  | op :: rest, s => dOps rest (dOp op s)

/-- **a gate list on a tableau is conjugation by its unitary** (`t.map g.act` is `hGate`, `sGate`, …, `czGate` by definition;
    first gate first) -/
theorem rho_tab_circ (n : Nat) (c : List Gate) : ∀ t : Tab, t.n = n → (∀ g ∈ c, g.WF n) →
    rho n (STab.ofTab (c.foldl (fun t g => t.map g.act) t)) = circMat n c * rho n (STab.ofTab t) * (circMat n c)ᴴ := by
  induction c with
  | nil =>
    intro t _ _
    show _ = 1 * rho n (STab.ofTab t) * 1ᴴ
    rw [Matrix.conjTranspose_one, Matrix.one_mul, Matrix.mul_one]
    rfl
  | cons g c ih =>
    intro t hn hc
    subst hn
    show rho t.n (STab.ofTab (c.foldl (fun t g => t.map g.act) (t.map g.act)))
      = (circMat t.n c * gateMat t.n g) * rho t.n (STab.ofTab t) * (circMat t.n c * gateMat t.n g)ᴴ
    rw [ih (t.map g.act) rfl (fun g' h => hc g' (List.mem_cons_of_mem _ h)), ← conj_conj,
      rho_tab_gate t g (hc g List.mem_cons_self)]

/-! ### refinement, one primitive at a time -/

theorem gate_tracks_density (t : Tab) (g : Gate) (hg : g.WF t.n) :
    dstate (t.map g.act) = dConj (fun n => gateMat n g) (dstate t) := by
  exact congrArg (DState.mk t.n) (rho_tab_gate t g hg).symm

theorem swap_tracks_density (t : Tab) (a b : Nat) (ha : a < t.n) (hb : b < t.n) :
    dstate (t.swapGate a b) = dConj (fun n => swapMat n a b) (dstate t) := by
  exact congrArg (DState.mk t.n) (rho_tab_swap t a b ha hb).symm

/-- **Z-measurement on density matrices**: the outcome reported by `z_measurement_gate` is the outcome that occurs
    (the forced one unless it has probability 0) and the new tableau is the normalised post-measurement state -/
theorem meas_density (t : Tab) (q : Nat) (o : Bool) (hq : q < t.n) (hv : t.Valid) (hr : t.StabReal) :
    measOutcome t.n q o (rho t.n (STab.ofTab t)) = (t.zMeasure q o).2.1 ∧
    postMeas t.n q o (rho t.n (STab.ofTab t)) = rho t.n (STab.ofTab (t.zMeasure q o).1) ∧
    (dRandom q (dstate t) ↔ (t.pivot q).isSome = true) := by
  cases hp : t.pivot q with
  | some p =>
    obtain ⟨h1, h2, h3⟩ := pivot_spec t q p hp
    have e := zMeasure_random_eq t q p o hp
    have pr : ∀ o', Matrix.trace (proj t.n (Zq q o') * rho t.n (STab.ofTab t)) = 1 / 2 := by
      intro o'
      rw [← trace_proj_sandwich t.n (Zq q o') rfl]
      exact measRandom_prob t hv hr q p o' hq h1 h2 h3
    have ho : measOutcome t.n q o (rho t.n (STab.ofTab t)) = o := by
      unfold measOutcome
      rw [pr o, if_neg (by norm_num)]
    refine ⟨by rw [ho, e], ?_, ?_⟩
    · unfold postMeas
      rw [ho, pr o, measRandom_state t hv hr q p o hq h1 h2 h3, e, smul_smul]
      norm_num
    · constructor
      · intro _; rfl
      · intro _
        exact ⟨by show Matrix.trace (proj t.n (Zq q false) * rho t.n (STab.ofTab t)) ≠ 0; rw [pr]; norm_num,
          by show Matrix.trace (proj t.n (Zq q true) * rho t.n (STab.ofTab t)) ≠ 0; rw [pr]; norm_num⟩
  | none =>
    have e := zMeasure_det_eq t q o hp
    obtain ⟨d1, d2, d3⟩ := measDet_state t hv hr q hq hp
    have d4 : proj t.n (Zq q (t.measScratch q).r) * rho t.n (STab.ofTab t) = rho t.n (STab.ofTab t) :=
      proj_mul_of_fixed t.n _ _ d1
    have tr1 := rho_ofTab_trace t hv
    have ho : measOutcome t.n q o (rho t.n (STab.ofTab t)) = (t.measScratch q).r := by
      unfold measOutcome
      by_cases hos : o = (t.measScratch q).r
      · rw [hos, d4, tr1, if_neg (by norm_num)]
      · have : o = !(t.measScratch q).r := by
          revert hos; cases o <;> cases (t.measScratch q).r <;> simp
        rw [this, d3, Matrix.trace_zero, if_pos rfl]
        simp
    refine ⟨by rw [ho, e], ?_, ?_⟩
    · unfold postMeas
      rw [ho, d2, d4, tr1, e]
      simp
    · constructor
      · intro hrand
        exfalso
        have h0 : Matrix.trace (proj t.n (Zq q (!(t.measScratch q).r)) * rho t.n (STab.ofTab t)) = 0 := by
          rw [d3, Matrix.trace_zero]
        cases hs : (t.measScratch q).r
        · rw [hs] at h0; exact hrand.2 h0
        · rw [hs] at h0; exact hrand.1 h0
      · intro h; cases h

theorem meas_tracks_density (t : Tab) (q : Nat) (o : Bool) (hq : q < t.n) (hv : t.Valid) (hr : t.StabReal) :
    dstate (t.zMeasure q o).1 = dMeas q o (dstate t) := by
  rw [dstate_eq _ t.n (zMeasure_n t q o)]
  exact congrArg (DState.mk t.n) (meas_density t q o hq hv hr).2.1.symm

theorem resetZ_tracks_density (t : Tab) (q : Nat) (i o : Bool) (hq : q < t.n) (hv : t.Valid) (hr : t.StabReal) :
    dstate (t.resetZ q i o) = dResetZ q i o (dstate t) := by
  rw [resetZ_eq t q i o hr]
  unfold dResetZ
  have ho : measOutcome (dstate t).n q o (dstate t).ρ = (t.zMeasure q o).2.1 := (meas_density t q o hq hv hr).1
  rw [ho]
  by_cases h : (t.zMeasure q o).2.1 = i
  · rw [if_pos h, if_pos h]; exact meas_tracks_density t q o hq hv hr
  · rw [if_neg h, if_neg h, ← meas_tracks_density t q o hq hv hr]
    exact gate_tracks_density (t.zMeasure q o).1 (.X q) (by show q < _; rw [zMeasure_n]; exact hq)

theorem insert_tracks_density (t : Tab) (p : Nat) (hp : p ≤ t.n) (hv : t.Valid) (hr : t.StabReal) :
    dstate (t.insertQubit p) = dInsert p (dstate t) := by
  exact congrArg (DState.mk (t.n + 1)) (rho_insertQubit t p hp hv hr)

theorem remove_tracks_density (t t' : Tab) (q : Nat) (o : Bool) (hq : q < t.n) (hv : t.Valid) (hr : t.StabReal)
    (h : t.removeQubit q o = .ok t') : dstate t' = dRemove q o (dstate t) := by
  obtain ⟨m, hm⟩ : ∃ m, t.n = m + 1 := ⟨t.n - 1, by omega⟩
  have hn' := (rho_removeQubit_measured m t t' q o hm hq hv hr h).1
  have e := rho_removeQubit m t t' q o hm hq hv hr h
  have pm := (meas_density t q o hq hv hr).2.1
  rw [dstate_eq t' m hn', dstate_eq t (m + 1) hm]
  rw [hm] at pm
  exact congrArg (DState.mk m) (e.trans (congrArg (ptraceSite q) pm.symm))

theorem norm_tracks_density (t : Tab) : dstate t.norm = dstate t := by
  exact congrArg (DState.mk t.n) (rho_ofTab_norm t)

end Hilbert
end Graphiq
