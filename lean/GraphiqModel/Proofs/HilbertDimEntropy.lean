/-
  Proofs/HilbertDimEntropy.lean — the dimension in the height function of C03 is an entanglement entropy in Hilbert space.

  For the cut `{0..k} | {k+1..n-1}` of a valid tableau, `κ = dim_GF(2) (G ∩ {supported right of k})` (Mathlib `finrank`, the
  quantity of `height_is_entropy_value`) is the rank of a local basis in the sense of `IsLocalBasis`; hence the reduced state of
  the right part is `2^κ/2^m` times a projector (`m = n-k-1`) and its purity is `2^{-(m-κ)}`:
  the entry `m − κ` of the height function is the (Rényi-2 = von Neumann, flat spectrum) entanglement entropy of the cut.
-/
import GraphiqModel.Proofs.TabSpecHistory
import GraphiqModel.Proofs.HilbertDimReduced
import GraphiqModel.Proofs.HeightEntropy
import GraphiqModel.Proofs.InvClifford
import GraphiqModel.Proofs.HeightTotal
namespace Graphiq
namespace Hilbert
open Matrix PRow TabSpec Tab STab Module

theorem vec_sprod (n : Nat) (rows : Nat → PRow) (S : Nat → Bool) (m : Nat) :
    (sprod n rows S m).vec n = ∑ i ∈ Finset.range m, Graphiq.b2z (S i) • (rows i).vec n := by
  induction m with
  | zero => simp [sprod, PRow.vec_one]
  | succ k ih =>
    rw [Finset.sum_range_succ, ← ih]
    simp only [sprod]
    cases S k
    · simp [Graphiq.b2z]
    · simp only [cond_true, PRow.vec_mul, Graphiq.b2z, if_true, one_smul]
      rw [add_comm]

theorem vec_eq_zero_of_eqOn_one (n : Nat) (g : PRow) (h : EqOn n g PRow.one) : g.vec n = 0 := by
  rw [PRow.vec_congr n g PRow.one h.1, PRow.vec_one]

/-- sites `k, k-1, …, 0` (the left part of the cut, highest first) -/
def leftSites (k : Nat) : List Nat := (List.range (k + 1)).reverse

theorem leftSites_length (k : Nat) : (leftSites k).length = k + 1 := by simp [leftSites]
theorem mem_leftSites (k q : Nat) : q ∈ leftSites k ↔ q ≤ k := by
  simp [leftSites]
theorem leftSites_desc (k : Nat) : (leftSites k).Pairwise (· > ·) := by
  unfold leftSites
  rw [List.pairwise_reverse]
  exact List.pairwise_lt_range

theorem exists_sprod_of_mem_gspace (A : STab) (v : PVec A.n) (hv : v ∈ A.gspace) :
    ∃ S : Nat → Bool, (sprod A.n A.row S A.n).vec A.n = v := by
  obtain ⟨cf, rfl⟩ := (Submodule.mem_span_range_iff_exists_fun (ZMod 2)).1 hv
  refine ⟨selOf cf, ?_⟩
  funext j
  rw [lincomb_apply A.n A.row cf j]
  show (Graphiq.b2z ((sprod A.n A.row (selOf cf) A.n).x j), Graphiq.b2z ((sprod A.n A.row (selOf cf) A.n).z j)) = _
  rw [sprod_x, sprod_z]

theorem vec_bits_zero (n : Nat) (g : PRow) (j : Nat) (hj : j < n) (h : g.vec n ⟨j, hj⟩ = 0) :
    g.x j = false ∧ g.z j = false := by
  have h1 : Graphiq.b2z (g.x j) = 0 := congrArg Prod.fst h
  have h2 : Graphiq.b2z (g.z j) = 0 := congrArg Prod.snd h
  exact ⟨(Graphiq.b2z_eq_zero _).1 h1, (Graphiq.b2z_eq_zero _).1 h2⟩

/-- a GF(2) basis of `gspace ⊓ V` (`V`: the vectors trivial on `rem`) lifts to a local basis of the same length: each basis vector is
    the vector of a subset product of the generators; for spanning, a group element with the bits of a subset product `p` of the
    lifts is `±p`, and `−p` is excluded because the group would contain `p` and `−p` -/
theorem exists_localBasis_of_basis (t : Tab) (hv : t.Valid) (hr : t.StabReal) (rem : List Nat)
    (hlt : ∀ q, q ∈ rem → q < t.n) (V : Submodule (ZMod 2) (PVec t.n))
    (hV : ∀ v : PVec t.n, v ∈ V ↔ ∀ j : Fin t.n, j.val ∈ rem → v j = 0) (κ : Nat)
    (b : Basis (Fin κ) (ZMod 2) ↥((STab.ofTab t).gspace ⊓ V)) :
    ∃ c : Nat → PRow, IsLocalBasis t rem κ c := by
  classical
  have ga : (STab.ofTab t).Good := ofTab_good t hv
  -- lift each basis vector to a group element
  have lift : ∀ i : Fin κ, ∃ S : Nat → Bool,
      (sprod t.n (STab.ofTab t).row S t.n).vec t.n = (b i).val :=
    fun i => exists_sprod_of_mem_gspace (STab.ofTab t) _ (b i).property.1
  obtain ⟨c, hcdef⟩ : ∃ c : Nat → PRow, ∀ i (h : i < κ),
      c i = sprod t.n (STab.ofTab t).row (Classical.choose (lift ⟨i, h⟩)) t.n :=
    ⟨fun i => if h : i < κ then sprod t.n (STab.ofTab t).row (Classical.choose (lift ⟨i, h⟩)) t.n else PRow.one,
      fun i h => by simp only [dif_pos h]⟩
  have hc : ∀ i (h : i < κ), (c i).vec t.n = (b ⟨i, h⟩).val := by
    intro i h
    rw [hcdef i h]
    exact Classical.choose_spec (lift ⟨i, h⟩)
  have hcmem : ∀ i, i < κ → (STab.ofTab t).Spn (c i) := by
    intro i h
    rw [hcdef i h]
    exact sprod_spn (STab.ofTab t) _ t.n (Nat.le_refl _)
  -- the vector of a subset product of the `c i`
  have hvec : ∀ S : Nat → Bool, (sprod t.n c S κ).vec t.n
      = (∑ i : Fin κ, Graphiq.b2z (S i.val) • b i).val := by
    intro S
    rw [vec_sprod, Submodule.coe_sum, ← Fin.sum_univ_eq_sum_range (fun i => Graphiq.b2z (S i) • (c i).vec t.n) κ]
    apply Finset.sum_congr rfl
    intro i _
    rw [Submodule.coe_smul, hc i.val i.isLt]
    rfl
  refine ⟨c, ⟨fun i hi => (spn_of_grp t hr _).mpr (hcmem i hi), ?_, ?_, ?_⟩⟩
  · -- identity on the left part
    intro i hi q hq
    have hqn : q < t.n := hlt q hq
    apply vec_bits_zero t.n (c i) q hqn
    rw [hc i hi]
    exact (hV _).mp (b ⟨i, hi⟩).property.2 ⟨q, hqn⟩ hq
  · -- independence
    intro S hS i hi
    have h0 := vec_eq_zero_of_eqOn_one t.n _ hS
    rw [hvec S] at h0
    have h1 : (∑ i : Fin κ, Graphiq.b2z (S i.val) • b i : ↥((STab.ofTab t).gspace ⊓ V)) = 0 :=
      Subtype.ext h0
    have := (Fintype.linearIndependent_iff.mp b.linearIndependent) (fun i => Graphiq.b2z (S i.val)) h1 ⟨i, hi⟩
    exact (Graphiq.b2z_eq_zero _).1 this
  · -- spanning
    intro g hg hid
    have hgA : (STab.ofTab t).Spn g := (spn_of_grp t hr g).mp hg
    have hgW : g.vec t.n ∈ (STab.ofTab t).gspace ⊓ V := by
      refine ⟨inSpan_vec_mem t.n (STab.ofTab t).row g hgA, (hV _).mpr ?_⟩
      intro j hj
      have := hid j.val hj
      show (Graphiq.b2z (g.x j), Graphiq.b2z (g.z j)) = 0
      rw [this.1, this.2]; rfl
    obtain ⟨S, hS⟩ : ∃ S : Nat → Bool, ∀ i : Fin κ, Graphiq.b2z (S i.val) = b.repr ⟨g.vec t.n, hgW⟩ i :=
      ⟨fun i => if h : i < κ then decide (b.repr ⟨g.vec t.n, hgW⟩ ⟨i, h⟩ = 1) else false, fun i => by
        simp only [dif_pos i.isLt]
        exact b2z_decide_eq_one _⟩
    have hsum : (∑ i : Fin κ, Graphiq.b2z (S i.val) • b i : ↥((STab.ofTab t).gspace ⊓ V))
        = ⟨g.vec t.n, hgW⟩ := by
      rw [Finset.sum_congr rfl (fun i _ => by rw [hS i])]
      exact b.sum_repr _
    have hvg : (sprod t.n c S κ).vec t.n = g.vec t.n := by
      rw [hvec S, hsum]
    refine ⟨S, ?_⟩
    have sb : SameBits t.n g (sprod t.n c S κ) := sameBits_of_vec_eq t.n _ _ hvg.symm
    have hg' : Grp t (sprod t.n c S κ) :=
      (spn_of_grp t hr _).mpr (sprod_spn_gens (STab.ofTab t) c κ hcmem S κ (Nat.le_refl _))
    have r1 := grp_real t hv hr g hg
    have r2 := grp_real t hv hr _ hg'
    rcases eqOn_or_negate t.n g _ sb (r1.trans r2.symm) with e | e
    · exact e
    · exfalso
      have hneg : Grp t (negate (sprod t.n c S κ)) := InSpan.eqv _ _ hg e
      exact (grp_isStabGrp t hv hr).not_negate _ hg' hneg

theorem exists_localBasis (t : Tab) (hv : t.Valid) (hr : t.StabReal) (rem : List Nat)
    (hlt : ∀ q, q ∈ rem → q < t.n) (V : Submodule (ZMod 2) (PVec t.n))
    (hV : ∀ v : PVec t.n, v ∈ V ↔ ∀ j : Fin t.n, j.val ∈ rem → v j = 0) :
    ∃ c : Nat → PRow, IsLocalBasis t rem (finrank (ZMod 2) ↥((STab.ofTab t).gspace ⊓ V)) c :=
  exists_localBasis_of_basis t hv hr rem hlt V hV _ (Module.finBasis (ZMod 2) ↥((STab.ofTab t).gspace ⊓ V))

def idOnSub (n : Nat) (rem : List Nat) : Submodule (ZMod 2) (PVec n) where
  carrier := {v | ∀ j : Fin n, j.val ∈ rem → v j = 0}
  add_mem' := by
    intro a b ha hb j hj
    show a j + b j = 0
    rw [ha j hj, hb j hj, add_zero]
  zero_mem' := by intro j _; rfl
  smul_mem' := by
    intro c a ha j hj
    show c • a j = 0
    rw [ha j hj, smul_zero]

/-- for the cut after site `k` it is the subspace `rightOf` of the height function -/
theorem idOnSub_leftSites (n k : Nat) : idOnSub n (leftSites k) = rightOf n k :=
  Submodule.ext fun _ => ⟨fun h j hj => h j ((mem_leftSites k j.val).mpr hj), fun h j hj => h j ((mem_leftSites k j.val).mp hj)⟩

theorem exists_localBasis_cut (t : Tab) (hv : t.Valid) (hr : t.StabReal) (k : Nat) (hk : k < t.n) :
    ∃ c : Nat → PRow,
      IsLocalBasis t (leftSites k) (finrank (ZMod 2) ↥((STab.ofTab t).gspace ⊓ rightOf t.n k)) c :=
  idOnSub_leftSites t.n k ▸ exists_localBasis t hv hr (leftSites k)
    (fun q hq => by have := (mem_leftSites k q).mp hq; omega) (idOnSub t.n (leftSites k)) (fun _ => Iff.rfl)

/-- **every reduced state of a stabilizer state has a flat spectrum** (unconditional): for every valid tableau and every
    (strictly descending) list of traced-out sites there are `κ` and an orthogonal projector `Π` with
    `Tr_rem ρ = (2^κ/2^m) · Π`; so `σ² = (2^κ/2^m) σ` and the purity is `2^κ/2^m`, with
    `κ = dim_GF(2) (G ∩ {trivial on rem})` -/
theorem reduced_state_flat (m : Nat) (t : Tab) (rem : List Nat) (hn : t.n = m + rem.length) (hv : t.Valid)
    (hr : t.StabReal) (hpw : rem.Pairwise (· > ·)) (hlt : ∀ q, q ∈ rem → q < t.n) :
    ∃ Pr : Matrix (Bits m) (Bits m) ℂ, Pr * Pr = Pr ∧ Prᴴ = Pr ∧
      ptraceList rem (rho (m + rem.length) (STab.ofTab t))
        = ((2 : ℂ) ^ (finrank (ZMod 2) ↥((STab.ofTab t).gspace ⊓ idOnSub t.n rem)) / 2 ^ m) • Pr ∧
      Matrix.trace (ptraceList rem (rho (m + rem.length) (STab.ofTab t))
          * ptraceList rem (rho (m + rem.length) (STab.ofTab t)))
        = (2 : ℂ) ^ (finrank (ZMod 2) ↥((STab.ofTab t).gspace ⊓ idOnSub t.n rem)) / 2 ^ m := by
  obtain ⟨c, hb⟩ := exists_localBasis t hv hr rem hlt (idOnSub t.n rem) (fun _ => Iff.rfl)
  obtain ⟨h1, h2, h3, _, h5⟩ := reduced_state_eq_proj m t rem hn hv hr hpw hlt _ c hb
  exact ⟨_, h2, h3, h1, h5⟩

/-- **The height-function dimension is an entanglement entropy.**  Valid tableau on `n` qubits, cut after site `k < n`,
    `m = n − (k+1)` qubits on the right, `κ = dim_GF(2) (G ∩ supported right of k)`.  The reduced state of the right part
    `σ = Tr_{0..k} ρ` satisfies `σ² = (2^κ/2^m) σ` and has purity `tr σ² = 2^κ / 2^m = 2^{-(m-κ)}`. -/
theorem cut_entropy (m : Nat) (t : Tab) (k : Nat) (hn : t.n = m + (leftSites k).length) (hv : t.Valid)
    (hr : t.StabReal) :
    ptraceList (leftSites k) (rho (m + (leftSites k).length) (STab.ofTab t))
        * ptraceList (leftSites k) (rho (m + (leftSites k).length) (STab.ofTab t))
      = ((2 : ℂ) ^ (finrank (ZMod 2) ↥((STab.ofTab t).gspace ⊓ rightOf t.n k)) / 2 ^ m)
          • ptraceList (leftSites k) (rho (m + (leftSites k).length) (STab.ofTab t)) ∧
    Matrix.trace (ptraceList (leftSites k) (rho (m + (leftSites k).length) (STab.ofTab t))
        * ptraceList (leftSites k) (rho (m + (leftSites k).length) (STab.ofTab t)))
      = (2 : ℂ) ^ (finrank (ZMod 2) ↥((STab.ofTab t).gspace ⊓ rightOf t.n k)) / 2 ^ m := by
  have hk : k < t.n := by rw [hn, leftSites_length]; omega
  obtain ⟨c, hb⟩ := exists_localBasis_cut t hv hr k hk
  have hlt : ∀ q, q ∈ leftSites k → q < t.n := fun q hq => by
    have := (mem_leftSites k q).mp hq; omega
  obtain ⟨_, _, _, h4, h5⟩ := reduced_state_eq_proj m t (leftSites k) hn hv hr (leftSites_desc k) hlt _ c hb
  exact ⟨h4, h5⟩

theorem two_pow_neg_height (A : STab) (l : List Int) (h : A.heightFuncList = .ok l) (m k : Nat)
    (hn : A.n = m + (k + 1)) :
    (2 : ℂ) ^ (finrank (ZMod 2) ↥(A.gspace ⊓ rightOf A.n k)) / 2 ^ m = (2 : ℂ) ^ (-(l.getD k 0)) := by
  have hk : k < A.n := by omega
  rw [heightFuncList_eq_finrank A l h, List.getD_eq_getElem?_getD, List.getElem?_map, List.getElem?_range hk]
  show _ = (2 : ℂ) ^ (-(Int.ofNat A.n - (Int.ofNat k + 1) - Int.ofNat (finrank (ZMod 2) ↥(A.gspace ⊓ rightOf A.n k))))
  generalize finrank (ZMod 2) ↥(A.gspace ⊓ rightOf A.n k) = κ
  have he : -(Int.ofNat A.n - (Int.ofNat k + 1) - Int.ofNat κ) = ((κ : ℕ) : ℤ) - ((m : ℕ) : ℤ) := by
    simp only [Int.ofNat_eq_natCast]
    omega
  rw [he, zpow_sub₀ (by norm_num : (2 : ℂ) ≠ 0), zpow_natCast, zpow_natCast]

/-- **graphiq's height function is the entanglement entropy of the cut**: whenever `height_func_list` returns the list `l`
    for the stabilizer half of a valid tableau, its entry `k` is `−log₂` of the purity of the reduced state of the qubits
    right of `k`: `tr (Tr_{0..k} ρ)² = 2^{−l[k]}` -/
theorem height_is_renyi_entropy (m : Nat) (t : Tab) (k : Nat) (hn : t.n = m + (leftSites k).length) (hv : t.Valid)
    (hr : t.StabReal) (l : List Int) (h : (STab.ofTab t).heightFuncList = .ok l) :
    Matrix.trace (ptraceList (leftSites k) (rho (m + (leftSites k).length) (STab.ofTab t))
        * ptraceList (leftSites k) (rho (m + (leftSites k).length) (STab.ofTab t)))
      = (2 : ℂ) ^ (-(l.getD k 0)) := by
  rw [(cut_entropy m t k hn hv hr).2]
  exact two_pow_neg_height (STab.ofTab t) l h m k (by rw [← leftSites_length k]; exact hn)

/-! ### arbitrary stabilizer tableaux (`STab`): real commuting generators on which `height_func_list` returns -/

theorem indep_of_linearIndependent (t : STab)
    (hli : LinearIndependent (ZMod 2) (fun i : Fin t.n => (t.row i).vec t.n)) : t.Indep :=
  (STab.linearIndependent_iff_bits t).1 hli

/-- **graphiq's height function is the entanglement entropy of the cut, for every stabilizer tableau** (real commuting
    generators, any gauge): whenever `height_func_list` returns the list `l`, the reduced state `σ = Tr_{0..k} ρ` of the
    qubits right of `k` satisfies `σ² = 2^{−l[k]} σ` (flat spectrum: maximally mixed on a subspace of dimension `2^{l[k]}`),
    `tr σ = 1`, and its purity is `tr σ² = 2^{−l[k]}`.  Proof: complete the generators to a Clifford tableau `T` with the same span
    (`cliffordFromStabilizer_complete`); `ρ` moves by `rho_spanEq`, the subspace of the group by `gspaceOf_eq_of_inSpan`; then `cut_entropy T`. -/
theorem height_is_renyi_entropy_stab (m : Nat) (t : STab) (k : Nat) (hn : t.n = m + (leftSites k).length)
    (hg : t.Good) (l : List Int) (h : t.heightFuncList = .ok l) :
    ptraceList (leftSites k) (rho (m + (leftSites k).length) t) * ptraceList (leftSites k) (rho (m + (leftSites k).length) t)
      = ((2 : ℂ) ^ (-(l.getD k 0))) • ptraceList (leftSites k) (rho (m + (leftSites k).length) t) ∧
    Matrix.trace (ptraceList (leftSites k) (rho (m + (leftSites k).length) t)) = 1 ∧
    Matrix.trace (ptraceList (leftSites k) (rho (m + (leftSites k).length) t)
        * ptraceList (leftSites k) (rho (m + (leftSites k).length) t)) = (2 : ℂ) ^ (-(l.getD k 0)) := by
  have hlen := leftSites_length k
  have hk : k < t.n := by rw [hn, hlen]; omega
  have hli := (heightFuncList_ok_iff_indep t).mp ⟨l, h⟩
  obtain ⟨T, _, hTn, vT, rT, sT⟩ := cliffordFromStabilizer_complete t hg (indep_of_linearIndependent t hli)
  have rT' : T.StabReal := fun i h1 h2 => rT i (by rw [← hTn]; exact h2)
  obtain ⟨n, row⟩ := t
  simp only at hTn hn hk
  subst hTn
  have hρ : rho (m + (leftSites k).length) (STab.mk T.n row) = rho (m + (leftSites k).length) (STab.ofTab T) := by
    have := rho_spanEq (STab.ofTab T) (STab.mk T.n row) sT (ofTab_good T vT) hg
    have e : (STab.ofTab T).n = m + (leftSites k).length := hn
    rw [e] at this
    exact this.symm
  have hgs : (STab.ofTab T).gspace = (STab.mk T.n row).gspace :=
    gspaceOf_eq_of_inSpan T.n (STab.ofTab T).row row (fun p => ⟨sT.sub p, sT.sup p⟩)
  obtain ⟨c1, c2⟩ := cut_entropy m T k hn vT rT'
  have tr1 : Matrix.trace (ptraceList (leftSites k) (rho (m + (leftSites k).length) (STab.ofTab T))) = 1 := by
    rw [trace_ptraceList (leftSites k) (fun q hq => by have := (mem_leftSites k q).mp hq; omega) (leftSites_desc k)]
    have := rho_ofTab_trace T vT
    rw [hn] at this; exact this
  have hexp : (2 : ℂ) ^ (finrank (ZMod 2) ↥((STab.ofTab T).gspace ⊓ rightOf T.n k)) / 2 ^ m
      = (2 : ℂ) ^ (-(l.getD k 0)) := by
    rw [hgs]
    exact two_pow_neg_height (STab.mk T.n row) l h m k (by rw [← hlen]; exact hn)
  rw [hρ, ← hexp]
  exact ⟨c1, tr1, c2⟩

theorem le_foldl_max (hs : List Int) : ∀ h0 : Int, h0 ≤ hs.foldl max h0 ∧ ∀ x, x ∈ hs → x ≤ hs.foldl max h0 := by
  induction hs with
  | nil => intro h0; exact ⟨le_refl _, fun x hx => by cases hx⟩
  | cons a rest ih =>
    intro h0
    obtain ⟨i1, i2⟩ := ih (max h0 a)
    refine ⟨le_trans (le_max_left h0 a) i1, fun x hx => ?_⟩
    rcases List.mem_cons.mp hx with e | e
    · rw [e]; exact le_trans (le_max_right h0 a) i1
    · exact i2 x e


/-- Bell pair with generators `XX`, `ZZ` and destabilizers `Z₀`, `X₁` -/
def bellE : Tab :=
  Tab.ofRows 2 #[PRow.Zq 0, PRow.Xq 1,
    PRow.ofArrays #[true, true] #[false, false] false false, PRow.ofArrays #[false, false] #[true, true] false false]

theorem bellE_valid : bellE.Valid := (Tab.isSymplectic_iff bellE).mp (by decide)
theorem bellE_real : bellE.StabReal := stabRealB_spec bellE (by decide)

/-- `height_func_list` has entry `1` at the cut after qubit 0 of the Bell pair, and the purity of the reduced state of qubit 1 is `2^{-1}` -/
example : ∃ l, (STab.ofTab bellE).heightFuncList = .ok l ∧ l.getD 0 0 = 1 ∧
    Matrix.trace (ptraceList (leftSites 0) (rho (1 + (leftSites 0).length) (STab.ofTab bellE))
        * ptraceList (leftSites 0) (rho (1 + (leftSites 0).length) (STab.ofTab bellE))) = (2 : ℂ) ^ (-(l.getD 0 0)) := by
  cases hl : (STab.ofTab bellE).heightFuncList with
  | error e =>
    exfalso
    have : (match (STab.ofTab bellE).heightFuncList with | .ok l => l == [1, 0] | .error _ => false) = true := by
      decide +kernel
    rw [hl] at this; cases this
  | ok l =>
    have h10 : (match (STab.ofTab bellE).heightFuncList with | .ok l => l == [1, 0] | .error _ => false) = true := by
      decide +kernel
    rw [hl] at h10
    have hl' : l = [1, 0] := by simpa using h10
    refine ⟨l, rfl, by rw [hl']; rfl, ?_⟩
    exact height_is_renyi_entropy 1 bellE 0 rfl bellE_valid bellE_real l hl

end Hilbert
end Graphiq
