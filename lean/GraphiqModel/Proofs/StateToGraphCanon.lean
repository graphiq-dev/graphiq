/-
  Proofs/StateToGraphCanon.lean — `canonical_form` on the two kinds of tableau that `_phase_correction` hands it, from the general
  theory of `canonical_form` (`canonicalForm_of_indep`, `canonicalForm_canon`, `canon_unique`):
  a group that contains an element with X part `e_j` for every `j` (`FullX`) has a canonical form whose X part is the identity,
  and a tableau whose X part is the identity is its own canonical form.
-/
import GraphiqModel.Proofs.StateToGraphBits
import GraphiqModel.Proofs.CanonTotal
namespace Graphiq
open PRow Tab STab S2G

theorem spn_bspan (t : STab) (p : PRow) (hp : t.Spn p) :
    BSpan t.n t.n (XZ.ofSTab t).x (XZ.ofSTab t).z p.x p.z := by
  unfold Spn at hp
  induction hp with
  | one => exact BSpan.zero
  | gen i hi => exact BSpan.gen (rx := (XZ.ofSTab t).x) (rz := (XZ.ofSTab t).z) i hi
  | mul a b _ _ iha ihb =>
    exact BSpan.ext _ _ _ _ (BSpan.add _ _ _ _ iha ihb) (fun j _ => ⟨(mul_x t.n a b j).symm, (mul_z t.n a b j).symm⟩)
  | eqv a b _ hab iha => exact BSpan.ext _ _ _ _ iha (fun j hj => hab.1 j hj)

/-- the group contains an element with X part `e_j` for every `j` -/
def FullX (t : STab) : Prop := ∀ j, j < t.n → ∃ p, t.Spn p ∧ ∀ k, k < t.n → p.x k = decide (k = j)

theorem FullX.congr {t t' : STab} (h : FullX t) (s : SpanEq t t') : FullX t' := fun j hj =>
  let ⟨p, hp, hx⟩ := h j (s.n_eq ▸ hj)
  ⟨p, s.sub p hp, fun k hk => hx k (s.n_eq ▸ hk)⟩

theorem unitSpan_of_fullX (t : STab) (h : FullX t) : UnitSpan t.n (XZ.ofSTab t).x := by
  intro j hj
  obtain ⟨p, hp, hpx⟩ := h j hj
  obtain ⟨c, hc⟩ := bspan_coeffs (spn_bspan t p hp)
  exact ⟨c, fun k hk => by rw [← (hc k hk).1]; exact hpx k hk⟩

theorem indep_of_fullX (t : STab) (h : FullX t) : t.Indep :=
  fun c hc => unitSpan_indep t.n (XZ.ofSTab t).x (unitSpan_of_fullX t h) c (fun j hj => (hc j hj).1)

namespace STab

/-- the X part of the tableau is the identity matrix on the columns `< j` -/
def XCols (T : STab) (j : Nat) : Prop := ∀ m k, m < T.n → k < j → (T.row m).x k = decide (k = m)

/-- a canonical form whose X rows span every unit vector has `n` X pivots, on the diagonal -/
theorem xcols_of_canon (c : STab) (hc : Canon c) (hu : UnitSpan c.n (xb c)) : XCols c c.n := by
  obtain ⟨k, px, _, hx, _⟩ := hc
  have hk : k = c.n := by
    apply Classical.byContradiction; intro hne
    have hlt : k < c.n := Nat.lt_of_le_of_ne hx.pr_le hne
    -- row `k` of the X part would vanish, but a matrix whose rows span every unit vector has a right inverse
    exact unitSpan_row_ne_zero c.n (xb c) hu k hlt (fun j hj => hx.below k j (Nat.le_refl _) hlt hj)
  subst hk
  have hid := mono_id px c.n (fun i i' h1 h2 => hx.mono i i' (Nat.zero_le _) h1 h2) (fun i hi => hx.piv_lt i (Nat.zero_le _) hi)
  intro m j hm hj
  by_cases e : j = m
  · subst e
    rw [decide_eq_true rfl, ← hx.piv_one j (Nat.zero_le _) hm, hid j hm]; rfl
  · rw [decide_eq_false e, ← hx.piv_clear j m (Nat.zero_le _) hj hm (fun h => e h.symm), hid j hj]; rfl

theorem canon_of_xcols (S : STab) (hX : XCols S S.n) : Canon S :=
  ⟨S.n, fun i => i, fun i => i,
    ⟨Nat.zero_le _, Nat.le_refl _, fun _ _ h => h, fun i _ hi => by rw [xb, hX i i hi hi]; exact decide_eq_true rfl,
      fun i m _ hi hm hne => by rw [xb, hX m i hm hi]; exact decide_eq_false (fun h => hne h.symm),
      fun i j _ hi hj => by rw [xb, hX i j hi (by omega)]; exact decide_eq_false (by omega : ¬ j = i),
      fun _ _ _ h _ => h, fun m _ h1 h2 => by omega⟩,
    ⟨Nat.le_refl _, Nat.le_refl _, fun i h1 h2 => by omega, fun i h1 h2 => by omega, fun i m h1 h2 => by omega,
      fun i j h1 h2 => by omega, fun i i' h1 h2 h3 => by omega, fun m j h1 h2 => by omega⟩⟩

theorem canonicalForm_fullX (S : STab) (hg : S.Good) (hK : FullX S) :
    ∃ c, S.canonicalForm = .ok c ∧ c.n = S.n ∧ SpanEq S c ∧ c.Good ∧ XCols c S.n := by
  obtain ⟨c, e⟩ := canonicalForm_of_indep S hg (indep_of_fullX S hK)
  obtain ⟨s, gc⟩ := canonicalForm_spanEq S c hg e
  have := xcols_of_canon c (canonicalForm_canon S c e) (unitSpan_of_fullX c (hK.congr s))
  exact ⟨c, e, s.n_eq.symm, s, gc, s.n_eq ▸ this⟩

theorem canonicalForm_idX (S : STab) (hg : S.Good) (hX : XCols S S.n) :
    ∃ c, S.canonicalForm = .ok c ∧ c.n = S.n ∧ ∀ m, m < S.n → EqOn S.n (c.row m) (S.row m) := by
  have hK : FullX S := fun j hj => ⟨S.row j, spn_gen S j hj, fun k hk => hX j k hj hk⟩
  obtain ⟨c, e⟩ := canonicalForm_of_indep S hg (indep_of_fullX S hK)
  obtain ⟨s, gc⟩ := canonicalForm_spanEq S c hg e
  have := canon_unique c S (canonicalForm_canon S c e) (canon_of_xcols S hX) gc hg s.symm
  rw [← s.n_eq] at this
  exact ⟨c, e, s.n_eq.symm, this⟩

end STab
end Graphiq
