/-
  Proofs/PauliGroup.lean — the signed product `PRow.mul` makes signed Pauli rows a group (up to `EqOn`):
  associativity, identity, self-inverse for real rows; parity of the phase exponent = commutation.
-/
import GraphiqModel.Proofs.Pauli
namespace Graphiq
namespace PRow

/-! ### per-site identities of `g_function` -/

theorem gFun_assoc (x1 z1 x2 z2 x3 z3 : Bool) :
    (gFun (xor x1 x2) (xor z1 z2) x3 z3 + gFun x1 z1 x2 z2) % 4
    = (gFun x1 z1 (xor x2 x3) (xor z2 z3) + gFun x2 z2 x3 z3) % 4 := by
  cases x1 <;> cases z1 <;> cases x2 <;> cases z2 <;> cases x3 <;> cases z3 <;> decide

theorem gFun_self (x z : Bool) : gFun x z x z = 0 := by
  cases x <;> cases z <;> decide

theorem gFun_one_left (x z : Bool) : gFun false false x z = 0 := by
  cases x <;> cases z <;> decide

theorem gFun_one_right (x z : Bool) : gFun x z false false = 0 := by
  cases x <;> cases z <;> decide

theorem gFun_parity (x1 z1 x2 z2 : Bool) :
    gFun x1 z1 x2 z2 % 2 = Bool.toInt' (xor (x1 && z2) (z1 && x2)) := by
  cases x1 <;> cases z1 <;> cases x2 <;> cases z2 <;> decide

/-! ### group laws -/

theorem gSum_assoc (n : Nat) (a b c : PRow) :
    (gSum n (mul n a b) c + gSum n a b) % 4 = (gSum n a (mul n b c) + gSum n b c) % 4 := by
  unfold gSum
  rw [← sumTo_add, ← sumTo_add]
  apply sumTo_mod4_congr
  intro j _
  simp only [mul_x, mul_z]
  exact gFun_assoc _ _ _ _ _ _

theorem mul_assoc (n : Nat) (a b c : PRow) : EqOn n (mul n (mul n a b) c) (mul n a (mul n b c)) := by
  apply eqOn_of
  · intro j _
    simp only [mul_x, mul_z]
    cases a.x j <;> cases b.x j <;> cases c.x j <;> cases a.z j <;> cases b.z j <;> cases c.z j <;> exact ⟨rfl, rfl⟩
  · rw [mul_ph, mul_ph, mul_ph, mul_ph]
    have := gSum_assoc n a b c
    omega

theorem gSum_self (n : Nat) (a : PRow) : gSum n a a = 0 := by
  unfold gSum
  rw [sumTo_congr n _ (fun _ => 0) (fun j _ => gFun_self _ _)]
  exact sumTo_zero n

theorem gSum_one_left (n : Nat) (a : PRow) : gSum n one a = 0 := by
  unfold gSum
  rw [sumTo_congr n _ (fun _ => 0) (fun j _ => by show gFun false false _ _ = 0; exact gFun_one_left _ _)]
  exact sumTo_zero n

theorem gSum_one_right (n : Nat) (a : PRow) : gSum n a one = 0 := by
  unfold gSum
  rw [sumTo_congr n _ (fun _ => 0) (fun j _ => by show gFun _ _ false false = 0; exact gFun_one_right _ _)]
  exact sumTo_zero n

theorem one_ph : one.ph = 0 := by decide

theorem one_mul (n : Nat) (a : PRow) : EqOn n (mul n one a) a := by
  apply eqOn_of
  · intro j _; simp [one]
  · rw [mul_ph, gSum_one_left, one_ph]
    have := ph_range a
    omega

theorem mul_one (n : Nat) (a : PRow) : EqOn n (mul n a one) a := by
  apply eqOn_of
  · intro j _; simp [one]
  · rw [mul_ph, gSum_one_right, one_ph]
    have := ph_range a
    omega

theorem mul_self (n : Nat) (a : PRow) (hr : a.ip = false) : EqOn n (mul n a a) one := by
  apply eqOn_of
  · intro j _; simp [one]
  · rw [mul_ph, gSum_self, one_ph]
    unfold ph; rw [hr]
    cases a.r <;> simp [Bool.toInt']

theorem gSum_parity (n : Nat) (a b : PRow) : gSum n a b % 2 = Bool.toInt' (sp n a b) := by
  unfold gSum sp
  apply sumTo_mod2_parity
  intro j _
  exact gFun_parity _ _ _ _

theorem mul_real (n : Nat) (a b : PRow) (ha : a.ip = false) (hb : b.ip = false) (hc : sp n a b = false) :
    (mul n a b).ip = false := by
  have hp := mul_ph n a b
  have hg := gSum_parity n a b
  rw [hc] at hg
  have e1 : a.ph % 2 = 0 := by unfold ph; rw [ha]; cases a.r <;> simp [Bool.toInt']
  have e2 : b.ph % 2 = 0 := by unfold ph; rw [hb]; cases b.r <;> simp [Bool.toInt']
  have e3 : (mul n a b).ph % 2 = 0 := by
    rw [hp]; simp [Bool.toInt'] at hg; omega
  unfold ph at e3
  cases h : (mul n a b).ip
  · rfl
  · rw [h] at e3
    cases (mul n a b).r <;> simp [Bool.toInt'] at e3

theorem gFun_comm (x1 z1 x2 z2 : Bool) :
    (gFun x1 z1 x2 z2 - gFun x2 z2 x1 z1) % 4 = (2 * Bool.toInt' (xor (x1 && z2) (z1 && x2))) % 4 := by
  cases x1 <;> cases z1 <;> cases x2 <;> cases z2 <;> decide

theorem mul_ph_swap (n : Nat) (a b : PRow) :
    (mul n a b).ph = ((mul n b a).ph + 2 * Bool.toInt' (sp n a b)) % 4 := by
  rw [mul_ph, mul_ph]
  have key : (gSum n a b - gSum n b a) % 4 = (2 * Bool.toInt' (sp n a b)) % 4 := by
    unfold gSum
    rw [← sumTo_sub]
    have h1 := sumTo_mod4_congr n
      (fun j => gFun (a.x j) (a.z j) (b.x j) (b.z j) - gFun (b.x j) (b.z j) (a.x j) (a.z j))
      (fun j => 2 * Bool.toInt' (xor (a.x j && b.z j) (a.z j && b.x j)))
      (fun j _ => gFun_comm _ _ _ _)
    rw [h1, sumTo_two_mul_parity]
    rfl
  omega

theorem mul_swap (n : Nat) (a b : PRow) :
    EqOn n (mul n a b) { (mul n b a) with r := xor (mul n b a).r (sp n a b) } := by
  apply eqOn_of
  · intro j _
    show xor (a.x j) (b.x j) = xor (b.x j) (a.x j) ∧ xor (a.z j) (b.z j) = xor (b.z j) (a.z j)
    cases a.x j <;> cases b.x j <;> cases a.z j <;> cases b.z j <;> exact ⟨rfl, rfl⟩
  · rw [mul_ph_swap]
    exact (ph_xor_sign (mul n b a).r (mul n b a).ip (sp n a b)).symm

theorem mul_comm (n : Nat) (a b : PRow) (hc : sp n a b = false) : EqOn n (mul n a b) (mul n b a) := by
  have h := mul_swap n a b
  rw [hc, Bool.xor_false] at h
  exact h

end PRow
end Graphiq
