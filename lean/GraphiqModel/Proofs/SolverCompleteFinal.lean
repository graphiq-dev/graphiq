/-
  Proofs/SolverCompleteFinal.lean — `hfinal` holds WHENEVER the solver model returns (any real commuting target, no hypothesis on
  the target's shape): if `solve target = .ok s`, then the last steps of `solve` succeeded, i.e. `inverse_circuit` returned on the last
  echelon tableau `t2` and its gate list was accepted by `_add_gates_from_str`; the replayed gates take the group of `t2` to the group of
  the tableau `inverse_circuit` ended with, which is |0…0⟩ (C11 `inverseCircuit_isZero`: the synthesis never stops
  elsewhere); a tableau with that group has only `+` signs, so the final sign loop is the identity.
  Consequence: the soundness theorem of the solver needs no hypothesis `hfinal` at all.
-/
import GraphiqModel.Proofs.SolverCompleteMain
namespace Graphiq.Solver
open Graphiq Graphiq.Cliff PRow STab Tab

/-- **`hfinal` holds whenever `solve` returns**: for every real commuting target, if the solver model returns `s` then its final working
    tableau generates exactly the signed group of |0…0⟩ -/
theorem solve_final_zero (target : STab) (hg : target.Good) (s : St) (h : solve target = .ok s) :
    SpanEq s.t (STab.zero (target.n + s.ne)) := by
  obtain ⟨ne, s1, t2, b, t', inv, s3, h0, h1, h2, h3, h4, h5, _⟩ := (solve_ok_iff target s).1 h
  have ene : s.ne = ne := Except.ok.inj ((solve_emitter_count target s h).symm.trans h0)
  rw [ene]
  obtain ⟨g0, n0⟩ := withEmitters_good target hg ne
  obtain ⟨fx, st1, _⟩ := solveLoop_steps target ne s1 h1
  have i2 : Inv target.n ne (withEmitters target ne).Spn { s1 with t := t2 } :=
    (Steps.tab t2 st1 (rref_cops s1.t t2 b h2)).inv ⟨rfl, rfl, n0, g0, rfl⟩
  obtain ⟨_, _, hwf, _, _⟩ := inverseCircuit_tracks t2 t' inv i2.good h3
  have tr3 := addGatesFromStr_tracks t2 inv hwf { s1 with t := t2 } [] (tracks_init t2 i2.good) s3 h4
  have hs3 : SpanEq s3.t (STab.zero (target.n + ne)) :=
    replay_zero _ t2 t' s3.t inv i2.n_eq i2.good h3 (inverseCircuit_isZero t2 t' inv i2.good h3) tr3
  rw [signLoop_noop target.n ne s3 hs3] at h5
  injection h5 with h5
  rw [← h5]; exact hs3

end Graphiq.Solver
