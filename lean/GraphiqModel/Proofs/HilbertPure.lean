/-
  Proofs/HilbertPure.lean — the stabilizer state of a valid Clifford tableau is a pure state:

  * `rho_zero` : the all-`+Z` tableau is `|0…0⟩⟨0…0|`;
  * `trace_rhoTo_succ` : a generator that has an anticommuting partner commuting with the earlier generators halves
    the trace (this is what the destabilizer rows of a Clifford tableau provide);
  * `rho_ofTab_trace` : for a `Tab.Valid` tableau, `tr ρ = 1`; with `ρ² = ρ = ρ†` this is a pure state, and `ρ` is
    positive semidefinite;
  * `projector_eq_of_le` : two orthogonal projectors `P ≥ Q` with the same trace are equal; `rank_one_of_pure` : a Hermitian
    idempotent of trace 1 is `|ψ⟩⟨ψ|` for a unit vector `ψ` (a normalised non-zero column).
-/
import GraphiqModel.Proofs.HilbertState
import Mathlib.LinearAlgebra.Matrix.Trace
import Mathlib.LinearAlgebra.Matrix.PosDef
import Mathlib.Analysis.Complex.Order
import Mathlib.Analysis.RCLike.Basic
import Mathlib.Analysis.Complex.Basic
namespace Graphiq
namespace Hilbert
open Matrix PRow

/-! ### the all-zero state -/

theorem proj_Zq (n q : Nat) (hq : q < n) (s : Bool) :
    proj n (Zq q s) = Matrix.diagonal (fun b : Bits n => if bx b q = s then (1 : ℂ) else 0) := by
  ext a b
  unfold proj
  rw [Matrix.smul_apply, Matrix.add_apply, pauliMat_Zq_apply n q s hq, Matrix.one_apply, Matrix.diagonal_apply]
  by_cases h : a = b
  · subst h
    rw [if_pos rfl, if_pos rfl, if_pos rfl]
    cases s <;> cases bx a q <;> simp <;> norm_num
  · rw [if_neg h, if_neg h, if_neg h]; simp

theorem rhoTo_zero (n k : Nat) (hk : k ≤ n) :
    rhoTo n (fun i => Zq i) k
      = Matrix.diagonal (fun b : Bits n => if ∀ j, j < k → bx b j = false then (1 : ℂ) else 0) := by
  induction k with
  | zero =>
    show (1 : Matrix (Bits n) (Bits n) ℂ) = _
    rw [← Matrix.diagonal_one]
    congr 1
  | succ m ih =>
    show rhoTo n (fun i => Zq i) m * proj n (Zq m) = _
    rw [ih (Nat.le_of_succ_le hk), proj_Zq n m (Nat.lt_of_succ_le hk), Matrix.diagonal_mul_diagonal]
    congr 1
    funext b
    by_cases h1 : ∀ j, j < m → bx b j = false
    · by_cases h2 : bx b m = false
      · have : ∀ j, j < m + 1 → bx b j = false := by
          intro j hj
          by_cases e : j = m
          · rw [e]; exact h2
          · exact h1 j (by omega)
        rw [if_pos h1, if_pos h2, if_pos this]; simp
      · have : ¬ ∀ j, j < m + 1 → bx b j = false := fun h => h2 (h m (Nat.lt_succ_self m))
        rw [if_pos h1, if_neg h2, if_neg this]; simp
    · have : ¬ ∀ j, j < m + 1 → bx b j = false := fun h => h1 (fun j hj => h j (Nat.lt_succ_of_lt hj))
      rw [if_neg h1, if_neg this]; simp

/-- the tableau `StabilizerTableau(n)` (all `+Z_i`) is the density matrix `|0…0⟩⟨0…0|` -/
theorem rho_zero (n : Nat) (a b : Bits n) :
    rho n (STab.zero n) a b = if a = (fun _ => false) ∧ b = (fun _ => false) then 1 else 0 := by
  show rhoTo n (fun i => Zq i) n a b = _
  rw [rhoTo_zero n n (Nat.le_refl n), Matrix.diagonal_apply]
  have key : ∀ c : Bits n, (∀ j, j < n → bx c j = false) ↔ c = (fun _ => false) := by
    intro c
    constructor
    · intro h; apply bits_ext; intro j hj; rw [h j hj, bx_lt _ _ hj]
    · intro h j hj; rw [h, bx_lt _ _ hj]
  by_cases h : a = b
  · subst h
    rw [if_pos rfl]
    by_cases h2 : a = (fun _ => false)
    · rw [if_pos ((key a).mpr h2), if_pos ⟨h2, h2⟩]
    · rw [if_neg (fun h3 => h2 ((key a).mp h3)), if_neg (fun h3 => h2 h3.1)]
  · rw [if_neg h, if_neg (fun h3 => h (h3.1.trans h3.2.symm))]

/-! ### trace -/

theorem trace_conj_unitary {n : Nat} (D X : Matrix (Bits n) (Bits n) ℂ) (hD : Dᴴ * D = 1) :
    Matrix.trace (D * X * Dᴴ) = Matrix.trace X := by
  rw [Matrix.trace_mul_comm, ← Matrix.mul_assoc, hD, Matrix.one_mul]

/-- `tr(M P) = 0` when some Pauli `D` commutes with `M` and anticommutes with `P`: conjugating by `D` changes the sign -/
theorem trace_mul_pauli_of_anti (n : Nat) (M : Matrix (Bits n) (Bits n) ℂ) (d p : PRow)
    (hc : pauliMat n d * M = M * pauliMat n d) (ha : sp n d p = true) : Matrix.trace (M * pauliMat n p) = 0 := by
  have h1 := trace_conj_unitary (pauliMat n d) (M * pauliMat n p) (pauliMat_conjTranspose_mul n d)
  have e : pauliMat n d * (M * pauliMat n p) * (pauliMat n d)ᴴ = -(M * pauliMat n p) := by
    rw [← Matrix.mul_assoc, hc, Matrix.mul_assoc M, pauliMat_anticomm n _ _ ha, Matrix.mul_neg, Matrix.neg_mul,
      Matrix.mul_assoc, Matrix.mul_assoc, pauliMat_mul_conjTranspose n d, Matrix.mul_one]
  rw [e, Matrix.trace_neg] at h1
  have h2 : (2 : ℂ) * Matrix.trace (M * pauliMat n p) = 0 := by
    rw [two_mul]; nth_rewrite 1 [← h1]; simp
  exact (mul_eq_zero.mp h2).resolve_left (by norm_num)

theorem trace_mul_proj_of_anti (n : Nat) (M : Matrix (Bits n) (Bits n) ℂ) (d p : PRow)
    (hc : pauliMat n d * M = M * pauliMat n d) (ha : sp n d p = true) :
    Matrix.trace (M * proj n p) = (1 / 2 : ℂ) * Matrix.trace M := by
  unfold proj
  rw [mul_smul_comm, Matrix.trace_smul, mul_add, Matrix.mul_one, Matrix.trace_add,
    trace_mul_pauli_of_anti n M d p hc ha, add_zero, smul_eq_mul]

/-- a generator `r k` with a partner `d` that anticommutes with it and commutes with the earlier generators
    halves the trace of the partial product -/
theorem trace_rhoTo_succ (n : Nat) (r : Nat → PRow) (k : Nat) (d : PRow)
    (hc : ∀ j, j < k → sp n d (r j) = false) (ha : sp n d (r k) = true) :
    Matrix.trace (rhoTo n r (k + 1)) = (1 / 2 : ℂ) * Matrix.trace (rhoTo n r k) :=
  trace_mul_proj_of_anti n _ d (r k)
    (commute_rhoTo n _ r k (fun j hj => commute_proj n _ _ (pauliMat_comm n _ _ (hc j hj)))) ha

theorem card_bits (n : Nat) : (Fintype.card (Bits n) : ℂ) = 2 ^ n := by
  rw [Fintype.card_fun, Fintype.card_bool, Fintype.card_fin]; norm_cast

/-- rows `r 0 … r (k-1)` with partners `d 0 … d (k-1)` (`d i` anticommutes with `r i` and commutes with `r j`, `j < i`) -/
theorem trace_rhoTo_paired (n : Nat) (r d : Nat → PRow) (k : Nat)
    (h : ∀ i j, i < k → j ≤ i → sp n (d i) (r j) = decide (j = i)) :
    Matrix.trace (rhoTo n r k) = (1 / 2 : ℂ) ^ k * 2 ^ n := by
  induction k with
  | zero =>
    show Matrix.trace (1 : Matrix (Bits n) (Bits n) ℂ) = _
    rw [Matrix.trace_one, card_bits]; simp
  | succ m ih =>
    rw [trace_rhoTo_succ n r m (d m)
      (fun j hj => by rw [h m j (Nat.lt_succ_self m) (Nat.le_of_lt hj)]; exact decide_eq_false (by omega))
      (by rw [h m m (Nat.lt_succ_self m) (Nat.le_refl m)]; exact decide_eq_true rfl),
      ih (fun i j hi hj => h i j (Nat.lt_succ_of_lt hi) hj), pow_succ]
    ring

/-! ### the state of a valid Clifford tableau -/

theorem ofTab_good (t : Tab) (hv : t.Valid) : (STab.ofTab t).Good := STab.ofTab_good t hv

/-- **Trace one.**  The stabilizer half of a valid Clifford tableau has `tr ρ = 1` (the destabilizers witness the
    independence of the generators) -/
theorem rho_ofTab_trace (t : Tab) (hv : t.Valid) : Matrix.trace (rho t.n (STab.ofTab t)) = 1 := by
  show Matrix.trace (rhoTo t.n (STab.ofTab t).row t.n) = 1
  rw [trace_rhoTo_paired t.n (STab.ofTab t).row t.row t.n (by
    intro i j hi hj
    show sp t.n (t.row i) (t.row (j + t.n)) = decide (j = i)
    rw [hv i (j + t.n) (by omega) (by omega)]
    apply decide_eq_decide.mpr
    omega)]
  rw [← mul_pow]; norm_num

open scoped ComplexOrder in
theorem posSemidef_of_projector {n : Nat} (ρ : Matrix (Bits n) (Bits n) ℂ) (h1 : ρ * ρ = ρ) (h2 : ρᴴ = ρ) :
    ρ.PosSemidef := by
  have := Matrix.posSemidef_conjTranspose_mul_self ρ
  rw [h2, h1] at this
  exact this

open scoped ComplexOrder in
theorem rho_ofTab_posSemidef (t : Tab) (hv : t.Valid) : (rho t.n (STab.ofTab t)).PosSemidef :=
  posSemidef_of_projector _ (rho_idem _ (ofTab_good t hv)) (rho_hermitian _ (ofTab_good t hv))

/-! ### projectors of trace one -/

theorem trace_proj_sandwich (n : Nat) (z : PRow) (hz : z.ip = false) (M : Matrix (Bits n) (Bits n) ℂ) :
    Matrix.trace (proj n z * M * proj n z) = Matrix.trace (proj n z * M) := by
  rw [Matrix.trace_mul_comm, ← Matrix.mul_assoc, proj_idem n z hz]

open scoped ComplexOrder in
theorem projector_eq_of_le {ι : Type} [Fintype ι] [DecidableEq ι] (P Q : Matrix ι ι ℂ)
    (hP : P * P = P) (hPh : Pᴴ = P) (hQ : Q * Q = Q) (hQh : Qᴴ = Q) (hle : P * Q = Q)
    (htr : Matrix.trace P = Matrix.trace Q) : P = Q := by
  have hQP : Q * P = Q := mul_eq_of_hermitian P Q hPh hQh hle
  have hD : (P - Q)ᴴ * (P - Q) = P - Q := by
    rw [Matrix.conjTranspose_sub, hPh, hQh, Matrix.sub_mul, Matrix.mul_sub, Matrix.mul_sub, hP, hle, hQP, hQ]
    abel
  have h0 : Matrix.trace ((P - Q)ᴴ * (P - Q)) = 0 := by
    rw [hD, Matrix.trace_sub, htr, sub_self]
  exact sub_eq_zero.mp (Matrix.trace_conjTranspose_mul_self_eq_zero_iff.mp h0)

open scoped ComplexOrder in
/-- **a pure state is a ket**: `P² = P = P†`, `tr P = 1` ⇒ `P = |ψ⟩⟨ψ|` with `⟨ψ|ψ⟩ = 1` -/
theorem rank_one_of_pure {ι : Type} [Fintype ι] [DecidableEq ι] (P : Matrix ι ι ℂ)
    (hP : P * P = P) (hH : Pᴴ = P) (htr : Matrix.trace P = 1) :
    ∃ ψ : ι → ℂ, P = Matrix.vecMulVec ψ (star ψ) ∧ star ψ ⬝ᵥ ψ = 1 := by
  -- a non-zero diagonal entry
  obtain ⟨c, -, hc⟩ : ∃ c ∈ Finset.univ, P c c ≠ 0 := by
    apply Finset.exists_ne_zero_of_sum_ne_zero
    show Matrix.trace P ≠ 0
    rw [htr]; norm_num
  let v : ι → ℂ := fun a => P a c
  have hstar : ∀ a, star (P a c) = P c a := by
    intro a
    have := congrFun (congrFun hH c) a
    rw [Matrix.conjTranspose_apply] at this
    exact this
  have hN : star v ⬝ᵥ v = P c c := by
    have := congrFun (congrFun hP c) c
    rw [Matrix.mul_apply] at this
    rw [← this]
    unfold dotProduct
    apply Finset.sum_congr rfl
    intro a _
    show star (P a c) * P a c = _
    rw [hstar]
  have hPv : P *ᵥ v = v := by
    funext a
    have := congrFun (congrFun hP a) c
    rw [Matrix.mul_apply] at this
    exact this
  have hNpos : 0 ≤ star v ⬝ᵥ v := dotProduct_star_self_nonneg v
  set N : ℂ := star v ⬝ᵥ v with hNdef
  have hN0 : N ≠ 0 := by rw [hN]; exact hc
  have hNre : N = ((N.re : ℝ) : ℂ) := by
    have := (Complex.nonneg_iff.mp hNpos)
    apply Complex.ext
    · simp
    · simp [this.2.symm]
  have hre_pos : 0 ≤ N.re := (Complex.nonneg_iff.mp hNpos).1
  have hvN : v ⬝ᵥ star v = N := by rw [dotProduct_comm]
  have hstarN : star N = N := by
    rw [hNre]; simp
  -- the rank-one projector on `v`
  have hQ : P = N⁻¹ • Matrix.vecMulVec v (star v) := by
    apply projector_eq_of_le _ _ hP hH
    · rw [smul_mul_smul_comm, Matrix.vecMulVec_mul_vecMulVec, Matrix.vecMulVec_smul, smul_smul, ← hNdef,
        _root_.mul_assoc, inv_mul_cancel₀ hN0, _root_.mul_one]
    · rw [Matrix.conjTranspose_smul, Matrix.conjTranspose_vecMulVec, star_star, star_inv₀, hstarN]
    · rw [Matrix.mul_smul, Matrix.mul_vecMulVec, hPv]
    · rw [htr, Matrix.trace_smul, Matrix.trace_vecMulVec, hvN, smul_eq_mul, inv_mul_cancel₀ hN0]
  -- normalise
  let r : ℝ := Real.sqrt N.re
  have hr : ((r : ℝ) : ℂ) * ((r : ℝ) : ℂ) = N := by
    rw [← Complex.ofReal_mul, Real.mul_self_sqrt hre_pos, ← hNre]
  have hr0 : ((r : ℝ) : ℂ) ≠ 0 := by
    intro h; rw [h, mul_zero] at hr; exact hN0 hr.symm
  have hrstar : star ((r : ℝ) : ℂ) = ((r : ℝ) : ℂ) := Complex.conj_ofReal r
  refine ⟨((r : ℝ) : ℂ)⁻¹ • v, ?_, ?_⟩
  · rw [hQ, star_smul, Matrix.smul_vecMulVec, Matrix.vecMulVec_smul, smul_smul, star_inv₀, hrstar, ← mul_inv, hr]
  · rw [star_smul, smul_dotProduct, dotProduct_smul, star_inv₀, hrstar, smul_eq_mul, smul_eq_mul, ← _root_.mul_assoc, ← mul_inv,
      hr, ← hNdef, inv_mul_cancel₀ hN0]

end Hilbert
end Graphiq
