/-
  Proofs/HilbertDimGroupSum.lean — the state of a tableau as the average over its stabilizer group:
  `∏ (1 + P_i)/2 = 2^{-k} Σ_{mask < 2^k} (subset product)` (`rhoTo_mask_sum`, over the subset products `STab.mprod`), hence
  `tr(ρ_a ρ_b) = 2^{-n} Σ_mask ⟨g_mask⟩_b` with `⟨g⟩_b ∈ {1, -1, 0}` the Pauli expectation value in `ρ_b` (`trace_rho_mul_rho`).
-/
import GraphiqModel.Proofs.HilbertDimExpect
import GraphiqModel.Proofs.InnerProductCount
import GraphiqModel.Proofs.InvValid
namespace Graphiq
namespace Hilbert
open Matrix PRow TabSpec Tab STab

theorem mprod_congr (n : Nat) (row : Nat → PRow) (m m' k : Nat) (h : ∀ i, i < k → m.testBit i = m'.testBit i) :
    mprod n row m k = mprod n row m' k := by
  induction k with
  | zero => rfl
  | succ j ih =>
    simp only [mprod]
    rw [h j (Nat.lt_succ_self j), ih (fun i hi => h i (Nat.lt_succ_of_lt hi))]

theorem mprod_low (n : Nat) (row : Nat → PRow) (m k : Nat) (hm : m < 2 ^ k) :
    mprod n row m (k + 1) = mprod n row m k := by
  simp only [mprod, Nat.testBit_lt_two_pow hm, cond_false]

theorem mprod_high (n : Nat) (row : Nat → PRow) (m k : Nat) (hm : m < 2 ^ k) :
    mprod n row (2 ^ k + m) (k + 1) = PRow.mul n (row k) (mprod n row m k) := by
  have hb : (2 ^ k + m).testBit k = true := by
    rw [Nat.testBit_two_pow_add_eq, Nat.testBit_lt_two_pow hm]; rfl
  simp only [mprod, hb, cond_true]
  rw [mprod_congr n row (2 ^ k + m) m k (fun i hi => Nat.testBit_two_pow_add_gt hi m)]

theorem rhoTo_mask_sum (n : Nat) (r : Nat → PRow) (k : Nat) (hg : GoodTo n r k) :
    rhoTo n r k = (1 / 2 : ℂ) ^ k • ∑ m ∈ Finset.range (2 ^ k), pauliMat n (mprod n r m k) := by
  induction k with
  | zero =>
    show (1 : Matrix (Bits n) (Bits n) ℂ) = _
    rw [pow_zero, one_smul, pow_zero, Finset.sum_range_one]
    exact (pauliMat_one n).symm
  | succ j ih =>
    have hc := proj_commute_rhoTo n r j hg
    show rhoTo n r j * proj n (r j) = _
    rw [← hc, ih (hg.mono (Nat.le_succ j))]
    have hsplit : ∑ m ∈ Finset.range (2 ^ (j + 1)), pauliMat n (mprod n r m (j + 1))
        = ∑ m ∈ Finset.range (2 ^ j), pauliMat n (mprod n r m j)
          + ∑ m ∈ Finset.range (2 ^ j), pauliMat n (r j) * pauliMat n (mprod n r m j) := by
      have e : 2 ^ (j + 1) = 2 ^ j + 2 ^ j := by rw [Nat.pow_succ]; omega
      have low : ∀ m ∈ Finset.range (2 ^ j), pauliMat n (mprod n r m (j + 1)) = pauliMat n (mprod n r m j) :=
        fun m hm => by rw [mprod_low n r m j (Finset.mem_range.mp hm)]
      have high : ∀ m ∈ Finset.range (2 ^ j),
          pauliMat n (mprod n r (2 ^ j + m) (j + 1)) = pauliMat n (r j) * pauliMat n (mprod n r m j) :=
        fun m hm => by rw [mprod_high n r m j (Finset.mem_range.mp hm), pauliMat_mul]
      rw [e, Finset.sum_range_add, Finset.sum_congr rfl low, Finset.sum_congr rfl high]
    rw [hsplit]
    unfold proj
    rw [smul_mul_smul_comm, add_mul, Matrix.one_mul, Finset.mul_sum, pow_succ, _root_.mul_comm]

/-! ### subset products of the generators of a tableau, and the overlap as a sum of expectation values -/

theorem spn_of_grp (t : Tab) (hr : t.StabReal) (g : PRow) : Grp t g ↔ (STab.ofTab t).Spn g :=
  (STab.ofTab_spn_iff t hr g).symm

/-- the subset of generators is read off a subset product (valid tableau: the destabilizers witness independence) -/
theorem mask_unique (a : Tab) (va : a.Valid) (ra : a.StabReal) (m m' : Nat) (hm : m < 2 ^ a.n) (hm' : m' < 2 ^ a.n)
    (h : EqOn a.n (mprod a.n (STab.ofTab a).row m a.n) (mprod a.n (STab.ofTab a).row m' a.n)) : m = m' :=
  STab.mask_unique (STab.ofTab a) (ofTab_good a va) (ofTab_indep a va) m m' hm hm' h

open Classical in
/-- expectation value of a real Pauli in the state of `b`, read off the group -/
noncomputable def expVal (b : Tab) (g : PRow) : ℂ := if Grp b g then 1 else if Grp b (negate g) then -1 else 0

theorem trace_pauli_rho_eq_expVal (b : Tab) (vb : b.Valid) (rb : b.StabReal) (g : PRow) (hg : g.ip = false) :
    Matrix.trace (pauliMat b.n g * rho b.n (STab.ofTab b)) = expVal b g := by
  obtain ⟨f1, f2, f3⟩ := pauli_expectation b vb rb g hg
  unfold expVal
  by_cases h1 : Grp b g
  · rw [if_pos h1]; exact f1 h1
  · rw [if_neg h1]
    by_cases h2 : Grp b (negate g)
    · rw [if_pos h2]; exact f2 h2
    · rw [if_neg h2]; exact f3 h1 h2

theorem trace_rho_mul_rho (a b : Tab) (hn : a.n = b.n) (va : a.Valid) (vb : b.Valid) (rb : b.StabReal) :
    Matrix.trace (rho b.n (STab.ofTab a) * rho b.n (STab.ofTab b))
      = (1 / 2 : ℂ) ^ b.n * ∑ m ∈ Finset.range (2 ^ b.n), expVal b (mprod b.n (STab.ofTab a).row m b.n) := by
  have ga := ofTab_good a va
  have gto : GoodTo b.n (STab.ofTab a).row b.n := by
    have := ga.goodTo
    have e : (STab.ofTab a).n = b.n := hn
    rw [e] at this; exact this
  have hrho : rho b.n (STab.ofTab a) = rhoTo b.n (STab.ofTab a).row b.n := by
    show rhoTo b.n (STab.ofTab a).row a.n = _; rw [hn]
  rw [hrho, rhoTo_mask_sum b.n _ b.n gto, smul_mul_assoc, Matrix.trace_smul, Finset.sum_mul, Matrix.trace_sum, smul_eq_mul]
  congr 1
  apply Finset.sum_congr rfl
  intro m _
  apply trace_pauli_rho_eq_expVal b vb rb
  have hs : (STab.ofTab a).Spn (mprod a.n (STab.ofTab a).row m a.n) := by
    rw [mprod_eq_sprod]; exact STab.sprod_spn (STab.ofTab a) _ a.n (Nat.le_refl _)
  rw [← hn]
  exact STab.spn_real (STab.ofTab a) ga _ hs

end Hilbert
end Graphiq
