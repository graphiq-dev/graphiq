/-
  Proofs/HilbertBridgeMat.lean — the executable exact matrices (`Mat` over the Gaussian rationals `GQ`, `Nat` indices,
  `Model/Gauss.lean` + `Model/DMSem.lean`) represent complex matrices indexed by bit strings:

  * `gqC : GQ →+* ℂ`; `Rep n m M` : the `Mat` `m` has size `2^n` and its entry at `(idx a, idx b)` is `M a b`;
  * `Rep` is compatible with `Mat.norm` (tabulation), `mul` (the zero-skipping `dot`), `dagger`, `add`, `smul`,
    `conjBy`, `hermitianize`, `eye`, `trace`; matrices representing the same complex matrix agree entrywise (`rep_eqOn`);
  * the executable gate builders are the Hilbert-space ones: `getOneQubitGate` ↦ `oneQ`, `getTwoQubitControlledGate`
    ↦ `ctrlQ`, `projectorsZ` ↦ `proj (Zq q s)`.

  Both chains that read the executable matrices rest on this file: C01 / C17 through `Rep`, C06 through the function
  `MixDM.toC` (Proofs/MixtureDMBridgeMat.lean: `Rep n m M ↔ m.n = 2^n ∧ toC n m = M`).  It imports neither
  `Model/Circuit.lean` nor Proofs/HilbertBridgeOps.lean, whose names would clash with the C06 chain's.
-/
import GraphiqModel.Proofs.HilbertBridgeIdx
import GraphiqModel.Proofs.HilbertBridgeBase
import GraphiqModel.Proofs.DMSem
namespace Graphiq
namespace Hilbert
open Matrix

theorem pow2_split' (n q : Nat) (hq : q < n) : DM.pow2 q * 2 * DM.pow2 (n - q - 1) = DM.pow2 n := by
  unfold DM.pow2
  have : n = q + 1 + (n - q - 1) := by omega
  conv_rhs => rw [this]
  rw [pow_add, pow_succ]

/-! ### Gaussian rationals as complex numbers -/

noncomputable def gqC : GQ →+* ℂ where
  toFun a := ⟨(a.re : ℝ), (a.im : ℝ)⟩
  map_one' := by apply Complex.ext <;> simp
  map_mul' a b := by apply Complex.ext <;> simp
  map_zero' := by apply Complex.ext <;> simp
  map_add' a b := by apply Complex.ext <;> simp

theorem gqC_re (a : GQ) : (gqC a).re = (a.re : ℝ) := rfl
theorem gqC_im (a : GQ) : (gqC a).im = (a.im : ℝ) := rfl

theorem gqC_conj (a : GQ) : gqC a.conj = star (gqC a) := by
  apply Complex.ext <;> simp [gqC_re, gqC_im, GQ.conj]

theorem gqC_smul (q : Rat) (a : GQ) : gqC (GQ.smul q a) = ((q : ℝ) : ℂ) * gqC a := by
  apply Complex.ext <;> simp [gqC_re, gqC_im, GQ.smul]

theorem gqC_neg_one : gqC (GQ.neg 1) = -1 := by
  apply Complex.ext <;> simp [gqC_re, gqC_im, GQ.neg]
theorem gqC_I : gqC GQ.I = Complex.I := by
  apply Complex.ext <;> simp [gqC_re, gqC_im, GQ.I]
theorem gqC_neg_I : gqC (GQ.neg GQ.I) = -Complex.I := by
  apply Complex.ext <;> simp [gqC_re, gqC_im, GQ.neg, GQ.I]

/-! ### representation -/

/-- the executable matrix `m` represents `M` -/
def Rep (n : Nat) (m : Mat) (M : DMat n) : Prop :=
  m.n = 2 ^ n ∧ ∀ a b : Bits n, gqC (m.e (idx n a) (idx n b)) = M a b

theorem Rep.size {n : Nat} {m : Mat} {M : DMat n} (h : Rep n m M) : m.n = DM.pow2 n := h.1

theorem Rep.unique {n : Nat} {m : Mat} {M M' : DMat n} (h : Rep n m M) (h' : Rep n m M') : M = M' := by
  ext a b; rw [← h.2 a b, ← h'.2 a b]

theorem Rep.congr {n : Nat} {m : Mat} {M M' : DMat n} (h : Rep n m M) (e : M = M') : Rep n m M' := e ▸ h

theorem Rep.norm {n : Nat} {m : Mat} {M : DMat n} (h : Rep n m M) : Rep n m.norm M := by
  refine ⟨(Mat.norm_n m).trans h.1, fun a b => ?_⟩
  rw [Mat.norm_e m _ _ (h.1 ▸ idx_lt n a) (h.1 ▸ idx_lt n b)]
  exact h.2 a b

theorem Rep.of_eqOn {n : Nat} {m m' : Mat} {M : DMat n} (h : Rep n m M) (e : Mat.EqOn m' m) : Rep n m' M := by
  refine ⟨e.1.trans h.1, fun a b => ?_⟩
  rw [e.2 _ _ (by rw [e.1, h.1]; exact idx_lt n a) (by rw [e.1, h.1]; exact idx_lt n b)]
  exact h.2 a b

theorem gqC_mul_e {n : Nat} (x y : Mat) (hn : x.n = 2 ^ n) (a b : Bits n) :
    gqC ((x.mul y).e (idx n a) (idx n b)) = ∑ c : Bits n, gqC (x.e (idx n a) (idx n c)) * gqC (y.e (idx n c) (idx n b)) := by
  show gqC (Mat.dot x.n _ _) = _
  rw [dot_eq_gsum, gsum_eq_sum, hn, sum_range_pow, map_sum]
  exact Finset.sum_congr rfl fun c _ => RingHom.map_mul _ _ _

theorem Rep.mul {n : Nat} {x y : Mat} {X Y : DMat n} (hx : Rep n x X) (hy : Rep n y Y) : Rep n (x.mul y) (X * Y) := by
  refine ⟨hx.1, fun a b => ?_⟩
  rw [gqC_mul_e x y hx.1, Matrix.mul_apply]
  exact Finset.sum_congr rfl fun c _ => by rw [hx.2, hy.2]

theorem Rep.dagger {n : Nat} {x : Mat} {X : DMat n} (hx : Rep n x X) : Rep n x.dagger Xᴴ := by
  refine ⟨hx.1, fun a b => ?_⟩
  show gqC ((x.e _ _).conj) = _
  rw [gqC_conj, hx.2, Matrix.conjTranspose_apply]

theorem Rep.add {n : Nat} {x y : Mat} {X Y : DMat n} (hx : Rep n x X) (hy : Rep n y Y) : Rep n (x.add y) (X + Y) := by
  refine ⟨hx.1, fun a b => ?_⟩
  show gqC (x.e _ _ + y.e _ _) = _
  rw [RingHom.map_add, hx.2, hy.2, Matrix.add_apply]

theorem Rep.sub {n : Nat} {x y : Mat} {X Y : DMat n} (hx : Rep n x X) (hy : Rep n y Y) : Rep n (x.sub y) (X - Y) := by
  refine ⟨hx.1, fun a b => ?_⟩
  show gqC (x.e _ _ - y.e _ _) = _
  rw [RingHom.map_sub, hx.2, hy.2, Matrix.sub_apply]

theorem Rep.smul {n : Nat} {x : Mat} {X : DMat n} (q : Rat) (hx : Rep n x X) :
    Rep n (Mat.smul q x) (((q : ℝ) : ℂ) • X) := by
  refine ⟨hx.1, fun a b => ?_⟩
  show gqC (GQ.smul q (x.e _ _)) = _
  rw [gqC_smul, hx.2, Matrix.smul_apply, smul_eq_mul]

theorem Rep.conjBy {n : Nat} {u x : Mat} {U X : DMat n} (hu : Rep n u U) (hx : Rep n x X) :
    Rep n (Mat.conjBy u x) (U * X * Uᴴ) :=
  Rep.mul (Rep.norm (Rep.mul hu hx)) (Rep.dagger hu)

theorem Rep.hermitianize {n : Nat} {x : Mat} {X : DMat n} (hx : Rep n x X) : Rep n (Mat.hermitianize x) (herm X) := by
  have := Rep.smul (1 / 2) (Rep.add hx (Rep.dagger hx))
  refine this.congr ?_
  unfold herm
  congr 1
  norm_num

theorem Rep.zero (n : Nat) : Rep n (Mat.zero (2 ^ n)) (0 : DMat n) :=
  ⟨rfl, fun _ _ => by show gqC 0 = _; simp⟩

theorem Rep.eye (n : Nat) : Rep n (Mat.eye (2 ^ n)) (1 : DMat n) := by
  refine ⟨rfl, fun a b => ?_⟩
  show gqC (if idx n a = idx n b then 1 else 0) = _
  rw [Matrix.one_apply]
  by_cases h : a = b
  · subst h; simp
  · rw [if_neg h, if_neg (fun e => h (idx_injective n e))]; simp

theorem Rep.trace {n : Nat} {x : Mat} {X : DMat n} (hx : Rep n x X) : gqC x.trace = Matrix.trace X := by
  unfold Mat.trace Matrix.trace
  rw [gsum_eq_sum, hx.1, sum_range_pow, map_sum]
  apply Finset.sum_congr rfl
  intro a _
  rw [hx.2]; rfl

theorem Rep.trace_re {n : Nat} {x : Mat} {X : DMat n} (hx : Rep n x X) : ((x.trace.re : Rat) : ℝ) = (Matrix.trace X).re := by
  rw [← hx.trace]; rfl

theorem gqC_injective : Function.Injective gqC := by
  intro a b h
  have h1 := congrArg Complex.re h
  have h2 := congrArg Complex.im h
  simp only [gqC_re, gqC_im] at h1 h2
  exact GQ.ext' (by exact_mod_cast h1) (by exact_mod_cast h2)

theorem rep_eqOn {n : Nat} {m m' : Mat} {M : DMat n} (h : Rep n m M) (h' : Rep n m' M) : Mat.EqOn m m' := by
  refine ⟨h.1.trans h'.1.symm, fun i j hi hj => ?_⟩
  rw [h.1] at hi hj
  apply gqC_injective
  have := (h.2 (bitsOf n i) (bitsOf n j)).trans (h'.2 (bitsOf n i) (bitsOf n j)).symm
  rwa [idx_bitsOf n i hi, idx_bitsOf n j hj] at this

/-! ### 2×2 blocks -/

def b2n (x : Bool) : Nat := if x then 1 else 0

def Rep2 (g : Mat) (u : Matrix Bool Bool ℂ) : Prop := g.n = 2 ∧ ∀ x y : Bool, gqC (g.e (b2n x) (b2n y)) = u x y

theorem rep2_m2 (a b c d : GQ) (u : Matrix Bool Bool ℂ) (h00 : gqC a = u false false) (h01 : gqC b = u false true)
    (h10 : gqC c = u true false) (h11 : gqC d = u true true) : Rep2 (Mat.m2 a b c d) u := by
  refine ⟨rfl, fun x y => ?_⟩
  cases x <;> cases y <;> simp [Mat.m2, b2n, h00, h01, h10, h11]

/-! the entries of the 2×2 constants agree by unfolding both sides; what is left is `gqC` of `0`, `1`, `-1`, `±i` -/

theorem rep2_sigmax : Rep2 Mat.sigmax sigmaX := rep2_m2 _ _ _ _ _ (map_zero gqC) (map_one gqC) (map_one gqC) (map_zero gqC)
theorem rep2_sigmay : Rep2 Mat.sigmay sigmaY := rep2_m2 _ _ _ _ _ (map_zero gqC) gqC_neg_I gqC_I (map_zero gqC)
theorem rep2_sigmaz : Rep2 Mat.sigmaz sigmaZ := rep2_m2 _ _ _ _ _ (map_one gqC) (map_zero gqC) (map_zero gqC) gqC_neg_one
theorem rep2_phase : Rep2 Mat.phase phaseM := rep2_m2 _ _ _ _ _ (map_one gqC) (map_zero gqC) (map_zero gqC) gqC_I
theorem rep2_phaseDag : Rep2 Mat.phaseDag phaseDagM :=
  rep2_m2 _ _ _ _ _ (map_one gqC) (map_zero gqC) (map_zero gqC) gqC_neg_I
theorem rep2_had2 : Rep2 Mat.had2 hadM := rep2_m2 _ _ _ _ _ (map_one gqC) (map_one gqC) (map_one gqC) gqC_neg_one
theorem rep2_id2 : Rep2 Mat.id2 (1 : Matrix Bool Bool ℂ) :=
  rep2_m2 _ _ _ _ _ (map_one gqC) (map_zero gqC) (map_zero gqC) (map_one gqC)
theorem rep2_ketBra00 : Rep2 (Mat.m2 1 0 0 0) (ketBra2 false false) :=
  rep2_m2 _ _ _ _ _ (map_one gqC) (map_zero gqC) (map_zero gqC) (map_zero gqC)
theorem rep2_ketBra01 : Rep2 (Mat.m2 0 1 0 0) (ketBra2 false true) :=
  rep2_m2 _ _ _ _ _ (map_zero gqC) (map_one gqC) (map_zero gqC) (map_zero gqC)

theorem b2n_digit (n : Nat) (b : Bits n) (q : Nat) (hq : q < n) :
    (idx n b / DM.pow2 (n - q - 1)) % 2 = b2n (bx b q) := idx_digit n b q hq

theorem b2n_inj (x y : Bool) : b2n x = b2n y ↔ x = y := by cases x <;> cases y <;> simp [b2n]
theorem b2n_eq_zero (x : Bool) : b2n x = 0 ↔ x = false := by cases x <;> simp [b2n]

/-! ### the gate builders (they read the four entries of the 2×2 block, never its size) -/

/-- `kron(kron(I_{2^q}, g), I_{2^(n-q-1)})` represents `oneQ n q u` -/
theorem rep_embed1 (n q : Nat) (hq : q < n) (g : Mat) (u : Matrix Bool Bool ℂ)
    (hg : ∀ x y : Bool, gqC (g.e (b2n x) (b2n y)) = u x y) :
    Rep n (DM.embed1 (DM.pow2 q) (DM.pow2 (n - q - 1)) g) (oneQ n q u) := by
  refine ⟨pow2_split' n q hq, fun a b => ?_⟩
  show gqC (if _ then _ else _) = _
  rw [oneQ_apply]
  have hiff := idx_off_site_iff n a b q hq
  unfold DM.pow2
  by_cases hoff : ∀ j : Fin n, j.val ≠ q → a j = b j
  · rw [if_pos (hiff.mpr hoff), if_pos hoff]
    have da := b2n_digit n a q hq
    have db := b2n_digit n b q hq
    unfold DM.pow2 at da db
    rw [da, db, hg]
  · rw [if_neg (fun h => hoff (hiff.mp h)), if_neg hoff]; simp

theorem idx_one (a : Bits 1) : idx 1 a = b2n (bx a 0) := by
  have h := b2n_digit 1 a 0 (by norm_num)
  have l := idx_lt 1 a
  simp [DM.pow2] at h
  omega

/-- entries of `get_one_qubit_gate(n, q, g)` (for `n = 1` it returns `g` itself) -/
theorem getOneQubitGate_e (n q : Nat) (hq : q < n) (g : Mat) (u : Matrix Bool Bool ℂ)
    (hg : ∀ x y : Bool, gqC (g.e (b2n x) (b2n y)) = u x y) (a b : Bits n) :
    gqC ((DM.getOneQubitGate n q g).e (idx n a) (idx n b)) = oneQ n q u a b := by
  unfold DM.getOneQubitGate
  by_cases h1 : n = 1
  · subst h1
    obtain rfl : q = 0 := by omega
    rw [if_pos rfl, idx_one, idx_one, hg, oneQ_apply, if_pos]
    intro j hj
    exact absurd (show j.val = 0 by have := j.isLt; omega) hj
  · rw [if_neg h1]
    exact (rep_embed1 n q hq g u hg).2 a b

theorem getOneQubitGate_n (n q : Nat) (hq : q < n) (g : Mat) (hg : g.n = 2) : (DM.getOneQubitGate n q g).n = 2 ^ n := by
  unfold DM.getOneQubitGate
  by_cases h1 : n = 1
  · subst h1; rw [if_pos rfl, hg]; norm_num
  · rw [if_neg h1]; exact pow2_split' n q hq

/-- **`get_one_qubit_gate`**: the executable Kronecker embedding represents `oneQ n q u` -/
theorem rep_getOneQubitGate (n q : Nat) (hq : q < n) (g : Mat) (u : Matrix Bool Bool ℂ) (hg : Rep2 g u) :
    Rep n (DM.getOneQubitGate n q g) (oneQ n q u) :=
  ⟨getOneQubitGate_n n q hq g hg.1, getOneQubitGate_e n q hq g u hg.2⟩

/-- the diagonal 0/1 matrix selecting the indices whose digit `q` is `s` represents the projector `(1 + (−1)^s Z_q)/2` -/
theorem rep_projDiag (n q : Nat) (hq : q < n) (s : Bool) :
    Rep n ⟨DM.pow2 n, fun i j => if i = j ∧ (i / DM.pow2 (n - q - 1)) % 2 = b2n s then 1 else 0⟩ (proj n (PRow.Zq q s)) := by
  rw [proj_Zq n q hq]
  refine ⟨rfl, fun a b => ?_⟩
  show gqC (if _ then _ else _) = _
  simp only [Matrix.diagonal_apply, idx_eq_iff, b2n_digit n a q hq, b2n_inj]
  by_cases hab : a = b
  · subst hab
    by_cases hs : bx a q = s <;> simp [hs]
  · simp [hab]

/-- **`projectors_zbasis`**: the pair of diagonal matrices it returns represents the two projectors of `Z_q` -/
theorem rep_projectorsZ_Zq (n q : Nat) (hq : q < n) :
    ∃ p0 p1, DM.projectorsZ n q = .ok (p0, p1) ∧ Rep n p0 (proj n (PRow.Zq q false)) ∧ Rep n p1 (proj n (PRow.Zq q true)) := by
  unfold DM.projectorsZ
  rw [if_pos hq]
  exact ⟨_, _, rfl, rep_projDiag n q hq false, rep_projDiag n q hq true⟩

/-- **`get_two_qubit_controlled_gate`**: the executable closed form represents `ctrlQ n c t u`
    (= graphiq's `1 + (1 − Z)_c (u − 1)_t / 2`, `ctrlQ_eq_graphiq`) -/
theorem rep_ctrlGate (n c t : Nat) (hc : c < n) (ht : t < n) (hct : c ≠ t) (g : Mat)
    (u : Matrix Bool Bool ℂ) (hg : ∀ x y : Bool, gqC (g.e (b2n x) (b2n y)) = u x y) :
    ∃ m, DM.getTwoQubitControlledGate n c t g = .ok m ∧ Rep n m (ctrlQ n c t u) := by
  unfold DM.getTwoQubitControlledGate
  rw [if_neg (by omega), if_neg hct]
  refine ⟨_, rfl, rfl, fun a b => ?_⟩
  rw [ctrlQ_apply]
  simp only
  have hsame : ((List.range n).all fun k => k = t ||
      decide ((idx n a / DM.pow2 (n - k - 1)) % 2 = (idx n b / DM.pow2 (n - k - 1)) % 2)) = true
      ↔ ∀ j : Fin n, j.val ≠ t → a j = b j := by
    rw [List.all_eq_true]
    constructor
    · intro h j hj
      have := h j.val (List.mem_range.mpr j.isLt)
      simp only [Bool.or_eq_true, decide_eq_true_eq] at this
      rcases this with e | e
      · exact absurd e hj
      · rw [b2n_digit n a _ j.isLt, b2n_digit n b _ j.isLt, b2n_inj, bx_lt _ _ j.isLt, bx_lt _ _ j.isLt] at e
        exact e
    · intro h k hk
      have hk' := List.mem_range.mp hk
      simp only [Bool.or_eq_true, decide_eq_true_eq]
      by_cases e : k = t
      · exact Or.inl e
      · right
        rw [b2n_digit n a _ hk', b2n_digit n b _ hk', b2n_inj, bx_lt _ _ hk', bx_lt _ _ hk']
        exact h ⟨k, hk'⟩ e
  by_cases hoff : ∀ j : Fin n, j.val ≠ t → a j = b j
  · have hs := hsame.mpr hoff
    rw [if_pos hoff]
    simp only [hs, Bool.not_true, Bool.false_eq_true, if_false]
    rw [b2n_digit n a c hc, b2n_digit n a t ht, b2n_digit n b t ht]
    have hcab : bx a c = bx b c := by
      rw [bx_lt _ _ hc, bx_lt _ _ hc]; exact hoff ⟨c, hc⟩ hct
    rw [← hcab]
    simp only [b2n_inj, b2n_eq_zero]
    cases hac : bx a c
    · simp only [if_true, Bool.false_eq_true, if_false]
      split <;> simp
    · simp only [Bool.true_eq_false, if_false, if_true]
      exact hg _ _
  · have hs : ¬ ((List.range n).all fun k => k = t ||
        decide ((idx n a / DM.pow2 (n - k - 1)) % 2 = (idx n b / DM.pow2 (n - k - 1)) % 2)) = true :=
      fun h => hoff (hsame.mp h)
    rw [if_neg hoff]
    simp only [Bool.not_eq_true] at hs
    simp [hs]

theorem rep_getTwoQubitControlledGate (n c t : Nat) (hc : c < n) (ht : t < n) (hct : c ≠ t) (g : Mat)
    (u : Matrix Bool Bool ℂ) (hg : Rep2 g u) :
    ∃ m, DM.getTwoQubitControlledGate n c t g = .ok m ∧ Rep n m (ctrlQ n c t u) :=
  rep_ctrlGate n c t hc ht hct g u hg.2

/-- `create_n_product_state(n, |0⟩)` as the executable model writes it -/
theorem rep_rho0 (n : Nat) :
    Rep n ⟨DM.pow2 n, fun i j => if i = 0 ∧ j = 0 then 1 else 0⟩
      (Matrix.of fun a b : Bits n => if a = (fun _ => false) ∧ b = (fun _ => false) then (1 : ℂ) else 0) := by
  refine ⟨rfl, fun a b => ?_⟩
  show gqC (if _ then _ else _) = _
  simp only [Matrix.of_apply, idx_eq_zero_iff]
  split <;> simp

end Hilbert
end Graphiq
