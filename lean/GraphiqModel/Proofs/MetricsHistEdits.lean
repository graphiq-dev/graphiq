/-
  MetricsHistEdits.lean — a successful `replace_op` on the scheduled operation list (C18): the entry's operation is replaced,
  its classical wiring kept.  With `add_ok_sched` (append), `removeNode_sched` (erase), `unwrapNodes_sched` (flatMap-unwrap) and
  `removeIdentity_sched` (filter) the specification's operation list after an edit is a list edit of the one before.
-/
import GraphiqModel.Proofs.MetricsHistSpec
namespace Graphiq
namespace Metrics
open Dag Relation

theorem opRegs_wiredOp_congr {P : Paths} {n : NodeId} {o o' : Op} (hq : o.qregs = o'.qregs) (hc : o.cregs = o'.cregs) :
    opRegs (wiredOp P n o) = opRegs (wiredOp P n o') := by
  unfold opRegs
  rw [wiredOp_qregs, wiredOp_qregs, wiredOp_cregs, wiredOp_cregs, hq, hc]

/-- **a successful `replace_op(node, new)` replaces the operation of the node's entry**, keeping its position and classical wiring -/
theorem replaceOp_sched {c : Dag} {P : Paths} {L : List (NodeId × Op)} (g : Good c P) (hS : Sched c P L) {i : Nat} {old new : Op}
    (hold : (NodeId.op i, old) ∈ c.nodes) (hnew : OpWF new) (hq : old.qregs = new.qregs) (hc : old.cregs = new.cregs) :
    Good (c.replaced (.op i) old new) P ∧
    Sched (c.replaced (.op i) old new) P
      (L.map (fun p => if p.1 = NodeId.op i then (NodeId.op i, wiredOp P (.op i) new) else p)) := by
  have g' := replaced_good g hold hnew hq hc
  refine ⟨g', ?_⟩
  have hregs : (c.replaced (.op i) old new).regs = c.regs := by funext t; cases t <;> rfl
  have hold_uniq : ∀ o, (NodeId.op i, o) ∈ c.nodes → o = old := fun o ho => g.op_unique ho hold
  -- the registers of every entry are unchanged
  have hregs_entry : ∀ p ∈ L, opRegs (if p.1 = NodeId.op i then (NodeId.op i, wiredOp P (.op i) new) else p).2 = opRegs p.2 ∧
      (if p.1 = NodeId.op i then (NodeId.op i, wiredOp P (.op i) new) else p).1 = p.1 := by
    intro p hp
    by_cases hpi : p.1 = NodeId.op i
    · rw [if_pos hpi]
      obtain ⟨_, o, hm, ho⟩ := (hS.nodes p).mp hp
      rw [hpi] at hm ho
      have := hold_uniq o hm
      subst this
      exact ⟨by rw [ho]; exact (opRegs_wiredOp_congr hq hc).symm, hpi.symm⟩
    · rw [if_neg hpi]; exact ⟨rfl, rfl⟩
  have hwire : ∀ r, schedWire (L.map (fun p => if p.1 = NodeId.op i then (NodeId.op i, wiredOp P (.op i) new) else p)) r =
      schedWire L r := by
    intro r
    unfold schedWire
    rw [List.filter_map, List.map_map]
    have hf : L.filter ((fun p => decide (r ∈ opRegs p.2)) ∘ fun p => if p.1 = NodeId.op i then (NodeId.op i, wiredOp P (.op i) new) else p) =
        L.filter (fun p => decide (r ∈ opRegs p.2)) := by
      apply List.filter_congr
      intro p hp
      simp only [Function.comp]
      rw [(hregs_entry p hp).1]
    rw [hf]
    apply List.map_congr_left
    intro p hp
    simp only [Function.comp]
    exact (hregs_entry p (List.mem_filter.mp hp).1).2
  refine Sched.of_good g' ?_ ?_ ?_
  · intro r hl
    rw [hwire r]
    exact hS.wire r ((live_eq_of_regs hregs r).mp hl)
  · intro p
    rw [List.mem_map]
    constructor
    · rintro ⟨q, hq', rfl⟩
      obtain ⟨hi, o, hm, ho⟩ := (hS.nodes q).mp hq'
      by_cases hqi : q.1 = NodeId.op i
      · rw [if_pos hqi]
        exact ⟨⟨i, rfl⟩, new, (mem_replaced_nodes _ _).mpr (Or.inr ⟨rfl, rfl, mem_nodeIds.mpr ⟨old, hold⟩⟩), rfl⟩
      · rw [if_neg hqi]
        exact ⟨hi, o, (mem_replaced_nodes _ _).mpr (Or.inl ⟨hqi, hm⟩), ho⟩
    · rintro ⟨hi, o, hm, ho⟩
      rcases (mem_replaced_nodes _ _).mp hm with ⟨hne, hm⟩ | ⟨heq, rfl, _⟩
      · exact ⟨p, (hS.nodes p).mpr ⟨hi, o, hm, ho⟩, by rw [if_neg hne]⟩
      · refine ⟨(NodeId.op i, wiredOp P (.op i) old), hS.mem_of_node hold, ?_⟩
        rw [if_pos rfl]
        exact Prod.ext heq.symm (by rw [ho, heq])
  · have : (L.map (fun p => if p.1 = NodeId.op i then (NodeId.op i, wiredOp P (.op i) new) else p)).map (·.1) = L.map (·.1) := by
      rw [List.map_map]
      apply List.map_congr_left
      intro p hp
      simp only [Function.comp]
      exact (hregs_entry p hp).2
    rw [this]; exact hS.nodup

end Metrics
end Graphiq
