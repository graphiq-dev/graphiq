/-
  C15 — circuits reported equal are equivalent; de-duplication keeps every distinct one.

  Property theorems, with the witnesses, demo circuits and `example`s they speak about (lemmas in Proofs/Compare.lean and
  Proofs/CompareRepair*.lean).  Objects: circuits as operation lists on typed registers
  (Model/Export.lean); `directL` = `compare(method="direct")` on operation lists — proved equal to the model's walk over
  the simulated DAG `direct` for well-formed circuits (§4, `direct_walk_is_its_operation_list_form`; the driver also
  checks it on every input, and compares `direct` with the implementation); `circuitIsIsomorphic2`, `isoNormalised2` =
  the isomorphism comparison of /repo (since 0d0996e: simulated DAG with ordered parallel edges, every edge carrying the
  roles of its register at both ends, `node_match`, `edge_match` on the multiset of role pairs of the parallel edges);
  `circuitIsIsomorphic`, `isoNormalised` = the comparison before that repair (one role per edge, none at classically
  controlled operations);
  `removeRedundantWith`, `storageAddAll` = the filters.
  Reference notions: `wiresEq` (same registers, same executed operations on every quantum register) and `renEq`
  (the same up to a renaming of registers within each type).  That equal wire sequences compile to equal states is the
  commutation fact of C13/C01: for §1 evaluated by the direct oracle of the harness (all measurement branches), for the
  isomorphism method a theorem (`iso_sound_same_stabilizer_state`).

  §3 is about the isomorphism comparison before the repair (refuted, finding D22′; the witnesses are kept and the repaired
  comparison tells them apart); §4 is about the comparison of /repo — for it the full statement is proved (`iso_sound`),
  and also its converse (`iso_complete`: the comparison decides exactly "equal up to a renaming of the registers within
  each type", before and after normalisation, and is an equivalence relation; `dedup_exact`) — and about the DAG walk of
  `direct`.  The harness probes which of the two comparisons the implementation under test is and compares it with the
  corresponding model functions.
-/
import GraphiqModel.Proofs.CompareRepairStab
import GraphiqModel.Proofs.CompareRepairRenEq
import GraphiqModel.Proofs.CompareRepairDirect
import GraphiqModel.Proofs.CompareRepairEqv
namespace Graphiq.C15
open Graphiq Graphiq.Export Graphiq.Compare

/-! ## 1. The register-by-register method -/

/-- `isinstance(op1, type(op2))` between the exportable operation classes is class equality (regenerated table) -/
theorem class_test_is_equality (a b : Cls) : isSubclass a b = true ↔ a = b := isSubclass_iff a b

/-- **soundness of `direct`** for all circuits: reported equal ⇒ same register counts and the same executed operation
    sequence on every quantum register -/
theorem direct_sound (c1 c2 : Circuit) (h : directL c1 c2 = true) : wiresEq c1 c2 = true := directL_sound c1 c2 h

/-- what "the same wire sequences" means for whole circuits: for lists of operations that each act on at least one
    quantum register, agreeing on every register is the same as being related by exchanges of neighbouring operations on
    disjoint registers (the trace-theory projection lemma) -/
theorem wire_sequences_determine_the_circuit (l1 l2 : List Op) (hne : ∀ o ∈ l1, o.qRegs ≠ [])
    (hw : ∀ q, l1.filter (onReg q) = l2.filter (onReg q)) (hlen : l1.length = l2.length) : SwapEquiv l1 l2 :=
  swapEquiv_of_wires l1 l2 hw

/-- **`direct` reports equal ⇒ equivalent circuits**: the executed operation lists differ only by exchanges of
    neighbouring operations acting on disjoint registers (which commute), and by which classical register records an
    outcome (which the compiled quantum state does not depend on) -/
theorem direct_sound_up_to_commuting_exchanges (c1 c2 : Circuit) (h1 : ∀ op ∈ c1.ops, InRange c1 op)
    (h2 : ∀ op ∈ c2.ops, InRange c2 op) (h : directL c1 c2 = true) :
    SwapEquiv ((flat c1.ops).map dropC) ((flat c2.ops).map dropC) :=
  directL_swapEquiv c1 c2 h1 h2 h

/-- reflexive (so a circuit and its copy compare equal) -/
theorem direct_reflexive (c : Circuit) : directL c c = true := directL_refl c

/-- symmetric -/
theorem direct_symmetric (c1 c2 : Circuit) : directL c1 c2 = directL c2 c1 := directL_symm c1 c2

/-- insensitive to wrapping and to identity gates: replacing a wrapper by its unwrapped operations, or deleting an
    identity, anywhere in either circuit, does not change the verdict -/
theorem direct_insensitive_to_wrapping_and_identities (pre post : List Op) (gs : List G1) (q : QReg) (ne np nc : Nat)
    (c2 : Circuit) :
    directL ⟨ne, np, nc, pre ++ [.wrap gs q] ++ post⟩ c2 = directL ⟨ne, np, nc, pre ++ Op.unwrap (.wrap gs q) ++ post⟩ c2 ∧
    directL ⟨ne, np, nc, pre ++ [.one .I q] ++ post⟩ c2 = directL ⟨ne, np, nc, pre ++ post⟩ c2 :=
  ⟨directL_flat_congr _ _ c2 ⟨rfl, rfl, rfl⟩ (flat_unwrap_in_place pre post gs q),
   directL_flat_congr _ _ c2 ⟨rfl, rfl, rfl⟩ (flat_identity_in_place pre post q)⟩

/-! ## 2. The filters -/

/-- for any comparison: the filtered list is a sub-list of the input and every input circuit is kept or compares equal to
    a kept one; `CircuitStorage` stores exactly that list -/
theorem filters_keep_a_representative {α : Type} (eq : α → α → Bool) (l : List α) :
    (removeRedundantWith eq l).Sublist l ∧
    (∀ x ∈ l, x ∈ removeRedundantWith eq l ∨ ∃ k ∈ removeRedundantWith eq l, eq k x = true) ∧
    (storageAddAll eq false l).1 = removeRedundantWith eq l :=
  ⟨(removeRedundantWith_spec eq l).1, (removeRedundantWith_spec eq l).2, storage_eq_removeRedundant eq l⟩

/-- **`CircuitStorage` with its default check never refuses a distinct circuit**: a circuit that is not stored is, wire
    by wire, the same circuit as one that is stored -/
theorem storage_default_keeps_every_distinct (l : List Circuit) :
    ∀ x ∈ l, x ∈ (storageAddAll directL false l).1 ∨ ∃ k ∈ (storageAddAll directL false l).1, wiresEq k x = true := by
  intro x hx
  rw [storage_eq_removeRedundant]
  rcases (removeRedundantWith_spec directL l).2 x hx with h | ⟨k, hk, hkx⟩
  · exact Or.inl h
  · exact Or.inr ⟨k, hk, directL_sound k x hkx⟩

/-! ## 3. The isomorphism method before the repair: full statement, refutation, and what does hold -/

/-- full statement (as in properties.jsonl): reported isomorphic ⇒ the same circuit up to a renaming of registers of
    the same type -/
def iso_sound_statement : Prop :=
  ∀ c1 c2 : Circuit, circuitIsIsomorphic c1 c2 = .ok true → renEq c1 c2 = true

/-- … and its consequence for `remove_redundant_circuits`: a dropped circuit is `renEq` to a kept one -/
def dedup_iso_statement : Prop :=
  ∀ l : List Circuit, ∀ x ∈ l, x ∈ removeRedundant l ∨ ∃ k ∈ removeRedundant l, renEq k x = true

def e0 : QReg := ⟨.e, 0⟩
def e1 : QReg := ⟨.e, 1⟩

/-- smallest witness: the roles at a classically controlled operation are invisible to the matcher -/
def witA : Circuit := ⟨2, 0, 1, [.one .H e0, .cctrl .CCNOT e1 e0 0]⟩
def witB : Circuit := ⟨2, 0, 1, [.one .H e0, .cctrl .CCNOT e0 e1 0]⟩
/-- D22 as recorded in DESIGN §5: which wire continues through a two-register node is invisible -/
def d22A : Circuit := ⟨2, 0, 0, [.ctrl .CNOT e1 e0, .one .H e0, .ctrl .CNOT e1 e0, .ctrl .CNOT e1 e0]⟩
def d22B : Circuit := ⟨2, 0, 0, [.ctrl .CNOT e1 e0, .one .H e0, .ctrl .CNOT e1 e0, .ctrl .CNOT e0 e1]⟩
/-- no parallel edges are needed: what follows a two-register node can be swapped between its two wires -/
def tailA : Circuit := ⟨2, 0, 0, [.one .H e0, .ctrl .CNOT e0 e1, .one .S e0, .ctrl .CNOT e0 e1, .one .H e0, .one .S e1]⟩
def tailB : Circuit := ⟨2, 0, 0, [.one .H e0, .ctrl .CNOT e0 e1, .one .S e0, .ctrl .CNOT e0 e1, .one .S e0, .one .H e1]⟩

/-- kernel-checked: on each witness pair the coded comparison answers "isomorphic" (also after normalisation, as the
    filters call it) although no renaming relates the circuits.  The harness replays these pairs on the implementation
    on every run (compiled states differ under every renaming). -/
theorem iso_witnesses :
    circuitIsIsomorphic witA witB = .ok true ∧ isoNormalised witA witB = .ok true ∧ renEq witA witB = false ∧
    circuitIsIsomorphic d22A d22B = .ok true ∧ renEq d22A d22B = false ∧
    circuitIsIsomorphic tailA tailB = .ok true ∧ renEq tailA tailB = false := by
  decide +kernel

theorem iso_sound_refuted : ¬ iso_sound_statement := by
  intro h
  have h1 := h witA witB iso_witnesses.1
  rw [iso_witnesses.2.2.1] at h1
  cases h1

theorem dedup_iso_refuted : ¬ dedup_iso_statement := by
  intro h
  have hk : removeRedundant [witA, witB] = [witA] := by
    simp [removeRedundant, removeRedundantWith, iso_witnesses.2.1]
  rcases h [witA, witB] witB (by simp) with h1 | ⟨k, hk1, hk2⟩
  · rw [hk] at h1
    have : witB ≠ witA := by decide
    simp [this] at h1
  · rw [hk] at hk1
    simp at hk1; subst hk1
    rw [iso_witnesses.2.2.1] at hk2
    cases hk2

/-- **proved part** (`_partial`).  What the coded matcher guarantees is: a node bijection preserving operation classes,
    register types and edge multiplicities.  What it does not check is that the bijection respects the edge *keys*
    (which wire an edge belongs to).  If the bijection a positive answer exhibits does respect them up to a renaming `π`
    of wires (`KeyRespecting`: the missing hypothesis, decidable, evaluated by the driver on every input through
    `renEq`), then it maps the node sequence of every wire of the first circuit onto the node sequence of the
    corresponding wire of the second, with matching operation classes and register types node by node. -/
theorem iso_sound_partial (g1 g2 : MG) (fl : List (Nd × Nd)) (π : Wire → Wire)
    (hc : isoCheck g1 g2 fl = true)
    (hk : KeyRespecting g1 g2 (fun n => (applyMap fl n).getD n) π) (hu : UniqueOut g2) (w : Wire) (fuel : Nat) (n : Nd) :
    followKey g2 (π w) fuel ((applyMap fl n).getD n) = (followKey g1 w fuel n).map (fun n => (applyMap fl n).getD n) ∧
    ∀ m ∈ followKey g1 w fuel n, m ∈ g1.nodes.map (·.1) →
      ∃ a b, g1.opOf m = some a ∧ g2.opOf ((applyMap fl m).getD m) = some b ∧ nodeMatch a b = true := by
  refine ⟨followKey_map g1 g2 _ π hk hu w fuel n, ?_⟩
  intro m _ hm
  exact (isoCheckW_facts g1 g2 fl hc).2.nodes m hm

/-- the D22 pair and the tail-swap pair are unitary; compiled from |00⟩ with the verified tableau gates of C07
    (`Tab.runOps`), their stabilizer states differ, also after exchanging the two qubits — so the refutation holds at
    the level of compiled states, not only of wire sequences (kernel-checked) -/
theorem iso_witness_states_differ : statesDiffer2 d22A d22B = true ∧ statesDiffer2 tailA tailB = true := by
  decide +kernel

/-- **the coded check is reflexive**: the identity map passes it on any DAG with distinct node names, so a circuit and
    its copy are reported isomorphic -/
theorem iso_reflexive (g : MG) (hnd : nodupNd (g.nodes.map (·.1)) = true)
    (hop : ∀ n ∈ g.nodes.map (·.1), (g.opOf n).isSome = true) : isoCheck g g (idMapOf g) = true :=
  isoCheckW_refl edgeMatch_refl g ((nodupNd_iff _).1 hnd) (fun n hn => Option.isSome_iff_exists.1 (hop n hn))

/-- **the coded isomorphism relation is symmetric**: a map passing the check from `g1` to `g2` yields (its inverse) a
    map passing the check from `g2` to `g1` — so, `networkx.is_isomorphic` deciding existence, the comparison gives the
    same answer for (a, b) and (b, a) -/
theorem iso_symmetric (g1 g2 : MG) (f : List (Nd × Nd)) (h : isoCheck g1 g2 f = true) :
    ∃ f', isoCheck g2 g1 f' = true :=
  ⟨_, isoCheckW_symm edgeMatch_symm g1 g2 f h⟩

/-- a positive answer of the model always exhibits a map that passes the full check (the search is never trusted) -/
theorem iso_answer_is_checked (g1 g2 : MG) (h : isoGraphs g1 g2 = true) :
    ∃ f, isoCheck g1.addControlTarget g2.addControlTarget f = true := isoGraphs_witness g1 g2 h

/-! ## 4. The repaired isomorphism method (/repo since 0d0996e), and the DAG walk of `direct`

  `circuitIsIsomorphic2` models `circuit_is_isomorphic` after the repair: `_create_edge_control_target_attr` also knows
  the roles at classically controlled operations and the role `'m'` of a written classical register, and
  `add_control_target_to_dag` gives every edge the pair (role at its tail, role at its head); `node_match`, `edge_match`
  and `networkx.is_isomorphic` (specified by `isoCheck2`, never trusted as a search) are unchanged.  Lemmas in
  Proofs/CompareRepair*.lean. -/

/-- the quantifier of §4: every operation acts on registers of the circuit and on pairwise different ones (the control
    of a two-qubit operation is not its target) -/
def WellFormed (c : Circuit) : Prop := ∀ o ∈ c.ops, InRange c o ∧ (opWires o).Nodup

instance (c : Circuit) : Decidable (WellFormed c) := by unfold WellFormed; infer_instance

theorem wellFormed_opOK (c : Circuit) (h : WellFormed c) : ∀ o ∈ c.ops, OpOK (wiresN c.ne c.np c.nc) o :=
  fun o ho => (opOK_iff c o).2 (h o ho)

/-- the DAG `CircuitDAG.add` builds is a family of register paths — for every register the edges with its key form one
    path from its input node through operation nodes to its output node — and the operations met along the path of
    register `w` are the operations of the circuit that touch `w`, in the order they were added -/
theorem dag_is_a_family_of_register_paths (c : Circuit) (h : WellFormed c) :
    ∃ g, MG.build c = .ok g ∧ BuildInv (wiresN c.ne c.np c.nc) g c.ops :=
  let ⟨g, hb, hi, _⟩ := build_rep c (wellFormed_opOK c h)
  ⟨g, hb, hi⟩

/-- on such a DAG the walk of the repaired `add_control_target_to_dag` (one pass per register, remembering the role at
    the operation just left) labels **every** edge with (role of its register at its tail, role at its head) -/
theorem repaired_walk_labels_every_edge (g : MG) (W : List Wire) (body : Wire → List Nd) (r : Rep0 g W body) :
    g.addControlTarget2 = g.labelled ∧ Rep g.addControlTarget2 W body :=
  ⟨addControlTarget2_eq g W body r, r.addControlTarget2⟩

/-- different registers of one operation never have the same role (what makes the pair of roles identify the register) -/
theorem roles_separate_registers (o : Op) (hn : (opWires o).Nodup) (w w' : Wire) (hw : w ∈ opWires o) (hw' : w' ∈ opWires o)
    (h : role (some (.gate o)) w = role (some (.gate o)) w') : w = w' := role_inj o w w' hw hw' h

/-- **graph level**: a node bijection that passes the repaired check between two labelled circuit DAGs maps the path of
    every register `w` of the first onto the path of one register of the second — of the same type, input node to input
    node, output node to output node, the operation nodes in order — and at every operation node the image register
    plays the role `w` plays.  (This is the statement `iso_sound_partial` needs `KeyRespecting` for; with both ends of
    every edge labelled it is a theorem.) -/
theorem repaired_check_follows_every_register (g1 g2 : MG) (W1 W2 : List Wire) (B1 B2 : Wire → List Nd)
    (r1 : Rep g1 W1 B1) (r2 : Rep g2 W2 B2) (f : List (Nd × Nd)) (h : isoCheck2 g1 g2 f = true) (w : Wire) (hw : w ∈ W1) :
    wireMap (mapFn f) w ∈ W2 ∧ (wireMap (mapFn f) w).t = w.t ∧
    mapFn f (.inp w) = .inp (wireMap (mapFn f) w) ∧ mapFn f (.out w) = .out (wireMap (mapFn f) w) ∧
    B2 (wireMap (mapFn f) w) = (B1 w).map (mapFn f) ∧
    ∀ n ∈ B1 w, role (g2.opOf (mapFn f n)) (wireMap (mapFn f) w) = role (g1.opOf n) w :=
  iso2_wires g1 g2 W1 W2 B1 B2 r1 r2 (mapFn f) (isoCheckW_facts g1 g2 f h).2 w hw

/-- **soundness of the repaired `circuit_is_isomorphic`** (the full statement of properties.jsonl for the repaired
    function): if it reports two well-formed circuits isomorphic, there is a renaming `π` of the registers — a bijection
    of the registers that preserves the register type (emitter / photon / classical), the register counts being equal —
    such that on every register `w` the operations of the second circuit on `π w` are exactly the renamed operations of
    the first circuit on `w`, in the same order, and both circuits have the same number of operations -/
theorem iso_sound (c1 c2 : Circuit) (h1 : WellFormed c1) (h2 : WellFormed c2) (h : circuitIsIsomorphic2 c1 c2 = .ok true) :
    ∃ π, RenamedBy π c1 c2 :=
  isoVia_sound .plain c1 c2 (wellFormed_opOK c1 h1) (wellFormed_opOK c2 h2) h

/-- … hence the renamed first circuit and the second differ only by exchanges of neighbouring operations acting on
    disjoint quantum registers -/
theorem iso_sound_up_to_commuting_exchanges (c1 c2 : Circuit) (h1 : WellFormed c1) (h2 : WellFormed c2)
    (h : circuitIsIsomorphic2 c1 c2 = .ok true) :
    ∃ π, RenamedBy π c1 c2 ∧ SwapEquiv (c1.ops.map (renOp π)) c2.ops := by
  obtain ⟨π, hπ⟩ := iso_sound c1 c2 h1 h2 h
  exact ⟨π, hπ, hπ.swapEquiv (wellFormed_opOK c1 h1) (wellFormed_opOK c2 h2)⟩

/-- … hence **the same compiled state up to the renaming**, in every semantics `app` of single operations in which
    operations on disjoint quantum registers commute (for the verified stabilizer semantics that commutation is
    `C13.stabilizer_ops_on_disjoint_registers_commute`): running the renamed first circuit and running the second circuit
    from any state give the same state -/
theorem iso_sound_same_compiled_state {σ : Type} (app : Op → σ → σ)
    (hcomm : ∀ a b, disjointOps a b = true → ∀ s, app b (app a s) = app a (app b s))
    (c1 c2 : Circuit) (h1 : WellFormed c1) (h2 : WellFormed c2) (h : circuitIsIsomorphic2 c1 c2 = .ok true) :
    ∃ π, RenamedBy π c1 c2 ∧
      ∀ s, (c1.ops.map (renOp π)).foldl (fun s o => app o s) s = c2.ops.foldl (fun s o => app o s) s := by
  obtain ⟨π, hπ, hs⟩ := iso_sound_up_to_commuting_exchanges c1 c2 h1 h2 h
  exact ⟨π, hπ, fun s => hs.same_state app hcomm s⟩

/-- the repaired comparison tells every witness pair of §3 apart (also after normalisation, as the filters call it), and
    `remove_redundant_circuits` with it keeps both circuits of the smallest pair: no renaming relates the circuits of a pair
    (`iso_witnesses`), so by soundness the answer is "not isomorphic" -/
theorem repaired_matcher_rejects_the_witnesses :
    circuitIsIsomorphic2 witA witB = .ok false ∧ isoNormalised2 witA witB = .ok false ∧
    circuitIsIsomorphic2 d22A d22B = .ok false ∧ circuitIsIsomorphic2 tailA tailB = .ok false ∧
    removeRedundant2 [witA, witB] = [witA, witB] := by
  have ok : ∀ c, WellFormed c → ∀ o ∈ c.ops, OpOK (wiresN c.ne c.np c.nc) o := wellFormed_opOK
  have a := rejects_of_not_renEq witA witB (ok _ (by decide +kernel)) (ok _ (by decide +kernel)) iso_witnesses.2.2.1
  have b := rejects_of_not_renEq d22A d22B (ok _ (by decide +kernel)) (ok _ (by decide +kernel)) iso_witnesses.2.2.2.2.1
  have c := rejects_of_not_renEq tailA tailB (ok _ (by decide +kernel)) (ok _ (by decide +kernel)) iso_witnesses.2.2.2.2.2.2
  refine ⟨a.1, a.2, b.1, c.1, ?_⟩
  simp [removeRedundant2, removeRedundantWith, a.2]

/-- **the repaired isomorphism relation is reflexive and symmetric**: the identity map passes the check on every DAG with
    distinct node names whose nodes all carry an operation, and the inverse of a map passing the check from `g1` to `g2`
    passes it from `g2` to `g1` — so, `networkx.is_isomorphic` deciding existence, the comparison gives the same answer
    for (a, b) and (b, a) -/
theorem iso2_reflexive_and_symmetric :
    (∀ g : MG, (g.nodes.map (·.1)).Nodup → (∀ n ∈ g.nodes.map (·.1), ∃ o, g.opOf n = some o) →
      isoCheck2 g g (idMapOf g) = true) ∧
    (∀ (g1 g2 : MG) (f : List (Nd × Nd)), isoCheck2 g1 g2 f = true → ∃ f', isoCheck2 g2 g1 f' = true) :=
  ⟨isoCheckW_refl edgeMatch2_refl, fun g1 g2 f h => ⟨_, isoCheckW_symm edgeMatch2_symm g1 g2 f h⟩⟩

/-- **a well-formed circuit is isomorphic to its copy**, as `compare` calls the repaired comparison and as the filters call
    it: on the DAG `CircuitDAG.add` builds, and on its normalisation, the identity map passes the check -/
theorem circuit_is_isomorphic_to_its_copy (c : Circuit) (h : WellFormed c) :
    ∃ g, MG.build c = .ok g ∧ isoCheck2 g.addControlTarget2 g.addControlTarget2 (idMapOf g.addControlTarget2) = true ∧
      isoCheck2 g.normalise.addControlTarget2 g.normalise.addControlTarget2 (idMapOf g.normalise.addControlTarget2) = true :=
  build_iso_refl c (wellFormed_opOK c h)

/-- **no false-distinct on renamed copies**: if the registers of a well-formed circuit are renamed by a type-preserving
    bijection `π` of its registers (every operation renamed in place, same order), the repaired comparison has an
    isomorphism to report: some node map passes the full check (`networkx.is_isomorphic`, deciding existence, answers
    `True`).  Together with `iso_sound` this pins the repaired function from both sides; the converse for arbitrary
    `RenamedBy` pairs (operations also reordered) is `iso_complete`. -/
theorem renamed_copy_is_isomorphic (c : Circuit) (h : WellFormed c) (π : Wire → Wire)
    (hπ : IsRenaming (wiresN c.ne c.np c.nc) π) (hsurj : ∀ w2 ∈ wiresN c.ne c.np c.nc, ∃ w ∈ wiresN c.ne c.np c.nc, π w = w2) :
    ∃ g1 g2 f, MG.build c = .ok g1 ∧ MG.build ⟨c.ne, c.np, c.nc, c.ops.map (renOp π)⟩ = .ok g2 ∧
      isoCheck2 g1.addControlTarget2 g2.addControlTarget2 f = true :=
  renamed_copy_iso c (wellFormed_opOK c h) π hπ hsurj

/-- **the model's answer is exactly "an isomorphism exists"** on circuit DAGs: the backtracking search of the model (nodes in the
    order `MG.topo`, candidates filtered by `node_match`, injectivity and consistency) is complete — with `iso2_answer_is_checked`
    the model function equals the specification of `networkx.is_isomorphic` ("some bijection passes the check") -/
theorem model_answer_is_existence_of_an_isomorphism (g1 g2 : MG) (W1 W2 : List Wire) (B1 B2 : Wire → List Nd)
    (r1 : Rep0 g1 W1 B1) (r2 : Rep0 g2 W2 B2) (hn1 : (g1.nodes.map (·.1)).Nodup) :
    isoGraphs2 g1 g2 = true ↔ ∃ f, isoCheck2 g1.addControlTarget2 g2.addControlTarget2 f = true :=
  isoGraphs2_iff g1 g2 W1 W2 B1 B2 r1 r2 hn1

/-- **a renamed copy is reported isomorphic** — by the model function itself, not only "an isomorphism exists" -/
theorem renamed_copy_is_reported_isomorphic (c : Circuit) (h : WellFormed c) (π : Wire → Wire)
    (hπ : IsRenaming (wiresN c.ne c.np c.nc) π) (hsurj : ∀ w2 ∈ wiresN c.ne c.np c.nc, ∃ w ∈ wiresN c.ne c.np c.nc, π w = w2) :
    circuitIsIsomorphic2 c ⟨c.ne, c.np, c.nc, c.ops.map (renOp π)⟩ = .ok true :=
  renamed_copy_reported c (wellFormed_opOK c h) π hπ hsurj

/-- **the repaired comparison is reflexive on well-formed circuits**, as `compare` calls it and as the filters call it -/
theorem comparison_is_reflexive (c : Circuit) (h : WellFormed c) :
    circuitIsIsomorphic2 c c = .ok true ∧ isoNormalised2 c c = .ok true :=
  ⟨isoVia_refl .plain c (wellFormed_opOK c h), isoVia_refl .normalised c (wellFormed_opOK c h)⟩

/-- a positive answer of the repaired model always exhibits a map that passes the full check (the search is never trusted) -/
theorem iso2_answer_is_checked (g1 g2 : MG) (h : isoGraphs2 g1 g2 = true) :
    ∃ f, isoCheck2 g1.addControlTarget2 g2.addControlTarget2 f = true := isoGraphs2_witness g1 g2 h

/-- the DAG after `unwrap_nodes` and `remove_identity` (the copy `remove_redundant_circuits` compares) is again a family of
    register paths, and the operations along the path of register `w` are the *executed* operations (`flat`: wrappers
    expanded in application order, identities dropped) that touch `w` -/
theorem normalised_dag_carries_the_flattened_circuit (c : Circuit) (h : WellFormed c) :
    ∃ g, MG.build c = .ok g ∧ GraphInv (wiresN c.ne c.np c.nc) g.normalise (fun w => (flat c.ops).filter (touches w)) :=
  let ⟨g, hb, hi, _⟩ := build_rep c (wellFormed_opOK c h)
  ⟨g, hb, normalise_graphInv _ g c.ops hi⟩

/-- **soundness of the repaired comparison as the filters call it** (copy, `unwrap_nodes`, `remove_identity`,
    `circuit_is_isomorphic`): reported isomorphic ⇒ the executed operations of the two circuits are renamings of each
    other register by register, hence differ (after renaming) only by exchanges of neighbouring operations on disjoint
    registers -/
theorem iso_normalised_sound (c1 c2 : Circuit) (h1 : WellFormed c1) (h2 : WellFormed c2)
    (h : isoNormalised2 c1 c2 = .ok true) :
    ∃ π, RenamedBy π (flatC c1) (flatC c2) ∧ SwapEquiv ((flat c1.ops).map (renOp π)) (flat c2.ops) := by
  obtain ⟨π, hπ⟩ := isoVia_sound .normalised c1 c2 (wellFormed_opOK c1 h1) (wellFormed_opOK c2 h2) h
  exact ⟨π, hπ, hπ.swapEquiv (flat_opOK _ _ (wellFormed_opOK c1 h1)) (flat_opOK _ _ (wellFormed_opOK c2 h2))⟩

/-- **reported isomorphic ⇒ the same compiled stabilizer state up to the renaming** — in C13's verified stabilizer
    semantics (`Commute.appG`: stabilizer group of a valid tableau on `ne + np` qubits plus the unread measurement outcomes;
    gates by C07's `specGate`, measurements by `specMeasure`; that operations on disjoint registers commute there is
    `C13.stabilizer_ops_on_disjoint_registers_commute`): for either form of the repaired comparison (as `compare` calls it,
    or as the filters call it after normalisation), running the renamed executed operations of the first circuit and
    running the executed operations of the second from any state give the same state, for every assignment of outcomes
    to the measuring operations.  `toSOp` (Proofs/CompareRepairStab.lean) is the translation of an executed operation of
    this model into an operation of C13's compile sequence: same class, same registers. -/
theorem iso_sound_same_stabilizer_state (c1 c2 : Circuit) (h1 : WellFormed c1) (h2 : WellFormed c2)
    (h : circuitIsIsomorphic2 c1 c2 = .ok true ∨ isoNormalised2 c1 c2 = .ok true) :
    ∃ π, RenamedBy π (flatC c1) (flatC c2) ∧ ∀ (ne np : Nat) (s : Commute.GSt ne np),
      Wire.runSeq (Commute.appG ne np) (((flat c1.ops).map (renOp π)).map toSOp) s =
        Wire.runSeq (Commute.appG ne np) ((flat c2.ops).map toSOp) s := by
  have key : ∃ π, RenamedBy π (flatC c1) (flatC c2) := by
    rcases h with h | h
    · obtain ⟨π, hπ⟩ := iso_sound c1 c2 h1 h2 h
      exact ⟨π, hπ.flat⟩
    · obtain ⟨π, hπ, _⟩ := iso_normalised_sound c1 c2 h1 h2 h
      exact ⟨π, hπ⟩
  obtain ⟨π, hπ⟩ := key
  refine ⟨π, hπ, fun ne np s => ?_⟩
  exact (hπ.swapEquiv (flat_opOK _ _ (wellFormed_opOK c1 h1)) (flat_opOK _ _ (wellFormed_opOK c2 h2))).same_stab_state ne np s

/-- **`remove_redundant_circuits` with the repaired comparison keeps every distinct circuit** (the second half of the
    property, for the repaired function): the result is a sub-list of the input, and every circuit that is dropped is —
    in its executed operations — a renaming, register by register, of a circuit that is kept -/
theorem dedup_sound (l : List Circuit) (hl : ∀ c ∈ l, WellFormed c) :
    (removeRedundant2 l).Sublist l ∧
    ∀ x ∈ l, x ∈ removeRedundant2 l ∨ ∃ k ∈ removeRedundant2 l, ∃ π, RenamedBy π (flatC k) (flatC x) :=
  removeRedundant2_sound l (fun c hc => wellFormed_opOK c (hl c hc))

/-- **the model of `direct` is its operation-list form.**  `direct` is the walk over the two simulated DAGs (build,
    `unwrap_nodes`, `remove_identity`, then every register of both graphs in lock-step) — the function the driver compares
    with the implementation; §1 is about `directL`.  On well-formed circuits the walk never raises and returns exactly
    `directL` (register-path invariant of the normalised DAG, its node count, and an induction along the two paths), so
    the agreement the harness tests on every input is a theorem, and every statement of §1 is a statement about the walk -/
theorem direct_walk_is_its_operation_list_form (c1 c2 : Circuit) (h1 : WellFormed c1) (h2 : WellFormed c2) :
    direct c1 c2 = .ok (directL c1 c2) :=
  direct_eq_directL c1 c2 (wellFormed_opOK c1 h1) (wellFormed_opOK c2 h2)

/-- **soundness of `direct` for the model of the code itself**: reported equal ⇒ same register counts and the same
    executed operations on every quantum register -/
theorem direct_sound_on_the_dag (c1 c2 : Circuit) (h1 : WellFormed c1) (h2 : WellFormed c2) (h : direct c1 c2 = .ok true) :
    wiresEq c1 c2 = true :=
  direct_graph_sound c1 c2 (wellFormed_opOK c1 h1) (wellFormed_opOK c2 h2) h

/-- the walk is reflexive and symmetric, and does not raise -/
theorem direct_reflexive_symmetric_on_the_dag (c1 c2 : Circuit) (h1 : WellFormed c1) (h2 : WellFormed c2) :
    direct c1 c1 = .ok true ∧ direct c1 c2 = direct c2 c1 := by
  rw [direct_walk_is_its_operation_list_form c1 c1 h1 h1, direct_walk_is_its_operation_list_form c1 c2 h1 h2,
    direct_walk_is_its_operation_list_form c2 c1 h2 h1, directL_refl, directL_symm]
  exact ⟨rfl, rfl⟩

/-- … and insensitive to wrapping and to identity gates (the statement of §1 for the walk itself) -/
theorem direct_insensitive_on_the_dag (pre post : List Op) (gs : List G1) (q : QReg) (ne np nc : Nat) (c2 : Circuit)
    (h2 : WellFormed c2)
    (hw : WellFormed ⟨ne, np, nc, pre ++ [.wrap gs q] ++ post⟩) (hu : WellFormed ⟨ne, np, nc, pre ++ Op.unwrap (.wrap gs q) ++ post⟩)
    (hi : WellFormed ⟨ne, np, nc, pre ++ [.one .I q] ++ post⟩) (hn : WellFormed ⟨ne, np, nc, pre ++ post⟩) :
    direct ⟨ne, np, nc, pre ++ [.wrap gs q] ++ post⟩ c2 = direct ⟨ne, np, nc, pre ++ Op.unwrap (.wrap gs q) ++ post⟩ c2 ∧
    direct ⟨ne, np, nc, pre ++ [.one .I q] ++ post⟩ c2 = direct ⟨ne, np, nc, pre ++ post⟩ c2 := by
  rw [direct_walk_is_its_operation_list_form _ c2 hw h2, direct_walk_is_its_operation_list_form _ c2 hu h2,
    direct_walk_is_its_operation_list_form _ c2 hi h2, direct_walk_is_its_operation_list_form _ c2 hn h2]
  obtain ⟨a, b⟩ := direct_insensitive_to_wrapping_and_identities pre post gs q ne np nc c2
  rw [a, b]
  exact ⟨rfl, rfl⟩

/-- … and therefore **`CircuitStorage` with its default check** (`check_redundant_circuit` = `direct` on copies; an
    exception counts as "different", as in the driver) **never refuses a distinct circuit**, stated for the graph-walk
    model: a circuit that is not stored is, wire by wire, the same circuit as one that is stored -/
theorem storage_default_keeps_every_distinct_on_the_dag (l : List Circuit) (hl : ∀ c ∈ l, WellFormed c) :
    let eq := fun a b : Circuit => match checkRedundant a b with | .ok r => r | .error _ => false
    ∀ x ∈ l, x ∈ (storageAddAll eq false l).1 ∨ ∃ k ∈ (storageAddAll eq false l).1, wiresEq k x = true := by
  intro eq x hx
  rw [storage_eq_removeRedundant]
  have hsub : (removeRedundantWith eq l).Sublist l := (removeRedundantWith_spec eq l).1
  rcases (removeRedundantWith_spec eq l).2 x hx with h | ⟨k, hk, hkx⟩
  · exact Or.inl h
  · refine Or.inr ⟨k, hk, ?_⟩
    have hkl := hsub.subset hk
    have hd : direct k x = .ok true := by
      show checkRedundant k x = .ok true
      cases hr : checkRedundant k x with
      | ok r =>
        have : eq k x = r := by show (match checkRedundant k x with | .ok r => r | .error _ => false) = r; rw [hr]
        rw [this] at hkx; rw [hkx]
      | error e =>
        have : eq k x = false := by show (match checkRedundant k x with | .ok r => r | .error _ => false) = false; rw [hr]
        rw [this] at hkx; cases hkx
    exact direct_sound_on_the_dag k x (hl k hkl) (hl x hx) hd

/-- **the full statements of §3 hold of the repaired functions**: `iso_sound_statement` and `dedup_iso_statement` (refuted above
    for the matcher before the repair) hold literally — with the executable reference notion `renEq` the harness
    evaluates by brute force — on well-formed circuits -/
theorem original_statements_hold_for_the_repaired_functions :
    (∀ c1 c2 : Circuit, WellFormed c1 → WellFormed c2 → circuitIsIsomorphic2 c1 c2 = .ok true → renEq c1 c2 = true) ∧
    (∀ l : List Circuit, (∀ c ∈ l, WellFormed c) →
      ∀ x ∈ l, x ∈ removeRedundant2 l ∨ ∃ k ∈ removeRedundant2 l, renEq k x = true) := by
  constructor
  · intro c1 c2 h1 h2 h
    obtain ⟨π, hπ⟩ := iso_sound c1 c2 h1 h2 h
    exact hπ.renEq (wellFormed_opOK c1 h1) (wellFormed_opOK c2 h2)
  · intro l hl x hx
    obtain ⟨hsub, hall⟩ := dedup_sound l hl
    rcases hall x hx with h | ⟨k, hk, π, hπ⟩
    · exact Or.inl h
    · refine Or.inr ⟨k, hk, ?_⟩
      have hkl := hsub.subset hk
      rw [← renEq_flatC]
      exact hπ.renEq (flat_opOK _ _ (wellFormed_opOK k (hl k hkl))) (flat_opOK _ _ (wellFormed_opOK x (hl x hx)))

/-- **completeness of the repaired `circuit_is_isomorphic`**: two well-formed circuits that are renamings of each other
    register by register (`RenamedBy`: equal register counts, a type-preserving bijection `π` of the registers, and on
    every register — quantum or classical — the same renamed operation sequence) are reported isomorphic, in whatever order
    operations on different registers were appended.  (The renamed first circuit and the second differ by exchanges of
    neighbours that share no register; such an exchange only exchanges two node ids of the DAG.) -/
theorem iso_complete (c1 c2 : Circuit) (h1 : WellFormed c1) (h2 : WellFormed c2) (π : Wire → Wire) (h : RenamedBy π c1 c2) :
    circuitIsIsomorphic2 c1 c2 = .ok true :=
  h.reported (wellFormed_opOK c1 h1) (wellFormed_opOK c2 h2)

/-- **the repaired `circuit_is_isomorphic` decides exactly "equal up to a renaming of the registers within each type"**
    on well-formed circuits (`iso_sound` and `iso_complete` together): the comparison after the repair is neither too
    coarse (the defect D22′) nor too fine -/
theorem repaired_comparison_decides_renaming (c1 c2 : Circuit) (h1 : WellFormed c1) (h2 : WellFormed c2) :
    circuitIsIsomorphic2 c1 c2 = .ok true ↔ ∃ π, RenamedBy π c1 c2 :=
  isoVia_exact .plain c1 c2 (wellFormed_opOK c1 h1) (wellFormed_opOK c2 h2)

/-- hence the answer depends on the second circuit only up to reordering operations that share no register: a circuit
    with the same registers and the same operation sequence on every register gets the same answer -/
theorem reordering_does_not_change_the_answer (c1 c2 c2' : Circuit) (h1 : WellFormed c1) (h2 : WellFormed c2)
    (h2' : WellFormed c2') (hn : c2.ne = c2'.ne ∧ c2.np = c2'.np ∧ c2.nc = c2'.nc)
    (hw : ∀ w, c2.ops.filter (touches w) = c2'.ops.filter (touches w)) :
    circuitIsIsomorphic2 c1 c2 = .ok true → circuitIsIsomorphic2 c1 c2' = .ok true := by
  intro h
  obtain ⟨π, hπ⟩ := iso_sound c1 c2 h1 h2 h
  exact iso_complete c1 c2' h1 h2' π
    ⟨hπ.ne.trans hn.1, hπ.np.trans hn.2.1, hπ.nc.trans hn.2.2, hπ.into, hπ.inj, hπ.surj,
      fun w hwW => (hw (π w)).symm.trans (hπ.wires w hwW)⟩

/-- **the comparison the filters make decides exactly "the executed operations are equal up to a renaming of the
    registers"**: after `unwrap_nodes` and `remove_identity` two well-formed circuits are reported isomorphic iff their
    flattened operation lists (wrappers expanded in application order, identities dropped) are renamings of each other
    register by register.  (The normalised DAG is no built DAG — node ids are no operation indices any more — so the
    invariant carried through `insert_at` / `remove_op` also keeps a linear order of the operation nodes along which every
    register path runs, and the absence of parallel edges with one key.) -/
theorem filter_comparison_decides_renaming (c1 c2 : Circuit) (h1 : WellFormed c1) (h2 : WellFormed c2) :
    isoNormalised2 c1 c2 = .ok true ↔ ∃ π, RenamedBy π (flatC c1) (flatC c2) :=
  isoVia_exact .normalised c1 c2 (wellFormed_opOK c1 h1) (wellFormed_opOK c2 h2)

/-- **`remove_redundant_circuits` with the repaired comparison keeps exactly one circuit of every class**: the result is a
    sub-list of the input; every input circuit is kept or is (in its executed operations) a renaming of a kept one; and no
    two kept circuits are renamings of each other -/
theorem dedup_exact (l : List Circuit) (hl : ∀ c ∈ l, WellFormed c) :
    (removeRedundant2 l).Sublist l ∧
    (∀ x ∈ l, x ∈ removeRedundant2 l ∨ ∃ k ∈ removeRedundant2 l, ∃ π, RenamedBy π (flatC k) (flatC x)) ∧
    (removeRedundant2 l).Pairwise (fun a b => ¬ ∃ π, RenamedBy π (flatC a) (flatC b)) :=
  ⟨(dedup_sound l hl).1, (dedup_sound l hl).2, removeRedundant2_minimal l (fun c hc => wellFormed_opOK c (hl c hc))⟩

/-- **the repaired comparison is an equivalence relation on well-formed circuits** — the model function itself, as
    `compare(method="isomorphism")` calls it and as the filters call it after normalisation: reflexive, symmetric (the
    inverse of a map that passes the check passes it, and the search is complete), transitive (by the exact
    characterisation, renamings compose).  So "exactly one kept circuit per class" in `dedup_exact` is about classes. -/
theorem repaired_comparison_is_an_equivalence :
    (∀ c, WellFormed c → circuitIsIsomorphic2 c c = .ok true ∧ isoNormalised2 c c = .ok true) ∧
    (∀ c1 c2, WellFormed c1 → WellFormed c2 →
      (circuitIsIsomorphic2 c1 c2 = .ok true → circuitIsIsomorphic2 c2 c1 = .ok true) ∧
      (isoNormalised2 c1 c2 = .ok true → isoNormalised2 c2 c1 = .ok true)) ∧
    (∀ c1 c2 c3, WellFormed c1 → WellFormed c2 → WellFormed c3 →
      (circuitIsIsomorphic2 c1 c2 = .ok true → circuitIsIsomorphic2 c2 c3 = .ok true → circuitIsIsomorphic2 c1 c3 = .ok true) ∧
      (isoNormalised2 c1 c2 = .ok true → isoNormalised2 c2 c3 = .ok true → isoNormalised2 c1 c3 = .ok true)) :=
  ⟨fun c h => comparison_is_reflexive c h,
   fun c1 c2 h1 h2 => ⟨isoVia_symm .plain c1 c2 (wellFormed_opOK c1 h1) (wellFormed_opOK c2 h2),
     isoVia_symm .normalised c1 c2 (wellFormed_opOK c1 h1) (wellFormed_opOK c2 h2)⟩,
   fun c1 c2 c3 h1 h2 h3 =>
    ⟨isoVia_trans .plain c1 c2 c3 (wellFormed_opOK c1 h1) (wellFormed_opOK c2 h2) (wellFormed_opOK c3 h3),
     isoVia_trans .normalised c1 c2 c3 (wellFormed_opOK c1 h1) (wellFormed_opOK c2 h2) (wellFormed_opOK c3 h3)⟩⟩

/-! ## Non-vacuity -/

/-- H e0; CNOT e0→p0; W[H,P] p0; measure-and-reset e0→p0; identity -/
def demo : Circuit :=
  ⟨1, 1, 1, [.one .H ⟨.e, 0⟩, .ctrl .CNOT ⟨.e, 0⟩ ⟨.p, 0⟩, .wrap [.H, .S] ⟨.p, 0⟩, .cctrl .MCR ⟨.e, 0⟩ ⟨.p, 0⟩ 0, .one .I ⟨.e, 0⟩]⟩
/-- the same circuit re-bracketed: wrapper unwrapped, identity gone -/
def demo' : Circuit :=
  ⟨1, 1, 1, [.one .H ⟨.e, 0⟩, .ctrl .CNOT ⟨.e, 0⟩ ⟨.p, 0⟩, .one .S ⟨.p, 0⟩, .one .H ⟨.p, 0⟩, .cctrl .MCR ⟨.e, 0⟩ ⟨.p, 0⟩ 0]⟩

example : directL demo demo' = true := directL_of_flat_eq demo demo' ⟨rfl, rfl, rfl⟩ (by decide)
example : (∀ op ∈ demo.ops, InRange demo op) ∧ (∀ op ∈ demo'.ops, InRange demo' op) := by decide +kernel
example : wiresEq demo demo' = true := direct_sound demo demo' (directL_of_flat_eq demo demo' ⟨rfl, rfl, rfl⟩ (by decide))
example : direct demo demo' = .ok true :=
  (direct_walk_is_its_operation_list_form demo demo' (by decide +kernel) (by decide +kernel)).trans
    (congrArg _ (directL_of_flat_eq demo demo' ⟨rfl, rfl, rfl⟩ (by decide)))
example : removeRedundantWith directL [demo, demo', witA, witB] = [demo, witA, witB] := by
  have a : directL demo witA = false := by decide +kernel
  have b : directL demo witB = false := by decide +kernel
  have c : directL witA witB = false := by decide +kernel
  simp [removeRedundantWith, directL_of_flat_eq demo demo' ⟨rfl, rfl, rfl⟩ (by decide), a, b, c]

/-- the hypotheses of `iso_sound_partial` are met by a real pair: a circuit's DAG against itself under the identity map -/
def demoG : MG := match MG.build demo with | .ok g => g.addControlTarget | .error _ => {}
def idMap : List (Nd × Nd) := demoG.nodes.map fun p => (p.1, p.1)

example : isoCheck demoG demoG idMap = true :=
  iso_reflexive demoG (by decide +kernel) (by decide +kernel)
example : nodupNd (demoG.nodes.map (·.1)) = true ∧ ∀ n ∈ demoG.nodes.map (·.1), (demoG.opOf n).isSome = true := by decide +kernel
example : UniqueOut demoG := by unfold UniqueOut; decide +kernel
example : ∀ n ∈ demoG.nodes.map (·.1), (applyMap idMap n).getD n = n := by decide +kernel

/-- the hypotheses of §4 are met by real circuits: the witnesses and the demo circuits are well formed, and the repaired
    comparison accepts a renamed copy (registers e0 ↔ e1 exchanged) of the D22 circuit and the re-bracketed demo pair after
    normalisation -/
def d22A' : Circuit := ⟨2, 0, 0, [.ctrl .CNOT e0 e1, .one .H e1, .ctrl .CNOT e0 e1, .ctrl .CNOT e0 e1]⟩

example : WellFormed witA ∧ WellFormed witB ∧ WellFormed d22A ∧ WellFormed d22B ∧ WellFormed demo ∧ WellFormed demo' ∧ WellFormed d22A' := by
  decide +kernel
example : circuitIsIsomorphic2 d22A d22A' = .ok true ∧ circuitIsIsomorphic2 d22A d22A = .ok true ∧
    isoNormalised2 demo demo' = .ok true := by
  refine ⟨?_, (comparison_is_reflexive d22A (by decide +kernel)).1, ?_⟩
  · exact renamed_copy_is_reported_isomorphic d22A (by decide +kernel)
      (fun w => if w = ⟨.e, 0⟩ then ⟨.e, 1⟩ else if w = ⟨.e, 1⟩ then ⟨.e, 0⟩ else w)
      ⟨by decide, by decide, by decide⟩ (by decide)
  · exact (filter_comparison_decides_renaming demo demo' (by decide +kernel) (by decide +kernel)).2
      ⟨id, rfl, rfl, rfl, by decide, by decide, by decide, by decide⟩
example : removeRedundant2 [demo, demo', witA, witB, d22A, d22A'] = [demo, witA, witB, d22A] := by
  obtain ⟨w1, w2, w3, w4, w5, w6⟩ : WellFormed demo ∧ WellFormed demo' ∧ WellFormed witA ∧ WellFormed witB ∧ WellFormed d22A ∧
      WellFormed d22A' := by decide +kernel
  -- two pairs are renamings of each other (`filter_comparison_decides_renaming`); for the others `renEq` finds none
  have no : ∀ c1 c2, WellFormed c1 → WellFormed c2 → renEq c1 c2 = false → isoNormalised2 c1 c2 = .ok false :=
    fun c1 c2 h1 h2 h => (rejects_of_not_renEq c1 c2 (wellFormed_opOK c1 h1) (wellFormed_opOK c2 h2) h).2
  have t1 : isoNormalised2 demo demo' = .ok true :=
    (filter_comparison_decides_renaming demo demo' w1 w2).2 ⟨id, rfl, rfl, rfl, by decide, by decide, by decide, by decide⟩
  have t2 : isoNormalised2 d22A d22A' = .ok true :=
    (filter_comparison_decides_renaming d22A d22A' w5 w6).2
      ⟨fun w => if w = ⟨.e, 0⟩ then ⟨.e, 1⟩ else if w = ⟨.e, 1⟩ then ⟨.e, 0⟩ else w, rfl, rfl, rfl, by decide, by decide, by decide, by decide⟩
  simp [removeRedundant2, removeRedundantWith, t1, t2, no demo witA w1 w3 (by decide +kernel), no demo witB w1 w4 (by decide +kernel),
    no witA witB w3 w4 (by decide +kernel), no demo d22A w1 w5 (by decide +kernel), no witA d22A w3 w5 (by decide +kernel),
    no witB d22A w4 w5 (by decide +kernel), no demo d22A' w1 w6 (by decide +kernel), no witA d22A' w3 w6 (by decide +kernel),
    no witB d22A' w4 w6 (by decide +kernel)]

/-- `Rep0` / `Rep` are met by a real DAG: the demo circuit's -/
example : ∃ g body, MG.build demo = .ok g ∧ Rep0 g (wiresN 1 1 1) body ∧ Rep g.addControlTarget2 (wiresN 1 1 1) body := by
  obtain ⟨g, hb, ⟨body, r, _⟩⟩ := dag_is_a_family_of_register_paths demo (by decide +kernel)
  exact ⟨g, body, hb, r, r.addControlTarget2⟩

/-- the hypotheses of `direct_insensitive_on_the_dag` are met by a real instance -/
example :
    WellFormed ⟨1, 1, 0, [.one .H ⟨.e, 0⟩] ++ [.wrap [.H, .S] ⟨.p, 0⟩] ++ [.ctrl .CNOT ⟨.e, 0⟩ ⟨.p, 0⟩]⟩ ∧
    WellFormed ⟨1, 1, 0, [.one .H ⟨.e, 0⟩] ++ Op.unwrap (.wrap [.H, .S] ⟨.p, 0⟩) ++ [.ctrl .CNOT ⟨.e, 0⟩ ⟨.p, 0⟩]⟩ ∧
    WellFormed ⟨1, 1, 0, [.one .H ⟨.e, 0⟩] ++ [.one .I ⟨.p, 0⟩] ++ [.ctrl .CNOT ⟨.e, 0⟩ ⟨.p, 0⟩]⟩ ∧
    WellFormed ⟨1, 1, 0, [.one .H ⟨.e, 0⟩] ++ [.ctrl .CNOT ⟨.e, 0⟩ ⟨.p, 0⟩]⟩ := by decide +kernel

/-- the hypotheses are met: exchanging the two emitters of the D22 circuit is a renaming (and the model's search finds the
    isomorphism: `circuitIsIsomorphic2 d22A d22A' = .ok true` above) -/
example : IsRenaming (wiresN 2 0 0) (fun w => if w = ⟨.e, 0⟩ then ⟨.e, 1⟩ else if w = ⟨.e, 1⟩ then ⟨.e, 0⟩ else w) ∧
    (⟨2, 0, 0, d22A.ops.map (renOp (fun w => if w = ⟨.e, 0⟩ then ⟨.e, 1⟩ else if w = ⟨.e, 1⟩ then ⟨.e, 0⟩ else w))⟩ : Circuit) = d22A' := by
  refine ⟨⟨?_, ?_, ?_⟩, by decide⟩ <;> decide

/-- the hypotheses of `iso_complete` are met by a pair that is renamed *and* reordered: `H e0; measure e1→c0` against
    `measure e0→c0; H e1` (emitters exchanged, and the two operations appended in the other order); the kernel evaluates
    the model to `true` -/
def reoA : Circuit := ⟨2, 0, 1, [.one .H e0, .meas e1 0]⟩
def reoB : Circuit := ⟨2, 0, 1, [.meas e0 0, .one .H e1]⟩
example : WellFormed reoA ∧ WellFormed reoB ∧ circuitIsIsomorphic2 reoA reoB = .ok true := by decide +kernel
example : RenamedBy (fun w => if w = ⟨.e, 0⟩ then ⟨.e, 1⟩ else if w = ⟨.e, 1⟩ then ⟨.e, 0⟩ else w) reoA reoB := by
  refine ⟨rfl, rfl, rfl, ?_, ?_, ?_, ?_⟩ <;> decide

/-- the right-hand side of `filter_comparison_decides_renaming` is met by the re-bracketed demo pair (identity renaming) -/
example : RenamedBy id (flatC demo) (flatC demo') := by
  refine ⟨rfl, rfl, rfl, ?_, ?_, ?_, ?_⟩ <;> decide

end Graphiq.C15
