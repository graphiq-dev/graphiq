/-
  Proofs/MixtureDMBridgeMat.lean — embedding of the executable exact matrices (`Mat` over ℚ[i], `Model/Gauss.lean`) into
  Mathlib matrices over ℂ indexed by bit strings, in the functional form the C06 chain uses:

  * `gqC z` is the ring homomorphism `Hilbert.gqC` applied to `z`;
  * `toC n m` : the `2^n × 2^n` matrix of `m`, row / column `idx a`; it is the matrix `m` represents
    (`rep_iff_toC : Rep n m M ↔ m.n = 2^n ∧ toC n m = M`), so what Proofs/HilbertBridge*.lean prove with `Rep` transfers
    by `Rep.toC` / `rep_toC`;
  * `toC` turns `Mat.mul` (the zero-skipping `dot` loop), `add`, `smul`, `dagger`, `norm` (tabulation), `hermitianize`,
    `conjBy`, `eye`, `zero` into the Mathlib operations;  `toC_inj` : equal images ⇒ `Mat.EqOn`.
-/
import GraphiqModel.Proofs.MixtureDMBridgeIdx
import GraphiqModel.Proofs.HilbertBridgeMat
import GraphiqModel.Proofs.MixtureDM
namespace Graphiq
namespace MixDM
open Matrix Hilbert

/-! ### ℚ[i] → ℂ -/

noncomputable def gqC (z : GQ) : ℂ := ⟨(z.re : ℝ), (z.im : ℝ)⟩

@[simp] theorem gqC_re (z : GQ) : (gqC z).re = (z.re : ℝ) := rfl
@[simp] theorem gqC_im (z : GQ) : (gqC z).im = (z.im : ℝ) := rfl

theorem gqC_zero : gqC 0 = 0 := map_zero Hilbert.gqC
theorem gqC_one : gqC 1 = 1 := map_one Hilbert.gqC
theorem gqC_add (a b : GQ) : gqC (a + b) = gqC a + gqC b := by apply Complex.ext <;> simp
theorem gqC_mul (a b : GQ) : gqC (a * b) = gqC a * gqC b := map_mul Hilbert.gqC a b
theorem gqC_neg (a : GQ) : gqC (-a) = -gqC a := by apply Complex.ext <;> simp
theorem gqC_neg' (a : GQ) : gqC (GQ.neg a) = -gqC a := gqC_neg a
theorem gqC_I : gqC GQ.I = Complex.I := Hilbert.gqC_I
theorem gqC_conj (a : GQ) : gqC a.conj = star (gqC a) := Hilbert.gqC_conj a
theorem gqC_smul (q : Rat) (a : GQ) : gqC (GQ.smul q a) = ((q : ℚ) : ℂ) * gqC a :=
  (Hilbert.gqC_smul q a).trans (by rw [Complex.ofReal_ratCast]; rfl)
theorem gqC_injective (a b : GQ) (h : gqC a = gqC b) : a = b := Hilbert.gqC_injective h
theorem gqC_sum (s : Finset Nat) (f : Nat → GQ) : gqC (∑ i ∈ s, f i) = ∑ i ∈ s, gqC (f i) := map_sum Hilbert.gqC f s

/-! ### `Mat` → matrices on bit strings -/

noncomputable def toC (n : Nat) (m : Mat) : HMat n := Matrix.of fun a b => gqC (m.e (idx a) (idx b))

theorem toC_apply (n : Nat) (m : Mat) (a b : Bits n) : toC n m a b = gqC (m.e (idx a) (idx b)) := rfl

theorem _root_.Graphiq.Hilbert.Rep.toC {n : Nat} {m : Mat} {M : DMat n} (h : Rep n m M) : toC n m = M := by
  ext a b
  rw [toC_apply, idx_eq, idx_eq]
  exact h.2 a b

theorem rep_toC {n : Nat} {m : Mat} (hn : m.n = 2 ^ n) : Rep n m (toC n m) :=
  ⟨hn, fun a b => by rw [toC_apply, idx_eq, idx_eq]; rfl⟩

theorem rep_iff_toC (n : Nat) (m : Mat) (M : DMat n) : Rep n m M ↔ m.n = 2 ^ n ∧ toC n m = M :=
  ⟨fun h => ⟨h.1, h.toC⟩, fun h => h.2 ▸ rep_toC h.1⟩

theorem toC_congr (n : Nat) (a b : Mat) (hn : a.n = 2 ^ n) (h : Mat.EqOn a b) : toC n a = toC n b := by
  ext x y
  rw [toC_apply, toC_apply, h.2 _ _ (by rw [hn]; exact idx_lt x) (by rw [hn]; exact idx_lt y)]

theorem toC_norm (n : Nat) (m : Mat) (hn : m.n = 2 ^ n) : toC n m.norm = toC n m :=
  toC_congr n _ _ ((Mat.norm_n m).trans hn) (Mat.norm_eqOn m)

theorem toC_add (n : Nat) (a b : Mat) : toC n (Mat.add a b) = toC n a + toC n b := by
  ext x y; simp only [toC_apply, Matrix.add_apply, Mat.add, gqC_add]

theorem toC_smul (n : Nat) (q : Rat) (a : Mat) : toC n (Mat.smul q a) = ((q : ℚ) : ℂ) • toC n a := by
  ext x y; simp only [toC_apply, Matrix.smul_apply, Mat.smul, gqC_smul, smul_eq_mul]

theorem toC_dagger (n : Nat) (a : Mat) : toC n a.dagger = (toC n a)ᴴ := by
  ext x y; simp only [toC_apply, Matrix.conjTranspose_apply, Mat.dagger, gqC_conj]

theorem toC_zero (n N : Nat) : toC n (Mat.zero N) = 0 := by
  ext x y; simp only [toC_apply, Mat.zero, Matrix.zero_apply, gqC_zero]

theorem toC_eye (n N : Nat) : toC n (Mat.eye N) = 1 := by
  ext x y
  simp only [toC_apply, Mat.eye, Matrix.one_apply]
  by_cases h : x = y
  · subst h; simp [gqC_one]
  · have : idx x ≠ idx y := fun e => h (idx_injective x y e)
    simp [h, this, gqC_zero]

/-- the model's matrix product (the zero-skipping `dot` over `a.n = 2^n` indices) is the matrix product -/
theorem toC_mul (n : Nat) (a b : Mat) (hn : a.n = 2 ^ n) : toC n (Mat.mul a b) = toC n a * toC n b := by
  ext x y
  simp only [toC_apply, Matrix.mul_apply, idx_eq]
  exact gqC_mul_e a b hn x y

theorem mul_n (a b : Mat) : (Mat.mul a b).n = a.n := rfl
theorem add_n (a b : Mat) : (Mat.add a b).n = a.n := rfl
theorem smul_n (q : Rat) (a : Mat) : (Mat.smul q a).n = a.n := rfl
theorem dagger_n (a : Mat) : a.dagger.n = a.n := rfl
theorem hermitianize_n (a : Mat) : (Mat.hermitianize a).n = a.n := rfl
theorem conjBy_n (u ρ : Mat) : (Mat.conjBy u ρ).n = u.n := Mat.norm_n (Mat.mul u ρ)

theorem toC_conjBy (n : Nat) (u ρ : Mat) (hn : u.n = 2 ^ n) :
    toC n (Mat.conjBy u ρ) = conjH (toC n u) (toC n ρ) := by
  unfold Mat.conjBy conjH
  rw [toC_mul n _ _ (by rw [Mat.norm_n, mul_n]; exact hn), toC_norm n _ (by rw [mul_n]; exact hn), toC_mul n _ _ hn,
    toC_dagger]

noncomputable def hermH {n : Nat} (M : HMat n) : HMat n := (1 / 2 : ℂ) • (M + Mᴴ)

theorem hermH_of_herm {n : Nat} (M : HMat n) (h : Mᴴ = M) : hermH M = M := herm_of_hermitian M h

theorem toC_hermitianize (n : Nat) (a : Mat) : toC n (Mat.hermitianize a) = hermH (toC n a) := by
  unfold Mat.hermitianize hermH
  rw [toC_smul, toC_add, toC_dagger]
  congr 1
  norm_num

theorem toC_inj (n : Nat) (a b : Mat) (ha : a.n = 2 ^ n) (hb : b.n = 2 ^ n) (h : toC n a = toC n b) : Mat.EqOn a b :=
  rep_eqOn (rep_toC ha) (h ▸ rep_toC hb)

end MixDM
end Graphiq
