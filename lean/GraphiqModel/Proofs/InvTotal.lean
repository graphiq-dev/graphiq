/-
  Proofs/InvTotal.lean — `inverse_circuit` on the *input* tableau: it returns exactly on the independent real commuting
  generating sets (the valid stabilizer states), and what it returns is |0…0⟩.  All sizes.
-/
import GraphiqModel.Proofs.InvBridge
namespace Graphiq
open PRow Tab
namespace STab

/-- **`inverse_circuit` returns on every independent real commuting generating set**, and the tableau it returns is exactly |0…0⟩ -/
theorem inverseCircuit_complete (t : STab) (hg : t.Good) (h : t.Indep) :
    ∃ t' circ, t.inverseCircuit = .ok (t', circ) ∧ t'.isZero = true := by
  obtain ⟨c, hc⟩ := canonicalForm_of_indep t hg h
  exact inverseCircuit_complete_of_canon t c hg hc

theorem inverseCircuit_canon_ok (t s1 : STab) (circ : List Gate) (h : t.inverseCircuit = .ok (s1, circ)) :
    ∃ t0, t.canonicalForm = .ok t0 := by
  obtain ⟨t0, _, hc, _⟩ := inverseCircuit_eq t s1 circ h
  exact ⟨t0, hc⟩

theorem inverseCircuit_returns_iff (t : STab) (hg : t.Good) : (∃ r, t.inverseCircuit = .ok r) ↔ t.Indep := by
  constructor
  · intro ⟨⟨t', circ⟩, h⟩
    obtain ⟨c, hc⟩ := inverseCircuit_canon_ok t t' circ h
    exact indep_of_canonicalForm t c hg hc
  · intro h
    obtain ⟨t', circ, e, _⟩ := inverseCircuit_complete t hg h
    exact ⟨_, e⟩

end STab
end Graphiq
