/-
  Proofs/StateToGraphAdjugate.lean — the two floating-point lines that `_graph_finder` had UNTIL /repo 70adac4 (the code computes
  `x_inv = _gf2_inverse(x_mat.T)` since; see the section of Properties/C08.lean on the former floating-point lines),
      `assert int(np.round(np.linalg.det(x_mat))) % 2 != 0`
      `x_inv = (np.round(np.linalg.det(x_mat.T) * np.linalg.inv(x_mat.T)) % 2).astype(int)`
  read in exact arithmetic (`det · inv` of an integer matrix is its adjugate, an integer matrix): `adjInv`.
  On every 0/1 matrix with trivial GF(2) kernel the integer determinant is odd (that assertion could not fire) and the adjugate reduced
  mod 2 is a left inverse over GF(2) (`adjInv_ok`); it agrees entry by entry with the Gauss–Jordan inverse `gf2InvF` of the executable
  model (`adjInv_eq_gf2InvF`), so the model run with `adjInv` returns the same graph and gates (`graphFinderWith_adjInv`): the
  replacement of the float step changed no result the old code could compute.
-/
import GraphiqModel.Proofs.StateToGraphTotal
import Mathlib.LinearAlgebra.Matrix.Adjugate
namespace Graphiq
namespace S2G
open Matrix

/-- the 0/1 integer matrix that numpy holds -/
def intMat (n : Nat) (A : Adj) : Matrix (Fin n) (Fin n) ℤ := fun i j => if A i.val j.val then 1 else 0

/-- exact-arithmetic reading of the former assertion `det(x_mat) odd` and of `(round(det · inv) % 2).astype(int)`:
    `none` when the integer determinant is even, else the adjugate reduced mod 2 -/
noncomputable def adjInv (n : Nat) (A : Adj) : Option Adj :=
  if (intMat n A).det % 2 = 0 then none
  else some fun i j => if h : i < n ∧ j < n then decide ((adjugate (intMat n A) ⟨i, h.1⟩ ⟨j, h.2⟩) % 2 = 1) else false

theorem intMat_transpose (n : Nat) (A : Adj) : intMat n (transpose A) = (intMat n A)ᵀ := rfl

theorem toMat_eq_map (n : Nat) (A : Adj) : toMat n A = (Int.castRingHom (ZMod 2)).mapMatrix (intMat n A) := by
  ext i j
  simp only [toMat, intMat, RingHom.mapMatrix_apply, Matrix.map_apply, b2z]
  split <;> simp

theorem zmod2_cast_eq_one_iff (z : ℤ) : ((z : ZMod 2) = 1) ↔ z % 2 = 1 := by
  have h : ((z : ZMod 2) = ((1 : ℤ) : ZMod 2)) ↔ z % 2 = 1 % 2 := by
    rw [ZMod.intCast_eq_intCast_iff]
    exact Iff.rfl
  simpa using h

theorem zmod2_cast_eq_zero_iff (z : ℤ) : ((z : ZMod 2) = 0) ↔ z % 2 = 0 := by
  rw [ZMod.intCast_zmod_eq_zero_iff_dvd]
  exact ⟨fun h => Int.emod_eq_zero_of_dvd h, fun h => Int.dvd_of_emod_eq_zero h⟩

theorem toMat_left_inverse (n : Nat) (A : Adj) (h : Inj n A) : ∃ N : Adj, toMat n N * toMat n A = 1 := by
  obtain ⟨M, _, hM⟩ := gf2Inv_complete n A h
  exact ⟨M.f, by rw [← toMat_mul]; exact (toMat_one_iff n _).mpr hM⟩

theorem det_odd_of_inj (n : Nat) (A : Adj) (h : Inj n A) : (intMat n A).det % 2 = 1 := by
  obtain ⟨N, hN⟩ := toMat_left_inverse n A h
  have hdet : (toMat n N).det * (toMat n A).det = 1 := by rw [← Matrix.det_mul, hN, Matrix.det_one]
  have hne : (toMat n A).det ≠ 0 := by
    intro h0; rw [h0, mul_zero] at hdet; exact zero_ne_one hdet
  have h1 : (toMat n A).det = 1 := by
    have : ∀ z : ZMod 2, z ≠ 0 → z = 1 := by decide
    exact this _ hne
  rw [toMat_eq_map, ← RingHom.map_det] at h1
  exact (zmod2_cast_eq_one_iff _).mp h1

/-- the matrix `adjInv` returns, over `ZMod 2`, is the adjugate of the GF(2) matrix -/
theorem toMat_adj (n : Nat) (A : Adj) :
    toMat n (fun i j => if h : i < n ∧ j < n then decide ((adjugate (intMat n A) ⟨i, h.1⟩ ⟨j, h.2⟩) % 2 = 1) else false) =
      adjugate (toMat n A) := by
  rw [toMat_eq_map n A, ← RingHom.map_adjugate]
  ext i j
  simp only [toMat, Matrix.map_apply, RingHom.mapMatrix_apply, dif_pos (And.intro i.isLt j.isLt), Fin.eta, b2z,
    Int.coe_castRingHom]
  by_cases h : (adjugate (intMat n A) i j) % 2 = 1
  · simp only [h, decide_true, if_true]
    exact ((zmod2_cast_eq_one_iff _).mpr h).symm
  · have h0 : (adjugate (intMat n A) i j) % 2 = 0 := by omega
    simp only [h, decide_false]
    exact ((zmod2_cast_eq_zero_iff _).mpr h0).symm

theorem adjInv_ok (n : Nat) : InvOK adjInv n := by
  intro A h
  have hd := det_odd_of_inj n A h
  refine ⟨_, by unfold adjInv; rw [if_neg (by omega)], ?_⟩
  apply (toMat_one_iff n _).mp
  rw [toMat_mul, toMat_adj, Matrix.adjugate_mul]
  have h1 : (toMat n A).det = 1 := by
    rw [toMat_eq_map, ← RingHom.map_det]
    exact (zmod2_cast_eq_one_iff _).mpr hd
  rw [h1, one_smul]

theorem left_inverse_unique (n : Nat) (A M M' : Adj)
    (h : ∀ i j, i < n → j < n → matMul n M A i j = decide (i = j))
    (h' : ∀ i j, i < n → j < n → matMul n M' A i j = decide (i = j)) :
    ∀ i j, i < n → j < n → M i j = M' i j := by
  have e : toMat n M * toMat n A = 1 := by rw [← toMat_mul]; exact (toMat_one_iff n _).mpr h
  have e' : toMat n M' * toMat n A = 1 := by rw [← toMat_mul]; exact (toMat_one_iff n _).mpr h'
  have r : toMat n A * toMat n M = 1 := mul_eq_one_comm.mp e
  have : toMat n M = toMat n M' := by
    calc toMat n M = (toMat n M' * toMat n A) * toMat n M := by rw [e', Matrix.one_mul]
      _ = toMat n M' * (toMat n A * toMat n M) := Matrix.mul_assoc _ _ _
      _ = toMat n M' := by rw [r, Matrix.mul_one]
  intro i j hi hj
  have := congrFun (congrFun this ⟨i, hi⟩) ⟨j, hj⟩
  exact b2z_inj _ _ this

/-- the executable model's Gauss–Jordan inverse IS the adjugate mod 2, entry by entry, on every matrix with trivial kernel -/
theorem adjInv_eq_gf2InvF (n : Nat) (A : Adj) (h : Inj n A) :
    ∃ M M', adjInv n A = some M ∧ gf2InvF n A = some M' ∧ ∀ i j, i < n → j < n → M i j = M' i j := by
  obtain ⟨M, e, hM⟩ := adjInv_ok n A h
  obtain ⟨M', e', hM'⟩ := gf2InvF_ok n A h
  exact ⟨M, M', e, e', left_inverse_unique n A M M' hM hM'⟩

/-- on independent commuting rows `_graph_finder` computed with the exact-arithmetic `det · inv % 2` and with the model's Gauss–Jordan
    inverse are the same computation -/
theorem graphFinderWith_adjInv (m0 : XZ) (hn : 0 < m0.n) (hc : Comm m0) (hi : Indep m0) :
    graphFinderWith adjInv m0 = graphFinder m0 :=
  graphFinderWith_congr adjInv gf2InvF m0 hn hc hi (fun A h => adjInv_eq_gf2InvF m0.n A h)

/-- `x_mat` of `_graph_finder` where its inverse is taken: the X part after `row_reduction` and `hadamard_transform` -/
def xAfterHadamards (m0 : XZ) : Adj :=
  ((m0.norm.rowReduction.1.hadamardTransform (positionFinder m0.n m0.norm.rowReduction.1.x)).norm).x

/-- on independent commuting rows the integer determinant of `x_mat` (equivalently of `x_mat.T`) is odd: the former assertion
    `det(x_mat) odd` could not fire in exact arithmetic -/
theorem det_xAfterHadamards_odd (m0 : XZ) (hn : 0 < m0.n) (hc : Comm m0) (hi : Indep m0) :
    (intMat m0.n (transpose (xAfterHadamards m0))).det % 2 = 1 ∧ (intMat m0.n (xAfterHadamards m0)).det % 2 = 1 := by
  have h : (intMat m0.n (transpose (xAfterHadamards m0))).det % 2 = 1 :=
    det_odd_of_inj m0.n _ (hadamard_x_inj m0 hn hc hi)
  refine ⟨h, ?_⟩
  rw [intMat_transpose, Matrix.det_transpose] at h
  exact h

end S2G

open S2G in
/-- the executable model equals the exact-arithmetic reading of the Python on every stabilizer state: `state_to_graph` with
    `x_inv = adj(x.T) mod 2` (what `np.round(det · inv) % 2` is when the float error is below 1/2) returns exactly what the model with
    Gauss–Jordan elimination returns -/
theorem stateToGraphWith_adjInv (t : STab) (hn : 0 < t.n) (hg : t.Good) (hi : Indep (XZ.ofSTab t)) :
    stateToGraphWith adjInv t = stateToGraph t := by
  unfold stateToGraph stateToGraphWith
  rw [graphFinderWith_adjInv (XZ.ofSTab t) hn (comm_ofSTab t hg) hi]
  rfl

end Graphiq
