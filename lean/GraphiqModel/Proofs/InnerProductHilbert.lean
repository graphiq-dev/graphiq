/-
  Proofs/InnerProductHilbert.lean — the Hilbert-space reading of `inner_product`: for two tableaux with real commuting
  stabilizer halves, the value the code reports (`none` = 0, `some e` = `2^{-e/2}`) squared is the overlap
  `tr(ρ_a ρ_b)` of the two density matrices `ρ = ∏_i (1 + P_i)/2` (Proofs/HilbertState.lean; for the stabilizer half of a
  valid Clifford tableau `ρ` is a pure state, so `tr(ρ_a ρ_b) = |⟨a|b⟩|²`).

  Route: the unitary `U` of the synthesised gate list maps `ρ_a` to `|0…0⟩⟨0…0|` and `ρ_b` to the density matrix of the
  canonical form `s2` the code inspects (`U ρ U† = ρ(image group)`, gauge independence of `ρ`); the trace is invariant.
  Against `ρ_0 = |0…0⟩⟨0…0|`: an x-free row `±Z…` of `s2` acts on `ρ_0` as its sign (factor 1 or 0), and a row with an
  X pivot at column `q` halves the trace, because `Z_q` fixes `ρ_0`, commutes with the earlier rows and anticommutes
  with the row (the argument of `trace_rhoTo_succ`).
-/
import GraphiqModel.Proofs.HilbertPure
import GraphiqModel.Proofs.InnerProductFull
namespace Graphiq
namespace Hilbert
open Matrix PRow STab Tab

/-- `U ρ(T) U† = ρ(T')` when the signed group of `T'` is the image of that of `T` under the gate list -/
theorem conj_rho_image (n : Nat) (c : List Gate) (T T' : STab) (img : CircImage n c T T') (gT : T.Good) (gT' : T'.Good) :
    circMat n c * rho n T * (circMat n c)ᴴ = rho n T' := by
  have hT : T.n = n := img.nT
  have hT' : T'.n = n := img.nT'
  have hc := img.wf
  obtain ⟨hU, hU'⟩ := circ_unitary n c hc
  let T'' : STab := { n := n, row := fun i => actCirc c (T.row i) }
  have e1 : circMat n c * rho n T * (circMat n c)ᴴ = rho n T'' := by
    show circMat n c * rhoTo n T.row T.n * (circMat n c)ᴴ = rhoTo n T''.row n
    rw [hT]
    exact conj_rhoTo n _ hU hU' T.row T''.row n (fun i _ => circ_conj n c hc (T.row i))
  have g'' : T''.Good := by
    constructor
    · intro i hi
      show (actCirc c (T.row i)).ip = false
      rw [actCirc_ip]; exact gT.real i (by rw [hT]; exact hi)
    · intro i k hi hk
      show sp n (actCirc c (T.row i)) (actCirc c (T.row k)) = false
      rw [STab.actCirc_sp n c hc]
      have := gT.comm i k (by rw [hT]; exact hi) (by rw [hT]; exact hk)
      rw [hT] at this; exact this
  have img'' : CircImage n c T T'' := circImage_of_rows n c hc T T'' hT rfl (fun i _ => EqOn.refl _ _)
  have s : SpanEq T'' T' := by
    apply spanEq_of_gens T'' T' hT'
    · intro i hi
      obtain ⟨a, ha, ea⟩ := img.bwd _ (spn_gen T' i hi)
      have := img''.fwd a ha
      unfold Spn at this ⊢
      exact InSpan.eqv _ _ this ea
    · intro i hi
      exact img.fwd _ (spn_gen T i (by rw [hT]; exact hi))
  rw [e1]
  exact rho_spanEq T'' T' s g'' gT'

/-! ### the overlap of |0…0⟩ with a tableau in `Canon` shape -/

theorem trace_rho_zero (n : Nat) : Matrix.trace (rho n (STab.zero n)) = 1 := by
  unfold Matrix.trace
  simp only [Matrix.diag_apply, rho_zero]
  rw [Finset.sum_eq_single (fun _ => false : Bits n)]
  · simp
  · intro b _ hb; rw [if_neg (fun h => hb h.1)]
  · intro h; exact absurd (Finset.mem_univ _) h

section canon
variable (c : STab) (k : Nat) (px pz : Nat → Nat)
variable (hx : PInv c.n (xb c) px 0 k c.n) (hz : PInv c.n (zb c) pz k c.n c.n) (hg : c.Good)
include hx hg

/-- a positive x-free row fixes `ρ_0`, a negative one annihilates it -/
theorem proj_zrow_rho_zero (m : Nat) (hk : k ≤ m) (hm : m < c.n) :
    proj c.n (c.row m) * rho c.n (STab.zero c.n)
      = (if (c.row m).r then (0 : ℂ) else 1) • rho c.n (STab.zero c.n) := by
  have xf : XFree c.n (c.row m) := fun j hj => hx.below m j hk hm hj
  have hip := hg.real m hm
  cases hr : (c.row m).r with
  | false =>
    have hs : (STab.zero c.n).Spn (c.row m) := (zero_spn_iff c.n _).2 ⟨xf, hr, hip⟩
    have h1 := span_mul_rho (STab.zero c.n) (zero_good c.n) _ hs
    have h1' : pauliMat c.n (c.row m) * rho c.n (STab.zero c.n) = rho c.n (STab.zero c.n) := h1
    rw [proj_mul_of_fixed c.n _ _ h1']
    simp
  | true =>
    have hs : (STab.zero c.n).Spn (PRow.neg (c.row m)) :=
      (zero_spn_iff c.n _).2 ⟨xfree_neg c.n _ xf, by show (!(c.row m).r) = false; rw [hr]; rfl, hip⟩
    have h1 := span_mul_rho (STab.zero c.n) (zero_good c.n) _ hs
    have h1' : pauliMat c.n (PRow.neg (c.row m)) * rho c.n (STab.zero c.n) = rho c.n (STab.zero c.n) := h1
    have hneg : pauliMat c.n (PRow.neg (c.row m)) = -pauliMat c.n (c.row m) := pauliMat_neg c.n (c.row m)
    rw [hneg, Matrix.neg_mul] at h1'
    have h2 : pauliMat c.n (c.row m) * rho c.n (STab.zero c.n) = -rho c.n (STab.zero c.n) :=
      neg_eq_iff_eq_neg.mp h1'
    rw [proj_mul_of_neg c.n _ _ h2]
    simp

/-- a Z-block row multiplies the overlap by 1 (sign `+`) or 0 (sign `−`) -/
theorem trace_zero_zrow (m : Nat) (hk : k ≤ m) (hm : m < c.n) :
    Matrix.trace (rho c.n (STab.zero c.n) * rhoTo c.n c.row (m + 1))
      = (if (c.row m).r then (0 : ℂ) else 1) * Matrix.trace (rho c.n (STab.zero c.n) * rhoTo c.n c.row m) := by
  show Matrix.trace (rho c.n (STab.zero c.n) * (rhoTo c.n c.row m * proj c.n (c.row m))) = _
  rw [← Matrix.mul_assoc, Matrix.trace_mul_comm, ← Matrix.mul_assoc, proj_zrow_rho_zero c k px hx hg m hk hm,
    Matrix.smul_mul, Matrix.trace_smul, smul_eq_mul]

/-- an X-block row halves the overlap -/
theorem trace_zero_xrow (m : Nat) (hm : m < k) :
    Matrix.trace (rho c.n (STab.zero c.n) * rhoTo c.n c.row (m + 1))
      = (1 / 2 : ℂ) * Matrix.trace (rho c.n (STab.zero c.n) * rhoTo c.n c.row m) := by
  have hkn := hx.pr_le
  have hq : px m < c.n := hx.piv_lt m (Nat.zero_le _) hm
  -- `Z_q` fixes `ρ_0` on both sides, commutes with the earlier rows and anticommutes with row `m`
  have hDρ : pauliMat c.n (Zq (px m)) * rho c.n (STab.zero c.n) = rho c.n (STab.zero c.n) :=
    span_mul_rho (STab.zero c.n) (zero_good c.n) _ (spn_gen (STab.zero c.n) (px m) hq)
  have hρD : rho c.n (STab.zero c.n) * pauliMat c.n (Zq (px m)) = rho c.n (STab.zero c.n) :=
    mul_eq_of_hermitian _ _ (pauliMat_hermitian c.n _ rfl) (rho_hermitian _ (zero_good c.n)) hDρ
  have hDR : pauliMat c.n (Zq (px m)) * rhoTo c.n c.row m = rhoTo c.n c.row m * pauliMat c.n (Zq (px m)) :=
    commute_rhoTo c.n _ c.row m (fun j hj => commute_proj c.n _ _ (pauliMat_comm c.n _ _ (by
      rw [sp_comm, sp_Zq c.n (px m) _ false hq]
      exact hx.piv_clear m j (Nat.zero_le _) hm (by omega) (by omega))))
  show Matrix.trace (rho c.n (STab.zero c.n) * (rhoTo c.n c.row m * proj c.n (c.row m))) = _
  rw [← Matrix.mul_assoc]
  exact trace_mul_proj_of_anti c.n _ (Zq (px m)) (c.row m)
    (by rw [← Matrix.mul_assoc, hDρ, Matrix.mul_assoc, ← hDR, ← Matrix.mul_assoc, hρD])
    (by rw [sp_comm, sp_Zq c.n (px m) _ false hq]; exact hx.piv_one m (Nat.zero_le _) hm)

theorem trace_zero_xblock (m : Nat) (hm : m ≤ k) :
    Matrix.trace (rho c.n (STab.zero c.n) * rhoTo c.n c.row m) = (1 / 2 : ℂ) ^ m := by
  induction m with
  | zero =>
    show Matrix.trace (rho c.n (STab.zero c.n) * 1) = _
    rw [Matrix.mul_one, trace_rho_zero]; simp
  | succ j ih =>
    rw [trace_zero_xrow c k px hx hg j (by omega), ih (by omega), pow_succ]
    ring

/-- **the overlap of |0…0⟩ with a `Canon` tableau**: `0` if some x-free row carries the sign `−`, else `2^{-k}` -/
theorem trace_zero_canon :
    ((∃ i, k ≤ i ∧ i < c.n ∧ (c.row i).r = true) →
      Matrix.trace (rho c.n (STab.zero c.n) * rho c.n c) = 0) ∧
    ((∀ i, k ≤ i → i < c.n → (c.row i).r = false) →
      Matrix.trace (rho c.n (STab.zero c.n) * rho c.n c) = (1 / 2 : ℂ) ^ k) := by
  have hkn := hx.pr_le
  have key : ∀ m, k ≤ m → m ≤ c.n →
      ((∃ i, k ≤ i ∧ i < m ∧ (c.row i).r = true) →
        Matrix.trace (rho c.n (STab.zero c.n) * rhoTo c.n c.row m) = 0) ∧
      ((∀ i, k ≤ i → i < m → (c.row i).r = false) →
        Matrix.trace (rho c.n (STab.zero c.n) * rhoTo c.n c.row m) = (1 / 2 : ℂ) ^ k) := by
    intro m
    induction m with
    | zero =>
      intro h1 _
      have : k = 0 := by omega
      subst this
      exact ⟨fun ⟨i, _, h, _⟩ => by omega, fun _ => trace_zero_xblock c 0 px hx hg 0 (Nat.le_refl _)⟩
    | succ j ih =>
      intro h1 h2
      by_cases hjk : j + 1 = k
      · refine ⟨fun ⟨i, _, _, _⟩ => by omega, fun _ => ?_⟩
        rw [trace_zero_xblock c k px hx hg (j + 1) (by omega), hjk]
      · have hkj : k ≤ j := by omega
        obtain ⟨ih1, ih2⟩ := ih hkj (by omega)
        rw [trace_zero_zrow c k px hx hg j hkj (by omega)]
        constructor
        · rintro ⟨i, a1, a2, a3⟩
          by_cases e : i = j
          · rw [← e, a3]; simp
          · rw [ih1 ⟨i, a1, by omega, a3⟩]; simp
        · intro hall
          rw [hall j hkj (Nat.lt_succ_self j), ih2 (fun i a1 a2 => hall i a1 (by omega))]
          simp
  exact key c.n hkn (Nat.le_refl _)

end canon

/-- the squared value `inner_product` reports: `none` ↦ 0, `some e` ↦ `(2^{-e/2})² = 2^{-e}` (what `fidelity` returns) -/
noncomputable def ipVal : Option Nat → ℂ
  | none => 0
  | some e => (1 / 2 : ℂ) ^ e

/-- **`inner_product` computes the Hilbert-space overlap.**  For tableaux `a`, `b` with real commuting stabilizer halves:
    if `inner_product` reports `0` then `tr(ρ_a ρ_b) = 0`, and if it reports `2^{-e/2}` then `tr(ρ_a ρ_b) = 2^{-e}` -/
theorem innerProduct_trace (a b : Tab) (r : Option Nat) (ga : (STab.ofTab a).Good) (gb : (STab.ofTab b).Good)
    (h : STab.innerProduct a b = .ok r) :
    Matrix.trace (rho a.n (STab.ofTab a) * rho a.n (STab.ofTab b))
      = ipVal r := by
  obtain ⟨⟨s1, circ, s2, k, px, pz, _, _, n2, _, g2, hx, hz, iA, iB, hr⟩⟩ := innerProduct_analysis a b r ga gb h
  have hc := iA.wf
  obtain ⟨hU, hU'⟩ := circ_unitary a.n circ hc
  have cA := conj_rho_image a.n circ _ _ iA ga (zero_good s2.n)
  have cB := conj_rho_image a.n circ _ _ iB gb g2
  -- the trace is invariant under the conjugation
  have e : Matrix.trace (rho a.n (STab.ofTab a) * rho a.n (STab.ofTab b))
      = Matrix.trace (rho a.n (STab.zero s2.n) * rho a.n s2) := by
    rw [← cA, ← cB]
    have : circMat a.n circ * rho a.n (STab.ofTab a) * (circMat a.n circ)ᴴ
        * (circMat a.n circ * rho a.n (STab.ofTab b) * (circMat a.n circ)ᴴ)
        = circMat a.n circ * (rho a.n (STab.ofTab a) * rho a.n (STab.ofTab b)) * (circMat a.n circ)ᴴ := by
      have : ∀ (U A B : Matrix (Bits a.n) (Bits a.n) ℂ), Uᴴ * U = 1 → U * A * Uᴴ * (U * B * Uᴴ) = U * (A * B) * Uᴴ := by
        intro U A B hUU
        calc U * A * Uᴴ * (U * B * Uᴴ) = U * A * (Uᴴ * U) * B * Uᴴ := by simp only [Matrix.mul_assoc]
          _ = U * (A * B) * Uᴴ := by rw [hUU, Matrix.mul_one]; simp only [Matrix.mul_assoc]
      exact this _ _ _ hU'
    rw [this, trace_conj_unitary _ _ hU']
  rw [e, ← n2]
  obtain ⟨tz, tp⟩ := trace_zero_canon s2 k px hx g2
  have spec := STab.ipFold_spec k (fun i => (s2.row i).r) s2.n
  rw [← hr] at spec
  have hkn : k ≤ s2.n := hx.pr_le
  cases hr' : r with
  | none =>
    exact tz (spec.2 hr')
  | some e0 =>
    obtain ⟨ek, hpos⟩ := spec.1 e0 hr'
    have ek' : e0 = k := by omega
    rw [ek']
    exact tp hpos

/-- **mixtures**: against a pure target the value `Σ_i p_i F(T_i, T_t)` that `Infidelity.evaluate` forms for a branched
    mixed stabilizer state is the overlap `tr(ρ_t · Σ_i p_i ρ_i)` -/
theorem mixture_trace (a : Tab) (ga : (STab.ofTab a).Good) (l : List (ℂ × Tab × Option Nat))
    (h : ∀ x, x ∈ l → (STab.ofTab x.2.1).Good ∧ STab.innerProduct a x.2.1 = .ok x.2.2) :
    Matrix.trace (rho a.n (STab.ofTab a) * (l.map fun x => x.1 • rho a.n (STab.ofTab x.2.1)).sum)
      = (l.map fun x => x.1 * ipVal x.2.2).sum := by
  induction l with
  | nil => simp
  | cons x rest ih =>
    have hx := h x List.mem_cons_self
    have ih' := ih (fun y hy => h y (List.mem_cons_of_mem _ hy))
    simp only [List.map_cons, List.sum_cons]
    rw [Matrix.mul_add, Matrix.trace_add, ih', Matrix.mul_smul, Matrix.trace_smul,
      innerProduct_trace a x.2.1 x.2.2 ga hx.1 hx.2, smul_eq_mul]

end Hilbert
end Graphiq
