/-
  MetricsHistIso.lean — the metrics are functions of the per-register operation sequences (C18).

  `wiredWire c P r` = the operations on the wire of register `r`, as wired, in wire order (what `reg_gate_history` shows).
  Two circuits satisfying DagInv with the same register counts and the same operation sequence on every wire have schedules with
  the SAME operation list (`same_wiredWires_same_ops`) — node identities do not matter — so every op-list specification, hence
  every metric, has the same value on both.  Proof: a schedule stays one when an entry is moved in front of a block it shares no
  register with (`Sched.move`), and two lists of entries with the same operations on every register can be matched by such moves
  (`match_projections`, a fact about lists).
-/
import GraphiqModel.Proofs.MetricsHist
namespace Graphiq
namespace Metrics
open Dag Relation

theorem head_filter_unique {α : Type} {l : List α} {A B : α → Bool} {q q2 : α} {ta tb : List α}
    (ha : l.filter A = q :: ta) (hb : l.filter B = q2 :: tb) (hA : A q2 = true) (hB : B q = true) : q = q2 := by
  induction l with
  | nil => simp at ha
  | cons x t ih =>
    by_cases hax : A x = true
    · rw [List.filter_cons_of_pos hax] at ha
      injection ha with h1 _
      subst h1
      by_cases hbx : B x = true
      · rw [List.filter_cons_of_pos hbx] at hb
        injection hb with h2 _
      · exact absurd hB hbx
    · rw [List.filter_cons_of_neg hax] at ha
      by_cases hbx : B x = true
      · rw [List.filter_cons_of_pos hbx] at hb
        injection hb with h2 _
        subst h2
        exact absurd hA hax
      · rw [List.filter_cons_of_neg hbx] at hb
        exact ih ha hb

def onReg (L : List (NodeId × Op)) (r : Reg) : List (NodeId × Op) := L.filter (fun p => decide (r ∈ opRegs p.2))

theorem schedWire_eq_onReg (L : List (NodeId × Op)) (r : Reg) : schedWire L r = (onReg L r).map (·.1) := rfl

theorem onReg_append (L1 L2 : List (NodeId × Op)) (r : Reg) : onReg (L1 ++ L2) r = onReg L1 r ++ onReg L2 r := by
  simp [onReg, List.filter_append]

theorem onReg_cons_pos {p : NodeId × Op} {L : List (NodeId × Op)} {r : Reg} (h : r ∈ opRegs p.2) :
    onReg (p :: L) r = p :: onReg L r := by simp [onReg, h]

theorem onReg_cons_neg {p : NodeId × Op} {L : List (NodeId × Op)} {r : Reg} (h : r ∉ opRegs p.2) :
    onReg (p :: L) r = onReg L r := by simp [onReg, h]

theorem Sched.move {c : Dag} {P : Paths} {X M1 M2 : List (NodeId × Op)} {e : NodeId × Op} (hS : Sched c P (X ++ M1 ++ e :: M2))
    (hind : ∀ r ∈ opRegs e.2, onReg M1 r = []) : Sched c P (X ++ e :: (M1 ++ M2)) := by
  have hperm : (X ++ e :: (M1 ++ M2)).Perm (X ++ M1 ++ e :: M2) := by
    rw [List.append_assoc]; exact List.Perm.append_left X List.perm_middle.symm
  refine ⟨fun r hl => ?_, fun p => by rw [hperm.mem_iff]; exact hS.nodes p, (hperm.map _).nodup_iff.mpr hS.nodup,
    fun p hp => hS.live p (hperm.mem_iff.mp hp)⟩
  rw [hS.wire r hl]
  congr 2
  by_cases hr : r ∈ opRegs e.2
  · have hM1 : schedWire M1 r = [] := by rw [schedWire_eq_onReg, hind r hr]; rfl
    simp only [schedWire_append, schedWire_cons_pos hr, hM1, List.append_nil, List.nil_append]
  · simp only [schedWire_append, schedWire_cons_neg hr, List.append_assoc]

/-- peel off the first entry of the first list: the first entry of the second list on one of its registers is first on all of
    them (else the two lists would disagree on a register), so it may be moved to the front -/
theorem match_projections {Pr : List (NodeId × Op) → Prop}
    (hmove : ∀ X M1 M2 e, Pr (X ++ M1 ++ e :: M2) → (∀ r ∈ opRegs e.2, onReg M1 r = []) → Pr (X ++ e :: (M1 ++ M2))) :
    ∀ (L X L'' : List (NodeId × Op)), (∀ p ∈ L, opRegs p.2 ≠ []) → (∀ p ∈ L'', opRegs p.2 ≠ []) → Pr (X ++ L'') →
      (∀ r, (onReg L'' r).map (·.2) = (onReg L r).map (·.2)) → ∃ L', Pr (X ++ L') ∧ L'.map (·.2) = L.map (·.2) := by
  intro L
  induction L with
  | nil =>
    intro X L'' _ hne'' hPr hH
    have hL'' : L'' = [] := by
      apply List.eq_nil_iff_forall_not_mem.mpr
      intro p hp
      obtain ⟨r, hr⟩ := List.exists_mem_of_ne_nil _ (hne'' p hp)
      have := hH r
      simp only [onReg, List.filter_nil, List.map_nil, List.map_eq_nil_iff] at this
      have hm : p ∈ L''.filter (fun p => decide (r ∈ opRegs p.2)) := List.mem_filter.mpr ⟨hp, by simpa using hr⟩
      rw [this] at hm
      simp at hm
    subst hL''
    exact ⟨[], hPr, rfl⟩
  | cons p rest ih =>
    intro X L'' hne hne'' hPr hH
    obtain ⟨r0, hr0⟩ := List.exists_mem_of_ne_nil _ (hne p (by simp))
    -- on every register of `p` the second list starts with an entry holding the operation of `p`
    have hhead : ∀ r, r ∈ opRegs p.2 → ∃ q t, onReg L'' r = q :: t ∧ q.2 = p.2 := by
      intro r hr
      have := hH r
      rw [onReg_cons_pos hr, List.map_cons] at this
      cases hq : onReg L'' r with
      | nil => rw [hq] at this; simp at this
      | cons q t =>
        rw [hq, List.map_cons] at this
        injection this with h1 _
        exact ⟨q, t, rfl, h1⟩
    obtain ⟨q, t0, hq0, hqo⟩ := hhead r0 hr0
    obtain ⟨L1, L2, hsplit, hL1r0, _, _⟩ := List.filter_eq_cons_iff.mp hq0
    -- … the same entry on all of them, so nothing before it touches a register of `p`
    have hL1 : ∀ r, r ∈ opRegs q.2 → onReg L1 r = [] := by
      intro r hr
      rw [hqo] at hr
      obtain ⟨q2, t, hq2, hq2o⟩ := hhead r hr
      have hqq : q = q2 := head_filter_unique (l := L'') hq0 hq2 (by rw [hq2o]; simpa using hr0) (by rw [hqo]; simpa using hr)
      cases h1 : onReg L1 r with
      | nil => rfl
      | cons x t1 =>
        exfalso
        rw [hsplit, onReg_append, h1] at hq2
        injection hq2 with hx _
        have hxL1 : x ∈ L1 := (List.mem_filter.mp (by rw [h1]; simp : x ∈ onReg L1 r)).1
        exact hL1r0 x hxL1 (by rw [hx, ← hqq, hqo]; simpa using hr0)
    have hmoved : Pr ((X ++ [q]) ++ (L1 ++ L2)) := by
      have := hmove X L1 L2 q (by rwa [hsplit, ← List.append_assoc] at hPr) hL1
      simpa using this
    have hH1 : ∀ r, (onReg (L1 ++ L2) r).map (·.2) = (onReg rest r).map (·.2) := by
      intro r
      have := hH r
      rw [hsplit, onReg_append] at this
      rw [onReg_append]
      by_cases hr : r ∈ opRegs p.2
      · rw [hL1 r (hqo ▸ hr), onReg_cons_pos (hqo ▸ hr), onReg_cons_pos hr] at this
        rw [hL1 r (hqo ▸ hr)]
        simp only [List.nil_append, List.map_cons, List.cons.injEq] at this ⊢
        exact this.2
      · rw [onReg_cons_neg (fun h => hr (hqo ▸ h)), onReg_cons_neg hr] at this
        exact this
    obtain ⟨L', hP', hmap⟩ := ih (X ++ [q]) (L1 ++ L2) (fun x hx => hne x (List.mem_cons_of_mem _ hx))
      (fun x hx => hne'' x (by rw [hsplit]; rcases List.mem_append.mp hx with h | h
                               · exact List.mem_append_left _ h
                               · exact List.mem_append_right _ (List.mem_cons_of_mem _ h))) hmoved hH1
    exact ⟨q :: L', by simpa using hP', by simp [hmap, hqo]⟩

def wiredWire (c : Dag) (P : Paths) (r : Reg) : List Op :=
  (P r).filterMap (fun n => match n with | .op _ => (c.opOf? n).map (wiredOp P n) | _ => none)

theorem wiredWire_eq_view (c : Dag) (P : Paths) (r : Reg) : wiredWire c P r = wireOpsF (wiredOp P) c (P r) := rfl

theorem Sched.wiredWire_eq {c : Dag} {P : Paths} {L : List (NodeId × Op)} (g : Good c P) (hS : Sched c P L) (r : Reg) :
    wiredWire c P r = (onReg L r).map (·.2) := by
  unfold wiredWire
  by_cases hl : c.live r
  · rw [hS.wire r hl, schedWire_eq_onReg]
    simp only [List.filterMap_cons, List.filterMap_append, List.filterMap_nil, List.append_nil]
    have : ∀ (l : List (NodeId × Op)), (∀ p ∈ l, p ∈ L) →
        (l.map (·.1)).filterMap (fun n => match n with | .op _ => (c.opOf? n).map (wiredOp P n) | _ => none) = l.map (·.2) := by
      intro l
      induction l with
      | nil => intro _; rfl
      | cons p t iht =>
        intro hmem
        obtain ⟨i, o, hi, hm, hpo⟩ := hS.op_node (hmem p (by simp))
        rw [List.map_cons, List.filterMap_cons, hi]
        simp only
        rw [(opOf_eq_some g.inv.ids_nodup).mpr hm]
        simp only [Option.map_some]
        rw [iht (fun q hq => hmem q (List.mem_cons_of_mem _ hq)), List.map_cons, hpo]
    exact this _ (fun p hp => (List.mem_filter.mp hp).1)
  · rw [g.inv.dead r hl]
    have : onReg L r = [] := by
      apply List.eq_nil_iff_forall_not_mem.mpr
      intro p hp
      have hp' := List.mem_filter.mp hp
      exact hl (hS.live p hp'.1 r (by simpa using hp'.2))
    rw [this]; rfl

theorem wiredWire_of_sched {c : Dag} {P : Paths} {L : List (NodeId × Op)} (g : Good c P) (hS : Sched c P L) (r : Reg) :
    wiredWire c P r = (L.map (·.2)).filter (fun o => decide (r ∈ opRegs o)) := by
  rw [hS.wiredWire_eq g r]
  unfold onReg
  rw [List.filter_map]
  rfl

/-- **a circuit has a schedule with any operation list that shows on every wire what the wire carries** -/
theorem sched_of_wires {c : Dag} {P : Paths} (g : Good c P) {ops : List Op} (hne : ∀ o ∈ ops, opRegs o ≠ [])
    (hw : ∀ r, wiredWire c P r = ops.filter (fun o => decide (r ∈ opRegs o))) : ∃ L, Sched c P L ∧ L.map (·.2) = ops := by
  obtain ⟨L'', hS''⟩ := sched_exists g
  obtain ⟨L, hS, hmap⟩ := match_projections (Pr := Sched c P) (fun _ _ _ _ h hi => h.move hi)
    (ops.map fun o => ((default : NodeId), o)) [] L''
    (fun p hp => by obtain ⟨o, ho, rfl⟩ := List.mem_map.mp hp; exact hne o ho) (fun _ hp => hS''.opRegs_ne g hp) hS''
    (fun r => by
      rw [← hS''.wiredWire_eq g r, hw r]
      simp [onReg, List.filter_map, Function.comp_def])
  exact ⟨L, hS, by rw [hmap]; simp [Function.comp_def]⟩

theorem same_wiredWires_same_ops {c c' : Dag} {P P' : Paths} (g : Good c P) (g' : Good c' P')
    (hw : ∀ r, wiredWire c' P' r = wiredWire c P r) :
    ∃ L L', Sched c P L ∧ Sched c' P' L' ∧ L'.map (·.2) = L.map (·.2) := by
  obtain ⟨L, hS⟩ := sched_exists g
  obtain ⟨L', hS', hmap⟩ := sched_of_wires g' (ops := L.map (·.2))
    (fun o ho => by obtain ⟨p, hp, rfl⟩ := List.mem_map.mp ho; exact hS.opRegs_ne g hp)
    (fun r => by rw [hw r, wiredWire_of_sched g hS r])
  exact ⟨L, L', hS, hS', hmap⟩

end Metrics
end Graphiq
