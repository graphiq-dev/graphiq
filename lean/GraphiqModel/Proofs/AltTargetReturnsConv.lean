/-
  Proofs/AltTargetReturnsConv.lean — the LC-conversion step of `AlternateTargetSolver.solve` (model `Alt.convModel`) returns
  whenever `lc_check(lc, iso, validate=True)` says yes: every gate name `lc_check` emits is in the table `str_to_op` reads.
-/
import GraphiqModel.Proofs.AltTargetConvDefs
import GraphiqModel.Proofs.LCGates2
namespace Graphiq
namespace Alt
open LC

theorem convModel_eq_some (lc iso : BMat) (gops : List COp) :
    convModel lc iso = some gops ↔ ∃ gates, LC.lcCheckR lc iso true = .ok (true, gates) ∧ gatesCOps gates = some gops := by
  unfold convModel
  cases LC.lcCheckR lc iso true with
  | error e => simp
  | ok v =>
    obtain ⟨okb, gates⟩ := v
    cases okb <;> simp

/-- names that `str_to_op` accepts and `lc_check` emits -/
def TableName (name : String) : Prop := name = "I" ∨ name = "H" ∨ name = "P" ∨ name = "P_dag" ∨ name = "Z"

theorem gateCOp_isSome (g : String × Nat) (h : TableName g.1) : ∃ c, gateCOp g = some c := by
  obtain ⟨name, q⟩ := g
  simp only [TableName] at h
  rcases h with h | h | h | h | h <;> subst h <;> exact ⟨_, rfl⟩

theorem gatesCOps_isSome (gates : List (String × Nat)) (h : ∀ g ∈ gates, TableName g.1) : ∃ cs, gatesCOps gates = some cs := by
  unfold gatesCOps
  induction gates with
  | nil => exact ⟨[], rfl⟩
  | cons g rest ih =>
    obtain ⟨c, hc⟩ := gateCOp_isSome g (h g (List.mem_cons_self))
    obtain ⟨cs, hcs⟩ := ih (fun x hx => h x (List.mem_cons_of_mem _ hx))
    exact ⟨c :: cs, by simp [List.mapM_cons, hc, hcs]⟩

theorem blockOps_names (a b c d : Bool) (ops : List String) (h : LC.blockOps a b c d = some ops) :
    ∀ o ∈ ops, o = "I" ∨ o = "H" ∨ o = "P" ∨ o = "P_dag" := by
  cases a <;> cases b <;> cases c <;> cases d <;> simp [LC.blockOps] at h <;> subst h <;> simp

theorem localCliffordOps_names (n : Nat) (v : List Bool) (ops : List String) (h : ops ∈ LC.localCliffordOps n v) :
    ∀ o ∈ ops, o = "I" ∨ o = "H" ∨ o = "P" ∨ o = "P_dag" := by
  unfold LC.localCliffordOps at h
  obtain ⟨i, -, hi⟩ := List.mem_filterMap.1 h
  exact blockOps_names _ _ _ _ ops hi

theorem blockGates_names (names : List (List String)) (hn : ∀ ops ∈ names, ∀ o ∈ ops, o = "I" ∨ o = "H" ∨ o = "P" ∨ o = "P_dag")
    (g : String × Nat) (hg : g ∈ (names.zipIdx).flatMap fun (ops, i) => ops.reverse.map fun o => (o, i)) : TableName g.1 := by
  obtain ⟨⟨ops, i⟩, hmem, hg⟩ := List.mem_flatMap.1 hg
  obtain ⟨o, ho, rfl⟩ := List.mem_map.1 hg
  have hops : ops ∈ names := by
    have := List.mem_zipIdx hmem
    simp at this
    exact this.2 ▸ List.getElem_mem _
  have := hn ops hops o (List.mem_reverse.1 ho)
  unfold TableName
  rcases this with h | h | h | h <;> simp [h]

theorem phaseCorrection_names (t : Tab) (B : Adj) (zs : List (String × Nat)) (h : LC.phaseCorrection t B = some zs) :
    ∀ g ∈ zs, g.1 = "Z" := by
  unfold LC.phaseCorrection at h
  simp only at h
  split at h
  · injection h with h
    subst h
    intro g hg
    obtain ⟨q, -, hq⟩ := List.mem_filterMap.1 hg
    split at hq
    · injection hq with hq
      rw [← hq]
    · exact absurd hq (by simp)
  · exact absurd h (by simp)

theorem converterGateListR_names (a b : BMat) (gates : List (String × Nat)) (flag : Bool)
    (h : LC.converterGateListR a b = .ok (gates, flag)) : ∀ g ∈ gates, TableName g.1 := by
  unfold LC.converterGateListR at h
  split at h
  · exact absurd h (by simp)
  · rename_i out _
    split at h
    · exact absurd h (by simp)
    · rename_i s _
      simp only at h
      have hG := blockGates_names (LC.localCliffordOps a.r s) (localCliffordOps_names a.r s)
      split at h
      · exact absurd h (by simp)
      · split at h
        · rename_i zs hz
          injection h with h
          injection h with h1 h2
          subst h1
          intro g hg
          rcases List.mem_append.1 hg with hg | hg
          · exact hG g hg
          · exact Or.inr (Or.inr (Or.inr (Or.inr (phaseCorrection_names _ _ zs hz g hg))))
        · injection h with h
          injection h with h1 h2
          subst h1
          exact hG

/-- every gate `lc_check` (repaired) returns has a name from the table: the blocks of `local_clifford_ops` are I/H/P/P_dag
    words, the phase correction is Z's -/
theorem lcCheckR_names (a b : BMat) (validate : Bool) (gates : List (String × Nat))
    (h : LC.lcCheckR a b validate = .ok (true, gates)) : ∀ g ∈ gates, TableName g.1 := by
  unfold LC.lcCheckR at h
  split at h
  · simp at h
  · rename_i gs flag hc
    have hn := converterGateListR_names a b gs flag hc
    split at h
    · split at h
      · exact absurd h (by simp)
      · split at h
        · injection h with h
          injection h with _ h2
          subst h2
          exact hn
        · exact absurd h (by simp)
    · injection h with h
      injection h with _ h2
      subst h2
      exact hn

theorem convModel_isSome (a b : BMat) (gates : List (String × Nat)) (h : LC.lcCheckR a b true = .ok (true, gates)) :
    ∃ cs, convModel a b = some cs := by
  obtain ⟨cs, hcs⟩ := gatesCOps_isSome gates (lcCheckR_names a b true gates h)
  exact ⟨cs, (convModel_eq_some a b cs).mpr ⟨gates, h, hcs⟩⟩

theorem isLc_of_convModel (a b : BMat) (h : (convModel a b).isSome = true) :
    ∃ out, LC.isLcEquivalentR a b .det [] = .ok out ∧ out.sol.isSome = true := by
  obtain ⟨gops, hg⟩ := Option.isSome_iff_exists.mp h
  obtain ⟨gates, hl, _⟩ := (convModel_eq_some a b gops).mp hg
  unfold LC.lcCheckR LC.converterGateListR at hl
  cases hr : LC.isLcEquivalentR a b .det [] with
  | error e => simp [hr] at hl
  | ok out =>
    cases hs : out.sol with
    | none => simp [hr, hs] at hl
    | some s => exact ⟨out, rfl, by rw [hs]; rfl⟩

end Alt
end Graphiq
