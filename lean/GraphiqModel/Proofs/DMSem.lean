/-
  Proofs/DMSem.lean — lemmas about the density-matrix model (C17, C06).

  First part (core Lean only, `namespace Graphiq.DM`): the string construction of `partial_trace` fed to the mini-`einsum` yields the
  textbook reduced state, for every list of dimensions (≤ 26 spaces, the limit of `string.ascii_lowercase`) and every subset;
  when `partial_trace` returns (`partialTrace_ok_iff`).

  Part 2 (Mathlib algebra): ℚ[i] is a commutative ring, `tr(ab) = tr(ba)`, hence `fidelity` is symmetric; the pure branch;
  `Infidelity` across representations with the witness of D9; the rational closed forms `commFidelity`, `commTraceDist` cast to the
  real-valued `F`, `T` of Proofs/Commuting.lean.
-/
import Mathlib.Tactic.Ring
import Mathlib.Tactic.Linarith
import Mathlib.Algebra.Order.Field.Rat
import Mathlib.Algebra.BigOperators.Group.Finset.Basic
import Mathlib.Algebra.BigOperators.Ring.Finset
import Mathlib.Algebra.BigOperators.Group.Finset.Sigma
import Mathlib.Data.Rat.Cast.Order
import Mathlib.Algebra.BigOperators.Fin
import Mathlib.Data.Real.Basic
import GraphiqModel.Model.DMSem
import GraphiqModel.Proofs.Commuting
namespace Graphiq.DM
open List

theorem lookup_append' {α β : Type} [BEq α] (l1 l2 : List (α × β)) (k : α) :
    (l1 ++ l2).lookup k = match l1.lookup k with | some v => some v | none => l2.lookup k := by
  induction l1 with
  | nil => simp [List.lookup]
  | cons h t ih =>
    obtain ⟨a, b⟩ := h
    simp only [List.cons_append, List.lookup]
    cases hk : (k == a) with
    | true => simp
    | false => simpa using ih

theorem lookup_zip_map_mem (f : Nat → Letter) (hf : ∀ a b, f a = f b → a = b) :
    ∀ (ks vs : List Nat) (i : Nat), i ∈ ks → ks.length ≤ vs.length →
      ((ks.map f).zip vs).lookup (f i) = some (vs.getD (ks.idxOf i) 0)
  | [], _, i, h, _ => by cases h
  | k :: ks', [], i, _, hl => by simp at hl
  | k :: ks', v :: vs', i, h, hl => by
    by_cases e : i = k
    · subst e; simp [List.lookup]
    · have hne : (f i == f k) = false := by
        simp only [beq_eq_false_iff_ne, ne_eq]; intro h'; exact e (hf _ _ h')
      have hm : i ∈ ks' := by
        cases h with
        | head => exact absurd rfl e
        | tail _ h => exact h
      have := lookup_zip_map_mem f hf ks' vs' i hm (by simpa using hl)
      simp only [List.map_cons, List.zip_cons_cons, List.lookup, hne]
      rw [this]
      have : (k :: ks').idxOf i = ks'.idxOf i + 1 := by
        have hk : (k == i) = false := by simp only [beq_eq_false_iff_ne, ne_eq]; exact fun h' => e h'.symm
        simp [List.idxOf_cons, hk]
      rw [this]; simp

theorem lookup_zip_map_not (f : Nat → Letter) (l : Letter) :
    ∀ (ks vs : List Nat), (∀ k ∈ ks, f k ≠ l) → ((ks.map f).zip vs).lookup l = none
  | [], _, _ => by simp [List.lookup]
  | k :: ks', [], _ => by simp [List.lookup]
  | k :: ks', v :: vs', h => by
    have hne : (l == f k) = false := by
      simp only [beq_eq_false_iff_ne, ne_eq]; intro h'; exact h k (by simp) h'.symm
    simp only [List.map_cons, List.zip_cons_cons, List.lookup, hne]
    exact lookup_zip_map_not f l ks' vs' (fun k hk => h k (by simp [hk]))


theorem lo_inj : ∀ a b, Letter.lo a = Letter.lo b → a = b := by intro a b h; cases h; rfl
theorem up_inj : ∀ a b, Letter.up a = Letter.up b → a = b := by intro a b h; cases h; rfl

theorem mem_keptPos (n : Nat) (keep : List Nat) (i : Nat) : i ∈ keptPos n keep ↔ i < n ∧ i ∈ keep := by
  simp [keptPos]
theorem mem_tracedPos (n : Nat) (keep : List Nat) (i : Nat) : i ∈ tracedPos n keep ↔ i < n ∧ i ∉ keep := by
  simp [tracedPos]

theorem multiIdx_length : ∀ (ds : List Nat) (s : List Nat), s ∈ multiIdx ds → s.length = ds.length
  | [], s, h => by simp [multiIdx] at h; simp [h]
  | d :: ds, s, h => by
    simp only [multiIdx, List.mem_flatMap, List.mem_range, List.mem_map] at h
    obtain ⟨i, _, t, ht, rfl⟩ := h
    simp [multiIdx_length ds t ht]

theorem unflat_length : ∀ (ds : List Nat) (k : Nat), (unflat ds k).length = ds.length
  | [], _ => rfl
  | _ :: ds, k => by simp [unflat, unflat_length ds]

/-- the environment that `einsum` builds for `partial_trace` reads back exactly the merged multi-indices -/
theorem env_get_lo (n : Nat) (keep a a' s : List Nat) (ha : a.length = (keptPos n keep).length)
    (hs : (tracedPos n keep).length ≤ s.length) (i : Nat) (hi : i < n) :
    Env.get ((ssright n keep).zip (a ++ a') ++ ((tracedPos n keep).map Letter.lo).zip s) (Letter.lo i) =
      if keep.contains i then a.getD ((keptPos n keep).idxOf i) 0 else s.getD ((tracedPos n keep).idxOf i) 0 := by
  unfold Env.get ssright
  have hz : (List.map Letter.lo (keptPos n keep) ++ List.map Letter.up (keptPos n keep)).zip (a ++ a') =
      ((keptPos n keep).map Letter.lo).zip a ++ ((keptPos n keep).map Letter.up).zip a' := by
    apply List.zip_append; simp [ha]
  show ((List.lookup (Letter.lo i) ((List.map Letter.lo (keptPos n keep) ++ List.map Letter.up (keptPos n keep)).zip (a ++ a') ++ _))).getD 0 = _
  rw [hz, List.append_assoc, lookup_append']
  by_cases hk : i ∈ keep
  · have hm : i ∈ keptPos n keep := (mem_keptPos n keep i).2 ⟨hi, hk⟩
    rw [lookup_zip_map_mem Letter.lo lo_inj _ _ i hm (by omega)]
    simp [hk]
  · have h1 : List.lookup (Letter.lo i) (((keptPos n keep).map Letter.lo).zip a) = none := by
      apply lookup_zip_map_not
      intro k hk' h'; cases h'
      exact hk ((mem_keptPos n keep i).1 hk').2
    have h2 : List.lookup (Letter.lo i) (((keptPos n keep).map Letter.up).zip a') = none := by
      apply lookup_zip_map_not
      intro k _ h'; cases h'
    have hm : i ∈ tracedPos n keep := (mem_tracedPos n keep i).2 ⟨hi, hk⟩
    rw [h1]; simp only
    rw [lookup_append', h2]; simp only
    rw [lookup_zip_map_mem Letter.lo lo_inj _ _ i hm hs]
    simp [hk]

theorem env_get_up (n : Nat) (keep a a' s : List Nat) (ha : a.length = (keptPos n keep).length)
    (ha' : (keptPos n keep).length ≤ a'.length) (i : Nat) (hi : i < n) (hk : i ∈ keep) :
    Env.get ((ssright n keep).zip (a ++ a') ++ ((tracedPos n keep).map Letter.lo).zip s) (Letter.up i) =
      a'.getD ((keptPos n keep).idxOf i) 0 := by
  unfold Env.get ssright
  have hz : (List.map Letter.lo (keptPos n keep) ++ List.map Letter.up (keptPos n keep)).zip (a ++ a') =
      ((keptPos n keep).map Letter.lo).zip a ++ ((keptPos n keep).map Letter.up).zip a' := by
    apply List.zip_append; simp [ha]
  show ((List.lookup (Letter.up i) ((List.map Letter.lo (keptPos n keep) ++ List.map Letter.up (keptPos n keep)).zip (a ++ a') ++ _))).getD 0 = _
  rw [hz, List.append_assoc, lookup_append']
  have h1 : List.lookup (Letter.up i) (((keptPos n keep).map Letter.lo).zip a) = none := by
    apply lookup_zip_map_not
    intro k _ h'; cases h'
  have hm : i ∈ keptPos n keep := (mem_keptPos n keep i).2 ⟨hi, hk⟩
  rw [h1]; simp only
  rw [lookup_append', lookup_zip_map_mem Letter.up up_inj _ _ i hm ha']
  simp


theorem range_filter_lt (p : Nat → Bool) (n : Nat) : ∀ m, n ≤ m →
    (List.range m).filter (fun i => decide (i < n) && p i) = (List.range n).filter p := by
  intro m
  induction m with
  | zero => intro h; have : n = 0 := by omega
            subst this; simp
  | succ m ih =>
    intro h
    by_cases e : n = m + 1
    · subst e
      apply List.filter_congr
      intro i hi
      have : i < m + 1 := List.mem_range.1 hi
      simp [this]
    · have hle : n ≤ m := by omega
      rw [List.range_succ, List.filter_append, ih hle]
      have : ¬ m < n := by omega
      simp [this]

theorem mem_ssleft_lo (n : Nat) (keep : List Nat) (i : Nat) : Letter.lo i ∈ ssleft n keep ↔ i < n := by
  unfold ssleft
  simp only [List.mem_append, List.mem_map, List.mem_range]
  constructor
  · rintro (⟨j, hj, h⟩ | ⟨j, hj, h⟩)
    · cases h; exact hj
    · split at h
      · cases h
      · cases h; exact hj
  · intro h; exact Or.inl ⟨i, h, rfl⟩

theorem mem_ssleft_up (n : Nat) (keep : List Nat) (i : Nat) : Letter.up i ∈ ssleft n keep ↔ i < n ∧ i ∈ keep := by
  unfold ssleft
  simp only [List.mem_append, List.mem_map, List.mem_range]
  constructor
  · rintro (⟨j, hj, h⟩ | ⟨j, hj, h⟩)
    · cases h
    · split at h
      · rename_i hc; cases h; exact ⟨hj, by simpa using hc⟩
      · cases h
  · rintro ⟨h, hk⟩
    refine Or.inr ⟨i, h, ?_⟩
    simp [hk]

theorem mem_ssright_lo (n : Nat) (keep : List Nat) (i : Nat) : Letter.lo i ∈ ssright n keep ↔ i < n ∧ i ∈ keep := by
  unfold ssright
  simp only [List.mem_append, List.mem_map, List.mem_filter, List.mem_range]
  constructor
  · rintro (⟨j, ⟨hj, hc⟩, h⟩ | ⟨j, _, h⟩)
    · cases h; exact ⟨hj, by simpa using hc⟩
    · cases h
  · rintro ⟨h, hk⟩; exact Or.inl ⟨i, ⟨h, by simpa using hk⟩, rfl⟩

theorem mem_ssright_up (n : Nat) (keep : List Nat) (i : Nat) : Letter.up i ∈ ssright n keep ↔ i < n ∧ i ∈ keep := by
  unfold ssright
  simp only [List.mem_append, List.mem_map, List.mem_filter, List.mem_range]
  constructor
  · rintro (⟨j, _, h⟩ | ⟨j, ⟨hj, hc⟩, h⟩)
    · cases h
    · cases h; exact ⟨hj, by simpa using hc⟩
  · rintro ⟨h, hk⟩; exact Or.inr ⟨i, ⟨h, by simpa using hk⟩, rfl⟩

/-- the letters `einsum` sums over for the string of `partial_trace`: exactly the lowercase letters of the traced
    positions, each once -/
theorem summedLetters_partialTrace (n : Nat) (keep : List Nat) (hn : n ≤ 26) :
    summedLetters (ssleft n keep) (ssright n keep) = (tracedPos n keep).map Letter.lo := by
  unfold summedLetters alphabet
  rw [List.filter_append, List.filter_map, List.filter_map]
  have h1 : (List.range 26).filter ((fun l => (ssleft n keep).contains l && !(ssright n keep).contains l) ∘ Letter.lo)
      = tracedPos n keep := by
    unfold tracedPos
    rw [← range_filter_lt (fun i => !keep.contains i) n 26 hn]
    apply List.filter_congr
    intro i _
    simp only [Function.comp, List.contains_eq_mem]
    by_cases h : i < n <;> by_cases hk : i ∈ keep <;>
      simp [mem_ssleft_lo, mem_ssright_lo, h, hk]
  have h2 : (List.range 26).filter ((fun l => (ssleft n keep).contains l && !(ssright n keep).contains l) ∘ Letter.up)
      = [] := by
    rw [List.filter_eq_nil_iff]
    intro i _
    simp only [Function.comp, List.contains_eq_mem]
    by_cases h : i < n <;> by_cases hk : i ∈ keep <;>
      simp [mem_ssleft_up, mem_ssright_up, h, hk]
  rw [h1, h2]; simp


theorem mergeIdx_length (n : Nat) (keep a b : List Nat) : (mergeIdx n keep a b).length = n := by
  simp [mergeIdx]

/-- what the letters of `ssleft` read from the environment: the two merged multi-indices, one after the other -/
theorem ssleft_map_env (n : Nat) (keep a a' s : List Nat) (ha : a.length = (keptPos n keep).length)
    (ha' : a'.length = (keptPos n keep).length) (hs : s.length = (tracedPos n keep).length) :
    (ssleft n keep).map (Env.get ((ssright n keep).zip (a ++ a') ++ ((tracedPos n keep).map Letter.lo).zip s)) =
      mergeIdx n keep a s ++ mergeIdx n keep a' s := by
  unfold ssleft mergeIdx
  rw [List.map_append, List.map_map, List.map_map]
  congr 1
  · apply List.map_congr_left
    intro i hi
    have hi' : i < n := List.mem_range.1 hi
    simp only [Function.comp]
    rw [env_get_lo n keep a a' s ha (by omega) i hi']
  · apply List.map_congr_left
    intro i hi
    have hi' : i < n := List.mem_range.1 hi
    simp only [Function.comp]
    by_cases hk : i ∈ keep
    · have hc : keep.contains i = true := by simpa using hk
      simp only [hc, if_true]
      rw [env_get_up n keep a a' s ha (by omega) i hi' hk]
    · have hc : keep.contains i = false := by simpa using hk
      simp only [hc, Bool.false_eq_true, if_false]
      rw [env_get_lo n keep a a' s ha (by omega) i hi']
      simp [hk]

theorem reshapeIn_append {α : Type} (ρ : Nat → Nat → α) (dims x y : List Nat) (hx : x.length = dims.length) :
    reshapeIn ρ dims (x ++ y) = ρ (flat dims x) (flat dims y) := by
  unfold reshapeIn
  rw [← hx]; simp

/-- **C17 (i), all dims, all subsets.**  The entry that the code's string construction + `einsum` computes is the
    textbook reduced-state entry `Σ_b ρ[(a,b),(a',b)]`. -/
theorem partialTraceEntry_eq_reduced {α : Type} [Add α] [Zero α] (ρ : Nat → Nat → α) (keep dims : List Nat)
    (hn : dims.length ≤ 26) (r c : Nat) :
    partialTraceEntry ssleft ρ keep dims r c = reducedEntry ρ keep dims r c := by
  unfold partialTraceEntry reducedEntry einsum
  simp only
  rw [summedLetters_partialTrace dims.length keep hn, List.map_map]
  have hd : (letterDim dims ∘ Letter.lo) = fun i => dims.getD i 0 := by
    funext i; simp [letterDim]
  rw [hd]
  congr 1
  apply List.map_congr_left
  intro s hs
  have hsl := multiIdx_length _ s hs
  rw [List.length_map] at hsl
  rw [ssleft_map_env dims.length keep _ _ s (by rw [unflat_length, List.length_map])
      (by rw [unflat_length, List.length_map]) hsl]
  rw [reshapeIn_append _ _ _ _ (mergeIdx_length _ _ _ _)]


theorem prodL_cons (d : Nat) (ds : List Nat) : prodL (d :: ds) = d * prodL ds := rfl

theorem flat_unflat : ∀ (ds : List Nat) (k : Nat), k < prodL ds → flat ds (unflat ds k) = k
  | [], k, h => by simp [prodL] at h; subst h; rfl
  | d :: ds, k, h => by
    simp only [unflat, flat]
    have hp : 0 < prodL ds := by
      rcases Nat.eq_zero_or_pos (prodL ds) with h0 | h0
      · rw [prodL_cons, h0] at h; simp at h
      · exact h0
    rw [flat_unflat ds (k % prodL ds) (Nat.mod_lt _ hp)]
    exact Nat.div_add_mod' k (prodL ds)

/-- when `partial_trace` returns, and what: none of its four exceptions, and the `einsum` of the code's two strings -/
theorem partialTrace_ok_iff (ρ : Mat) (keep dims : List Nat) (m : Mat) :
    partialTrace ρ keep dims = .ok m ↔
      keep ≠ [] ∧ (∀ k ∈ keep, k < dims.length) ∧ dims.length ≤ 26 ∧ ρ.n = prodL dims ∧
      prodL (keep.map fun i => dims.getD i 0) = prodL ((keptPos dims.length keep).map fun i => dims.getD i 0) ∧
      m = ⟨prodL (keep.map fun i => dims.getD i 0), fun r c => partialTraceEntry ssleft ρ.e keep dims r c⟩ := by
  unfold partialTrace
  simp only
  constructor
  · intro h
    split at h; · cases h
    rename_i h1
    split at h; · cases h
    rename_i h2
    split at h; · cases h
    rename_i h3
    split at h; · cases h
    rename_i h4
    split at h; · cases h
    rename_i h5
    injection h with h
    refine ⟨by simpa using h1, ?_, by omega, by simpa using h4, by simpa using h5, h.symm⟩
    intro k hk
    have := h2
    simp only [List.any_eq_true, decide_eq_true_eq, not_exists, not_and] at this
    have := this k hk
    omega
  · rintro ⟨h1, h2, h3, h4, h5, rfl⟩
    have e1 : keep.isEmpty = false := by cases keep <;> simp_all
    have e2 : (keep.any fun k => decide (dims.length ≤ k)) = false := by
      rw [List.any_eq_false]; intro k hk; have := h2 k hk; simp; omega
    have e3 : ¬ 26 < dims.length := by omega
    rw [e1, e2]
    simp only [Bool.false_eq_true, if_false, e3, h4, ne_eq, not_true_eq_false, h5]

theorem partialTrace_ok (ρ : Mat) (keep dims : List Nat) (m : Mat) (h : partialTrace ρ keep dims = .ok m) :
    m.n = prodL ((keptPos dims.length keep).map fun i => dims.getD i 0) ∧
    ∀ r c, m.e r c = reducedEntry ρ.e keep dims r c := by
  obtain ⟨_, _, h26, _, h5, rfl⟩ := (partialTrace_ok_iff ρ keep dims m).1 h
  exact ⟨h5, fun r c => partialTraceEntry_eq_reduced ρ.e keep dims h26 r c⟩

theorem partialTrace_returns_iff (ρ : Mat) (keep dims : List Nat) :
    (∃ m, partialTrace ρ keep dims = .ok m) ↔
      keep ≠ [] ∧ (∀ k ∈ keep, k < dims.length) ∧ dims.length ≤ 26 ∧ ρ.n = prodL dims ∧
      prodL (keep.map fun i => dims.getD i 0) = prodL ((keptPos dims.length keep).map fun i => dims.getD i 0) := by
  constructor
  · rintro ⟨m, h⟩
    obtain ⟨h1, h2, h3, h4, h5, _⟩ := (partialTrace_ok_iff ρ keep dims m).1 h
    exact ⟨h1, h2, h3, h4, h5⟩
  · rintro ⟨h1, h2, h3, h4, h5⟩
    exact ⟨_, (partialTrace_ok_iff ρ keep dims _).2 ⟨h1, h2, h3, h4, h5, rfl⟩⟩

end Graphiq.DM

/-! ## Part 2: algebra of the exact matrices -/
namespace Graphiq
open DM

namespace GQ
@[ext] theorem ext' {a b : GQ} (h1 : a.re = b.re) (h2 : a.im = b.im) : a = b := by
  cases a; cases b; simp_all

@[simp] theorem add_re (a b : GQ) : (a + b).re = a.re + b.re := rfl
@[simp] theorem add_im (a b : GQ) : (a + b).im = a.im + b.im := rfl
@[simp] theorem mul_re (a b : GQ) : (a * b).re = a.re * b.re - a.im * b.im := rfl
@[simp] theorem mul_im (a b : GQ) : (a * b).im = a.re * b.im + a.im * b.re := rfl
@[simp] theorem zero_re : (0 : GQ).re = 0 := rfl
@[simp] theorem zero_im : (0 : GQ).im = 0 := rfl
@[simp] theorem one_re : (1 : GQ).re = 1 := rfl
@[simp] theorem one_im : (1 : GQ).im = 0 := rfl
@[simp] theorem neg_re (a : GQ) : (-a).re = -a.re := rfl
@[simp] theorem neg_im (a : GQ) : (-a).im = -a.im := rfl
@[simp] theorem sub_re (a b : GQ) : (a - b).re = a.re - b.re := rfl
@[simp] theorem sub_im (a b : GQ) : (a - b).im = a.im - b.im := rfl

instance : CommRing GQ where
  add := (· + ·)
  mul := (· * ·)
  zero := 0
  one := 1
  neg := Neg.neg
  sub := (· - ·)
  add_assoc a b c := by ext <;> simp <;> ring
  zero_add a := by ext <;> simp
  add_zero a := by ext <;> simp
  add_comm a b := by ext <;> simp <;> ring
  mul_assoc a b c := by ext <;> simp <;> ring
  one_mul a := by ext <;> simp
  mul_one a := by ext <;> simp
  left_distrib a b c := by ext <;> simp <;> ring
  right_distrib a b c := by ext <;> simp <;> ring
  mul_comm a b := by ext <;> simp <;> ring
  zero_mul a := by ext <;> simp
  mul_zero a := by ext <;> simp
  neg_add_cancel a := by ext <;> simp
  sub_eq_add_neg a b := by ext <;> simp <;> ring
  nsmul := nsmulRec
  zsmul := zsmulRec
end GQ

theorem gsum_eq_sum (n : Nat) (f : Nat → GQ) : gsum n f = ∑ i ∈ Finset.range n, f i := by
  induction n with
  | zero => simp [gsum]
  | succ k ih => rw [gsum, ih, Finset.sum_range_succ]

theorem isZero_iff (a : GQ) : a.isZero = true ↔ a = 0 := by
  constructor
  · intro h; simp [GQ.isZero] at h; ext <;> simp [h.1, h.2]
  · intro h; subst h; rfl

theorem dot_eq_gsum (n : Nat) (f g : Nat → GQ) : Mat.dot n f g = gsum n fun k => f k * g k := by
  induction n with
  | zero => rfl
  | succ k ih =>
    rw [Mat.dot, gsum, ih]
    split
    · rename_i h
      rcases (Bool.or_eq_true_iff.1 h) with h | h
      · rw [(isZero_iff _).1 h]; simp
      · rw [(isZero_iff _).1 h]; simp
    · rfl

theorem trace_mul_comm (a b : Mat) (h : a.n = b.n) : (a.mul b).trace = (b.mul a).trace := by
  unfold Mat.trace Mat.mul
  simp only [dot_eq_gsum, gsum_eq_sum, h]
  rw [Finset.sum_comm]
  apply Finset.sum_congr rfl; intro i _
  apply Finset.sum_congr rfl; intro j _
  ring

theorem Mat.id2_e (x y : Nat) (hx : x < 2) (hy : y < 2) : Mat.id2.e x y = if x = y then 1 else 0 := by
  have h1 : x = 0 ∨ x = 1 := by omega
  have h2 : y = 0 ∨ y = 1 := by omega
  rcases h1 with rfl | rfl <;> rcases h2 with rfl | rfl <;> simp [Mat.id2, Mat.m2]

namespace DM

/-- **`fidelity` is symmetric** on every branch (same exception class, same branch, same value) -/
theorem fidelity_symm (ρ σ : Mat) (h : ρ.n = σ.n) : fidelity ρ σ = fidelity σ ρ := by
  unfold fidelity
  rw [trace_mul_comm ρ σ h, Bool.or_comm (isPure ρ)]
  cases isDensityMatrix ρ <;> cases isDensityMatrix σ <;> simp

theorem clip01_range (x : Rat) : 0 ≤ clip01 x ∧ clip01 x ≤ 1 := by
  unfold clip01
  split
  · exact ⟨le_refl 0, by norm_num⟩
  · split
    · exact ⟨by norm_num, le_refl 1⟩
    · constructor <;> linarith

theorem clip01_id (x : Rat) (h0 : 0 ≤ x) (h1 : x ≤ 1) : clip01 x = x := by
  unfold clip01
  rw [if_neg (by linarith), if_neg (by linarith)]

/-- the pure-state branch: when both arguments pass `is_density_matrix` and one passes `is_pure`, the result is the
    overlap `Re tr(ρσ)` clipped to `[0,1]` -/
theorem fidelity_pure_branch (ρ σ : Mat) (hρ : isDensityMatrix ρ = true) (hσ : isDensityMatrix σ = true)
    (hp : isPure ρ = true ∨ isPure σ = true) : fidelity ρ σ = .ok (.val (clip01 (ρ.mul σ).trace.re)) := by
  unfold fidelity
  have : (isPure ρ || isPure σ) = true := by rcases hp with h | h <;> simp [h]
  simp [hρ, hσ, this]

theorem fidelity_range (ρ σ : Mat) (f : Rat) (h : fidelity ρ σ = .ok (.val f)) : 0 ≤ f ∧ f ≤ 1 := by
  unfold fidelity at h
  split at h; · cases h
  split at h; · cases h
  split at h
  · injection h with h; injection h with h; subst h; exact clip01_range _
  · cases h


/-! ### Infidelity across representations; D9 witness -/

def ket0dm : Mat := Mat.ofRows 2 #[#[1, 0], #[0, 0]]

theorem d9_witness :
    infidelity stabOverlap (.dm ket0dm) (.s (Tab.ket1 1)) = .ok (.val 0) ∧
    infidelity stabOverlap (.s (Tab.ket0 1)) (.s (Tab.ket1 1)) = .ok (.val 1) ∧
    infidelity stabOverlap (.dm ket0dm) (.dm (stabilizerDensity (Tab.ket1 1))) = .ok (.val 1) := by
  decide +kernel

theorem smul_one (a : GQ) : GQ.smul 1 a = a := by
  ext <;> simp [GQ.smul]

theorem stabilizerToDensityPure_eq (t : Tab) (h : ∀ k, k < t.n → (t.row (k + t.n)).r = false) :
    stabilizerToDensityPure t = stabilizerDensity t := by
  unfold stabilizerToDensityPure stabilizerDensity
  apply List.foldl_ext
  intro ρ k hk
  have hk' : k < t.n := List.mem_range.1 hk
  simp only [h k hk', Bool.false_eq_true, if_false]
  have : Mat.smul 1 (pauliMat t.n (t.row (k + t.n))).norm = (pauliMat t.n (t.row (k + t.n))).norm := by
    unfold Mat.smul
    simp only [smul_one]
  rw [this]

theorem infidelity_rep_independent (tt ts : Tab)
    (hsign : ∀ k, k < ts.n → (ts.row (k + ts.n)).r = false)
    (hdt : isDensityMatrix (stabilizerDensity tt) = true) (hds : isDensityMatrix (stabilizerDensity ts) = true)
    (hp : isPure (stabilizerDensity tt) = true)
    (hov : 0 ≤ stabOverlap tt ts ∧ stabOverlap tt ts ≤ 1) :
    infidelity stabOverlap (.dm (stabilizerDensity tt)) (.dm (stabilizerDensity ts)) = infidelity stabOverlap (.s tt) (.s ts) ∧
    infidelity stabOverlap (.dm (stabilizerDensity tt)) (.s ts) = infidelity stabOverlap (.s tt) (.s ts) := by
  have e := stabilizerToDensityPure_eq ts hsign
  have f := fidelity_pure_branch _ _ hdt hds (Or.inl hp)
  have c : clip01 ((stabilizerDensity tt).mul (stabilizerDensity ts)).trace.re = stabOverlap tt ts :=
    clip01_id _ hov.1 hov.2
  constructor
  · simp only [infidelity, f, Except.map, c]
  · simp only [infidelity, e, f, Except.map, c]

/-! ### the rational closed forms of commuting pairs are the real-valued `F`, `T` of Proofs/Commuting.lean -/

theorem qsumL_eq_sum (l : List Rat) : qsumL l = l.sum := List.sum_eq_foldl.symm

theorem rat_abs_eq (q : Rat) : q.abs = |q| := by
  unfold Rat.abs
  split
  · rename_i h; exact (abs_of_nonneg h).symm
  · rename_i h; exact (abs_of_neg (not_le.1 h)).symm

theorem zipWith_ofFn {α β γ : Type} (f : α → β → γ) (d : Nat) (a : Fin d → α) (b : Fin d → β) :
    List.zipWith f (List.ofFn a) (List.ofFn b) = List.ofFn fun i => f (a i) (b i) := by
  apply List.ext_getElem
  · simp
  · intro i h1 h2; simp

/-- the model's closed form is the real-valued fidelity of the commuting pair with eigenvalues `a_i²`, `b_i²` -/
theorem commFidelity_cast (d : Nat) (a b : Fin d → Rat) (ha : ∀ i, 0 ≤ a i) (hb : ∀ i, 0 ≤ b i) :
    ((commFidelity (List.ofFn a) (List.ofFn b) : Rat) : ℝ) =
      Commuting.F (fun i => ((a i : Rat) : ℝ) ^ 2) (fun i => ((b i : Rat) : ℝ) ^ 2) := by
  unfold commFidelity Commuting.F Commuting.bc
  simp only [zipWith_ofFn, qsumL_eq_sum, List.sum_ofFn]
  push_cast
  have : ∀ i, Real.sqrt (((a i : Rat) : ℝ) ^ 2 * ((b i : Rat) : ℝ) ^ 2) = (a i : ℝ) * (b i : ℝ) := by
    intro i
    have h1 : (0 : ℝ) ≤ (a i : ℝ) := by exact_mod_cast ha i
    have h2 : (0 : ℝ) ≤ (b i : ℝ) := by exact_mod_cast hb i
    rw [← mul_pow, Real.sqrt_sq (mul_nonneg h1 h2)]
  simp only [this]
  ring

theorem commTraceDist_cast (d : Nat) (p q : Fin d → Rat) :
    ((commTraceDist (List.ofFn p) (List.ofFn q) : Rat) : ℝ) =
      Commuting.T (fun i => ((p i : Rat) : ℝ)) (fun i => ((q i : Rat) : ℝ)) := by
  unfold commTraceDist Commuting.T
  simp only [zipWith_ofFn, qsumL_eq_sum, List.sum_ofFn, rat_abs_eq]
  push_cast
  rfl

end DM
end Graphiq
