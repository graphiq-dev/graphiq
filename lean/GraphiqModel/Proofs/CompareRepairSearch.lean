/-
  Proofs/CompareRepairSearch.lean — the model's backtracking search is complete: if a node bijection passes the repaired
  check (`IsoFacts2`), the search `isoSearch2` (nodes of the first graph in the order `MG.topo`, candidates filtered by
  `node_match`, injectivity and consistency with the pairs already chosen) returns a map that passes the check, and the
  node and edge counts agree — so `isoGraphs2` answers `true`.  Together with `isoGraphs2_witness` the model's answer is
  exactly "an isomorphism in the sense of the specification of `networkx.is_isomorphic` exists".  `edgeMatch2` is reflexive and
  symmetric, so the identity map passes the check on a circuit DAG (a circuit is isomorphic to its copy, as built and after
  normalisation) and the relation is symmetric (`isoGraphs2_symm`).
-/
import GraphiqModel.Proofs.CompareRepairComplete
namespace Graphiq.Compare
open Graphiq Graphiq.Export

/-! ## `edgeMatch2` is reflexive and symmetric; the identity map -/

theorem edgeMatch2_refl (es : List Edge) : edgeMatch2 es es = true := by
  simp [edgeMatch2]

theorem edgeMatch2_symm (a b : List Edge) : edgeMatch2 a b = edgeMatch2 b a := by
  unfold edgeMatch2
  apply Bool.eq_iff_iff.2
  simp only [List.all_eq_true, List.mem_append, beq_iff_eq]
  constructor
  · intro h v hv; exact (h v hv.symm).symm
  · intro h v hv; exact (h v hv.symm).symm

/-- on a circuit DAG (as built, or normalised) the identity map passes the repaired check -/
theorem OpDag.iso_refl {W : List Wire} {g : MG} {L : List (Nat × Op)} (d : OpDag W g L) :
    isoCheck2 g.addControlTarget2 g.addControlTarget2 (idMapOf g.addControlTarget2) = true := by
  rw [addControlTarget2_eq g _ _ d.rep]
  apply isoCheckW_refl edgeMatch2_refl
  · exact d.names
  · intro m hm
    obtain ⟨p, hp, rfl⟩ := List.mem_map.1 hm
    exact ⟨p.2, opOf_of_mem g d.names p hp⟩

/-- **a circuit is isomorphic to its copy** (the repaired check, on the DAG as built and on the normalised DAG): the
    identity map passes the check — `networkx.is_isomorphic`, deciding existence, answers `True` -/
theorem build_iso_refl (c : Circuit) (h : ∀ o ∈ c.ops, OpOK (wiresN c.ne c.np c.nc) o) :
    ∃ g, MG.build c = .ok g ∧ isoCheck2 g.addControlTarget2 g.addControlTarget2 (idMapOf g.addControlTarget2) = true ∧
      isoCheck2 g.normalise.addControlTarget2 g.normalise.addControlTarget2 (idMapOf g.normalise.addControlTarget2) = true := by
  obtain ⟨g, _, hb, d, _⟩ := build_opDag c h
  obtain ⟨_, n, _⟩ := d.normalise
  exact ⟨g, hb, d.iso_refl, n.iso_refl⟩

/-! ## the search order is a permutation of the nodes -/

theorem topo_go_perm (g : MG) : ∀ (fuel : Nat) (todo done : List Nd), todo.Nodup →
    (MG.topo.go g fuel todo done).Perm (done ++ todo) := by
  intro fuel
  induction fuel with
  | zero => intro todo done _; exact List.Perm.refl _
  | succ k ih =>
    intro todo done hnd
    unfold MG.topo.go
    cases hf : todo.find? (fun n => (g.edges.filter (fun e => e.dst == n)).all fun e => done.contains e.src) with
    | none => exact List.Perm.refl _
    | some n =>
      simp only
      have hmem : n ∈ todo := List.mem_of_find?_eq_some hf
      have hfil : todo.filter (· != n) = todo.erase n := by
        rw [hnd.erase_eq_filter]
      have hnd' : (todo.filter (· != n)).Nodup := hnd.sublist List.filter_sublist
      refine (ih (todo.filter (· != n)) (done ++ [n]) hnd').trans ?_
      rw [List.append_assoc, hfil]
      exact List.Perm.append_left done (List.perm_cons_erase hmem).symm

theorem topo_perm (g : MG) (hnd : (g.nodes.map (·.1)).Nodup) : g.topo.Perm (g.nodes.map (·.1)) := by
  unfold MG.topo
  have := topo_go_perm g (g.nodes.length + 1) (g.nodes.map (·.1)) [] hnd
  simpa using this

/-! ## completeness of the search -/

theorem isoSearch2_complete (g1 g2 : MG) (φ : Nd → Nd) (hf : IsoFacts2 g1 g2 φ) :
    ∀ (ns : List Nd) (f : List (Nd × Nd)), ns.Nodup → (∀ n ∈ ns, n ∈ g1.nodes.map (·.1)) →
      (∀ q ∈ f, q.1 ∈ g1.nodes.map (·.1) ∧ q.2 = φ q.1 ∧ q.1 ∉ ns) →
      (f.reverse ++ ns.map (fun n => (n, φ n))) ∈ isoSearch2 g1 g2 ns f := by
  intro ns
  induction ns with
  | nil => intro f _ _ _; simp [isoSearch2]
  | cons n rest ih =>
    intro f hnd hns hfq
    have hn : n ∈ g1.nodes.map (·.1) := hns n (by simp)
    obtain ⟨a, b, ha, hb, hab⟩ := hf.nodes n hn
    have hnd' := List.nodup_cons.1 hnd
    unfold isoSearch2
    rw [ha]
    simp only [List.mem_flatMap, List.mem_filter, Bool.and_eq_true, Bool.not_eq_true', List.any_eq_false, beq_iff_eq]
    refine ⟨(φ n, b), ⟨opOf_some_pair_mem g2 _ _ hb, ⟨⟨hab, ?_⟩, ?_⟩⟩, ?_⟩
    · -- the image is not used yet
      intro q hq hqe
      obtain ⟨hq1, hq2, hq3⟩ := hfq q hq
      have : q.1 = n := hf.inj _ hq1 _ hn (by rw [← hq2]; exact hqe)
      exact hq3 (by rw [this]; simp)
    · -- consistent with the pairs chosen so far
      unfold consistent2
      simp only [List.all_eq_true, Bool.and_eq_true, beq_iff_eq]
      intro q hq
      have hq' : q.1 ∈ g1.nodes.map (·.1) ∧ q.2 = φ q.1 := by
        rcases List.mem_cons.1 hq with rfl | hq
        · exact ⟨hn, rfl⟩
        · exact ⟨(hfq q hq).1, (hfq q hq).2.1⟩
      rw [hq'.2]
      have e1 := hf.edges n hn q.1 hq'.1
      have e2 := hf.edges q.1 hq'.1 n hn
      exact ⟨⟨⟨e1.1, e1.2⟩, e2.1⟩, e2.2⟩
    · have := ih ((n, φ n) :: f) hnd'.2 (fun m hm => hns m (List.mem_cons_of_mem _ hm))
        (by
          intro q hq
          rcases List.mem_cons.1 hq with rfl | hq
          · exact ⟨hn, rfl, hnd'.1⟩
          · obtain ⟨a1, a2, a3⟩ := hfq q hq
            exact ⟨a1, a2, fun h' => a3 (List.mem_cons_of_mem _ h')⟩)
      simpa using this

/-! ## counting edges through the pairs of nodes -/

theorem length_eq_sum_filter {α β : Type} [DecidableEq β] (l : List α) (key : α → β) (ks : List β) (hk : ks.Nodup)
    (hall : ∀ x ∈ l, key x ∈ ks) : l.length = (ks.map fun k => (l.filter fun x => key x == k).length).sum := by
  induction l with
  | nil => simp
  | cons x rest ih =>
    have hx := hall x (by simp)
    have ih' := ih (fun y hy => hall y (List.mem_cons_of_mem _ hy))
    have hstep : ∀ (ks : List β), ks.Nodup →
        (ks.map fun k => ((x :: rest).filter fun y => key y == k).length).sum
          = (ks.map fun k => (rest.filter fun y => key y == k).length).sum + (if key x ∈ ks then 1 else 0) := by
      intro ks
      induction ks with
      | nil => intro _; simp
      | cons k ks' ihk =>
        intro hnd
        have hnd' := List.nodup_cons.1 hnd
        simp only [List.map_cons, List.sum_cons, List.mem_cons]
        rw [ihk hnd'.2]
        by_cases hkx : key x = k
        · have hnot : key x ∉ ks' := by rw [hkx]; exact hnd'.1
          have e1 : ((x :: rest).filter fun y => key y == k).length = (rest.filter fun y => key y == k).length + 1 := by
            rw [List.filter_cons_of_pos (by simpa using hkx)]; rfl
          have e2 : (if key x ∈ ks' then 1 else 0) = 0 := if_neg hnot
          have e3 : (if key x = k ∨ key x ∈ ks' then 1 else 0) = 1 := if_pos (Or.inl hkx)
          rw [e1, e2, e3]; omega
        · have e1 : ((x :: rest).filter fun y => key y == k).length = (rest.filter fun y => key y == k).length := by
            rw [List.filter_cons_of_neg (by simpa using hkx)]
          have e3 : (if key x = k ∨ key x ∈ ks' then 1 else 0) = (if key x ∈ ks' then 1 else 0) := by simp [hkx]
          rw [e1, e3]; omega
    rw [hstep ks hk, if_pos hx, ← ih']
    simp

theorem edges_length_sum (g : MG) (ns : List Nd) (hnd : ns.Nodup) (hs : ∀ e ∈ g.edges, e.src ∈ ns ∧ e.dst ∈ ns) :
    g.edges.length = (ns.map fun u => (ns.map fun v => (g.edgesBetween u v).length).sum).sum := by
  rw [length_eq_sum_filter g.edges (·.src) ns hnd (fun e he => (hs e he).1)]
  congr 1
  apply List.map_congr_left
  intro u _
  rw [length_eq_sum_filter (g.edges.filter fun x => x.src == u) (·.dst) ns hnd
    (fun e he => (hs e (List.mem_filter.1 he).1).2)]
  congr 1
  apply List.map_congr_left
  intro v _
  unfold MG.edgesBetween
  rw [List.filter_filter]
  congr 1
  apply List.filter_congr
  intro e _
  rw [Bool.and_comm]

/-! ## the model's answer is "an isomorphism exists" -/

theorem Rep0.edge_ends_mem {g : MG} {W : List Wire} {body : Wire → List Nd} (r : Rep0 g W body) :
    ∀ e ∈ g.edges, e.src ∈ g.nodes.map (·.1) ∧ e.dst ∈ g.nodes.map (·.1) := by
  intro e he
  obtain ⟨hk, hadj⟩ := r.edge_sound0 e he
  exact ⟨r.path_mem_nodes _ hk _ (adj_mem_left hadj), r.path_mem_nodes _ hk _ (adj_mem_right hadj)⟩

/-- **completeness of the model's comparison on circuit DAGs**: if some node bijection passes the repaired check between
    two (labelled) circuit DAGs, the counts agree and the backtracking search returns a map that passes the check -/
theorem isoCore_of_facts (g1 g2 : MG) (W1 W2 : List Wire) (B1 B2 : Wire → List Nd) (r1 : Rep0 g1 W1 B1) (r2 : Rep0 g2 W2 B2)
    (hn1 : (g1.nodes.map (·.1)).Nodup) (φ : Nd → Nd) (hf : IsoFacts2 g1 g2 φ) :
    (g1.nodes.length == g2.nodes.length && g1.edges.length == g2.edges.length &&
      ((isoSearch2 g1 g2 g1.topo []).any (isoCheck2 g1 g2))) = true := by
  have hperm := hf.perm
  have hn2 : (g2.nodes.map (·.1)).Nodup := hperm.nodup_iff.1 hf.nodup
  have hlenN : g1.nodes.length = g2.nodes.length := by simpa using hf.len
  have hlenE : g1.edges.length = g2.edges.length := by
    rw [edges_length_sum g1 _ hn1 r1.edge_ends_mem, edges_length_sum g2 _ hn2 r2.edge_ends_mem]
    have e1gen : ∀ (ns : List Nd), (∀ u ∈ ns, ∀ v ∈ ns, (g1.edgesBetween u v).length = (g2.edgesBetween (φ u) (φ v)).length) →
        (ns.map fun u => (ns.map fun v => (g1.edgesBetween u v).length).sum).sum
          = ((ns.map φ).map fun u' => ((ns.map φ).map fun v' => (g2.edgesBetween u' v').length).sum).sum := by
      intro ns hh
      simp only [List.map_map]
      congr 1
      apply List.map_congr_left
      intro u hu
      congr 1
      apply List.map_congr_left
      intro v hv
      exact hh u hu v hv
    have e1 := e1gen (g1.nodes.map (·.1)) (fun u hu v hv => (hf.edges u hu v hv).1)
    rw [e1]
    have e2 : ∀ u', (((g1.nodes.map (·.1)).map φ).map fun v' => (g2.edgesBetween u' v').length).sum
        = ((g2.nodes.map (·.1)).map fun v' => (g2.edgesBetween u' v').length).sum :=
      fun u' => (hperm.map _).sum_nat
    simp only [e2]
    exact (hperm.map _).sum_nat
  have htp := topo_perm g1 hn1
  have hmem := isoSearch2_complete g1 g2 φ hf g1.topo [] (htp.nodup_iff.2 hn1) (fun n hn => htp.mem_iff.1 hn)
    (fun q hq => by cases hq)
  have hcheck : isoCheck2 g1 g2 ([].reverse ++ g1.topo.map (fun n => (n, φ n))) = true := by
    apply isoCheckW_of_facts g1 g2 _ φ _ hf
    intro n hn
    simp only [List.reverse_nil, List.nil_append]
    exact applyMap_pairsOf g1.topo φ n (htp.mem_iff.2 hn)
  simp only [Bool.and_eq_true, beq_iff_eq, List.any_eq_true]
  exact ⟨⟨hlenN, hlenE⟩, _, hmem, hcheck⟩

theorem isoGraphs2_complete (g1 g2 : MG) (W1 W2 : List Wire) (B1 B2 : Wire → List Nd) (r1 : Rep0 g1 W1 B1) (r2 : Rep0 g2 W2 B2)
    (hn1 : (g1.nodes.map (·.1)).Nodup) (φ : Nd → Nd) (hf : IsoFacts2 g1.addControlTarget2 g2.addControlTarget2 φ) :
    isoGraphs2 g1 g2 = true := by
  unfold isoGraphs2
  rw [addControlTarget2_eq g1 W1 B1 r1, addControlTarget2_eq g2 W2 B2 r2] at hf ⊢
  exact isoCore_of_facts g1.labelled g2.labelled W1 W2 B1 B2 r1.labelled.toRep0 r2.labelled.toRep0 hn1 φ hf

/-- **the model's answer is exactly "an isomorphism exists"** on circuit DAGs -/
theorem isoGraphs2_iff (g1 g2 : MG) (W1 W2 : List Wire) (B1 B2 : Wire → List Nd) (r1 : Rep0 g1 W1 B1) (r2 : Rep0 g2 W2 B2)
    (hn1 : (g1.nodes.map (·.1)).Nodup) :
    isoGraphs2 g1 g2 = true ↔ ∃ f, isoCheck2 g1.addControlTarget2 g2.addControlTarget2 f = true :=
  ⟨isoGraphs2_witness g1 g2, fun ⟨f, hf⟩ =>
    isoGraphs2_complete g1 g2 W1 W2 B1 B2 r1 r2 hn1 (mapFn f) (isoCheckW_facts _ _ f hf).2⟩

/-- the inverse of a map that passes the check passes it -/
theorem isoGraphs2_symm (g1 g2 : MG) (W1 W2 : List Wire) (B1 B2 : Wire → List Nd) (r1 : Rep0 g1 W1 B1) (r2 : Rep0 g2 W2 B2)
    (hn2 : (g2.nodes.map (·.1)).Nodup) (h : isoGraphs2 g1 g2 = true) : isoGraphs2 g2 g1 = true := by
  obtain ⟨f, hf⟩ := isoGraphs2_witness g1 g2 h
  exact isoGraphs2_complete g2 g1 W2 W1 B2 B1 r2 r1 hn2 _ (isoCheckW_facts _ _ _ (isoCheckW_symm edgeMatch2_symm _ _ f hf)).2

end Graphiq.Compare
