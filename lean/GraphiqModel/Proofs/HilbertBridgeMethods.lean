/-
  Proofs/HilbertBridgeMethods.lean — the remaining `DensityMatrix` methods of the executable exact model
  (`projectorsZ`, `applyUnitary` with weight 1 or the Hadamard's ½, `applyMeasurement`, the reset channel) represent, under
  `Rep`, the Hilbert-space operations of Proofs/HilbertBridgeOps.lean (`projZ`, `applyUnitary`, `measureH`,
  `applyChannel (resetKraus …)`).  Used by the compile loop of C01 (Proofs/DMCompileExec.lean).
-/
import GraphiqModel.Proofs.HilbertBridgeExec
import GraphiqModel.Proofs.HilbertBridgeOps
namespace Graphiq

/-- **`projectors_zbasis`** -/
theorem Hilbert.rep_projectorsZ (n q : Nat) (hq : q < n) :
    ∃ p0 p1, DM.projectorsZ n q = .ok (p0, p1) ∧ Rep n p0 (projZ n q false) ∧ Rep n p1 (projZ n q true) := by
  rw [projZ_eq n q hq, projZ_eq n q hq]
  exact rep_projectorsZ_Zq n q hq

namespace DMX
open Hilbert Matrix

theorem rep_applyUnitary_one {n : Nat} {ρ u : Mat} {R U : DMat n} (hρ : Rep n ρ R) (hu : Rep n u U) :
    ∃ m, DM.applyUnitary ρ ⟨1, u⟩ = .ok m ∧ Rep n m (applyUnitary R U) := by
  obtain ⟨m, h1, h2⟩ := rep_applyUnitary ⟨1, u⟩ hρ hu
  refine ⟨m, h1, h2.congr ?_⟩
  unfold applyUnitary
  simp

/-- `½ · H₂ ρ H₂†` (the executable Hadamard) is `apply_unitary` with `hadamard() = H₂/√2` -/
theorem rep_applyUnitary_had {n : Nat} {ρ u : Mat} {R : DMat n} (q : Nat) (hρ : Rep n ρ R)
    (hu : Rep n u (oneQ n q hadM)) :
    ∃ m, DM.applyUnitary ρ ⟨1 / 2, u⟩ = .ok m ∧ Rep n m (applyUnitary R (oneQ n q hadamardM)) := by
  obtain ⟨m, h1, h2⟩ := rep_applyUnitary ⟨1 / 2, u⟩ hρ hu
  refine ⟨m, h1, h2.congr ?_⟩
  unfold applyUnitary hadamardM
  rw [oneQ_smul, Matrix.conjTranspose_smul, star_invSqrt2, smul_mul_assoc, smul_mul_assoc, mul_smul_comm, smul_smul,
    invSqrt2_mul_self]
  congr 2
  norm_num

theorem cast_clip (x : Rat) : (((if x < 0 then 0 else x : Rat)) : ℝ) = max 0 (x : ℝ) := by
  split
  · rename_i h
    have : (x : ℝ) < 0 := by exact_mod_cast h
    rw [max_eq_left (le_of_lt this)]; simp
  · rename_i h
    have : (0 : ℝ) ≤ (x : ℝ) := by exact_mod_cast (not_lt.mp h)
    rw [max_eq_right this]

open Classical in
theorem isclose0_cast (x : Rat) : DM.isclose0 x = decide (Hilbert.isclose0 (x : ℝ)) := by
  unfold DM.isclose0 Hilbert.isclose0
  rw [DM.rat_abs_eq]
  apply decide_eq_decide.mpr
  constructor
  · intro h
    have : ((|x| : Rat) : ℝ) ≤ ((1 / 100000000 : Rat) : ℝ) := by exact_mod_cast h
    simpa using this
  · intro h
    have : ((|x| : Rat) : ℝ) ≤ ((1 / 100000000 : Rat) : ℝ) := by simpa using h
    exact_mod_cast this

/-- the two forced settings of the executable model as `Det` -/
def detOf (b : Bool) : Det := if b then .one else .zero

/-- **`apply_measurement` of the executable model** represents `measureH`, provided the divisor is positive -/
theorem rep_applyMeasurement {n : Nat} {ρ p0 p1 : Mat} {R P0 P1 : DMat n} (hρ : Rep n ρ R) (h0 : Rep n p0 P0)
    (h1 : Rep n p1 P1) (det : Bool) (script : List Bool) (hpos : 0 < measNormH R P0 P1 (detOf det) script) :
    ∃ m, DM.applyMeasurement ρ p0 p1 det = .ok (some m, (measureH R P0 P1 (detOf det) script).2.1) ∧
      Rep n m (measureH R P0 P1 (detOf det) script).1 := by
  have e0 : (((if (ρ.mul p0).trace.re < 0 then 0 else (ρ.mul p0).trace.re : Rat)) : ℝ) = probOf R P0 := by
    rw [cast_clip, (Rep.mul hρ h0).trace_re]; rfl
  have e1 : (((if (ρ.mul p1).trace.re < 0 then 0 else (ρ.mul p1).trace.re : Rat)) : ℝ) = probOf R P1 := by
    rw [cast_clip, (Rep.mul hρ h1).trace_re]; rfl
  unfold DM.applyMeasurement
  rw [if_neg (not_not.mpr (hρ.1.trans h0.1.symm))]
  simp only
  generalize (if (ρ.mul p0).trace.re < 0 then 0 else (ρ.mul p0).trace.re : Rat) = q0 at e0 ⊢
  generalize (if (ρ.mul p1).trace.re < 0 then 0 else (ρ.mul p1).trace.re : Rat) = q1 at e1 ⊢
  -- the outcome
  have hout : (if det = true then !DM.isclose0 q1 else DM.isclose0 q0) = (measureH R P0 P1 (detOf det) script).2.1 := by
    rw [measureH_out, ← e0, ← e1, isclose0_cast, isclose0_cast]
    cases det
    · simp [detOf, outcomeOf]
    · simp [detOf, outcomeOf]
  rw [hout]
  generalize hO : (measureH R P0 P1 (detOf det) script).2.1 = o at hout ⊢
  -- the divisor
  have hnorm : (((if 0 < q0 + q1 then (if o = true then q1 else q0) / (q0 + q1) else 1 : Rat)) : ℝ)
      = measNormH R P0 P1 (detOf det) script := by
    unfold measNormH
    simp only
    rw [← measureH_out, hO, ← e0, ← e1]
    by_cases ht : 0 < q0 + q1
    · have ht' : (0 : ℝ) < (q0 : ℝ) + (q1 : ℝ) := by exact_mod_cast ht
      rw [if_pos ht, if_pos ht']
      cases o <;> simp
    · have ht' : ¬ (0 : ℝ) < (q0 : ℝ) + (q1 : ℝ) := by
        intro h; apply ht; exact_mod_cast h
      rw [if_neg ht, if_neg ht']
      simp
  generalize (if 0 < q0 + q1 then (if o = true then q1 else q0) / (q0 + q1) else 1 : Rat) = nm at hnorm ⊢
  have hne : nm ≠ 0 := by
    intro h
    rw [h] at hnorm
    rw [← hnorm] at hpos
    simp at hpos
  rw [if_neg hne]
  refine ⟨_, rfl, ?_⟩
  have hm : Rep n (if o = true then p1 else p0) (if o = true then P1 else P0) := by
    cases o
    · exact h0
    · exact h1
  refine (Rep.smul (1 / nm) (Rep.conjBy hm hρ)).norm.congr ?_
  rw [measureH_fst, hO, ← hnorm]
  congr 1
  push_cast
  simp

/-- the reset pair of `get_reset_qubit_kraus`, both weights 1 -/
theorem rep_resetChannel {n : Nat} {ρ : Mat} {R : DMat n} (q : Nat) (hq : q < n) (hρ : Rep n ρ R) :
    ∃ m, DM.applyChannel ρ (DM.resetKraus n q) = .ok m ∧ Rep n m (applyChannel R (resetKraus n q)) := by
  obtain ⟨m, e, r⟩ := rep_applyChannel hρ (DM.resetKraus n q)
    [(1, oneQ n q (ketBra2 false false)), (1, oneQ n q (ketBra2 false true))]
    (.cons ⟨Rat.cast_one, rep_getOneQubitGate n q hq _ _ rep2_ketBra00⟩
      (.cons ⟨Rat.cast_one, rep_getOneQubitGate n q hq _ _ rep2_ketBra01⟩ .nil))
  refine ⟨m, e, r.congr ?_⟩
  show herm (0 + ((1 : ℝ) : ℂ) • _ + ((1 : ℝ) : ℂ) • _) = herm (0 + _ + _)
  rw [Complex.ofReal_one, one_smul, one_smul]

end DMX
end Graphiq
