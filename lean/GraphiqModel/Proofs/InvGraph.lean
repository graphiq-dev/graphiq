/-
  Proofs/InvGraph.lean — `inverse_circuit` and `clifford_from_stabilizer` on graph states, exactly: for the generators
  `X_i Z_{N(i)}` of a simple graph (symmetric, irreflexive adjacency) the synthesis emits one `CZ(j,k)` per edge `j < k`
  in lexicographic order followed by one Hadamard per qubit — nothing else — and the Clifford tableau of
  `get_clifford_tableau_from_graph` is the textbook one: destabilizers `Z_i`, stabilizers `X_i Z_{N(i)}`, all signs `+`.

-/
import GraphiqModel.Proofs.InvClifford
import GraphiqModel.Proofs.InvDead
namespace Graphiq
open PRow Tab
namespace STab

/-- the bits of a state below the size: x-bits `X`, z-bits `Z`, all signs `+`, all rows real -/
structure GBits (n : Nat) (X Z : Nat → Nat → Bool) (t : STab) : Prop where
  n_eq : t.n = n
  x : ∀ m c, m < n → c < n → xb t m c = X m c
  z : ∀ m c, m < n → c < n → zb t m c = Z m c
  r : ∀ m, m < n → rb t m = false

/-- the rows of the state are the images of the rows of `c` under the gates emitted so far -/
def Fwd (n : Nat) (c : STab) (s : InvState) : Prop := ∀ m, m < n → EqOn n (s.t.row m) (actCirc s.circ (c.row m))

/-- the identity matrix, as a bit function -/
def idM (m c : Nat) : Bool := decide (c = m)

section graph
variable (n : Nat) (A : Nat → Nat → Bool)

theorem graphSTab_canonicalForm (hsym : ∀ i j, i < n → j < n → A i j = A j i) :
    ∃ c, (graphSTab n A).canonicalForm = .ok c ∧ c.n = n ∧ c.Good ∧
      ∀ i, i < n → EqOn n (c.row i) ((graphSTab n A).row i) := by
  have gg := graphSTab_good' n A hsym
  obtain ⟨c, hc⟩ := canonicalForm_of_indep _ gg (graphSTab_indep n A)
  obtain ⟨s, gc⟩ := canonicalForm_spanEq _ c gg hc
  have hn : c.n = n := s.n_eq.symm
  have rows := canon_unique c (graphSTab n A) (canonicalForm_canon _ c hc) (graphSTab_canon n A) gc gg s.symm
  refine ⟨c, hc, hn, gc, fun i hi => ?_⟩
  have := rows i (by rw [hn]; exact hi)
  rw [hn] at this; exact this

end graph

/-! ### blocks 1 and 2: nothing happens -/

section blocks
variable (n : Nat)

theorem graph_block1 (Z : Nat → Nat → Bool) (c : STab) (hc : GBits n idM Z c) (hg : c.Good) :
    ∃ s1, invBlock1 c = .ok s1 ∧ GBits n idM Z s1.t ∧ s1.t.Good ∧ s1.circ = [] ∧ Fwd n c s1 := by
  unfold invBlock1
  rw [hc.n_eq]
  exact foldlM_range_inv (invStep1 n) (fun _ s => GBits n idM Z s.t ∧ s.t.Good ∧ s.circ = [] ∧ Fwd n c s) n
    { t := c, circ := [] } ⟨hc, hg, rfl, fun m _ => EqOn.refl _ _⟩
    (fun j s hj hq => by
      obtain ⟨hb, hgs, hcirc, hf⟩ := hq
      have hn := hb.n_eq
      have e := invStep1_pivot n s j j hn (Nat.le_refl _) hj
        (by rw [hb.x j j hj hj]; simp [idM])
        (fun m hm hne => by rw [hb.x m j hm hj]; simp [idM]; exact fun e => hne e.symm)
      refine ⟨s.swap j j, e, ⟨hn, fun m c hm hc' => ?_, fun m c hm hc' => ?_, fun m hm => ?_⟩,
        swap_good s j j (by omega) (by omega) hgs, hcirc, fun m hm => ?_⟩
      · rw [swap_xb s j j m c (by omega) (by omega), swp_self]; exact hb.x m c hm hc'
      · rw [swap_zb s j j m c (by omega) (by omega), swp_self]; exact hb.z m c hm hc'
      · have := (swap_row s j j m (by omega)).2.1
        rw [swp_self] at this
        show ((s.swap j j).t.row m).r = false
        rw [this]; exact hb.r m hm
      · have := swap_row s j j m (by omega)
        rw [swp_self, hn] at this
        exact this.trans (hf m hm))

theorem graph_block2 (Z : Nat → Nat → Bool) (s : InvState) (hb : GBits n idM Z s.t) : (pairsLt n).foldl invStep2 s = s := by
  apply Loop.foldl_const
  intro jk hm
  obtain ⟨h1, h2⟩ := mem_pairsLt n jk hm
  unfold invStep2
  have : (s.t.row jk.1).x jk.2 = false := by
    have := hb.x jk.1 jk.2 (by omega) h2
    unfold xb at this
    rw [this]; simp [idM]; omega
  rw [this]; simp

end blocks

/-! ### block 3: one CZ per edge -/

theorem Fwd.gate {n : Nat} {c : STab} {s : InvState} (hf : Fwd n c s) (hn : s.t.n = n) (g : Gate) (hg : g.WF n) :
    Fwd n c (s.gate g) := by
  intro m hm
  have h1 := gate_row s g m (by omega)
  rw [hn] at h1
  have h2 : EqOn n (g.act (s.t.row m)) (g.act (actCirc s.circ (c.row m))) :=
    actCirc_congr n [g] (fun g' hg' => by rw [List.mem_singleton.mp hg']; exact hg) _ _ (hf m hm)
  have h3 : (s.gate g).circ = s.circ ++ [g] := rfl
  rw [h3, actCirc_append]
  exact h1.trans h2

/-- what every step of the CZ block keeps on a graph state, independently of the pair it is at: the x-bit matrix is the
    identity, the z-diagonal and the signs are clear, the rows are the images of the input's rows -/
structure G3 (n : Nat) (c : STab) (s : InvState) : Prop where
  n_eq : s.t.n = n
  good : s.t.Good
  x : ∀ m c, m < n → c < n → xb s.t m c = idM m c
  zdiag : ∀ m, m < n → zb s.t m m = false
  r : ∀ m, m < n → rb s.t m = false
  fwd : Fwd n c s

theorem G3.a2 {n : Nat} {c : STab} {s : InvState} (h : G3 n c s) : A2 n s.t :=
  ⟨h.n_eq, h.good, fun m c hm hc hne => by rw [h.x m c hm hc]; simp [idM]; exact fun e => hne e.symm,
    fun c hc => Or.inl (by rw [h.x c c hc hc]; simp [idM])⟩

/-- the CZ block on a graph state: the z-bit matrix is cleared above the diagonal by the gates, below it by commutation -/
theorem graph_block3 (n : Nat) (Z : Nat → Nat → Bool) (c : STab) (s : InvState) (hg : s.t.Good)
    (hb : GBits n idM Z s.t) (hz : ∀ m, m < n → Z m m = false) (hf : Fwd n c s) :
    GBits n idM (fun _ _ => false) ((pairsLt n).foldl invStep3 s).t ∧
    ((pairsLt n).foldl invStep3 s).circ
      = s.circ ++ ((pairsLt n).filter fun jk => Z jk.1 jk.2).map (fun jk => Gate.CZ jk.1 jk.2) ∧
    Fwd n c ((pairsLt n).foldl invStep3 s) := by
  have g0 : G3 n c s := ⟨hb.n_eq, hg, hb.x, fun m hm => by rw [hb.z m m hm hm]; exact hz m hm, hb.r, hf⟩
  have g := Loop.foldl_inv (f := invStep3) (G3 n c) (fun s x hx h => by
    obtain ⟨hjk, hk⟩ := mem_pairsLt n x hx
    have hj : x.1 < n := by omega
    obtain ⟨hn, hg, ex, ez⟩ := invStep3_edit s x.1 x.2 hjk hk h.a2
    show G3 n c (invStep3 s (x.1, x.2))
    refine ⟨hn, hg, fun m c hm hc => by rw [ex m c hm hc]; exact h.x m c hm hc, fun m hm => ?_, fun m hm => ?_, ?_⟩
    · rw [ez m m hm hm, if_neg (by omega), if_neg (by omega)]; exact h.zdiag m hm
    · -- a CZ picks up a sign only on a row with both x-bits
      show ((invStep3 s (x.1, x.2)).t.row m).r = false
      unfold invStep3
      simp only
      split
      · have h1 : (s.t.row m).x x.1 = idM m x.1 := h.x m x.1 hm hj
        have h2 : (s.t.row m).x x.2 = idM m x.2 := h.x m x.2 hm hk
        have h3 : (s.t.row m).r = false := h.r m hm
        rw [show ((s.gate (Gate.CZ x.1 x.2)).t.row m).r = _ from gate_rb s _ m (by rw [h.n_eq]; exact hm)]
        show (PRow.cz x.1 x.2 (s.t.row m)).r = false
        rw [cz_r x.1 x.2 (by omega), h1, h2, h3]
        have : (idM m x.1 && idM m x.2) = false := by
          simp only [idM]
          by_cases e : x.1 = m
          · have : ¬ x.2 = m := by omega
            simp [this]
          · simp [e]
        rw [this]; rfl
      · exact h.r m hm
    · unfold invStep3
      simp only
      split
      · exact h.fwd.gate h.n_eq _ (by show x.1 < n ∧ x.2 < n ∧ x.1 ≠ x.2; omega)
      · exact h.fwd) g0
  have a3 := block3 n s g0.a2
  refine ⟨⟨g.n_eq, g.x, fun m c hm hc => ?_, g.r⟩, ?_, g.fwd⟩
  · by_cases e : m = c
    · rw [e]; exact g.zdiag c hc
    · exact a3.zcol c m hc hm (by rw [g.x c c hc hc]; simp [idM]) e
  · rw [block3_emits n s g0.a2, List.filter_congr (fun jk hm => ?_)]
    obtain ⟨h1, h2⟩ := mem_pairsLt n jk hm
    exact hb.z jk.1 jk.2 (by omega) h2

/-! ### blocks 4 – 7: one Hadamard per qubit, nothing else -/

theorem GBits.congr {n : Nat} {X X' Z Z' : Nat → Nat → Bool} {t : STab} (h : GBits n X Z t)
    (ex : ∀ m c, m < n → c < n → X m c = X' m c) (ez : ∀ m c, m < n → c < n → Z m c = Z' m c) : GBits n X' Z' t :=
  ⟨h.n_eq, fun m c hm hc => by rw [h.x m c hm hc, ex m c hm hc], fun m c hm hc => by rw [h.z m c hm hc, ez m c hm hc], h.r⟩

theorem graph_block4 (n : Nat) (s : InvState) (hb : GBits n idM (fun _ _ => false) s.t) :
    (List.range n).foldl invStep4 s = s := by
  apply Loop.foldl_const
  intro j hm
  have hj := List.mem_range.mp hm
  unfold invStep4
  have : (s.t.row j).z j = false := hb.z j j hj hj
  rw [this]; simp

/-- the bit matrices while the second Hadamard block is at column `j`: the columns `< j` have moved from X to Z -/
def X5 (j m c : Nat) : Bool := if c < j then false else idM m c
def Z5 (j m c : Nat) : Bool := if c < j then idM m c else false

theorem graph_block5 (n : Nat) (c : STab) (s : InvState) (hb : GBits n idM (fun _ _ => false) s.t) (hf : Fwd n c s) :
    GBits n (fun _ _ => false) idM ((List.range n).foldl invStep5 s).t ∧
    ((List.range n).foldl invStep5 s).circ = s.circ ++ (List.range n).map Gate.H ∧
    Fwd n c ((List.range n).foldl invStep5 s) := by
  have key := Loop.foldl_range (f := invStep5) (n := n)
    (fun j s' => GBits n (X5 j) (Z5 j) s'.t ∧ s'.circ = s.circ ++ (List.range j).map Gate.H ∧ Fwd n c s')
    (fun j s' hj hq => by
      obtain ⟨hb', hcirc, hf'⟩ := hq
      have hn := hb'.n_eq
      have hx : (s'.t.row j).x j = true := by
        have := hb'.x j j hj hj
        unfold xb at this
        rw [this]; simp [X5, idM]
      have hz : (s'.t.row j).z j = false := by
        have := hb'.z j j hj hj
        unfold zb at this
        rw [this]; simp [Z5]
      unfold invStep5
      simp only [hx, hz, Bool.not_false, Bool.and_self, if_true]
      obtain ⟨ex, ez⟩ := gate_h_bits s' hn j
      refine ⟨⟨hn, fun m c hm hc => ?_, fun m c hm hc => ?_, fun m hm => ?_⟩, ?_, hf'.gate hn _ (by show j < n; exact hj)⟩
      · rw [ex m c hm hc, hb'.z m c hm hc, hb'.x m c hm hc]
        unfold X5 Z5
        by_cases e : c = j
        · subst e; simp
        · have : (c < j + 1) = (c < j) := by apply propext; constructor <;> intro h <;> omega
          simp only [e, if_false, this]
      · rw [ez m c hm hc, hb'.z m c hm hc, hb'.x m c hm hc]
        unfold X5 Z5
        by_cases e : c = j
        · subst e; simp
        · have : (c < j + 1) = (c < j) := by apply propext; constructor <;> intro h <;> omega
          simp only [e, if_false, this]
      · rw [gate_rb s' _ m (by omega)]
        show (PRow.h j (s'.t.row m)).r = false
        rw [h_r]
        have h1 : (s'.t.row m).z j = false := by
          have := hb'.z m j hm hj
          unfold zb at this
          rw [this]; simp [Z5]
        have h3 : (s'.t.row m).r = false := hb'.r m hm
        rw [h1, h3]; simp
      · show s'.circ ++ [Gate.H j] = _
        rw [hcirc, List.range_succ, List.map_append]
        simp)
    (s := s) ⟨hb.congr (fun m c _ _ => by simp [X5]) (fun m c _ _ => by simp [Z5]), by simp, hf⟩
  obtain ⟨k1, k2, k3⟩ := key
  exact ⟨k1.congr (fun m c _ hc => by simp [X5, hc]) (fun m c _ hc => by simp [Z5, hc]), k2, k3⟩

theorem graph_block6 (n : Nat) (s : InvState) (hb : GBits n (fun _ _ => false) idM s.t) :
    (pairsLt n).foldl invStep6 s = s := by
  refine block6_noop n s (fun c i hci hi => ?_)
  rw [hb.z i c hi (by omega)]
  simp [idM]; omega

theorem graph_block7 (n : Nat) (s : InvState) (hb : GBits n (fun _ _ => false) idM s.t) :
    ((List.range n).filter fun i => (s.t.row i).r).foldl invStep7 s = s := by
  have : ((List.range n).filter fun i => (s.t.row i).r) = [] := by
    rw [List.filter_eq_nil_iff]
    intro i hi
    have := hb.r i (List.mem_range.mp hi)
    unfold rb at this
    rw [this]; simp
  rw [this]; rfl

/-- the textbook circuit that maps the graph state to |0…0⟩: one `CZ(j,k)` per edge `j < k` (in the order of the nested
    loops), then one Hadamard per qubit -/
def graphCirc (n : Nat) (A : Nat → Nat → Bool) : List Gate :=
  ((pairsLt n).filter fun jk => A jk.1 jk.2).map (fun jk => Gate.CZ jk.1 jk.2) ++ (List.range n).map Gate.H

theorem graph_inverseCircuit (n : Nat) (A : Nat → Nat → Bool) (hsym : ∀ i j, i < n → j < n → A i j = A j i)
    (hirr : ∀ i, i < n → A i i = false) :
    ∃ t', (graphSTab n A).inverseCircuit = .ok (t', graphCirc n A) ∧ GBits n (fun _ _ => false) idM t' ∧
      ∀ m, m < n → EqOn n (t'.row m) (actCirc (graphCirc n A) ((graphSTab n A).row m)) := by
  obtain ⟨c, hc, hn, gc, rows⟩ := graphSTab_canonicalForm n A hsym
  have hb0 : GBits n idM A c := by
    refine ⟨hn, fun m c' hm hc' => ?_, fun m c' hm hc' => ?_, fun m hm => ?_⟩
    · show (c.row m).x c' = _
      rw [((rows m hm).1 c' hc').1]; rfl
    · show (c.row m).z c' = _
      rw [((rows m hm).1 c' hc').2]
      show (decide (c' < n) && A m c') = _
      simp [hc']
    · show (c.row m).r = false
      rw [(rows m hm).2.1]; rfl
  obtain ⟨s1, e1, b1, g1, c1, f1⟩ := graph_block1 n A c hb0 gc
  have e2 := graph_block2 n A s1 b1
  obtain ⟨b3, c3, f3⟩ := graph_block3 n A c s1 g1 b1 hirr f1
  have e4 := graph_block4 n _ b3
  obtain ⟨b5, c5, f5⟩ := graph_block5 n c _ b3 f3
  have e6 := graph_block6 n _ b5
  have e7 := graph_block7 n _ b5
  have hrest : invRest n s1 = (List.range n).foldl invStep5 ((pairsLt n).foldl invStep3 s1) := by
    unfold invRest
    simp only
    rw [e2, e4, e6, e7]
  have hcirc : ((List.range n).foldl invStep5 ((pairsLt n).foldl invStep3 s1)).circ = graphCirc n A := by
    rw [c5, c3, c1]; rfl
  have hres : (graphSTab n A).inverseCircuit
      = .ok (((List.range n).foldl invStep5 ((pairsLt n).foldl invStep3 s1)).t, graphCirc n A) := by
    rw [inverseCircuit_of_blocks _ _ _ hc (invBlocks_of_block1 _ s1 e1), hn, hrest, hcirc]
  refine ⟨_, hres, b5, fun m hm => ?_⟩
  have wf := (inverseCircuit_tracks _ _ _ (graphSTab_good' n A hsym) hres).2.2.1
  have : (graphSTab n A).n = n := rfl
  rw [this] at wf
  have h1 := f5 m hm
  rw [hcirc] at h1
  exact h1.trans (actCirc_congr n _ wf _ _ (rows m hm))

/-! ### the Clifford tableau of a graph -/

theorem actCirc_cz_xfree (l : List Gate) (hl : ∀ g, g ∈ l → ∃ a b, a ≠ b ∧ g = Gate.CZ a b) (p : PRow)
    (hp : ∀ j, p.x j = false) :
    (∀ j, (actCirc l p).x j = false ∧ (actCirc l p).z j = p.z j) ∧ (actCirc l p).r = p.r ∧ (actCirc l p).ip = p.ip := by
  induction l generalizing p with
  | nil => exact ⟨fun j => ⟨hp j, rfl⟩, rfl, rfl⟩
  | cons g rest ih =>
    obtain ⟨a, b, hab, e⟩ := hl g List.mem_cons_self
    subst e
    have hx : ∀ j, (PRow.cz a b p).x j = false := fun j => by rw [cz_x a b hab]; exact hp j
    have hz : ∀ j, (PRow.cz a b p).z j = p.z j := by
      intro j
      rw [cz_z a b hab, hp b, hp a]
      split
      · simp
      · split <;> simp
    have hr : (PRow.cz a b p).r = p.r := by rw [cz_r a b hab, hp a]; simp
    have hi : (PRow.cz a b p).ip = p.ip := Gate.act_ip (.CZ a b) p
    obtain ⟨i1, i2, i3⟩ := ih (fun g hg => hl g (List.mem_cons_of_mem _ hg)) (PRow.cz a b p) hx
    exact ⟨fun j => ⟨(i1 j).1, ((i1 j).2).trans (hz j)⟩, i2.trans hr, i3.trans hi⟩

theorem actCirc_hs_Zq (n i : Nat) (m : Nat) (hm : m ≤ n) :
    EqOn n (actCirc ((List.range m).map Gate.H) (Zq i)) (if i < m then Xq i else Zq i) := by
  induction m with
  | zero => exact EqOn.refl _ _
  | succ k ih =>
    have ih' := ih (by omega)
    rw [List.range_succ, List.map_append]
    show EqOn n (actCirc ((List.range k).map Gate.H ++ [Gate.H k]) (Zq i)) _
    rw [actCirc_append]
    have hwf : ∀ g, g ∈ [Gate.H k] → g.WF n := fun g hg => by
      rw [List.mem_singleton.mp hg]; show k < n; omega
    have h1 : EqOn n ((Gate.H k).act (actCirc ((List.range k).map Gate.H) (Zq i)))
        ((Gate.H k).act (if i < k then Xq i else Zq i)) := actCirc_congr n [Gate.H k] hwf _ _ ih'
    refine h1.trans ?_
    by_cases h2 : i < k
    · have h3 : i < k + 1 := by omega
      rw [if_pos h2, if_pos h3]
      refine ⟨fun j _ => ?_, (by show xor (Xq i).r ((Xq i).x k && (Xq i).z k) = (Xq i).r; simp [Xq]), rfl⟩
      show ((PRow.h k (Xq i)).x j = (Xq i).x j ∧ (PRow.h k (Xq i)).z j = (Xq i).z j)
      rw [h_x, h_z]
      by_cases e : j = k
      · subst e
        have : ¬ j = i := by omega
        simp [Xq, this]
      · simp [e]
    · rw [if_neg h2]
      by_cases h3 : i = k
      · subst h3
        rw [if_pos (Nat.lt_succ_self i)]
        refine ⟨fun j _ => ?_, (by show xor (Zq i).r ((Zq i).x i && (Zq i).z i) = (Xq i).r; simp [Xq, Zq]), rfl⟩
        show ((PRow.h i (Zq i)).x j = (Xq i).x j ∧ (PRow.h i (Zq i)).z j = (Xq i).z j)
        rw [h_x, h_z]
        by_cases e : j = i
        · subst e; simp [Xq, Zq]
        · simp [Xq, Zq, e]
      · have h4 : ¬ i < k + 1 := by omega
        rw [if_neg h4]
        refine ⟨fun j _ => ?_, (by show xor (Zq i).r ((Zq i).x k && (Zq i).z k) = (Zq i).r; simp [Zq]), rfl⟩
        show ((PRow.h k (Zq i)).x j = (Zq i).x j ∧ (PRow.h k (Zq i)).z j = (Zq i).z j)
        rw [h_x, h_z]
        by_cases e : j = k
        · subst e
          have : ¬ j = i := fun e' => h3 e'.symm
          simp [Zq, this]
        · simp [e]

theorem mem_czs (n : Nat) (A : Nat → Nat → Bool) (g : Gate)
    (h : g ∈ ((pairsLt n).filter fun jk => A jk.1 jk.2).map fun jk => Gate.CZ jk.1 jk.2) :
    ∃ a b, a ≠ b ∧ g = Gate.CZ a b := by
  obtain ⟨jk, hm, e⟩ := List.mem_map.mp h
  have := (mem_pairsLt n jk (List.mem_filter.mp hm).1).1
  exact ⟨jk.1, jk.2, by omega, e.symm⟩

/-- **`get_clifford_tableau_from_graph`, exactly**: destabilizers `Z_i`, stabilizers `X_i Z_{N(i)}`, all signs `+` -/
theorem graph_cliffordFromStabilizer (n : Nat) (A : Nat → Nat → Bool) (hsym : ∀ i j, i < n → j < n → A i j = A j i)
    (hirr : ∀ i, i < n → A i i = false) :
    ∃ T, (graphSTab n A).cliffordFromStabilizer = .ok T ∧ T.n = n ∧
      (∀ i, i < n → EqOn n (T.row i) (Zq i)) ∧ (∀ i, i < n → EqOn n (T.row (i + n)) ((graphSTab n A).row i)) := by
  obtain ⟨t', hres, b5, fwd⟩ := graph_inverseCircuit n A hsym hirr
  have gg := graphSTab_good' n A hsym
  have wf := (inverseCircuit_tracks _ _ _ gg hres).2.2.1
  have hgn : (graphSTab n A).n = n := rfl
  rw [hgn] at wf
  have hrev := revCirc_wf n _ wf
  have e : (graphSTab n A).cliffordFromStabilizer = .ok ((Tab.ket0 n).runCircuit (revCirc (graphCirc n A))) := by
    unfold cliffordFromStabilizer
    rw [hres]
    simp only
    rw [runCircuit_reverse]
    rfl
  obtain ⟨h1, h2⟩ := Tab.runCircuit_rows n (revCirc (graphCirc n A)) hrev (Tab.ket0 n) rfl
  refine ⟨_, e, h1, fun i hi => ?_, fun i hi => ?_⟩
  · -- destabilizer `i`
    have r0 := h2 i (by omega)
    have hk : (Tab.ket0 n).row i = Xq i := by simp [Tab.ket0, hi]
    rw [hk] at r0
    -- forward: the circuit takes `Z_i` to `X_i`
    have hwf2 : ∀ g, g ∈ (List.range n).map Gate.H → g.WF n := fun g hg => wf g (by
      unfold graphCirc; exact List.mem_append_right _ hg)
    have f1 := actCirc_cz_xfree _ (mem_czs n A) (Zq i) (fun _ => rfl)
    have f1' : EqOn n (actCirc (((pairsLt n).filter fun jk => A jk.1 jk.2).map fun jk => Gate.CZ jk.1 jk.2) (Zq i))
        (Zq i) :=
      ⟨fun j _ => ⟨(f1.1 j).1, (f1.1 j).2⟩, f1.2.1, f1.2.2⟩
    have f2 : EqOn n (actCirc (graphCirc n A) (Zq i)) (Xq i) := by
      unfold graphCirc
      rw [actCirc_app]
      have := actCirc_hs_Zq n i n (Nat.le_refl _)
      rw [if_pos hi] at this
      exact (actCirc_congr n _ hwf2 _ _ f1').trans this
    have f3 := revCirc_cancel n (graphCirc n A) wf (Zq i)
    exact (r0.trans (actCirc_congr n _ hrev _ _ f2.symm)).trans f3
  · -- stabilizer `i`
    have r0 := h2 (i + n) (by omega)
    have hk : (Tab.ket0 n).row (i + n) = Zq i := by
      simp only [Tab.ket0]
      rw [if_neg (by omega), show i + n - n = i from by omega]
    rw [hk] at r0
    have f0 := fwd i hi
    have hz : EqOn n (t'.row i) (Zq i) := by
      refine ⟨fun j hj => ⟨?_, ?_⟩, b5.r i hi, ?_⟩
      · exact b5.x i j hi hj
      · have := b5.z i j hi hj
        unfold zb at this
        rw [this]; rfl
      · rw [f0.2.2, actCirc_ip]; rfl
    have f2 : EqOn n (actCirc (graphCirc n A) ((graphSTab n A).row i)) (Zq i) := f0.symm.trans hz
    have f3 := revCirc_cancel n (graphCirc n A) wf ((graphSTab n A).row i)
    exact (r0.trans (actCirc_congr n _ hrev _ _ f2.symm)).trans f3

end STab
end Graphiq
