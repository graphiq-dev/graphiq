/-
  Proofs/InnerProductSpec.lean — the gauge-independent specification of the stabilizer overlap, at the level of signed
  Pauli groups (C05, fidelity half), and the row-product toolkit it needs.

  For two real commuting tableaux `A`, `B` on `n` qubits (the signed groups of two stabilizer states |a⟩, |b⟩):
  * `Orth A B`        : some Pauli `P` lies in the group of `A` while `−P` lies in the group of `B`   (then ⟨a|b⟩ = 0);
  * `OverlapDim A B d`: the common subgroup `A ∩ B` has an independent generating set of `d` elements, i.e. it is an
                        elementary abelian 2-group of rank `d`, `|A ∩ B| = 2^d`   (then, if not `Orth`, |⟨a|b⟩|² = 2^{-(n-d)}).
  * `IsOverlap A B r`  : the two combined into the value `r` that `inner_product` reports.
  All are statements about the two *groups* (`STab.Spn`), not about the generating sets.  The bridge to Hilbert space
  (|⟨a|b⟩|² = 0 resp. 2^{-(n - dim(A ∩ B))}) is Proofs/InnerProductHilbert.lean.  No Mathlib.
-/
import GraphiqModel.Proofs.CanonUnique
import GraphiqModel.Proofs.InverseCircuit
namespace Graphiq
open PRow Tab

namespace PRow

/-- no x-bit on the first `n` sites (a product of `Z`s and identities, up to phase) -/
def XFree (n : Nat) (a : PRow) : Prop := ∀ j, j < n → a.x j = false

theorem neg_neg (a : PRow) : neg (neg a) = a := by
  cases a; simp [neg]

theorem neg_congr (n : Nat) (a b : PRow) (h : EqOn n a b) : EqOn n (neg a) (neg b) :=
  ⟨h.1, by show (!a.r) = (!b.r); rw [h.2.1], h.2.2⟩

theorem XFree.congr {n : Nat} {a b : PRow} (h : XFree n a) (e : EqOn n a b) : XFree n b :=
  fun j hj => by rw [← (e.1 j hj).1]; exact h j hj

theorem xfree_neg (n : Nat) (a : PRow) (h : XFree n a) : XFree n (neg a) := h

theorem xfree_one (n : Nat) : XFree n PRow.one := fun _ _ => rfl

theorem xfree_mul (n : Nat) (a b : PRow) (ha : XFree n a) (hb : XFree n b) : XFree n (PRow.mul n a b) := by
  intro j hj; rw [mul_x, ha j hj, hb j hj]; rfl

/-- no phase is picked up when two `Z`-strings are multiplied -/
theorem gSum_xfree (n : Nat) (a b : PRow) (ha : XFree n a) (hb : XFree n b) : gSum n a b = 0 := by
  unfold gSum
  rw [sumTo_congr n _ (fun _ => 0) (fun j hj => by rw [ha j hj, hb j hj]; exact gFun_xfree _ _)]
  exact sumTo_zero n

theorem mul_xfree_phase (n : Nat) (a b : PRow) (ha : XFree n a) (hb : XFree n b) (ra : a.ip = false) (rb : b.ip = false) :
    (PRow.mul n a b).r = xor a.r b.r ∧ (PRow.mul n a b).ip = false := by
  have hp := mul_ph n a b
  rw [gSum_xfree n a b ha hb] at hp
  unfold ph at hp
  rw [ra, rb] at hp
  cases h1 : (PRow.mul n a b).r <;> cases h2 : (PRow.mul n a b).ip <;> cases h3 : a.r <;> cases h4 : b.r <;>
    simp [h1, h2, h3, h4, Bool.toInt'] at hp ⊢

end PRow

namespace STab

theorem sprod_eqOn_rows (n : Nat) (row row' : Nat → PRow) (S : Nat → Bool) (m : Nat)
    (h : ∀ i, i < m → EqOn n (row i) (row' i)) : EqOn n (sprod n row S m) (sprod n row' S m) := by
  induction m with
  | zero => exact EqOn.refl _ _
  | succ k ih =>
    have ih := ih (fun i hi => h i (Nat.lt_succ_of_lt hi))
    simp only [sprod]
    cases S k
    · exact ih
    · exact mul_congr n _ _ _ _ (h k (Nat.lt_succ_self k)) ih

/-- the accumulation loop `for idx in [j for j in range(m) if S j]: scratch = row[idx] · scratch` is the subset product -/
theorem sprod_foldl (n : Nat) (row : Nat → PRow) (S : Nat → Bool) (m : Nat) :
    ((List.range m).filter S).foldl (fun sc idx => PRow.mul n (row idx) sc) PRow.one = sprod n row S m := by
  induction m with
  | zero => rfl
  | succ k ih =>
    rw [List.range_succ, List.filter_append, List.foldl_append, ih]
    simp only [sprod]
    cases hS : S k <;> simp [List.filter, hS]

theorem sprod_shift (n : Nat) (row : Nat → PRow) (S : Nat → Bool) (k d : Nat) (h : ∀ i, i < k → S i = false) :
    sprod n row S (k + d) = sprod n (fun i => row (k + i)) (fun i => S (k + i)) d := by
  induction d with
  | zero => exact sprod_none n row S k h
  | succ e ih =>
    show sprod n row S (k + e + 1) = _
    simp only [sprod]
    rw [ih]

/-- subset products of real `Z`-strings: no x-bit, real, and the sign is the parity of the selected signs -/
theorem sprod_xfree (n : Nat) (row : Nat → PRow) (S : Nat → Bool) (m : Nat)
    (hx : ∀ i, i < m → S i = true → XFree n (row i)) (hr : ∀ i, i < m → S i = true → (row i).ip = false) :
    XFree n (sprod n row S m) ∧ (sprod n row S m).ip = false ∧
      (sprod n row S m).r = parityTo m (fun i => S i && (row i).r) := by
  induction m with
  | zero => exact ⟨xfree_one n, rfl, rfl⟩
  | succ k ih =>
    obtain ⟨i1, i2, i3⟩ := ih (fun i hi => hx i (Nat.lt_succ_of_lt hi)) (fun i hi => hr i (Nat.lt_succ_of_lt hi))
    simp only [sprod, parityTo]
    cases hS : S k
    · simp only [cond_false, Bool.false_and, Bool.xor_false]
      exact ⟨i1, i2, i3⟩
    · simp only [cond_true, Bool.true_and]
      have xk := hx k (Nat.lt_succ_self k) hS
      have rk := hr k (Nat.lt_succ_self k) hS
      have := mul_xfree_phase n (row k) (sprod n row S k) xk i1 rk i2
      refine ⟨xfree_mul n _ _ xk i1, this.2, ?_⟩
      rw [this.1, i3, Bool.xor_comm]

/-! ### the all-|0⟩ tableau: its signed group is the set of `+Z`-strings -/

theorem zero_good (n : Nat) : (STab.zero n).Good := by
  constructor
  · intro i _; rfl
  · intro i k _ hk
    show sp n (PRow.Zq i) (PRow.Zq k) = false
    rw [sp_Zq n k _ false hk]; rfl

/-- the `+Z`-string with z-bits `S` -/
def zstr (n : Nat) (S : Nat → Bool) : PRow := sprod n (STab.zero n).row S n

theorem zstr_spn (n : Nat) (S : Nat → Bool) : (STab.zero n).Spn (zstr n S) :=
  sprod_spn (STab.zero n) S n (Nat.le_refl _)

theorem zstr_bits (n : Nat) (S : Nat → Bool) :
    XFree n (zstr n S) ∧ (zstr n S).ip = false ∧ (zstr n S).r = false ∧ ∀ j, j < n → (zstr n S).z j = S j := by
  have h := sprod_xfree n (STab.zero n).row S n (fun i _ _ _ _ => rfl) (fun i _ _ => rfl)
  refine ⟨h.1, h.2.1, ?_, fun j hj => ?_⟩
  · show (sprod n (STab.zero n).row S n).r = false
    rw [h.2.2]; apply parityTo_zero; intro i _; show (S i && false) = false; simp
  · unfold zstr
    rw [sprod_z]
    have e : ∀ i, i < n → (S i && ((STab.zero n).row i).z j) = (decide (i = j) && S i) := by
      intro i _
      show (S i && decide (j = i)) = (decide (i = j) && S i)
      by_cases hij : i = j
      · subst hij; simp
      · have : ¬ j = i := fun e => hij e.symm
        simp [hij, this]
    rw [parityTo_congr n _ _ e, parityTo_single n j S hj]

/-- **the signed group of |0…0⟩** is exactly the set of real `Z`-strings with sign `+` -/
theorem zero_spn_iff (n : Nat) (P : PRow) : (STab.zero n).Spn P ↔ (XFree n P ∧ P.r = false ∧ P.ip = false) := by
  constructor
  · intro h
    unfold Spn at h
    induction h with
    | one => exact ⟨xfree_one n, rfl, rfl⟩
    | gen i hi => exact ⟨fun _ _ => rfl, rfl, rfl⟩
    | mul a b _ _ iha ihb =>
      have := mul_xfree_phase n a b iha.1 ihb.1 iha.2.2 ihb.2.2
      refine ⟨xfree_mul n a b iha.1 ihb.1, ?_, this.2⟩
      show (PRow.mul n a b).r = false
      rw [this.1, iha.2.1, ihb.2.1]; rfl
    | eqv a b _ hab iha => exact ⟨iha.1.congr hab, hab.2.1 ▸ iha.2.1, hab.2.2 ▸ iha.2.2⟩
  · intro ⟨hx, hr, hi⟩
    have hb := zstr_bits n (fun j => P.z j)
    refine InSpan.eqv _ _ (zstr_spn n (fun j => P.z j)) ⟨fun j hj => ⟨?_, ?_⟩, ?_, ?_⟩
    · rw [hb.1 j hj, hx j hj]
    · exact hb.2.2.2 j hj
    · rw [hb.2.2.1, hr]
    · rw [hb.2.1, hi]

/-! ### the specification -/

/-- **orthogonality at group level**: some Pauli `P` is in the signed group of `A` while `−P` is in that of `B` -/
def Orth (A B : STab) : Prop := ∃ P, A.Spn P ∧ B.Spn (PRow.neg P)

theorem Orth.symm {A B : STab} (h : Orth A B) : Orth B A := by
  obtain ⟨P, hA, hB⟩ := h
  exact ⟨PRow.neg P, hB, by rw [neg_neg]; exact hA⟩

theorem orth_comm (A B : STab) : Orth A B ↔ Orth B A := ⟨Orth.symm, Orth.symm⟩

theorem Orth.congr {A A' B B' : STab} (h : Orth A B) (sA : SpanEq A A') (sB : SpanEq B B') : Orth A' B' := by
  obtain ⟨P, hA, hB⟩ := h
  exact ⟨P, sA.sub _ hA, sB.sub _ hB⟩

/-- `gens 0 … gens (d-1)` is an independent generating set of the common subgroup `A ∩ B` (products are taken on
    `A.n` sites): every `gens i` lies in both groups, no non-empty subset multiplies to `+I`, and every common element is
    a subset product. -/
structure IsOverlapBasis (A B : STab) (d : Nat) (gens : Nat → PRow) : Prop where
  memA : ∀ i, i < d → A.Spn (gens i)
  memB : ∀ i, i < d → B.Spn (gens i)
  indep : ∀ S : Nat → Bool, EqOn A.n (sprod A.n gens S d) PRow.one → ∀ i, i < d → S i = false
  span : ∀ P, A.Spn P → B.Spn P → ∃ S : Nat → Bool, EqOn A.n P (sprod A.n gens S d)

/-- **dimension of the common subgroup**: `A ∩ B` has rank `d` (so `|A ∩ B| = 2^d`) -/
def OverlapDim (A B : STab) (d : Nat) : Prop := ∃ gens, IsOverlapBasis A B d gens

theorem IsOverlapBasis.symm {A B : STab} {d : Nat} {gens : Nat → PRow} (hn : A.n = B.n) (h : IsOverlapBasis A B d gens) :
    IsOverlapBasis B A d gens :=
  ⟨h.memB, h.memA, fun S => hn ▸ h.indep S, fun P hB hA => hn ▸ h.span P hA hB⟩

theorem overlapDim_comm (A B : STab) (hn : A.n = B.n) (d : Nat) : OverlapDim A B d ↔ OverlapDim B A d :=
  ⟨fun ⟨g, h⟩ => ⟨g, h.symm hn⟩, fun ⟨g, h⟩ => ⟨g, h.symm hn.symm⟩⟩

theorem IsOverlapBasis.congr {A A' B B' : STab} {d : Nat} {gens : Nat → PRow} (h : IsOverlapBasis A B d gens)
    (sA : SpanEq A A') (sB : SpanEq B B') : IsOverlapBasis A' B' d gens :=
  ⟨fun i hi => sA.sub _ (h.memA i hi), fun i hi => sB.sub _ (h.memB i hi),
   fun S => sA.n_eq ▸ h.indep S, fun P hA hB => sA.n_eq ▸ h.span P (sA.sup _ hA) (sB.sup _ hB)⟩

theorem OverlapDim.congr {A A' B B' : STab} {d : Nat} (h : OverlapDim A B d) (sA : SpanEq A A') (sB : SpanEq B B') :
    OverlapDim A' B' d := by
  obtain ⟨g, hg⟩ := h
  exact ⟨g, hg.congr sA sB⟩

/-- **the overlap of two signed groups** in the encoding of `inner_product`: `none` = orthogonal (⟨a|b⟩ = 0); `some e` =
    not orthogonal and the common subgroup has rank `n − e` (|⟨a|b⟩|² = 2^{-e}) -/
def IsOverlap (A B : STab) : Option Nat → Prop
  | none => Orth A B
  | some e => e ≤ A.n ∧ ¬ Orth A B ∧ OverlapDim A B (A.n - e)

theorem IsOverlap.none_iff {A B : STab} {r : Option Nat} (h : IsOverlap A B r) : r = none ↔ Orth A B := by
  cases r
  · exact ⟨fun _ => h, fun _ => rfl⟩
  · refine ⟨fun e => ?_, fun o => absurd o h.2.1⟩
    cases e

theorem IsOverlap.symm {A B : STab} {r : Option Nat} (hn : A.n = B.n) (h : IsOverlap A B r) : IsOverlap B A r := by
  cases r
  · exact Orth.symm h
  · exact ⟨hn ▸ h.1, fun o => h.2.1 o.symm, hn ▸ (overlapDim_comm A B hn _).1 h.2.2⟩

theorem IsOverlap.congr {A A' B B' : STab} {r : Option Nat} (sA : SpanEq A A') (sB : SpanEq B B')
    (h : IsOverlap A B r) : IsOverlap A' B' r := by
  cases r
  · exact Orth.congr h sA sB
  · exact ⟨sA.n_eq ▸ h.1, fun o => h.2.1 (o.congr sA.symm sB.symm), sA.n_eq ▸ h.2.2.congr sA sB⟩

end STab
end Graphiq
