/-
  Proofs/InvBlock1.lean — the first ("Hadamard") block of `inverse_circuit` as repaired in graphiq 74abae4: the loop
  invariant `Inv1` (processed columns: x-bit matrix upper triangular, every placed row "X type" or "Z type"; unprocessed
  X pivot columns still unit vectors held by unplaced rows; the unplaced x-free rows generate every unit vector on the
  unprocessed non-pivot columns) is kept by every column step, the filtered candidate list `z_list` is never empty (no
  IndexError), and at the end the tableau has the shape `Post1` of Proofs/InvRest.lean.  Next to it `LowZ1`: the clearing
  loop leaves no z-bit below a Z-type pivot (what makes the "Eliminate Zs" block dead, Proofs/InvDead.lean).
  No Mathlib.
-/
import GraphiqModel.Proofs.InvRest
import GraphiqModel.Proofs.CanonUnique
namespace Graphiq
open PRow Tab
namespace STab

/-- column `c` is one of the X pivot columns `px 0, …, px (k-1)` of the canonical form -/
def IsPiv (k : Nat) (px : Nat → Nat) (c : Nat) : Prop := ∃ a, a < k ∧ px a = c

/-- the loop invariant of block 1 before column `j` (rows `< j` are placed) -/
structure Inv1 (N k : Nat) (px : Nat → Nat) (t : STab) (j : Nat) : Prop where
  n_eq : t.n = N
  good : t.Good
  px_lt : ∀ a, a < k → px a < N
  inj : ∀ a a', a < k → a' < k → px a = px a' → a = a'
  upper : ∀ c i, c < j → c < i → i < N → xb t i c = false
  diag : ∀ c, c < j → c < N → xb t c c = true ∨ ZType t c
  piv : ∀ a, a < k → j ≤ px a → ∃ i, j ≤ i ∧ i < N ∧ xb t i (px a) = true ∧
      (∀ m, m < N → m ≠ i → xb t m (px a) = false) ∧ ∀ c, c < px a → xb t i c = false
  hold : ∀ i c, j ≤ i → i < N → c < N → xb t i c = true → ∃ a, a < k ∧ j ≤ px a ∧ xb t i (px a) = true
  surj : ∀ q, j ≤ q → q < N → ¬ IsPiv k px q → ∃ S : Nat → Bool,
      (∀ i, i < N → S i = true → j ≤ i ∧ ∀ c, c < N → xb t i c = false) ∧
      ∀ c, j ≤ c → c < N → ¬ IsPiv k px c → parityTo N (fun i => S i && zb t i c) = decide (c = q)

theorem swp_eq_left (a b m : Nat) (h : swp a b m = a) : m = b := by
  have := swp_invol a b m; rw [h, swp_left] at this; exact this.symm

theorem parityTo_swp (n a b : Nat) (f : Nat → Bool) (ha : a < n) (hb : b < n) :
    parityTo n (fun m => f (swp a b m)) = parityTo n f := by
  rw [← parityTo_swap n a b f ha hb]
  apply parityTo_congr; intro m _
  unfold swp
  split
  · rfl
  · split <;> rfl

theorem parityTo_and_const (n : Nat) (b : Bool) (f : Nat → Bool) :
    parityTo n (fun i => b && f i) = (b && parityTo n f) :=
  _root_.Graphiq.parityTo_and_const n b f

theorem parityTo_remove (n j : Nat) (S g : Nat → Bool) (hj : j < n) :
    parityTo n (fun i => (S i && decide (i ≠ j)) && g i) = xor (parityTo n (fun i => S i && g i)) (S j && g j) := by
  have e : ∀ i, i < n → (S i && g i) = xor ((S i && decide (i ≠ j)) && g i) (decide (i = j) && (S i && g i)) := by
    intro i _
    by_cases h : i = j <;> simp [h]
  rw [parityTo_congr n (fun i => S i && g i) _ e, parityTo_xor, parityTo_single n j (fun i => S i && g i) hj]
  cases parityTo n (fun i => (S i && decide (i ≠ j)) && g i) <;> cases (S j && g j) <;> rfl

/-- on a non-pivot column no unplaced row has an x-bit -/
theorem Inv1.nox {N k : Nat} {px : Nat → Nat} {t : STab} {j : Nat} (h : Inv1 N k px t j) (hj : j < N)
    (hnp : ¬ IsPiv k px j) (m : Nat) (h1 : j ≤ m) (h2 : m < N) : xb t m j = false := by
  cases hx : xb t m j
  · rfl
  · exfalso
    obtain ⟨a, ha, hpa, hxa⟩ := h.hold m j h1 h2 hj hx
    obtain ⟨i, _, hi, _, hu, hl⟩ := h.piv a ha hpa
    have hmi : m = i := by
      apply Classical.byContradiction; intro hne
      rw [hu m h2 hne] at hxa; cases hxa
    subst hmi
    have : px a = j := by
      apply Classical.byContradiction; intro hne
      have := hl j (by omega); rw [this] at hx; cases hx
    exact hnp ⟨a, ha, this⟩

theorem Inv1.swap {N k : Nat} {px : Nat → Nat} {st : InvState} {j : Nat} (h : Inv1 N k px st.t j) (f : Nat)
    (hj : j < N) (hjf : j ≤ f) (hf : f < N) : Inv1 N k px (st.swap j f).t j := by
  have hn := h.n_eq
  have ex : ∀ m c, m < N → c < N → xb (st.swap j f).t m c = xb st.t (swp j f m) c :=
    fun m c hm hc => swap_xb st j f m c (by omega) (by omega)
  have ez : ∀ m c, m < N → c < N → zb (st.swap j f).t m c = zb st.t (swp j f m) c :=
    fun m c hm hc => swap_zb st j f m c (by omega) (by omega)
  have hb : ∀ m, m < N → swp j f m < N := fun m hm => swp_bound j f m N hj hf hm
  refine ⟨hn, swap_good st j f (by omega) (by omega) h.good, h.px_lt, h.inj, ?_, ?_, ?_, ?_, ?_⟩
  · intro c i h1 h2 h3
    rw [ex i c h3 (by omega)]
    apply h.upper c _ h1 _ (hb i h3)
    by_cases hij : i < j
    · rw [swp_lt j f i hij hjf]; exact h2
    · have := swp_ge j f i (by omega) hjf; omega
  · intro c h1 h2
    have hsc : swp j f c = c := swp_lt j f c h1 hjf
    rcases h.diag c h1 h2 with h3 | h3
    · left; rw [ex c c h2 h2, hsc]; exact h3
    · right
      apply ztype_congr st.t (st.swap j f).t rfl c _ _ (by omega) h3
      · intro c' hc'; rw [ex c c' h2 (by omega), hsc]
      · intro c' hc'; rw [ez c c' h2 (by omega), hsc]
  · intro a ha hpa
    obtain ⟨i, hi1, hi2, hi3, hu, hl⟩ := h.piv a ha hpa
    have hp := h.px_lt a ha
    refine ⟨swp j f i, swp_ge j f i hi1 hjf, hb i hi2, ?_, ?_, ?_⟩
    · rw [ex _ _ (hb i hi2) hp, swp_invol]; exact hi3
    · intro m hm hne
      rw [ex m _ hm hp]
      apply hu _ (hb m hm)
      intro e; apply hne; rw [← e, swp_invol]
    · intro c hc
      rw [ex _ c (hb i hi2) (by omega), swp_invol]; exact hl c hc
  · intro i c h1 h2 h3 hx
    rw [ex i c h2 h3] at hx
    obtain ⟨a, ha, hpa, hxa⟩ := h.hold (swp j f i) c (swp_ge j f i h1 hjf) (hb i h2) h3 hx
    exact ⟨a, ha, hpa, by rw [ex i _ h2 (h.px_lt a ha)]; exact hxa⟩
  · intro q h1 h2 hnp
    obtain ⟨S, hS, hpar⟩ := h.surj q h1 h2 hnp
    refine ⟨fun i => S (swp j f i), ?_, ?_⟩
    · intro i hi hSi
      obtain ⟨g1, g2⟩ := hS (swp j f i) (hb i hi) hSi
      constructor
      · apply Classical.byContradiction; intro hlt
        rw [swp_lt j f i (by omega) hjf] at g1; omega
      · intro c hc; rw [ex i c hi hc]; exact g2 c hc
    · intro c hc1 hc2 hcnp
      rw [← hpar c hc1 hc2 hcnp, ← parityTo_swp N j f (fun i => S i && zb st.t i c) hj hf]
      apply parityTo_congr; intro i hi
      show (S (swp j f i) && zb (st.swap j f).t i c) = _
      rw [ez i c hi hc2]

theorem Inv1.advance_pivot {N k : Nat} {px : Nat → Nat} {t : STab} {j : Nat} (h : Inv1 N k px t j) (hj : j < N)
    (h1 : xb t j j = true) (hu : ∀ m, m < N → m ≠ j → xb t m j = false) :
    Inv1 N k px t (j + 1) := by
  refine ⟨h.n_eq, h.good, h.px_lt, h.inj, ?_, ?_, ?_, ?_, ?_⟩
  · intro c i hc1 hc2 hi
    by_cases e : c = j
    · subst e; exact hu i hi (by omega)
    · exact h.upper c i (by omega) hc2 hi
  · intro c hc1 hc2
    by_cases e : c = j
    · subst e; left; exact h1
    · exact h.diag c (by omega) hc2
  · intro a' ha' hpa'
    obtain ⟨i, hi1, hi2, hi3, hu', hl⟩ := h.piv a' ha' (by omega)
    refine ⟨i, ?_, hi2, hi3, hu', hl⟩
    apply Classical.byContradiction; intro hlt
    have e : i = j := by omega
    subst e
    have := hl i (by omega); rw [this] at h1; cases h1
  · intro i c hi1 hi2 hc hx
    obtain ⟨a', ha', hpa', hxa'⟩ := h.hold i c (by omega) hi2 hc hx
    refine ⟨a', ha', ?_, hxa'⟩
    apply Classical.byContradiction; intro hlt
    have e : px a' = j := by omega
    rw [e, hu i hi2 (by omega)] at hxa'; cases hxa'
  · intro q hq1 hq2 hnp
    obtain ⟨S, hS, hpar⟩ := h.surj q (by omega) hq2 hnp
    refine ⟨S, ?_, fun c hc1 hc2 hcnp => hpar c (by omega) hc2 hcnp⟩
    intro i hi hSi
    obtain ⟨g1, g2⟩ := hS i hi hSi
    refine ⟨?_, g2⟩
    apply Classical.byContradiction; intro hlt
    have e : i = j := by omega
    subst e
    rw [g2 i hi] at h1; cases h1

/-! ### a non-pivot column: the state after the swap and the clearing loop -/

/-- the state after the pivot row was swapped to position `j` and the column was cleared below it -/
structure Mid (N k : Nat) (px : Nat → Nat) (t : STab) (j : Nat) : Prop where
  n_eq : t.n = N
  good : t.Good
  px_lt : ∀ a, a < k → px a < N
  inj : ∀ a a', a < k → a' < k → px a = px a' → a = a'
  upper : ∀ c i, c < j → c < i → i < N → xb t i c = false
  diag : ∀ c, c < j → c < N → xb t c c = true ∨ ZType t c
  rowx : ∀ c, c < N → xb t j c = false
  rowz : zb t j j = true
  colx : ∀ i, j < i → i < N → xb t i j = false
  colz : ∀ i, j < i → i < N → zb t i j = false
  piv : ∀ a, a < k → j + 1 ≤ px a → ∃ i, j + 1 ≤ i ∧ i < N ∧ xb t i (px a) = true ∧
      (∀ m, m < N → m ≠ i → xb t m (px a) = false) ∧ ∀ c, c < px a → xb t i c = false
  hold : ∀ i c, j + 1 ≤ i → i < N → c < N → xb t i c = true → ∃ a, a < k ∧ j + 1 ≤ px a ∧ xb t i (px a) = true
  surj : ∀ q, j + 1 ≤ q → q < N → ¬ IsPiv k px q → ∃ S : Nat → Bool,
      (∀ i, i < N → S i = true → j + 1 ≤ i ∧ ∀ c, c < N → xb t i c = false) ∧
      ∀ c, j + 1 ≤ c → c < N → ¬ IsPiv k px c → parityTo N (fun i => S i && zb t i c) = decide (c = q)

/-- from the invariant (pivot row already at position `j`) to the state after the clearing loop -/
theorem Inv1.clear {N k : Nat} {px : Nat → Nat} {t t2 : STab} {j : Nat} (h : Inv1 N k px t j) (hj : j < N)
    (hnp : ¬ IsPiv k px j) (hrx : ∀ c, c < N → xb t j c = false) (hrz : zb t j j = true)
    (hn2 : t2.n = N) (hg2 : t2.Good)
    (ex : ∀ m c, m < N → c < N → xb t2 m c = xb t m c)
    (ez : ∀ m c, m < N → c < N → zb t2 m c
      = if j < m ∧ zb t m j = true then xor (zb t j c) (zb t m c) else zb t m c) : Mid N k px t2 j := by
  have hn := h.n_eq
  have ezlow : ∀ m c, m ≤ j → m < N → c < N → zb t2 m c = zb t m c := by
    intro m c h1 h2 h3
    rw [ez m c h2 h3, if_neg (by omega)]
  refine ⟨hn2, hg2, h.px_lt, h.inj, ?_, ?_, ?_, ?_, ?_, ?_, ?_, ?_, ?_⟩
  · intro c i h1 h2 h3; rw [ex i c h3 (by omega)]; exact h.upper c i h1 h2 h3
  · intro c h1 h2
    rcases h.diag c h1 h2 with h3 | h3
    · left; rw [ex c c h2 h2]; exact h3
    · right
      apply ztype_congr t t2 (by omega) c _ _ (by omega) h3
      · intro c' hc'; exact ex c c' h2 (by omega)
      · intro c' hc'; exact ezlow c c' (by omega) h2 (by omega)
  · intro c hc; rw [ex j c hj hc]; exact hrx c hc
  · rw [ezlow j j (Nat.le_refl _) hj hj]; exact hrz
  · intro i h1 h2; rw [ex i j h2 hj]; exact h.nox hj hnp i (by omega) h2
  · intro i h1 h2
    rw [ez i j h2 hj]
    cases hz : zb t i j
    · simp
    · simp [h1, hrz]
  · intro a ha hpa
    obtain ⟨i, hi1, hi2, hi3, hu, hl⟩ := h.piv a ha (by omega)
    have hp := h.px_lt a ha
    refine ⟨i, ?_, hi2, by rw [ex i _ hi2 hp]; exact hi3, fun m hm hne => by rw [ex m _ hm hp]; exact hu m hm hne,
      fun c hc => by rw [ex i c hi2 (by omega)]; exact hl c hc⟩
    apply Classical.byContradiction; intro hlt
    have e : i = j := by omega
    subst e
    rw [hrx _ hp] at hi3; cases hi3
  · intro i c h1 h2 h3 hx
    rw [ex i c h2 h3] at hx
    obtain ⟨a, ha, hpa, hxa⟩ := h.hold i c (by omega) h2 h3 hx
    refine ⟨a, ha, ?_, by rw [ex i _ h2 (h.px_lt a ha)]; exact hxa⟩
    apply Classical.byContradiction; intro hlt
    exact hnp ⟨a, ha, by omega⟩
  · intro q hq1 hq2 hqnp
    obtain ⟨S, hS, hpar⟩ := h.surj q (by omega) hq2 hqnp
    refine ⟨fun i => S i && decide (i ≠ j), ?_, ?_⟩
    · intro i hi hSi
      simp only [Bool.and_eq_true, decide_eq_true_eq] at hSi
      obtain ⟨g1, g2⟩ := hS i hi hSi.1
      exact ⟨by omega, fun c hc => by rw [ex i c hi hc]; exact g2 c hc⟩
    · intro c hc1 hc2 hcnp
      -- split the z-bits of the cleared rows into the old bits and the contribution of the pivot row
      have e : ∀ i, i < N → ((S i && decide (i ≠ j)) && zb t2 i c)
          = xor ((S i && decide (i ≠ j)) && zb t i c) (zb t j c && ((S i && decide (i ≠ j)) && zb t i j)) := by
        intro i hi
        by_cases hSi : (S i && decide (i ≠ j)) = true
        · have hSi' := hSi
          simp only [Bool.and_eq_true, decide_eq_true_eq] at hSi'
          have hji : j < i := by have := (hS i hi hSi'.1).1; omega
          rw [hSi, ez i c hi hc2]
          cases hz : zb t i j
          · simp
          · simp [hji, Bool.xor_comm]
        · have : (S i && decide (i ≠ j)) = false := by
            cases hh : (S i && decide (i ≠ j))
            · rfl
            · exact absurd hh hSi
          rw [this]; simp
      rw [parityTo_congr N _ _ e, parityTo_xor, parityTo_and_const,
        parityTo_remove N j S (fun i => zb t i c) hj, parityTo_remove N j S (fun i => zb t i j) hj,
        hpar c (by omega) hc2 hcnp, hpar j (Nat.le_refl _) hj hnp, hrz]
      have hjq : decide (j = q) = false := by simp; omega
      rw [hjq]
      cases decide (c = q) <;> cases S j <;> cases zb t j c <;> rfl

/-- no Hadamard: the pivot row is a Z-type row -/
theorem Mid.noH {N k : Nat} {px : Nat → Nat} {t : STab} {j : Nat} (h : Mid N k px t j) (hj : j < N)
    (hr : ∀ c, j < c → c < N → xb t j c = false ∧ zb t j c = false) : Inv1 N k px t (j + 1) := by
  refine ⟨h.n_eq, h.good, h.px_lt, h.inj, ?_, ?_, h.piv, h.hold, h.surj⟩
  · intro c i hc1 hc2 hi
    by_cases e : c = j
    · subst e; exact h.colx i hc2 hi
    · exact h.upper c i (by omega) hc2 hi
  · intro c hc1 hc2
    by_cases e : c = j
    · subst e; right
      exact ⟨fun c' hc' => h.rowx c' (by rw [← h.n_eq]; exact hc'), h.rowz,
        fun c' h1 h2 => (hr c' h1 (by rw [← h.n_eq]; exact h2)).2⟩
    · exact h.diag c (by omega) hc2

/-- a Hadamard on column `j`: the pivot row becomes an X-type row -/
theorem Mid.withH {N k : Nat} {px : Nat → Nat} {st : InvState} {j : Nat} (h : Mid N k px st.t j) (hj : j < N) :
    Inv1 N k px (st.gate (.H j)).t (j + 1) := by
  have hn := h.n_eq
  obtain ⟨ex, ez⟩ := gate_h_bits st hn j
  refine ⟨hn, gate_good st _ (by show j < st.t.n; omega) h.good, h.px_lt, h.inj, ?_, ?_, ?_, ?_, ?_⟩
  · intro c i hc1 hc2 hi
    rw [ex i c hi (by omega)]
    split
    · next e => subst e; exact h.colz i hc2 hi
    · next e => exact h.upper c i (by omega) hc2 hi
  · intro c hc1 hc2
    by_cases e : c = j
    · subst e; left; rw [ex c c hc2 hc2, if_pos rfl]; exact h.rowz
    · rcases h.diag c (by omega) hc2 with h3 | h3
      · left; rw [ex c c hc2 hc2, if_neg e]; exact h3
      · right
        have hcj : c < j := by omega
        refine ⟨fun c' hc' => ?_, ?_, fun c' h1 h2 => ?_⟩
        · have hc'' : c' < N := by rw [← hn]; exact hc'
          rw [ex c c' hc2 hc'']
          split
          · next e' => subst e'; exact h3.2.2 c' hcj (by omega)
          · exact h3.1 c' (by omega)
        · rw [ez c c hc2 hc2, if_neg e]; exact h3.2.1
        · have hc'' : c' < N := by rw [← hn]; exact h2
          rw [ez c c' hc2 hc'']
          split
          · exact h3.1 c' (by omega)
          · exact h3.2.2 c' h1 (by omega)
  · intro a ha hpa
    obtain ⟨i, hi1, hi2, hi3, hu, hl⟩ := h.piv a ha hpa
    have hp := h.px_lt a ha
    have hne : px a ≠ j := by omega
    refine ⟨i, hi1, hi2, by rw [ex i _ hi2 hp, if_neg hne]; exact hi3,
      fun m hm hmi => by rw [ex m _ hm hp, if_neg hne]; exact hu m hm hmi, fun c hc => ?_⟩
    rw [ex i c hi2 (by omega)]
    split
    · next e => subst e; exact h.colz i (by omega) hi2
    · exact hl c hc
  · intro i c hi1 hi2 hc hx
    rw [ex i c hi2 hc] at hx
    by_cases e : c = j
    · subst e; rw [if_pos rfl, h.colz i (by omega) hi2] at hx; cases hx
    · rw [if_neg e] at hx
      obtain ⟨a, ha, hpa, hxa⟩ := h.hold i c hi1 hi2 hc hx
      have hne : px a ≠ j := by omega
      exact ⟨a, ha, hpa, by rw [ex i _ hi2 (h.px_lt a ha), if_neg hne]; exact hxa⟩
  · intro q hq1 hq2 hqnp
    obtain ⟨S, hS, hpar⟩ := h.surj q hq1 hq2 hqnp
    refine ⟨S, ?_, ?_⟩
    · intro i hi hSi
      obtain ⟨g1, g2⟩ := hS i hi hSi
      refine ⟨g1, fun c hc => ?_⟩
      rw [ex i c hi hc]
      split
      · next e => subst e; exact h.colz i (by omega) hi
      · exact g2 c hc
    · intro c hc1 hc2 hcnp
      rw [← hpar c hc1 hc2 hcnp]
      apply parityTo_congr; intro i hi
      have hne : c ≠ j := by omega
      show (S i && zb (st.gate (.H j)).t i c) = _
      rw [ez i c hi hc2, if_neg hne]

theorem invClear_spec (N j : Nat) (st : InvState) (hn : st.t.n = N) (hj : j < N) (hg : st.t.Good)
    (hx : ∀ c, c < N → xb st.t j c = false) :
    (invClear N j st).t.n = N ∧ (invClear N j st).t.Good ∧
    (∀ m c, m < N → c < N → xb (invClear N j st).t m c = xb st.t m c) ∧
    (∀ m c, m < N → c < N → zb (invClear N j st).t m c
      = if j < m ∧ zb st.t m j = true then xor (zb st.t j c) (zb st.t m c) else zb st.t m c) := by
  unfold invClear
  have key := foldl_above_inv (fun (acc : InvState) i => if (acc.t.row i).z j then acc.rsum j i else acc) j N hj
    (fun i' s => s.t.n = N ∧ s.t.Good ∧ (∀ m c, m < N → c < N → xb s.t m c = xb st.t m c) ∧
      (∀ m c, m < N → c < N → zb s.t m c
        = if (j < m ∧ m < i') ∧ zb st.t m j = true then xor (zb st.t j c) (zb st.t m c) else zb st.t m c)) st
    ⟨hn, hg, fun _ _ _ _ => rfl, fun m c _ _ => by rw [if_neg (by omega)]⟩
    (by
      intro i s h1 h2 ⟨sn, sg, sx, sz⟩
      have hzi : (s.t.row i).z j = zb st.t i j := by
        have := sz i j h2 hj; rw [if_neg (by omega)] at this; exact this
      split
      · next hc =>
        rw [hzi] at hc
        refine ⟨sn, rsum_good s j i (by omega) (by omega) sg, ?_, ?_⟩
        · intro m c hm hc'
          rw [rsum_xb s j i m c (by omega) (by omega)]
          split
          · next e => subst e; rw [sx j c hj hc', sx m c hm hc', hx c hc']; simp
          · exact sx m c hm hc'
        · intro m c hm hc'
          rw [rsum_zb s j i m c (by omega) (by omega)]
          split
          · next e =>
            subst e
            rw [sz j c hj hc', sz m c hm hc', if_neg (by omega), if_neg (by omega), if_pos ⟨⟨h1, by omega⟩, hc⟩]
          · next e =>
            rw [sz m c hm hc']
            by_cases hm' : (j < m ∧ m < i) ∧ zb st.t m j = true
            · rw [if_pos hm', if_pos ⟨⟨hm'.1.1, by omega⟩, hm'.2⟩]
            · rw [if_neg hm', if_neg (by intro hh; apply hm'; exact ⟨⟨hh.1.1, by omega⟩, hh.2⟩)]
      · next hc =>
        rw [hzi] at hc
        refine ⟨sn, sg, sx, ?_⟩
        intro m c hm hc'
        rw [sz m c hm hc']
        by_cases hm' : (j < m ∧ m < i) ∧ zb st.t m j = true
        · rw [if_pos hm', if_pos ⟨⟨hm'.1.1, by omega⟩, hm'.2⟩]
        · rw [if_neg hm', if_neg (by
            intro hh; apply hm'
            refine ⟨⟨hh.1.1, ?_⟩, hh.2⟩
            have : m ≠ i := by intro e; subst e; exact hc hh.2
            omega)])
  obtain ⟨k1, k2, k3, k4⟩ := key
  refine ⟨k1, k2, k3, ?_⟩
  intro m c hm hc
  rw [k4 m c hm hc]
  by_cases hm' : j < m ∧ zb st.t m j = true
  · rw [if_pos hm', if_pos ⟨⟨hm'.1, hm⟩, hm'.2⟩]
  · rw [if_neg hm', if_neg (by intro hh; exact hm' ⟨hh.1.1, hh.2⟩)]

theorem invClear_circ (N j : Nat) (st : InvState) : (invClear N j st).circ = st.circ := by
  unfold invClear
  generalize (List.range N).filter (fun i => j < i) = l
  induction l generalizing st with
  | nil => rfl
  | cons a l ih =>
    simp only [List.foldl]
    rw [ih]
    split
    · rfl
    · rfl

/-! ### which branch a column step takes -/

theorem mem_zs3 (t : STab) (pr j m : Nat) :
    m ∈ (t.pauliTypeFinder pr j).2.2 ↔ (pr ≤ m ∧ m < t.n ∧ t.ptype m j = 3) := by
  simp only [pauliTypeFinder, List.mem_filter, List.mem_range, decide_eq_true_eq]
  constructor
  · intro h; exact ⟨h.1.2, h.1.1, h.2⟩
  · intro h; exact ⟨⟨h.2.1, h.1⟩, h.2.2⟩

/-- a pivot column: the unique row with an x-bit in column `j` is swapped to position `j` -/
theorem invStep1_pivot (N : Nat) (st : InvState) (j i : Nat) (hn : st.t.n = N) (hji : j ≤ i) (hi : i < N)
    (h1 : xb st.t i j = true) (hu : ∀ m, m < N → m ≠ i → xb st.t m j = false) :
    invStep1 N st j = .ok (st.swap j i) := by
  have hxs := mem_xs st.t j j
  have hys := mem_ys st.t j j
  unfold invStep1
  generalize st.t.pauliTypeFinder j j = ft at hxs hys
  obtain ⟨xs, ys, zs⟩ := ft
  simp only at hxs hys ⊢
  have only_i : ∀ f, (f ∈ xs ∨ f ∈ ys) → f = i := by
    intro f hf
    have hf' : f < N ∧ xb st.t f j = true := by
      rcases hf with hf | hf
      · have := (hxs f).1 hf
        exact ⟨by omega, (ptype_x st.t f j).1 (Or.inl this.2.2)⟩
      · have := (hys f).1 hf
        exact ⟨by omega, (ptype_x st.t f j).1 (Or.inr this.2.2)⟩
    apply Classical.byContradiction; intro hne
    rw [hu f hf'.1 hne] at hf'; cases hf'.2
  cases hxh : xs.head? with
  | some f => simp only; rw [only_i f (Or.inl (List.mem_of_mem_head? hxh))]
  | none =>
    simp only
    cases hyh : ys.head? with
    | some f => simp only; rw [only_i f (Or.inr (List.mem_of_mem_head? hyh))]
    | none =>
      exfalso
      have e1 : xs = [] := List.head?_eq_none_iff.mp hxh
      have e2 : ys = [] := List.head?_eq_none_iff.mp hyh
      rcases (ptype_x st.t i j).2 h1 with h | h
      · have := (hxs i).2 ⟨hji, by omega, h⟩; rw [e1] at this; cases this
      · have := (hys i).2 ⟨hji, by omega, h⟩; rw [e2] at this; cases this

/-- a non-pivot column: some x-free unplaced row with a z-bit in column `j` is swapped to position `j`, the column is
    cleared below it, and a Hadamard is applied unless the row is already alone to its right -/
theorem invStep1_nonpivot (N : Nat) (st : InvState) (j : Nat) (hn : st.t.n = N) (hj : j < N)
    (h0 : ∀ m, j ≤ m → m < N → xb st.t m j = false)
    (hex : ∃ i, j ≤ i ∧ i < N ∧ (∀ c, c < N → xb st.t i c = false) ∧ zb st.t i j = true) :
    ∃ f, j ≤ f ∧ f < N ∧ (∀ c, c < N → xb st.t f c = false) ∧ zb st.t f j = true ∧
      invStep1 N st j = .ok
        (if (((List.range N).filter fun k => j < k).any fun k =>
            ((invClear N j (st.swap j f)).t.row j).x k || ((invClear N j (st.swap j f)).t.row j).z k) = true
         then (invClear N j (st.swap j f)).gate (.H j) else invClear N j (st.swap j f)) := by
  have hxs := mem_xs st.t j j
  have hys := mem_ys st.t j j
  have hzs := mem_zs3 st.t j j
  unfold invStep1
  generalize st.t.pauliTypeFinder j j = ft at hxs hys hzs
  obtain ⟨xs, ys, zs⟩ := ft
  simp only at hxs hys hzs ⊢
  have e1 : xs = [] := by
    cases xs with
    | nil => rfl
    | cons a l =>
      have := (hxs a).1 List.mem_cons_self
      have hx := (ptype_x st.t a j).1 (Or.inl this.2.2)
      rw [show (st.t.row a).x j = xb st.t a j from rfl, h0 a this.1 (by omega)] at hx; cases hx
  have e2 : ys = [] := by
    cases ys with
    | nil => rfl
    | cons a l =>
      have := (hys a).1 List.mem_cons_self
      have hx := (ptype_x st.t a j).1 (Or.inr this.2.2)
      rw [show (st.t.row a).x j = xb st.t a j from rfl, h0 a this.1 (by omega)] at hx; cases hx
  subst e1; subst e2
  simp only [List.head?_nil]
  obtain ⟨i, hi1, hi2, hi3, hi4⟩ := hex
  have hiz : i ∈ zs := (hzs i).2 ⟨hi1, by omega, (ptype_z st.t i j).2 ⟨hi3 j hj, hi4⟩⟩
  have hne : zs.isEmpty = false := by
    cases zs with
    | nil => cases hiz
    | cons a l => rfl
  rw [hne]
  simp only [Bool.false_eq_true, if_false]
  have hif : i ∈ zs.filter (fun i => !(List.range N).any fun k => (st.t.row i).x k) := by
    rw [List.mem_filter]
    refine ⟨hiz, ?_⟩
    simp only [Bool.not_eq_true', List.any_eq_false, List.mem_range]
    intro c hc; rw [show (st.t.row i).x c = xb st.t i c from rfl, hi3 c hc]; simp
  cases hl : (zs.filter (fun i => !(List.range N).any fun k => (st.t.row i).x k)).getLast? with
  | none =>
    rw [List.getLast?_eq_none_iff] at hl
    rw [hl] at hif; cases hif
  | some f =>
    simp only
    have hfm := List.mem_of_getLast? hl
    rw [List.mem_filter] at hfm
    obtain ⟨hfz, hfx⟩ := hfm
    have hf := (hzs f).1 hfz
    have hpt := (ptype_z st.t f j).1 hf.2.2
    simp only [Bool.not_eq_true', List.any_eq_false, List.mem_range] at hfx
    refine ⟨f, hf.1, by omega, ?_, hpt.2, rfl⟩
    intro c hc
    have := hfx c hc
    cases hh : xb st.t f c
    · rfl
    · rw [show (st.t.row f).x c = xb st.t f c from rfl, hh] at this; exact absurd rfl this

/-! ### the z-bits below the Z-type pivots -/

/-- the z-column of every Z-type row (no x-bit on the diagonal) is cleared below the diagonal -/
def LowZ (N : Nat) (t : STab) : Prop := ∀ c i, c < i → i < N → xb t c c = false → zb t i c = false

/-- the same for the columns `c < j` already processed by block 1 -/
def LowZ1 (N : Nat) (t : STab) (j : Nat) : Prop := ∀ c i, c < j → c < i → i < N → xb t c c = false → zb t i c = false

theorem lowz1_swap (N : Nat) (st : InvState) (j f : Nat) (hn : st.t.n = N) (hj : j < N) (hjf : j ≤ f) (hf : f < N)
    (hl : LowZ1 N st.t j) : LowZ1 N (st.swap j f).t j := by
  intro c i hc hci hi hx
  rw [swap_xb st j f c c (by omega) (by omega), swp_lt j f c hc hjf] at hx
  rw [swap_zb st j f i c (by omega) (by omega)]
  apply hl c _ hc _ (swp_bound j f i N hj hf hi) hx
  by_cases hij : i < j
  · rw [swp_lt j f i hij hjf]; exact hci
  · have := swp_ge j f i (by omega) hjf; omega

theorem lowz1_clear (N j : Nat) (t t2 : STab) (hj : j < N) (hl : LowZ1 N t j)
    (ex : ∀ m c, m < N → c < N → xb t2 m c = xb t m c)
    (ez : ∀ m c, m < N → c < N → zb t2 m c
      = if j < m ∧ zb t m j = true then xor (zb t j c) (zb t m c) else zb t m c) : LowZ1 N t2 j := by
  intro c i hc hci hi hx
  rw [ex c c (by omega) (by omega)] at hx
  rw [ez i c hi (by omega)]
  split
  · rw [hl c j hc hc hj hx, hl c i hc hci hi hx]; rfl
  · exact hl c i hc hci hi hx

theorem lowz1_noH {N k : Nat} {px : Nat → Nat} {t : STab} {j : Nat} (h : Mid N k px t j) (hl : LowZ1 N t j) :
    LowZ1 N t (j + 1) := by
  intro c i hc hci hi hx
  by_cases e : c = j
  · subst e; exact h.colz i hci hi
  · exact hl c i (by omega) hci hi hx

theorem lowz1_withH {N k : Nat} {px : Nat → Nat} {st : InvState} {j : Nat} (h : Mid N k px st.t j) (hj : j < N)
    (hl : LowZ1 N st.t j) : LowZ1 N (st.gate (.H j)).t (j + 1) := by
  have hn := h.n_eq
  obtain ⟨ex, ez⟩ := gate_h_bits st hn j
  intro c i hc hci hi hx
  rw [ex c c (by omega) (by omega)] at hx
  rw [ez i c hi (by omega)]
  by_cases e : c = j
  · subst e
    rw [if_pos rfl, h.rowz] at hx; cases hx
  · rw [if_neg e] at hx
    rw [if_neg e]
    exact hl c i (by omega) hci hi hx

/-! ### one column step keeps the invariant and never raises -/

theorem invStep1_keeps (N k : Nat) (px : Nat → Nat) (st : InvState) (j : Nat) (hj : j < N) (h : Inv1 N k px st.t j) :
    ∃ st', invStep1 N st j = .ok st' ∧ Inv1 N k px st'.t (j + 1) ∧ (LowZ1 N st.t j → LowZ1 N st'.t (j + 1)) := by
  have hn := h.n_eq
  by_cases hp : IsPiv k px j
  · -- pivot column
    obtain ⟨a, ha, hpa⟩ := hp
    obtain ⟨i, hi1, hi2, hi3, hu, _⟩ := h.piv a ha (by omega)
    rw [hpa] at hi3 hu
    have hs := h.swap i hj hi1 hi2
    have ex : ∀ m c, m < N → c < N → xb (st.swap j i).t m c = xb st.t (swp j i m) c :=
      fun m c hm hc => swap_xb st j i m c (by omega) (by omega)
    have hjj : xb (st.swap j i).t j j = true := by rw [ex j j hj hj, swp_left]; exact hi3
    refine ⟨st.swap j i, invStep1_pivot N st j i hn hi1 hi2 hi3 hu, hs.advance_pivot hj hjj ?_,
      fun hl c m hc hcm hm hx => ?_⟩
    · intro m hm hne
      rw [ex m j hm hj]
      apply hu _ (swp_bound j i m N hj hi2 hm)
      intro e; apply hne; rw [← swp_invol j i m, e]
      unfold swp; by_cases e' : i = j <;> simp [e']
    · by_cases e : c = j
      · subst e; rw [hjj] at hx; cases hx
      · exact lowz1_swap N st j i hn hj hi1 hi2 hl c m (by omega) hcm hm hx
  · -- non-pivot column
    have hnox := fun m h1 h2 => h.nox hj hp m h1 h2
    have hex : ∃ i, j ≤ i ∧ i < N ∧ (∀ c, c < N → xb st.t i c = false) ∧ zb st.t i j = true := by
      obtain ⟨S, hS, hpar⟩ := h.surj j (Nat.le_refl _) hj hp
      have := hpar j (Nat.le_refl _) hj hp
      simp only [decide_true] at this
      obtain ⟨i, hi, hb⟩ := parityTo_exists N _ this
      simp only [Bool.and_eq_true] at hb
      obtain ⟨g1, g2⟩ := hS i hi hb.1
      exact ⟨i, g1, hi, g2, hb.2⟩
    obtain ⟨f, hf1, hf2, hf3, hf4, hstep⟩ := invStep1_nonpivot N st j hn hj hnox hex
    have hs := h.swap f hj hf1 hf2
    have hrx : ∀ c, c < N → xb (st.swap j f).t j c = false := by
      intro c hc; rw [swap_xb st j f j c (by omega) (by omega), swp_left]; exact hf3 c hc
    have hrz : zb (st.swap j f).t j j = true := by
      rw [swap_zb st j f j j (by omega) (by omega), swp_left]; exact hf4
    obtain ⟨c1, c2, c3, c4⟩ := invClear_spec N j (st.swap j f) hn hj hs.good hrx
    have hmid : Mid N k px (invClear N j (st.swap j f)).t j := hs.clear hj hp hrx hrz c1 c2 c3 c4
    have hl2 : LowZ1 N st.t j → LowZ1 N (invClear N j (st.swap j f)).t j :=
      fun hl => lowz1_clear N j _ _ hj (lowz1_swap N st j f hn hj hf1 hf2 hl) c3 c4
    rw [hstep]
    split
    · exact ⟨_, rfl, hmid.withH hj, fun hl => lowz1_withH hmid hj (hl2 hl)⟩
    · next hc =>
      refine ⟨_, rfl, hmid.noH hj ?_, fun hl => lowz1_noH hmid (hl2 hl)⟩
      intro c hc1 hc2
      have hc' : (((List.range N).filter fun k => j < k).any fun k =>
            ((invClear N j (st.swap j f)).t.row j).x k || ((invClear N j (st.swap j f)).t.row j).z k) = false := by
        cases hh : (((List.range N).filter fun k => j < k).any fun k =>
            ((invClear N j (st.swap j f)).t.row j).x k || ((invClear N j (st.swap j f)).t.row j).z k)
        · rfl
        · exact absurd hh hc
      rw [List.any_eq_false] at hc'
      have := hc' c (by simp [hc1, hc2])
      simp only [Bool.or_eq_true, not_or, Bool.not_eq_true] at this
      exact this

theorem inv1_step (N k : Nat) (px : Nat → Nat) (st : InvState) (j : Nat) (hj : j < N) (h : Inv1 N k px st.t j) :
    ∃ st', invStep1 N st j = .ok st' ∧ Inv1 N k px st'.t (j + 1) := by
  obtain ⟨st', e, i, _⟩ := invStep1_keeps N k px st j hj h
  exact ⟨st', e, i⟩

theorem foldlM_range_inv {σ : Type} (f : σ → Nat → Except Err σ) (P : Nat → σ → Prop) (n : Nat) (s0 : σ) (h0 : P 0 s0)
    (hs : ∀ i s, i < n → P i s → ∃ s', f s i = .ok s' ∧ P (i + 1) s') :
    ∃ s, (List.range n).foldlM f s0 = .ok s ∧ P n s :=
  Loop.foldlM_range_ok P hs h0

/-- **block 1 returns, and establishes the shape `Post1`** with the z-columns of the Z-type rows cleared below the
    diagonal, from the invariant at column 0 -/
theorem invBlock1_returns (t0 : STab) (k : Nat) (px : Nat → Nat) (h : Inv1 t0.n k px t0 0) :
    ∃ s1, invBlock1 t0 = .ok s1 ∧ s1.t.n = t0.n ∧ s1.t.Good ∧ Post1 s1.t ∧ LowZ t0.n s1.t := by
  unfold invBlock1
  obtain ⟨s1, e, hp, hl⟩ := foldlM_range_inv (invStep1 t0.n) (fun j s => Inv1 t0.n k px s.t j ∧ LowZ1 t0.n s.t j) t0.n
    { t := t0, circ := [] } ⟨h, fun c i hc => by omega⟩
    (fun j s hj hq => by
      obtain ⟨s', e', i', l'⟩ := invStep1_keeps t0.n k px s j hj hq.1
      exact ⟨s', e', i', l' hq.2⟩)
  refine ⟨s1, e, hp.n_eq, hp.good, ⟨?_, ?_⟩, fun c i hci hi hx => hl c i (by omega) hci hi hx⟩
  · intro c i h1 h2; rw [hp.n_eq] at h2; exact hp.upper c i (by omega) h1 h2
  · intro c hc; rw [hp.n_eq] at hc; exact hp.diag c hc hc

theorem invBlock1_post (t0 : STab) (k : Nat) (px : Nat → Nat) (h : Inv1 t0.n k px t0 0) :
    ∃ s1, invBlock1 t0 = .ok s1 ∧ s1.t.n = t0.n ∧ s1.t.Good ∧ Post1 s1.t := by
  obtain ⟨s1, e, hn, hg, hp, _⟩ := invBlock1_returns t0 k px h
  exact ⟨s1, e, hn, hg, hp⟩

end STab
end Graphiq
