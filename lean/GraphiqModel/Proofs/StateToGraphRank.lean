/-
  Proofs/StateToGraphRank.lean — the rank argument behind the repaired `_position_finder` (handoff/repairs/d40/README.md):
  for n independent, mutually commuting rows `[X | Z]` whose X part is in row echelon form, exchanging the X and Z columns at the
  NON-PIVOT columns leaves an X part whose rows are linearly independent over GF(2).
  Also: commutation and independence of the rows depend only on their row space, which `row_reduction` keeps.  All sizes.
  (`Indep (XZ.ofSTab t)` is by definition `STab.Indep t`.)
-/
import GraphiqModel.Proofs.StateToGraphEchelon
import GraphiqModel.Proofs.HeightEntropy
namespace Graphiq
namespace S2G

/-! ### the symplectic product of two bit rows -/

def bsp (n : Nat) (a b a' b' : Nat → Bool) : Bool := parityTo n fun j => xor (a j && b' j) (b j && a' j)

theorem bsp_symm (n : Nat) (a b a' b' : Nat → Bool) : bsp n a b a' b' = bsp n a' b' a b := by
  unfold bsp
  apply parityTo_congr
  intro j _
  cases a j <;> cases b j <;> cases a' j <;> cases b' j <;> rfl

theorem bsp_linear (n : Nat) (a b : Nat → Bool) : Linear n (fun a' b' => bsp n a b a' b' = false) := by
  refine ⟨?_, ?_, ?_⟩
  · unfold bsp; apply parityTo_zero; intro j _; simp
  · intro a1 b1 a2 b2 h1 h2
    unfold bsp at h1 h2 ⊢
    have : parityTo n (fun j => xor (a j && xor (b1 j) (b2 j)) (b j && xor (a1 j) (a2 j))) =
        xor (parityTo n fun j => xor (a j && b1 j) (b j && a1 j)) (parityTo n fun j => xor (a j && b2 j) (b j && a2 j)) := by
      rw [← parityTo_xor]
      apply parityTo_congr
      intro j _
      cases a j <;> cases b j <;> cases a1 j <;> cases b1 j <;> cases a2 j <;> cases b2 j <;> rfl
    rw [this, h1, h2]; rfl
  · intro a1 b1 a2 b2 h he
    unfold bsp at h ⊢
    rw [← h]
    apply parityTo_congr
    intro j hj
    rw [(he j hj).1, (he j hj).2]

theorem bspan_commute (n m : Nat) (rx rz : Nat → Nat → Bool)
    (hc : ∀ i k, i < m → k < m → bsp n (rx i) (rz i) (rx k) (rz k) = false) {a b a' b' : Nat → Bool}
    (h : BSpan n m rx rz a b) (h' : BSpan n m rx rz a' b') : bsp n a b a' b' = false := by
  have h1 : ∀ k, k < m → bsp n a b (rx k) (rz k) = false := by
    intro k hk
    rw [bsp_symm]
    exact BSpan.sat (bsp_linear n (rx k) (rz k)) (fun i hi => hc k i hk hi) h
  exact BSpan.sat (bsp_linear n a b) h1 h'

theorem bsp_hadBits (n : Nat) (pos : List Nat) (a b a' b' : Nat → Bool) :
    bsp n (hadBits pos a b) (hadBits pos b a) (hadBits pos a' b') (hadBits pos b' a') = bsp n a b a' b' := by
  unfold bsp
  apply parityTo_congr
  intro j _
  simp only [hadBits]
  split
  · cases a j <;> cases b j <;> cases a' j <;> cases b' j <;> rfl
  · rfl

def Comm (m : XZ) : Prop := ∀ i k, i < m.n → k < m.n → bsp m.n (m.x i) (m.z i) (m.x k) (m.z k) = false

theorem comm_of_bequiv {m m' : XZ} (h : BEquiv m m') (hc : Comm m) : Comm m' := by
  intro i k hi hk
  rw [h.n_eq] at hi hk ⊢
  exact bspan_commute m.n m.n m.x m.z hc (h.fwd i hi) (h.fwd k hk)

/-! ### linear independence of the rows, and the row operations -/

/-- the `n` rows `[x_i | z_i]` are linearly independent over GF(2) -/
def Indep (m : XZ) : Prop := ∀ c : Nat → Bool,
  (∀ j, j < m.n → parityTo m.n (fun i => c i && m.x i j) = false ∧ parityTo m.n (fun i => c i && m.z i j) = false) →
  ∀ i, i < m.n → c i = false

/-- the rows of a pair of bit matrices as sign-free Pauli rows -/
def XZ.rows (m : XZ) (i : Nat) : PRow := ⟨m.x i, m.z i, false, false⟩

open Module in
theorem indep_iff_finrank (m : XZ) : Indep m ↔ finrank (ZMod 2) ↥(gspaceOf m.n m.rows) = m.n :=
  ((STab.linearIndependent_iff_bits ⟨m.n, m.rows⟩).symm.trans (STab.linearIndependent_iff_finrank ⟨m.n, m.rows⟩) :)

theorem bspan_vec_mem (n : Nat) (rx rz : Nat → Nat → Bool) {a b : Nat → Bool} (h : BSpan n n rx rz a b) :
    (PRow.mk a b false false).vec n ∈ gspaceOf n (fun i => ⟨rx i, rz i, false, false⟩) := by
  induction h with
  | zero => exact (PRow.vec_one n) ▸ Submodule.zero_mem _
  | gen i hi => exact gen_mem_gspaceOf n _ i hi
  | add a b a' b' _ _ ih1 ih2 =>
    have e : (PRow.mk (fun j => xor (a j) (a' j)) (fun j => xor (b j) (b' j)) false false).vec n
        = (PRow.mul n ⟨a, b, false, false⟩ ⟨a', b', false, false⟩).vec n := PRow.vec_congr n _ _ (fun _ _ => ⟨rfl, rfl⟩)
    rw [e, PRow.vec_mul]
    exact Submodule.add_mem _ ih1 ih2
  | ext a b a' b' _ he ih => rw [← PRow.vec_congr n ⟨a, b, false, false⟩ ⟨a', b', false, false⟩ he]; exact ih

/-- **independence of the `n` rows depends only on their row space** (it says that the space has dimension `n`) -/
theorem indep_of_bequiv {m m' : XZ} (h : BEquiv m m') (hi : Indep m) : Indep m' := by
  obtain ⟨hn, fwd, bwd⟩ := h
  obtain ⟨n', x', z'⟩ := m'
  simp only at hn
  subst hn
  have g : gspaceOf m.n (XZ.rows ⟨m.n, x', z'⟩) = gspaceOf m.n m.rows := by
    apply le_antisymm <;> apply Submodule.span_le.2 <;> rintro _ ⟨i, rfl⟩
    · exact bspan_vec_mem m.n m.x m.z (fwd i i.isLt)
    · exact bspan_vec_mem m.n x' z' (bwd i i.isLt)
  rw [indep_iff_finrank] at hi ⊢
  rw [g]; exact hi

theorem indep_norm (m : XZ) (h : Indep m) : Indep m.norm := indep_of_bequiv (bequiv_norm m) h

theorem indep_rowReduction (m : XZ) (hn : 0 < m.n) (h : Indep m) : Indep m.rowReduction.1 :=
  indep_of_bequiv (bequiv_rowReduction m hn).1 h

/-- **Hadamards on the non-pivot columns make the X part invertible**: for independent commuting rows whose X part is in row
    echelon form, the rows of the X part after exchanging the X and Z columns at the non-pivot columns `pos` are linearly
    independent (a vanishing combination of them has only zero coefficients) -/
theorem hadamard_rows_independent (m : XZ) (r : Nat) (piv : Nat → Nat) (he : Ech m r piv) (pos : List Nat)
    (hpos : ∀ q, q ∈ pos ↔ q < m.n ∧ ∀ i, i < r → piv i ≠ q) (hcomm : Comm m) (hind : Indep m) (v : Nat → Bool)
    (hv : ∀ j, j < m.n → parityTo m.n (fun i => v i && hadBits pos (m.x i) (m.z i) j) = false) :
    ∀ i, i < m.n → v i = false := by
  -- the combination of the raw rows with the same coefficients
  let a : Nat → Bool := fun j => parityTo m.n (fun i => v i && m.x i j)
  let b : Nat → Bool := fun j => parityTo m.n (fun i => v i && m.z i j)
  have hcont : ∀ j, pos.contains j = true ↔ j ∈ pos := fun j => List.contains_iff_mem
  -- its X part vanishes on the pivot columns, its Z part on the others
  have aPiv : ∀ k, k < r → a (piv k) = false := by
    intro k hk
    have hnot : pos.contains (piv k) = false := by
      apply Bool.eq_false_iff.mpr
      intro hc
      exact ((hpos (piv k)).mp ((hcont _).mp hc)).2 k hk rfl
    have := hv (piv k) (he.piv_lt k hk)
    rw [← this]
    apply parityTo_congr
    intro i _
    simp only [hadBits, hnot]; rfl
  have bNon : ∀ j, j < m.n → (∀ k, k < r → piv k ≠ j) → b j = false := by
    intro j hj hnp
    have hin : pos.contains j = true := (hcont j).mpr ((hpos j).mpr ⟨hj, hnp⟩)
    have := hv j hj
    rw [← this]
    apply parityTo_congr
    intro i _
    simp only [hadBits, hin]; rfl
  -- the coefficients of the pivot rows vanish (unit upper triangular block)
  have vTop : ∀ i, i < r → v i = false := by
    intro i
    induction i using Nat.strong_induction_on with
    | _ i ih =>
      intro hi
      have hir : i < m.n := Nat.lt_of_lt_of_le hi he.r_le
      have e : a (piv i) = (v i && m.x i (piv i)) := by
        apply parityTo_one m.n i _ hir
        intro k hk hne
        by_cases h1 : k < i
        · rw [ih k h1 (by omega)]; rfl
        · have hki : i < k := by omega
          by_cases h2 : k < r
          · rw [he.before k (piv i) h2 (he.mono i k hki h2)]; simp
          · rw [he.below k (piv i) (by omega) hk (he.piv_lt i hi)]; simp
      rw [aPiv i hi, he.one i hi] at e
      simpa using e.symm
  have aZero : ∀ j, j < m.n → a j = false := by
    intro j hj
    apply parityTo_zero
    intro i hi
    by_cases h1 : i < r
    · rw [vTop i h1]; rfl
    · rw [he.below i j (by omega) hi hj]; simp
  -- the combination commutes with every row
  have hab : BSpan m.n m.n m.x m.z a b := BSpan.combo m.n m.n m.x m.z v m.n (Nat.le_refl _)
  have rowDot : ∀ i, i < m.n → parityTo m.n (fun j => m.x i j && b j) = false := by
    intro i hi
    have := bspan_commute m.n m.n m.x m.z hcomm (BSpan.gen i hi) hab
    unfold bsp at this
    rw [← this]
    apply parityTo_congr
    intro j hj
    rw [aZero j hj]; simp
  -- back substitution: the Z part vanishes on the pivot columns too
  have bPiv : ∀ d i, i < r → r - i ≤ d → b (piv i) = false := by
    intro d
    induction d with
    | zero => intro i hi hd; omega
    | succ d ih =>
      intro i hi hd
      have hir : i < m.n := Nat.lt_of_lt_of_le hi he.r_le
      have e : parityTo m.n (fun j => m.x i j && b j) = (m.x i (piv i) && b (piv i)) := by
        apply parityTo_one m.n (piv i) _ (he.piv_lt i hi)
        intro j hj hne
        by_cases hp : ∃ k, k < r ∧ piv k = j
        · obtain ⟨k, hk, hkj⟩ := hp
          have hki : k ≠ i := fun e => hne (by rw [← hkj, e])
          by_cases h1 : k < i
          · rw [← hkj, he.before i (piv k) hi (he.mono k i h1 hi)]; rfl
          · rw [← hkj, ih k hk (by omega)]; simp
        · rw [bNon j hj (fun k hk e => hp ⟨k, hk, e⟩)]; simp
      rw [rowDot i hir, he.one i hi] at e
      simpa using e.symm
  have bZero : ∀ j, j < m.n → b j = false := by
    intro j hj
    by_cases hp : ∃ k, k < r ∧ piv k = j
    · obtain ⟨k, hk, hkj⟩ := hp
      rw [← hkj]; exact bPiv r k hk (by omega)
    · exact bNon j hj (fun k hk e => hp ⟨k, hk, e⟩)
  exact hind v (fun j hj => ⟨aZero j hj, bZero j hj⟩)

end S2G
end Graphiq
