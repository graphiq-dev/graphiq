/-
  MetricsHistDepth.lean — `CircuitDepth` on every circuit satisfying DagInv (C18): under the recorded specification of
  `nx.dag_longest_path_length`, `depth` = the largest ASAP layer of the scheduled operation list, for any schedule.
-/
import GraphiqModel.Proofs.MetricsHistSpec
import Mathlib.Data.List.Induction
namespace Graphiq
namespace Metrics
open Dag Relation

theorem getD_le_foldl_max (l : List Nat) : ∀ (a i : Nat), l.getD i 0 ≤ l.foldl max a ∧ a ≤ l.foldl max a := by
  induction l with
  | nil => intro a i; simp
  | cons x t ih =>
    intro a i
    rw [List.foldl_cons]
    cases i with
    | zero =>
      have := (ih (max a x) 0).2
      simp only [List.getD_cons_zero]
      omega
    | succ j =>
      have := ih (max a x) j
      simp only [List.getD_cons_succ]
      omega

theorem layer_le_depth (a : List Op) (o : Op) (b : List Op) :
    Spec.layerOf (Spec.fronts a) o ≤ Spec.depth (a ++ o :: b) := by
  have h1 := layers_getD_split a o b []
  have h2 := (getD_le_foldl_max (Spec.layers [] (a ++ o :: b)) 0 a.length).1
  unfold Spec.depth Spec.fronts
  omega

theorem layerOf_ge (f : List (Reg × Nat)) (op : Op) {r : Reg} (hr : r ∈ opRegs op) :
    Spec.frontGet f r + 1 ≤ Spec.layerOf f op := by
  unfold Spec.layerOf
  rw [spec_opRegs_eq]
  have := (foldl_max_nat (fun r => Spec.frontGet f r) (opRegs op) 0).2.1 r hr
  omega

theorem regDepth_le_depth (seq : List Op) (r : Reg) : Spec.regDepth seq r ≤ Spec.depth seq := by
  induction seq using List.reverseRec with
  | nil => simp [Spec.regDepth, Spec.fronts, Spec.frontGet]
  | append_singleton pre op ih =>
    unfold Spec.regDepth at ih ⊢
    rw [fronts_append, frontGet_pushLayer, spec_depth_append]
    by_cases hr : r ∈ opRegs op
    · rw [if_pos hr]; omega
    · rw [if_neg hr]; omega

theorem exists_regDepth_eq_depth (seq : List Op) (hne : seq ≠ []) (hregs : ∀ o ∈ seq, opRegs o ≠ []) :
    ∃ o ∈ seq, ∃ r ∈ opRegs o, Spec.regDepth seq r = Spec.depth seq := by
  induction seq using List.reverseRec with
  | nil => exact absurd rfl hne
  | append_singleton pre op ih =>
    obtain ⟨r0, hr0⟩ := List.exists_mem_of_ne_nil _ (hregs op (by simp))
    have hl1 : 1 ≤ Spec.layerOf (Spec.fronts pre) op := by unfold Spec.layerOf; omega
    by_cases hcase : Spec.depth pre ≤ Spec.layerOf (Spec.fronts pre) op
    · refine ⟨op, by simp, r0, hr0, ?_⟩
      unfold Spec.regDepth
      rw [fronts_append, frontGet_pushLayer, if_pos hr0, spec_depth_append]
      omega
    · have hpre : pre ≠ [] := by
        intro e; subst e
        simp [Spec.depth, Spec.layers] at hcase
      obtain ⟨o, ho, r, hr, heq⟩ := ih hpre (fun o ho => hregs o (by simp [ho]))
      refine ⟨o, by simp [ho], r, hr, ?_⟩
      unfold Spec.regDepth at heq ⊢
      rw [fronts_append, frontGet_pushLayer, spec_depth_append]
      by_cases hrop : r ∈ opRegs op
      · have := layerOf_ge (Spec.fronts pre) op hrop
        omega
      · rw [if_neg hrop]; omega

theorem nodes_nonempty_iff_register {c : Dag} {P : Paths} (g : Good c P) : c.nodeIds ≠ [] ↔ ∃ r, c.live r := by
  constructor
  · intro hne
    obtain ⟨n, hn⟩ := List.exists_mem_of_ne_nil _ hne
    cases n with
    | inp r => exact ⟨r, (g.inv.inp_iff r).mp hn⟩
    | out r => exact ⟨r, (g.inv.out_iff r).mp hn⟩
    | op i =>
      obtain ⟨o, ho⟩ := mem_nodeIds.mp hn
      have hwf := g.inv.op_wf i o ho
      cases hq : o.qregs with
      | nil => exact absurd hq hwf.qregs_ne
      | cons r t =>
        have hr : r ∈ o.qregs := by rw [hq]; simp
        have hm := (g.mem.mem_q i o ho r (hwf.qregs_quantum r hr)).mpr hr
        exact ⟨r, g.inv.live_of_mem hm⟩
  · rintro ⟨r, hl⟩ h
    have := (g.inv.inp_iff r).mpr hl
    rw [h] at this; simp at this

theorem no_inEdge_of_input {c : Dag} {P : Paths} {L : List (NodeId × Op)} (g : Good c P) (hS : Sched c P L)
    (hkey : ∀ p ∈ L, "Input" ∉ p.2.indexKeys) : ∀ x b, isInputNode c b → ¬ c.E x b := by
  intro x b hi hE
  rw [isInputNode_iff g.inv] at hi
  obtain ⟨_, hb⟩ := E_nodes g.inv hE
  obtain ⟨o, ho⟩ := mem_nodeIds.mp hb
  unfold keysAt at hi
  rw [(opOf_eq_some g.inv.ids_nodup).mpr ho] at hi
  cases b with
  | inp r => exact g.inv.inp_source r x hE
  | out r => simp [indexKeysOf] at hi
  | op i =>
    simp only [indexKeysOf] at hi
    have := hkey _ (hS.mem_of_node ho)
    rw [wiredOp_indexKeys] at this
    exact this hi

/-- **`CircuitDepth` on any circuit satisfying DagInv**: for any schedule `L` and any value `Lp` meeting the recorded specification of
    `nx.dag_longest_path_length`, `depth = Lp − 1` is the largest ASAP layer of the scheduled operation list -/
theorem circuitDepth_eq_spec_sched_of_noInputKey {c : Dag} {P : Paths} {L : List (NodeId × Op)} (g : Good c P) (hk : NoInputKey c)
    (hS : Sched c P L) (hne : c.nodeIds ≠ []) {Lp : Nat} (hLp : LongestPathSpec c Lp) :
    circuitDepthWith Lp = (Spec.depth (L.map (·.2)) : Int) := by
  have hkey := hS.input_not_key_of hk
  obtain ⟨hd1, hd2⟩ := sched_depth g hS hkey
  unfold circuitDepthWith
  apply depth_of_allDepth _ _ _ _ hLp
  · -- every node has a depth ≤ the largest layer
    intro n hn
    cases n with
    | inp r =>
      exact ⟨-1, HasDepth.input (isInputNode_inp g.inv ((g.inv.inp_iff r).mp hn)), by omega⟩
    | out r =>
      refine ⟨_, hd2 r ((g.inv.out_iff r).mp hn), ?_⟩
      exact_mod_cast regDepth_le_depth (L.map (·.2)) r
    | op i =>
      obtain ⟨o, ho⟩ := mem_nodeIds.mp hn
      obtain ⟨pre, suf, hL⟩ := List.append_of_mem (hS.mem_of_node ho)
      refine ⟨_, hd1 pre _ suf hL, ?_⟩
      have := layer_le_depth (pre.map (·.2)) (wiredOp P (.op i) o) (suf.map (·.2))
      rw [hL, List.map_append, List.map_cons]
      simp only at this ⊢
      omega
  · exact no_inEdge_of_input g hS hkey
  · -- the bound is attained
    by_cases hLn : L = []
    · subst hLn
      obtain ⟨r, hl⟩ := (nodes_nonempty_iff_register g).mp hne
      refine ⟨.out r, ?_⟩
      have := hd2 r hl
      simpa [Spec.regDepth, Spec.fronts, Spec.frontGet, Spec.depth, Spec.layers] using this
    · have hne' : L.map (·.2) ≠ [] := by simpa using hLn
      have hregs : ∀ o ∈ L.map (·.2), opRegs o ≠ [] := by
        intro o ho
        obtain ⟨p, hp, rfl⟩ := List.mem_map.mp ho
        exact hS.opRegs_ne g hp
      obtain ⟨o, ho, r, hr, heq⟩ := exists_regDepth_eq_depth (L.map (·.2)) hne' hregs
      obtain ⟨p, hp, rfl⟩ := List.mem_map.mp ho
      have hl := hS.live p hp r hr
      refine ⟨.out r, ?_⟩
      rw [← heq]; exact hd2 r hl
  · intro a b k w hk
    cases w with
    | nil => omega
    | snoc _ hxb => exact (E_nodes g.inv hxb).2

theorem circuitDepth_eq_spec_sched {c : Dag} {P : Paths} {L : List (NodeId × Op)} (g : Good c P) (hpl : AllPlain c)
    (hS : Sched c P L) (hne : c.nodeIds ≠ []) {Lp : Nat} (hLp : LongestPathSpec c Lp) :
    circuitDepthWith Lp = (Spec.depth (L.map (·.2)) : Int) :=
  circuitDepth_eq_spec_sched_of_noInputKey g (noInputKey_of_allPlain g hpl) hS hne hLp

end Metrics
end Graphiq
