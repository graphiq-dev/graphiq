/-
  Dag.lean — invariants of the circuit-DAG model and their preservation by the primitives of circuit_dag.py.

  `Inv c P`   : structural consistency of the concrete state `c` with respect to the abstract per-register wires
                `P : Reg → List NodeId` (the full path `inp k, …, out k` of every live register `k`): the keyed edges are
                exactly the consecutive pairs of the wires, nodes/ids/registers agree, both indexes agree with the graph.
  `Mem c P`   : the wire of a quantum register visits exactly the operation nodes acting on it (classical: only such).
  `Acyclic c` : no directed cycle.
  `Prim`      : the four things an edit does (create a register, put a fresh node on edges, take a node out, change a node's
                operation), each with its effect on the circuit and on the wires; `Prim.good`: each keeps all of the above.
                That every edit of the API is a chain of them is Proofs/DagChain.lean.
  Also here: the bookkeeping of the two indexes (`EdgeOK`, `NodeDictOK`), the empty circuit, what DagInv says about the
  graph (sources, sinks, register counts), and the recorded networkx specifications the property files use
  (`AncSpec` / `DescSpec` with `compatible_no_path`, `LinearExt` with `pos_lt_of_before`).
-/
import GraphiqModel.Proofs.DagBasic
namespace Graphiq

theorem Kind.mem_all (k : Kind) : k ∈ Kind.all := by cases k <;> decide

theorem Kind.names_nodup : (Kind.all.map Kind.name).Nodup := by decide +kernel

theorem Kind.name_inj {a b : Kind} : a.name = b.name ↔ a = b :=
  ⟨inj_on_of_nodup_map Kind.names_nodup (Kind.mem_all a) (Kind.mem_all b), fun h => h ▸ rfl⟩

namespace Dag
open Relation

/-- register `k` exists in the circuit -/
def live (c : Dag) (k : Reg) : Prop := k.idx < c.regs k.ty

instance (c : Dag) (k : Reg) : Decidable (c.live k) := by unfold live; infer_instance

/-- the edge relation of the graph -/
def E (c : Dag) (a b : NodeId) : Prop := ∃ e ∈ c.edges, e.src = a ∧ e.dst = b

def Acyclic (c : Dag) : Prop := AcyclicRel c.E

abbrev Paths := Reg → List NodeId

def setPath (P : Paths) (k : Reg) (l : List NodeId) : Paths := fun k' => if k' = k then l else P k'

@[simp] theorem setPath_same (P : Paths) (k : Reg) (l : List NodeId) : setPath P k l k = l := by simp [setPath]
theorem setPath_other (P : Paths) {k k' : Reg} (l : List NodeId) (h : k' ≠ k) : setPath P k l k' = P k' := by
  simp [setPath, h]

/-- the `node_dict` keys of a node -/
def indexKeysOf (n : NodeId) (op : Op) : List String :=
  match n with
  | .inp _ => ["Input"]
  | .out _ => ["Output"]
  | .op _ => op.indexKeys

/-- how often node `n` must be listed under label `l` -/
def indexCount (c : Dag) (n : NodeId) (l : String) : Nat :=
  match c.opOf? n with
  | some op => (indexKeysOf n op).count l
  | none => 0

/-- well-formed operation argument of an edit: a gate (not an I/O marker) on at least one, pairwise distinct,
    quantum registers (`OperationBase` asserts the register types are "e"/"p") -/
structure OpWF (op : Op) : Prop where
  not_input : op.kind ≠ .input
  not_output : op.kind ≠ .output
  qregs_ne : op.qregs ≠ []
  qregs_nodup : op.qregs.Nodup
  cregs_nodup : op.cregs.Nodup
  qregs_quantum : ∀ r ∈ op.qregs, r.ty ≠ .c
  /-- a `OneQubitGateWrapper` is a one-qubit operation wrapping one-qubit gate classes -/
  wrapper_shape : op.kind = .wrapper → (∃ r, op.qregs = [r]) ∧ op.cregs = [] ∧ ∀ k ∈ op.inner, k.isOneQubitBase = true
  /-- user labels do not collide with the class name under which wrappers are indexed -/
  wrapper_key : "OneQubitGateWrapper" ∈ op.indexKeys → op.kind = .wrapper

structure Inv (c : Dag) (P : Paths) : Prop where
  edges_nodup : c.edges.Nodup
  edges_iff : ∀ e, e ∈ c.edges ↔ Consec (P e.key) e.src e.dst
  dead : ∀ k, ¬ c.live k → P k = []
  shape : ∀ k, c.live k → ∃ mid, P k = .inp k :: (mid ++ [.out k]) ∧ ∀ n ∈ mid, ∃ i, n = NodeId.op i
  nodup : ∀ k, (P k).Nodup
  mem_nodes : ∀ k n, n ∈ P k → n ∈ c.nodeIds
  edgeDict_ok : ∀ t e, (dictGet c.edgeDict t).count e = if e ∈ c.edges ∧ e.key.ty = t then 1 else 0
  ids_nodup : c.nodeIds.Nodup
  inp_iff : ∀ r, NodeId.inp r ∈ c.nodeIds ↔ c.live r
  out_iff : ∀ r, NodeId.out r ∈ c.nodeIds ↔ c.live r
  inp_op : ∀ r op, (NodeId.inp r, op) ∈ c.nodes → op = Op.io .input r
  out_op : ∀ r op, (NodeId.out r, op) ∈ c.nodes → op = Op.io .output r
  op_range : ∀ i, NodeId.op i ∈ c.nodeIds → 1 ≤ i ∧ i ≤ c.nodeId
  op_wf : ∀ i op, (NodeId.op i, op) ∈ c.nodes → OpWF op
  nodeDict_ok : ∀ l n, (dictGet c.nodeDict l).count n = c.indexCount n l

/-- the wire of a quantum register visits exactly the operations acting on it; a classical wire only such -/
structure Mem (c : Dag) (P : Paths) : Prop where
  mem_q : ∀ i op, (NodeId.op i, op) ∈ c.nodes → ∀ k, k.ty ≠ .c → (NodeId.op i ∈ P k ↔ k ∈ op.qregs)
  mem_c : ∀ i op, (NodeId.op i, op) ∈ c.nodes → ∀ r, NodeId.op i ∈ P ⟨.c, r⟩ → r ∈ op.cregs

/-- all three together, for given wires -/
structure Good (c : Dag) (P : Paths) : Prop where
  inv : Inv c P
  mem : Mem c P
  acyc : Acyclic c

/-- **DagInv** of DESIGN §4 C12 -/
def DagInv (c : Dag) : Prop := ∃ P, Good c P

@[simp] theorem addEdge_nodes (c : Dag) (u v k) : (c.addEdge u v k).nodes = c.nodes := rfl
@[simp] theorem addEdge_nodeDict (c : Dag) (u v k) : (c.addEdge u v k).nodeDict = c.nodeDict := rfl
@[simp] theorem addEdge_nodeId (c : Dag) (u v k) : (c.addEdge u v k).nodeId = c.nodeId := rfl
@[simp] theorem addEdge_regs (c : Dag) (u v k) : (c.addEdge u v k).regs = c.regs := by funext t; cases t <;> rfl
@[simp] theorem removeEdge_nodes (c : Dag) (e) : (c.removeEdge e).nodes = c.nodes := rfl
@[simp] theorem removeEdge_nodeDict (c : Dag) (e) : (c.removeEdge e).nodeDict = c.nodeDict := rfl
@[simp] theorem removeEdge_nodeId (c : Dag) (e) : (c.removeEdge e).nodeId = c.nodeId := rfl
@[simp] theorem removeEdge_regs (c : Dag) (e) : (c.removeEdge e).regs = c.regs := by funext t; cases t <;> rfl
@[simp] theorem splice_nodes (c : Dag) (n e) : (c.splice n e).nodes = c.nodes := rfl
@[simp] theorem splice_nodeDict (c : Dag) (n e) : (c.splice n e).nodeDict = c.nodeDict := rfl
@[simp] theorem splice_nodeId (c : Dag) (n e) : (c.splice n e).nodeId = c.nodeId := rfl
@[simp] theorem splice_regs (c : Dag) (n e) : (c.splice n e).regs = c.regs := by funext t; cases t <;> rfl

theorem nodeIds_eq_of_nodes {c c' : Dag} (h : c'.nodes = c.nodes) : c'.nodeIds = c.nodeIds := by simp [nodeIds, h]
theorem opOf_eq_of_nodes {c c' : Dag} (h : c'.nodes = c.nodes) (n : NodeId) : c'.opOf? n = c.opOf? n := by
  simp [opOf?, h]
theorem indexCount_eq_of_nodes {c c' : Dag} (h : c'.nodes = c.nodes) (n : NodeId) (l : String) :
    c'.indexCount n l = c.indexCount n l := by simp [indexCount, opOf_eq_of_nodes h]
theorem live_eq_of_regs {c c' : Dag} (h : c'.regs = c.regs) (k : Reg) : c'.live k ↔ c.live k := by simp [live, h]

theorem mem_addEdge (c : Dag) (u v : NodeId) (k : Reg) (e : Edge) :
    e ∈ (c.addEdge u v k).edges ↔ e ∈ c.edges ∨ e = ⟨u, v, k⟩ := by
  unfold addEdge
  by_cases h : (⟨u, v, k⟩ : Edge) ∈ c.edges
  · simp only [h, if_true]
    constructor
    · exact Or.inl
    · rintro (h' | rfl); exact h'; exact h
  · simp [h]

theorem mem_removeEdge_imp (c : Dag) (e e' : Edge) (h : e' ∈ (c.removeEdge e).edges) : e' ∈ c.edges :=
  List.mem_of_mem_erase h

theorem mem_splice_imp (c : Dag) (n : NodeId) (e e' : Edge) (h : e' ∈ (c.splice n e).edges) :
    e' ∈ c.edges ∨ e' = ⟨e.src, n, e.key⟩ ∨ e' = ⟨n, e.dst, e.key⟩ := by
  have h1 := mem_removeEdge_imp _ _ _ h
  rw [mem_addEdge, mem_addEdge, or_assoc] at h1
  exact h1

/-! ## the edge list and `edge_dict` -/

/-- the graph's edge list is duplicate-free and `edge_dict` lists exactly the graph's edges, by register type -/
structure EdgeOK (c : Dag) : Prop where
  nodup : c.edges.Nodup
  dict : ∀ t e, (dictGet c.edgeDict t).count e = if e ∈ c.edges ∧ e.key.ty = t then 1 else 0

theorem Inv.edgeOK {c : Dag} {P : Paths} (h : Inv c P) : EdgeOK c := ⟨h.edges_nodup, h.edgeDict_ok⟩

theorem EdgeOK.append {c c' : Dag} (h : EdgeOK c) {e0 : Edge} (hnew : e0 ∉ c.edges) (hedges : c'.edges = c.edges ++ [e0])
    (hdict : c'.edgeDict = dictAppend c.edgeDict e0.key.ty e0) : EdgeOK c' := by
  constructor
  · rw [hedges, List.nodup_append]
    refine ⟨h.nodup, by simp, ?_⟩
    intro a ha b hb e; subst e; simp at hb; subst hb; exact hnew ha
  · intro t e
    rw [hdict, count_dictGet_dictAppend, h.dict, hedges]
    by_cases he : e = e0
    · subst he
      by_cases ht : t = e.key.ty
      · subst ht; simp [hnew]
      · have : ¬ e.key.ty = t := fun e => ht e.symm
        simp [hnew, ht, this]
    · have : (e ∈ c.edges ++ [e0] ∧ e.key.ty = t) ↔ (e ∈ c.edges ∧ e.key.ty = t) := by
        simp [he]
      rw [if_congr this rfl rfl]; simp [he]

theorem EdgeOK.addEdge {c : Dag} (h : EdgeOK c) {u v : NodeId} {k : Reg} (hnew : (⟨u, v, k⟩ : Edge) ∉ c.edges) :
    EdgeOK (c.addEdge u v k) :=
  h.append hnew (by simp [Dag.addEdge, hnew]) rfl

theorem EdgeOK.removeEdge {c : Dag} (h : EdgeOK c) (e0 : Edge) : EdgeOK (c.removeEdge e0) := by
  have hedges : (c.removeEdge e0).edges = c.edges.erase e0 := rfl
  have hdict : (c.removeEdge e0).edgeDict = dictRemove c.edgeDict e0.key.ty e0 := rfl
  constructor
  · rw [hedges]; exact h.nodup.erase _
  · intro t e
    rw [hdict, dictGet_dictRemove, hedges]
    by_cases ht : t = e0.key.ty
    · subst ht
      rw [if_pos rfl, List.count_erase, h.dict]
      by_cases he : e = e0
      · subst he
        have : ¬ (e ∈ c.edges.erase e ∧ e.key.ty = e.key.ty) := by
          rw [h.nodup.mem_erase_iff]; intro hh; exact hh.1.1 rfl
        rw [if_neg this]
        by_cases hm : e ∈ c.edges <;> simp [hm]
      · have hne : ¬ (e0 == e) = true := by simpa using fun e' => he e'.symm
        rw [if_neg hne, Nat.sub_zero]
        refine if_congr ?_ rfl rfl
        rw [h.nodup.mem_erase_iff]; simp [he]
    · rw [if_neg ht, h.dict]
      refine if_congr ?_ rfl rfl
      rw [h.nodup.mem_erase_iff]
      constructor
      · rintro ⟨h1, h2⟩
        refine ⟨⟨?_, h1⟩, h2⟩
        intro e'; subst e'; exact ht h2.symm
      · rintro ⟨⟨_, h1⟩, h2⟩; exact ⟨h1, h2⟩

theorem mem_removeEdge {c : Dag} (h : EdgeOK c) (e0 e : Edge) : e ∈ (c.removeEdge e0).edges ↔ e ∈ c.edges ∧ e ≠ e0 := by
  show e ∈ c.edges.erase e0 ↔ _
  rw [h.nodup.mem_erase_iff, and_comm]

/-! ## the splice step -/

theorem Inv.live_of_mem {c : Dag} {P : Paths} (h : Inv c P) {k : Reg} {n : NodeId} (hn : n ∈ P k) : c.live k := by
  by_cases hl : c.live k
  · exact hl
  · rw [h.dead k hl] at hn; simp at hn

theorem Inv.live_of_edge {c : Dag} {P : Paths} (h : Inv c P) {e : Edge} (he : e ∈ c.edges) : c.live e.key :=
  h.live_of_mem ((h.edges_iff e).mp he).mem.1

theorem Inv.src_ne_out {c : Dag} {P : Paths} (h : Inv c P) {e : Edge} (he : e ∈ c.edges) : e.src ≠ .out e.key := by
  intro hsrc
  obtain ⟨mid, hP, _⟩ := h.shape _ (h.live_of_edge he)
  have hc := (h.edges_iff e).mp he
  have hn := h.nodup e.key
  rw [hP, hsrc] at hc
  rw [hP] at hn
  have e1 : NodeId.inp e.key :: (mid ++ [NodeId.out e.key]) = (NodeId.inp e.key :: mid) ++ [NodeId.out e.key] := by simp
  rw [e1] at hc hn
  exact consec_last_no_succ hn hc

theorem Inv.dst_ne_inp {c : Dag} {P : Paths} (h : Inv c P) {e : Edge} (he : e ∈ c.edges) : e.dst ≠ .inp e.key := by
  intro hdst
  obtain ⟨mid, hP, _⟩ := h.shape _ (h.live_of_edge he)
  have hc := (h.edges_iff e).mp he
  have hn := h.nodup e.key
  rw [hP, hdst] at hc
  rw [hP] at hn
  exact consec_head_no_pred hn hc

theorem Inv.edge_eq_of_dst {c : Dag} {P : Paths} (h : Inv c P) {a b : Edge} (ha : a ∈ c.edges) (hb : b ∈ c.edges)
    (hk : a.key = b.key) (hd : a.dst = b.dst) : a = b := by
  have c1 := (h.edges_iff a).mp ha
  have c2 := (h.edges_iff b).mp hb
  rw [hk, hd] at c1
  have := consec_pred_unique (h.nodup _) c1 c2
  obtain ⟨s1, d1, k1⟩ := a
  obtain ⟨s2, d2, k2⟩ := b
  simp only at hk hd this
  rw [this, hk, hd]

theorem Inv.edge_eq_of_src {c : Dag} {P : Paths} (h : Inv c P) {a b : Edge} (ha : a ∈ c.edges) (hb : b ∈ c.edges)
    (hk : a.key = b.key) (hs : a.src = b.src) : a = b := by
  have c1 := (h.edges_iff a).mp ha
  have c2 := (h.edges_iff b).mp hb
  rw [hk, hs] at c1
  have := consec_succ_unique (h.nodup _) c1 c2
  obtain ⟨s1, d1, k1⟩ := a
  obtain ⟨s2, d2, k2⟩ := b
  simp only at hk hs this
  rw [this, hk, hs]

theorem Inv.cut {c : Dag} {P : Paths} (h : Inv c P) {r : Reg} {X Y : List NodeId} {n : NodeId} (hP : P r = X ++ n :: Y) :
    n ∉ X ∧ n ∉ Y ∧ ∀ x ∈ X ++ Y, x ≠ n ∧ x ∈ c.nodeIds := by
  have hnd := h.nodup r
  rw [hP] at hnd
  have hX : n ∉ X := fun hm => (List.nodup_append.mp hnd).2.2 _ hm _ (by simp) rfl
  have hY : n ∉ Y := (List.nodup_cons.mp (List.nodup_append.mp hnd).2.1).1
  refine ⟨hX, hY, fun x hx => ⟨fun e => ?_, h.mem_nodes r x ?_⟩⟩
  · rcases List.mem_append.mp hx with hx | hx
    · exact hX (e ▸ hx)
    · exact hY (e ▸ hx)
  · rw [hP]
    rcases List.mem_append.mp hx with hx | hx
    · exact List.mem_append_left _ hx
    · exact List.mem_append_right _ (List.mem_cons_of_mem _ hx)

structure SpliceHyp (c : Dag) (P : Paths) (n u v : NodeId) (k : Reg) : Prop where
  inv : Inv c P
  he : (⟨u, v, k⟩ : Edge) ∈ c.edges
  hnP : n ∉ P k

namespace SpliceHyp
variable {c : Dag} {P : Paths} {n u v : NodeId} {k : Reg} (H : SpliceHyp c P n u v k)
include H

theorem cons : Consec (P k) u v := (H.inv.edges_iff ⟨u, v, k⟩).mp H.he
theorem nu : n ≠ u := fun e => H.hnP (e ▸ H.cons.mem.1)
theorem nv : n ≠ v := fun e => H.hnP (e ▸ H.cons.mem.2)
theorem e1_notin : (⟨u, n, k⟩ : Edge) ∉ c.edges := fun hm => H.hnP ((H.inv.edges_iff ⟨u, n, k⟩).mp hm).mem.2
theorem e2_notin : (⟨n, v, k⟩ : Edge) ∉ c.edges := fun hm => H.hnP ((H.inv.edges_iff ⟨n, v, k⟩).mp hm).mem.1
theorem e12 : (⟨n, v, k⟩ : Edge) ≠ ⟨u, n, k⟩ := by intro e; injection e with e _ _; exact H.nu e

/-- both edges a splice adds are new, so the bookkeeping of its three steps is exact -/
theorem edgeOK2 : EdgeOK ((c.addEdge u n k).addEdge n v k) := by
  refine (H.inv.edgeOK.addEdge H.e1_notin).addEdge ?_
  rw [mem_addEdge]
  rintro (hm | hm)
  · exact H.e2_notin hm
  · exact H.e12 hm

theorem edgeOK : EdgeOK (c.splice n ⟨u, v, k⟩) := H.edgeOK2.removeEdge _

theorem mem_iff (e' : Edge) : e' ∈ (c.splice n ⟨u, v, k⟩).edges ↔
    (e' ∈ c.edges ∨ e' = ⟨u, n, k⟩ ∨ e' = ⟨n, v, k⟩) ∧ e' ≠ ⟨u, v, k⟩ := by
  rw [show c.splice n ⟨u, v, k⟩ = ((c.addEdge u n k).addEdge n v k).removeEdge ⟨u, v, k⟩ from rfl,
    mem_removeEdge H.edgeOK2, mem_addEdge, mem_addEdge, or_assoc]

theorem edges_iff (e' : Edge) : e' ∈ (c.splice n ⟨u, v, k⟩).edges ↔
    Consec (setPath P k (insertAfter (P k) u n) e'.key) e'.src e'.dst := by
  rw [H.mem_iff]
  by_cases hk : e'.key = k
  · obtain ⟨x, y, k'⟩ := e'
    simp only at hk; subst hk
    simp only [setPath_same]
    rw [consec_insertAfter (H.inv.nodup k') H.cons H.hnP, ← H.inv.edges_iff ⟨x, y, k'⟩]
    simp only [Edge.mk.injEq, ne_eq, and_true]
    exact prop_splice (fun ⟨_, h1⟩ ⟨_, h2⟩ => H.nv (h1.symm.trans h2)) (fun ⟨h1, _⟩ ⟨h2, _⟩ => H.nu (h1.symm.trans h2))
  · rw [setPath_other _ _ hk, ← H.inv.edges_iff e']
    exact prop_other (fun e => hk (by rw [e])) (fun e => hk (by rw [e])) (fun e => hk (by rw [e]))

end SpliceHyp

theorem splice_inv {c : Dag} {P : Paths} (h : Inv c P) {e : Edge} (he : e ∈ c.edges) {n : NodeId} {i : Nat}
    (hn : n = .op i) (hnodes : n ∈ c.nodeIds) (hnP : n ∉ P e.key) :
    Inv (c.splice n e) (setPath P e.key (insertAfter (P e.key) e.src n)) := by
  obtain ⟨u, v, k⟩ := e
  simp only at hnP ⊢
  have H : SpliceHyp c P n u v k := ⟨h, he, hnP⟩
  have hlive : c.live k := h.live_of_edge he
  have hu : u ∈ P k := H.cons.mem.1
  refine
    { edges_nodup := H.edgeOK.nodup
      edges_iff := H.edges_iff
      dead := ?_
      shape := ?_
      nodup := ?_
      mem_nodes := ?_
      edgeDict_ok := H.edgeOK.dict
      ids_nodup := by simpa [nodeIds] using h.ids_nodup
      inp_iff := by intro r; simpa [nodeIds, live] using h.inp_iff r
      out_iff := by intro r; simpa [nodeIds, live] using h.out_iff r
      inp_op := by intro r op; simpa using h.inp_op r op
      out_op := by intro r op; simpa using h.out_op r op
      op_range := by intro j; simpa [nodeIds] using h.op_range j
      op_wf := by intro j op; simpa using h.op_wf j op
      nodeDict_ok := by
        intro l m
        rw [splice_nodeDict, indexCount_eq_of_nodes (splice_nodes c n _)]
        exact h.nodeDict_ok l m }
  · intro k' hk'
    have hk' : ¬ c.live k' := by simpa [live] using hk'
    have : k' ≠ k := fun e => hk' (e ▸ hlive)
    rw [setPath_other _ _ this]; exact h.dead k' hk'
  · intro k' hk'
    have hk' : c.live k' := by simpa [live] using hk'
    by_cases hkk : k' = k
    · subst hkk
      obtain ⟨mid, hP, hmid⟩ := h.shape _ hlive
      simp only [setPath_same]
      rw [hP]
      by_cases hu0 : NodeId.inp k' = u
      · refine ⟨n :: mid, by simp [insertAfter, hu0], ?_⟩
        intro m hm; rcases List.mem_cons.mp hm with rfl | hm
        · exact ⟨i, hn⟩
        · exact hmid m hm
      · have hu' : u ∈ mid := by
          rw [hP] at hu
          rcases List.mem_cons.mp hu with e | hu
          · exact absurd e.symm hu0
          · rcases List.mem_append.mp hu with hu | hu
            · exact hu
            · simp at hu
              exact absurd hu (h.src_ne_out he)
        refine ⟨insertAfter mid u n, ?_, ?_⟩
        · simp [insertAfter, hu0, insertAfter_append_of_mem hu']
        · intro m hm
          rcases (mem_insertAfter hu').mp hm with hm | rfl
          · exact hmid m hm
          · exact ⟨i, hn⟩
    · rw [setPath_other _ _ hkk]; exact h.shape k' hk'
  · intro k'
    by_cases hkk : k' = k
    · subst hkk; simp only [setPath_same]; exact insertAfter_nodup (h.nodup k') hnP
    · rw [setPath_other _ _ hkk]; exact h.nodup k'
  · intro k' m hm
    rw [nodeIds_eq_of_nodes (splice_nodes c n _)]
    by_cases hkk : k' = k
    · subst hkk
      simp only [setPath_same] at hm
      rcases (mem_insertAfter hu).mp hm with hm | rfl
      · exact h.mem_nodes _ m hm
      · exact hnodes
    · rw [setPath_other _ _ hkk] at hm; exact h.mem_nodes k' m hm

/-! ## node lookups -/

theorem mem_nodeIds {c : Dag} {n : NodeId} : n ∈ c.nodeIds ↔ ∃ op, (n, op) ∈ c.nodes := by
  simp [nodeIds]

theorem hasNode_iff {c : Dag} {n : NodeId} : c.hasNode n = true ↔ n ∈ c.nodeIds := by
  simp [hasNode]

theorem find_fst_of_nodup {l : List (NodeId × Op)} (hnd : (l.map (·.1)).Nodup) {n : NodeId} {op : Op}
    (h : (n, op) ∈ l) : l.find? (fun p => p.1 = n) = some (n, op) := by
  induction l with
  | nil => simp at h
  | cons a t ih =>
    have hnd' : a.1 ∉ t.map (·.1) ∧ (t.map (·.1)).Nodup := by
      rw [List.map_cons] at hnd; exact List.nodup_cons.mp hnd
    rcases List.mem_cons.mp h with rfl | h
    · simp
    · have : a.1 ≠ n := by
        intro e
        apply hnd'.1
        rw [e]
        exact List.mem_map.mpr ⟨(n, op), h, rfl⟩
      simp [this, ih hnd'.2 h]

theorem opOf_eq_some {c : Dag} (hnd : c.nodeIds.Nodup) {n : NodeId} {op : Op} :
    c.opOf? n = some op ↔ (n, op) ∈ c.nodes := by
  constructor
  · intro h
    unfold opOf? at h
    split at h
    · rename_i p hp
      have := List.find?_some hp
      have hm := List.mem_of_find?_eq_some hp
      simp at this h
      subst h; rw [← this]; exact hm
    · simp at h
  · intro h
    unfold opOf?
    rw [find_fst_of_nodup hnd h]

theorem opOf_eq_none {c : Dag} {n : NodeId} : c.opOf? n = none ↔ n ∉ c.nodeIds := by
  unfold opOf?
  constructor
  · intro h hm
    obtain ⟨op, hop⟩ := mem_nodeIds.mp hm
    split at h
    · simp at h
    · rename_i hf
      have := List.find?_eq_none.mp hf (n, op) hop
      simp at this
  · intro h
    split
    · rename_i p hp
      have hm := List.mem_of_find?_eq_some hp
      have := List.find?_some hp
      simp at this
      exact absurd (mem_nodeIds.mpr ⟨p.2, by rw [← this]; exact hm⟩) h
    · rfl

theorem Inv.op_unique {c : Dag} {P : Paths} (h : Inv c P) {n : NodeId} {o o' : Op} (h1 : (n, o) ∈ c.nodes)
    (h2 : (n, o') ∈ c.nodes) : o = o' := by
  have e := (opOf_eq_some h.ids_nodup).mpr h1
  rw [(opOf_eq_some h.ids_nodup).mpr h2] at e
  injection e with e
  exact e.symm

theorem opOf_append_other {c c' : Dag} {extra : List (NodeId × Op)} (h : c'.nodes = c.nodes ++ extra) {x : NodeId}
    (hx : ∀ p ∈ extra, p.1 ≠ x) : c'.opOf? x = c.opOf? x := by
  have : extra.find? (fun p => decide (p.1 = x)) = none :=
    List.find?_eq_none.mpr (fun p hp => by simpa using hx p hp)
  unfold opOf?
  rw [h, List.find?_append, this]
  cases c.nodes.find? (fun p => decide (p.1 = x)) <;> rfl

theorem opOf_filter_ne {c c' : Dag} {n : NodeId} (h : c'.nodes = c.nodes.filter (fun p => p.1 ≠ n)) {x : NodeId}
    (hx : x ≠ n) : c'.opOf? x = c.opOf? x := by
  have : (fun p : NodeId × Op => decide (decide (p.1 ≠ n) = true ∧ decide (p.1 = x) = true)) =
      fun p => decide (p.1 = x) := by
    funext p
    by_cases hp : p.1 = x
    · simp [hp, hx]
    · simp [hp]
  unfold opOf?
  rw [h, List.find?_filter, this]

theorem mem_nodeIds_of_opOf_eq {c c' : Dag} {x : NodeId} (h : c'.opOf? x = c.opOf? x) (hx : x ∈ c.nodeIds) :
    x ∈ c'.nodeIds := by
  by_cases hn : x ∈ c'.nodeIds
  · exact hn
  · rw [opOf_eq_none.mpr hn] at h
    exact absurd hx (opOf_eq_none.mp h.symm)

theorem mem_nodes_of_opOf_eq {c c' : Dag} {P P' : Paths} (h : Inv c P) (h' : Inv c' P') {x : NodeId}
    (e : c'.opOf? x = c.opOf? x) {op : Op} (hm : (x, op) ∈ c'.nodes) : (x, op) ∈ c.nodes :=
  (opOf_eq_some h.ids_nodup).mp (e ▸ (opOf_eq_some h'.ids_nodup).mpr hm)

theorem opOf_append_new {c c' : Dag} {n : NodeId} {o : Op} {rest : List (NodeId × Op)} (hfresh : n ∉ c.nodeIds)
    (h : c'.nodes = c.nodes ++ (n, o) :: rest) : c'.opOf? n = some o := by
  have h1 := opOf_eq_none.mpr hfresh
  unfold opOf? at h1 ⊢
  rw [h, List.find?_append]
  cases hf : c.nodes.find? (fun p => decide (p.1 = n)) with
  | some p => rw [hf] at h1; simp at h1
  | none => simp

/-- `node_dict` lists every node under each of its keys, as often as the key occurs -/
def NodeDictOK (c : Dag) : Prop := ∀ l n, (dictGet c.nodeDict l).count n = c.indexCount n l

theorem NodeDictOK.append {c c' : Dag} (h : NodeDictOK c) {n : NodeId} {o : Op} (hfresh : n ∉ c.nodeIds)
    (hnodes : c'.nodes = c.nodes ++ [(n, o)])
    (hdict : c'.nodeDict = (indexKeysOf n o).foldl (fun d k => dictAppend d k n) c.nodeDict) : NodeDictOK c' := by
  intro l m
  rw [hdict, count_dictGet_foldl_append, h]
  by_cases hm : m = n
  · subst hm
    simp [indexCount, opOf_eq_none.mpr hfresh, opOf_append_new hfresh hnodes]
  · have : c'.opOf? m = c.opOf? m :=
      opOf_append_other hnodes (fun p hp e => hm (by rw [List.mem_singleton.mp hp] at e; exact e.symm))
    simp [indexCount, this, hm]

/-! ## `_unique_node_id` + `_add_node` -/

theorem Inv.op_fresh {c : Dag} {P : Paths} (h : Inv c P) : NodeId.op (c.nodeId + 1) ∉ c.nodeIds := by
  intro hm
  have := (h.op_range _ hm).2
  omega

theorem Inv.opOf_append_fresh {c c' : Dag} {P : Paths} (h : Inv c P) {w : Op}
    (hn : c'.nodes = c.nodes ++ [(.op (c.nodeId + 1), w)]) {x : NodeId} (hx : x ∈ c.nodeIds) : c'.opOf? x = c.opOf? x := by
  apply opOf_append_other hn
  intro p hp e
  rw [List.mem_singleton.mp hp] at e
  subst e
  exact h.op_fresh hx

theorem newNode_nodes {c : Dag} {P : Paths} (h : Inv c P) (op : Op) :
    (c.newNode op).nodes = c.nodes ++ [(.op (c.nodeId + 1), op)] := by
  have : ({ c with nodeId := c.nodeId + 1 } : Dag).hasNode (.op (c.nodeId + 1)) = false := by
    have := h.op_fresh
    simpa [hasNode, nodeIds] using this
  simp only [newNode, addNode, this]
  simp

@[simp] theorem newNode_edges (c : Dag) (op : Op) : (c.newNode op).edges = c.edges := rfl
@[simp] theorem newNode_edgeDict (c : Dag) (op : Op) : (c.newNode op).edgeDict = c.edgeDict := rfl
@[simp] theorem newNode_nodeId (c : Dag) (op : Op) : (c.newNode op).nodeId = c.nodeId + 1 := rfl
@[simp] theorem newNode_regs (c : Dag) (op : Op) : (c.newNode op).regs = c.regs := by funext t; cases t <;> rfl
theorem newNode_nodeDict (c : Dag) (op : Op) :
    (c.newNode op).nodeDict = op.indexKeys.foldl (fun d k => dictAppend d k (.op (c.nodeId + 1))) c.nodeDict := rfl

theorem newNode_inv {c : Dag} {P : Paths} (h : Inv c P) {op : Op} (hop : OpWF op) : Inv (c.newNode op) P := by
  have hnodes := newNode_nodes h op
  have hfresh := h.op_fresh
  have hids : (c.newNode op).nodeIds = c.nodeIds ++ [.op (c.nodeId + 1)] := by simp [nodeIds, hnodes]
  have hnd' : (c.newNode op).nodeIds.Nodup := by
    rw [hids, List.nodup_append]
    refine ⟨h.ids_nodup, by simp, ?_⟩
    intro a ha b hb; simp at hb; subst hb; intro e; subst e; exact hfresh ha
  refine
    { edges_nodup := h.edges_nodup
      edges_iff := h.edges_iff
      dead := by intro k hk; exact h.dead k (by simpa [live] using hk)
      shape := by intro k hk; exact h.shape k (by simpa [live] using hk)
      nodup := h.nodup
      mem_nodes := by intro k n hn; rw [hids]; exact List.mem_append_left _ (h.mem_nodes k n hn)
      edgeDict_ok := h.edgeDict_ok
      ids_nodup := hnd'
      inp_iff := by intro r; rw [hids]; simpa [live] using h.inp_iff r
      out_iff := by intro r; rw [hids]; simpa [live] using h.out_iff r
      inp_op := by
        intro r op' hm; rw [hnodes] at hm
        rcases List.mem_append.mp hm with hm | hm
        · exact h.inp_op r op' hm
        · simp at hm
      out_op := by
        intro r op' hm; rw [hnodes] at hm
        rcases List.mem_append.mp hm with hm | hm
        · exact h.out_op r op' hm
        · simp at hm
      op_range := by
        intro j hj; rw [hids] at hj
        rcases List.mem_append.mp hj with hj | hj
        · have := h.op_range j hj; simp only [newNode_nodeId]; omega
        · simp at hj; subst hj; simp only [newNode_nodeId]; omega
      op_wf := by
        intro j op' hm; rw [hnodes] at hm
        rcases List.mem_append.mp hm with hm | hm
        · exact h.op_wf j op' hm
        · simp at hm; rw [hm.2]; exact hop
      nodeDict_ok := NodeDictOK.append h.nodeDict_ok hfresh hnodes (newNode_nodeDict c op) }

/-! ## `_add_reg_if_absent` -/

theorem Inv.edge_nodes {c : Dag} {P : Paths} (h : Inv c P) {e : Edge} (he : e ∈ c.edges) :
    e.src ∈ c.nodeIds ∧ e.dst ∈ c.nodeIds := by
  have := ((h.edges_iff e).mp he).mem
  exact ⟨h.mem_nodes _ _ this.1, h.mem_nodes _ _ this.2⟩

theorem E_nodes {c : Dag} {P : Paths} (h : Inv c P) {a b : NodeId} (hab : c.E a b) : a ∈ c.nodeIds ∧ b ∈ c.nodeIds := by
  obtain ⟨e, he, rfl, rfl⟩ := hab
  exact h.edge_nodes he

theorem incReg_regs (c : Dag) (t t' : RegType) : (c.incReg t).regs t' = if t' = t then c.regs t + 1 else c.regs t' := by
  cases t <;> cases t' <;> simp [incReg, regs]

@[simp] theorem incReg_nodes (c : Dag) (t : RegType) : (c.incReg t).nodes = c.nodes := by cases t <;> rfl
@[simp] theorem incReg_edges (c : Dag) (t : RegType) : (c.incReg t).edges = c.edges := by cases t <;> rfl
@[simp] theorem incReg_nodeDict (c : Dag) (t : RegType) : (c.incReg t).nodeDict = c.nodeDict := by cases t <;> rfl
@[simp] theorem incReg_edgeDict (c : Dag) (t : RegType) : (c.incReg t).edgeDict = c.edgeDict := by cases t <;> rfl
@[simp] theorem incReg_nodeId (c : Dag) (t : RegType) : (c.incReg t).nodeId = c.nodeId := by cases t <;> rfl

/-- the state `_add_reg_if_absent` produces when it creates register `r` -/
def withNewReg (c : Dag) (r : Reg) : Dag :=
  { (c.incReg r.ty) with
    nodes := c.nodes ++ [(.inp r, Op.io .input r), (.out r, Op.io .output r)],
    nodeDict := dictAppend (dictAppend c.nodeDict "Input" (.inp r)) "Output" (.out r),
    edges := c.edges ++ [⟨.inp r, .out r, r⟩],
    edgeDict := dictAppend c.edgeDict r.ty ⟨.inp r, .out r, r⟩ }

theorem withNewReg_regs (c : Dag) (r : Reg) (t : RegType) :
    (c.withNewReg r).regs t = if t = r.ty then c.regs r.ty + 1 else c.regs t := by
  have : (c.withNewReg r).regs t = (c.incReg r.ty).regs t := by cases t <;> rfl
  rw [this, incReg_regs]

theorem filter_eq_singleton {α : Type} {l : List α} {p : α → Bool} {a : α} (hnd : l.Nodup) (ha : a ∈ l) (hpa : p a = true)
    (huniq : ∀ x ∈ l, p x = true → x = a) : l.filter p = [a] := by
  induction l with
  | nil => simp at ha
  | cons b t ih =>
    have hnd' := List.nodup_cons.mp hnd
    rcases List.mem_cons.mp ha with rfl | ha
    · have : t.filter p = [] := by
        rw [List.filter_eq_nil_iff]
        intro x hx hpx
        have := huniq x (List.mem_cons_of_mem _ hx) hpx
        subst this; exact hnd'.1 hx
      simp [hpa, this]
    · have hb : p b = false := by
        cases hpb : p b with
        | false => rfl
        | true =>
          have := huniq b (by simp) hpb
          subst this; exact absurd ha hnd'.1
      rw [List.filter_cons, hb]
      simpa using ih hnd'.2 ha (fun x hx => huniq x (List.mem_cons_of_mem _ hx))

theorem addRegIfAbsent_new {c : Dag} {P : Paths} (h : Inv c P) {r : Reg} (hr : r.idx = c.regs r.ty) :
    c.addRegIfAbsent r = (c.withNewReg r, none) := by
  have hnl : ¬ c.live r := by simp [live, hr]
  have hinp : NodeId.inp r ∉ c.nodeIds := fun hm => hnl ((h.inp_iff r).mp hm)
  have hout : NodeId.out r ∉ c.nodeIds := fun hm => hnl ((h.out_iff r).mp hm)
  have he : (⟨.inp r, .out r, r⟩ : Edge) ∉ c.edges := fun hm => hinp (h.edge_nodes hm).1
  unfold addRegIfAbsent
  have h1 : ¬ c.regs r.ty < r.idx := by omega
  have h2 : ¬ ((c.incReg r.ty).hasNode (.inp r) = true) := by
    rw [hasNode_iff]; simpa [nodeIds] using hinp
  simp only [hr, if_true, h2]
  -- the in-edges of the fresh output node
  have hfil : (c.edges ++ [(⟨.inp r, .out r, r⟩ : Edge)]).filter (fun e => e.dst = .out r) = [⟨.inp r, .out r, r⟩] := by
    rw [List.filter_append]
    have : c.edges.filter (fun e => e.dst = .out r) = [] := by
      rw [List.filter_eq_nil_iff]
      intro e hm hd
      simp at hd
      exact hout (hd ▸ (h.edge_nodes hm).2)
    rw [this]; simp
  simp only [inEdges, incReg_edges, he, if_false, hfil, List.head?_cons]
  simp [withNewReg]

theorem addRegIfAbsent_old {c : Dag} {P : Paths} (h : Inv c P) {r : Reg} (hr : c.live r) :
    c.addRegIfAbsent r = (c, none) := by
  unfold addRegIfAbsent
  have h1 : ¬ c.regs r.ty < r.idx := by unfold live at hr; omega
  have h2 : ¬ r.idx = c.regs r.ty := by unfold live at hr; omega
  have h3 : c.hasNode (.inp r) = true := hasNode_iff.mpr ((h.inp_iff r).mpr hr)
  simp [h1, h2, h3]

theorem addRegIfAbsent_gap {c : Dag} {r : Reg} (hr : c.regs r.ty < r.idx) :
    c.addRegIfAbsent r = (c, some .value) := by
  unfold addRegIfAbsent; simp [hr]

theorem withNewReg_live (c : Dag) (r k : Reg) (hr : r.idx = c.regs r.ty) :
    (c.withNewReg r).live k ↔ c.live k ∨ k = r := by
  unfold live
  rw [withNewReg_regs]
  by_cases ht : k.ty = r.ty
  · simp only [ht, if_true]
    constructor
    · intro h
      by_cases hk : k.idx < c.regs r.ty
      · exact Or.inl hk
      · right
        cases k; cases r; simp_all; omega
    · rintro (h | rfl)
      · omega
      · omega
  · simp only [ht, if_false]
    constructor
    · exact Or.inl
    · rintro (h | rfl)
      · exact h
      · exact absurd rfl ht

theorem withNewReg_opOf (c : Dag) (r : Reg) {x : NodeId} (hi : x ≠ .inp r) (ho : x ≠ .out r) :
    (c.withNewReg r).opOf? x = c.opOf? x := by
  apply opOf_append_other (extra := [(.inp r, Op.io .input r), (.out r, Op.io .output r)]) rfl
  intro p hp e
  rcases List.mem_cons.mp hp with rfl | hp
  · exact hi e.symm
  · rw [List.mem_singleton.mp hp] at e; exact ho e.symm

theorem withNewReg_inv {c : Dag} {P : Paths} (h : Inv c P) {r : Reg} (hr : r.idx = c.regs r.ty) :
    Inv (c.withNewReg r) (setPath P r [.inp r, .out r]) := by
  have hnl : ¬ c.live r := by simp [live, hr]
  have hinp : NodeId.inp r ∉ c.nodeIds := fun hm => hnl ((h.inp_iff r).mp hm)
  have hout : NodeId.out r ∉ c.nodeIds := fun hm => hnl ((h.out_iff r).mp hm)
  have he : (⟨.inp r, .out r, r⟩ : Edge) ∉ c.edges := fun hm => hinp (h.edge_nodes hm).1
  have hPr : P r = [] := h.dead r hnl
  have hnodes : (c.withNewReg r).nodes = c.nodes ++ [(.inp r, Op.io .input r), (.out r, Op.io .output r)] := rfl
  have hids : (c.withNewReg r).nodeIds = c.nodeIds ++ [.inp r, .out r] := by simp [nodeIds, hnodes]
  have hedges : (c.withNewReg r).edges = c.edges ++ [⟨.inp r, .out r, r⟩] := rfl
  have hEO : EdgeOK (c.withNewReg r) := h.edgeOK.append he rfl rfl
  have hnd' : (c.withNewReg r).nodeIds.Nodup := by
    rw [hids, List.nodup_append]
    refine ⟨h.ids_nodup, by simp, ?_⟩
    intro a ha b hb e; subst e
    simp at hb
    rcases hb with rfl | rfl
    · exact hinp ha
    · exact hout ha
  refine
    { edges_nodup := hEO.nodup
      edges_iff := ?_
      dead := ?_
      shape := ?_
      nodup := ?_
      mem_nodes := ?_
      edgeDict_ok := hEO.dict
      ids_nodup := hnd'
      inp_iff := ?_
      out_iff := ?_
      inp_op := ?_
      out_op := ?_
      op_range := ?_
      op_wf := ?_
      nodeDict_ok := ?_ }
  · intro e'
    rw [hedges, List.mem_append, List.mem_singleton]
    by_cases hk : e'.key = r
    · obtain ⟨x, y, k⟩ := e'
      simp only at hk; subst hk
      simp only [setPath_same, consec_cons_cons, consec_single, or_false]
      constructor
      · rintro (hm | hm)
        · exact absurd (h.live_of_edge hm) hnl
        · injection hm with h1 h2 _; exact ⟨h1.symm, h2.symm⟩
      · rintro ⟨rfl, rfl⟩; exact Or.inr rfl
    · rw [setPath_other _ _ hk, ← h.edges_iff e']
      constructor
      · rintro (hm | hm)
        · exact hm
        · exact absurd (by rw [hm]) hk
      · exact Or.inl
  · intro k hk
    rw [withNewReg_live c r k hr] at hk
    have hkr : k ≠ r := fun e => hk (Or.inr e)
    rw [setPath_other _ _ hkr]
    exact h.dead k (fun hl => hk (Or.inl hl))
  · intro k hk
    rw [withNewReg_live c r k hr] at hk
    by_cases hkr : k = r
    · subst hkr
      exact ⟨[], by simp, by simp⟩
    · rw [setPath_other _ _ hkr]
      rcases hk with hk | hk
      · exact h.shape k hk
      · exact absurd hk hkr
  · intro k
    by_cases hkr : k = r
    · subst hkr; simp
    · rw [setPath_other _ _ hkr]; exact h.nodup k
  · intro k n hn
    rw [hids]
    by_cases hkr : k = r
    · subst hkr
      simp only [setPath_same] at hn
      exact List.mem_append_right _ hn
    · rw [setPath_other _ _ hkr] at hn
      exact List.mem_append_left _ (h.mem_nodes k n hn)
  · intro k
    rw [hids, withNewReg_live c r k hr, List.mem_append, h.inp_iff k]
    simp
  · intro k
    rw [hids, withNewReg_live c r k hr, List.mem_append, h.out_iff k]
    simp
  · intro k op hm
    rw [hnodes] at hm
    rcases List.mem_append.mp hm with hm | hm
    · exact h.inp_op k op hm
    · simp at hm; obtain ⟨rfl, rfl⟩ := hm; rfl
  · intro k op hm
    rw [hnodes] at hm
    rcases List.mem_append.mp hm with hm | hm
    · exact h.out_op k op hm
    · simp at hm; obtain ⟨rfl, rfl⟩ := hm; rfl
  · intro j hj
    rw [hids] at hj
    rcases List.mem_append.mp hj with hj | hj
    · have := h.op_range j hj
      have hid : (c.withNewReg r).nodeId = c.nodeId := by simp [withNewReg]
      rw [hid]; exact this
    · simp at hj
  · intro j op hm
    rw [hnodes] at hm
    rcases List.mem_append.mp hm with hm | hm
    · exact h.op_wf j op hm
    · simp at hm
  · -- nodeDict_ok: the input marker is filed first, then the output marker
    let c1 : Dag := { c with nodes := c.nodes ++ [(.inp r, Op.io .input r)],
                             nodeDict := dictAppend c.nodeDict "Input" (.inp r) }
    have h1 : NodeDictOK c1 := NodeDictOK.append h.nodeDict_ok hinp rfl rfl
    have hout1 : NodeId.out r ∉ c1.nodeIds := by
      simp only [c1, nodeIds, List.map_append, List.mem_append, not_or]
      exact ⟨hout, by simp⟩
    exact h1.append (o := Op.io .output r) hout1 (by rw [hnodes]; simp [c1]) rfl

theorem Good.qregs_live {c : Dag} {P : Paths} (g : Good c P) {i : Nat} {op : Op} (hm : (NodeId.op i, op) ∈ c.nodes)
    {k : Reg} (hk : k ∈ op.qregs) : c.live k := by
  have hq := (g.inv.op_wf i op hm).qregs_quantum k hk
  exact g.inv.live_of_mem ((g.mem.mem_q i op hm k hq).mpr hk)

theorem withNewReg_good {c : Dag} {P : Paths} (g : Good c P) {r : Reg} (hr : r.idx = c.regs r.ty) :
    Good (c.withNewReg r) (setPath P r [.inp r, .out r]) := by
  have hnl : ¬ c.live r := by simp [live, hr]
  have hout : NodeId.out r ∉ c.nodeIds := fun hm => hnl ((g.inv.out_iff r).mp hm)
  have hnodes : (c.withNewReg r).nodes = c.nodes ++ [(.inp r, Op.io .input r), (.out r, Op.io .output r)] := rfl
  have hopn : ∀ i op, (NodeId.op i, op) ∈ (c.withNewReg r).nodes → (NodeId.op i, op) ∈ c.nodes := by
    intro i op hm
    rw [hnodes] at hm
    rcases List.mem_append.mp hm with hm | hm
    · exact hm
    · simp at hm
  refine ⟨withNewReg_inv g.inv hr, ⟨?_, ?_⟩, ?_⟩
  · intro i op hm k hk
    have hm' := hopn i op hm
    by_cases hkr : k = r
    · subst hkr
      simp only [setPath_same]
      constructor
      · intro h; simp at h
      · intro h; exact absurd (g.qregs_live hm' h) hnl
    · rw [setPath_other _ _ hkr]; exact g.mem.mem_q i op hm' k hk
  · intro i op hm k hk
    have hm' := hopn i op hm
    by_cases hkr : (⟨.c, k⟩ : Reg) = r
    · rw [hkr] at hk; simp at hk
    · rw [setPath_other _ _ hkr] at hk; exact g.mem.mem_c i op hm' k hk
  · have hE : ∀ a b, (c.withNewReg r).E a b → (c.E a b ∨ (a = .inp r ∧ b = .out r)) := by
      rintro a b ⟨e, he, rfl, rfl⟩
      have hedges : (c.withNewReg r).edges = c.edges ++ [⟨.inp r, .out r, r⟩] := rfl
      rw [hedges] at he
      rcases List.mem_append.mp he with he | he
      · exact Or.inl ⟨e, he, rfl, rfl⟩
      · simp at he; subst he; exact Or.inr ⟨rfl, rfl⟩
    have hs : ∀ b, ¬ c.E (.out r) b := fun b hb => hout (E_nodes g.inv hb).1
    have : AcyclicRel (fun a b => c.E a b ∨ (a = NodeId.inp r ∧ b = NodeId.out r)) :=
      AcyclicRel.add_sink_edge g.acyc hs (by intro e; cases e)
    exact this.mono hE

theorem mem_insertSorted (r : Reg) (l : List Reg) (x : Reg) : x ∈ insertSorted r l ↔ x = r ∨ x ∈ l := by
  induction l with
  | nil => simp [insertSorted]
  | cons a t ih =>
    unfold insertSorted
    split
    · rw [List.mem_cons]
    · rw [List.mem_cons, ih, List.mem_cons, or_left_comm]

theorem mem_sortRegs (l : List Reg) (x : Reg) : x ∈ sortRegs l ↔ x ∈ l := by
  induction l with
  | nil => simp [sortRegs]
  | cons a t ih =>
    have : sortRegs (a :: t) = insertSorted a (sortRegs t) := rfl
    rw [this, mem_insertSorted, ih]; simp

/-- all registers an operation is wired to by `add` (the same list as `Metrics.Spec.opRegs` of Model/Metrics.lean, which
    cannot import this file: `spec_opRegs_eq`) -/
def opRegs (op : Op) : List Reg := op.qregs ++ op.cregs.map (Reg.mk .c)

/-! ## splicing a node onto several wires (`_add`, `_insert_at`) -/

def splicePaths (n : NodeId) (es : List Edge) (P : Paths) : Paths :=
  es.foldl (fun P e => setPath P e.key (insertAfter (P e.key) e.src n)) P

def spliceAll (c : Dag) (n : NodeId) (es : List Edge) : Dag := es.foldl (fun c e => c.splice n e) c

theorem splicePaths_other (n : NodeId) (es : List Edge) (P : Paths) (k : Reg) (hk : k ∉ es.map (·.key)) :
    splicePaths n es P k = P k := by
  induction es generalizing P with
  | nil => rfl
  | cons e rest ih =>
    simp only [List.map_cons, List.mem_cons, not_or] at hk
    unfold splicePaths
    rw [List.foldl_cons]
    have := ih (setPath P e.key (insertAfter (P e.key) e.src n)) hk.2
    unfold splicePaths at this
    rw [this, setPath_other _ _ hk.1]

theorem splicePaths_mem (n : NodeId) (es : List Edge) (P : Paths) (hkeys : (es.map (·.key)).Nodup)
    (e : Edge) (he : e ∈ es) : splicePaths n es P e.key = insertAfter (P e.key) e.src n := by
  induction es generalizing P with
  | nil => simp at he
  | cons e0 rest ih =>
    have hnd : e0.key ∉ rest.map (·.key) ∧ (rest.map (·.key)).Nodup := List.nodup_cons.mp hkeys
    unfold splicePaths
    rw [List.foldl_cons]
    rcases List.mem_cons.mp he with rfl | he
    · have := splicePaths_other n rest (setPath P e.key (insertAfter (P e.key) e.src n)) e.key hnd.1
      unfold splicePaths at this
      rw [this, setPath_same]
    · have hne : e.key ≠ e0.key := by
        intro heq
        exact hnd.1 (heq ▸ List.mem_map.mpr ⟨e, he, rfl⟩)
      have := ih (setPath P e0.key (insertAfter (P e0.key) e0.src n)) hnd.2 he
      unfold splicePaths at this
      rw [this, setPath_other _ _ hne]

theorem spliceAll_inv {c : Dag} {P : Paths} (h : Inv c P) {n : NodeId} {i : Nat} (hn : n = .op i)
    (hnodes : n ∈ c.nodeIds) (es : List Edge) (hmem : ∀ e ∈ es, e ∈ c.edges) (hkeys : (es.map (·.key)).Nodup)
    (hnP : ∀ e ∈ es, n ∉ P e.key) :
    Inv (c.spliceAll n es) (splicePaths n es P) ∧ c.insertEdges n es = (c.spliceAll n es, none) := by
  induction es generalizing c P with
  | nil => exact ⟨h, rfl⟩
  | cons e rest ih =>
    have hnd : e.key ∉ rest.map (·.key) ∧ (rest.map (·.key)).Nodup := List.nodup_cons.mp hkeys
    have he : e ∈ c.edges := hmem e (by simp)
    have h1 := splice_inv h he hn hnodes (hnP e (by simp))
    have H : SpliceHyp c P n e.src e.dst e.key := ⟨h, he, hnP e (by simp)⟩
    have hne : ∀ e' ∈ rest, e'.key ≠ e.key := by
      intro e' he' heq
      exact hnd.1 (heq ▸ List.mem_map.mpr ⟨e', he', rfl⟩)
    have hmem' : ∀ e' ∈ rest, e' ∈ (c.splice n e).edges := by
      intro e' he'
      have := (H.mem_iff e').mpr ⟨Or.inl (hmem e' (List.mem_cons_of_mem _ he')), fun heq => hne e' he' (by rw [heq])⟩
      exact this
    have hnP' : ∀ e' ∈ rest, n ∉ setPath P e.key (insertAfter (P e.key) e.src n) e'.key := by
      intro e' he'
      rw [setPath_other _ _ (hne e' he')]
      exact hnP e' (List.mem_cons_of_mem _ he')
    have hnodes' : n ∈ (c.splice n e).nodeIds := by rw [nodeIds_eq_of_nodes (splice_nodes c n e)]; exact hnodes
    obtain ⟨hi, hins⟩ := ih h1 hnodes' hmem' hnd.2 hnP'
    refine ⟨hi, ?_⟩
    show insertEdges c n (e :: rest) = _
    unfold insertEdges
    rw [if_pos he, hins]
    rfl

theorem mem_splicePaths {c : Dag} {P : Paths} (h : Inv c P) (n : NodeId) (es : List Edge) (hmem : ∀ e ∈ es, e ∈ c.edges)
    (hkeys : (es.map (·.key)).Nodup) (k : Reg) (x : NodeId) :
    x ∈ splicePaths n es P k ↔ x ∈ P k ∨ (x = n ∧ k ∈ es.map (·.key)) := by
  by_cases hk : k ∈ es.map (·.key)
  · obtain ⟨e, he, rfl⟩ := List.mem_map.mp hk
    rw [splicePaths_mem n es P hkeys e he]
    have hu : e.src ∈ P e.key := ((h.edges_iff e).mp (hmem e he)).mem.1
    rw [mem_insertAfter hu]
    simp [hk]
  · rw [splicePaths_other n es P k hk]; simp [hk]

/-- the edges after splicing, read off the wires (`h'`) -/
theorem E_spliceAll {c c' : Dag} {P : Paths} (h : Inv c P) (n : NodeId) (es : List Edge) (hmem : ∀ e ∈ es, e ∈ c.edges)
    (hkeys : (es.map (·.key)).Nodup) (hnP : ∀ e ∈ es, n ∉ P e.key) (h' : Inv c' (splicePaths n es P)) (a b : NodeId)
    (hab : c'.E a b) :
    InsRel c.E n (fun u => ∃ e ∈ es, e.src = u) (fun v => ∃ e ∈ es, e.dst = v) a b := by
  obtain ⟨e', he', rfl, rfl⟩ := hab
  have hc := (h'.edges_iff e').mp he'
  by_cases hk : e'.key ∈ es.map (·.key)
  · obtain ⟨e, he, hek⟩ := List.mem_map.mp hk
    have hcons : Consec (P e.key) e.src e.dst := (h.edges_iff e).mp (hmem e he)
    rw [← hek, splicePaths_mem n es P hkeys e he, consec_insertAfter (h.nodup _) hcons (hnP e he)] at hc
    rcases hc with ⟨hc, _⟩ | ⟨h1, h2⟩ | ⟨h1, h2⟩
    · left
      exact ⟨⟨e'.src, e'.dst, e.key⟩, (h.edges_iff ⟨e'.src, e'.dst, e.key⟩).mpr hc, rfl, rfl⟩
    · right; left; exact ⟨h2, e, he, h1.symm⟩
    · right; right; exact ⟨h1, e, he, h2.symm⟩
  · rw [splicePaths_other n es P _ hk] at hc
    left
    exact ⟨e', (h.edges_iff e').mpr hc, rfl, rfl⟩

theorem spliceAll_acyclic {c c' : Dag} {P : Paths} (hinv : Inv c P) (hac : Acyclic c) (n : NodeId) (es : List Edge)
    (hmem : ∀ e ∈ es, e ∈ c.edges) (hkeys : (es.map (·.key)).Nodup) (hnP : ∀ k, n ∉ P k)
    (h' : Inv c' (splicePaths n es P))
    (hno : ∀ e1 ∈ es, ∀ e2 ∈ es, ¬ ReflTransGen c.E e1.dst e2.src) : Acyclic c' := by
  have hfresh : ∀ a, ¬ c.E a n ∧ ¬ c.E n a := by
    intro a
    constructor
    · rintro ⟨e, he, _, hd⟩
      exact hnP e.key (hd ▸ ((hinv.edges_iff e).mp he).mem.2)
    · rintro ⟨e, he, hs, _⟩
      exact hnP e.key (hs ▸ ((hinv.edges_iff e).mp he).mem.1)
  have hins : AcyclicRel (InsRel c.E n (fun u => ∃ e ∈ es, e.src = u) (fun v => ∃ e ∈ es, e.dst = v)) := by
    apply AcyclicRel.insert_fresh hac hfresh
    · rintro u ⟨e, he, rfl⟩ heq
      exact hnP e.key (heq ▸ ((hinv.edges_iff e).mp (hmem e he)).mem.1)
    · rintro v ⟨e, he, rfl⟩ heq
      exact hnP e.key (heq ▸ ((hinv.edges_iff e).mp (hmem e he)).mem.2)
    · rintro u v ⟨e2, he2, rfl⟩ ⟨e1, he1, rfl⟩
      exact hno e1 he1 e2 he2
  exact hins.mono (fun a b hab => E_spliceAll hinv n es hmem hkeys (fun e _ => hnP e.key) h' a b hab)

/-! ## `_add` -/

theorem Inv.mem_path_cases {c : Dag} {P : Paths} (h : Inv c P) {k : Reg} {x : NodeId} (hx : x ∈ P k) :
    x = .inp k ∨ x = .out k ∨ ∃ i, x = .op i := by
  obtain ⟨mid, hP, hmid⟩ := h.shape k (h.live_of_mem hx)
  rw [hP] at hx
  rcases List.mem_cons.mp hx with hx | hx
  · exact Or.inl hx
  · rcases List.mem_append.mp hx with hx | hx
    · exact Or.inr (Or.inr (hmid x hx))
    · simp at hx; exact Or.inr (Or.inl hx)

theorem Inv.out_mem {c : Dag} {P : Paths} (h : Inv c P) {k k' : Reg} (hx : NodeId.out k ∈ P k') : k' = k := by
  rcases h.mem_path_cases hx with e | e | ⟨i, e⟩
  · cases e
  · injection e with e; exact e.symm
  · cases e

theorem Inv.inp_mem {c : Dag} {P : Paths} (h : Inv c P) {k k' : Reg} (hx : NodeId.inp k ∈ P k') : k' = k := by
  rcases h.mem_path_cases hx with e | e | ⟨i, e⟩
  · injection e with e; exact e.symm
  · cases e
  · cases e

/-- the node before `out k` on the wire of `k` -/
def predOut (P : Paths) (k : Reg) : NodeId := ((P k).dropLast.getLast?).getD (.inp k)

/-- the edge into `out k` -/
def lastEdge (P : Paths) (k : Reg) : Edge := ⟨predOut P k, .out k, k⟩

theorem Inv.path_split_last {c : Dag} {P : Paths} (h : Inv c P) {k : Reg} (hl : c.live k) :
    ∃ pre, P k = pre ++ [predOut P k, .out k] := by
  obtain ⟨mid, hP, _⟩ := h.shape k hl
  have hne : NodeId.inp k :: mid ≠ [] := by simp
  have hdl : (P k).dropLast = .inp k :: mid := by
    rw [hP, show NodeId.inp k :: (mid ++ [NodeId.out k]) = (NodeId.inp k :: mid) ++ [NodeId.out k] by simp,
      List.dropLast_concat]
  refine ⟨(NodeId.inp k :: mid).dropLast, ?_⟩
  have hp : predOut P k = (NodeId.inp k :: mid).getLast hne := by
    unfold predOut; rw [hdl, List.getLast?_eq_some_getLast hne]; rfl
  rw [hp, hP]
  have := List.dropLast_concat_getLast hne
  calc NodeId.inp k :: (mid ++ [NodeId.out k]) = (NodeId.inp k :: mid) ++ [NodeId.out k] := by simp
    _ = ((NodeId.inp k :: mid).dropLast ++ [(NodeId.inp k :: mid).getLast hne]) ++ [NodeId.out k] := by rw [this]
    _ = _ := by rw [List.append_assoc]; rfl

theorem Inv.lastEdge_mem {c : Dag} {P : Paths} (h : Inv c P) {k : Reg} (hl : c.live k) : lastEdge P k ∈ c.edges := by
  obtain ⟨pre, hP⟩ := h.path_split_last hl
  rw [h.edges_iff]
  show Consec (P k) (predOut P k) (.out k)
  rw [hP]; exact consec_iff_append.mpr ⟨pre, [], rfl⟩

theorem Inv.inEdges_out {c : Dag} {P : Paths} (h : Inv c P) {k : Reg} (hl : c.live k) :
    c.inEdges (.out k) = [lastEdge P k] := by
  unfold inEdges
  apply filter_eq_singleton h.edges_nodup (h.lastEdge_mem hl)
  · simp [lastEdge]
  · intro e he hd
    have hd : e.dst = .out k := by simpa using hd
    have hc := (h.edges_iff e).mp he
    rw [hd] at hc
    exact h.edge_eq_of_dst he (h.lastEdge_mem hl) (h.out_mem hc.mem.2) hd

theorem addLoop_eq {c : Dag} {P : Paths} (h : Inv c P) {n : NodeId} {i : Nat} (hn : n = .op i)
    (hnodes : n ∈ c.nodeIds) (ks : List Reg) (hks : ks.Nodup) (hlive : ∀ k ∈ ks, c.live k) (hnP : ∀ k ∈ ks, n ∉ P k) :
    (ks.map NodeId.out).foldl (fun c o => (c.inEdges o).foldl (fun c e => c.splice n e) c) c =
      c.spliceAll n (ks.map (lastEdge P)) := by
  induction ks generalizing c P with
  | nil => rfl
  | cons k rest ih =>
    have hnd := List.nodup_cons.mp hks
    have hl : c.live k := hlive k (by simp)
    have he := h.lastEdge_mem hl
    simp only [List.map_cons, List.foldl_cons, spliceAll]
    rw [h.inEdges_out hl]
    simp only [List.foldl_cons, List.foldl_nil]
    have h1 := splice_inv h he hn hnodes (hnP k (by simp))
    have hnodes' : n ∈ (c.splice n (lastEdge P k)).nodeIds := by
      rw [nodeIds_eq_of_nodes (splice_nodes c n _)]; exact hnodes
    have hlive' : ∀ k' ∈ rest, (c.splice n (lastEdge P k)).live k' := by
      intro k' hk'; simpa [live] using hlive k' (List.mem_cons_of_mem _ hk')
    have hne : ∀ k' ∈ rest, k' ≠ k := fun k' hk' e => hnd.1 (e ▸ hk')
    have hnP' : ∀ k' ∈ rest, n ∉ setPath P (lastEdge P k).key (insertAfter (P (lastEdge P k).key) (lastEdge P k).src n) k' := by
      intro k' hk'
      show n ∉ setPath P k (insertAfter (P k) (predOut P k) n) k'
      rw [setPath_other _ _ (hne k' hk')]
      exact hnP k' (List.mem_cons_of_mem _ hk')
    rw [ih h1 hnodes' hnd.2 hlive' hnP']
    unfold spliceAll
    congr 1
    apply List.map_congr_left
    intro k' hk'
    show lastEdge (setPath P k (insertAfter (P k) (predOut P k) n)) k' = lastEdge P k'
    simp only [lastEdge, predOut]
    rw [setPath_other _ _ (hne k' hk')]

theorem Inv.out_sink {c : Dag} {P : Paths} (h : Inv c P) (k : Reg) (b : NodeId) : ¬ c.E (.out k) b := by
  rintro ⟨e, he, hs, _⟩
  have := h.src_ne_out he
  have hc := ((h.edges_iff e).mp he).mem.1
  rw [hs] at hc
  have hk := h.out_mem hc
  rw [hk, hs] at this
  exact this rfl

theorem Inv.inp_source {c : Dag} {P : Paths} (h : Inv c P) (k : Reg) (a : NodeId) : ¬ c.E a (.inp k) := by
  rintro ⟨e, he, _, hd⟩
  have := h.dst_ne_inp he
  have hc := ((h.edges_iff e).mp he).mem.2
  rw [hd] at hc
  have hk := h.inp_mem hc
  rw [hk, hd] at this
  exact this rfl

theorem opRegs_nodup {op : Op} (hop : OpWF op) : (opRegs op).Nodup := by
  unfold opRegs
  rw [List.nodup_append]
  refine ⟨hop.qregs_nodup, ?_, ?_⟩
  · exact nodup_map_of_inj (fun a b e => by injection e) hop.cregs_nodup
  · intro a ha b hb e; subst e
    obtain ⟨r, _, rfl⟩ := List.mem_map.mp hb
    exact hop.qregs_quantum _ ha rfl

theorem add_eq_fold (c : Dag) (op : Op) :
    c.add_ op = ((opRegs op).map NodeId.out).foldl
      (fun c' o => (c'.inEdges o).foldl (fun c'' e => c''.splice (.op (c.nodeId + 1)) e) c') (c.newNode op) := by
  simp [add_, opRegs, List.map_append, List.map_map, Function.comp_def]

@[simp] theorem spliceAll_nodes (c : Dag) (n : NodeId) (es : List Edge) : (c.spliceAll n es).nodes = c.nodes := by
  induction es generalizing c with
  | nil => rfl
  | cons e rest ih => simp only [spliceAll, List.foldl_cons] at ih ⊢; rw [ih]; rfl

@[simp] theorem spliceAll_regs (c : Dag) (n : NodeId) (es : List Edge) : (c.spliceAll n es).regs = c.regs := by
  induction es generalizing c with
  | nil => rfl
  | cons e rest ih => simp only [spliceAll, List.foldl_cons] at ih ⊢; rw [ih]; simp

@[simp] theorem spliceAll_nodeId (c : Dag) (n : NodeId) (es : List Edge) : (c.spliceAll n es).nodeId = c.nodeId := by
  induction es generalizing c with
  | nil => rfl
  | cons e rest ih => simp only [spliceAll, List.foldl_cons] at ih ⊢; rw [ih]; rfl

theorem mem_after_splice {c : Dag} {P : Paths} (g : Good c P) {op : Op} (hop : OpWF op) {c' : Dag} {P' : Paths}
    (hnodes : c'.nodes = c.nodes ++ [(.op (c.nodeId + 1), op)]) (keys : List Reg)
    (hP' : ∀ k x, x ∈ P' k ↔ x ∈ P k ∨ (x = .op (c.nodeId + 1) ∧ k ∈ keys))
    (hq : ∀ k, k.ty ≠ .c → (k ∈ keys ↔ k ∈ op.qregs)) (hc : ∀ r, (⟨.c, r⟩ : Reg) ∈ keys → r ∈ op.cregs) :
    Mem c' P' := by
  have hfresh := g.inv.op_fresh
  have hnP : ∀ k, NodeId.op (c.nodeId + 1) ∉ P k := fun k hm => hfresh (g.inv.mem_nodes k _ hm)
  have hcases : ∀ i o, (NodeId.op i, o) ∈ c'.nodes →
      ((NodeId.op i, o) ∈ c.nodes ∧ i ≠ c.nodeId + 1) ∨ (i = c.nodeId + 1 ∧ o = op) := by
    intro i o hm
    rw [hnodes] at hm
    rcases List.mem_append.mp hm with hm | hm
    · left
      refine ⟨hm, ?_⟩
      intro e; subst e
      exact hfresh (mem_nodeIds.mpr ⟨o, hm⟩)
    · simp at hm; exact Or.inr hm
  constructor
  · intro i o hm k hk
    rcases hcases i o hm with ⟨hm', hne⟩ | ⟨rfl, rfl⟩
    · rw [hP', ← g.mem.mem_q i o hm' k hk]
      constructor
      · rintro (h | ⟨h, _⟩)
        · exact h
        · injection h with h; exact absurd h hne
      · exact Or.inl
    · rw [hP', ← hq k hk]
      constructor
      · rintro (h | ⟨_, h⟩)
        · exact absurd h (hnP k)
        · exact h
      · intro h; exact Or.inr ⟨rfl, h⟩
  · intro i o hm r hr
    rcases hcases i o hm with ⟨hm', hne⟩ | ⟨rfl, rfl⟩
    · rw [hP'] at hr
      rcases hr with hr | ⟨h, _⟩
      · exact g.mem.mem_c i o hm' r hr
      · injection h with h; exact absurd h hne
    · rw [hP'] at hr
      rcases hr with hr | ⟨_, hr⟩
      · exact absurd hr (hnP _)
      · exact hc r hr

theorem Inv.fresh_not_on_path {c : Dag} {P : Paths} (h : Inv c P) (k : Reg) : NodeId.op (c.nodeId + 1) ∉ P k :=
  fun hm => h.op_fresh (h.mem_nodes k _ hm)

theorem newNode_mem_nodeIds {c : Dag} {P : Paths} (h : Inv c P) (op : Op) :
    NodeId.op (c.nodeId + 1) ∈ (c.newNode op).nodeIds := by
  simp [nodeIds, newNode_nodes h op]

theorem lastEdge_keys (P : Paths) (ks : List Reg) : (ks.map (lastEdge P)).map (·.key) = ks := by
  rw [List.map_map]; simp [lastEdge, Function.comp_def]

theorem lastEdges_mem {c : Dag} {P : Paths} (h : Inv c P) {ks : List Reg} (hlive : ∀ r ∈ ks, c.live r) :
    ∀ e ∈ ks.map (lastEdge P), e ∈ c.edges := by
  intro e he
  obtain ⟨k, hk, rfl⟩ := List.mem_map.mp he
  exact h.lastEdge_mem (hlive k hk)

theorem add_eq_spliceAll {c : Dag} {P : Paths} (g : Good c P) {op : Op} (hop : OpWF op) (hlive : ∀ r ∈ opRegs op, c.live r) :
    c.add_ op = (c.newNode op).spliceAll (.op (c.nodeId + 1)) ((opRegs op).map (lastEdge P)) := by
  rw [add_eq_fold]
  exact addLoop_eq (newNode_inv g.inv hop) rfl (newNode_mem_nodeIds g.inv op) (opRegs op) (opRegs_nodup hop)
    (fun k hk => by simpa [live] using hlive k hk) (fun k _ => g.inv.fresh_not_on_path k)

/-- well-formed edge argument of `insert_at` (evaluated after the register prologue, which only adds isolated
    `in → out` wires): one existing edge per quantum register of the operation, keyed by that register, and no path
    from the head of one to the tail of another (`find_incompatible_edges`, see `compatible_no_path`) -/
structure InsertOK (c : Dag) (op : Op) (es : List Edge) : Prop where
  mem : ∀ e ∈ es, e ∈ c.edges
  keys : es.map (·.key) = op.qregs
  compat : ∀ e1 ∈ es, ∀ e2 ∈ es, e1 ≠ e2 → ¬ ReflTransGen c.E e1.dst e2.src

theorem InsertOK.single {c : Dag} {op : Op} {e : Edge} (he : e ∈ c.edges) (hk : [e.key] = op.qregs) : InsertOK c op [e] := by
  refine ⟨by simpa using he, hk, ?_⟩
  intro e1 he1 e2 he2 hne
  simp at he1 he2; subst he1 he2; exact absurd rfl hne

theorem InsertOK.pair {c : Dag} {op : Op} {e1 e2 : Edge} (h1 : e1 ∈ c.edges) (h2 : e2 ∈ c.edges)
    (hq : op.qregs = [e1.key, e2.key]) (n12 : ¬ ReflTransGen c.E e1.dst e2.src) (n21 : ¬ ReflTransGen c.E e2.dst e1.src) :
    InsertOK c op [e1, e2] := by
  refine ⟨?_, by simp [hq], ?_⟩
  · intro e he; simp at he; rcases he with rfl | rfl <;> assumption
  · intro a ha b hb hne
    simp at ha hb
    rcases ha with rfl | rfl <;> rcases hb with rfl | rfl
    · exact absurd rfl hne
    · exact n12
    · exact n21
    · exact absurd rfl hne

/-! ## `_remove_node`: the edge bookkeeping of the double loop -/

structure EdgeOnly (c c' : Dag) : Prop where
  nodes : c'.nodes = c.nodes
  nodeDict : c'.nodeDict = c.nodeDict
  nodeId : c'.nodeId = c.nodeId
  regs : c'.regs = c.regs

theorem EdgeOnly.refl (c : Dag) : EdgeOnly c c := ⟨rfl, rfl, rfl, rfl⟩

theorem EdgeOnly.trans {c c1 c2 : Dag} (h1 : EdgeOnly c c1) (h2 : EdgeOnly c1 c2) : EdgeOnly c c2 :=
  ⟨h2.nodes.trans h1.nodes, h2.nodeDict.trans h1.nodeDict, h2.nodeId.trans h1.nodeId, h2.regs.trans h1.regs⟩

theorem EdgeOnly.addEdge (c : Dag) (u v : NodeId) (k : Reg) : EdgeOnly c (c.addEdge u v k) := ⟨rfl, rfl, rfl, by simp⟩

theorem EdgeOnly.removeEdge (c : Dag) (e : Edge) : EdgeOnly c (c.removeEdge e) := ⟨rfl, rfl, rfl, by simp⟩

/-- the new edge that re-joins a wire across the removed node -/
def joinEdge (ein eout : Edge) : Edge := ⟨ein.src, eout.dst, eout.key⟩

def innerJoin (c : Dag) (ein : Edge) (outs : List Edge) : Dag :=
  outs.foldl (fun c eout => if ein.key = eout.key then c.addEdge ein.src eout.dst eout.key else c) c

theorem innerJoin_cons (c : Dag) (ein eout : Edge) (rest : List Edge) :
    innerJoin c ein (eout :: rest) =
      innerJoin (if ein.key = eout.key then c.addEdge ein.src eout.dst eout.key else c) ein rest := rfl

theorem innerJoin_spec (ein : Edge) (outs : List Edge) (hkeys : (outs.map (·.key)).Nodup) (c : Dag) (h : EdgeOK c)
    (hnew : ∀ eout ∈ outs, ein.key = eout.key → joinEdge ein eout ∉ c.edges) :
    EdgeOK (innerJoin c ein outs) ∧
    (∀ e, e ∈ (innerJoin c ein outs).edges ↔ e ∈ c.edges ∨ ∃ eout ∈ outs, ein.key = eout.key ∧ e = joinEdge ein eout) ∧
    EdgeOnly c (innerJoin c ein outs) := by
  induction outs generalizing c with
  | nil => exact ⟨h, by simp [innerJoin], .refl c⟩
  | cons eout rest ih =>
    have hnd : eout.key ∉ rest.map (·.key) ∧ (rest.map (·.key)).Nodup := List.nodup_cons.mp hkeys
    rw [innerJoin_cons]
    by_cases hk : ein.key = eout.key
    · rw [if_pos hk]
      have hn := hnew eout (by simp) hk
      have h1 := h.addEdge (u := ein.src) (v := eout.dst) (k := eout.key) hn
      have hnomatch : ∀ e' ∈ rest, ein.key ≠ e'.key := by
        intro e' he' heq
        exact hnd.1 (List.mem_map.mpr ⟨e', he', by rw [← heq, hk]⟩)
      obtain ⟨a1, a2, a3⟩ := ih hnd.2 (c.addEdge ein.src eout.dst eout.key) h1
        (fun e' he' heq => absurd heq (hnomatch e' he'))
      refine ⟨a1, ?_, (EdgeOnly.addEdge c _ _ _).trans a3⟩
      intro e
      rw [a2 e, mem_addEdge]
      constructor
      · rintro ((h' | h') | ⟨e', he', heq, _⟩)
        · exact Or.inl h'
        · exact Or.inr ⟨eout, by simp, hk, h'⟩
        · exact absurd heq (hnomatch e' he')
      · rintro (h' | ⟨e', he', heq, hje⟩)
        · exact Or.inl (Or.inl h')
        · rcases List.mem_cons.mp he' with rfl | he'
          · exact Or.inl (Or.inr hje)
          · exact absurd heq (hnomatch e' he')
    · rw [if_neg hk]
      obtain ⟨a1, a2, a3⟩ := ih hnd.2 c h (fun e' he' heq => hnew e' (List.mem_cons_of_mem _ he') heq)
      refine ⟨a1, ?_, a3⟩
      intro e
      rw [a2 e]
      constructor
      · rintro (h' | ⟨e', he', heq, hje⟩)
        · exact Or.inl h'
        · exact Or.inr ⟨e', List.mem_cons_of_mem _ he', heq, hje⟩
      · rintro (h' | ⟨e', he', heq, hje⟩)
        · exact Or.inl h'
        · rcases List.mem_cons.mp he' with rfl | he'
          · exact absurd heq hk
          · exact Or.inr ⟨e', he', heq, hje⟩

def outerJoin (c : Dag) (ins outs : List Edge) : Dag :=
  ins.foldl (fun c ein => (innerJoin c ein outs).removeEdge ein) c

theorem outerJoin_cons (c : Dag) (ein : Edge) (rest outs : List Edge) :
    outerJoin c (ein :: rest) outs = outerJoin ((innerJoin c ein outs).removeEdge ein) rest outs := rfl

/-- `hnew`: no join edge is there already; `hdist`: no join edge is one of the in-edges being removed.  On a circuit
    satisfying the invariant both hold because the successor of `n` on a duplicate-free wire is not `n` (`removeFacts`). -/
theorem outerJoin_spec (outs : List Edge) (hkeys : (outs.map (·.key)).Nodup) (ins : List Edge)
    (hins : (ins.map (·.key)).Nodup) (c : Dag) (h : EdgeOK c)
    (hnew : ∀ ein ∈ ins, ∀ eout ∈ outs, ein.key = eout.key → joinEdge ein eout ∉ c.edges)
    (hdist : ∀ ein ∈ ins, ∀ eout ∈ outs, ∀ ein' ∈ ins, joinEdge ein eout ≠ ein') :
    EdgeOK (outerJoin c ins outs) ∧
    (∀ e, e ∈ (outerJoin c ins outs).edges ↔ (e ∈ c.edges ∧ e ∉ ins) ∨
        ∃ ein ∈ ins, ∃ eout ∈ outs, ein.key = eout.key ∧ e = joinEdge ein eout) ∧
    EdgeOnly c (outerJoin c ins outs) := by
  induction ins generalizing c with
  | nil => exact ⟨h, by simp [outerJoin], .refl c⟩
  | cons ein rest ih =>
    have hnd : ein.key ∉ rest.map (·.key) ∧ (rest.map (·.key)).Nodup := List.nodup_cons.mp hins
    rw [outerJoin_cons]
    obtain ⟨b1, b2, b3⟩ := innerJoin_spec ein outs hkeys c h (fun eout he hk => hnew ein (by simp) eout he hk)
    have h1 : EdgeOK ((innerJoin c ein outs).removeEdge ein) := b1.removeEdge ein
    have hmem1 : ∀ e, e ∈ ((innerJoin c ein outs).removeEdge ein).edges ↔
        (e ∈ c.edges ∨ ∃ eout ∈ outs, ein.key = eout.key ∧ e = joinEdge ein eout) ∧ e ≠ ein := by
      intro e; rw [mem_removeEdge b1, b2]
    -- new edges for the remaining in-edges are still absent
    have hnew' : ∀ ein' ∈ rest, ∀ eout ∈ outs, ein'.key = eout.key →
        joinEdge ein' eout ∉ ((innerJoin c ein outs).removeEdge ein).edges := by
      intro ein' he' eout heo hk hm
      rw [hmem1] at hm
      rcases hm.1 with hm1 | ⟨eout2, heo2, hk2, hje⟩
      · exact hnew ein' (List.mem_cons_of_mem _ he') eout heo hk hm1
      · -- joinEdge ein' eout = joinEdge ein eout2 forces equal keys
        have : eout.key = eout2.key := by
          have := congrArg Edge.key hje; simpa [joinEdge] using this
        apply hnd.1
        apply List.mem_map.mpr
        exact ⟨ein', he', by rw [hk, this, ← hk2]⟩
    obtain ⟨a1, a2, a3⟩ := ih hnd.2 ((innerJoin c ein outs).removeEdge ein) h1 hnew'
      (fun e1 he1 eo heo e2 he2 => hdist e1 (List.mem_cons_of_mem _ he1) eo heo e2 (List.mem_cons_of_mem _ he2))
    refine ⟨a1, ?_, (b3.trans (.removeEdge _ ein)).trans a3⟩
    intro e
    rw [a2 e, hmem1]
    constructor
    · rintro (⟨⟨h' | ⟨eout, heo, hk, hje⟩, hne⟩, hnr⟩ | ⟨ein', he', eout, heo, hk, hje⟩)
      · left; exact ⟨h', by simp [hne, hnr]⟩
      · right; exact ⟨ein, by simp, eout, heo, hk, hje⟩
      · right; exact ⟨ein', List.mem_cons_of_mem _ he', eout, heo, hk, hje⟩
    · rintro (⟨h', hni⟩ | ⟨ein', he', eout, heo, hk, hje⟩)
      · simp only [List.mem_cons, not_or] at hni
        left; exact ⟨⟨Or.inl h', hni.1⟩, hni.2⟩
      · rcases List.mem_cons.mp he' with rfl | he'
        · left
          refine ⟨⟨Or.inr ⟨eout, heo, hk, hje⟩, ?_⟩, ?_⟩
          · rw [hje]; exact hdist ein' (by simp) eout heo ein' (by simp)
          · rw [hje]; intro hm; exact hdist ein' (by simp) eout heo _ (List.mem_cons_of_mem _ hm) rfl
        · right; exact ⟨ein', he', eout, heo, hk, hje⟩

theorem removeAll_spec (outs : List Edge) (c : Dag) (h : EdgeOK c) :
    EdgeOK (outs.foldl (fun c e => c.removeEdge e) c) ∧
    (∀ e, e ∈ (outs.foldl (fun c e => c.removeEdge e) c).edges ↔ e ∈ c.edges ∧ e ∉ outs) ∧
    EdgeOnly c (outs.foldl (fun c e => c.removeEdge e) c) := by
  induction outs generalizing c with
  | nil => exact ⟨h, by simp, .refl c⟩
  | cons e0 rest ih =>
    rw [List.foldl_cons]
    obtain ⟨a1, a2, a3⟩ := ih (c.removeEdge e0) (h.removeEdge e0)
    refine ⟨a1, ?_, (EdgeOnly.removeEdge c e0).trans a3⟩
    intro e
    rw [a2, mem_removeEdge h]
    simp only [List.mem_cons, not_or]
    tauto

theorem rejoin_eq (c : Dag) (ins outs : List Edge) :
    c.rejoin ins outs = outs.foldl (fun c e => c.removeEdge e) (outerJoin c ins outs) := rfl

/-! ## `remove_op` -/

theorem Inv.op_neighbours {c : Dag} {P : Paths} (h : Inv c P) {k : Reg} {i : Nat} (hm : NodeId.op i ∈ P k) :
    ∃ a b, Consec (P k) a (.op i) ∧ Consec (P k) (.op i) b := by
  obtain ⟨mid, hP, _⟩ := h.shape k (h.live_of_mem hm)
  rw [hP] at hm ⊢
  have hm' : NodeId.op i ∈ mid := by
    rcases List.mem_cons.mp hm with e | hm
    · cases e
    · rcases List.mem_append.mp hm with hm | hm
      · exact hm
      · simp at hm
  obtain ⟨a, ha⟩ := exists_pred_of_mem (a := NodeId.inp k) (List.mem_append_left [NodeId.out k] hm')
  have : NodeId.inp k :: (mid ++ [NodeId.out k]) = (NodeId.inp k :: mid) ++ NodeId.out k :: [] := by simp
  obtain ⟨b, hb⟩ := exists_succ_of_mem_append (l1 := NodeId.inp k :: mid) (b := NodeId.out k) (l2 := [])
    (List.mem_cons_of_mem _ hm')
  exact ⟨a, b, ha, by rw [this]; exact hb⟩

/-- the state `remove_op` returns for an existing node -/
def removed (c : Dag) (n : NodeId) (op : Op) : Dag :=
  let c1 := c.rejoin (c.inEdges n) (c.outEdges n)
  { c1 with nodeDict := op.indexKeys.foldl (fun d k => dictRemove d k n) c1.nodeDict,
            nodes := c1.nodes.filter (fun p => p.1 ≠ n),
            edges := c1.edges.filter (fun e => e.src ≠ n ∧ e.dst ≠ n) }

theorem removeOp_eq {c : Dag} {n : NodeId} {op : Op} (h : c.opOf? n = some op) : c.removeOp n = (c.removed n op, none) := by
  unfold removeOp; rw [h]; rfl

theorem removeOp_absent {c : Dag} {n : NodeId} (h : c.opOf? n = none) : (c.removeOp n).1 = c := by
  unfold removeOp; rw [h]

structure RemoveFacts (c : Dag) (n : NodeId) : Prop where
  rejoin_ok : EdgeOK (c.rejoin (c.inEdges n) (c.outEdges n))
  mem : ∀ e, e ∈ (c.rejoin (c.inEdges n) (c.outEdges n)).edges ↔
    (e ∈ c.edges ∧ e.dst ≠ n ∧ e.src ≠ n) ∨
      ∃ ein ∈ c.edges, ∃ eout ∈ c.edges, ein.dst = n ∧ eout.src = n ∧ ein.key = eout.key ∧ e = joinEdge ein eout
  frame : EdgeOnly c (c.rejoin (c.inEdges n) (c.outEdges n))

theorem removeFacts {c : Dag} {P : Paths} (h : Inv c P) (n : NodeId) : RemoveFacts c n := by
  have hin : ∀ e, e ∈ c.inEdges n ↔ e ∈ c.edges ∧ e.dst = n := by intro e; simp [inEdges]
  have hout : ∀ e, e ∈ c.outEdges n ↔ e ∈ c.edges ∧ e.src = n := by intro e; simp [outEdges]
  have hinj_in : ∀ a ∈ c.inEdges n, ∀ b ∈ c.inEdges n, a.key = b.key → a = b := fun a ha b hb hk =>
    h.edge_eq_of_dst ((hin a).mp ha).1 ((hin b).mp hb).1 hk (((hin a).mp ha).2.trans ((hin b).mp hb).2.symm)
  have hinj_out : ∀ a ∈ c.outEdges n, ∀ b ∈ c.outEdges n, a.key = b.key → a = b := fun a ha b hb hk =>
    h.edge_eq_of_src ((hout a).mp ha).1 ((hout b).mp hb).1 hk (((hout a).mp ha).2.trans ((hout b).mp hb).2.symm)
  have hk_in : ((c.inEdges n).map (·.key)).Nodup :=
    nodup_map_of_inj_on (h.edges_nodup.filter _) hinj_in
  have hk_out : ((c.outEdges n).map (·.key)).Nodup :=
    nodup_map_of_inj_on (h.edges_nodup.filter _) hinj_out
  -- the successor of n is not n; the predecessor of n is not n
  have hdst_ne : ∀ e ∈ c.outEdges n, e.dst ≠ n := by
    intro e he
    have he' := (hout e).mp he
    have := ((h.edges_iff e).mp he'.1).ne (h.nodup _)
    rw [he'.2] at this; exact fun e' => this e'.symm
  have hsrc_ne : ∀ e ∈ c.inEdges n, e.src ≠ n := by
    intro e he
    have he' := (hin e).mp he
    have := ((h.edges_iff e).mp he'.1).ne (h.nodup _)
    rw [he'.2] at this; exact this
  have hnew : ∀ ein ∈ c.inEdges n, ∀ eout ∈ c.outEdges n, ein.key = eout.key → joinEdge ein eout ∉ c.edges := by
    intro ein hi eout ho hk hm
    have hi' := (hin ein).mp hi
    have c1 := (h.edges_iff ein).mp hi'.1
    have c3 := (h.edges_iff _).mp hm
    simp only [joinEdge] at c3
    rw [← hk] at c3; rw [hi'.2] at c1
    have := consec_succ_unique (h.nodup _) c1 c3
    exact hdst_ne eout ho this.symm
  have hdist : ∀ ein ∈ c.inEdges n, ∀ eout ∈ c.outEdges n, ∀ ein' ∈ c.inEdges n, joinEdge ein eout ≠ ein' := by
    intro ein _ eout ho ein' hi' heq
    have := congrArg Edge.dst heq
    simp only [joinEdge] at this
    rw [((hin ein').mp hi').2] at this
    exact hdst_ne eout ho this
  obtain ⟨a1, a2, a3⟩ := outerJoin_spec (c.outEdges n) hk_out (c.inEdges n) hk_in c h.edgeOK hnew hdist
  obtain ⟨b1, b2, b3⟩ := removeAll_spec (c.outEdges n) (outerJoin c (c.inEdges n) (c.outEdges n)) a1
  rw [← rejoin_eq] at b1 b2 b3
  refine ⟨b1, ?_, a3.trans b3⟩
  intro e
  rw [b2, a2]
  constructor
  · rintro ⟨⟨he, hni⟩ | ⟨ein, hi, eout, ho, hk, hje⟩, hno⟩
    · left
      refine ⟨he, fun hd => hni ((hin e).mpr ⟨he, hd⟩), fun hs => hno ((hout e).mpr ⟨he, hs⟩)⟩
    · right
      exact ⟨ein, ((hin ein).mp hi).1, eout, ((hout eout).mp ho).1, ((hin ein).mp hi).2, ((hout eout).mp ho).2, hk, hje⟩
  · rintro (⟨he, hd, hs⟩ | ⟨ein, hi, eout, ho, hid, hos, hk, hje⟩)
    · exact ⟨Or.inl ⟨he, fun hm => hd ((hin e).mp hm).2⟩, fun hm => hs ((hout e).mp hm).2⟩
    · have hi' := (hin ein).mpr ⟨hi, hid⟩
      have ho' := (hout eout).mpr ⟨ho, hos⟩
      refine ⟨Or.inr ⟨ein, hi', eout, ho', hk, hje⟩, ?_⟩
      intro hm
      have := ((hout e).mp hm).2
      rw [hje] at this
      exact hsrc_ne ein hi' this

theorem removed_nodes {c : Dag} {P : Paths} (h : Inv c P) (n : NodeId) (op : Op) :
    (c.removed n op).nodes = c.nodes.filter (fun p => p.1 ≠ n) := by
  simp only [removed, (removeFacts h n).frame.nodes]

theorem removeOp_nodes {c : Dag} {P : Paths} (h : Inv c P) {n : NodeId} {op : Op} (hop : (n, op) ∈ c.nodes) :
    (c.removeOp n).1.nodes = c.nodes.filter (fun p => p.1 ≠ n) := by
  rw [removeOp_eq ((opOf_eq_some h.ids_nodup).mpr hop)]
  exact removed_nodes h n op

theorem removeOp_opOf {c : Dag} {P : Paths} (h : Inv c P) {n : NodeId} {op : Op} (hop : (n, op) ∈ c.nodes) {x : NodeId}
    (hx : x ≠ n) : (c.removeOp n).1.opOf? x = c.opOf? x :=
  opOf_filter_ne (removeOp_nodes h hop) hx

def erasePaths (P : Paths) (n : NodeId) : Paths := fun k => (P k).erase n

theorem removed_edges_iff {c : Dag} {P : Paths} (h : Inv c P) {i : Nat} (e : Edge) :
    ((e ∈ c.edges ∧ e.dst ≠ .op i ∧ e.src ≠ .op i) ∨
      ∃ ein ∈ c.edges, ∃ eout ∈ c.edges, ein.dst = .op i ∧ eout.src = .op i ∧ ein.key = eout.key ∧ e = joinEdge ein eout) ↔
    Consec (erasePaths P (.op i) e.key) e.src e.dst := by
  unfold erasePaths
  by_cases hn : NodeId.op i ∈ P e.key
  · obtain ⟨a, b, ha, hb⟩ := h.op_neighbours hn
    rw [consec_erase (h.nodup _) ha hb]
    constructor
    · rintro (⟨he, hd, hs⟩ | ⟨ein, hi, eout, ho, hid, hos, hk, hje⟩)
      · exact Or.inl ⟨(h.edges_iff e).mp he, hs, hd⟩
      · right
        have hke : e.key = eout.key := by rw [hje]; rfl
        have c1 := (h.edges_iff ein).mp hi
        have c2 := (h.edges_iff eout).mp ho
        rw [hid, hk, ← hke] at c1
        rw [hos, ← hke] at c2
        have e1 := consec_pred_unique (h.nodup _) c1 ha
        have e2 := consec_succ_unique (h.nodup _) c2 hb
        rw [hje]; exact ⟨e1, e2⟩
    · rintro (⟨hc, hs, hd⟩ | ⟨hs, hd⟩)
      · exact Or.inl ⟨(h.edges_iff e).mpr hc, hd, hs⟩
      · right
        refine ⟨⟨a, .op i, e.key⟩, (h.edges_iff _).mpr ha, ⟨.op i, b, e.key⟩, (h.edges_iff _).mpr hb, rfl, rfl, rfl, ?_⟩
        obtain ⟨s, d, k⟩ := e
        simp only at hs hd
        simp [joinEdge, hs, hd]
  · rw [List.erase_of_not_mem hn]
    constructor
    · rintro (⟨he, _, _⟩ | ⟨ein, hi, eout, ho, hid, hos, hk, hje⟩)
      · exact (h.edges_iff e).mp he
      · exfalso
        have hke : e.key = eout.key := by rw [hje]; rfl
        have c2 := (h.edges_iff eout).mp ho
        rw [hos, ← hke] at c2
        exact hn c2.mem.1
    · intro hc
      left
      refine ⟨(h.edges_iff e).mpr hc, ?_, ?_⟩
      · intro hd; exact hn (hd ▸ hc.mem.2)
      · intro hs; exact hn (hs ▸ hc.mem.1)

theorem removed_inv {c : Dag} {P : Paths} (h : Inv c P) {i : Nat} {op : Op} (hop : (NodeId.op i, op) ∈ c.nodes) :
    Inv (c.removed (.op i) op) (erasePaths P (.op i)) := by
  have F := removeFacts h (.op i)
  have hfilter : (c.rejoin (c.inEdges (.op i)) (c.outEdges (.op i))).edges.filter
      (fun e => e.src ≠ .op i ∧ e.dst ≠ .op i) = (c.rejoin (c.inEdges (.op i)) (c.outEdges (.op i))).edges := by
    rw [List.filter_eq_self]
    intro e he
    have hc := (removed_edges_iff h e).mp ((F.mem e).mp he)
    unfold erasePaths at hc
    have h1 := (h.nodup e.key).mem_erase_iff.mp hc.mem.1
    have h2 := (h.nodup e.key).mem_erase_iff.mp hc.mem.2
    simp [h1.1, h2.1]
  have hedges : (c.removed (.op i) op).edges = (c.rejoin (c.inEdges (.op i)) (c.outEdges (.op i))).edges := by
    simp only [removed]; exact hfilter
  have hnodes := removed_nodes h (.op i) op
  have hids : (c.removed (.op i) op).nodeIds = c.nodeIds.filter (fun m => m ≠ .op i) := by
    simp only [nodeIds, hnodes, List.filter_map]; rfl
  have hregs : (c.removed (.op i) op).regs = c.regs := by
    have : (c.removed (.op i) op).regs = (c.rejoin (c.inEdges (.op i)) (c.outEdges (.op i))).regs := by
      funext t; cases t <;> rfl
    rw [this, F.frame.regs]
  have hnd' : (c.removed (.op i) op).nodeIds.Nodup := by rw [hids]; exact h.ids_nodup.filter _
  have hmemn : ∀ m o, (m, o) ∈ (c.removed (.op i) op).nodes ↔ (m, o) ∈ c.nodes ∧ m ≠ .op i := by
    intro m o; rw [hnodes, List.mem_filter]; simp
  have hopOf : ∀ m, m ≠ .op i → (c.removed (.op i) op).opOf? m = c.opOf? m := fun m hm => opOf_filter_ne hnodes hm
  refine
    { edges_nodup := by rw [hedges]; exact F.rejoin_ok.nodup
      edges_iff := by intro e; rw [hedges, F.mem, removed_edges_iff h]
      dead := by
        intro k hk
        have : ¬ c.live k := by simpa [live, hregs] using hk
        simp [erasePaths, h.dead k this]
      shape := ?_
      nodup := fun k => (h.nodup k).erase _
      mem_nodes := ?_
      edgeDict_ok := ?_
      ids_nodup := hnd'
      inp_iff := by
        intro r; rw [hids, List.mem_filter, live_eq_of_regs hregs, ← h.inp_iff r]; simp
      out_iff := by
        intro r; rw [hids, List.mem_filter, live_eq_of_regs hregs, ← h.out_iff r]; simp
      inp_op := by intro r o hm; exact h.inp_op r o ((hmemn _ _).mp hm).1
      out_op := by intro r o hm; exact h.out_op r o ((hmemn _ _).mp hm).1
      op_range := by
        intro j hj
        rw [hids, List.mem_filter] at hj
        have hid : (c.removed (.op i) op).nodeId = c.nodeId := F.frame.nodeId
        rw [hid]; exact h.op_range j hj.1
      op_wf := by intro j o hm; exact h.op_wf j o ((hmemn _ _).mp hm).1
      nodeDict_ok := ?_ }
  · intro k hk
    have hk : c.live k := by simpa [live, hregs] using hk
    obtain ⟨mid, hP, hmid⟩ := h.shape k hk
    refine ⟨mid.erase (.op i), ?_, fun m hm => hmid m (List.mem_of_mem_erase hm)⟩
    unfold erasePaths
    rw [hP, List.erase_cons_tail (by simp)]
    by_cases hm : NodeId.op i ∈ mid
    · rw [List.erase_append_left _ hm]
    · rw [List.erase_append_right _ hm, List.erase_of_not_mem hm]
      simp
  · intro k m hm
    unfold erasePaths at hm
    have := (h.nodup k).mem_erase_iff.mp hm
    rw [hids, List.mem_filter]
    exact ⟨h.mem_nodes k m this.2, by simpa using this.1⟩
  · intro t e
    have hd : (c.removed (.op i) op).edgeDict = (c.rejoin (c.inEdges (.op i)) (c.outEdges (.op i))).edgeDict := rfl
    rw [hd, hedges]; exact F.rejoin_ok.dict t e
  · intro l m
    have hd : (c.removed (.op i) op).nodeDict = op.indexKeys.foldl (fun d k => dictRemove d k (.op i)) c.nodeDict := by
      simp only [removed, F.frame.nodeDict]
    rw [hd, count_dictGet_foldl_remove, h.nodeDict_ok]
    by_cases hm : m = .op i
    · subst hm
      have h1 : c.opOf? (.op i) = some op := (opOf_eq_some h.ids_nodup).mpr hop
      have h2 : (c.removed (.op i) op).opOf? (.op i) = none := by
        apply opOf_eq_none.mpr; rw [hids, List.mem_filter]; simp
      simp [indexCount, h1, h2, indexKeysOf]
    · simp [indexCount, hopOf m hm, hm]

theorem removed_good {c : Dag} {P : Paths} (g : Good c P) {i : Nat} {op : Op} (hop : (NodeId.op i, op) ∈ c.nodes) :
    Good (c.removed (.op i) op) (erasePaths P (.op i)) := by
  have hinv := removed_inv g.inv hop
  have F := removeFacts g.inv (.op i)
  have hnodes := removed_nodes g.inv (.op i) op
  refine ⟨hinv, ⟨?_, ?_⟩, ?_⟩
  · intro j o hm k hk
    rw [hnodes, List.mem_filter] at hm
    have hne : NodeId.op j ≠ .op i := by simpa using hm.2
    unfold erasePaths
    rw [List.mem_erase_of_ne hne]
    exact g.mem.mem_q j o hm.1 k hk
  · intro j o hm r hr
    rw [hnodes, List.mem_filter] at hm
    unfold erasePaths at hr
    exact g.mem.mem_c j o hm.1 r (List.mem_of_mem_erase hr)
  · -- acyclic: every edge of the result is an old path
    apply AcyclicRel.of_sub_transGen g.acyc
    rintro a b ⟨e, he, rfl, rfl⟩
    have hedges : (c.removed (.op i) op).edges ⊆ (c.rejoin (c.inEdges (.op i)) (c.outEdges (.op i))).edges := by
      simp only [removed]; intro x hx; exact (List.mem_filter.mp hx).1
    rcases (F.mem e).mp (hedges he) with ⟨he', _, _⟩ | ⟨ein, hi, eout, ho, hid, hos, _, hje⟩
    · exact TransGen.single ⟨e, he', rfl, rfl⟩
    · rw [hje]
      simp only [joinEdge]
      exact TransGen.tail (TransGen.single ⟨ein, hi, rfl, hid⟩) ⟨eout, ho, hos, rfl⟩

theorem removeOp_good {c : Dag} {P : Paths} (g : Good c P) {i : Nat} (hi : NodeId.op i ∈ c.nodeIds) :
    (c.removeOp (.op i)).2 = none ∧ Good (c.removeOp (.op i)).1 (erasePaths P (.op i)) ∧
      (c.removeOp (.op i)).1.regs = c.regs ∧ (c.removeOp (.op i)).1.nodeId = c.nodeId := by
  obtain ⟨op, hop⟩ := mem_nodeIds.mp hi
  have h1 : c.opOf? (.op i) = some op := (opOf_eq_some g.inv.ids_nodup).mpr hop
  rw [removeOp_eq h1]
  have F := removeFacts g.inv (.op i)
  refine ⟨rfl, removed_good g hop, ?_, F.frame.nodeId⟩
  have : (c.removed (.op i) op).regs = (c.rejoin (c.inEdges (.op i)) (c.outEdges (.op i))).regs := by
    funext t; cases t <;> rfl
  rw [this, F.frame.regs]

/-! ## `replace_op` -/

def replaced (c : Dag) (n : NodeId) (old new : Op) : Dag :=
  { c with nodeDict := new.indexKeys.foldl (fun d k => dictAppend d k n)
                         (old.indexKeys.foldl (fun d k => dictRemove d k n) c.nodeDict),
           nodes := c.nodes.map (fun p => if p.1 = n then (n, new) else p) }

theorem replaceOp_eq {c : Dag} {n : NodeId} {old new : Op} (h : c.opOf? n = some old)
    (hq : old.qregs = new.qregs) (hc : old.cregs = new.cregs) : c.replaceOp n new = (c.replaced n old new, none) := by
  unfold replaceOp; rw [h]; simp [hq, hc, replaced]

theorem replaceOp_cases (c : Dag) (n : NodeId) (new : Op) :
    (c.replaceOp n new).1 = c ∨ ∃ old, c.opOf? n = some old ∧ old.qregs = new.qregs ∧ old.cregs = new.cregs ∧
      (c.replaceOp n new).1 = c.replaced n old new := by
  cases ho : c.opOf? n with
  | none => left; unfold replaceOp; rw [ho]
  | some old =>
    by_cases hq : old.qregs = new.qregs
    · by_cases hc : old.cregs = new.cregs
      · exact Or.inr ⟨old, rfl, hq, hc, by rw [replaceOp_eq ho hq hc]⟩
      · left; unfold replaceOp; rw [ho]; simp [hc]
    · left; unfold replaceOp; rw [ho]; simp [hq]

theorem mem_replaced_nodes {c : Dag} {n : NodeId} {old new : Op} (m : NodeId) (o : Op) :
    (m, o) ∈ (c.replaced n old new).nodes ↔ (m ≠ n ∧ (m, o) ∈ c.nodes) ∨ (m = n ∧ o = new ∧ n ∈ c.nodeIds) := by
  simp only [replaced, List.mem_map]
  constructor
  · rintro ⟨p, hp, he⟩
    by_cases hpn : p.1 = n
    · rw [if_pos hpn] at he
      injection he with h1 h2
      right; exact ⟨h1.symm, h2.symm, mem_nodeIds.mpr ⟨p.2, by rw [← hpn]; exact hp⟩⟩
    · rw [if_neg hpn] at he
      subst he; left; exact ⟨hpn, hp⟩
  · rintro (⟨hne, hm⟩ | ⟨rfl, rfl, hn⟩)
    · exact ⟨(m, o), hm, by simp [hne]⟩
    · obtain ⟨o', ho'⟩ := mem_nodeIds.mp hn
      exact ⟨(m, o'), ho', by simp⟩

theorem replaced_nodeIds (c : Dag) (n : NodeId) (old new : Op) : (c.replaced n old new).nodeIds = c.nodeIds := by
  simp only [nodeIds, replaced, List.map_map]
  apply List.map_congr_left
  intro p _
  by_cases h : p.1 = n <;> simp [h]

theorem replaced_good {c : Dag} {P : Paths} (g : Good c P) {i : Nat} {old new : Op} (hold : (NodeId.op i, old) ∈ c.nodes)
    (hnew : OpWF new) (hq : old.qregs = new.qregs) (hc : old.cregs = new.cregs) :
    Good (c.replaced (.op i) old new) P := by
  have h := g.inv
  have hids := replaced_nodeIds c (.op i) old new
  have hregs : (c.replaced (.op i) old new).regs = c.regs := by funext t; cases t <;> rfl
  have hi : NodeId.op i ∈ c.nodeIds := mem_nodeIds.mpr ⟨old, hold⟩
  have hnd' : (c.replaced (.op i) old new).nodeIds.Nodup := by rw [hids]; exact h.ids_nodup
  refine ⟨?_, ⟨?_, ?_⟩, g.acyc⟩
  · refine
      { edges_nodup := h.edges_nodup
        edges_iff := h.edges_iff
        dead := by intro k hk; exact h.dead k (by simpa [live, hregs] using hk)
        shape := by intro k hk; exact h.shape k (by simpa [live, hregs] using hk)
        nodup := h.nodup
        mem_nodes := by intro k m hm; rw [hids]; exact h.mem_nodes k m hm
        edgeDict_ok := h.edgeDict_ok
        ids_nodup := hnd'
        inp_iff := by intro r; rw [hids, live_eq_of_regs hregs]; exact h.inp_iff r
        out_iff := by intro r; rw [hids, live_eq_of_regs hregs]; exact h.out_iff r
        inp_op := by
          intro r o hm
          rcases (mem_replaced_nodes _ _).mp hm with ⟨_, hm⟩ | ⟨e, _, _⟩
          · exact h.inp_op r o hm
          · cases e
        out_op := by
          intro r o hm
          rcases (mem_replaced_nodes _ _).mp hm with ⟨_, hm⟩ | ⟨e, _, _⟩
          · exact h.out_op r o hm
          · cases e
        op_range := by intro j hj; rw [hids] at hj; exact h.op_range j hj
        op_wf := by
          intro j o hm
          rcases (mem_replaced_nodes _ _).mp hm with ⟨_, hm⟩ | ⟨_, e, _⟩
          · exact h.op_wf j o hm
          · rw [e]; exact hnew
        nodeDict_ok := ?_ }
    intro l m
    have hd : (c.replaced (.op i) old new).nodeDict = new.indexKeys.foldl (fun d k => dictAppend d k (.op i))
        (old.indexKeys.foldl (fun d k => dictRemove d k (.op i)) c.nodeDict) := rfl
    rw [hd, count_dictGet_foldl_append, count_dictGet_foldl_remove, h.nodeDict_ok]
    by_cases hm : m = .op i
    · subst hm
      have h1 : c.opOf? (.op i) = some old := (opOf_eq_some h.ids_nodup).mpr hold
      have h2 : (c.replaced (.op i) old new).opOf? (.op i) = some new :=
        (opOf_eq_some hnd').mpr ((mem_replaced_nodes _ _).mpr (Or.inr ⟨rfl, rfl, hi⟩))
      simp [indexCount, h1, h2, indexKeysOf]
    · have : (c.replaced (.op i) old new).opOf? m = c.opOf? m := by
        cases hc' : c.opOf? m with
        | none =>
          apply opOf_eq_none.mpr; rw [hids]; exact opOf_eq_none.mp hc'
        | some o =>
          apply (opOf_eq_some hnd').mpr
          exact (mem_replaced_nodes _ _).mpr (Or.inl ⟨hm, (opOf_eq_some h.ids_nodup).mp hc'⟩)
      simp [indexCount, this, hm]
  · intro j o hm k hk
    rcases (mem_replaced_nodes _ _).mp hm with ⟨_, hm⟩ | ⟨e, rfl, _⟩
    · exact g.mem.mem_q j o hm k hk
    · injection e with e; subst e
      rw [← hq]; exact g.mem.mem_q j old hold k hk
  · intro j o hm r hr
    rcases (mem_replaced_nodes _ _).mp hm with ⟨_, hm⟩ | ⟨e, rfl, _⟩
    · exact g.mem.mem_c j o hm r hr
    · injection e with e; subst e
      rw [← hc]; exact g.mem.mem_c j old hold r hr

/-- whatever `replace_op` returns: it changes the state only when it succeeds -/
theorem replaceOp_good {c : Dag} {P : Paths} (g : Good c P) {i : Nat} {new : Op} (hnew : OpWF new) :
    Good (c.replaceOp (.op i) new).1 P ∧ (c.replaceOp (.op i) new).1.regs = c.regs := by
  rcases replaceOp_cases c (.op i) new with h | ⟨old, ho, hq, hc, h⟩ <;> rw [h]
  · exact ⟨g, rfl⟩
  · exact ⟨replaced_good g ((opOf_eq_some g.inv.ids_nodup).mp ho) hnew hq hc, by funext t; cases t <;> rfl⟩

theorem Good.op_unique {c : Dag} {P : Paths} (g : Good c P) {n : NodeId} {o o' : Op} (h : (n, o) ∈ c.nodes)
    (h' : (n, o') ∈ c.nodes) : o = o' := g.inv.op_unique h h'

/-! ## the four primitives

  Every edit of the API is a composition of four things: create a register, put a fresh node on one edge per wire of
  its operation, take a node out, change the operation of a node.  `Prim.run` is what each does to the circuit,
  `Prim.wires` what it does to the wires, `Prim.OK` when it may be done; `Prim.good` is the one preservation theorem. -/

/-- where a fresh node of operation `op` may be put: on existing edges, one per wire, the wires being those of the
    operation, and no spliced edge's head reaches a spliced edge's tail -/
structure SpliceOK (c : Dag) (op : Op) (es : List Edge) : Prop where
  wf : OpWF op
  mem : ∀ e ∈ es, e ∈ c.edges
  keys : (es.map (·.key)).Nodup
  qkeys : ∀ k, k.ty ≠ .c → (k ∈ es.map (·.key) ↔ k ∈ op.qregs)
  ckeys : ∀ r, (⟨.c, r⟩ : Reg) ∈ es.map (·.key) → r ∈ op.cregs
  nopath : ∀ e1 ∈ es, ∀ e2 ∈ es, ¬ ReflTransGen c.E e1.dst e2.src

inductive Prim where
  | newReg (r : Reg)
  | insert (op : Op) (es : List Edge)
  | erase (i : Nat)
  | relabel (i : Nat) (new : Op)

namespace Prim

def run (c : Dag) : Prim → Dag
  | newReg r => c.withNewReg r
  | insert op es => (c.newNode op).spliceAll (.op (c.nodeId + 1)) es
  | erase i => (c.removeOp (.op i)).1
  | relabel i new => (c.replaceOp (.op i) new).1

def wires (P : Paths) (nid : Nat) : Prim → Paths
  | newReg r => setPath P r [.inp r, .out r]
  | insert _ es => splicePaths (.op (nid + 1)) es P
  | erase i => erasePaths P (.op i)
  | relabel _ _ => P

def OK (c : Dag) : Prim → Prop
  | newReg r => r.idx = c.regs r.ty
  | insert op es => SpliceOK c op es
  | erase _ => True
  | relabel _ new => OpWF new

def IsNewReg : Prim → Prop
  | newReg _ => True
  | _ => False

def IsInsert : Prim → Prop
  | insert _ _ => True
  | _ => False

def IsErase : Prim → Prop
  | erase _ => True
  | _ => False

/-- the operation a primitive brings into the circuit -/
def brings (o : Op) : Prim → Prop
  | insert op _ => o = op
  | relabel _ new => o = new
  | _ => False

theorem IsErase.not_newReg : ∀ {p : Prim}, p.IsErase → ¬ p.IsNewReg
  | erase _, _ => id

theorem IsErase.brings_nothing : ∀ {p : Prim}, p.IsErase → ∀ {o : Op}, ¬ p.brings o
  | erase _, _, _ => id

theorem IsNewReg.brings_nothing : ∀ {p : Prim}, p.IsNewReg → ∀ {o : Op}, ¬ p.brings o
  | newReg _, _, _ => id

variable {c : Dag} {P : Paths}

theorem erasePaths_absent (h : Inv c P) {n : NodeId} (hn : n ∉ c.nodeIds) : erasePaths P n = P := by
  funext k; exact List.erase_of_not_mem (fun hm => hn (h.mem_nodes k _ hm))

@[simp] theorem insert_regs (c : Dag) (op : Op) (es : List Edge) : ((insert op es).run c).regs = c.regs := by
  show (spliceAll _ _ _).regs = _; simp

@[simp] theorem insert_nodeId (c : Dag) (op : Op) (es : List Edge) : ((insert op es).run c).nodeId = c.nodeId + 1 := by
  show (spliceAll _ _ _).nodeId = _; simp

theorem insert_nodes (h : Inv c P) (op : Op) (es : List Edge) :
    ((insert op es).run c).nodes = c.nodes ++ [(.op (c.nodeId + 1), op)] := by
  show (spliceAll _ _ _).nodes = _; rw [spliceAll_nodes, newNode_nodes h op]

theorem mem_insert_wires (h : Inv c P) {op : Op} {es : List Edge} (hok : SpliceOK c op es) (k : Reg) (x : NodeId) :
    x ∈ (insert op es).wires P c.nodeId k ↔ x ∈ P k ∨ (x = .op (c.nodeId + 1) ∧ k ∈ es.map (·.key)) :=
  mem_splicePaths (newNode_inv h hok.wf) _ es hok.mem hok.keys k x

theorem insert_wires_spec (h : Inv c P) {op : Op} {es : List Edge} (hok : SpliceOK c op es) :
    (∀ k ∉ es.map (·.key), (insert op es).wires P c.nodeId k = P k) ∧
    ∀ e ∈ es, ∃ l1 l2, P e.key = l1 ++ e.src :: e.dst :: l2 ∧
      (insert op es).wires P c.nodeId e.key = l1 ++ e.src :: .op (c.nodeId + 1) :: e.dst :: l2 := by
  refine ⟨fun k hk => splicePaths_other _ es P k hk, fun e he => ?_⟩
  obtain ⟨l1, l2, hP⟩ := consec_iff_append.mp ((h.edges_iff e).mp (hok.mem e he))
  refine ⟨l1, l2, hP, ?_⟩
  show splicePaths _ es P e.key = _
  rw [splicePaths_mem _ es P hok.keys e he, hP]
  exact insertAfter_append (h.cut hP).1

theorem erase_spec (g : Good c P) (i : Nat) :
    Good ((erase i).run c) (erasePaths P (.op i)) ∧ ((erase i).run c).regs = c.regs ∧
      ((erase i).run c).nodeId = c.nodeId ∧ ∀ m o, (m, o) ∈ ((erase i).run c).nodes → (m, o) ∈ c.nodes := by
  show Good (c.removeOp (.op i)).1 _ ∧ (c.removeOp (.op i)).1.regs = _ ∧ (c.removeOp (.op i)).1.nodeId = _ ∧
    ∀ m o, (m, o) ∈ (c.removeOp (.op i)).1.nodes → _
  by_cases hi : NodeId.op i ∈ c.nodeIds
  · obtain ⟨w, hw⟩ := mem_nodeIds.mp hi
    obtain ⟨_, h2, h3, h4⟩ := removeOp_good g hi
    exact ⟨h2, h3, h4, fun m o hm => by rw [removeOp_nodes g.inv hw] at hm; exact (List.mem_filter.mp hm).1⟩
  · rw [removeOp_absent (opOf_eq_none.mpr hi), erasePaths_absent g.inv hi]; exact ⟨g, rfl, rfl, fun _ _ h => h⟩

theorem good (g : Good c P) : ∀ {p : Prim}, p.OK c → Good (p.run c) (p.wires P c.nodeId)
  | newReg _, hr => withNewReg_good g hr
  | insert op es, h => by
    have h0 := newNode_inv g.inv h.wf
    have hnP := g.inv.fresh_not_on_path
    have hinv := (spliceAll_inv h0 rfl (newNode_mem_nodeIds g.inv op) es h.mem h.keys (fun e _ => hnP e.key)).1
    exact ⟨hinv, mem_after_splice g h.wf (insert_nodes g.inv op es) _ (mem_insert_wires g.inv h) h.qkeys h.ckeys,
      spliceAll_acyclic h0 g.acyc _ es h.mem h.keys hnP hinv h.nopath⟩
  | erase i, _ => (erase_spec g i).1
  | relabel _ _, h => (replaceOp_good g h).1

theorem run_regs (g : Good c P) : ∀ {p : Prim}, p.OK c → ¬ p.IsNewReg → (p.run c).regs = c.regs
  | newReg _, _, h => absurd trivial h
  | insert _ _, _, _ => insert_regs _ _ _
  | erase i, _, _ => (erase_spec g i).2.1
  | relabel _ _, h, _ => (replaceOp_good g h).2

theorem run_live (g : Good c P) {p : Prim} (hp : p.OK c) {k : Reg} (hk : c.live k) : (p.run c).live k := by
  cases p with
  | newReg r => exact (withNewReg_live c r k hp).mpr (Or.inl hk)
  | _ => rw [live_eq_of_regs (run_regs g hp id)]; exact hk

theorem run_nodeId_eq (g : Good c P) : ∀ {p : Prim}, p.OK c → ¬ p.IsInsert → (p.run c).nodeId = c.nodeId
  | newReg _, _, _ => by simp [run, withNewReg]
  | insert _ _, _, h => absurd trivial h
  | erase i, _, _ => (erase_spec g i).2.2.1
  | relabel i new, _, _ => by
    show (c.replaceOp (.op i) new).1.nodeId = _
    rcases replaceOp_cases c (.op i) new with h | ⟨_, _, _, _, h⟩ <;> rw [h]; rfl

theorem run_nodeId_le (g : Good c P) {p : Prim} (hp : p.OK c) : c.nodeId ≤ (p.run c).nodeId := by
  by_cases h : p.IsInsert
  · cases p <;> first | exact h.elim | simp
  · exact Nat.le_of_eq (run_nodeId_eq g hp h).symm

/-- **the node table after a primitive**: an operation node afterwards was there before with the same operation, or
    holds the operation the primitive brings, under a fresh id if it is an insertion -/
theorem mem_run_nodes (g : Good c P) : ∀ {p : Prim}, p.OK c → ∀ {j : Nat} {o : Op}, (NodeId.op j, o) ∈ (p.run c).nodes →
    (NodeId.op j, o) ∈ c.nodes ∨ (p.brings o ∧ (p.IsInsert → c.nodeId < j))
  | newReg r, _, j, o, hm => by
    rcases List.mem_append.mp (show (NodeId.op j, o) ∈ c.nodes ++ _ from hm) with h | h
    · exact Or.inl h
    · simp at h
  | insert op es, _, j, o, hm => by
    rw [insert_nodes g.inv] at hm
    rcases List.mem_append.mp hm with h | h
    · exact Or.inl h
    · simp at h; exact Or.inr ⟨h.2, fun _ => by omega⟩
  | erase i, _, j, o, hm => Or.inl ((erase_spec g i).2.2.2 _ _ hm)
  | relabel i new, _, j, o, hm => by
    have hm : (NodeId.op j, o) ∈ (c.replaceOp (.op i) new).1.nodes := hm
    rcases replaceOp_cases c (.op i) new with h | ⟨_, _, _, _, h⟩ <;> rw [h] at hm
    · exact Or.inl hm
    · rcases (mem_replaced_nodes _ _).mp hm with h | h
      · exact Or.inl h.2
      · exact Or.inr ⟨h.2.1, fun h => h.elim⟩

end Prim

/-- the last edges end in outputs, which are sinks -/
theorem spliceOK_lastEdges {c : Dag} {P : Paths} (g : Good c P) {op : Op} (hop : OpWF op) (hlive : ∀ r ∈ opRegs op, c.live r) :
    SpliceOK c op ((opRegs op).map (lastEdge P)) := by
  have hmem := lastEdges_mem g.inv hlive
  refine ⟨hop, hmem, by rw [lastEdge_keys]; exact opRegs_nodup hop, ?_, ?_, ?_⟩
  · intro k hk
    rw [lastEdge_keys, opRegs, List.mem_append]
    exact ⟨fun h => h.elim id (fun h => by obtain ⟨r, _, rfl⟩ := List.mem_map.mp h; exact absurd rfl hk), Or.inl⟩
  · intro r hr
    rw [lastEdge_keys, opRegs] at hr
    rcases List.mem_append.mp hr with h | h
    · exact absurd rfl (hop.qregs_quantum _ h)
    · obtain ⟨r', hr', e⟩ := List.mem_map.mp h
      injection e with _ e; subst e; exact hr'
  · intro e1 he1 e2 he2 hreach
    obtain ⟨k1, _, rfl⟩ := List.mem_map.mp he1
    have := reflTransGen_of_sink (g.inv.out_sink k1) hreach
    exact g.inv.out_sink k1 e2.dst ⟨e2, hmem e2 he2, this.symm, rfl⟩

theorem InsertOK.spliceOK {c : Dag} {P : Paths} (g : Good c P) {op : Op} (hop : OpWF op) {es : List Edge}
    (hok : InsertOK c op es) : SpliceOK c op es :=
  ⟨hop, hok.mem, by rw [hok.keys]; exact hop.qregs_nodup, fun k _ => by rw [hok.keys],
    fun r hr => absurd rfl (hop.qregs_quantum _ (hok.keys ▸ hr)), fun e1 he1 e2 he2 => by
      by_cases he : e1 = e2
      · subst he; exact g.acyc.no_back ⟨e1, hok.mem e1 he1, rfl, rfl⟩
      · exact hok.compat e1 he1 e2 he2 he⟩

theorem add_eq_prim {c : Dag} {P : Paths} (g : Good c P) {op : Op} (hop : OpWF op) (hlive : ∀ r ∈ opRegs op, c.live r) :
    c.add_ op = (Prim.insert op ((opRegs op).map (lastEdge P))).run c := add_eq_spliceAll g hop hlive

theorem insertAt_eq_prim {c : Dag} {P : Paths} (g : Good c P) {op : Op} {es : List Edge} (h : SpliceOK c op es) :
    c.insertAt_ op es = ((Prim.insert op es).run c, none) :=
  (spliceAll_inv (newNode_inv g.inv h.wf) rfl (newNode_mem_nodeIds g.inv op) es h.mem h.keys
    (fun e _ => g.inv.fresh_not_on_path e.key)).2

/-! ## the initial circuit -/

theorem empty_good : Good Dag.empty (fun _ => []) := by
  refine ⟨?_, ⟨?_, ?_⟩, ?_⟩
  · refine
      { edges_nodup := by simp [Dag.empty]
        edges_iff := by intro e; simp [Dag.empty]
        dead := fun _ _ => rfl
        shape := by intro k hk; cases k with | mk t i => cases t <;> simp [live, regs, Dag.empty] at hk
        nodup := by intro k; simp
        mem_nodes := by intro k n hn; simp at hn
        edgeDict_ok := by intro t e; simp [Dag.empty, dictGet]
        ids_nodup := by simp [nodeIds, Dag.empty]
        inp_iff := by
          intro r; cases r with | mk t i => cases t <;> simp [nodeIds, Dag.empty, live, regs]
        out_iff := by
          intro r; cases r with | mk t i => cases t <;> simp [nodeIds, Dag.empty, live, regs]
        inp_op := by intro r o hm; simp [Dag.empty] at hm
        out_op := by intro r o hm; simp [Dag.empty] at hm
        op_range := by intro j hj; simp [nodeIds, Dag.empty] at hj
        op_wf := by intro j o hm; simp [Dag.empty] at hm
        nodeDict_ok := by intro l n; simp [Dag.empty, dictGet, indexCount, opOf?] }
  · intro i o hm; simp [Dag.empty] at hm
  · intro i o hm; simp [Dag.empty] at hm
  · intro a haa
    rcases TransGen.head'_iff.mp haa with ⟨b, ⟨e, he, _⟩, _⟩
    simp [Dag.empty] at he

theorem Inv.mem_nodeDict {c : Dag} {P : Paths} (h : Inv c P) {l : String} {n : NodeId} (hn : n ∈ dictGet c.nodeDict l) :
    ∃ op, (n, op) ∈ c.nodes ∧ l ∈ indexKeysOf n op := by
  have hc : 0 < (dictGet c.nodeDict l).count n := List.count_pos_iff.mpr hn
  rw [h.nodeDict_ok] at hc
  unfold indexCount at hc
  cases ho : c.opOf? n with
  | none => rw [ho] at hc; simp at hc
  | some op =>
    rw [ho] at hc
    exact ⟨op, (opOf_eq_some h.ids_nodup).mp ho, List.count_pos_iff.mp hc⟩

theorem Inv.nodeDict_ops {c : Dag} {P : Paths} (h : Inv c P) {l : String} (hl1 : l ≠ "Input") (hl2 : l ≠ "Output")
    {n : NodeId} (hn : n ∈ dictGet c.nodeDict l) : ∃ i, n = NodeId.op i := by
  obtain ⟨op, _, hk⟩ := h.mem_nodeDict hn
  cases n with
  | inp r => simp [indexKeysOf] at hk; exact absurd hk hl1
  | out r => simp [indexKeysOf] at hk; exact absurd hk hl2
  | op i => exact ⟨i, rfl⟩

/-! ## what DagInv says about the graph -/

theorem Good.op_on_wire {c : Dag} {P : Paths} (g : Good c P) {i : Nat} (hn : NodeId.op i ∈ c.nodeIds) :
    ∃ k, NodeId.op i ∈ P k := by
  obtain ⟨op, hop⟩ := mem_nodeIds.mp hn
  have hwf := g.inv.op_wf i op hop
  obtain ⟨k, hk⟩ := List.exists_mem_of_ne_nil _ hwf.qregs_ne
  exact ⟨k, (g.mem.mem_q i op hop k (hwf.qregs_quantum k hk)).mpr hk⟩

theorem Good.source_iff {c : Dag} {P : Paths} (g : Good c P) {n : NodeId} (hn : n ∈ c.nodeIds) :
    (∀ a, ¬ c.E a n) ↔ ∃ r, n = .inp r := by
  constructor
  · intro hsrc
    cases n with
    | inp r => exact ⟨r, rfl⟩
    | out r =>
      exfalso
      have hl := (g.inv.out_iff r).mp hn
      exact hsrc _ ⟨lastEdge P r, g.inv.lastEdge_mem hl, rfl, rfl⟩
    | op i =>
      exfalso
      obtain ⟨k, hon⟩ := g.op_on_wire hn
      obtain ⟨a, _, ha, _⟩ := g.inv.op_neighbours hon
      exact hsrc a ⟨⟨a, .op i, k⟩, (g.inv.edges_iff _).mpr ha, rfl, rfl⟩
  · rintro ⟨r, rfl⟩ a; exact g.inv.inp_source r a

theorem Good.sink_iff {c : Dag} {P : Paths} (g : Good c P) {n : NodeId} (hn : n ∈ c.nodeIds) :
    (∀ b, ¬ c.E n b) ↔ ∃ r, n = .out r := by
  constructor
  · intro hsnk
    cases n with
    | out r => exact ⟨r, rfl⟩
    | inp r =>
      exfalso
      have hl := (g.inv.inp_iff r).mp hn
      obtain ⟨mid, hP, _⟩ := g.inv.shape r hl
      have : ∃ y, Consec (P r) (.inp r) y := by
        rw [hP]
        cases mid with
        | nil => exact ⟨.out r, by simp [consec_cons_cons]⟩
        | cons m t => exact ⟨m, by simp [consec_cons_cons]⟩
      obtain ⟨y, hy⟩ := this
      exact hsnk y ⟨⟨.inp r, y, r⟩, (g.inv.edges_iff _).mpr hy, rfl, rfl⟩
    | op i =>
      exfalso
      obtain ⟨k, hon⟩ := g.op_on_wire hn
      obtain ⟨_, b, _, hb⟩ := g.inv.op_neighbours hon
      exact hsnk b ⟨⟨.op i, b, k⟩, (g.inv.edges_iff _).mpr hb, rfl, rfl⟩
  · rintro ⟨r, rfl⟩ b; exact g.inv.out_sink r b

theorem Inv.input_count {c : Dag} {P : Paths} (h : Inv c P) (t : RegType) :
    (c.nodeIds.filter (fun n => match n with | .inp r => r.ty = t | _ => false)).length = c.regs t := by
  let f := fun n : NodeId => match n with | .inp r => decide (r.ty = t) | _ => false
  have hnd1 : (c.nodeIds.filter f).Nodup := h.ids_nodup.filter _
  let l2 := (List.range (c.regs t)).map (fun j => NodeId.inp ⟨t, j⟩)
  have hnd2 : l2.Nodup := nodup_map_of_inj (fun a b e => by injection e with e; injection e) List.nodup_range
  have hsub1 : c.nodeIds.filter f ⊆ l2 := by
    intro n hn
    obtain ⟨hn1, hn2⟩ := List.mem_filter.mp hn
    cases n with
    | inp r =>
      have hrt : r.ty = t := by simpa [f] using hn2
      have hl := (h.inp_iff r).mp hn1
      apply List.mem_map.mpr
      refine ⟨r.idx, ?_, ?_⟩
      · rw [List.mem_range]; unfold live at hl; rw [hrt] at hl; exact hl
      · cases r; simp at hrt; subst hrt; rfl
    | out r => simp [f] at hn2
    | op i => simp [f] at hn2
  have hsub2 : l2 ⊆ c.nodeIds.filter f := by
    intro n hn
    obtain ⟨j, hj, rfl⟩ := List.mem_map.mp hn
    rw [List.mem_range] at hj
    apply List.mem_filter.mpr
    exact ⟨(h.inp_iff ⟨t, j⟩).mpr hj, by simp [f]⟩
  have h1 := hnd1.length_le_of_subset hsub1
  have h2 := hnd2.length_le_of_subset hsub2
  have hlen : l2.length = c.regs t := by simp [l2]
  show (c.nodeIds.filter f).length = c.regs t
  omega

/-! ## `find_incompatible_edges` under the networkx specification -/

/-- recorded specification of `nx.ancestors(G, n)`: the nodes with a non-empty path to `n` -/
def AncSpec (c : Dag) (n : NodeId) (anc : List NodeId) : Prop := ∀ x, x ∈ anc ↔ TransGen c.E x n

/-- recorded specification of `nx.descendants(G, n)`: the nodes reachable from `n` by a non-empty path -/
def DescSpec (c : Dag) (n : NodeId) (desc : List NodeId) : Prop := ∀ x, x ∈ desc ↔ TransGen c.E n x

/-- an edge the circuit does **not** report incompatible with `first` has no path from the head of `first` to its
    tail and none from its head to the tail of `first` — exactly the hypotheses of `InsertOK.compat` -/
theorem compatible_no_path {c : Dag} {first e2 : Edge} {anc desc : List NodeId} {L : List Edge}
    (hanc : AncSpec c first.src anc) (hdesc : DescSpec c first.dst desc)
    (hL : c.findIncompatibleEdgesWith anc desc first = .ok L) (he2 : e2 ∈ c.edges) (hcompat : e2 ∉ L) :
    ¬ ReflTransGen c.E first.dst e2.src ∧ ¬ ReflTransGen c.E e2.dst first.src := by
  unfold findIncompatibleEdgesWith at hL
  split at hL
  · simp at hL
  · injection hL with hL
    subst hL
    rw [List.mem_eraseDups] at hcompat
    simp only [List.mem_append, List.mem_cons, List.mem_flatMap, not_or] at hcompat
    constructor
    · intro hr
      rcases reflTransGen_iff_eq_or_transGen.mp hr with heq | ht
      · exact hcompat.2.1 (by simp [outEdges, he2, heq])
      · exact hcompat.2.2 ⟨e2.src, (hdesc _).mpr ht, by simp [outEdges, he2]⟩
    · intro hr
      rcases reflTransGen_iff_eq_or_transGen.mp hr with heq | ht
      · exact hcompat.1.2.1 (by simp [inEdges, he2, heq])
      · have : TransGen c.E e2.src first.src := TransGen.head ⟨e2, he2, rfl, rfl⟩ ht
        exact hcompat.1.2.2 ⟨e2.src, (hanc _).mpr this, by simp [outEdges, he2]⟩

/-! ## any linear extension runs along every wire in wire order -/

/-- recorded specification of `nx.topological_sort`: position function `pos` of a linear extension -/
def LinearExt (c : Dag) (pos : NodeId → Nat) : Prop := ∀ e ∈ c.edges, pos e.src < pos e.dst

theorem pos_lt_of_before {c : Dag} {P : Paths} (h : Inv c P) {pos : NodeId → Nat} (hlin : LinearExt c pos) (k : Reg) :
    ∀ (l1 l2 l3 : List NodeId) (x y : NodeId), P k = l1 ++ x :: (l2 ++ y :: l3) → pos x < pos y := by
  intro l1 l2
  induction l2 generalizing l1 with
  | nil =>
    intro l3 x y hP
    have hc : Consec (P k) x y := consec_iff_append.mpr ⟨l1, l3, by simpa using hP⟩
    exact hlin ⟨x, y, k⟩ ((h.edges_iff ⟨x, y, k⟩).mpr hc)
  | cons z t ih =>
    intro l3 x y hP
    have hc : Consec (P k) x z := consec_iff_append.mpr ⟨l1, t ++ y :: l3, by simpa using hP⟩
    have h1 : pos x < pos z := hlin ⟨x, z, k⟩ ((h.edges_iff ⟨x, z, k⟩).mpr hc)
    have h2 : pos z < pos y := ih (l1 ++ [x]) l3 z y (by simpa using hP)
    omega

end Dag
end Graphiq
