/-
  Proofs/HilbertDimSite.lean — one tensor factor at an arbitrary site of the bit-string index.

  * `siteEquiv q : Bits (m+1) ≃ Bits m × Bool` (delete bit `q` / insert a bit at position `q`), for every `q ≤ m`;
  * `insSite q A u` : the operator `A` on the other `m` qubits times the 2×2 matrix `u` on qubit `q` — it is the Kronecker
    product `A ⊗ₖ u` of Mathlib re-indexed along `siteEquiv q`; product, unit, adjoint, trace, linearity;
  * `ptraceSite q M` : the partial trace over qubit `q`, `(Tr_q M) a b = Σ_s M (a with s at q) (b with s at q)`;
    `ptraceSite q (insSite q A u) = tr u • A`, `ptraceSite q (insSite q A 1 * M) = A * ptraceSite q M`;
  * `pauliMat_site` : `pauliMat (m+1) P = insSite q (pauliMat m (P.deleteCol q)) σ(x_q, z_q)` — the generalisation of
    `pauliMat_succ` from the last site to any site.
-/
import GraphiqModel.Proofs.HilbertMeasure
import GraphiqModel.Proofs.HilbertKron
import GraphiqModel.Proofs.TabSpecHom
import Mathlib.LinearAlgebra.Matrix.Kronecker
namespace Graphiq
namespace Hilbert
open Matrix PRow
open scoped Kronecker

/-! ### deleting / inserting one bit -/

def delB {m : Nat} (q : Nat) (b : Bits (m + 1)) : Bits m :=
  fun j => if j.val < q then bx b j.val else bx b (j.val + 1)

def insB {m : Nat} (q : Nat) (a : Bits m) (s : Bool) : Bits (m + 1) :=
  fun j => if j.val < q then bx a j.val else if j.val = q then s else bx a (j.val - 1)

theorem bx_delB {m : Nat} (q : Nat) (b : Bits (m + 1)) (j : Nat) (hj : j < m) :
    bx (delB q b) j = if j < q then bx b j else bx b (j + 1) := by
  rw [bx_lt _ _ hj]; rfl

theorem bx_insB {m : Nat} (q : Nat) (a : Bits m) (s : Bool) (j : Nat) (hj : j < m + 1) :
    bx (insB q a s) j = if j < q then bx a j else if j = q then s else bx a (j - 1) := by
  rw [bx_lt _ _ hj]; rfl

theorem bx_insB_self {m : Nat} (q : Nat) (hq : q ≤ m) (a : Bits m) (s : Bool) : bx (insB q a s) q = s := by
  rw [bx_insB q a s q (by omega)]; simp

theorem delB_insB {m : Nat} (q : Nat) (a : Bits m) (s : Bool) : delB q (insB q a s) = a := by
  apply bits_ext
  intro j hj
  rw [bx_delB q _ j hj]
  by_cases h : j < q
  · rw [if_pos h, bx_insB q a s j (by omega), if_pos h]
  · rw [if_neg h, bx_insB q a s (j + 1) (by omega), if_neg (by omega), if_neg (by omega)]
    rfl

theorem insB_delB {m : Nat} (q : Nat) (hq : q ≤ m) (b : Bits (m + 1)) : insB q (delB q b) (bx b q) = b := by
  apply bits_ext
  intro j hj
  rw [bx_insB q _ _ j hj]
  by_cases h : j < q
  · rw [if_pos h, bx_delB q b j (by omega), if_pos h]
  · by_cases e : j = q
    · rw [if_neg h, if_pos e, e]
    · rw [if_neg h, if_neg e, bx_delB q b (j - 1) (by omega), if_neg (by omega)]
      congr 1; omega

def siteEquiv {m : Nat} (q : Nat) (hq : q ≤ m) : Bits (m + 1) ≃ Bits m × Bool where
  toFun b := (delB q b, bx b q)
  invFun p := insB q p.1 p.2
  left_inv b := insB_delB q hq b
  right_inv p := by
    show (delB q (insB q p.1 p.2), bx (insB q p.1 p.2) q) = p
    rw [delB_insB, bx_insB_self q hq]

theorem bits_site_ext {m : Nat} (q : Nat) (hq : q ≤ m) (a b : Bits (m + 1)) :
    a = b ↔ delB q a = delB q b ∧ bx a q = bx b q := by
  constructor
  · intro h; subst h; exact ⟨rfl, rfl⟩
  · intro ⟨h1, h2⟩
    have := congrArg (siteEquiv q hq).symm (show (siteEquiv q hq) a = (siteEquiv q hq) b from Prod.ext h1 h2)
    simpa using this

theorem insB_off {m : Nat} (q : Nat) (a : Bits m) (s s' : Bool) (j : Fin (m + 1)) (hj : j.val ≠ q) :
    insB q a s j = insB q a s' j := by
  simp only [insB, if_neg hj]

theorem delB_eq_iff {m : Nat} (q : Nat) (hq : q ≤ m) (a b : Bits (m + 1)) :
    (∀ j : Fin (m + 1), j.val ≠ q → a j = b j) ↔ delB q a = delB q b := by
  constructor
  · intro h
    -- `b` with its bit `q` replaced by that of `a` is `a`
    have e : a = insB q (delB q b) (bx a q) := by
      rw [bits_eq_iff_site q]
      refine ⟨fun j hj => ?_, (bx_insB_self q hq _ _).symm⟩
      rw [h j hj, insB_off q _ _ (bx b q) j hj, insB_delB q hq b]
    exact (congrArg (delB q) e).trans (delB_insB q _ _)
  · intro h j hj
    have ea := congrFun (insB_delB q hq a) j
    have eb := congrFun (insB_delB q hq b) j
    exact (ea.symm.trans (by rw [h, insB_off q _ (bx a q) (bx b q) j hj])).trans eb

/-! ### an operator on the other qubits times a 2×2 matrix at site `q` -/

noncomputable def insSite {m : Nat} (q : Nat) (A : Matrix (Bits m) (Bits m) ℂ) (u : Matrix Bool Bool ℂ) :
    Matrix (Bits (m + 1)) (Bits (m + 1)) ℂ :=
  Matrix.of fun a b => A (delB q a) (delB q b) * u (bx a q) (bx b q)

theorem insSite_apply {m : Nat} (q : Nat) (A : Matrix (Bits m) (Bits m) ℂ) (u : Matrix Bool Bool ℂ)
    (a b : Bits (m + 1)) : insSite q A u a b = A (delB q a) (delB q b) * u (bx a q) (bx b q) := rfl

theorem insSite_eq_kronecker {m : Nat} (q : Nat) (hq : q ≤ m) (A : Matrix (Bits m) (Bits m) ℂ)
    (u : Matrix Bool Bool ℂ) : insSite q A u = (A ⊗ₖ u).submatrix (siteEquiv q hq) (siteEquiv q hq) := rfl

theorem insSite_mul {m : Nat} (q : Nat) (hq : q ≤ m) (A A' : Matrix (Bits m) (Bits m) ℂ) (u u' : Matrix Bool Bool ℂ) :
    insSite q A u * insSite q A' u' = insSite q (A * A') (u * u') := by
  rw [insSite_eq_kronecker q hq, insSite_eq_kronecker q hq, insSite_eq_kronecker q hq, Matrix.submatrix_mul_equiv,
    Matrix.mul_kronecker_mul]

theorem insSite_one {m : Nat} (q : Nat) (hq : q ≤ m) : insSite (m := m) q 1 1 = 1 := by
  rw [insSite_eq_kronecker q hq, Matrix.one_kronecker_one, Matrix.submatrix_one_equiv]

theorem insSite_conjTranspose {m : Nat} (q : Nat) (A : Matrix (Bits m) (Bits m) ℂ) (u : Matrix Bool Bool ℂ) :
    (insSite q A u)ᴴ = insSite q Aᴴ uᴴ := by
  ext a b
  simp only [Matrix.conjTranspose_apply, insSite_apply, star_mul']

theorem insSite_add_left {m : Nat} (q : Nat) (A A' : Matrix (Bits m) (Bits m) ℂ) (u : Matrix Bool Bool ℂ) :
    insSite q (A + A') u = insSite q A u + insSite q A' u := by
  ext a b; simp only [insSite_apply, Matrix.add_apply, add_mul]

theorem insSite_add_right {m : Nat} (q : Nat) (A : Matrix (Bits m) (Bits m) ℂ) (u u' : Matrix Bool Bool ℂ) :
    insSite q A (u + u') = insSite q A u + insSite q A u' := by
  ext a b; simp only [insSite_apply, Matrix.add_apply, mul_add]

theorem insSite_smul_left {m : Nat} (q : Nat) (c : ℂ) (A : Matrix (Bits m) (Bits m) ℂ) (u : Matrix Bool Bool ℂ) :
    insSite q (c • A) u = c • insSite q A u := by
  ext a b; simp only [insSite_apply, Matrix.smul_apply, smul_eq_mul]; ring

theorem insSite_smul_right {m : Nat} (q : Nat) (c : ℂ) (A : Matrix (Bits m) (Bits m) ℂ) (u : Matrix Bool Bool ℂ) :
    insSite q A (c • u) = c • insSite q A u := by
  ext a b; simp only [insSite_apply, Matrix.smul_apply, smul_eq_mul]; ring

theorem insSite_zero_left {m : Nat} (q : Nat) (u : Matrix Bool Bool ℂ) :
    insSite (m := m) q 0 u = 0 := by
  ext a b; simp [insSite_apply]

theorem trace_submatrix_equiv {α β : Type} [Fintype α] [Fintype β] (e : α ≃ β) (M : Matrix β β ℂ) :
    Matrix.trace (M.submatrix e e) = Matrix.trace M := by
  unfold Matrix.trace
  exact Fintype.sum_equiv e _ _ (fun a => rfl)

theorem trace_insSite {m : Nat} (q : Nat) (hq : q ≤ m) (A : Matrix (Bits m) (Bits m) ℂ) (u : Matrix Bool Bool ℂ) :
    Matrix.trace (insSite q A u) = Matrix.trace A * Matrix.trace u := by
  rw [insSite_eq_kronecker q hq, trace_submatrix_equiv, Matrix.trace_kronecker]

/-! ### partial trace over one site -/

noncomputable def ptraceSite {m : Nat} (q : Nat) (M : Matrix (Bits (m + 1)) (Bits (m + 1)) ℂ) :
    Matrix (Bits m) (Bits m) ℂ :=
  Matrix.of fun a b => ∑ s : Bool, M (insB q a s) (insB q b s)

theorem ptraceSite_apply {m : Nat} (q : Nat) (M : Matrix (Bits (m + 1)) (Bits (m + 1)) ℂ) (a b : Bits m) :
    ptraceSite q M a b = M (insB q a false) (insB q b false) + M (insB q a true) (insB q b true) := by
  show ∑ s : Bool, M (insB q a s) (insB q b s) = _
  rw [Fintype.sum_bool, add_comm]

theorem ptraceSite_insSite {m : Nat} (q : Nat) (hq : q ≤ m) (A : Matrix (Bits m) (Bits m) ℂ)
    (u : Matrix Bool Bool ℂ) : ptraceSite q (insSite q A u) = Matrix.trace u • A := by
  ext a b
  rw [ptraceSite_apply]
  simp only [insSite_apply, delB_insB, bx_insB_self q hq, Matrix.smul_apply, smul_eq_mul, Matrix.trace,
    Matrix.diag_apply, Fintype.sum_bool]
  ring

theorem ptraceSite_add {m : Nat} (q : Nat) (M N : Matrix (Bits (m + 1)) (Bits (m + 1)) ℂ) :
    ptraceSite q (M + N) = ptraceSite q M + ptraceSite q N := by
  ext a b; simp only [ptraceSite_apply, Matrix.add_apply]; ring

theorem ptraceSite_smul {m : Nat} (q : Nat) (c : ℂ) (M : Matrix (Bits (m + 1)) (Bits (m + 1)) ℂ) :
    ptraceSite q (c • M) = c • ptraceSite q M := by
  ext a b; simp only [ptraceSite_apply, Matrix.smul_apply, smul_eq_mul]; ring

theorem trace_ptraceSite {m : Nat} (q : Nat) (hq : q ≤ m) (M : Matrix (Bits (m + 1)) (Bits (m + 1)) ℂ) :
    Matrix.trace (ptraceSite q M) = Matrix.trace M := by
  unfold Matrix.trace
  have h1 : ∑ b : Bits (m + 1), M.diag b = ∑ p : Bits m × Bool, M.diag ((siteEquiv q hq).symm p) :=
    (Fintype.sum_equiv (siteEquiv q hq).symm _ _ (fun _ => rfl)).symm
  rw [h1, Fintype.sum_prod_type]
  rfl

theorem ptraceSite_conjTranspose {m : Nat} (q : Nat) (M : Matrix (Bits (m + 1)) (Bits (m + 1)) ℂ) :
    (ptraceSite q M)ᴴ = ptraceSite q Mᴴ := by
  ext a b
  simp only [Matrix.conjTranspose_apply, ptraceSite_apply, star_add]

theorem sum_bits_site {m : Nat} (q : Nat) (hq : q ≤ m) (f : Bits (m + 1) → ℂ) :
    ∑ x, f x = ∑ a : Bits m, (f (insB q a false) + f (insB q a true)) := by
  rw [← Fintype.sum_equiv (siteEquiv q hq).symm (fun p : Bits m × Bool => f (insB q p.1 p.2)) f (fun _ => rfl),
    Fintype.sum_prod_type]
  apply Finset.sum_congr rfl
  intro a _
  rw [Fintype.sum_bool, add_comm]

theorem ptraceSite_insSite_mul {m : Nat} (q : Nat) (hq : q ≤ m) (A : Matrix (Bits m) (Bits m) ℂ)
    (M : Matrix (Bits (m + 1)) (Bits (m + 1)) ℂ) : ptraceSite q (insSite q A 1 * M) = A * ptraceSite q M := by
  ext a b
  rw [ptraceSite_apply, Matrix.mul_apply, Matrix.mul_apply, Matrix.mul_apply, sum_bits_site q hq, sum_bits_site q hq,
    ← Finset.sum_add_distrib]
  apply Finset.sum_congr rfl
  intro c _
  simp only [ptraceSite_apply, insSite_apply, delB_insB, bx_insB_self q hq, Matrix.one_apply]
  simp
  ring

/-! ### the matrix of a Pauli row factorises at every site -/

theorem delB_flip {m : Nat} (q : Nat) (x : Nat → Bool) (b : Bits (m + 1)) :
    delB q (flip x b) = flip (fun j => if j < q then x j else x (j + 1)) (delB q b) := by
  apply bits_ext
  intro j hj
  rw [bx_delB q _ j hj, bx_flip _ _ _ hj, bx_delB q b j hj]
  by_cases h : j < q
  · rw [if_pos h, if_pos h, if_pos h, bx_flip _ _ _ (by omega)]
  · rw [if_neg h, if_neg h, if_neg h, bx_flip _ _ _ (by omega)]

theorem pexp_site (m q : Nat) (hq : q ≤ m) (P : PRow) (b : Bits (m + 1)) :
    pexp (m + 1) P b = pexp m (P.deleteCol q) (delB q b) + sFun (P.x q) (P.z q) (bx b q) := by
  unfold pexp
  rw [sumTo_site m q hq, TabSpec.deleteCol_ph]
  have : sumTo m (fun j => if j < q then sFun (P.x j) (P.z j) (bx b j) else sFun (P.x (j + 1)) (P.z (j + 1)) (bx b (j + 1)))
      = sumTo m (fun j => sFun ((P.deleteCol q).x j) ((P.deleteCol q).z j) (bx (delB q b) j)) := by
    apply sumTo_congr
    intro j hj
    rw [bx_delB q b j hj]
    by_cases h : j < q <;> simp [PRow.deleteCol, h]
  rw [this]; omega

/-- **Kronecker structure at an arbitrary site.**  `pauliMat (m+1) P = pauliMat m (P without site q) ⊗_q σ(x_q, z_q)`
    (the phase bits are carried by the first factor); `pauliMat_succ` is the case `q = m`. -/
theorem pauliMat_site (m q : Nat) (hq : q ≤ m) (P : PRow) :
    pauliMat (m + 1) P = insSite q (pauliMat m (P.deleteCol q)) (sigma (P.x q) (P.z q)) := by
  ext a b
  rw [insSite_apply, pauliMat_apply, pauliMat_apply]
  simp only [sigma, Matrix.of_apply]
  have hf : a = flip P.x b ↔ delB q a = flip (P.deleteCol q).x (delB q b) ∧ bx a q = xor (bx b q) (P.x q) := by
    rw [bits_site_ext q hq, delB_flip, bx_flip _ _ _ (by omega)]
    rfl
  by_cases h1 : delB q a = flip (P.deleteCol q).x (delB q b)
  · by_cases h2 : bx a q = xor (bx b q) (P.x q)
    · rw [if_pos (hf.mpr ⟨h1, h2⟩), if_pos h1, if_pos h2, pexp_site m q hq, iPow_add]
    · rw [if_neg (fun h => h2 (hf.mp h).2), if_neg h2, mul_zero]
  · rw [if_neg (fun h => h1 (hf.mp h).1), if_neg h1, zero_mul]

theorem pauliMat_insertCol (m q : Nat) (hq : q ≤ m) (P : PRow) :
    pauliMat (m + 1) (P.insertCol q) = insSite q (pauliMat m P) 1 := by
  rw [pauliMat_site m q hq, pauliMat_congr m _ _ (TabSpec.deleteCol_insertCol m q P), TabSpec.insertCol_x,
    TabSpec.insertCol_z, sigma_ff]

theorem proj_insertCol (m q : Nat) (hq : q ≤ m) (P : PRow) :
    proj (m + 1) (P.insertCol q) = insSite q (proj m P) 1 := by
  unfold proj
  rw [pauliMat_insertCol m q hq, insSite_smul_left, insSite_add_left, insSite_one q hq]

/-! ### consistency with the "last qubit = right-most Kronecker factor" convention of `HilbertKron` -/

theorem delB_last {m : Nat} (b : Bits (m + 1)) : delB m b = initB b := by
  apply bits_ext
  intro j hj
  rw [bx_delB m b j hj, if_pos hj, bx_initB b j hj]

theorem insSite_last {m : Nat} (A : Matrix (Bits m) (Bits m) ℂ) (u : Matrix Bool Bool ℂ) (a b : Bits (m + 1)) :
    insSite m A u a b = A (initB a) (initB b) * u (lastB a) (lastB b) := by
  rw [insSite_apply, delB_last, delB_last, bx_lastB, bx_lastB]

end Hilbert
end Graphiq
