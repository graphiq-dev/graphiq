/-
  Proofs/LCRepair.lean — the repaired `is_lc_equivalent` (`isLcEquivalentR`, repair of D14): what its loop over the
  components returns.  A `yes` carries, for every component, a `yes` of the unrepaired function on the induced pair whose `Q` is the
  restriction of the assembled `Q`; a `no` is "the component partitions differ" or a `no` on one induced pair.  Valid local
  Cliffords pass both ways between the whole pair and the induced pairs (`restrict_valid`, `assemble_valid`).
-/
import GraphiqModel.Proofs.LCBlock
import GraphiqModel.Proofs.LCGraphTab
import GraphiqModel.Proofs.LCTotal
namespace Graphiq.LC
open Graphiq PRow Tab

/-! ### `solution[nodes] = component_solution` -/

theorem scatter_length (sol : List Bool) (nodes : List Nat) (q : List Bool) : (scatter sol nodes q).length = sol.length := by
  simp [scatter]

theorem vget_of_ge (l : List Bool) (i : Nat) (h : l.length ≤ i) : vget l i = false := by
  simp [vget, List.getD, List.getElem?_eq_none h]

theorem vget_scatter (sol : List Bool) (nodes : List Nat) (q : List Bool) (idx : Nat) (h : idx < sol.length) :
    vget (scatter sol nodes q) idx =
      match nodes.findIdx? (· == idx / 4) with
      | some i => vget q (4 * i + idx % 4)
      | none => vget sol idx := by
  unfold scatter
  rw [vget_map_range sol.length _ idx h]
  rfl

theorem vget_scatter_in (sol : List Bool) (c : List Nat) (q : List Bool) (hn : c.Nodup) (i t : Nat) (hi : i < c.length)
    (ht : t < 4) (h : 4 * c.getD i 0 + t < sol.length) :
    vget (scatter sol c q) (4 * c.getD i 0 + t) = vget q (4 * i + t) := by
  rw [vget_scatter sol c q _ h]
  have h1 : (4 * c.getD i 0 + t) / 4 = c.getD i 0 := by omega
  have h2 : (4 * c.getD i 0 + t) % 4 = t := by omega
  rw [h1, h2, findIdx_keep c hn i hi]

theorem vget_scatter_out (sol : List Bool) (c : List Nat) (q : List Bool) (v t : Nat) (hv : v ∉ c) (ht : t < 4) :
    vget (scatter sol c q) (4 * v + t) = vget sol (4 * v + t) := by
  by_cases h : 4 * v + t < sol.length
  · rw [vget_scatter sol c q _ h]
    have h1 : (4 * v + t) / 4 = v := by omega
    rw [h1, findIdx_none_of_not_mem c v hv]
  · rw [vget_of_ge _ _ (by rw [scatter_length]; omega), vget_of_ge _ _ (by omega)]

/-! ### the loop over the components -/

/-- **a `yes` of the loop**: the assembled vector has `4 n` entries, agrees with the initial one outside the components, and
    for every component the unrepaired function answered `yes` on the induced pair with the restriction of the assembled
    vector as its `Q` -/
theorem componentLoop_yes (a b : BMat) (mode : Mode) (n : Nat) (comps : List (List Nat)) (draws : List (List Bool))
    (sol : List Bool) (parts : List EqOut) (res : List Bool) (parts' : List EqOut)
    (hnd : ∀ c ∈ comps, c.Nodup) (hlt : ∀ c ∈ comps, ∀ v ∈ c, v < n)
    (hdis : comps.Pairwise fun c1 c2 => ∀ v, v ∈ c1 → v ∉ c2) (hlen : sol.length = 4 * n)
    (e : componentLoop a b mode comps draws sol parts = .ok (some res, parts')) :
    res.length = 4 * n ∧
      (∀ v, (∀ c ∈ comps, v ∉ c) → ∀ t, t < 4 → vget res (4 * v + t) = vget sol (4 * v + t)) ∧
      ∀ c ∈ comps, ∃ out qc d, isLcEquivalent (subMat a c) (subMat b c) mode d = .ok out ∧ out.sol = some qc ∧
        ∀ i t, i < c.length → t < 4 → vget res (4 * c.getD i 0 + t) = vget qc (4 * i + t) := by
  induction comps generalizing draws sol parts with
  | nil =>
    simp only [componentLoop] at e
    have : sol = res := by
      have := Except.ok.inj e
      exact Option.some.inj (Prod.mk.inj this).1
    subst this
    exact ⟨hlen, fun _ _ _ _ => rfl, fun c hc => by cases hc⟩
  | cons c rest ih =>
    simp only [componentLoop] at e
    split at e
    · cases e
    · rename_i out hout
      split at e
      · have := Except.ok.inj e
        cases (Prod.mk.inj this).1
      · rename_i qc hqc
        rw [List.pairwise_cons] at hdis
        have hc_nd := hnd c List.mem_cons_self
        have hc_lt := hlt c List.mem_cons_self
        obtain ⟨r1, r2, r3⟩ := ih _ (scatter sol c qc) _ (fun c' h' => hnd c' (List.mem_cons_of_mem _ h'))
          (fun c' h' => hlt c' (List.mem_cons_of_mem _ h')) hdis.2 (by rw [scatter_length]; exact hlen) e
        refine ⟨r1, ?_, ?_⟩
        · intro v hv t ht
          rw [r2 v (fun c' h' => hv c' (List.mem_cons_of_mem _ h')) t ht]
          exact vget_scatter_out sol c qc v t (hv c List.mem_cons_self) ht
        · intro c' hc'
          rcases List.mem_cons.mp hc' with rfl | hc'
          · refine ⟨out, qc, _, hout, hqc, ?_⟩
            intro i t hi ht
            have hmem := getD_mem_of_lt c' i hi
            rw [r2 (c'.getD i 0) (fun c'' h'' => hdis.1 c'' h'' _ hmem) t ht]
            exact vget_scatter_in sol c' qc hc_nd i t hi ht (by rw [hlen]; have := hc_lt _ hmem; omega)
          · exact r3 c' hc'

/-- **a `no` of the loop** comes from a `no` of the unrepaired function on the induced pair of one component (recorded last
    in `parts`) -/
theorem componentLoop_no (a b : BMat) (mode : Mode) (comps : List (List Nat)) (draws : List (List Bool))
    (sol : List Bool) (parts : List EqOut) (parts' : List EqOut)
    (e : componentLoop a b mode comps draws sol parts = .ok (none, parts')) :
    ∃ c ∈ comps, ∃ out d, out ∈ parts' ∧ isLcEquivalent (subMat a c) (subMat b c) mode d = .ok out ∧ out.sol = none := by
  induction comps generalizing draws sol parts with
  | nil =>
    simp only [componentLoop] at e
    have := Except.ok.inj e
    cases (Prod.mk.inj this).1
  | cons c rest ih =>
    simp only [componentLoop] at e
    split at e
    · cases e
    · rename_i out hout
      split at e
      · rename_i hnone
        have := Except.ok.inj e
        have hp : parts ++ [out] = parts' := (Prod.mk.inj this).2
        exact ⟨c, List.mem_cons_self, out, _, by rw [← hp]; simp, hout, hnone⟩
      · obtain ⟨c', hc', o, d, h1, h2, h3⟩ := ih _ _ _ e
        exact ⟨c', List.mem_cons_of_mem _ hc', o, d, h1, h2, h3⟩

theorem detQ_congr (q q' : Nat → Bool) (m : Nat) (h : ∀ t, t < 4 → q (4 * m + t) = q' (4 * m + t)) :
    detQ q m = detQ q' m := by
  unfold detQ
  have h0 := h 0 (by omega)
  rw [Nat.add_zero] at h0
  rw [h0, h 1 (by omega), h 2 (by omega), h 3 (by omega)]

/-- the induced-pair equations and determinants, transferred between two vectors that agree through the re-indexing -/
theorem sub_transfer (c : List Nat) (A' B' : Adj) (q : Nat → Bool) (qc : Nat → Bool)
    (hag : ∀ i t, i < c.length → t < 4 → q (4 * c.getD i 0 + t) = qc (4 * i + t)) :
    (∀ i i', i < c.length → i' < c.length →
        equation c.length A' B' (restrictQ q c) i i' = equation c.length A' B' qc i i') ∧
      ∀ i, i < c.length → detQ (restrictQ q c) i = detQ qc i := by
  have hidx : ∀ idx, idx < 4 * c.length → restrictQ q c idx = qc idx := by
    intro idx hidx
    unfold restrictQ
    rw [hag (idx / 4) (idx % 4) (by omega) (by omega)]
    congr 1
    omega
  refine ⟨fun i i' hi hi' => equation_congr_q c.length A' B' _ _ i i' hi hi' hidx, fun i hi => ?_⟩
  apply detQ_congr
  intro t ht
  exact hidx _ (by omega)

/-! ### the repaired function -/

/-- **soundness of `yes` for the repaired function, both modes, every search path**: the assembled `Q` has `4 n` entries,
    satisfies every equation of the system for the whole pair, and every block is invertible -/
theorem isLcEquivalentR_yes (a b : BMat) (mode : Mode) (draws : List (List Bool)) (out : EqOutR) (q : List Bool)
    (ha : Simple a.r a.f) (hb : Simple a.r b.f) (e : isLcEquivalentR a b mode draws = .ok out) (hq : out.sol = some q) :
    q.length = 4 * a.r ∧ (∀ j k, j < a.r → k < a.r → equation a.r a.f b.f (vget q) j k = false) ∧
      isValidClifford a.r q = true := by
  unfold isLcEquivalentR at e
  simp only [] at e
  split at e
  · cases e
  · split at e
    · have := Except.ok.inj e
      rw [← this] at hq
      cases hq
    · rename_i hcomps
      have hcomps' : connectedComponents a.r a.f = connectedComponents a.r b.f := Decidable.not_not.mp hcomps
      split at e
      · cases e
      · rename_i sol parts hloop
        have := Except.ok.inj e
        rw [← this] at hq
        have hsol : sol = some q := hq
        subst hsol
        obtain ⟨hPa, hCa, hSa⟩ := connectedComponents_partition a.r a.f ha.1
        obtain ⟨_, hCb, _⟩ := connectedComponents_partition a.r b.f hb.1
        obtain ⟨r1, _, r3⟩ := componentLoop_yes a b mode a.r _ draws _ [] q parts (fun c hc => hPa.nodup c hc)
          (fun c hc v hv => hPa.lt c hc v hv) hPa.disjoint (by simp) hloop
        have hblock := (block_solution_iff a.r a.f b.f _ (vget q) hPa hCa (by rw [hcomps']; exact hCb)).mpr (by
          intro c hc
          obtain ⟨o, qc, d, ho, hoq, hag⟩ := r3 c hc
          obtain ⟨s, hs, ec⟩ := hSa c hc
          have hpos : 0 < (subMat a c).r := by
            show 0 < c.length
            exact List.length_pos_of_mem (by rw [ec]; exact self_mem_componentOf a.r a.f s hs)
          obtain ⟨_, s2, s3⟩ := isLcEquivalent_sound_all (subMat a c) (subMat b c) mode d o qc hpos ho hoq
          have s2' := (solF_coeff_iff c.length (subAdj a.f c) (subAdj b.f c) (vget qc)).mp s2
          obtain ⟨t1, t2⟩ := sub_transfer c (subAdj a.f c) (subAdj b.f c) (vget q) (vget qc) hag
          refine ⟨fun i i' hi hi' => ?_, fun i hi => ?_⟩
          · rw [t1 i i' hi hi']; exact s2' i i' hi hi'
          · rw [t2 i hi]; exact (isValidClifford_iff c.length qc).mp s3 i hi)
        exact ⟨r1, hblock.1, (isValidClifford_iff a.r q).mpr hblock.2⟩

/-- **a `no` of the repaired function** is either "the component partitions differ" or a `no` of the unrepaired function on
    the induced pair of one common component (its result is listed in `out.parts`) -/
theorem isLcEquivalentR_no (a b : BMat) (mode : Mode) (draws : List (List Bool)) (out : EqOutR)
    (e : isLcEquivalentR a b mode draws = .ok out) (hq : out.sol = none) :
    connectedComponents a.r a.f ≠ connectedComponents a.r b.f ∨
      (connectedComponents a.r a.f = connectedComponents a.r b.f ∧
        ∃ c ∈ connectedComponents a.r a.f, ∃ o d, o ∈ out.parts ∧
          isLcEquivalent (subMat a c) (subMat b c) mode d = .ok o ∧ o.sol = none) := by
  unfold isLcEquivalentR at e
  simp only [] at e
  split at e
  · cases e
  · split at e
    · rename_i hcomps
      exact Or.inl hcomps
    · rename_i hcomps
      have hcomps' : connectedComponents a.r a.f = connectedComponents a.r b.f := Decidable.not_not.mp hcomps
      split at e
      · cases e
      · rename_i sol parts hloop
        have := Except.ok.inj e
        rw [← this] at hq
        have hsol : sol = none := hq
        subst hsol
        obtain ⟨c, hc, o, d, h1, h2, h3⟩ := componentLoop_no a b mode _ draws _ [] parts hloop
        exact Or.inr ⟨hcomps', c, hc, o, d, by rw [← this]; exact h1, h2, h3⟩

/-- **restriction**: a valid `Q` of the whole pair (graphs with the same components) gives a valid `Q` of the induced pair of
    every component -/
theorem restrict_valid (n : Nat) (A B : Adj) (hA : Simple n A) (hB : Simple n B)
    (hcomps : connectedComponents n A = connectedComponents n B) (v : List Bool)
    (hv : ∀ j k, j < n → k < n → equation n A B (vget v) j k = false) (hval : isValidClifford n v = true)
    (c : List Nat) (hc : c ∈ connectedComponents n A) :
    ∃ w : List Bool, (∀ i i', i < c.length → i' < c.length →
        equation c.length (subAdj A c) (subAdj B c) (vget w) i i' = false) ∧ isValidClifford c.length w = true := by
  obtain ⟨hPa, hCa, _⟩ := connectedComponents_partition n A hA.1
  obtain ⟨_, hCb, _⟩ := connectedComponents_partition n B hB.1
  have hblock := (block_solution_iff n A B _ (vget v) hPa hCa (by rw [hcomps]; exact hCb)).mp
    ⟨hv, fun m hm => (isValidClifford_iff n v).mp hval m hm⟩ c hc
  refine ⟨(List.range (4 * c.length)).map (restrictQ (vget v) c), ?_, ?_⟩
  · intro i i' hi hi'
    rw [equation_congr_q c.length _ _ _ (restrictQ (vget v) c) i i' hi hi'
      (fun idx hidx => vget_map_range (4 * c.length) _ idx hidx)]
    exact hblock.1 i i' hi hi'
  · apply (isValidClifford_iff _ _).mpr
    intro m hm
    rw [detQ_congr _ (restrictQ (vget v) c) m (fun t ht => vget_map_range (4 * c.length) _ _ (by omega))]
    exact hblock.2 m hm

/-! ### the draws in deterministic mode, and the checked path of `lc_check` over the repaired function -/

/-- in deterministic mode the draws are never read -/
theorem isLcEquivalent_det_draws (a b : BMat) (d d' : List Bool) :
    isLcEquivalent a b .det d = isLcEquivalent a b .det d' := by
  unfold isLcEquivalent
  rfl

theorem lcCheckR_sound (a b : BMat) (gates : List (String × Nat)) (hA : Simple a.r a.f)
    (e : lcCheckR a b true = .ok (true, gates)) :
    ∃ t, runGates (graphTab a.r a.f) gates = .ok t ∧ t.n = a.r ∧ t.Valid ∧
      ∀ q, q < a.r → InSpan t.n t.n t.stab (graphGen b.f q) := by
  unfold lcCheckR at e
  split at e
  · cases e
  · simp only [if_true] at e
    split at e
    · cases e
    · rename_i t et
      split at e
      · rename_i hg
        cases e
        obtain ⟨h1, h2⟩ := runGates_spec _ t gates (graphTab_valid a.r a.f hA) et
        refine ⟨t, et, h1, h2, fun q hq => isGraphState_inSpan t b.f hg q (by rw [h1]; exact hq)⟩
      · cases e

/-- every component is non-empty, its vertices are vertices of the graph, and its induced graph is simple and connected -/
theorem component_facts (n : Nat) (A : Adj) (hA : Simple n A) (c : List Nat) (hc : c ∈ connectedComponents n A) :
    0 < c.length ∧ (∀ v ∈ c, v < n) ∧ Simple c.length (subAdj A c) ∧ Connected c.length (subAdj A c) := by
  obtain ⟨hP, _, hS⟩ := connectedComponents_partition n A hA.1
  obtain ⟨s, hs, e⟩ := hS c hc
  have hlt : ∀ v ∈ c, v < n := fun v hv => hP.lt c hc v hv
  refine ⟨List.length_pos_of_mem (by rw [e]; exact self_mem_componentOf n A s hs), hlt, sub_simple n A hA c hlt, ?_⟩
  rw [e]; exact sub_connected n A hA.1 s hs

/-! ### block-diagonal assembly of arbitrary per-component solutions -/

/-- scatter one chosen vector per component into a vector of `4 n` entries: every component finds its vector back through
    the re-indexing -/
theorem assemble_vectors (n : Nat) (comps : List (List Nat)) (P : List Nat → List Bool → Prop)
    (hnd : ∀ c ∈ comps, c.Nodup) (hlt : ∀ c ∈ comps, ∀ v ∈ c, v < n)
    (hdis : comps.Pairwise fun c1 c2 => ∀ v, v ∈ c1 → v ∉ c2) (hw : ∀ c ∈ comps, ∃ w, P c w)
    (sol : List Bool) (hlen : sol.length = 4 * n) :
    ∃ res : List Bool, res.length = 4 * n ∧
      (∀ v, (∀ c ∈ comps, v ∉ c) → ∀ t, t < 4 → vget res (4 * v + t) = vget sol (4 * v + t)) ∧
      ∀ c ∈ comps, ∃ w, P c w ∧ ∀ i t, i < c.length → t < 4 → vget res (4 * c.getD i 0 + t) = vget w (4 * i + t) := by
  induction comps generalizing sol with
  | nil => exact ⟨sol, hlen, fun _ _ _ _ => rfl, fun c hc => by cases hc⟩
  | cons c rest ih =>
    rw [List.pairwise_cons] at hdis
    obtain ⟨w, hPw⟩ := hw c List.mem_cons_self
    have hc_nd := hnd c List.mem_cons_self
    have hc_lt := hlt c List.mem_cons_self
    obtain ⟨res, r1, r2, r3⟩ := ih (fun c' h' => hnd c' (List.mem_cons_of_mem _ h'))
      (fun c' h' => hlt c' (List.mem_cons_of_mem _ h')) hdis.2 (fun c' h' => hw c' (List.mem_cons_of_mem _ h'))
      (scatter sol c w) (by rw [scatter_length]; exact hlen)
    refine ⟨res, r1, ?_, ?_⟩
    · intro v hv t ht
      rw [r2 v (fun c' h' => hv c' (List.mem_cons_of_mem _ h')) t ht]
      exact vget_scatter_out sol c w v t (hv c List.mem_cons_self) ht
    · intro c' hc'
      rcases List.mem_cons.mp hc' with e | hc'
      · subst e
        refine ⟨w, hPw, ?_⟩
        intro i t hi ht
        have hmem := getD_mem_of_lt c' i hi
        rw [r2 (c'.getD i 0) (fun c'' h'' => hdis.1 c'' h'' _ hmem) t ht]
        exact vget_scatter_in sol c' w hc_nd i t hi ht (by rw [hlen]; have := hc_lt _ hmem; omega)
      · exact r3 c' hc'

/-- **assembly**: valid local Cliffords for the induced pairs of all common components give a valid local Clifford for the
    whole pair -/
theorem assemble_valid (n : Nat) (A B : Adj) (hA : Simple n A) (hB : Simple n B)
    (hcomps : connectedComponents n A = connectedComponents n B)
    (hw : ∀ c ∈ connectedComponents n A, ∃ w : List Bool,
      (∀ i i', i < c.length → i' < c.length → equation c.length (subAdj A c) (subAdj B c) (vget w) i i' = false) ∧
        isValidClifford c.length w = true) :
    ∃ v : List Bool, (∀ j k, j < n → k < n → equation n A B (vget v) j k = false) ∧ isValidClifford n v = true := by
  obtain ⟨hPa, hCa, _⟩ := connectedComponents_partition n A hA.1
  obtain ⟨_, hCb, _⟩ := connectedComponents_partition n B hB.1
  obtain ⟨res, _, _, r3⟩ := assemble_vectors n (connectedComponents n A)
    (fun c w => (∀ i i', i < c.length → i' < c.length →
        equation c.length (subAdj A c) (subAdj B c) (vget w) i i' = false) ∧ isValidClifford c.length w = true)
    (fun c hc => hPa.nodup c hc) (fun c hc v hv => hPa.lt c hc v hv) hPa.disjoint hw
    (List.replicate (4 * n) false) (by simp)
  have hblock := (block_solution_iff n A B _ (vget res) hPa hCa (by rw [hcomps]; exact hCb)).mpr (by
    intro c hc
    obtain ⟨w, ⟨hw1, hw2⟩, hag⟩ := r3 c hc
    obtain ⟨t1, t2⟩ := sub_transfer c (subAdj A c) (subAdj B c) (vget res) (vget w) hag
    refine ⟨fun i i' hi hi' => ?_, fun i hi => ?_⟩
    · rw [t1 i i' hi hi']; exact hw1 i i' hi hi'
    · rw [t2 i hi]; exact (isValidClifford_iff c.length w).mp hw2 i hi)
  exact ⟨res, hblock.1, (isValidClifford_iff n res).mpr hblock.2⟩

end Graphiq.LC
