/-
  Proofs/Export.lean — lemmas about the export/import model (C14).

  The exporter is described by explicit functions of the operation list: `appOf`, the statements one operation contributes
  (for a wrapper through the loop invariant `WrapInv` of `single_qubit_wrapper_info`), and `emit`, the body loop of `to_openqasm`
  with its barrier rule.  The command loop of `from_openqasm` reads `emit` back operation by operation (`parse_emit`), which is
  the openQASM round trip; the JSON round trip goes operation by operation.  The standard reading of the exported program
  rests on the composite definitions the header accumulates (`headerOf_comps`).  Everything used of the regenerated name
  tables is one statement, `name_tables`, closed by kernel evaluation over the whole finite tables (a changed table entry
  that breaks one of the facts makes it fail to build).
-/
import GraphiqModel.Model.Export
import GraphiqModel.Proofs.Loop
namespace Graphiq.Export

/-! ## the regenerated name tables -/

theorem Cls.mem_all (k : Cls) : k ∈ Cls.all := by
  cases k with
  | g1 g => cases g <;> decide
  | g2 g => cases g <;> decide
  | gc g => cases g <;> decide
  | measZ => decide

theorem G1.mem_all (g : G1) : g ∈ G1.all := by cases g <;> decide

theorem mem_g2 (g : G2) : g ∈ [G2.CNOT, G2.CZ] := by cases g <;> simp

/-- the openQASM gate name of a one-qubit class ("" if the class had none) -/
def g1Name (g : G1) : Str := (gateName (.g1 g)).getD []
def g2Name (g : G2) : Str := (gateName (.g2 g)).getD []

/-- shape of a one-qubit gate name that the `sdg|.` tokeniser splits off correctly -/
def tokOK (n : Str) : Bool := n == "sdg".toList || (n.length == 1 && n.head? != some 'd')

def g1Names : List Str := (G1.all.filter (· != .I)).map g1Name

/-- a name that the importer would tokenise into two or more one-qubit gate names -/
def IsConcat (n : Str) : Prop := 2 ≤ (tokenise n).length ∧ ∀ t ∈ tokenise n, t ∈ g1Names

instance (n : Str) : Decidable (IsConcat n) := by unfold IsConcat; infer_instance

def ClsOK (k : Cls) : Prop :=
  (gateName k).isSome = true ∧ importStrings k = [] ∧ (∀ d ∈ definitions k, ¬ '\n' ∈ d) ∧
  (classToName k).bind nameToClass = some k ∧ classToName k ≠ some [] ∧
  classToName k ≠ some "one qubit gate wrapper".toList ∧ jsonShape k = k.shape

def G1OK (g : G1) : Prop :=
  (g1Name g == []) = (g == G1.I) ∧ isOneQubit (.g1 g) = true ∧ multiComp (.g1 g) = false ∧ ¬ ' ' ∈ g1Name g ∧
  (g ≠ .I → nameToClass (g1Name g) = some (.g1 g) ∧ tokOK (g1Name g) = true)

instance (k : Cls) : Decidable (ClsOK k) := by unfold ClsOK; infer_instance
instance (g : G1) : Decidable (G1OK g) := by unfold G1OK; infer_instance

/-- Everything the proofs below use of the regenerated tables, checked by kernel evaluation over the whole tables.
    Per exportable class: it has a gate name, needs no `import` line (one would not survive `from_openqasm`), its
    definitions are single lines; JSON: class → name → class, no JSON name is empty (so `if name:` keeps it) or the
    wrapper tag, and `from_json` picks the constructor signature of the class.
    Per one-qubit class: exactly the identity has the empty gate name, the others are read back as their class, are
    tokens of `sdg|.` and contain no space.  No two-qubit gate name and no key of `name_to_class_map` is a concatenation
    of one-qubit gate names; the idiom names of the classically controlled operations resolve to their classes; the
    header line passes the importer's check. -/
theorem name_tables :
    (∀ k ∈ Cls.all, ClsOK k) ∧ (∀ g ∈ G1.all, G1OK g) ∧
    (∀ g ∈ [G2.CNOT, G2.CZ], nameToClass (g2Name g) = some (.g2 g) ∧ ¬ IsConcat (g2Name g)) ∧
    nameToClass "classical x".toList = some (.gc .CCNOT) ∧ nameToClass "classical z".toList = some (.gc .CCZ) ∧
    nameToClass "classical reset x".toList = some (.gc .MCR) ∧
    (emptyInfo.usage = .empty ∧ emptyInfo.multi = false ∧ emptyInfo.imports = [] ∧
      ∀ d ∈ emptyInfo.defs, d.comp = none ∧ ¬ '\n' ∈ d.text) ∧
    (Gen.header.toList.filter fun c => !isWs c) = "OPENQASM2.0;".toList ∧
    (∀ κ ∈ nameToClassTbl.map (·.1), ¬ IsConcat κ) := by
  -- `decide +kernel` alone proves this, but the kernel then decodes the UTF-8 bytes of every string literal it meets, which is
  -- most of the work.  So the tables are spelt out first and each `"…".toList` is replaced by the character list of the
  -- literal (`String.toList_ofList`; the kernel accepts a literal as `String.ofList` of its characters without decoding).
  simp only [ClsOK, G1OK, IsConcat, g1Names, g1Name, g2Name, tokOK, gateName, importStrings, definitions, classToName, nameToClass, jsonShape,
    isOneQubit, multiComp, emptyInfo, gateNameTbl, importsTbl, definitionsTbl, classToNameTbl, nameToClassTbl, jsonShapeTbl, strTbl,
    Gen.gateName, Gen.imports, Gen.definitions, Gen.classToName, Gen.nameToClass, Gen.jsonShape, Gen.oneQubit, Gen.multiComp,
    Gen.emptyGateName, Gen.emptyDefinitions, Gen.header, List.map_cons, List.map_nil, Option.map_some]
  refine ⟨?_, ?_, ?_, ?_⟩
  all_goals
    conv =>
      pattern (occs := *) String.toList (String.ofList _)
      all_goals rw [String.toList_ofList]
    decide +kernel

theorem tbl_cls (k : Cls) : ClsOK k := name_tables.1 k (Cls.mem_all k)

theorem tbl_g1 (g : G1) : G1OK g := name_tables.2.1 g (G1.mem_all g)

theorem tbl_g2 (g : G2) : nameToClass (g2Name g) = some (.g2 g) ∧ ¬ IsConcat (g2Name g) :=
  name_tables.2.2.1 g (mem_g2 g)

/-! the facts of `name_tables` by name (the only places that count conjuncts) -/

theorem tbl_gateName_isSome (k : Cls) : (gateName k).isSome = true := (tbl_cls k).1
theorem tbl_imports_nil (k : Cls) : importStrings k = [] := (tbl_cls k).2.1
theorem tbl_defs_oneLine (k : Cls) : ∀ d ∈ definitions k, ¬ '\n' ∈ d := (tbl_cls k).2.2.1
theorem tbl_json (k : Cls) : (classToName k).bind nameToClass = some k ∧ classToName k ≠ some [] ∧
    classToName k ≠ some "one qubit gate wrapper".toList ∧ jsonShape k = k.shape := (tbl_cls k).2.2.2
theorem tbl_g1_nil (g : G1) : (g1Name g == []) = (g == G1.I) := (tbl_g1 g).1
theorem tbl_g1_oneQubit (g : G1) : isOneQubit (.g1 g) = true := (tbl_g1 g).2.1
theorem tbl_g1_multi (g : G1) : multiComp (.g1 g) = false := (tbl_g1 g).2.2.1
theorem g1Name_no_space (g : G1) : ¬ ' ' ∈ g1Name g := (tbl_g1 g).2.2.2.1
theorem tbl_g1_roundtrip (g : G1) (hg : g ≠ .I) : nameToClass (g1Name g) = some (.g1 g) := ((tbl_g1 g).2.2.2.2 hg).1
theorem g1Name_tokOK (g : G1) (hg : g ≠ .I) : tokOK (g1Name g) = true := ((tbl_g1 g).2.2.2.2 hg).2
theorem tbl_keys_not_concat : ∀ κ ∈ nameToClassTbl.map (·.1), ¬ IsConcat κ := name_tables.2.2.2.2.2.2.2.2
theorem tbl_classical_x : nameToClass "classical x".toList = some (.gc .CCNOT) := name_tables.2.2.2.1
theorem tbl_classical_z : nameToClass "classical z".toList = some (.gc .CCZ) := name_tables.2.2.2.2.1
theorem tbl_classical_reset_x : nameToClass "classical reset x".toList = some (.gc .MCR) := name_tables.2.2.2.2.2.1
theorem tbl_emptyInfo : emptyInfo.usage = .empty ∧ emptyInfo.multi = false ∧ emptyInfo.imports = [] ∧
    ∀ d ∈ emptyInfo.defs, d.comp = none ∧ ¬ '\n' ∈ d.text := name_tables.2.2.2.2.2.2.1
theorem tbl_header : (Gen.header.toList.filter fun c => !isWs c) = "OPENQASM2.0;".toList := name_tables.2.2.2.2.2.2.2.1

/-! ## `re.findall(r"sdg|.", name)` inverts concatenation of one-qubit gate names -/

theorem tokenise_single (c : Char) (rest : Str) (h : c ≠ 's' ∨ rest.head? ≠ some 'd') :
    tokenise (c :: rest) = [c] :: tokenise rest := by
  apply tokenise.eq_3
  intro r hc hr
  subst hc; subst hr
  simp at h

theorem tokenise_sdg (rest : Str) : tokenise ("sdg".toList ++ rest) = "sdg".toList :: tokenise rest :=
  tokenise.eq_2 rest

theorem tokOK_head (n : Str) (h : tokOK n = true) : n ≠ [] ∧ n.head? ≠ some 'd' := by
  unfold tokOK at h
  simp only [Bool.or_eq_true, beq_iff_eq, Bool.and_eq_true, bne_iff_ne, ne_eq] at h
  rcases h with h | ⟨hl, hd⟩
  · subst h; decide
  · refine ⟨?_, hd⟩
    intro hn; subst hn; simp at hl

theorem tokenise_cons_of_tokOK (n rest : Str) (hn : tokOK n = true) (hrest : rest.head? ≠ some 'd') :
    tokenise (n ++ rest) = n :: tokenise rest := by
  unfold tokOK at hn
  simp only [Bool.or_eq_true, beq_iff_eq, Bool.and_eq_true, bne_iff_ne, ne_eq] at hn
  rcases hn with h | ⟨hl, _⟩
  · subst h; exact tokenise_sdg rest
  · match n, hl with
    | [c], _ => exact tokenise_single c rest (Or.inr hrest)

theorem flatten_head_ne_d (ns : List Str) (h : ∀ n ∈ ns, tokOK n = true) : ns.flatten.head? ≠ some 'd' := by
  cases ns with
  | nil => simp
  | cons m rest =>
    have hm := tokOK_head m (h m (by simp))
    cases m with
    | nil => exact absurd rfl hm.1
    | cons c cs => simpa using hm.2

theorem tokenise_flatten (ns : List Str) (h : ∀ n ∈ ns, tokOK n = true) : tokenise ns.flatten = ns := by
  induction ns with
  | nil => rfl
  | cons n rest ih =>
    have hrest : ∀ m ∈ rest, tokOK m = true := fun m hm => h m (by simp [hm])
    rw [List.flatten_cons, tokenise_cons_of_tokOK n _ (h n (by simp)) (flatten_head_ne_d rest hrest), ih hrest]

/-! ## what the exporter emits: info objects, header, body -/

theorem gateName_some (k : Cls) : gateName k = some ((gateName k).getD []) := by
  have h := tbl_gateName_isSome k
  cases hg : gateName k with
  | none => rw [hg] at h; cases h
  | some n => rfl

theorem gateName_g1 (g : G1) : gateName (.g1 g) = some (g1Name g) := gateName_some _

theorem gateName_g2 (g : G2) : gateName (.g2 g) = some (g2Name g) := gateName_some _

theorem classInfo_eq (k : Cls) : classInfo k =
    .ok { gateName := (gateName k).getD [], imports := [], defs := (definitions k).map fun d => { text := d },
          usage := usageOf k ((gateName k).getD []), multi := multiComp k } := by
  have h := tbl_gateName_isSome k
  unfold classInfo
  cases hg : gateName k with
  | none => rw [hg] at h; cases h
  | some n => simp only [Option.getD_some, tbl_imports_nil k]

theorem g1Name_nil_iff (g : G1) : g1Name g = [] ↔ g = .I := by
  have h := tbl_g1_nil g
  constructor
  · intro hn; rw [hn] at h; simpa using h.symm
  · intro hg; subst hg; simpa using h

/-- `classInfo` of a one-qubit class, as far as the body of the program depends on it -/
theorem classInfo_g1 (g : G1) : ∃ i, classInfo (.g1 g) = .ok i ∧ i.gateName = g1Name g ∧ i.multi = false ∧
    i.usage = (if g1Name g = [] then Usage.empty else Usage.one (g1Name g)) ∧ i.imports = [] := by
  refine ⟨_, classInfo_eq (.g1 g), rfl, tbl_g1_multi g, ?_, rfl⟩
  show usageOf (.g1 g) (g1Name g) = _
  by_cases hg : g = .I
  · subst hg; simp [(g1Name_nil_iff G1.I).2 rfl, usageOf]
  · have : g1Name g ≠ [] := fun h => hg ((g1Name_nil_iff g).1 h)
    simp only [this, if_false]
    cases g <;> first | rfl | exact absurd rfl hg

theorem lookupTbl_dictSet {α : Type} (d : List (Str × α)) (k : Str) (v : α) (n : Str) :
    lookupTbl (dictSet d k v) n = if n = k then some v else lookupTbl d n := by
  unfold dictSet lookupTbl
  rw [List.find?_cons]
  by_cases hn : n = k
  · subst hn; simp
  · have : (k == n) = false := by simp [Ne.symm hn]
    simp [this, hn]

/-- an entry of `openqasm_defs` that is a plain class definition -/
def PlainDef (d : DefEntry) : Prop := d.comp = none ∧ ¬ '\n' ∈ d.text

/-- body text of a composite definition: one call per line, in the order of `body` -/
def usageText (body : List Str) : Str := (body.map fun n => n ++ " a;\n".toList).flatten

theorem classInfo_defs (k : Cls) (i : QInfo) (h : classInfo k = .ok i) : ∀ d ∈ i.defs, PlainDef d := by
  rw [classInfo_eq] at h
  injection h with h; subst h
  intro d hd
  simp only [List.mem_map] at hd
  obtain ⟨t, ht, rfl⟩ := hd
  exact ⟨rfl, tbl_defs_oneLine k t ht⟩

theorem usageText_snoc (l : List Str) (n : Str) : usageText (l ++ [n]) = usageText l ++ (n ++ " a;\n".toList) := by
  simp [usageText]

/-- loop invariant of `single_qubit_wrapper_info` (`names` = gate names of the classes seen so far, empty ones included):
    name, body and body text are those of the non-empty names, in application order; the definitions collected are plain
    class definitions; the keys of the dictionary are exactly "" and the names seen, and each entry applies a gate called
    by its key -/
structure WrapInv (a : WrapAcc) (names : List Str) : Prop where
  gateName : a.gateName = names.flatten
  body : a.body = (names.filter (· ≠ [])).reverse
  defUsage : a.defUsage = usageText (names.filter (· ≠ [])).reverse
  importsNil : a.imports = []
  defsPlain : ∀ d ∈ a.defs, PlainDef d
  dictKeys : ∀ n, (lookupTbl a.dict n).isSome = true ↔ n = [] ∨ n ∈ names
  dictOK : ∀ n i, lookupTbl a.dict n = some i →
    i.multi = false ∧ i.usage = (if n = [] then Usage.empty else Usage.one n) ∧ i.imports = [] ∧ ∀ d ∈ i.defs, PlainDef d

theorem wrapInv_init : WrapInv {} [] := by
  refine ⟨rfl, rfl, rfl, rfl, fun d hd => (by cases hd), fun n => ?_, fun n i h => ?_⟩
  · show (lookupTbl (dictSet [] [] emptyInfo) n).isSome = true ↔ _
    rw [lookupTbl_dictSet]
    by_cases hn : n = [] <;> simp [hn, lookupTbl]
  · have h' : lookupTbl (dictSet [] [] emptyInfo) n = some i := h
    rw [lookupTbl_dictSet] at h'
    by_cases hn : n = []
    · subst hn
      simp only [if_true, Option.some.injEq] at h'
      subst h'
      exact ⟨tbl_emptyInfo.2.1, tbl_emptyInfo.1, tbl_emptyInfo.2.2⟩
    · simp [hn, lookupTbl] at h'

theorem wrapStep_inv (a : WrapAcc) (names : List Str) (g : G1) (h : WrapInv a names) :
    ∃ a', wrapStep a g = .ok a' ∧ WrapInv a' (names ++ [g1Name g]) := by
  obtain ⟨i, hi, hname, hmulti, husage, himp⟩ := classInfo_g1 g
  have hplain := classInfo_defs _ i hi
  have hkeys : ∀ n, (lookupTbl (dictSet a.dict i.gateName i) n).isSome = true ↔ n = [] ∨ n ∈ names ++ [g1Name g] := by
    intro n
    rw [lookupTbl_dictSet, hname]
    by_cases hnk : n = g1Name g
    · simp [hnk]
    · simp [hnk, h.dictKeys n]
  have hdict : ∀ n j, lookupTbl (dictSet a.dict i.gateName i) n = some j →
      j.multi = false ∧ j.usage = (if n = [] then Usage.empty else Usage.one n) ∧ j.imports = [] ∧
      ∀ d ∈ j.defs, PlainDef d := by
    intro n j hj
    rw [lookupTbl_dictSet] at hj
    split at hj
    · next hnk =>
      injection hj with hj
      subst hj
      rw [hnk, hname]
      exact ⟨hmulti, husage, himp, hplain⟩
    · exact h.dictOK n j hj
  by_cases hn : g1Name g = []
  · refine ⟨{ a with dict := dictSet a.dict i.gateName i }, ?_, ?_⟩
    · simp [wrapStep, hi, bind, Except.bind, pure, Except.pure, hname, hn]
    · exact ⟨by simp [h.gateName, hn], by simp [h.body, hn], by simp [h.defUsage, hn], h.importsNil, h.defsPlain, hkeys, hdict⟩
  · refine ⟨{ a with
               dict := dictSet a.dict i.gateName i, imports := a.imports ++ i.imports, defs := a.defs ++ i.defs,
               gateName := a.gateName ++ i.gateName, defUsage := i.gateName ++ " a;\n".toList ++ a.defUsage,
               body := i.gateName :: a.body }, ?_, ?_⟩
    · simp [wrapStep, hi, bind, Except.bind, pure, Except.pure, hname, hn]
    · refine ⟨by simp [h.gateName, hname], by simp [h.body, hname, hn], ?_, by simp [h.importsNil, himp], ?_, hkeys, hdict⟩
      · show i.gateName ++ " a;\n".toList ++ a.defUsage = _
        rw [h.defUsage, hname]
        simp [hn, usageText]
      · intro d hd
        rcases List.mem_append.1 hd with h0 | h0
        · exact h.defsPlain d h0
        · exact hplain d h0

theorem wrapFold_inv (gs : List G1) (a : WrapAcc) (names : List Str) (h : WrapInv a names) :
    ∃ a', gs.foldlM wrapStep a = .ok a' ∧ WrapInv a' (names ++ gs.map g1Name) := by
  induction gs generalizing a names with
  | nil => exact ⟨a, rfl, by simpa using h⟩
  | cons g rest ih =>
    obtain ⟨a1, h1, hinv1⟩ := wrapStep_inv a names g h
    obtain ⟨a2, h2, hinv2⟩ := ih a1 _ hinv1
    refine ⟨a2, ?_, by simpa using hinv2⟩
    simp [List.foldlM_cons, h1, bind, Except.bind, h2]

/-- the concatenated gate name of a wrapper's `operations` list -/
def wrapName (gs : List G1) : Str := (gs.map g1Name).flatten

theorem wrapName_filter (gs : List G1) : wrapName gs = ((gs.filter (· != .I)).map g1Name).flatten := by
  unfold wrapName
  induction gs with
  | nil => rfl
  | cons g rest ih =>
    by_cases hg : g = .I
    · subst hg
      have : g1Name .I = [] := (g1Name_nil_iff .I).2 rfl
      simp [this, ih]
    · simp [hg, ih]

theorem filter_ne_I (gs : List G1) : ∀ g ∈ gs.filter (· != .I), g ≠ .I := by
  intro g hg
  simpa using (List.mem_filter.1 hg).2

theorem tokenise_names (gs : List G1) (hI : ∀ g ∈ gs, g ≠ .I) : tokenise (gs.map g1Name).flatten = gs.map g1Name :=
  tokenise_flatten _ (by
    intro n hn
    obtain ⟨g, hg, rfl⟩ := List.mem_map.1 hn
    exact g1Name_tokOK g (hI g hg))

def compText (name : Str) (body : List Str) : Str :=
  "gate ".toList ++ name ++ " a { \n".toList ++ usageText body ++ "}".toList

theorem names_filter (gs : List G1) : (gs.map g1Name).filter (· ≠ []) = (gs.filter (· != .I)).map g1Name := by
  induction gs with
  | nil => rfl
  | cons g rest ih =>
    by_cases hg : g = .I
    · subst hg
      have : g1Name .I = [] := (g1Name_nil_iff .I).2 rfl
      simp [this]
      simpa using ih
    · have : g1Name g ≠ [] := fun h => hg ((g1Name_nil_iff g).1 h)
      simp [hg, this]
      simpa using ih

/-- the structured composite a wrapper with two or more non-identity classes defines -/
def compOf (gs : List G1) : Comp :=
  { name := wrapName gs, body := ((gs.filter (· != .I)).map g1Name).reverse }

theorem tokenise_wrapName (gs : List G1) : tokenise (wrapName gs) = (gs.filter (· != .I)).map g1Name := by
  rw [wrapName_filter]
  exact tokenise_names _ (filter_ne_I gs)

theorem tokenise_g1Name (g : G1) (hg : g ≠ .I) : tokenise (g1Name g) = [g1Name g] := by
  have := tokenise_flatten [g1Name g] (by intro n hn; simp at hn; subst hn; exact g1Name_tokOK g hg)
  simpa using this

theorem tokenise_g1Name_le (g : G1) : (tokenise (g1Name g)).length ≤ 1 := by
  by_cases hg : g = .I
  · rw [hg, (g1Name_nil_iff .I).2 rfl]
    exact Nat.zero_le 1
  · rw [tokenise_g1Name g hg]
    exact Nat.le_refl 1

theorem wrapName_not_single (gs : List G1) (h2 : 2 ≤ (gs.filter (· != .I)).length) :
    wrapName gs ≠ [] ∧ ∀ g : G1, wrapName gs ≠ g1Name g := by
  -- the name splits into two or more tokens, "" into none and the name of a single class into at most one
  have hlen : 2 ≤ (tokenise (wrapName gs)).length := by
    rw [tokenise_wrapName]
    simpa using h2
  refine ⟨fun h0 => ?_, fun g hEq => ?_⟩
  · rw [h0] at hlen
    exact absurd hlen (by decide)
  · rw [hEq] at hlen
    exact absurd hlen (by have := tokenise_g1Name_le g; omega)

/-- `single_qubit_wrapper_info`: whether or not the "already defined" shortcut fires, the usage closure applies a gate
    called by the concatenated name (or nothing when every listed class is the identity), never multi-component; the
    definitions it contributes to the header are plain class definitions, plus — exactly when the wrapper has two or more
    non-identity classes — the composite `compOf gs` with its text -/
theorem wrapperInfo_spec (gs : List G1) : ∃ i, singleQubitWrapperInfo gs = .ok i ∧ i.multi = false ∧
    i.usage = (if wrapName gs = [] then Usage.empty else Usage.one (wrapName gs)) ∧ i.imports = [] ∧
    (∀ d ∈ i.defs, PlainDef d ∨
      (2 ≤ (gs.filter (· != .I)).length ∧ d = { text := compText (compOf gs).name (compOf gs).body, comp := some (compOf gs) })) ∧
    (2 ≤ (gs.filter (· != .I)).length →
      { text := compText (compOf gs).name (compOf gs).body, comp := some (compOf gs) } ∈ i.defs) := by
  obtain ⟨a, ha, hinv⟩ := wrapFold_inv gs {} [] wrapInv_init
  simp only [List.nil_append] at hinv
  have hgn : a.gateName = wrapName gs := hinv.gateName
  have hbody : a.body = (compOf gs).body := by rw [hinv.body, names_filter]; rfl
  have husage : a.defUsage = usageText (compOf gs).body := by rw [hinv.defUsage, names_filter]; rfl
  unfold singleQubitWrapperInfo
  simp only [ha, bind, Except.bind]
  cases hl : lookupTbl a.dict a.gateName with
  | some j =>
    refine ⟨j, rfl, (hinv.dictOK _ _ hl).1, by rw [(hinv.dictOK _ _ hl).2.1, hgn], (hinv.dictOK _ _ hl).2.2.1,
      fun d hd => Or.inl ((hinv.dictOK _ _ hl).2.2.2 d hd), fun h2 => ?_⟩
    exfalso
    have hk := (hinv.dictKeys a.gateName).1 (by rw [hl]; rfl)
    rw [hgn] at hk
    rcases hk with h0 | h0
    · exact (wrapName_not_single gs h2).1 h0
    · obtain ⟨g, _, hg⟩ := List.mem_map.1 h0
      exact (wrapName_not_single gs h2).2 g hg.symm
  | none =>
    have hne : a.gateName ≠ [] := by
      intro h0; rw [h0] at hl; have := (hinv.dictKeys []).2 (Or.inl rfl); rw [hl] at this; cases this
    have h2 : 2 ≤ (gs.filter (· != .I)).length := by
      -- otherwise the name is "" or the name of one listed class, both keys of the dictionary
      rcases Nat.lt_or_ge (gs.filter (· != .I)).length 2 with hlt | hge
      case inr => exact hge
      exfalso
      have hlen : (gs.filter (· != .I)).length ≤ 1 := by omega
      have hsome : (lookupTbl a.dict a.gateName).isSome = true := by
        rw [hgn, wrapName_filter]
        cases hf : gs.filter (· != .I) with
        | nil => exact (hinv.dictKeys _).2 (Or.inl rfl)
        | cons g rest =>
          cases rest with
          | nil =>
            have hmem : g ∈ gs := (List.mem_filter.1 (hf ▸ List.mem_singleton.2 rfl)).1
            simpa using (hinv.dictKeys (g1Name g)).2 (Or.inr (List.mem_map_of_mem hmem))
          | cons g' rest' => rw [hf] at hlen; simp at hlen
      rw [hl] at hsome; cases hsome
    refine ⟨_, rfl, rfl, by simp [← hgn, hne], hinv.importsNil, ?_, fun _ => ?_⟩
    · intro d hd
      simp only [List.mem_append, List.mem_singleton] at hd
      rcases hd with hd | hd
      · exact Or.inl (hinv.defsPlain d hd)
      · right
        refine ⟨h2, ?_⟩
        rw [hd, hgn, hbody, husage]
        rfl
    · simp only [List.mem_append, List.mem_singleton]
      right
      rw [hgn, hbody, husage]
      rfl

/-- the group of statements `to_openqasm` appends for one operation (`[]` = nothing is appended) -/
def appOf : Op → List Stmt
  | .one g q => if g1Name g = [] then [] else [.gate (g1Name g) [q]]
  | .wrap gs q => if wrapName gs = [] then [] else [.gate (wrapName gs) [q]]
  | .ctrl g a b => [.gate (g2Name g) [a, b]]
  | .cctrl .CCNOT a b c => [.measure a c, .ifx c "x".toList b]
  | .cctrl .CCZ a b c => [.measure a c, .ifx c "z".toList b]
  | .cctrl .MCR a b c => [.measure a c, .ifx c "x".toList b, .barrier [a, b], .reset a]
  | .meas q c => [.measure q c]

def compEntry (gs : List G1) : DefEntry := { text := compText (compOf gs).name (compOf gs).body, comp := some (compOf gs) }

/-- every header entry is a plain class definition or the composite of some wrapper with ≥ 2 non-identity classes -/
def EntryOK (d : DefEntry) : Prop := PlainDef d ∨ ∃ gs, 2 ≤ (gs.filter (· != .I)).length ∧ d = compEntry gs

/-- every operation has an openQASM info object: its usage closure produces `appOf`, it asks for no import line, and its
    header entries are plain class definitions or, for a wrapper with ≥ 2 non-identity classes, the composite -/
theorem info_spec (op : Op) : ∃ i, op.info = .ok i ∧ useGate i.usage op = .ok (appOf op) ∧ i.imports = [] ∧
    (∀ d ∈ i.defs, EntryOK d) ∧
    (∀ gs q, op = .wrap gs q → 2 ≤ (gs.filter (· != .I)).length → compEntry gs ∈ i.defs) := by
  have plain : ∀ k i, classInfo k = .ok i → ∀ d ∈ i.defs, EntryOK d := fun k i hi d hd => Or.inl (classInfo_defs k i hi d hd)
  cases op with
  | one g q =>
    obtain ⟨i, hi, _, _, hu, himp⟩ := classInfo_g1 g
    refine ⟨i, hi, ?_, himp, plain _ i hi, fun _ _ h => by cases h⟩
    rw [hu]; unfold appOf
    split <;> simp_all [useGate, Op.qRegs]
  | wrap gs q =>
    obtain ⟨i, hi, _, hu, himp, h1, h2⟩ := wrapperInfo_spec gs
    refine ⟨i, hi, ?_, himp, fun d hd => (h1 d hd).imp_right fun ⟨h, e⟩ => ⟨gs, h, e⟩, fun gs' q' heq hlen => ?_⟩
    · rw [hu]; unfold appOf
      split <;> simp_all [useGate, Op.qRegs]
    · injection heq with heq _; subst heq
      exact h2 hlen
  | ctrl g a b =>
    refine ⟨_, classInfo_eq (.g2 g), ?_, rfl, plain _ _ (classInfo_eq _), fun _ _ h => by cases h⟩
    simp [usageOf, useGate, Op.qRegs, appOf, g2Name]
  | cctrl g a b c =>
    refine ⟨_, classInfo_eq (.gc g), ?_, rfl, plain _ _ (classInfo_eq _), fun _ _ h => by cases h⟩
    cases g <;> simp [usageOf, useGate, Op.qRegs, Op.cRegs, appOf]
  | meas q c =>
    refine ⟨_, classInfo_eq .measZ, ?_, rfl, plain _ _ (classInfo_eq _), fun _ _ h => by cases h⟩
    simp [usageOf, useGate, Op.qRegs, Op.cRegs, appOf]

/-- `oq_info.multi_comp` of an operation (`false` if it had no info) -/
def multiOf (op : Op) : Bool := match op.info with | .ok i => i.multi | .error _ => false

/-- the groups the body loop of `to_openqasm` appends, as a function of the `opened_barrier` flag -/
def emit (bar : Stmt) : Bool → List Op → List (List Stmt)
  | _, [] => []
  | opened, op :: rest =>
    (if (opened || multiOf op) && !(appOf op).isEmpty then [[bar]] else []) ++
    (if !(appOf op).isEmpty then [appOf op] else []) ++
    emit bar (if multiOf op then true else if !(appOf op).isEmpty then false else opened) rest

theorem bodyStep_spec (bar : Stmt) (a : BodyAcc) (op : Op) :
    bodyStep bar a op = .ok
      { opened := if multiOf op then true else if !(appOf op).isEmpty then false else a.opened,
        out := a.out ++ (if (a.opened || multiOf op) && !(appOf op).isEmpty then [[bar]] else []) ++
               (if !(appOf op).isEmpty then [appOf op] else []) } := by
  obtain ⟨i, hi, hu, _⟩ := info_spec op
  have hm : multiOf op = i.multi := by simp [multiOf, hi]
  unfold bodyStep
  simp only [hi, hu, bind, Except.bind, pure, Except.pure, hm]
  congr 1
  cases a.opened <;> cases i.multi <;> cases (appOf op).isEmpty <;> simp

theorem bodyFold_spec (bar : Stmt) (seq : List Op) (a : BodyAcc) :
    ∃ o, seq.foldlM (bodyStep bar) a = .ok { opened := o, out := a.out ++ emit bar a.opened seq } := by
  induction seq generalizing a with
  | nil => exact ⟨a.opened, by simp [emit, pure, Except.pure]⟩
  | cons op rest ih =>
    obtain ⟨o, ho⟩ := ih { opened := if multiOf op then true else if !(appOf op).isEmpty then false else a.opened,
                           out := a.out ++ (if (a.opened || multiOf op) && !(appOf op).isEmpty then [[bar]] else []) ++
                                  (if !(appOf op).isEmpty then [appOf op] else []) }
    refine ⟨o, ?_⟩
    simp only [List.append_assoc] at ho
    simp only [List.foldlM_cons, bodyStep_spec, bind, Except.bind, emit, List.append_assoc]
    exact ho

theorem mem_insertDef (ds : List DefEntry) (d x : DefEntry) :
    x ∈ insertDef ds d ↔ x ∈ ds ∨ (x = d ∧ ∀ y ∈ ds, y.text ≠ d.text) := by
  unfold insertDef
  split
  · rename_i h
    obtain ⟨y, hy, hyt⟩ := List.any_eq_true.1 h
    exact ⟨Or.inl, fun h' => h'.elim id fun h'' => absurd (by simpa using hyt) (h''.2 y hy)⟩
  · rename_i h
    simp only [List.any_eq_true, beq_iff_eq, not_exists, not_and] at h
    simp only [List.mem_append, List.mem_singleton]
    exact ⟨fun h' => h'.imp_right fun e => ⟨e, h⟩, fun h' => h'.imp_right And.left⟩

theorem foldl_insertDef (new acc : List DefEntry) :
    (∀ d ∈ new.foldl insertDef acc, d ∈ acc ∨ d ∈ new) ∧ (∀ d ∈ acc, d ∈ new.foldl insertDef acc) ∧
    (∀ d ∈ new, ∃ x ∈ new.foldl insertDef acc, x.text = d.text) := by
  induction new generalizing acc with
  | nil => exact ⟨fun d hd => Or.inl hd, fun d hd => hd, fun d hd => by cases hd⟩
  | cons n rest ih =>
    obtain ⟨h1, h2, h3⟩ := ih (insertDef acc n)
    simp only [List.foldl_cons, List.mem_cons]
    refine ⟨fun d hd => ?_, fun d hd => h2 d ((mem_insertDef acc n d).2 (Or.inl hd)), fun d hd => ?_⟩
    · rcases h1 d hd with h | h
      · exact ((mem_insertDef acc n d).1 h).imp_right fun h' => Or.inl h'.1
      · exact Or.inr (Or.inr h)
    · rcases hd with rfl | hd
      · by_cases hn : acc.any (fun x => x.text == d.text) = true
        · obtain ⟨y, hy, hyt⟩ := List.any_eq_true.1 hn
          exact ⟨y, h2 y ((mem_insertDef acc d y).2 (Or.inl hy)), by simpa using hyt⟩
        · exact ⟨d, h2 d ((mem_insertDef acc d d).2
            (Or.inr ⟨rfl, fun y hy e => hn (List.any_eq_true.2 ⟨y, hy, by simpa using e⟩)⟩)), rfl⟩
      · exact h3 d hd

theorem append_sep_inj (c : Char) : ∀ (a b x y : List Char), ¬ c ∈ a → ¬ c ∈ b → a ++ c :: x = b ++ c :: y → a = b
  | [], [], _, _, _, _, _ => rfl
  | [], b0 :: bs, x, y, _, hb, h => by
    simp only [List.nil_append, List.cons_append, List.cons.injEq] at h
    exact absurd (by simp [h.1]) hb
  | a0 :: as, [], x, y, ha, _, h => by
    simp only [List.nil_append, List.cons_append, List.cons.injEq] at h
    exact absurd (by simp [h.1]) ha
  | a0 :: as, b0 :: bs, x, y, ha, hb, h => by
    simp only [List.cons_append, List.cons.injEq] at h
    rw [h.1, append_sep_inj c as bs x y (fun hm => ha (List.mem_cons_of_mem _ hm)) (fun hm => hb (List.mem_cons_of_mem _ hm)) h.2]

theorem wrapName_no_space (gs : List G1) : ¬ ' ' ∈ wrapName gs := by
  unfold wrapName
  intro h
  obtain ⟨n, hn, hc⟩ := List.mem_flatten.1 h
  obtain ⟨g, _, rfl⟩ := List.mem_map.1 hn
  exact g1Name_no_space g hc

theorem compOf_eq_of_name (gs1 gs2 : List G1) (h : wrapName gs1 = wrapName gs2) : compOf gs1 = compOf gs2 := by
  have h1 := tokenise_wrapName gs1
  have h2 := tokenise_wrapName gs2
  rw [h] at h1
  unfold compOf
  rw [h, ← h1, ← h2]

theorem compText_has_newline (n : Str) (b : List Str) : '\n' ∈ compText n b := by
  unfold compText
  simp

theorem compEntry_text_inj (gs1 gs2 : List G1) (h : (compEntry gs1).text = (compEntry gs2).text) : compEntry gs1 = compEntry gs2 := by
  have hname : wrapName gs1 = wrapName gs2 := by
    unfold compEntry compText at h
    simp only [compOf, List.append_assoc] at h
    have h' := List.append_cancel_left h
    exact append_sep_inj ' ' _ _ _ _ (wrapName_no_space gs1) (wrapName_no_space gs2) h'
  unfold compEntry
  rw [compOf_eq_of_name gs1 gs2 hname]

theorem entry_of_text (d : DefEntry) (gs : List G1) (hd : EntryOK d) (ht : d.text = (compEntry gs).text) : d = compEntry gs := by
  rcases hd with ⟨_, hnl⟩ | ⟨gs0, _, rfl⟩
  · exfalso; apply hnl; rw [ht]; exact compText_has_newline _ _
  · exact compEntry_text_inj gs0 gs ht

/-- the header of a circuit: all entries are well-formed and every wrapper with two or more non-identity classes has its
    composite definition in it -/
theorem headerOf_comps (adds : List Op) : ∃ defs, headerOf adds = .ok ([], defs) ∧ (∀ d ∈ defs, EntryOK d) ∧
    ∀ gs q, Op.wrap gs q ∈ adds → 2 ≤ (gs.filter (· != .I)).length → compEntry gs ∈ defs := by
  unfold headerOf
  have key : ∀ (acc : List DefEntry), (∀ d ∈ acc, EntryOK d) → ∃ defs,
      adds.foldlM (fun (acc : List Str × List DefEntry) op => do
        let info ← op.info
        return (info.imports.foldl insertNew acc.1, info.defs.foldl insertDef acc.2)) ([], acc) = .ok ([], defs) ∧
      (∀ d ∈ defs, EntryOK d) ∧ (∀ d ∈ acc, d ∈ defs) ∧
      ∀ gs q, Op.wrap gs q ∈ adds → 2 ≤ (gs.filter (· != .I)).length → compEntry gs ∈ defs := by
    induction adds with
    | nil => intro acc hacc; exact ⟨acc, rfl, hacc, fun d hd => hd, fun _ _ h => by cases h⟩
    | cons op rest ih =>
      intro acc hacc
      obtain ⟨i, hi, _, himp, hok, hcomp⟩ := info_spec op
      obtain ⟨f1, f2, f3⟩ := foldl_insertDef i.defs acc
      have hacc' : ∀ d ∈ i.defs.foldl insertDef acc, EntryOK d := by
        intro d hd
        rcases f1 d hd with h | h
        · exact hacc d h
        · exact hok d h
      obtain ⟨defs, hd1, hd2, hd3, hd4⟩ := ih (i.defs.foldl insertDef acc) hacc'
      refine ⟨defs, ?_, hd2, fun d hd => hd3 d (f2 d hd), ?_⟩
      · simp only [List.foldlM_cons, hi, bind, Except.bind, pure, Except.pure, himp, List.foldl_nil]
        exact hd1
      · intro gs q hmem hlen
        rcases List.mem_cons.1 hmem with heq | hmem
        · obtain ⟨x, hx, hxt⟩ := f3 (compEntry gs) (hcomp gs q heq.symm hlen)
          have := entry_of_text x gs (hacc' x hx) hxt
          exact hd3 _ (this ▸ hx)
        · exact hd4 gs q hmem hlen
  obtain ⟨defs, h1, h2, _, h4⟩ := key [] (fun d hd => by cases hd)
  exact ⟨defs, h1, h2, h4⟩

/-- `to_openqasm` succeeds, its header is `headerOf` of the operations in the order they were added and its body is `emit` -/
theorem toOpenqasm_spec (c : Circuit) (seq : List Op) : ∃ defs,
    headerOf c.ops = .ok ([], defs) ∧ (∀ d ∈ defs, EntryOK d) ∧
    (∀ gs q, Op.wrap gs q ∈ c.ops → 2 ≤ (gs.filter (· != .I)).length → compEntry gs ∈ defs) ∧
    toOpenqasm c seq = .ok { header := Gen.header.toList, imports := [], defs := defs, decls := declsOf c,
                              body := emit (.barrier (qregsOf c)) false seq } := by
  obtain ⟨defs, hh, h1, h2⟩ := headerOf_comps c.ops
  obtain ⟨o, ho⟩ := bodyFold_spec (.barrier (qregsOf c)) seq {}
  refine ⟨defs, hh, h1, h2, ?_⟩
  unfold toOpenqasm
  simp only [hh, bind, Except.bind, ho, pure, Except.pure, List.nil_append]

/-! ## `from_openqasm` reads the exported body back -/

/-- what one operation becomes under openQASM export followed by import: identities vanish, a wrapper keeps its
    non-identity classes (and is a plain operation again when only one is left) -/
def normWrap (q : QReg) : List G1 → Option Op
  | [] => none
  | [g] => some (.one g q)
  | gs' => some (.wrap gs' q)

def normOp : Op → Option Op
  | .one g q => if g = .I then none else some (.one g q)
  | .wrap gs q => normWrap q (gs.filter (· != .I))
  | op => some op

def InRange (c : Circuit) (op : Op) : Prop := (∀ q ∈ op.qRegs, q.i < c.nOf q.t) ∧ (∀ r ∈ op.cRegs, r < c.nc)

instance (c : Circuit) (op : Op) : Decidable (InRange c op) := by unfold InRange; infer_instance

instance : DecidableEq (Except Err Circuit) := fun a b =>
  match a, b with
  | .ok x, .ok y => if h : x = y then isTrue (by rw [h]) else isFalse (by intro h'; injection h' with h''; exact h h'')
  | .error x, .error y => if h : x = y then isTrue (by rw [h]) else isFalse (by intro h'; injection h' with h''; exact h h'')
  | .ok _, .error _ => isFalse (by intro h; cases h)
  | .error _, .ok _ => isFalse (by intro h; cases h)

/-- a `OneQubitGateWrapper` object always has a non-empty `operations` list (its constructor raises otherwise) -/
def wrapOK : Op → Bool
  | .wrap [] _ => false
  | _ => true

theorem addRegIfAbsent_lt (n r : Nat) (h : r < n) : addRegIfAbsent n r = .ok n := by
  unfold addRegIfAbsent
  rw [if_neg (by omega), if_neg (by omega)]

theorem addReg_fold (n : Nat) (l : List Nat) (h : ∀ r ∈ l, r < n) : l.foldlM addRegIfAbsent n = .ok n :=
  Loop.foldlM_const fun r hr => addRegIfAbsent_lt n r (h r hr)

theorem addQ_inRange (c : Circuit) (q : QReg) (h : q.i < c.nOf q.t) : c.addQ q = .ok c := by
  unfold Circuit.addQ
  cases hq : q.t <;> rw [hq] at h <;> simp only [bind, Except.bind, pure, Except.pure]
  · rw [addRegIfAbsent_lt c.ne q.i h]
  · rw [addRegIfAbsent_lt c.np q.i h]

theorem addQ_fold (c : Circuit) (l : List QReg) (h : ∀ q ∈ l, q.i < c.nOf q.t) : l.foldlM Circuit.addQ c = .ok c :=
  Loop.foldlM_const fun q hq => addQ_inRange c q (h q hq)

theorem mem_sortQ (l : List QReg) (q : QReg) (h : q ∈ sortQ l) : q ∈ l := by
  unfold sortQ at h
  split at h
  · split at h <;> simp_all [or_comm]
  · exact h

theorem add_inRange (c : Circuit) (op : Op) (h : InRange c op) : c.add op = .ok { c with ops := c.ops ++ [op] } := by
  unfold Circuit.add
  simp only [addReg_fold c.nc op.cRegs h.2, bind, Except.bind]
  have : (sortQ op.qRegs).foldlM Circuit.addQ { c with nc := c.nc } = .ok { c with nc := c.nc } :=
    addQ_fold _ _ (fun q hq => h.1 q (mem_sortQ _ _ hq))
  simp only [this, pure, Except.pure]

theorem parseCmds_skipped (c : Circuit) (s : Stmt) (l : List Stmt) (hs : s.isSkipped = true) :
    parseCmds c 0 (s :: l) = parseCmds c 0 l := by
  simp [parseCmds, parseStep, hs]

theorem parseCmds_consume (c : Circuit) (k : Nat) (s : Stmt) (l : List Stmt) :
    parseCmds c (k + 1) (s :: l) = parseCmds c k l := by
  simp [parseCmds]

theorem parseCmds_step (c c' : Circuit) (s : Stmt) (l : List Stmt) (op : Op) (k : Nat)
    (h1 : parseStep s l = .ok (some op, k)) (h2 : c.add op = .ok c') :
    parseCmds c 0 (s :: l) = parseCmds c' k l := by
  simp [parseCmds, h1, h2]

/-- the shapes of an emitted group: nothing, one gate, a measurement, or one of the two measurement idioms -/
theorem appOf_shape (op : Op) : appOf op = [] ∨ (∃ n qs, appOf op = [.gate n qs]) ∨
    ∃ a c, appOf op = [.measure a c] ∨ ∃ g b, appOf op = [.measure a c, .ifx c g b] ∨
      appOf op = [.measure a c, .ifx c g b, .barrier [a, b], .reset a] := by
  cases op with
  | one g q => by_cases h : g1Name g = [] <;> simp [appOf, h]
  | wrap gs q => by_cases h : wrapName gs = [] <;> simp [appOf, h]
  | ctrl g a b => exact Or.inr (Or.inl ⟨_, _, rfl⟩)
  | cctrl g a b c =>
    refine Or.inr (Or.inr ⟨a, c, Or.inr ?_⟩)
    cases g
    · exact ⟨_, b, Or.inl rfl⟩
    · exact ⟨_, b, Or.inl rfl⟩
    · exact ⟨_, b, Or.inr rfl⟩
  | meas q c => exact Or.inr (Or.inr ⟨q, c, Or.inl rfl⟩)

/-- shape of a command list `l` that follows an operation: its first command is neither an `if` nor a `reset`, its
    second is not a `reset` (so a preceding `measure` is not mistaken for the start of a longer idiom) -/
def RestOK (l : List Stmt) : Prop :=
  (l.getD 0 .empty).hasIf = false ∧ (l.getD 0 .empty).hasReset = false ∧ (l.getD 1 .empty).hasReset = false

theorem restOK_app (op : Op) (l : List Stmt) (h : RestOK l) : RestOK (appOf op ++ l) := by
  rcases appOf_shape op with h0 | ⟨n, qs, h0⟩ | ⟨a, c, h0 | ⟨g, b, h0 | h0⟩⟩ <;> rw [h0]
  · exact h
  · exact ⟨rfl, rfl, h.2.1⟩
  · exact ⟨rfl, rfl, h.2.1⟩
  · exact ⟨rfl, rfl, rfl⟩
  · exact ⟨rfl, rfl, rfl⟩

theorem emit_cons_flatten (bar : Stmt) (o : Bool) (op : Op) (rest : List Op) :
    (emit bar o (op :: rest)).flatten =
      (if (o || multiOf op) && !(appOf op).isEmpty then [bar] else []) ++ appOf op ++
      (emit bar (if multiOf op then true else if !(appOf op).isEmpty then false else o) rest).flatten := by
  rw [emit]
  cases happ : appOf op <;> cases (o || multiOf op) <;> simp

/-- what follows an operation's statements in the command list never looks like the continuation of a measurement idiom -/
theorem rest_shape (bar : Stmt) (hb1 : bar.hasIf = false) (hb2 : bar.hasReset = false) (seq : List Op) (o : Bool) :
    RestOK ((emit bar o seq).flatten ++ [Stmt.empty]) := by
  induction seq generalizing o with
  | nil => exact ⟨rfl, rfl, rfl⟩
  | cons op rest ih =>
    rw [emit_cons_flatten, List.append_assoc, List.append_assoc]
    have h1 := restOK_app op _ (ih (if multiOf op then true else if !(appOf op).isEmpty then false else o))
    split
    · exact ⟨hb1, hb2, h1.2.1⟩
    · simpa using h1

theorem nameToClass_mem (n : Str) (k : Cls) (h : nameToClass n = some k) : n ∈ nameToClassTbl.map (·.1) := by
  unfold nameToClass lookupTbl at h
  cases hf : nameToClassTbl.find? (fun p => p.1 == n) with
  | none => simp [hf] at h
  | some p =>
    have hm := List.mem_of_find?_eq_some hf
    have hp := List.find?_some hf
    simp at hp
    rw [← hp]
    exact List.mem_map_of_mem hm

theorem g1Name_mem_g1Names (g : G1) (hg : g ≠ .I) : g1Name g ∈ g1Names := by
  unfold g1Names
  apply List.mem_map_of_mem
  simp [G1.mem_all g, hg]

theorem names_classes (gs : List G1) (hI : ∀ g ∈ gs, g ≠ .I) :
    (gs.map g1Name).map nameToClass = gs.map fun g => some (Cls.g1 g) := by
  rw [List.map_map]
  apply List.map_congr_left
  intro g hg
  exact tbl_g1_roundtrip g (hI g hg)

theorem isConcat_names (gs : List G1) (hI : ∀ g ∈ gs, g ≠ .I) (hlen : 2 ≤ gs.length) :
    IsConcat (gs.map g1Name).flatten := by
  unfold IsConcat
  rw [tokenise_names gs hI]
  refine ⟨by simpa using hlen, ?_⟩
  intro t ht
  obtain ⟨g, hg, rfl⟩ := List.mem_map.1 ht
  exact g1Name_mem_g1Names g (hI g hg)

theorem concat_not_a_key (gs : List G1) (hI : ∀ g ∈ gs, g ≠ .I) (hlen : 2 ≤ gs.length) :
    nameToClass ((gs.map g1Name).flatten) = none := by
  cases h : nameToClass ((gs.map g1Name).flatten) with
  | none => rfl
  | some k => exact absurd (isConcat_names gs hI hlen) (tbl_keys_not_concat _ (nameToClass_mem _ _ h))

theorem wrapperCheck_g1 (gs : List G1) : wrapperCheck (gs.map fun g => some (Cls.g1 g)) = .ok gs := by
  induction gs with
  | nil => rfl
  | cons g rest ih =>
    simp [wrapperCheck, tbl_g1_oneQubit g, ih, Except.map]

theorem parseOneQubit_names (gs' : List G1) (q : QReg) (op' : Op) (hI : ∀ g ∈ gs', g ≠ .I)
    (hn : normWrap q gs' = some op') : parseOneQubit ((gs'.map g1Name).flatten) q = .ok op' := by
  match gs', hn, hI with
  | [], hn, _ => simp [normWrap] at hn
  | [g], hn, hI =>
    simp [normWrap] at hn; subst hn
    have hg : g ≠ .I := hI g (by simp)
    simp [parseOneQubit, tbl_g1_roundtrip g hg, mkOne]
  | g1 :: g2 :: rest, hn, hI =>
    simp [normWrap] at hn; subst hn
    have hnone := concat_not_a_key (g1 :: g2 :: rest) hI (by simp)
    unfold parseOneQubit
    rw [hnone]
    simp only [tokenise_names _ hI, names_classes _ hI]
    have hany : ((g1 :: g2 :: rest).map fun g => some (Cls.g1 g)).any Option.isNone = false := by
      simp
    simp only [hany, Bool.false_eq_true, if_false, mkWrapperOpt, wrapperCheck_g1]
    simp [Except.map]

theorem parseOneQubit_wrapName (gs : List G1) (q : QReg) (op' : Op) (hn : normOp (.wrap gs q) = some op') :
    parseOneQubit (wrapName gs) q = .ok op' := by
  rw [wrapName_filter]
  exact parseOneQubit_names _ q op' (filter_ne_I gs) hn

/-- reading back the statements of one operation: the parser adds the normalised operation and continues after them -/
theorem parse_app (c : Circuit) (op op' : Op) (R : List Stmt) (hR : RestOK R) (hr : InRange c op)
    (hn : normOp op = some op') (hne : appOf op ≠ []) :
    parseCmds c 0 (appOf op ++ R) = parseCmds { c with ops := c.ops ++ [op'] } 0 R := by
  have hadd : ∀ o : Op, o.qRegs = op.qRegs → o.cRegs = op.cRegs → c.add o = .ok { c with ops := c.ops ++ [o] } := by
    intro o h1 h2
    exact add_inRange c o ⟨by rw [h1]; exact hr.1, by rw [h2]; exact hr.2⟩
  cases op with
  | one g q =>
    simp only [normOp] at hn
    split at hn
    · simp at hn
    · rename_i hg
      simp at hn; subst hn
      have hnm : g1Name g ≠ [] := fun h => hg ((g1Name_nil_iff g).1 h)
      simp only [appOf, hnm, if_false, List.singleton_append]
      apply parseCmds_step _ _ _ _ _ _ _ (hadd _ rfl rfl)
      simp [parseStep, Stmt.isSkipped, parseOneQubit, tbl_g1_roundtrip g hg, mkOne]
  | wrap gs q =>
    have hnm : wrapName gs ≠ [] := by
      intro h; apply hne; simp [appOf, h]
    simp only [appOf, hnm, if_false, List.singleton_append]
    have hq : op'.qRegs = [q] ∧ op'.cRegs = [] := by
      simp only [normOp] at hn
      generalize gs.filter (· != .I) = gs' at hn
      match gs', hn with
      | [], hn => simp [normWrap] at hn
      | [g], hn => simp [normWrap] at hn; subst hn; exact ⟨rfl, rfl⟩
      | _ :: _ :: _, hn => simp [normWrap] at hn; subst hn; exact ⟨rfl, rfl⟩
    apply parseCmds_step _ _ _ _ _ _ _ (hadd _ hq.1 hq.2)
    simp [parseStep, Stmt.isSkipped, parseOneQubit_wrapName gs q op' hn]
  | ctrl g a b =>
    simp [normOp] at hn; subst hn
    simp only [appOf, List.singleton_append]
    apply parseCmds_step _ _ _ _ _ _ _ (hadd _ rfl rfl)
    simp [parseStep, Stmt.isSkipped, (tbl_g2 g).1, mkCtrl]
  | cctrl g a b cr =>
    simp [normOp] at hn; subst hn
    have h1 := hR.2.2
    rw [List.getD_eq_getElem?_getD] at h1
    have hx := tbl_classical_x
    have hz := tbl_classical_z
    have hrx := tbl_classical_reset_x
    simp at hx hz hrx
    cases g with
    | CCNOT =>
      simp only [appOf, List.cons_append, List.nil_append]
      rw [parseCmds_step c _ _ _ (.cctrl .CCNOT a b cr) 1 _ (hadd _ rfl rfl), parseCmds_consume]
      simp [parseStep, Stmt.isSkipped, Stmt.hasIf, h1, parseIf, isLower, hx, mkCctrl]
    | CCZ =>
      simp only [appOf, List.cons_append, List.nil_append]
      rw [parseCmds_step c _ _ _ (.cctrl .CCZ a b cr) 1 _ (hadd _ rfl rfl), parseCmds_consume]
      simp [parseStep, Stmt.isSkipped, Stmt.hasIf, h1, parseIf, isLower, hz, mkCctrl]
    | MCR =>
      simp only [appOf, List.cons_append, List.nil_append]
      rw [parseCmds_step c _ _ _ (.cctrl .MCR a b cr) 3 _ (hadd _ rfl rfl), parseCmds_consume, parseCmds_consume,
        parseCmds_consume]
      simp [parseStep, Stmt.isSkipped, Stmt.hasIf, Stmt.hasReset, parseIf, isLower, hrx, mkCctrl]
  | meas q cr =>
    simp [normOp] at hn; subst hn
    have h0 := hR.1
    rw [List.getD_eq_getElem?_getD] at h0
    simp only [appOf, List.singleton_append]
    apply parseCmds_step _ _ _ _ _ _ _ (hadd _ rfl rfl)
    simp [parseStep, Stmt.isSkipped, h0]

theorem g1Names_flatten_nil (gs : List G1) (hI : ∀ g ∈ gs, g ≠ .I) (h : (gs.map g1Name).flatten = []) : gs = [] := by
  cases gs with
  | nil => rfl
  | cons g rest =>
    exfalso
    have hg : g1Name g ≠ [] := fun h0 => hI g (by simp) ((g1Name_nil_iff g).1 h0)
    simp at h
    exact hg h.1

theorem appOf_nil_iff (op : Op) : appOf op = [] ↔ normOp op = none := by
  cases op with
  | one g q =>
    simp only [appOf, normOp, g1Name_nil_iff]
    by_cases hg : g = .I <;> simp [hg]
  | wrap gs q =>
    simp only [appOf, normOp]
    rw [wrapName_filter]
    have hI := filter_ne_I gs
    generalize gs.filter (· != .I) = gs' at hI
    constructor
    · intro h
      split at h
      · rename_i h0
        rw [g1Names_flatten_nil gs' hI h0]; rfl
      · simp at h
    · intro h
      match gs', h with
      | [], _ => simp
      | [g], h => simp [normWrap] at h
      | _ :: _ :: _, h => simp [normWrap] at h
  | ctrl g a b => simp [appOf, normOp]
  | cctrl g a b c => cases g <;> simp [appOf, normOp]
  | meas q c => simp [appOf, normOp]

theorem inRange_ops (c : Circuit) (l : List Op) (op : Op) : InRange { c with ops := l } op ↔ InRange c op := by
  unfold InRange Circuit.nOf
  exact Iff.rfl

/-- the command loop of `from_openqasm` reads the body produced by `to_openqasm` back, operation by operation -/
theorem parse_emit (bar : Stmt) (hs : bar.isSkipped = true) (hb1 : bar.hasIf = false) (hb2 : bar.hasReset = false)
    (seq : List Op) : ∀ (c : Circuit) (o : Bool), (∀ op ∈ seq, InRange c op) →
    parseCmds c 0 ((emit bar o seq).flatten ++ [Stmt.empty]) = .ok { c with ops := c.ops ++ seq.filterMap normOp } := by
  induction seq with
  | nil =>
    intro c o _
    simp [emit, parseCmds, parseStep, Stmt.isSkipped]
  | cons op rest ih =>
    intro c o hr
    have hrop : InRange c op := hr op (by simp)
    have hrrest : ∀ op' ∈ rest, InRange c op' := fun op' h => hr op' (by simp [h])
    rw [emit_cons_flatten, List.append_assoc, List.append_assoc]
    have hR := rest_shape bar hb1 hb2 rest (if multiOf op then true else if !(appOf op).isEmpty then false else o)
    by_cases happ : appOf op = []
    · have hn : normOp op = none := (appOf_nil_iff op).1 happ
      simp only [happ, List.isEmpty_nil, Bool.not_true, Bool.and_false, Bool.false_eq_true, if_false, List.nil_append,
        List.filterMap_cons, hn]
      exact ih c _ hrrest
    · have hn : ∃ op', normOp op = some op' := by
        cases h : normOp op with
        | none => exact absurd ((appOf_nil_iff op).2 h) happ
        | some op' => exact ⟨op', rfl⟩
      obtain ⟨op', hn⟩ := hn
      have hstep := parse_app c op op' _ hR hrop hn happ
      have hfin : parseCmds c 0 (appOf op ++ ((emit bar (if multiOf op then true else if !(appOf op).isEmpty then false else o) rest).flatten ++ [Stmt.empty]))
          = .ok { c with ops := c.ops ++ (op :: rest).filterMap normOp } := by
        rw [hstep, ih _ _ (fun x hx => (inRange_ops c _ x).2 (hrrest x hx))]
        simp [hn]
      split
      · rw [List.singleton_append, parseCmds_skipped _ _ _ hs]; exact hfin
      · exact hfin

theorem parseCmds_skip_prefix (c : Circuit) (pre l : List Stmt) (h : ∀ s ∈ pre, s.isSkipped = true) :
    parseCmds c 0 (pre ++ l) = parseCmds c 0 l := by
  induction pre with
  | nil => rfl
  | cons s rest ih =>
    rw [List.cons_append, parseCmds_skipped _ _ _ (h s (by simp))]
    exact ih (fun x hx => h x (by simp [hx]))

theorem decls_skipped (c : Circuit) : ∀ s ∈ declsOf c, s.isSkipped = true := by
  intro s hs
  unfold declsOf at hs
  simp only [List.mem_append, List.mem_map] at hs
  rcases hs with ⟨q, _, rfl⟩ | ⟨i, _, rfl⟩ <;> rfl

theorem appOf_no_decl (op : Op) : ∀ s ∈ appOf op, (∀ t, isQregOf t s = false) ∧ isCreg s = false := by
  intro s hs
  rcases appOf_shape op with h0 | ⟨n, qs, h0⟩ | ⟨a, c, h0 | ⟨g, b, h0 | h0⟩⟩ <;> rw [h0] at hs <;>
    simp only [List.mem_cons, List.not_mem_nil, or_false] at hs
  · subst hs; exact ⟨fun _ => rfl, rfl⟩
  · subst hs; exact ⟨fun _ => rfl, rfl⟩
  · rcases hs with h | h <;> subst h <;> exact ⟨fun _ => rfl, rfl⟩
  · rcases hs with h | h | h | h <;> subst h <;> exact ⟨fun _ => rfl, rfl⟩

theorem emit_no_decl (bar : Stmt) (hb : (∀ t, isQregOf t bar = false) ∧ isCreg bar = false) (seq : List Op) (o : Bool) :
    ∀ s ∈ (emit bar o seq).flatten, (∀ t, isQregOf t s = false) ∧ isCreg s = false := by
  induction seq generalizing o with
  | nil => intro s hs; simp [emit] at hs
  | cons op rest ih =>
    intro s hs
    rw [emit_cons_flatten] at hs
    simp only [List.mem_append] at hs
    rcases hs with (hs | hs) | hs
    · split at hs
      · simp at hs; subst hs; exact hb
      · simp at hs
    · exact appOf_no_decl op s hs
    · exact ih _ s hs

theorem countP_zero_of {α : Type} (p : α → Bool) (l : List α) (h : ∀ x ∈ l, p x = false) : l.countP p = 0 := by
  rw [List.countP_eq_zero]
  intro x hx; simp [h x hx]

theorem countP_map_const {α β : Type} (p : β → Bool) (f : α → β) (v : Bool) (l : List α) (h : ∀ x, p (f x) = v) :
    (l.map f).countP p = if v then l.length else 0 := by
  induction l with
  | nil => cases v <;> rfl
  | cons x rest ih =>
    rw [List.map_cons, List.countP_cons, ih, h x]
    cases v <;> simp

theorem count_decls (c : Circuit) :
    (declsOf c).countP (isQregOf .p) = c.np ∧ (declsOf c).countP (isQregOf .e) = c.ne ∧ (declsOf c).countP isCreg = c.nc := by
  have key : ∀ (p : Stmt → Bool) (vp ve vc : Bool), (∀ i, p (.qreg ⟨.p, i⟩ 1) = vp) → (∀ i, p (.qreg ⟨.e, i⟩ 1) = ve) →
      (∀ i, p (.creg i 1) = vc) →
      (declsOf c).countP p = (if vp then c.np else 0) + (if ve then c.ne else 0) + (if vc then c.nc else 0) := by
    intro p vp ve vc hp he hc
    unfold declsOf qregsOf
    simp only [List.map_append, List.map_map, List.countP_append]
    rw [countP_map_const p ((fun q => Stmt.qreg q 1) ∘ fun i => ⟨.p, i⟩) vp _ hp,
      countP_map_const p ((fun q => Stmt.qreg q 1) ∘ fun i => ⟨.e, i⟩) ve _ he, countP_map_const p _ vc _ hc]
    simp only [List.length_range]
  exact ⟨by simpa using key (isQregOf .p) true false false (fun _ => rfl) (fun _ => rfl) (fun _ => rfl),
    by simpa using key (isQregOf .e) false true false (fun _ => rfl) (fun _ => rfl) (fun _ => rfl),
    by simpa using key isCreg false false true (fun _ => rfl) (fun _ => rfl) (fun _ => rfl)⟩

/-- **openQASM round trip** (statement level): importing the exported program of a circuit whose operations (in
    `sequence()` order `seq`) only use existing registers gives a circuit with the same register counts whose
    operations are, in order, the normalised operations of `seq` -/
theorem fromOpenqasm_toOpenqasm (c : Circuit) (seq : List Op) (h : ∀ op ∈ seq, InRange c op) :
    (toOpenqasm c seq).bind fromOpenqasm = .ok { ne := c.ne, np := c.np, nc := c.nc, ops := seq.filterMap normOp } := by
  obtain ⟨defs, _, _, _, hp⟩ := toOpenqasm_spec c seq
  rw [hp]
  show fromOpenqasm _ = _
  unfold fromOpenqasm
  simp only [tbl_header, ne_eq, not_true_eq_false, if_false, Program.cmds, List.map_nil, List.nil_append]
  have hbar : (∀ t, isQregOf t (Stmt.barrier (qregsOf c)) = false) ∧ isCreg (Stmt.barrier (qregsOf c)) = false :=
    ⟨fun _ => rfl, rfl⟩
  have hbody := emit_no_decl (.barrier (qregsOf c)) hbar seq false
  have hcnt := count_decls c
  have hcount : ∀ (p : Stmt → Bool), (∀ s ∈ (emit (.barrier (qregsOf c)) false seq).flatten, p s = false) → p Stmt.empty = false →
      (declsOf c ++ (emit (.barrier (qregsOf c)) false seq).flatten ++ [Stmt.empty]).countP p = (declsOf c).countP p := by
    intro p hp1 hp2
    simp only [List.countP_append, countP_zero_of p _ hp1]
    simp [hp2]
  rw [hcount _ (fun s hs => (hbody s hs).1 .p) rfl, hcount _ (fun s hs => (hbody s hs).1 .e) rfl,
    hcount _ (fun s hs => (hbody s hs).2) rfl, hcnt.1, hcnt.2.1, hcnt.2.2, List.append_assoc,
    parseCmds_skip_prefix _ _ _ (decls_skipped c)]
  have := parse_emit (.barrier (qregsOf c)) rfl rfl rfl seq { np := c.np, ne := c.ne, nc := c.nc, ops := [] } false
    (fun op hop => h op hop)
  simpa using this

/-! ## JSON -/

theorem classToName_some (k : Cls) : ∃ n, classToName k = some n ∧ n ≠ [] ∧ nameToClass n = some k := by
  obtain ⟨_, _, _, h1, h2, _⟩ := tbl_cls k
  cases hn : classToName k with
  | none => rw [hn] at h1; simp at h1
  | some n =>
    rw [hn] at h1 h2
    exact ⟨n, rfl, by simpa using h2, by simpa using h1⟩

theorem jsonShape_eq (k : Cls) : jsonShape k = k.shape := (tbl_json k).2.2.2

/-- the `type` entry written for an operation of class `k` is not the wrapper tag and is read back as `k` -/
theorem jsonType_class (k : Cls) :
    ((some k).bind classToName == some "one qubit gate wrapper".toList) = false ∧
    ((some k).bind classToName).bind nameToClass = some k := by
  obtain ⟨_, _, _, h1, _, h3, _⟩ := tbl_cls k
  exact ⟨beq_eq_false_iff_ne.2 h3, h1⟩

theorem fromJsonOp_toJsonOp (op : Op) (hw : ∀ gs q, op = .wrap gs q → gs ≠ []) : fromJsonOp (toJsonOp op) = .ok op := by
  cases op with
  | one g q =>
    simp only [toJsonOp, fromJsonOp, Op.cls, jsonType_class (.g1 g), Bool.false_eq_true, if_false, jsonShape_eq, Cls.shape,
      qregAt, Op.qRegs, List.map_cons, List.map_nil, List.getElem?_cons_zero, mkOne]
  | wrap gs q =>
    have hne : gs ≠ [] := hw gs q rfl
    have hnames : ∀ l : List G1, (l.filterMap fun g => truthyName (classToName (.g1 g))) =
        l.map fun g => (classToName (.g1 g)).getD [] := by
      intro l
      induction l with
      | nil => rfl
      | cons g rest ih =>
        obtain ⟨n, hn, hnn, _⟩ := classToName_some (.g1 g)
        simp only [List.filterMap_cons, List.map_cons, hn, Option.getD_some]
        cases n with
        | nil => exact absurd rfl hnn
        | cons ch cs => exact congrArg (List.cons (ch :: cs)) ih
    have hcls : (gs.map fun g => (classToName (.g1 g)).getD []).map nameToClass = gs.map fun g => some (Cls.g1 g) := by
      rw [List.map_map]
      apply List.map_congr_left
      intro g _
      obtain ⟨n, hn, _, hr⟩ := classToName_some (.g1 g)
      simp [hn, hr]
    simp only [toJsonOp, fromJsonOp, hnames gs, beq_self_eq_true, if_true, qregAt, Op.qRegs, List.map_cons, List.map_nil,
      List.getElem?_cons_zero, mkWrapperOpt, hcls, wrapperCheck_g1, Except.map]
    have hemp2 : (gs.map fun g => some (Cls.g1 g)).isEmpty = false := by
      cases gs with
      | nil => exact absurd rfl hne
      | cons _ _ => rfl
    simp [hemp2]
  | ctrl g a b =>
    simp only [toJsonOp, fromJsonOp, Op.cls, jsonType_class (.g2 g), Bool.false_eq_true, if_false, jsonShape_eq, Cls.shape,
      qregAt, Op.qRegs, List.map_cons, List.map_nil, List.getElem?_cons_zero, List.getElem?_cons_succ, mkCtrl]
  | cctrl g a b c =>
    simp only [toJsonOp, fromJsonOp, Op.cls, jsonType_class (.gc g), Bool.false_eq_true, if_false, jsonShape_eq, Cls.shape,
      qregAt, Op.qRegs, List.map_cons, List.map_nil, List.getElem?_cons_zero, List.getElem?_cons_succ, cregAt, Op.cRegs]
  | meas q c =>
    simp only [toJsonOp, fromJsonOp, Op.cls, jsonType_class .measZ, Bool.false_eq_true, if_false, jsonShape_eq, Cls.shape,
      qregAt, Op.qRegs, List.map_cons, List.map_nil, List.getElem?_cons_zero, cregAt, Op.cRegs]

theorem fromJson_fold (l : List Op) (c : Circuit) (hr : ∀ op ∈ l, InRange c op) (hw : ∀ op ∈ l, wrapOK op = true) :
    (l.map toJsonOp).foldlM fromJsonStep c =
      .ok { c with ops := c.ops ++ l } := by
  induction l generalizing c with
  | nil => simp [pure, Except.pure]
  | cons op rest ih =>
    have h1 := fromJsonOp_toJsonOp op (fun gs q h => by
      have := hw op (by simp); subst h; cases gs with
      | nil => simp [wrapOK] at this
      | cons _ _ => simp)
    have h2 := add_inRange c op (hr op (by simp))
    simp only [List.map_cons, List.foldlM_cons, fromJsonStep, h1, h2, bind, Except.bind]
    rw [ih _ (fun x hx => (inRange_ops c _ x).2 (hr x (by simp [hx]))) (fun x hx => hw x (by simp [hx]))]
    simp

/-- **JSON round trip**: `from_json(to_json(c))` has the same registers and exactly the operations of `sequence()` -/
theorem fromJson_toJson (c : Circuit) (seq : List Op) (hr : ∀ op ∈ seq, InRange c op)
    (hw : ∀ op ∈ seq, wrapOK op = true) :
    fromJson (toJson c seq) = .ok { ne := c.ne, np := c.np, nc := c.nc, ops := seq } := by
  unfold fromJson toJson
  have := fromJson_fold seq { np := c.np, ne := c.ne, nc := c.nc, ops := [] } (fun op h => hr op h) hw
  simpa using this

/-! ## the round trip preserves the executed operation sequence -/

theorem flat_append (a b : List Op) : flat (a ++ b) = flat a ++ flat b := by
  simp [flat, List.flatMap_append]

theorem flat_cons (op : Op) (l : List Op) : flat (op :: l) = flat [op] ++ flat l := by
  rw [← flat_append]; rfl

theorem flat_wrap (gs : List G1) (q : QReg) :
    flat [.wrap gs q] = ((gs.filter (· != .I)).reverse).map fun g => Op.one g q := by
  simp only [flat, List.flatMap_cons, List.flatMap_nil, List.append_nil, Op.unwrap]
  rw [List.filter_map, ← List.filter_reverse]
  congr 1
  apply List.filter_congr
  intro g _
  cases g <;> rfl

/-- an operation and its image under export∘import execute the same primitive operations -/
theorem flat_normOp (op : Op) : flat (normOp op).toList = flat [op] := by
  cases op with
  | one g q =>
    by_cases hg : g = .I
    · subst hg; simp [normOp, flat, Op.unwrap, Op.isIdentity]
    · simp [normOp, hg]
  | wrap gs q =>
    rw [flat_wrap]
    simp only [normOp]
    have hI := filter_ne_I gs
    generalize gs.filter (· != .I) = gs' at hI
    match gs', hI with
    | [], _ => simp [normWrap, flat]
    | [g], hI =>
      have : g ≠ .I := hI g (by simp)
      simp only [normWrap, Option.toList_some, List.reverse_cons, List.reverse_nil, List.nil_append, List.map_cons, List.map_nil]
      cases g <;> first | rfl | exact absurd rfl this
    | g1 :: g2 :: rest, hI =>
      simp only [normWrap, Option.toList_some]
      rw [flat_wrap]
      congr 2
      rw [List.filter_eq_self]
      intro g hg; simpa using hI g hg
  | ctrl g a b => rfl
  | cctrl g a b c => rfl
  | meas q c => rfl

theorem flat_filterMap_normOp (seq : List Op) : flat (seq.filterMap normOp) = flat seq := by
  induction seq with
  | nil => rfl
  | cons op rest ih =>
    rw [flat_cons op rest, ← flat_normOp op, ← ih, ← flat_append]
    cases h : normOp op <;> simp [h]

/-! ## the standard reading of the program -/

/-- the primitive standard statements an operation stands for, in application order -/
def stdSpecOp : Op → List StdOp
  | .one g q => if g1Name g = [] then [] else [.app (g1Name g) [q]]
  | .wrap gs q => ((gs.filter (· != .I)).reverse).map fun g => .app (g1Name g) [q]
  | .ctrl g a b => [.app (g2Name g) [a, b]]
  | .cctrl .CCNOT a b c => [.measure a c, .cond c "x".toList b]
  | .cctrl .CCZ a b c => [.measure a c, .cond c "z".toList b]
  | .cctrl .MCR a b c => [.measure a c, .cond c "x".toList b, .reset a]
  | .meas q c => [.measure q c]

def stdSpec (seq : List Op) : List StdOp := seq.flatMap stdSpecOp

/-- the composites of a well-formed header -/
def CompsOK (comps : List Comp) : Prop := ∀ cp ∈ comps, ∃ gs, 2 ≤ (gs.filter (· != .I)).length ∧ cp = compOf gs

theorem compsOK_of_entries (defs : List DefEntry) (h : ∀ d ∈ defs, EntryOK d) : CompsOK (compsOf defs) := by
  intro cp hcp
  unfold compsOf at hcp
  obtain ⟨d, hd, hdc⟩ := List.mem_filterMap.1 hcp
  rcases h d hd with ⟨hn, _⟩ | ⟨gs, hl, rfl⟩
  · rw [hn] at hdc; cases hdc
  · simp only [compEntry, Option.some.injEq] at hdc
    exact ⟨gs, hl, hdc.symm⟩

theorem findComp_some (comps : List Comp) (name : Str) (cp : Comp) (h : findComp comps name = some cp) :
    cp ∈ comps ∧ cp.name = name := by
  unfold findComp at h
  exact ⟨List.mem_of_find?_eq_some h, by simpa using List.find?_some h⟩

theorem findComp_not_concat (comps : List Comp) (hc : CompsOK comps) (n : Str) (h : ¬ IsConcat n) : findComp comps n = none := by
  cases hf : findComp comps n with
  | none => rfl
  | some cp =>
    obtain ⟨hm, hn⟩ := findComp_some comps _ cp hf
    obtain ⟨gs, hl, rfl⟩ := hc cp hm
    refine absurd ?_ h
    rw [← hn]
    show IsConcat (wrapName gs)
    rw [wrapName_filter]
    exact isConcat_names _ (filter_ne_I gs) hl

theorem findComp_g1 (comps : List Comp) (hc : CompsOK comps) (g : G1) : findComp comps (g1Name g) = none :=
  findComp_not_concat comps hc _ fun h => absurd h.1 (by have := tokenise_g1Name_le g; omega)

theorem findComp_g2 (comps : List Comp) (hc : CompsOK comps) (g : G2) : findComp comps (g2Name g) = none :=
  findComp_not_concat comps hc _ (tbl_g2 g).2

theorem findComp_wrap (comps : List Comp) (hc : CompsOK comps) (gs : List G1)
    (hmem : compOf gs ∈ comps) : findComp comps (wrapName gs) = some (compOf gs) := by
  cases h : findComp comps (wrapName gs) with
  | none =>
    exfalso
    unfold findComp at h
    have := List.find?_eq_none.1 h (compOf gs) hmem
    simp [compOf] at this
  | some cp =>
    obtain ⟨hm, hn⟩ := findComp_some comps _ cp h
    obtain ⟨gs0, _, rfl⟩ := hc cp hm
    rw [compOf_eq_of_name gs0 gs hn]

/-- standard reading of the statements of one operation = the operation's own primitive statements -/
theorem std_appOf (comps : List Comp) (hc : CompsOK comps) (op : Op)
    (hw : ∀ gs q, op = .wrap gs q → 2 ≤ (gs.filter (· != .I)).length → compOf gs ∈ comps) :
    (appOf op).flatMap (stdStmt comps) = stdSpecOp op := by
  cases op with
  | one g q =>
    simp only [appOf, stdSpecOp]
    split
    · rfl
    · simp [stdStmt, findComp_g1 comps hc g]
  | ctrl g a b => simp [appOf, stdSpecOp, stdStmt, findComp_g2 comps hc g]
  | cctrl g a b c => cases g <;> simp [appOf, stdSpecOp, stdStmt]
  | meas q c => simp [appOf, stdSpecOp, stdStmt]
  | wrap gs q =>
    simp only [appOf, stdSpecOp]
    rcases Nat.lt_or_ge (gs.filter (· != .I)).length 2 with hlt | hge
    · -- at most one non-identity class: the name is "" or a single class name
      cases hf : gs.filter (· != .I) with
      | nil =>
        have : wrapName gs = [] := by rw [wrapName_filter, hf]; rfl
        simp [this]
      | cons g rest =>
        cases rest with
        | cons g' rest' => rw [hf] at hlt; simp at hlt; omega
        | nil =>
          have hgI : g ≠ .I := by
            have := (List.mem_filter.1 (hf ▸ List.mem_singleton.2 rfl : g ∈ gs.filter (· != .I))).2
            simpa using this
          have hname : wrapName gs = g1Name g := by rw [wrapName_filter, hf]; simp
          have hne : g1Name g ≠ [] := fun h => hgI ((g1Name_nil_iff g).1 h)
          simp [hname, hne, stdStmt, findComp_g1 comps hc g]
    · have hne := (wrapName_not_single gs hge).1
      have hfc := findComp_wrap comps hc gs (hw gs q rfl hge)
      simp only [hne, if_false, List.flatMap_cons, List.flatMap_nil, List.append_nil, stdStmt, hfc]
      simp [compOf, List.map_reverse]

theorem std_emit (comps : List Comp) (bar : Stmt) (hb : stdStmt comps bar = []) (seq : List Op) (o : Bool) :
    (emit bar o seq).flatten.flatMap (stdStmt comps) = seq.flatMap fun op => (appOf op).flatMap (stdStmt comps) := by
  induction seq generalizing o with
  | nil => simp [emit]
  | cons op rest ih =>
    rw [emit_cons_flatten, List.flatMap_append, List.flatMap_append, ih, List.flatMap_cons]
    split <;> simp [hb]

theorem flatMap_congr_mem {α β : Type} (l : List α) (f g : α → List β) (h : ∀ x ∈ l, f x = g x) :
    l.flatMap f = l.flatMap g := by
  induction l with
  | nil => rfl
  | cons a rest ih =>
    simp only [List.flatMap_cons, h a (by simp), ih (fun x hx => h x (by simp [hx]))]

/-- **standard reading**: read with standard openQASM 2.0 semantics (a call of a composite gate executes its body in
    textual order), the exported program denotes exactly the circuit's own primitive operations, in `sequence()` order -/
theorem qasmStd_toOpenqasm (c : Circuit) (seq : List Op) (hsub : ∀ op ∈ seq, op ∈ c.ops) :
    ∃ p, toOpenqasm c seq = .ok p ∧ qasmStd p = stdSpec seq := by
  obtain ⟨defs', _, hentries, hcomps, hp⟩ := toOpenqasm_spec c seq
  refine ⟨_, hp, ?_⟩
  unfold qasmStd stdSpec
  simp only
  have hc := compsOK_of_entries defs' hentries
  rw [std_emit _ _ (by rfl) seq false]
  apply flatMap_congr_mem
  intro op hop
  apply std_appOf _ hc op
  intro gs q heq hl
  have hmem := hcomps gs q (heq ▸ hsub op hop) hl
  unfold compsOf
  exact List.mem_filterMap.2 ⟨compEntry gs, hmem, rfl⟩

theorem stdOfOp_spec (o : Op) (h : ∀ gs q, o ≠ .wrap gs q) : stdOfOp o = .ok (stdSpecOp o) := by
  cases o with
  | wrap gs q => exact absurd rfl (h gs q)
  | one g q =>
    obtain ⟨i, hi, hn, _, _, _⟩ := classInfo_g1 g
    simp only [stdOfOp, hi, bind, Except.bind, pure, Except.pure, stdSpecOp, hn]
    by_cases h0 : g1Name g = [] <;> simp [h0]
  | ctrl g a b =>
    simp only [stdOfOp, classInfo, gateName_g2, bind, Except.bind, pure, Except.pure, stdSpecOp]
  | cctrl g a b c => cases g <;> rfl
  | meas q c => rfl

theorem mapM_stdOfOp (l : List Op) (h : ∀ o ∈ l, ∀ gs q, o ≠ .wrap gs q) : l.mapM stdOfOp = .ok (l.map stdSpecOp) :=
  Loop.mapM_map fun o ho => stdOfOp_spec o (h o ho)

theorem unwrap_no_wrap (op : Op) : ∀ o ∈ op.unwrap, ∀ gs q, o ≠ .wrap gs q := by
  intro o ho gs q heq
  subst heq
  cases op <;> simp [Op.unwrap] at ho

theorem stdSpec_unwrap (op : Op) : (op.unwrap).flatMap stdSpecOp = stdSpecOp op := by
  cases op with
  | wrap gs q =>
    simp only [Op.unwrap, stdSpecOp]
    rw [← List.filter_reverse]
    induction gs.reverse with
    | nil => rfl
    | cons g rest ih =>
      simp only [List.map_cons, List.flatMap_cons, ih, stdSpecOp]
      by_cases hg : g = .I
      · subst hg; simp [(g1Name_nil_iff G1.I).2 rfl]
      · have : g1Name g ≠ [] := fun h => hg ((g1Name_nil_iff g).1 h)
        simp [hg, this]
  | one g q => simp [Op.unwrap]
  | ctrl g a b => simp [Op.unwrap]
  | cctrl g a b c => simp [Op.unwrap]
  | meas q c => simp [Op.unwrap]

/-- the model's own reading of the circuit (`stdOfCircuit`, printed by the driver as `ref=`) is `stdSpec` -/
theorem stdOfCircuit_spec (seq : List Op) : stdOfCircuit seq = .ok (stdSpec seq) := by
  unfold stdOfCircuit
  rw [mapM_stdOfOp _ (by
    intro o ho
    obtain ⟨op, _, hop⟩ := List.mem_flatMap.1 ho
    exact unwrap_no_wrap op o hop)]
  simp only [bind, Except.bind, pure, Except.pure]
  congr 1
  unfold stdSpec
  induction seq with
  | nil => rfl
  | cons op rest ih =>
    simp only [List.flatMap_cons, List.map_append, List.flatten_append, ih]
    congr 1
    rw [← stdSpec_unwrap op]
    simp [List.flatMap]

/-! ## register tokens — `int(tok[1:-3])` / `int(tok[1:-4])` recover any register index (any number of digits) -/

def digitStep (acc : Option Nat) (c : Char) : Option Nat :=
  acc.bind fun n => if isDigitC c then some (10 * n + (c.toNat - '0'.toNat)) else none

theorem readNat_eq (s : Str) : readNat s = if s.isEmpty then none else s.foldl digitStep (some 0) := rfl

theorem digitChar_props (d : Nat) (h : d < 10) : isDigitC (Nat.digitChar d) = true ∧ (Nat.digitChar d).toNat - '0'.toNat = d := by
  have h1 := Nat.toNat_digitChar_of_lt_ten h
  constructor
  · unfold isDigitC; rw [h1]; simp; omega
  · rw [h1]; simp

theorem foldDigits_toDigits (n : Nat) : (Nat.toDigits 10 n).foldl digitStep (some 0) = some n := by
  induction n using Nat.strongRecOn with
  | _ n ih =>
    rw [Nat.toDigits_eq_if (by decide : 1 < 10)]
    split
    · rename_i hlt
      obtain ⟨h1, h2⟩ := digitChar_props n hlt
      have h2' : n.digitChar.toNat - 48 = n := h2
      simp [digitStep, h1, h2']
    · rename_i hge
      have hlt : n % 10 < 10 := Nat.mod_lt _ (by decide)
      obtain ⟨h1, h2⟩ := digitChar_props (n % 10) hlt
      rw [List.foldl_append, ih (n / 10) (Nat.div_lt_self (by omega) (by decide))]
      simp only [List.foldl_cons, List.foldl_nil, digitStep, Option.bind_some, h1, if_true, h2]
      congr 1
      omega

/-- `int(str(n)) = n` for the model's reader and printer -/
theorem readNat_showNat (n : Nat) : readNat (showNat n) = some n := by
  rw [readNat_eq]
  have hne : (showNat n).isEmpty = false := by
    unfold showNat
    cases h : Nat.toDigits 10 n with
    | nil => exact absurd h Nat.toDigits_ne_nil
    | cons _ _ => rfl
  rw [hne]
  exact foldDigits_toDigits n

theorem pySlice_token (t : Char) (ds suffix : Str) :
    pySlice 1 suffix.length (t :: ds ++ suffix) = ds := by
  unfold pySlice
  have : (t :: ds ++ suffix).length - suffix.length = (t :: ds).length := by
    simp only [List.length_append, List.length_cons]; omega
  rw [this, List.take_left']
  · rfl
  · rfl

/-- the single-register branch reads `<type><index>[0]` back for every index, however many digits it has -/
theorem regToken_single (q : QReg) : regToken 3 (q.render ++ "[0]".toList) = .ok (q.t.ch, q.i) := by
  unfold QReg.render regToken
  have h := pySlice_token q.t.ch (showNat q.i) "[0]".toList
  simp only [List.cons_append] at h ⊢
  have h3 : ("[0]".toList).length = 3 := rfl
  rw [h3] at h
  rw [h, readNat_showNat]

/-- the control token of the two-register branch still carries the comma: `<type><index>[0],` -/
theorem regToken_control (q : QReg) : regToken 4 (q.render ++ "[0],".toList) = .ok (q.t.ch, q.i) := by
  unfold QReg.render regToken
  have h := pySlice_token q.t.ch (showNat q.i) "[0],".toList
  simp only [List.cons_append] at h ⊢
  have h4 : ("[0],".toList).length = 4 := rfl
  rw [h4] at h
  rw [h, readNat_showNat]

theorem regTOfChar_ch (t : RegT) : regTOfChar t.ch = some t := by cases t <;> rfl

end Graphiq.Export
