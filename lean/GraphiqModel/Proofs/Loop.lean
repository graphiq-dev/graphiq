/-
  Proofs/Loop.lean — rules for the loops of the model.  They run in `Except ε` or `Option`, where a computation returns one
  value or fails and `x >>= g` returns only if `x` returns some `a` and `g a` returns (`Returning`).  An invariant kept by every
  returning step holds after a returning `foldlM` (`foldlM_ind`, indexed by the number of elements consumed); if every step
  returns, so does the loop (`foldlM_ind_ok`); a loop that is the image of another step by step (`foldlM_map`); `mapM` elementwise (`mapM_iff`).
  The rules say `pure a`, which is `.ok a` / `some a` by `rfl`: a goal `Except.ok a = pure a` left by `simp` is closed by `rfl`.
-/
namespace Graphiq.Loop

class Returning (m : Type → Type) [Monad m] : Prop extends LawfulMonad m where
  pure_inj : ∀ {α : Type} {a b : α}, (pure a : m α) = pure b → a = b
  bind_inv : ∀ {α β : Type} {x : m α} {g : α → m β} {b : β}, x >>= g = pure b → ∃ a, x = pure a ∧ g a = pure b
  bind_congr : ∀ {α β : Type} {x : m α} {g g' : α → m β}, (∀ a, x = pure a → g a = g' a) → x >>= g = x >>= g'

instance : Returning Option where
  pure_inj h := Option.some.inj h
  bind_inv {_ _ x _ _} h := by cases x with
    | none => cases h
    | some a => exact ⟨a, rfl, h⟩
  bind_congr {_ _ x _ _} h := by cases x with
    | none => rfl
    | some a => exact h a rfl

instance {ε : Type} : Returning (Except ε) where
  pure_inj h := Except.ok.inj h
  bind_inv {_ _ x _ _} h := by cases x with
    | error e => cases h
    | ok a => exact ⟨a, rfl, h⟩
  bind_congr {_ _ x _ _} h := by cases x with
    | error e => rfl
    | ok a => exact h a rfl

variable {m : Type → Type} [Monad m] [Returning m] {σ τ α β : Type}

/-! ### guards: `if c then x else throw e` returns iff `c` holds and `x` returns (for `Option`: core's
`Option.ite_none_right_eq_some`) -/

theorem ite_error_right {ε : Type} {c : Prop} [Decidable c] {x : Except ε α} {e : ε} {a : α} :
    (if c then x else .error e) = .ok a ↔ c ∧ x = .ok a := by
  by_cases hc : c
  · rw [if_pos hc]; exact ⟨fun h => ⟨hc, h⟩, fun h => h.2⟩
  · rw [if_neg hc]; exact ⟨fun h => (by cases h), fun h => absurd h.1 hc⟩

/-! ### `foldlM` -/

theorem foldlM_congr {m : Type → Type} [Monad m] {σ α : Type} {f g : σ → α → m σ} {l : List α}
    (h : ∀ a, a ∈ l → ∀ s, f s a = g s a) (s : σ) : l.foldlM f s = l.foldlM g s := by
  induction l generalizing s with
  | nil => rfl
  | cons a rest ih =>
    rw [List.foldlM_cons, List.foldlM_cons, h a List.mem_cons_self s]
    exact bind_congr fun s1 => ih (fun b hb => h b (List.mem_cons_of_mem _ hb)) s1

theorem range_getElem? {n i x : Nat} (h : (List.range n)[i]? = some x) : i < n ∧ i = x := by
  obtain ⟨hi, rfl⟩ := List.getElem?_eq_some_iff.1 h
  exact ⟨by simpa using hi, (List.getElem_range _).symm⟩

theorem foldlM_ind {f : σ → α → m σ} {l : List α} (P : Nat → σ → Prop)
    (hf : ∀ i s x s', l[i]? = some x → P i s → f s x = pure s' → P (i + 1) s')
    {s s' : σ} (hs : P 0 s) (h : l.foldlM f s = pure s') : P l.length s' := by
  induction l generalizing s P with
  | nil => rw [List.foldlM_nil] at h; exact Returning.pure_inj h ▸ hs
  | cons x rest ih =>
    rw [List.foldlM_cons] at h
    obtain ⟨s1, h1, h⟩ := Returning.bind_inv h
    exact ih (fun i => P (i + 1)) (fun i a y a' hy => hf (i + 1) a y a' hy) (hf 0 s x s1 rfl hs h1) h

theorem foldlM_inv {f : σ → α → m σ} {l : List α} (P : σ → Prop)
    (hf : ∀ s x s', x ∈ l → P s → f s x = pure s' → P s') {s s' : σ} (hs : P s) (h : l.foldlM f s = pure s') : P s' :=
  foldlM_ind (fun _ => P) (fun _ s x s' hx => hf s x s' (List.mem_of_getElem? hx)) hs h

theorem foldlM_range {f : σ → Nat → m σ} {n : Nat} (P : Nat → σ → Prop)
    (hf : ∀ i s s', i < n → P i s → f s i = pure s' → P (i + 1) s') {s s' : σ} (hs : P 0 s)
    (h : (List.range n).foldlM f s = pure s') : P n s' := by
  have := foldlM_ind P (fun i s x s' hx => by
    obtain ⟨hi, rfl⟩ := range_getElem? hx
    exact hf i s s' hi) hs h
  rwa [List.length_range] at this

theorem foldlM_ind_ok {f : σ → α → m σ} {l : List α} (P : Nat → σ → Prop)
    (hf : ∀ i s x, l[i]? = some x → P i s → ∃ s', f s x = pure s' ∧ P (i + 1) s')
    {s : σ} (hs : P 0 s) : ∃ s', l.foldlM f s = pure s' ∧ P l.length s' := by
  induction l generalizing s P with
  | nil => exact ⟨s, List.foldlM_nil, hs⟩
  | cons x rest ih =>
    obtain ⟨s1, h1, p1⟩ := hf 0 s x rfl hs
    obtain ⟨s', h2, p2⟩ := ih (fun i => P (i + 1)) (fun i a y hy => hf (i + 1) a y hy) p1
    exact ⟨s', by rw [List.foldlM_cons, h1, pure_bind, h2], p2⟩

theorem foldlM_ok {f : σ → α → m σ} {l : List α} (P : σ → Prop)
    (hf : ∀ s x, x ∈ l → P s → ∃ s', f s x = pure s' ∧ P s') {s : σ} (hs : P s) : ∃ s', l.foldlM f s = pure s' ∧ P s' :=
  foldlM_ind_ok (fun _ => P) (fun _ s x hx => hf s x (List.mem_of_getElem? hx)) hs

theorem foldlM_range_ok {f : σ → Nat → m σ} {n : Nat} (P : Nat → σ → Prop)
    (hf : ∀ i s, i < n → P i s → ∃ s', f s i = pure s' ∧ P (i + 1) s') {s : σ} (hs : P 0 s) :
    ∃ s', (List.range n).foldlM f s = pure s' ∧ P n s' := by
  have := foldlM_ind_ok P (fun i s x hx => by
    obtain ⟨hi, rfl⟩ := range_getElem? hx
    exact hf i s hi) hs
  rwa [List.length_range] at this

theorem foldlM_const {f : σ → α → m σ} {l : List α} {s : σ} (hf : ∀ x, x ∈ l → f s x = pure s) : l.foldlM f s = pure s := by
  obtain ⟨s', h, rfl⟩ := foldlM_ok (f := f) (· = s) (fun _ x hx e => ⟨s, by rw [e]; exact hf x hx, rfl⟩) rfl
  exact h

/-- `hstep` covers the failing steps too: `φ <$> f s x` fails when `f s x` does -/
theorem foldlM_map {f : σ → α → m σ} {g : τ → α → m τ} {l : List α} (φ : σ → τ) (P : σ → Prop)
    (hP : ∀ s x s', x ∈ l → P s → f s x = pure s' → P s') (hstep : ∀ s x, x ∈ l → P s → g (φ s) x = φ <$> f s x)
    {s : σ} (hs : P s) : l.foldlM g (φ s) = φ <$> l.foldlM f s := by
  induction l generalizing s with
  | nil => rw [List.foldlM_nil, List.foldlM_nil, map_pure]
  | cons x rest ih =>
    rw [List.foldlM_cons, List.foldlM_cons, hstep s x List.mem_cons_self hs, map_bind, bind_map_left]
    exact Returning.bind_congr fun s1 h1 => ih (fun a y a' hy => hP a y a' (List.mem_cons_of_mem _ hy))
      (fun a y hy => hstep a y (List.mem_cons_of_mem _ hy)) (hP s x s1 List.mem_cons_self hs h1)

/-! ### `foldl` -/

theorem foldl_congr {f g : σ → α → σ} {l : List α} (h : ∀ s x, x ∈ l → f s x = g s x) (s : σ) :
    l.foldl f s = l.foldl g s := by
  induction l generalizing s with
  | nil => rfl
  | cons x rest ih =>
    rw [List.foldl_cons, List.foldl_cons, h s x List.mem_cons_self]
    exact ih (fun a y hy => h a y (List.mem_cons_of_mem _ hy)) _

theorem foldl_ind {f : σ → α → σ} {l : List α} (P : Nat → σ → Prop)
    (hf : ∀ i s x, l[i]? = some x → P i s → P (i + 1) (f s x)) {s : σ} (hs : P 0 s) : P l.length (l.foldl f s) := by
  induction l generalizing s P with
  | nil => exact hs
  | cons x rest ih => exact ih (fun i => P (i + 1)) (fun i a y hy => hf (i + 1) a y hy) (hf 0 s x rfl hs)

theorem foldl_inv {f : σ → α → σ} {l : List α} (P : σ → Prop) (hf : ∀ s x, x ∈ l → P s → P (f s x)) {s : σ} (hs : P s) :
    P (l.foldl f s) :=
  foldl_ind (fun _ => P) (fun _ s x hx => hf s x (List.mem_of_getElem? hx)) hs

theorem foldl_const {f : σ → α → σ} {l : List α} {s : σ} (h : ∀ x, x ∈ l → f s x = s) : l.foldl f s = s :=
  foldl_inv (f := f) (· = s) (fun _ x hx e => by rw [e]; exact h x hx) rfl

theorem foldl_range {f : σ → Nat → σ} {n : Nat} (P : Nat → σ → Prop) (hf : ∀ i s, i < n → P i s → P (i + 1) (f s i))
    {s : σ} (hs : P 0 s) : P n ((List.range n).foldl f s) := by
  have := foldl_ind P (fun i s x hx => by
    obtain ⟨hi, rfl⟩ := range_getElem? hx
    exact hf i s hi) hs
  rwa [List.length_range] at this

/-! ### `mapM` -/

theorem mapM_congr {m : Type → Type} [Monad m] [LawfulMonad m] {α β : Type} {f g : α → m β} {l : List α}
    (h : ∀ a, a ∈ l → f a = g a) : l.mapM f = l.mapM g := by
  induction l with
  | nil => rfl
  | cons a rest ih =>
    rw [List.mapM_cons, List.mapM_cons, h a List.mem_cons_self, ih fun b hb => h b (List.mem_cons_of_mem _ hb)]

theorem mapM_iff {f : α → m β} {l : List α} {r : List β} : l.mapM f = pure r ↔ l.map f = r.map pure := by
  induction l generalizing r with
  | nil =>
    rw [List.mapM_nil]
    exact ⟨fun h => Returning.pure_inj h ▸ rfl, fun h => by cases r with | nil => rfl | cons _ _ => cases h⟩
  | cons a rest ih =>
    rw [List.mapM_cons, List.map_cons]
    constructor
    · intro h
      obtain ⟨b, hb, h⟩ := Returning.bind_inv h
      obtain ⟨bs, hbs, h⟩ := Returning.bind_inv h
      rw [← Returning.pure_inj h, hb, ih.1 hbs]; rfl
    · intro h
      cases r with
      | nil => cases h
      | cons b bs =>
        injection h with hb hbs
        rw [hb, pure_bind, ih.2 hbs, pure_bind]

theorem mapM_map {f : α → m β} {g : α → β} {l : List α} (h : ∀ a, a ∈ l → f a = pure (g a)) : l.mapM f = pure (l.map g) := by
  rw [mapM_iff, List.map_map]
  exact List.map_congr_left h

end Graphiq.Loop
