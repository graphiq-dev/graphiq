/-
  Proofs/HeightGraph.lean — for a graph state the height function is the GF(2) rank of the adjacency block joining the two
  sides of the cut (Mathlib `Matrix.rank` over `ZMod 2`; rank–nullity).
-/
import Mathlib.LinearAlgebra.Matrix.Rank
import Mathlib.LinearAlgebra.FiniteDimensional.Lemmas
import Mathlib.Order.Interval.Finset.Fin
import GraphiqModel.Proofs.HeightTotal
import GraphiqModel.Model.Convert
namespace Graphiq
open Module

/-- the block of the adjacency matrix joining side `A = {0..k}` (row index `j`) and side `B = {k+1..n-1}` (column index `i`);
    entry `(j, i)` is `adj i j` (the `Z` exponent at site `j` of the generator of vertex `i`; `= adj j i` for a symmetric
    adjacency matrix) -/
def cutBlock (n k : Nat) (adj : Nat → Nat → Bool) :
    Matrix {j : Fin n // j.val ≤ k} {i : Fin n // k < i.val} (ZMod 2) :=
  Matrix.of fun j i => b2z (adj i.val.val j.val.val)

/-- symplectic vector of the generator `X_i Z_{N(i)}` of vertex `i` -/
def gvec (n : Nat) (adj : Nat → Nat → Bool) (i : Nat) : PVec n := ((graphSTab n adj).row i).vec n

theorem gvec_apply (n : Nat) (adj : Nat → Nat → Bool) (i : Nat) (j : Fin n) :
    gvec n adj i j = (if j.val = i then 1 else 0, b2z (adj i j.val)) := by
  simp [gvec, graphSTab, PRow.vec, b2z, j.isLt]

theorem smul_gvec_fst (n : Nat) (adj : Nat → Nat → Bool) (c : ZMod 2) (i : Nat) (j : Fin n) :
    ((c • gvec n adj i) j).1 = if j.val = i then c else 0 := by
  rw [Pi.smul_apply, Prod.smul_fst, gvec_apply]
  by_cases h : j.val = i <;> simp [h]

theorem lin_fst (n : Nat) (adj : Nat → Nat → Bool) (c : Fin n → ZMod 2) (j : Fin n) :
    ((∑ i : Fin n, c i • gvec n adj i.val) j).1 = c j := by
  rw [Finset.sum_apply, Prod.fst_sum]
  simp only [smul_gvec_fst, Fin.val_inj]
  rw [Finset.sum_ite_eq]
  simp

section
variable (n k : Nat) (adj : Nat → Nat → Bool)

/-- the linear map `s ↦ ∏_{i ∈ B} g_i^{s_i}` on selections of vertices of side `B` -/
noncomputable def bComb : ({i : Fin n // k < i.val} → ZMod 2) →ₗ[ZMod 2] PVec n :=
  Fintype.linearCombination (ZMod 2) (fun i : {i : Fin n // k < i.val} => gvec n adj i.val.val)

theorem bComb_apply (s : {i : Fin n // k < i.val} → ZMod 2) :
    bComb n k adj s = ∑ i : {i : Fin n // k < i.val}, s i • gvec n adj i.val.val :=
  Fintype.linearCombination_apply _ _ _

theorem bComb_fst (s : {i : Fin n // k < i.val} → ZMod 2) (j : Fin n) :
    (bComb n k adj s j).1 = if h : k < j.val then s ⟨j, h⟩ else 0 := by
  rw [bComb_apply, Finset.sum_apply, Prod.fst_sum]
  simp only [smul_gvec_fst, Fin.val_inj]
  by_cases h : k < j.val
  · rw [dif_pos h, Finset.sum_eq_single (⟨j, h⟩ : {i : Fin n // k < i.val})]
    · simp
    · intro b _ hb
      have : j ≠ b.val := fun e => hb (Subtype.ext e.symm)
      simp [this]
    · intro hn; exact absurd (Finset.mem_univ _) hn
  · rw [dif_neg h]
    apply Finset.sum_eq_zero
    intro i _
    have : j ≠ i.val := fun e => h (e ▸ i.property)
    simp [this]

theorem bComb_snd (s : {i : Fin n // k < i.val} → ZMod 2) (j : Fin n) :
    (bComb n k adj s j).2 = ∑ i : {i : Fin n // k < i.val}, s i * b2z (adj i.val.val j.val) := by
  rw [bComb_apply, Finset.sum_apply, Prod.snd_sum]
  apply Finset.sum_congr rfl
  intro i _
  rw [Pi.smul_apply, Prod.smul_snd, gvec_apply]
  rfl

theorem bComb_injective : Function.Injective (bComb n k adj) := by
  rw [injective_iff_map_eq_zero]
  intro s hs
  funext i
  have := bComb_fst n k adj s i.val
  rw [hs, dif_pos i.property] at this
  exact this.symm

theorem mulVec_cutBlock (s : {i : Fin n // k < i.val} → ZMod 2) (j : {j : Fin n // j.val ≤ k}) :
    (cutBlock n k adj).mulVecLin s j = (bComb n k adj s j.val).2 := by
  rw [bComb_snd, Matrix.mulVecLin_apply]
  show ∑ i, cutBlock n k adj j i * s i = _
  apply Finset.sum_congr rfl
  intro i _
  simp only [cutBlock, Matrix.of_apply]
  exact mul_comm _ _

/-- the group elements supported on side `B` are exactly the products of side-`B` generators whose `Z` parts cancel on side `A`,
    i.e. the image of the kernel of the adjacency block -/
theorem map_ker_eq :
    Submodule.map (bComb n k adj) (LinearMap.ker (cutBlock n k adj).mulVecLin)
      = gspaceOf n (graphSTab n adj).row ⊓ rightOf n k := by
  apply le_antisymm
  · rintro _ ⟨s, hs, rfl⟩
    refine ⟨?_, ?_⟩
    · rw [bComb_apply]
      apply Submodule.sum_mem
      intro i _
      exact Submodule.smul_mem _ _ (gen_mem_gspaceOf n _ i.val.val i.val.isLt)
    · intro j hj
      apply Prod.ext
      · rw [bComb_fst, dif_neg (by omega)]; rfl
      · have := mulVec_cutBlock n k adj s ⟨j, hj⟩
        rw [← this]
        have hs' : (cutBlock n k adj).mulVecLin s = 0 := hs
        rw [hs']; rfl
  · rintro v ⟨hv1, hv2⟩
    obtain ⟨c, rfl⟩ := (Submodule.mem_span_range_iff_exists_fun (ZMod 2)).1 hv1
    have hc : ∀ j : Fin n, j.val ≤ k → c j = 0 := by
      intro j hj
      have := hv2 j hj
      have h1 := lin_fst n adj c j
      show c j = 0
      rw [← h1]
      exact congrArg Prod.fst this
    have hsplit : (∑ i : Fin n, c i • gvec n adj i.val) = bComb n k adj (fun i => c i.val) := by
      rw [bComb_apply]
      rw [← Fintype.sum_subtype_add_sum_subtype (fun i : Fin n => k < i.val) (fun i => c i • gvec n adj i.val)]
      have : ∑ i : {i : Fin n // ¬ k < i.val}, c i.val • gvec n adj i.val.val = 0 := by
        apply Finset.sum_eq_zero
        intro i _
        rw [hc i.val (by have := i.property; omega), zero_smul]
      rw [this, add_zero]
    refine ⟨fun i => c i.val, ?_, hsplit.symm⟩
    show (cutBlock n k adj).mulVecLin (fun i => c i.val) = 0
    funext j
    rw [mulVec_cutBlock, ← hsplit]
    have := hv2 j.val j.property
    exact congrArg Prod.snd this

theorem card_side_B (hk : k < n) : Fintype.card {i : Fin n // k < i.val} = n - 1 - k := by
  rw [Fintype.card_subtype]
  have : (Finset.univ.filter fun i : Fin n => k < i.val) = Finset.Ioi (⟨k, hk⟩ : Fin n) := by
    ext i; simp [Fin.lt_def]
  rw [this, Fin.card_Ioi]

/-- **rank–nullity for the cut**: `dim G_B + rank Γ[A,B] = |B|` -/
theorem graph_finrank_right (hk : k < n) :
    finrank (ZMod 2) ↥(gspaceOf n (graphSTab n adj).row ⊓ rightOf n k) + (cutBlock n k adj).rank = n - 1 - k := by
  have e := Submodule.equivMapOfInjective (bComb n k adj) (bComb_injective n k adj)
    (LinearMap.ker (cutBlock n k adj).mulVecLin)
  have h1 := e.finrank_eq
  rw [map_ker_eq] at h1
  have h2 := LinearMap.finrank_range_add_finrank_ker (cutBlock n k adj).mulVecLin
  rw [Module.finrank_fintype_fun_eq_card, card_side_B n k hk] at h2
  unfold Matrix.rank
  omega

end

/-- **for a graph state the height function is the cut rank**: whenever `height_func_list` returns on the generators
    `X_i Z_{N(i)}` of a graph, entry `k` of the list is the GF(2) rank of the adjacency block joining `{0..k}` and `{k+1..n−1}` -/
theorem graph_heightFuncList_eq_rank (n : Nat) (adj : Nat → Nat → Bool) (l : List Int)
    (h : (graphSTab n adj).heightFuncList = .ok l) :
    l = (List.range n).map fun (k : Nat) => Int.ofNat (cutBlock n k adj).rank := by
  rw [STab.heightFuncList_eq_finrank _ l h]
  show (List.range n).map _ = _
  apply List.map_congr_left
  intro k hk
  have hk' : k < n := List.mem_range.1 hk
  have := graph_finrank_right n k adj hk'
  show Int.ofNat n - (Int.ofNat k + 1)
      - Int.ofNat (finrank (ZMod 2) ↥(gspaceOf n (graphSTab n adj).row ⊓ rightOf n k)) = _
  simp only [Int.ofNat_eq_natCast]
  omega

/-- the generators `X_i Z_{N(i)}` of a graph state are linearly independent (their X parts are the unit vectors) -/
theorem graph_indep (n : Nat) (adj : Nat → Nat → Bool) :
    LinearIndependent (ZMod 2) (fun i : Fin (graphSTab n adj).n => ((graphSTab n adj).row i).vec (graphSTab n adj).n) := by
  show LinearIndependent (ZMod 2) (fun i : Fin n => gvec n adj i.val)
  rw [Fintype.linearIndependent_iff]
  intro c hc j
  have := lin_fst n adj c j
  rw [← this, hc]; rfl

theorem graph_heightFuncList (n : Nat) (adj : Nat → Nat → Bool) :
    (graphSTab n adj).heightFuncList = .ok ((List.range n).map fun (k : Nat) => Int.ofNat (cutBlock n k adj).rank) := by
  obtain ⟨l, h⟩ := STab.heightFuncList_total _ (graph_indep n adj)
  rw [h, graph_heightFuncList_eq_rank n adj l h]

end Graphiq
