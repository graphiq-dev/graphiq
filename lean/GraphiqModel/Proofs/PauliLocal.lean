/-
  Proofs/PauliLocal.lean — one-qubit gates as *local* row maps.

  Every one-qubit gate of transformation.py acts on a signed Pauli row by looking only at the two bits of its own column and by
  flipping the sign; such a map is `lift q t` for a four-entry table `t : L1`.  The gates `h`, `s` and the derived `sdg`, `zg`,
  `xg`, `yg` are lifts of their tables (`h_eq_lift`, …), composition of lifts on one column is composition of tables.
  `Commute.Local S f` is the notion behind it for any set of sites (`cnot c t` on `{c, t}`): two local maps with disjoint
  supports commute, literally, on every row (`Local.comm`).
  The definitions keep the names of the chains whose theorems state them: open `Solver` for `L1`, `lift` and the tables,
  `Commute` for `AgreeOn`, `Local`.
-/
import GraphiqModel.Model.Pauli
namespace Graphiq.Solver
open Graphiq PRow

/-- action table of a one-qubit Clifford on the bits `(x, z)` of its column: new `x`, new `z`, sign flip -/
structure L1 where
  t00 : Bool × Bool × Bool
  t01 : Bool × Bool × Bool
  t10 : Bool × Bool × Bool
  t11 : Bool × Bool × Bool
  deriving DecidableEq, Repr

def L1.ap (t : L1) (x z : Bool) : Bool × Bool × Bool :=
  match x, z with
  | false, false => t.t00 | false, true => t.t01 | true, false => t.t10 | true, true => t.t11

def L1.ofFn (f : Bool → Bool → Bool × Bool × Bool) : L1 := ⟨f false false, f false true, f true false, f true true⟩

@[simp] theorem L1.ap_ofFn (f : Bool → Bool → Bool × Bool × Bool) (x z : Bool) : (L1.ofFn f).ap x z = f x z := by
  cases x <;> cases z <;> rfl

theorem L1.ext_ap (s t : L1) (h : ∀ x z, s.ap x z = t.ap x z) : s = t := by
  cases s; cases t
  have h00 := h false false; have h01 := h false true; have h10 := h true false; have h11 := h true true
  simp only [L1.ap] at h00 h01 h10 h11
  simp [h00, h01, h10, h11]

/-- `t1 ∘ t2` (the table `t2` acts first) -/
def L1.comp (t1 t2 : L1) : L1 :=
  L1.ofFn fun x z => ((t1.ap (t2.ap x z).1 (t2.ap x z).2.1).1, (t1.ap (t2.ap x z).1 (t2.ap x z).2.1).2.1,
    xor (t2.ap x z).2.2 (t1.ap (t2.ap x z).1 (t2.ap x z).2.1).2.2)

def L1.one : L1 := L1.ofFn fun x z => (x, z, false)

theorem L1.comp_assoc (a b c : L1) : (a.comp b).comp c = a.comp (b.comp c) := by
  apply L1.ext_ap; intro x z
  simp only [L1.comp, L1.ap_ofFn, Bool.xor_assoc]

theorem L1.one_comp (a : L1) : L1.one.comp a = a := by
  apply L1.ext_ap; intro x z
  simp [L1.comp, L1.one]

theorem L1.comp_one (a : L1) : a.comp L1.one = a := by
  apply L1.ext_ap; intro x z
  simp [L1.comp, L1.one]

def lift (q : Nat) (t : L1) (a : PRow) : PRow :=
  { x := fun j => if j = q then (t.ap (a.x q) (a.z q)).1 else a.x j
    z := fun j => if j = q then (t.ap (a.x q) (a.z q)).2.1 else a.z j
    r := xor a.r (t.ap (a.x q) (a.z q)).2.2
    ip := a.ip }

theorem prow_ext (a b : PRow) (hx : ∀ j, a.x j = b.x j) (hz : ∀ j, a.z j = b.z j) (hr : a.r = b.r) (hi : a.ip = b.ip) : a = b := by
  cases a; cases b
  simp only at hx hz hr hi
  have e1 := funext hx
  have e2 := funext hz
  subst e1; subst e2; subst hr; subst hi; rfl

theorem lift_x_self (q : Nat) (t : L1) (a : PRow) : (lift q t a).x q = (t.ap (a.x q) (a.z q)).1 := if_pos rfl
theorem lift_z_self (q : Nat) (t : L1) (a : PRow) : (lift q t a).z q = (t.ap (a.x q) (a.z q)).2.1 := if_pos rfl
theorem lift_r (q : Nat) (t : L1) (a : PRow) : (lift q t a).r = xor a.r (t.ap (a.x q) (a.z q)).2.2 := rfl

theorem lift_x_ne (q j : Nat) (h : j ≠ q) (t : L1) (a : PRow) : (lift q t a).x j = a.x j := if_neg h
theorem lift_z_ne (q j : Nat) (h : j ≠ q) (t : L1) (a : PRow) : (lift q t a).z j = a.z j := if_neg h

theorem lift_comp (q : Nat) (t1 t2 : L1) (a : PRow) : lift q t1 (lift q t2 a) = lift q (t1.comp t2) a := by
  apply prow_ext
  · intro j
    by_cases e : j = q
    · subst e; simp only [lift_x_self, lift_z_self, L1.comp, L1.ap_ofFn]
    · simp only [lift_x_ne q j e]
  · intro j
    by_cases e : j = q
    · subst e; simp only [lift_x_self, lift_z_self, L1.comp, L1.ap_ofFn]
    · simp only [lift_z_ne q j e]
  · simp only [lift_r, lift_x_self, lift_z_self, L1.comp, L1.ap_ofFn, Bool.xor_assoc]
  · rfl

theorem lift_one (q : Nat) (a : PRow) : lift q L1.one a = a := by
  apply prow_ext
  · intro j
    by_cases e : j = q
    · subst e; simp only [lift_x_self, L1.one, L1.ap_ofFn]
    · exact lift_x_ne q j e _ a
  · intro j
    by_cases e : j = q
    · subst e; simp only [lift_z_self, L1.one, L1.ap_ofFn]
    · exact lift_z_ne q j e _ a
  · simp only [lift_r, L1.one, L1.ap_ofFn, Bool.xor_false]
  · rfl

def tH : L1 := L1.ofFn fun x z => (z, x, x && z)
def tS : L1 := L1.ofFn fun x z => (x, xor z x, x && z)

theorem h_eq_lift (q : Nat) (a : PRow) : PRow.h q a = lift q tH a := by
  apply prow_ext
  · intro j; by_cases e : j = q
    · subst e; simp [PRow.h, lift, tH]
    · simp [PRow.h, lift, tH, e]
  · intro j; by_cases e : j = q
    · subst e; simp [PRow.h, lift, tH]
    · simp [PRow.h, lift, tH, e]
  · simp [PRow.h, lift, tH]
  · rfl

theorem s_eq_lift (q : Nat) (a : PRow) : PRow.s q a = lift q tS a := by
  apply prow_ext
  · intro j; by_cases e : j = q
    · subst e; simp [PRow.s, lift, tS]
    · simp [PRow.s, lift, tS, e]
  · intro j; by_cases e : j = q
    · subst e; simp [PRow.s, lift, tS]
    · simp [PRow.s, lift, tS, e]
  · simp [PRow.s, lift, tS]
  · rfl

def tZ : L1 := tS.comp tS
def tSdg : L1 := tS.comp (tS.comp tS)
def tX : L1 := tH.comp (tZ.comp tH)
def tY : L1 := tS.comp (tX.comp (tZ.comp tS))

theorem zg_eq_lift (q : Nat) (a : PRow) : PRow.zg q a = lift q tZ a := by
  simp only [PRow.zg, s_eq_lift, lift_comp, tZ]
theorem sdg_eq_lift (q : Nat) (a : PRow) : PRow.sdg q a = lift q tSdg a := by
  simp only [PRow.sdg, s_eq_lift, lift_comp, tSdg]
theorem xg_eq_lift (q : Nat) (a : PRow) : PRow.xg q a = lift q tX a := by
  simp only [PRow.xg, h_eq_lift, zg_eq_lift, lift_comp, tX]
theorem yg_eq_lift (q : Nat) (a : PRow) : PRow.yg q a = lift q tY a := by
  simp only [PRow.yg, s_eq_lift, xg_eq_lift, zg_eq_lift, lift_comp, tY]

theorem lift_tH (q : Nat) : lift q tH = PRow.h q := funext fun a => (h_eq_lift q a).symm
theorem lift_tS (q : Nat) : lift q tS = PRow.s q := funext fun a => (s_eq_lift q a).symm
theorem lift_tZ (q : Nat) : lift q tZ = PRow.zg q := funext fun a => (zg_eq_lift q a).symm
theorem lift_tSdg (q : Nat) : lift q tSdg = PRow.sdg q := funext fun a => (sdg_eq_lift q a).symm
theorem lift_tX (q : Nat) : lift q tX = PRow.xg q := funext fun a => (xg_eq_lift q a).symm
theorem lift_tY (q : Nat) : lift q tY = PRow.yg q := funext fun a => (yg_eq_lift q a).symm

/-- the table of a one-qubit Clifford: linear on the two Pauli bits, symplectic, and with the sign bookkeeping of the signed
    product (`g_function`) -/
def L1.Cliff (t : L1) : Prop := ∀ x1 z1 x2 z2 : Bool,
  (t.ap (xor x1 x2) (xor z1 z2)).1 = xor (t.ap x1 z1).1 (t.ap x2 z2).1 ∧
  (t.ap (xor x1 x2) (xor z1 z2)).2.1 = xor (t.ap x1 z1).2.1 (t.ap x2 z2).2.1 ∧
  xor ((t.ap x1 z1).1 && (t.ap x2 z2).2.1) ((t.ap x1 z1).2.1 && (t.ap x2 z2).1) = xor (x1 && z2) (z1 && x2) ∧
  (gFun (t.ap x1 z1).1 (t.ap x1 z1).2.1 (t.ap x2 z2).1 (t.ap x2 z2).2.1
      + 2 * Bool.toInt' (t.ap x1 z1).2.2 + 2 * Bool.toInt' (t.ap x2 z2).2.2) % 4
    = (gFun x1 z1 x2 z2 + 2 * Bool.toInt' (t.ap (xor x1 x2) (xor z1 z2)).2.2) % 4

instance (t : L1) : Decidable t.Cliff := by unfold L1.Cliff; infer_instance

end Graphiq.Solver

namespace Graphiq.Commute
open Graphiq PRow Solver

def AgreeOn (S : Nat → Prop) (a b : PRow) : Prop := ∀ j, S j → a.x j = b.x j ∧ a.z j = b.z j

theorem AgreeOn.refl (S : Nat → Prop) (a : PRow) : AgreeOn S a a := fun _ _ => ⟨rfl, rfl⟩

/-- `f` acts on the sites `S` only -/
structure Local (S : Nat → Prop) (f : PRow → PRow) : Prop where
  off : ∀ p j, ¬ S j → (f p).x j = p.x j ∧ (f p).z j = p.z j
  ip : ∀ p, (f p).ip = p.ip
  on : ∀ p p', AgreeOn S p p' → AgreeOn S (f p) (f p')
  sign : ∀ p p', AgreeOn S p p' → xor (f p).r p.r = xor (f p').r p'.r

theorem bool_comm_aux (a b c d e : Bool) (h1 : xor a b = xor c d) (h2 : xor e c = xor b d) : a = e := by
  revert h1 h2; cases a <;> cases b <;> cases c <;> cases d <;> cases e <;> simp

/-- **two row maps acting on disjoint sets of sites commute** (literally, on every row) -/
theorem Local.comm {S T : Nat → Prop} {f g : PRow → PRow} (hf : Local S f) (hg : Local T g)
    (hd : ∀ j, S j → ¬ T j) (p : PRow) : f (g p) = g (f p) := by
  have hgp : AgreeOn S (g p) p := fun j hj => hg.off p j (hd j hj)
  have hfp : AgreeOn T (f p) p := fun j hj => hf.off p j (fun h => hd j h hj)
  have hbits : ∀ j, (f (g p)).x j = (g (f p)).x j ∧ (f (g p)).z j = (g (f p)).z j := by
    intro j
    by_cases hS : S j
    · have h1 := hf.on _ _ hgp j hS
      have h2 := hg.off (f p) j (hd j hS)
      exact ⟨h1.1.trans h2.1.symm, h1.2.trans h2.2.symm⟩
    · by_cases hT : T j
      · have h1 := hg.on _ _ hfp j hT
        have h2 := hf.off (g p) j hS
        exact ⟨h2.1.trans h1.1.symm, h2.2.trans h1.2.symm⟩
      · have h1 := hf.off (g p) j hS
        have h2 := hg.off p j hT
        have h3 := hg.off (f p) j hT
        have h4 := hf.off p j hS
        exact ⟨h1.1.trans (h2.1.trans (h4.1.symm.trans h3.1.symm)), h1.2.trans (h2.2.trans (h4.2.symm.trans h3.2.symm))⟩
  have hr : (f (g p)).r = (g (f p)).r :=
    bool_comm_aux _ _ _ _ _ (hf.sign _ _ hgp) (hg.sign _ _ hfp)
  have hip : (f (g p)).ip = (g (f p)).ip := by rw [hf.ip, hg.ip, hg.ip, hf.ip]
  exact prow_ext _ _ (fun j => (hbits j).1) (fun j => (hbits j).2) hr hip

theorem local_lift (q : Nat) (t : L1) : Local (fun j => j = q) (lift q t) where
  off p j hj := ⟨lift_x_ne q j hj t p, lift_z_ne q j hj t p⟩
  ip _ := rfl
  on p p' h := by
    intro j hj
    subst hj
    simp only [lift_x_self, lift_z_self, (h j rfl).1, (h j rfl).2, and_self]
  sign p p' h := by
    simp only [lift_r, (h q rfl).1, (h q rfl).2]
    cases p.r <;> cases p'.r <;> cases (t.ap (p'.x q) (p'.z q)).2.2 <;> rfl

theorem local_cnot (c t : Nat) : Local (fun j => j = c ∨ j = t) (PRow.cnot c t) where
  off p j hj := by
    have h1 : j ≠ c := fun h => hj (Or.inl h)
    have h2 : j ≠ t := fun h => hj (Or.inr h)
    simp [PRow.cnot, h1, h2]
  ip _ := rfl
  on p p' h := by
    intro j hj
    have hc := h c (Or.inl rfl)
    have ht := h t (Or.inr rfl)
    have hj' := h j hj
    simp [PRow.cnot, hc.1, hc.2, ht.1, ht.2, hj'.1, hj'.2]
  sign p p' h := by
    have hc := h c (Or.inl rfl)
    have ht := h t (Or.inr rfl)
    simp only [PRow.cnot, hc.1, hc.2, ht.1, ht.2]
    cases p.r <;> cases p'.r <;> cases p'.x c <;> cases p'.z c <;> cases p'.x t <;> cases p'.z t <;> rfl

end Graphiq.Commute
