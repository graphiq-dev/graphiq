/-
  Proofs/CompareRepair.lean — soundness of the *repaired* `circuit_is_isomorphic` (/repo since 0d0996e), graph level.

  A circuit DAG is a family of register paths: for every register `w` the edges with key `w` are the consecutive pairs
  of `inp w :: body w ++ [out w]`, and after the repaired `add_control_target_to_dag` every edge carries the pair
  (role of its register at its tail, role at its head).  `Rep g W body` says exactly that about a multigraph `g`.

  Main theorem (`iso2_wires`): a node bijection that passes the repaired check between two such graphs maps the path of
  every register of the first graph onto the path of one register of the second (of the same type), node by node, with
  matching operations and equal roles.  The induction runs along the path: the edge leaving the image of a node with
  tail role `r` is the one on which the register with role `r` leaves — different registers of one operation never share
  a role (`role_inj`).  This is the step the matcher before the repair cannot make (`Properties/C15.iso_sound_refuted`).
-/
import GraphiqModel.Proofs.Compare
namespace Graphiq.Compare
open Graphiq Graphiq.Export

/-! ## what a successful repaired check says -/

/-- whatever the search does, a positive answer of the repaired comparison exhibits a map that passes the full check -/
theorem isoGraphs2_witness (g1 g2 : MG) (h : isoGraphs2 g1 g2 = true) :
    ∃ f, isoCheck2 g1.addControlTarget2 g2.addControlTarget2 f = true := by
  unfold isoGraphs2 at h
  simp only [Bool.and_eq_true, List.any_eq_true] at h
  obtain ⟨_, f, _, hf⟩ := h
  exact ⟨f, hf⟩

theorem circuitIsIsomorphic2_eq {c1 c2 : Circuit} {g1 g2 : MG} (hb1 : MG.build c1 = .ok g1) (hb2 : MG.build c2 = .ok g2) :
    circuitIsIsomorphic2 c1 c2 = .ok (isoGraphs2 g1 g2) := by
  unfold circuitIsIsomorphic2
  rw [hb1, hb2]
  rfl

theorem isoNormalised2_eq {c1 c2 : Circuit} {g1 g2 : MG} (hb1 : MG.build c1 = .ok g1) (hb2 : MG.build c2 = .ok g2) :
    isoNormalised2 c1 c2 = .ok (isoGraphs2 g1.normalise g2.normalise) := by
  unfold isoNormalised2
  rw [hb1, hb2]
  rfl

/-- equal multisets of attributes: every attribute of the first bundle of parallel edges occurs in the second -/
theorem edgeMatch2_mem (es1 es2 : List Edge) (h : edgeMatch2 es1 es2 = true) (e : Edge) (he : e ∈ es1) :
    ∃ e' ∈ es2, e'.ct2 = e.ct2 := by
  unfold edgeMatch2 at h
  simp only [List.all_eq_true, beq_iff_eq] at h
  have hm : e.ct2 ∈ es1.map (·.ct2) := List.mem_map_of_mem he
  have h1 := h e.ct2 (List.mem_append_left _ hm)
  have h2 : 0 < (es2.map (·.ct2)).count e.ct2 := by
    rw [← h1]; exact List.count_pos_iff.2 hm
  obtain ⟨e', he', hc⟩ := List.mem_map.1 (List.count_pos_iff.1 h2)
  exact ⟨e', he', hc⟩

theorem mem_edgesBetween (g : MG) (u v : Nd) (e : Edge) : e ∈ g.edgesBetween u v ↔ e ∈ g.edges ∧ e.src = u ∧ e.dst = v := by
  unfold MG.edgesBetween
  simp [List.mem_filter]

theorem opOf_some_pair_mem (g : MG) (n : Nd) (o : NOp) (h : g.opOf n = some o) : (n, o) ∈ g.nodes := by
  unfold MG.opOf at h
  cases hf : g.nodes.find? (fun p => p.1 == n) with
  | none => rw [hf] at h; cases h
  | some p =>
    rw [hf] at h
    have hp := List.find?_some hf
    have hm := List.mem_of_find?_eq_some hf
    simp only [beq_iff_eq] at hp
    simp only [Option.map_some, Option.some.injEq] at h
    have : p = (n, o) := by cases p; simp_all
    rw [← this]; exact hm

theorem opOf_some_mem (g : MG) (n : Nd) (o : NOp) (h : g.opOf n = some o) : n ∈ g.nodes.map (·.1) :=
  List.mem_map.2 ⟨_, opOf_some_pair_mem g n o h, rfl⟩

theorem opOf_of_mem_nodes (l : List (Nd × NOp)) (hn : (l.map (·.1)).Nodup) (p : Nd × NOp) (hp : p ∈ l) :
    (l.find? (fun x => x.1 == p.1)).map (·.2) = some p.2 := by
  induction l with
  | nil => cases hp
  | cons a rest ih =>
    simp only [List.map_cons, List.nodup_cons] at hn
    rcases List.mem_cons.1 hp with rfl | hp'
    · simp
    · have hne : a.1 ≠ p.1 := by
        intro h'
        apply hn.1
        rw [h']
        exact List.mem_map_of_mem hp'
      have : (a.1 == p.1) = false := by simpa using hne
      rw [List.find?_cons, this]
      exact ih hn.2 hp'

theorem opOf_of_mem (g : MG) (hn : (g.nodes.map (·.1)).Nodup) (p : Nd × NOp) (hp : p ∈ g.nodes) : g.opOf p.1 = some p.2 :=
  opOf_of_mem_nodes g.nodes hn p hp

/-! ## roles -/

theorem ofQ_ne_c (q : QReg) (m : Nat) : Wire.ofQ q ≠ ⟨.c, m⟩ := by
  cases q with | mk t i => cases t <;> simp [Wire.ofQ, RT.ofRegT]

/-- the roles of the registers of an operation, in the order of `opWires` -/
def slotRoles : Op → List (Option Char)
  | .one _ _ => [none]
  | .wrap _ _ => [none]
  | .ctrl _ _ _ => [some 'c', some 't']
  | .cctrl _ _ _ _ => [some 'c', some 't', some 'm']
  | .meas _ _ => [none, some 'm']

def slotRole (w : Wire) : List Wire → List (Option Char) → Option Char
  | k :: ks, r :: rs => if k = w then r else slotRole w ks rs
  | _, _ => none

theorem role_eq_slotRole (o : Op) (w : Wire) : role (some (.gate o)) w = slotRole w (opWires o) (slotRoles o) := by
  cases o with
  | one g q => simp [role, slotRole, opWires, slotRoles, Op.qRegs, Op.cRegs]
  | wrap gs q => simp [role, slotRole, opWires, slotRoles, Op.qRegs, Op.cRegs]
  | ctrl g c t => simp [role, slotRole, opWires, slotRoles, Op.qRegs, Op.cRegs]
  | cctrl g c t m =>
    have : (w = (⟨.c, m⟩ : Wire)) = ((⟨.c, m⟩ : Wire) = w) := propext eq_comm
    simp [role, slotRole, opWires, slotRoles, Op.qRegs, Op.cRegs, this]
  | meas q m =>
    have : (w = (⟨.c, m⟩ : Wire)) = ((⟨.c, m⟩ : Wire) = w) := propext eq_comm
    have hq : Wire.ofQ q ≠ ⟨.c, m⟩ := ofQ_ne_c q m
    simp only [role, slotRole, opWires, slotRoles, Op.qRegs, Op.cRegs, List.map_cons, List.map_nil, List.cons_append,
      List.nil_append, beq_iff_eq, this]
    by_cases h : (⟨.c, m⟩ : Wire) = w
    · rw [if_pos h, if_neg (fun h' => hq (h'.trans h.symm))]
    · rw [if_neg h, ite_self]

theorem slotRole_cons (w k : Wire) (ks : List Wire) (r : Option Char) (rs : List (Option Char)) :
    slotRole w (k :: ks) (r :: rs) = if k = w then r else slotRole w ks rs := rfl

theorem slotRoles_nodup (o : Op) : (slotRoles o).Nodup := by cases o <;> simp [slotRoles]
theorem slotRoles_length (o : Op) : (opWires o).length = (slotRoles o).length := by cases o <;> rfl

theorem slotRole_mem {w : Wire} : ∀ {ks : List Wire} {rs : List (Option Char)}, ks.length = rs.length → w ∈ ks → slotRole w ks rs ∈ rs
  | k :: ks, r :: rs, hl, hw => by
    rw [slotRole_cons]
    split
    · exact List.mem_cons_self ..
    · rename_i hk
      exact List.mem_cons_of_mem _ (slotRole_mem (Nat.succ.inj hl) ((List.mem_cons.1 hw).resolve_left (Ne.symm hk)))
  | [], _, _, hw => by cases hw
  | _ :: _, [], hl, _ => by cases hl

theorem slotRole_inj {w w' : Wire} : ∀ {ks : List Wire} {rs : List (Option Char)}, rs.Nodup → ks.length = rs.length → w ∈ ks → w' ∈ ks →
    slotRole w ks rs = slotRole w' ks rs → w = w'
  | k :: ks, r :: rs, hn, hl, hw, hw', h => by
    have hl' := Nat.succ.inj hl
    have hn' := List.nodup_cons.1 hn
    rw [slotRole_cons, slotRole_cons] at h
    by_cases h1 : k = w <;> by_cases h2 : k = w'
    · exact h1.symm.trans h2
    · rw [if_pos h1, if_neg h2] at h
      exact absurd (h ▸ slotRole_mem hl' ((List.mem_cons.1 hw').resolve_left (Ne.symm h2))) hn'.1
    · rw [if_neg h1, if_pos h2] at h
      exact absurd (h ▸ slotRole_mem hl' ((List.mem_cons.1 hw).resolve_left (Ne.symm h1))) hn'.1
    · rw [if_neg h1, if_neg h2] at h
      exact slotRole_inj hn'.2 hl' ((List.mem_cons.1 hw).resolve_left (Ne.symm h1)) ((List.mem_cons.1 hw').resolve_left (Ne.symm h2)) h
  | [], _, _, _, hw, _, _ => by cases hw
  | _ :: _, [], _, hl, _, _, _ => by cases hl

theorem slotRole_map (π : Wire → Wire) (w : Wire) : ∀ (ks : List Wire) (rs : List (Option Char)), (∀ k ∈ ks, π k = π w → k = w) →
    slotRole (π w) (ks.map π) rs = slotRole w ks rs
  | k :: ks, r :: rs, h => by
    rw [List.map_cons, slotRole_cons, slotRole_cons]
    by_cases hk : k = w
    · rw [if_pos hk, if_pos (by rw [hk])]
    · rw [if_neg hk, if_neg (fun e => hk (h k (by simp) e))]
      exact slotRole_map π w ks rs (fun k' hk' => h k' (List.mem_cons_of_mem _ hk'))
  | [], _, _ => rfl
  | _ :: _, [], _ => rfl

/-- if `π` sends every register of `ks1` to a register of `ks2` in the slot with the same role, then `ks2 = ks1.map π` -/
theorem eq_map_of_slotRole (π : Wire → Wire) : ∀ (ks1 ks2 : List Wire) (rs : List (Option Char)), rs.Nodup → ks1.length = rs.length →
    ks2.length = rs.length → ks1.Nodup → (∀ w ∈ ks1, π w ∈ ks2 ∧ slotRole (π w) ks2 rs = slotRole w ks1 rs) → ks2 = ks1.map π
  | [], [], _, _, _, _, _, _ => rfl
  | [], _ :: _, [], _, _, h2, _, _ => by cases h2
  | [], _ :: _, _ :: _, _, h1, _, _, _ => by cases h1
  | _ :: _, [], [], _, h1, _, _, _ => by cases h1
  | _ :: _, [], _ :: _, _, _, h2, _, _ => by cases h2
  | _ :: _, _ :: _, [], _, h1, _, _, _ => by cases h1
  | k1 :: ks1, k2 :: ks2, r :: rs, hn, h1, h2, hn1, h => by
    have h1' := Nat.succ.inj h1
    have h2' := Nat.succ.inj h2
    have hn' := List.nodup_cons.1 hn
    have hn1' := List.nodup_cons.1 hn1
    have tail : ∀ w, π w ∈ k2 :: ks2 → k2 ≠ π w → slotRole (π w) (k2 :: ks2) (r :: rs) ∈ rs := by
      intro w hw hk
      rw [slotRole_cons, if_neg hk]
      exact slotRole_mem h2' ((List.mem_cons.1 hw).resolve_left (Ne.symm hk))
    have hk : k2 = π k1 := by
      by_contra hk
      obtain ⟨a, b⟩ := h k1 (by simp)
      have := tail k1 a hk
      rw [b] at this
      rw [slotRole_cons, if_pos rfl] at this
      exact hn'.1 this
    rw [List.map_cons, hk]
    congr 1
    apply eq_map_of_slotRole π ks1 ks2 rs hn'.2 h1' h2' hn1'.2
    intro w hw
    obtain ⟨a, b⟩ := h w (List.mem_cons_of_mem _ hw)
    have hw1 : k1 ≠ w := fun e => hn1'.1 (e ▸ hw)
    have e1 : slotRole w (k1 :: ks1) (r :: rs) = slotRole w ks1 rs := by rw [slotRole_cons, if_neg hw1]
    have hk2 : k2 ≠ π w := by
      intro e
      have : slotRole (π w) (k2 :: ks2) (r :: rs) = r := by rw [slotRole_cons, if_pos e]
      rw [this, e1] at b
      exact hn'.1 (b ▸ slotRole_mem h1' hw)
    refine ⟨(List.mem_cons.1 a).resolve_left (Ne.symm hk2), ?_⟩
    rw [← e1, ← b, slotRole_cons, if_neg hk2]

theorem role_inj (o : Op) (w w' : Wire) (hw : w ∈ opWires o) (hw' : w' ∈ opWires o)
    (h : role (some (.gate o)) w = role (some (.gate o)) w') : w = w' := by
  rw [role_eq_slotRole, role_eq_slotRole] at h
  exact slotRole_inj (slotRoles_nodup o) (slotRoles_length o) hw hw' h

/-! ## register paths -/

def Adj (l : List Nd) (u v : Nd) : Prop := ∃ l1 l2, l = l1 ++ u :: v :: l2

theorem mem_middle {α : Type} {n x : α} {l1 l2 : List α} : n ∈ l1 ++ x :: l2 ↔ n = x ∨ n ∈ l1 ++ l2 :=
  List.perm_middle.mem_iff.trans List.mem_cons

theorem cons_eq_snoc {α : Type} (x : α) (l : List α) : ∃ l1 a, x :: l = l1 ++ [a] := by
  rcases List.eq_nil_or_concat (x :: l) with h | ⟨l1, a, h⟩
  · cases h
  · exact ⟨l1, a, by rw [h, List.concat_eq_append]⟩

theorem nodup_split_unique {α : Type} (l : List α) (hn : l.Nodup) (p : α) :
    ∀ (a1 a2 c1 c2 : List α), l = a1 ++ p :: a2 → l = c1 ++ p :: c2 → a1 = c1 ∧ a2 = c2 := by
  intro a1
  induction a1 generalizing l with
  | nil =>
    intro a2 c1 c2 h1 h2
    cases c1 with
    | nil => rw [h1] at h2; simp only [List.nil_append, List.cons.injEq, true_and] at h2; exact ⟨rfl, h2⟩
    | cons y c1' =>
      exfalso
      rw [h1] at h2 hn
      simp only [List.nil_append, List.cons_append, List.cons.injEq] at h2
      have : p ∈ a2 := by rw [h2.2]; simp
      exact (List.nodup_cons.1 hn).1 this
  | cons x a1' ih =>
    intro a2 c1 c2 h1 h2
    cases c1 with
    | nil =>
      exfalso
      rw [h2] at h1 hn
      simp only [List.nil_append, List.cons_append, List.cons.injEq] at h1
      have : p ∈ c2 := by rw [h1.2]; simp
      exact (List.nodup_cons.1 hn).1 this
    | cons y c1' =>
      rw [h1] at h2 hn
      simp only [List.cons_append, List.cons.injEq] at h2
      obtain ⟨rfl, h2⟩ := h2
      obtain ⟨e1, e2⟩ := ih (a1' ++ p :: a2) (List.nodup_cons.1 hn).2 a2 c1' c2 rfl h2
      exact ⟨by rw [e1], e2⟩

theorem adj_next (l : List Nd) (hn : l.Nodup) (p r : List Nd) (a b : Nd) (hl : l = p ++ a :: r) (h : Adj l a b) :
    ∃ r', r = b :: r' := by
  obtain ⟨l1, l2, h12⟩ := h
  exact ⟨l2, (nodup_split_unique l hn a p r l1 (b :: l2) hl h12).2⟩

theorem adj_prev (l : List Nd) (hn : l.Nodup) (p r : List Nd) (a b : Nd) (hl : l = p ++ b :: r) (h : Adj l a b) :
    ∃ p', p = p' ++ [a] := by
  obtain ⟨l1, l2, h12⟩ := h
  exact ⟨l1, (nodup_split_unique l hn b p r (l1 ++ [a]) l2 hl (by rw [h12]; simp)).1⟩

theorem adj_mem_left {l : List Nd} {u v : Nd} (h : Adj l u v) : u ∈ l := by
  obtain ⟨l1, l2, rfl⟩ := h; simp

theorem adj_mem_right {l : List Nd} {u v : Nd} (h : Adj l u v) : v ∈ l := by
  obtain ⟨l1, l2, rfl⟩ := h; simp

def pathOf (body : Wire → List Nd) (w : Wire) : List Nd := Nd.inp w :: (body w ++ [Nd.out w])

theorem mem_pathOf (body : Wire → List Nd) (w : Wire) (n : Nd) :
    n ∈ pathOf body w ↔ n = .inp w ∨ n ∈ body w ∨ n = .out w := by
  simp [pathOf]

theorem pathOf_last (body : Wire → List Nd) (w : Wire) (pre : List Nd) (n : Nd) (h : pathOf body w = pre ++ [n]) :
    n = .out w := by
  have h' : (Nd.inp w :: body w) ++ [Nd.out w] = pre ++ [n] := h
  injection (List.append_inj' h' rfl).2 with h'' _
  exact h''.symm

theorem pathOf_inp_first (body : Wire → List Nd) (w : Wire) (hnd : (pathOf body w).Nodup) (pre rest : List Nd)
    (h : pathOf body w = pre ++ Nd.inp w :: rest) : pre = [] :=
  (nodup_split_unique _ hnd (.inp w) [] _ pre rest rfl h).1.symm

theorem pathOf_out_last (body : Wire → List Nd) (w : Wire) (hnd : (pathOf body w).Nodup) (pre rest : List Nd)
    (h : pathOf body w = pre ++ Nd.out w :: rest) : rest = [] :=
  (nodup_split_unique _ hnd (.out w) (Nd.inp w :: body w) [] pre rest rfl h).2.symm

/-- **the graph is a family of register paths** (edge attributes not yet considered) -/
structure Rep0 (g : MG) (W : List Wire) (body : Wire → List Nd) : Prop where
  pathNodup : ∀ w ∈ W, (pathOf body w).Nodup
  bodyOp : ∀ w ∈ W, ∀ n ∈ body w, ∃ id o, n = .op id ∧ g.opOf n = some (.gate o) ∧ w ∈ opWires o
  inpOp : ∀ w ∈ W, g.opOf (.inp w) = some (.input w)
  outOp : ∀ w ∈ W, g.opOf (.out w) = some (.output w)
  kindIn : ∀ n w, g.opOf n = some (.input w) → n = .inp w ∧ w ∈ W
  kindOut : ∀ n w, g.opOf n = some (.output w) → n = .out w ∧ w ∈ W
  wiresNodup : ∀ n o, g.opOf n = some (.gate o) → (opWires o).Nodup
  edge_sound0 : ∀ e ∈ g.edges, e.key ∈ W ∧ Adj (pathOf body e.key) e.src e.dst
  edge_complete : ∀ w ∈ W, ∀ u v, Adj (pathOf body w) u v → ∃ e ∈ g.edges, e.src = u ∧ e.dst = v ∧ e.key = w
  inputsW : ∀ w, Nd.inp w ∈ g.nodes.map (·.1) → w ∈ W

/-- **… and every edge carries the repaired attribute**: the pair (role of its register at its tail, role at its head) -/
structure Rep (g : MG) (W : List Wire) (body : Wire → List Nd) : Prop extends Rep0 g W body where
  lab : ∀ e ∈ g.edges, e.ct2 = (role (g.opOf e.src) e.key, role (g.opOf e.dst) e.key)

namespace Rep0
variable {g : MG} {W : List Wire} {body : Wire → List Nd}

theorem path_mem_nodes (r : Rep0 g W body) (w : Wire) (hw : w ∈ W) (n : Nd) (hn : n ∈ pathOf body w) :
    n ∈ g.nodes.map (·.1) := by
  rcases (mem_pathOf body w n).1 hn with rfl | h | rfl
  · exact opOf_some_mem g _ _ (r.inpOp w hw)
  · obtain ⟨id, o, _, ho, _⟩ := r.bodyOp w hw n h
    exact opOf_some_mem g _ _ ho
  · exact opOf_some_mem g _ _ (r.outOp w hw)

theorem gate_on_path (r : Rep0 g W body) (w : Wire) (hw : w ∈ W) (n : Nd) (o : Op) (ho : g.opOf n = some (.gate o))
    (hn : n ∈ pathOf body w) : n ∈ body w ∧ w ∈ opWires o := by
  rcases (mem_pathOf body w n).1 hn with rfl | h | rfl
  · rw [r.inpOp w hw] at ho; cases ho
  · obtain ⟨id, o', _, ho', hw'⟩ := r.bodyOp w hw n h
    rw [ho] at ho'
    injection ho' with ho'
    injection ho' with ho'
    subst ho'
    exact ⟨h, hw'⟩
  · rw [r.outOp w hw] at ho; cases ho

theorem inp_on_path (r : Rep0 g W body) (w x : Wire) (hw : w ∈ W) (hn : Nd.inp x ∈ pathOf body w) : x = w := by
  rcases (mem_pathOf body w _).1 hn with h | h | h
  · injection h
  · obtain ⟨id, o, he, _⟩ := r.bodyOp w hw _ h; cases he
  · cases h

theorem out_on_path (r : Rep0 g W body) (w x : Wire) (hw : w ∈ W) (hn : Nd.out x ∈ pathOf body w) : x = w := by
  rcases (mem_pathOf body w _).1 hn with h | h | h
  · cases h
  · obtain ⟨id, o, he, _⟩ := r.bodyOp w hw _ h; cases he
  · injection h

end Rep0

namespace Rep
variable {g : MG} {W : List Wire} {body : Wire → List Nd}

theorem edge_sound (r : Rep g W body) (e : Edge) (he : e ∈ g.edges) : e.key ∈ W ∧ Adj (pathOf body e.key) e.src e.dst ∧
    e.ct2 = (role (g.opOf e.src) e.key, role (g.opOf e.dst) e.key) :=
  ⟨(r.edge_sound0 e he).1, (r.edge_sound0 e he).2, r.lab e he⟩

end Rep

theorem nodeMatch_input (w : Wire) (b : NOp) (h : nodeMatch (.input w) b = true) : ∃ w2, b = .input w2 ∧ w2.t = w.t := by
  cases b with
  | input w2 =>
    refine ⟨w2, rfl, ?_⟩
    cases w with | mk t1 i1 => cases w2 with | mk t2 i2 => cases t1 <;> cases t2 <;> simp [nodeMatch] at h ⊢
  | output _ => simp [nodeMatch] at h
  | gate _ => simp [nodeMatch] at h

theorem nodeMatch_output (w : Wire) (b : NOp) (h : nodeMatch (.output w) b = true) : ∃ w2, b = .output w2 ∧ w2.t = w.t := by
  cases b with
  | output w2 =>
    refine ⟨w2, rfl, ?_⟩
    cases w with | mk t1 i1 => cases w2 with | mk t2 i2 => cases t1 <;> cases t2 <;> simp [nodeMatch] at h ⊢
  | input _ => simp [nodeMatch] at h
  | gate _ => simp [nodeMatch] at h

theorem nodeMatch_gate (o : Op) (b : NOp) (h : nodeMatch (.gate o) b = true) : ∃ o2, b = .gate o2 := by
  cases b with
  | gate o2 => exact ⟨o2, rfl⟩
  | input _ => simp [nodeMatch] at h
  | output _ => simp [nodeMatch] at h

/-! ## the main induction: an isomorphism follows every register -/

/-- what makes the edge leaving the image of `u` the one of register `w2`: `u` is the input node of `w` and goes to the
    input node of `w2`, or `u` is an operation node and `w2` plays at its image the role `w` plays at `u` -/
def KeyDet (g1 g2 : MG) (φ : Nd → Nd) (w w2 : Wire) (u : Nd) : Prop :=
  (u = .inp w ∧ φ u = .inp w2) ∨ ((∃ id, u = .op id) ∧ role (g2.opOf (φ u)) w2 = role (g1.opOf u) w)

theorem iso2_follow (g1 g2 : MG) (W1 W2 : List Wire) (B1 B2 : Wire → List Nd) (r1 : Rep g1 W1 B1) (r2 : Rep g2 W2 B2)
    (φ : Nd → Nd) (hf : IsoFacts2 g1 g2 φ) (w w2 : Wire) (hw : w ∈ W1) (hw2 : w2 ∈ W2) :
    ∀ (rest pre : List Nd) (u : Nd) (pre2 rest2 : List Nd),
      pathOf B1 w = pre ++ u :: rest → pathOf B2 w2 = pre2 ++ φ u :: rest2 →
      (rest ≠ [] → KeyDet g1 g2 φ w w2 u) →
      rest2 = rest.map φ ∧ ∀ n ∈ rest, role (g2.opOf (φ n)) w2 = role (g1.opOf n) w := by
  intro rest
  induction rest with
  | nil =>
    intro pre u pre2 rest2 h1 h2 _
    refine ⟨?_, by simp⟩
    -- `u` is the output node of `w`; its image is an output node on the path of `w2`, hence the last node
    have hu : u = .out w := pathOf_last B1 w pre u h1
    subst hu
    obtain ⟨a, b, ha, hb, hab⟩ := hf.nodes _ (opOf_some_mem g1 _ _ (r1.outOp w hw))
    rw [r1.outOp w hw] at ha
    injection ha with ha
    subst ha
    obtain ⟨x, rfl, _⟩ := nodeMatch_output w b hab
    obtain ⟨hφ, hx⟩ := r2.kindOut _ _ hb
    have hmem : φ (.out w) ∈ pathOf B2 w2 := by rw [h2]; simp
    rw [hφ] at hmem h2
    have hxw := r2.toRep0.out_on_path w2 x hw2 hmem
    subst hxw
    exact pathOf_out_last B2 x (r2.pathNodup x hw2) pre2 rest2 h2
  | cons v rest' ih =>
    intro pre u pre2 rest2 h1 h2 hkd
    have hadj : Adj (pathOf B1 w) u v := ⟨pre, rest', h1⟩
    have hkd := hkd (by simp)
    have hu1 : u ∈ pathOf B1 w := adj_mem_left hadj
    have hv1 : v ∈ pathOf B1 w := adj_mem_right hadj
    -- the edge of `g1` and its twin in `g2`
    obtain ⟨e, he, hes, hed, hek⟩ := r1.edge_complete w hw u v hadj
    obtain ⟨_, _, hlab⟩ := r1.edge_sound e he
    have hmatch := (hf.edges u (r1.toRep0.path_mem_nodes w hw u hu1) v (r1.toRep0.path_mem_nodes w hw v hv1)).2
    obtain ⟨e', he', hct⟩ := edgeMatch2_mem _ _ hmatch e ((mem_edgesBetween g1 u v e).2 ⟨he, hes, hed⟩)
    obtain ⟨he'm, hes', hed'⟩ := (mem_edgesBetween g2 _ _ e').1 he'
    obtain ⟨hk'W, hadj', hlab'⟩ := r2.edge_sound e' he'm
    rw [hes', hed'] at hadj' hlab'
    rw [hes, hed, hek] at hlab
    -- the twin lies on the path of `w2`
    have hkey : e'.key = w2 := by
      rcases hkd with ⟨hui, hφi⟩ | ⟨⟨id, hid⟩, hrole⟩
      · have := adj_mem_left hadj'
        rw [hφi] at this
        exact (r2.toRep0.inp_on_path e'.key w2 hk'W this).symm
      · -- `u` is an operation node; so is its image, and the two registers have the same role there
        have hub : u ∈ B1 w := by
          rcases (mem_pathOf B1 w u).1 hu1 with h | h | h
          · rw [hid] at h; cases h
          · exact h
          · rw [hid] at h; cases h
        obtain ⟨id', o1, _, ho1, _⟩ := r1.bodyOp w hw u hub
        obtain ⟨a, b, ha, hb, hab⟩ := hf.nodes u (r1.toRep0.path_mem_nodes w hw u hu1)
        rw [ho1] at ha
        injection ha with ha
        subst ha
        obtain ⟨o2, rfl⟩ := nodeMatch_gate o1 b hab
        have hφu2 : φ u ∈ pathOf B2 w2 := by rw [h2]; simp
        have hin2 := (r2.toRep0.gate_on_path w2 hw2 (φ u) o2 hb hφu2).2
        have hin' := (r2.toRep0.gate_on_path e'.key hk'W (φ u) o2 hb (adj_mem_left hadj')).2
        have e1 : role (g2.opOf (φ u)) e'.key = role (g1.opOf u) w := by
          rw [hlab'] at hct
          have h3 := congrArg Prod.fst hct
          simp only at h3
          rw [h3]
          exact congrArg Prod.fst hlab
        rw [← hrole, hb] at e1
        exact role_inj o2 _ _ hin' hin2 e1
    rw [hkey] at hadj' hlab'
    obtain ⟨rest2', hr2⟩ := adj_next (pathOf B2 w2) (r2.pathNodup w2 hw2) pre2 rest2 (φ u) (φ v) h2 hadj'
    subst hr2
    have hrv : role (g2.opOf (φ v)) w2 = role (g1.opOf v) w := by
      rw [hlab'] at hct
      have h3 := congrArg Prod.snd hct
      simp only at h3
      rw [h3]
      exact congrArg Prod.snd hlab
    have h1' : pathOf B1 w = (pre ++ [u]) ++ v :: rest' := by rw [h1]; simp
    have h2' : pathOf B2 w2 = (pre2 ++ [φ u]) ++ φ v :: rest2' := by rw [h2]; simp
    have hkd' : rest' ≠ [] → KeyDet g1 g2 φ w w2 v := by
      intro hne
      right
      refine ⟨?_, hrv⟩
      -- `v` is neither the first nor the last node of the path, so it is an operation node
      have hvb : v ∈ B1 w := by
        rcases (mem_pathOf B1 w v).1 hv1 with h | h | h
        · subst h
          exact absurd (pathOf_inp_first B1 w (r1.pathNodup w hw) _ _ h1') (by simp)
        · exact h
        · subst h
          exact absurd (pathOf_out_last B1 w (r1.pathNodup w hw) _ _ h1') hne
      obtain ⟨id, _, hid, _⟩ := r1.bodyOp w hw v hvb
      exact ⟨id, hid⟩
    obtain ⟨ihm, ihr⟩ := ih (pre ++ [u]) v (pre2 ++ [φ u]) rest2' h1' h2' hkd'
    refine ⟨by rw [ihm]; rfl, ?_⟩
    intro n hn
    rcases List.mem_cons.1 hn with rfl | hn'
    · exact hrv
    · exact ihr n hn'

/-- the register of the second graph that the isomorphism assigns to register `w` of the first -/
def wireMap (φ : Nd → Nd) (w : Wire) : Wire :=
  match φ (.inp w) with
  | .inp w2 => w2
  | _ => w

/-- **an isomorphism of the repaired check maps every register path onto a register path**: same register type, input to
    input, output to output, the operation nodes in order, and every operation node is matched with a node at which the
    image register plays the same role -/
theorem iso2_wires (g1 g2 : MG) (W1 W2 : List Wire) (B1 B2 : Wire → List Nd) (r1 : Rep g1 W1 B1) (r2 : Rep g2 W2 B2)
    (φ : Nd → Nd) (hf : IsoFacts2 g1 g2 φ) (w : Wire) (hw : w ∈ W1) :
    wireMap φ w ∈ W2 ∧ (wireMap φ w).t = w.t ∧ φ (.inp w) = .inp (wireMap φ w) ∧ φ (.out w) = .out (wireMap φ w) ∧
    B2 (wireMap φ w) = (B1 w).map φ ∧ ∀ n ∈ B1 w, role (g2.opOf (φ n)) (wireMap φ w) = role (g1.opOf n) w := by
  obtain ⟨a, b, ha, hb, hab⟩ := hf.nodes _ (opOf_some_mem g1 _ _ (r1.inpOp w hw))
  rw [r1.inpOp w hw] at ha
  injection ha with ha
  subst ha
  obtain ⟨w2, rfl, ht⟩ := nodeMatch_input w b hab
  obtain ⟨hφ, hw2⟩ := r2.kindIn _ _ hb
  have hwm : wireMap φ w = w2 := by unfold wireMap; rw [hφ]
  rw [hwm]
  have h1 : pathOf B1 w = [] ++ Nd.inp w :: (B1 w ++ [Nd.out w]) := rfl
  have h2 : pathOf B2 w2 = [] ++ φ (Nd.inp w) :: (B2 w2 ++ [Nd.out w2]) := by rw [hφ]; rfl
  obtain ⟨hm, hr⟩ := iso2_follow g1 g2 W1 W2 B1 B2 r1 r2 φ hf w w2 hw hw2 _ _ _ _ _ h1 h2 (fun _ => Or.inl ⟨rfl, hφ⟩)
  rw [List.map_append, List.map_cons, List.map_nil] at hm
  obtain ⟨hb2, hout⟩ := List.append_inj' hm rfl
  refine ⟨hw2, ht, hφ, ?_, hb2, ?_⟩
  · injection hout with h _
    exact h.symm
  · intro n hn
    exact hr n (List.mem_append_left _ hn)

theorem wireMap_inj (g1 g2 : MG) (W1 W2 : List Wire) (B1 B2 : Wire → List Nd) (r1 : Rep g1 W1 B1) (r2 : Rep g2 W2 B2)
    (φ : Nd → Nd) (hf : IsoFacts2 g1 g2 φ) (w w' : Wire) (hw : w ∈ W1) (hw' : w' ∈ W1)
    (h : wireMap φ w = wireMap φ w') : w = w' := by
  have h1 := (iso2_wires g1 g2 W1 W2 B1 B2 r1 r2 φ hf w hw).2.2.1
  have h2 := (iso2_wires g1 g2 W1 W2 B1 B2 r1 r2 φ hf w' hw').2.2.1
  rw [h] at h1
  have := hf.inj _ (opOf_some_mem g1 _ _ (r1.inpOp w hw)) _ (opOf_some_mem g1 _ _ (r1.inpOp w' hw')) (h1.trans h2.symm)
  injection this

theorem wireMap_surj (g1 g2 : MG) (W1 W2 : List Wire) (B1 B2 : Wire → List Nd) (r1 : Rep g1 W1 B1) (r2 : Rep g2 W2 B2)
    (φ : Nd → Nd) (hf : IsoFacts2 g1 g2 φ) (w2 : Wire) (hw2 : w2 ∈ W2) : ∃ w ∈ W1, wireMap φ w = w2 := by
  obtain ⟨n, hn, hφ⟩ := hf.surj _ (opOf_some_mem g2 _ _ (r2.inpOp w2 hw2))
  obtain ⟨a, b, ha, hb, hab⟩ := hf.nodes n hn
  rw [hφ, r2.inpOp w2 hw2] at hb
  injection hb with hb
  subst hb
  rw [nodeMatch_symm] at hab
  obtain ⟨w, rfl, _⟩ := nodeMatch_input w2 a hab
  obtain ⟨rfl, hw⟩ := r1.kindIn _ _ ha
  refine ⟨w, hw, ?_⟩
  unfold wireMap
  rw [hφ]

end Graphiq.Compare
