/-
  Proofs/HilbertDimOps.lean — `insert_qubit` and `remove_qubit` of clifford.py on density matrices, for every size:

  * `rho_insertQubit` : `ρ(insert_qubit(t, p)) = ρ(t) ⊗_p |0⟩⟨0|`;
  * `rho_removeQubit_measured` : the tableau after the Z-measurement inside `remove_qubit` is the product
    `ρ(result) ⊗_q |s⟩⟨s|` with `s` the measurement outcome; hence
    `rho_removeQubit` : `ρ(remove_qubit(t, q)) = Tr_q ρ(post-measurement state)`;
    random branch `= 2 · Tr_q(Π_o ρ(t) Π_o)`, deterministic branch `= Tr_q ρ(t)`;
  * `rho_removeQubit_unentangled` : if qubit `q` carries a single-site stabilizer `σ` then `ρ(t) = ρ(result) ⊗_q (1+σ_q)/2`
    and `ρ(result) = Tr_q ρ(t)` whatever the drawn outcome.
  All are consequences of `rho_site_factor` and the group-level specifications of `Proofs/TabSpec*.lean`.
-/
import GraphiqModel.Proofs.HilbertDimState
import GraphiqModel.Proofs.TabSpecHistory
namespace Graphiq
namespace Hilbert
open Matrix PRow TabSpec Tab

theorem rho_site_factor_dim (m q : Nat) (t1 t' : Tab) (hq : q ≤ m) (h1 : t1.n = m + 1) (h' : t'.n = m)
    (v1 : t1.Valid) (r1 : t1.StabReal) (v' : t'.Valid) (r' : t'.StabReal)
    (σ : PRow) (hσg : Grp t1 σ) (hσ : SingleSite (m + 1) q σ)
    (hins : ∀ i, i < m → Grp t1 ((t'.stab i).insertCol q)) :
    rho (m + 1) (STab.ofTab t1) = insSite q (rho m (STab.ofTab t')) (site1 σ q) := by
  subst h'
  exact rho_site_factor q t1 t' hq h1 v1 r1 v' r' σ hσg hσ hins

theorem singleSite_Zq (n q : Nat) (s : Bool) : SingleSite n q (Zq q s) :=
  ⟨Or.inr (by simp [Zq]), fun j _ hj => by simp [Zq, hj]⟩

theorem singleSite_Xq (n q : Nat) (s : Bool) : SingleSite n q (Xq q s) :=
  ⟨Or.inl (by simp [Xq]), fun j _ hj => by simp [Xq, hj]⟩

theorem singleSite_Yrow (n q : Nat) (s : Bool) : SingleSite n q (Yrow q s) :=
  ⟨Or.inl (by simp [Yrow]), fun j _ hj => by simp [Yrow, hj]⟩

/-- **`insert_qubit` on density matrices**: `ρ(insert_qubit(t, p)) = ρ(t) ⊗_p |0⟩⟨0|`, for every `n` and `p ≤ n` -/
theorem rho_insertQubit (t : Tab) (p : Nat) (hp : p ≤ t.n) (hv : t.Valid) (hr : t.StabReal) :
    rho (t.n + 1) (STab.ofTab (t.insertQubit p)) = insSite p (rho t.n (STab.ofTab t)) (ketbra false) := by
  have g := insert_grp t p hp hv hr
  rw [← site1_Zq p false]
  apply rho_site_factor p (t.insertQubit p) t hp rfl (insertQubit_valid t p hp hv) (insert_stabReal t p hp hv hr) hv hr
    (Zq p false)
  · exact (g _).mpr ⟨rfl, InSpan.eqv _ _ InSpan.one (deleteCol_Zq t.n p).symm⟩
  · exact singleSite_Zq _ p false
  · intro i hi
    exact (g _).mpr ⟨insertCol_x p _, InSpan.eqv _ _ (grp_gen t i hi) (deleteCol_insertCol t.n p _).symm⟩

/-! ### removal -/

/-- inside `remove_qubit`: the measured tableau is the product of the returned tableau and `|s⟩⟨s|` on qubit `q`,
    `s` the outcome of the Z-measurement -/
theorem rho_removeQubit_measured (m : Nat) (t t' : Tab) (q : Nat) (o : Bool) (hm : t.n = m + 1) (hq : q < t.n)
    (hv : t.Valid) (hr : t.StabReal) (h : t.removeQubit q o = .ok t') :
    t'.n = m ∧
    rho (m + 1) (STab.ofTab (t.zMeasure q o).1)
      = insSite q (rho m (STab.ofTab t')) (ketbra (t.zMeasure q o).2.1) := by
  obtain ⟨n', v', r', g⟩ := removeQubit_grp t t' q o hq hv hr h
  have hn' : t'.n = m := by omega
  refine ⟨hn', ?_⟩
  rw [← site1_Zq q (t.zMeasure q o).2.1]
  apply rho_site_factor_dim m q (t.zMeasure q o).1 t' (by omega) ((zMeasure_n t q o).trans hm) hn'
    (zMeasure_valid t q o hq hv) (zMeasure_stabReal t q o hq hv hr) v' r' _ (measure_leaves_Zq t q o hq hv hr)
    (singleSite_Zq _ q _)
  intro i hi
  exact (g _).mp (grp_gen t' i (by omega))

/-- **`remove_qubit` on density matrices**: the returned state is the partial trace over `q` of the state after the
    Z-measurement that the code performs -/
theorem rho_removeQubit (m : Nat) (t t' : Tab) (q : Nat) (o : Bool) (hm : t.n = m + 1) (hq : q < t.n)
    (hv : t.Valid) (hr : t.StabReal) (h : t.removeQubit q o = .ok t') :
    rho m (STab.ofTab t') = ptraceSite q (rho (m + 1) (STab.ofTab (t.zMeasure q o).1)) := by
  obtain ⟨_, e⟩ := rho_removeQubit_measured m t t' q o hm hq hv hr h
  rw [e, ptraceSite_insSite q (by omega), trace_ketbra, one_smul]

theorem rho_removeQubit_random (m : Nat) (t t' : Tab) (q p : Nat) (o : Bool) (hm : t.n = m + 1) (hq : q < t.n)
    (hv : t.Valid) (hr : t.StabReal) (hp : t.pivot q = some p) (h : t.removeQubit q o = .ok t') :
    rho m (STab.ofTab t')
      = (2 : ℂ) • ptraceSite q (proj (m + 1) (Zq q o) * rho (m + 1) (STab.ofTab t) * proj (m + 1) (Zq q o)) := by
  obtain ⟨h1, h2, h3⟩ := pivot_spec t q p hp
  have hs := measRandom_state t hv hr q p o hq h1 h2 h3
  rw [hm] at hs
  have e : (t.zMeasure q o).1 = t.measRandom q p o := congrArg Prod.fst (zMeasure_random_eq t q p o hp)
  rw [rho_removeQubit m t t' q o hm hq hv hr h, e, hs, ptraceSite_smul, smul_smul]
  norm_num

/-- deterministic branch: the measured qubit is in the state `|s⟩` (`s` the reported outcome), the state is the product
    `ρ(result) ⊗_q |s⟩⟨s|`, and the result is `Tr_q ρ(t)` -/
theorem rho_removeQubit_det (m : Nat) (t t' : Tab) (q : Nat) (o : Bool) (hm : t.n = m + 1) (hq : q < t.n)
    (hv : t.Valid) (hr : t.StabReal) (hp : t.pivot q = none) (h : t.removeQubit q o = .ok t') :
    rho (m + 1) (STab.ofTab t) = insSite q (rho m (STab.ofTab t')) (ketbra (t.measScratch q).r) ∧
    rho m (STab.ofTab t') = ptraceSite q (rho (m + 1) (STab.ofTab t)) := by
  have e := zMeasure_det_eq t q o hp
  have h1 := (rho_removeQubit_measured m t t' q o hm hq hv hr h).2
  have h2 := rho_removeQubit m t t' q o hm hq hv hr h
  rw [e] at h1 h2
  exact ⟨h1, h2⟩

/-- **removing an unentangled qubit**: if some single-site Pauli `σ` on qubit `q` stabilizes the state, the state is the
    product `ρ(result) ⊗_q (1 + σ_q)/2` and the result is the reduced state `Tr_q ρ(t)`, whatever the drawn outcome -/
theorem rho_removeQubit_unentangled (m : Nat) (t t' : Tab) (q : Nat) (o : Bool) (hm : t.n = m + 1) (hq : q < t.n)
    (hv : t.Valid) (hr : t.StabReal) (σ : PRow) (hσg : Grp t σ) (hσ : SingleSite t.n q σ)
    (h : t.removeQubit q o = .ok t') :
    rho (m + 1) (STab.ofTab t) = insSite q (rho m (STab.ofTab t')) (site1 σ q) ∧
    rho m (STab.ofTab t') = ptraceSite q (rho (m + 1) (STab.ofTab t)) := by
  obtain ⟨n', v', r', _⟩ := removeQubit_grp t t' q o hq hv hr h
  have g := removeQubit_unentangled_grp t t' q o hq hv hr ⟨σ, hσg, hσ⟩ h
  have hn' : t'.n = m := by omega
  have hσ' : SingleSite (m + 1) q σ := by rw [← hm]; exact hσ
  have e := rho_site_factor_dim m q t t' (by omega) hm hn' hv hr v' r' σ hσg hσ'
    (fun i hi => (g _).mp (grp_gen t' i (by omega)))
  refine ⟨e, ?_⟩
  have σreal : σ.ip = false := grp_real t hv hr σ hσg
  rw [e, ptraceSite_insSite q (by omega), (site1_facts σ q σreal hσ.1).2.2, one_smul]

end Hilbert
end Graphiq
