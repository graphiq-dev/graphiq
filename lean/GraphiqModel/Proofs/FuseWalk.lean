/-
  FuseWalk.lean — `group_one_qubit_gates` on one register: the backward walk of the code (`groupWalk`) transforms the
  operation sequence of the register's wire — seen through any `CregView` — by `fuseBack` (Proofs/Fuse.lean) and leaves every
  other wire alone.
-/
import GraphiqModel.Proofs.Fuse
namespace Graphiq
namespace Dag
open Relation Metrics

theorem edgeFromReg_in {c : Dag} {P : Paths} (h : Inv c P) {r : Reg} {u n : NodeId} (hc : Consec (P r) u n) :
    edgeFromReg (c.inEdges n) r = some ⟨u, n, r⟩ := by
  have hmem : (⟨u, n, r⟩ : Edge) ∈ c.edges := (h.edges_iff ⟨u, n, r⟩).mpr hc
  apply edgeFromReg_eq (List.mem_filter.mpr ⟨hmem, by simp⟩) rfl
  intro e he hk
  exact h.edge_eq_of_dst (List.mem_filter.mp he).1 hmem hk (by simpa using (List.mem_filter.mp he).2)

theorem edgeFromReg_out {c : Dag} {P : Paths} (h : Inv c P) {r : Reg} {n m : NodeId} (hc : Consec (P r) n m) :
    edgeFromReg (c.outEdges n) r = some ⟨n, m, r⟩ := by
  have hmem : (⟨n, m, r⟩ : Edge) ∈ c.edges := (h.edges_iff ⟨n, m, r⟩).mpr hc
  apply edgeFromReg_eq (List.mem_filter.mpr ⟨hmem, by simp⟩) rfl
  intro e he hk
  exact h.edge_eq_of_src (List.mem_filter.mp he).1 hmem hk (by simpa using (List.mem_filter.mp he).2)

theorem groupable_eq {c : Dag} {P : Paths} (h : Inv c P) (n : NodeId) :
    c.groupable n = (match c.opOf? n with
      | some o => (indexKeysOf n o).contains "one-qubit" && o.kind.isOneQubitBase
      | none => false) := by
  unfold groupable
  cases ho : c.opOf? n with
  | none => simp
  | some o =>
    simp only
    congr 1
    have hiff : n ∈ dictGet c.nodeDict "one-qubit" ↔ "one-qubit" ∈ indexKeysOf n o := by
      rw [← List.count_pos_iff, h.nodeDict_ok, indexCount_pos_iff]
      unfold keysAt; rw [ho]
    by_cases hm : n ∈ dictGet c.nodeDict "one-qubit"
    · simp [hm, hiff.mp hm]
    · have : "one-qubit" ∉ indexKeysOf n o := fun hh => hm (hiff.mpr hh)
      simp [hm, this]

theorem groupable_op {c : Dag} {P : Paths} (h : Inv c P) {i : Nat} {o : Op} (hm : (NodeId.op i, o) ∈ c.nodes) :
    c.groupable (.op i) = gOp o := by
  rw [groupable_eq h, (opOf_eq_some h.ids_nodup).mpr hm]
  rfl

theorem groupable_inp {c : Dag} {P : Paths} (h : Inv c P) (r : Reg) : c.groupable (.inp r) = false := by
  rw [groupable_eq h]
  cases c.opOf? (.inp r) with
  | none => rfl
  | some o => simp [indexKeysOf]

/-- the operations are plain (no label is a reserved name, wrappers wrap base classes) and every groupable operation is a one-qubit
    gate object: one quantum register, no classical register (what `OneQubitOperationBase` is) -/
structure GroupHyp (c : Dag) : Prop where
  plain : AllPlain c
  shape : ∀ i o, (NodeId.op i, o) ∈ c.nodes → gOp o = true → (∃ r, o.qregs = [r]) ∧ o.cregs = []

theorem GroupHyp.of_subset {c c' : Dag} (hh : GroupHyp c) (hsub : ∀ i o, (NodeId.op i, o) ∈ c'.nodes → (NodeId.op i, o) ∈ c.nodes) :
    GroupHyp c' :=
  ⟨fun i o hm => hh.plain i o (hsub i o hm), fun i o hm => hh.shape i o (hsub i o hm)⟩

theorem GroupHyp.of_append {c c' : Dag} (hh : GroupHyp c) {n : NodeId} {w : Op} (hn : c'.nodes = c.nodes ++ [(n, w)])
    (hp : PlainOp' w) (hs : (∃ r, w.qregs = [r]) ∧ w.cregs = []) : GroupHyp c' := by
  constructor
  · intro i o hm
    rw [hn] at hm
    rcases List.mem_append.mp hm with hm | hm
    · exact hh.plain i o hm
    · simp at hm; rw [hm.2]; exact hp
  · intro i o hm hg
    rw [hn] at hm
    rcases List.mem_append.mp hm with hm | hm
    · exact hh.shape i o hm hg
    · simp at hm; rw [hm.2]; exact hs

theorem groupTake_pos {c : Dag} {node : NodeId} {o : Op} (hg : c.groupable node = true) (ho : c.opOf? node = some o)
    (gates : List Kind) : groupTake c node gates = ((c.removeOp node).1, gates ++ kindsOf o, (c.removeOp node).2) := by
  rw [groupTake_of_groupable hg ho, kindsOf]
  by_cases hk : o.kind = .wrapper <;> simp [hk]

theorem mkWrapper_eq {gates : List Kind} {r : Reg} (hr : r.ty ≠ .c) (hall : ∀ k ∈ gates, k.isOneQubitBase = true) :
    mkWrapper gates r = some (wrapperOn r gates) := by
  unfold mkWrapper
  rw [if_neg hr, if_pos (List.all_eq_true.mpr hall)]
  rfl

theorem flushK_nil (r : Reg) : flushK r [] = [] := rfl

theorem fuseBack_head_ng (r : Reg) (rev : List Op) (h : rev = [] ∨ ∃ a t, rev = a :: t ∧ gOp a = false) (gates : List Kind) :
    fuseBack r rev gates = fuseBack r rev [] ++ flushK r gates := by
  rcases h with rfl | ⟨a, t, rfl, ha⟩
  · simp [fuseBack, flushK_nil]
  · simp [fuseBack, ha, flushK_nil]

theorem wireOps_op {c : Dag} (hnd : c.nodeIds.Nodup) {i : Nat} {o : Op} (hm : (NodeId.op i, o) ∈ c.nodes) :
    wireOps c [NodeId.op i] = [o] := by
  simp [wireOps, (opOf_eq_some hnd).mpr hm]

theorem wireOps_inp (c : Dag) (r : Reg) : wireOps c [NodeId.inp r] = [] := by simp [wireOps]

theorem wire_pos_facts {c : Dag} {P : Paths} (h : Inv c P) {r : Reg} {A B : List NodeId} {node : NodeId}
    (hP : P r = A ++ node :: B) (hB : B ≠ []) :
    c.live r ∧ (A = [] → node = .inp r) ∧ (A ≠ [] → ∃ i, node = NodeId.op i) := by
  have hl : c.live r := h.live_of_mem (n := node) (by rw [hP]; simp)
  obtain ⟨mid, hshape, hmid⟩ := h.shape r hl
  refine ⟨hl, ?_, ?_⟩
  · intro hA
    subst hA
    rw [hshape] at hP
    simp only [List.nil_append, List.cons.injEq] at hP
    exact hP.1.symm
  · intro hA
    cases A with
    | nil => exact absurd rfl hA
    | cons a A' =>
      rw [hshape] at hP
      simp only [List.cons_append, List.cons.injEq] at hP
      rcases List.eq_nil_or_concat B with hb | ⟨B'', z, hb⟩
      · exact absurd hb hB
      · rw [hb, List.concat_eq_append] at hP
        have e : A' ++ node :: (B'' ++ [z]) = (A' ++ node :: B'') ++ [z] := by simp
        rw [e] at hP
        have := (List.append_inj' hP.2 rfl).1
        exact hmid node (by rw [this]; simp)

/-- removing a groupable node met by the walk on register `r` -/
theorem group_remove_step {c : Dag} {P : Paths} (g : Good c P) (hh : GroupHyp c) {r : Reg} {A B : List NodeId} {i : Nat}
    {o : Op} (hP : P r = A ++ NodeId.op i :: B) (hm : (NodeId.op i, o) ∈ c.nodes) (hg : gOp o = true) :
    (c.removeOp (.op i)).2 = none ∧ r.ty ≠ .c ∧ o.qregs = [r] ∧ ∃ P1, Good (c.removeOp (.op i)).1 P1 ∧ GroupHyp (c.removeOp (.op i)).1 ∧
      P1 r = A ++ B ∧ (∀ k, k ≠ r → P1 k = P k ∧ NodeId.op i ∉ P k) ∧
      (∀ x, x ≠ NodeId.op i → x ∈ c.nodeIds → (c.removeOp (.op i)).1.opOf? x = c.opOf? x) := by
  obtain ⟨⟨r0, hq⟩, hc⟩ := hh.shape i o hm hg
  have hr0 : r = r0 := (g.single_wire hm hq hc r).mp (by rw [hP]; simp)
  subst hr0
  have hrq : r.ty ≠ .c := (g.inv.op_wf i o hm).qregs_quantum r (by rw [hq]; simp)
  have hnot : ∀ k, k ≠ r → NodeId.op i ∉ P k := fun k hk hmk => hk ((g.single_wire hm hq hc k).mp hmk)
  obtain ⟨g1, _, hold⟩ := removeNode_wires (f := fun _ o => o) g hm (fun _ => false) rfl
  obtain ⟨e1, _, _, _⟩ := removeOp_good g (mem_nodeIds.mpr ⟨o, hm⟩)
  have hnodes := removeOp_nodes g.inv hm
  refine ⟨e1, hrq, hq, erasePaths P (.op i), g1, ?_, ?_, ?_, hold⟩
  · apply hh.of_subset
    intro j o' hm'
    rw [hnodes] at hm'
    exact (List.mem_filter.mp hm').1
  · unfold erasePaths
    rw [hP]
    exact erase_append_mid (g.inv.cut hP).1
  · intro k hk
    refine ⟨?_, hnot k hk⟩
    unfold erasePaths
    exact List.erase_of_not_mem (hnot k hk)

/-- the flush: a wrapper holding the pending gate list is inserted right after `next` on the wire of `r` -/
theorem group_flush_step {c : Dag} {P : Paths} (g : Good c P) (hh : GroupHyp c) {r : Reg} (hrq : r.ty ≠ .c)
    {A0 B' : List NodeId} {next b : NodeId} (hP : P r = A0 ++ next :: b :: B') {gates : List Kind}
    (hall : ∀ k ∈ gates, k.isOneQubitBase = true ∧ k ≠ .wrapper) :
    (groupFlush c r next gates).2 = none ∧ ∃ P2, Good (groupFlush c r next gates).1 P2 ∧ GroupHyp (groupFlush c r next gates).1 ∧
      P2 r = A0 ++ next :: .op (c.nodeId + 1) :: b :: B' ∧ (∀ k, k ≠ r → P2 k = P k) ∧
      (groupFlush c r next gates).1.opOf? (.op (c.nodeId + 1)) = some (wrapperOn r gates) ∧
      (∀ x, x ∈ c.nodeIds → (groupFlush c r next gates).1.opOf? x = c.opOf? x) := by
  have hcons : Consec (P r) next b := consec_iff_append.mpr ⟨A0, B', hP⟩
  have he := edgeFromReg_out g.inv hcons
  have hw := mkWrapper_eq (gates := gates) hrq (fun k hk => (hall k hk).1)
  obtain ⟨hwf, hq, hc⟩ := mkWrapper_wf hw
  rw [groupFlush_eq he hw]
  obtain ⟨P2, g2, e2, hP2, hoth, hnodes, _⟩ := insertOn_refines g hwf hq hc hP
  have hplain : PlainOp' (wrapperOn r gates) :=
    { labels := by intro l hl; simp [wrapperOn] at hl; subst hl; decide
      arity := by simp [wrapperOn]
      inner_base := by intro k hk; exact (hall k hk).2 }
  refine ⟨e2, P2, g2, hh.of_append hnodes hplain ⟨⟨r, rfl⟩, rfl⟩, hP2, hoth, ?_, ?_⟩
  · exact (opOf_eq_some g2.inv.ids_nodup).mpr (by rw [hnodes]; simp)
  · exact fun x hx => g.inv.opOf_append_fresh hnodes hx

theorem kindsOf_base {o : Op} (hwf : OpWF o) (hp : PlainOp' o) (hg : gOp o = true) :
    ∀ k ∈ kindsOf o, k.isOneQubitBase = true ∧ k ≠ .wrapper := by
  intro k hk
  unfold kindsOf at hk
  by_cases hw : o.kind = .wrapper
  · rw [if_pos hw] at hk
    exact ⟨(hwf.wrapper_shape hw).2.2 k hk, hp.inner_base k hk⟩
  · rw [if_neg hw] at hk
    simp at hk; subst hk
    unfold gOp at hg
    exact ⟨((Bool.and_eq_true _ _).mp hg).2, hw⟩

theorem groupable_congr {c c' : Dag} {P P' : Paths} (h : Inv c P) (h' : Inv c' P') {x : NodeId} (hx : c'.opOf? x = c.opOf? x) :
    c'.groupable x = c.groupable x := by
  rw [groupable_eq h, groupable_eq h', hx]

/-- after the groupable node `i` has been taken off the wire: what the rest of the walk keeps of `A` (its nodes that are not
    groupable, in order, with their operations) it keeps of `A ++ [i]` -/
theorem walk_frame {c cm c3 : Dag} {P Pm : Paths} (h : Inv c P) (hm : Inv cm Pm) {i : Nat} {A B Bm Q : List NodeId}
    (hgn : c.groupable (.op i) = true) (hold : ∀ x, x ≠ NodeId.op i → x ∈ c.nodeIds → cm.opOf? x = c.opOf? x)
    (hne : ∀ x ∈ A, x ≠ NodeId.op i) (hmem : ∀ x ∈ A, x ∈ c.nodeIds) (hB : B.Sublist Bm)
    (hsub : (A.filter (fun x => !cm.groupable x) ++ Bm).Sublist Q)
    (hkeep : ∀ x, x ∈ cm.nodeIds → (x ∈ A → cm.groupable x = false) → c3.opOf? x = cm.opOf? x) :
    ((A ++ [NodeId.op i]).filter (fun x => !c.groupable x) ++ B).Sublist Q ∧
    ∀ x, x ∈ c.nodeIds → (x ∈ A ++ [NodeId.op i] → c.groupable x = false) → c3.opOf? x = c.opOf? x := by
  constructor
  · refine List.Sublist.trans ?_ hsub
    rw [List.filter_append, show [NodeId.op i].filter (fun x => !c.groupable x) = [] by simp [hgn], List.append_nil,
      List.filter_congr (q := fun x => !cm.groupable x) fun x hx => by
        rw [groupable_congr h hm (hold x (hne x hx) (hmem x hx))]]
    exact List.Sublist.append_left hB _
  · intro x hxm hxg
    have hxne : x ≠ NodeId.op i := fun e => by
      have := hxg (by rw [e]; simp); rw [e, hgn] at this; simp at this
    have h2 := hold x hxne hxm
    rw [← h2]
    refine hkeep x (mem_nodeIds_of_opOf_eq h2 hxm) fun hxA => ?_
    rw [groupable_congr h hm h2]
    exact hxg (List.mem_append_left _ hxA)

/-- **the backward walk of `group_one_qubit_gates` on register `r`**, started at `node` with the wire
    `P r = A ++ node :: B` and pending gate list `gates`, on the operations seen through any view `f` the scan cannot tell from the
    operations themselves (`CregView`): it does not raise, keeps DagInv, turns the operations of `A ++ [node]` into `fuseBack` of them,
    leaves the operations of `B` and every other wire as they are; a classical wire is not changed at all (a groupable operation has
    no classical register).  The two conjuncts about the nodes that are not groupable — they stay on the wire, in order, with their
    operations — are what the loop over the registers needs to know that `groupable` means the same on the next register's walk. -/
theorem groupWalk_wires (r : Reg) {f : NodeId → Op → Op} (hV : CregView f) : ∀ (fuel : Nat) {c : Dag} {P : Paths}, Good c P → GroupHyp c →
    ∀ (A B : List NodeId) (node : NodeId) (gates : List Kind),
    P r = A ++ node :: B → B ≠ [] → A.length + 1 ≤ fuel →
    (gates ≠ [] → c.groupable node = true) → (∀ k ∈ gates, k.isOneQubitBase = true ∧ k ≠ .wrapper) →
    (groupWalk r fuel c node gates).2 = none ∧
    ∃ P', Good (groupWalk r fuel c node gates).1 P' ∧ GroupHyp (groupWalk r fuel c node gates).1 ∧
      wireOpsF f (groupWalk r fuel c node gates).1 (P' r) =
        fuseBack r (wireOpsF f c (A ++ [node])).reverse gates ++ wireOpsF f c B ∧
      (∀ k, k ≠ r → P' k = P k ∧ wireOpsF f (groupWalk r fuel c node gates).1 (P' k) = wireOpsF f c (P k)) ∧
      ((A ++ [node]).filter (fun x => !c.groupable x) ++ B).Sublist (P' r) ∧
      (∀ x, x ∈ c.nodeIds → (x ∈ A ++ [node] → c.groupable x = false) →
        (groupWalk r fuel c node gates).1.opOf? x = c.opOf? x) ∧
      (r.ty = .c → P' r = P r) := by
  intro fuel
  induction fuel with
  | zero => intro c P g hh A B node gates hP hB hf; omega
  | succ fuel ih =>
    intro c P g hh A B node gates hP hB hf hgates hall
    obtain ⟨hl, hA0, hA1⟩ := wire_pos_facts g.inv hP hB
    rcases List.eq_nil_or_concat A with hA | ⟨A0, next, hA⟩
    · -- at the input node
      subst hA
      have hn := hA0 rfl; subst hn
      have hin : (dictGet c.nodeDict "Input").contains (NodeId.inp r) = true := isInputNode_inp g.inv hl
      rw [groupWalk_input hin]
      have hg0 : gates = [] := by
        by_cases hne : gates = []
        · exact hne
        · exfalso
          have := hgates hne
          rw [groupable_inp g.inv] at this; simp at this
      subst hg0
      refine ⟨rfl, P, g, hh, ?_, fun k _ => ⟨rfl, rfl⟩, ?_, fun _ _ _ => rfl, fun _ => rfl⟩
      · rw [hP, show ([] : List NodeId) ++ NodeId.inp r :: B = [NodeId.inp r] ++ B from rfl, wireOpsF_append, wireOpsF_inp f]
        simp [wireOpsF_inp f, fuseBack, flushK_nil]
      · rw [hP]
        simp [groupable_inp g.inv]
    · -- at an operation node
      rw [List.concat_eq_append] at hA; subst hA
      obtain ⟨i, hi⟩ := hA1 (by simp); subst hi
      have hnode : NodeId.op i ∈ c.nodeIds := g.inv.mem_nodes r _ (by rw [hP]; simp)
      obtain ⟨o, hm⟩ := mem_nodeIds.mp hnode
      have hwfo := g.inv.op_wf i o hm
      have hnin : ¬ (dictGet c.nodeDict "Input").contains (NodeId.op i) = true := by
        intro hcon
        have h1 : isInputNode c (.op i) := hcon
        rw [isInputNode_iff g.inv] at h1
        unfold keysAt at h1
        rw [(opOf_eq_some g.inv.ids_nodup).mpr hm] at h1
        exact input_not_key hwfo (hh.plain i o hm).toPlainOp h1
      have hP' : P r = A0 ++ next :: NodeId.op i :: B := by rw [hP]; simp
      have hedge := edgeFromReg_in g.inv (consec_iff_append.mpr ⟨A0, B, hP'⟩)
      have hrev : (wireOpsF f c ((A0 ++ [next]) ++ [NodeId.op i])).reverse = f (.op i) o :: (wireOpsF f c (A0 ++ [next])).reverse := by
        rw [wireOpsF_append, wireOpsF_op g.inv.ids_nodup hm]; simp
      rw [hrev]
      have hlenf : A0.length + 1 ≤ fuel := by simp at hf; omega
      obtain ⟨_, _, hcut⟩ := g.inv.cut hP
      have hneA : ∀ x ∈ A0 ++ [next], x ≠ NodeId.op i := fun x hx => (hcut x (List.mem_append_left _ hx)).1
      have hmemA : ∀ x ∈ A0 ++ [next], x ∈ c.nodeIds := fun x hx => (hcut x (List.mem_append_left _ hx)).2
      obtain ⟨_, hN0, hN1⟩ := wire_pos_facts g.inv hP' (by simp)
      by_cases hg : gOp o = true
      · -- groupable: the node is removed, its classes are appended
        have hgn : c.groupable (.op i) = true := by rw [groupable_op g.inv hm]; exact hg
        obtain ⟨e1, hrq, hq, P1, g1, hh1, hP1, hoth1, hold1⟩ := group_remove_step g hh hP hm hg
        have ht := groupTake_pos hgn ((opOf_eq_some g.inv.ids_nodup).mpr hm) gates
        rw [e1] at ht
        rw [groupWalk_step hnin hedge ht]
        simp only
        have hall1 : ∀ k ∈ gates ++ kindsOf o, k.isOneQubitBase = true ∧ k ≠ .wrapper := by
          intro k hk
          rcases List.mem_append.mp hk with hk | hk
          · exact hall k hk
          · exact kindsOf_base hwfo (hh.plain i o hm) hg k hk
        have hfb : fuseBack r (f (.op i) o :: (wireOpsF f c (A0 ++ [next])).reverse) gates =
            fuseBack r (wireOpsF f c (A0 ++ [next])).reverse (gates ++ kindsOf o) := by
          simp only [fuseBack, hV.gOp_eq, hV.kindsOf_eq, hg, if_true]
        rw [hfb]
        obtain ⟨hwA, hwB⟩ := wireOpsF_cut (f := f) g.inv hold1 hP
        have hwK : ∀ k, k ≠ r → wireOpsF f (c.removeOp (.op i)).1 (P k) = wireOpsF f c (P k) := fun k hk =>
          wireOpsF_congr (fun x hx => hold1 x (fun e => (hoth1 k hk).2 (e ▸ hx)) (g.inv.mem_nodes k x hx))
        by_cases hcond : (!((c.removeOp (.op i)).1.groupable next) && !(gates ++ kindsOf o).isEmpty) = true
        · -- the run ends here: flush
          rw [if_pos hcond]
          have hc1 : (c.removeOp (.op i)).1.groupable next = false := by
            have := (Bool.and_eq_true _ _).mp hcond; simpa using this.1
          have hne1 : gates ++ kindsOf o ≠ [] := by
            have := (Bool.and_eq_true _ _).mp hcond
            intro e; rw [e] at this; simp at this
          cases B with
          | nil => exact absurd rfl hB
          | cons b B' =>
            have hP1' : P1 r = A0 ++ next :: b :: B' := by rw [hP1]; simp
            obtain ⟨e2, P2, g2, hh2, hP2, hoth2, hnew2, hold2⟩ := group_flush_step g1 hh1 hrq hP1' hall1
            cases hfl : groupFlush (c.removeOp (.op i)).1 r next (gates ++ kindsOf o) with
            | mk c2 err2 =>
              rw [hfl] at e2 g2 hh2 hnew2 hold2
              simp only at e2 g2 hh2 hnew2 hold2
              subst e2
              simp only
              obtain ⟨e3, P3, g3, hh3, hw3, hoth3, hsub3, hkeep3, hcl3⟩ := ih g2 hh2 A0 (.op ((c.removeOp (.op i)).1.nodeId + 1) :: b :: B') next []
                hP2 (by simp) hlenf (by simp) (by simp)
              have hmem1 : ∀ x, x ≠ NodeId.op i → x ∈ c.nodeIds → c2.opOf? x = c.opOf? x := fun x hx hxm =>
                (hold2 x (mem_nodeIds_of_opOf_eq (hold1 x hx hxm) hxm)).trans (hold1 x hx hxm)
              obtain ⟨hsub, hkeep⟩ := walk_frame g.inv g2.inv hgn hmem1 hneA hmemA (List.Sublist.cons _ (List.Sublist.refl _)) hsub3 hkeep3
              refine ⟨e3, P3, g3, hh3, ?_, ?_, hsub, hkeep, fun h => absurd h hrq⟩
              · rw [hw3]
                obtain ⟨hwA2, hwB2⟩ := wireOpsF_cut (f := f) g.inv hmem1 hP
                have hnewops : wireOpsF f c2 [NodeId.op ((c.removeOp (.op i)).1.nodeId + 1)] = [wrapperOn r (gates ++ kindsOf o)] := by
                  simp only [wireOpsF, List.filterMap_cons, hnew2, Option.map_some, List.filterMap_nil]; rw [hV.of_cregs_nil _ _ rfl]
                have hsplit : NodeId.op ((c.removeOp (.op i)).1.nodeId + 1) :: b :: B' =
                    [NodeId.op ((c.removeOp (.op i)).1.nodeId + 1)] ++ (b :: B') := rfl
                rw [hwA2, hsplit, wireOpsF_append f c2 [NodeId.op ((c.removeOp (.op i)).1.nodeId + 1)] (b :: B'), hnewops, hwB2]
                -- the node before is not groupable (or the input)
                have hhead : (wireOpsF f c (A0 ++ [next])).reverse = [] ∨
                    ∃ a t, (wireOpsF f c (A0 ++ [next])).reverse = a :: t ∧ gOp a = false := by
                  by_cases hA0e : A0 = []
                  · left
                    have := hN0 hA0e
                    subst hA0e; subst this
                    simp [wireOpsF_inp f]
                  · right
                    obtain ⟨j, hj⟩ := hN1 hA0e
                    subst hj
                    have hjn : NodeId.op j ∈ c.nodeIds := hmemA _ (by simp)
                    obtain ⟨oj, hmj⟩ := mem_nodeIds.mp hjn
                    have hjne : NodeId.op j ≠ NodeId.op i := hneA _ (by simp)
                    have h1 := hold1 _ hjne hjn
                    rw [(opOf_eq_some g.inv.ids_nodup).mpr hmj] at h1
                    have hmj1 := (opOf_eq_some g1.inv.ids_nodup).mp h1
                    rw [groupable_op g1.inv hmj1] at hc1
                    refine ⟨f (.op j) oj, (wireOpsF f c A0).reverse, ?_, by rw [hV.gOp_eq]; exact hc1⟩
                    rw [wireOpsF_append, wireOpsF_op g.inv.ids_nodup hmj]; simp
                rw [fuseBack_head_ng r _ hhead (gates ++ kindsOf o)]
                simp [flushK, hne1]
              · intro k hk
                obtain ⟨p3, w3⟩ := hoth3 k hk
                refine ⟨p3.trans ((hoth2 k hk).trans (hoth1 k hk).1), ?_⟩
                rw [w3, hoth2 k hk, (hoth1 k hk).1, ← hwK k hk]
                apply wireOpsF_congr
                intro x hx
                have hxm := g.inv.mem_nodes k x hx
                have hxne : x ≠ NodeId.op i := fun e => (hoth1 k hk).2 (e ▸ hx)
                exact hold2 x (mem_nodeIds_of_opOf_eq (hold1 x hxne hxm) hxm)
        · -- the run goes on (or nothing is pending)
          rw [if_neg hcond]
          have hpend : gates ++ kindsOf o ≠ [] → (c.removeOp (.op i)).1.groupable next = true := by
            intro hne
            by_cases hng : (c.removeOp (.op i)).1.groupable next = true
            · exact hng
            · exfalso
              apply hcond
              have : (gates ++ kindsOf o).isEmpty = false := by simpa using hne
              simp [hng, this]
          have hP1' : P1 r = A0 ++ next :: B := by rw [hP1]; simp
          obtain ⟨e3, P3, g3, hh3, hw3, hoth3, hsub3, hkeep3, hcl3⟩ := ih g1 hh1 A0 B next (gates ++ kindsOf o) hP1' hB hlenf hpend hall1
          obtain ⟨hsub, hkeep⟩ := walk_frame g.inv g1.inv hgn hold1 hneA hmemA (List.Sublist.refl _) hsub3 hkeep3
          refine ⟨e3, P3, g3, hh3, ?_, ?_, hsub, hkeep, fun h => absurd h hrq⟩
          · rw [hw3, hwA, hwB]
          · intro k hk
            obtain ⟨p3, w3⟩ := hoth3 k hk
            exact ⟨p3.trans (hoth1 k hk).1, by rw [w3, (hoth1 k hk).1, hwK k hk]⟩
      · -- not groupable: a boundary; nothing is pending
        have hg' : gOp o = false := by simpa using hg
        have hgn : c.groupable (.op i) = false := by rw [groupable_op g.inv hm]; exact hg'
        have hg0 : gates = [] := by
          by_cases hne : gates = []
          · exact hne
          · exfalso
            have := hgates hne
            rw [hgn] at this; simp at this
        subst hg0
        have ht := groupTake_neg hgn []
        rw [groupWalk_step hnin hedge ht]
        simp only [List.isEmpty_nil, Bool.not_true, Bool.and_false, Bool.false_eq_true, if_false]
        obtain ⟨e3, P3, g3, hh3, hw3, hoth3, hsub3, hkeep3, hcl3⟩ := ih g hh A0 (.op i :: B) next [] hP' (by simp) hlenf (by simp) (by simp)
        refine ⟨e3, P3, g3, hh3, ?_, hoth3, ?_, ?_, hcl3⟩
        · rw [hw3, show NodeId.op i :: B = [NodeId.op i] ++ B from rfl, wireOpsF_append f c [NodeId.op i] B, wireOpsF_op g.inv.ids_nodup hm]
          simp [fuseBack, hV.gOp_eq, hg', flushK_nil]
        · refine List.Sublist.trans ?_ hsub3
          rw [List.filter_append, show [NodeId.op i].filter (fun x => !c.groupable x) = [NodeId.op i] by simp [hgn]]
          simp
        · intro x hxm hxg
          exact hkeep3 x hxm (fun hxA => hxg (List.mem_append_left _ hxA))

end Dag
end Graphiq
