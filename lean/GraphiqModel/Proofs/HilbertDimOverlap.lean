/-
  Proofs/HilbertDimOverlap.lean — the overlap of two stabilizer states, in Hilbert space.

  * `stabilizer_overlap` : `tr(ρ_a ρ_b) = 0` if `Orth` (some `P` in one group, `−P` in the other), and otherwise
    `= commonCount / 2^n` — the brute-force group-level specification of `Model/OverlapSpec.lean` (the quantity the C05 harness
    compares with graphiq's `fidelity`) *is* the Hilbert-space overlap; `commonCount = 2^d` for a common subgroup of rank `d`;
  * `trace_ket_overlap` : for `ρ = |ψ⟩⟨ψ|`, `tr(ρ_a ρ_b) = |⟨ψ_a|ψ_b⟩|²`.
-/
import GraphiqModel.Proofs.HilbertDimGroupSum
namespace Graphiq
namespace Hilbert
open Matrix PRow TabSpec Tab STab

/-- **The stabilizer overlap.**  `A`, `B` the stabilizer halves of two valid tableaux on `n` qubits.
    If `Orth A B` (some `P ∈ A` with `−P ∈ B`) the states are orthogonal; otherwise
    `tr(ρ_a ρ_b) = commonCount A B / 2^n`, the number of elements of `A` that lie in `B`, over `2^n`. -/
theorem stabilizer_overlap (a b : Tab) (hn : a.n = b.n) (va : a.Valid) (ra : a.StabReal) (vb : b.Valid)
    (rb : b.StabReal) :
    (Orth (STab.ofTab a) (STab.ofTab b) → Matrix.trace (rho b.n (STab.ofTab a) * rho b.n (STab.ofTab b)) = 0) ∧
    (¬ Orth (STab.ofTab a) (STab.ofTab b) →
      Matrix.trace (rho b.n (STab.ofTab a) * rho b.n (STab.ofTab b))
        = ((STab.ofTab a).commonCount (STab.ofTab b) : ℂ) / 2 ^ b.n) := by
  have ga := ofTab_good a va
  have gb := ofTab_good b vb
  constructor
  · rintro ⟨P, hPa, hPb⟩
    have hPa' : Grp a P := (spn_of_grp a ra P).mpr hPa
    have hPb' : Grp b (negate P) := (spn_of_grp b rb _).mpr hPb
    rw [rho_mul_eq_zero_of_orth b.n a b hn rfl va ra vb rb P hPa' hPb', Matrix.trace_zero]
  · intro hno
    rw [trace_rho_mul_rho a b hn va vb rb]
    have hterm : ∀ m, expVal b (mprod b.n (STab.ofTab a).row m b.n)
        = if (STab.ofTab a).commonB (STab.ofTab b) m = true then 1 else 0 := by
      intro m
      have hiff := commonB_iff (STab.ofTab a) (STab.ofTab b) gb hn m
      have e1 : (STab.ofTab a).n = b.n := hn
      rw [e1] at hiff
      have hspn : (STab.ofTab a).Spn (mprod b.n (STab.ofTab a).row m b.n) := by
        rw [← hn, mprod_eq_sprod]; exact STab.sprod_spn (STab.ofTab a) _ a.n (Nat.le_refl _)
      unfold expVal
      by_cases h1 : Grp b (mprod b.n (STab.ofTab a).row m b.n)
      · rw [if_pos h1, if_pos (hiff.mpr ((spn_of_grp b rb _).mp h1))]
      · have h2 : ¬ Grp b (negate (mprod b.n (STab.ofTab a).row m b.n)) := by
          intro h
          exact hno ⟨_, hspn, (spn_of_grp b rb _).mp h⟩
        rw [if_neg h1, if_neg h2, if_neg (fun h => h1 ((spn_of_grp b rb _).mpr (hiff.mp h)))]
    rw [Finset.sum_congr rfl (fun m _ => hterm m), Finset.sum_boole]
    have hcount : (Finset.filter (fun m => (STab.ofTab a).commonB (STab.ofTab b) m = true) (Finset.range (2 ^ b.n))).card
        = (STab.ofTab a).commonCount (STab.ofTab b) := by
      unfold STab.commonCount
      have e1 : (STab.ofTab a).n = b.n := hn
      rw [e1, ← List.toFinset_card_of_nodup (List.Nodup.filter _ List.nodup_range)]
      congr 1
      ext m
      simp
    rw [hcount, one_div, inv_pow, div_eq_inv_mul]

/-- **`|A ∩ B| = 2^d`**: with independent generators (`a` valid) the number of subset products of `A`'s rows that lie in `B`
    is `2^d` when the common subgroup has an independent generating set of `d` elements -/
theorem commonCount_eq_two_pow (a b : Tab) (hn : a.n = b.n) (va : a.Valid) (ra : a.StabReal) (vb : b.Valid)
    (d : Nat) (gens : Nat → PRow) (hb : IsOverlapBasis (STab.ofTab a) (STab.ofTab b) d gens) :
    (STab.ofTab a).commonCount (STab.ofTab b) = 2 ^ d :=
  STab.commonCount_eq _ _ (ofTab_good a va) (ofTab_good b vb) (ofTab_indep a va) hn d ⟨gens, hb⟩

/-- **The overlap of two stabilizer states** in the vocabulary of the C05 fidelity theorems: not `Orth`, common subgroup of
    rank `d` ⇒ `tr(ρ_a ρ_b) = 2^d / 2^n`, and `d ≤ n` so this is `(1/2)^(n-d)` -/
theorem stabilizer_overlap_dim (a b : Tab) (hn : a.n = b.n) (va : a.Valid) (ra : a.StabReal) (vb : b.Valid)
    (rb : b.StabReal) (d : Nat) (hno : ¬ Orth (STab.ofTab a) (STab.ofTab b))
    (hd : OverlapDim (STab.ofTab a) (STab.ofTab b) d) :
    d ≤ b.n ∧ Matrix.trace (rho b.n (STab.ofTab a) * rho b.n (STab.ofTab b)) = (1 / 2 : ℂ) ^ (b.n - d) := by
  obtain ⟨gens, hb⟩ := hd
  have hc := commonCount_eq_two_pow a b hn va ra vb d gens hb
  have hle : d ≤ b.n := by
    have h1 : (STab.ofTab a).commonCount (STab.ofTab b) ≤ 2 ^ a.n := by
      unfold STab.commonCount
      have := List.length_filter_le ((STab.ofTab a).commonB (STab.ofTab b)) (List.range (2 ^ (STab.ofTab a).n))
      rw [List.length_range] at this
      exact this
    rw [hc, hn] at h1
    exact (Nat.pow_le_pow_iff_right (by decide)).1 h1
  refine ⟨hle, ?_⟩
  rw [(stabilizer_overlap a b hn va ra vb rb).2 hno, hc]
  have h2 : (2 : ℂ) ^ b.n = 2 ^ (b.n - d) * 2 ^ d := by
    rw [← pow_add]; congr 1; omega
  push_cast
  rw [h2, one_div, inv_pow, div_mul_cancel_right₀ (pow_ne_zero d two_ne_zero)]

theorem trace_ket_overlap {ι : Type} [Fintype ι] (ψ φ : ι → ℂ) :
    Matrix.trace (Matrix.vecMulVec ψ (star ψ) * Matrix.vecMulVec φ (star φ))
      = ((Complex.normSq (star ψ ⬝ᵥ φ) : ℝ) : ℂ) := by
  rw [Matrix.vecMulVec_mul_vecMulVec, Matrix.trace_vecMulVec, dotProduct_smul, smul_eq_mul, dotProduct_comm ψ (star φ),
    Complex.normSq_eq_conj_mul_self]
  have : (starRingEnd ℂ) (star ψ ⬝ᵥ φ) = star φ ⬝ᵥ ψ := by
    rw [starRingEnd_apply, ← star_dotProduct_star, star_star, dotProduct_comm]
  rw [this, _root_.mul_comm]

end Hilbert
end Graphiq
