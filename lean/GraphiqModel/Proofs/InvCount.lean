/-
  Proofs/InvCount.lean — what `inverse_circuit` emits: six segments, each a sublist of the gates its loop can emit
  (`inverseCircuit_emits`: Hadamards of block 1, CNOTs, CZs, phase gates, Hadamards, X gates).  Read off it: the gate count
  (the two triangular blocks run over `n(n-1)/2` pairs each, so at most `n + n(n-1) + 3n = n² + 3n` gates) and the shape
  `H* · CNOT* · CZ* · P* · H* · X*` of the list.
-/
import GraphiqModel.Proofs.InvBlock1
namespace Graphiq
open PRow Tab
namespace STab

/-! ### the number of pairs `j < k < n` -/

theorem length_filter_gt (n j : Nat) : ((List.range n).filter (fun k => decide (j < k))).length = n - (j + 1) := by
  induction n with
  | zero => simp
  | succ m ih =>
    rw [List.range_succ, List.filter_append, List.length_append, ih]
    by_cases h : j < m
    · rw [List.filter_cons_of_pos (by simpa using h)]; simp only [List.filter_nil, List.length_singleton]; omega
    · rw [List.filter_cons_of_neg (by simpa using h)]; simp only [List.filter_nil, List.length_nil]; omega

/-- `Σ_{j<m} (n − (j+1))` in closed form (doubled, no subtraction) -/
theorem sum_tri (n m : Nat) (h : m ≤ n) :
    2 * ((List.range m).map (fun j => n - (j + 1))).sum + m * m + m = 2 * m * n := by
  induction m with
  | zero => simp
  | succ k ih =>
    have ih' := ih (by omega)
    rw [List.range_succ, List.map_append, List.sum_append]
    simp only [List.map_cons, List.map_nil, List.sum_cons, List.sum_nil, Nat.add_zero]
    obtain ⟨d, rfl⟩ : ∃ d, n = k + 1 + d := ⟨n - (k + 1), by omega⟩
    -- multiplied out, both sides are linear in `k * k` and `k * d`
    simp only [Nat.mul_assoc, Nat.mul_add, Nat.add_mul, Nat.mul_one, Nat.one_mul] at ih' ⊢
    omega

/-- **the triangular loops run over `n(n−1)/2` pairs** -/
theorem pairsLt_length (n : Nat) : 2 * (pairsLt n).length + n = n * n := by
  have e : (pairsLt n).length = ((List.range n).map (fun j => n - (j + 1))).sum := by
    unfold pairsLt
    rw [List.length_flatMap]
    congr 1
    apply List.map_congr_left
    intro j _
    rw [List.length_map]
    exact length_filter_gt n j
  have := sum_tri n n (Nat.le_refl _)
  rw [e]
  simp only [Nat.mul_assoc] at this
  omega

/-! ### what the loops emit -/

theorem foldl_emits_sublist {α : Type} (step : InvState → α → InvState) (G : α → Gate)
    (hstep : ∀ s x, (step s x).circ = s.circ ∨ (step s x).circ = s.circ ++ [G x]) (l : List α) (s : InvState) :
    ∃ L, (l.foldl step s).circ = s.circ ++ L ∧ L.Sublist (l.map G) := by
  induction l generalizing s with
  | nil => exact ⟨[], (List.append_nil _).symm, List.Sublist.refl _⟩
  | cons x rest ih =>
    obtain ⟨L, e, sub⟩ := ih (step s x)
    rcases hstep s x with h | h
    · exact ⟨L, by rw [List.foldl_cons, e, h], sub.cons _⟩
    · exact ⟨G x :: L, by rw [List.foldl_cons, e, h, List.append_assoc]; rfl, sub.cons_cons _⟩

theorem ite_gate_emits (c : Bool) (s : InvState) (g : Gate) :
    (if c then s.gate g else s).circ = s.circ ∨ (if c then s.gate g else s).circ = s.circ ++ [g] := by
  cases c
  · exact Or.inl rfl
  · exact Or.inr rfl

theorem invStep6_circ (s : InvState) (x : Nat × Nat) : (invStep6 s x).circ.length ≤ s.circ.length + 1 := by
  unfold invStep6; split
  · rw [rsum_circ]; omega
  · omega

theorem block6_circ (l : List (Nat × Nat)) (s : InvState) : (l.foldl invStep6 s).circ = s.circ := by
  refine Loop.foldl_inv (f := invStep6) (fun s' => s'.circ = s.circ) (fun s' x _ h => ?_) rfl
  rw [← h]
  unfold invStep6
  split <;> rfl

theorem invStep1_emits (n : Nat) (st st' : InvState) (j : Nat) (h : invStep1 n st j = .ok st') :
    st'.circ = st.circ ++ [Gate.H j] ∨ st'.circ = st.circ := by
  rcases invStep1_cases n st st' j h with ⟨f, _, _, _, e⟩ | ⟨_, e⟩ | ⟨f, _, _, _, e⟩
  · right; rw [e, swap_circ]
  · right; rw [e]
  · rw [e]
    split
    · left; show (invClear n j (st.swap j f)).circ ++ [Gate.H j] = _; rw [invClear_circ, swap_circ]
    · right; rw [invClear_circ, swap_circ]

theorem invBlock1_emits (t0 : STab) (s1 : InvState) (h : invBlock1 t0 = .ok s1) :
    s1.circ.Sublist ((List.range t0.n).map Gate.H) :=
  Loop.foldlM_range (fun i s => s.circ.Sublist ((List.range i).map Gate.H))
    (fun i s s1 _ hp e => by
      rw [List.range_succ, List.map_append]
      rcases invStep1_emits t0.n s s1 i e with e1 | e1
      · rw [e1]; exact hp.append (List.Sublist.refl _)
      · rw [e1]; exact hp.trans (List.sublist_append_left _ _)) (List.Sublist.refl _) h

theorem invRest_emits (n : Nat) (s1 : InvState) : ∃ l2 l3 l4 l5 l6,
    (invRest n s1).circ = s1.circ ++ l2 ++ l3 ++ l4 ++ l5 ++ l6 ∧
    l2.Sublist ((pairsLt n).map fun jk => Gate.CNOT jk.1 jk.2) ∧ l3.Sublist ((pairsLt n).map fun jk => Gate.CZ jk.1 jk.2) ∧
    l4.Sublist ((List.range n).map Gate.P) ∧ l5.Sublist ((List.range n).map Gate.H) ∧
    l6.Sublist ((List.range n).map Gate.X) := by
  unfold invRest
  simp only
  obtain ⟨l2, e2, p2⟩ := foldl_emits_sublist invStep2 (fun jk => Gate.CNOT jk.1 jk.2) (fun s _ => ite_gate_emits _ s _) (pairsLt n) s1
  generalize (pairsLt n).foldl invStep2 s1 = s2 at e2 ⊢
  obtain ⟨l3, e3, p3⟩ := foldl_emits_sublist invStep3 (fun jk => Gate.CZ jk.1 jk.2) (fun s _ => ite_gate_emits _ s _) (pairsLt n) s2
  generalize (pairsLt n).foldl invStep3 s2 = s3 at e3 ⊢
  obtain ⟨l4, e4, p4⟩ := foldl_emits_sublist invStep4 Gate.P (fun s _ => ite_gate_emits _ s _) (List.range n) s3
  generalize (List.range n).foldl invStep4 s3 = s4 at e4 ⊢
  obtain ⟨l5, e5, p5⟩ := foldl_emits_sublist invStep5 Gate.H (fun s _ => ite_gate_emits _ s _) (List.range n) s4
  generalize (List.range n).foldl invStep5 s4 = s5 at e5 ⊢
  have e6 := block6_circ (pairsLt n) s5
  generalize (pairsLt n).foldl invStep6 s5 = s6 at e6 ⊢
  obtain ⟨l6, e7, p7⟩ := foldl_emits_sublist invStep7 Gate.X (fun _ _ => Or.inr rfl) ((List.range n).filter fun i => (s6.t.row i).r) s6
  exact ⟨l2, l3, l4, l5, l6, by rw [e7, e6, e5, e4, e3, e2], p2, p3, p4, p5, p7.trans (List.filter_sublist.map _)⟩

theorem inverseCircuit_emits (t t' : STab) (circ : List Gate) (h : t.inverseCircuit = .ok (t', circ)) :
    ∃ l1 l2 l3 l4 l5 l6, circ = l1 ++ l2 ++ l3 ++ l4 ++ l5 ++ l6 ∧ l1.Sublist ((List.range t.n).map Gate.H) ∧
      l2.Sublist ((pairsLt t.n).map fun jk => Gate.CNOT jk.1 jk.2) ∧
      l3.Sublist ((pairsLt t.n).map fun jk => Gate.CZ jk.1 jk.2) ∧ l4.Sublist ((List.range t.n).map Gate.P) ∧
      l5.Sublist ((List.range t.n).map Gate.H) ∧ l6.Sublist ((List.range t.n).map Gate.X) := by
  obtain ⟨t0, s, hc, hs, _, e2⟩ := inverseCircuit_eq t t' circ h
  have hn : t0.n = t.n := canonicalForm_n t t0 hc
  obtain ⟨s1, h1, hs⟩ := invBlocks_ok t0 s hs
  have p1 := invBlock1_emits t0 s1 h1
  obtain ⟨l2, l3, l4, l5, l6, e, p⟩ := invRest_emits t0.n s1
  rw [hn] at p1 p
  exact ⟨s1.circ, l2, l3, l4, l5, l6, by rw [← e2, ← hs, e], p1, p⟩

/-- **gate count of `inverse_circuit`**: at most `n² + 3n` gates -/
theorem inverseCircuit_length (t t' : STab) (circ : List Gate) (h : t.inverseCircuit = .ok (t', circ)) :
    circ.length ≤ t.n * t.n + 3 * t.n := by
  obtain ⟨l1, l2, l3, l4, l5, l6, e, p1, p2, p3, p4, p5, p6⟩ := inverseCircuit_emits t t' circ h
  have h1 := p1.length_le
  have h2 := p2.length_le
  have h3 := p3.length_le
  have h4 := p4.length_le
  have h5 := p5.length_le
  have h6 := p6.length_le
  have hp := pairsLt_length t.n
  rw [List.length_map] at h2 h3
  rw [List.length_map, List.length_range] at h1 h4 h5 h6
  rw [e]
  simp only [List.length_append]
  omega

/-- **the gate list of `inverse_circuit` is `H* · CNOT* · CZ* · P* · H* · X*`** -/
theorem inverseCircuit_shape (t t' : STab) (circ : List Gate) (h : t.inverseCircuit = .ok (t', circ)) :
    ∃ l1 l2 l3 l4 l5 l6, circ = l1 ++ l2 ++ l3 ++ l4 ++ l5 ++ l6 ∧
      (∀ g, g ∈ l1 → ∃ q, q < t.n ∧ g = .H q) ∧ (∀ g, g ∈ l2 → ∃ c k, c < k ∧ k < t.n ∧ g = .CNOT c k) ∧
      (∀ g, g ∈ l3 → ∃ c k, c < k ∧ k < t.n ∧ g = .CZ c k) ∧ (∀ g, g ∈ l4 → ∃ q, q < t.n ∧ g = .P q) ∧
      (∀ g, g ∈ l5 → ∃ q, q < t.n ∧ g = .H q) ∧ (∀ g, g ∈ l6 → ∃ q, q < t.n ∧ g = .X q) := by
  obtain ⟨l1, l2, l3, l4, l5, l6, e, p1, p2, p3, p4, p5, p6⟩ := inverseCircuit_emits t t' circ h
  have pair : ∀ {l : List Gate} {G : Nat → Nat → Gate}, l.Sublist ((pairsLt t.n).map fun jk => G jk.1 jk.2) →
      ∀ g, g ∈ l → ∃ c k, c < k ∧ k < t.n ∧ g = G c k := fun p g hg => by
    obtain ⟨jk, hm, e⟩ := List.mem_map.mp (p.subset hg)
    exact ⟨jk.1, jk.2, (mem_pairsLt t.n jk hm).1, (mem_pairsLt t.n jk hm).2, e.symm⟩
  have one : ∀ {l : List Gate} {G : Nat → Gate}, l.Sublist ((List.range t.n).map G) →
      ∀ g, g ∈ l → ∃ q, q < t.n ∧ g = G q := fun p g hg => by
    obtain ⟨q, hm, e⟩ := List.mem_map.mp (p.subset hg)
    exact ⟨q, List.mem_range.mp hm, e.symm⟩
  exact ⟨l1, l2, l3, l4, l5, l6, e, one p1, pair p2, pair p3, one p4, one p5, one p6⟩

end STab
end Graphiq
