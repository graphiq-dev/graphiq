/-
  Proofs/LCLocalClifford.lean — solution vectors as local symplectic maps: equation `(j, k)` of the linear system says that
  `Q K_j(A)` commutes with `K_k(B)` (`equation_eq_sp`); one local complementation is realised by the explicit `lcQ`; solutions
  compose blockwise (`equation_trans`), so every graph in the LC orbit is reached by a valid `Q` (the elementary direction of
  Van den Nest's theorem).
-/
import GraphiqModel.Proofs.LC
namespace Graphiq.LC
open Graphiq PRow

/-! ### the local symplectic map of a solution vector, and what an equation of the system says -/

/-- the local symplectic map of a solution vector on the bits of a Pauli row: block `[[a_j, b_j], [c_j, d_j]]` of qubit `j`
    acts on the column vector `(z_j; x_j)` (signs are not tracked) -/
def actQ (q : Nat → Bool) (p : PRow) : PRow :=
  { p with z := fun j => xor (q (4 * j) && p.z j) (q (4 * j + 1) && p.x j)
           x := fun j => xor (q (4 * j + 2) && p.z j) (q (4 * j + 3) && p.x j) }

theorem sp_graphGen (n : Nat) (B : Adj) (k : Nat) (hk : k < n) (p : PRow) :
    sp n (graphGen B k) p = xor (p.z k) (parityTo n fun j => B k j && p.x j) := by
  unfold sp graphGen
  simp only []
  rw [parityTo_xor, parityTo_single n k _ hk]

/-- **a row that commutes with every `K_k(B)` has `z = B x`**: it is, up to sign, the product of the generators selected by its
    X part -/
theorem z_of_commuting (n : Nat) (B : Adj) (p : PRow) (k : Nat) (hk : k < n) (h : sp n (graphGen B k) p = false) :
    p.z k = parityTo n fun j => B k j && p.x j := by
  rw [sp_graphGen n B k hk] at h
  revert h
  cases p.z k <;> cases parityTo n _ <;> simp

/-- the Boolean identity behind `equation_eq_sp` (the `b` terms meet only on the diagonal `j = k`) -/
theorem eq_sp_bits : ∀ s ajk a bjk d djk b b' : Bool, (djk = true → b = b') →
    xor (xor s (ajk && a)) (xor (bjk && d) (djk && b)) = xor (xor (a && ajk) (b' && djk)) (xor s (bjk && d)) := by
  decide +kernel

theorem equation_eq_sp (n : Nat) (A B : Adj) (hA : Simple n A) (hB : Simple n B) (q : Nat → Bool) (j k : Nat)
    (hj : j < n) (hk : k < n) : equation n A B q j k = sp n (graphGen B k) (actQ q (graphGen A j)) := by
  rw [sp_graphGen n B k hk]
  have e : (parityTo n fun m => B k m && (actQ q (graphGen A j)).x m) =
      xor (parityTo n fun m => A m j && B m k && q (4 * m + 2)) (B j k && q (4 * j + 3)) := by
    rw [← parityTo_single n j (fun m => B m k && q (4 * m + 3)) hj, ← parityTo_xor]
    apply parityTo_congr
    intro m hm
    show (B k m && xor (q (4 * m + 2) && A j m) (q (4 * m + 3) && decide (m = j))) = _
    rw [hB.1 k m hk hm, hA.1 j m hj hm]
    cases B m k <;> cases A m j <;> cases q (4 * m + 2) <;> cases q (4 * m + 3) <;> cases decide (m = j) <;> rfl
  rw [e]
  show xor (xor _ (A j k && q (4 * k))) (xor (B j k && q (4 * j + 3)) (decide (j = k) && q (4 * j + 1))) =
    xor (xor (q (4 * k) && A j k) (q (4 * k + 1) && decide (k = j))) _
  rw [decide_eq_decide.mpr (⟨Eq.symm, Eq.symm⟩ : k = j ↔ j = k)]
  exact eq_sp_bits _ _ _ _ _ _ _ _ fun h => by rw [of_decide_eq_true h]

theorem sp_linear (n : Nat) (a : PRow) (w : Nat → Bool) (r : Nat → PRow) (p : PRow)
    (hz : ∀ m, m < n → p.z m = parityTo n fun l => w l && (r l).z m)
    (hx : ∀ m, m < n → p.x m = parityTo n fun l => w l && (r l).x m) :
    sp n a p = parityTo n fun l => w l && sp n a (r l) := by
  unfold sp
  have e1 : ∀ m, m < n → xor (a.x m && p.z m) (a.z m && p.x m) =
      parityTo n fun l => w l && xor (a.x m && (r l).z m) (a.z m && (r l).x m) := by
    intro m hm
    rw [hz m hm, hx m hm, ← parityTo_and_const, ← parityTo_and_const, ← parityTo_xor]
    apply parityTo_congr
    intro l _
    cases a.x m <;> cases a.z m <;> cases w l <;> cases (r l).z m <;> cases (r l).x m <;> rfl
  rw [parityTo_congr n _ _ e1, parityTo_fubini]
  apply parityTo_congr
  intro l _
  rw [parityTo_and_const]

/-! ### one local complementation is realised by an explicit local Clifford (the easy direction of Van den Nest's theorem, one step) -/

/-- the solution vector for `A → localComp A v`: the block `[[1,0],[1,1]]` at `v`, `[[1,1],[0,1]]` at the neighbours of `v`,
    the identity elsewhere -/
def lcQ (A : Adj) (v : Nat) (idx : Nat) : Bool :=
  if idx % 4 = 1 then A v (idx / 4) else if idx % 4 = 2 then decide (idx / 4 = v) else true

theorem lcQ_0 (A : Adj) (v m : Nat) : lcQ A v (4 * m) = true := by
  unfold lcQ; rw [if_neg (by omega), if_neg (by omega)]
theorem lcQ_1 (A : Adj) (v m : Nat) : lcQ A v (4 * m + 1) = A v m := by
  unfold lcQ; rw [if_pos (by omega)]; congr 1; omega
theorem lcQ_2 (A : Adj) (v m : Nat) : lcQ A v (4 * m + 2) = decide (m = v) := by
  unfold lcQ; rw [if_neg (by omega), if_pos (by omega)]
  have : (4 * m + 2) / 4 = m := by omega
  rw [this]
theorem lcQ_3 (A : Adj) (v m : Nat) : lcQ A v (4 * m + 3) = true := by
  unfold lcQ; rw [if_neg (by omega), if_neg (by omega)]

theorem lcQ_solves (n : Nat) (A : Adj) (v : Nat) (hv : v < n) (hA : Simple n A) (j k : Nat) (hj : j < n) (hk : k < n) :
    equation n A (localComp A v) (lcQ A v) j k = false := by
  unfold equation
  have e2 := lcQ_2 A v
  rw [lcQ_0, lcQ_1, lcQ_3]
  have hsum : (parityTo n fun m => A m j && localComp A v m k && lcQ A v (4 * m + 2)) = (A v j && localComp A v v k) := by
    refine (parityTo_one n v _ hv fun m _ hm => ?_).trans ?_
    · rw [e2 m, decide_eq_false hm, Bool.and_false]
    · rw [e2 v, decide_eq_true rfl, Bool.and_true]
  rw [hsum]
  have hvv : A v v = false := hA.2 v hv
  rw [localComp_row A v k hvv]
  unfold localComp
  by_cases e : j = k
  · subst e
    simp [hA.2 j hj]
  · simp only [e, if_false, decide_false, Bool.false_and]
    rw [hA.1 j v hj hv]
    cases A v j <;> cases A v k <;> cases A j k <;> rfl

/-! ### LC-equivalent graphs admit a valid `Q` (the elementary direction of Van den Nest's theorem) -/

/-- blockwise product `Q₂ Q₁` of two local symplectic maps given as solution vectors -/
def qComp (q2 q1 : Nat → Bool) (idx : Nat) : Bool :=
  if idx % 4 = 0 then xor (q2 (4 * (idx / 4)) && q1 (4 * (idx / 4))) (q2 (4 * (idx / 4) + 1) && q1 (4 * (idx / 4) + 2))
  else if idx % 4 = 1 then xor (q2 (4 * (idx / 4)) && q1 (4 * (idx / 4) + 1)) (q2 (4 * (idx / 4) + 1) && q1 (4 * (idx / 4) + 3))
  else if idx % 4 = 2 then xor (q2 (4 * (idx / 4) + 2) && q1 (4 * (idx / 4))) (q2 (4 * (idx / 4) + 3) && q1 (4 * (idx / 4) + 2))
  else xor (q2 (4 * (idx / 4) + 2) && q1 (4 * (idx / 4) + 1)) (q2 (4 * (idx / 4) + 3) && q1 (4 * (idx / 4) + 3))

theorem qComp_0 (q2 q1 : Nat → Bool) (m : Nat) :
    qComp q2 q1 (4 * m) = xor (q2 (4 * m) && q1 (4 * m)) (q2 (4 * m + 1) && q1 (4 * m + 2)) := by
  unfold qComp
  have h : 4 * m / 4 = m := by omega
  rw [if_pos (by omega), h]
theorem qComp_1 (q2 q1 : Nat → Bool) (m : Nat) :
    qComp q2 q1 (4 * m + 1) = xor (q2 (4 * m) && q1 (4 * m + 1)) (q2 (4 * m + 1) && q1 (4 * m + 3)) := by
  unfold qComp
  have h : (4 * m + 1) / 4 = m := by omega
  rw [if_neg (by omega), if_pos (by omega), h]
theorem qComp_2 (q2 q1 : Nat → Bool) (m : Nat) :
    qComp q2 q1 (4 * m + 2) = xor (q2 (4 * m + 2) && q1 (4 * m)) (q2 (4 * m + 3) && q1 (4 * m + 2)) := by
  unfold qComp
  have h : (4 * m + 2) / 4 = m := by omega
  rw [if_neg (by omega), if_neg (by omega), if_pos (by omega), h]
theorem qComp_3 (q2 q1 : Nat → Bool) (m : Nat) :
    qComp q2 q1 (4 * m + 3) = xor (q2 (4 * m + 2) && q1 (4 * m + 1)) (q2 (4 * m + 3) && q1 (4 * m + 3)) := by
  unfold qComp
  have h : (4 * m + 3) / 4 = m := by omega
  rw [if_neg (by omega), if_neg (by omega), if_neg (by omega), h]

def detQ (q : Nat → Bool) (m : Nat) : Bool := xor (q (4 * m) && q (4 * m + 3)) (q (4 * m + 1) && q (4 * m + 2))

theorem isValidClifford_iff (n : Nat) (q : List Bool) : isValidClifford n q = true ↔ ∀ m, m < n → detQ (vget q) m = true := by
  unfold isValidClifford
  rw [List.all_eq_true]
  exact ⟨fun h m hm => h m (List.mem_range.mpr hm), fun h m hm => h m (List.mem_range.mp hm)⟩

theorem isValidClifford_map_range (n : Nat) (q : Nat → Bool) (h : ∀ m, m < n → detQ q m = true) :
    isValidClifford n ((List.range (4 * n)).map q) = true := by
  rw [isValidClifford_iff]
  intro m hm
  rw [← h m hm]
  unfold detQ
  rw [vget_map_range (4 * n) _ (4 * m) (by omega), vget_map_range (4 * n) _ (4 * m + 1) (by omega),
    vget_map_range (4 * n) _ (4 * m + 2) (by omega), vget_map_range (4 * n) _ (4 * m + 3) (by omega)]

theorem det2_mul : ∀ a2 b2 c2 d2 a1 b1 c1 d1 : Bool,
    xor (xor (a2 && a1) (b2 && c1) && xor (c2 && b1) (d2 && d1)) (xor (a2 && b1) (b2 && d1) && xor (c2 && a1) (d2 && c1)) =
      (xor (a2 && d2) (b2 && c2) && xor (a1 && d1) (b1 && c1)) := by decide +kernel

theorem detQ_comp (q2 q1 : Nat → Bool) (m : Nat) : detQ (qComp q2 q1) m = (detQ q2 m && detQ q1 m) := by
  unfold detQ
  rw [qComp_0, qComp_1, qComp_2, qComp_3]
  exact det2_mul _ _ _ _ _ _ _ _

theorem xor_and_bilinear : ∀ u w a b c d z x : Bool,
    xor (xor (u && a) (w && c) && z) (xor (u && b) (w && d) && x) =
      xor (u && xor (a && z) (b && x)) (w && xor (c && z) (d && x)) := by decide +kernel

theorem actQ_comp (q2 q1 : Nat → Bool) (p : PRow) : actQ (qComp q2 q1) p = actQ q2 (actQ q1 p) := by
  unfold actQ
  simp only [qComp_0, qComp_1, qComp_2, qComp_3, xor_and_bilinear]

/-- the transposed map, on the other argument of the symplectic product -/
def actQT (q : Nat → Bool) (g : PRow) : PRow :=
  { g with x := fun m => xor (g.x m && q (4 * m)) (g.z m && q (4 * m + 2))
           z := fun m => xor (g.x m && q (4 * m + 1)) (g.z m && q (4 * m + 3)) }

theorem sp_actQ (n : Nat) (g : PRow) (q : Nat → Bool) (p : PRow) : sp n g (actQ q p) = sp n (actQT q g) p := by
  unfold sp actQ actQT
  apply parityTo_congr
  intro m _
  exact (xor_and_bilinear _ _ _ _ _ _ _ _).symm

/-- **composition**: if `Q₁` solves the system for `(A, B)` and `Q₂` for `(B, C)` then `Q₂Q₁` solves it for `(A, C)`.
    `Q₁K_j(A)` commutes with every `K_l(B)`, so it is the combination of the `K_l(B)` selected by its X part; `Q₂` maps each of
    them to a row commuting with `K_k(C)` -/
theorem equation_trans (n : Nat) (A B C : Adj) (q1 q2 : Nat → Bool) (hA : Simple n A) (hB : Simple n B) (hC : Simple n C)
    (h1 : ∀ j k, j < n → k < n → equation n A B q1 j k = false)
    (h2 : ∀ j k, j < n → k < n → equation n B C q2 j k = false) (j k : Nat) (hj : j < n) (hk : k < n) :
    equation n A C (qComp q2 q1) j k = false := by
  rw [equation_eq_sp n A C hA hC _ j k hj hk, actQ_comp, sp_actQ]
  have hz : ∀ m, m < n → (actQ q1 (graphGen A j)).z m =
      parityTo n fun l => (actQ q1 (graphGen A j)).x l && (graphGen B l).z m := by
    intro m hm
    rw [z_of_commuting n B _ m hm (equation_eq_sp n A B hA hB q1 j m hj hm ▸ h1 j m hj hm)]
    apply parityTo_congr
    intro l hl
    show (B m l && _) = (_ && B l m)
    rw [hB.1 m l hm hl, Bool.and_comm]
  have hx : ∀ m, m < n → (actQ q1 (graphGen A j)).x m =
      parityTo n fun l => (actQ q1 (graphGen A j)).x l && (graphGen B l).x m := by
    intro m hm
    refine ((parityTo_one n m _ hm fun l _ hl => ?_).trans ?_).symm
    · show (_ && decide (m = l)) = false
      rw [decide_eq_false (Ne.symm hl), Bool.and_false]
    · show (_ && decide (m = m)) = _
      rw [decide_eq_true rfl, Bool.and_true]
  rw [sp_linear n _ _ (graphGen B) _ hz hx]
  apply parityTo_zero
  intro l hl
  rw [← sp_actQ, ← equation_eq_sp n B C hB hC q2 l k hl hk, h2 l k hl hk]
  simp

def qId (idx : Nat) : Bool := decide (idx % 4 = 0 ∨ idx % 4 = 3)

theorem qId_vals (m : Nat) : qId (4 * m) = true ∧ qId (4 * m + 1) = false ∧ qId (4 * m + 2) = false ∧ qId (4 * m + 3) = true := by
  unfold qId
  refine ⟨?_, ?_, ?_, ?_⟩ <;> (first | (apply decide_eq_true; omega) | (apply decide_eq_false; omega))

theorem equation_id (n : Nat) (A : Adj) (j k : Nat) : equation n A A qId j k = false := by
  unfold equation
  rw [(qId_vals k).1, (qId_vals j).2.2.2, (qId_vals j).2.1]
  have : (parityTo n fun m => A m j && A m k && qId (4 * m + 2)) = false := by
    apply parityTo_zero
    intro m _
    rw [(qId_vals m).2.2.1]; simp
  rw [this]
  cases A j k <;> simp

theorem detQ_id (m : Nat) : detQ qId m = true := by
  unfold detQ
  rw [(qId_vals m).1, (qId_vals m).2.1, (qId_vals m).2.2.1, (qId_vals m).2.2.2]; rfl

theorem detQ_lcQ (n : Nat) (A : Adj) (v : Nat) (hv : v < n) (hA : Simple n A) (m : Nat) : detQ (lcQ A v) m = true := by
  unfold detQ
  rw [lcQ_0, lcQ_1, lcQ_2, lcQ_3]
  by_cases e : m = v
  · subst e; simp [hA.2 m hv]
  · simp [e]

theorem lcQ_valid (n : Nat) (A : Adj) (v : Nat) (hv : v < n) (hA : Simple n A) :
    isValidClifford n ((List.range (4 * n)).map (lcQ A v)) = true :=
  isValidClifford_map_range n _ fun m _ => detQ_lcQ n A v hv hA m

theorem equation_congr_right (n : Nat) (A B B' : Adj) (q : Nat → Bool) (j k : Nat) (hj : j < n) (hk : k < n)
    (h : EqAdj n B B') : equation n A B q j k = equation n A B' q j k := by
  unfold equation
  rw [h j k hj hk]
  congr 2
  apply parityTo_congr
  intro m hm
  rw [h m k hm hk]

/-- **every graph in the LC orbit of `A` is reached by a valid local Clifford**: for every sequence of local
    complementations there is a `Q` with invertible blocks solving the system for `(A, applySeq A vs)` -/
theorem orbit_has_valid_Q (n : Nat) (A : Adj) (vs : List Nat) (hA : Simple n A) (hvs : ∀ v ∈ vs, v < n) :
    ∃ q : Nat → Bool, (∀ j k, j < n → k < n → equation n A (applySeq A vs) q j k = false) ∧ ∀ m, detQ q m = true := by
  induction vs generalizing A with
  | nil => exact ⟨qId, fun j k _ _ => equation_id n A j k, detQ_id⟩
  | cons v rest ih =>
    have hv : v < n := hvs v (by simp)
    have hA1 : Simple n (localComp A v) := localComp_simple n A v hv hA
    obtain ⟨q2, h2, d2⟩ := ih (localComp A v) hA1 (fun w hw => hvs w (List.mem_cons_of_mem _ hw))
    refine ⟨qComp q2 (lcQ A v), ?_, fun m => ?_⟩
    · intro j k hj hk
      show equation n A (applySeq (localComp A v) rest) (qComp q2 (lcQ A v)) j k = false
      exact equation_trans n A (localComp A v) _ (lcQ A v) q2 hA hA1
        (applySeq_simple n _ rest hA1 (fun w hw => hvs w (List.mem_cons_of_mem _ hw)))
        (fun j k hj hk => lcQ_solves n A v hv hA j k hj hk) h2 j k hj hk
    · rw [detQ_comp, d2 m, detQ_lcQ n A v hv hA m]; rfl

theorem equation_congr_q (n : Nat) (A B : Adj) (q q' : Nat → Bool) (j k : Nat) (hj : j < n) (hk : k < n)
    (h : ∀ i, i < 4 * n → q i = q' i) : equation n A B q j k = equation n A B q' j k := by
  unfold equation
  rw [h (4 * k) (by omega), h (4 * j + 3) (by omega), h (4 * j + 1) (by omega)]
  congr 2
  apply parityTo_congr
  intro m hm
  rw [h (4 * m + 2) (by omega)]

/-- list form: a valid `Q` as the implementation would return it -/
theorem same_orbit_has_valid_Q_list (n : Nat) (A B : Adj) (vs : List Nat) (hA : Simple n A) (hvs : ∀ v ∈ vs, v < n)
    (hB : EqAdj n (applySeq A vs) B) :
    ∃ v : List Bool, (∀ j k, j < n → k < n → equation n A B (vget v) j k = false) ∧ isValidClifford n v = true := by
  obtain ⟨q, h1, h2⟩ := orbit_has_valid_Q n A vs hA hvs
  refine ⟨(List.range (4 * n)).map q, ?_, ?_⟩
  · intro j k hj hk
    rw [equation_congr_q n A B _ q j k hj hk (fun i hi => vget_map_range (4 * n) q i hi),
      ← equation_congr_right n A _ B q j k hj hk hB]
    exact h1 j k hj hk
  · exact isValidClifford_map_range n q fun m _ => h2 m

end Graphiq.LC
