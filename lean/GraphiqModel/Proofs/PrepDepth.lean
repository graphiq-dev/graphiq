/-
  PrepDepth.lean — for `CircuitMaxEmitResetDepth` and `CircuitMaxEmitEffDepth` (C18): on a circuit with a schedule, the reset
  marks found on an emitter's wire and their `_max_depth` values are those of the op-list specification.

  Ingredients: the static depth theorem (Proofs/PrepDepthStatic.lean: `sched_depth`) and the index bookkeeping between
  positions in `reg_gate_history` and positions in the operation list (this file).
-/
import GraphiqModel.Proofs.PrepDepthSched
import GraphiqModel.Proofs.Loop
namespace Graphiq
namespace Metrics
open Dag Relation

theorem zipIdx_filter_fst_map {α β : Type} (f : α → Bool) (gg : α × Nat → β) (hh : α → β) (l : List α)
    (hgh : ∀ p, gg p = hh p.1) : ∀ k, ((l.zipIdx k).filter (fun p => f p.1)).map gg = (l.filter f).map hh := by
  induction l with
  | nil => intro k; rfl
  | cons a t ih =>
    intro k
    rw [List.zipIdx_cons, List.filter_cons, List.filter_cons]
    by_cases ha : f a = true
    · simp only [ha, if_true, List.map_cons, ih (k + 1), hgh]
    · simp only [ha, Bool.false_eq_true, if_false, ih (k + 1)]

theorem mem_opRegs_quantum {r : Reg} (hr : r.ty ≠ .c) (o : Op) : r ∈ opRegs o ↔ r ∈ o.qregs := by
  unfold opRegs
  rw [List.mem_append]
  constructor
  · rintro (h | h)
    · exact h
    · exfalso
      obtain ⟨j, _, rfl⟩ := List.mem_map.mp h
      exact hr rfl
  · exact Or.inl

/-- the condition of the metrics' loops: `type(oper).__name__ in ["Input", "MeasurementCNOTandReset", "Output"]` -/
def isMarkNode (c : Dag) (n : NodeId) : Bool :=
  match c.opOf? n with
  | some op => isResetMark op.kind
  | none => false

theorem markNodes_eq (c : Dag) (h : List NodeId) :
    markNodes c h = (h.zipIdx.filter (fun p => isMarkNode c p.1)).map (fun p => (p.2, p.1)) := rfl

theorem isMarkNode_inp {c : Dag} {P : Paths} (h : Inv c P) {r : Reg} (hl : c.live r) : isMarkNode c (.inp r) = true := by
  obtain ⟨op, hop⟩ := mem_nodeIds.mp ((h.inp_iff r).mpr hl)
  have := h.inp_op r op hop
  unfold isMarkNode
  rw [(opOf_eq_some h.ids_nodup).mpr hop, this]
  cases r with | mk t i => cases t <;> rfl

theorem isMarkNode_out {c : Dag} {P : Paths} (h : Inv c P) {r : Reg} (hl : c.live r) : isMarkNode c (.out r) = true := by
  obtain ⟨op, hop⟩ := mem_nodeIds.mp ((h.out_iff r).mpr hl)
  have := h.out_op r op hop
  unfold isMarkNode
  rw [(opOf_eq_some h.ids_nodup).mpr hop, this]
  cases r with | mk t i => cases t <;> rfl

theorem Sched.isMarkNode_entry {c : Dag} {P : Paths} {L : List (NodeId × Op)} (g : Good c P) (hS : Sched c P L)
    {p : NodeId × Op} (hp : p ∈ L) : isMarkNode c p.1 = decide (p.2.kind = .mcr) := by
  obtain ⟨i, o, hi, hm, hpo⟩ := hS.op_node hp
  have hwf := g.inv.op_wf i o hm
  unfold isMarkNode
  rw [hi, (opOf_eq_some g.inv.ids_nodup).mpr hm, hpo, wiredOp_kind]
  unfold isResetMark
  have h1 := hwf.not_input
  have h2 := hwf.not_output
  simp [h1, h2]

/-- positions `k, k+1, …` of the measure-and-reset operations of a list -/
def marksFrom : Nat → List Op → List Int
  | _, [] => []
  | k, o :: t => (if o.kind = .mcr then [(k : Int)] else []) ++ marksFrom (k + 1) t

theorem marks_model (c : Dag) (Lr : List (NodeId × Op)) (h : ∀ p ∈ Lr, isMarkNode c p.1 = decide (p.2.kind = .mcr)) :
    ∀ k, ((((Lr.map (·.1)).zipIdx k).filter (fun p => isMarkNode c p.1)).map (fun p => ((p.2 : Nat) : Int))) =
      marksFrom k (Lr.map (·.2)) := by
  induction Lr with
  | nil => intro k; rfl
  | cons p t ih =>
    intro k
    have hp := h p (by simp)
    have ht := ih (fun q hq => h q (List.mem_cons_of_mem _ hq)) (k + 1)
    rw [List.map_cons, List.zipIdx_cons, List.filter_cons, List.map_cons, marksFrom]
    by_cases hk : p.2.kind = .mcr
    · simp only [hp, hk, decide_true, if_true, List.map_cons, ht]; rfl
    · simp only [hp, hk, decide_false, Bool.false_eq_true, if_false, ht]; rfl

theorem marks_spec (w : List (Op × Nat)) :
    ∀ j, ((w.zipIdx j).filter (fun p => decide (p.1.1.kind = .mcr))).map (fun p => ((p.2 : Nat) : Int) + 1) =
      marksFrom (j + 1) (w.map (·.1)) := by
  induction w with
  | nil => intro j; rfl
  | cons a t ih =>
    intro j
    rw [List.zipIdx_cons, List.filter_cons, List.map_cons, marksFrom]
    by_cases hk : a.1.kind = .mcr
    · simp only [hk, decide_true, if_true, List.map_cons, ih (j + 1)]; push_cast; rfl
    · simp only [hk, decide_false, Bool.false_eq_true, if_false, ih (j + 1)]; rfl

theorem emitterWire_ops (s : List Op) (i : Nat) :
    (Spec.emitterWire s i).map (·.1) = s.filter (fun o => o.qregs.contains ⟨.e, i⟩) := by
  unfold Spec.emitterWire
  rw [zipIdx_filter_fst_map (fun o => o.qregs.contains ⟨.e, i⟩) (·.1) id s (fun _ => rfl) 0, List.map_id]

theorem sched_wire_ops (L : List (NodeId × Op)) {r : Reg} (hr : r.ty ≠ .c) :
    (L.map (·.2)).filter (fun o => o.qregs.contains r) = (L.filter (fun p => decide (r ∈ opRegs p.2))).map (·.2) := by
  rw [List.filter_map]
  congr 1
  apply List.filter_congr
  intro p _
  simp only [Function.comp]
  by_cases h : r ∈ p.2.qregs
  · simp [h, (mem_opRegs_quantum hr p.2).mpr h]
  · have h' : r ∉ opRegs p.2 := fun hh => h ((mem_opRegs_quantum hr p.2).mp hh)
    simp [h, h']

theorem emitterWire_sched (L : List (NodeId × Op)) (i : Nat) :
    (Spec.emitterWire (L.map (·.2)) i).map (·.1) = (L.filter (fun p => decide ((⟨.e, i⟩ : Reg) ∈ opRegs p.2))).map (·.2) := by
  rw [emitterWire_ops, sched_wire_ops L (by simp)]

theorem length_emitterWire_sched (L : List (NodeId × Op)) (i : Nat) :
    (Spec.emitterWire (L.map (·.2)) i).length = (schedWire L ⟨.e, i⟩).length := by
  have := congrArg List.length (emitterWire_sched L i)
  simpa [schedWire] using this

/-- **positions**: the marks the model finds on the wire of emitter `i` are the reset marks of the op-list specification -/
theorem reset_marks_eq {c : Dag} {P : Paths} {L : List (NodeId × Op)} (g : Good c P) (hS : Sched c P L) {i : Nat}
    (hl : c.live ⟨.e, i⟩) :
    (markNodes c (P ⟨.e, i⟩)).map (fun p => ((p.1 : Nat) : Int)) = Spec.resetMarks (Spec.emitterWire (L.map (·.2)) i) := by
  have hops := emitterWire_sched L i
  have hlen := length_emitterWire_sched L i
  rw [markNodes_eq, hS.wire _ hl, List.map_map]
  unfold Spec.resetMarks
  rw [marks_spec, hops]
  rw [List.zipIdx_cons, List.zipIdx_append, List.filter_cons, List.filter_append]
  simp only [isMarkNode_inp g.inv hl, if_true, List.map_cons, List.map_append, Function.comp]
  have hmid := marks_model c (L.filter (fun p => decide ((⟨.e, i⟩ : Reg) ∈ opRegs p.2)))
    (fun p hp => hS.isMarkNode_entry g (List.mem_filter.mp hp).1) (0 + 1)
  have hcomp : ((fun p : Nat × NodeId => ((p.1 : Nat) : Int)) ∘ fun p : NodeId × Nat => (p.2, p.1)) =
      fun p => ((p.2 : Nat) : Int) := rfl
  unfold schedWire
  rw [hcomp, hmid]
  simp [isMarkNode_out g.inv hl, hlen, schedWire]
  omega

theorem layers_getD_split (a : List Op) (o : Op) (b : List Op) :
    ∀ f, (Spec.layers f (a ++ o :: b)).getD a.length 0 = Spec.layerOf (a.foldl Spec.pushLayer f) o := by
  induction a with
  | nil => intro f; simp [Spec.layers]
  | cons x t ih =>
    intro f
    simp only [List.cons_append, Spec.layers, List.length_cons, List.getD_cons_succ, List.foldl_cons]
    exact ih _

theorem layerOf_fronts_le (pre : List Op) (o : Op) : Spec.layerOf (Spec.fronts pre) o ≤ pre.length + 1 := by
  unfold Spec.layerOf
  obtain ⟨_, _, a3⟩ := foldl_max_nat (fun r => Spec.frontGet (Spec.fronts pre) r) (Spec.opRegs o) 0
  rcases a3 with h0 | ⟨x, _, hx⟩
  · rw [h0]; omega
  · rw [← hx]
    have := fronts_bound pre [] 0 (by intro r; simp [Spec.frontGet]) x
    unfold Spec.fronts
    omega

theorem Sched.length_lt {c : Dag} {P : Paths} {L : List (NodeId × Op)} (g : Good c P) (hS : Sched c P L) {r : Reg}
    (hl : c.live r) : L.length < c.nodes.length := by
  have hnd : (NodeId.inp r :: L.map (·.1)).Nodup := by
    rw [List.nodup_cons]
    refine ⟨?_, hS.nodup⟩
    intro hm
    obtain ⟨p, hp, hp1⟩ := List.mem_map.mp hm
    obtain ⟨i, _, hi, _, _⟩ := hS.op_node hp
    rw [hi] at hp1; cases hp1
  have hsub : ∀ x ∈ NodeId.inp r :: L.map (·.1), x ∈ c.nodeIds := by
    intro x hx
    rcases List.mem_cons.mp hx with rfl | hx
    · exact (g.inv.inp_iff r).mpr hl
    · obtain ⟨p, hp, rfl⟩ := List.mem_map.mp hx
      exact hS.mem_nodeIds hp
  have := hnd.length_le_of_subset hsub
  simp [nodeIds] at this
  omega

/-- the model's fuel `len(nodes) + 1` suffices for every depth of `sched_depth`: an ASAP layer is at most the length of the
    schedule, which is shorter than the node list -/
theorem sched_fuel {c : Dag} {P : Paths} {L : List (NodeId × Op)} (g : Good c P) (hS : Sched c P L) :
    (∀ pre p suf, L = pre ++ p :: suf →
      (Spec.layerOf (Spec.fronts (pre.map (·.2))) p.2 : Int) - 1 + 2 ≤ ((c.nodes.length + 1 : Nat) : Int)) ∧
    (∀ r, c.live r → (Spec.regDepth (L.map (·.2)) r : Int) + 2 ≤ ((c.nodes.length + 1 : Nat) : Int)) := by
  constructor
  · intro pre p suf hL
    have hpL : p ∈ L := by rw [hL]; simp
    obtain ⟨r, hr⟩ := List.exists_mem_of_ne_nil _ (hS.opRegs_ne g hpL)
    have hlt := hS.length_lt g (hS.live p hpL r hr)
    have hb := layerOf_fronts_le (pre.map (·.2)) p.2
    have hlen : L.length = pre.length + (suf.length + 1) := by rw [hL]; simp
    rw [List.length_map] at hb
    push_cast; omega
  · intro r hl
    have hlt := hS.length_lt g hl
    have hb := regDepth_le_length (L.map (·.2)) r
    rw [List.length_map] at hb
    push_cast; omega

/-- **static depth theorem for the literal recursion**: `_max_depth` with the model's fuel returns the depths of `sched_depth` -/
theorem sched_maxDepth {c : Dag} {P : Paths} {L : List (NodeId × Op)} (g : Good c P) (hS : Sched c P L)
    (hkey : ∀ p ∈ L, "Input" ∉ p.2.indexKeys) :
    (∀ pre p suf, L = pre ++ p :: suf →
      c.maxDepth (c.nodes.length + 1) p.1 = .ok ((Spec.layerOf (Spec.fronts (pre.map (·.2))) p.2 : Int) - 1)) ∧
    (∀ r, c.live r → c.maxDepth (c.nodes.length + 1) (.out r) = .ok (Spec.regDepth (L.map (·.2)) r : Int)) := by
  obtain ⟨h1, h2⟩ := sched_depth g hS hkey
  obtain ⟨f1, f2⟩ := sched_fuel g hS
  exact ⟨fun pre p suf hL => maxDepth_of_hasDepth (h1 pre p suf hL) _ (f1 pre p suf hL),
    fun r hl => maxDepth_of_hasDepth (h2 r hl) _ (f2 r hl)⟩

/-- the measure-and-reset entries of the schedule acting on quantum register `r`, with the value `D k` attached to the
    entry at schedule position `k` -/
def midOf (r : Reg) (D : Nat → Int) : Nat → List (NodeId × Op) → List (NodeId × Int)
  | _, [] => []
  | k, p :: t => (if p.2.qregs.contains r && decide (p.2.kind = .mcr) then [(p.1, D k)] else []) ++ midOf r D (k + 1) t

theorem midOf_spec (r : Reg) (D : Nat → Int) (t : List (NodeId × Op)) :
    ∀ k, ((((t.map (·.2)).zipIdx k).filter (fun p => p.1.qregs.contains r)).filter (fun p => decide (p.1.kind = .mcr))).map
      (fun p => D p.2) = (midOf r D k t).map (·.2) := by
  induction t with
  | nil => intro k; rfl
  | cons p t ih =>
    intro k
    rw [List.map_cons, List.zipIdx_cons, midOf, List.map_append, ← ih (k + 1), List.filter_cons]
    by_cases h1 : r ∈ p.2.qregs
    · by_cases h2 : p.2.kind = .mcr
      · simp [h1, h2]
      · simp [h1, h2]
    · simp [h1]

theorem midOf_model {c : Dag} {r : Reg} (hr : r.ty ≠ .c) (D : Nat → Int) (t : List (NodeId × Op))
    (h : ∀ p ∈ t, isMarkNode c p.1 = decide (p.2.kind = .mcr)) :
    ∀ k, (schedWire t r).filter (isMarkNode c) = (midOf r D k t).map (·.1) := by
  induction t with
  | nil => intro k; rfl
  | cons p t ih =>
    intro k
    have hp := h p (by simp)
    have ht := ih (fun q hq => h q (List.mem_cons_of_mem _ hq)) (k + 1)
    rw [midOf, List.map_append, ← ht]
    by_cases h1 : r ∈ p.2.qregs
    · rw [schedWire_cons_pos ((mem_opRegs_quantum hr p.2).mpr h1), List.filter_cons, hp]
      by_cases h2 : p.2.kind = .mcr
      · simp [h1, h2]
      · simp [h1, h2]
    · rw [schedWire_cons_neg (fun hh => h1 ((mem_opRegs_quantum hr p.2).mp hh))]
      simp [h1]

theorem midOf_depth {c : Dag} {P : Paths} {L : List (NodeId × Op)} (g : Good c P) (hS : Sched c P L)
    (hkey : ∀ p ∈ L, "Input" ∉ p.2.indexKeys) (r : Reg) :
    ∀ (suf pre : List (NodeId × Op)), L = pre ++ suf →
      ∀ it ∈ midOf r (fun k => (((Spec.layers [] (L.map (·.2))).getD k 0 : Nat) : Int) - 1) pre.length suf,
        c.maxDepth (c.nodes.length + 1) it.1 = .ok it.2 := by
  intro suf
  induction suf with
  | nil => intro pre _ it hit; simp [midOf] at hit
  | cons p t ih =>
    intro pre hL it hit
    rw [midOf, List.mem_append] at hit
    rcases hit with hit | hit
    · by_cases hc : (p.2.qregs.contains r && decide (p.2.kind = .mcr)) = true
      · rw [if_pos hc] at hit
        simp only [List.mem_singleton] at hit
        subst hit
        have hlay : (Spec.layers [] (L.map (·.2))).getD pre.length 0 = Spec.layerOf (Spec.fronts (pre.map (·.2))) p.2 := by
          rw [hL, List.map_append, List.map_cons]
          have := layers_getD_split (pre.map (·.2)) p.2 (t.map (·.2)) []
          rw [List.length_map] at this
          exact this
        simp only
        rw [hlay]
        exact (sched_maxDepth g hS hkey).1 pre p t hL
      · rw [if_neg hc] at hit; simp at hit
    · exact ih (pre ++ [p]) (by rw [hL]; simp) it (by simpa using hit)

/-- **depths**: `_max_depth` of the marks the model finds on the wire of emitter `i` — input, every measure-and-reset,
    output — are −1, the ASAP depths of those operations in the operation list, and the ASAP depth of the register -/
theorem eff_depths_eq {c : Dag} {P : Paths} {L : List (NodeId × Op)} (g : Good c P) (hS : Sched c P L)
    (hkey : ∀ p ∈ L, "Input" ∉ p.2.indexKeys) {i : Nat} (hl : c.live ⟨.e, i⟩) :
    (markNodes c (P ⟨.e, i⟩)).mapM (fun p => c.maxDepth (c.nodes.length + 1) p.2) =
      .ok ([-1] ++ (((Spec.emitterWire (L.map (·.2)) i).filter fun p => p.1.kind = .mcr).map fun p =>
            (((Spec.layers [] (L.map (·.2))).getD p.2 0 : Nat) : Int) - 1) ++
          [((Spec.regDepth (L.map (·.2)) ⟨.e, i⟩ : Nat) : Int)]) := by
  have hr : (⟨.e, i⟩ : Reg).ty ≠ .c := by simp
  let D : Nat → Int := fun k => (((Spec.layers [] (L.map (·.2))).getD k 0 : Nat) : Int) - 1
  let items : List (NodeId × Int) :=
    (NodeId.inp ⟨.e, i⟩, -1) :: (midOf ⟨.e, i⟩ D 0 L ++ [(NodeId.out ⟨.e, i⟩, ((Spec.regDepth (L.map (·.2)) ⟨.e, i⟩ : Nat) : Int))])
  have hnodes : (markNodes c (P ⟨.e, i⟩)).map (·.2) = items.map (·.1) := by
    rw [markNodes_eq, List.map_map,
      zipIdx_filter_fst_map (isMarkNode c) ((·.2) ∘ fun p : NodeId × Nat => (p.2, p.1)) id (P ⟨.e, i⟩) (fun _ => rfl) 0,
      List.map_id, hS.wire _ hl, List.filter_cons, List.filter_append]
    simp only [isMarkNode_inp g.inv hl, if_true, items, List.map_cons, List.map_append, List.map_nil]
    rw [midOf_model hr D L (fun p hp => hS.isMarkNode_entry g hp) 0]
    simp [isMarkNode_out g.inv hl]
  have hitems : ∀ it ∈ items, c.maxDepth (c.nodes.length + 1) it.1 = .ok it.2 := by
    intro it hit
    simp only [items, List.mem_cons, List.mem_append, List.not_mem_nil, or_false] at hit
    rcases hit with rfl | hit | rfl
    · apply maxDepth_of_hasDepth (HasDepth.input (isInputNode_inp g.inv hl))
      push_cast; omega
    · exact midOf_depth g hS hkey ⟨.e, i⟩ L [] rfl it hit
    · exact (sched_maxDepth g hS hkey).2 _ hl
  have hmap : (markNodes c (P ⟨.e, i⟩)).mapM (fun p => c.maxDepth (c.nodes.length + 1) p.2) =
      ((markNodes c (P ⟨.e, i⟩)).map (·.2)).mapM (c.maxDepth (c.nodes.length + 1)) := by
    rw [List.mapM_map]; rfl
  rw [hmap, hnodes, mapM_ok_of_forall (c.maxDepth (c.nodes.length + 1)) (·.1) (·.2) items hitems]
  congr 1
  simp only [items, List.map_cons, List.map_append, List.map_nil]
  rw [← midOf_spec ⟨.e, i⟩ D L 0]
  rfl

/-- the loop shared by `CircuitMaxEmitDepth`, `CircuitMaxEmitResetDepth` and `CircuitMaxEmitEffDepth`: `reg_gate_history` of every
    emitter returns the wire, so the loop may be compared wire by wire -/
theorem emitterMax_congr {c : Dag} {P : Paths} (g : Good c P) {n : Nat} (hn : c.nE = n)
    {f : List NodeId → Except DErr Int} {s : Nat → Except DErr Int} (h : ∀ i, c.live ⟨.e, i⟩ → f (P ⟨.e, i⟩) = s i) :
    (do let ds ← (List.range c.nE).mapM (fun i => do let h ← c.regGateHistory ⟨.e, i⟩; f h)
        maxOrErr ds) = (do let ds ← (List.range n).mapM s; maxOrErr ds) := by
  subst hn
  congr 1
  apply Loop.mapM_congr
  intro i hi
  have hl : c.live ⟨.e, i⟩ := List.mem_range.mp hi
  rw [regGateHistory_eq_wire g.inv hl]
  exact h i hl

end Metrics
end Graphiq
