/-
  Proofs/SolverSoundRows.lean — the "single out one emitter" pipeline of the time-reversed solver
  (`allEmittersToZ` → `transformGeneratorEmitters` → `fixSign`) turns the chosen generator row into exactly `+Z` on the
  chosen emitter.  Only row `g` of the tableau is tracked (up to `PRow.EqOn n`, because every gate step re-tabulates).
-/
import GraphiqModel.Proofs.Solver
import GraphiqModel.Proofs.StabTableau
import GraphiqModel.Proofs.InverseCircuit
import GraphiqModel.Proofs.SolverSoundLocal
namespace Graphiq.Solver
open Graphiq Graphiq.Cliff PRow

theorem sdg_x (q j : Nat) (p : PRow) : (PRow.sdg q p).x j = p.x j := rfl

theorem sdg_z (q j : Nat) (p : PRow) : (PRow.sdg q p).z j = if j = q then xor (p.z j) (p.x q) else p.z j := by
  by_cases h : j = q
  · subst h
    simp only [PRow.sdg, PRow.s, if_true]
    cases p.z j <;> cases p.x j <;> rfl
  · simp [PRow.sdg, PRow.s, h]

theorem gate_row (s : St) (G : Gate) (i : Nat) (hi : i < s.t.n) :
    EqOn s.t.n ((s.gate G).t.row i) (G.act (s.t.row i)) :=
  STab.norm_row (s.t.applyGate G) i hi

theorem gate_n (s : St) (G : Gate) : (s.gate G).t.n = s.t.n := rfl
theorem gate_np (s : St) (G : Gate) : (s.gate G).np = s.np := rfl
theorem gate_ne (s : St) (G : Gate) : (s.gate G).ne = s.ne := rfl

theorem gate_r (s : St) (G : Gate) (i : Nat) (hi : i < s.t.n) : ((s.gate G).t.row i).r = (G.act (s.t.row i)).r :=
  (gate_row s G i hi).2.1

theorem gateH_x (s : St) (q i j : Nat) (hi : i < s.t.n) (hj : j < s.t.n) :
    ((s.gate (.H q)).t.row i).x j = if j = q then (s.t.row i).z j else (s.t.row i).x j :=
  ((gate_row s (.H q) i hi).1 j hj).1

theorem gateH_z (s : St) (q i j : Nat) (hi : i < s.t.n) (hj : j < s.t.n) :
    ((s.gate (.H q)).t.row i).z j = if j = q then (s.t.row i).x j else (s.t.row i).z j :=
  ((gate_row s (.H q) i hi).1 j hj).2

theorem gatePdag_x (s : St) (q i j : Nat) (hi : i < s.t.n) (hj : j < s.t.n) :
    ((s.gate (.Pdag q)).t.row i).x j = (s.t.row i).x j :=
  ((gate_row s (.Pdag q) i hi).1 j hj).1

theorem gatePdag_z (s : St) (q i j : Nat) (hi : i < s.t.n) (hj : j < s.t.n) :
    ((s.gate (.Pdag q)).t.row i).z j = if j = q then xor ((s.t.row i).z j) ((s.t.row i).x q) else (s.t.row i).z j := by
  rw [((gate_row s (.Pdag q) i hi).1 j hj).2]; exact sdg_z q j _

theorem gateX_x (s : St) (q i j : Nat) (hi : i < s.t.n) (hj : j < s.t.n) :
    ((s.gate (.X q)).t.row i).x j = (s.t.row i).x j := by
  rw [((gate_row s (.X q) i hi).1 j hj).1]; exact xg_x q _ j

theorem gateX_z (s : St) (q i j : Nat) (hi : i < s.t.n) (hj : j < s.t.n) :
    ((s.gate (.X q)).t.row i).z j = (s.t.row i).z j := by
  rw [((gate_row s (.X q) i hi).1 j hj).2]; exact xg_z q _ j

theorem gateX_r (s : St) (q i : Nat) (hi : i < s.t.n) :
    ((s.gate (.X q)).t.row i).r = xor (s.t.row i).r ((s.t.row i).z q) := by
  rw [gate_r s (.X q) i hi]; exact xg_r q _

theorem gateCNOT_x (s : St) (c t i j : Nat) (hi : i < s.t.n) (hj : j < s.t.n) :
    ((s.gate (.CNOT c t)).t.row i).x j = if j = t then xor ((s.t.row i).x j) ((s.t.row i).x c) else (s.t.row i).x j :=
  ((gate_row s (.CNOT c t) i hi).1 j hj).1

theorem gateCNOT_z (s : St) (c t i j : Nat) (hi : i < s.t.n) (hj : j < s.t.n) :
    ((s.gate (.CNOT c t)).t.row i).z j = if j = c then xor ((s.t.row i).z j) ((s.t.row i).z t) else (s.t.row i).z j :=
  ((gate_row s (.CNOT c t) i hi).1 j hj).2

theorem addOneQubit_t (s s' : St) (gs : List Gen) (q : Nat) (h : addOneQubit s gs q = .ok s') :
    s'.t = s.t ∧ s'.np = s.np ∧ s'.ne = s.ne := by
  obtain ⟨g', ⟨_, _, _, _, _, _, rfl⟩ | ⟨_, rfl⟩⟩ := addOneQubit_of_ok s s' gs q h
  · exact ⟨rfl, rfl, rfl⟩
  · split <;> exact ⟨rfl, rfl, rfl⟩

/-- `_change_pauli_type(…, 'z')` makes column `q` of row `g` a `Z` iff it was non-trivial, and changes no other column of row `g` -/
theorem changeToZ_row (s : St) (g q : Nat) (hg : g < s.t.n) (hq : q < s.t.n) :
    (changeToZ s g q).1.t.n = s.t.n ∧ (changeToZ s g q).1.np = s.np ∧ (changeToZ s g q).1.ne = s.ne ∧
    ((changeToZ s g q).1.t.row g).x q = false ∧
    ((changeToZ s g q).1.t.row g).z q = ((s.t.row g).x q || (s.t.row g).z q) ∧
    ∀ j, j < s.t.n → j ≠ q →
      ((changeToZ s g q).1.t.row g).x j = (s.t.row g).x j ∧ ((changeToZ s g q).1.t.row g).z j = (s.t.row g).z j := by
  have k := keeps_changeToZ s g q
  refine ⟨?_, k.np_eq, k.ne_eq, ?_⟩
  · rw [changeToZ_of_bits]
    split
    · split
      · exact (gate_n _ _).trans (gate_n s _)
      · exact gate_n s _
    · rfl
  rw [changeToZ_of_bits]
  cases hx : (s.t.row g).x q <;> cases hz : (s.t.row g).z q
  · rw [if_neg Bool.false_ne_true]
    exact ⟨hx, hz, fun j _ _ => ⟨rfl, rfl⟩⟩
  · rw [if_neg Bool.false_ne_true]
    exact ⟨hx, hz, fun j _ _ => ⟨rfl, rfl⟩⟩
  · rw [if_pos rfl, if_neg Bool.false_ne_true]
    refine ⟨?_, ?_, fun j hj hne => ⟨?_, ?_⟩⟩
    · rw [gateH_x s q g q hg hq]; simp [hz]
    · rw [gateH_z s q g q hg hq]; simp [hx]
    · rw [gateH_x s q g j hg hj]; simp [hne]
    · rw [gateH_z s q g j hg hj]; simp [hne]
  · rw [if_pos rfl, if_pos rfl]
    have hg1 : g < (s.gate (.Pdag q)).t.n := hg
    have hq1 : q < (s.gate (.Pdag q)).t.n := hq
    refine ⟨?_, ?_, fun j hj hne => ⟨?_, ?_⟩⟩
    · rw [gateH_x _ q g q hg1 hq1, gatePdag_z s q g q hg hq]; simp [hx, hz]
    · rw [gateH_z _ q g q hg1 hq1, gatePdag_x s q g q hg hq]; simp [hx]
    · rw [gateH_x _ q g j hg1 hj, gatePdag_x s q g j hg hj]; simp [hne]
    · rw [gateH_z _ q g j hg1 hj, gatePdag_z s q g j hg hj]; simp [hne]

theorem foldl_rest_inv {α : Type} (f : St → α → St) (P : List α → St → Prop)
    (hstep : ∀ c rest a, P (c :: rest) a → P rest (f a c)) (l : List α) (s : St) (h0 : P l s) :
    P [] (l.foldl f s) := by
  induction l generalizing s with
  | nil => exact h0
  | cons c rest ih => simp only [List.foldl]; exact ih (f s c) (hstep c rest s h0)

/-- state of row `g` after the first `k` emitters have been processed by `allEmittersToZ` -/
structure ZInv (s : St) (g k : Nat) (a : St) : Prop where
  np_eq : a.np = s.np
  ne_eq : a.ne = s.ne
  n_eq : a.t.n = s.t.n
  rest : ∀ j, j < s.t.n → (j < s.np ∨ s.np + k ≤ j) →
    (a.t.row g).x j = (s.t.row g).x j ∧ (a.t.row g).z j = (s.t.row g).z j
  done : ∀ i, i < k → (a.t.row g).x (s.np + i) = false ∧
    (a.t.row g).z (s.np + i) = ((s.t.row g).x (s.np + i) || (s.t.row g).z (s.np + i))

theorem allEmittersToZ_step (a a' : St) (g i : Nat) (skip : Bool)
    (h : (let (a1, gl) := changeToZ a g (a.np + i)
          if skip && gl.isEmpty then Except.ok a1 else addOneQubit a1 gl (a.np + i)) = .ok a') :
    a'.t = (changeToZ a g (a.np + i)).1.t ∧ a'.np = a.np ∧ a'.ne = a.ne := by
  have k1 := keeps_changeToZ a g (a.np + i)
  generalize changeToZ a g (a.np + i) = r at h k1 ⊢
  obtain ⟨a1, gl⟩ := r
  simp only at h k1 ⊢
  split at h
  · injection h with h; rw [← h]; exact ⟨rfl, k1.np_eq, k1.ne_eq⟩
  · obtain ⟨e1, e2, e3⟩ := addOneQubit_t a1 a' gl _ h
    exact ⟨e1, e2.trans k1.np_eq, e3.trans k1.ne_eq⟩

theorem allEmittersToZ_row (s s1 : St) (g : Nat) (skip : Bool) (hn : s.t.n = s.np + s.ne) (hg : g < s.t.n)
    (h : allEmittersToZ s g skip = .ok s1) : ZInv s g s.ne s1 := by
  unfold allEmittersToZ at h
  refine Loop.foldlM_range (fun k a => ZInv s g k a) ?_
    ⟨rfl, rfl, rfl, fun _ _ _ => ⟨rfl, rfl⟩, fun i hi => absurd hi (Nat.not_lt_zero i)⟩ h
  intro k a a' hk inv ha
  obtain ⟨e1, e2, e3⟩ := allEmittersToZ_step a a' g k skip ha
  have hg' : g < a.t.n := by rw [inv.n_eq]; exact hg
  have hq' : a.np + k < a.t.n := by rw [inv.n_eq, inv.np_eq, hn]; exact Nat.add_lt_add_left hk s.np
  obtain ⟨c1, _, _, c5, c6, c7⟩ := changeToZ_row a g (a.np + k) hg' hq'
  rw [← e1] at c1 c5 c6 c7
  rw [inv.np_eq] at c5 c6 c7
  rw [inv.n_eq] at c7
  refine ⟨e2.trans inv.np_eq, e3.trans inv.ne_eq, c1.trans inv.n_eq, ?_, ?_⟩
  · intro j hj hjr
    have hne : j ≠ s.np + k :=
      hjr.elim (fun h => Nat.ne_of_lt (Nat.lt_of_lt_of_le h (Nat.le_add_right _ _))) (fun h => Nat.ne_of_gt h)
    obtain ⟨x1, z1⟩ := c7 j hj hne
    obtain ⟨x2, z2⟩ := inv.rest j hj (hjr.imp id Nat.le_of_succ_le)
    exact ⟨x1.trans x2, z1.trans z2⟩
  · intro i hi
    by_cases hik : i = k
    · subst hik
      obtain ⟨x2, z2⟩ := inv.rest (s.np + i) (hn ▸ Nat.add_lt_add_left hk s.np) (Or.inr (Nat.le_refl _))
      exact ⟨c5, by rw [c6, x2, z2]⟩
    · have hne : s.np + i ≠ s.np + k := fun h => hik (Nat.add_left_cancel h)
      obtain ⟨x1, z1⟩ := c7 (s.np + i) (hn ▸ Nat.add_lt_add_left (Nat.lt_of_le_of_lt (Nat.le_of_lt_succ hi) hk) s.np) hne
      obtain ⟨x2, z2⟩ := inv.done i (Nat.lt_of_le_of_ne (Nat.le_of_lt_succ hi) hik)
      exact ⟨x1.trans x2, z1.trans z2⟩

/-- state of row `g` while the emitter CNOTs with controls `l` are still to be applied: no X/Y anywhere, the photon part as it was
    in `s`, a `Z` on the target emitter `e`, and `l` lists exactly the other emitters that still carry a `Z` -/
structure CInv (s : St) (g e : Nat) (l : List Nat) (a : St) : Prop where
  np_eq : a.np = s.np
  ne_eq : a.ne = s.ne
  n_eq : a.t.n = s.t.n
  xs : ∀ j, j < s.t.n → (a.t.row g).x j = false
  phot : ∀ j, j < s.np → (a.t.row g).z j = (s.t.row g).z j
  ze : (a.t.row g).z (s.np + e) = true
  sup : ∀ c, c < s.ne → c ≠ e → (a.t.row g).z (s.np + c) = true → c ∈ l
  mem : ∀ c, c ∈ l → c < s.ne ∧ c ≠ e ∧ (a.t.row g).z (s.np + c) = true
  nodup : l.Nodup

theorem addEmitterCnot_step (s : St) (g e : Nat) (hn : s.t.n = s.np + s.ne) (hg : g < s.t.n) (he : e < s.ne)
    (c : Nat) (rest : List Nat) (a : St) (inv : CInv s g e (c :: rest) a) :
    CInv s g e rest (addEmitterCnot a c e) := by
  obtain ⟨hc, hce, hcz⟩ := inv.mem c (List.mem_cons_self ..)
  have hg' : g < a.t.n := by rw [inv.n_eq]; exact hg
  have hnd := List.nodup_cons.mp inv.nodup
  have hem : ∀ c', c' < s.ne → s.np + c' < s.t.n := fun c' h => hn ▸ Nat.add_lt_add_left h s.np
  have hph : ∀ j, j < s.np → j < s.t.n := fun j h => hn ▸ Nat.lt_of_lt_of_le h (Nat.le_add_right _ _)
  have hoff : ∀ c', c' ≠ c → s.np + c' ≠ s.np + c := fun c' h h' => h (Nat.add_left_cancel h')
  have hX : ∀ j, j < s.t.n → ((addEmitterCnot a c e).t.row g).x j = false := by
    intro j hj
    show ((a.gate (.CNOT (a.np + c) (a.np + e))).t.row g).x j = false
    rw [gateCNOT_x a _ _ g j hg' (by rw [inv.n_eq]; exact hj), inv.np_eq, inv.xs j hj, inv.xs (s.np + c) (hem c hc)]
    simp
  have hZ : ∀ j, j < s.t.n → ((addEmitterCnot a c e).t.row g).z j =
      if j = s.np + c then false else (a.t.row g).z j := by
    intro j hj
    show ((a.gate (.CNOT (a.np + c) (a.np + e))).t.row g).z j = _
    rw [gateCNOT_z a _ _ g j hg' (by rw [inv.n_eq]; exact hj), inv.np_eq, inv.ze]
    by_cases hjc : j = s.np + c
    · subst hjc; simp [hcz]
    · simp [hjc]
  have k := keeps_addEmitterCnot a c e
  refine ⟨k.np_eq.trans inv.np_eq, k.ne_eq.trans inv.ne_eq, (gate_n a (.CNOT (a.np + c) (a.np + e))).trans inv.n_eq, hX, ?_, ?_, ?_, ?_,
    hnd.2⟩
  · intro j hj
    rw [hZ j (hph j hj), if_neg (Nat.ne_of_lt (Nat.lt_of_lt_of_le hj (Nat.le_add_right _ _)))]; exact inv.phot j hj
  · rw [hZ _ (hem e he), if_neg (hoff e (Ne.symm hce))]; exact inv.ze
  · intro c' hc' hc'e hz
    rw [hZ _ (hem c' hc')] at hz
    by_cases hcc : c' = c
    · subst hcc; simp at hz
    · rw [if_neg (hoff c' hcc)] at hz
      have := inv.sup c' hc' hc'e hz
      rcases List.mem_cons.mp this with h | h
      · exact absurd h hcc
      · exact h
  · intro c' hc'
    obtain ⟨m1, m2, m3⟩ := inv.mem c' (List.mem_cons_of_mem _ hc')
    have hcc : c' ≠ c := fun h => hnd.1 (h ▸ hc')
    refine ⟨m1, m2, ?_⟩
    rw [hZ _ (hem c' m1), if_neg (hoff c' hcc)]; exact m3

/-- `_transform_generator_emitters` on a generator without X/Y and with a `Z` on the target emitter: still no X/Y, the photon part
    is unchanged, and the only `Z` left on the emitters is on the target -/
theorem transformGeneratorEmitters_row (s s2 : St) (g e : Nat) (hn : s.t.n = s.np + s.ne) (hg : g < s.t.n) (he : e < s.ne)
    (hx : ∀ j, j < s.t.n → (s.t.row g).x j = false) (hze : (s.t.row g).z (s.np + e) = true)
    (h : transformGeneratorEmitters s g e = .ok s2) :
    s2.np = s.np ∧ s2.ne = s.ne ∧ s2.t.n = s.t.n ∧ (∀ j, j < s.t.n → (s2.t.row g).x j = false) ∧
    (∀ j, j < s.np → (s2.t.row g).z j = (s.t.row g).z j) ∧
    (∀ c, c < s.ne → (s2.t.row g).z (s.np + c) = decide (c = e)) := by
  have key : CInv s g e [] s2 := by
    unfold transformGeneratorEmitters at h
    split at h
    · next h1 =>
      injection h with h; rw [← h]
      refine ⟨rfl, rfl, rfl, hx, fun _ _ => rfl, hze, ?_, ?_, List.nodup_nil⟩
      · intro c hc hce _; omega
      · intro c hc; simp at hc
    · split at h
      · cases h
      · injection h with h; rw [← h]
        apply foldl_rest_inv _ (fun l a => CInv s g e l a) (fun c rest a inv => addEmitterCnot_step s g e hn hg he c rest a inv)
        refine ⟨rfl, rfl, rfl, hx, fun _ _ => rfl, hze, ?_, ?_, ?_⟩
        · intro c hc hce hz
          simp only [List.mem_filter, List.mem_range, decide_eq_true_eq]
          exact ⟨⟨hc, hz⟩, hce⟩
        · intro c hc
          simp only [List.mem_filter, List.mem_range, decide_eq_true_eq] at hc
          exact ⟨hc.1.1, hc.2, hc.1.2⟩
        · exact (List.nodup_range.filter _).filter _
  refine ⟨key.np_eq, key.ne_eq, key.n_eq, key.xs, key.phot, ?_⟩
  intro c hc
  by_cases hce : c = e
  · subst hce; simp [key.ze]
  · simp only [hce, decide_false]
    cases hz : (s2.t.row g).z (s.np + c) with
    | false => rfl
    | true =>
      have := key.sup c hc hce hz
      simp at this

theorem fixSign_row (s s3 : St) (g e : Nat) (hg : g < s.t.n)
    (hze : (s.t.row g).z (s.np + e) = true) (h : fixSign s g e = .ok s3) :
    PRow.SameBits s.t.n (s3.t.row g) (s.t.row g) ∧ (s3.t.row g).r = false ∧
    s3.t.n = s.t.n ∧ s3.np = s.np ∧ s3.ne = s.ne := by
  unfold fixSign at h
  split at h
  · next hr =>
    obtain ⟨e1, e2, e3⟩ := addOneQubit_t _ s3 _ _ h
    rw [e1]
    refine ⟨fun j hj => ⟨gateX_x s _ g j hg hj, gateX_z s _ g j hg hj⟩, ?_, rfl, e2, e3⟩
    rw [gateX_r s _ g hg, hr, hze]; rfl
  · next hr =>
    injection h with h; rw [← h]
    exact ⟨fun j _ => ⟨rfl, rfl⟩, by simpa using hr, rfl, rfl, rfl⟩

theorem ZInv.xfree {s s1 : St} {g : Nat} (z1 : ZInv s g s.ne s1) (hn : s.t.n = s.np + s.ne)
    (hx : ∀ j, j < s.np → (s.t.row g).x j = false) : ∀ j, j < s.t.n → (s1.t.row g).x j = false := by
  intro j hj
  by_cases hjp : j < s.np
  · rw [(z1.rest j hj (Or.inl hjp)).1]; exact hx j hjp
  · obtain ⟨c, rfl⟩ : ∃ c, j = s.np + c := ⟨j - s.np, by omega⟩
    exact (z1.done c (by omega)).1

theorem z_row_split (np ne e : Nat) (z f : Nat → Bool) (hf : ∀ j, np ≤ j → f j = false) (hp : ∀ j, j < np → z j = f j)
    (he : ∀ c, c < ne → z (np + c) = decide (c = e)) : ∀ j, j < np + ne → z j = (f j || decide (j = np + e)) := by
  intro j hj
  by_cases hjp : j < np
  · rw [hp j hjp, decide_eq_false (show ¬ j = np + e by omega), Bool.or_false]
  · obtain ⟨c, rfl⟩ : ∃ c, j = np + c := ⟨j - np, by omega⟩
    rw [he c (by omega), hf _ (Nat.le_add_right np c), Bool.false_or]
    exact decide_eq_decide.mpr ⟨fun h => by rw [h], Nat.add_left_cancel⟩

/-- **the single-out pipeline** (every emitter's Pauli to `Z`, CNOTs onto emitter `e`, sign repair) on a generator `g` without X/Y on
    the photons that acts on emitter `e`: the photon part of `g` is kept, and `g` is left with `+`, a `Z` on `e`, nothing else on the
    emitters -/
theorem singleOut_rows (s s1 s2 s3 : St) (g e : Nat) (skip : Bool) (hn : s.t.n = s.np + s.ne) (hg : g < s.t.n)
    (hx : ∀ j, j < s.np → (s.t.row g).x j = false) (he : e ∈ emitterIndices s g)
    (h1 : allEmittersToZ s g skip = .ok s1) (h2 : transformGeneratorEmitters s1 g e = .ok s2) (h3 : fixSign s2 g e = .ok s3) :
    (∀ j, j < s.t.n → (s3.t.row g).x j = false) ∧ (∀ j, j < s.np → (s3.t.row g).z j = (s.t.row g).z j) ∧
    (∀ c, c < s.ne → (s3.t.row g).z (s.np + c) = decide (c = e)) ∧ (s3.t.row g).r = false := by
  simp only [emitterIndices, List.mem_filter, List.mem_range] at he
  obtain ⟨hene, hent⟩ := he
  have z1 := allEmittersToZ_row s s1 g skip hn hg h1
  obtain ⟨n1, p1, e1⟩ := (⟨z1.n_eq, z1.np_eq, z1.ne_eq⟩ : s1.t.n = s.t.n ∧ s1.np = s.np ∧ s1.ne = s.ne)
  have hze1 : (s1.t.row g).z (s1.np + e) = true := by rw [p1, (z1.done e hene).2]; exact hent
  obtain ⟨p2, e2, n2, x2, zp2, ze2⟩ := transformGeneratorEmitters_row s1 s2 g e (by rw [n1, p1, e1]; exact hn) (n1 ▸ hg) (e1 ▸ hene)
    (n1 ▸ z1.xfree hn hx) hze1 h2
  rw [p1] at p2 zp2 ze2
  rw [e1] at ze2
  rw [n1] at n2 x2
  have hze2 : (s2.t.row g).z (s2.np + e) = true := by rw [p2, ze2 e hene]; exact decide_eq_true rfl
  obtain ⟨b3, r3, _, _, _⟩ := fixSign_row s2 s3 g e (n2 ▸ hg) hze2 h3
  rw [n2] at b3
  refine ⟨fun j hj => (b3 j hj).1.trans (x2 j hj), fun j hj => ?_, fun c hc => ?_, r3⟩
  · have hjn : j < s.t.n := hn ▸ Nat.lt_of_lt_of_le hj (Nat.le_add_right _ _)
    rw [(b3 j hjn).2, zp2 j hj]
    exact (z1.rest j hjn (Or.inl hj)).2
  · rw [(b3 _ (hn ▸ Nat.add_lt_add_left hc s.np)).2]; exact ze2 c hc

theorem singleOut_row (s s1 s2 s3 : St) (g e : Nat)
    (hn : s.t.n = s.np + s.ne) (hg : g < s.t.n) (hreal : (s3.t.row g).ip = false)
    (hphot : ∀ j, j < s.np → (s.t.row g).x j = false ∧ (s.t.row g).z j = false)
    (he : e ∈ emitterIndices s g)
    (h1 : allEmittersToZ s g true = .ok s1) (h2 : transformGeneratorEmitters s1 g e = .ok s2)
    (h3 : fixSign s2 g e = .ok s3) : PRow.EqOn (s.np + s.ne) (s3.t.row g) (PRow.Zq (s.np + e)) := by
  obtain ⟨hx3, zp3, ze3, r3⟩ := singleOut_rows s s1 s2 s3 g e true hn hg (fun j hj => (hphot j hj).1) he h1 h2 h3
  refine ⟨fun j hj => ⟨hx3 j (hn ▸ hj), ?_⟩, r3, hreal⟩
  exact (z_row_split s.np s.ne e _ (fun _ => false) (fun _ _ => rfl) (fun j hj => (zp3 j hj).trans (hphot j hj).2) ze3 j hj).trans
    (Bool.false_or _)

end Graphiq.Solver
