/-
  Proofs/SolverCompleteTrm.lean — completeness of the time-reversed solver: the time-reversed measurement.

  After `H_E ; CNOT(E → p)` on a tableau whose group contains `+Z_E` (a free emitter), photon `p` is still not a product qubit and
  the group contains `X_E X_p`: trivial left of `p`, non-trivial at `p`, so in the next echelon form some generator starts at `p`
  (`echelon_row_at`).  `_time_reversed_measurement` RETURNS as soon as some generator acts on no photon
  (`assert len(possible_generators) > 0`) and no generator is the identity.
-/
import GraphiqModel.Proofs.SolverCompleteReach
import GraphiqModel.Proofs.SolverCompleteHelpers
namespace Graphiq.Solver
open Graphiq Graphiq.Cliff PRow STab Module

/-- every element of the group has the bits of a product of selected generators -/
theorem spn_combo (t : STab) (a : PRow) (h : t.Spn a) :
    ∃ S : Nat → Bool, ∀ j, j < t.n → t.comboX S j = a.x j ∧ t.comboZ S j = a.z j := by
  have hm : a.vec t.n ∈ t.gspace := inSpan_vec_mem t.n t.row a h
  obtain ⟨c, hc⟩ := (Submodule.mem_span_range_iff_exists_fun (ZMod 2)).1 hm
  refine ⟨selOf c, fun j hj => ?_⟩
  have := lincomb_apply' t c ⟨j, hj⟩
  rw [hc] at this
  have h1 : b2z (a.x j) = b2z (t.comboX (selOf c) j) := congrArg Prod.fst this
  have h2 : b2z (a.z j) = b2z (t.comboZ (selOf c) j) := congrArg Prod.snd this
  exact ⟨(b2z_inj _ _ h1).symm, (b2z_inj _ _ h2).symm⟩

/-- **echelon lemma, existence form**: a group element trivial on the sites `< p` and non-trivial at `p` forces a generator of the
    echelon tableau whose leading site is exactly `p` -/
theorem echelon_row_at (t : STab) (piv : Nat → Nat) (he : Echelon t piv) (p : Nat) (hp : p < t.n) (a : PRow) (ha : t.Spn a)
    (hlow : ∀ j, j < p → a.x j = false ∧ a.z j = false) (hnt : (a.x p || a.z p) = true) :
    ∃ i, i < t.n ∧ piv i = p := by
  obtain ⟨S, hS⟩ := spn_combo t a ha
  have hge : ∀ i, i < t.n → S i = true → p ≤ piv i := by
    intro i hi hSi
    by_cases hp0 : p = 0
    · omega
    · have := echelon_support t piv he S (p - 1) (fun j hj hjn => by
        have := hS j hjn
        have hl := hlow j (by omega)
        exact ⟨this.1.trans hl.1, this.2.trans hl.2⟩) i hi hSi
      omega
  apply Classical.byContradiction
  intro hno
  have hz : ∀ i, i < t.n → S i = true → (t.row i).x p = false ∧ (t.row i).z p = false := by
    intro i hi hSi
    have h1 := hge i hi hSi
    have h2 : piv i ≠ p := fun e => hno ⟨i, hi, e⟩
    exact PRow.pt_zero_bits _ _ ((he.lead i hi).2.1 p (by omega))
  have hx : t.comboX S p = false := by
    apply parityTo_zero
    intro i hi
    cases hSi : S i
    · rfl
    · simp [(hz i hi hSi).1]
  have hzz : t.comboZ S p = false := by
    apply parityTo_zero
    intro i hi
    cases hSi : S i
    · rfl
    · simp [(hz i hi hSi).2]
  have := hS p hp
  rw [← this.1, ← this.2, hx, hzz] at hnt
  cases hnt

/-! ### `H_E ; CNOT(E → p)` with `+Z_E` in the group -/

/-- the tableau after the two gates of the time-reversed measurement -/
def trmTab (t : STab) (E p : Nat) : STab := ((((t.applyGate (.H E)).norm).applyGate (.CNOT E p)).norm)

theorem trmTab_n (t : STab) (E p : Nat) : (trmTab t E p).n = t.n :=
  (gateNorm_n _ (.CNOT E p)).trans (gateNorm_n t (.H E))

theorem trmTab_bwd (t : STab) (E p : Nat) (hE : E < t.n) (hp : p < t.n) (hEp : E ≠ p) (b : PRow) (hb : (trmTab t E p).Spn b) :
    ∃ a, t.Spn a ∧ EqOn t.n (PRow.cnot E p (PRow.h E a)) b := by
  have hb1 := (norm_spanEq (((t.applyGate (.H E)).norm).applyGate (.CNOT E p))).sup b hb
  obtain ⟨a1, ha1, e1⟩ := applyGate_bwd ((t.applyGate (.H E)).norm) (.CNOT E p) ⟨hE, hp, hEp⟩ b hb1
  have ha1' := (norm_spanEq (t.applyGate (.H E))).sup a1 ha1
  obtain ⟨a, ha, e0⟩ := applyGate_bwd t (.H E) hE a1 ha1'
  refine ⟨a, ha, ?_⟩
  exact ((isAut_cnot t.n E p hE hp hEp).congr _ _ e0).trans e1

theorem trmTab_fwd (t : STab) (E p : Nat) (hE : E < t.n) (hp : p < t.n) (hEp : E ≠ p) (a : PRow) (ha : t.Spn a) :
    (trmTab t E p).Spn (PRow.cnot E p (PRow.h E a)) := by
  have h1 := (norm_spanEq (t.applyGate (.H E))).sub _ (applyGate_fwd t (.H E) hE a ha)
  have h2 := applyGate_fwd ((t.applyGate (.H E)).norm) (.CNOT E p) ⟨hE, hp, hEp⟩ _ h1
  exact (norm_spanEq _).sub _ h2

/-- **the time-reversed measurement keeps photon `p` a non-product qubit** (the emitter `E` is free: `+Z_E` is in the group) -/
theorem trm_notProd (t : STab) (E p : Nat) (hE : E < t.n) (hp : p < t.n) (hEp : E ≠ p) (hg : t.Good)
    (hZ : t.Spn (Zq E)) (hnp : t.NotProd p) : (trmTab t E p).NotProd p := by
  intro b hb hs
  rw [trmTab_n] at hs
  obtain ⟨a, ha, e⟩ := trmTab_bwd t E p hE hp hEp b hb
  have hxE : a.x E = false := spn_xfree t hg E hE _ hZ a ha
  have hbE := hs E hE hEp
  have c1 := (e.1 E hE).1
  have c2 := (e.1 E hE).2
  rw [trm_bits_x E p E a hEp, if_neg hEp, if_pos rfl] at c1
  rw [trm_bits_z E p E a hEp, if_pos rfl] at c2
  have hzE : a.z E = false := c1.trans hbE.1
  have hzp : a.z p = false := by
    have : xor (a.x E) (a.z p) = false := c2.trans hbE.2
    rw [hxE] at this; simpa using this
  have hoff : ∀ j, j < t.n → j ≠ p → a.x j = false ∧ a.z j = false := by
    intro j hj hjp
    by_cases hjE : j = E
    · rw [hjE]; exact ⟨hxE, hzE⟩
    · have d1 := (e.1 j hj).1
      have d2 := (e.1 j hj).2
      rw [trm_bits_x E p j a hEp, if_neg hjp, if_neg hjE] at d1
      rw [trm_bits_z E p j a hEp, if_neg hjE] at d2
      have := hs j hj hjp
      exact ⟨d1.trans this.1, d2.trans this.2⟩
  have hap := hnp a ha hoff
  have f1 := (e.1 p hp).1
  have f2 := (e.1 p hp).2
  have hpE : p ≠ E := fun e => hEp e.symm
  rw [trm_bits_x E p p a hEp, if_pos rfl, hap.1, hzE] at f1
  rw [trm_bits_z E p p a hEp, if_neg hpE] at f2
  exact ⟨f1.symm, f2.symm.trans hzp⟩

/-- after the two gates the group contains `X_E X_p` (the image of `+Z_E`): an element trivial left of `p` and non-trivial at `p` -/
theorem trm_xx (t : STab) (E p : Nat) (hE : E < t.n) (hp : p < t.n) (hpE : p < E) (hZ : t.Spn (Zq E)) :
    ∃ a, (trmTab t E p).Spn a ∧ (∀ j, j < p → a.x j = false ∧ a.z j = false) ∧ (a.x p || a.z p) = true := by
  have hEp : E ≠ p := by omega
  refine ⟨_, trmTab_fwd t E p hE hp hEp _ hZ, ?_, ?_⟩
  · intro j hj
    rw [trm_bits_x E p j _ hEp, trm_bits_z E p j _ hEp, if_neg (by omega), if_neg (by omega), if_neg (by omega)]
    refine ⟨rfl, ?_⟩
    show decide (j = E) = false
    simp; omega
  · rw [trm_bits_x E p p _ hEp, if_pos rfl]
    show (xor false (decide (E = E)) || _) = true
    simp

theorem singleOut_ok (s : St) (g e : Nat) (skip : Bool) (hn : s.t.n = s.np + s.ne) (hg : g < s.t.n)
    (hx : ∀ j, j < s.np → (s.t.row g).x j = false) (he : e ∈ emitterIndices s g) :
    ∃ s1 s2 s3, allEmittersToZ s g skip = .ok s1 ∧ transformGeneratorEmitters s1 g e = .ok s2 ∧ fixSign s2 g e = .ok s3 ∧
      (∀ j, j < s.t.n → (s3.t.row g).x j = false) ∧ (∀ j, j < s.np → (s3.t.row g).z j = (s.t.row g).z j) ∧
      (∀ c, c < s.ne → (s3.t.row g).z (s.np + c) = decide (c = e)) ∧ (s3.t.row g).r = false := by
  obtain ⟨s1, h1⟩ := allEmittersToZ_ok s g skip
  have z1 := allEmittersToZ_row s s1 g skip hn hg h1
  obtain ⟨s2, h2⟩ := transformGeneratorEmitters_ok s1 g e (z1.n_eq ▸ z1.xfree hn hx)
  obtain ⟨s3, h3⟩ := fixSign_ok s2 g e
  exact ⟨s1, s2, s3, h1, h2, h3, singleOut_rows s s1 s2 s3 g e skip hn hg hx he h1 h2 h3⟩

/-- **`_time_reversed_measurement` returns** when some generator acts on no photon (then `possible_generators` is non-empty) and no
    generator is the identity (then the chosen generator acts on some emitter) -/
theorem timeReversedMeasurement_ok (s : St) (photon : Nat) (hn : s.t.n = s.np + s.ne)
    (hex : ∃ i, i < s.t.n ∧ ∀ j, j < s.np → s.t.ptype i j = 0)
    (hnz : ∀ i, i < s.t.n → ∃ j, j < s.t.n ∧ s.t.ptype i j ≠ 0) :
    ∃ s', timeReversedMeasurement s photon = .ok s' := by
  cases hc : ((List.range s.t.n).filter fun i => (List.range s.np).all fun j => !(s.t.row i).x j && !(s.t.row i).z j) with
  | nil =>
    exfalso
    obtain ⟨i, hi, hz⟩ := hex
    have : i ∈ ((List.range s.t.n).filter fun i => (List.range s.np).all fun j => !(s.t.row i).x j && !(s.t.row i).z j) := by
      simp only [List.mem_filter, List.mem_range, List.all_eq_true, Bool.and_eq_true, Bool.not_eq_true']
      exact ⟨hi, fun j hj => PRow.pt_zero_bits _ _ (hz j hj)⟩
    rw [hc] at this; cases this
  | cons g grest =>
    have hgm : g ∈ ((List.range s.t.n).filter fun i => (List.range s.np).all fun j => !(s.t.row i).x j && !(s.t.row i).z j) := by
      rw [hc]; exact List.mem_cons_self
    simp only [List.mem_filter, List.mem_range, List.all_eq_true, Bool.and_eq_true, Bool.not_eq_true'] at hgm
    obtain ⟨hgn, hphot⟩ := hgm
    cases hem : emitterIndices s g with
    | nil =>
      exfalso
      obtain ⟨j, hj, hjnz⟩ := hnz g hgn
      have hjp : ¬ j < s.np := fun h => hjnz (PRow.pt_of_bits _ _ (hphot j h).1 (hphot j h).2)
      have : j - s.np ∈ emitterIndices s g := by
        simp only [emitterIndices, List.mem_filter, List.mem_range]
        refine ⟨by omega, ?_⟩
        have e : s.np + (j - s.np) = j := by omega
        rw [e]
        exact ptype_ne_zero_bits _ _ hjnz
      rw [hem] at this; cases this
    | cons e erest =>
      have hee : e ∈ emitterIndices s g := by rw [hem]; exact List.mem_cons_self
      obtain ⟨s1, s2, s3, h1, h2, h3, _⟩ := singleOut_ok s g e true hn hgn (fun j hj => (hphot j hj).1) hee
      exact ⟨_, (timeReversedMeasurement_ok_iff s _ photon).2 ⟨g, grest, e, erest, s1, s2, s3, hc, hem, h1, h2, h3, rfl⟩⟩

/-- what a returned `_time_reversed_measurement` did to a real commuting tableau: gates on the emitters reaching a tableau `t3` with
    `+Z` on an emitter, then `H` on that emitter and `CNOT(emitter → photon)` -/
theorem timeReversedMeasurement_tab (s s' : St) (photon : Nat) (hn : s.t.n = s.np + s.ne) (hg : s.t.Good)
    (h : timeReversedMeasurement s photon = .ok s') :
    ∃ e t3, e < s.ne ∧ GVia (fun c => s.np ≤ c) s.t t3 ∧ t3.Spn (Zq (s.np + e)) ∧ s'.t = trmTab t3 (s.np + e) photon := by
  obtain ⟨e, s3, q, he, hZ, rfl⟩ := timeReversedMeasurement_spec s s' photon hn h
  have v3 := q.via hn
  have hnp3 := q.keeps.np_eq
  exact ⟨e, s3.t, he, v3, hnp3 ▸ hZ (v3.good hg), by rw [mcrStep, hnp3]; rfl⟩

end Graphiq.Solver
