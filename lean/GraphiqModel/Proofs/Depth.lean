/-
  Depth.lean — `_max_depth` (the literal, un-memoised recursion of circuit_dag.py) as a relation `HasDepth`: the
  recursion returns the related value once the fuel suffices; the ASAP fronts of an operation list (specification
  side); class names as `node_dict` keys (`count_kindName_keys`, `input_not_key`); circuit depth from the recorded
  specification of networkx' longest path (C18).
-/
import GraphiqModel.Proofs.Metrics
import GraphiqModel.Proofs.Loop
namespace Graphiq
namespace Dag
open Relation Metrics

/-! ## relational description of the recursion -/

/-- `root_node in self.node_dict["Input"]` -/
def isInputNode (c : Dag) (n : NodeId) : Prop := (dictGet c.nodeDict "Input").contains n = true

/-- `HasDepth c n d`: the recursion `_max_depth(n)` (input nodes: −1, otherwise 1 + maximum over the sources of the
    in-edges) yields `d`.  `D` assigns to every in-edge the depth of its source. -/
inductive HasDepth (c : Dag) : NodeId → Int → Prop
  | input {n : NodeId} : isInputNode c n → HasDepth c n (-1)
  | node {n : NodeId} {d : Int} (D : Edge → Int) : ¬ isInputNode c n →
      (∀ e ∈ c.edges, e.dst = n → HasDepth c e.src (D e)) →
      (∀ e ∈ c.edges, e.dst = n → D e ≤ d) →
      (∃ e ∈ c.edges, e.dst = n ∧ D e = d) → HasDepth c n (d + 1)

theorem HasDepth.ge {c : Dag} {n : NodeId} {d : Int} (h : HasDepth c n d) : -1 ≤ d := by
  induction h with
  | input _ => exact Int.le_refl _
  | node D _ _ hle hex ih =>
    obtain ⟨e, he, hd, hD⟩ := hex
    have := ih e he hd
    omega

theorem mapM_ok_of_forall {α β : Type} (g : β → Except DErr Int) (s : α → β) (D : α → Int) (l : List α)
    (h : ∀ a ∈ l, g (s a) = .ok (D a)) : (l.map s).mapM g = .ok (l.map D) := by
  rw [List.mapM_map]; exact Loop.mapM_map h

theorem foldl_max_eq {d0 : Int} {rest : List Int} {d : Int} (hle : ∀ x ∈ d0 :: rest, x ≤ d) (hmem : d ∈ d0 :: rest) :
    rest.foldl max d0 = d := by
  induction rest generalizing d0 with
  | nil => simp at hmem; simp [hmem]
  | cons a t ih =>
    rw [List.foldl_cons]
    apply ih
    · intro x hx
      rcases List.mem_cons.mp hx with rfl | hx
      · have h1 := hle d0 (by simp); have h2 := hle a (by simp); omega
      · exact hle x (by simp [hx])
    · rcases List.mem_cons.mp hmem with rfl | hm
      · have h2 := hle a (by simp)
        have : max d a = d := by omega
        rw [this]; simp
      · rcases List.mem_cons.mp hm with rfl | hm
        · have h1 := hle d0 (by simp)
          have : max d0 d = d := by omega
          rw [this]; simp
        · simp [hm]

/-- the literal recursion returns the depth as soon as the fuel exceeds it by two (it never needs more than the length
    of the longest chain below the node) -/
theorem maxDepth_of_hasDepth {c : Dag} {n : NodeId} {d : Int} (h : HasDepth c n d) :
    ∀ f : Nat, d + 2 ≤ (f : Int) → c.maxDepth f n = .ok d := by
  induction h with
  | @input n hin =>
    intro f hf
    cases f with
    | zero => simp at hf
    | succ f' => unfold maxDepth; unfold isInputNode at hin; rw [if_pos hin]
  | @node n d D hnin hpred hle hex ih =>
    intro f hf
    have hge : -1 ≤ d := by
      obtain ⟨e, he, hd, hD⟩ := hex
      have := (hpred e he hd).ge; omega
    cases f with
    | zero => omega
    | succ f' =>
      unfold maxDepth
      unfold isInputNode at hnin
      rw [if_neg hnin]
      have hall : ∀ e ∈ c.inEdges n, c.maxDepth f' e.src = .ok (D e) := by
        intro e he
        have he' := List.mem_filter.mp he
        have hd : e.dst = n := by simpa using he'.2
        apply ih e he'.1 hd
        have := hle e he'.1 hd
        push_cast at hf ⊢; omega
      simp only
      rw [mapM_ok_of_forall (c.maxDepth f') (·.src) D _ hall]
      simp only
      obtain ⟨e, he, hd, hD⟩ := hex
      have hmem : e ∈ c.inEdges n := by simp [inEdges, he, hd]
      cases hl : (c.inEdges n).map D with
      | nil =>
        have : D e ∈ (c.inEdges n).map D := List.mem_map.mpr ⟨_, hmem, rfl⟩
        rw [hl] at this; simp at this
      | cons d0 rest =>
        simp only
        have hle' : ∀ x ∈ d0 :: rest, x ≤ d := by
          intro x hx
          rw [← hl] at hx
          obtain ⟨e', he', rfl⟩ := List.mem_map.mp hx
          have he'' := List.mem_filter.mp he'
          exact hle e' he''.1 (by simpa using he''.2)
        have hmem' : d ∈ d0 :: rest := by
          rw [← hl, ← hD]
          exact List.mem_map.mpr ⟨e, hmem, rfl⟩
        rw [foldl_max_eq hle' hmem']

theorem isInputNode_iff {c : Dag} {P : Paths} (h : Inv c P) (n : NodeId) : isInputNode c n ↔ "Input" ∈ c.keysAt n := by
  unfold isInputNode
  rw [List.contains_iff_mem, ← indexCount_pos_iff, ← h.nodeDict_ok]
  exact List.count_pos_iff.symm

theorem isInputNode_inp {c : Dag} {P : Paths} (h : Inv c P) {r : Reg} (hl : c.live r) : isInputNode c (.inp r) := by
  rw [isInputNode_iff h]
  obtain ⟨op, hop⟩ := mem_nodeIds.mp ((h.inp_iff r).mpr hl)
  unfold keysAt
  rw [(opOf_eq_some h.ids_nodup).mpr hop]
  simp [indexKeysOf]

theorem not_isInputNode_out {c : Dag} {P : Paths} (h : Inv c P) (r : Reg) : ¬ isInputNode c (.out r) := by
  rw [isInputNode_iff h]
  unfold keysAt
  cases ho : c.opOf? (.out r) with
  | none => simp
  | some op => simp [indexKeysOf]

theorem HasDepth.out_of_pred {c : Dag} {P : Paths} (h : Inv c P) {r : Reg} (hl : c.live r) {d : Int}
    (hp : HasDepth c (predOut P r) d) : HasDepth c (.out r) (d + 1) := by
  have hin := h.inEdges_out hl
  have huniq : ∀ e ∈ c.edges, e.dst = .out r → e = lastEdge P r := by
    intro e he hd
    have : e ∈ c.inEdges (.out r) := by simp [inEdges, he, hd]
    rw [hin] at this; simpa using this
  apply HasDepth.node (fun _ => d) (not_isInputNode_out h r)
  · intro e he hd; rw [huniq e he hd]; exact hp
  · intro e _ _; exact Int.le_refl _
  · exact ⟨lastEdge P r, h.lastEdge_mem hl, rfl, rfl⟩

theorem HasDepth.unique {c : Dag} {n : NodeId} {d1 : Int} (h1 : HasDepth c n d1) : ∀ {d2 : Int}, HasDepth c n d2 → d1 = d2 := by
  induction h1 with
  | @input n hi =>
    intro d2 h2
    cases h2 with
    | input _ => rfl
    | node _ hni _ _ _ => exact absurd hi hni
  | @node n d D hni hpred hle hex ih =>
    intro d2 h2
    cases h2 with
    | input hi => exact absurd hi hni
    | @node _ d' D' _ hpred' hle' hex' =>
      obtain ⟨e1, he1, hd1, hD1⟩ := hex
      obtain ⟨e2, he2, hd2, hD2⟩ := hex'
      have a1 : D e1 = D' e1 := ih e1 he1 hd1 (hpred' e1 he1 hd1)
      have a2 : D e2 = D' e2 := ih e2 he2 hd2 (hpred' e2 he2 hd2)
      have b1 := hle' e1 he1 hd1
      have b2 := hle e2 he2 hd2
      omega

/-! ## the specification side: ASAP fronts of an operation list -/

theorem spec_opRegs_eq (op : Op) : Spec.opRegs op = opRegs op := rfl

theorem frontGet_cons_fold (L : Nat) (rs : List Reg) (f : List (Reg × Nat)) (r : Reg) :
    Spec.frontGet (rs.foldl (fun g k => (k, L) :: g) f) r = if r ∈ rs then L else Spec.frontGet f r := by
  induction rs generalizing f with
  | nil => simp
  | cons k t ih =>
    rw [List.foldl_cons, ih]
    by_cases hrt : r ∈ t
    · simp [hrt]
    · simp only [hrt, if_false, List.mem_cons, or_false]
      by_cases hrk : r = k
      · subst hrk; simp [Spec.frontGet, List.lookup]
      · have : (r == k) = false := by simpa using hrk
        simp [Spec.frontGet, List.lookup, this, hrk]

theorem frontGet_pushLayer (f : List (Reg × Nat)) (op : Op) (r : Reg) :
    Spec.frontGet (Spec.pushLayer f op) r = if r ∈ opRegs op then Spec.layerOf f op else Spec.frontGet f r := by
  unfold Spec.pushLayer
  rw [spec_opRegs_eq, frontGet_cons_fold]

theorem foldl_max_nat {α : Type} (g : α → Nat) (l : List α) (a : Nat) :
    a ≤ l.foldl (fun m r => max m (g r)) a ∧ (∀ x ∈ l, g x ≤ l.foldl (fun m r => max m (g r)) a) ∧
    (l.foldl (fun m r => max m (g r)) a = a ∨ ∃ x ∈ l, g x = l.foldl (fun m r => max m (g r)) a) := by
  induction l generalizing a with
  | nil => simp
  | cons b t ih =>
    rw [List.foldl_cons]
    obtain ⟨h1, h2, h3⟩ := ih (max a (g b))
    refine ⟨by omega, ?_, ?_⟩
    · intro x hx
      rcases List.mem_cons.mp hx with rfl | hx
      · omega
      · exact h2 x hx
    · rcases h3 with h3 | ⟨x, hx, h3⟩
      · by_cases hab : g b ≤ a
        · left; rw [h3]; omega
        · right; exact ⟨b, by simp, by rw [h3]; omega⟩
      · right; exact ⟨x, List.mem_cons_of_mem _ hx, h3⟩

theorem fronts_append (pre : List Op) (op : Op) : Spec.fronts (pre ++ [op]) = Spec.pushLayer (Spec.fronts pre) op := by
  simp [Spec.fronts, List.foldl_append]

theorem layers_append (f : List (Reg × Nat)) (pre : List Op) (op : Op) :
    Spec.layers f (pre ++ [op]) = Spec.layers f pre ++ [Spec.layerOf (pre.foldl Spec.pushLayer f) op] := by
  induction pre generalizing f with
  | nil => simp [Spec.layers]
  | cons a t ih => simp [Spec.layers, ih]

theorem foldl_max_append (l : List Nat) (a x : Nat) : (l ++ [x]).foldl max a = max (l.foldl max a) x := by
  simp [List.foldl_append]

theorem spec_depth_append (pre : List Op) (op : Op) :
    Spec.depth (pre ++ [op]) = max (Spec.depth pre) (Spec.layerOf (Spec.fronts pre) op) := by
  unfold Spec.depth
  rw [layers_append, foldl_max_append]
  rfl

/-! ## class names as `node_dict` keys -/

theorem count_kindName_keys {op : Op} (hwf : OpWF op) (hp : PlainOp op) (k : Kind)
    (hk3 : k.name ≠ "Emitter" ∧ k.name ≠ "Photonic" ∧ k.name ≠ "Emitter-Emitter" ∧ k.name ≠ "Emitter-Photonic" ∧
      k.name ≠ "Photonic-Emitter" ∧ k.name ≠ "Photonic-Photonic") :
    op.indexKeys.count k.name = if op.kind = k then 1 else 0 := by
  have h1 : op.labels.count k.name = 0 :=
    List.count_eq_zero.mpr fun hm =>
      hp.labels _ hm (List.mem_append_left _ (List.mem_map_of_mem (Kind.mem_all k)))
  have h3 : op.parseQRegTypes ≠ k.name := by
    rcases parse_cases_of_arity hwf hp.arity with ⟨_, b⟩ | ⟨_, b⟩ | ⟨_, b⟩ | ⟨_, b⟩ | ⟨_, b⟩ | ⟨_, b⟩ <;> rw [b]
    · exact fun e => hk3.1 e.symm
    · exact fun e => hk3.2.1 e.symm
    · exact fun e => hk3.2.2.1 e.symm
    · exact fun e => hk3.2.2.2.1 e.symm
    · exact fun e => hk3.2.2.2.2.1 e.symm
    · exact fun e => hk3.2.2.2.2.2 e.symm
  unfold Op.indexKeys
  rw [List.count_append, h1, Nat.zero_add]
  by_cases hk : op.kind = k
  · rw [if_pos hk, hk, List.count_cons_self, List.count_cons_of_ne h3, List.count_nil]
  · rw [if_neg hk, List.count_cons_of_ne (fun e => hk (Kind.name_inj.mp e)), List.count_cons_of_ne h3, List.count_nil]

theorem input_not_key {op : Op} (hwf : OpWF op) (hp : PlainOp op) : "Input" ∉ op.indexKeys :=
  List.count_eq_zero.mp ((count_kindName_keys hwf hp .input (by decide)).trans (if_neg hwf.not_input))

end Dag

namespace Metrics
open Dag

theorem fronts_bound (seq : List Op) (f : List (Reg × Nat)) (B : Nat) (hB : ∀ r, Spec.frontGet f r ≤ B) :
    ∀ r, Spec.frontGet (seq.foldl Spec.pushLayer f) r ≤ B + seq.length := by
  induction seq generalizing f B with
  | nil => simpa using hB
  | cons op rest ih =>
    intro r
    rw [List.foldl_cons]
    have hstep : ∀ r, Spec.frontGet (Spec.pushLayer f op) r ≤ B + 1 := by
      intro r
      rw [frontGet_pushLayer]
      by_cases hr : r ∈ opRegs op
      · simp only [hr, if_true]
        unfold Spec.layerOf
        rw [spec_opRegs_eq]
        obtain ⟨_, _, a3⟩ := foldl_max_nat (fun r => Spec.frontGet f r) (opRegs op) 0
        rcases a3 with h0 | ⟨x, _, hx⟩
        · rw [h0]; omega
        · rw [← hx]; have := hB x; omega
      · simp only [hr, if_false]; have := hB r; omega
    have := ih (Spec.pushLayer f op) (B + 1) hstep r
    simp only [List.length_cons]; omega

theorem regDepth_le_length (seq : List Op) (r : Reg) : Spec.regDepth seq r ≤ seq.length := by
  have := fronts_bound seq [] 0 (by intro r; simp [Spec.frontGet]) r
  simpa [Spec.regDepth, Spec.fronts] using this

end Metrics

/-! ## circuit depth: the longest path (networkx' `dag_longest_path_length`) and the largest ASAP layer -/
namespace Dag
open Relation Metrics

/-- a directed walk `a → … → b` with `k` edges -/
inductive Walk (c : Dag) : NodeId → NodeId → Nat → Prop
  | nil (a : NodeId) : Walk c a a 0
  | snoc {a x b : NodeId} {k : Nat} : Walk c a x k → c.E x b → Walk c a b (k + 1)

/-- recorded specification of `nx.dag_longest_path_length(G)`: the number of edges of a longest directed walk -/
def LongestPathSpec (c : Dag) (L : Nat) : Prop := (∃ a b, Walk c a b L) ∧ ∀ a b k, Walk c a b k → k ≤ L

def AllDepth (c : Dag) (B : Int) : Prop := ∀ n ∈ c.nodeIds, ∃ d, HasDepth c n d ∧ d ≤ B

theorem Walk.le_depth {c : Dag} (hsrc : ∀ x b, isInputNode c b → ¬ c.E x b) {a b : NodeId} {k : Nat} (w : Walk c a b k) :
    ∀ d, HasDepth c b d → (k : Int) ≤ d + 1 := by
  induction w with
  | nil => intro d hd; have := hd.ge; omega
  | @snoc x b k w hxb ih =>
    intro d hd
    cases hd with
    | input hi => exact absurd hxb (hsrc x b hi)
    | @node _ d' D _ hpred hle _ =>
      obtain ⟨e, he, rfl, rfl⟩ := hxb
      have h1 := ih (D e) (hpred e he rfl)
      have h2 := hle e he rfl
      push_cast; omega

theorem HasDepth.walk {c : Dag} {b : NodeId} {d : Int} (h : HasDepth c b d) : ∃ a, Walk c a b (d + 1).toNat := by
  induction h with
  | @input n _ => exact ⟨n, by simpa using Walk.nil n⟩
  | @node n d D _ hpred _ hex ih =>
    obtain ⟨e, he, hd, hD⟩ := hex
    obtain ⟨a, wa⟩ := ih e he hd
    have hge := (hpred e he hd).ge
    refine ⟨a, ?_⟩
    have : (d + 1 + 1).toNat = (D e + 1).toNat + 1 := by rw [hD]; omega
    rw [this]
    exact Walk.snoc wa ⟨e, he, rfl, hd⟩

/-- **depth from the specification of networkx**: if every node has a depth ≤ `B`, some node attains `B`, and input
    nodes have no in-edges, then any `L` meeting the longest-path specification is `B + 1` — so `depth = L − 1 = B` -/
theorem depth_of_allDepth {c : Dag} {B : Int} (hall : AllDepth c B) (hsrc : ∀ x b, isInputNode c b → ¬ c.E x b)
    (hatt : ∃ n, HasDepth c n B) (hnodes : ∀ a b k, Walk c a b k → 0 < k → b ∈ c.nodeIds) {L : Nat}
    (hL : LongestPathSpec c L) : Dag.depthWith L = B := by
  obtain ⟨n, hn⟩ := hatt
  have hB := hn.ge
  obtain ⟨a, wa⟩ := hn.walk
  have h1 : (B + 1).toNat ≤ L := hL.2 a n _ wa
  obtain ⟨a', b', w'⟩ := hL.1
  have h2 : (L : Int) ≤ B + 1 := by
    by_cases hL0 : L = 0
    · subst hL0; push_cast; omega
    · obtain ⟨d, hd, hdB⟩ := hall b' (hnodes a' b' L w' (by omega))
      have := w'.le_depth hsrc d hd
      omega
  unfold depthWith
  omega

end Dag
end Graphiq
