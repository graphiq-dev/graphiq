/-
  Proofs/MixtureDMFinal.lean — C06 (c) for the executable models, every circuit and every number of qubits:

  * `compileDM_toC` : for a measurement-free circuit on existing qubits, whenever `DensityMatrixCompiler.compile` (the exact
    model `compileDM`: `Mat` over ℚ[i], `hermitianize` and tabulation as coded) returns, its matrix is the Hilbert-space run
    `runH` of the placement trace on `|0…0⟩⟨0…0|`, and stays Hermitian;
  * `placeOp_backend`, `traceGo_backend` : on such circuits both backends produce the same placement trace;
  * `dm_equals_mixture` : the density-matrix result equals `mixtureDensity` of the stabilizer backend's mixture, entry by entry.
-/
import GraphiqModel.Proofs.MixtureDMBridgeStab
namespace Graphiq
namespace MixDM
open Matrix Hilbert Noise DM

/-! ### the placement trace does not depend on the backend (measurement-free operations) -/

theorem addl_backend (np : Nat) (op : COp) (k : Nat) (a b : NoiseM) (hf : MFree op) :
    addl .dm np op k a b = addl .stab np op k a b := by
  rw [addl_eq .dm np op k a b hf, addl_eq .stab np op k a b hf]

theorem placeOp_backend (ns : Bool) (np : Nat) (op : COp) (k : Nat) (hf : MFree op) :
    placeOp ns .dm np op k = placeOp ns .stab np op k := by
  unfold placeOp
  simp only [addl_backend np op k _ _ hf]

theorem traceGo_congr (ns : Bool) (np : Nat) : ∀ (ops : List COp) (k : Nat),
    (∀ op ∈ ops, ∀ j, placeOp ns .dm np op j = placeOp ns .stab np op j) →
    traceGo ns .dm np ops k = traceGo ns .stab np ops k
  | [], _, _ => rfl
  | op :: rest, k, h => by
    simp only [traceGo]
    rw [h op List.mem_cons_self k, traceGo_congr ns np rest (k + 1) (fun o ho => h o (List.mem_cons_of_mem _ ho))]

theorem traceGo_backend (ns : Bool) (np : Nat) (ops : List COp) (k : Nat) (h : ∀ op ∈ ops, MFree op) :
    traceGo ns .dm np ops k = traceGo ns .stab np ops k :=
  traceGo_congr ns np ops k (fun op ho j => placeOp_backend ns np op j (h op ho))

/-! ### the density-matrix compile loop -/

theorem actH_herm (np n : Nat) (arr : Array COp) (a : Act) (R : HMat n) (h : Rᴴ = R) :
    (actH np n arr a R)ᴴ = actH np n arr a R := by
  cases a with
  | gate k => exact gateH_herm np n _ R h
  | noise k side q nm => exact noiseH_herm n nm q R h
  | replace k => exact h

theorem dmAct_toC (np n : Nat) (det : Bool) (arr : Array COp) (s s' : DmSt) (a : Act)
    (ha : ActP (OpOK n np) (fun q _ => q < n) arr a)
    (ρ : Mat) (hs : s.ρ = some ρ) (hρ : ρ.n = 2 ^ n) (hh : (toC n ρ)ᴴ = toC n ρ)
    (h : dmAct np n det arr s a = .ok s') :
    ∃ ρ', s'.ρ = some ρ' ∧ toC n ρ' = actH np n arr a (toC n ρ) ∧ ρ'.n = 2 ^ n := by
  cases a with
  | gate k =>
    simp only [dmAct] at h
    show ∃ ρ', s'.ρ = some ρ' ∧ toC n ρ' = gateH np n (arr.getD k { kind := .identity }) (toC n ρ) ∧ _
    cases hk : arr[k]? with
    | none =>
      have e := getD_none arr k hk
      rw [e] at h ⊢
      simp only [dmGate, hs] at h
      injection h with h; subst h
      exact ⟨ρ, hs, (conjH_one _).symm, hρ⟩
    | some op =>
      have e := getD_some arr k op hk
      rw [e] at h ⊢
      exact dmGate_toC np n det op (ha op hk).mfree (ha op hk).wf s s' ρ hs hρ hh h
  | noise k side q nm =>
    obtain ⟨r, hn, rfl⟩ := dmAct_noise_inv hs h
    obtain ⟨e, hr⟩ := dmNoise_toC n q ha nm ρ r hρ hh hn
    exact ⟨r, rfl, e, hr⟩
  | replace k => simp [dmAct] at h

theorem toC_rho0 (n : Nat) :
    toC n (⟨pow2 n, fun i j => if i = 0 ∧ j = 0 then 1 else 0⟩ : Mat).norm = rho0 n := by
  rw [toC_norm n _ rfl, (rep_rho0 n).toC]
  ext a b
  exact (rho_zero n a b).symm

theorem rho0_herm (n : Nat) : (rho0 n)ᴴ = rho0 n := by
  ext a b
  rw [Matrix.conjTranspose_apply]
  show star (rho n (STab.zero n) b a) = rho n (STab.zero n) a b
  rw [rho_zero, rho_zero]
  by_cases h : a = (fun _ => false) ∧ b = (fun _ => false)
  · rw [if_pos h, if_pos ⟨h.2, h.1⟩]; simp
  · rw [if_neg h, if_neg (fun h' => h ⟨h'.2, h'.1⟩)]; simp

/-- **the density-matrix compile is the Hilbert-space run of its placement trace** (measurement-free circuits, all n) -/
theorem compileDM_toC (ns : Bool) (ne np nc : Nat) (det : Bool) (ops : List COp)
    (hw : ∀ op ∈ ops, OpOK (ne + np) np op) (d : DmSt) (h : compileDM ns ne np nc det ops = .ok d) :
    ∃ tr, compileTrace ns .dm np ops = .ok tr ∧
      ∃ ρ, d.ρ = some ρ ∧ toC (ne + np) ρ = runH np (ne + np) ops.toArray tr (rho0 (ne + np)) ∧ ρ.n = 2 ^ (ne + np) ∧
        (toC (ne + np) ρ)ᴴ = toC (ne + np) ρ := by
  obtain ⟨tr, htr, hrun⟩ := dmGo_run.1 h
  refine ⟨tr, htr, ?_⟩
  have := runActs_sim (actH np (ne + np) ops.toArray)
    (fun d R => ∃ ρ, d.ρ = some ρ ∧ toC (ne + np) ρ = R ∧ ρ.n = 2 ^ (ne + np) ∧ (toC (ne + np) ρ)ᴴ = toC (ne + np) ρ) _
    (fun d d1 a R ha ⟨ρ, hρ, e, hn, hh⟩ hd => by
      obtain ⟨ρ1, hρ1, e1, n1⟩ := dmAct_toC np (ne + np) det ops.toArray d d1 a ha ρ hρ hn hh hd
      exact ⟨ρ1, hρ1, by rw [e1, e], n1, by rw [e1]; exact actH_herm np (ne + np) ops.toArray a _ hh⟩) tr _ d (rho0 (ne + np))
    (trace_actP (N := fun q _ => q < ne + np) (toArray_forall hw) (fun op ho => (hw op ho).wf.noise) htr)
    ⟨_, rfl, toC_rho0 (ne + np), rfl, by rw [toC_rho0]; exact rho0_herm _⟩ hrun
  rwa [runH_foldl] at this

/-! ### the two backends agree -/

/-- **C06 (c), executable models, every circuit and every number of qubits.**  For a measurement-free circuit on existing
    qubits with depolarizing probabilities in `[0,1]`: if both compilers return, the density-matrix backend's matrix equals
    `Σ_k w_k ρ(T_k)` of the stabilizer backend's mixture, entry by entry (exact arithmetic over ℚ[i]). -/
theorem dm_equals_mixture (ns : Bool) (ne np nc : Nat) (det : Bool) (ops : List COp)
    (hw : ∀ op ∈ ops, OpOK (ne + np) np op) (s : StabSt) (d : DmSt) (ρ : Mat)
    (hs : compileStab ns ne np nc det ops = .ok s) (hd : compileDM ns ne np nc det ops = .ok d) (hρ : d.ρ = some ρ) :
    Mat.EqOn ρ (mixtureDensity (ne + np) s.mix) := by
  obtain ⟨tr1, ht1, e1, m1⟩ := compileStab_mixRho ns ne np nc det ops hw s hs
  obtain ⟨tr2, ht2, ρ', hρ', e2, n2, _⟩ := compileDM_toC ns ne np nc det ops hw d hd
  rw [hρ] at hρ'
  injection hρ' with hρ'
  subst hρ'
  have htr : tr1 = tr2 := by
    unfold compileTrace at ht1 ht2
    rw [traceGo_backend ns np ops 0 (fun op ho => (hw op ho).mfree), ht1] at ht2
    injection ht2
  subst htr
  obtain ⟨e3, n3⟩ := toC_mixtureDensity (ne + np) s.mix m1
  exact toC_inj (ne + np) _ _ n2 n3 (by rw [e2, e3, e1])

end MixDM
end Graphiq
