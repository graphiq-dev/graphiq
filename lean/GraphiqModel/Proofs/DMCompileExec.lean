/-
  Proofs/DMCompileExec.lean — the *executable* exact model of the density-matrix backend (`Model/DMSem.lean`:
  `applyUnitary`, `applyChannel`, `applyMeasurement`, the gate builders; `Model/Noise.lean`: `dmGate`, `compileDM`) is the
  Hilbert-space semantics `DMH.dmRunH` of Proofs/DMCompileH.lean under the representation `Rep` of
  Proofs/HilbertBridgeMat.lean (`Mat` of size `2^n` over ℚ[i], numpy index ↔ bit string), and therefore

      compileDM (noise off) on the translated circuit = ρ(stabRun circuit), with the same classical registers

  for every circuit, every register mix and both forced measurement settings (`compileDM_eq_stab`).
  (`compileDM` takes the setting as a `Bool`; probabilistic runs are replayed by the harness as forced ones.)
-/
import GraphiqModel.Proofs.HilbertBridgeMethods
import GraphiqModel.Proofs.DMGate
import GraphiqModel.Proofs.HilbertBridgeDensity
import GraphiqModel.Proofs.DMCompileH
import GraphiqModel.Model.Noise
namespace Graphiq
namespace DMX
open Hilbert DMH Matrix

/-! ### translation of circuits, classical registers -/

def regT : Graphiq.RegT → Noise.RegT
  | .e => .e
  | .p => .p

def kindOfGen : Cliff.Gen → Noise.Kind
  | .I => .identity | .H => .h | .P => .s | .X => .x | .Y => .y | .Z => .z

/-- the operations of `circuit.sequence(unwrapped=True)` for one circuit operation -/
def trOp : Graphiq.COp → List Noise.COp
  | .gate1 g q => [{ kind := kindOfGen g, r1 := q.idx, t1 := regT q.ty }]
  | .pdag q => [{ kind := .sdg, r1 := q.idx, t1 := regT q.ty }]
  | .cnot c t => [{ kind := .cnot, r1 := c.idx, t1 := regT c.ty, r2 := t.idx, t2 := regT t.ty }]
  | .cz c t => [{ kind := .cz, r1 := c.idx, t1 := regT c.ty, r2 := t.idx, t2 := regT t.ty }]
  | .ccx c t creg => [{ kind := .ccnot, r1 := c.idx, t1 := regT c.ty, r2 := t.idx, t2 := regT t.ty, c := creg }]
  | .ccz c t creg => [{ kind := .ccz, r1 := c.idx, t1 := regT c.ty, r2 := t.idx, t2 := regT t.ty, c := creg }]
  | .mcr c t creg => [{ kind := .mcr, r1 := c.idx, t1 := regT c.ty, r2 := t.idx, t2 := regT t.ty, c := creg }]
  | .measz q creg => [{ kind := .measZ, r1 := q.idx, t1 := regT q.ty, c := creg }]
  | .wrap gs q => gs.reverse.map fun g => { kind := kindOfGen g, r1 := q.idx, t1 := regT q.ty }

def trOps (ops : List Graphiq.COp) : List Noise.COp := ops.flatMap trOp

theorem qIndex_tr (np : Nat) (q : QReg) : Noise.qIndex np q.idx (regT q.ty) = Graphiq.qIndex np q := by
  cases q with
  | mk ty idx => cases ty <;> rfl

/-- the register array after a list of writes, from all zeros (`classical_registers[c] = outcome`) -/
def regsOf (nc : Nat) (w : List (Nat × Bool)) : List Nat :=
  w.foldl (fun r cw => Noise.setRec r cw.1 (if cw.2 then 1 else 0)) (List.replicate nc 0)

theorem regsOf_append (nc : Nat) (w : List (Nat × Bool)) (c : Nat) (v : Bool) :
    regsOf nc (w ++ [(c, v)]) = Noise.setRec (regsOf nc w) c (if v then 1 else 0) := by
  simp [regsOf, List.foldl_append]

def RepSt (n nc : Nat) (st : Noise.DmSt) (h : HState n) : Prop :=
  ∃ m, st.ρ = some m ∧ Rep n m h.ρ ∧ st.creg = regsOf nc h.writes

/-! ### `dmGate`, one kind at a time -/

theorem exec_gate (np n nc : Nat) (det : Bool) {st : Noise.DmSt} {h : HState n} (hst : RepSt n nc st h) {op : Noise.COp}
    {g : Gate} (hg : Noise.tableGate op.kind (Noise.qIndex np op.r1 op.t1) (Noise.qIndex np op.r2 op.t2) = some g)
    (hw : g.WF n) :
    ∃ st', Noise.dmGate np n det op st = .ok st' ∧ RepSt n nc st' { h with ρ := applyUnitary h.ρ (gateMat n g) } := by
  obtain ⟨m, hm, hrep, hc⟩ := hst
  obtain ⟨ρ', e, r⟩ := Noise.dmGate_gate det hg hw hm hrep
  exact ⟨_, e, ρ', rfl, r, hc⟩

theorem exec_gen1 (np n nc : Nat) (det : Bool) (st : Noise.DmSt) (h : HState n) (hst : RepSt n nc st h) (g : Cliff.Gen)
    (r1 : Nat) (t1 : Noise.RegT) (hq : Noise.qIndex np r1 t1 < n) :
    ∃ st', Noise.dmGate np n det { kind := kindOfGen g, r1 := r1, t1 := t1 } st = .ok st' ∧
      RepSt n nc st' { h with ρ := gen1H n h.ρ g (Noise.qIndex np r1 t1) } := by
  cases g with
  | I =>
    obtain ⟨m, hm, hrep, hc⟩ := hst
    exact ⟨st, Noise.dmGate_skip (Or.inr (Or.inr rfl)), m, hm, hrep, hc⟩
  | H =>
    simp only [gen1H, hadamard_gate]
    exact exec_gate np n nc det hst (g := .H _) rfl hq
  | P => exact exec_gate np n nc det hst (g := .P _) rfl hq
  | X => exact exec_gate np n nc det hst (g := .X _) rfl hq
  | Y => exact exec_gate np n nc det hst (g := .Y _) rfl hq
  | Z => exact exec_gate np n nc det hst (g := .Z _) rfl hq

theorem exec_measZ (np n nc : Nat) (det : Bool) (st : Noise.DmSt) (h : HState n) (hst : RepSt n nc st h)
    (r1 : Nat) (t1 : Noise.RegT) (creg : Nat) (hq : Noise.qIndex np r1 t1 < n)
    (hpos : 0 < measNormH h.ρ (projZ n (Noise.qIndex np r1 t1) false) (projZ n (Noise.qIndex np r1 t1) true) (detOf det)
      h.script) :
    ∃ st', Noise.dmGate np n det { kind := .measZ, r1 := r1, t1 := t1, c := creg } st = .ok st' ∧
      RepSt n nc st' ((h.measure (detOf det) (Noise.qIndex np r1 t1)).1.write creg
        (h.measure (detOf det) (Noise.qIndex np r1 t1)).2) := by
  obtain ⟨m, hm, hrep, hc⟩ := hst
  obtain ⟨p0, p1, ep, r0, r1'⟩ := rep_projectorsZ n (Noise.qIndex np r1 t1) hq
  obtain ⟨m', e, r⟩ := rep_applyMeasurement hrep r0 r1' det h.script hpos
  refine ⟨_, by rw [Noise.dmGate_meas (Or.inl rfl) hm]; simp only [Noise.dmMeas, Noise.measPauli, ep, e]; rfl, m', rfl, r, ?_⟩
  show Noise.setRec st.creg creg _ = regsOf nc (h.writes ++ [(creg, _)])
  rw [regsOf_append, hc]
  rfl

/-- the three measuring kinds of `compile_one_gate` (classical CNOT, classical CZ, measure-CNOT-reset) under `RepSt`: each is
    `dmMeas` (`Noise.dmGate_meas`), whose steps are `rep_applyMeasurement`, `rep_applyUnitary_one` on outcome 1, the register
    write and, for the third, `rep_resetChannel`; the hypothesis is the positive divisor `rep_applyMeasurement` asks for -/
theorem exec_classical (np n nc : Nat) (det : Bool) (st : Noise.DmSt) (h : HState n) (hst : RepSt n nc st h)
    (r1 r2 : Nat) (t1 t2 : Noise.RegT) (creg : Nat) (hc1 : Noise.qIndex np r1 t1 < n) (hc2 : Noise.qIndex np r2 t2 < n)
    (hpos : 0 < measNormH h.ρ (projZ n (Noise.qIndex np r1 t1) false) (projZ n (Noise.qIndex np r1 t1) true) (detOf det)
      h.script) :
    let m := h.measure (detOf det) (Noise.qIndex np r1 t1)
    (∃ st', Noise.dmGate np n det { kind := .ccnot, r1 := r1, t1 := t1, r2 := r2, t2 := t2, c := creg } st = .ok st' ∧
      RepSt n nc st' ((m.1.condU m.2 (oneQ n (Noise.qIndex np r2 t2) sigmaX)).write creg m.2)) ∧
    (∃ st', Noise.dmGate np n det { kind := .ccz, r1 := r1, t1 := t1, r2 := r2, t2 := t2, c := creg } st = .ok st' ∧
      RepSt n nc st' ((m.1.condU m.2 (oneQ n (Noise.qIndex np r2 t2) sigmaZ)).write creg m.2)) ∧
    (∃ st', Noise.dmGate np n det { kind := .mcr, r1 := r1, t1 := t1, r2 := r2, t2 := t2, c := creg } st = .ok st' ∧
      RepSt n nc st' (((m.1.condU m.2 (oneQ n (Noise.qIndex np r2 t2) sigmaX)).write creg m.2).reset
        (Noise.qIndex np r1 t1))) := by
  intro mm
  obtain ⟨m, hm, hrep, hc⟩ := hst
  obtain ⟨p0, p1, ep, r0, r1'⟩ := rep_projectorsZ n (Noise.qIndex np r1 t1) hc1
  obtain ⟨m1, e1, rep1⟩ := rep_applyMeasurement hrep r0 r1' det h.script hpos
  have hcreg : Noise.setRec st.creg creg (if mm.2 = true then 1 else 0) = regsOf nc (h.writes ++ [(creg, mm.2)]) := by
    rw [regsOf_append, hc]
  -- the conditional gate, for a 2×2 block `u` represented by `g`
  have cond : ∀ (g : Mat) (u : Matrix Bool Bool ℂ), Rep2 g u →
      ∃ m2, (if mm.2 = true then DM.applyUnitary m1 ⟨1, DM.getOneQubitGate n (Noise.qIndex np r2 t2) g⟩ else .ok m1) = .ok m2 ∧
        Rep n m2 (mm.1.condU mm.2 (oneQ n (Noise.qIndex np r2 t2) u)).ρ := by
    intro g u hg
    cases hb : mm.2 with
    | false =>
      refine ⟨m1, by simp, ?_⟩
      simp only [HState.condU, Bool.false_eq_true, if_false]
      exact rep1
    | true =>
      obtain ⟨m2, e2, rep2⟩ := rep_applyUnitary_one rep1 (rep_getOneQubitGate n _ hc2 _ _ hg)
      refine ⟨m2, by simp [e2], ?_⟩
      simp only [HState.condU, if_true]
      exact rep2
  have hmm2 : (measureH h.ρ (projZ n (Noise.qIndex np r1 t1) false) (projZ n (Noise.qIndex np r1 t1) true) (detOf det)
      h.script).2.1 = mm.2 := rfl
  rw [hmm2] at e1
  refine ⟨?_, ?_, ?_⟩
  · obtain ⟨m2, e2, rep2⟩ := cond _ _ rep2_sigmax
    refine ⟨{ ρ := some m2, creg := Noise.setRec st.creg creg (if mm.2 = true then 1 else 0) }, ?_, m2, rfl, rep2, hcreg⟩
    rw [Noise.dmGate_meas (Or.inr (Or.inl rfl)) hm]
    simp only [Noise.dmMeas, Noise.measPauli, ep, e1, e2]
    rfl
  · obtain ⟨m2, e2, rep2⟩ := cond _ _ rep2_sigmaz
    refine ⟨{ ρ := some m2, creg := Noise.setRec st.creg creg (if mm.2 = true then 1 else 0) }, ?_, m2, rfl, rep2, hcreg⟩
    rw [Noise.dmGate_meas (Or.inr (Or.inr (Or.inl rfl))) hm]
    simp only [Noise.dmMeas, Noise.measPauli, ep, e1, e2]
    rfl
  · obtain ⟨m2, e2, rep2⟩ := cond _ _ rep2_sigmax
    obtain ⟨m3, e3, rep3⟩ := rep_resetChannel (Noise.qIndex np r1 t1) hc1 rep2
    refine ⟨{ ρ := some m3, creg := Noise.setRec st.creg creg (if mm.2 = true then 1 else 0) }, ?_, m3, rfl, rep3, hcreg⟩
    rw [Noise.dmGate_meas (Or.inr (Or.inr (Or.inr rfl))) hm]
    simp only [Noise.dmMeas, Noise.measPauli, ep, e1, e2, e3]
    rfl

/-! ### the compile loop -/

/-- the noise-free `for op in seq` loop of the executable model: a fold of `dmGate` -/
def dmFoldX (np n : Nat) (det : Bool) : List Noise.COp → Noise.DmSt → Except Err Noise.DmSt
  | [], s => .ok s
  | op :: rest, s =>
    match Noise.dmGate np n det op s with
    | .ok s' => dmFoldX np n det rest s'
    | .error e => .error e

theorem dmFoldX_append (np n : Nat) (det : Bool) (a b : List Noise.COp) (s s' : Noise.DmSt)
    (h : dmFoldX np n det a s = .ok s') : dmFoldX np n det (a ++ b) s = dmFoldX np n det b s' := by
  induction a generalizing s with
  | nil => simp only [dmFoldX] at h; injection h with h; subst h; rfl
  | cons op rest ih =>
    simp only [List.cons_append, dmFoldX] at h ⊢
    cases h1 : Noise.dmGate np n det op s with
    | error e => rw [h1] at h; cases h
    | ok s1 => rw [h1] at h; simp only at h ⊢; exact ih s1 h

theorem placeOp_off' (np : Nat) (op : Noise.COp) (k : Nat) : Noise.placeOp false .dm np op k = .ok [.gate k] := by
  unfold Noise.placeOp
  simp

/-- with noise simulation off, `compileDM`'s loop is the fold of `dmGate` -/
theorem dmGo_off (np n : Nat) (det : Bool) (arr : Array Noise.COp) :
    ∀ (rest : List Noise.COp) (k : Nat) (s : Noise.DmSt),
      (∀ i (hi : i < rest.length), arr.getD (k + i) { kind := .identity } = rest[i]) →
      Noise.dmGo false np n det arr rest k s = dmFoldX np n det rest s := by
  intro rest
  induction rest with
  | nil => intro k s _; rfl
  | cons op rest ih =>
    intro k s harr
    have h0 : arr.getD k { kind := .identity } = op := by
      have := harr 0 (by simp)
      simpa using this
    simp only [Noise.dmGo, placeOp_off', Noise.runDmActs, Noise.dmAct, h0, dmFoldX]
    cases h1 : Noise.dmGate np n det op s with
    | error e => rfl
    | ok s1 =>
      simp only
      apply ih
      intro i hi
      have := harr (i + 1) (by simp; omega)
      simp only [List.getElem_cons_succ] at this
      rw [← this]
      congr 1
      omega

theorem exec_gen1_list (np n nc : Nat) (det : Bool) (r1 : Nat) (t1 : Noise.RegT) (hq : Noise.qIndex np r1 t1 < n)
    (gs : List Cliff.Gen) :
    ∀ (st : Noise.DmSt) (h : HState n), RepSt n nc st h →
      ∃ st', dmFoldX np n det (gs.map fun g => { kind := kindOfGen g, r1 := r1, t1 := t1 }) st = .ok st' ∧
        RepSt n nc st' { h with ρ := gs.foldl (fun ρ g => gen1H n ρ g (Noise.qIndex np r1 t1)) h.ρ } := by
  induction gs with
  | nil => intro st h hst; exact ⟨st, rfl, hst⟩
  | cons g rest ih =>
    intro st h hst
    obtain ⟨st1, e1, r1'⟩ := exec_gen1 np n nc det st h hst g r1 t1 hq
    obtain ⟨st2, e2, r2⟩ := ih st1 _ r1'
    refine ⟨st2, ?_, r2⟩
    simp only [List.map_cons, dmFoldX, e1]
    exact e2

/-- **One circuit operation**: the executable model's steps for the translated operation take a state representing
    `ρ(s.t)` (with the registers of `s`) to one representing `ρ(s'.t)` (with the registers of `s'`). -/
theorem exec_op (np n nc : Nat) (det : Bool) (s s' : RunState) (op : Graphiq.COp) (hwf : op.WF np) (hinv : RunInv n s)
    (hs : stepOp np n (detOf det) s op = some s') (st : Noise.DmSt) (hst : RepSt n nc st (hstate n s)) :
    ∃ st', dmFoldX np n det (trOp op) st = .ok st' ∧ RepSt n nc st' (hstate n s') := by
  have hH := dmStepH_stab np n (detOf det) s s' op hwf hinv hs
  obtain ⟨hv, hn, hr⟩ := hinv
  have hpos : ∀ q, q < n → 0 < measNormH (hstate n s).ρ (projZ n q false) (projZ n q true) (detOf det) (hstate n s).script := by
    intro q hq
    subst hn
    exact measNormH_pos_tab s hv hr (detOf det) q hq
  have one : ∀ (o : Noise.COp) (h' : HState n),
      (∃ st', Noise.dmGate np n det o st = .ok st' ∧ RepSt n nc st' h') → some h' = some (hstate n s') →
      ∃ st', dmFoldX np n det [o] st = .ok st' ∧ RepSt n nc st' (hstate n s') := by
    intro o h' ⟨st', e, r⟩ heq
    injection heq with heq
    refine ⟨st', ?_, heq ▸ r⟩
    simp only [dmFoldX, e]
  cases op with
  | gate1 g q =>
    have hq := (ite_some_eq hs).1
    simp only [dmStepH, if_pos hq] at hH
    rw [← qIndex_tr] at hq hH
    exact one _ _ (exec_gen1 np n nc det st _ hst g q.idx (regT q.ty) hq) hH
  | pdag q =>
    have hq := (ite_some_eq hs).1
    simp only [dmStepH, if_pos hq] at hH
    rw [← qIndex_tr] at hq hH
    exact one _ _ (exec_gate np n nc det hst (g := .Pdag _) rfl hq) hH
  | cnot c t =>
    have hq := (ite_some_eq hs).1
    have hne : Graphiq.qIndex np c ≠ Graphiq.qIndex np t := hwf
    simp only [dmStepH, if_pos hq, if_neg hne, ctrlG_eq _ _ _ hq.1 hq.2 hne] at hH
    rw [← qIndex_tr np c, ← qIndex_tr np t] at hq hH hne
    exact one _ _ (exec_gate np n nc det hst (g := .CNOT _ _) rfl ⟨hq.1, hq.2, hne⟩) hH
  | cz c t =>
    have hq := (ite_some_eq hs).1
    have hne : Graphiq.qIndex np c ≠ Graphiq.qIndex np t := hwf
    simp only [dmStepH, if_pos hq, if_neg hne, ctrlG_eq _ _ _ hq.1 hq.2 hne] at hH
    rw [← qIndex_tr np c, ← qIndex_tr np t] at hq hH hne
    exact one _ _ (exec_gate np n nc det hst (g := .CZ _ _) rfl ⟨hq.1, hq.2, hne⟩) hH
  | ccx c t creg =>
    have hq := (ite_some_eq hs).1
    simp only [dmStepH, if_pos hq] at hH
    have hp := hpos _ hq.1
    rw [← qIndex_tr np c, ← qIndex_tr np t] at hq hH
    rw [← qIndex_tr np c] at hp
    exact one _ _ (exec_classical np n nc det st _ hst c.idx t.idx (regT c.ty) (regT t.ty) creg hq.1 hq.2 hp).1 hH
  | ccz c t creg =>
    have hq := (ite_some_eq hs).1
    simp only [dmStepH, if_pos hq] at hH
    have hp := hpos _ hq.1
    rw [← qIndex_tr np c, ← qIndex_tr np t] at hq hH
    rw [← qIndex_tr np c] at hp
    exact one _ _ (exec_classical np n nc det st _ hst c.idx t.idx (regT c.ty) (regT t.ty) creg hq.1 hq.2 hp).2.1 hH
  | mcr c t creg =>
    have hq := (ite_some_eq hs).1
    simp only [dmStepH, if_pos hq] at hH
    have hp := hpos _ hq.1
    rw [← qIndex_tr np c, ← qIndex_tr np t] at hq hH
    rw [← qIndex_tr np c] at hp
    exact one _ _ (exec_classical np n nc det st _ hst c.idx t.idx (regT c.ty) (regT t.ty) creg hq.1 hq.2 hp).2.2 hH
  | measz q creg =>
    have hq := (ite_some_eq hs).1
    simp only [dmStepH, if_pos hq] at hH
    have hp := hpos _ hq
    rw [← qIndex_tr np q] at hq hH hp
    exact one _ _ (exec_measZ np n nc det st _ hst q.idx (regT q.ty) creg hq hp) hH
  | wrap gs q =>
    have hq := (ite_some_eq hs).1
    simp only [dmStepH, if_pos hq] at hH
    rw [← qIndex_tr np q] at hq hH
    obtain ⟨st', e, r⟩ := exec_gen1_list np n nc det q.idx (regT q.ty) hq gs.reverse st _ hst
    injection hH with hH
    exact ⟨st', e, hH ▸ r⟩

theorem trOps_cons (op : Graphiq.COp) (rest : List Graphiq.COp) : trOps (op :: rest) = trOp op ++ trOps rest := by
  simp [trOps]

theorem exec_fold (np n nc : Nat) (det : Bool) (ops : List Graphiq.COp) (hwf : ∀ op, op ∈ ops → op.WF np) :
    ∀ (s s' : RunState) (st : Noise.DmSt), RunInv n s → RepSt n nc st (hstate n s) →
      ops.foldlM (stepOp np n (detOf det)) s = some s' →
      ∃ st', dmFoldX np n det (trOps ops) st = .ok st' ∧ RepSt n nc st' (hstate n s') := by
  induction ops with
  | nil =>
    intro s s' st _ hst hs
    simp only [List.foldlM] at hs
    injection hs with hs
    subst hs
    exact ⟨st, rfl, hst⟩
  | cons op rest ih =>
    intro s s' st hinv hst hs
    simp only [List.foldlM] at hs
    cases h1 : stepOp np n (detOf det) s op with
    | none => rw [h1] at hs; simp at hs
    | some s1 =>
      rw [h1] at hs
      simp only [Option.bind_eq_bind, Option.bind_some] at hs
      obtain ⟨st1, e1, r1⟩ := exec_op np n nc det s s1 op (hwf op List.mem_cons_self) hinv h1 st hst
      obtain ⟨st2, e2, r2⟩ := ih (fun o ho => hwf o (List.mem_cons_of_mem _ ho)) s1 s' st1
        (stepOp_inv np n (detOf det) s s1 op (hwf op List.mem_cons_self) hinv h1) r1 hs
      refine ⟨st2, ?_, r2⟩
      rw [trOps_cons, dmFoldX_append np n det _ _ st st1 e1]
      exact e2

/-- **The executable density-matrix model agrees with the stabilizer model.**  For every circuit, every register mix,
    both forced settings (any script — forced runs never read it): if the stabilizer compile loop returns `s`, then
    `compileDM` (noise simulation off) on the unwrapped circuit returns a matrix of size `2^(ne+np)` whose entry at the
    numpy indices of the basis strings `a, b` is the entry `ρ(s.t) a b` of `∏ (1 + g_i)/2`, and the classical registers
    are those written by `s`. -/
theorem compileDM_eq_stab (ne np nc : Nat) (det : Bool) (script : List Bool) (ops : List Graphiq.COp)
    (hwf : ∀ op, op ∈ ops → op.WF np) (s : RunState) (h : stabRun ne np (detOf det) script ops = some s) :
    ∃ m, Noise.compileDM false ne np nc det (trOps ops) = .ok { ρ := some m, creg := regsOf nc s.writes } ∧
      Rep (ne + np) m (rho (ne + np) (STab.ofTab s.t)) := by
  unfold stabRun stabRunFrom at h
  have hst0 : RepSt (ne + np) nc
      { ρ := some (⟨DM.pow2 (ne + np), fun i j => if i = 0 ∧ j = 0 then 1 else 0⟩ : Mat).norm, creg := List.replicate nc 0 }
      (hstate (ne + np) { t := Tab.ket0 (ne + np), writes := [], script := script, rand := [], outs := [] }) := by
    refine ⟨_, rfl, ?_, rfl⟩
    have := (rep_rho0 (ne + np)).norm
    refine this.congr ?_
    show ket0H (ne + np) = _
    exact ket0H_eq (ne + np)
  obtain ⟨st', e, m, hm, hrep, hc⟩ := exec_fold np (ne + np) nc det ops hwf
    { t := Tab.ket0 (ne + np), writes := [], script := script, rand := [], outs := [] } s _
    (ket0_runInv (ne + np) script) hst0 h
  refine ⟨m, ?_, hrep⟩
  unfold Noise.compileDM
  simp only
  rw [dmGo_off np (ne + np) det (trOps ops).toArray (trOps ops) 0 _ (by intro i hi; simp [Array.getD, hi]), e]
  cases st' with
  | mk ρ' creg' =>
    simp only at hm hc
    rw [hm, hc]
    rfl

theorem setRec_eq (r : List Nat) (c v : Nat) : Noise.setRec r c v = r.set c v := rfl

theorem finalRecord_length (nc : Nat) (w : List (Nat × Bool)) : (finalRecord nc w).length = nc := by
  simp [finalRecord]

theorem finalRecord_get (nc : Nat) (w : List (Nat × Bool)) (i : Nat) (hi : i < nc) :
    (finalRecord nc w)[i]'(by rw [finalRecord_length]; exact hi)
      = ((w.filter fun x => x.1 = i).getLast?.map (·.2)).getD false := by
  simp [finalRecord]

/-- the register array of the executable model is the final record of the run (as 0/1) -/
theorem regsOf_eq_finalRecord (nc : Nat) (w : List (Nat × Bool)) :
    regsOf nc w = (finalRecord nc w).map fun b => if b then 1 else 0 := by
  induction w using List.reverseRecOn with
  | nil =>
    apply List.ext_getElem
    · simp [regsOf, finalRecord]
    · intro i h1 h2
      simp [regsOf, finalRecord]
  | append_singleton w x ih =>
    obtain ⟨c, v⟩ := x
    rw [regsOf_append, ih, setRec_eq]
    apply List.ext_getElem
    · simp [finalRecord]
    · intro i h1 h2
      have hi : i < nc := by simpa [finalRecord] using h2
      rw [List.getElem_set]
      simp only [List.getElem_map]
      rw [finalRecord_get nc _ i hi, finalRecord_get nc _ i hi]
      by_cases hci : c = i
      · subst hci
        simp [List.filter_append]
      · rw [if_neg hci]
        simp [List.filter_append, hci]

/-- **`compileDM` returns the executable `stabilizerDensity` of the stabilizer run's tableau**, entry by entry:
    both sides are computable exact matrices over ℚ[i] (`Mat.EqOn` = same size, equal entries below the size). -/
theorem compileDM_eq_stabilizerDensity (ne np nc : Nat) (det : Bool) (script : List Bool) (ops : List Graphiq.COp)
    (hwf : ∀ op, op ∈ ops → op.WF np) (s : RunState) (h : stabRun ne np (detOf det) script ops = some s) :
    ∃ m, Noise.compileDM false ne np nc det (trOps ops)
        = .ok { ρ := some m, creg := (finalRecord nc s.writes).map fun b => if b then 1 else 0 } ∧
      Mat.EqOn m (DM.stabilizerDensity s.t) := by
  obtain ⟨m, e, hrep⟩ := compileDM_eq_stab ne np nc det script ops hwf s h
  rw [regsOf_eq_finalRecord] at e
  refine ⟨m, e, ?_⟩
  have hn : s.t.n = ne + np := (stabRun_inv ne np (detOf det) script ops hwf s h).2.1
  have h2 := rep_stabilizerDensity s.t
  rw [hn] at h2
  exact rep_eqOn hrep h2

end DMX
end Graphiq
