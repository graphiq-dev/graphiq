/-
  C09 — local-Clifford equivalence of graph states is decided correctly, constructively.

  For every n: local complementation and its two implementations (§1); the coefficient matrix of `_coeff_maker` encodes the
  equations of Van den Nest–Dehaene–De Moor and `row_reduction` preserves their solutions (§2); every `yes` carries a valid `Q`,
  a `no` on the full-rank / exhaustive paths means that none exists, both directions of "valid `Q` ⇔ same LC orbit" are proved
  here, the sequence of `lc_graph_operations` is correct and terminates, and the decision statement is refuted for the
  whole-graph algorithm on disconnected graphs (D14) (§3–4); the repaired `is_lc_equivalent` decides component by component,
  relative to one unproved claim of the literature, `shortcut_complete_on_connected_statement` (§5); totality (§6); the gates of
  `lc_check` map `|A⟩` exactly onto `|B⟩` (§4, §7) and the same for tableau inputs (§8).
  `isLcEquivalentR`, `lcCheckR` / `lcCheckF`, `findLcOperationsR` model /repo as it is (after the repair a03052e); `isLcEquivalent`
  models `_is_lc_equivalent_component`, and `lcCheck`, `findLcOperations` over it are the pre-repair functions (the driver can
  replay them).  Helper lemmas: Proofs/GraphOps.lean, Proofs/LC*.lean, Proofs/BitEchelon.lean; the kernel-checked witnesses run
  on the form of the algorithm in Proofs/LCEval.lean.
-/
import GraphiqModel.Proofs.LC
import GraphiqModel.Proofs.LCSeqTerm
import GraphiqModel.Proofs.LCRepair
import GraphiqModel.Proofs.LCConnectedAgree
import GraphiqModel.Proofs.LCTotalR
import GraphiqModel.Proofs.LCGates2
import GraphiqModel.Proofs.LCTableaux
import GraphiqModel.Proofs.LCTableaux2
import GraphiqModel.Proofs.LCPhase
import GraphiqModel.Proofs.LCTableaux3
import GraphiqModel.Proofs.LCEval
namespace Graphiq.C09
open Graphiq Graphiq.LC Graphiq.PRow Graphiq.Tab

/-! ## 1. Local complementation -/

/-- local complementation at `v` toggles precisely the edges among the neighbours of `v` (all n, all graphs) -/
theorem local_complementation_toggles_neighbour_pairs (n : Nat) (A : Adj) (v i j : Nat) (hA : Simple n A) (hi : i < n) :
    localComp A v i j = xor (A i j) (decide (i ≠ j) && (A i v && A v j)) :=
  localComp_toggle A v i j (Or.inl (hA.2 i hi))

theorem local_complementation_involution (n : Nat) (A : Adj) (v : Nat) (hv : v < n) (hA : Simple n A) :
    EqAdj n (localComp (localComp A v) v) A :=
  localComp_involution_simple n A v hv hA

theorem local_complementation_simple (n : Nat) (A : Adj) (v : Nat) (hv : v < n) (hA : Simple n A) :
    Simple n (localComp A v) :=
  localComp_simple n A v hv hA

/-- `local_comp_graph` (the matrix formula `A(Γ_v A + A_vv Γ_v + I)` with the diagonal zeroed) is the neighbour toggle -/
theorem local_comp_graph_is_local_complementation (n : Nat) (A : Adj) (v : Nat) (hv : v < n) (hA : Simple n A) :
    EqAdj n (localCompGraph n A v) (localComp A v) :=
  localCompGraph_eq n A v hv (hA.2 v hv)

/-- the same for the executed (tabulated) object, with the Python's assertion -/
theorem local_comp_graph_executed (g h : BMat) (v : Nat) (hA : Simple g.r g.f)
    (e : localCompGraph? g v = .ok h) : v < g.r ∧ h.r = g.r ∧ h.c = g.r ∧ EqAdj g.r h.f (localComp g.f v) := by
  unfold localCompGraph? at e
  split at e
  · rename_i hv
    cases e
    refine ⟨hv, rfl, rfl, fun i j hi hj => ?_⟩
    have : (lcStep g v).f i j = localCompGraph g.r g.f v i j := BMat.norm_agree _ i j hi hj
    rw [this]
    exact localCompGraph_eq g.r g.f v hv (hA.2 v hv) i j hi hj
  · cases e

/-- `Graph.local_complementation` (toggle every pair of `itertools.combinations(neighbors, 2)`) is the neighbour toggle -/
theorem graph_local_complementation_is_local_complementation (n : Nat) (A : Adj) (v : Nat) (hv : v < n) (hA : Simple n A) :
    EqAdj n (localCompPairs n A v) (localComp A v) :=
  localCompPairs_eq n A v hv hA

theorem the_two_implementations_agree (n : Nat) (A : Adj) (v : Nat) (hv : v < n) (hA : Simple n A) :
    EqAdj n (localCompGraph n A v) (localCompPairs n A v) :=
  (local_comp_graph_is_local_complementation n A v hv hA).trans
    (graph_local_complementation_is_local_complementation n A v hv hA).symm

/-- the 4-cycle 0–1–2–3 is a simple graph on 4 vertices (non-vacuity of the hypotheses above) -/
def C4 : Adj := fun i j => (i + 1 = j ∨ j + 1 = i ∨ (i = 0 ∧ j = 3) ∨ (i = 3 ∧ j = 0)) ∧ i < 4 ∧ j < 4
example : Simple 4 C4 := Simple.of_decide (fun i j _ _ => by omega) (fun i _ => by omega)
/-- and complementing it at 0 really adds the chord 1–3 -/
example : localComp C4 0 1 3 = true ∧ C4 1 3 = false := by decide

/-! ## 2. The linear system and its reduction -/

/-- the rows of `_coeff_maker(θ, θ')` are the equations
    `Σ_m θ_mj θ'_mk c_m + θ_jk a_k + θ'_jk d_j + δ_jk b_j = 0` -/
theorem coeff_maker_encodes_the_equations (n : Nat) (z1 z2 : Adj) (v : Nat → Bool) :
    SolF (coeffMaker n z1 z2) v ↔ ∀ j k, j < n → k < n → equation n z1 z2 v j k = false :=
  solF_coeff_iff n z1 z2 v

/-- `row_reduction` keeps the shape and the solution space of the x-matrix (every n, every matrix with a row) -/
theorem row_reduction_preserves_solutions (x z : BMat) (v : Nat → Bool) (hr : 0 < x.r) :
    (rowReduction x z).1.r = x.r ∧ (rowReduction x z).1.c = x.c ∧ (SolF (rowReduction x z).1 v ↔ SolF x v) :=
  rowReduction_spec x z v hr

/-! ## 3. Decision -/

/-- **soundness of `yes`, both modes, every search path** (all combinations for dimension ≤ 4, pair sums, and the random
    search for every value of the draws): the returned `Q` has 4n entries, satisfies every equation of the system, and
    every block is invertible -/
theorem yes_returns_a_valid_clifford (a b : BMat) (mode : Mode) (draws : List Bool) (out : EqOut) (q : List Bool)
    (hn : 0 < a.r) (e : isLcEquivalent a b mode draws = .ok out) (hq : out.sol = some q) :
    q.length = 4 * a.r ∧ (∀ j k, j < a.r → k < a.r → equation a.r a.f b.f (vget q) j k = false) ∧
    isValidClifford a.r q = true := by
  obtain ⟨h1, h2, h3⟩ := isLcEquivalent_sound_all a b mode draws out q hn e hq
  exact ⟨h1, (solF_coeff_iff a.r a.f b.f _).mp h2, h3⟩

/-- **for a solution space of dimension ≤ 4 the search is exhaustive**: a `no` on that path means that no assignment at
    all satisfies the equations with every block invertible (so the graphs are not LC-equivalent: `no_means_not_lc_equivalent`) -/
theorem no_is_exhaustive_for_small_dimension (a b : BMat) (mode : Mode) (draws : List Bool) (out : EqOut)
    (hn : 0 < a.r) (e : isLcEquivalent a b mode draws = .ok out) (hsol : out.sol = none)
    (hp : out.path = "all-combinations") (v : List Bool)
    (hv : ∀ j k, j < a.r → k < a.r → equation a.r a.f b.f (vget v) j k = false) : isValidClifford a.r v = false :=
  isLcEquivalent_no_small a b mode draws out hn e hsol hp v ((solF_coeff_iff a.r a.f b.f _).mpr hv)

/-- **the full-rank shortcut is right** ("those two graph states are not LC equivalent for sure"): when the reduced
    coefficient matrix has rank `4 n` the zero vector is the only solution, so no valid `Q` exists -/
theorem no_is_right_on_full_rank (a b : BMat) (mode : Mode) (draws : List Bool) (out : EqOut)
    (hn : 0 < a.r) (e : isLcEquivalent a b mode draws = .ok out) (hp : out.path = "full-rank") (v : List Bool)
    (hv : ∀ j k, j < a.r → k < a.r → equation a.r a.f b.f (vget v) j k = false) : isValidClifford a.r v = false :=
  isLcEquivalent_no_fullrank a b mode draws out hn e hp v ((solF_coeff_iff a.r a.f b.f _).mpr hv)

/-- **one step of Van den Nest's theorem**: a local complementation is realised by an explicit local Clifford — the
    vector with block `[[1,0],[1,1]]` at `v`, `[[1,1],[0,1]]` at the neighbours of `v` and the identity elsewhere solves every
    equation of the system for `(A, localComp A v)` and has invertible blocks (so the equations are satisfiable by a valid
    `Q` for every pair one complementation apart, for every n) -/
theorem one_local_complementation_has_a_valid_clifford (n : Nat) (A : Adj) (v : Nat) (hv : v < n) (hA : Simple n A) :
    (∀ j k, j < n → k < n → equation n A (localComp A v) (lcQ A v) j k = false) ∧
    isValidClifford n ((List.range (4 * n)).map (lcQ A v)) = true :=
  ⟨fun j k hj hk => lcQ_solves n A v hv hA j k hj hk, lcQ_valid n A v hv hA⟩

/-- two graphs are in the same LC orbit -/
def SameOrbit (n : Nat) (A B : Adj) : Prop := ∃ vs : List Nat, (∀ v ∈ vs, v < n) ∧ EqAdj n (applySeq A vs) B

/-- **every LC-equivalent pair admits a valid `Q`** — the elementary direction of Van den Nest's theorem, proved for every
    n: one complementation is realised by the explicit `lcQ`, solutions compose blockwise (`Q₂Q₁`), determinants multiply -/
theorem lc_equivalent_graphs_have_a_valid_clifford (n : Nat) (A B : Adj) (hA : Simple n A) (h : SameOrbit n A B) :
    ∃ v : List Bool, (∀ j k, j < n → k < n → equation n A B (vget v) j k = false) ∧ isValidClifford n v = true := by
  obtain ⟨vs, hvs, hB⟩ := h
  exact same_orbit_has_valid_Q_list n A B vs hA hvs hB

/-- **a `no` taken on the full-rank shortcut or after the exhaustive search is right, with no appeal to the literature**:
    the two graphs are not related by any sequence of local complementations -/
theorem no_means_not_lc_equivalent (a b : BMat) (mode : Mode) (draws : List Bool) (out : EqOut)
    (hn : 0 < a.r) (hA : Simple a.r a.f) (e : isLcEquivalent a b mode draws = .ok out) (hsol : out.sol = none)
    (hp : out.path = "all-combinations" ∨ out.path = "full-rank") : ¬ SameOrbit a.r a.f b.f := by
  intro h
  obtain ⟨v, hv, hval⟩ := lc_equivalent_graphs_have_a_valid_clifford a.r a.f b.f hA h
  have : isValidClifford a.r v = false := hp.elim
    (fun hp1 => no_is_exhaustive_for_small_dimension a b mode draws out hn e hsol hp1 v hv)
    (fun hp2 => no_is_right_on_full_rank a b mode draws out hn e hp2 v hv)
  rw [this] at hval
  exact absurd hval (by decide)

/-- the full decision property as worded, for the whole-graph algorithm (`is_lc_equivalent` before the repair of D14,
    `_is_lc_equivalent_component` after it): the test answers yes exactly when one graph is reachable from the other by local
    complementations (false for it on disconnected graphs, D14: `decides_lc_equivalence_refuted`; proved on every other run:
    `decides_lc_equivalence_off_the_shortcut`; for the repaired `is_lc_equivalent` see section 5) -/
def decides_lc_equivalence_statement : Prop :=
  ∀ (a b : BMat) (mode : Mode) (draws : List Bool) (out : EqOut), 0 < a.r → a.r = b.r → a.c = a.r → b.c = b.r →
    Simple a.r a.f → Simple b.r b.f → mode ≠ .other → isLcEquivalent a b mode draws = .ok out →
    (out.sol.isSome = true ↔ SameOrbit a.r a.f b.f)

/-- completeness alone: an LC-equivalent pair is never answered `no` -/
def never_a_false_no_statement : Prop :=
  ∀ (a b : BMat) (out : EqOut), 0 < a.r → a.r = b.r → Simple a.r a.f → Simple b.r b.f →
    isLcEquivalent a b .det [] = .ok out → SameOrbit a.r a.f b.f → out.sol.isSome = true

def twoK2 : BMat := BMat.ofAdj 4 (fun i j => (i = 0 ∧ j = 1) ∨ (i = 1 ∧ j = 0) ∨ (i = 2 ∧ j = 3) ∨ (i = 3 ∧ j = 2))
def K2K1 : BMat := BMat.ofAdj 3 (fun i j => (i = 0 ∧ j = 1) ∨ (i = 1 ∧ j = 0))

/-- what the model answers, as data -/
def answer (a b : BMat) : Option (Option (List Bool)) :=
  match isLcEquivalent a b .det [] with
  | .ok o => some o.sol
  | .error _ => none

/-- **known finding D14, kernel-checked**: two disjoint edges compared with themselves are answered `no` (the solution
    space has dimension 8 and no sum of two basis vectors is valid, although the identity is) -/
theorem shortcut_incomplete_2K2 : answer twoK2 twoK2 = some none := by
  rw [answer, isLcEquivalent_det]
  decide +kernel

/-- the same for an edge plus an isolated vertex -/
theorem shortcut_incomplete_K2K1 : answer K2K1 K2K1 = some none := by
  rw [answer, isLcEquivalent_det]
  decide +kernel

theorem twoK2_simple : Simple 4 twoK2.f := Simple.of_decide (fun i j _ _ => by omega) (fun i _ => by omega)

/-- an `answer` read back as a run of the model -/
theorem answer_eq_some {a b : BMat} {s : Option (List Bool)} (h : answer a b = some s) :
    ∃ o, isLcEquivalent a b .det [] = .ok o ∧ o.sol = s := by
  unfold answer at h
  cases e : isLcEquivalent a b .det [] with
  | error x => rw [e] at h; cases h
  | ok o => rw [e] at h; exact ⟨o, rfl, Option.some.inj h⟩

/-- hence "never a false no" is *false* for the whole-graph algorithm (replayed on the implementation on every run while it is
    unrepaired; the repaired `is_lc_equivalent` answers these inputs `yes`: `repaired_2K2_yes`) -/
theorem never_a_false_no_refuted : ¬ never_a_false_no_statement := by
  intro h
  obtain ⟨o, ho, hso⟩ := answer_eq_some shortcut_incomplete_2K2
  have := h twoK2 twoK2 o (by decide) rfl twoK2_simple twoK2_simple ho ⟨[], by simp, EqAdj.refl 4 _⟩
  rw [hso] at this
  cases this

/-- the part of the decision property about `Q`: every `yes` carries a valid `Q`; every `no` taken on the full-rank shortcut
    or after the exhaustive search (dimension ≤ 4) means that no valid `Q` exists.  With `valid Q ⇔ same orbit`
    (`valid_clifford_iff_same_orbit`, proved below) this gives `decides_lc_equivalence_off_the_shortcut`.  Missing, and false
    for the code: a `no` on the pair-sum / random paths (dimension ≥ 5) is incomplete — refuted above, D14 -/
theorem decides_lc_equivalence_partial (a b : BMat) (mode : Mode) (draws : List Bool) (out : EqOut)
    (hn : 0 < a.r) (e : isLcEquivalent a b mode draws = .ok out) :
    (∀ q, out.sol = some q →
      (∀ j k, j < a.r → k < a.r → equation a.r a.f b.f (vget q) j k = false) ∧ isValidClifford a.r q = true) ∧
    (out.sol = none → (out.path = "all-combinations" ∨ out.path = "full-rank") → ∀ v : List Bool,
      (∀ j k, j < a.r → k < a.r → equation a.r a.f b.f (vget v) j k = false) → isValidClifford a.r v = false) :=
  ⟨fun q hq => (yes_returns_a_valid_clifford a b mode draws out q hn e hq).2,
   fun hs hpa v hv => hpa.elim
     (fun h => no_is_exhaustive_for_small_dimension a b mode draws out hn e hs h v hv)
     (fun h => no_is_right_on_full_rank a b mode draws out hn e h v hv)⟩

def K3 : BMat := BMat.ofAdj 3 (fun i j => decide (i ≠ j))
def S3 : BMat := BMat.ofAdj 3 (fun i j => decide (i ≠ j) && (decide (i = 0) || decide (j = 0)))

/-- non-vacuity: the triangle and the 3-star are answered `yes` with this `Q` (blocks `H P†`, `P H`, `P`) -/
theorem triangle_star_yes :
    answer K3 S3 = some (some [false, true, true, true, true, true, true, false, true, true, false, true]) := by
  rw [answer, isLcEquivalent_det]
  decide +kernel

/-! ## 4. Gates -/

/-- `local_clifford_ops`: exactly the invertible blocks have a name -/
theorem gate_table_complete (a b c d : Bool) : (blockOps a b c d).isSome = xor (a && d) (b && c) :=
  blockOps_complete a b c d

/-- the named gates, applied rightmost first as `converter_gate_list` does, act on the `(z, x)` bits of their qubit as the
    block acts on the column vector `(z; x)` and leave the other qubits alone — any row, any n -/
theorem gate_table_acts_as_the_block (a b c d : Bool) (names : List String) (h : blockOps a b c d = some names)
    (q : Nat) (p : PRow) :
    (applyNames names q p).z q = xor (a && p.z q) (b && p.x q) ∧
    (applyNames names q p).x q = xor (c && p.z q) (d && p.x q) ∧
    ∀ j, j ≠ q → (applyNames names q p).x j = p.x j ∧ (applyNames names q p).z j = p.z j :=
  blockOps_action a b c d names h q p

theorem graph_state_tableau_valid (n : Nat) (A : Adj) (hA : Simple n A) : (graphTab n A).Valid :=
  graphTab_valid n A hA

/-- **the gates returned by `lc_check(A, B, validate=True)` transform the first graph state exactly into the second**:
    running them with the verified tableau semantics (C07) on the graph state of `A` succeeds, gives a valid tableau on
    the same qubits, and its stabilizer group contains `+K_q(B)` for every vertex `q` — n independent commuting generators
    of a valid tableau's group determine the state, signs included -/
theorem lc_check_gates_map_the_state (a b : BMat) (gates : List (String × Nat)) (hA : Simple a.r a.f)
    (e : lcCheck a b true = .ok (true, gates)) :
    ∃ t, runGates (graphTab a.r a.f) gates = .ok t ∧ t.n = a.r ∧ t.Valid ∧
      ∀ q, q < a.r → InSpan t.n t.n t.stab (graphGen b.f q) :=
  lcCheck_sound a b gates hA e

/-- what the model's `lc_check(validate=True)` answers, as data -/
def checkAnswer (a b : BMat) : Option (Bool × List (String × Nat)) :=
  match lcCheck a b true with
  | .ok r => some r
  | .error _ => none

/-- non-vacuity of the hypothesis of `lc_check_gates_map_the_state` (kernel-checked): for the triangle and the 3-star the
    checked path succeeds, with exactly the gate list the implementation returns -/
theorem lc_check_triangle_star :
    checkAnswer K3 S3 = some (true, [("P_dag", 0), ("H", 0), ("H", 1), ("P", 1), ("P", 2), ("Z", 2)]) := by
  -- the run of `is_lc_equivalent` is the one of `triangle_star_yes`; only the gates and the validation are evaluated here
  obtain ⟨o, ho, hs⟩ := answer_eq_some triangle_star_yes
  rw [checkAnswer, lcCheck, converterGateList, ho]
  dsimp only
  rw [hs]
  decide +kernel

/-- the constructive part of the property as worded, for the vertex sequence (proved: `lc_sequence_correct`) -/
def lc_sequence_statement : Prop :=
  ∀ (fuel : Nat) (a b : BMat) (out : EqOut) (q : List Bool) (seq : List Nat), 0 < a.r → a.r = b.r → Simple a.r a.f →
    Simple b.r b.f → isLcEquivalent a b .det [] = .ok out → out.sol = some q →
    lcGraphOperations fuel a.r a.f q = .ok seq → EqAdj a.r (applySeq a.f seq) b.f

/-- **the R-matrix reduction of `lc_graph_operations` is correct** (the constructive direction of Van den Nest–Dehaene–De Moor,
    Section IV, proved for every n): for *any* local Clifford `Q` with invertible blocks that solves the system for
    `(a, b)`, every vertex sequence the reduction returns (singles, then doubles `i, j, i`) consists of vertices of the graph
    and, applied to `a` as local complementations, gives exactly `b`.  Invariant: the matrix the Python rewrites is
    `R = C θ + D` for the current graph θ and a residual valid `Q` from θ to `b`; one `_apply_f` at a vertex with `c_v = 1` is
    one complementation (`applyF_tracks`, `LCInv.step`), and `R = I` forces θ = b (`identity_R_means_done`). -/
theorem lc_graph_operations_reaches_the_target (fuel n : Nat) (a b : Adj) (q : List Bool) (seq : List Nat)
    (ha : Simple n a) (hb : Simple n b) (hq : ∀ j k, j < n → k < n → equation n a b (vget q) j k = false)
    (hv : isValidClifford n q = true) (e : lcGraphOperations fuel n a q = .ok seq) :
    EqAdj n (applySeq a seq) b ∧ ∀ v ∈ seq, v < n :=
  lcGraphOperations_correct fuel n a b q seq ha hb hq hv e

/-- `lc_sequence_statement` holds: the sequence returned for the `Q` of a `yes` transforms the first graph into the second -/
theorem lc_sequence_correct : lc_sequence_statement := by
  intro fuel a b out q seq hn hab ha hb e hq hseq
  obtain ⟨_, h2, h3⟩ := yes_returns_a_valid_clifford a b .det [] out q hn e hq
  have hb' : Simple a.r b.f := by rw [hab]; exact hb
  exact (lc_graph_operations_reaches_the_target fuel a.r a.f b.f q seq ha hb' h2 h3 hseq).1

/-- **the reduction terminates on every valid `Q`** (`fuel` is the model's bound on the two `while` loops; `runtime` = bound
    hit): `fuel ≥ n + 1` always suffices.  First loop: every pass of `_singles` with `_condition` true clears `c_v` of at least
    one block and never sets one, so at most (number of blocks with `c = 1`) ≤ n passes; second loop: once `_condition` is
    false, one pass of `_doubles` never meets an empty `k_list` (`R` is invertible), makes rows `j`, `k` of each recorded pair
    unit rows and keeps unit rows, so it ends with `R = I` — the body runs at most once. -/
theorem lc_graph_operations_terminates (fuel n : Nat) (a b : Adj) (q : List Bool) (hn : 0 < n) (ha : Simple n a)
    (hb : Simple n b) (hq : ∀ j k, j < n → k < n → equation n a b (vget q) j k = false)
    (hv : isValidClifford n q = true) (hf : n + 1 ≤ fuel) : ∃ seq, lcGraphOperations fuel n a q = .ok seq :=
  lcGraphOperations_terminates fuel n a b q hn ha hb hq hv hf

/-- **every `yes` comes with a sequence of local complementations**: for the `Q` of a `yes` (both modes, every search path,
    every value of the random draws) `lc_graph_operations` returns, within `n + 1` rounds of each loop, a list of vertices
    of the graph whose local complementations take the first graph exactly to the second -/
theorem lc_sequence_terminates (fuel : Nat) (a b : BMat) (mode : Mode) (draws : List Bool) (out : EqOut) (q : List Bool)
    (hn : 0 < a.r) (hab : a.r = b.r) (ha : Simple a.r a.f) (hb : Simple b.r b.f)
    (e : isLcEquivalent a b mode draws = .ok out) (hq : out.sol = some q) (hf : a.r + 1 ≤ fuel) :
    ∃ seq, lcGraphOperations fuel a.r a.f q = .ok seq ∧ (∀ v ∈ seq, v < a.r) ∧ EqAdj a.r (applySeq a.f seq) b.f := by
  obtain ⟨_, h2, h3⟩ := yes_returns_a_valid_clifford a b mode draws out q hn e hq
  have hb' : Simple a.r b.f := by rw [hab]; exact hb
  obtain ⟨seq, hs⟩ := lc_graph_operations_terminates fuel a.r a.f b.f q hn ha hb' h2 h3 hf
  have := lc_graph_operations_reaches_the_target fuel a.r a.f b.f q seq ha hb' h2 h3 hs
  exact ⟨seq, hs, this.2, this.1⟩

/-- **the hard direction, proved: a `yes` means that the graphs are in the same LC orbit** (no appeal to the literature) -/
theorem yes_means_same_orbit (a b : BMat) (mode : Mode) (draws : List Bool) (out : EqOut) (q : List Bool)
    (hn : 0 < a.r) (hab : a.r = b.r) (ha : Simple a.r a.f) (hb : Simple b.r b.f)
    (e : isLcEquivalent a b mode draws = .ok out) (hq : out.sol = some q) : SameOrbit a.r a.f b.f := by
  obtain ⟨seq, _, h1, h2⟩ := lc_sequence_terminates (a.r + 1) a b mode draws out q hn hab ha hb e hq (Nat.le_refl _)
  exact ⟨seq, h1, h2⟩

/-- **`find_lc_operations`**: whatever it returns is a list of vertices whose local complementations take the first graph to
    the second; and it does return whenever `is_lc_equivalent` says yes -/
theorem find_lc_operations_correct (fuel : Nat) (a b : BMat) (mode : Mode) (draws : List Bool)
    (hn : 0 < a.r) (hab : a.r = b.r) (ha : Simple a.r a.f) (hb : Simple b.r b.f) :
    (∀ seq, findLcOperations fuel a b mode draws = .ok seq →
      (∀ v ∈ seq, v < a.r) ∧ EqAdj a.r (applySeq a.f seq) b.f) ∧
    (∀ out, isLcEquivalent a b mode draws = .ok out → out.sol.isSome = true → a.r + 1 ≤ fuel →
      ∃ seq, findLcOperations fuel a b mode draws = .ok seq) := by
  have hb' : Simple a.r b.f := by rw [hab]; exact hb
  constructor
  · intro seq e
    unfold findLcOperations at e
    cases h : isLcEquivalent a b mode draws with
    | error x => rw [h] at e; cases e
    | ok out =>
      rw [h] at e
      dsimp only at e
      cases hs : out.sol with
      | none => rw [hs] at e; cases e
      | some q =>
        rw [hs] at e
        obtain ⟨_, h2, h3⟩ := yes_returns_a_valid_clifford a b mode draws out q hn h hs
        have := lc_graph_operations_reaches_the_target fuel a.r a.f b.f q seq ha hb' h2 h3 e
        exact ⟨this.2, this.1⟩
  · intro out h hs hf
    obtain ⟨q, hq⟩ := Option.isSome_iff_exists.mp hs
    obtain ⟨seq, e, _⟩ := lc_sequence_terminates fuel a b mode draws out q hn hab ha hb h hq hf
    refine ⟨seq, ?_⟩
    unfold findLcOperations
    rw [h]
    dsimp only
    rw [hq]
    exact e

/-- **Van den Nest–Dehaene–De Moor's theorem for graph states, both directions proved for every n**: the linear system has a
    solution with invertible blocks iff the graphs are related by a sequence of local complementations.  (⇐ is
    `lc_equivalent_graphs_have_a_valid_clifford`; ⇒ is constructive — the sequence is the one `lc_graph_operations` computes) -/
theorem valid_clifford_iff_same_orbit (n : Nat) (A B : Adj) (hn : 0 < n) (hA : Simple n A) (hB : Simple n B) :
    (∃ v : List Bool, (∀ j k, j < n → k < n → equation n A B (vget v) j k = false) ∧ isValidClifford n v = true) ↔
      SameOrbit n A B := by
  constructor
  · rintro ⟨v, h1, h2⟩
    obtain ⟨seq, hs⟩ := lc_graph_operations_terminates (n + 1) n A B v hn hA hB h1 h2 (Nat.le_refl _)
    have := lc_graph_operations_reaches_the_target (n + 1) n A B v seq hA hB h1 h2 hs
    exact ⟨seq, this.2, this.1⟩
  · exact lc_equivalent_graphs_have_a_valid_clifford n A B hA

/-- **the decision property, proved wherever the code is right**: on every run that says `yes`, and on every run that says
    `no` on the full-rank shortcut or after the exhaustive search (solution space of dimension ≤ 4), the answer is `yes`
    exactly when one graph is reachable from the other by local complementations.  What remains outside is only a `no` on the
    pair-sum / random paths (dimension ≥ 5), where the whole-graph algorithm is wrong on disconnected graphs (D14,
    `decides_lc_equivalence_refuted`). -/
theorem decides_lc_equivalence_off_the_shortcut (a b : BMat) (mode : Mode) (draws : List Bool) (out : EqOut)
    (hn : 0 < a.r) (hab : a.r = b.r) (ha : Simple a.r a.f) (hb : Simple b.r b.f)
    (e : isLcEquivalent a b mode draws = .ok out)
    (hp : out.sol.isSome = true ∨ out.path = "all-combinations" ∨ out.path = "full-rank") :
    out.sol.isSome = true ↔ SameOrbit a.r a.f b.f := by
  constructor
  · intro hs
    obtain ⟨q, hq⟩ := Option.isSome_iff_exists.mp hs
    exact yes_means_same_orbit a b mode draws out q hn hab ha hb e hq
  · intro horb
    cases hq : out.sol with
    | some q => rfl
    | none =>
      rcases hp with hp | hp
      · rw [hq] at hp; cases hp
      · exact absurd horb (no_means_not_lc_equivalent a b mode draws out hn ha e hq hp)

/-- and the property as worded is *false* for the whole-graph algorithm (D14): two disjoint edges compared with themselves are
    in the same orbit (empty sequence) and are answered `no` — which is why the repaired `is_lc_equivalent` calls it on connected
    components only -/
theorem decides_lc_equivalence_refuted : ¬ decides_lc_equivalence_statement := by
  intro h
  obtain ⟨o, ho, hso⟩ := answer_eq_some shortcut_incomplete_2K2
  have := (h twoK2 twoK2 .det [] o (by decide) rfl rfl rfl twoK2_simple twoK2_simple (by decide) ho).mpr
    ⟨[], by simp, EqAdj.refl 4 _⟩
  rw [hso] at this
  cases this

/-! non-vacuity with a *double*: the path 0–1–2–3 and the 4-cycle 0–2–1–3 (pivot on the edge 1–2) -/

def P4 : BMat := BMat.ofAdj 4 (fun i j => i + 1 = j ∨ j + 1 = i)
def Q4 : BMat := BMat.ofAdj 4 (fun i j => (i < 2 ∧ 2 ≤ j) ∨ (j < 2 ∧ 2 ≤ i))

example : Simple P4.r P4.f := Simple.of_decide (fun i j _ _ => by omega) (fun i _ => by omega)
example : Simple Q4.r Q4.f := Simple.of_decide (fun i j _ _ => by omega) (fun i _ => by omega)

/-- what the model's `find_lc_operations` answers with the sufficient fuel `n + 1`, as data -/
def seqAnswer (a b : BMat) : Option (List Nat) :=
  match findLcOperations (a.r + 1) a b .det [] with
  | .ok s => some s
  | .error _ => none

/-- kernel-checked: the hypotheses of the theorems above are met by a pair that needs `_doubles` (the `Q` found is a
    Hadamard on the vertices 1 and 2; the sequence is the pivot `1, 2, 1`, as the implementation returns) -/
theorem path_cycle_sequence : seqAnswer P4 Q4 = some [1, 2, 1] := by
  rw [seqAnswer, findLcOperations, isLcEquivalent_det]
  decide +kernel

/-- and by the triangle and the 3-star (singles only) -/
theorem triangle_star_sequence : seqAnswer K3 S3 = some [0, 1] := by
  obtain ⟨o, ho, hs⟩ := answer_eq_some triangle_star_yes
  rw [seqAnswer, findLcOperations, ho]
  dsimp only
  rw [hs]
  decide +kernel

/-! ## 5. The repaired `is_lc_equivalent` (repair of D14): the linear system is solved component by component

  `isLcEquivalentR` is the model of `is_lc_equivalent`; `isLcEquivalent` (sections 3–4) is the model of
  `_is_lc_equivalent_component`, the body it calls on the induced pair of every connected component (and of `is_lc_equivalent`
  as it was before the repair a03052e). -/

/-- **`_connected_components` returns the connected components**: every vertex lies in a listed set, different listed sets
    are disjoint, and each listed set is the set of vertices reachable from one of its vertices (`Reach`: paths of edges
    between vertices `< n`) -/
theorem connected_components_are_the_reachability_classes (n : Nat) (A : Adj) (hA : Simple n A) :
    (∀ v, v < n → ∃ c ∈ connectedComponents n A, v ∈ c) ∧
    (connectedComponents n A).Pairwise (fun c1 c2 => ∀ v, v ∈ c1 → v ∉ c2) ∧
    ∀ c ∈ connectedComponents n A, ∃ s, s < n ∧ ∀ x, x ∈ c ↔ x < n ∧ Reach n A s x := by
  obtain ⟨h1, h2⟩ := connectedComponents_spec n A hA.1
  refine ⟨h2, h1.disjoint, fun c hc => ?_⟩
  obtain ⟨s, hs, e⟩ := h1.isClass c hc
  exact ⟨s, hs, fun x => by rw [e]; exact mem_componentOf n A s hs x⟩

/-- **local complementation never joins or splits connected components**: graphs in the same LC orbit have the same
    components as vertex sets — literally the same list from `_connected_components` (every n) -/
theorem components_are_lc_invariant (n : Nat) (A B : Adj) (hA : Simple n A) (h : SameOrbit n A B) :
    connectedComponents n A = connectedComponents n B := by
  obtain ⟨vs, hvs, hB⟩ := h
  exact components_lc_invariant n A B hA vs hvs hB

/-- non-vacuity: two disjoint edges have the components `{0, 1}`, `{2, 3}`; the path `0–1–2–3` and the graph two
    complementations away (a concrete pair in one orbit, both connected) have the single component `{0, 1, 2, 3}` -/
example : connectedComponents 4 twoK2.f = [[0, 1], [2, 3]] := by decide
example : connectedComponents 4 (fun i j => decide (i + 1 = j ∨ j + 1 = i)) = [[0, 1, 2, 3]] ∧
    connectedComponents 4 (applySeq (fun i j => decide (i + 1 = j ∨ j + 1 = i)) [1, 2]) = [[0, 1, 2, 3]] := by decide

/-- **a local Clifford between two graphs with the same components is exactly one local Clifford per component**: `q`
    satisfies every equation of the system for `(A, B)` with every block invertible iff, for every component `c`, the
    restriction of `q` to `c` does so for the induced pair `(A[c], B[c])`.  ⇐ is the block-diagonal assembly the repaired
    function performs, ⇒ is restriction (used for the `no` answers) -/
theorem block_diagonal_solution_iff (n : Nat) (A B : Adj) (hA : Simple n A) (hB : Simple n B)
    (hc : connectedComponents n A = connectedComponents n B) (q : Nat → Bool) :
    ((∀ j k, j < n → k < n → equation n A B q j k = false) ∧ ∀ m, m < n → detQ q m = true) ↔
      ∀ c ∈ connectedComponents n A,
        (∀ i i', i < c.length → i' < c.length →
          equation c.length (subAdj A c) (subAdj B c) (restrictQ q c) i i' = false) ∧
        ∀ i, i < c.length → detQ (restrictQ q c) i = true := by
  obtain ⟨hPa, hCa, _⟩ := connectedComponents_partition n A hA.1
  obtain ⟨_, hCb, _⟩ := connectedComponents_partition n B hB.1
  exact block_solution_iff n A B _ q hPa hCa (by rw [hc]; exact hCb)

/-- **soundness of `yes` for the repaired function**, both modes, every search path in every component: the assembled `Q`
    has `4 n` entries, satisfies every equation of the system for the whole pair, and every block is invertible -/
theorem repaired_yes_returns_a_valid_clifford (a b : BMat) (mode : Mode) (draws : List (List Bool)) (out : EqOutR)
    (q : List Bool) (hab : a.r = b.r) (ha : Simple a.r a.f) (hb : Simple b.r b.f)
    (e : isLcEquivalentR a b mode draws = .ok out) (hq : out.sol = some q) :
    q.length = 4 * a.r ∧ (∀ j k, j < a.r → k < a.r → equation a.r a.f b.f (vget q) j k = false) ∧
    isValidClifford a.r q = true :=
  isLcEquivalentR_yes a b mode draws out q ha (by rw [hab]; exact hb) e hq

/-- hence **a `yes` of the repaired function means that the graphs are in the same LC orbit** (via the constructive
    direction `valid_clifford_iff_same_orbit`: the sequence of `lc_graph_operations` for the assembled `Q`) -/
theorem repaired_yes_means_same_orbit (a b : BMat) (mode : Mode) (draws : List (List Bool)) (out : EqOutR) (q : List Bool)
    (hn : 0 < a.r) (hab : a.r = b.r) (ha : Simple a.r a.f) (hb : Simple b.r b.f)
    (e : isLcEquivalentR a b mode draws = .ok out) (hq : out.sol = some q) : SameOrbit a.r a.f b.f := by
  obtain ⟨_, h2, h3⟩ := repaired_yes_returns_a_valid_clifford a b mode draws out q hab ha hb e hq
  exact (valid_clifford_iff_same_orbit a.r a.f b.f hn ha (by rw [hab]; exact hb)).mp ⟨q, h2, h3⟩

/-- **LC-equivalent graphs are LC-equivalent component by component**: the induced subgraphs on every common component are
    in the same LC orbit (restriction of the local Clifford, then the constructive direction on the component) -/
theorem same_orbit_restricts_to_components (n : Nat) (A B : Adj) (hA : Simple n A) (hB : Simple n B)
    (h : SameOrbit n A B) (c : List Nat) (hc : c ∈ connectedComponents n A) :
    SameOrbit c.length (subAdj A c) (subAdj B c) := by
  have hcomps := components_are_lc_invariant n A B hA h
  obtain ⟨v, hv, hval⟩ := lc_equivalent_graphs_have_a_valid_clifford n A B hA h
  obtain ⟨w, hw, hwv⟩ := restrict_valid n A B hA hB hcomps v hv hval c hc
  obtain ⟨hpos, hlt, hsa, _⟩ := component_facts n A hA c hc
  exact (valid_clifford_iff_same_orbit c.length _ _ hpos hsa (sub_simple n B hB c hlt)).mp ⟨w, hw, hwv⟩

/-- **LC equivalence is decided component by component** (the mathematical content of the repair, both directions, every n):
    two graphs are in the same LC orbit iff they have the same connected components as vertex sets and the induced subgraphs
    on every component are in the same LC orbit.  (⇒ `components_are_lc_invariant`, `same_orbit_restricts_to_components`;
    ⇐ block-diagonal assembly of one valid local Clifford per component, then the constructive direction on the whole pair.)
    So the repaired function is complete exactly as far as `_is_lc_equivalent_component` is complete on connected graphs. -/
theorem same_orbit_iff_componentwise (n : Nat) (A B : Adj) (hn : 0 < n) (hA : Simple n A) (hB : Simple n B) :
    SameOrbit n A B ↔
      connectedComponents n A = connectedComponents n B ∧
        ∀ c ∈ connectedComponents n A, SameOrbit c.length (subAdj A c) (subAdj B c) := by
  constructor
  · intro h
    exact ⟨components_are_lc_invariant n A B hA h, fun c hc => same_orbit_restricts_to_components n A B hA hB h c hc⟩
  · rintro ⟨hcomps, hsub⟩
    apply (valid_clifford_iff_same_orbit n A B hn hA hB).mp
    apply assemble_valid n A B hA hB hcomps
    intro c hc
    obtain ⟨_, _, hsa, _⟩ := component_facts n A hA c hc
    exact lc_equivalent_graphs_have_a_valid_clifford c.length _ _ hsa (hsub c hc)

/-- **a `no` of the repaired function is right whenever it is taken because the component partitions differ, or on the
    full-rank shortcut / after the exhaustive search (dimension ≤ 4) in the failing component** -/
theorem repaired_no_means_not_lc_equivalent (a b : BMat) (mode : Mode) (draws : List (List Bool)) (out : EqOutR)
    (hab : a.r = b.r) (ha : Simple a.r a.f) (hb : Simple b.r b.f)
    (e : isLcEquivalentR a b mode draws = .ok out) (hsol : out.sol = none)
    (hp : ∀ o ∈ out.parts, o.sol = none → o.path = "all-combinations" ∨ o.path = "full-rank") :
    ¬ SameOrbit a.r a.f b.f := by
  intro horb
  have hb' : Simple a.r b.f := by rw [hab]; exact hb
  rcases isLcEquivalentR_no a b mode draws out e hsol with hne | ⟨_, c, hc, o, d, hmem, ho, hnone⟩
  · exact hne (components_are_lc_invariant a.r a.f b.f ha horb)
  · obtain ⟨hpos, _, hsa, _⟩ := component_facts a.r a.f ha c hc
    exact no_means_not_lc_equivalent (subMat a c) (subMat b c) mode d o hpos hsa ho hnone (hp o hmem hnone)
      (same_orbit_restricts_to_components a.r a.f b.f ha hb' horb c hc)

/-- **the decision property for the repaired function, proved wherever no appeal to the pair-sum shortcut is made**: on every
    run that says `yes`, and on every run that says `no` because the partitions differ or with the failing component on the
    full-rank / exhaustive path, the answer is `yes` exactly when one graph is reachable from the other by local
    complementations.  This covers `2K₂`, `K₂ + K₁`, and every graph all of whose components have a solution space of
    dimension ≤ 4 (each isolated vertex: 3, each isolated edge: 4) — the inputs of the known finding D14 -/
theorem decides_lc_equivalence_repaired_off_the_shortcut (a b : BMat) (mode : Mode) (draws : List (List Bool))
    (out : EqOutR) (hn : 0 < a.r) (hab : a.r = b.r) (ha : Simple a.r a.f) (hb : Simple b.r b.f)
    (e : isLcEquivalentR a b mode draws = .ok out)
    (hp : ∀ o ∈ out.parts, o.sol = none → o.path = "all-combinations" ∨ o.path = "full-rank") :
    out.sol.isSome = true ↔ SameOrbit a.r a.f b.f := by
  constructor
  · intro hs
    obtain ⟨q, hq⟩ := Option.isSome_iff_exists.mp hs
    exact repaired_yes_means_same_orbit a b mode draws out q hn hab ha hb e hq
  · intro horb
    cases hq : out.sol with
    | some q => rfl
    | none => exact absurd horb (repaired_no_means_not_lc_equivalent a b mode draws out hab ha hb e hq hp)

/-- a connected graph: every vertex is reachable from every vertex -/
example : Connected 3 K3.f := by
  intro i j hi hj
  by_cases e : i = j
  · rw [e]; exact Reach.refl _
  · exact Reach.single hi hj (by simp only [K3, BMat.ofAdj]; exact decide_eq_true e)

/-- **on connected graphs the repair changes nothing**: for two connected simple graphs of the same size `n ≥ 1` the repaired `is_lc_equivalent` returns exactly what the
    whole-graph algorithm returns — the same `Q`, or the same `no` — in every mode and for every value of the draws (a connected
    graph has the single component `[0, …, n-1]`, the induced pair is the pair itself, and the whole-graph algorithm reads its
    arguments only below their size) -/
theorem repaired_agrees_with_the_whole_graph_algorithm_on_connected (a b : BMat) (mode : Mode) (draws : List (List Bool))
    (hn : 0 < a.r) (hab : a.r = b.r) (ha : Simple a.r a.f) (hb : Simple b.r b.f) (hca : Connected a.r a.f)
    (hcb : Connected a.r b.f) (out : EqOut) (e : isLcEquivalent a b mode (draws.headD []) = .ok out) :
    ∃ outR, isLcEquivalentR a b mode draws = .ok outR ∧ outR.sol = out.sol ∧ outR.parts = [out] :=
  isLcEquivalentR_connected a b mode draws hn hab ha (by rw [hab]; exact hb) hca hcb out e

/-- **the remaining hypothesis, stated precisely** (Van den Nest–Dehaene–De Moor, Phys. Rev. A 70, 034302, Section IV: "if the
    solution space has dimension > 4 it suffices to test the sums of two basis vectors"): for *connected* graphs, a `no` of the
    pair-sum search of the unchanged algorithm is right.  Not proved here.  It is false without `Connected`
    (`shortcut_incomplete_2K2`).  Evidence by testing only: no counterexample among all 4 304 188 ordered pairs of
    connected labelled graphs on 6 vertices inside an LC orbit (and all on ≤ 5), nor among 120 000 random pairs on ≤ 12
    vertices biased to large solution spaces (handoff/repairs/d14) -/
def shortcut_complete_on_connected_statement : Prop :=
  ∀ (a b : BMat) (draws : List Bool) (out : EqOut), 0 < a.r → a.r = b.r → Simple a.r a.f → Simple b.r b.f →
    Connected a.r a.f → isLcEquivalent a b .det draws = .ok out → out.path = "pair-sums" → out.sol = none →
    ¬ SameOrbit a.r a.f b.f

/-- the decision property as worded, for the repaired function in deterministic mode -/
def decides_lc_equivalence_repaired_statement : Prop :=
  ∀ (a b : BMat) (draws : List (List Bool)) (out : EqOutR), 0 < a.r → a.r = b.r → Simple a.r a.f → Simple b.r b.f →
    isLcEquivalentR a b .det draws = .ok out → (out.sol.isSome = true ↔ SameOrbit a.r a.f b.f)

/-- **the repaired `is_lc_equivalent` decides LC equivalence, relative to the completeness of the pair-sum shortcut on
    connected graphs**.  Proved: `yes` ⇒ same orbit; `no` ⇒ different orbits when the partitions differ (components are an
    orbit invariant), when the failing component is on the full-rank / exhaustive path (restriction of a valid `Q` +
    exhaustiveness), and — the only use of the hypothesis — when the failing component is on the pair-sum path: the induced
    graph of a component is simple and *connected* (`sub_connected`), and an LC-equivalent pair restricts to LC-equivalent
    induced pairs (`same_orbit_restricts_to_components`).  Missing for the unconditional statement: exactly
    `shortcut_complete_on_connected_statement`.  (`mode = "random"` cannot be complete: 1000 random trials may all miss.) -/
theorem decides_lc_equivalence_repaired_partial (hshort : shortcut_complete_on_connected_statement) :
    decides_lc_equivalence_repaired_statement := by
  intro a b draws out hn hab ha hb e
  have hb' : Simple a.r b.f := by rw [hab]; exact hb
  constructor
  · intro hs
    obtain ⟨q, hq⟩ := Option.isSome_iff_exists.mp hs
    exact repaired_yes_means_same_orbit a b .det draws out q hn hab ha hb e hq
  · intro horb
    cases hq : out.sol with
    | some q => rfl
    | none =>
      exfalso
      rcases isLcEquivalentR_no a b .det draws out e hq with hne | ⟨_, c, hc, o, d, _, ho, hnone⟩
      · exact hne (components_are_lc_invariant a.r a.f b.f ha horb)
      · obtain ⟨hpos, hlt, hsa, hconn⟩ := component_facts a.r a.f ha c hc
        have hsub := same_orbit_restricts_to_components a.r a.f b.f ha hb' horb c hc
        rcases isLcEquivalent_paths (subMat a c) (subMat b c) .det d o hpos ho with h1 | h1 | h1 | h1
        · exact no_means_not_lc_equivalent (subMat a c) (subMat b c) .det d o hpos hsa ho hnone (Or.inr h1) hsub
        · exact no_means_not_lc_equivalent (subMat a c) (subMat b c) .det d o hpos hsa ho hnone (Or.inl h1) hsub
        · exact absurd h1.2 (by decide)
        · exact hshort (subMat a c) (subMat b c) d o hpos rfl hsa (sub_simple a.r b.f hb' c hlt) hconn ho h1.1 hnone hsub

/-- what the model of the repaired function answers in deterministic mode, as data -/
def answerR (a b : BMat) : Option (Option (List Bool)) :=
  match isLcEquivalentR a b .det [] with
  | .ok o => some o.sol
  | .error _ => none

/-- an `answerR` read back as a run of the model -/
theorem answerR_eq_some {a b : BMat} {s : Option (List Bool)} (h : answerR a b = some s) :
    ∃ o, isLcEquivalentR a b .det [] = .ok o ∧ o.sol = s := by
  unfold answerR at h
  cases e : isLcEquivalentR a b .det [] with
  | error x => rw [e] at h; cases h
  | ok o => rw [e] at h; exact ⟨o, rfl, Option.some.inj h⟩

/-- **the witnesses of D14 are answered `yes` by the repaired function** (kernel-checked; a Hadamard on every vertex, as the
    patched implementation returns): two disjoint edges compared with themselves … -/
theorem repaired_2K2_yes :
    answerR twoK2 twoK2 = some (some [false, true, true, false, false, true, true, false, false, true, true, false,
      false, true, true, false]) := by
  rw [answerR, isLcEquivalentR_det]
  decide +kernel

/-- … and an edge plus an isolated vertex (the isolated vertex gets the first valid block of its 3-dimensional space, `P H P`) -/
theorem repaired_K2K1_yes : answerR K2K1 K2K1 = some (some [false, true, true, false, false, true, true, false, true, false, false, true]) := by
  rw [answerR, isLcEquivalentR_det]
  decide +kernel

/-- `K₄` plus an isolated vertex: the component `K₄` has a solution space of dimension 5, so this run goes through the
    pair-sum shortcut on a connected component -/
def K4K1 : BMat := BMat.ofAdj 5 (fun i j => decide (i ≠ j) && decide (i < 4) && decide (j < 4))

/-- the search paths of the components examined by the model of the repaired function, and its answer -/
def pathsR (a b : BMat) : Option (List String × Option (List Bool)) :=
  match isLcEquivalentR a b .det [] with
  | .ok o => some (o.parts.map (fun p => p.path), o.sol)
  | .error _ => none

/-- non-vacuity of the pair-sum case of `decides_lc_equivalence_repaired_partial` (kernel-checked): a `yes` found by the
    shortcut on the connected component `K₄` -/
theorem repaired_K4K1_paths : pathsR K4K1 K4K1 = some (["pair-sums", "all-combinations"],
    some [false, true, true, false, true, false, false, true, false, true, true, false, true, false, false, true, true, false, false, true]) := by
  rw [pathsR, isLcEquivalentR_det]
  decide +kernel

/-- **`find_lc_operations` over the repaired function**: whatever it returns is a list of vertices whose local
    complementations take the first graph to the second; and it does return whenever the repaired `is_lc_equivalent`
    says yes -/
theorem find_lc_operations_correct_repaired (fuel : Nat) (a b : BMat) (mode : Mode) (draws : List (List Bool))
    (hn : 0 < a.r) (hab : a.r = b.r) (ha : Simple a.r a.f) (hb : Simple b.r b.f) :
    (∀ seq, findLcOperationsR fuel a b mode draws = .ok seq →
      (∀ v ∈ seq, v < a.r) ∧ EqAdj a.r (applySeq a.f seq) b.f) ∧
    (∀ out, isLcEquivalentR a b mode draws = .ok out → out.sol.isSome = true → a.r + 1 ≤ fuel →
      ∃ seq, findLcOperationsR fuel a b mode draws = .ok seq) := by
  have hb' : Simple a.r b.f := by rw [hab]; exact hb
  constructor
  · intro seq e
    unfold findLcOperationsR at e
    cases h : isLcEquivalentR a b mode draws with
    | error x => rw [h] at e; cases e
    | ok out =>
      rw [h] at e
      dsimp only at e
      cases hs : out.sol with
      | none => rw [hs] at e; cases e
      | some q =>
        rw [hs] at e
        obtain ⟨_, h2, h3⟩ := repaired_yes_returns_a_valid_clifford a b mode draws out q hab ha hb h hs
        have := lc_graph_operations_reaches_the_target fuel a.r a.f b.f q seq ha hb' h2 h3 e
        exact ⟨this.2, this.1⟩
  · intro out h hs hf
    obtain ⟨q, hq⟩ := Option.isSome_iff_exists.mp hs
    obtain ⟨_, h2, h3⟩ := repaired_yes_returns_a_valid_clifford a b mode draws out q hab ha hb h hq
    obtain ⟨seq, e⟩ := lc_graph_operations_terminates fuel a.r a.f b.f q hn ha hb' h2 h3 hf
    refine ⟨seq, ?_⟩
    unfold findLcOperationsR
    rw [h]
    dsimp only
    rw [hq]
    exact e

/-- **the gates returned by `lc_check(A, B, validate=True)` over the repaired function transform the first graph state
    exactly into the second** -/
theorem lc_check_gates_map_the_state_repaired (a b : BMat) (gates : List (String × Nat)) (hA : Simple a.r a.f)
    (e : lcCheckR a b true = .ok (true, gates)) :
    ∃ t, runGates (graphTab a.r a.f) gates = .ok t ∧ t.n = a.r ∧ t.Valid ∧
      ∀ q, q < a.r → InSpan t.n t.n t.stab (graphGen b.f q) :=
  lcCheckR_sound a b gates hA e

/-- what the model's `lc_check(validate=True)` over the repaired function answers, as data -/
def checkAnswerR (a b : BMat) : Option (Bool × List (String × Nat)) :=
  match lcCheckR a b true with
  | .ok r => some r
  | .error _ => none

/-- non-vacuity (kernel-checked): for two disjoint edges compared with themselves the checked path succeeds with a Hadamard
    on every qubit … which maps `|2K₂⟩` to itself (`H ⊗ H` fixes the two-qubit graph state) -/
theorem lc_check_2K2_repaired : checkAnswerR twoK2 twoK2 = some (true, [("H", 0), ("H", 1), ("H", 2), ("H", 3)]) := by
  obtain ⟨o, ho, hs⟩ := answerR_eq_some repaired_2K2_yes
  rw [checkAnswerR, lcCheckR, converterGateListR, ho]
  dsimp only
  rw [hs]
  decide +kernel

/-! ## 6. Totality: `is_lc_equivalent` returns (no internal assertion can fire)

  Every decision theorem above has a hypothesis `… = .ok out` ("the function returned").  It is discharged here for every
  input of the property's quantifier. -/

/-- **the whole-graph algorithm (`is_lc_equivalent` before the repair of D14, `_is_lc_equivalent_component` after it) is
    total**: for two adjacency matrices of the same size `n ≥ 1`, in deterministic or random mode and for every value of the
    random draws, it returns.  None of its three assertions can fire: the non-zero rows of `row_reduction`'s output are exactly
    the `rank` pivot rows (echelon form, proved by loop invariants); `_col_finder` returns exactly the `4n − rank` non-pivot
    columns; the pivot-column matrix is upper unitriangular, so the exact GF(2) inverse exists and is two-sided; and every
    vector spliced together by `_solution_basis_finder` has `4n` entries and solves the reduced system (`A(A⁻¹b) + b = 0`).
    The rank is at least 1 because equation `(0, 0)` has the coefficient 1 at `b_0`. -/
theorem is_lc_equivalent_component_total (a b : BMat) (mode : Mode) (draws : List Bool) (hn : 0 < a.r) (hab : a.r = b.r)
    (hmode : mode ≠ .other) : ∃ out, isLcEquivalent a b mode draws = .ok out :=
  isLcEquivalent_total a b mode draws hn hab hmode

/-- **the repaired `is_lc_equivalent` is total** on simple graphs of equal size (every component is non-empty, so the theorem
    above applies to every induced pair) -/
theorem is_lc_equivalent_total (a b : BMat) (mode : Mode) (draws : List (List Bool)) (hab : a.r = b.r)
    (ha : Simple a.r a.f) (hmode : mode ≠ .other) : ∃ out, isLcEquivalentR a b mode draws = .ok out :=
  isLcEquivalentR_total a b mode draws hab ha hmode

/-- hence **the repaired function returns an answer and the answer is right, off the shortcut**: for simple graphs of equal size
    `n ≥ 1`, both modes: it returns some `out`; a `yes` always means "same LC orbit"; and whenever no component was answered `no`
    on the pair-sum / random path, `yes` ⇔ same orbit -/
theorem is_lc_equivalent_returns_and_is_right_off_the_shortcut (a b : BMat) (mode : Mode) (draws : List (List Bool))
    (hn : 0 < a.r) (hab : a.r = b.r) (ha : Simple a.r a.f) (hb : Simple b.r b.f) (hmode : mode ≠ .other) :
    ∃ out, isLcEquivalentR a b mode draws = .ok out ∧ (out.sol.isSome = true → SameOrbit a.r a.f b.f) ∧
      ((∀ o ∈ out.parts, o.sol = none → o.path = "all-combinations" ∨ o.path = "full-rank") →
        (out.sol.isSome = true ↔ SameOrbit a.r a.f b.f)) := by
  obtain ⟨out, e⟩ := is_lc_equivalent_total a b mode draws hab ha hmode
  refine ⟨out, e, fun hs => ?_, fun hp => decides_lc_equivalence_repaired_off_the_shortcut a b mode draws out hn hab ha hb e hp⟩
  obtain ⟨q, hq⟩ := Option.isSome_iff_exists.mp hs
  exact repaired_yes_means_same_orbit a b mode draws out q hn hab ha hb e hq

/-- and, in deterministic mode, **relative to the completeness of the pair-sum shortcut on connected graphs, the repaired
    function returns and decides LC equivalence** — the property as worded, with the single remaining hypothesis -/
theorem is_lc_equivalent_decides_partial (hshort : shortcut_complete_on_connected_statement) (a b : BMat)
    (draws : List (List Bool)) (hn : 0 < a.r) (hab : a.r = b.r) (ha : Simple a.r a.f) (hb : Simple b.r b.f) :
    ∃ out, isLcEquivalentR a b .det draws = .ok out ∧ (out.sol.isSome = true ↔ SameOrbit a.r a.f b.f) := by
  obtain ⟨out, e⟩ := is_lc_equivalent_total a b .det draws hab ha (by decide)
  exact ⟨out, e, decides_lc_equivalence_repaired_partial hshort a b draws out hn hab ha hb e⟩

/-- `find_lc_operations` over the repaired function returns a correct sequence exactly when the graphs are LC-equivalent … on
    every run off the shortcut (with fuel `n + 1` for the two loops of `lc_graph_operations`) -/
theorem find_lc_operations_returns_iff_yes (a b : BMat) (mode : Mode) (draws : List (List Bool))
    (hn : 0 < a.r) (hab : a.r = b.r) (ha : Simple a.r a.f) (hb : Simple b.r b.f) (hmode : mode ≠ .other) :
    ∃ out, isLcEquivalentR a b mode draws = .ok out ∧
      (out.sol.isSome = true ↔ ∃ seq, findLcOperationsR (a.r + 1) a b mode draws = .ok seq) := by
  obtain ⟨out, e⟩ := is_lc_equivalent_total a b mode draws hab ha hmode
  refine ⟨out, e, fun hs => ?_, fun ⟨seq, hseq⟩ => ?_⟩
  · exact (find_lc_operations_correct_repaired (a.r + 1) a b mode draws hn hab ha hb).2 out e hs (Nat.le_refl _)
  · unfold findLcOperationsR at hseq
    rw [e] at hseq
    dsimp only at hseq
    cases hq : out.sol with
    | none => rw [hq] at hseq; cases hseq
    | some q => rfl

/-! ## 7. The gates, unconditionally: no appeal to the validation inside `lc_check`

  Section 4 covers the *checked* path (`lc_check_gates_map_the_state`: if the validation passes, the gates are right).  Here
  the validation is proved to pass, and `_phase_correction` (modelled at specification level: the `Z` gates on the qubits whose
  generator carries the sign `−`) is proved to fix every sign: for **every** valid `Q` the gate list maps `|A⟩` exactly onto
  `|B⟩` (on top of the group-level semantics of C07). -/

/-- **the gates of any valid local Clifford map the first graph state onto the second up to signs**: running the gates that
    `local_clifford_ops(Q)` names (each block's word, rightmost factor first) on the graph-state tableau of `A` never fails,
    gives a valid tableau with Hermitian stabilizers, and `K_k(B)` or `−K_k(B)` lies in its stabilizer group for every `k` —
    because the symplectic product of `K_k(B)` with the image of `K_i(A)` *is* equation `(i, k)` of the linear system -/
theorem gates_of_a_valid_clifford_map_the_state_up_to_signs (n : Nat) (A B : Adj) (hA : Simple n A) (hB : Simple n B)
    (q : List Bool) (hq : ∀ j k, j < n → k < n → equation n A B (vget q) j k = false) (hv : isValidClifford n q = true) :
    ∃ t, runGates (graphTab n A) (qGates n q) = .ok t ∧ t.n = n ∧ t.Valid ∧ t.StabReal ∧
      ∀ k, k < n → TabSpec.Grp t (graphGen B k) ∨ TabSpec.Grp t (TabSpec.negate (graphGen B k)) :=
  gates_map_state_up_to_signs n A B hA hB q hq hv

/-- **… and with the phase correction exactly**: the signs are all found, the `Z` corrections are the phase correction, the
    total gate list runs, and the resulting tableau is the graph state of `B` with every sign `+` (`isGraphState`, i.e. every
    `+K_k(B)` is in the stabilizer group: `lc_check_gates_map_the_state`) -/
theorem gates_with_phase_correction_map_the_state (n : Nat) (A B : Adj) (hA : Simple n A) (hB : Simple n B)
    (q : List Bool) (hq : ∀ j k, j < n → k < n → equation n A B (vget q) j k = false) (hv : isValidClifford n q = true) :
    ∃ t1 zs t2, runGates (graphTab n A) (qGates n q) = .ok t1 ∧ phaseCorrection t1 B = some zs ∧
      runGates (graphTab n A) (qGates n q ++ zs) = .ok t2 ∧ isGraphState t2 B = true :=
  converter_core n A B hA hB q hq hv

/-- **`lc_check` is total and agrees with `is_lc_equivalent`, with or without validation** (repaired function): on simple
    graphs of equal size it returns `(True, gates)` exactly when `is_lc_equivalent` says yes — the assertion of
    `converter_gate_list`, the warning of the validation and every exception are excluded — and `(False, [])` otherwise; after a
    `yes` the gates are those of the returned `Q` followed by `Z` corrections, and they transform the graph state of `A`
    exactly into the graph state of `B` -/
theorem lc_check_total_and_right (a b : BMat) (validate : Bool) (hab : a.r = b.r) (ha : Simple a.r a.f)
    (hb : Simple b.r b.f) :
    ∃ out, isLcEquivalentR a b .det [] = .ok out ∧
      ((out.sol = none ∧ lcCheckR a b validate = .ok (false, [])) ∨
       (∃ s zs, out.sol = some s ∧ lcCheckR a b validate = .ok (true, qGates a.r s ++ zs) ∧
          ∃ t, runGates (graphTab a.r a.f) (qGates a.r s ++ zs) = .ok t ∧ t.n = a.r ∧ t.Valid ∧
            ∀ k, k < a.r → InSpan t.n t.n t.stab (graphGen b.f k))) := by
  obtain ⟨out, e⟩ := is_lc_equivalent_total a b .det [] hab ha (by decide)
  refine ⟨out, e, ?_⟩
  cases hs : out.sol with
  | none => exact Or.inl ⟨rfl, lcCheckR_of_no a b out e hs validate⟩
  | some s =>
    obtain ⟨zs, _, hc⟩ := lcCheckR_of_yes a b out s hab ha hb e hs
    refine Or.inr ⟨s, zs, rfl, hc validate, ?_⟩
    exact lc_check_gates_map_the_state_repaired a b _ ha (hc true)

/-- the same for the whole-graph algorithm (`lc_check` before the repair of D14) -/
theorem lc_check_total_and_right_unrepaired (a b : BMat) (validate : Bool) (hn : 0 < a.r) (hab : a.r = b.r)
    (ha : Simple a.r a.f) (hb : Simple b.r b.f) (out : EqOut) (s : List Bool)
    (e : isLcEquivalent a b .det [] = .ok out) (hs : out.sol = some s) :
    ∃ zs, lcCheck a b validate = .ok (true, qGates a.r s ++ zs) ∧
      ∃ t, runGates (graphTab a.r a.f) (qGates a.r s ++ zs) = .ok t ∧ t.n = a.r ∧ t.Valid ∧
        ∀ k, k < a.r → InSpan t.n t.n t.stab (graphGen b.f k) := by
  obtain ⟨zs, _, hc⟩ := lcCheck_of_yes a b out s hn hab ha hb e hs
  exact ⟨zs, hc validate, lc_check_gates_map_the_state a b _ ha (hc true)⟩

/-! ### 7b. `_phase_correction` and the validation, function by function

  `converterGateListR` / `lcCheckR` (the models the theorems above speak about) compute the phase correction at specification level
  and validate through `isGraphState`.  `converterGateListF` / `lcCheckF` mirror the Python literally — `_phase_correction(tab1, tab2,
  gate_list)` is the C08 model `S2G.phaseCorrection` (canonical forms of both graph tableaux, `run_circuit` on the canonical form of
  the first, exact inverse of the X part of the result, `z_ops = x_inv @ phase_diff`), the validation is the comparison of canonical
  forms — and are the functions the driver runs against the repaired implementation.  They return the same results. -/

/-- **`_phase_correction` computes the specification-level correction**: on the gates of any valid `Q` the function-by-function
    model returns exactly the `Z` gates on the qubits whose generator `K_q(B)` carries the sign `−` in the transformed state (the
    canonical form of the transformed state has the identity as X part, its row `q` is `±K_q(B)`, the exact inverse of the identity is
    the identity, and `phase_diff` is the list of those signs) -/
theorem phase_correction_is_the_sign_fix (n : Nat) (A B : Adj) (hA : Simple n A) (hB : Simple n B) (q : List Bool)
    (hq : ∀ j k, j < n → k < n → equation n A B (vget q) j k = false) (hv : isValidClifford n q = true) :
    ∃ t1, runGates (graphTab n A) (qGates n q) = .ok t1 ∧
      S2G.phaseCorrection (graphSTab n A) (graphSTab n B) ((qGates n q).map toGate) =
        .ok (((List.range n).filter fun k => groupSign t1 (graphGen B k) == some true).map Gate.Z) ∧
      phaseCorrection t1 B = some (((List.range n).filter fun k => groupSign t1 (graphGen B k) == some true).map fun k => ("Z", k)) := by
  obtain ⟨t1, e1, h⟩ := phaseCorrection_of_valid n A B hA hB q hq hv
  exact ⟨t1, e1, h, phaseCorrection_spec_of_valid n A B hA hB q hq hv t1 e1⟩

/-- **the function-by-function `lc_check` on two graphs returns exactly what the specification-level model returns**, with or
    without validation — so every theorem of section 7 (`lc_check_total_and_right` …) is a theorem about the function the driver
    compares with the implementation -/
theorem lc_check_function_level_agrees (a b : BMat) (validate : Bool) (hab : a.r = b.r) (ha : Simple a.r a.f)
    (hb : Simple b.r b.f) : lcCheckF a b validate = lcCheckR a b validate :=
  lcCheckF_eq a b validate hab ha hb

/-! ## 8. Tableau inputs: `lc_check` on two stabilizer states

  `lc_check(state1, state2)` converts both states with `state_to_graph` (property C08), runs `converter_gate_list` on the two
  graphs, and returns `gates1 + gate_list + inversed_gates2` (`gates2` reversed, `P ↔ P_dag`).  C08 proves that `gates_i` maps
  `state_i` onto `|graph_i⟩`; section 7 proves that `gate_list` maps `|graph1⟩` onto `|graph2⟩`; the composition
  (images of signed groups under gate lists) gives the statement for tableaux.  The assembly of the three
  lists itself (three list operations of the Python) is compared per input by the harness oracle. -/

/-- **the total gate list of `lc_check` maps the first stabilizer state exactly onto the second** (every n, every pair of
    stabilizer tableaux on which `state_to_graph` returns — by C08 `state_to_graph_returns_iff_state`: every stabilizer state):
    with `(g1, G1) = state_to_graph(state1)`, `(g2, G2) = state_to_graph(state2)` and `lc_check(g1, g2) = (True, L)`, running
    `G1 ++ L ++ reversed(G2 with P ↔ P_dag)` on `state1` gives a tableau that generates exactly the signed stabilizer group of
    `state2` -/
theorem lc_check_on_stabilizer_states_maps_the_state (t1 t2 : STab) (hreal1 : ∀ i, i < t1.n → (t1.row i).ip = false)
    (hreal2 : ∀ i, i < t2.n → (t2.row i).ip = false) (hn : t1.n = t2.n) (g1 g2 : BMat) (G1 G2 : List Gate)
    (e1 : S2G.stateToGraph t1 = .ok (g1, G1)) (e2 : S2G.stateToGraph t2 = .ok (g2, G2))
    (validate : Bool) (L : List (String × Nat)) (hL : lcCheckR g1 g2 validate = .ok (true, L)) :
    STab.SpanEq (t1.runCircuit (G1 ++ L.map toGate ++ revCirc G2)) t2 :=
  lc_check_tableaux t1 t2 hreal1 hreal2 hn g1 g2 G1 G2 e1 e2 validate L hL

/-- and the decision on stabilizer states is the decision on their graphs: `lc_check` on the two graphs returns, and says `True`
    exactly when `is_lc_equivalent` does on the graphs `state_to_graph` chose -/
theorem lc_check_on_stabilizer_states_decides (t1 t2 : STab) (hreal1 : ∀ i, i < t1.n → (t1.row i).ip = false)
    (hreal2 : ∀ i, i < t2.n → (t2.row i).ip = false) (hn : t1.n = t2.n) (g1 g2 : BMat) (G1 G2 : List Gate)
    (e1 : S2G.stateToGraph t1 = .ok (g1, G1)) (e2 : S2G.stateToGraph t2 = .ok (g2, G2)) (validate : Bool) :
    ∃ out, isLcEquivalentR g1 g2 .det [] = .ok out ∧
      ((out.sol = none ∧ lcCheckR g1 g2 validate = .ok (false, [])) ∨
       (∃ L, out.sol.isSome = true ∧ lcCheckR g1 g2 validate = .ok (true, L) ∧
          STab.SpanEq (t1.runCircuit (G1 ++ L.map toGate ++ revCirc G2)) t2)) := by
  obtain ⟨hr1, hs1, _, _⟩ := stateToGraph_output t1 hreal1 g1 G1 e1
  obtain ⟨hr2, hs2, _, _⟩ := stateToGraph_output t2 hreal2 g2 G2 e2
  obtain ⟨out, e, h⟩ := lc_check_total_and_right g1 g2 validate (by rw [hr1, hr2, hn]) hs1 hs2
  refine ⟨out, e, ?_⟩
  rcases h with h | ⟨s, zs, hs, hc, _⟩
  · exact Or.inl h
  · exact Or.inr ⟨_, by rw [hs]; rfl, hc,
      lc_check_tableaux t1 t2 hreal1 hreal2 hn g1 g2 G1 G2 e1 e2 validate _ hc⟩

/-- **`lc_check` on two stabilizer tableaux, as modelled function by function** (`lcCheckStates`: `state_to_graph` twice,
    `converter_gate_list` inside the bare `try`, `gates1 + gate_list + inversed_gates2`, validation by canonical forms; compared
    exactly with the implementation on every tableau pair of the run): whenever it returns `(True, total)`, with or without
    validation, `total` maps the first state exactly onto the second -/
theorem lc_check_on_tableaux_sound (t1 t2 : STab) (hreal1 : ∀ i, i < t1.n → (t1.row i).ip = false)
    (hreal2 : ∀ i, i < t2.n → (t2.row i).ip = false) (hn : t1.n = t2.n) (validate : Bool) (total : List Gate)
    (h : lcCheckStates t1 t2 validate = .ok (true, total)) : STab.SpanEq (t1.runCircuit total) t2 :=
  lcCheckStates_sound t1 t2 hreal1 hreal2 hn validate total h

/-- **`lc_check` on two stabilizer states is total and right** (every n ≥ 1, validation on or off): for two stabilizer states —
    commuting, real, independent generators, i.e. exactly the inputs on which `state_to_graph` returns
    (C08 `state_to_graph_returns_iff_state`) — the modelled `lc_check` returns `(False, [])` or `(True, total)`: none of the
    assertions of `state_to_graph`, `converter_gate_list`, `canonical_form` fires and the validation `Warning` cannot be raised
    (a gate list maps independent generators to independent generators, `indep_runCircuit`; equal signed groups have equal
    canonical forms); and after `(True, total)` the gate list maps the first state exactly onto the second -/
theorem lc_check_on_stabilizer_states_total_and_right (t1 t2 : STab) (hn1 : 0 < t1.n) (hn : t1.n = t2.n)
    (g1 : t1.Good) (i1 : t1.Indep) (g2 : t2.Good) (i2 : t2.Indep) (validate : Bool) :
    lcCheckStates t1 t2 validate = .ok (false, []) ∨
      ∃ total, lcCheckStates t1 t2 validate = .ok (true, total) ∧ STab.SpanEq (t1.runCircuit total) t2 :=
  lcCheckStates_total t1 t2 hn1 hn g1 i1 g2 i2 validate

/-- the same for mixed inputs, a stabilizer state and a graph (`lc_check(tableau, graph)`, modelled by `lcCheckStateGraph` and
    compared exactly with the implementation): total, and after `(True, total)` the gate list maps the state exactly onto the graph
    state -/
theorem lc_check_on_state_and_graph_total_and_right (t1 : STab) (g2 : BMat) (hn1 : 0 < t1.n) (hr : g2.r = t1.n)
    (hs2 : Simple g2.r g2.f) (g1 : t1.Good) (i1 : t1.Indep) (validate : Bool) :
    lcCheckStateGraph t1 g2 validate = .ok (false, []) ∨
      ∃ total, lcCheckStateGraph t1 g2 validate = .ok (true, total) ∧
        STab.SpanEq (t1.runCircuit total) (graphSTab g2.r g2.f) :=
  lcCheckStateGraph_total t1 g2 hn1 hr hs2 g1 i1 validate

/-- non-vacuity (kernel-checked): on the pair below the modelled `lc_check` returns `(True, [H 0, H 1, H 1])` — the gate list
    the implementation returns -/
theorem lc_check_on_tableaux_example :
    (match lcCheckStates (graphSTab 2 fun i j => decide (i ≠ j))
        { n := 2, row := fun i => if i = 0 then ⟨fun _ => false, fun _ => true, false, false⟩
                                   else ⟨fun _ => true, fun _ => false, false, false⟩ } true with
      | .ok (yes, total) => yes && total == [Gate.H 0, Gate.H 1, Gate.H 1]
      | .error _ => false) = true := by
  decide +kernel

/-- the two-qubit graph state `|K₂⟩` and the state with generators `ZZ`, `XX` (a Hadamard on qubit 0 away) -/
def bellS : STab := graphSTab 2 (fun i j => decide (i ≠ j))
def ghzS : STab :=
  { n := 2, row := fun i => if i = 0 then ⟨fun _ => false, fun _ => true, false, false⟩ else ⟨fun _ => true, fun _ => false, false, false⟩ }

/-- do the models of `state_to_graph` and of `lc_check` on the two graphs answer as stated? -/
def tableauAnswerIs (t1 t2 : STab) (b1 : String) (E1 : List Gate) (b2 : String) (E2 : List Gate)
    (L0 : List (String × Nat)) : Bool :=
  match S2G.stateToGraph t1, S2G.stateToGraph t2 with
  | .ok (g1, G1), .ok (g2, G2) =>
    match lcCheckR g1 g2 true with
    | .ok (yes, L) => g1.bits == b1 && G1 == E1 && g2.bits == b2 && G2 == E2 && yes && L == L0
    | .error _ => false
  | _, _ => false

/-- non-vacuity of the hypotheses of the two theorems above (kernel-checked): `state_to_graph` returns on both states (the
    second needs a Hadamard), both graphs are `K₂`, and `lc_check` on the graphs answers `(True, [H 0, H 1])` -/
theorem tableau_example :
    tableauAnswerIs bellS ghzS "0110" [] "0110" [Gate.H 1] [("H", 0), ("H", 1)] = true := by
  decide +kernel

end Graphiq.C09
