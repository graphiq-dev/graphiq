/-
  C17 — density-matrix fidelity, trace distance and partial trace are computed correctly; Infidelity agrees across
  representations.

  Property theorems only (lemmas in Proofs/DMSem.lean).  The model (Model/DMSem.lean) is the exact-arithmetic (ℚ[i]) twin of
  `graphiq/backends/density_matrix/functions.py`; the tie to the floating-point code is the correspondence run of
  harness/c17.py (tolerance 1e-9).

  NOT EXPRESSIBLE, hence not proved: the value of the Uhlmann branch of `fidelity` and of `trace_distance` on
  *non-commuting* mixed pairs (irrational spectra).  On those the check runs the direct oracle only.
-/
import GraphiqModel.Proofs.DMSem
import GraphiqModel.Proofs.C17Bridge
import GraphiqModel.Proofs.C17BridgeUhlmann
import GraphiqModel.Proofs.C17BridgeStab
import GraphiqModel.Proofs.SweepNoisePsd
namespace Graphiq.C17
open Graphiq Graphiq.DM

/-! ## (i) `partial_trace` equals the textbook reduced state, for every list of dimensions and every subset -/

/-- **Entry-wise, any value type.**  For every list `dims` of local dimensions (at most 26 spaces — beyond that
    `string.ascii_lowercase[i]` raises), every `keep` and every matrix `ρ`, the entry `(r, c)` that the code computes —
    build `"abc…aBc…" -> "…"`, reshape, `einsum`, reshape back — is `Σ_b ρ[(a,b),(a',b)]`, the sum running over all values `b`
    of the traced positions, `a`/`a'` being the multi-indices of `r`/`c` on the kept positions. -/
theorem partial_trace_entry_is_reduced_state {α : Type} [Add α] [Zero α] (ρ : Nat → Nat → α) (keep dims : List Nat)
    (hn : dims.length ≤ 26) (r c : Nat) :
    partialTraceEntry ssleft ρ keep dims r c = reducedEntry ρ keep dims r c :=
  partialTraceEntry_eq_reduced ρ keep dims hn r c

/-- **The function with its exceptions.**  Whenever `partial_trace` returns, the result has `∏ dims[kept]` rows and every
    entry is the textbook one. -/
theorem partial_trace_is_reduced_state (ρ : Mat) (keep dims : List Nat) (m : Mat) (h : partialTrace ρ keep dims = .ok m) :
    m.n = prodL ((keptPos dims.length keep).map fun i => dims.getD i 0) ∧
    ∀ r c, m.e r c = reducedEntry ρ.e keep dims r c :=
  partialTrace_ok ρ keep dims m h

/-- it returns exactly on well-formed arguments: non-empty `keep` without repetition (as far as the size product can
    tell), all entries in range, at most 26 spaces, matrix size `∏ dims` -/
theorem partial_trace_returns_iff (ρ : Mat) (keep dims : List Nat) :
    (∃ m, partialTrace ρ keep dims = .ok m) ↔
      keep ≠ [] ∧ (∀ k ∈ keep, k < dims.length) ∧ dims.length ≤ 26 ∧ ρ.n = prodL dims ∧
      prodL (keep.map fun i => dims.getD i 0) = prodL ((keptPos dims.length keep).map fun i => dims.getD i 0) :=
  partialTrace_returns_iff ρ keep dims

/-- the multi-index ↔ row-number conversion used on both sides is a bijection: `unflat` inverts `flat` -/
theorem flat_unflat_inverse (ds : List Nat) (k : Nat) (hk : k < prodL ds) : flat ds (unflat ds k) = k :=
  flat_unflat ds k hk

/-- sanity of the specification on two qubits, first kept: `(Tr_2 ρ)[r,c] = ρ[2r, 2c] + ρ[2r+1, 2c+1]` -/
example (ρ : Nat → Nat → Int) (r c : Nat) :
    reducedEntry ρ [0] [2, 2] r c = 0 + ρ (r / 1 * 2 + 0) (c / 1 * 2 + 0) + ρ (r / 1 * 2 + 1) (c / 1 * 2 + 1) := by
  simp [reducedEntry, keptPos, tracedPos, multiIdx, mergeIdx, unflat, flat, prodL, sumL, List.range, List.range.loop, List.idxOf,
    List.findIdx, List.findIdx.go]

/-- **D23, refuted.**  The string of the code before the repair (`"abAB->aA"` for two qubits: traced position written with two
    *different* letters) does not compute the reduced state: on `|0⟩⟨0| ⊗ |+⟩⟨+|` it returns `diag(2, 0)` where the reduced
    state is `diag(1, 0)`. -/
def d23Witness : Mat :=
  Mat.ofRows 4 #[#[⟨1/2, 0⟩, ⟨1/2, 0⟩, 0, 0], #[⟨1/2, 0⟩, ⟨1/2, 0⟩, 0, 0], #[0, 0, 0, 0], #[0, 0, 0, 0]]

theorem old_string_is_wrong :
    (partialTraceOld d23Witness [0] [2, 2]).e 0 0 = ⟨2, 0⟩ ∧ reducedEntry d23Witness.e [0] [2, 2] 0 0 = ⟨1, 0⟩ := by
  decide +kernel

/-- …while the current string is right on the same witness (instance of the general theorem, evaluated) -/
example : (match partialTrace d23Witness [0] [2, 2] with
    | .ok m => m.e 0 0 == ⟨1, 0⟩ && m.e 1 1 == ⟨0, 0⟩ && m.n == 2
    | .error _ => false) = true := by decide +kernel


/-! ## (ii) `fidelity`: symmetric; the pure-state branch is the clipped overlap -/

/-- **Symmetry**, every pair of equal size: same exception class, same branch, same value in both argument orders
    (`tr(ρσ) = tr(σρ)` in ℚ[i]; the branch conditions are symmetric) -/
theorem fidelity_symmetric (ρ σ : Mat) (h : ρ.n = σ.n) : fidelity ρ σ = fidelity σ ρ := fidelity_symm ρ σ h

/-- **Pure-state branch**: if both arguments pass `is_density_matrix` and at least one passes `is_pure`, the result is
    `Re tr(ρσ)` clipped to `[0,1]` -/
theorem fidelity_pure_is_clipped_overlap (ρ σ : Mat) (hρ : isDensityMatrix ρ = true) (hσ : isDensityMatrix σ = true)
    (hp : isPure ρ = true ∨ isPure σ = true) : fidelity ρ σ = .ok (.val (clip01 (ρ.mul σ).trace.re)) :=
  fidelity_pure_branch ρ σ hρ hσ hp

/-- every value the model's `fidelity` returns lies in `[0,1]` -/
theorem fidelity_in_unit_interval (ρ σ : Mat) (f : Rat) (h : fidelity ρ σ = .ok (.val f)) : 0 ≤ f ∧ f ≤ 1 :=
  fidelity_range ρ σ f h

/-- non-vacuity: `|+⟩⟨+|` and `|0⟩⟨0|` are density matrices, pure, with fidelity `1/2`; a state with itself gives 1 -/
def plusDm : Mat := Mat.ofRows 2 #[#[⟨1/2, 0⟩, ⟨1/2, 0⟩], #[⟨1/2, 0⟩, ⟨1/2, 0⟩]]
example : isDensityMatrix plusDm = true ∧ isPure plusDm = true ∧ isDensityMatrix ket0dm = true := by decide +kernel
example : fidelity plusDm ket0dm = .ok (.val (1/2)) ∧ fidelity plusDm plusDm = .ok (.val 1) := by decide +kernel
/-- a mixed pair goes to the Uhlmann branch, for which the model has no value -/
def halfDm : Mat := Mat.ofRows 2 #[#[⟨1/2, 0⟩, 0], #[0, ⟨1/2, 0⟩]]
example : fidelity halfDm halfDm = .ok .uhlmann := by decide +kernel

/-! ## (iii) Commuting pairs: the closed forms have every property asked of fidelity and trace distance (any dimension) -/

section commuting
open Graphiq.Commuting
variable {ι : Type} [Fintype ι]

/-- `F = (Σ √(p_i q_i))²` lies in `[0,1]`, is symmetric, and is 1 exactly for equal spectra -/
theorem commuting_fidelity_properties {p q : ι → ℝ} (hp : IsProb p) (hq : IsProb q) :
    (0 ≤ F p q ∧ F p q ≤ 1) ∧ F p q = F q p ∧ (F p q = 1 ↔ p = q) :=
  ⟨F_range hp hq, F_symm p q, F_eq_one_iff hp hq⟩

/-- `T = ½ Σ |p_i − q_i|` is a metric bounded by 1 -/
theorem commuting_trace_distance_is_metric {p q r : ι → ℝ} (hp : IsProb p) (hq : IsProb q) :
    0 ≤ T p q ∧ T p q ≤ 1 ∧ T p q = T q p ∧ (T p q = 0 ↔ p = q) ∧ T p r ≤ T p q + T q r :=
  ⟨T_nonneg p q, T_le_one hp hq, T_symm p q, T_eq_zero_iff p q, T_triangle p q r⟩

/-- **Fuchs – van de Graaf** for commuting pairs: `1 − √F ≤ T ≤ √(1 − F)` -/
theorem commuting_fuchs_van_de_graaf {p q : ι → ℝ} (hp : IsProb p) (hq : IsProb q) :
    1 - Real.sqrt (F p q) ≤ T p q ∧ T p q ≤ Real.sqrt (1 - F p q) := fuchs_van_de_graaf hp hq

/-- **The closed forms *are* the Uhlmann fidelity and the trace distance on commuting pairs** (any dimension): for
    `ρ = U diag(p) U†`, `σ = U diag(q) U†` with `U` unitary and `p, q ≥ 0`, the Uhlmann fidelity `(tr √(√ρ σ √ρ))²` and the
    trace distance `½ tr √((ρ−σ)†(ρ−σ))` — `√` the positive semidefinite square root of Mathlib (`CFC.sqrt`) — equal
    `F p q = (Σ √(p_i q_i))²` and `T p q = ½ Σ |p_i − q_i|`.  Together with the
    three theorems above: on commuting pairs fidelity and trace distance have every property asked of them. -/
theorem commuting_closed_forms_are_uhlmann_and_trace_distance [DecidableEq ι] (U : Matrix ι ι ℂ)
    (hU : U.conjTranspose * U = 1) (p q : ι → ℝ) (hp : ∀ i, 0 ≤ p i) (hq : ∀ i, 0 ≤ q i) :
    C17B.uhlmann (C17B.conjDiag U p) (C17B.conjDiag U q) = ((F p q : ℝ) : ℂ) ∧
    C17B.traceDist (C17B.conjDiag U p) (C17B.conjDiag U q) = ((T p q : ℝ) : ℂ) :=
  ⟨C17B.uhlmann_commuting U hU p q hp hq, C17B.traceDist_commuting U hU p q⟩

/-- the rational numbers the driver computes for a commuting pair (`dm.comm`) are these real quantities:
    eigenvalues `a_i²`, `b_i²` with `a_i, b_i ≥ 0` rational -/
theorem model_closed_forms_are_F_and_T (d : Nat) (a b : Fin d → Rat) (ha : ∀ i, 0 ≤ a i) (hb : ∀ i, 0 ≤ b i) :
    ((commFidelity (List.ofFn a) (List.ofFn b) : Rat) : ℝ) = F (fun i => ((a i : Rat) : ℝ) ^ 2) (fun i => ((b i : Rat) : ℝ) ^ 2) ∧
    ((commTraceDist (List.ofFn fun i => a i ^ 2) (List.ofFn fun i => b i ^ 2) : Rat) : ℝ) =
      T (fun i => ((a i : Rat) : ℝ) ^ 2) (fun i => ((b i : Rat) : ℝ) ^ 2) := by
  refine ⟨commFidelity_cast d a b ha hb, ?_⟩
  rw [commTraceDist_cast]
  congr 1 <;> (funext i; push_cast; ring)

/-- non-vacuity: the uniform distribution on two points is a spectrum -/
example : IsProb (fun _ : Fin 2 => (1 / 2 : ℝ)) := ⟨fun _ => by norm_num, by simp⟩
end commuting

open scoped MatrixOrder ComplexOrder in
/-- two clauses of the general statement below (any dimension, Mathlib's `CFC.sqrt`): the
    Uhlmann fidelity is a nonnegative real number, and `F(ρ, ρ) = (tr ρ)²` — 1 for every density matrix. -/
theorem uhlmann_nonneg_and_self {ι : Type} [Fintype ι] [DecidableEq ι] (ρ σ : Matrix ι ι ℂ) (hρ : ρ.PosSemidef) :
    0 ≤ C17B.uhlmann ρ σ ∧ C17B.uhlmann ρ ρ = (Matrix.trace ρ) ^ 2 :=
  ⟨C17B.uhlmann_nonneg ρ σ, C17B.uhlmann_self ρ hρ⟩

open scoped MatrixOrder ComplexOrder in
/-- **The Uhlmann fidelity is symmetric** (any dimension, arbitrary — also non-commuting — positive semidefinite `ρ`, `σ`):
    `(tr √(√ρ σ √ρ))² = (tr √(√σ ρ √σ))²`.  With `A = √ρ`, `B = √σ` the two matrices under the root are `(AB)(AB)†` and
    `(AB)†(AB)`, which have the same characteristic polynomial, hence the same eigenvalues, and the trace of the positive
    square root is the sum of the square roots of the eigenvalues. -/
theorem uhlmann_symmetric {ι : Type} [Fintype ι] [DecidableEq ι] (ρ σ : Matrix ι ι ℂ) (hρ : ρ.PosSemidef)
    (hσ : σ.PosSemidef) : C17B.uhlmann ρ σ = C17B.uhlmann σ ρ :=
  C17B.uhlmann_symm ρ σ hρ hσ

/-- the full statement for arbitrary (non-commuting) density matrices, kept visible.  It is **not expressible** in the
    exact model (matrix square roots of irrational spectra) and is not proved: `uhlmann ρ σ` stands for
    `(tr √(√ρ σ √ρ))²`, `tnorm` for the trace norm. -/
def fidelity_and_trace_distance_statement (uhlmann tdist : Mat → Mat → ℝ) : Prop :=
  ∀ ρ σ τ : Mat, ρ.n = σ.n → σ.n = τ.n → isDensityMatrix ρ = true → isDensityMatrix σ = true → isDensityMatrix τ = true →
    uhlmann ρ σ = uhlmann σ ρ ∧ 0 ≤ uhlmann ρ σ ∧ uhlmann ρ σ ≤ 1 ∧ uhlmann ρ ρ = 1 ∧
    tdist ρ τ ≤ tdist ρ σ + tdist σ τ ∧ tdist ρ σ ≤ 1 ∧
    1 - Real.sqrt (uhlmann ρ σ) ≤ tdist ρ σ ∧ tdist ρ σ ≤ Real.sqrt (1 - uhlmann ρ σ)

/-! ## (iv) `Infidelity` across representations -/

/-- conditional form: the four hypotheses `hdt hds hp hov` are theorems (`stabilizer_density_is_pure_density_matrix`,
    `stab_overlap_in_unit_interval`); `infidelity_representation_independent` is the form without them -/
theorem infidelity_representation_independent_of_facts (tt ts : Tab)
    (hsign : ∀ k, k < ts.n → (ts.row (k + ts.n)).r = false)
    (hdt : isDensityMatrix (stabilizerDensity tt) = true) (hds : isDensityMatrix (stabilizerDensity ts) = true)
    (hp : isPure (stabilizerDensity tt) = true) (hov : 0 ≤ stabOverlap tt ts ∧ stabOverlap tt ts ≤ 1) :
    infidelity stabOverlap (.dm (stabilizerDensity tt)) (.dm (stabilizerDensity ts)) = infidelity stabOverlap (.s tt) (.s ts) ∧
    infidelity stabOverlap (.dm (stabilizerDensity tt)) (.s ts) = infidelity stabOverlap (.s tt) (.s ts) :=
  infidelity_rep_independent tt ts hsign hdt hds hp hov

/-- **The exact matrix of a stabilizer state is a pure density matrix for the code's own tests** (every n, every valid
    Clifford tableau): `stabilizerDensity t = ∏_k (I + (−1)^{r_k} g_k)/2`, computed in ℚ[i] as the Python computes it in
    floating point, passes `is_density_matrix` (Hermitian, positive semidefinite by the exact `LDL†` test, trace 1) and
    `is_pure` (`tr ρ² = 1`).  Proof: the matrix *represents* (`Hilbert.Rep`, Proofs/HilbertBridge*.lean) the Mathlib matrix
    `Hilbert.rho`, which is a Hermitian projector of trace 1 (C07); the exact PSD test accepts every representation of a
    positive semidefinite matrix (`C17B.psdElim_iff`: leading entry real ≥ 0, zero pivot ⇒ zero row, Schur
    complement PSD). -/
theorem stabilizer_density_is_pure_density_matrix (t : Tab) (hv : t.isSymplectic = true) :
    isDensityMatrix (stabilizerDensity t) = true ∧ isPure (stabilizerDensity t) = true :=
  have hv' := (Tab.isSymplectic_iff t).1 hv
  ⟨C17B.stabilizerDensity_isDensityMatrix t hv', C17B.stabilizerDensity_isPure t hv'⟩

open scoped ComplexOrder in
/-- **The model's `is_psd` decides positive semidefiniteness** (every size `2^n`): an exact matrix over ℚ[i] that represents
    the complex matrix `M` (`Hilbert.Rep`: same entries, basis strings ↔ indices) passes the Hermitian check plus the symmetric
    `LDL†` elimination **iff** `M` is Hermitian positive semidefinite (Mathlib's `Matrix.PosSemidef`).  One induction over the
    elimination steps (`C17B.psdElim_iff`) on what a step means: the leading entry is real ≥ 0; with a zero pivot the block is
    PSD iff its first row vanishes and the rest is PSD; with a pivot `d > 0` iff the Schur complement is (completing the
    square, `Q(v) = d·|v_k + S/d|² + Q'(v)`).  The code's `is_psd` runs a floating-point
    Cholesky of `ρ + 1e-15·I`; this is the property that call approximates. -/
theorem exact_psd_test_correct {n : Nat} (m : Mat) (M : Hilbert.DMat n) (hm : Hilbert.Rep n m M) :
    isPsd m = true ↔ M.PosSemidef :=
  C17B.isPsd_rep_iff hm

/-- **`stabOverlap` — the specification of the stabilizer fidelity used in this file — is the value C05's model of
    `inner_product` reports** (every n): `tr(ρ_a ρ_b)` computed in ℚ[i] equals 0 when `inner_product` returns 0 and `2^{-e}`
    when it returns `2^{-e/2}`. -/
theorem stab_overlap_is_stabilizer_fidelity (a b : Tab) (r : Option Nat) (ga : (STab.ofTab a).Good)
    (gb : (STab.ofTab b).Good) (h : STab.innerProduct a b = .ok r) :
    stabOverlap a b = (match r with | none => 0 | some e => (1 / 2 : Rat) ^ e) := by
  rw [C17B.stabOverlap_eq a b r ga gb h]
  cases r <;> rfl

/-- the overlap of two valid tableaux of equal size lies in `[0,1]` -/
theorem stab_overlap_in_unit_interval (a b : Tab) (ha : a.isSymplectic = true) (hb : b.isSymplectic = true)
    (hn : a.n = b.n) : 0 ≤ stabOverlap a b ∧ stabOverlap a b ≤ 1 :=
  C17B.stabOverlap_range a b ((Tab.isSymplectic_iff a).1 ha) ((Tab.isSymplectic_iff b).1 hb) hn

/-- **The two backends compute the same fidelity on stabilizer states** (every n): the density-matrix `fidelity` of the two
    exact matrices takes its pure-state branch and returns exactly `tr(ρ_a ρ_b)` — no clipping occurs — which is the value
    of the stabilizer backend's `fidelity`. -/
theorem dm_fidelity_of_stabilizer_states (a b : Tab) (ha : a.isSymplectic = true) (hb : b.isSymplectic = true)
    (hn : a.n = b.n) :
    fidelity (stabilizerDensity a) (stabilizerDensity b) = .ok (.val (stabOverlap a b)) := by
  have da := stabilizer_density_is_pure_density_matrix a ha
  have db := stabilizer_density_is_pure_density_matrix b hb
  rw [fidelity_pure_branch _ _ da.1 db.1 (Or.inl da.2)]
  have := stab_overlap_in_unit_interval a b ha hb hn
  show Except.ok (FidOut.val (clip01 (stabOverlap a b))) = _
  rw [clip01_id _ this.1 this.2]

/-- **… and that value is `|⟨ψ_a|ψ_b⟩|²`** (every n, valid tableaux of equal size): there are unit vectors `ψ_a`, `ψ_b` with
    `ρ_a = |ψ_a⟩⟨ψ_a|`, `ρ_b = |ψ_b⟩⟨ψ_b|` (`Hilbert.tabRho` is the complex matrix that `stabilizerDensity` represents) whose
    squared inner product is the exact rational overlap — the quantity both backends return as the fidelity. -/
theorem stabilizer_fidelity_is_squared_inner_product (a b : Tab) (ha : a.isSymplectic = true) (hb : b.isSymplectic = true)
    (hn : a.n = b.n) :
    ∃ ψa ψb : Hilbert.Bits a.n → ℂ,
      (∑ x, star (ψa x) * ψa x = 1) ∧ (∑ x, star (ψb x) * ψb x = 1) ∧
      (∀ x y, Hilbert.tabRho a.n a x y = ψa x * star (ψa y)) ∧ (∀ x y, Hilbert.tabRho a.n b x y = ψb x * star (ψb y)) ∧
      ((stabOverlap a b : Rat) : ℂ) = (∑ x, star (ψa x) * ψb x) * star (∑ x, star (ψa x) * ψb x) :=
  C17B.stabOverlap_inner a b ((Tab.isSymplectic_iff a).1 ha) ((Tab.isSymplectic_iff b).1 hb) hn

open scoped MatrixOrder ComplexOrder in
/-- **The pure-state shortcut of `fidelity` is the Uhlmann fidelity** (any dimension): for a unit vector `ψ` and a
    positive semidefinite `σ`, the value `tr(ρσ)` that the code returns when one argument is pure equals
    `(tr √(√ρ σ √ρ))²` — with the pure state `ρ = |ψ⟩⟨ψ|` in either argument position (`√` = Mathlib's `CFC.sqrt`). -/
theorem pure_state_shortcut_is_uhlmann {ι : Type} [Fintype ι] [DecidableEq ι] (ψ : ι → ℂ)
    (hψ : dotProduct (star ψ) ψ = 1) (σ : Matrix ι ι ℂ) (hσ : σ.PosSemidef) :
    C17B.uhlmann (C17B.ketBra ψ) σ = Matrix.trace (C17B.ketBra ψ * σ) ∧
    C17B.uhlmann σ (C17B.ketBra ψ) = Matrix.trace (σ * C17B.ketBra ψ) :=
  ⟨C17B.uhlmann_pure_left ψ σ hσ, C17B.uhlmann_pure_right ψ σ hσ⟩

open scoped MatrixOrder ComplexOrder in
/-- **The model's `fidelity` returns the Uhlmann fidelity on its pure branch** (every n): if the first argument represents a
    pure state `|ψ⟩⟨ψ|` (`ψ` a unit vector) and the second a density matrix (positive semidefinite, trace 1), both arguments
    pass `is_density_matrix`, the first passes `is_pure`, the value `Re tr(ρσ)` lies in `[0,1]` (so `clip` changes nothing)
    and it equals `(tr √(√ρ σ √ρ))²`. -/
theorem dm_fidelity_pure_branch_is_uhlmann {n : Nat} (m m' : Mat) (ψ : Hilbert.Bits n → ℂ) (M' : Hilbert.DMat n)
    (hψ : dotProduct (star ψ) ψ = 1) (hm : Hilbert.Rep n m (C17B.ketBra ψ)) (hm' : Hilbert.Rep n m' M')
    (hM' : M'.PosSemidef) (ht : Matrix.trace M' = 1) :
    ∃ q : Rat, fidelity m m' = .ok (.val q) ∧ ((q : ℝ) : ℂ) = C17B.uhlmann (C17B.ketBra ψ) M' :=
  C17B.fidelity_pure_rep ψ M' hψ hm hm' hM' ht

/-- **The fidelity both backends report for two stabilizer states is their Uhlmann fidelity** (every n, valid tableaux of
    equal size): `(tr √(√ρ_a ρ_b √ρ_a))² = stabOverlap a b`, where `ρ = Hilbert.tabRho` is the complex matrix the exact
    `stabilizerDensity` represents. -/
theorem stabilizer_fidelity_is_uhlmann (a b : Tab) (ha : a.isSymplectic = true) (hb : b.isSymplectic = true)
    (hn : a.n = b.n) :
    C17B.uhlmann (Hilbert.tabRho a.n a) (Hilbert.tabRho a.n b) = ((stabOverlap a b : Rat) : ℂ) :=
  C17B.uhlmann_stabilizer a b ((Tab.isSymplectic_iff a).1 ha) ((Tab.isSymplectic_iff b).1 hb) hn

/-- **`Infidelity` agrees across representations** (every n, all valid tableaux of equal size): it returns the same value
    whether target and state are held as tableaux or both as matrices — unconditionally — and also with the target as a
    matrix and the state as a tableau **provided the state's generators carry no sign** (the region outside known finding
    D9: `_stabilizer_to_density_pure` ignores the sign vector, `d9_sign_vector_ignored`). -/
theorem infidelity_representation_independent (tt ts : Tab) (hn : tt.n = ts.n) (hvt : tt.isSymplectic = true)
    (hvs : ts.isSymplectic = true) :
    infidelity stabOverlap (.dm (stabilizerDensity tt)) (.dm (stabilizerDensity ts)) = infidelity stabOverlap (.s tt) (.s ts) ∧
    ((∀ k, k < ts.n → (ts.row (k + ts.n)).r = false) →
      infidelity stabOverlap (.dm (stabilizerDensity tt)) (.s ts) = infidelity stabOverlap (.s tt) (.s ts)) := by
  have f := dm_fidelity_of_stabilizer_states tt ts hvt hvs hn
  constructor
  · simp only [infidelity, f, Except.map]
  · intro hsign
    have e := stabilizerToDensityPure_eq ts hsign
    simp only [infidelity, e, f, Except.map]

/-- the full statement (no sign hypothesis) — **false for the code as it stands**, see `d9_sign_vector_ignored` -/
def infidelity_representation_independent_statement : Prop :=
  ∀ tt ts : Tab, tt.n = ts.n → tt.isSymplectic = true → ts.isSymplectic = true →
    infidelity stabOverlap (.dm (stabilizerDensity tt)) (.s ts) = infidelity stabOverlap (.s tt) (.s ts)

/-- with a zero sign vector the converter as coded is the true density matrix -/
theorem converter_correct_without_signs (t : Tab) (h : ∀ k, k < t.n → (t.row (k + t.n)).r = false) :
    stabilizerToDensityPure t = stabilizerDensity t := stabilizerToDensityPure_eq t h

/-- **D9, refuted on a witness** (known finding): target `|0⟩⟨0|` as a matrix, state `|1⟩` as a tableau (stabilizer `−Z`).
    `_stabilizer_to_density_pure` drops the sign, so `Infidelity` returns 0 — although the states are orthogonal: both
    other representation combinations return 1. -/
theorem d9_sign_vector_ignored :
    infidelity stabOverlap (.dm ket0dm) (.s (Tab.ket1 1)) = .ok (.val 0) ∧
    infidelity stabOverlap (.s (Tab.ket0 1)) (.s (Tab.ket1 1)) = .ok (.val 1) ∧
    infidelity stabOverlap (.dm ket0dm) (.dm (stabilizerDensity (Tab.ket1 1))) = .ok (.val 1) := d9_witness

/-- non-vacuity: a Bell-type tableau (stabilizers `XX`, `ZZ`, no signs) is valid (hypotheses of
    `infidelity_representation_independent`, `stabilizer_density_is_pure_density_matrix`, `dm_fidelity_of_stabilizer_states`); the
    evaluation agrees with the theorems -/
def bellTab : Tab :=
  Tab.ofRows 2 #[
    PRow.ofArrays #[false,false] #[true,false] false false,
    PRow.ofArrays #[false,true] #[false,false] false false,
    PRow.ofArrays #[true,true] #[false,false] false false,
    PRow.ofArrays #[false,false] #[true,true] false false]
example : isDensityMatrix (stabilizerDensity bellTab) = true ∧ isPure (stabilizerDensity bellTab) = true ∧
    stabOverlap bellTab bellTab = 1 ∧ stabOverlap bellTab (Tab.ket0 2) = 1/2 := by decide +kernel
example : bellTab.isSymplectic = true ∧ (Tab.ket0 2).isSymplectic = true ∧ bellTab.n = (Tab.ket0 2).n ∧
    ∀ k, k < (Tab.ket0 2).n → ((Tab.ket0 2).row (k + (Tab.ket0 2).n)).r = false := by decide

/-- the hypotheses of `dm_fidelity_pure_branch_is_uhlmann` are met by the exact matrix of every valid tableau (first argument) -/
example : ∃ ψ : Hilbert.Bits bellTab.n → ℂ, dotProduct (star ψ) ψ = 1 ∧
    Hilbert.Rep bellTab.n (stabilizerDensity bellTab) (C17B.ketBra ψ) :=
  C17B.stabilizerDensity_rep_ketBra bellTab ((Tab.isSymplectic_iff _).1 (by decide))

/-! ## Cross-references: one embedding for C01 / C06 / C17

  The bridge of this file (`Hilbert.Rep`) and the embedding C06 uses (`MixDM.toC`) are the same map
  (`Proofs/SweepBridge.lean`); hence the exact tests proved correct here apply to the matrices C06's theorems are about. -/

/-- **one embedding**: `Hilbert.Rep n m M` says exactly "`m` has size `2ⁿ` and `MixDM.toC n m = M`" -/
theorem bridge_is_the_embedding_of_C06 (n : Nat) (m : Mat) (M : Hilbert.DMat n) :
    Hilbert.Rep n m M ↔ m.n = 2 ^ n ∧ MixDM.toC n m = M := Sweep.rep_iff_toC n m M

/-- **the density matrix the exact model of the noisy `DensityMatrixCompiler` returns (C06) passes the exact positivity test
    of this file** — every measurement-free circuit on existing qubits, physical noise parameters, every number of qubits
    (positivity itself is `C06.dm_is_positive_semidefinite`; the test's correctness is `exact_psd_test_correct`) -/
theorem noisy_compiled_dm_passes_the_exact_psd_test (ns : Bool) (ne np nc : Nat) (det : Bool) (ops : List Noise.COp)
    (hw : ∀ op ∈ ops, MixDM.OpOK (ne + np) np op) (hl : ∀ op ∈ ops, MixDM.ParamPhys op.n0 ∧ MixDM.ParamPhys op.n1)
    (d : Noise.DmSt) (ρ : Mat) (h : Noise.compileDM ns ne np nc det ops = .ok d) (hρ : d.ρ = some ρ) :
    isPsd ρ = true :=
  (Sweep.compileDM_isPsd ns ne np nc det ops hw hl d ρ h hρ).1

end Graphiq.C17
