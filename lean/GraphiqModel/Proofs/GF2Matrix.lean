/-
  Proofs/GF2Matrix.lean — the one fact about GF(2) matrices that is taken from Mathlib: for square matrices a left inverse is a
  right inverse (`Matrix.mul_eq_one_comm`), transported to the model's `Nat → Nat → Bool` matrices with `matMul`.
-/
import Mathlib.LinearAlgebra.Matrix.NonsingularInverse
import Mathlib.Data.ZMod.Basic
import GraphiqModel.Model.GraphOps
import GraphiqModel.Proofs.B2Z
namespace Graphiq
open Matrix

def toMat (n : Nat) (A : Adj) : Matrix (Fin n) (Fin n) (ZMod 2) := fun i j => b2z (A i.val j.val)

theorem toMat_mul (n : Nat) (A B : Adj) : toMat n (matMul n A B) = toMat n A * toMat n B := by
  ext i j
  simp [toMat, matMul, Matrix.mul_apply, b2z_parity, b2z_and]

theorem toMat_one_iff (n : Nat) (A : Adj) :
    toMat n A = 1 ↔ ∀ i j, i < n → j < n → A i j = decide (i = j) := by
  constructor
  · intro h i j hi hj
    have := congrFun (congrFun h ⟨i, hi⟩) ⟨j, hj⟩
    simp only [toMat, Matrix.one_apply, Fin.mk.injEq] at this
    apply b2z_inj
    rw [this]
    by_cases e : i = j <;> simp [e, b2z]
  · intro h
    ext i j
    simp only [toMat, Matrix.one_apply]
    rw [h i.val j.val i.isLt j.isLt]
    by_cases e : i = j
    · subst e; simp [b2z]
    · have : ¬ (i.val = j.val) := fun h => e (Fin.ext h)
      simp [e, this, b2z]

/-- over GF(2) (as over any commutative ring) a left inverse of a square matrix is a right inverse -/
theorem gf2_inverse_comm (n : Nat) (A B : Adj)
    (h : ∀ i j, i < n → j < n → matMul n A B i j = decide (i = j)) :
    ∀ i j, i < n → j < n → matMul n B A i j = decide (i = j) := by
  have h1 : toMat n A * toMat n B = 1 := by
    rw [← toMat_mul]; exact (toMat_one_iff n _).mpr h
  have h2 : toMat n B * toMat n A = 1 := mul_eq_one_comm.mp h1
  rw [← toMat_mul] at h2
  exact (toMat_one_iff n _).mp h2

end Graphiq
