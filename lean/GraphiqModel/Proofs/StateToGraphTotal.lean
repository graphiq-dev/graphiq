/-
  Proofs/StateToGraphTotal.lean — totality of the modelled `state_to_graph` (Model/StateToGraph.lean) on stabilizer states:
  for a tableau of n ≥ 1 real, pairwise commuting, linearly independent generators neither `_graph_finder` nor
  `_phase_correction` (three `canonical_form` calls with their closing assertion, one GF(2) inverse) fails; in particular on the
  stabilizer half of every valid Clifford tableau (`ofTab_good_indep`).  Also what every returned result looks like: the shape of the
  gate list (`stateToGraphWith_gates`) and that the reversed list undoes it (`runCircuit_rev_spanEq`).
-/
import GraphiqModel.Proofs.StateToGraph
import GraphiqModel.Proofs.StateToGraphComplete
import GraphiqModel.Proofs.InvValid
namespace Graphiq
open PRow Tab STab S2G

theorem comm_ofSTab (t : STab) (hg : t.Good) : Comm (XZ.ofSTab t) := fun i k hi hk => hg.comm i k hi hk

theorem phaseCorrection_ok (t : STab) (hi : Indep (XZ.ofSTab t)) (gates : List Gate) (B : Adj) (A : GraphImage t gates B) :
    ∃ zs, phaseCorrection t (graphSTab t.n B) gates = .ok zs := by
  obtain ⟨tab1, c1⟩ := canonicalForm_of_indep t A.good hi
  obtain ⟨c, _, e⟩ := phaseCorrection_eq t gates B A tab1 c1
  exact ⟨_, e⟩

/-- totality of the modelled `state_to_graph`, for every inverse computation that is correct on matrices with trivial kernel:
    on real, pairwise commuting, linearly independent generators it returns a graph and a gate list -/
theorem stateToGraphWith_complete (inv : Nat → Adj → Option Adj) (t : STab) (hn : 0 < t.n) (hinv : InvOK inv t.n)
    (hg : t.Good) (hi : Indep (XZ.ofSTab t)) : ∃ adj gates, stateToGraphWith inv t = .ok (adj, gates) := by
  obtain ⟨g, eg⟩ := graphFinderWith_complete inv (XZ.ofSTab t) hn hinv (comm_ofSTab t hg) hi
  obtain ⟨zs, ez⟩ := phaseCorrection_ok t hi _ _ (graphImage_of_spec t hg.real g (graphFinderWith_spec inv _ g eg))
  exact ⟨g.adj, _, stateToGraphWith_eq inv t g zs eg ez⟩

theorem stateToGraph_complete (t : STab) (hn : 0 < t.n) (hg : t.Good) (hi : Indep (XZ.ofSTab t)) :
    ∃ adj gates, stateToGraph t = .ok (adj, gates) :=
  stateToGraphWith_complete gf2InvF t hn (gf2InvF_ok t.n) hg hi

/-- shape of the returned gate list: Hadamards on distinct qubits, then `P_dag` on distinct qubits, then `Z` on distinct qubits —
    single-qubit gates only -/
theorem stateToGraphWith_gates (inv : Nat → Adj → Option Adj) (t : STab) (adj : BMat) (gates : List Gate)
    (e : stateToGraphWith inv t = .ok (adj, gates)) :
    ∃ hpos zdiag zl : List Nat, gates = hpos.map Gate.H ++ zdiag.map Gate.Pdag ++ zl.map Gate.Z ∧
      hpos.Nodup ∧ zdiag.Nodup ∧ zl.Nodup := by
  obtain ⟨g, zs, hg, hz, _, rfl⟩ := stateToGraphWith_ok inv t adj gates e
  have spec := graphFinderWith_spec inv _ g hg
  obtain ⟨_, tab2, newTab, xinv, _, _, _, _, ezs⟩ := phaseCorrection_unfold _ _ _ _ hz
  refine ⟨g.hpos, g.zdiag, (List.range newTab.n).filter fun i =>
    parityTo newTab.n fun k => xinv.f i k && xor (tab2.row k).r (newTab.row k).r, ?_, spec.hpos_nodup, spec.zdiag_nodup,
    List.Nodup.filter _ List.nodup_range⟩
  rw [ezs]; rfl

/-- undoing the gates: if a gate list maps `t` onto the group of `G`, the reversed list (`P ↔ P_dag`, `run_circuit(reverse=True)`)
    maps `G` back onto the group of `t` -/
theorem runCircuit_rev_spanEq (t G : STab) (gates : List Gate) (hwf : ∀ g, g ∈ gates → g.WF t.n)
    (s : SpanEq (t.runCircuit gates) G) : SpanEq (G.runCircuit (revCirc gates)) t := by
  have nG : G.n = t.n := s.n_eq.symm.trans (runCircuit_n t gates)
  have h1 := (circImage_runCircuit t gates hwf).rev
  have h2 := circImage_runCircuit G (revCirc gates) (fun g hg => nG ▸ revCirc_wf t.n gates hwf g hg)
  rw [nG] at h2
  exact (spanEq_image h1 h2 s).symm

/-- boolean check of `Good` (for concrete examples) -/
theorem S2G.good_of_check (t : STab)
    (h : ((List.range t.n).all fun i => (t.row i).ip == false &&
      (List.range t.n).all fun k => sp t.n (t.row i) (t.row k) == false) = true) : t.Good :=
  STab.good_of_check t h

theorem ofTab_good_indep (T : Tab) (hv : T.Valid) : (STab.ofTab T).Good ∧ Indep (XZ.ofSTab (STab.ofTab T)) :=
  ⟨STab.ofTab_good T hv, ofTab_indep T hv⟩

theorem stateToGraph_complete_ofTab (T : Tab) (hn : 0 < T.n) (hv : T.Valid) :
    ∃ adj gates, stateToGraph (STab.ofTab T) = .ok (adj, gates) :=
  stateToGraph_complete (STab.ofTab T) hn (ofTab_good_indep T hv).1 (ofTab_good_indep T hv).2

end Graphiq
