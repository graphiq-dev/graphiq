/-
  C11 — the synthesised inverse circuit prepares exactly the given stabilizer state.

  `STab.Spn t a` : `a` lies in the signed group generated by the rows of the stabilizer tableau `t` (the state, signs included).
  `actCirc c a`  : the row `a` conjugated by the gate list `c` (first gate first), with the gate semantics proved in C07 to be
                   Pauli-group automorphisms with the textbook generator images.
  `revCirc c`    : the list that `run_circuit(..., reverse=True)` executes (reversed, `P ↔ P_dag`).
  `STab.Good t`  : the generators are real and commute;  `STab.Indep t` : they are independent (GF(2)-linearly independent
                   symplectic vectors, `independent_iff_linear_independent`).  A stabilizer state = `Good ∧ Indep`.

  Contents (every theorem for every n; nothing conditional, for `inverse_circuit` as of graphiq 74abae4):
  * soundness            `inverse_circuit_tracks`, `reverse_run_undoes`
  * completeness         `inverse_circuit_ends_in_zero`, `inverse_circuit_complete`, `inverse_circuit_returns_iff_independent`,
                         `independent_iff_linear_independent`, `inverse_circuit_returns_iff_linear_independent`
  * the property         `inverse_circuit_prepares` (`inverse_circuit_prepares_of_zero`), `inverse_circuit_correct`
  * Clifford tableaux    `clifford_from_stabilizer_correct`, `clifford_from_stabilizer_returns`, `clifford_from_stabilizer_round_trip`,
                         `clifford_tableau_from_graph_correct`, `valid_tableau_is_synthesised`,
                         `inverse_circuit_on_graph_state`, `clifford_tableau_from_graph_exact`, `clifford_tableau_from_graph_is_graphTab`
  * cost / structure     `inverse_circuit_gate_count`, `inverse_circuit_shape`, `inverse_circuit_depends_only_on_state`,
                         `clifford_from_stabilizer_depends_only_on_state`, `eliminate_zs_block_is_identity`
  * Hilbert space        `inverse_circuit_prepares_density_matrix`, `stabilizer_state_is_rank_one`,
                         `clifford_from_stabilizer_same_density_matrix`, `stabilizer_state_is_ket_on_any_generating_set`,
                         `stabilizer_state_is_rank_one_by_purity`, `kets_of_one_state_agree_up_to_phase`
  * witnesses            `ghz_*`, `d42_*`, `d42_witness_now_synthesised`
-/
import GraphiqModel.Proofs.InverseCircuit
import GraphiqModel.Proofs.InvTotal
import GraphiqModel.Proofs.InvClifford
import GraphiqModel.Proofs.InvCount
import GraphiqModel.Proofs.InvHilbert
import GraphiqModel.Proofs.InvValid
import GraphiqModel.Proofs.HeightEntropy
import GraphiqModel.Proofs.InvDeadTop
import GraphiqModel.Proofs.InvGauge
import GraphiqModel.Proofs.InvGraph
import GraphiqModel.Model.LC
import GraphiqModel.Proofs.SweepKet
namespace Graphiq.C11
open Graphiq Graphiq.PRow Graphiq.STab Graphiq.Tab

/-- **Tracking (every n, every generating set).**  Whatever `inverse_circuit` returns, the returned tableau generates exactly
    the image of the input state under the returned gate list: nothing is lost and nothing is added, signs included; and every
    gate it emits is well-formed (in range, distinct control and target). -/
theorem inverse_circuit_tracks (t t' : STab) (circ : List Gate) (hg : t.Good) (h : t.inverseCircuit = .ok (t', circ)) :
    t'.n = t.n ∧ (∀ g, g ∈ circ → g.WF t.n) ∧
    (∀ a, t.Spn a → t'.Spn (actCirc circ a)) ∧
    (∀ b, t'.Spn b → ∃ a, t.Spn a ∧ EqOn t.n (actCirc circ a) b) := by
  obtain ⟨h1, _, h3, h4, h5⟩ := inverseCircuit_tracks t t' circ hg h
  exact ⟨h1, h3, h4, h5⟩

/-- **Reversal (every n, every well-formed gate list).**  Running the reversed list with `P ↔ P_dag` undoes the list, on every
    signed Pauli row: `run_circuit(reverse=True)` is the inverse of `run_circuit`. -/
theorem reverse_run_undoes (n : Nat) (c : List Gate) (hc : ∀ g, g ∈ c → g.WF n) (a : PRow) :
    EqOn n (actCirc (revCirc c) (actCirc c a)) a := revCirc_cancel n c hc a

/-- **Soundness of the synthesis, with `hz` among the hypotheses** (a form for callers that hold a concrete evaluation of
    `isZero`): running the returned list backwards from |0…0⟩ reproduces exactly the input state.  The hypothesis `hz` always
    holds (`inverse_circuit_ends_in_zero`) and the proof does not use it: `inverse_circuit_prepares` is the same statement
    without it. -/
theorem inverse_circuit_prepares_of_zero (t t' : STab) (circ : List Gate) (hg : t.Good)
    (h : t.inverseCircuit = .ok (t', circ)) (hz : t'.isZero = true) :
    ∀ a, t.Spn a ↔ ∃ b, (STab.zero t.n).Spn b ∧ EqOn t.n (actCirc (revCirc circ) b) a :=
  (inverseCircuit_image t t' circ hg h).spn_iff

/-- the statement of `inverse_circuit_ends_in_zero`: `inverse_circuit` always ends in |0…0⟩ with all signs positive -/
def inverse_circuit_complete_statement : Prop :=
  ∀ (t t' : STab) (circ : List Gate), t.Good → t.inverseCircuit = .ok (t', circ) → t'.isZero = true

/-- **Completeness of the synthesis, part 1: whatever `inverse_circuit` returns is |0…0⟩** (every n, every real commuting
    generating set; the code as repaired in graphiq 74abae4).  Proof: `canonical_form` returns the reduced echelon shape
    `Canon` (C05 `canonical_form_returns_canon`); on a `Canon` tableau of a real commuting group the loop invariant `Inv1`
    of the first Hadamard block holds at column 0 (`STab.canon_inv1`: the x-free rows restricted to the non-pivot columns
    are independent — they commute with the X pivot rows — hence, being a square GF(2) system, span every unit vector);
    the invariant is kept by every column step (`STab.inv1_step`) and yields the shape `Post1`; on `Post1` the blocks
    CNOT, CZ, P, H, row products, X end in exactly the all-`+Z` tableau (`STab.invRest_isZero`). -/
theorem inverse_circuit_ends_in_zero : inverse_circuit_complete_statement :=
  fun t t' circ hg h => inverseCircuit_isZero t t' circ hg h

/-- **Completeness of the synthesis, part 2: it returns on every stabilizer state** (every n): on `n` independent
    (`STab.Indep`: no non-empty subset of the generators multiplies to `±I`) real commuting generators
    `inverse_circuit` returns a tableau and a gate list, and the tableau is exactly |0…0⟩ with all signs positive.
    In particular neither the final assert of `canonical_form` nor the `z_list[-1]` IndexError of the Hadamard block
    is reachable on a valid state. -/
theorem inverse_circuit_complete (t : STab) (hg : t.Good) (hi : t.Indep) :
    ∃ t' circ, t.inverseCircuit = .ok (t', circ) ∧ t'.isZero = true :=
  inverseCircuit_complete t hg hi

/-- **`inverse_circuit` returns exactly on the independent generating sets** (every n, real commuting rows): the only
    exception it can raise is the `AssertionError` of `canonical_form` on dependent generators — never `IndexError`. -/
theorem inverse_circuit_returns_iff_independent (t : STab) (hg : t.Good) :
    ((∃ r, t.inverseCircuit = .ok r) ↔ t.Indep) ∧
    (∀ e, t.inverseCircuit = .error e → e = .assertion ∧ ¬ t.Indep) := by
  refine ⟨inverseCircuit_returns_iff t hg, fun e h => ?_⟩
  have hc := inverseCircuit_error t hg e h
  constructor
  · unfold STab.inverseCircuit at h
    rw [hc] at h
    injection h with h; exact h.symm
  · intro hi
    obtain ⟨c, hc'⟩ := canonicalForm_of_indep t hg hi
    rw [hc] at hc'; cases hc'

/-- **`Indep` is linear independence over GF(2)** of the symplectic vectors `(x | z)` of the generators — the notion C03 uses
    (`C03.height_returns_iff_independent`): so `inverse_circuit`, `canonical_form`, `rref` and `height_func_list` return on
    exactly the same real commuting tableaux. -/
theorem independent_iff_linear_independent (t : STab) :
    t.Indep ↔ LinearIndependent (ZMod 2) (fun i : Fin t.n => (t.row i).vec t.n) :=
  (STab.linearIndependent_iff_bits t).symm

theorem inverse_circuit_returns_iff_linear_independent (t : STab) (hg : t.Good) :
    (∃ r, t.inverseCircuit = .ok r) ↔ LinearIndependent (ZMod 2) (fun i : Fin t.n => (t.row i).vec t.n) :=
  (inverse_circuit_returns_iff_independent t hg).1.trans (independent_iff_linear_independent t)

/-- **The synthesised inverse circuit prepares exactly the given state** (every n, every real commuting generating set,
    unconditional): running the returned gate list backwards (`run_circuit(reverse=True)`: reversed, `P ↔ P_dag`) from
    |0…0⟩ reproduces exactly the input state — an element lies in the input's signed group iff it is the image, under
    the reversed circuit, of an element of the group of |0…0⟩.  Signs included. -/
theorem inverse_circuit_prepares (t t' : STab) (circ : List Gate) (hg : t.Good)
    (h : t.inverseCircuit = .ok (t', circ)) :
    ∀ a, t.Spn a ↔ ∃ b, (STab.zero t.n).Spn b ∧ EqOn t.n (actCirc (revCirc circ) b) a :=
  inverse_circuit_prepares_of_zero t t' circ hg h (inverse_circuit_ends_in_zero t t' circ hg h)

/-- **C11, in one statement** (every n): for every stabilizer state given by `n` independent real commuting generators,
    `inverse_circuit` returns `(t', circ)`, `t'` is |0…0⟩ with all signs positive and has the input's size, every emitted
    gate is well formed, `circ` maps the input's signed group onto that of |0…0⟩, and the reversed list maps the group of
    |0…0⟩ back onto exactly the input's. -/
theorem inverse_circuit_correct (t : STab) (hg : t.Good) (hi : t.Indep) :
    ∃ t' circ, t.inverseCircuit = .ok (t', circ) ∧ t'.isZero = true ∧ t'.n = t.n ∧ (∀ g, g ∈ circ → g.WF t.n) ∧
      (∀ a, t.Spn a → (STab.zero t.n).Spn (actCirc circ a)) ∧
      (∀ a, t.Spn a ↔ ∃ b, (STab.zero t.n).Spn b ∧ EqOn t.n (actCirc (revCirc circ) b) a) := by
  obtain ⟨t', circ, h, hz⟩ := inverse_circuit_complete t hg hi
  have img := inverseCircuit_image t t' circ hg h
  exact ⟨t', circ, h, hz, (inverseCircuit_tracks t t' circ hg h).1, img.wf, img.fwd, img.spn_iff⟩

/-! ### the Clifford tableau built from a stabilizer tableau or from a graph -/

/-- **`clifford_from_stabilizer` is sound** (every n, every real commuting generating set): whenever it returns, the
    Clifford tableau `T` has the input's size, is a *valid* tableau (`Tab.Valid`: row `i` anticommutes with row `k` exactly
    when they are a destabilizer/stabilizer pair `k = i ± n`, all other pairs commute), all `2n` rows are real, and its
    stabilizer half `to_stabilizer()` generates exactly the signed group of the input — it represents the same state,
    signs included. -/
theorem clifford_from_stabilizer_correct (t : STab) (T : Tab) (hg : t.Good) (h : t.cliffordFromStabilizer = .ok T) :
    T.n = t.n ∧ T.Valid ∧ (∀ i, i < 2 * t.n → (T.row i).ip = false) ∧
    (STab.ofTab T).n = t.n ∧ ∀ p, (STab.ofTab T).Spn p ↔ t.Spn p := by
  obtain ⟨h1, h2, h3, s⟩ := cliffordFromStabilizer_sound t T hg h
  exact ⟨h1, h2, h3, s.n_eq, fun p => ⟨s.sub p, s.sup p⟩⟩

/-- **… and it returns on every stabilizer state** (`n` independent real commuting generators). -/
theorem clifford_from_stabilizer_returns (t : STab) (hg : t.Good) (hi : t.Indep) :
    ∃ T, t.cliffordFromStabilizer = .ok T ∧ T.n = t.n ∧ T.Valid ∧ ∀ p, (STab.ofTab T).Spn p ↔ t.Spn p := by
  obtain ⟨T, h, h1, h2, _, s⟩ := cliffordFromStabilizer_complete t hg hi
  exact ⟨T, h, h1, h2, fun p => ⟨s.sub p, s.sup p⟩⟩

/-- **`get_clifford_tableau_from_graph`** (every n, every symmetric adjacency relation `adj`, self-loops allowed): the
    synthesis returns on the graph-state generators `X_i Z_{N(i)}` (`graphSTab n adj` = the tableau `[I | A]` that
    `get_stabilizer_tableau_from_graph` builds) and the Clifford tableau is valid and represents exactly the graph state. -/
theorem clifford_tableau_from_graph_correct (n : Nat) (adj : Nat → Nat → Bool)
    (hsym : ∀ i j, i < n → j < n → adj i j = adj j i) :
    ∃ T, (graphSTab n adj).cliffordFromStabilizer = .ok T ∧ T.n = n ∧ T.Valid ∧
      ∀ p, (STab.ofTab T).Spn p ↔ (graphSTab n adj).Spn p := by
  obtain ⟨T, h, h1, h2, _, s⟩ := cliffordFromGraph_correct n adj hsym
  exact ⟨T, h, h1, h2, fun p => ⟨s.sub p, s.sup p⟩⟩

/-- the path graph 0 – 1 – 2 meets the hypothesis of `clifford_tableau_from_graph_correct` -/
example : ∀ i j, i < 3 → j < 3 → (fun a b : Nat => decide (a + 1 = b ∨ b + 1 = a)) i j
    = (fun a b : Nat => decide (a + 1 = b ∨ b + 1 = a)) j i := by
  intro i j _ _; simp only [decide_eq_decide]; omega

/-- **Gate count** (every n, every input): the list returned by `inverse_circuit` has at most `n² + 3n` gates — at most `n`
    Hadamards from the first block, one CNOT and one CZ per pair `j < k` (`n(n−1)/2` pairs each), at most `n` phase gates,
    `n` Hadamards and `n` sign-fixing X gates; the row products of the sixth block emit nothing.  (Not part of the property
    text; it bounds the cost of `clifford_from_stabilizer` and of the solver's final replay.) -/
theorem inverse_circuit_gate_count (t t' : STab) (circ : List Gate) (h : t.inverseCircuit = .ok (t', circ)) :
    circ.length ≤ t.n * t.n + 3 * t.n :=
  inverseCircuit_length t t' circ h

/-- **Everything the stabilizer backend holds is covered** (every n): the stabilizer half `to_stabilizer()` of a valid
    Clifford tableau is a real, commuting and *independent* generating set (the destabilizers witness the independence),
    so `inverse_circuit` returns on it and ends in |0…0⟩, and `clifford_from_stabilizer` rebuilds a valid tableau of the
    same state (possibly with other destabilizers). -/
theorem valid_tableau_is_synthesised (T : Tab) (hv : T.Valid) :
    (STab.ofTab T).Good ∧ (STab.ofTab T).Indep ∧
    (∃ t' circ, (STab.ofTab T).inverseCircuit = .ok (t', circ) ∧ t'.isZero = true) ∧
    ∃ T', (STab.ofTab T).cliffordFromStabilizer = .ok T' ∧ T'.n = T.n ∧ T'.Valid ∧
      ∀ p, (STab.ofTab T').Spn p ↔ (STab.ofTab T).Spn p :=
  ⟨ofTab_good_of_valid T hv, ofTab_indep T hv, inverseCircuit_of_valid T hv,
    clifford_from_stabilizer_returns _ (ofTab_good_of_valid T hv) (ofTab_indep T hv)⟩

/-- a valid Clifford tableau (Bell pair, destabilizers `Z₀`, `X₁`) meets the hypothesis of `valid_tableau_is_synthesised` -/
example : (Tab.ofRows 2 #[PRow.Zq 0, PRow.Xq 1,
    PRow.ofArrays #[true,true] #[false,false] false false,
    PRow.ofArrays #[false,false] #[true,true] false false]).Valid := (Tab.isSymplectic_iff _).1 (by decide)

/-! ### The Hilbert-space reading

  `Hilbert.rho n T = ∏_i (1 + P_i)/2` is the density matrix of the tableau `T` and `Hilbert.circMat n c` the `2^n × 2^n`
  unitary of the gate list `c` (first gate first) — Mathlib matrices over ℂ indexed by bit strings, shown in C07 to be
  the Kronecker products graphiq's density-matrix backend builds. -/

/-- **The synthesised circuit maps the state to |0…0⟩, and run backwards it prepares the state — as matrices** (every n,
    every real commuting generating set on which `inverse_circuit` returns): with `U` the unitary of the returned list
    and `V` the unitary of the reversed list (`P ↔ P_dag`), `U ρ U† = |0…0⟩⟨0…0|` and `V |0…0⟩⟨0…0| V† = ρ`, where
    `|0…0⟩⟨0…0|` is literally the matrix with a single 1 at the all-zero string. -/
theorem inverse_circuit_prepares_density_matrix (t t' : STab) (circ : List Gate) (hg : t.Good)
    (h : t.inverseCircuit = .ok (t', circ)) :
    Hilbert.circMat t.n circ * Hilbert.rho t.n t * (Hilbert.circMat t.n circ).conjTranspose
      = Hilbert.rho t.n (STab.zero t.n) ∧
    Hilbert.circMat t.n (revCirc circ) * Hilbert.rho t.n (STab.zero t.n) * (Hilbert.circMat t.n (revCirc circ)).conjTranspose
      = Hilbert.rho t.n t ∧
    ∀ a b, Hilbert.rho t.n (STab.zero t.n) a b = if a = (fun _ => false) ∧ b = (fun _ => false) then 1 else 0 :=
  ⟨Hilbert.inverseCircuit_rho t t' circ hg h, Hilbert.inverseCircuit_prepares_rho t t' circ hg h,
    fun a b => Hilbert.rho_zero t.n a b⟩

/-- **Every stabilizer state is a pure state in the literal sense** (every n): for `n` independent real commuting
    generators there is a unit vector `ψ` — namely `V|0…0⟩`, the first column of the unitary of the reversed synthesised
    circuit — with `ρ = |ψ⟩⟨ψ|`.  (C07 proves `ρ² = ρ = ρ†`, `tr ρ = 1`; the rank-one form needed completeness of
    `inverse_circuit`.) -/
theorem stabilizer_state_is_rank_one (t : STab) (hg : t.Good) (hi : t.Indep) :
    ∃ ψ : Hilbert.Bits t.n → ℂ, (∑ a, star (ψ a) * ψ a = 1) ∧ ∀ a b, Hilbert.rho t.n t a b = ψ a * star (ψ b) := by
  obtain ⟨t', circ, h, _⟩ := inverse_circuit_complete t hg hi
  obtain ⟨h1, h2⟩ := Hilbert.rho_rank_one t t' circ hg h
  exact ⟨_, h2, h1⟩

/-- the Clifford tableau of `clifford_from_stabilizer` has the same density matrix as its input -/
theorem clifford_from_stabilizer_same_density_matrix (t : STab) (T : Tab) (hg : t.Good)
    (h : t.cliffordFromStabilizer = .ok T) : Hilbert.rho t.n (STab.ofTab T) = Hilbert.rho t.n t := by
  obtain ⟨h1, h2, _, s⟩ := cliffordFromStabilizer_sound t T hg h
  have := Hilbert.rho_spanEq (STab.ofTab T) t s (Hilbert.ofTab_good T h2) hg
  have e : (STab.ofTab T).n = t.n := h1
  rw [e] at this
  exact this

/-- **Shape of the synthesised circuit** (every n, every real commuting input): the returned list consists of six segments
    in this order — Hadamards, CNOTs, CZs, phase gates, Hadamards, X gates (`H* · CNOT* · CZ* · P* · H* · X*`) — every qubit
    index is below `n`, and every two-qubit gate has control < target.  No `Y`, `Z`, `P_dag` or identity gate is ever
    emitted. -/
theorem inverse_circuit_shape (t t' : STab) (circ : List Gate) (hg : t.Good) (h : t.inverseCircuit = .ok (t', circ)) :
    ∃ l1 l2 l3 l4 l5 l6, circ = l1 ++ l2 ++ l3 ++ l4 ++ l5 ++ l6 ∧
      (∀ g, g ∈ l1 → ∃ q, q < t.n ∧ g = .H q) ∧ (∀ g, g ∈ l2 → ∃ c k, c < k ∧ k < t.n ∧ g = .CNOT c k) ∧
      (∀ g, g ∈ l3 → ∃ c k, c < k ∧ k < t.n ∧ g = .CZ c k) ∧ (∀ g, g ∈ l4 → ∃ q, q < t.n ∧ g = .P q) ∧
      (∀ g, g ∈ l5 → ∃ q, q < t.n ∧ g = .H q) ∧ (∀ g, g ∈ l6 → ∃ q, q < t.n ∧ g = .X q) :=
  inverseCircuit_shape t t' circ h

/-- witness of the repaired defect D42 (an instance of `inverse_circuit_complete`, kept as a concrete regression that
    is also replayed on the implementation on every run): the 5-qubit state with generators −XIYXI, −IXXZZ, IIZZX, −ZIIZI, IZZZI -/
def d42 : STab :=
  STab.ofRows 5 #[
    PRow.ofArrays #[true,false,true,true,false] #[false,false,true,false,false] true false,
    PRow.ofArrays #[false,true,true,false,false] #[false,false,false,true,true] true false,
    PRow.ofArrays #[false,false,false,false,true] #[false,false,true,true,false] false false,
    PRow.ofArrays #[false,false,false,false,false] #[true,false,false,true,false] true false,
    PRow.ofArrays #[false,false,false,false,false] #[false,true,true,true,false] false false]

/-! ### Non-vacuity -/

/-- GHZ₃ in a non-canonical generating set with a negative sign: XXX, −ZZI, IZZ -/
def ghz : STab :=
  STab.ofRows 3 #[
    PRow.ofArrays #[true,true,true] #[false,false,false] false false,
    PRow.ofArrays #[false,false,false] #[true,true,false] true false,
    PRow.ofArrays #[false,false,false] #[false,true,true] false false]

/-- the synthesis on GHZ₃, evaluated: it returns |0…0⟩ and a non-empty gate list -/
theorem ghz_synthesised :
    (match ghz.inverseCircuit with | .ok (t', c) => t'.isZero && decide (0 < c.length) | .error _ => false) = true := by
  decide +kernel

example : (match ghz.inverseCircuit with | .ok (t', c) => t'.isZero && decide (0 < c.length) | .error _ => false) = true :=
  ghz_synthesised
theorem ghz_good : ghz.Good := good_of_check _ (by decide)
theorem d42_good : d42.Good := good_of_check _ (by decide +kernel)

/-- the hypotheses of `inverse_circuit_complete` / `inverse_circuit_correct` (real, commuting, independent) are met by
    GHZ₃ in a signed non-canonical generating set and by the former D42 witness; independence is *derived* from an
    evaluation (the assert of `canonical_form` passes, `STab.indep_of_pivots`), not assumed -/
theorem ghz_indep : ghz.Indep := indep_of_pivots ghz ghz_good (by decide +kernel)
theorem d42_indep : d42.Indep := indep_of_pivots d42 d42_good (by decide +kernel)

/-- **Regression for D42** (replayed on the implementation on every run): on the witness, where the code before graphiq
    commit 74abae4 returned a tableau that was not |0…0⟩, the repaired synthesis returns and ends in |0…0⟩ — the instance
    of `inverse_circuit_complete` at the witness, whose hypotheses are kernel-checked above -/
theorem d42_witness_now_synthesised :
    (match d42.inverseCircuit with | .ok (t', _) => t'.isZero | .error _ => false) = true := by
  obtain ⟨t', circ, h, hz⟩ := inverse_circuit_complete d42 d42_good d42_indep
  rw [h]
  exact hz

example : ghz.Good ∧ ghz.Indep ∧ d42.Good ∧ d42.Indep := ⟨ghz_good, ghz_indep, d42_good, d42_indep⟩

/-- the hypotheses of `inverse_circuit_prepares` / `inverse_circuit_ends_in_zero` / `inverse_circuit_tracks`: the synthesis
    returns on GHZ₃ with a non-empty gate list -/
example : ∃ t' circ, ghz.Good ∧ ghz.inverseCircuit = .ok (t', circ) ∧ 0 < circ.length := by
  obtain ⟨t', circ, h, _⟩ := inverse_circuit_complete ghz ghz_good ghz_indep
  refine ⟨t', circ, ghz_good, h, ?_⟩
  have := ghz_synthesised
  rw [h] at this
  simp only [Bool.and_eq_true, decide_eq_true_eq] at this
  exact this.2

/-- dependent generators (`Z₀`, `−Z₀` on two qubits: their product is `−I`): real and commuting but not `Indep`, and
    `inverse_circuit` raises the `AssertionError` of `canonical_form` — the error case of
    `inverse_circuit_returns_iff_independent` is not vacuous -/
def dependent : STab :=
  STab.ofRows 2 #[
    PRow.ofArrays #[false,false] #[true,false] false false,
    PRow.ofArrays #[false,false] #[true,false] true false]

example : dependent.Good ∧ ¬ dependent.Indep ∧
    (match dependent.inverseCircuit with | .error .assertion => true | _ => false) = true := by
  have hg : dependent.Good := good_of_check _ (by decide)
  refine ⟨hg, ?_, by decide +kernel⟩
  intro hi
  obtain ⟨r, hr⟩ := (inverse_circuit_returns_iff_independent dependent hg).1.2 hi
  have : (match dependent.inverseCircuit with | .ok _ => false | .error _ => true) = true := by decide +kernel
  rw [hr] at this
  cases this

/-! ### The "Eliminate Zs" block is dead code since the repair -/

/-- **The sixth block of `inverse_circuit` ("Eliminate Zs": `if x[k,j] == 0 and z[k,j] == 1: tab_row_sum(j, k)`) is the
    identity** (every n, every real commuting input; the code as repaired in graphiq 74abae4).  On the canonical form `t0` of
    the input, with `s1` the state after the first Hadamard block and `invUpTo5 t0.n s1` the state after the second Hadamard
    block, the loop over all pairs `j < k` leaves the state unchanged — its condition is false for every pair, because
    the clearing loop that 74abae4 added to the first block already removes the z-bits below every Z-type pivot, the CNOT,
    CZ and P blocks keep that, and the second Hadamard block leaves a unit vector in every X-type column: the z-bit matrix
    is the identity *before* the sixth block.  Consequently `inverse_circuit` coincides — returned tableau, gate list and
    raised errors — with the function `STab.inverseCircuitNoElim` from which the block is deleted.

    What it implies for the check: **any change of graphiq confined to the body of that branch (e.g. swapping the two
    arguments of its `tab_row_sum`, or moving the block behind the sign-fixing X gates) is behaviour-preserving** — such a
    mutant is equivalent and no input can detect it; the correspondence harness records by line coverage of the real
    function that the branch body is reached by no generated input (evidence `unreached_lines`). -/
theorem eliminate_zs_block_is_identity (t : STab) (hg : t.Good) :
    t.inverseCircuit = t.inverseCircuitNoElim ∧
    ∀ t0 s1, t.canonicalForm = .ok t0 → invBlock1 t0 = .ok s1 →
      (pairsLt t0.n).foldl invStep6 (invUpTo5 t0.n s1) = invUpTo5 t0.n s1 := by
  refine ⟨inverseCircuit_eq_noElim t hg, fun t0 s1 hc hb => ?_⟩
  obtain ⟨_, g0⟩ := canonicalForm_spanEq t t0 hg hc
  exact (canon_eliminateZs_identity t0 (canonicalForm_canon t t0 hc) g0 s1 hb).1

/-- the hypotheses of the second clause are met (GHZ₃: `canonical_form` and the first block return) -/
example : ∃ t0 s1, ghz.canonicalForm = .ok t0 ∧ invBlock1 t0 = .ok s1 := by
  obtain ⟨t', circ, h, _⟩ := inverse_circuit_complete ghz ghz_good ghz_indep
  obtain ⟨t0, s, hc, hs, _, _⟩ := inverseCircuit_eq ghz t' circ h
  obtain ⟨s1, h1, _⟩ := invBlocks_ok t0 s hs
  exact ⟨t0, s1, hc, h1⟩

/-! ### The synthesised circuit depends only on the state -/

/-- **"In any generating set": the gate list is a function of the state** (every n): two real commuting generating sets of
    the same signed group get literally the same gate list (and, for n ≥ 1, the same returned tableau) from
    `inverse_circuit` — `canonical_form` is a normal form row by row and everything after it reads only its result. -/
theorem inverse_circuit_depends_only_on_state (a b : STab) (ga : a.Good) (gb : b.Good)
    (hs : a.n = b.n ∧ ∀ p, a.Spn p ↔ b.Spn p) (ta tb : STab) (ca cb : List Gate)
    (ha : a.inverseCircuit = .ok (ta, ca)) (hb : b.inverseCircuit = .ok (tb, cb)) : ca = cb ∧ (0 < a.n → ta = tb) :=
  inverseCircuit_gauge a b ga gb ⟨hs.1, fun p => (hs.2 p).1, fun p => (hs.2 p).2⟩ ta tb ca cb ha hb

/-- **… and so is the Clifford tableau of `clifford_from_stabilizer`, destabilizers included.** -/
theorem clifford_from_stabilizer_depends_only_on_state (a b : STab) (ga : a.Good) (gb : b.Good)
    (hs : a.n = b.n ∧ ∀ p, a.Spn p ↔ b.Spn p) (Ta Tb : Tab)
    (ha : a.cliffordFromStabilizer = .ok Ta) (hb : b.cliffordFromStabilizer = .ok Tb) : Ta = Tb :=
  cliffordFromStabilizer_gauge a b ga gb ⟨hs.1, fun p => (hs.2 p).1, fun p => (hs.2 p).2⟩ Ta Tb ha hb

/-- **Round trip** (every n): `clifford_from_stabilizer(T.to_stabilizer())` gives back `T` itself — destabilizers included —
    for every tableau `T` that `clifford_from_stabilizer` produced: its outputs are canonical representatives of states. -/
theorem clifford_from_stabilizer_round_trip (t : STab) (T : Tab) (hg : t.Good) (h : t.cliffordFromStabilizer = .ok T) :
    (STab.ofTab T).cliffordFromStabilizer = .ok T := by
  obtain ⟨_, hv, _, s⟩ := cliffordFromStabilizer_sound t T hg h
  have g' := ofTab_good_of_valid T hv
  obtain ⟨T', h', _⟩ := cliffordFromStabilizer_complete _ g' (ofTab_indep T hv)
  rw [h', cliffordFromStabilizer_gauge _ t g' hg s T' T h' h]

/-- GHZ₃ in another generating set: XXX, −ZZI, −ZIZ -/
def ghz2 : STab :=
  STab.ofRows 3 #[
    PRow.ofArrays #[true,true,true] #[false,false,false] false false,
    PRow.ofArrays #[false,false,false] #[true,true,false] true false,
    PRow.ofArrays #[false,false,false] #[true,false,true] true false]

/-- the hypotheses of the two theorems are met by two *different* generating sets of GHZ₃ on which the synthesis returns -/
example : ghz.Good ∧ ghz2.Good ∧ (ghz.n = ghz2.n ∧ ∀ p, ghz.Spn p ↔ ghz2.Spn p) ∧
    (∃ r, ghz.inverseCircuit = .ok r) ∧ (∃ r, ghz2.inverseCircuit = .ok r) ∧ ¬ (ghz.row 2).r = (ghz2.row 2).r := by
  have g2 : ghz2.Good := good_of_check _ (by decide)
  have s : SpanEq ghz ghz2 :=
    spanEq_of_masks _ _ rfl (fun i => if i = 2 then 6 else 2 ^ i) (fun i => if i = 2 then 6 else 2 ^ i) (by decide)
  exact ⟨ghz_good, g2, ⟨s.n_eq, fun p => ⟨s.sub p, s.sup p⟩⟩,
    (inverse_circuit_returns_iff_independent ghz ghz_good).1.2 ghz_indep,
    (inverse_circuit_returns_iff_independent ghz2 g2).1.2 (indep_of_pivots ghz2 g2 (by decide +kernel)), by decide⟩

/-! ### Graph states, exactly -/

/-- **`inverse_circuit` on a graph state is the textbook circuit** (every n, every simple graph: symmetric, irreflexive
    adjacency relation): for the generators `X_i Z_{N(i)}` it returns exactly one `CZ(j,k)` for every edge `j < k`, in the
    order of the nested loops `for j: for k > j`, followed by one Hadamard on every qubit `0, …, n-1` — no Hadamard in the
    first block, no CNOT, no phase gate, no sign-fixing X. -/
theorem inverse_circuit_on_graph_state (n : Nat) (adj : Nat → Nat → Bool)
    (hsym : ∀ i j, i < n → j < n → adj i j = adj j i) (hirr : ∀ i, i < n → adj i i = false) :
    ∃ t', (graphSTab n adj).inverseCircuit
      = .ok (t', (((pairsLt n).filter fun jk => adj jk.1 jk.2).map fun jk => Gate.CZ jk.1 jk.2)
                  ++ (List.range n).map Gate.H) := by
  obtain ⟨t', h, _, _⟩ := graph_inverseCircuit n adj hsym hirr
  exact ⟨t', h⟩

/-- **`get_clifford_tableau_from_graph`, exactly** (every n, every simple graph): the Clifford tableau it returns has the
    destabilizers `Z_0, …, Z_{n-1}` and the stabilizers `X_i Z_{N(i)}`, all with sign `+` — row by row the textbook graph
    tableau (the tableau C09 calls `graphTab`). -/
theorem clifford_tableau_from_graph_exact (n : Nat) (adj : Nat → Nat → Bool)
    (hsym : ∀ i j, i < n → j < n → adj i j = adj j i) (hirr : ∀ i, i < n → adj i i = false) :
    ∃ T, (graphSTab n adj).cliffordFromStabilizer = .ok T ∧ T.n = n ∧
      (∀ i, i < n → EqOn n (T.row i) (PRow.Zq i)) ∧
      (∀ i, i < n → EqOn n (T.row (i + n)) ((graphSTab n adj).row i)) :=
  graph_cliffordFromStabilizer n adj hsym hirr

/-- … i.e. it is, row by row, the tableau `LC.graphTab n adj` from which C09 (`graph_state_tableau_valid`,
    `yes_returns_a_valid_clifford`) and the LC-equivalence machinery start. -/
theorem clifford_tableau_from_graph_is_graphTab (n : Nat) (adj : Nat → Nat → Bool)
    (hsym : ∀ i j, i < n → j < n → adj i j = adj j i) (hirr : ∀ i, i < n → adj i i = false) :
    ∃ T, (graphSTab n adj).cliffordFromStabilizer = .ok T ∧ T.n = n ∧
      ∀ i, i < 2 * n → EqOn n (T.row i) ((LC.graphTab n adj).row i) := by
  obtain ⟨T, h, hn, h1, h2⟩ := clifford_tableau_from_graph_exact n adj hsym hirr
  refine ⟨T, h, hn, fun i hi => ?_⟩
  by_cases hlt : i < n
  · have : (LC.graphTab n adj).row i = PRow.Zq i := by simp [LC.graphTab, hlt]
    rw [this]; exact h1 i hlt
  · have e : (LC.graphTab n adj).row i = LC.graphGen adj (i - n) := by simp [LC.graphTab, hlt]
    rw [e]
    have := h2 (i - n) (by omega)
    rw [show i - n + n = i from by omega] at this
    refine this.trans ⟨fun j hj => ⟨rfl, ?_⟩, rfl, rfl⟩
    show (decide (j < n) && adj (i - n) j) = adj (i - n) j
    simp [hj]

/-- the path graph 0 – 1 – 2 meets both hypotheses -/
example : (∀ i j, i < 3 → j < 3 → (fun a b : Nat => decide (a + 1 = b ∨ b + 1 = a)) i j
      = (fun a b : Nat => decide (a + 1 = b ∨ b + 1 = a)) j i) ∧
    ∀ i, i < 3 → (fun a b : Nat => decide (a + 1 = b ∨ b + 1 = a)) i i = false := by
  refine ⟨fun i j _ _ => ?_, fun i _ => ?_⟩
  · simp only [decide_eq_decide]; omega
  · simp

/-! ## Cross-references (sweep): C07's and C11's "a stabilizer state is a ket" are one fact

  `C07.stabilizer_state_is_ket` (valid Clifford tableaux; `ψ` from purity, not computed; matrix form `ρ = |ψ⟩⟨ψ|`) and
  `stabilizer_state_is_rank_one` above (any independent real commuting generating set; `ψ = V|0…0⟩`; entrywise form) were
  proved independently.  `Proofs/SweepKet.lean` converts the two conclusion shapes (`Sweep.ketForm_iff`, `Sweep.ketNorm_iff`)
  and derives each from the other on the common domain. -/

/-- C07's conclusion shape, on C11's domain: for **every** independent real commuting generating set (not only the
    stabilizer half of a valid Clifford tableau) the state is `|ψ⟩⟨ψ|` with `⟨ψ|ψ⟩ = 1` -/
theorem stabilizer_state_is_ket_on_any_generating_set (t : STab) (hg : t.Good) (hi : t.Indep) :
    ∃ ψ : Hilbert.Bits t.n → ℂ, Hilbert.rho t.n t = Matrix.vecMulVec ψ (star ψ) ∧ star ψ ⬝ᵥ ψ = 1 :=
  Sweep.ket_of_good_indep t hg hi

/-- C11's conclusion shape, by C07's argument: on valid Clifford tableaux the entrywise rank-one form follows from purity
    alone — no `inverse_circuit` involved (second, independent proof of `stabilizer_state_is_rank_one` on that domain) -/
theorem stabilizer_state_is_rank_one_by_purity (T : Tab) (hv : T.Valid) :
    ∃ ψ : Hilbert.Bits T.n → ℂ, (∑ a, star (ψ a) * ψ a = 1) ∧
      ∀ a b, Hilbert.rho T.n (STab.ofTab T) a b = ψ a * star (ψ b) :=
  Sweep.rank_one_of_valid T hv

/-- the kets the two theorems produce for one state agree up to a phase: normalised `ψ`, `φ` with `|ψ⟩⟨ψ| = |φ⟩⟨φ|` satisfy
    `φ = ⟨ψ|φ⟩ ψ` -/
theorem kets_of_one_state_agree_up_to_phase {ι : Type} [Fintype ι] (ψ φ : ι → ℂ) (hψ : star ψ ⬝ᵥ ψ = 1) (hφ : star φ ⬝ᵥ φ = 1)
    (h : Matrix.vecMulVec ψ (star ψ) = Matrix.vecMulVec φ (star φ)) : φ = (star ψ ⬝ᵥ φ) • ψ :=
  Sweep.ket_unique_up_to_phase ψ φ hψ h hφ

/-- the hypothesis of `stabilizer_state_is_rank_one_by_purity` is met by `|00⟩` (those of
    `stabilizer_state_is_ket_on_any_generating_set` are the ones of `stabilizer_state_is_rank_one`, see the examples above) -/
example : (Tab.ket0 2).Valid := (Tab.isSymplectic_iff _).mp (by decide)

end Graphiq.C11
