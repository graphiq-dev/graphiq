/-
  Proofs/LCConnectedAgree.lean — on connected graphs the repaired `is_lc_equivalent` returns exactly what the whole-graph
  algorithm returns (same answer, same `Q`): the repair changes nothing there.
-/
import GraphiqModel.Proofs.LCRepair
namespace Graphiq.LC
open Graphiq

/-! ### a connected graph has one component -/

theorem componentOf_connected (n : Nat) (A : Adj) (hc : Connected n A) (s : Nat) (hs : s < n) :
    componentOf n A s = List.range n := by
  rw [componentOf_eq_filter, List.filter_eq_self]
  intro v hv
  have hv' := List.mem_range.mp hv
  have : v ∈ bfsLoop n A n 0 [s] := (mem_bfs n A s hs v).mpr (hc s v hs hv')
  simpa using this

theorem connectedComponents_connected (n : Nat) (A : Adj) (hn : 0 < n) (hA : Simple n A) (hc : Connected n A) :
    connectedComponents n A = [List.range n] := by
  obtain ⟨hinv, hcover⟩ := connectedComponents_spec n A hA.1
  have hall : ∀ c ∈ connectedComponents n A, c = List.range n := by
    intro c hcm
    obtain ⟨s, hs, e⟩ := hinv.isClass c hcm
    rw [e]; exact componentOf_connected n A hc s hs
  obtain ⟨c0, hc0, _⟩ := hcover 0 hn
  -- a list of pairwise disjoint copies of a non-empty list has one element
  generalize connectedComponents n A = l at *
  match l, hc0, hall, hinv.disjoint with
  | [], h, _, _ => cases h
  | [c], _, hall, _ => rw [hall c List.mem_cons_self]
  | c :: c' :: rest, _, hall, hdis =>
    exfalso
    have e1 := hall c List.mem_cons_self
    have e2 := hall c' (List.mem_cons_of_mem _ List.mem_cons_self)
    have := (List.pairwise_cons.mp hdis).1 c' List.mem_cons_self 0 (by rw [e1]; exact List.mem_range.mpr hn)
    exact this (by rw [e2]; exact List.mem_range.mpr hn)

/-! ### the whole-graph algorithm reads its arguments only below their size -/

theorem coeffMaker_congr (n : Nat) (A A' B B' : Adj) (hA : ∀ i j, i < n → j < n → A i j = A' i j)
    (hB : ∀ i j, i < n → j < n → B i j = B' i j) : (coeffMaker n A B).norm = (coeffMaker n A' B').norm := by
  refine Graphiq.BMat.norm_congr (coeffMaker n A B) (coeffMaker n A' B') rfl rfl ?_
  intro row col hrow hcol
  have hrow' : row < n * n := hrow
  have hcol' : col < 4 * n := hcol
  have hn : 0 < n := by
    rcases Nat.eq_zero_or_pos n with e | e
    · subst e; simp at hrow'
    · exact e
  have h1 : row / n < n := Nat.div_lt_of_lt_mul hrow'
  have h2 : row % n < n := Nat.mod_lt _ hn
  have h3 : col / 4 < n := by omega
  show coeffEntry A B (row / n) (row % n) (col / 4) (col % 4) = coeffEntry A' B' (row / n) (row % n) (col / 4) (col % 4)
  unfold coeffEntry
  split
  · rw [hA _ _ h1 h2]
  · rfl
  · rw [hA _ _ h3 h1, hB _ _ h3 h2]
  · rw [hB _ _ h1 h2]

theorem isLcEquivalent_congr (a a' b b' : BMat) (mode : Mode) (draws : List Bool) (hra : a.r = a'.r) (hrb : b.r = b'.r)
    (hA : ∀ i j, i < a.r → j < a.r → a.f i j = a'.f i j) (hB : ∀ i j, i < a.r → j < a.r → b.f i j = b'.f i j) :
    isLcEquivalent a b mode draws = isLcEquivalent a' b' mode draws := by
  unfold isLcEquivalent
  simp only []
  rw [← hra, ← hrb, coeffMaker_congr a.r a.f a'.f b.f b'.f hA hB]

/-! ### assembling a single component -/

theorem scatter_full (n : Nat) (q : List Bool) (hq : q.length = 4 * n) :
    scatter (List.replicate (4 * n) false) (List.range n) q = q := by
  apply List.ext_getElem
  · rw [scatter_length]; simp [hq]
  · intro idx h1 h2
    have hidx : idx < 4 * n := by rw [scatter_length] at h1; simpa using h1
    have e1 : (scatter (List.replicate (4 * n) false) (List.range n) q)[idx] =
        vget (scatter (List.replicate (4 * n) false) (List.range n) q) idx := by
      simp [vget, List.getD, h1]
    have e2 : q[idx] = vget q idx := by simp [vget, List.getD, h2]
    rw [e1, e2, vget_scatter _ _ _ idx (by simpa using hidx)]
    have hq4 : idx / 4 < n := by omega
    have hfind : (List.range n).findIdx? (· == idx / 4) = some (idx / 4) := by
      have := findIdx_keep (List.range n) List.nodup_range (idx / 4) (by simpa using hq4)
      have hg : (List.range n).getD (idx / 4) 0 = idx / 4 := by simp [List.getD, hq4]
      rw [hg] at this
      exact this
    rw [hfind]
    show vget q (4 * (idx / 4) + idx % 4) = vget q idx
    congr 1
    omega

/-- **on connected graphs the repair changes nothing**: if both graphs are connected (simple, same size `n ≥ 1`), the repaired
    `is_lc_equivalent` returns exactly the `Q` (or the `no`) of the whole-graph algorithm, for every mode and every value of the
    draws -/
theorem isLcEquivalentR_connected (a b : BMat) (mode : Mode) (draws : List (List Bool)) (hn : 0 < a.r) (hab : a.r = b.r)
    (ha : Simple a.r a.f) (hb : Simple a.r b.f) (hca : Connected a.r a.f) (hcb : Connected a.r b.f)
    (out : EqOut) (e : isLcEquivalent a b mode (draws.headD []) = .ok out) :
    ∃ outR, isLcEquivalentR a b mode draws = .ok outR ∧ outR.sol = out.sol ∧ outR.parts = [out] := by
  have hcompa := connectedComponents_connected a.r a.f hn ha hca
  have hcompb := connectedComponents_connected a.r b.f hn hb hcb
  have hsub : isLcEquivalent (subMat a (List.range a.r)) (subMat b (List.range a.r)) mode (draws.headD []) = .ok out := by
    rw [isLcEquivalent_congr (subMat a (List.range a.r)) a (subMat b (List.range a.r)) b mode _ (by simp [subMat])
      (by simp [subMat]; exact hab) ?_ ?_]
    · exact e
    · intro i j hi hj
      have hi' : i < a.r := by simpa [subMat] using hi
      have hj' : j < a.r := by simpa [subMat] using hj
      show a.f ((List.range a.r).getD i 0) ((List.range a.r).getD j 0) = a.f i j
      simp [List.getD, hi', hj']
    · intro i j hi hj
      have hi' : i < a.r := by simpa [subMat] using hi
      have hj' : j < a.r := by simpa [subMat] using hj
      show b.f ((List.range a.r).getD i 0) ((List.range a.r).getD j 0) = b.f i j
      simp [List.getD, hi', hj']
  unfold isLcEquivalentR
  simp only []
  rw [if_neg (by rw [hab]; simp), hcompa, hcompb]
  simp only [ne_eq, not_true_eq_false, if_false, componentLoop, hsub]
  cases hs : out.sol with
  | none => exact ⟨_, rfl, rfl, by simp⟩
  | some q =>
    have hq : q.length = 4 * a.r := by
      have hpos : 0 < (subMat a (List.range a.r)).r := by simp [subMat]; exact hn
      have := (isLcEquivalent_sound_all _ _ mode _ out q hpos hsub hs).1
      simpa [subMat] using this
    simp only []
    refine ⟨_, rfl, ?_, by simp⟩
    show some (scatter (List.replicate (4 * a.r) false) (List.range a.r) q) = some q
    rw [scatter_full a.r q hq]

end Graphiq.LC
