/-
  Proofs/HilbertDimExpect.lean — Pauli expectation values in a stabilizer state, and faithfulness of the tableau → state map.

  * `pauli_expectation` : for a valid Clifford tableau and a real Pauli row `g`:
    `tr(g ρ) = 1` if `g` is in the stabilizer group, `-1` if `-g` is, `0` otherwise;
  * `rho_determines_group` : two valid tableaux with the same density matrix have the same stabilizer group
    (the converse of gauge independence): the density matrix and the signed group determine each other;
  * `rho_mul_eq_zero_of_orth` : if some `P` is in one group and `-P` in the other, the states are orthogonal, `ρ_a ρ_b = 0`.
-/
import GraphiqModel.Proofs.HilbertDimKet
namespace Graphiq
namespace Hilbert
open Matrix PRow TabSpec Tab

theorem rho_mul_grp (t : Tab) (hv : t.Valid) (hr : t.StabReal) (g : PRow) (hg : Grp t g) :
    rho t.n (STab.ofTab t) * pauliMat t.n g = rho t.n (STab.ofTab t) :=
  mul_eq_of_hermitian _ _ (pauliMat_hermitian t.n g (grp_real t hv hr g hg)) (rho_hermitian _ (ofTab_good t hv))
    (grp_mul_rho t hv hr g hg)

theorem trace_pauli_rho_of_anticomm (t : Tab) (hv : t.Valid) (hr : t.StabReal) (g h : PRow) (hh : Grp t h)
    (ha : sp t.n g h = true) : Matrix.trace (pauliMat t.n g * rho t.n (STab.ofTab t)) = 0 := by
  have e1 := grp_mul_rho t hv hr h hh
  have e2 := rho_mul_grp t hv hr h hh
  have anti := pauliMat_anticomm t.n g h ha
  have key : Matrix.trace (pauliMat t.n g * rho t.n (STab.ofTab t))
      = -Matrix.trace (pauliMat t.n g * rho t.n (STab.ofTab t)) := by
    calc Matrix.trace (pauliMat t.n g * rho t.n (STab.ofTab t))
        = Matrix.trace (pauliMat t.n g * (pauliMat t.n h * rho t.n (STab.ofTab t))) := by rw [e1]
      _ = Matrix.trace (-(pauliMat t.n h * pauliMat t.n g) * rho t.n (STab.ofTab t)) := by
          rw [← Matrix.mul_assoc, anti]
      _ = -Matrix.trace (pauliMat t.n h * (pauliMat t.n g * rho t.n (STab.ofTab t))) := by
          rw [Matrix.neg_mul, Matrix.trace_neg, Matrix.mul_assoc]
      _ = -Matrix.trace (pauliMat t.n g * rho t.n (STab.ofTab t) * pauliMat t.n h) := by
          rw [Matrix.trace_mul_comm]
      _ = -Matrix.trace (pauliMat t.n g * rho t.n (STab.ofTab t)) := by
          rw [Matrix.mul_assoc, e2]
  have h2 : (2 : ℂ) * Matrix.trace (pauliMat t.n g * rho t.n (STab.ofTab t)) = 0 := by
    rw [two_mul]; nth_rewrite 1 [key]; simp
  exact (mul_eq_zero.mp h2).resolve_left (by norm_num)

theorem pauli_expectation (t : Tab) (hv : t.Valid) (hr : t.StabReal) (g : PRow) (hg : g.ip = false) :
    (Grp t g → Matrix.trace (pauliMat t.n g * rho t.n (STab.ofTab t)) = 1) ∧
    (Grp t (negate g) → Matrix.trace (pauliMat t.n g * rho t.n (STab.ofTab t)) = -1) ∧
    (¬ Grp t g → ¬ Grp t (negate g) → Matrix.trace (pauliMat t.n g * rho t.n (STab.ofTab t)) = 0) := by
  have tr1 := rho_ofTab_trace t hv
  refine ⟨?_, ?_, ?_⟩
  · intro h; rw [grp_mul_rho t hv hr g h, tr1]
  · intro h
    have e := grp_mul_rho t hv hr _ h
    have hneg : pauliMat t.n (negate g) = -pauliMat t.n g := pauliMat_neg t.n g
    rw [hneg, Matrix.neg_mul] at e
    have : pauliMat t.n g * rho t.n (STab.ofTab t) = -rho t.n (STab.ofTab t) := neg_eq_iff_eq_neg.mp e
    rw [this, Matrix.trace_neg, tr1]
  · intro h1 h2
    by_cases hc : ∀ i, i < t.n → sp t.n g (t.stab i) = false
    · rcases grp_maximal t hv hr g hg hc with h | h
      · exact absurd h h1
      · exact absurd h h2
    · obtain ⟨i, hi'⟩ := not_forall.mp hc
      obtain ⟨hi, hs⟩ := Classical.not_imp.mp hi'
      have hs' : sp t.n g (t.stab i) = true := by
        revert hs; cases sp t.n g (t.stab i) <;> simp
      exact trace_pauli_rho_of_anticomm t hv hr g _ (grp_gen t i hi) hs'

/-- **the density matrix determines the stabilizer group** (converse of gauge independence) -/
theorem rho_determines_group (n : Nat) (a b : Tab) (ha : a.n = n) (hb : b.n = n) (va : a.Valid) (ra : a.StabReal)
    (vb : b.Valid) (rb : b.StabReal) (h : rho n (STab.ofTab a) = rho n (STab.ofTab b)) :
    ∀ P, Grp a P ↔ Grp b P := by
  subst ha
  have one_dir : ∀ (x y : Tab), x.n = y.n → x.Valid → x.StabReal → y.Valid → y.StabReal →
      rho x.n (STab.ofTab x) = rho x.n (STab.ofTab y) → ∀ P, Grp x P → Grp y P := by
    intro x y hn vx rx vy ry hxy P hP
    have hPr := grp_real x vx rx P hP
    have e1 := (pauli_expectation x vx rx P hPr).1 hP
    rw [hxy, hn] at e1
    obtain ⟨_, f2, f3⟩ := pauli_expectation y vy ry P hPr
    by_contra hne
    by_cases hneg : Grp y (negate P)
    · have := f2 hneg
      rw [e1] at this; norm_num at this
    · have := f3 hne hneg
      rw [e1] at this; norm_num at this
  intro P
  constructor
  · exact one_dir a b hb.symm va ra vb rb h P
  · have h' : rho b.n (STab.ofTab b) = rho b.n (STab.ofTab a) := by rw [hb]; exact h.symm
    exact one_dir b a hb vb rb va ra h' P

theorem rho_eq_iff_grp_eq (n : Nat) (a b : Tab) (ha : a.n = n) (hb : b.n = n) (va : a.Valid) (ra : a.StabReal)
    (vb : b.Valid) (rb : b.StabReal) :
    rho n (STab.ofTab a) = rho n (STab.ofTab b) ↔ ∀ P, Grp a P ↔ Grp b P :=
  ⟨rho_determines_group n a b ha hb va ra vb rb,
   fun h => rho_eq_of_gens n a b ha hb va ra vb rb (fun i hi => (h _).mpr (grp_gen b i (by omega)))⟩

theorem rho_mul_eq_zero_of_orth (n : Nat) (a b : Tab) (ha : a.n = n) (hb : b.n = n) (va : a.Valid) (ra : a.StabReal)
    (vb : b.Valid) (rb : b.StabReal) (P : PRow) (hPa : Grp a P) (hPb : Grp b (negate P)) :
    rho n (STab.ofTab a) * rho n (STab.ofTab b) = 0 := by
  subst ha
  have e1 := rho_mul_grp a va ra P hPa
  have e2 := grp_mul_rho b vb rb _ hPb
  rw [hb] at e2
  have hneg : pauliMat a.n (negate P) = -pauliMat a.n P := pauliMat_neg a.n P
  rw [hneg, Matrix.neg_mul] at e2
  have key : rho a.n (STab.ofTab a) * rho a.n (STab.ofTab b) = -(rho a.n (STab.ofTab a) * rho a.n (STab.ofTab b)) := by
    calc rho a.n (STab.ofTab a) * rho a.n (STab.ofTab b)
        = rho a.n (STab.ofTab a) * pauliMat a.n P * rho a.n (STab.ofTab b) := by rw [e1]
      _ = rho a.n (STab.ofTab a) * (pauliMat a.n P * rho a.n (STab.ofTab b)) := by rw [Matrix.mul_assoc]
      _ = rho a.n (STab.ofTab a) * -(rho a.n (STab.ofTab b)) := by
          rw [neg_eq_iff_eq_neg.mp e2]
      _ = -(rho a.n (STab.ofTab a) * rho a.n (STab.ofTab b)) := by rw [Matrix.mul_neg]
  have h2 : (2 : ℂ) • (rho a.n (STab.ofTab a) * rho a.n (STab.ofTab b)) = 0 := by
    rw [two_smul]; nth_rewrite 1 [key]; simp
  exact (smul_eq_zero.mp h2).resolve_left (by norm_num)

end Hilbert
end Graphiq
