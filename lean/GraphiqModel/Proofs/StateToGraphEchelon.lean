/-
  Proofs/StateToGraphEchelon.lean — the postcondition of the modelled `row_reduction` (Model/StateToGraph.lean): the X part is left
  in row echelon form (pivot columns strictly increasing, zeros before every pivot, zero rows at the bottom), and what the modelled
  `_position_finder` (the pivot scan of /repo 86ab4f1) returns on an echelon matrix: exactly the columns without a pivot.
  All sizes n ≥ 1.
-/
import GraphiqModel.Proofs.StateToGraphBits
import GraphiqModel.Proofs.BitEchelon
namespace Graphiq
namespace S2G

/-- row echelon form of the X part: rows `0 .. r-1` have their leading 1 in the strictly increasing columns `piv 0 < piv 1 < …`,
    the rows from `r` on are zero -/
structure Ech (m : XZ) (r : Nat) (piv : Nat → Nat) : Prop where
  r_le : r ≤ m.n
  piv_lt : ∀ i, i < r → piv i < m.n
  mono : ∀ i k, i < k → k < r → piv i < piv k
  one : ∀ i, i < r → m.x i (piv i) = true
  before : ∀ i c, i < r → c < piv i → m.x i c = false
  below : ∀ i c, r ≤ i → i < m.n → c < m.n → m.x i c = false

/-- the loop invariant of `row_reduction` at pivot position `(pr, pc)`: rows `< pr` are finished with pivots left of `pc`,
    the rows from `pr` on are zero in the columns `< pc` -/
structure PreEch (m : XZ) (pr pc : Nat) (piv : Nat → Nat) : Prop where
  piv_lt : ∀ i, i < pr → piv i < pc
  mono : ∀ i k, i < k → k < pr → piv i < piv k
  one : ∀ i, i < pr → m.x i (piv i) = true
  before : ∀ i c, i < pr → c < piv i → m.x i c = false
  below : ∀ i c, pr ≤ i → i < m.n → c < pc → m.x i c = false

theorem ech_of_pre (m : XZ) (r : Nat) (piv : Nat → Nat) (h : PreEch m r m.n piv) (hr : r ≤ m.n) : Ech m r piv :=
  ⟨hr, h.piv_lt, h.mono, h.one, h.before, h.below⟩

/-- `PreEch` is the elimination invariant `Elim.RowEch` of the X part -/
theorem preEch_iff (m : XZ) (pr pc : Nat) (piv : Nat → Nat) : PreEch m pr pc piv ↔ Elim.RowEch m.n m.x piv pr pc :=
  ⟨fun h => ⟨h.piv_lt, h.mono, h.one, h.before, h.below⟩, fun h => ⟨h.piv_lt, h.mono, h.one, h.before, h.below⟩⟩

theorem preEch_skip (m : XZ) (pr pc : Nat) (piv : Nat → Nat) (h : PreEch m pr pc piv)
    (h0 : ∀ i, pr ≤ i → i < m.n → m.x i pc = false) : PreEch m pr (pc + 1) piv :=
  (preEch_iff ..).2 (((preEch_iff ..).1 h).skip h0)

theorem preEch_congr (m m' : XZ) (pr pc : Nat) (piv : Nat → Nat) (h : PreEch m pr pc piv) (hn : m'.n = m.n) (hpr : pr ≤ m.n)
    (hpc : pc ≤ m.n) (hx : ∀ i j, i < m.n → j < m.n → m'.x i j = m.x i j) : PreEch m' pr pc piv := by
  rw [preEch_iff, hn]
  exact ((preEch_iff ..).1 h).congr hpr fun i j hi hj => hx i j hi (by omega)

theorem foldAdd_x (pr : Nat) (l : List Nat) (m : XZ) (hl : pr ∉ l) (hnd : l.Nodup) (i j : Nat) :
    (l.foldl (fun acc k => acc.addRows pr k) m).x i j = if i ∈ l then xor (m.x pr j) (m.x i j) else m.x i j := by
  induction l generalizing m with
  | nil => simp
  | cons k rest ih =>
    simp only [List.foldl]
    have hk : pr ≠ k := fun e => hl (e ▸ List.mem_cons_self)
    have hrest : pr ∉ rest := fun h => hl (List.mem_cons_of_mem _ h)
    have hkr : k ∉ rest := (List.nodup_cons.mp hnd).1
    rw [ih (m.addRows pr k) hrest (List.nodup_cons.mp hnd).2]
    have e1 : (m.addRows pr k).x pr j = m.x pr j := by simp [XZ.addRows, hk]
    by_cases hi : i ∈ rest
    · have hik : i ≠ k := fun e => hkr (e ▸ hi)
      have e2 : (m.addRows pr k).x i j = m.x i j := by simp [XZ.addRows, hik]
      simp [hi, e1, e2]
    · by_cases hik : i = k
      · subst hik
        simp [hi, XZ.addRows]
      · simp [hi, hik, XZ.addRows]

/-- the X part after the elimination step at `(pr, pc)` when `the_ones = f :: rest` -/
theorem elimBelow_x (m : XZ) (pr f : Nat) (rest : List Nat) (hpr : pr ∉ rest) (hnd : rest.Nodup) (i j : Nat)
    (hi : i < m.n) (hj : j < m.n) :
    (m.elimBelow pr (f :: rest)).x i j =
      if i ∈ rest then xor ((m.rowSwap f pr).x pr j) ((m.rowSwap f pr).x i j) else (m.rowSwap f pr).x i j := by
  simp only [XZ.elimBelow]
  have hn : (rest.foldl (fun acc k => acc.addRows pr k) (m.rowSwap f pr)).n = m.n := foldAdd_n pr rest _
  rw [norm_x _ i j (by rw [hn]; exact hi) (by rw [hn]; exact hj), foldAdd_x pr rest _ hpr hnd]

/-- **one elimination step keeps the invariant**: with a 1 in column `pc` at or below row `pr`, after the swap and the row additions
    `(pr, pc)` is a pivot -/
theorem elimBelow_preEch (m : XZ) (pr pc : Nat) (piv : Nat → Nat) (h : PreEch m pr pc piv) (hpr : pr < m.n) (hpc : pc < m.n)
    (hne : (m.theOnes pr pc).isEmpty = false) :
    PreEch (m.elimBelow pr (m.theOnes pr pc)) (pr + 1) (pc + 1) (fun i => if i = pr then pc else piv i) := by
  cases hl : m.theOnes pr pc with
  | nil => rw [hl] at hne; cases hne
  | cons f rest =>
    obtain ⟨hf, hmin, hrest, hnd, hprr⟩ := Elim.ones_cons (q := fun i => m.x i pc) hl
    rw [preEch_iff, elimBelow_n]
    refine ((preEch_iff ..).1 h).elim hpr hpc hf hmin hrest (Bs := (m.rowSwap f pr).x) (fun i j => ?_)
      (elimBelow_x m pr f rest hprr hnd)
    show (if i = f then m.x pr else if i = pr then m.x f else m.x i) j = _
    split
    · rfl
    · split <;> rfl

/-- **`row_reduction` leaves the X part in row echelon form** -/
theorem rowRedLoop_ech (fuel : Nat) (m : XZ) (pr pc : Nat) (piv : Nat → Nat) (hpr : pr < m.n) (hpc : pc < m.n)
    (hf : m.n ≤ pc + fuel) (h : PreEch m pr pc piv) : ∃ r piv', Ech (XZ.rowRedLoop fuel m pr pc).1 r piv' := by
  induction fuel generalizing m pr pc piv with
  | zero => omega
  | succ fuel ih =>
    unfold XZ.rowRedLoop
    have emptyZero : (m.theOnes pr pc).isEmpty = true → ∀ i, pr ≤ i → i < m.n → m.x i pc = false := by
      intro he i h1 h2
      cases hh : m.x i pc
      · rfl
      · have : i ∈ m.theOnes pr pc := (mem_theOnes m pr pc i).mpr ⟨h2, h1, hh⟩
        rw [List.isEmpty_iff] at he
        rw [he] at this; cases this
    by_cases hlast : pc + 1 = m.n
    · rw [if_pos hlast]
      by_cases he : (m.theOnes pr pc).isEmpty = true
      · rw [if_pos he]
        exact ⟨pr, piv, ech_of_pre m pr piv (hlast ▸ preEch_skip m pr pc piv h (emptyZero he)) (by omega)⟩
      · rw [if_neg he]
        have := elimBelow_preEch m pr pc piv h hpr hpc (by simpa using he)
        have hn' := elimBelow_n m pr (m.theOnes pr pc)
        rw [hlast, ← hn'] at this
        exact ⟨pr + 1, _, ech_of_pre _ _ _ this (by rw [hn']; omega)⟩
    · rw [if_neg hlast]
      by_cases hrow : pr + 1 = m.n
      · rw [if_pos hrow]
        by_cases hx : m.x pr pc = true
        · rw [if_pos hx]
          -- the last row becomes a pivot row; no row is left below it
          have hp := ((preEch_iff ..).1 h).take hpr hx (fun i h1 h2 => by omega)
          exact ⟨pr + 1, _, ech_of_pre m _ _ ((preEch_iff ..).2 (hp.widen (by omega) (by omega))) (by omega)⟩
        · rw [if_neg hx]
          exact ih m pr (pc + 1) piv hpr (by omega) (by omega) (preEch_skip m pr pc piv h fun i h1 h2 => by
            have : i = pr := by omega
            rw [this]; simpa using hx)
      · rw [if_neg hrow]
        by_cases he : (m.theOnes pr pc).isEmpty = true
        · rw [if_pos he]
          exact ih m pr (pc + 1) piv hpr (by omega) (by omega) (preEch_skip m pr pc piv h (emptyZero he))
        · rw [if_neg he]
          have hn' := elimBelow_n m pr (m.theOnes pr pc)
          exact ih _ (pr + 1) (pc + 1) _ (by rw [hn']; omega) (by rw [hn']; omega) (by rw [hn']; omega)
            (elimBelow_preEch m pr pc piv h hpr hpc (by simpa using he))

theorem rowReduction_ech (m : XZ) (hn : 0 < m.n) : ∃ r piv, Ech m.rowReduction.1 r piv :=
  rowRedLoop_ech (m.n + 1) m 0 0 (fun i => i) hn hn (by omega) ((preEch_iff ..).2 (Elim.RowEch.init ..))

/-- scanning the columns `0 .. k-1` of an echelon matrix: `row` counts the pivots met, `pos_list` holds the other columns -/
theorem posLoop_ech (m : XZ) (r : Nat) (piv : Nat → Nat) (h : Ech m r piv) (k : Nat) (hk : k ≤ m.n) :
    (posLoop m.x m.n k).1 ≤ r ∧ (∀ i, i < (posLoop m.x m.n k).1 → piv i < k) ∧
    ((posLoop m.x m.n k).1 < r → k ≤ piv (posLoop m.x m.n k).1) ∧
    ∀ q, q ∈ (posLoop m.x m.n k).2 ↔ q < k ∧ ∀ i, i < r → piv i ≠ q := by
  induction k with
  | zero =>
    rw [posLoop_zero]
    refine ⟨Nat.zero_le _, fun i hi => (by cases hi), fun _ => Nat.zero_le _, fun q => ?_⟩
    constructor
    · intro hq; cases hq
    · intro hq; omega
  | succ k ih =>
    obtain ⟨i1, i2, i3, i4⟩ := ih (by omega)
    rw [posLoop_succ]
    generalize posLoop m.x m.n k = s at i1 i2 i3 i4
    obtain ⟨row, pos⟩ := s
    simp only at i1 i2 i3 i4
    unfold posStep
    simp only
    by_cases hc : row < m.n ∧ m.x row k = true
    · rw [if_pos hc]
      simp only
      -- `k` is the pivot column of row `row`
      have hrr : row < r := by
        by_contra hge
        have := h.below row k (by omega) hc.1 (by omega)
        rw [this] at hc; cases hc.2
      have hkp : k = piv row := by
        have h1 := i3 hrr
        by_contra hne
        have := h.before row k hrr (by omega)
        rw [this] at hc; cases hc.2
      refine ⟨hrr, fun i hi => ?_, fun hlt => ?_, fun q => ?_⟩
      · by_cases e : i = row
        · rw [e, ← hkp]; omega
        · have := i2 i (by omega); omega
      · have := h.mono row (row + 1) (by omega) hlt
        omega
      · rw [i4 q]
        constructor
        · intro hq; exact ⟨by omega, hq.2⟩
        · intro hq
          refine ⟨?_, hq.2⟩
          have : q ≠ k := fun e => hq.2 row hrr (by rw [e]; exact hkp.symm)
          omega
    · rw [if_neg hc]
      simp only
      -- `k` is not a pivot column
      have hnp : ∀ i, i < r → piv i ≠ k := by
        intro i hi e
        by_cases h1 : i < row
        · have := i2 i h1; omega
        · by_cases h2 : i = row
          · subst h2
            apply hc
            refine ⟨by have := h.r_le; omega, ?_⟩
            rw [← e]; exact h.one i hi
          · have hrr : row < r := by omega
            have := h.mono row i (by omega) hi
            have := i3 hrr
            omega
      refine ⟨i1, fun i hi => by have := i2 i hi; omega, fun hlt => ?_, fun q => ?_⟩
      · have := i3 hlt
        have := hnp row hlt
        omega
      · rw [List.mem_append, i4 q, List.mem_singleton]
        constructor
        · rintro (hq | hq)
          · exact ⟨by omega, hq.2⟩
          · rw [hq]; exact ⟨by omega, hnp⟩
        · intro hq
          by_cases e : q = k
          · exact Or.inr e
          · exact Or.inl ⟨by omega, hq.2⟩

/-- **`_position_finder` returns exactly the columns without a pivot** of a row-echelon matrix -/
theorem positionFinder_ech (m : XZ) (r : Nat) (piv : Nat → Nat) (h : Ech m r piv) (q : Nat) :
    q ∈ positionFinder m.n m.x ↔ q < m.n ∧ ∀ i, i < r → piv i ≠ q :=
  (posLoop_ech m r piv h m.n (Nat.le_refl _)).2.2.2 q

end S2G
end Graphiq
