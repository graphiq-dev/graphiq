/-
  Proofs/TabSpecFactor.lean — `partial_trace` of a tensor product: `a ⊗ b` is a product across the cut between the sites of
  `a` and those of `b` (`tensor_factor`, `tensor_factor_right`), so tracing out either factor gives back the other, as a
  state (`partialTrace_tensor_left`, `partialTrace_tensor_right`), whatever outcomes are drawn on the way.
-/
import GraphiqModel.Proofs.TabSpecRemove
namespace Graphiq.TabSpec
open Graphiq PRow Tab STab

/-- tracing the removal list out of a factorising `T` gives any `s` whose group is the group of `T` read through `φ`, the
    embedding "insert identities at the removed sites" -/
theorem partialTrace_embedded (T s t' : Tab) (keep : List Nat) (os : List Bool) (hv : T.Valid) (hr : T.StabReal)
    (hf : Factor T (removalList T.n keep)) (φ : PRow → PRow) (hφ : ∀ P', Grp T (φ P') ↔ Grp s P')
    (he : ∀ P', EqOn T.n (embedCols (removalList T.n keep) P') (φ P'))
    (hlen : s.n + (removalList T.n keep).length = T.n) (h : T.partialTrace keep os = .ok t') :
    t'.n = s.n ∧ ∀ P', Grp t' P' ↔ Grp s P' := by
  obtain ⟨n', g⟩ := partialTrace_factor_grp T t' keep os hv hr hf h
  refine ⟨by omega, fun P' => ?_⟩
  rw [g, ← hφ]
  exact ⟨fun h1 => InSpan.eqv _ _ h1 (he P'), fun h1 => InSpan.eqv _ _ h1 (he P').symm⟩

theorem embedCols_r (rem : List Nat) (P' : PRow) : (embedCols rem P').r = P'.r ∧ (embedCols rem P').ip = P'.ip := by
  induction rem with
  | nil => exact ⟨rfl, rfl⟩
  | cons q rest ih => exact ih

theorem embedCols_low (rem : List Nat) (m : Nat) (h : ∀ a, a ∈ rem → m ≤ a) (P' : PRow) (j : Nat) (hj : j < m) :
    (embedCols rem P').x j = P'.x j ∧ (embedCols rem P').z j = P'.z j := by
  induction rem with
  | nil => exact ⟨rfl, rfl⟩
  | cons q rest ih =>
    have hq := h q List.mem_cons_self
    have hlt : j < q := by omega
    simp only [embedCols, PRow.insertCol, hlt, if_true]
    exact ih (fun a ha => h a (List.mem_cons_of_mem _ ha))

theorem mem_removalList_range (na nb j : Nat) : j ∈ removalList (na + nb) (List.range na) ↔ na ≤ j ∧ j < na + nb := by
  rw [mem_removalList]
  simp only [List.mem_range]
  omega

theorem removalList_range_length (na nb : Nat) : (removalList (na + nb) (List.range na)).length = nb := by
  unfold removalList
  rw [List.length_reverse, List.range_add, List.filter_append]
  have h1 : (List.range na).filter (fun i => !(List.range na).contains i) = [] := by
    rw [List.filter_eq_nil_iff]
    intro i hi
    simp only [List.mem_range] at hi
    simp [hi]
  have h2 : ((List.range nb).map (fun x => na + x)).filter (fun i => !(List.range na).contains i)
      = (List.range nb).map (fun x => na + x) := by
    rw [List.filter_eq_self]
    intro i hi
    simp only [List.mem_map, List.mem_range] at hi
    obtain ⟨k, _, rfl⟩ := hi
    simp
  rw [h1, h2]
  simp

/-- a real row of `a ⊗ b` with the identity on one side: `Grp b (-1)` is impossible, so `tensor_row_iff` leaves one case -/
theorem tensor_left_iff (a b : Tab) (ha : a.Valid) (hb : b.Valid) (ra : a.StabReal) (rb : b.StabReal) (P' : PRow) :
    Grp (tensor2 a b) (P'.truncCols a.n) ↔ Grp a P' := by
  refine ⟨fun h => ?_, tensor_grp_left a b P'⟩
  have rP : (P'.truncCols a.n).ip = false := grp_real _ (tensor2_valid a b ha hb) (tensor_stabReal a b ra rb) _ h
  rcases (tensor_row_iff a b ha hb ra rb P' PRow.one rP rfl).mp
    (InSpan.eqv _ _ h (tensorRow_one_right a.n b.n P').symm) with h1 | h1
  · exact h1.1
  · exact absurd h1.2 (grp_no_neg_one b hb rb)

/-- `a ⊗ b` is a product across the cut "sites of `b`" -/
theorem tensor_factor (a b : Tab) (ha : a.Valid) (hb : b.Valid) (ra : a.StabReal) (rb : b.StabReal)
    (A : List Nat) (hA : ∀ j, j < a.n + b.n → (j ∈ A ↔ a.n ≤ j)) : Factor (tensor2 a b) A := by
  intro P hP
  obtain ⟨P1, Q1, hP1, hQ1, e⟩ := (tensor_grp a b P).mp hP
  have r1 := grp_real a ha ra P1 hP1
  have rQ := grp_real b hb rb Q1 hQ1
  have rP : P.ip = false := by
    have := e.2.2
    rw [this]
    unfold tensorRow
    exact mul_real _ _ _ r1 rQ (sp_trunc_shift a.n b.n P1 Q1)
  have sb : SameBits (a.n + b.n) (restrictOff A P) (P1.truncCols a.n) := by
    intro j hj
    have ej := e.1 j hj
    by_cases hlt : j < a.n
    · have hjA : j ∉ A := fun h => by have := (hA j hj).mp h; omega
      simp only [tensorRow_x, tensorRow_z, hlt, if_true] at ej
      simp [restrictOff, hjA, PRow.truncCols, hlt, ej.1, ej.2]
    · have hjA : j ∈ A := (hA j hj).mpr (by omega)
      simp [restrictOff, hjA, PRow.truncCols, hlt]
  have gl := tensor_grp_left a b P1 hP1
  exact UpToSign.of_sameBits (fun a b => InSpan.eqv a b) (Or.inl gl) (fun j hj => ⟨(sb j hj).1.symm, (sb j hj).2.symm⟩)
    (by rw [restrictOff_ip, rP]; exact r1)

/-- **`partial_trace(tensor([a, b]), keep = sites of a)` is `a`** (as a state: same number of qubits, same stabilizer group),
    whatever `b` is and whatever outcomes are drawn while its qubits are measured away -/
theorem partialTrace_tensor_left (a b t' : Tab) (os : List Bool) (ha : a.Valid) (hb : b.Valid) (ra : a.StabReal)
    (rb : b.StabReal) (h : (tensor2 a b).partialTrace (List.range a.n) os = .ok t') :
    t'.n = a.n ∧ ∀ P', Grp t' P' ↔ Grp a P' := by
  have hA : ∀ j, j < a.n + b.n → (j ∈ removalList (a.n + b.n) (List.range a.n) ↔ a.n ≤ j) := by
    intro j hj; rw [mem_removalList_range]; omega
  have hpw := removalList_desc (a.n + b.n) (List.range a.n)
  refine partialTrace_embedded (tensor2 a b) a t' (List.range a.n) os (tensor2_valid a b ha hb)
    (tensor_stabReal a b ra rb) (tensor_factor a b ha hb ra rb _ hA) (·.truncCols a.n)
    (tensor_left_iff a b ha hb ra rb) (fun P' => ?_) (by show a.n + (removalList (a.n + b.n) _).length = a.n + b.n; rw [removalList_range_length]) h
  show EqOn (a.n + b.n) (embedCols (removalList (a.n + b.n) (List.range a.n)) P') _
  refine ⟨fun j hj => ?_, (embedCols_r _ P').1, (embedCols_r _ P').2⟩
  by_cases hlt : j < a.n
  · have := embedCols_low _ a.n (fun x hx => ((mem_removalList_range a.n b.n x).mp hx).1) P' j hlt
    simp [PRow.truncCols, hlt, this.1, this.2]
  · have := embedCols_idOn _ hpw P' j ((mem_removalList_range a.n b.n j).mpr ⟨by omega, hj⟩)
    simp [PRow.truncCols, hlt, this.1, this.2]

theorem embedCols_high (rem : List Nat) (hpw : rem.Pairwise (· > ·)) (P' : PRow) (i : Nat) (h : ∀ a, a ∈ rem → a < i) :
    (embedCols rem P').x i = P'.x (i - rem.length) ∧ (embedCols rem P').z i = P'.z (i - rem.length) := by
  induction rem generalizing i with
  | nil => exact ⟨rfl, rfl⟩
  | cons q rest ih =>
    have hp := List.pairwise_cons.mp hpw
    have hq : q < i := h q List.mem_cons_self
    have h1 : ¬ (i < q) := by omega
    have h2 : i ≠ q := by omega
    simp only [embedCols, PRow.insertCol, h1, h2, if_false, List.length_cons]
    have := ih hp.2 (i - 1) (fun a ha => by have := hp.1 a ha; omega)
    rw [show i - (rest.length + 1) = i - 1 - rest.length by omega]
    exact this

/-- the qubits of `b` inside `a ⊗ b` -/
def rightSites (na nb : Nat) : List Nat := (List.range nb).map (fun x => na + x)

theorem mem_rightSites (na nb j : Nat) : j ∈ rightSites na nb ↔ na ≤ j ∧ j < na + nb := by
  unfold rightSites
  simp only [List.mem_map, List.mem_range]
  constructor
  · rintro ⟨k, hk, rfl⟩; omega
  · intro h; exact ⟨j - na, by omega, by omega⟩

theorem mem_removalList_right (na nb j : Nat) : j ∈ removalList (na + nb) (rightSites na nb) ↔ j < na := by
  rw [mem_removalList, mem_rightSites]
  omega

theorem removalList_right_length (na nb : Nat) : (removalList (na + nb) (rightSites na nb)).length = na := by
  unfold removalList
  rw [List.length_reverse, List.range_add, List.filter_append]
  have h1 : (List.range na).filter (fun i => !(rightSites na nb).contains i) = List.range na := by
    rw [List.filter_eq_self]
    intro i hi
    simp only [List.mem_range] at hi
    have : i ∉ rightSites na nb := fun h => by have := (mem_rightSites na nb i).mp h; omega
    simp [this]
  have h2 : ((List.range nb).map (fun x => na + x)).filter (fun i => !(rightSites na nb).contains i) = [] := by
    rw [List.filter_eq_nil_iff]
    intro i hi
    have : i ∈ rightSites na nb := hi
    simp [this]
  rw [h1, h2]
  simp

theorem tensor_right_iff (a b : Tab) (ha : a.Valid) (hb : b.Valid) (ra : a.StabReal) (rb : b.StabReal) (Q' : PRow) :
    Grp (tensor2 a b) (Q'.shiftCols a.n) ↔ Grp b Q' := by
  refine ⟨fun h => ?_, tensor_grp_right a b Q'⟩
  have rQ : (Q'.shiftCols a.n).ip = false := grp_real _ (tensor2_valid a b ha hb) (tensor_stabReal a b ra rb) _ h
  rcases (tensor_row_iff a b ha hb ra rb PRow.one Q' rfl rQ).mp
    (InSpan.eqv _ _ h (tensorRow_one_left a.n b.n Q').symm) with h1 | h1
  · exact h1.2
  · exact absurd h1.1 (grp_no_neg_one a ha ra)

/-- `a ⊗ b` is a product across the cut "sites of `a`" -/
theorem tensor_factor_right (a b : Tab) (ha : a.Valid) (hb : b.Valid) (ra : a.StabReal) (rb : b.StabReal)
    (A : List Nat) (hA : ∀ j, j < a.n + b.n → (j ∈ A ↔ j < a.n)) : Factor (tensor2 a b) A := by
  intro P hP
  obtain ⟨P1, Q1, hP1, hQ1, e⟩ := (tensor_grp a b P).mp hP
  have r1 := grp_real a ha ra P1 hP1
  have rQ := grp_real b hb rb Q1 hQ1
  have rP : P.ip = false := by
    have := e.2.2
    rw [this]
    unfold tensorRow
    exact mul_real _ _ _ r1 rQ (sp_trunc_shift a.n b.n P1 Q1)
  have sb : SameBits (a.n + b.n) (restrictOff A P) (Q1.shiftCols a.n) := by
    intro j hj
    have ej := e.1 j hj
    by_cases hlt : j < a.n
    · have hjA : j ∈ A := (hA j hj).mpr hlt
      simp [restrictOff, hjA, PRow.shiftCols, hlt]
    · have hjA : j ∉ A := fun h => hlt ((hA j hj).mp h)
      simp only [tensorRow_x, tensorRow_z, hlt, if_false] at ej
      simp [restrictOff, hjA, PRow.shiftCols, hlt, ej.1, ej.2]
  have gl := tensor_grp_right a b Q1 hQ1
  exact UpToSign.of_sameBits (fun a b => InSpan.eqv a b) (Or.inl gl) (fun j hj => ⟨(sb j hj).1.symm, (sb j hj).2.symm⟩)
    (by rw [restrictOff_ip, rP]; exact rQ)

/-- **`partial_trace(tensor([a, b]), keep = sites of b)` is `b`** -/
theorem partialTrace_tensor_right (a b t' : Tab) (os : List Bool) (ha : a.Valid) (hb : b.Valid) (ra : a.StabReal)
    (rb : b.StabReal) (h : (tensor2 a b).partialTrace (rightSites a.n b.n) os = .ok t') :
    t'.n = b.n ∧ ∀ Q', Grp t' Q' ↔ Grp b Q' := by
  have hA : ∀ j, j < a.n + b.n → (j ∈ removalList (a.n + b.n) (rightSites a.n b.n) ↔ j < a.n) := by
    intro j _; exact mem_removalList_right a.n b.n j
  have hpw := removalList_desc (a.n + b.n) (rightSites a.n b.n)
  refine partialTrace_embedded (tensor2 a b) b t' (rightSites a.n b.n) os (tensor2_valid a b ha hb)
    (tensor_stabReal a b ra rb) (tensor_factor_right a b ha hb ra rb _ hA) (·.shiftCols a.n)
    (tensor_right_iff a b ha hb ra rb) (fun Q' => ?_)
    (by show b.n + (removalList (a.n + b.n) _).length = a.n + b.n; rw [removalList_right_length]; omega) h
  show EqOn (a.n + b.n) (embedCols (removalList (a.n + b.n) (rightSites a.n b.n)) Q') _
  refine ⟨fun j _ => ?_, (embedCols_r _ Q').1, (embedCols_r _ Q').2⟩
  by_cases hlt : j < a.n
  · have := embedCols_idOn _ hpw Q' j ((mem_removalList_right a.n b.n j).mpr hlt)
    simp [PRow.shiftCols, hlt, this.1, this.2]
  · have := embedCols_high _ hpw Q' j (fun x hx => by have := (mem_removalList_right a.n b.n x).mp hx; omega)
    rw [removalList_right_length] at this
    simp [PRow.shiftCols, hlt, this.1, this.2]

end Graphiq.TabSpec
