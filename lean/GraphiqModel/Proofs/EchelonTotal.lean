/-
  Proofs/EchelonTotal.lean — the internal assertions of `_process_two_pauli` / `one_step_rref` never fire and the loop of `rref`
  never fails: `rrefLoop` always returns (only the final rank assertion of `rref` can fail).
-/
import GraphiqModel.Proofs.EchelonRref
namespace Graphiq
open PRow
namespace STab

theorem sorted_head_eq {a : Nat} {l : List Nat} (hs : (a :: l).Pairwise (· < ·)) (p : Nat) (hp : p ∈ a :: l)
    (hmin : ∀ x, x ∈ a :: l → p ≤ x) : a = p := by
  have h1 := hmin a List.mem_cons_self
  rcases List.mem_cons.1 hp with e | e
  · exact e.symm
  · have := sorted_head_lt hs p e; omega

theorem pickType_ne_nil (t : STab) (pr pc ty g : Nat) (hg : pr ≤ g) (hgn : g < t.n) (hty : t.ptype g pc = tyCode ty) :
    t.pickType pr pc ty ≠ [] := by
  intro e
  have := (mem_pickType_iff t pr pc ty g).2 ⟨hg, hgn, hty⟩
  rw [e] at this; cases this

theorem pickType_head (t : STab) (pr pc ty : Nat) (h : pr < t.n) (hty : t.ptype pr pc = tyCode ty) :
    ∃ l, t.pickType pr pc ty = pr :: l := by
  have hm := (mem_pickType_iff t pr pc ty pr).2 ⟨Nat.le_refl _, h, hty⟩
  cases e : t.pickType pr pc ty with
  | nil => rw [e] at hm; cases hm
  | cons a l =>
    have hs : (a :: l).Pairwise (· < ·) := e ▸ pickType_sorted t pr pc ty
    have : a = pr := sorted_head_eq hs pr (e ▸ hm) (fun x hx => ((mem_pickType_iff t pr pc ty x).1 (e ▸ hx)).1)
    exact ⟨l, by rw [this]⟩

theorem pickType_head_succ (t : STab) (pr pc ty : Nat) (h : pr + 1 < t.n) (hty : t.ptype (pr + 1) pc = tyCode ty)
    (hpr : t.ptype pr pc ≠ tyCode ty) : ∃ l, t.pickType pr pc ty = (pr + 1) :: l := by
  have hm := (mem_pickType_iff t pr pc ty (pr + 1)).2 ⟨by omega, h, hty⟩
  cases e : t.pickType pr pc ty with
  | nil => rw [e] at hm; cases hm
  | cons a l =>
    have hs : (a :: l).Pairwise (· < ·) := e ▸ pickType_sorted t pr pc ty
    have : a = pr + 1 := by
      apply sorted_head_eq hs (pr + 1) (e ▸ hm)
      intro x hx
      have hx' := (mem_pickType_iff t pr pc ty x).1 (e ▸ hx)
      have : x ≠ pr := fun e' => hpr (e' ▸ hx'.2.2)
      omega
    exact ⟨l, by rw [this]⟩

/-- **the assertion inside `_process_two_pauli` never fires**: when both Pauli types occur at or below the pivot row, the function
    returns (and row `pr + 1` exists) -/
theorem processTwo_some (t : STab) (pr pc ty1 ty2 : Nat) (hpc : pc < t.n) (hne : tyCode ty1 ≠ tyCode ty2)
    (h1 : t.pickType pr pc ty1 ≠ []) (h2 : t.pickType pr pc ty2 ≠ []) : ∃ t', t.processTwo pr pc ty1 ty2 = some t' := by
  cases e1 : t.pickType pr pc ty1 with
  | nil => exact absurd e1 h1
  | cons f1 r1 =>
    have m1 := (mem_pickType_iff t pr pc ty1 f1).1 (by rw [e1]; exact List.mem_cons_self)
    have hprn : pr < t.n := by omega
    -- a row of the second type
    have hex : ∃ g, g ∈ t.pickType pr pc ty2 := by
      cases e : t.pickType pr pc ty2 with
      | nil => exact absurd e h2
      | cons g r => exact ⟨g, List.mem_cons_self⟩
    obtain ⟨g, hg⟩ := hex
    have mg := (mem_pickType_iff t pr pc ty2 g).1 hg
    have hgf : g ≠ f1 := fun e => hne (by rw [← m1.2.2, ← mg.2.2, e])
    have T1pr : (t.rowSwap pr f1).norm.ptype pr pc = tyCode ty1 := by
      rw [ptype_swap_norm t pr f1 pr pc hprn hpc, if_pos rfl]; exact m1.2.2
    have hne2 : (t.rowSwap pr f1).norm.pickType pr pc ty2 ≠ [] := by
      by_cases hgp : g = pr
      · apply pickType_ne_nil (t.rowSwap pr f1).norm pr pc ty2 f1 m1.1 m1.2.1
        rw [ptype_swap_norm t pr f1 f1 pc m1.2.1 hpc]
        by_cases e : f1 = pr
        · exact absurd (hgp.trans e.symm) hgf
        · rw [if_neg e, if_pos rfl, ← hgp]; exact mg.2.2
      · apply pickType_ne_nil (t.rowSwap pr f1).norm pr pc ty2 g mg.1 mg.2.1
        rw [ptype_swap_norm t pr f1 g pc mg.2.1 hpc, if_neg hgp, if_neg hgf]; exact mg.2.2
    cases e2 : (t.rowSwap pr f1).norm.pickType pr pc ty2 with
    | nil => exact absurd e2 hne2
    | cons f2 r2 =>
      have m2 := (mem_pickType_iff _ pr pc ty2 f2).1 (by rw [e2]; exact List.mem_cons_self)
      have hf2n : f2 < t.n := m2.2.1
      have hf2pr : f2 ≠ pr := fun e => hne (by rw [← T1pr, ← m2.2.2, e])
      have hp1 : pr + 1 < t.n := by omega
      have T2pr : ((t.rowSwap pr f1).norm.rowSwap (pr + 1) f2).norm.ptype pr pc = tyCode ty1 := by
        rw [ptype_swap_norm (t.rowSwap pr f1).norm (pr + 1) f2 pr pc hprn hpc, if_neg (by omega), if_neg (Ne.symm hf2pr)]
        exact T1pr
      have T2pr1 : ((t.rowSwap pr f1).norm.rowSwap (pr + 1) f2).norm.ptype (pr + 1) pc = tyCode ty2 := by
        rw [ptype_swap_norm (t.rowSwap pr f1).norm (pr + 1) f2 (pr + 1) pc hp1 hpc, if_pos rfl]
        exact m2.2.2
      obtain ⟨l1, ea⟩ := pickType_head _ pr pc ty1 (show pr < ((t.rowSwap pr f1).norm.rowSwap (pr + 1) f2).norm.n from hprn) T2pr
      obtain ⟨l2, eb⟩ := pickType_head_succ _ pr pc ty2
        (show pr + 1 < ((t.rowSwap pr f1).norm.rowSwap (pr + 1) f2).norm.n from hp1) T2pr1 (by rw [T2pr]; exact hne)
      unfold processTwo
      rw [e1]
      simp only
      rw [e2]
      simp only [if_pos hp1]
      rw [ea, eb]
      simp

/-- **the assertions inside `one_step_rref` never fire**: it always returns while the pivot is inside the tableau -/
theorem oneStepRref_some (t : STab) (pr pc : Nat) (hpc : pc < t.n) : ∃ r, t.oneStepRref pr pc = some r := by
  unfold oneStepRref
  have ex : (t.pauliTypeFinder pr pc).1 = t.pickType pr pc 1 := (pickType_1 t pr pc).symm
  have ey : (t.pauliTypeFinder pr pc).2.1 = t.pickType pr pc 2 := (pickType_2 t pr pc).symm
  have ez : (t.pauliTypeFinder pr pc).2.2 = t.pickType pr pc 3 := (pickType_3 t pr pc).symm
  generalize hft : t.pauliTypeFinder pr pc = ft at ex ey ez
  obtain ⟨xs, ys, zs⟩ := ft
  simp only at ex ey ez
  subst ex; subst ey; subst ez
  simp only
  by_cases hx : t.pickType pr pc 1 = [] <;> by_cases hy : t.pickType pr pc 2 = [] <;> by_cases hz : t.pickType pr pc 3 = []
  · simp [hx, hy, hz]
  · have hz' : (t.pickType pr pc 3).isEmpty = false := by simpa using hz
    simp [hx, hy, hz']
  · have hy' : (t.pickType pr pc 2).isEmpty = false := by simpa using hy
    simp [hx, hy', hz]
  · have hy' : (t.pickType pr pc 2).isEmpty = false := by simpa using hy
    have hz' : (t.pickType pr pc 3).isEmpty = false := by simpa using hz
    obtain ⟨t', ht'⟩ := processTwo_some t pr pc 2 3 hpc (by decide) hy hz
    simp [hx, hy', hz', ht']
  · have hx' : (t.pickType pr pc 1).isEmpty = false := by simpa using hx
    simp [hx', hy, hz]
  · have hx' : (t.pickType pr pc 1).isEmpty = false := by simpa using hx
    have hz' : (t.pickType pr pc 3).isEmpty = false := by simpa using hz
    obtain ⟨t', ht'⟩ := processTwo_some t pr pc 1 3 hpc (by decide) hx hz
    simp [hx', hy, hz', ht']
  · have hx' : (t.pickType pr pc 1).isEmpty = false := by simpa using hx
    have hy' : (t.pickType pr pc 2).isEmpty = false := by simpa using hy
    obtain ⟨t', ht'⟩ := processTwo_some t pr pc 1 2 hpc (by decide) hx hy
    simp [hx', hy', hz, ht']
  · have hx' : (t.pickType pr pc 1).isEmpty = false := by simpa using hx
    have hy' : (t.pickType pr pc 2).isEmpty = false := by simpa using hy
    have hz' : (t.pickType pr pc 3).isEmpty = false := by simpa using hz
    obtain ⟨t', ht'⟩ := processTwo_some t pr pc 1 3 hpc (by decide) hx hz
    simp [hx', hy', hz', ht']

theorem rrefLoop_ok (fuel : Nat) (t : STab) (pr pc : Nat) (brs : List String) :
    ∃ r, rrefLoop fuel t pr pc brs = .ok r := by
  induction fuel generalizing t pr pc brs with
  | zero => exact ⟨_, rfl⟩
  | succ fuel ih =>
    simp only [rrefLoop]
    split
    · next hb =>
      obtain ⟨⟨t', pr', pc', b⟩, hs⟩ := oneStepRref_some t pr pc (by omega)
      rw [hs]
      exact ih t' pr' pc' _
    · exact ⟨_, rfl⟩

end STab
end Graphiq
