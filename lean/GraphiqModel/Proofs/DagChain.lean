/-
  DagChain.lean — every edit of circuit_dag.py is a chain of the four primitives of Proofs/Dag.lean.

  `Chain A c P c' P'` : a chain of primitives of the kinds `A` leads from the circuit `c` with wires `P` to `c'` with wires
  `P'`, each primitive applicable where it is applied.  `Chain.preserves`: whatever every primitive of the kinds `A`
  preserves on a circuit satisfying DagInv, the chain preserves, DagInv riding along.  The `*_chain` theorems show, once
  for every function of the model (the register prologue, `add`, `insert_at`, `remove_op`, `replace_op`, the loops of
  `remove_identity`, `unwrap_nodes`, `group_one_qubit_gates`), which chain it is; what an edit keeps is then a statement
  about the primitives it uses.  After `init_good`: the register counts of `CircuitDAG(ne, np, nc)` (`init_regs`).
-/
import GraphiqModel.Proofs.Dag
namespace Graphiq
namespace Dag
open Relation

/-- a chain of primitives of the kinds `A` leading from `(c, P)` to `(c', P')`, each applicable where it is applied -/
inductive Chain (A : Prim → Prop) : Dag → Paths → Dag → Paths → Prop
  | refl (c : Dag) (P : Paths) : Chain A c P c P
  | step {c : Dag} {P : Paths} {p : Prim} {c' : Dag} {P' : Paths} :
      A p → p.OK c → Chain A (p.run c) (p.wires P c.nodeId) c' P' → Chain A c P c' P'

namespace Chain
variable {A B : Prim → Prop} {c c1 c2 c' : Dag} {P P1 P2 P' : Paths}

theorem one {p : Prim} (a : A p) (h : p.OK c) : Chain A c P (p.run c) (p.wires P c.nodeId) := step a h (refl _ _)

theorem trans (h1 : Chain A c P c1 P1) (h2 : Chain A c1 P1 c2 P2) : Chain A c P c2 P2 := by
  induction h1 with
  | refl => exact h2
  | step a hp _ ih => exact step a hp (ih h2)

theorem mono (hAB : ∀ p, A p → B p) (h : Chain A c P c' P') : Chain B c P c' P' := by
  induction h with
  | refl => exact refl _ _
  | step a hp _ ih => exact step (hAB _ a) hp ih

theorem preserves {Q : Dag → Paths → Prop}
    (hQ : ∀ {c : Dag} {P : Paths} {p : Prim}, Good c P → A p → p.OK c → Q c P → Q (p.run c) (p.wires P c.nodeId))
    (h : Chain A c P c' P') (g : Good c P) (q : Q c P) : Good c' P' ∧ Q c' P' := by
  induction h with
  | refl => exact ⟨g, q⟩
  | step a hp _ ih => exact ih (Prim.good g hp) (hQ g a hp q)

theorem good (h : Chain A c P c' P') (g : Good c P) : Good c' P' :=
  (preserves (Q := fun _ _ => True) (fun _ _ _ _ => trivial) h g trivial).1

theorem regs (hA : ∀ p, A p → ¬ p.IsNewReg) (h : Chain A c P c' P') (g : Good c P) : c'.regs = c.regs :=
  (preserves (Q := fun d _ => d.regs = c.regs) (fun g a hp q => (Prim.run_regs g hp (hA _ a)).trans q) h g rfl).2

theorem live (h : Chain A c P c' P') (g : Good c P) {k : Reg} (hk : c.live k) : c'.live k :=
  (preserves (Q := fun d _ => d.live k) (fun g _ hp q => Prim.run_live g hp q) h g hk).2

theorem nodeId_le (h : Chain A c P c' P') (g : Good c P) : c.nodeId ≤ c'.nodeId :=
  (preserves (Q := fun d _ => c.nodeId ≤ d.nodeId) (fun g _ hp q => Nat.le_trans q (Prim.run_nodeId_le g hp)) h g
    (Nat.le_refl _)).2

/-- where the operations of the circuit after a chain come from: an operation node afterwards was there before with
    the same operation, or holds what a primitive of the chain brought — under a fresh id if that was an insertion -/
theorem ops_from (h : Chain A c P c' P') (g : Good c P) {j : Nat} {o : Op} (hm : (NodeId.op j, o) ∈ c'.nodes) :
    (NodeId.op j, o) ∈ c.nodes ∨ ∃ p, A p ∧ p.brings o ∧ (p.IsInsert → c.nodeId < j) := by
  induction h with
  | refl => exact Or.inl hm
  | step a hp _ ih =>
    rcases ih (Prim.good g hp) hm with h | ⟨q, hq, hb, hi⟩
    · exact (Prim.mem_run_nodes g hp h).imp_right fun h => ⟨_, a, h⟩
    · exact Or.inr ⟨q, hq, hb, fun h => Nat.lt_of_le_of_lt (Prim.run_nodeId_le g hp) (hi h)⟩

end Chain

variable {c : Dag} {P : Paths}

/-! ## the register prologue: creations of registers -/

theorem addRegIfAbsent_chain (g : Good c P) (r : Reg) :
    ∃ P', Chain Prim.IsNewReg c P (c.addRegIfAbsent r).1 P' ∧
      ((c.addRegIfAbsent r).2 = none → (c.addRegIfAbsent r).1.live r) := by
  by_cases h1 : c.regs r.ty < r.idx
  · rw [addRegIfAbsent_gap h1]; exact ⟨P, .refl _ _, by simp⟩
  · by_cases h2 : r.idx = c.regs r.ty
    · rw [addRegIfAbsent_new g.inv h2]
      exact ⟨_, .one (p := .newReg r) trivial h2, fun _ => (withNewReg_live c r r h2).mpr (Or.inr rfl)⟩
    · have hl : c.live r := by unfold Dag.live; omega
      rw [addRegIfAbsent_old g.inv hl]; exact ⟨P, .refl _ _, fun _ => hl⟩

theorem addRegs_chain (g : Good c P) (rs : List Reg) :
    ∃ P', Chain Prim.IsNewReg c P (c.addRegs rs).1 P' ∧ ((c.addRegs rs).2 = none → ∀ r ∈ rs, (c.addRegs rs).1.live r) := by
  induction rs generalizing c P with
  | nil => exact ⟨P, .refl _ _, by simp⟩
  | cons r rs ih =>
    obtain ⟨P1, s1, l1⟩ := addRegIfAbsent_chain g r
    rw [addRegs]
    cases hres : c.addRegIfAbsent r with
    | mk c1 err =>
      rw [hres] at s1 l1
      cases err with
      | some e => exact ⟨P1, s1, by simp⟩
      | none =>
        obtain ⟨P2, s2, l2⟩ := ih (s1.good g)
        refine ⟨P2, s1.trans s2, fun hn r' hr' => ?_⟩
        rcases List.mem_cons.mp hr' with rfl | hr'
        · exact s2.live (s1.good g) (l1 rfl)
        · exact l2 hn r' hr'

theorem ensureRegs_chain (g : Good c P) (op : Op) :
    ∃ P', Chain Prim.IsNewReg c P (c.ensureRegs op).1 P' ∧
      ((c.ensureRegs op).2 = none → ∀ r ∈ opRegs op, (c.ensureRegs op).1.live r) := by
  obtain ⟨P1, s1, l1⟩ := addRegs_chain g (op.cregs.map (Reg.mk .c))
  rw [ensureRegs]
  cases hres : c.addRegs (op.cregs.map (Reg.mk .c)) with
  | mk c1 err =>
    rw [hres] at s1 l1
    cases err with
    | some e => exact ⟨P1, s1, by simp⟩
    | none =>
      by_cases hq : op.qregs.isEmpty = true
      · simp only [hq, if_true]; exact ⟨P1, s1, by simp⟩
      · simp only [hq]
        obtain ⟨P2, s2, l2⟩ := addRegs_chain (s1.good g) (sortRegs op.qregs)
        refine ⟨P2, s1.trans s2, fun hn r hr => ?_⟩
        rcases List.mem_append.mp hr with hr | hr
        · exact l2 hn r ((mem_sortRegs _ _).mpr hr)
        · exact s2.live (s1.good g) (l1 rfl r hr)

theorem addRegs_live_eq {c : Dag} {P : Paths} (h : Inv c P) (rs : List Reg) (hl : ∀ r ∈ rs, c.live r) :
    c.addRegs rs = (c, none) := by
  induction rs with
  | nil => rfl
  | cons r rest ih =>
    unfold addRegs
    rw [addRegIfAbsent_old h (hl r (by simp))]
    exact ih (fun r' hr' => hl r' (List.mem_cons_of_mem _ hr'))

theorem ensureRegs_live_eq {c : Dag} {P : Paths} (h : Inv c P) {op : Op} (hq : op.qregs ≠ [])
    (hl : ∀ r ∈ opRegs op, c.live r) : c.ensureRegs op = (c, none) := by
  unfold ensureRegs
  rw [addRegs_live_eq h _ (fun r hr => hl r (List.mem_append_right _ hr))]
  have : op.qregs.isEmpty = false := by cases hq' : op.qregs with
    | nil => exact absurd hq' hq
    | cons a t => rfl
  simp only [this]
  exact addRegs_live_eq h _ (fun r hr => hl r (List.mem_append_left _ ((mem_sortRegs _ _).mp hr)))

section Prologue
variable {Q : Dag → Prop}
  (hQ : ∀ {c : Dag} {P : Paths} {r : Reg}, Good c P → r.idx = c.regs r.ty → Q c → Q (c.withNewReg r))
include hQ

theorem Chain.of_newReg {c' : Dag} {P' : Paths} (s : Chain Prim.IsNewReg c P c' P') (g : Good c P) (h : Q c) : Q c' :=
  (s.preserves (Q := fun d _ => Q d) (fun {_ _ p} g a hp q => by
    cases p with
    | newReg r => exact hQ g hp q
    | _ => exact a.elim) g h).2

theorem addRegs_preserves {c : Dag} {P : Paths} (g : Good c P) (h : Q c) (rs : List Reg) : Q (c.addRegs rs).1 := by
  obtain ⟨_, s, _⟩ := addRegs_chain g rs; exact s.of_newReg hQ g h

theorem ensureRegs_preserves {c : Dag} {P : Paths} (g : Good c P) (h : Q c) (op : Op) : Q (c.ensureRegs op).1 := by
  obtain ⟨_, s, _⟩ := ensureRegs_chain g op; exact s.of_newReg hQ g h

end Prologue

/-- **`CircuitDAG(n_emitter, n_photon, n_classical)` satisfies DagInv** -/
theorem init_good (ne np nc : Nat) : ∃ P, Good (Dag.init ne np nc) P := by
  obtain ⟨P, s, _⟩ := addRegs_chain empty_good
    ((List.range ne).map (Reg.mk .e) ++ (List.range np).map (Reg.mk .p) ++ (List.range nc).map (Reg.mk .c))
  exact ⟨P, s.good empty_good⟩

/-! ## the register counts of `CircuitDAG(ne, np, nc)` -/

theorem addRegs_cons_ok {c c1 : Dag} {r : Reg} (hr : c.addRegIfAbsent r = (c1, none)) (rs : List Reg) :
    c.addRegs (r :: rs) = c1.addRegs rs := by
  rw [addRegs, hr]

theorem addRegs_cons_err {c c1 : Dag} {r : Reg} {e : DErr} (hr : c.addRegIfAbsent r = (c1, some e)) (rs : List Reg) :
    c.addRegs (r :: rs) = (c1, some e) := by
  rw [addRegs, hr]

theorem addRegs_append (c : Dag) (l1 l2 : List Reg) (h : (c.addRegs l1).2 = none) :
    c.addRegs (l1 ++ l2) = (c.addRegs l1).1.addRegs l2 := by
  induction l1 generalizing c with
  | nil => rfl
  | cons r t ih =>
    rw [List.cons_append]
    cases hr : c.addRegIfAbsent r with
    | mk c1 e1 =>
      cases e1 with
      | some e => rw [addRegs_cons_err hr] at h; simp at h
      | none =>
        rw [addRegs_cons_ok hr] at h ⊢
        rw [addRegs_cons_ok hr]
        exact ih c1 h

theorem addRegs_block (t : RegType) (k : Nat) : ∀ {c : Dag} {P : Paths}, Good c P →
    (c.addRegs ((List.range' (c.regs t) k).map (Reg.mk t))).2 = none ∧
    (∃ P', Good (c.addRegs ((List.range' (c.regs t) k).map (Reg.mk t))).1 P') ∧
    ∀ t', (c.addRegs ((List.range' (c.regs t) k).map (Reg.mk t))).1.regs t' = if t' = t then c.regs t + k else c.regs t' := by
  induction k with
  | zero => intro c P g; exact ⟨rfl, ⟨P, g⟩, fun t' => by by_cases h : t' = t <;> simp [addRegs, h]⟩
  | succ k ih =>
    intro c P g
    rw [List.range'_succ, List.map_cons]
    unfold addRegs
    have h2 : (Reg.mk t (c.regs t)).idx = c.regs (Reg.mk t (c.regs t)).ty := rfl
    rw [addRegIfAbsent_new g.inv h2]
    simp only
    have hg := withNewReg_good g h2
    have hreg : (c.withNewReg ⟨t, c.regs t⟩).regs t = c.regs t + 1 := by rw [withNewReg_regs]; simp
    obtain ⟨a1, a2, a3⟩ := ih hg
    rw [hreg] at a1 a2 a3
    refine ⟨a1, a2, fun t' => ?_⟩
    rw [a3 t']
    by_cases h : t' = t
    · simp [h]; omega
    · simp [h, withNewReg_regs]

theorem init_regs (ne np nc : Nat) :
    (Dag.init ne np nc).regs .e = ne ∧ (Dag.init ne np nc).regs .p = np ∧ (Dag.init ne np nc).regs .c = nc := by
  unfold Dag.init
  dsimp only
  have he : (List.range ne).map (Reg.mk .e) = (List.range' (Dag.empty.regs .e) ne).map (Reg.mk .e) := by
    rw [List.range_eq_range']; rfl
  obtain ⟨e1, ⟨P1, g1⟩, r1⟩ := addRegs_block .e ne empty_good
  rw [← he] at e1 g1 r1
  have hp : (List.range np).map (Reg.mk .p) = (List.range' ((Dag.empty.addRegs ((List.range ne).map (Reg.mk .e))).1.regs .p) np).map (Reg.mk .p) := by
    rw [r1 .p, List.range_eq_range']; rfl
  obtain ⟨e2, ⟨P2, g2⟩, r2⟩ := addRegs_block .p np g1
  rw [← hp] at e2 g2 r2
  have hc : (List.range nc).map (Reg.mk .c) =
      (List.range' (((Dag.empty.addRegs ((List.range ne).map (Reg.mk .e))).1.addRegs ((List.range np).map (Reg.mk .p))).1.regs .c) nc).map (Reg.mk .c) := by
    rw [r2 .c, r1 .c, List.range_eq_range']; rfl
  obtain ⟨e3, _, r3⟩ := addRegs_block .c nc g2
  rw [← hc] at e3 r3
  rw [List.append_assoc, addRegs_append _ _ _ e1, addRegs_append _ _ _ e2]
  refine ⟨?_, ?_, ?_⟩
  · rw [r3 .e, r2 .e, r1 .e]; simp [Dag.empty, regs]
  · rw [r3 .p, r2 .p, r1 .p]; simp [Dag.empty, regs]
  · rw [r3 .c, r2 .c, r1 .c]; simp [Dag.empty, regs]

theorem addRegister_chain (g : Good c P) (t : RegType) (size : Nat) :
    ∃ P', Chain Prim.IsNewReg c P (c.addRegister t size).1 P' := by
  unfold addRegister
  by_cases hs : size ≠ 1
  · rw [if_pos hs]; exact ⟨P, .refl _ _⟩
  · rw [if_neg hs]
    obtain ⟨P', s, _⟩ := addRegIfAbsent_chain g ⟨t, c.regs t⟩
    exact ⟨P', s⟩

/-! ## `add`, `insert_at`: the prologue, then one insertion -/

theorem add_of_ok {c : Dag} {op : Op} (hok : (c.add op).2 = none) :
    (c.ensureRegs op).2 = none ∧ (c.add op).1 = (c.ensureRegs op).1.add_ op := by
  unfold add at hok ⊢
  cases hres : c.ensureRegs op with
  | mk c1 err =>
    rw [hres] at hok
    cases err with
    | some e => simp at hok
    | none => exact ⟨rfl, rfl⟩

theorem add_eq_of_live (h : Inv c P) {op : Op} (hop : OpWF op) (hlive : ∀ r ∈ opRegs op, c.live r) :
    c.add op = (c.add_ op, none) := by
  unfold add; rw [ensureRegs_live_eq h hop.qregs_ne hlive]

theorem insertAt_eq_of_live (h : Inv c P) {op : Op} (hop : OpWF op) {es : List Edge} (hkeys : es.map (·.key) = op.qregs)
    (hlive : ∀ r ∈ opRegs op, c.live r) : c.insertAt op es = c.insertAt_ op es := by
  have hlen : es.length = op.qregs.length := by rw [← hkeys, List.length_map]
  unfold insertAt; rw [ensureRegs_live_eq h hop.qregs_ne hlive]; simp [hlen]

theorem add_chain (g : Good c P) {op : Op} (hop : OpWF op) :
    ∃ P', Chain (fun p => p.IsNewReg ∨ ∃ es, p = .insert op es) c P (c.add op).1 P' := by
  obtain ⟨P1, s1, l1⟩ := ensureRegs_chain g op
  have s1 := s1.mono (B := fun p => p.IsNewReg ∨ ∃ es, p = .insert op es) (fun _ => Or.inl)
  rw [add]
  cases hres : c.ensureRegs op with
  | mk c1 err =>
    rw [hres] at s1 l1
    cases err with
    | some e => exact ⟨P1, s1⟩
    | none =>
      have g1 : Good c1 P1 := s1.good g
      have s2 := Chain.one (A := fun p => p.IsNewReg ∨ ∃ es, p = .insert op es) (P := P1)
        (p := .insert op ((opRegs op).map (lastEdge P1))) (Or.inr ⟨_, rfl⟩) (spliceOK_lastEdges g1 hop (l1 rfl))
      rw [← add_eq_prim g1 hop (l1 rfl)] at s2
      exact ⟨_, s1.trans s2⟩

theorem insertAt_chain (g : Good c P) {op : Op} (hop : OpWF op) {es : List Edge} (hok : InsertOK (c.ensureRegs op).1 op es) :
    (∃ P', Chain (fun p => p.IsNewReg ∨ p = .insert op es) c P (c.insertAt op es).1 P') ∧
      ((c.ensureRegs op).2 = none → (c.insertAt op es).2 = none) := by
  obtain ⟨P1, s1, _⟩ := ensureRegs_chain g op
  have s1 := s1.mono (B := fun p => p.IsNewReg ∨ p = .insert op es) (fun _ => Or.inl)
  rw [insertAt]
  cases hres : c.ensureRegs op with
  | mk c1 err =>
    rw [hres] at s1 hok
    cases err with
    | some e => exact ⟨⟨P1, s1⟩, by simp⟩
    | none =>
      have g1 : Good c1 P1 := s1.good g
      have hlen : es.length = op.qregs.length := by rw [← hok.keys, List.length_map]
      have hS := hok.spliceOK g1 hop
      simp only [hlen, ne_eq, not_true_eq_false, if_false, insertAt_eq_prim g1 hS]
      exact ⟨⟨_, s1.trans (.one (Or.inr rfl) hS)⟩, fun _ => trivial⟩

theorem add_spec (g : Good c P) {op : Op} (hop : OpWF op) (hlive : ∀ r ∈ opRegs op, c.live r) :
    Good (c.add_ op) (splicePaths (.op (c.nodeId + 1)) ((opRegs op).map (lastEdge P)) P) ∧ (c.add_ op).regs = c.regs ∧
      (c.add_ op).nodeId = c.nodeId + 1 ∧ (c.add_ op).nodes = c.nodes ++ [(.op (c.nodeId + 1), op)] := by
  rw [add_eq_prim g hop hlive]
  exact ⟨Prim.good g (p := .insert op _) (spliceOK_lastEdges g hop hlive), Prim.insert_regs _ _ _, Prim.insert_nodeId _ _ _,
    Prim.insert_nodes g.inv _ _⟩

theorem insertAt_single_ok {c : Dag} {P : Paths} (g : Good c P) {w : Op} {r : Reg} (hq : w.qregs = [r]) (hc : w.cregs = [])
    {ie : Edge} (hie : ie ∈ c.edges) (hk : ie.key = r) :
    InsertOK c w [ie] ∧ c.insertAt w [ie] = c.insertAt_ w [ie] := by
  have hlive : c.live r := hk ▸ g.inv.live_of_edge hie
  have hens : c.ensureRegs w = (c, none) := by
    apply ensureRegs_live_eq g.inv (by rw [hq]; simp)
    intro r' hr'; unfold opRegs at hr'; rw [hq, hc] at hr'; simp at hr'; subst hr'; exact hlive
  exact ⟨InsertOK.single hie (by rw [hq, hk]), by unfold insertAt; rw [hens]; simp [hq]⟩

theorem insertAt_single_prim (g : Good c P) {w : Op} (hw : OpWF w) {r : Reg} (hq : w.qregs = [r]) (hc : w.cregs = [])
    {ie : Edge} (hie : ie ∈ c.edges) (hk : ie.key = r) :
    SpliceOK c w [ie] ∧ c.insertAt w [ie] = ((Prim.insert w [ie]).run c, none) := by
  obtain ⟨hok, heq⟩ := insertAt_single_ok g hq hc hie hk
  have hS := hok.spliceOK g hw
  exact ⟨hS, heq.trans (insertAt_eq_prim g hS)⟩

theorem removeOp_chain (i : Nat) : Chain (· = .erase i) c P (c.removeOp (.op i)).1 (erasePaths P (.op i)) :=
  .one (p := .erase i) rfl trivial

theorem replaceOp_chain (i : Nat) {new : Op} (h : OpWF new) : Chain (· = .relabel i new) c P (c.replaceOp (.op i) new).1 P :=
  .one (p := .relabel i new) rfl h

theorem removeAll_cons {c : Dag} {n : NodeId} {op : Op} (h : c.opOf? n = some op) (rest : List NodeId) :
    c.removeAll (n :: rest) = (c.removed n op).removeAll rest := by
  rw [removeAll, removeOp_eq h]

theorem removeAll_chain (g : Good c P) (ns : List NodeId) (hns : ∀ n ∈ ns, ∃ i, n = NodeId.op i) :
    ∃ P', Chain (fun p => ∃ i, NodeId.op i ∈ ns ∧ p = .erase i) c P (c.removeAll ns).1 P' := by
  induction ns generalizing c P with
  | nil => exact ⟨P, .refl _ _⟩
  | cons n rest ih =>
    obtain ⟨i, rfl⟩ := hns n (by simp)
    rw [removeAll]
    have s1 : Chain (fun p => ∃ j, NodeId.op j ∈ NodeId.op i :: rest ∧ p = .erase j) c P _ _ :=
      (removeOp_chain (c := c) (P := P) i).mono (fun p hp => ⟨i, by simp, hp⟩)
    cases hres : c.removeOp (.op i) with
    | mk c1 err =>
      rw [hres] at s1
      cases err with
      | some e => exact ⟨_, s1⟩
      | none =>
        obtain ⟨P2, s2⟩ := ih (s1.good g) (fun n hn => hns n (List.mem_cons_of_mem _ hn))
        exact ⟨P2, s1.trans (s2.mono fun p ⟨j, hj, e⟩ => ⟨j, List.mem_cons_of_mem _ hj, e⟩)⟩

theorem removeIdentity_chain (g : Good c P) : ∃ P', Chain Prim.IsErase c P c.removeIdentity.1 P' := by
  unfold removeIdentity
  by_cases hh : dictHas c.nodeDict "Identity" = true
  · rw [if_pos hh]
    obtain ⟨P', s⟩ := removeAll_chain g (dictGet c.nodeDict "Identity")
      (fun n hn => g.inv.nodeDict_ops (by decide) (by decide) hn)
    exact ⟨P', s.mono fun p ⟨_, _, e⟩ => e ▸ trivial⟩
  · rw [if_neg hh]; exact ⟨P, .refl _ _⟩

/-! ## `unwrap_nodes` -/

theorem oneQubit_wf {k : Kind} {r : Reg} (hk : k.isOneQubitBase = true) (hr : r.ty ≠ .c) : OpWF (Op.oneQubit k r) := by
  have hparse : (Op.oneQubit k r).parseQRegTypes = regTypeWord r.ty := rfl
  exact
    { not_input := by intro e; simp [Op.oneQubit] at e; subst e; simp [Kind.isOneQubitBase] at hk
      not_output := by intro e; simp [Op.oneQubit] at e; subst e; simp [Kind.isOneQubitBase] at hk
      qregs_ne := by simp [Op.oneQubit]
      qregs_nodup := by simp [Op.oneQubit]
      cregs_nodup := by simp [Op.oneQubit]
      qregs_quantum := by intro r' hr'; simp [Op.oneQubit] at hr'; subst hr'; exact hr
      wrapper_shape := fun _ => ⟨⟨r, rfl⟩, rfl, by simp [Op.oneQubit]⟩
      wrapper_key := by
        intro hm
        simp only [Op.indexKeys, hparse] at hm
        simp only [Op.oneQubit, List.mem_append, List.mem_cons, List.not_mem_nil, or_false] at hm
        rcases hm with hm | hm | hm
        · exact absurd hm (by decide)
        · exact Kind.name_inj.mp hm.symm
        · cases hrt : r.ty <;> rw [hrt] at hm <;> exact absurd hm (by decide) }

theorem Good.single_wire {c : Dag} {P : Paths} (g : Good c P) {i : Nat} {w : Op} (hw : (NodeId.op i, w) ∈ c.nodes) {r : Reg}
    (hq : w.qregs = [r]) (hc : w.cregs = []) (k : Reg) : NodeId.op i ∈ P k ↔ k = r := by
  by_cases hty : k.ty = .c
  · have hk : k = ⟨.c, k.idx⟩ := by cases k with | mk t j => simp at hty; subst hty; rfl
    have hrq : r.ty ≠ .c := (g.inv.op_wf i w hw).qregs_quantum r (by rw [hq]; simp)
    constructor
    · intro hm
      rw [hk] at hm
      have := g.mem.mem_c i w hw _ hm
      rw [hc] at this; simp at this
    · intro e; exact absurd (e ▸ hty) hrq
  · rw [g.mem.mem_q i w hw k hty, hq, List.mem_singleton]

theorem inEdges_single {c : Dag} {P : Paths} (g : Good c P) {i : Nat} {w : Op} (hw : (NodeId.op i, w) ∈ c.nodes) {r : Reg}
    (hq : w.qregs = [r]) (hc : w.cregs = []) :
    ∃ a, c.inEdges (.op i) = [⟨a, .op i, r⟩] ∧ (⟨a, .op i, r⟩ : Edge) ∈ c.edges := by
  have hon : NodeId.op i ∈ P r := (g.single_wire hw hq hc r).mpr rfl
  obtain ⟨a, _, ha, _⟩ := g.inv.op_neighbours hon
  have hedge : (⟨a, .op i, r⟩ : Edge) ∈ c.edges := (g.inv.edges_iff _).mpr ha
  refine ⟨a, ?_, hedge⟩
  unfold inEdges
  apply filter_eq_singleton g.inv.edges_nodup hedge (by simp)
  intro e he hd
  have hd : e.dst = .op i := by simpa using hd
  have hc' := (g.inv.edges_iff e).mp he
  rw [hd] at hc'
  have hk : e.key = r := (g.single_wire hw hq hc e.key).mp hc'.mem.2
  exact g.inv.edge_eq_of_dst he hedge hk hd

theorem unwrap_ops_wf {w : Op} (hwf : OpWF w) (hk : w.kind = .wrapper) {r : Reg} (hq : w.qregs = [r]) :
    ∀ o ∈ w.unwrap, OpWF o ∧ o.qregs = [r] ∧ o.cregs = [] := by
  intro o ho
  have hrq : r.ty ≠ .c := hwf.qregs_quantum r (by rw [hq]; simp)
  unfold Op.unwrap at ho
  rw [hk] at ho
  simp only [hq, List.headD_cons] at ho
  obtain ⟨k, hk', rfl⟩ := List.mem_map.mp ho
  have := (hwf.wrapper_shape hk).2.2 k (List.mem_reverse.mp hk')
  exact ⟨oneQubit_wf this hrq, rfl, rfl⟩

theorem unwrapLoop_cons {c : Dag} {n : NodeId} {op : Op} (ho : c.opOf? n = some op)
    (h1 : (c.unwrapOne n op.unwrap).2 = none) (h2 : ((c.unwrapOne n op.unwrap).1.removeOp n).2 = none) (rest : List NodeId) :
    c.unwrapLoop (n :: rest) = ((c.unwrapOne n op.unwrap).1.removeOp n).1.unwrapLoop rest := by
  rw [unwrapLoop, ho]
  cases hres : c.unwrapOne n op.unwrap with
  | mk c1 e1 =>
    rw [hres] at h1 h2
    cases h1
    cases hres2 : c1.removeOp n with
    | mk c2 e2 =>
      rw [hres2] at h2
      cases h2
      simp only [hres, hres2]

theorem unwrapOne_chain (g : Good c P) {i : Nat} {w : Op} (hw : (NodeId.op i, w) ∈ c.nodes) {r : Reg}
    (hq : w.qregs = [r]) (hc : w.cregs = []) (os : List Op) (hos : ∀ o ∈ os, OpWF o ∧ o.qregs = [r] ∧ o.cregs = []) :
    (c.unwrapOne (.op i) os).2 = none ∧
      ∃ P', Chain (fun p => ∃ o ∈ os, ∃ es, p = .insert o es) c P (c.unwrapOne (.op i) os).1 P' ∧
        (NodeId.op i, w) ∈ (c.unwrapOne (.op i) os).1.nodes := by
  induction os generalizing c P with
  | nil => exact ⟨rfl, P, .refl _ _, hw⟩
  | cons o rest ih =>
    obtain ⟨hwf, hoq, hoc⟩ := hos o (by simp)
    obtain ⟨a, hin, hedge⟩ := inEdges_single g hw hq hc
    obtain ⟨hS, heq⟩ := insertAt_single_prim g hwf hoq hoc hedge rfl
    have hS : (Prim.insert o [⟨a, .op i, r⟩]).OK c := hS
    rw [unwrapOne, hin, heq]
    obtain ⟨e, P2, s2, hw2⟩ := ih (Prim.good g hS) (by rw [Prim.insert_nodes g.inv]; exact List.mem_append_left _ hw)
      (fun o' ho' => hos o' (List.mem_cons_of_mem _ ho'))
    exact ⟨e, P2, .step ⟨o, by simp, _, rfl⟩ hS (s2.mono fun p ⟨o', ho', h⟩ => ⟨o', List.mem_cons_of_mem _ ho', h⟩), hw2⟩

def IsUnwrapStep (p : Prim) : Prop := p.IsErase ∨ ∃ w o es, OpWF w ∧ w.kind = .wrapper ∧ o ∈ w.unwrap ∧ p = .insert o es

theorem IsUnwrapStep.not_newReg {p : Prim} (a : IsUnwrapStep p) : ¬ p.IsNewReg := by
  rcases a with h | ⟨_, _, _, _, _, _, rfl⟩
  · exact h.not_newReg
  · exact id

theorem IsUnwrapStep.fresh {p : Prim} (a : IsUnwrapStep p) {o : Op} (hb : p.brings o) : p.IsInsert := by
  rcases a with h | ⟨_, _, _, _, _, _, rfl⟩
  · exact (h.brings_nothing hb).elim
  · trivial

/-- **induction over the loop of `unwrap_nodes`, one wrapper node at a time**: the loop is a chain of unwrap steps, and
    what every "unwrap this node" step (`insert_at` of its gates, then `remove_op`) preserves, the loop preserves.  That
    the nodes still to be visited hold wrappers needs no bookkeeping: an operation node afterwards was there before with
    the same operation, or is fresh (`Chain.ops_from`). -/
theorem unwrapLoop_chain_induct {M : Dag → Paths → Prop}
    (hstep : ∀ {c : Dag} {P : Paths} {i : Nat} {w : Op}, Good c P → M c P → (NodeId.op i, w) ∈ c.nodes → w.kind = .wrapper →
      ∀ {P2 : Paths}, Chain IsUnwrapStep c P ((c.unwrapOne (.op i) w.unwrap).1.removeOp (.op i)).1 P2 →
        M ((c.unwrapOne (.op i) w.unwrap).1.removeOp (.op i)).1 P2)
    (g : Good c P) (ns : List NodeId)
    (hns : ∀ n ∈ ns, (∃ j, n = NodeId.op j ∧ j ≤ c.nodeId) ∧ ∀ op, (n, op) ∈ c.nodes → op.kind = .wrapper) (m : M c P) :
    ∃ P', Chain IsUnwrapStep c P (c.unwrapLoop ns).1 P' ∧ M (c.unwrapLoop ns).1 P' := by
  induction ns generalizing c P with
  | nil => exact ⟨P, .refl _ _, m⟩
  | cons n rest ih =>
    obtain ⟨⟨i, rfl, hile⟩, hkind⟩ := hns n (by simp)
    cases ho : c.opOf? (.op i) with
    | none => rw [unwrapLoop, ho]; exact ⟨P, .refl _ _, m⟩
    | some w =>
      have hw : (NodeId.op i, w) ∈ c.nodes := (opOf_eq_some g.inv.ids_nodup).mp ho
      have hk := hkind w hw
      have hwf := g.inv.op_wf i w hw
      obtain ⟨⟨r, hq⟩, hc, _⟩ := hwf.wrapper_shape hk
      obtain ⟨e1, P1, s1, hw1⟩ := unwrapOne_chain g hw hq hc w.unwrap (unwrap_ops_wf hwf hk hq)
      have s12 : Chain IsUnwrapStep c P _ _ := (s1.mono fun p ⟨o, ho', es, e⟩ => Or.inr ⟨w, o, es, hwf, hk, ho', e⟩).trans
        ((removeOp_chain (c := (c.unwrapOne (.op i) w.unwrap).1) (P := P1) i).mono
          fun p (e : p = .erase i) => Or.inl (by rw [e]; trivial))
      rw [unwrapLoop_cons ho e1 (removeOp_good (s1.good g) (mem_nodeIds.mpr ⟨w, hw1⟩)).1]
      obtain ⟨P3, s3, m3⟩ := ih (s12.good g) (fun n hn => by
        obtain ⟨⟨j, rfl, hj⟩, hkj⟩ := hns n (List.mem_cons_of_mem _ hn)
        refine ⟨⟨j, rfl, Nat.le_trans hj (s12.nodeId_le g)⟩, fun op hop => ?_⟩
        rcases s12.ops_from g hop with h | ⟨p, a, hb, hi⟩
        · exact hkj op h
        · exact absurd (hi (a.fresh hb)) (by omega)) (hstep g m hw hk s12)
      exact ⟨P3, s12.trans s3, m3⟩

theorem wrapperList_spec (g : Good c P) : ∀ n ∈ dictGet c.nodeDict "OneQubitGateWrapper",
    (∃ j, n = NodeId.op j ∧ j ≤ c.nodeId) ∧ ∀ op, (n, op) ∈ c.nodes → op.kind = .wrapper := by
  intro n hn
  obtain ⟨i, rfl⟩ := g.inv.nodeDict_ops (by decide) (by decide) hn
  obtain ⟨op, hop, hkey⟩ := g.inv.mem_nodeDict hn
  refine ⟨⟨i, rfl, (g.inv.op_range i (mem_nodeIds.mpr ⟨op, hop⟩)).2⟩, fun op' hop' => ?_⟩
  obtain rfl := g.op_unique hop' hop
  exact (g.inv.op_wf i op' hop').wrapper_key hkey

theorem unwrapNodes_chain (g : Good c P) : ∃ P', Chain IsUnwrapStep c P c.unwrapNodes.1 P' := by
  unfold unwrapNodes
  by_cases hh : dictHas c.nodeDict "OneQubitGateWrapper" = true
  · rw [if_pos hh]
    obtain ⟨P', s, _⟩ := unwrapLoop_chain_induct (M := fun _ _ => True) (by intros; trivial) g _ (wrapperList_spec g) trivial
    exact ⟨P', s⟩
  · rw [if_neg hh]; exact ⟨P, .refl _ _⟩

/-! ## `group_one_qubit_gates` -/

theorem mkWrapper_wf {gates : List Kind} {r : Reg} {w : Op} (h : mkWrapper gates r = some w) :
    OpWF w ∧ w.qregs = [r] ∧ w.cregs = [] := by
  unfold mkWrapper at h
  by_cases hc : r.ty = .c
  · simp [hc] at h
  · rw [if_neg hc] at h
    by_cases hall : gates.all Kind.isOneQubitBase = true
    · rw [if_pos hall] at h
      injection h with h; subst h
      refine ⟨?_, rfl, rfl⟩
      exact
        { not_input := by simp
          not_output := by simp
          qregs_ne := by simp
          qregs_nodup := by simp
          cregs_nodup := by simp
          qregs_quantum := by intro r' hr'; simp at hr'; subst hr'; exact hc
          wrapper_shape := fun _ => ⟨⟨r, rfl⟩, rfl, fun k hk => List.all_eq_true.mp hall k hk⟩
          wrapper_key := fun _ => rfl }
    · rw [if_neg hall] at h; simp at h

theorem mem_of_edgeFromReg {es : List Edge} {r : Reg} {e : Edge} (h : edgeFromReg es r = some e) : e ∈ es ∧ e.key = r := by
  unfold edgeFromReg at h
  exact ⟨List.mem_of_find?_eq_some h, by simpa using List.find?_some h⟩

theorem edgeFromReg_eq {es : List Edge} {r : Reg} {e : Edge} (he : e ∈ es) (hk : e.key = r)
    (huniq : ∀ e' ∈ es, e'.key = r → e' = e) : edgeFromReg es r = some e := by
  unfold edgeFromReg
  cases hf : es.find? (fun e => e.key = r) with
  | none => simpa [hk] using List.find?_eq_none.mp hf e he
  | some e' => rw [huniq e' (List.mem_of_find?_eq_some hf) (by simpa using List.find?_some hf)]

def IsGroupStep (p : Prim) : Prop := p.IsErase ∨ ∃ gates r w es, mkWrapper gates r = some w ∧ p = .insert w es

theorem IsGroupStep.not_newReg {p : Prim} (a : IsGroupStep p) : ¬ p.IsNewReg := by
  rcases a with h | ⟨_, _, _, _, _, rfl⟩
  · exact h.not_newReg
  · exact id

theorem groupTake_of_groupable {c : Dag} {node : NodeId} {o : Op} (hg : c.groupable node = true)
    (ho : c.opOf? node = some o) (gates : List Kind) :
    groupTake c node gates =
      ((c.removeOp node).1, (if o.kind = .wrapper then gates ++ o.inner else gates ++ [o.kind]), (c.removeOp node).2) := by
  unfold groupTake
  rw [if_pos hg, ho]

theorem groupTake_neg {c : Dag} {node : NodeId} (hg : c.groupable node = false) (gates : List Kind) :
    groupTake c node gates = (c, gates, none) := by
  unfold groupTake
  rw [if_neg (by simp [hg])]

theorem groupFlush_eq {c : Dag} {r : Reg} {next : NodeId} {gates : List Kind} {ie : Edge} {w : Op}
    (he : edgeFromReg (c.outEdges next) r = some ie) (hw : mkWrapper gates r = some w) :
    groupFlush c r next gates = c.insertAt w [ie] := by
  unfold groupFlush
  rw [he]; simp only; rw [hw]

theorem groupWalk_input {r : Reg} {fuel : Nat} {c : Dag} {node : NodeId} {gates : List Kind}
    (h : (dictGet c.nodeDict "Input").contains node = true) : groupWalk r (fuel + 1) c node gates = (c, none) := by
  unfold groupWalk; rw [if_pos h]

theorem groupWalk_step {r : Reg} {fuel : Nat} {c c1 : Dag} {node : NodeId} {gates gates1 : List Kind} {edge : Edge}
    (h : ¬ (dictGet c.nodeDict "Input").contains node = true) (he : edgeFromReg (c.inEdges node) r = some edge)
    (ht : groupTake c node gates = (c1, gates1, none)) :
    groupWalk r (fuel + 1) c node gates =
      if !(c1.groupable edge.src) && !gates1.isEmpty then
        match groupFlush c1 r edge.src gates1 with
        | (c2, some err) => (c2, some err)
        | (c2, none) => groupWalk r fuel c2 edge.src []
      else groupWalk r fuel c1 edge.src gates1 := by
  rw [groupWalk, if_neg h, he]
  simp only [ht]
  rfl

theorem groupTake_chain (g : Good c P) (node : NodeId) (gates : List Kind) :
    ∃ P', Chain IsGroupStep c P (groupTake c node gates).1 P' := by
  by_cases hc : c.groupable node = true
  · have hmem : node ∈ dictGet c.nodeDict "one-qubit" := by
      have := (Bool.and_eq_true _ _).mp hc; simpa using this.1
    obtain ⟨i, rfl⟩ := g.inv.nodeDict_ops (by decide) (by decide) hmem
    obtain ⟨op, hop, _⟩ := g.inv.mem_nodeDict hmem
    rw [groupTake_of_groupable hc ((opOf_eq_some g.inv.ids_nodup).mpr hop)]
    exact ⟨_, (removeOp_chain i).mono fun p (e : p = .erase i) => Or.inl (by rw [e]; trivial)⟩
  · rw [groupTake_neg (by simpa using hc)]; exact ⟨P, .refl _ _⟩

theorem groupFlush_chain (g : Good c P) (r : Reg) (next : NodeId) (gates : List Kind) :
    ∃ P', Chain IsGroupStep c P (groupFlush c r next gates).1 P' := by
  unfold groupFlush
  cases he : edgeFromReg (c.outEdges next) r with
  | none => exact ⟨P, .refl _ _⟩
  | some ie =>
    cases hw : mkWrapper gates r with
    | none => exact ⟨P, .refl _ _⟩
    | some w =>
      obtain ⟨hwf, hq, hcr⟩ := mkWrapper_wf hw
      have hie := mem_of_edgeFromReg he
      obtain ⟨hS, heq⟩ := insertAt_single_prim g hwf hq hcr (List.mem_filter.mp hie.1).1 hie.2
      simp only [heq]
      exact ⟨_, .one (Or.inr ⟨gates, r, w, _, hw, rfl⟩) hS⟩

theorem groupWalk_chain (r : Reg) (fuel : Nat) : ∀ {c : Dag} {P : Paths}, Good c P → ∀ (node : NodeId) (gates : List Kind),
    ∃ P', Chain IsGroupStep c P (groupWalk r fuel c node gates).1 P' := by
  induction fuel with
  | zero => intro c P g node gates; exact ⟨P, .refl _ _⟩
  | succ fuel ih =>
    intro c P g node gates
    unfold groupWalk
    split
    · exact ⟨P, .refl _ _⟩
    · split
      · exact ⟨P, .refl _ _⟩
      · rename_i edge _
        obtain ⟨P1, s1⟩ := groupTake_chain g node gates
        generalize groupTake c node gates = t at s1 ⊢
        obtain ⟨c1, gates1, err⟩ := t
        cases err with
        | some e => exact ⟨P1, s1⟩
        | none =>
          have g1 : Good c1 P1 := s1.good g
          dsimp only
          split
          · obtain ⟨P2, s2⟩ := groupFlush_chain g1 r edge.src gates1
            generalize groupFlush c1 r edge.src gates1 = t2 at s2 ⊢
            obtain ⟨c2, err2⟩ := t2
            cases err2 with
            | some e => exact ⟨P2, s1.trans s2⟩
            | none =>
              obtain ⟨P3, s3⟩ := ih ((s1.trans s2).good g) edge.src []
              exact ⟨P3, (s1.trans s2).trans s3⟩
          · obtain ⟨P3, s3⟩ := ih g1 edge.src gates1
            exact ⟨P3, s1.trans s3⟩

theorem groupLoop_chain (g : Good c P) (os : List NodeId) : ∃ P', Chain IsGroupStep c P (c.groupLoop os).1 P' := by
  induction os generalizing c P with
  | nil => exact ⟨P, .refl _ _⟩
  | cons o rest ih =>
    unfold groupLoop
    cases ho : c.opOf? o with
    | none => exact ⟨P, .refl _ _⟩
    | some op =>
      simp only
      generalize outReg o op = r
      cases he : edgeFromReg (c.inEdges o) r with
      | none => exact ⟨P, .refl _ _⟩
      | some e =>
        simp only
        obtain ⟨P1, s1⟩ := groupWalk_chain r (c.nodes.length + 1) g e.src []
        generalize groupWalk r (c.nodes.length + 1) c e.src [] = t at s1 ⊢
        obtain ⟨c1, err⟩ := t
        cases err with
        | some e' => exact ⟨P1, s1⟩
        | none =>
          obtain ⟨P2, s2⟩ := ih (s1.good g)
          exact ⟨P2, s1.trans s2⟩

theorem groupOneQubitGates_chain (g : Good c P) : ∃ P', Chain IsGroupStep c P c.groupOneQubitGates.1 P' :=
  groupLoop_chain g _

end Dag
end Graphiq
