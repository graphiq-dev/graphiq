/-
  Proofs/LCBlock.lean — a local Clifford between two graphs with the same connected components is exactly one local
  Clifford per component (`block_solution_iff`; repair of D14): on a vertex set that no edge leaves, the equations of the induced
  pair are equations of the whole system, and the equations between two different components are trivial.
-/
import GraphiqModel.Proofs.LCComp
import GraphiqModel.Proofs.LCLocalClifford
namespace Graphiq.LC
open Graphiq

/-- the restriction of a solution vector to the vertices of `c`, re-indexed by position in `c` -/
def restrictQ (q : Nat → Bool) (c : List Nat) (idx : Nat) : Bool := q (4 * c.getD (idx / 4) 0 + idx % 4)

theorem restrictQ_at (q : Nat → Bool) (c : List Nat) (i t : Nat) (ht : t < 4) :
    restrictQ q c (4 * i + t) = q (4 * c.getD i 0 + t) := by
  unfold restrictQ
  have h1 : (4 * i + t) / 4 = i := by omega
  have h2 : (4 * i + t) % 4 = t := by omega
  rw [h1, h2]

theorem restrictQ_at0 (q : Nat → Bool) (c : List Nat) (i : Nat) : restrictQ q c (4 * i) = q (4 * c.getD i 0) :=
  restrictQ_at q c i 0 (by omega)

/-- the induced subgraph on the vertex list `c`, re-indexed by position (`adj[np.ix_(c, c)]`) -/
def subAdj (A : Adj) (c : List Nat) : Adj := fun i j => A (c.getD i 0) (c.getD j 0)

theorem subMat_f (a : BMat) (c : List Nat) : (subMat a c).f = subAdj a.f c := rfl
theorem subMat_r (a : BMat) (c : List Nat) : (subMat a c).r = c.length := rfl

/-- no edge of `A` joins `c` to a vertex outside `c` -/
def ClosedIn (n : Nat) (A : Adj) (c : List Nat) : Prop :=
  ∀ j ∈ c, ∀ m, m < n → m ∉ c → A m j = false ∧ A j m = false

theorem detQ_restrict (q : Nat → Bool) (c : List Nat) (i : Nat) : detQ (restrictQ q c) i = detQ q (c.getD i 0) := by
  unfold detQ
  rw [restrictQ_at0, restrictQ_at q c i 1 (by omega), restrictQ_at q c i 2 (by omega), restrictQ_at q c i 3 (by omega)]

theorem mem_filter_range (n : Nat) (p : Nat → Bool) (x : Nat) : x ∈ (List.range n).filter p ↔ x < n ∧ p x = true := by
  rw [List.mem_filter, List.mem_range]

theorem getD_inj_of_nodup (c : List Nat) (hn : c.Nodup) (i j : Nat) (hi : i < c.length) (hj : j < c.length) :
    c.getD i 0 = c.getD j 0 ↔ i = j := by
  rw [getD_of_lt c i hi, getD_of_lt c j hj]
  exact List.getElem_inj hn

/-- **restriction of one equation**: on a vertex set (given as a filter of `range n`) that no edge of `A` enters from
    outside, the equation of the induced pair is the equation of the whole pair -/
theorem equation_restrict (n : Nat) (A B : Adj) (p : Nat → Bool) (q : Nat → Bool)
    (hcl : ∀ m, m < n → p m = false → ∀ j ∈ (List.range n).filter p, A m j = false)
    (i i' : Nat) (hi : i < ((List.range n).filter p).length) (hi' : i' < ((List.range n).filter p).length) :
    equation ((List.range n).filter p).length (subAdj A ((List.range n).filter p)) (subAdj B ((List.range n).filter p))
        (restrictQ q ((List.range n).filter p)) i i' =
      equation n A B q (((List.range n).filter p).getD i 0) (((List.range n).filter p).getD i' 0) := by
  generalize hc : (List.range n).filter p = c at *
  have hnd : c.Nodup := by rw [← hc]; exact filter_range_nodup n p
  have hmi : c.getD i 0 ∈ c := getD_mem_of_lt c i hi
  unfold equation
  have e1 : parityTo n (fun m => A m (c.getD i 0) && B m (c.getD i' 0) && q (4 * m + 2)) =
      parityTo c.length (fun m => subAdj A c m i && subAdj B c m i' && restrictQ q c (4 * m + 2)) := by
    have : parityTo n (fun m => A m (c.getD i 0) && B m (c.getD i' 0) && q (4 * m + 2)) =
        parityTo n (fun m => p m && (A m (c.getD i 0) && B m (c.getD i' 0) && q (4 * m + 2))) := by
      apply parityTo_congr
      intro m hm
      cases hp : p m
      · rw [hcl m hm hp _ hmi]; rfl
      · rfl
    rw [this, parityTo_filter n p, hc]
    apply parityTo_congr
    intro m _
    rw [restrictQ_at q c m 2 (by omega)]
    rfl
  rw [e1, restrictQ_at0, restrictQ_at q c i 3 (by omega), restrictQ_at q c i 1 (by omega)]
  have e4 : decide (i = i') = decide (c.getD i 0 = c.getD i' 0) := by
    apply decide_eq_decide.mpr
    exact (getD_inj_of_nodup c hnd i i' hi hi').symm
  rw [e4]
  rfl

theorem equation_cross (n : Nat) (A B : Adj) (q : Nat → Bool) (c1 c2 : List Nat) (j k : Nat) (hj : j ∈ c1) (hk : k ∈ c2)
    (hjn : j < n) (hkn : k < n) (hdis : ∀ v, v ∈ c1 → v ∉ c2) (hA : ClosedIn n A c1) (hB : ClosedIn n B c2) :
    equation n A B q j k = false := by
  have hk1 : k ∉ c1 := fun h => hdis k h hk
  have hj2 : j ∉ c2 := hdis j hj
  have hjk : j ≠ k := fun e => hk1 (e ▸ hj)
  unfold equation
  have e1 : parityTo n (fun m => A m j && B m k && q (4 * m + 2)) = false := by
    apply parityTo_zero
    intro m hm
    by_cases hm1 : m ∈ c1
    · rw [(hB k hk m hm (hdis m hm1)).1]; simp
    · rw [(hA j hj m hm hm1).1]; simp
  rw [e1, (hA j hj k hkn hk1).2, (hB k hk j hjn hj2).1]
  simp [hjk]

/-- a list of vertex sets that partitions `0..n-1`, each given as a filter of `range n` -/
structure Partition (n : Nat) (comps : List (List Nat)) : Prop where
  filt : ∀ c ∈ comps, ∃ p : Nat → Bool, c = (List.range n).filter p
  cover : ∀ v, v < n → ∃ c ∈ comps, v ∈ c
  disjoint : comps.Pairwise fun c1 c2 => ∀ v, v ∈ c1 → v ∉ c2

theorem pairwise_either (l : List (List Nat)) (h : l.Pairwise fun c1 c2 => ∀ v, v ∈ c1 → v ∉ c2) :
    ∀ c1 ∈ l, ∀ c2 ∈ l, c1 = c2 ∨ ∀ v, v ∈ c1 → v ∉ c2 := by
  induction l with
  | nil => intro c1 h1; cases h1
  | cons x l ih =>
    rw [List.pairwise_cons] at h
    intro c1 h1 c2 h2
    rcases List.mem_cons.mp h1 with e1 | m1 <;> rcases List.mem_cons.mp h2 with e2 | m2
    · exact Or.inl (e1.trans e2.symm)
    · rw [e1]; exact Or.inr (h.1 c2 m2)
    · rw [e2]; exact Or.inr (fun v hv hv2 => h.1 c1 m1 v hv2 hv)
    · exact ih h.2 c1 m1 c2 m2

theorem Partition.lt {n : Nat} {comps : List (List Nat)} (hP : Partition n comps) (c : List Nat) (hc : c ∈ comps)
    (v : Nat) (hv : v ∈ c) : v < n := by
  obtain ⟨p, e⟩ := hP.filt c hc
  rw [e] at hv
  exact ((mem_filter_range n p v).mp hv).1

theorem Partition.nodup {n : Nat} {comps : List (List Nat)} (hP : Partition n comps) (c : List Nat) (hc : c ∈ comps) :
    c.Nodup := by
  obtain ⟨p, e⟩ := hP.filt c hc
  rw [e]; exact filter_range_nodup n p

/-- **a local Clifford for a pair of graphs with common components is one local Clifford per component**: `q` satisfies
    every equation of the system for `(A, B)` with invertible blocks iff, for every component, its restriction does so for
    the induced pair.  (⇐: block-diagonal assembly of per-component solutions; ⇒: restriction) -/
theorem block_solution_iff (n : Nat) (A B : Adj) (comps : List (List Nat)) (q : Nat → Bool) (hP : Partition n comps)
    (hA : ∀ c ∈ comps, ClosedIn n A c) (hB : ∀ c ∈ comps, ClosedIn n B c) :
    ((∀ j k, j < n → k < n → equation n A B q j k = false) ∧ ∀ m, m < n → detQ q m = true) ↔
      ∀ c ∈ comps,
        (∀ i i', i < c.length → i' < c.length →
          equation c.length (subAdj A c) (subAdj B c) (restrictQ q c) i i' = false) ∧
        ∀ i, i < c.length → detQ (restrictQ q c) i = true := by
  have hrestr : ∀ c ∈ comps, ∀ i i', i < c.length → i' < c.length →
      equation c.length (subAdj A c) (subAdj B c) (restrictQ q c) i i' =
        equation n A B q (c.getD i 0) (c.getD i' 0) := by
    intro c hc i i' hi hi'
    obtain ⟨p, e⟩ := hP.filt c hc
    subst e
    apply equation_restrict n A B p q _ i i' hi hi'
    intro m hm hpm j hj
    have : m ∉ (List.range n).filter p := by
      intro h; rw [((mem_filter_range n p m).mp h).2] at hpm; cases hpm
    exact (hA _ hc j hj m hm this).1
  constructor
  · rintro ⟨h1, h2⟩ c hc
    refine ⟨fun i i' hi hi' => ?_, fun i hi => ?_⟩
    · rw [hrestr c hc i i' hi hi']
      exact h1 _ _ (hP.lt c hc _ (getD_mem_of_lt c i hi)) (hP.lt c hc _ (getD_mem_of_lt c i' hi'))
    · rw [detQ_restrict]
      exact h2 _ (hP.lt c hc _ (getD_mem_of_lt c i hi))
  · intro h
    refine ⟨fun j k hj hk => ?_, fun m hm => ?_⟩
    · obtain ⟨c1, hc1, hj1⟩ := hP.cover j hj
      obtain ⟨c2, hc2, hk2⟩ := hP.cover k hk
      rcases pairwise_either comps hP.disjoint c1 hc1 c2 hc2 with e | hdis
      · subst e
        obtain ⟨i, hi, ei⟩ := exists_getD_of_mem c1 j hj1
        obtain ⟨i', hi', ei'⟩ := exists_getD_of_mem c1 k hk2
        rw [← ei, ← ei', ← hrestr c1 hc1 i i' hi hi']
        exact (h c1 hc1).1 i i' hi hi'
      · exact equation_cross n A B q c1 c2 j k hj1 hk2 hj hk hdis (hA c1 hc1) (hB c2 hc2)
    · obtain ⟨c, hc, hm1⟩ := hP.cover m hm
      obtain ⟨i, hi, ei⟩ := exists_getD_of_mem c m hm1
      rw [← ei, ← detQ_restrict]
      exact (h c hc).2 i hi

/-! ### the induced graph of a component -/

def Connected (k : Nat) (A : Adj) : Prop := ∀ i j, i < k → j < k → Reach k A i j

theorem sub_simple (n : Nat) (A : Adj) (hA : Simple n A) (c : List Nat) (hc : ∀ v ∈ c, v < n) :
    Simple c.length (subAdj A c) := by
  refine ⟨fun i j hi hj => ?_, fun i hi => ?_⟩
  · exact hA.1 _ _ (hc _ (getD_mem_of_lt c i hi)) (hc _ (getD_mem_of_lt c j hj))
  · exact hA.2 _ (hc _ (getD_mem_of_lt c i hi))

theorem reach_sub (n : Nat) (A : Adj) (s : Nat) (hs : s < n) (i : Nat) (hi : i < (componentOf n A s).length) (y : Nat)
    (r : Reach n A ((componentOf n A s).getD i 0) y) :
    ∃ t, t < (componentOf n A s).length ∧ (componentOf n A s).getD t 0 = y ∧
      Reach (componentOf n A s).length (subAdj A (componentOf n A s)) i t := by
  induction r with
  | refl => exact ⟨i, hi, rfl, Reach.refl _⟩
  | tail r0 hj hk ha ih =>
    rename_i j k
    obtain ⟨t, ht, et, rt⟩ := ih
    have hci := (mem_componentOf n A s hs _).mp (getD_mem_of_lt _ i hi)
    have hkc : k ∈ componentOf n A s :=
      (mem_componentOf n A s hs k).mpr ⟨hk, (hci.2.trans r0).tail hj hk ha⟩
    obtain ⟨t', ht', et'⟩ := exists_getD_of_mem _ k hkc
    refine ⟨t', ht', et', rt.tail ht ht' ?_⟩
    show A _ _ = true
    rw [et, et']; exact ha

theorem sub_connected (n : Nat) (A : Adj) (hA : ∀ i j, i < n → j < n → A i j = A j i) (s : Nat) (hs : s < n) :
    Connected (componentOf n A s).length (subAdj A (componentOf n A s)) := by
  intro i j hi hj
  have hci := (mem_componentOf n A s hs _).mp (getD_mem_of_lt _ i hi)
  have hcj := (mem_componentOf n A s hs _).mp (getD_mem_of_lt _ j hj)
  obtain ⟨t, ht, et, rt⟩ := reach_sub n A s hs i hi _ ((hci.2.symm hA).trans hcj.2)
  have hnd : (componentOf n A s).Nodup := by rw [componentOf_eq_filter]; exact filter_range_nodup n _
  have : t = j := (getD_inj_of_nodup _ hnd t j ht hj).mp et
  rw [← this]; exact rt

theorem componentOf_closed (n : Nat) (A : Adj) (hA : ∀ i j, i < n → j < n → A i j = A j i) (s : Nat) (hs : s < n) :
    ClosedIn n A (componentOf n A s) := by
  intro j hj m hm hmc
  have hjc := (mem_componentOf n A s hs j).mp hj
  have h2 : A j m = false := by
    cases h : A j m
    · rfl
    · exact absurd ((mem_componentOf n A s hs m).mpr ⟨hm, hjc.2.tail hjc.1 hm h⟩) hmc
  exact ⟨by rw [hA m j hm hjc.1]; exact h2, h2⟩

theorem connectedComponents_partition (n : Nat) (A : Adj) (hA : ∀ i j, i < n → j < n → A i j = A j i) :
    Partition n (connectedComponents n A) ∧ (∀ c ∈ connectedComponents n A, ClosedIn n A c) ∧
      ∀ c ∈ connectedComponents n A, ∃ s, s < n ∧ c = componentOf n A s := by
  obtain ⟨h1, h2⟩ := connectedComponents_spec n A hA
  refine ⟨⟨fun c hc => ?_, h2, h1.disjoint⟩, fun c hc => ?_, h1.isClass⟩
  · obtain ⟨s, _, e⟩ := h1.isClass c hc
    exact ⟨_, by rw [e, componentOf_eq_filter]⟩
  · obtain ⟨s, hs, e⟩ := h1.isClass c hc
    rw [e]; exact componentOf_closed n A hA s hs

end Graphiq.LC
