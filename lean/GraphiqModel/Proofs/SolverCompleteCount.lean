/-
  Proofs/SolverCompleteCount.lean — resource accounting of the time-reversed solver: the recorded circuit contains exactly one
  `MeasurementCNOTandReset` per round in which the height function drops (`_time_reversed_measurement` is the only place one is created,
  and nothing removes it).  Measure-and-resets are `Fixed` operations, which every helper keeps (`Quiet.keeps`, `Proofs/SolverSteps.lean`).
-/
import GraphiqModel.Proofs.SolverCompleteAbsorb
namespace Graphiq.Solver
open Graphiq Graphiq.Cliff PRow STab

def isMcr : SOp → Bool
  | .mcr _ _ => true
  | _ => false

def mcrCount (c : List SOp) : Nat := c.countP isMcr

theorem mcrCount_fixedOps (c : List SOp) : mcrCount c = (fixedOps c).countP isMcr :=
  (countP_fixedOps isMcr (fun o h => by cases o <;> first | rfl | cases h) c).symm

theorem Keeps.mcr {s s' : St} (h : Keeps s s') : mcrCount s'.circ = mcrCount s.circ := by
  rw [mcrCount_fixedOps, mcrCount_fixedOps, h.fixed]

theorem timeReversedMeasurement_mcr (s s' : St) (photon : Nat) (hn : s.t.n = s.np + s.ne)
    (h : timeReversedMeasurement s photon = .ok s') : mcrCount s'.circ = mcrCount s.circ + 1 := by
  obtain ⟨e, s3, q, _, _, rfl⟩ := timeReversedMeasurement_spec s s' photon hn h
  rw [← q.keeps.toKeeps.mcr]
  exact List.countP_cons_of_pos rfl

theorem addPhotonAbsorption_mcr (s s' : St) (photon : Nat) (hn : s.t.n = s.np + s.ne) (hp : photon < s.np)
    (h : addPhotonAbsorption s photon = .ok s') : mcrCount s'.circ = mcrCount s.circ := by
  obtain ⟨e, s4, t', q, _, _, rfl⟩ := addPhotonAbsorption_spec s s' photon hn hp h
  rw [← q.keeps.toKeeps.mcr]
  exact List.countP_cons_of_neg (by simp [isMcr])

end Graphiq.Solver
