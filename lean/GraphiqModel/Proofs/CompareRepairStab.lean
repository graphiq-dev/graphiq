/-
  Proofs/CompareRepairStab.lean — the conclusion of `isoVia_sound` read in the verified stabilizer semantics of C13
  (`Commute.appG`: C07's group transformers, measurement outcomes attached to the measuring operations).

  `toSOp` translates an executed operation of the C14/C15 model (`Export.Op`) into an operation of C13's compile sequence
  (`Wire.SOp`): same class, same quantum registers (control first), same classical register.  With it, operations that
  share no quantum register commute (`Commute.appG_comm`), so `SwapEquiv` lists run to the same state.
-/
import GraphiqModel.Proofs.CompareRepairSound
import GraphiqModel.Proofs.CommuteSem
namespace Graphiq.Compare
open Graphiq Graphiq.Export

def toReg (q : QReg) : Wire.Reg := ⟨match q.t with | .e => .e | .p => .p, q.i⟩

def toG1 : G1 → Wire.G1
  | .H => .H | .X => .X | .Y => .Y | .Z => .Z | .S => .P | .Sdg => .Pdg | .I => .I

/-- an operation of the C14/C15 model as an operation of C13's compile sequence -/
def toSOp : Op → Wire.SOp
  | .one g q => ⟨.g (toG1 g), [toReg q]⟩
  | .wrap gs q => ⟨.node (.wrapper (gs.map toG1)) [toReg q] [], [toReg q]⟩
  | .ctrl .CNOT c t => ⟨.node .cnot [toReg c, toReg t] [], [toReg c, toReg t]⟩
  | .ctrl .CZ c t => ⟨.node .cz [toReg c, toReg t] [], [toReg c, toReg t]⟩
  | .cctrl .CCNOT c t m => ⟨.node .ccnot [toReg c, toReg t] [m], [toReg c, toReg t]⟩
  | .cctrl .CCZ c t m => ⟨.node .ccz [toReg c, toReg t] [m], [toReg c, toReg t]⟩
  | .cctrl .MCR c t m => ⟨.node .mcr [toReg c, toReg t] [m], [toReg c, toReg t]⟩
  | .meas q m => ⟨.node .measZ [toReg q] [m], [toReg q]⟩

theorem toReg_inj (a b : QReg) (h : toReg a = toReg b) : a = b := by
  cases a with | mk t i => cases b with | mk t' i' =>
  cases t <;> cases t' <;> simp_all [toReg]

theorem regs_toSOp (o : Op) : (toSOp o).regs = o.qRegs.map toReg := by
  cases o with
  | one g q => rfl
  | wrap gs q => rfl
  | ctrl g c t => cases g <;> rfl
  | cctrl g c t m => cases g <;> rfl
  | meas q m => rfl

theorem stab_comm (ne np : Nat) (a b : Op) (h : disjointOps a b = true) (s : Commute.GSt ne np) :
    Commute.appG ne np (toSOp b) (Commute.appG ne np (toSOp a) s) = Commute.appG ne np (toSOp a) (Commute.appG ne np (toSOp b) s) := by
  apply Commute.appG_comm
  intro r hr hr'
  rw [regs_toSOp] at hr hr'
  obtain ⟨qb, hqb, rfl⟩ := List.mem_map.1 hr
  obtain ⟨qa, hqa, hab⟩ := List.mem_map.1 hr'
  have := toReg_inj _ _ hab
  subst this
  unfold disjointOps at h
  simp only [List.all_eq_true, Bool.not_eq_true', List.contains_eq_mem, decide_eq_false_iff_not] at h
  exact h qa hqa hqb

/-- `SwapEquiv` operation lists run to the same stabilizer state (same group, same unread outcomes), from every state -/
theorem SwapEquiv.same_stab_state {l1 l2 : List Op} (h : SwapEquiv l1 l2) (ne np : Nat) (s : Commute.GSt ne np) :
    Wire.runSeq (Commute.appG ne np) (l1.map toSOp) s = Wire.runSeq (Commute.appG ne np) (l2.map toSOp) s := by
  have := h.same_state (fun o s => Commute.appG ne np (toSOp o) s) (fun a b hd s => stab_comm ne np a b hd s) s
  unfold Wire.runSeq
  rw [List.foldl_map, List.foldl_map]
  exact this

end Graphiq.Compare
