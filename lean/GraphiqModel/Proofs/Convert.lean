/-
  Proofs/Convert.lean — CZ on |+…+⟩ builds the graph-state generators; soundness of the conversion validator.
-/
import GraphiqModel.Model.Convert
import GraphiqModel.Proofs.Check
import GraphiqModel.Proofs.InvBits
namespace Graphiq
open PRow Tab STab

/-- the sign is untouched when the row does not have an X on both qubits (always the case for graph-state generators) -/
theorem cz_r (c t : Nat) (p : PRow) (hct : c ≠ t) (hx : (p.x c && p.x t) = false) : (PRow.cz c t p).r = p.r := by
  have htc : t ≠ c := Ne.symm hct
  simp only [PRow.cz, PRow.h, PRow.cnot, if_neg hct, if_neg htc]
  revert hx
  cases p.r <;> cases p.x c <;> cases p.x t <;> cases p.z c <;> cases p.z t <;> decide

theorem cz_ip (c t : Nat) (p : PRow) : (PRow.cz c t p).ip = p.ip := rfl

/-- invariant of the CZ sweep started from |+…+⟩: row `i` is `X_i` times `Z` on the sites joined to `i` an odd number of times -/
def IsGraphRow (edges : List (Nat × Nat)) (i : Nat) (p : PRow) : Prop :=
  (∀ j, p.x j = decide (j = i)) ∧ (∀ j, p.z j = edgeParity edges i j) ∧ p.r = false ∧ p.ip = false

theorem edgeParity_append (edges : List (Nat × Nat)) (e : Nat × Nat) (i j : Nat) :
    edgeParity (edges ++ [e]) i j = xor (edgeParity edges i j) (decide ((e.1 = i ∧ e.2 = j) ∨ (e.1 = j ∧ e.2 = i))) := by
  simp [edgeParity, List.foldl_append]

theorem cz_step (prev : List (Nat × Nat)) (e : Nat × Nat) (he : e.1 ≠ e.2) (i : Nat) (p : PRow)
    (h : IsGraphRow prev i p) : IsGraphRow (prev ++ [e]) i (PRow.cz e.1 e.2 p) := by
  obtain ⟨hx, hz, hr, hi⟩ := h
  refine ⟨fun j => ?_, fun j => ?_, ?_, ?_⟩
  · rw [cz_x _ _ he]; exact hx j
  · rw [cz_z _ _ he, edgeParity_append, hx, hx, hz]
    have he' : e.2 ≠ e.1 := Ne.symm he
    by_cases h1 : j = e.1
    · subst h1
      by_cases h2 : e.2 = i
      · subst h2; simp [he, he']
      · by_cases h3 : e.1 = i
        · simp [h2, h3]
        · simp [h2, h3, he']
    · by_cases h2 : j = e.2
      · subst h2
        by_cases h3 : e.1 = i
        · subst h3; simp [h1, he]
        · have h3' : ¬ (i = e.1) := fun h => h3 h.symm
          by_cases h4 : e.2 = i
          · simp [h3, h3', h4]
          · simp [h1, h3, h4, he]
      · have h1' : ¬ (e.1 = j) := fun h => h1 h.symm
        have h2' : ¬ (e.2 = j) := fun h => h2 h.symm
        simp [h1, h2, h1', h2']
  · rw [cz_r _ _ _ he]
    · exact hr
    · rw [hx, hx]
      by_cases a : e.1 = i
      · have : ¬ (e.2 = i) := fun h => he (a.trans h.symm)
        simp [this]
      · simp [a]
  · rw [cz_ip]; exact hi

theorem czEdges_inv (edges prev : List (Nat × Nat)) (hne : ∀ e, e ∈ edges → e.1 ≠ e.2) (t : STab)
    (h : ∀ i, IsGraphRow prev i (t.row i)) : ∀ i, IsGraphRow (prev ++ edges) i ((czEdges t edges).row i) := by
  induction edges generalizing prev t with
  | nil => intro i; simpa [czEdges] using h i
  | cons e es ih =>
    intro i
    have he : e.1 ≠ e.2 := hne e List.mem_cons_self
    have := ih (prev ++ [e]) (fun e' he' => hne e' (List.mem_cons_of_mem _ he')) (t.map (PRow.cz e.1 e.2))
      (fun k => cz_step prev e he k (t.row k) (h k)) i
    simpa [czEdges, List.append_assoc] using this

theorem czEdges_n (t : STab) (edges : List (Nat × Nat)) : (czEdges t edges).n = t.n := by
  induction edges generalizing t with
  | nil => rfl
  | cons e rest ih => show (czEdges (t.map (PRow.cz e.1 e.2)) rest).n = _; rw [ih]; rfl

/-- graph → state: applying one CZ per edge (distinct endpoints) to |+…+⟩ yields, for every vertex `i`, the generator
    `X_i ∏_j Z_j^{#edges(i,j) mod 2}` with sign `+` — for a simple graph, exactly `X_i ∏_{j ~ i} Z_j` -/
theorem czEdges_plus (n : Nat) (edges : List (Nat × Nat)) (hne : ∀ e, e ∈ edges → e.1 ≠ e.2) (i : Nat) :
    IsGraphRow edges i ((czEdges (plusSTab n) edges).row i) := by
  have h0 : ∀ k, IsGraphRow [] k ((plusSTab n).row k) := by
    intro k
    refine ⟨fun j => ?_, fun j => ?_, rfl, rfl⟩
    · simp [plusSTab, PRow.Xq]
    · simp [plusSTab, PRow.Xq, edgeParity]
  simpa using czEdges_inv edges [] hne (plusSTab n) h0 i

/-- soundness of the conversion validator: acceptance means that the returned single-qubit gates map the input state exactly,
    signs included, onto the returned graph's state -/
theorem checkConversion_sound (t : STab) (gates : List Gate) (adj : Nat → Nat → Bool)
    (h : checkConversion t gates adj = true) : SpanEq (t.runCircuit gates) (graphSTab t.n adj) := by
  unfold checkConversion at h
  simp only [Bool.and_eq_true] at h
  exact sameGroup_sound _ _ h.2

end Graphiq
