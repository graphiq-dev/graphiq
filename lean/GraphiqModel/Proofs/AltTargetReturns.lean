/-
  Proofs/AltTargetReturns.lean — when does the modelled `AlternateTargetSolver.solve` RETURN (C10)?
    * the loops return as soon as the time-reversed solver and the LC conversion return on every (relabelled target, LC graph) pair;
    * "no isolated vertex" (the condition under which the time-reversed solver returns, C02) is inherited along local complementations,
      hence by every graph of an LC orbit, and along a map that passes the isomorphism test.
-/
import GraphiqModel.Proofs.AltTargetFinal
namespace Graphiq
namespace Alt

/-! ### the loops -/

theorem lcLoop_ok (P : Parts) (iso : BMat) (rmap : List Nat) (i : Nat) (lcs : List BMat) (k : Nat) (acc : List Entry)
    (h : ∀ lc, lc ∈ lcs → (∃ r, P.solver lc = some r) ∧ ∃ g, P.conv lc iso = some g) :
    ∃ out, lcLoop P iso rmap i lcs k acc = .ok out := by
  induction lcs generalizing k acc with
  | nil => exact ⟨acc, rfl⟩
  | cons lc rest ih =>
    obtain ⟨⟨⟨ne, ops⟩, h1⟩, g, h2⟩ := h lc (by simp)
    obtain ⟨out, ho⟩ := ih (k + 1) (acc ++ [{ ne := ne, ops := if lc.beq iso then ops else ops ++ g, g := lc, map := rmap, src := (i, k) }])
      (fun lc' hl => h lc' (List.mem_cons_of_mem _ hl))
    refine ⟨out, ?_⟩
    rw [lcLoop, (lcEntry_ok_iff P iso rmap i k lc _).mpr ⟨ne, ops, g, h1, h2, rfl⟩]
    exact ho

theorem isoLoop_ok (P : Parts) (isos : List BMat) (i : Nat) (acc : List Entry)
    (h : ∀ iso, iso ∈ isos → ∀ lc, lc ∈ P.lcGraphs iso → (∃ r, P.solver lc = some r) ∧ ∃ g, P.conv lc iso = some g) :
    ∃ out, isoLoop P isos i acc = .ok out := by
  induction isos generalizing i acc with
  | nil => exact ⟨acc, rfl⟩
  | cons iso rest ih =>
    obtain ⟨acc', ha⟩ := lcLoop_ok P iso (P.relabelMap iso) i (P.lcGraphs iso) 0 acc (h iso (by simp))
    obtain ⟨out, ho⟩ := ih (i + 1) acc' (fun iso' hi => h iso' (List.mem_cons_of_mem _ hi))
    refine ⟨out, ?_⟩
    show (match lcLoop P iso (P.relabelMap iso) i (P.lcGraphs iso) 0 acc with
      | .error e => (.error e : Except Err (List Entry))
      | .ok acc' => isoLoop P rest (i + 1) acc') = .ok out
    rw [ha]
    exact ho

/-- **the loops return as soon as the parts return**: if the time-reversed solver returns on every LC graph and the LC conversion succeeds
    for every (LC graph, relabelled target) pair, `solve` returns -/
theorem solve_ok (P : Parts) (pick : List Nat → Nat)
    (h : ∀ iso, iso ∈ P.isoAdjs → ∀ lc, lc ∈ P.lcGraphs iso → (∃ r, P.solver lc = some r) ∧ ∃ g, P.conv lc iso = some g) :
    ∃ out, solve P pick = .ok out := by
  obtain ⟨es, he⟩ := isoLoop_ok P P.isoAdjs 0 [] h
  exact ⟨_, (solve_ok_iff P pick _).mpr ⟨es, he, rfl⟩⟩

/-! ### no isolated vertex -/

def NoIsolated (n : Nat) (A : Adj) : Prop := ∀ i, i < n → ∃ j, j < n ∧ A i j = true

theorem NoIsolated.congr {n : Nat} {A B : Adj} (h : NoIsolated n A) (e : EqAdj n A B) : NoIsolated n B := by
  intro i hi
  obtain ⟨j, hj, hij⟩ := h i hi
  exact ⟨j, hj, by rw [← e i j hi hj]; exact hij⟩

/-- a local complementation isolates nobody: a neighbour of `v` keeps `v`, everybody else keeps all neighbours -/
theorem localComp_noIsolated (n : Nat) (A : Adj) (v : Nat) (hv : v < n) (hA : Simple n A) (h : NoIsolated n A) :
    NoIsolated n (localComp A v) := by
  intro i hi
  obtain ⟨j, hj, e⟩ := h i hi
  cases hiv : A i v with
  | true =>
    refine ⟨v, hv, ?_⟩
    have hne : i ≠ v := by
      intro e'; subst e'; rw [hA.2 i hi] at hiv; cases hiv
    simp [localComp, hne, hA.2 v hv, hiv]
  | false =>
    refine ⟨j, hj, ?_⟩
    have hne : i ≠ j := by
      intro e'; subst e'; rw [hA.2 i hi] at e; cases e
    simp [localComp, hne, e, hiv]

theorem applySeq_noIsolated (n : Nat) (A : Adj) (vs : List Nat) (hA : Simple n A) (hvs : ∀ v ∈ vs, v < n) (h : NoIsolated n A) :
    NoIsolated n (applySeq A vs) :=
  (Loop.foldl_inv (fun B => Simple n B ∧ NoIsolated n B) (fun B v hv hB =>
    ⟨localComp_simple n B v (hvs v hv) hB.1, localComp_noIsolated n B v (hvs v hv) hB.1 hB.2⟩) ⟨hA, h⟩).2

theorem InOrbit.noIsolated {n : Nat} {A : Adj} {g : BMat} (hA : Simple n A) (h : NoIsolated n A) (hg : InOrbit n A g) :
    NoIsolated n g.f := by
  obtain ⟨_, _, vs, hvs, e⟩ := hg
  exact (applySeq_noIsolated n A vs hA hvs h).congr e.symm

theorem noIsolated_of_isIsoMap (n : Nat) (A B : Adj) (m : List Nat) (hA : NoIsolated n A) (h : isIsoMap n A B m = true) :
    NoIsolated n B := by
  obtain ⟨_, hr, hinj, hedge⟩ := (isIsoMap_iff n A B m).mp h
  intro a ha
  obtain ⟨u, hu, eu⟩ := inj_surj n (fun u => m.getD u n) hr hinj a ha
  obtain ⟨w, hw, e⟩ := hA u hu
  refine ⟨m.getD w n, hr w hw, ?_⟩
  rw [← eu]
  show B (m.getD u n) (m.getD w n) = true
  rw [← hedge u w hu hw]
  exact e

end Alt
end Graphiq
