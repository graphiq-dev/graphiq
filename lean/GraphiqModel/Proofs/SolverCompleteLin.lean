/-
  Proofs/SolverCompleteLin.lean — GF(2) linear algebra for the completeness argument of the time-reversed solver (C02):
  linear independence of the generators (`LinIndep`) and the rank of the generator matrix restricted to the columns `0..k`
  (`cutRank`) are invariants of the signed group; gates keep independence; gates acting right of a cut keep the cut rank;
  the link with the height function; the starting tableau `target ⊗ |0…0⟩` of the solver and its emitter budget.
-/
import Mathlib.LinearAlgebra.FiniteDimensional.Basic
import Mathlib.LinearAlgebra.FiniteDimensional.Lemmas
import Mathlib.Algebra.Field.ZMod
import GraphiqModel.Proofs.HeightEntropy
import GraphiqModel.Proofs.HeightTotal
import GraphiqModel.Proofs.SolverSoundMain
import GraphiqModel.Proofs.SolverCompleteGates
namespace Graphiq
open Module

/-! ### rows from bit vectors -/

/-- a row (phase `+1`) with prescribed bits below `n` -/
def ofVec {n : Nat} (v : PVec n) : PRow :=
  { x := fun j => if h : j < n then decide ((v ⟨j, h⟩).1 = 1) else false
    z := fun j => if h : j < n then decide ((v ⟨j, h⟩).2 = 1) else false
    r := false
    ip := false }

theorem vec_ofVec {n : Nat} (v : PVec n) : (ofVec v).vec n = v := by
  funext j
  simp only [PRow.vec, ofVec, dif_pos j.isLt, b2z_decide_eq_one]

theorem ofVec_vec (n : Nat) (p : PRow) : PRow.SameBits n (ofVec (p.vec n)) p :=
  sameBits_of_vec_eq n _ _ (vec_ofVec _)

theorem sameBits_of_eqOn (n : Nat) (a b : PRow) (h : PRow.EqOn n a b) : PRow.SameBits n a b := h.1

/-! ### the bits of a gate image depend only on the bits -/

theorem h_sameBits (n q : Nat) (hq : q < n) (a b : PRow) (hab : PRow.SameBits n a b) :
    PRow.SameBits n (PRow.h q a) (PRow.h q b) := by
  intro j hj
  have h1 := hab j hj
  have h2 := hab q hq
  simp only [PRow.h]
  by_cases e : j = q
  · simp only [e, if_true]; exact ⟨h2.2, h2.1⟩
  · simp only [e, if_false]; exact h1

theorem s_sameBits (n q : Nat) (hq : q < n) (a b : PRow) (hab : PRow.SameBits n a b) :
    PRow.SameBits n (PRow.s q a) (PRow.s q b) := by
  intro j hj
  have h1 := hab j hj
  have h2 := hab q hq
  simp only [PRow.s]
  by_cases e : j = q
  · simp only [e, if_true]; exact ⟨h2.1, by rw [h2.1, h2.2]⟩
  · simp only [e, if_false]; exact h1

theorem cnot_sameBits (n c t : Nat) (hc : c < n) (ht : t < n) (a b : PRow) (hab : PRow.SameBits n a b) :
    PRow.SameBits n (PRow.cnot c t a) (PRow.cnot c t b) := by
  intro j hj
  have h1 := hab j hj
  have h2 := hab c hc
  have h3 := hab t ht
  simp only [PRow.cnot]
  refine ⟨?_, ?_⟩
  · by_cases e : j = t
    · simp only [e, if_true]; rw [h3.1, h2.1]
    · simp only [e, if_false]; exact h1.1
  · by_cases e : j = c
    · simp only [e, if_true]; rw [h3.2, h2.2]
    · simp only [e, if_false]; exact h1.2

theorem Gate.act_sameBits (n : Nat) (G : Gate) (hG : G.WF n) (a b : PRow) (hab : PRow.SameBits n a b) :
    PRow.SameBits n (G.act a) (G.act b) := by
  cases G with
  | H q => exact h_sameBits n q hG a b hab
  | P q => exact s_sameBits n q hG a b hab
  | Pdag q => exact s_sameBits n q hG _ _ (s_sameBits n q hG _ _ (s_sameBits n q hG a b hab))
  | X q =>
    exact h_sameBits n q hG _ _ (s_sameBits n q hG _ _ (s_sameBits n q hG _ _ (h_sameBits n q hG a b hab)))
  | Y q =>
    exact s_sameBits n q hG _ _ (h_sameBits n q hG _ _ (s_sameBits n q hG _ _ (s_sameBits n q hG _ _
      (h_sameBits n q hG _ _ (s_sameBits n q hG _ _ (s_sameBits n q hG _ _ (s_sameBits n q hG a b hab)))))))
  | Z q => exact s_sameBits n q hG _ _ (s_sameBits n q hG a b hab)
  | I q => exact hab
  | CNOT c t => exact cnot_sameBits n c t hG.1 hG.2.1 a b hab
  | CZ c t =>
    exact h_sameBits n t hG.2.1 _ _ (cnot_sameBits n c t hG.1 hG.2.1 _ _ (h_sameBits n t hG.2.1 a b hab))

/-- the GF(2)-linear map a well-formed gate induces on bit vectors -/
noncomputable def gateLin (n : Nat) (G : Gate) (hG : G.WF n) : PVec n →ₗ[ZMod 2] PVec n where
  toFun v := (G.act (ofVec v)).vec n
  map_add' a b := by
    have e1 : PRow.SameBits n (ofVec (a + b)) (PRow.mul n (ofVec a) (ofVec b)) :=
      sameBits_of_vec_eq n _ _ (by rw [PRow.vec_mul, vec_ofVec, vec_ofVec, vec_ofVec])
    rw [PRow.vec_congr n _ _ (Gate.act_sameBits n G hG _ _ e1),
      PRow.vec_congr n _ _ ((G.isAut n hG).mul (ofVec a) (ofVec b)).1, PRow.vec_mul]
  map_smul' c a := by
    rcases zmod2_cases c with h | h
    · subst h
      have e1 : PRow.SameBits n (ofVec ((0 : ZMod 2) • a)) PRow.one :=
        sameBits_of_vec_eq n _ _ (by rw [vec_ofVec, PRow.vec_one, zero_smul])
      rw [PRow.vec_congr n _ _ (Gate.act_sameBits n G hG _ _ e1), PRow.vec_congr n _ _ (Gate.act_one n G).1,
        PRow.vec_one]
      simp
    · subst h
      simp

theorem gateLin_apply (n : Nat) (G : Gate) (hG : G.WF n) (p : PRow) :
    (G.act p).vec n = gateLin n G hG (p.vec n) :=
  PRow.vec_congr n _ _ (Gate.act_sameBits n G hG _ _ (fun j hj => ⟨((ofVec_vec n p) j hj).1.symm, ((ofVec_vec n p) j hj).2.symm⟩))

theorem gateLin_rev (n : Nat) (G : Gate) (hG : G.WF n) (v : PVec n) :
    gateLin n G.rev (Gate.rev_WF n G hG) (gateLin n G hG v) = v := by
  show (G.rev.act (ofVec ((G.act (ofVec v)).vec n))).vec n = v
  rw [PRow.vec_congr n _ _ (Gate.act_sameBits n G.rev (Gate.rev_WF n G hG) _ _ (ofVec_vec n _)),
    PRow.vec_congr n _ _ (Gate.rev_cancel n G hG (ofVec v)).1, vec_ofVec]

theorem gateLin_ker (n : Nat) (G : Gate) (hG : G.WF n) : LinearMap.ker (gateLin n G hG) = ⊥ := by
  apply LinearMap.ker_eq_bot_of_injective
  exact Function.LeftInverse.injective (gateLin_rev n G hG)

namespace STab

/-- the generators are linearly independent over GF(2) (a valid stabilizer tableau) -/
def LinIndep (t : STab) : Prop := LinearIndependent (ZMod 2) (fun i : Fin t.n => (t.row i).vec t.n)

/-- rank of the generator matrix restricted to the columns `0..k` (x- and z-parts) -/
noncomputable def cutRank (t : STab) (k : Nat) : Nat := Module.finrank (ZMod 2) ↥(t.gspace.map (cutLin t.n k))

theorem indep_iff_finrank (t : STab) : t.LinIndep ↔ finrank (ZMod 2) ↥t.gspace = t.n :=
  linearIndependent_iff_finrank t

/-- same signed group ⇒ still independent -/
theorem indep_of_spanEq (t t' : STab) (h : SpanEq t t') (hi : t.LinIndep) : t'.LinIndep :=
  (indep_iff_finrank t').2 (h.of_gspace (P := fun n G => finrank (ZMod 2) ↥G = n) ((indep_iff_finrank t).1 hi))

/-- tabulation does not change the bit vectors of the generators -/
theorem norm_vec (t : STab) (i : Nat) (hi : i < t.n) : (t.norm.row i).vec t.n = (t.row i).vec t.n :=
  PRow.vec_congr _ _ _ (norm_row t i hi).1

/-- a well-formed gate keeps independence -/
theorem indep_gate (t : STab) (G : Gate) (hG : G.WF t.n) (hi : t.LinIndep) : ((t.applyGate G).norm).LinIndep := by
  have h1 := LinearIndependent.map' hi (gateLin t.n G hG) (gateLin_ker t.n G hG)
  have e : (fun i : Fin ((t.applyGate G).norm).n => (((t.applyGate G).norm).row i).vec ((t.applyGate G).norm).n)
      = (gateLin t.n G hG) ∘ (fun i : Fin t.n => (t.row i).vec t.n) := by
    funext i
    show (((t.applyGate G).norm).row i).vec t.n = gateLin t.n G hG ((t.row i).vec t.n)
    rw [← gateLin_apply]
    exact norm_vec (t.applyGate G) i.val i.isLt
  unfold LinIndep
  rw [e]
  exact h1

/-- cutRank depends only on the group -/
theorem cutRank_spanEq (t t' : STab) (h : SpanEq t t') (k : Nat) : t'.cutRank k = t.cutRank k :=
  h.of_gspace (P := fun n G => finrank (ZMod 2) ↥(G.map (cutLin n k)) = t.cutRank k) rfl

set_option linter.unusedVariables false in
/-- a gate acting only on columns right of `k` does not change the generators' bits at columns `≤ k`, hence not `cutRank k` -/
theorem cutRank_gate (t : STab) (G : Gate) (hG : G.WF t.n) (k : Nat) (hc : ∀ c, c ∈ G.cols → k < c) :
    ((t.applyGate G).norm).cutRank k = t.cutRank k := by
  have e : Submodule.map (cutLin t.n k) (gspaceOf t.n ((t.applyGate G).norm).row)
      = Submodule.map (cutLin t.n k) (gspaceOf t.n t.row) := by
    unfold gspaceOf
    rw [Submodule.map_span, Submodule.map_span, ← Set.range_comp, ← Set.range_comp]
    congr 2
    funext i
    show cutLin t.n k ((((t.applyGate G).norm).row i).vec t.n) = cutLin t.n k ((t.row i).vec t.n)
    have hv : (((t.applyGate G).norm).row i).vec t.n = (G.act (t.row i)).vec t.n :=
      norm_vec (t.applyGate G) i.val i.isLt
    rw [hv]
    funext j
    simp only [cutLin, LinearMap.coe_mk, AddHom.coe_mk]
    by_cases hj : j.val ≤ k
    · rw [if_pos hj, if_pos hj]
      have hb := Gate.act_bits_off G (t.row i) j.val (fun hcm => by have := hc _ hcm; omega)
      show (b2z ((G.act (t.row i)).x j), b2z ((G.act (t.row i)).z j)) = (b2z ((t.row i).x j), b2z ((t.row i).z j))
      rw [hb.1, hb.2]
    · rw [if_neg hj, if_neg hj]
  show finrank (ZMod 2) ↥(Submodule.map (cutLin t.n k) (gspaceOf t.n ((t.applyGate G).norm).row))
    = finrank (ZMod 2) ↥(Submodule.map (cutLin t.n k) (gspaceOf t.n t.row))
  rw [e]

/-- link with the height function -/
theorem height_eq_cutRank (t : STab) (l : List Int) (h : t.heightFuncList = .ok l) (k : Nat) (hk : k < t.n) :
    l.getD k 0 = (t.cutRank k : Int) - ((k : Int) + 1) := by
  rw [heightFuncList_eq_rank_cut t l h, getD_map_range t.n k _ hk]
  rfl

/-- link with the echelon form: the number of generators whose leading site is right of `k` -/
theorem echelon_count_right (t : STab) (piv : Nat → Nat) (he : Echelon t piv) (l : List Int) (h : t.heightFuncList = .ok l)
    (k : Nat) (hk : k < t.n) :
    (((List.range t.n).filter fun i => decide (k < piv i)).length : Int) = (t.n : Int) - ((k : Int) + 1) - l.getD k 0 := by
  rw [heightFuncList_eq_finrank t l h, getD_map_range t.n k _ hk, echelon_finrank_right t piv he k]
  simp only [Int.ofNat_eq_natCast]
  omega

/-- `height_func_list` returns on an independent tableau, with a list of length `n` -/
theorem heightFuncList_ok_of_indep (t : STab) (hi : t.LinIndep) : ∃ l, t.heightFuncList = .ok l ∧ l.length = t.n := by
  obtain ⟨l, h⟩ := heightFuncList_total t hi
  refine ⟨l, h, ?_⟩
  rw [heightFuncList_eq_finrank t l h, List.length_map, List.length_range]

/-! ### the starting tableau of the solver: `target ⊗ |0…0⟩` -/

/-- zero-extension of a bit vector by `m` further sites -/
def extLin (n m : Nat) : PVec n →ₗ[ZMod 2] PVec (n + m) where
  toFun v := fun j => if h : j.val < n then v ⟨j.val, h⟩ else 0
  map_add' a b := by
    funext j
    by_cases h : j.val < n <;> simp [h]
  map_smul' c a := by
    funext j
    by_cases h : j.val < n <;> simp [h]

theorem extLin_apply (n m : Nat) (v : PVec n) (j : Fin (n + m)) :
    extLin n m v j = if h : j.val < n then v ⟨j.val, h⟩ else 0 := rfl

theorem extLin_ker (n m : Nat) : LinearMap.ker (extLin n m) = ⊥ := by
  apply LinearMap.ker_eq_bot_of_injective
  intro a b hab
  funext j
  have := congrFun hab ⟨j.val, by have := j.isLt; omega⟩
  rw [extLin_apply, extLin_apply, dif_pos j.isLt, dif_pos j.isLt] at this
  exact this

/-- the old rows are zero-extensions of independent vectors and vanish at the new site, where the new row `Z_n` has a 1 -/
theorem indep_insertQubit (t : STab) (hi : t.LinIndep) : (t.insertQubit t.n).LinIndep := by
  show LinearIndependent (ZMod 2) (fun i : Fin (t.n + 1) => ((t.insertQubit t.n).row i).vec (t.n + 1))
  rw [linearIndependent_finSucc']
  have hinit : Fin.init (fun i : Fin (t.n + 1) => ((t.insertQubit t.n).row i).vec (t.n + 1))
      = (extLin t.n 1) ∘ (fun i : Fin t.n => (t.row i).vec t.n) := by
    funext i
    show ((t.insertQubit t.n).row i.val).vec (t.n + 1) = extLin t.n 1 ((t.row i).vec t.n)
    have hr : (t.insertQubit t.n).row i.val = (t.row i.val).insertCol t.n := by
      simp [STab.insertQubit, i.isLt]
    rw [hr]
    funext j
    rw [extLin_apply]
    by_cases hj : j.val < t.n
    · rw [dif_pos hj]
      simp [PRow.vec, PRow.insertCol, hj]
    · rw [dif_neg hj]
      have hj2 : j.val = t.n := by have := j.isLt; omega
      simp [PRow.vec, PRow.insertCol, hj2, b2z]
  rw [hinit]
  refine ⟨hi.map' _ (extLin_ker t.n 1), ?_⟩
  intro hmem
  have hle : Submodule.span (ZMod 2) (Set.range ((extLin t.n 1) ∘ (fun i : Fin t.n => (t.row i).vec t.n)))
      ≤ LinearMap.range (extLin t.n 1) := by
    apply Submodule.span_le.2
    rintro _ ⟨i, rfl⟩
    exact ⟨_, rfl⟩
  obtain ⟨u, hu⟩ := hle hmem
  have h1 := congrFun hu (Fin.last t.n)
  rw [extLin_apply, dif_neg (by simp)] at h1
  have hr : (t.insertQubit t.n).row (Fin.last t.n).val = PRow.Zq t.n := by
    simp [STab.insertQubit]
  have h2 : ((t.insertQubit t.n).row (Fin.last t.n).val).vec (t.n + 1) (Fin.last t.n) = (0, 1) := by
    rw [hr]
    simp [PRow.vec, PRow.Zq, b2z]
  have h3 : ((0 : ZMod 2 × ZMod 2)) = (0, 1) := h1.trans h2
  have h4 := congrArg Prod.snd h3
  revert h4
  decide

/-- the starting tableau of the solver is independent -/
theorem indep_withEmitters (target : STab) (hi : target.LinIndep) (ne : Nat) : (Solver.withEmitters target ne).LinIndep := by
  induction ne with
  | zero => exact hi
  | succ k ih =>
    rw [Solver.withEmitters_succ]
    exact indep_of_spanEq _ _ (norm_spanEq _) (indep_insertQubit _ ih)

/-- a generator of a tableau whose rows are, bit by bit, `target ⊗ |0…0⟩`, cut left of the appended qubits: the zero-extension of
    the target's cut generator, or nothing for an appended `Z` -/
theorem cut_ext_row (t : STab) (m : Nat) (wrow : Nat → PRow)
    (hrow : ∀ i, i < t.n + m → PRow.SameBits (t.n + m) (wrow i) (Solver.extRow t i)) (k : Nat) (hk : k < t.n) (i : Nat)
    (hi : i < t.n + m) :
    cutLin (t.n + m) k ((wrow i).vec (t.n + m)) =
      if i < t.n then extLin t.n m (cutLin t.n k ((t.row i).vec t.n)) else 0 := by
  funext j
  have hb := hrow i hi j.val j.isLt
  split
  · next hit =>
    simp only [Solver.extRow, if_pos hit, PRow.truncCols] at hb
    rw [extLin_apply]
    simp only [cutLin, LinearMap.coe_mk, AddHom.coe_mk]
    by_cases hj : j.val ≤ k
    · have hj2 : j.val < t.n := by omega
      rw [if_pos hj, dif_pos hj2, if_pos hj]
      show (b2z ((wrow i).x j), b2z ((wrow i).z j)) = (b2z ((t.row i).x j.val), b2z ((t.row i).z j.val))
      rw [hb.1, hb.2]
      simp [hj2]
    · rw [if_neg hj]
      by_cases hj2 : j.val < t.n
      · rw [dif_pos hj2, if_neg hj]
      · rw [dif_neg hj2]
  · next hit =>
    simp only [Solver.extRow, if_neg hit, PRow.Zq] at hb
    simp only [cutLin, LinearMap.coe_mk, AddHom.coe_mk]
    by_cases hj : j.val ≤ k
    · rw [if_pos hj]
      show (b2z ((wrow i).x j), b2z ((wrow i).z j)) = 0
      rw [hb.1, hb.2]
      have : j.val ≠ i := by omega
      simp [b2z, this]
    · rw [if_neg hj]; rfl

/-- **the photon cuts of `target ⊗ |0…0⟩` have the ranks of the target's**: zero-extension maps the cut space of `t` onto that of any
    tableau whose rows are, bit by bit, `target ⊗ |0…0⟩`, and it is injective -/
theorem cutRank_ext_eq (t w : STab) (m : Nat) (hn : w.n = t.n + m)
    (hrow : ∀ i, i < t.n + m → PRow.SameBits (t.n + m) (w.row i) (Solver.extRow t i)) (k : Nat) (hk : k < t.n) :
    w.cutRank k = t.cutRank k := by
  obtain ⟨wn, wrow⟩ := w
  simp only at hn hrow
  subst hn
  have hmap : Submodule.map (cutLin (t.n + m) k) (gspaceOf (t.n + m) wrow)
      = Submodule.map (extLin t.n m) (Submodule.map (cutLin t.n k) t.gspace) := by
    apply le_antisymm
    · unfold gspaceOf
      rw [Submodule.map_span]
      apply Submodule.span_le.2
      rintro _ ⟨_, ⟨i, rfl⟩, rfl⟩
      show cutLin (t.n + m) k ((wrow i).vec (t.n + m)) ∈ _
      rw [cut_ext_row t m wrow hrow k hk i.val i.isLt]
      split
      · next hi => exact Submodule.mem_map_of_mem (Submodule.mem_map_of_mem (gen_mem_gspaceOf t.n t.row i.val hi))
      · exact Submodule.zero_mem _
    · unfold STab.gspace gspaceOf
      rw [Submodule.map_span, Submodule.map_span]
      apply Submodule.span_le.2
      rintro _ ⟨_, ⟨_, ⟨i, rfl⟩, rfl⟩, rfl⟩
      have e := cut_ext_row t m wrow hrow k hk i.val (by omega)
      rw [if_pos i.isLt] at e
      rw [← e]
      exact Submodule.mem_map_of_mem (Submodule.subset_span ⟨⟨i.val, by omega⟩, rfl⟩)
  show finrank (ZMod 2) ↥(Submodule.map (cutLin (t.n + m) k) (gspaceOf (t.n + m) wrow)) = _
  rw [hmap]
  exact (Submodule.equivMapOfInjective (extLin t.n m) (LinearMap.ker_eq_bot.1 (extLin_ker t.n m)) _).finrank_eq.symm

theorem le_foldl_max (l : List Int) (a x : Int) (h : x ≤ a ∨ x ∈ l) : x ≤ l.foldl max a := by
  induction l generalizing a with
  | nil =>
    rcases h with h | h
    · exact h
    · cases h
  | cons b t ih =>
    simp only [List.foldl_cons]
    apply ih
    rcases h with h | h
    · left; exact le_trans h (le_max_left _ _)
    · rcases List.mem_cons.1 h with rfl | h
      · left; exact le_max_right _ _
      · right; exact h

/-- what `determine_n_emitters` returns bounds every entry of the height list of the target -/
theorem determineNEmitters_spec (target : STab) (ne : Nat) (h : Solver.determineNEmitters target = .ok ne) :
    ∃ l, target.heightFuncList = .ok l ∧ ∀ x, x ∈ l → x ≤ (ne : Int) := by
  unfold Solver.determineNEmitters at h
  cases hr : target.rref with
  | error e => rw [hr] at h; cases h
  | ok v =>
    obtain ⟨t1, brs⟩ := v
    rw [hr] at h
    simp only at h
    cases hl : t1.heightFuncList with
    | error e => rw [hl] at h; cases h
    | ok l =>
      rw [hl] at h
      cases l with
      | nil => cases h
      | cons a as =>
        simp only at h
        injection h with h
        refine ⟨a :: as, heightFuncList_rref target t1 brs hr _ hl, ?_⟩
        intro x hx
        have h1 : x ≤ as.foldl max a := by
          apply le_foldl_max
          rcases List.mem_cons.1 hx with rfl | hx
          · left; exact le_refl _
          · right; exact hx
        rw [← h]
        exact le_trans h1 (Int.self_le_toNat _)

theorem cutRank_withEmitters_eq (target : STab) (ne k : Nat) (hk : k < target.n) :
    (Solver.withEmitters target ne).cutRank k = target.cutRank k :=
  cutRank_ext_eq target _ ne (Solver.withEmitters_n target ne) (fun i hi => (Solver.withEmitters_row target ne i hi).1) k hk

/-- the emitter budget bounds every photon cut of the starting tableau -/
theorem cutRank_withEmitters (target : STab) (ne : Nat) (h : Solver.determineNEmitters target = .ok ne) (k : Nat)
    (hk : k < target.n) : (Solver.withEmitters target ne).cutRank k ≤ ne + (k + 1) := by
  obtain ⟨l, hl, hmax⟩ := determineNEmitters_spec target ne h
  have h1 := height_eq_cutRank target l hl k hk
  have hlen : l.length = target.n := by
    rw [heightFuncList_eq_finrank target l hl, List.length_map, List.length_range]
  have hmem : l.getD k 0 ∈ l := by
    rw [List.getD_eq_getElem?_getD, List.getElem?_eq_getElem (by omega)]
    exact List.getElem_mem _
  have h2 := hmax _ hmem
  have h3 := cutRank_withEmitters_eq target ne k hk
  omega

/-- `determine_n_emitters` returns on an independent non-empty target -/
theorem determineNEmitters_ok (target : STab) (hi : target.LinIndep) (hn : 0 < target.n) :
    ∃ ne, Solver.determineNEmitters target = .ok ne := by
  obtain ⟨t1, brs, piv, hr, he⟩ := rref_ok_of_indep target hi
  have hn1 : t1.n = target.n := (rref_ops _ t1 brs hr).n_eq
  obtain ⟨l, hl, hlen⟩ := heightFuncList_ok_of_indep t1 (echelon_linearIndependent t1 piv he)
  unfold Solver.determineNEmitters
  rw [hr]
  simp only
  rw [hl]
  cases l with
  | nil => simp at hlen; omega
  | cons a as => exact ⟨_, rfl⟩

end STab
end Graphiq
