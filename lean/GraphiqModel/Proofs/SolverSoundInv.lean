/-
  Proofs/SolverSoundInv.lean — the soundness invariant of the time-reversed solver model, and the primitive steps that keep it.

  `Inv np ne T0 s`: the working tableau `s.t` is a real commuting generating set on `np + ne` qubits, and the circuit recorded so
  far, run forwards from the group of `s.t`, generates exactly the target group `T0` whatever the measurement outcomes
  (`GGen`, Proofs/SolverSoundSem.lean).  It is kept by a one-qubit wrapper that undoes what was done to the tableau (`inv_wrap`, through
  `addOneQubit_ggen`), by a recorded CNOT with the same CNOT on the tableau (`inv_cnot`), by the recorded measure-and-reset of an emitter
  in `+Z` (`inv_mcr`) and by a change of generators (`inv_spanEq`); every run of the solver is made of these (`Proofs/SolverSteps.lean`).
-/
import GraphiqModel.Proofs.SolverSoundKey
import GraphiqModel.Proofs.SolverSoundCliff
import GraphiqModel.Proofs.EchelonRref
import GraphiqModel.Proofs.SolverSoundRows
namespace Graphiq.Solver
open Graphiq Graphiq.Cliff PRow STab Tab

theorem actW_identityPair (q : Nat) (a : PRow) : actW q identityPair a = a := by
  rw [actW_eq_lift, tblW_identityPair, lift_one]

theorem actW_lift_fun (q : Nat) (w : List Gen) : actW q w = lift q (tblW w) := funext fun a => actW_eq_lift q w a

theorem img_actW_identity (n q : Nat) (w m : List Gen) (hs : simplify w = some m) (hm : m = identityPair)
    (S : PSet) (hS : Closed n S) : img n (actW q w) S = S := by
  apply img_id_of n _ _ S hS
  intro a
  rw [actW_of_tbl q w m (by rw [simplify_tbl w m hs]), hm, actW_identityPair]
  exact EqOn.refl _ _

/-- **`_add_one_qubit_gate` is sound**: whatever it does to the circuit (insert a simplified wrapper first on the wire, merge with
    the wrapper that is first on the wire, drop an identity), the new circuit run from `S` does what the old circuit did from the
    image of `S` under the forward action of the gate list -/
theorem addOneQubit_ggen (np ne : Nat) (T0 : PSet) (s s' : St) (gs : List Gen) (q : Nat) (hnp : s.np = np) (hq : q < np + ne)
    (h : addOneQubit s gs q = .ok s') (S : PSet) (hS : Closed (np + ne) S)
    (hg : GGen np ne T0 s.circ (img (np + ne) (actW q gs) S)) : GGen np ne T0 s'.circ S := by
  have haut := actW_isAut (np + ne) q hq gs
  rw [actW_lift_fun] at haut hg
  obtain ⟨g', ⟨pre, old, rest, hsplit, hpre, hsimp, rfl⟩ | ⟨hsimp, rfl⟩⟩ := addOneQubit_of_ok s s' gs q h
  · rw [hnp] at hpre
    rw [hsplit] at hg
    have htbl : tblW g' = (tblW old).comp (tblW gs) := by rw [simplify_tbl _ _ hsimp, tblW_append]
    -- running the old wrapper after the local map = running the merged wrapper
    have key : ∀ S1 : PSet, img (np + ne) (actW q old) (img (np + ne) (lift q (tblW gs)) S1) = img (np + ne) (actW q g') S1 := by
      intro S1
      rw [img_img _ _ _ (actW_isAut (np + ne) q hq old)]
      apply img_congr
      intro a
      rw [actW_eq_lift, actW_eq_lift, lift_comp, htbl]
    show GGen np ne T0 (if g' = identityPair then pre ++ rest else pre ++ SOp.wrap g' q :: rest) S
    split
    · next hid =>
      refine ggen_insert np ne q T0 (tblW gs) (tblW_fix gs) haut (SOp.wrap old q :: rest) rest ?_ pre hpre S hS hg
      intro S1 hS1 h1
      obtain ⟨_, h2⟩ : gpre np ne (SOp.wrap old q) _ ∧ ∀ o, GGen np ne T0 rest (gstep np ne (SOp.wrap old q) o _) := h1
      have := h2 false
      show GGen np ne T0 rest S1
      have e : gstep np ne (SOp.wrap old q) false (img (np + ne) (lift q (tblW gs)) S1) = S1 := by
        show img (np + ne) (actW q old) (img (np + ne) (lift q (tblW gs)) S1) = S1
        rw [key S1]
        apply img_id_of _ _ _ S1 hS1
        intro a; rw [hid, actW_identityPair]; exact EqOn.refl _ _
      rw [e] at this; exact this
    · refine ggen_insert np ne q T0 (tblW gs) (tblW_fix gs) haut (SOp.wrap old q :: rest) (SOp.wrap g' q :: rest) ?_ pre hpre S hS hg
      intro S1 _ h1
      obtain ⟨_, h2⟩ : gpre np ne (SOp.wrap old q) _ ∧ ∀ o, GGen np ne T0 rest (gstep np ne (SOp.wrap old q) o _) := h1
      refine ⟨⟨hq, trivial⟩, fun o => ?_⟩
      have := h2 o
      show GGen np ne T0 rest (img (np + ne) (actW q g') S1)
      rw [← key S1]; exact this
  · have e : img (np + ne) (lift q (tblW gs)) S = img (np + ne) (actW q g') S := by
      apply img_congr; intro a
      rw [actW_eq_lift, simplify_tbl _ _ hsimp]
    split
    · next hid =>
      rw [e, img_id_of _ _ (fun a => by rw [hid, actW_identityPair]; exact EqOn.refl _ _) S hS] at hg
      exact hg
    · show GGen np ne T0 (SOp.wrap g' q :: s.circ) S
      refine ⟨⟨hq, trivial⟩, fun o => ?_⟩
      show GGen np ne T0 s.circ (img (np + ne) (actW q g') S)
      rw [← e]; exact hg

/-- the soundness invariant: `s.t` is a real commuting generating set on `np + ne` qubits, and the circuit recorded so far, run forwards
    from the group of `s.t`, generates exactly `T0` whatever the measurement outcomes (`GGen`) -/
structure Inv (np ne : Nat) (T0 : PSet) (s : St) : Prop where
  np_eq : s.np = np
  ne_eq : s.ne = ne
  n_eq : s.t.n = np + ne
  good : s.t.Good
  gen : GGen np ne T0 s.circ s.t.Spn

theorem gate_spn (s : St) (G : Gate) (hG : G.WF s.t.n) : (s.gate G).t.Spn = img s.t.n G.act s.t.Spn := by
  apply pset_ext; intro b
  have sN := norm_spanEq (s.t.applyGate G)
  constructor
  · intro hb
    obtain ⟨a, ha, ea⟩ := applyGate_bwd s.t G hG b (sN.sup b hb)
    exact ⟨a, ha, ea⟩
  · rintro ⟨a, ha, ea⟩
    exact sN.sub b (InSpan.eqv _ _ (applyGate_fwd s.t G hG a ha) ea)

theorem gate_good (s : St) (G : Gate) (hG : G.WF s.t.n) (hg : s.t.Good) : (s.gate G).t.Good :=
  norm_good _ (applyGate_good s.t G hG hg)

theorem inv_spanEq (np ne : Nat) (T0 : PSet) (s : St) (t' : STab) (h : Inv np ne T0 s) (hs : SpanEq s.t t') (hg : t'.Good) :
    Inv np ne T0 { s with t := t' } :=
  ⟨h.np_eq, h.ne_eq, hs.n_eq.symm.trans h.n_eq, hg, by
    show GGen np ne T0 s.circ t'.Spn
    rw [← spanEq_spn _ _ hs]; exact h.gen⟩

/-- a new tableau `t1` whose group is the image under `f` of the old one + a one-qubit wrapper whose forward action undoes `f` -/
theorem inv_wrap (np ne : Nat) (T0 : PSet) (s s' : St) (t1 : STab) (gs : List Gen) (q : Nat) (f : PRow → PRow)
    (h : Inv np ne T0 s) (hq : q < np + ne) (h1n : t1.n = s.t.n) (h1g : t1.Good) (h1s : t1.Spn = img (np + ne) f s.t.Spn)
    (hundo : ∀ a, EqOn (np + ne) (actW q gs (f a)) a)
    (ha : addOneQubit { s with t := t1 } gs q = .ok s') : Inv np ne T0 s' := by
  obtain ⟨et, enp, ene⟩ := addOneQubit_t _ s' gs q ha
  refine ⟨enp.trans h.np_eq, ene.trans h.ne_eq, by rw [et]; exact h1n.trans h.n_eq, by rw [et]; exact h1g, ?_⟩
  rw [et]
  have hcl : Closed (np + ne) s.t.Spn := h.n_eq ▸ spn_closed s.t
  have hcl1 : Closed (np + ne) t1.Spn := (h1n.trans h.n_eq) ▸ spn_closed t1
  apply addOneQubit_ggen np ne T0 { s with t := t1 } s' gs q h.np_eq hq ha _ hcl1
  show GGen np ne T0 s.circ _
  rw [h1s, img_cancel _ _ _ (actW_isAut _ q hq gs) hundo _ hcl]
  exact h.gen

theorem table_undo (n q : Nat) (gs : List Gen) (t : L1) (ht : (tblW gs).comp t = L1.one) (a : PRow) :
    EqOn n (actW q gs (lift q t a)) a := by
  rw [actW_eq_lift, lift_comp, ht, lift_one]; exact EqOn.refl _ _

theorem undo_H (n q : Nat) (a : PRow) : EqOn n (actW q [Gen.H] ((Gate.H q).act a)) a := by
  show EqOn n (actW q [Gen.H] (PRow.h q a)) a
  rw [h_eq_lift]; exact table_undo n q _ tH (by decide) a
theorem undo_P (n q : Nat) (a : PRow) : EqOn n (actW q [Gen.Z, Gen.P] ((Gate.P q).act a)) a := by
  show EqOn n (actW q [Gen.Z, Gen.P] (PRow.s q a)) a
  rw [s_eq_lift]; exact table_undo n q _ tS (by decide) a
theorem undo_X (n q : Nat) (a : PRow) : EqOn n (actW q [Gen.X] ((Gate.X q).act a)) a := by
  show EqOn n (actW q [Gen.X] (PRow.xg q a)) a
  rw [xg_eq_lift]; exact table_undo n q _ tX (by decide) a

/-- a recorded CNOT (an emission, or one between emitters) together with the same CNOT on the tableau: the two cancel -/
theorem inv_cnot (np ne : Nat) (T0 : PSet) (s : St) (op : SOp) (a b : Nat) (h : Inv np ne T0 s)
    (hstep : ∀ o S, gstep np ne op o S = img (np + ne) (PRow.cnot a b) S) (hpre : ∀ S, gpre np ne op S)
    (ha : a < np + ne) (hb : b < np + ne) (hab : a ≠ b) :
    Inv np ne T0 (({ s with circ := op :: s.circ } : St).gate (.CNOT a b)) := by
  have hG : (Gate.CNOT a b).WF s.t.n := by
    show a < s.t.n ∧ b < s.t.n ∧ a ≠ b
    rw [h.n_eq]; exact ⟨ha, hb, hab⟩
  refine ⟨h.np_eq, h.ne_eq, h.n_eq, gate_good ({ s with circ := op :: s.circ } : St) _ hG h.good, ?_⟩
  show GGen np ne T0 (op :: s.circ) _
  refine ⟨hpre _, fun o => ?_⟩
  rw [hstep, gate_spn ({ s with circ := op :: s.circ } : St) _ hG]
  show GGen np ne T0 s.circ (img (np + ne) (PRow.cnot a b) (img s.t.n (PRow.cnot a b) s.t.Spn))
  rw [h.n_eq, img_cancel _ _ _ (isAut_cnot _ _ _ ha hb hab) (fun x => cnot_cnot _ _ _ hab x) _ (h.n_eq ▸ spn_closed s.t)]
  exact h.gen

/-- `_add_one_emitter_cnot` + `cnot_gate` on the tableau -/
theorem inv_addEmitterCnot (np ne : Nat) (T0 : PSet) (s : St) (c t : Nat) (h : Inv np ne T0 s) (hc : c < ne) (ht : t < ne)
    (hct : c ≠ t) : Inv np ne T0 (addEmitterCnot s c t) := by
  unfold addEmitterCnot
  rw [h.np_eq]
  exact inv_cnot np ne T0 s (.cnotEE c t) (np + c) (np + t) h (fun _ _ => rfl) (fun _ => ⟨⟨hc, ht, hct⟩, trivial⟩)
    (Nat.add_lt_add_left hc np) (Nat.add_lt_add_left ht np) (fun h => hct (Nat.add_left_cancel h))

theorem spn_xfree (t : STab) (hg : t.Good) (E : Nat) (hE : E < t.n) (o : Bool) (hZ : t.Spn (Zq E o)) (a : PRow) (ha : t.Spn a) :
    a.x E = false := by
  have := spn_comm t hg a _ ha hZ
  rw [sp_Zq _ _ _ _ hE] at this; exact this

/-- an emitter in `+Z`: `H` and `CNOT(e → photon)` on the tableau together with a recorded `MeasurementCNOTandReset`; by `mcr_key`
    the recorded operation undoes exactly the two gates, for both outcomes -/
theorem inv_mcr (np ne : Nat) (T0 : PSet) (s : St) (e p : Nat) (h : Inv np ne T0 s) (he : e < ne) (hp : p < np)
    (hZ : s.t.Spn (Zq (np + e) false)) :
    Inv np ne T0 (({ (s.gate (.H (np + e))) with circ := SOp.mcr e p :: s.circ } : St).gate (.CNOT (np + e) p)) := by
  have hE' : np + e < np + ne := Nat.add_lt_add_left he np
  have hP' : p < np + ne := Nat.lt_of_lt_of_le hp (Nat.le_add_right np ne)
  have hEP : np + e ≠ p := Nat.ne_of_gt (Nat.lt_of_lt_of_le hp (Nat.le_add_right np e))
  have hE : np + e < s.t.n := h.n_eq ▸ hE'
  have hwfH : (Gate.H (np + e)).WF s.t.n := hE
  have hwfC : (Gate.CNOT (np + e) p).WF (s.gate (.H (np + e))).t.n := by
    show np + e < s.t.n ∧ p < s.t.n ∧ np + e ≠ p
    rw [h.n_eq]; exact ⟨hE', hP', hEP⟩
  have hcl : Closed (np + ne) s.t.Spn := h.n_eq ▸ spn_closed s.t
  have hx := spn_xfree s.t h.good (np + e) hE false hZ
  obtain ⟨k1, k2⟩ := mcr_key (np + ne) (np + e) p hE' hP' hEP s.t.Spn hcl hx hZ
  have hS' : (({ (s.gate (.H (np + e))) with circ := SOp.mcr e p :: s.circ } : St).gate
      (.CNOT (np + e) p)).t.Spn = img (np + ne) (fun a => PRow.cnot (np + e) p (PRow.h (np + e) a)) s.t.Spn := by
    rw [gate_spn ({ (s.gate (.H (np + e))) with circ := SOp.mcr e p :: s.circ } : St) (.CNOT (np + e) p) hwfC]
    show img (s.gate (.H (np + e))).t.n _ (s.gate (.H (np + e))).t.Spn = _
    rw [gate_spn s (.H (np + e)) hwfH]
    show img s.t.n (PRow.cnot (np + e) p) (img s.t.n (PRow.h (np + e)) s.t.Spn) = _
    rw [h.n_eq, img_img _ _ _ (isAut_cnot _ _ _ hE' hP' hEP)]
  refine ⟨((gate_np _ (.CNOT (np + e) p)).trans (gate_np s (.H (np + e)))).trans h.np_eq,
    ((gate_ne _ (.CNOT (np + e) p)).trans (gate_ne s (.H (np + e)))).trans h.ne_eq,
    ((gate_n _ (.CNOT (np + e) p)).trans (gate_n s (.H (np + e)))).trans h.n_eq, gate_good _ _ hwfC (gate_good s _ hwfH h.good), ?_⟩
  show GGen np ne T0 (SOp.mcr e p :: s.circ) _
  rw [hS']
  refine ⟨⟨⟨he, hp⟩, k1⟩, fun o => ?_⟩
  show GGen np ne T0 s.circ (mcrPost (np + ne) (np + e) p o _)
  rw [k2 o]; exact h.gen

/-- `_add_emitter_photon_cnot` + `cnot_gate` on the tableau -/
theorem inv_emit (np ne : Nat) (T0 : PSet) (s : St) (e p : Nat) (h : Inv np ne T0 s) (he : e < ne) (hp : p < np) :
    Inv np ne T0 (({ s with circ := SOp.emit e p :: s.circ } : St).gate (.CNOT (np + e) p)) :=
  inv_cnot np ne T0 s (.emit e p) (np + e) p h (fun _ _ => rfl) (fun _ => ⟨⟨he, hp⟩, trivial⟩) (Nat.add_lt_add_left he np) (Nat.lt_of_lt_of_le hp (Nat.le_add_right np ne))
    (Nat.ne_of_gt (Nat.lt_of_lt_of_le hp (Nat.le_add_right np e)))

theorem insertQubit_row_lt (t : STab) (i : Nat) (hi : i < t.n) : (t.insertQubit t.n).row i = (t.row i).insertCol t.n := by
  simp [STab.insertQubit, hi]

theorem insertQubit_row_n (t : STab) : (t.insertQubit t.n).row t.n = Zq t.n := by simp [STab.insertQubit]

theorem insertQubit_good (t : STab) (hg : t.Good) : (t.insertQubit t.n).Good := by
  have row_lt := insertQubit_row_lt t
  have row_n := insertQubit_row_n t
  constructor
  · intro i hi
    have hi' : i < t.n + 1 := hi
    by_cases e : i < t.n
    · rw [row_lt i e]; exact hg.real i e
    · have : i = t.n := by omega
      rw [this, row_n]; rfl
  · intro i k hi hk
    have hi' : i < t.n + 1 := hi
    have hk' : k < t.n + 1 := hk
    show sp (t.n + 1) _ _ = false
    by_cases e1 : i < t.n <;> by_cases e2 : k < t.n
    · rw [row_lt i e1, row_lt k e2, sp_insertCol _ _ (Nat.le_refl _)]; exact hg.comm i k e1 e2
    · have : k = t.n := by omega
      rw [this, row_lt i e1, row_n]; exact sp_insertCol_Zq _ _ (Nat.le_refl _) _
    · have : i = t.n := by omega
      rw [this, row_lt k e2, row_n, sp_comm]; exact sp_insertCol_Zq _ _ (Nat.le_refl _) _
    · have h1 : i = t.n := by omega
      have h2 : k = t.n := by omega
      rw [h1, h2]; exact sp_self _ _

theorem withEmitters_good (target : STab) (hg : target.Good) (ne : Nat) :
    (withEmitters target ne).Good ∧ (withEmitters target ne).n = target.n + ne := by
  refine ⟨?_, withEmitters_n target ne⟩
  induction ne with
  | zero => exact hg
  | succ k ih => rw [withEmitters_succ]; exact norm_good _ (insertQubit_good _ ih)

end Graphiq.Solver
