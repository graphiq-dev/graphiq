/-
  Proofs/CompareRepairNorm.lean — a circuit DAG is the DAG of a node-labelled operation list: `OpDag W g L` says that `g` is a
  family of register paths over `W` whose operation nodes, in some order along which every path runs, are the labels of `L`
  with the operations of `L`; the path of register `w` is read off `L` (`bodyL`).  The edits of the DAG are edits of the list
  (`insert_at` puts an entry in front of another, `remove_op` deletes one), `unwrap_nodes` and `remove_identity` are one loop
  that rewrites the list entry by entry, and the normalised DAG is a DAG of the flattened list (`OpDag.normalise`).
-/
import GraphiqModel.Proofs.CompareRepairInit
namespace Graphiq.Compare
open Graphiq Graphiq.Export

/-! ## register paths of a node-labelled operation list -/

def bodyL (L : List (Nat × Op)) (w : Wire) : List Nd := (L.filter fun p => touches w p.2).map fun p => Nd.op p.1

theorem touches_iff (w : Wire) (o : Op) : touches w o = true ↔ w ∈ opWires o := by
  simp [touches]

theorem bodyL_append (L1 L2 : List (Nat × Op)) (w : Wire) : bodyL (L1 ++ L2) w = bodyL L1 w ++ bodyL L2 w := by
  unfold bodyL; rw [List.filter_append, List.map_append]

theorem bodyL_cons (p : Nat × Op) (L : List (Nat × Op)) (w : Wire) :
    bodyL (p :: L) w = (if touches w p.2 then [Nd.op p.1] else []) ++ bodyL L w := by
  unfold bodyL; rw [List.filter_cons]; split <;> rfl

theorem mem_bodyL {L : List (Nat × Op)} {w : Wire} {n : Nd} :
    n ∈ bodyL L w ↔ ∃ p ∈ L, w ∈ opWires p.2 ∧ n = .op p.1 := by
  simp only [bodyL, List.mem_map, List.mem_filter, touches_iff]
  exact ⟨fun ⟨p, ⟨a, b⟩, c⟩ => ⟨p, a, b, c.symm⟩, fun ⟨p, a, b, c⟩ => ⟨p, ⟨a, b⟩, c.symm⟩⟩

theorem bodyL_at {L1 L2 : List (Nat × Op)} {k : Nat} {op : Op} {wq : Wire} (hwq : wq ∈ opWires op) :
    bodyL (L1 ++ (k, op) :: L2) wq = bodyL L1 wq ++ Nd.op k :: bodyL L2 wq := by
  rw [bodyL_append, bodyL_cons, if_pos ((touches_iff _ _).2 hwq)]; rfl

theorem bodyL_off {L1 L2 : List (Nat × Op)} {k : Nat} {op : Op} {w : Wire} (hw : w ∉ opWires op) :
    bodyL (L1 ++ (k, op) :: L2) w = bodyL (L1 ++ L2) w := by
  rw [bodyL_append, bodyL_append, bodyL_cons, if_neg (fun h => hw ((touches_iff _ _).1 h))]; rfl

/-- `g` is the circuit DAG, over the registers `W`, of the labelled operation list `L`: the label of an entry is the id of its
    operation node.  Distinct node names, node ids bounded by the counter and no two edges with the same ends and key are
    what `insert_at` and `remove_op` need to keep it. -/
structure OpDag (W : List Wire) (g : MG) (L : List (Nat × Op)) : Prop where
  rep : Rep0 g W (bodyL L)
  gate : ∀ p ∈ L, g.opOf (.op p.1) = some (.gate p.2)
  all : ∀ n o, g.opOf n = some (.gate o) → ∃ k, n = .op k ∧ (k, o) ∈ L
  wires : ∀ p ∈ L, ∀ w ∈ opWires p.2, w ∈ W
  labels : (L.map (·.1)).Nodup
  names : (g.nodes.map (·.1)).Nodup
  ids : ∀ n ∈ g.nodes.map (·.1), ∀ k, n = .op k → k ≤ g.nodeId
  trips : TripNodup g
  count : g.nodes.length = 2 * W.length + L.length

namespace OpDag
variable {W : List Wire} {g : MG} {L : List (Nat × Op)}

theorem onPath (h : OpDag W g L) (n : Nd) (o : Op) (ho : g.opOf n = some (.gate o)) :
    ∀ w' ∈ opWires o, w' ∈ W ∧ n ∈ bodyL L w' := by
  obtain ⟨k, rfl, hk⟩ := h.all n o ho
  exact fun w' hw' => ⟨h.wires _ hk w' hw', mem_bodyL.2 ⟨_, hk, hw', rfl⟩⟩

theorem wireOps_eq (h : OpDag W g L) (w : Wire) : wireOps g (bodyL L) w = (L.map (·.2)).filter (touches w) := by
  unfold wireOps bodyL
  rw [List.filterMap_map, List.filter_map, ← List.filterMap_eq_map]
  apply List.filterMap_congr
  intro p hp
  simp only [Function.comp, gateAt, h.gate p (List.mem_filter.1 hp).1]

theorem opsWires (h : OpDag W g L) : ∀ o ∈ L.map (·.2), ∀ w ∈ opWires o, w ∈ W := by
  intro o ho
  obtain ⟨p, hp, rfl⟩ := List.mem_map.1 ho
  exact h.wires p hp

theorem node_cases (h : OpDag W g L) (n : Nd) (hn : n ∈ g.nodes.map (·.1)) :
    (∃ w ∈ W, n = .inp w ∧ g.opOf n = some (.input w)) ∨ (∃ w ∈ W, n = .out w ∧ g.opOf n = some (.output w)) ∨
    (∃ k o, n = .op k ∧ (k, o) ∈ L) := by
  obtain ⟨p, hp, rfl⟩ := List.mem_map.1 hn
  have ho := opOf_of_mem g h.names p hp
  generalize p.2 = o at ho
  cases o with
  | input w => exact Or.inl ⟨w, (h.rep.kindIn _ _ ho).2, (h.rep.kindIn _ _ ho).1, ho⟩
  | output w => exact Or.inr (Or.inl ⟨w, (h.rep.kindOut _ _ ho).2, (h.rep.kindOut _ _ ho).1, ho⟩)
  | gate o =>
    obtain ⟨k, e, hk⟩ := h.all _ _ ho
    exact Or.inr (Or.inr ⟨k, o, e, hk⟩)

theorem label_fresh (h : OpDag W g L) : g.nodeId + 1 ∉ L.map (·.1) := by
  intro hm
  obtain ⟨p, hp, e⟩ := List.mem_map.1 hm
  have := h.ids _ (opOf_some_mem g _ _ (h.gate p hp)) _ rfl
  omega

theorem label_unique {L1 L2 : List (Nat × Op)} {k : Nat} {o : Op} (h : OpDag W g (L1 ++ (k, o) :: L2)) :
    (∀ q ∈ L1 ++ L2, q.1 ≠ k) ∧ ((L1 ++ L2).map (·.1)).Nodup := by
  have := h.labels
  rw [List.map_append, List.map_cons] at this
  obtain ⟨a, b⟩ := List.nodup_cons.1 (List.perm_middle.nodup_iff.1 this)
  rw [← List.map_append] at a b
  exact ⟨fun q hq e => a (List.mem_map.2 ⟨q, hq, e⟩), b⟩

end OpDag

/-! ## `insert_at` -/

namespace OpDag
variable {W : List Wire} {g : MG} {L : List (Nat × Op)}

/-- **`insert_at` on the in-edge of the node labelled `k`**, for a one-register operation on a register `wq` of that node: the
    edge exists, and the list gains an entry right before `(k, op)` -/
theorem insertBefore {L1 L2 : List (Nat × Op)} {k : Nat} {op : Op} (h : OpDag W g (L1 ++ (k, op) :: L2)) (wq : Wire)
    (hwq : wq ∈ opWires op) (o : Op) (ho : opWires o = [wq]) :
    ∃ e, g.inEdge (.op k) wq = some e ∧ OpDag W (g.insertAt o e) (L1 ++ (g.nodeId + 1, o) :: (k, op) :: L2) := by
  have hW : wq ∈ W := h.wires (k, op) (by simp) wq hwq
  have hwo : wq ∈ opWires o := by rw [ho]; simp
  obtain ⟨m1, a, hm1⟩ := cons_eq_snoc (Nd.inp wq) (bodyL L1 wq)
  have hpath : pathOf (bodyL (L1 ++ (k, op) :: L2)) wq = m1 ++ a :: Nd.op k :: (bodyL L2 wq ++ [Nd.out wq]) := by
    unfold pathOf
    have : Nd.inp wq :: ((bodyL L1 wq ++ Nd.op k :: bodyL L2 wq) ++ [Nd.out wq])
        = (Nd.inp wq :: bodyL L1 wq) ++ Nd.op k :: (bodyL L2 wq ++ [Nd.out wq]) := by simp
    rw [bodyL_at hwq, this, hm1]; simp
  obtain ⟨e, hfind, hem, hes, hed, hek⟩ := h.rep.inEdge_prev hW hpath
  have hfreshN := fresh_op h.ids
  have r1 : Rep0 (g.addNode (g.nodeId + 1) (.gate o)) W _ := h.rep.addNode _ o (by rw [ho]; simp)
  have hxo : (g.addNode (g.nodeId + 1) (.gate o)).opOf (.op (g.nodeId + 1)) = some (.gate o) := opOf_snoc_new g _ _ _ rfl hfreshN
  have hfreshP : Nd.op (g.nodeId + 1) ∉ pathOf (bodyL (L1 ++ (k, op) :: L2)) e.key :=
    fun hm => hfreshN (h.rep.path_mem_nodes _ (hek ▸ hW) _ hm)
  have hnodes : (g.insertAt o e).nodes = g.nodes ++ [(.op (g.nodeId + 1), .gate o)] := rfl
  have r' : Rep0 (g.insertAt o e) W (bodyL (L1 ++ (g.nodeId + 1, o) :: (k, op) :: L2)) :=
    r1.splice e hem (g.nodeId + 1) o hxo (hek ▸ hwo) hfreshP m1 (bodyL L2 wq ++ [Nd.out wq]) (by rw [hek, hes, hed]; exact hpath) _
      (by
        rw [hek, hes, hed]; unfold pathOf
        have : Nd.inp wq :: ((bodyL L1 wq ++ Nd.op (g.nodeId + 1) :: ([Nd.op k] ++ bodyL L2 wq)) ++ [Nd.out wq])
            = (Nd.inp wq :: bodyL L1 wq) ++ Nd.op (g.nodeId + 1) :: Nd.op k :: (bodyL L2 wq ++ [Nd.out wq]) := by simp
        rw [bodyL_at hwo, bodyL_cons, if_pos ((touches_iff _ _).2 hwq), this, hm1]; simp)
      (fun w' hw' => bodyL_off (L2 := (k, op) :: L2) (by rw [ho, List.mem_singleton, ← hek]; exact hw'))
  refine ⟨e, hfind, r', ?_, ?_, ?_, ?_, ?_, ?_, tripNodup_splice r1 h.trips e hem _ hfreshP, ?_⟩
  · intro p hp
    rcases mem_middle.1 hp with rfl | hp
    · exact hxo
    · exact opOf_snoc_old g _ _ _ hnodes _ _ (h.gate p hp)
  · intro n o' ho'
    rcases opOf_snoc_some g _ _ _ hnodes n _ ho' with hg | ⟨rfl, hgo⟩
    · obtain ⟨k', rfl, hk'⟩ := h.all n o' hg
      exact ⟨k', rfl, mem_middle.2 (Or.inr hk')⟩
    · injection hgo with hgo
      exact ⟨_, rfl, mem_middle.2 (Or.inl (by rw [hgo]))⟩
  · intro p hp w hw
    rcases mem_middle.1 hp with rfl | hp
    · rw [ho, List.mem_singleton] at hw; rw [hw]; exact hW
    · exact h.wires p hp w hw
  · have := h.labels
    rw [List.map_append, List.map_cons] at this ⊢
    exact List.perm_middle.nodup_iff.2 (List.nodup_cons.2 ⟨by simpa using h.label_fresh, this⟩)
  · rw [hnodes, List.map_append, List.nodup_append]
    refine ⟨h.names, by simp, fun a ha b hb' hab => ?_⟩
    simp only [List.map_cons, List.map_nil, List.mem_singleton] at hb'
    subst hab hb'; exact hfreshN ha
  · intro n hn k' hk'
    show k' ≤ g.nodeId + 1
    rw [hnodes, List.map_append, List.mem_append] at hn
    rcases hn with hn | hn
    · have := h.ids n hn k' hk'; omega
    · simp only [List.map_cons, List.map_nil, List.mem_singleton] at hn
      rw [hn] at hk'; injection hk' with hk'; omega
  · rw [hnodes, List.length_append, h.count]
    simp only [List.length_append, List.length_cons, List.length_nil]
    omega

end OpDag

/-! ## `remove_op`: the edges -/

def newEdge (ie oe : Edge) : Edge := { src := ie.src, dst := oe.dst, key := oe.key }

def addNew (ie : Edge) (g : MG) (oe : Edge) : MG :=
  if ie.key == oe.key then { g with edges := g.edges ++ [newEdge ie oe] } else g

def rmStep (outs : List Edge) (g : MG) (ie : Edge) : MG := (outs.foldl (addNew ie) g).removeEdge ie

def rmOut (g : MG) (oe : Edge) : MG := g.removeEdge oe

def rmEdges (g : MG) (n : Nd) : MG :=
  (g.edges.filter (fun e => e.src == n)).foldl rmOut
    ((g.edges.filter (fun e => e.dst == n)).foldl (rmStep (g.edges.filter (fun e => e.src == n))) g)

theorem removeOp_eq (g : MG) (n : Nd) :
    g.removeOp n = { rmEdges g n with nodes := (rmEdges g n).nodes.filter (fun p => p.1 != n) } := rfl

/-! ## `remove_op` of a one-register node -/

theorem opOf_removeNode (g g' : MG) (n : Nd) (h : g'.nodes = g.nodes.filter (fun p => p.1 != n)) (m : Nd) :
    g'.opOf m = if m = n then none else g.opOf m := by
  unfold MG.opOf
  rw [h, List.find?_filter]
  by_cases hm : m = n
  · rw [if_pos hm]
    have : g.nodes.find? (fun a => decide ((a.1 != n) = true ∧ (a.1 == m) = true)) = none := by
      rw [List.find?_eq_none]
      intro a _
      rw [hm]
      simp
    rw [this]; rfl
  · rw [if_neg hm]
    have : (fun a : Nd × NOp => decide ((a.1 != n) = true ∧ (a.1 == m) = true)) = (fun a : Nd × NOp => a.1 == m) := by
      funext a
      by_cases ha : a.1 = m
      · have hne : a.1 ≠ n := fun h' => hm (ha.symm.trans h')
        simp [ha, hm]
      · have : (a.1 == m) = false := by simpa using ha
        simp [this]
    rw [this]

theorem filter_singleton_of_trip (l : List Edge) (hn : (l.map trip).Nodup) (P : Edge → Bool) (x : Edge) (hx : x ∈ l) (hPx : P x = true)
    (hall : ∀ e ∈ l, P e = true → trip e = trip x) : l.filter P = [x] := by
  induction l with
  | nil => cases hx
  | cons a rest ih =>
    rw [List.map_cons, List.nodup_cons] at hn
    rcases List.mem_cons.1 hx with rfl | hxr
    · have : rest.filter P = [] := by
        rw [List.filter_eq_nil_iff]
        intro e he hPe
        have := hall e (List.mem_cons_of_mem _ he) hPe
        exact hn.1 (this ▸ List.mem_map_of_mem he)
      rw [List.filter_cons, if_pos hPx, this]
    · have hPa : P a = false := by
        apply Bool.eq_false_iff.2
        intro hPa
        have := hall a (by simp) hPa
        exact hn.1 (this ▸ List.mem_map_of_mem hxr)
      rw [List.filter_cons, hPa]
      exact ih hn.2 hxr (fun e he => hall e (List.mem_cons_of_mem _ he))

theorem perm_cons_filter (ns : List (Nd × NOp)) (hnd : (ns.map (·.1)).Nodup) (e : Nd × NOp) (he : e ∈ ns) :
    ns.Perm (e :: ns.filter (fun q => q.1 != e.1)) := by
  induction ns with
  | nil => cases he
  | cons a rest ih =>
    simp only [List.map_cons, List.nodup_cons] at hnd
    rcases List.mem_cons.1 he with rfl | he'
    · have : (e :: rest).filter (fun q => q.1 != e.1) = rest := by
        rw [List.filter_cons_of_neg (by simp), List.filter_eq_self]
        intro q hq
        have : q.1 ≠ e.1 := fun h' => hnd.1 (h' ▸ List.mem_map_of_mem hq)
        simpa using this
      rw [this]
    · have hne : a.1 ≠ e.1 := fun h' => hnd.1 (h' ▸ List.mem_map_of_mem he')
      have : (a :: rest).filter (fun q => q.1 != e.1) = a :: rest.filter (fun q => q.1 != e.1) := by
        rw [List.filter_cons_of_pos (by simpa using hne)]
      rw [this]
      exact ((ih hnd.2 he').cons a).trans (List.Perm.swap e a _)

/-- **`remove_op` of a one-register operation node takes it out of the path of its register** (the converse of `Rep0.splice`) -/
theorem Rep0.removeOne {g : MG} {W : List Wire} {body : Wire → List Nd} (r : Rep0 g W body) (t : TripNodup g) (p : Nd) (o : Op)
    (hp : g.opOf p = some (.gate o)) (wq : Wire) (hwq : wq ∈ W) (ho : opWires o = [wq]) (b1 b2 : List Nd)
    (hb : body wq = b1 ++ p :: b2) (body' : Wire → List Nd) (hsame : body' wq = b1 ++ b2)
    (hoth : ∀ w, w ≠ wq → body' w = body w) :
    Rep0 (g.removeOp p) W body' ∧ TripNodup (g.removeOp p) ∧
      (∀ m, (g.removeOp p).opOf m = if m = p then none else g.opOf m) ∧
      (g.removeOp p).nodes = g.nodes.filter (fun q => q.1 != p) ∧ (g.removeOp p).nodeId = g.nodeId := by
  obtain ⟨l1, a, hl1⟩ := cons_eq_snoc (Nd.inp wq) b1
  obtain ⟨b, l2, hl2⟩ : ∃ b l2, b2 ++ [Nd.out wq] = b :: l2 := by
    cases hh : b2 ++ [Nd.out wq] with
    | nil => simp at hh
    | cons b l2 => exact ⟨b, l2, rfl⟩
  have hpath : pathOf body wq = l1 ++ a :: p :: b :: l2 := by
    unfold pathOf
    rw [hb]
    have : Nd.inp wq :: ((b1 ++ p :: b2) ++ [Nd.out wq]) = (Nd.inp wq :: b1) ++ p :: (b2 ++ [Nd.out wq]) := by simp
    rw [this, hl1, hl2]; simp
  have hpath' : pathOf body' wq = l1 ++ a :: b :: l2 := by
    unfold pathOf
    rw [hsame]
    have : Nd.inp wq :: ((b1 ++ b2) ++ [Nd.out wq]) = (Nd.inp wq :: b1) ++ (b2 ++ [Nd.out wq]) := by simp
    rw [this, hl1, hl2]; simp
  have hnd := r.pathNodup wq hwq
  have hpother : ∀ w', w' ≠ wq → pathOf body' w' = pathOf body w' := by
    intro w' hw'; unfold pathOf; rw [hoth w' hw']
  -- `p` lies on the path of `wq` only
  have honly : ∀ k ∈ W, p ∈ pathOf body k → k = wq := by
    intro k hk hm
    have := (r.gate_on_path k hk p o hp hm).2
    rw [ho, List.mem_singleton] at this
    exact this
  have hpnot : p ∉ l1 ++ a :: b :: l2 := by
    rw [hpath] at hnd
    have hperm : (l1 ++ a :: p :: b :: l2).Perm (p :: (l1 ++ a :: b :: l2)) := by
      have e1 : l1 ++ a :: p :: b :: l2 = (l1 ++ [a]) ++ p :: (b :: l2) := by simp
      have e2 : l1 ++ a :: b :: l2 = (l1 ++ [a]) ++ (b :: l2) := by simp
      rw [e1, e2]; exact List.perm_middle
    exact (List.nodup_cons.1 (hperm.nodup_iff.1 hnd)).1
  have hin : ∀ ie ∈ g.edges, ie.dst = p → ie.key = wq ∧ ie.src = a := by
    intro ie hie hd
    obtain ⟨hk, m1, m2, hm⟩ := r.edge_sound0 ie hie
    have hkq : ie.key = wq := honly _ hk (by rw [hm, hd]; simp)
    rw [hkq, hd, hpath] at hm
    have e1 : l1 ++ a :: p :: b :: l2 = (l1 ++ [a]) ++ p :: (b :: l2) := by simp
    have e2 : m1 ++ ie.src :: p :: m2 = (m1 ++ [ie.src]) ++ p :: m2 := by simp
    rw [hpath] at hnd
    obtain ⟨h1, _⟩ := nodup_split_unique _ hnd p _ _ _ _ e1 (hm.trans e2)
    exact ⟨hkq, ((List.append_inj' h1 rfl).2 |> fun h' => by injection h' with h' _; exact h'.symm)⟩
  have hout : ∀ oe ∈ g.edges, oe.src = p → oe.key = wq ∧ oe.dst = b := by
    intro oe hoe hs
    obtain ⟨hk, m1, m2, hm⟩ := r.edge_sound0 oe hoe
    have hkq : oe.key = wq := honly _ hk (by rw [hm, hs]; simp)
    rw [hkq, hs, hpath] at hm
    have e1 : l1 ++ a :: p :: b :: l2 = (l1 ++ [a]) ++ p :: (b :: l2) := by simp
    rw [hpath] at hnd
    obtain ⟨_, h2⟩ := nodup_split_unique _ hnd p _ _ _ _ e1 hm
    injection h2 with h2 _
    exact ⟨hkq, h2.symm⟩
  have hap : a ≠ p := fun h' => hpnot (by rw [← h']; simp)
  have hbp : b ≠ p := fun h' => hpnot (by rw [← h']; simp)
  -- `p` has exactly one in-edge and one out-edge, so the two loops of `remove_op` bridge them by one edge and remove them
  obtain ⟨ie, hie, hie1, hie2, hie3⟩ := r.edge_complete wq hwq a p (by rw [hpath]; exact ⟨l1, b :: l2, rfl⟩)
  obtain ⟨oe, hoe, hoe1, hoe2, hoe3⟩ := r.edge_complete wq hwq p b (by rw [hpath]; exact ⟨l1 ++ [a], l2, by simp⟩)
  have hins : g.edges.filter (fun e => e.dst == p) = [ie] := by
    apply filter_singleton_of_trip g.edges t _ ie hie (by simp [hie2])
    intro e he hP
    have hd : e.dst = p := by simpa using hP
    obtain ⟨hk, hs⟩ := hin e he hd
    simp only [trip, hd, hk, hs, hie1, hie2, hie3]
  have houts : g.edges.filter (fun e => e.src == p) = [oe] := by
    apply filter_singleton_of_trip g.edges t _ oe hoe (by simp [hoe1])
    intro e he hP
    have hs : e.src = p := by simpa using hP
    obtain ⟨hk, hd⟩ := hout e he hs
    simp only [trip, hd, hk, hs, hoe1, hoe2, hoe3]
  have hrm : rmEdges g p = (({ g with edges := g.edges ++ [newEdge ie oe] } : MG).removeEdge ie).removeEdge oe := by
    have hkeq : (ie.key == oe.key) = true := by simp [hie3, hoe3]
    unfold rmEdges
    rw [hins, houts]
    simp only [List.foldl_cons, List.foldl_nil, rmStep, rmOut, addNew, hkeq, if_true]
  have hnodes : (g.removeOp p).nodes = g.nodes.filter (fun q => q.1 != p) := by
    rw [removeOp_eq, hrm]; rfl
  have hedges : (g.removeOp p).edges = (rmEdges g p).edges := by rw [removeOp_eq]
  have hmemE : ∀ e', e' ∈ (g.removeOp p).edges ↔
      ((e' ∈ g.edges ∨ e' = newEdge ie oe) ∧ ¬(e'.src = ie.src ∧ e'.dst = ie.dst ∧ e'.key = ie.key)) ∧
        ¬(e'.src = oe.src ∧ e'.dst = oe.dst ∧ e'.key = oe.key) := by
    intro e'
    rw [hedges, hrm, mem_removeEdge, mem_removeEdge]
    simp only [List.mem_append, List.mem_singleton]
  have hkeep : ∀ e0 ∈ g.edges, e0.src ≠ p → e0.dst ≠ p → e0 ∈ (g.removeOp p).edges :=
    fun e0 he0 hs hd => (hmemE e0).2 ⟨⟨Or.inl he0, fun hh => hd (hh.2.1.trans hie2)⟩, fun hh => hs (hh.1.trans hoe1)⟩
  have hop : ∀ m, (g.removeOp p).opOf m = if m = p then none else g.opOf m := opOf_removeNode g _ p hnodes
  have hopne : ∀ m, m ≠ p → (g.removeOp p).opOf m = g.opOf m := fun m hm => by rw [hop m, if_neg hm]
  have hsome : ∀ m x, (g.removeOp p).opOf m = some x → m ≠ p ∧ g.opOf m = some x :=
    fun m x hm => Option.ite_none_left_eq_some.1 ((hop m).symm.trans hm)
  have hrep : Rep0 (g.removeOp p) W body' := by
    refine ⟨?_, ?_, ?_, ?_, ?_, ?_, ?_, ?_, ?_, ?_⟩
    · intro w hw
      by_cases hk : w = wq
      · subst hk
        rw [hpath']
        rw [hpath] at hnd
        refine hnd.sublist ?_
        exact List.Sublist.append (List.Sublist.refl l1) (List.Sublist.cons_cons a (List.Sublist.cons p (List.Sublist.refl _)))
      · rw [hpother w hk]; exact r.pathNodup w hw
    · intro w hw n hn
      have hnb : n ∈ body w ∧ n ≠ p := by
        by_cases hk : w = wq
        · subst hk
          rw [hsame] at hn
          refine ⟨by rw [hb]; exact mem_middle.2 (Or.inr hn), ?_⟩
          rintro rfl
          apply hpnot
          rw [← hpath']
          exact (mem_pathOf _ _ _).2 (Or.inr (Or.inl (by rw [hsame]; exact hn)))
        · rw [hoth w hk] at hn
          refine ⟨hn, ?_⟩
          rintro rfl
          exact hk (honly w hw ((mem_pathOf _ _ _).2 (Or.inr (Or.inl hn))))
      obtain ⟨id, o', h1, h2, h3⟩ := r.bodyOp w hw n hnb.1
      exact ⟨id, o', h1, by rw [hopne n hnb.2]; exact h2, h3⟩
    · intro w hw
      have : Nd.inp w ≠ p := by
        intro h'; rw [← h', r.inpOp w hw] at hp; cases hp
      rw [hopne _ this]; exact r.inpOp w hw
    · intro w hw
      have : Nd.out w ≠ p := by
        intro h'; rw [← h', r.outOp w hw] at hp; cases hp
      rw [hopne _ this]; exact r.outOp w hw
    · exact fun n w hn => r.kindIn n w (hsome n _ hn).2
    · exact fun n w hn => r.kindOut n w (hsome n _ hn).2
    · exact fun n o' hn => r.wiresNodup n o' (hsome n _ hn).2
    · intro e' he'
      obtain ⟨⟨hor, hni⟩, hno⟩ := (hmemE e').1 he'
      rcases hor with hold | rfl
      · obtain ⟨hkW, hadj⟩ := r.edge_sound0 e' hold
        have hd : e'.dst ≠ p := by
          intro hd
          obtain ⟨hk, hs⟩ := hin e' hold hd
          exact hni ⟨hs.trans hie1.symm, hd.trans hie2.symm, hk.trans hie3.symm⟩
        have hs : e'.src ≠ p := by
          intro hs
          obtain ⟨hk, hd'⟩ := hout e' hold hs
          exact hno ⟨hs.trans hoe1.symm, hd'.trans hoe2.symm, hk.trans hoe3.symm⟩
        refine ⟨hkW, ?_⟩
        by_cases hkq : e'.key = wq
        · rw [hkq] at hadj ⊢
          rw [hpath']
          rw [hpath] at hadj
          rcases adj_insert_inv l1 l2 a b p _ _ hadj with ⟨_, h2⟩ | ⟨h1, _⟩ | h3
          · exact absurd h2 hd
          · exact absurd h1 hs
          · exact h3
        · rw [hpother _ hkq]; exact hadj
      · show (newEdge ie oe).key ∈ W ∧ Adj (pathOf _ (newEdge ie oe).key) (newEdge ie oe).src (newEdge ie oe).dst
        simp only [newEdge, hoe3, hie1, hoe2]
        exact ⟨hwq, by rw [hpath']; exact ⟨l1, l2, rfl⟩⟩
    · intro w hw u v hadj
      by_cases hk : w = wq
      · subst hk
        rw [hpath'] at hadj
        by_cases huv : u = a ∧ v = b
        · obtain ⟨rfl, rfl⟩ := huv
          refine ⟨newEdge ie oe, (hmemE _).2 ⟨⟨Or.inr rfl, ?_⟩, ?_⟩, hie1, hoe2, hoe3⟩
          · exact fun hh => hbp (hoe2.symm.trans (hh.2.1.trans hie2))
          · exact fun hh => hap (hie1.symm.trans (hh.1.trans hoe1))
        · have hold := adj_insert l1 l2 a b p u v hadj huv
          rw [← hpath] at hold
          obtain ⟨e0, he0, h1, h2, h3⟩ := r.edge_complete w hw u v hold
          have hu : u ≠ p := by
            rintro rfl; exact hpnot (adj_mem_left hadj)
          have hv : v ≠ p := by
            rintro rfl; exact hpnot (adj_mem_right hadj)
          exact ⟨e0, hkeep e0 he0 (by rw [h1]; exact hu) (by rw [h2]; exact hv), h1, h2, h3⟩
      · rw [hpother w hk] at hadj
        obtain ⟨e0, he0, h1, h2, h3⟩ := r.edge_complete w hw u v hadj
        have hu : u ≠ p := by
          rintro rfl; exact hk (honly w hw (adj_mem_left hadj))
        have hv : v ≠ p := by
          rintro rfl; exact hk (honly w hw (adj_mem_right hadj))
        exact ⟨e0, hkeep e0 he0 (by rw [h1]; exact hu) (by rw [h2]; exact hv), h1, h2, h3⟩
    · intro w hm
      apply r.inputsW w
      rw [hnodes] at hm
      obtain ⟨q, hq, hq1⟩ := List.mem_map.1 hm
      exact List.mem_map.2 ⟨q, (List.mem_filter.1 hq).1, hq1⟩
  refine ⟨hrep, ?_, hop, hnodes, by rw [removeOp_eq, hrm]; rfl⟩
  · unfold TripNodup
    rw [hedges, hrm]
    unfold MG.removeEdge
    refine List.Nodup.sublist (List.Sublist.map _ (List.filter_sublist.trans List.filter_sublist)) ?_
    show ((g.edges ++ [newEdge ie oe]).map trip).Nodup
    rw [List.map_append, List.nodup_append]
    refine ⟨t, by simp, ?_⟩
    intro x hx x' hx' hxx
    simp only [List.map_cons, List.map_nil, List.mem_singleton] at hx'
    obtain ⟨e', he', hte'⟩ := List.mem_map.1 hx
    rw [hxx, hx'] at hte'
    simp only [trip, newEdge, Prod.mk.injEq] at hte'
    obtain ⟨hs', hd', hk'⟩ := hte'
    obtain ⟨_, hadj⟩ := r.edge_sound0 e' he'
    rw [hs', hd', hk', hie1, hoe2, hoe3, hpath] at hadj
    obtain ⟨r', hr'⟩ := adj_next _ (hpath ▸ hnd) l1 (p :: b :: l2) a b rfl hadj
    injection hr' with hpb _
    apply hpnot
    rw [hpb]
    simp

namespace OpDag
variable {W : List Wire} {g : MG} {L : List (Nat × Op)}

/-- **`remove_op` of a one-register operation node**: its entry leaves the list -/
theorem remove {L1 L2 : List (Nat × Op)} {k : Nat} {o : Op} (h : OpDag W g (L1 ++ (k, o) :: L2)) (wq : Wire)
    (ho : opWires o = [wq]) : OpDag W (g.removeOp (.op k)) (L1 ++ L2) := by
  have hwo : wq ∈ opWires o := by rw [ho]; simp
  have hp := h.gate (k, o) (by simp)
  obtain ⟨hrep, htrips, hop, hnodes, hid⟩ := h.rep.removeOne h.trips (.op k) o hp wq (h.wires (k, o) (by simp) wq hwo) ho _ _
    (bodyL_at hwo) (bodyL (L1 ++ L2)) (bodyL_append ..) (fun w hw => (bodyL_off (by rw [ho]; simpa using hw)).symm)
  obtain ⟨hk, hlab⟩ := h.label_unique
  have hsub : ∀ n, n ∈ (g.removeOp (.op k)).nodes.map (·.1) → n ∈ g.nodes.map (·.1) := by
    intro n hn
    rw [hnodes] at hn
    obtain ⟨q, hq, hq1⟩ := List.mem_map.1 hn
    exact List.mem_map.2 ⟨q, (List.mem_filter.1 hq).1, hq1⟩
  refine ⟨hrep, ?_, ?_, fun q hq => h.wires q (mem_middle.2 (Or.inr hq)), hlab, ?_, ?_, htrips, ?_⟩
  · intro q hq
    rw [hop, if_neg (fun e => hk q hq (by injection e))]
    exact h.gate q (mem_middle.2 (Or.inr hq))
  · intro n o' ho'
    obtain ⟨hne, ho'⟩ := Option.ite_none_left_eq_some.1 ((hop n).symm.trans ho')
    obtain ⟨k', rfl, hk'⟩ := h.all n o' ho'
    rcases mem_middle.1 hk' with e | hk'
    · injection e with e; exact absurd (by rw [e]) hne
    · exact ⟨k', rfl, hk'⟩
  · rw [hnodes]
    exact h.names.sublist (List.Sublist.map _ List.filter_sublist)
  · intro n hn k' hk'
    rw [hid]
    exact h.ids n (hsub n hn) k' hk'
  · have := (perm_cons_filter g.nodes h.names _ (opOf_some_pair_mem g _ _ hp)).length_eq
    rw [hnodes]
    simp only [List.length_cons] at this
    have hc := h.count
    simp only [List.length_append, List.length_cons] at hc ⊢
    omega

end OpDag

/-! ## a loop that replaces, one after the other, the nodes listed beforehand -/

theorem flatMap_ite_of_none (P : Op → Bool) (R : Op → List Op) (l : List Op) (h : ∀ o ∈ l, P o = false) :
    l.flatMap (fun o => if P o then R o else [o]) = l := by
  induction l with
  | nil => rfl
  | cons a rest ih =>
    rw [List.flatMap_cons, ih (fun o ho => h o (List.mem_cons_of_mem _ ho)), h a (by simp)]; rfl

namespace OpDag
variable {W : List Wire} {g : MG} {L : List (Nat × Op)}

/-- `unwrap_nodes` and `remove_identity` have one shape: the nodes whose operation satisfies `P` are listed first
    (`todo`), then each is replaced, where it stands, by nodes carrying `R o`; the operation list is rewritten by `R` -/
theorem fold_replace (P : Op → Bool) (R : Op → List Op) (step : MG → Nd × NOp → MG)
    (hR : ∀ o, P o = true → ∀ o' ∈ R o, P o' = false)
    (hstep : ∀ (g : MG) (L1 L2 : List (Nat × Op)) (k : Nat) (o : Op), P o = true → OpDag W g (L1 ++ (k, o) :: L2) →
      ∃ new, OpDag W (step g (.op k, .gate o)) (L1 ++ new ++ L2) ∧ new.map (·.2) = R o) :
    ∀ (todo : List (Nd × NOp)) (g : MG) (L : List (Nat × Op)), OpDag W g L → (todo.map (·.1)).Nodup →
      (∀ p ∈ todo, ∃ k o, p = (.op k, .gate o) ∧ (k, o) ∈ L ∧ P o = true) →
      (∀ q ∈ L, P q.2 = true → (Nd.op q.1, NOp.gate q.2) ∈ todo) →
      ∃ L', OpDag W (todo.foldl step g) L' ∧ L'.map (·.2) = (L.map (·.2)).flatMap (fun o => if P o then R o else [o]) := by
  intro todo
  induction todo with
  | nil =>
    intro g L h _ _ hall
    refine ⟨L, h, (flatMap_ite_of_none P R _ ?_).symm⟩
    intro o ho
    obtain ⟨q, hq, rfl⟩ := List.mem_map.1 ho
    cases hP : P q.2 with
    | false => rfl
    | true => cases hall q hq hP
  | cons p rest ih =>
    intro g L h hnd htodo hall
    obtain ⟨k, o, rfl, hko, hP⟩ := htodo _ (List.mem_cons_self ..)
    obtain ⟨L1, L2, rfl⟩ := List.append_of_mem hko
    obtain ⟨new, hd, hnew⟩ := hstep g L1 L2 k o hP h
    simp only [List.map_cons, List.nodup_cons] at hnd
    have hk := h.label_unique.1
    have hsub : ∀ q, q ∈ L1 ++ L2 → q ∈ L1 ++ new ++ L2 := by
      intro q hq
      rcases List.mem_append.1 hq with h' | h'
      · exact List.mem_append_left _ (List.mem_append_left _ h')
      · exact List.mem_append_right _ h'
    obtain ⟨L', hd', hL'⟩ := ih _ _ hd hnd.2
      (by
        intro p' hp'
        obtain ⟨k', o', rfl, hk', hP'⟩ := htodo p' (List.mem_cons_of_mem _ hp')
        refine ⟨k', o', rfl, hsub _ ((mem_middle.1 hk').resolve_left ?_), hP'⟩
        intro e
        injection e with e1 e2
        exact hnd.1 (List.mem_map.2 ⟨_, hp', by rw [e1]⟩))
      (by
        intro q hq hPq
        have hq' : q ∈ L1 ++ L2 := by
          rcases List.mem_append.1 hq with h' | h'
          · rcases List.mem_append.1 h' with h'' | h''
            · exact List.mem_append_left _ h''
            · have := hR o hP q.2 (hnew ▸ List.mem_map_of_mem h'')
              rw [this] at hPq; cases hPq
          · exact List.mem_append_right _ h'
        rcases List.mem_cons.1 (hall q (mem_middle.2 (Or.inr hq')) hPq) with e | hr
        · injection e with e1 _; injection e1 with e1; exact absurd e1 (hk q hq')
        · exact hr)
    refine ⟨L', hd', ?_⟩
    rw [hL']
    simp only [List.map_append, List.map_cons, List.flatMap_append, List.flatMap_cons, hP, if_true, hnew,
      flatMap_ite_of_none P R _ (hR o hP), List.append_assoc]

/-- the nodes `unwrap_nodes` / `remove_identity` list beforehand (`node_dict[...]`) are the entries of `L` with the property -/
theorem listed_nodes (h : OpDag W g L) (Q : NOp → Bool) (hin : ∀ w, Q (.input w) = false) (hout : ∀ w, Q (.output w) = false) :
    ((g.nodes.filter fun p => Q p.2).map (·.1)).Nodup ∧
    (∀ p ∈ g.nodes.filter fun p => Q p.2, ∃ k o, p = (.op k, .gate o) ∧ (k, o) ∈ L ∧ Q (.gate o) = true) ∧
    (∀ q ∈ L, Q (.gate q.2) = true → (Nd.op q.1, NOp.gate q.2) ∈ g.nodes.filter fun p => Q p.2) := by
  refine ⟨h.names.sublist (List.Sublist.map _ List.filter_sublist), ?_, ?_⟩
  · intro p hp
    obtain ⟨a, b⟩ := List.mem_filter.1 hp
    have hop := opOf_of_mem g h.names p a
    cases hp2 : p.2 with
    | input w => rw [hp2, hin] at b; cases b
    | output w => rw [hp2, hout] at b; cases b
    | gate o =>
      rw [hp2] at hop b
      obtain ⟨k, e, hk⟩ := h.all _ _ hop
      exact ⟨k, o, Prod.ext e hp2, hk, b⟩
  · intro q hq hQ
    exact List.mem_filter.2 ⟨opOf_some_pair_mem g _ _ (h.gate q hq), hQ⟩

end OpDag

/-! ## `unwrap_nodes`, `remove_identity` -/

/-- the loop of `unwrap_nodes` for one wrapper: insert `us` (application order) on the in-edge of `p` -/
def insertAll (p : Nd) (wq : Wire) (us : List Op) (g : MG) : MG :=
  us.foldl (fun g o => match g.inEdge p wq with
    | some e => g.insertAt o e
    | none => g) g

theorem unwrap_wires (gs : List G1) (q : QReg) : ∀ o ∈ Op.unwrap (.wrap gs q), opWires o = [Wire.ofQ q] := by
  intro o ho
  simp only [Op.unwrap, List.mem_map] at ho
  obtain ⟨g1, _, rfl⟩ := ho
  rfl

def unwrapStep (g : MG) (p : Nd × NOp) : MG :=
  match p.2 with
  | .gate (.wrap gs q) => (insertAll p.1 (Wire.ofQ q) (Op.unwrap (.wrap gs q)) g).removeOp p.1
  | _ => g

theorem unwrapNodes_eq (g : MG) : g.unwrapNodes = (g.nodes.filter (fun p => isWrapper p.2)).foldl unwrapStep g := rfl

theorem removeIdentity_eq (g : MG) :
    g.removeIdentity = (g.nodes.filter (fun p => isIdentityNode p.2)).foldl (fun g p => g.removeOp p.1) g := rfl

namespace OpDag
variable {W : List Wire} {g : MG} {L : List (Nat × Op)}

theorem insertMany {L1 L2 : List (Nat × Op)} {k : Nat} {op : Op} (wq : Wire) (hwq : wq ∈ opWires op) :
    ∀ (us : List Op) (g : MG) (ins0 : List (Nat × Op)), OpDag W g (L1 ++ ins0 ++ (k, op) :: L2) →
      (∀ o ∈ us, opWires o = [wq]) →
      ∃ ins, OpDag W (insertAll (.op k) wq us g) (L1 ++ ins0 ++ ins ++ (k, op) :: L2) ∧ ins.map (·.2) = us := by
  intro us
  induction us with
  | nil => intro g ins0 h _; exact ⟨[], by simpa [insertAll] using h, rfl⟩
  | cons o us' ih =>
    intro g ins0 h hus
    obtain ⟨e, hfind, hd⟩ := h.insertBefore wq hwq o (hus o (by simp))
    have hstep : insertAll (.op k) wq (o :: us') g = insertAll (.op k) wq us' (g.insertAt o e) := by
      unfold insertAll; rw [List.foldl_cons, hfind]
    obtain ⟨ins, hd', hins⟩ := ih (g.insertAt o e) (ins0 ++ [(g.nodeId + 1, o)]) (by simpa using hd)
      (fun o' ho' => hus o' (List.mem_cons_of_mem _ ho'))
    exact ⟨(g.nodeId + 1, o) :: ins, by rw [hstep]; simpa using hd', by simp [hins]⟩

theorem unwrapOne {L1 L2 : List (Nat × Op)} {k : Nat} {gs : List G1} {q : QReg} (h : OpDag W g (L1 ++ (k, .wrap gs q) :: L2)) :
    ∃ new, OpDag W (unwrapStep g (.op k, .gate (.wrap gs q))) (L1 ++ new ++ L2) ∧ new.map (·.2) = Op.unwrap (.wrap gs q) := by
  obtain ⟨ins, hd, hins⟩ := insertMany (op := .wrap gs q) (Wire.ofQ q) (List.mem_singleton.2 rfl) (Op.unwrap (.wrap gs q)) g []
    (by simpa using h) (unwrap_wires gs q)
  have := hd.remove (Wire.ofQ q) rfl
  rw [List.append_nil] at this
  exact ⟨ins, this, hins⟩

/-- **normalisation commutes with reading off the operations**: the normalised DAG is a circuit DAG of the flattened list -/
theorem normalise (h : OpDag W g L) : ∃ L', OpDag W g.normalise L' ∧ L'.map (·.2) = flat (L.map (·.2)) := by
  obtain ⟨a1, a2, a3⟩ := h.listed_nodes isWrapper (fun _ => rfl) (fun _ => rfl)
  obtain ⟨L1, d1, e1⟩ := fold_replace (fun o => isWrapper (.gate o)) Op.unwrap unwrapStep
    (by
      intro o ho o' ho'
      cases ho'' : isWrapper (.gate o') with
      | false => rfl
      | true =>
        cases o' with
        | wrap gs q => exact absurd rfl (Export.unwrap_no_wrap o _ ho' gs q)
        | _ => cases ho'')
    (by
      intro g L1 L2 k o ho hd
      cases o with
      | wrap gs q => exact hd.unwrapOne
      | _ => cases ho)
    _ g L h a1 a2 a3
  rw [← unwrapNodes_eq] at d1
  obtain ⟨b1, b2, b3⟩ := d1.listed_nodes isIdentityNode (fun _ => rfl) (fun _ => rfl)
  obtain ⟨L2, d2, e2⟩ := fold_replace (fun o => isIdentityNode (.gate o)) (fun _ => []) (fun g p => g.removeOp p.1)
    (by intro _ _ _ h'; cases h')
    (by
      intro g L1 L2 k o ho hd
      have : ∃ q, o = .one .I q := by
        cases o with
        | one g1 q => cases g1 <;> first | exact ⟨q, rfl⟩ | cases ho
        | _ => cases ho
      obtain ⟨q, rfl⟩ := this
      exact ⟨[], by simpa using hd.remove (Wire.ofQ q) rfl, rfl⟩)
    _ _ L1 d1 b1 b2 b3
  rw [← removeIdentity_eq] at d2
  refine ⟨L2, d2, ?_⟩
  rw [e2, e1]
  unfold flat
  have u : ∀ l : List Op, l.flatMap (fun o => if isWrapper (.gate o) then Op.unwrap o else [o]) = l.flatMap Op.unwrap := by
    intro l; congr 1; funext o; cases o <;> rfl
  have i : ∀ l : List Op, l.flatMap (fun o => if isIdentityNode (.gate o) then [] else [o]) = l.filter (fun o => !o.isIdentity) := by
    intro l
    induction l with
    | nil => rfl
    | cons a rest ih =>
      rw [List.flatMap_cons, ih, List.filter_cons]
      have : isIdentityNode (.gate a) = a.isIdentity := by cases a with | one g1 q => cases g1 <;> rfl | _ => rfl
      rw [this]
      cases a.isIdentity <;> rfl
  rw [u, i]

end OpDag

/-! ## flattening -/

def nonId (o : Op) : Bool := !o.isIdentity

theorem flatMap_unwrap_of_no_wrap (l : List Op) (h : ∀ o ∈ l, ∀ gs q, o ≠ .wrap gs q) : l.flatMap Op.unwrap = l := by
  induction l with
  | nil => rfl
  | cons a rest ih =>
    rw [List.flatMap_cons, ih (fun o ho => h o (List.mem_cons_of_mem _ ho))]
    cases a with
    | wrap gs q => exact absurd rfl (h _ (by simp) gs q)
    | one _ _ => rfl
    | ctrl _ _ _ => rfl
    | cctrl _ _ _ _ => rfl
    | meas _ _ => rfl

theorem opWires_unwrap (o o' : Op) (h : o' ∈ Op.unwrap o) : opWires o' = opWires o := by
  cases o with
  | wrap gs q =>
    simp only [Op.unwrap, List.mem_map] at h
    obtain ⟨_, _, rfl⟩ := h
    rfl
  | one _ _ => simp only [Op.unwrap, List.mem_singleton] at h; rw [h]
  | ctrl _ _ _ => simp only [Op.unwrap, List.mem_singleton] at h; rw [h]
  | cctrl _ _ _ _ => simp only [Op.unwrap, List.mem_singleton] at h; rw [h]
  | meas _ _ => simp only [Op.unwrap, List.mem_singleton] at h; rw [h]

theorem touches_unwrap (w : Wire) (o o' : Op) (h : o' ∈ Op.unwrap o) : touches w o' = touches w o := by
  unfold touches
  rw [opWires_unwrap o o' h]

theorem filter_touches_flatMap_unwrap (w : Wire) (l : List Op) :
    (l.flatMap Op.unwrap).filter (touches w) = (l.filter (touches w)).flatMap Op.unwrap := by
  induction l with
  | nil => rfl
  | cons a rest ih =>
    rw [List.flatMap_cons, List.filter_append, ih]
    by_cases ha : touches w a = true
    · rw [List.filter_cons_of_pos ha, List.flatMap_cons]
      congr 1
      rw [List.filter_eq_self]
      intro o ho
      rw [touches_unwrap w a o ho]; exact ha
    · rw [List.filter_cons_of_neg ha]
      have : (Op.unwrap a).filter (touches w) = [] := by
        rw [List.filter_eq_nil_iff]
        intro o ho
        rw [touches_unwrap w a o ho]; exact ha
      rw [this]; rfl

theorem flat_filter_touches (w : Wire) (l : List Op) :
    (flat l).filter (touches w) = ((l.filter (touches w)).flatMap Op.unwrap).filter nonId := by
  unfold flat
  rw [← filter_touches_flatMap_unwrap, List.filter_filter, List.filter_filter]
  apply List.filter_congr
  intro o _
  unfold nonId
  rw [Bool.and_comm]

/-! ## the DAG `CircuitDAG.add` builds -/

/-- the labelling of a built DAG: the `k`-th operation is node `k + 1` -/
def canon (l : List Op) : List (Nat × Op) := l.zipIdx.map fun p => (p.2 + 1, p.1)

theorem canon_ops (l : List Op) : (canon l).map (·.2) = l := by
  unfold canon; rw [List.map_map]; exact List.zipIdx_map_fst 0 l

theorem bodyOf_eq_bodyL (l : List Op) (w : Wire) : bodyOf l w = bodyL (canon l) w := by
  unfold bodyOf bodyL canon
  rw [List.filter_map, List.map_map]
  congr 1
  apply List.filter_congr
  intro p _
  simp [touches]

theorem mem_canon {l : List Op} {p : Nat × Op} : p ∈ canon l ↔ ∃ i, ∃ hi : i < l.length, p = (i + 1, l[i]) := by
  unfold canon
  simp only [List.mem_map]
  constructor
  · rintro ⟨q, hq, rfl⟩
    have := List.mem_zipIdx hq
    simp only [Nat.zero_add, Nat.sub_zero] at this
    exact ⟨q.2, this.2.1, Prod.ext rfl this.2.2⟩
  · rintro ⟨i, hi, rfl⟩
    exact ⟨(l[i], i), by simpa using List.mem_zipIdx_iff_getElem?.2 (by simp [hi]), rfl⟩

theorem BuildInv.opDag {W : List Wire} {g : MG} {l : List Op} (h : BuildInv W g l) : OpDag W g (canon l) := by
  obtain ⟨body, r, _, hid, _, hon, hnames, hgl, hio, _, hbo, hat, htn⟩ := h
  have hb : body = bodyL (canon l) := funext fun w => (hbo w).trans (bodyOf_eq_bodyL l w)
  subst hb
  have hall : ∀ n o, g.opOf n = some (.gate o) → ∃ k, n = .op k ∧ (k, o) ∈ canon l := by
    intro n o ho
    obtain ⟨w, hw⟩ := exists_wire o
    obtain ⟨p, hp, _, rfl⟩ := mem_bodyL.1 (hon n o ho w hw).2
    obtain ⟨i, hi, rfl⟩ := mem_canon.1 hp
    have := (hat i hi).symm.trans ho
    injection this with this; injection this with this
    exact ⟨_, rfl, this ▸ hp⟩
  refine ⟨r, ?_, hall, ?_, ?_, hnames, hid, htn, ?_⟩
  · intro p hp
    obtain ⟨i, hi, rfl⟩ := mem_canon.1 hp
    exact hat i hi
  · intro p hp w hw
    obtain ⟨i, hi, rfl⟩ := mem_canon.1 hp
    exact (hon _ _ (hat i hi) w hw).1
  · have : (canon l).map (·.1) = (List.range' 0 l.length).map (· + 1) := by
      unfold canon; rw [← List.zipIdx_map_snd 0 l, List.map_map, List.map_map]; rfl
    rw [this]
    exact List.Nodup.map (fun a b hab => by simpa using hab) List.nodup_range'
  · rw [length_io_gate g.nodes, hgl, hio]; simp [canon]

theorem build_opDag (c : Circuit) (h : ∀ o ∈ c.ops, OpOK (wiresN c.ne c.np c.nc) o) :
    ∃ g L, MG.build c = .ok g ∧ OpDag (wiresN c.ne c.np c.nc) g L ∧ L.map (·.2) = c.ops ∧
      g.ne = c.ne ∧ g.np = c.np ∧ g.nc = c.nc :=
  let ⟨g, hb, hi, hc⟩ := build_rep c h
  ⟨g, _, hb, hi.opDag, canon_ops _, hc⟩

/-- the circuit with its executed operations: wrappers expanded, identities dropped -/
def flatC (c : Circuit) : Circuit := ⟨c.ne, c.np, c.nc, flat c.ops⟩

theorem flat_opOK (W : List Wire) (l : List Op) (h : ∀ o ∈ l, OpOK W o) : ∀ o ∈ flat l, OpOK W o := by
  intro o ho
  unfold flat at ho
  obtain ⟨ho1, _⟩ := List.mem_filter.1 ho
  obtain ⟨o0, ho0, hu⟩ := List.mem_flatMap.1 ho1
  unfold OpOK
  rw [opWires_unwrap o0 o hu]
  exact h o0 ho0

end Graphiq.Compare
