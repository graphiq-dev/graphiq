/-
  Proofs/CanonUnique.lean — uniqueness of the reduced echelon shape `Canon`: two real commuting tableaux in `Canon`
  shape that generate the same signed group are equal row by row, sign bits included.  All sizes.

  Route: (1) every element of the group is the product of a subset `S` of the rows, its bits are the GF(2) combination;
  in `Canon` shape the subset is read off the pivot columns (`S i` = x-bit at `px i` for X-block rows, z-bit at `pz i`
  for Z-block rows).  (2) The X pivot columns are exactly the columns in which some group element has its leading
  x-bit, the Z pivot columns are exactly the leading z-bit columns of the elements without x-bits: both sets depend
  on the group only, and an increasing enumeration of a set is unique, so `k`, `px`, `pz` agree.  (3) `a_i · b_i` then
  has the empty subset, so it is `+I`: same bits and same sign.  By (1) the rows of a `Canon` tableau are independent.

  `PRow.neg` stands here for the two files above that speak of `−I` (Proofs/CanonTotal.lean, Proofs/InnerProductSpec.lean);
  it is the same function as `TabSpec.negate` (Proofs/TabSpecGroup.lean).
-/
import GraphiqModel.Proofs.CanonShape
import GraphiqModel.Proofs.CanonSpan
namespace Graphiq
open PRow Tab

/-- the same Pauli string with the opposite sign -/
def PRow.neg (a : PRow) : PRow := { a with r := !a.r }

namespace STab

/-- an increasing map of `{0..n-1}` into itself is the identity -/
theorem mono_id (p : Nat → Nat) (n : Nat) (mono : ∀ i i', i < i' → i' < n → p i < p i') (lt : ∀ i, i < n → p i < n) :
    ∀ i, i < n → p i = i := by
  have ge : ∀ i, i < n → i ≤ p i := by
    intro i
    induction i with
    | zero => intro _; exact Nat.zero_le _
    | succ j ih =>
      intro hj
      have := ih (by omega)
      have := mono j (j + 1) (by omega) hj
      omega
  have le : ∀ d i, i + d < n → p i + d ≤ p (i + d) := by
    intro d
    induction d with
    | zero => intro i _; exact Nat.le_refl _
    | succ e ih =>
      intro i hi
      have h1 := ih i (by omega)
      have h2 := mono (i + e) (i + (e + 1)) (by omega) hi
      have : i + (e + 1) = i + e + 1 := rfl
      omega
  intro i hi
  have h1 := ge i hi
  have h2 := le (n - 1 - i) i (by omega)
  have h3 := lt (i + (n - 1 - i)) (by omega)
  omega

/-- in echelon shape the coefficient of pivot row `i` in a combination is the combination's entry in column `p i` -/
theorem PInv.coef {n : Nat} {B : Nat → Nat → Bool} {p : Nat → Nat} {lo pr J : Nat} (h : PInv n B p lo pr J)
    (S : Nat → Bool) (i : Nat) (h1 : lo ≤ i) (h2 : i < pr) : parityTo n (fun m => S m && B m (p i)) = S i := by
  have hin : i < n := by have := h.pr_le; omega
  rw [parityTo_congr n _ (fun m => decide (m = i) && S m) (fun m hm => by rw [h.col h1 h2 hm, Bool.and_comm]),
    parityTo_single n i S hin]

/-- in echelon shape (all columns processed) the leading entry of a combination of the pivot rows sits in a pivot column -/
theorem PInv.lead_is_pivot {n : Nat} {B : Nat → Nat → Bool} {p : Nat → Nat} {lo pr : Nat} (h : PInv n B p lo pr n)
    (S : Nat → Bool) (hS : ∀ m, m < lo → S m = false) (v : Nat → Bool)
    (hv : ∀ j, j < n → v j = parityTo n (fun m => S m && B m j)) (j : Nat) (hj : j < n) (h1 : v j = true)
    (h0 : ∀ j', j' < j → v j' = false) : ∃ i, lo ≤ i ∧ i < pr ∧ p i = j := by
  have hp := hv j hj
  rw [h1] at hp
  obtain ⟨m, hm, hm1⟩ := parityTo_exists n _ hp.symm
  simp only [Bool.and_eq_true] at hm1
  have hlo : lo ≤ m := by
    apply Classical.byContradiction; intro hc
    have := hS m (by omega); rw [this] at hm1; cases hm1.1
  have hpr : m < pr := by
    apply Classical.byContradiction; intro hc
    have := h.below m j (by omega) hm hj; rw [this] at hm1; cases hm1.2
  have hle : p m ≤ j := by
    apply Classical.byContradiction; intro hc
    have := h.lead m j hlo hpr (by omega); rw [this] at hm1; cases hm1.2
  refine ⟨m, hlo, hpr, ?_⟩
  apply Classical.byContradiction; intro hc
  have hlt : p m < j := by omega
  have c1 := hv (p m) (by omega)
  rw [h.coef S m hlo hpr, h0 (p m) hlt, hm1.1] at c1
  cases c1

/-- an increasing enumeration of a set of numbers is unique: by strong induction, `f i` is some `g m` with `m ≥ i` (the `g m'`, `m' < i`,
    are the `f m'`, which are smaller), hence `g i ≤ f i`; and symmetrically -/
theorem incr_unique (f g : Nat → Nat) (lo hi hi' : Nat)
    (hf : ∀ i i', lo ≤ i → i < i' → i' < hi → f i < f i') (hg : ∀ i i', lo ≤ i → i < i' → i' < hi' → g i < g i')
    (himg : ∀ j, (∃ i, lo ≤ i ∧ i < hi ∧ f i = j) ↔ (∃ i, lo ≤ i ∧ i < hi' ∧ g i = j)) :
    ∀ i, lo ≤ i → i < hi → (i < hi' ∧ f i = g i) := by
  intro i
  induction i using Nat.strongRecOn with
  | _ i ih =>
    intro h1 h2
    obtain ⟨m, hm1, hm2, hm3⟩ := (himg (f i)).1 ⟨i, h1, h2, rfl⟩
    have hmi : i ≤ m := by
      apply Classical.byContradiction; intro hc
      have hmlt : m < i := by omega
      have := ih m hmlt hm1 (by omega)
      have := hf m i hm1 hmlt h2
      omega
    have hi' : i < hi' := by omega
    refine ⟨hi', ?_⟩
    have le1 : g i ≤ f i := by
      by_cases e : i = m
      · rw [← hm3, ← e]; exact Nat.le_refl _
      · have := hg i m h1 (by omega) hm2; omega
    obtain ⟨m', hm1', hm2', hm3'⟩ := (himg (g i)).2 ⟨i, h1, hi', rfl⟩
    have hmi' : i ≤ m' := by
      apply Classical.byContradiction; intro hc
      have hmlt : m' < i := by omega
      have e := (ih m' hmlt hm1' hm2').2
      have := hg m' i hm1' hmlt hi'
      omega
    have le2 : f i ≤ g i := by
      by_cases e : i = m'
      · rw [← hm3', ← e]; exact Nat.le_refl _
      · have := hf i m' h1 (by omega) hm2'; omega
    omega

/-! ### group elements of a tableau in `Canon` shape -/

theorem spn_bits (c : STab) (hg : c.Good) (g : PRow) (h : c.Spn g) :
    ∃ S : Nat → Bool, EqOn c.n g (sprod c.n c.row S c.n) ∧
      (∀ j, j < c.n → g.x j = parityTo c.n (fun m => S m && xb c m j)) ∧
      (∀ j, j < c.n → g.z j = parityTo c.n (fun m => S m && zb c m j)) := by
  obtain ⟨S, hS⟩ := spn_repr c hg g h
  refine ⟨S, hS, fun j hj => ?_, fun j hj => ?_⟩
  · rw [(hS.1 j hj).1, sprod_x]; rfl
  · rw [(hS.1 j hj).2, sprod_z]; rfl

/-- column `j` carries the leading x-bit of some group element -/
def XLead (c : STab) (j : Nat) : Prop := ∃ g, c.Spn g ∧ g.x j = true ∧ ∀ j', j' < j → g.x j' = false

/-- column `j` carries the leading z-bit of some group element without x-bits -/
def ZLead (c : STab) (j : Nat) : Prop :=
  ∃ g, c.Spn g ∧ (∀ j', j' < c.n → g.x j' = false) ∧ g.z j = true ∧ ∀ j', j' < j → g.z j' = false

theorem xlead_iff (c : STab) (k : Nat) (px : Nat → Nat) (hx : PInv c.n (xb c) px 0 k c.n) (hg : c.Good)
    (j : Nat) (hj : j < c.n) : XLead c j ↔ ∃ i, 0 ≤ i ∧ i < k ∧ px i = j := by
  constructor
  · rintro ⟨g, hs, h1, h0⟩
    obtain ⟨S, _, bx, _⟩ := spn_bits c hg g hs
    exact hx.lead_is_pivot S (fun m hm => by omega) g.x bx j hj h1 h0
  · rintro ⟨i, _, hi, e⟩
    have hin : i < c.n := by have := hx.pr_le; omega
    refine ⟨c.row i, spn_gen c i hin, ?_, fun j' hj' => ?_⟩
    · rw [← e]; exact hx.piv_one i (Nat.zero_le _) hi
    · exact hx.lead i j' (Nat.zero_le _) hi (by omega)

theorem zlead_iff (c : STab) (k : Nat) (px pz : Nat → Nat) (hx : PInv c.n (xb c) px 0 k c.n)
    (hz : PInv c.n (zb c) pz k c.n c.n) (hg : c.Good) (j : Nat) (hj : j < c.n) :
    ZLead c j ↔ ∃ i, k ≤ i ∧ i < c.n ∧ pz i = j := by
  constructor
  · rintro ⟨g, hs, hx0, h1, h0⟩
    obtain ⟨S, _, bx, bz⟩ := spn_bits c hg g hs
    have hS : ∀ m, m < k → S m = false := by
      intro m hm
      have hp := hx.piv_lt m (Nat.zero_le _) hm
      have := bx (px m) hp
      rw [hx.coef S m (Nat.zero_le _) hm, hx0 (px m) hp] at this
      exact this.symm
    exact hz.lead_is_pivot S hS g.z bz j hj h1 h0
  · rintro ⟨i, hk, hi, e⟩
    refine ⟨c.row i, spn_gen c i hi, fun j' hj' => hx.below i j' hk hi hj', ?_, fun j' hj' => ?_⟩
    · rw [← e]; exact hz.piv_one i hk hi
    · exact hz.lead i j' hk hi (by omega)

theorem xlead_spanEq (a b : STab) (s : SpanEq a b) (j : Nat) : XLead a j ↔ XLead b j :=
  ⟨fun ⟨g, h, r⟩ => ⟨g, s.sub g h, r⟩, fun ⟨g, h, r⟩ => ⟨g, s.sup g h, r⟩⟩

theorem zlead_spanEq (a b : STab) (s : SpanEq a b) (j : Nat) : ZLead a j ↔ ZLead b j := by
  unfold ZLead
  rw [s.n_eq]
  exact ⟨fun ⟨g, h, r⟩ => ⟨g, s.sub g h, r⟩, fun ⟨g, h, r⟩ => ⟨g, s.sup g h, r⟩⟩

/-- a group element of a `Canon` tableau whose x-bits vanish at the X pivots and whose z-bits vanish at the Z pivots
    is `+I` -/
theorem canon_trivial (c : STab) (k : Nat) (px pz : Nat → Nat) (hx : PInv c.n (xb c) px 0 k c.n)
    (hz : PInv c.n (zb c) pz k c.n c.n) (hg : c.Good) (g : PRow) (hs : c.Spn g)
    (h1 : ∀ i, i < k → g.x (px i) = false) (h2 : ∀ i, k ≤ i → i < c.n → g.z (pz i) = false) :
    EqOn c.n g PRow.one := by
  obtain ⟨S, hS, bx, bz⟩ := spn_bits c hg g hs
  have z : ∀ m, m < c.n → S m = false := by
    intro m hm
    by_cases hmk : m < k
    · have hp := hx.piv_lt m (Nat.zero_le _) hmk
      have := bx (px m) hp
      rw [hx.coef S m (Nat.zero_le _) hmk, h1 m hmk] at this
      exact this.symm
    · have hp := hz.piv_lt m (by omega) hm
      have := bz (pz m) hp
      rw [hz.coef S m (by omega) hm, h2 m (by omega) hm] at this
      exact this.symm
  rw [sprod_none c.n c.row S c.n z] at hS
  exact hS

/-- **uniqueness of the `Canon` shape**: two real commuting tableaux in `Canon` shape with the same signed group are
    equal row by row (bits and sign) -/
theorem canon_unique (a b : STab) (ha : Canon a) (hb : Canon b) (ga : a.Good) (gb : b.Good) (s : SpanEq a b) :
    ∀ i, i < a.n → EqOn a.n (a.row i) (b.row i) := by
  obtain ⟨ka, pxa, pza, hxa, hza⟩ := ha
  obtain ⟨kb, pxb, pzb, hxb, hzb⟩ := hb
  have hn : b.n = a.n := s.n_eq.symm
  -- (2) the pivot data agree
  have imgx : ∀ j, (∃ i, 0 ≤ i ∧ i < ka ∧ pxa i = j) ↔ (∃ i, 0 ≤ i ∧ i < kb ∧ pxb i = j) := by
    intro j
    constructor
    · rintro ⟨i, h0, h1, h2⟩
      have hj : j < a.n := by rw [← h2]; exact hxa.piv_lt i h0 h1
      exact (xlead_iff b kb pxb hxb gb j (by omega)).1
        ((xlead_spanEq a b s j).1 ((xlead_iff a ka pxa hxa ga j hj).2 ⟨i, h0, h1, h2⟩))
    · rintro ⟨i, h0, h1, h2⟩
      have hj : j < b.n := by rw [← h2]; exact hxb.piv_lt i h0 h1
      exact (xlead_iff a ka pxa hxa ga j (by omega)).1
        ((xlead_spanEq a b s j).2 ((xlead_iff b kb pxb hxb gb j hj).2 ⟨i, h0, h1, h2⟩))
  have ux := incr_unique pxa pxb 0 ka kb hxa.mono hxb.mono imgx
  have ux' := incr_unique pxb pxa 0 kb ka hxb.mono hxa.mono (fun j => (imgx j).symm)
  have hk : ka = kb := by
    apply Classical.byContradiction; intro hc
    by_cases hlt : ka < kb
    · have := (ux' ka (Nat.zero_le _) hlt).1; omega
    · have := (ux kb (Nat.zero_le _) (by omega)).1; omega
  subst hk
  have imgz : ∀ j, (∃ i, ka ≤ i ∧ i < a.n ∧ pza i = j) ↔ (∃ i, ka ≤ i ∧ i < a.n ∧ pzb i = j) := by
    intro j
    constructor
    · rintro ⟨i, h0, h1, h2⟩
      have hj : j < a.n := by rw [← h2]; exact hza.piv_lt i h0 h1
      have := (zlead_iff b ka pxb pzb hxb hzb gb j (by omega)).1
        ((zlead_spanEq a b s j).1 ((zlead_iff a ka pxa pza hxa hza ga j hj).2 ⟨i, h0, h1, h2⟩))
      rw [hn] at this; exact this
    · rintro ⟨i, h0, h1, h2⟩
      have hj : j < b.n := by rw [← h2]; exact hzb.piv_lt i h0 (by omega)
      exact (zlead_iff a ka pxa pza hxa hza ga j (by omega)).1
        ((zlead_spanEq a b s j).2 ((zlead_iff b ka pxb pzb hxb hzb gb j hj).2 ⟨i, h0, by omega, h2⟩))
  have hzb' : PInv a.n (zb b) pzb ka a.n a.n := hn ▸ hzb
  have hxb' : PInv a.n (xb b) pxb 0 ka a.n := hn ▸ hxb
  have uz := incr_unique pza pzb ka a.n a.n hza.mono hzb'.mono imgz
  -- (3) row by row
  intro i hi
  have hib : i < b.n := by omega
  have sa := spn_gen a i hi
  have sb : a.Spn (b.row i) := s.sup _ (spn_gen b i hib)
  have hprod : a.Spn (PRow.mul a.n (a.row i) (b.row i)) := InSpan.mul _ _ sa sb
  have triv := canon_trivial a ka pxa pza hxa hza ga _ hprod
    (fun m hm => by
      have h1 : (a.row i).x (pxa m) = decide (i = m) := hxa.col (Nat.zero_le _) hm hi
      have h2 : (b.row i).x (pxb m) = decide (i = m) := hxb'.col (Nat.zero_le _) hm hi
      rw [mul_x, h1, (ux m (Nat.zero_le _) hm).2, h2, Bool.xor_self])
    (fun m hm1 hm2 => by
      have h1 : (a.row i).z (pza m) = decide (i = m) := hza.col hm1 hm2 hi
      have h2 : (b.row i).z (pzb m) = decide (i = m) := hzb'.col hm1 hm2 hi
      rw [mul_z, h1, (uz m hm1 hm2).2, h2, Bool.xor_self])
  have same : SameBits a.n (a.row i) (b.row i) := by
    intro j hj
    have := triv.1 j hj
    simp only [mul_x, mul_z, PRow.one] at this
    constructor
    · cases h1 : (a.row i).x j <;> cases h2 : (b.row i).x j <;> simp [h1, h2] at this ⊢
    · cases h1 : (a.row i).z j <;> cases h2 : (b.row i).z j <;> simp [h1, h2] at this ⊢
  have ra := ga.real i hi
  have rb := gb.real i hib
  have hr := mul_sameBits_r a.n (a.row i) (b.row i) ra rb same
  rw [triv.2.1] at hr
  refine ⟨same, ?_, by rw [ra, rb]⟩
  cases h1 : (a.row i).r <;> cases h2 : (b.row i).r <;> simp [h1, h2, PRow.one] at hr ⊢

/-! ### independence of the rows -/

theorem indep_sprod (t : STab) (h : t.Indep) (S : Nat → Bool) (hb : SameBits t.n (sprod t.n t.row S t.n) PRow.one) :
    ∀ i, i < t.n → S i = false := by
  apply h S
  intro j hj
  have := hb j hj
  rw [sprod_x, sprod_z] at this
  exact this

theorem canon_sprod_inj (c : STab) (hc : Canon c) (S T : Nat → Bool)
    (h : SameBits c.n (sprod c.n c.row S c.n) (sprod c.n c.row T c.n)) : ∀ i, i < c.n → S i = T i := by
  obtain ⟨k, px, pz, hx, hz⟩ := hc
  intro m hm
  by_cases hmk : m < k
  · have hp := hx.piv_lt m (Nat.zero_le _) hmk
    have := (h (px m) hp).1
    rw [sprod_x, sprod_x] at this
    have e1 := hx.coef S m (Nat.zero_le _) hmk
    have e2 := hx.coef T m (Nat.zero_le _) hmk
    unfold xb at e1 e2
    rw [e1, e2] at this; exact this
  · have hp := hz.piv_lt m (by omega) hm
    have := (h (pz m) hp).2
    rw [sprod_z, sprod_z] at this
    have e1 := hz.coef S m (by omega) hm
    have e2 := hz.coef T m (by omega) hm
    unfold zb at e1 e2
    rw [e1, e2] at this; exact this

/-- the rows of a `Canon` tableau are independent: the coefficients of a combination are read off the pivot columns -/
theorem Canon.indep {c : STab} (hc : Canon c) : c.Indep := fun S hS =>
  canon_sprod_inj c hc S (fun _ => false) (fun j hj => by rw [sprod_false, sprod_x, sprod_z]; exact hS j hj)

end STab
end Graphiq
