/-
  Proofs/LCSeqStep.lean — the invariant behind `lc_graph_operations` (the constructive direction of Van den Nest,
  Dehaene, De Moor, Phys. Rev. A 69, 022316, Section IV).

  The Python keeps only the matrix `R = C θ + D` and rewrites it with `_apply_f`.  The invariant ties that matrix to a pair
  (current graph θ, residual local Clifford Q):
      * Q has invertible blocks and solves the linear system for (θ, target),
      * R = C θ + D                                                     (`rOf`).
  One `_apply_f(R, v)` at a vertex whose block has `c_v = 1` is exactly: complement θ at v, replace Q by `Q · Q_v(θ)`
  (`stepQ`) — `applyF_tracks`.  When `R = I` the residual `Q` is the identity on the graph: θ = target (`identity_R_means_done`).
-/
import GraphiqModel.Proofs.LCLocalClifford
namespace Graphiq.LC
open Graphiq

/-! ### the R matrix of a pair (graph, Q) -/

/-- `R = C θ + D` entrywise (θ has an empty diagonal): what `_R_matrix(θ, Q)` builds -/
def rOf (θ : Adj) (q : Nat → Bool) : Adj := fun i j => if i = j then q (4 * i + 3) else q (4 * i + 2) && θ i j

/-- the tabulated matrix `r` is `R(θ, Q)` on `n` vertices -/
structure RRel (n : Nat) (r : BMat) (θ : Adj) (q : Nat → Bool) : Prop where
  hr : r.r = n
  hc : r.c = n
  hf : ∀ i j, i < n → j < n → r.f i j = rOf θ q i j

theorem applyF_r (r : BMat) (v : Nat) : (applyF r v).r = r.r := rfl
theorem applyF_c (r : BMat) (v : Nat) : (applyF r v).c = r.r := rfl

/-- `_apply_f(R, v)` entrywise: `R_ij + R_iv (R_vj + R_vv [j = v])` -/
theorem applyF_entry (n : Nat) (r : BMat) (v i j : Nat) (hr : r.r = n) (hv : v < n) (hi : i < n) (hj : j < n) :
    (applyF r v).f i j = xor (r.f i j) (r.f i v && xor (r.f v j) (r.f v v && decide (j = v))) := by
  unfold applyF
  rw [BMat.norm_agree _ i j (by show i < r.r; omega) (by show j < r.r; omega)]
  show lcFormula r.r r.f v i j = _
  rw [hr]
  exact lcFormula_eq n r.f v i j hv hj

/-! ### the residual Clifford after one complementation -/

/-- `Q · Q_v(θ)`: the block `[[1,0],[1,1]]` is multiplied in at `v`, `[[1,1],[0,1]]` at the neighbours of `v` -/
def stepQ (q : Nat → Bool) (θ : Adj) (v : Nat) : Nat → Bool := qComp q (lcQ θ v)

theorem stepQ_2 (q : Nat → Bool) (θ : Adj) (v m : Nat) :
    stepQ q θ v (4 * m + 2) = xor (q (4 * m + 2)) (q (4 * m + 3) && decide (m = v)) := by
  unfold stepQ
  rw [qComp_2, lcQ_0, lcQ_2]; simp

theorem stepQ_3 (q : Nat → Bool) (θ : Adj) (v m : Nat) :
    stepQ q θ v (4 * m + 3) = xor (q (4 * m + 2) && θ v m) (q (4 * m + 3)) := by
  unfold stepQ
  rw [qComp_3, lcQ_1, lcQ_3]; simp

/-- **one `_apply_f` is one local complementation**: if `R = R(θ, Q)` and the block of `v` has `c_v = 1`, then
    `_apply_f(R, v) = R(θ * v, Q · Q_v(θ))` -/
theorem applyF_tracks (n : Nat) (r : BMat) (θ : Adj) (q : Nat → Bool) (v : Nat) (hv : v < n) (hθ : Simple n θ)
    (hR : RRel n r θ q) (hcv : q (4 * v + 2) = true) : RRel n (applyF r v) (localComp θ v) (stepQ q θ v) := by
  refine ⟨by rw [applyF_r]; exact hR.hr, by rw [applyF_c]; exact hR.hr, fun i j hi hj => ?_⟩
  rw [applyF_entry n r v i j hR.hr hv hi hj, hR.hf i j hi hj, hR.hf i v hi hv, hR.hf v j hv hj, hR.hf v v hv hv]
  unfold rOf
  rw [stepQ_2, stepQ_3]
  have hvv := hθ.2 v hv
  have hii := hθ.2 i hi
  have hsym := hθ.1 i v hi hv
  simp only [if_true]
  rw [hcv]
  unfold localComp
  by_cases e1 : i = j
  · subst e1
    by_cases e2 : i = v
    · subst e2
      simp [hvv]
    · have e3 : ¬ v = i := fun e => e2 e.symm
      simp only [e2, e3, if_true, if_false, decide_false, Bool.and_false, Bool.true_and, Bool.xor_false]
      rw [hsym]
      cases q (4 * i + 2) <;> cases q (4 * i + 3) <;> cases θ v i <;> rfl
  · by_cases e2 : i = v
    · subst e2
      have e3 : ¬ j = i := fun e => e1 e.symm
      simp only [e1, e3, if_true, if_false, decide_true, decide_false, Bool.and_false, Bool.and_true, Bool.true_and,
        Bool.xor_false, hvv, hcv, Bool.false_and]
      cases q (4 * i + 3) <;> cases θ i j <;> rfl
    · by_cases e4 : j = v
      · subst e4
        simp only [e1, if_true, if_false, decide_true, decide_false, Bool.and_false, Bool.and_true, Bool.xor_false, hvv]
        cases q (4 * i + 2) <;> cases q (4 * j + 3) <;> cases θ i j <;> rfl
      · have e5 : ¬ v = j := fun e => e4 e.symm
        simp only [e1, e2, e4, e5, if_false, decide_false, Bool.and_false, Bool.true_and, Bool.xor_false]
        cases q (4 * i + 2) <;> cases θ i j <;> cases θ i v <;> cases θ v j <;> rfl

/-! ### the invariant on (θ, Q) -/

/-- `Q` is a valid local Clifford taking the graph θ to the target `b` -/
structure LCInv (n : Nat) (θ b : Adj) (q : Nat → Bool) : Prop where
  simple : Simple n θ
  eqs : ∀ j k, j < n → k < n → equation n θ b q j k = false
  det : ∀ m, m < n → detQ q m = true

/-- `Q_v(θ)` (built from θ) takes `θ * v` back to θ -/
theorem lcQ_solves_back (n : Nat) (θ : Adj) (v : Nat) (hv : v < n) (hθ : Simple n θ) (j k : Nat) (hj : j < n) (hk : k < n) :
    equation n (localComp θ v) θ (lcQ θ v) j k = false := by
  have hθ' : Simple n (localComp θ v) := localComp_simple n θ v hv hθ
  have h := lcQ_solves n (localComp θ v) v hv hθ' j k hj hk
  rw [equation_congr_right n _ _ θ _ j k hj hk (localComp_involution_simple n θ v hv hθ)] at h
  rw [← h]
  apply equation_congr_q n _ _ _ _ j k hj hk
  intro i _
  unfold lcQ
  rw [localComp_row θ v _ (hθ.2 v hv)]

/-- **the invariant survives a complementation** (any vertex): `Q · Q_v(θ)` is a valid local Clifford from `θ * v` to `b` -/
theorem LCInv.step {n : Nat} {θ b : Adj} {q : Nat → Bool} (h : LCInv n θ b q) (hb : Simple n b) (v : Nat) (hv : v < n) :
    LCInv n (localComp θ v) b (stepQ q θ v) := by
  have hθ' : Simple n (localComp θ v) := localComp_simple n θ v hv h.simple
  refine ⟨hθ', fun j k hj hk => ?_, fun m hm => ?_⟩
  · exact equation_trans n (localComp θ v) θ b (lcQ θ v) q hθ' h.simple hb
      (fun j k hj hk => lcQ_solves_back n θ v hv h.simple j k hj hk) h.eqs j k hj hk
  · unfold stepQ
    rw [detQ_comp, h.det m hm, detQ_lcQ n θ v hv h.simple m]; rfl

/-! ### consequences of the invariant read off the R matrix -/

/-- an off-diagonal 1 in row `v` of `R` means `c_v = 1` -/
theorem c_of_offdiag {n : Nat} {r : BMat} {θ : Adj} {q : Nat → Bool} (hR : RRel n r θ q) (v j : Nat) (hv : v < n)
    (hj : j < n) (hne : j ≠ v) (h : r.f v j = true) : q (4 * v + 2) = true := by
  rw [hR.hf v j hv hj] at h
  unfold rOf at h
  have e : ¬ v = j := fun e => hne e.symm
  simp only [e, if_false] at h
  revert h
  cases q (4 * v + 2) <;> simp

/-- a 0 on the diagonal of `R` means `d_v = 0`, hence `c_v = 1` (the block is invertible) -/
theorem c_of_diag_zero {n : Nat} {r : BMat} {θ b : Adj} {q : Nat → Bool} (hI : LCInv n θ b q) (hR : RRel n r θ q) (v : Nat)
    (hv : v < n) (h : r.f v v = false) : q (4 * v + 2) = true := by
  rw [hR.hf v v hv hv] at h
  unfold rOf at h
  simp only [if_true] at h
  have hd := hI.det v hv
  unfold detQ at hd
  rw [h] at hd
  revert hd
  cases q (4 * v + 2) <;> simp

/-- **base case**: when `R(θ, Q)` is the identity the valid `Q` fixes the graph — `θ` is the target -/
theorem identity_R_means_done (n : Nat) (θ b : Adj) (q : Nat → Bool) (hI : LCInv n θ b q) (hb : Simple n b)
    (hid : ∀ i j, i < n → j < n → rOf θ q i j = decide (i = j)) : EqAdj n θ b := by
  have hd : ∀ j, j < n → q (4 * j + 3) = true := by
    intro j hj
    have := hid j j hj hj
    unfold rOf at this
    simpa using this
  have hsum : ∀ j k, j < n → (parityTo n fun m => θ m j && b m k && q (4 * m + 2)) = false := by
    intro j k hj
    apply parityTo_zero
    intro m hm
    by_cases e : m = j
    · subst e; rw [hI.simple.2 m hm]; rfl
    · have := hid m j hm hj
      unfold rOf at this
      simp only [e, if_false, decide_false] at this
      revert this
      cases q (4 * m + 2) <;> cases θ m j <;> simp
  have hbq : ∀ k, k < n → q (4 * k + 1) = false := by
    intro k hk
    have h := hI.eqs k k hk hk
    unfold equation at h
    rw [hsum k k hk, hI.simple.2 k hk, hb.2 k hk] at h
    simpa using h
  have ha : ∀ k, k < n → q (4 * k) = true := by
    intro k hk
    have h := hI.det k hk
    unfold detQ at h
    rw [hbq k hk, hd k hk] at h
    simpa using h
  intro j k hj hk
  have h := hI.eqs j k hj hk
  unfold equation at h
  rw [hsum j k hj, ha k hk, hd j hj, hbq j hj] at h
  revert h
  cases θ j k <;> cases b j k <;> simp

/-- **`R(θ, Q)` is invertible**: no column of it is zero (the `k_list[0]` of `_doubles` exists).  `(C b + A) R = I`; only
    the diagonal entry is needed -/
theorem column_not_zero (n : Nat) (θ b : Adj) (q : Nat → Bool) (hI : LCInv n θ b q) (hb : Simple n b) (j : Nat) (hj : j < n) :
    ∃ k, k < n ∧ rOf θ q k j = true := by
  apply Classical.byContradiction
  intro hno
  have hz : ∀ k, k < n → rOf θ q k j = false := by
    intro k hk
    cases e : rOf θ q k j
    · rfl
    · exact absurd ⟨k, hk, e⟩ hno
  have hd : q (4 * j + 3) = false := by
    have := hz j hj
    unfold rOf at this
    simpa using this
  have hsum : (parityTo n fun m => θ m j && b m j && q (4 * m + 2)) = false := by
    apply parityTo_zero
    intro m hm
    by_cases e : m = j
    · subst e; rw [hI.simple.2 m hm]; rfl
    · have := hz m hm
      unfold rOf at this
      simp only [e, if_false] at this
      revert this
      cases q (4 * m + 2) <;> cases θ m j <;> simp
  have h := hI.eqs j j hj hj
  unfold equation at h
  rw [hsum, hI.simple.2 j hj, hb.2 j hj] at h
  have hbq : q (4 * j + 1) = false := by simpa using h
  have hdet := hI.det j hj
  unfold detQ at hdet
  rw [hd, hbq] at hdet
  simp at hdet

end Graphiq.LC
