/-
  Proofs/InvRest.lean — blocks 2 to 7 of `inverse_circuit` (CNOT, CZ, P, H, row products, X): if the tableau after the
  first block has an upper triangular x-bit matrix whose rows are either "X type" (1 on the diagonal) or "Z type" (no x-bit,
  z-bit 1 on the diagonal and none to its right) — `Post1` — then the six remaining blocks end in exactly |0…0⟩.
  The idea, block by block: on the shape the earlier blocks have established (`A1 … A5`), a step edits the bit
  matrix it tests at its own entry (`invStep#_edit`: one equation for all entries, both branches of the test; besides, a CZ
  changes the mirror entry and the second Hadamard block writes a unit z-column), so the clauses of the shape — entries that
  are clear, a diagonal that is set — are read off that equation; the triangular loops are `sweep_pairs`.
  No Mathlib.
-/
import GraphiqModel.Proofs.InvBits
namespace Graphiq
open PRow Tab
namespace STab

/-- a "Z type" row `c`: no x-bit at all, z-bit 1 on the diagonal, no z-bit right of the diagonal -/
def ZType (t : STab) (c : Nat) : Prop :=
  (∀ c', c' < t.n → xb t c c' = false) ∧ zb t c c = true ∧ ∀ c', c < c' → c' < t.n → zb t c c' = false

theorem ztype_congr (t t' : STab) (hn : t'.n = t.n) (c : Nat)
    (hx : ∀ c', c' < t.n → xb t' c c' = xb t c c') (hz : ∀ c', c' < t.n → zb t' c c' = zb t c c') (hc : c < t.n)
    (h : ZType t c) : ZType t' c := by
  refine ⟨fun c' hc' => ?_, ?_, fun c' h1 h2 => ?_⟩
  · rw [hn] at hc'; rw [hx c' hc']; exact h.1 c' hc'
  · rw [hz c hc]; exact h.2.1
  · rw [hn] at h2; rw [hz c' h2]; exact h.2.2 c' h1 h2

/-- on a diagonal with the alternative of `Post1`, a row with an x-bit (or, next lemma, a z-bit right of the diagonal) is X type -/
theorem xtype_of_x {t : STab} {j k : Nat} (h : xb t j j = true ∨ ZType t j) (hk : k < t.n) (hx : xb t j k = true) :
    xb t j j = true := by
  rcases h with h1 | h1
  · exact h1
  · rw [h1.1 k hk] at hx
    cases hx

theorem xtype_of_z {t : STab} {j k : Nat} (h : xb t j j = true ∨ ZType t j) (hjk : j < k) (hk : k < t.n)
    (hz : zb t j k = true) : xb t j j = true := by
  rcases h with h1 | h1
  · exact h1
  · rw [h1.2.2 k hjk hk] at hz
    cases hz

/-- a step that leaves the x-bits alone, and the z-bits of the rows without x-bit, keeps the alternative on the diagonal -/
theorem diag_of_xfix {N : Nat} {t t' : STab} (hn : t.n = N) (hn' : t'.n = N)
    (ex : ∀ m c, m < N → c < N → xb t' m c = xb t m c)
    (ez : ∀ m, m < N → (∀ c, c < t.n → xb t m c = false) → ∀ c, c < N → zb t' m c = zb t m c)
    (h : ∀ c, c < N → xb t c c = true ∨ ZType t c) : ∀ c, c < N → xb t' c c = true ∨ ZType t' c := by
  intro c hc
  rcases h c hc with h1 | h1
  · left
    rw [ex c c hc hc]
    exact h1
  · right
    apply ztype_congr t t' (by omega) c _ _ (by omega) h1
    · intro c' hc'
      exact ex c c' hc (by omega)
    · intro c' hc'
      exact ez c hc h1.1 c' (by omega)

theorem eq_false_of_not_and {a b : Bool} (h : ¬ (a && b) = true) (ha : a = true) : b = false := by
  cases b
  · rfl
  · exact absurd (by rw [ha]; rfl) h

/-- the shape the first block establishes -/
structure Post1 (t : STab) : Prop where
  upper : ∀ c i, c < i → i < t.n → xb t i c = false
  diag : ∀ c, c < t.n → xb t c c = true ∨ ZType t c

/-! ### block 2: CNOTs make the x-bit matrix diagonal -/

/-- the shape `Post1` at size `N`, on real commuting generators -/
structure A1 (N : Nat) (t : STab) : Prop where
  n_eq : t.n = N
  good : t.Good
  upper : ∀ c i, c < i → i < N → xb t i c = false
  diag : ∀ c, c < N → xb t c c = true ∨ ZType t c

theorem Post1.a1 {N : Nat} {t : STab} (hp : Post1 t) (hn : t.n = N) (hg : t.Good) : A1 N t :=
  ⟨hn, hg, fun c i h1 h2 => hp.upper c i h1 (by omega), fun c hc => hp.diag c (by omega)⟩

/-- once column `j` of the x-bit matrix is the unit vector (rows above `j` are cleared), the step clears the x-bit
    `(j,k)` and changes no other x-bit -/
theorem invStep2_edit {N : Nat} (st : InvState) (j k : Nat) (hjk : j < k) (hk : k < N) (h : A1 N st.t)
    (done : ∀ a, a < j → xb st.t a j = false) :
    (invStep2 st (j, k)).t.n = N ∧ (invStep2 st (j, k)).t.Good ∧
    (∀ m c, m < N → c < N → xb (invStep2 st (j, k)).t m c = if m = j ∧ c = k then false else xb st.t m c) ∧
    ∀ m c, m < N → c < N → zb (invStep2 st (j, k)).t m c =
      if c = j ∧ xb st.t j k = true then xor (zb st.t m j) (zb st.t m k) else zb st.t m c := by
  have hn := h.n_eq
  unfold invStep2
  simp only
  split
  · next hx1 =>
    have hx1 : xb st.t j k = true := hx1
    have hjj := xtype_of_x (h.diag j (by omega)) (by omega) hx1
    obtain ⟨ex, ez⟩ := gate_cnot_bits st hn j k
    refine ⟨hn, gate_good st _ (by show j < st.t.n ∧ k < st.t.n ∧ j ≠ k; omega) h.good, fun m c hm hc => ?_,
      fun m c hm hc => ?_⟩
    · rw [ex m c hm hc]
      by_cases e1 : c = k
      · subst e1
        rw [if_pos rfl]
        by_cases e2 : m = j
        · subst e2; rw [if_pos ⟨rfl, rfl⟩, hx1, hjj]; rfl
        · have : xb st.t m j = false := by
            rcases Nat.lt_or_gt_of_ne e2 with hlt | hgt
            · exact done m hlt
            · exact h.upper j m hgt hm
          rw [this, if_neg (fun e => e2 e.1)]; simp
      · rw [if_neg e1, if_neg (fun e => e1 e.2)]
    · rw [ez m c hm hc, hx1]
      by_cases e1 : c = j
      · subst e1; simp
      · simp [e1]
  · next hx0 =>
    have hx0 : xb st.t j k = false := Bool.eq_false_iff.2 hx0
    refine ⟨hn, h.good, fun m c _ _ => ?_, fun m c _ _ => ?_⟩
    · split
      · next e => rw [e.1, e.2]; exact hx0
      · rfl
    · rw [hx0]; simp

theorem invStep2_sweep {N : Nat} (s : InvState) (j k : Nat) (hjk : j < k) (hk : k < N) (f : A1 N s.t)
    (done : ∀ a, a < j → xb s.t a j = false) :
    A1 N (invStep2 s (j, k)).t ∧ xb (invStep2 s (j, k)).t j k = false ∧
    ∀ a b, a < b → b < N → xb s.t a b = false → xb (invStep2 s (j, k)).t a b = false := by
  have hj : j < N := by omega
  obtain ⟨hn, hg, ex, ez⟩ := invStep2_edit s j k hjk hk f done
  refine ⟨⟨hn, hg, fun c i hci hi => ?_, fun c hc' => ?_⟩, ?_, ?_⟩
  · rw [ex i c hi (by omega), if_neg (by omega)]; exact f.upper c i hci hi
  · rcases f.diag c hc' with h1 | h1
    · left; rw [ex c c hc' hc', if_neg (by omega)]; exact h1
    · right
      have hck : ¬ (c = j ∧ xb s.t j k = true) := fun e => by
        have := h1.1 k (by rw [f.n_eq]; exact hk); rw [e.1, e.2] at this; cases this
      refine ⟨fun c' hc'' => ?_, ?_, fun c' h1' h2' => ?_⟩
      · rw [hn] at hc''; rw [ex c c' hc' hc'']
        split
        · rfl
        · exact h1.1 c' (by rw [f.n_eq]; exact hc'')
      · rw [ez c c hc' hc', if_neg hck]; exact h1.2.1
      · rw [hn] at h2'; rw [ez c c' hc' h2']
        split
        · rw [h1.2.2 j (by omega) (by rw [f.n_eq]; exact hj), h1.2.2 k (by omega) (by rw [f.n_eq]; exact hk)]; rfl
        · exact h1.2.2 c' h1' (by rw [f.n_eq]; exact h2')
  · rw [ex j k hj hk, if_pos ⟨rfl, rfl⟩]
  · intro a b hab hb hz
    rw [ex a b (by omega) hb]
    split
    · rfl
    · exact hz

/-- after block 2 -/
structure A2 (N : Nat) (t : STab) : Prop where
  n_eq : t.n = N
  good : t.Good
  xdiag : ∀ m c, m < N → c < N → m ≠ c → xb t m c = false
  diag : ∀ c, c < N → xb t c c = true ∨ ZType t c

theorem block2 (N : Nat) (st : InvState) (hn : st.t.n = N) (hg : st.t.Good) (hp : Post1 st.t) :
    A2 N ((pairsLt N).foldl invStep2 st).t := by
  obtain ⟨f, cl⟩ := sweep_pairs (N := N) invStep2 (A1 N) xb
    (fun s j k hjk hk f hc => invStep2_sweep s j k hjk hk f (fun a ha => hc a j (Or.inl ha) ha (by omega))) st
    (hp.a1 hn hg)
  refine ⟨f.n_eq, f.good, fun m c hm hc hne => ?_, f.diag⟩
  by_cases hlt : m < c
  · exact cl m c hlt hc
  · exact f.upper c m (by omega) hm

/-! ### block 3: CZs clear the z-bits right of the diagonal -/

/-- on a diagonal x-bit matrix the step clears the z-bit `(j,k)` and changes, besides, only the z-bit `(k,j)` -/
theorem invStep3_edit {N : Nat} (st : InvState) (j k : Nat) (hjk : j < k) (hk : k < N) (h : A2 N st.t) :
    (invStep3 st (j, k)).t.n = N ∧ (invStep3 st (j, k)).t.Good ∧
    (∀ m c, m < N → c < N → xb (invStep3 st (j, k)).t m c = xb st.t m c) ∧
    ∀ m c, m < N → c < N → zb (invStep3 st (j, k)).t m c =
      if m = j ∧ c = k then false
      else if m = k ∧ c = j then xor (zb st.t k j) (zb st.t j k && xb st.t k k) else zb st.t m c := by
  have hn := h.n_eq
  have hx : (st.t.row j).x k = false := h.xdiag j k (by omega) hk (by omega)
  unfold invStep3
  simp only [hx, Bool.not_false, Bool.true_and]
  split
  · next hz1 =>
    have hz1 : zb st.t j k = true := hz1
    have hjj := xtype_of_z (h.diag j (by omega)) hjk (by omega) hz1
    obtain ⟨ex, ez⟩ := gate_cz_bits st hn j k (by omega)
    refine ⟨hn, gate_good st _ (by show j < st.t.n ∧ k < st.t.n ∧ j ≠ k; omega) h.good, ex, fun m c hm hc => ?_⟩
    rw [ez m c hm hc, hz1]
    by_cases e1 : c = j
    · subst e1
      rw [if_pos rfl, if_neg (by omega)]
      by_cases e2 : m = k
      · subst e2; simp
      · rw [h.xdiag m k hm hk e2]; simp [e2]
    · rw [if_neg e1]
      by_cases e2 : c = k
      · subst e2
        rw [if_pos rfl]
        by_cases e3 : m = j
        · subst e3; rw [hz1, hjj]; simp
        · rw [h.xdiag m j hm (by omega) e3]; simp [e3, e1]
      · simp [e1, e2]
  · next hz0 =>
    have hz0 : zb st.t j k = false := Bool.eq_false_iff.2 hz0
    refine ⟨hn, h.good, fun _ _ _ _ => rfl, fun m c _ _ => ?_⟩
    split
    · next e => rw [e.1, e.2]; exact hz0
    · split
      · next e => rw [e.1, e.2, hz0]; simp
      · rfl

theorem invStep3_sweep {N : Nat} (s : InvState) (j k : Nat) (hjk : j < k) (hk : k < N) (a : A2 N s.t) :
    A2 N (invStep3 s (j, k)).t ∧ zb (invStep3 s (j, k)).t j k = false ∧
    ∀ m c, m < c → c < N → zb s.t m c = false → zb (invStep3 s (j, k)).t m c = false := by
  have hj : j < N := by omega
  obtain ⟨hn, hg, ex, ez⟩ := invStep3_edit s j k hjk hk a
  refine ⟨⟨hn, hg, fun m c hm hc hne => by rw [ex m c hm hc]; exact a.xdiag m c hm hc hne, ?_⟩, ?_, ?_⟩
  · apply diag_of_xfix a.n_eq hn ex _ a.diag
    intro m hm xf c hc
    rw [ez m c hm hc]
    split
    · next e =>
      rw [e.1, e.2]
      cases hz : zb s.t j k
      · rfl
      · have := xtype_of_z (a.diag j hj) hjk (by rw [a.n_eq]; exact hk) hz
        rw [← e.1, xf m (by rw [a.n_eq]; exact hm)] at this; cases this
    · split
      · next e =>
        have xk := xf m (by rw [a.n_eq]; exact hm)
        rw [e.1] at xk
        rw [e.1, e.2, xk]; simp
      · rfl
  · rw [ez j k hj hk, if_pos ⟨rfl, rfl⟩]
  · intro m c hmc hc hz
    rw [ez m c (by omega) hc]
    split
    · rfl
    · rw [if_neg (by omega)]; exact hz

/-- after block 3 -/
structure A3 (N : Nat) (t : STab) : Prop where
  n_eq : t.n = N
  xdiag : ∀ m c, m < N → c < N → m ≠ c → xb t m c = false
  diag : ∀ c, c < N → xb t c c = true ∨ ZType t c
  zupper : ∀ m c, m < c → c < N → zb t m c = false
  zcol : ∀ i m, i < N → m < N → xb t i i = true → m ≠ i → zb t m i = false

/-- the consequence of commutation: the z-column of an X-type row is cleared off the diagonal once the x-bit matrix is
    diagonal and the z-bit matrix is lower triangular -/
theorem zcol_of_comm {N : Nat} {t : STab} (hn : t.n = N) (hg : t.Good)
    (xdiag : ∀ m c, m < N → c < N → m ≠ c → xb t m c = false) (zupper : ∀ m c, m < c → c < N → zb t m c = false) :
    ∀ i m, i < N → m < N → xb t i i = true → m ≠ i → zb t m i = false := by
  intro i m hi hm hxi hne
  by_cases hlt : m < i
  · exact zupper m i hlt hi
  · have him : i < m := by omega
    have hc := hg.comm i m (by rw [hn]; exact hi) (by rw [hn]; exact hm)
    rw [hn] at hc
    unfold PRow.sp at hc
    rw [parityTo_two' N i m _ hi hm (by omega) (by
      intro c hcN h1 h2
      have e1 : (t.row i).x c = false := xdiag i c hi hcN (by omega)
      have e2 : (t.row m).x c = false := xdiag m c hm hcN (by omega)
      simp [e1, e2])] at hc
    have e1 : (t.row i).x i = true := hxi
    have e2 : (t.row m).x i = false := xdiag m i hm hi (by omega)
    have e3 : (t.row i).x m = false := xdiag i m hi hm (by omega)
    have e4 : (t.row i).z m = false := zupper i m him hm
    simp only [e1, e2, e3, e4, Bool.true_and, Bool.false_and, Bool.and_false, Bool.xor_false] at hc
    exact hc

theorem block3 (N : Nat) (st : InvState) (h : A2 N st.t) : A3 N ((pairsLt N).foldl invStep3 st).t := by
  obtain ⟨a, cl⟩ := sweep_pairs (N := N) invStep3 (A2 N) zb (fun s j k hjk hk a _ => invStep3_sweep s j k hjk hk a) st h
  exact ⟨a.n_eq, a.xdiag, a.diag, cl, zcol_of_comm a.n_eq a.good a.xdiag cl⟩

/-- the tests of block 3 read the z-bit matrix as it was at the start: one CZ per 1-entry of its upper triangle -/
theorem block3_emits (N : Nat) (st : InvState) (h : A2 N st.t) :
    ((pairsLt N).foldl invStep3 st).circ
      = st.circ ++ ((pairsLt N).filter fun jk => zb st.t jk.1 jk.2).map fun jk => Gate.CZ jk.1 jk.2 := by
  have key : ((pairsLt N).foldl invStep3 st).circ = st.circ ++
      ((pairsLt N).filter fun jk => !(st.t.row jk.1).x jk.2 && (st.t.row jk.1).z jk.2).map fun jk => Gate.CZ jk.1 jk.2 :=
    (foldl_gates_emit (fun jk : Nat × Nat => Gate.CZ jk.1 jk.2)
      (fun s jk => !(s.t.row jk.1).x jk.2 && (s.t.row jk.1).z jk.2)
      (fun rest s => rest.Nodup ∧ (∀ y, y ∈ rest → y.1 < y.2 ∧ y.2 < N) ∧ A2 N s.t)
      (fun s x rest ⟨nd, mem, a⟩ => by
        obtain ⟨hjk, hk⟩ := mem x List.mem_cons_self
        exact ⟨(List.nodup_cons.mp nd).2, fun y hy => mem y (List.mem_cons_of_mem _ hy),
          (invStep3_sweep s x.1 x.2 hjk hk a).1⟩)
      (fun s x rest y hy ⟨nd, mem, a⟩ => by
        obtain ⟨hjk, hk⟩ := mem x List.mem_cons_self
        obtain ⟨hab, hb⟩ := mem y (List.mem_cons_of_mem _ hy)
        obtain ⟨_, _, ex, ez⟩ := invStep3_edit s x.1 x.2 hjk hk a
        have hne : ¬ (y.1 = x.1 ∧ y.2 = x.2) := fun e =>
          (List.nodup_cons.mp nd).1 (by rw [show x = y from Prod.ext e.1.symm e.2.symm]; exact hy)
        have e1 := ex y.1 y.2 (by omega) hb
        have e2 := ez y.1 y.2 (by omega) hb
        rw [if_neg hne, if_neg (by omega)] at e2
        show (!((invStep3 s (x.1, x.2)).t.row y.1).x y.2 && ((invStep3 s (x.1, x.2)).t.row y.1).z y.2) = _
        unfold xb at e1; unfold zb at e2
        rw [e1, e2])
      (pairsLt N) st ⟨pairsLt_nodup N, mem_pairsLt N, h⟩).2
  rw [key, List.filter_congr (fun jk hm => ?_)]
  obtain ⟨h1, h2⟩ := mem_pairsLt N jk hm
  have hx : (st.t.row jk.1).x jk.2 = false := h.xdiag jk.1 jk.2 (by omega) h2 (by omega)
  rw [hx]; rfl

/-! ### block 4: phase gates clear the diagonal z-bit of the X-type rows -/

theorem invStep4_edit {N : Nat} (st : InvState) (j : Nat) (hj : j < N) (h : A3 N st.t) :
    (invStep4 st j).t.n = N ∧
    (∀ m c, m < N → c < N → xb (invStep4 st j).t m c = xb st.t m c) ∧
    ∀ m c, m < N → c < N → zb (invStep4 st j).t m c =
      if (m = j ∧ c = j) ∧ xb st.t j j = true then false else zb st.t m c := by
  have hn := h.n_eq
  unfold invStep4
  split
  · next hc1 =>
    simp only [Bool.and_eq_true] at hc1
    have hxj : xb st.t j j = true := hc1.1
    have hzj : zb st.t j j = true := hc1.2
    obtain ⟨ex, ez⟩ := gate_p_bits st hn j
    refine ⟨hn, ex, fun m c hm hc => ?_⟩
    rw [ez m c hm hc]
    by_cases e1 : c = j
    · subst e1
      rw [if_pos rfl]
      by_cases e2 : m = c
      · subst e2; rw [if_pos ⟨⟨rfl, rfl⟩, hxj⟩, hzj, hxj]; rfl
      · rw [h.xdiag m c hm hc e2, if_neg (fun e => e2 e.1.1)]; simp
    · rw [if_neg e1, if_neg (fun e => e1 e.1.2)]
  · next hc0 =>
    refine ⟨hn, fun _ _ _ _ => rfl, fun m c _ _ => ?_⟩
    split
    · next e => rw [e.1.1, e.1.2]; exact eq_false_of_not_and hc0 e.2
    · rfl

/-- block 4 before column `j`: the shape `A3`, and the X-type rows `< j` have lost their diagonal z-bit -/
structure B4 (N : Nat) (t : STab) (j : Nat) : Prop where
  n_eq : t.n = N
  xdiag : ∀ m c, m < N → c < N → m ≠ c → xb t m c = false
  diag : ∀ c, c < N → xb t c c = true ∨ ZType t c
  zupper : ∀ m c, m < c → c < N → zb t m c = false
  zcol : ∀ i m, i < N → m < N → xb t i i = true → m ≠ i → zb t m i = false
  done : ∀ j', j' < j → j' < N → xb t j' j' = true → zb t j' j' = false

theorem B4.a3 {N : Nat} {t : STab} {j : Nat} (h : B4 N t j) : A3 N t := ⟨h.n_eq, h.xdiag, h.diag, h.zupper, h.zcol⟩

theorem b4_step (N : Nat) (st : InvState) (j : Nat) (hj : j < N) (h : B4 N st.t j) : B4 N (invStep4 st j).t (j + 1) := by
  obtain ⟨hn, ex, ez⟩ := invStep4_edit st j hj h.a3
  refine ⟨hn, fun m c hm hc hne => by rw [ex m c hm hc]; exact h.xdiag m c hm hc hne, ?_, fun m c h1 h2 => ?_,
    fun i m hi hm hxi hne => ?_, fun j' h1 h2 hx => ?_⟩
  · apply diag_of_xfix h.n_eq hn ex _ h.diag
    intro m hm xf c hc
    have hne : ¬ ((m = j ∧ c = j) ∧ xb st.t j j = true) := fun e => by
      have := xf j (by rw [h.n_eq]; exact hj)
      rw [e.1.1, e.2] at this; cases this
    rw [ez m c hm hc, if_neg hne]
  · rw [ez m c (by omega) h2, if_neg (fun e => by have := e.1; omega)]; exact h.zupper m c h1 h2
  · rw [ex i i hi hi] at hxi
    rw [ez m i hm hi]
    split
    · rfl
    · exact h.zcol i m hi hm hxi hne
  · rw [ex j' j' h2 h2] at hx
    rw [ez j' j' h2 h2]
    by_cases e : j' = j
    · subst e; rw [if_pos ⟨⟨rfl, rfl⟩, hx⟩]
    · rw [if_neg (fun e' => e e'.1.1)]; exact h.done j' (by omega) h2 hx

/-- after block 4: every column is either "X type" (x-column a unit vector, z-column zero) or "Z type" -/
structure A4 (N : Nat) (t : STab) : Prop where
  n_eq : t.n = N
  xdiag : ∀ m c, m < N → c < N → m ≠ c → xb t m c = false
  zupper : ∀ m c, m < c → c < N → zb t m c = false
  cols : ∀ c, c < N → (xb t c c = true ∧ ∀ m, m < N → zb t m c = false) ∨ (xb t c c = false ∧ zb t c c = true)

theorem block4 (N : Nat) (st : InvState) (h : A3 N st.t) : A4 N ((List.range N).foldl invStep4 st).t := by
  have key := Loop.foldl_range (f := invStep4) (n := N) (fun j s => B4 N s.t j) (fun j s hj hq => b4_step N s j hj hq)
    (s := st) ⟨h.n_eq, h.xdiag, h.diag, h.zupper, h.zcol, fun j' h1 => by omega⟩
  generalize ((List.range N).foldl invStep4 st).t = t at key
  refine ⟨key.n_eq, key.xdiag, key.zupper, fun c hc => ?_⟩
  rcases key.diag c hc with h1 | h1
  · left
    refine ⟨h1, fun m hm => ?_⟩
    by_cases e : m = c
    · subst e; exact key.done m hc hc h1
    · exact key.zcol c m hc hm h1 e
  · right
    exact ⟨h1.1 c (by rw [key.n_eq]; exact hc), h1.2.1⟩

/-! ### block 5: Hadamards turn the X-type columns into Z-type columns -/

/-- a column that is X-type or Z-type is left without x-bit; the z-column of an X-type column becomes the unit vector -/
theorem invStep5_edit {N : Nat} (st : InvState) (j : Nat) (hj : j < N) (hn : st.t.n = N)
    (xdiag : ∀ m c, m < N → c < N → m ≠ c → xb st.t m c = false)
    (hcol : (xb st.t j j = true ∧ ∀ m, m < N → zb st.t m j = false) ∨ (xb st.t j j = false ∧ zb st.t j j = true)) :
    (invStep5 st j).t.n = N ∧
    (∀ m c, m < N → c < N → xb (invStep5 st j).t m c = if c = j then false else xb st.t m c) ∧
    ∀ m c, m < N → c < N → zb (invStep5 st j).t m c =
      if c = j ∧ xb st.t j j = true then decide (m = j) else zb st.t m c := by
  unfold invStep5
  rcases hcol with ⟨hxj, hzc⟩ | ⟨hxj, _⟩
  · have hx' : (st.t.row j).x j = true := hxj
    have hz' : (st.t.row j).z j = false := hzc j hj
    rw [show ((st.t.row j).x j && !(st.t.row j).z j) = true from by rw [hx', hz']; rfl, if_pos rfl]
    obtain ⟨ex, ez⟩ := gate_h_bits st hn j
    refine ⟨hn, fun m c hm hc => ?_, fun m c hm hc => ?_⟩
    · rw [ex m c hm hc]
      split
      · next e => rw [e]; exact hzc m hm
      · rfl
    · rw [ez m c hm hc]
      by_cases e : c = j
      · subst e
        rw [if_pos rfl, if_pos ⟨rfl, hxj⟩]
        by_cases e2 : m = c
        · subst e2; rw [hxj]; simp
        · rw [xdiag m c hm hc e2]; simp [e2]
      · rw [if_neg e, if_neg (fun h => e h.1)]
  · have hx' : (st.t.row j).x j = false := hxj
    rw [show ((st.t.row j).x j && !(st.t.row j).z j) = false from by rw [hx']; rfl, if_neg Bool.false_ne_true]
    refine ⟨hn, fun m c hm _ => ?_, fun m c _ _ => ?_⟩
    · split
      · next e =>
        rw [e]
        by_cases e2 : m = j
        · rw [e2]; exact hxj
        · exact xdiag m j hm hj e2
      · rfl
    · rw [hxj]; simp

/-- block 5 before column `j`: the columns `< j` are Z-type (`lo`), the others as block 4 left them (`hi`) -/
structure B5 (N : Nat) (t : STab) (j : Nat) : Prop where
  n_eq : t.n = N
  xdiag : ∀ m c, m < N → c < N → m ≠ c → xb t m c = false
  zupper : ∀ m c, m < c → c < N → zb t m c = false
  lo : ∀ c, c < j → c < N → xb t c c = false ∧ zb t c c = true
  hi : ∀ c, j ≤ c → c < N → (xb t c c = true ∧ ∀ m, m < N → zb t m c = false) ∨ (xb t c c = false ∧ zb t c c = true)

theorem b5_step (N : Nat) (st : InvState) (j : Nat) (hj : j < N) (h : B5 N st.t j) : B5 N (invStep5 st j).t (j + 1) := by
  obtain ⟨hn, ex, ez⟩ := invStep5_edit st j hj h.n_eq h.xdiag (h.hi j (Nat.le_refl _) hj)
  refine ⟨hn, fun m c hm hc hne => ?_, fun m c h1 h2 => ?_, fun c h1 h2 => ?_, fun c h1 h2 => ?_⟩
  · rw [ex m c hm hc]
    split
    · rfl
    · exact h.xdiag m c hm hc hne
  · rw [ez m c (by omega) h2]
    split
    · next e =>
      have : m ≠ j := by have := e.1; omega
      simp [this]
    · exact h.zupper m c h1 h2
  · rw [ex c c h2 h2, ez c c h2 h2]
    by_cases e : c = j
    · subst e
      rw [if_pos rfl]
      refine ⟨rfl, ?_⟩
      rcases h.hi c (Nat.le_refl _) h2 with h3 | h3
      · rw [if_pos ⟨rfl, h3.1⟩]; simp
      · rw [if_neg (fun e => by rw [h3.1] at e; cases e.2)]; exact h3.2
    · rw [if_neg e, if_neg (fun e' => e e'.1)]; exact h.lo c (by omega) h2
  · have hcj : c ≠ j := by omega
    rw [ex c c h2 h2, if_neg hcj, ez c c h2 h2, if_neg (fun e => hcj e.1)]
    rcases h.hi c (by omega) h2 with h3 | h3
    · left
      refine ⟨h3.1, fun m hm => ?_⟩
      rw [ez m c hm h2, if_neg (fun e => hcj e.1)]; exact h3.2 m hm
    · right; exact h3

/-- after block 5: no x-bit, z-bit matrix unit lower triangular -/
structure A5 (N : Nat) (t : STab) : Prop where
  n_eq : t.n = N
  xzero : ∀ m c, m < N → c < N → xb t m c = false
  zdiag : ∀ c, c < N → zb t c c = true
  zupper : ∀ m c, m < c → c < N → zb t m c = false

theorem block5 (N : Nat) (st : InvState) (h : A4 N st.t) : A5 N ((List.range N).foldl invStep5 st).t := by
  have key := Loop.foldl_range (f := invStep5) (n := N) (fun j s => B5 N s.t j) (fun j s hj hq => b5_step N s j hj hq)
    (s := st) ⟨h.n_eq, h.xdiag, h.zupper, fun c h1 => by omega, fun c _ h2 => h.cols c h2⟩
  generalize ((List.range N).foldl invStep5 st).t = t at key
  refine ⟨key.n_eq, ?_, fun c hc => (key.lo c hc hc).2, key.zupper⟩
  intro m c hm hc
  by_cases e : m = c
  · subst e; exact (key.lo m hm hm).1
  · exact key.xdiag m c hm hc e

/-! ### block 6: row products clear the z-bits left of the diagonal -/

/-- once row `j` of the z-bit matrix is the unit vector (cleared left of the diagonal), the step clears the z-bit
    `(k,j)` and changes nothing else -/
theorem invStep6_edit {N : Nat} (st : InvState) (j k : Nat) (hjk : j < k) (hk : k < N) (h : A5 N st.t)
    (done : ∀ c, c < j → zb st.t j c = false) :
    (invStep6 st (j, k)).t.n = N ∧
    (∀ m c, m < N → c < N → xb (invStep6 st (j, k)).t m c = xb st.t m c) ∧
    ∀ m c, m < N → c < N → zb (invStep6 st (j, k)).t m c = if m = k ∧ c = j then false else zb st.t m c := by
  have hn := h.n_eq
  have hj : j < N := by omega
  have hx : (st.t.row k).x j = false := h.xzero k j hk hj
  unfold invStep6
  simp only [hx, Bool.not_false, Bool.true_and]
  split
  · next hz1 =>
    have hz1 : zb st.t k j = true := hz1
    refine ⟨hn, fun m c hm hc => ?_, fun m c hm hc => ?_⟩
    · rw [rsum_xb st j k m c (by omega) (by omega)]
      split
      · next e => rw [e, h.xzero j c hj hc, h.xzero k c hk hc]; rfl
      · rfl
    · rw [rsum_zb st j k m c (by omega) (by omega)]
      by_cases e1 : m = k
      · subst e1
        rw [if_pos rfl]
        by_cases e2 : c = j
        · subst e2; rw [if_pos ⟨rfl, rfl⟩, h.zdiag c hc, hz1]; rfl
        · have : zb st.t j c = false := by
            rcases Nat.lt_or_gt_of_ne e2 with hlt | hgt
            · exact done c hlt
            · exact h.zupper j c hgt hc
          rw [this, if_neg (fun e => e2 e.2)]; simp
      · rw [if_neg e1, if_neg (fun e => e1 e.1)]
  · next hz0 =>
    have hz0 : zb st.t k j = false := Bool.eq_false_iff.2 hz0
    refine ⟨hn, fun _ _ _ _ => rfl, fun m c _ _ => ?_⟩
    split
    · next e => rw [e.1, e.2]; exact hz0
    · rfl

/-- after block 6: the tableau of |0…0⟩ up to signs -/
structure A6 (N : Nat) (t : STab) : Prop where
  n_eq : t.n = N
  xzero : ∀ m c, m < N → c < N → xb t m c = false
  zid : ∀ m c, m < N → c < N → zb t m c = decide (c = m)

theorem block6 (N : Nat) (st : InvState) (h : A5 N st.t) : A6 N ((pairsLt N).foldl invStep6 st).t := by
  obtain ⟨a, cl⟩ := sweep_pairs (N := N) invStep6 (A5 N) (fun t j k => zb t k j)
    (fun s j k hjk hk a hc => by
      have hj : j < N := by omega
      obtain ⟨hn, ex, ez⟩ := invStep6_edit s j k hjk hk a (fun c hc' => hc c j (Or.inl hc') hc' hj)
      refine ⟨⟨hn, fun m c hm hc' => by rw [ex m c hm hc']; exact a.xzero m c hm hc', fun c hc' => ?_,
        fun m c h1 h2 => ?_⟩, ?_, fun m c hmc hc' hz => ?_⟩
      · rw [ez c c hc' hc', if_neg (by omega)]; exact a.zdiag c hc'
      · rw [ez m c (by omega) h2, if_neg (by omega)]; exact a.zupper m c h1 h2
      · show zb (invStep6 s (j, k)).t k j = false
        rw [ez k j hk hj, if_pos ⟨rfl, rfl⟩]
      · show zb (invStep6 s (j, k)).t c m = false
        rw [ez c m hc' (by omega)]
        split
        · rfl
        · exact hz) st h
  generalize ((pairsLt N).foldl invStep6 st).t = t at a cl
  refine ⟨a.n_eq, a.xzero, fun m c hm hc => ?_⟩
  by_cases e : c = m
  · subst e; simp [a.zdiag c hc]
  · by_cases hlt : c < m
    · rw [cl c m hlt hm]; simp [e]
    · rw [a.zupper m c (by omega) hc]; simp [e]

/-! ### block 7: X gates clear the signs -/

/-- block 7 before row `i` (`r0`: the sign column at the start, from which the index list was computed): the signs of the
    rows `< i` are cleared, the others are still those of the start -/
structure B7 (N : Nat) (r0 : Nat → Bool) (t : STab) (i : Nat) : Prop where
  n_eq : t.n = N
  xzero : ∀ m c, m < N → c < N → xb t m c = false
  zid : ∀ m c, m < N → c < N → zb t m c = decide (c = m)
  lo : ∀ m, m < i → m < N → rb t m = false
  hi : ∀ m, i ≤ m → m < N → rb t m = r0 m

theorem b7_step (N : Nat) (r0 : Nat → Bool) (st : InvState) (i : Nat) (hi : i < N) (h : B7 N r0 st.t i) :
    B7 N r0 (if r0 i = true then invStep7 st i else st).t (i + 1) := by
  have hn := h.n_eq
  split
  · next hr =>
    unfold invStep7
    obtain ⟨ex, ez⟩ := gate_x_bits st hn i
    have er : ∀ m, m < N → rb (st.gate (.X i)).t m = xor (rb st.t m) (decide (i = m)) := by
      intro m hm
      rw [gate_rb st _ m (by omega)]
      have := xg_r i (st.t.row m)
      have hz : (st.t.row m).z i = decide (i = m) := h.zid m i hm hi
      rw [hz] at this
      exact this
    refine ⟨hn, ?_, ?_, ?_, ?_⟩
    · intro m c hm hc; rw [ex m c hm hc]; exact h.xzero m c hm hc
    · intro m c hm hc; rw [ez m c hm hc]; exact h.zid m c hm hc
    · intro m h1 h2
      rw [er m h2]
      by_cases e : i = m
      · subst e; rw [h.hi i (Nat.le_refl _) h2, hr]; simp
      · rw [h.lo m (by omega) h2]; simp [e]
    · intro m h1 h2
      have e : i ≠ m := by omega
      rw [er m h2, h.hi m (by omega) h2]; simp [e]
  · next hr =>
    refine ⟨hn, h.xzero, h.zid, ?_, fun m h1 h2 => h.hi m (by omega) h2⟩
    intro m h1 h2
    by_cases e : m = i
    · subst e; rw [h.hi m (Nat.le_refl _) h2]
      cases hh : r0 m
      · rfl
      · exact absurd hh hr
    · exact h.lo m (by omega) h2

theorem block7 (N : Nat) (st : InvState) (h : A6 N st.t) :
    (((List.range N).filter fun i => (st.t.row i).r).foldl invStep7 st).t.isZero = true := by
  rw [List.foldl_filter]
  have key := Loop.foldl_range (f := fun s a => if (st.t.row a).r = true then invStep7 s a else s) (n := N)
    (fun i s => B7 N (rb st.t) s.t i) (fun i s hi hq => b7_step N (rb st.t) s i hi hq)
    (s := st) ⟨h.n_eq, h.xzero, h.zid, fun m h1 => by omega, fun m _ _ => rfl⟩
  generalize ((List.range N).foldl (fun s a => if (st.t.row a).r = true then invStep7 s a else s) st).t = t at key
  unfold isZero
  rw [key.n_eq]
  simp only [List.all_eq_true, List.mem_range]
  intro i hi
  unfold PRow.beqOn
  simp only [Bool.and_eq_true, List.all_eq_true, List.mem_range, beq_iff_eq]
  refine ⟨⟨fun c hc => ⟨key.xzero i c hi hc, ?_⟩, key.lo i hi hi⟩, rfl⟩
  exact key.zid i c hi hc

/-- **blocks 2 to 7 end in |0…0⟩** on every real commuting tableau of the shape `Post1` -/
theorem invRest_isZero (s1 : InvState) (hg : s1.t.Good) (hp : Post1 s1.t) : (invRest s1.t.n s1).t.isZero = true := by
  unfold invRest
  exact block7 _ _ (block6 _ _ (block5 _ _ (block4 _ _ (block3 _ _ (block2 _ s1 rfl hg hp)))))

end STab
end Graphiq
