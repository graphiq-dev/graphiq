/-
  Proofs/TabSpecHom.lean — the column maps of the qubit-number-changing operations respect the signed Pauli product, for every
  size: `insertCol` (insert an identity site), `swap` (exchange two sites), `truncCols` / `shiftCols` (embed into the left / right
  factor of a tensor product) are homomorphisms (`insertCol_isHom`, `truncCols_isHom`, `shiftCols_isHom`; for `swap` see
  `isAut_swap`, Proofs/TabSpecOps.lean); `deleteCol` (drop a site) is one on the rows that are I or Z there.
-/
import GraphiqModel.Proofs.TabSpecGroup
namespace Graphiq.TabSpec
open Graphiq PRow Tab STab

theorem insertCol_ph (k : Nat) (a : PRow) : (a.insertCol k).ph = a.ph := rfl

theorem insertCol_mul (n k : Nat) (hk : k ≤ n) (a b : PRow) :
    EqOn (n + 1) ((PRow.mul n a b).insertCol k) (PRow.mul (n + 1) (a.insertCol k) (b.insertCol k)) := by
  apply eqOn_of
  · intro j _
    simp only [PRow.insertCol, mul_x, mul_z]
    by_cases h1 : j < k
    · simp [h1]
    · by_cases h2 : j = k
      · simp [h2]
      · simp [h1, h2]
  · rw [insertCol_ph, mul_ph, mul_ph, gSum_insertCol n k hk, insertCol_ph, insertCol_ph]

theorem insertCol_congr (n k : Nat) (hk : k ≤ n) (a b : PRow) (h : EqOn n a b) :
    EqOn (n + 1) (a.insertCol k) (b.insertCol k) := by
  refine ⟨fun j hj => ?_, h.2.1, h.2.2⟩
  simp only [PRow.insertCol]
  by_cases h1 : j < k
  · simp only [h1, if_true]; exact h.1 j (by omega)
  · by_cases h2 : j = k
    · simp [h2]
    · simp only [h1, h2, if_false]; exact h.1 (j - 1) (by omega)

theorem insertCol_one (n k : Nat) : EqOn n (PRow.one.insertCol k) PRow.one := by
  refine ⟨fun j _ => ?_, rfl, rfl⟩
  simp [PRow.insertCol, PRow.one]

theorem insertCol_isHom (n k : Nat) (hk : k ≤ n) : IsHom n (n + 1) (PRow.insertCol k) :=
  ⟨insertCol_one (n + 1) k, insertCol_mul n k hk, insertCol_congr n k hk⟩

theorem insertCol_negate (k : Nat) (a : PRow) : (negate a).insertCol k = negate (a.insertCol k) := rfl

theorem insertCol_x (k : Nat) (a : PRow) : (a.insertCol k).x k = false := by simp [PRow.insertCol]
theorem insertCol_z (k : Nat) (a : PRow) : (a.insertCol k).z k = false := by simp [PRow.insertCol]

theorem deleteCol_ph (k : Nat) (a : PRow) : (a.deleteCol k).ph = a.ph := rfl

theorem deleteCol_mul (n k : Nat) (hk : k ≤ n) (a b : PRow) (ha : a.x k = false) (hb : b.x k = false) :
    EqOn n ((PRow.mul (n + 1) a b).deleteCol k) (PRow.mul n (a.deleteCol k) (b.deleteCol k)) := by
  apply eqOn_of
  · intro j _
    simp only [PRow.deleteCol, mul_x, mul_z]
    by_cases h1 : j < k <;> simp [h1]
  · rw [deleteCol_ph, mul_ph, mul_ph, gSum_deleteCol n k hk a b (by rw [ha, hb]; exact gFun_xfree _ _),
      deleteCol_ph, deleteCol_ph]

theorem deleteCol_congr (n k : Nat) (a b : PRow) (h : EqOn (n + 1) a b) :
    EqOn n (a.deleteCol k) (b.deleteCol k) := by
  refine ⟨fun j hj => ?_, h.2.1, h.2.2⟩
  simp only [PRow.deleteCol]
  by_cases h1 : j < k
  · simp only [h1, if_true]; exact h.1 j (by omega)
  · simp only [h1, if_false]; exact h.1 (j + 1) (by omega)

theorem deleteCol_insertCol (n k : Nat) (a : PRow) : EqOn n ((a.insertCol k).deleteCol k) a := by
  refine ⟨fun j _ => ?_, rfl, rfl⟩
  simp only [PRow.deleteCol, PRow.insertCol]
  by_cases h1 : j < k
  · simp [h1]
  · have h2 : ¬ (j + 1 < k) := by omega
    have h3 : j + 1 ≠ k := by omega
    simp [h1, h2, h3]

theorem insertCol_deleteCol (n k : Nat) (a : PRow) (hx : a.x k = false) (hz : a.z k = false) :
    EqOn n ((a.deleteCol k).insertCol k) a := by
  refine ⟨fun j _ => ?_, rfl, rfl⟩
  simp only [PRow.deleteCol, PRow.insertCol]
  by_cases h1 : j < k
  · simp [h1]
  · by_cases h2 : j = k
    · subst h2; simp [hx, hz]
    · have h3 : ¬ (j - 1 < k) := by omega
      have h4 : j - 1 + 1 = j := by omega
      simp [h1, h2, h3, h4]

theorem deleteCol_one (n k : Nat) : EqOn n (PRow.one.deleteCol k) PRow.one := by
  refine ⟨fun j _ => ?_, rfl, rfl⟩
  simp [PRow.deleteCol, PRow.one]

theorem deleteCol_negate (k : Nat) (a : PRow) : (negate a).deleteCol k = negate (a.deleteCol k) := rfl

theorem sp_deleteCol_xfree (n k : Nat) (hk : k ≤ n) (a b : PRow) (ha : a.x k = false) (hb : b.x k = false) :
    sp n (a.deleteCol k) (b.deleteCol k) = sp (n + 1) a b :=
  sp_deleteCol n k hk a b (by rw [ha, hb]; simp)

theorem swap_swap (a b : Nat) (p : PRow) : PRow.swap a b (PRow.swap a b p) = p := by
  cases p with
  | mk x z r ip =>
    simp only [PRow.swap]
    congr 1 <;> funext j <;> by_cases h1 : j = a <;> by_cases h2 : j = b <;> by_cases h3 : b = a <;>
      simp_all

theorem swap_ph (a b : Nat) (p : PRow) : (PRow.swap a b p).ph = p.ph := rfl

theorem swap_mul (n a b : Nat) (ha : a < n) (hb : b < n) (u v : PRow) :
    EqOn n (PRow.swap a b (PRow.mul n u v)) (PRow.mul n (PRow.swap a b u) (PRow.swap a b v)) := by
  apply eqOn_of
  · intro j _
    simp only [PRow.swap, mul_x, mul_z]
    by_cases h1 : j = a
    · simp [h1]
    · by_cases h2 : j = b
      · subst h2
        have hba : ¬ (j = a) := h1
        simp [hba]
      · simp [h1, h2]
  · rw [swap_ph, mul_ph, mul_ph, gSum_swap n a b ha hb, swap_ph, swap_ph]

theorem swap_congr (n a b : Nat) (ha : a < n) (hb : b < n) (u v : PRow) (h : EqOn n u v) :
    EqOn n (PRow.swap a b u) (PRow.swap a b v) := by
  refine ⟨fun j hj => ?_, h.2.1, h.2.2⟩
  simp only [PRow.swap]
  by_cases h1 : j = a
  · simp only [h1, if_true]; exact h.1 b hb
  · by_cases h2 : j = b
    · subst h2
      have hba : ¬ (j = a) := h1
      simp only [hba, if_true, if_false]; exact h.1 a ha
    · simp only [h1, h2, if_false]; exact h.1 j hj

theorem swap_one (a b : Nat) : PRow.swap a b PRow.one = PRow.one := by
  simp [PRow.swap, PRow.one]

theorem truncCols_ph (n : Nat) (a : PRow) : (a.truncCols n).ph = a.ph := rfl
theorem shiftCols_ph (n : Nat) (a : PRow) : (a.shiftCols n).ph = a.ph := rfl

theorem truncCols_mul (na nb : Nat) (a b : PRow) :
    EqOn (na + nb) ((PRow.mul na a b).truncCols na) (PRow.mul (na + nb) (a.truncCols na) (b.truncCols na)) := by
  apply eqOn_of
  · intro j _
    simp only [PRow.truncCols, mul_x, mul_z]
    by_cases h : j < na <;> simp [h]
  · rw [truncCols_ph, mul_ph, mul_ph, gSum_trunc_trunc, truncCols_ph, truncCols_ph]

theorem shiftCols_mul (na nb : Nat) (a b : PRow) :
    EqOn (na + nb) ((PRow.mul nb a b).shiftCols na) (PRow.mul (na + nb) (a.shiftCols na) (b.shiftCols na)) := by
  apply eqOn_of
  · intro j _
    simp only [PRow.shiftCols, mul_x, mul_z]
    by_cases h : j < na <;> simp [h]
  · rw [shiftCols_ph, mul_ph, mul_ph, gSum_shift_shift, shiftCols_ph, shiftCols_ph]

theorem truncCols_congr (na nb : Nat) (a b : PRow) (h : EqOn na a b) :
    EqOn (na + nb) (a.truncCols na) (b.truncCols na) := by
  refine ⟨fun j _ => ?_, h.2.1, h.2.2⟩
  simp only [PRow.truncCols]
  by_cases hj : j < na
  · simp only [hj, decide_true, Bool.true_and]; exact h.1 j hj
  · simp [hj]

theorem shiftCols_congr (na nb : Nat) (a b : PRow) (h : EqOn nb a b) :
    EqOn (na + nb) (a.shiftCols na) (b.shiftCols na) := by
  refine ⟨fun j hj' => ?_, h.2.1, h.2.2⟩
  simp only [PRow.shiftCols]
  by_cases hj : j < na
  · simp [hj]
  · simp only [hj, if_false]; exact h.1 (j - na) (by omega)

theorem truncCols_one (n m : Nat) : EqOn m (PRow.one.truncCols n) PRow.one := by
  refine ⟨fun j _ => ?_, rfl, rfl⟩
  simp [PRow.truncCols, PRow.one]

theorem shiftCols_one (n m : Nat) : EqOn m (PRow.one.shiftCols n) PRow.one := by
  refine ⟨fun j _ => ?_, rfl, rfl⟩
  simp [PRow.shiftCols, PRow.one]

theorem truncCols_isHom (na nb : Nat) : IsHom na (na + nb) (PRow.truncCols na) :=
  ⟨truncCols_one na (na + nb), truncCols_mul na nb, truncCols_congr na nb⟩

theorem shiftCols_isHom (na nb : Nat) : IsHom nb (na + nb) (PRow.shiftCols na) :=
  ⟨shiftCols_one na (na + nb), shiftCols_mul na nb, shiftCols_congr na nb⟩

/-- the row `P ⊗ Q` on `na + nb` qubits -/
def tensorRow (na nb : Nat) (P Q : PRow) : PRow := PRow.mul (na + nb) (P.truncCols na) (Q.shiftCols na)

theorem tensorRow_x (na nb : Nat) (P Q : PRow) (j : Nat) :
    (tensorRow na nb P Q).x j = if j < na then P.x j else Q.x (j - na) := by
  unfold tensorRow
  simp only [mul_x, PRow.truncCols, PRow.shiftCols]
  by_cases h : j < na <;> simp [h]

theorem tensorRow_z (na nb : Nat) (P Q : PRow) (j : Nat) :
    (tensorRow na nb P Q).z j = if j < na then P.z j else Q.z (j - na) := by
  unfold tensorRow
  simp only [mul_z, PRow.truncCols, PRow.shiftCols]
  by_cases h : j < na <;> simp [h]

theorem tensorRow_ph (na nb : Nat) (P Q : PRow) : (tensorRow na nb P Q).ph = (P.ph + Q.ph) % 4 := by
  unfold tensorRow
  rw [mul_ph, gSum_trunc_shift, truncCols_ph, shiftCols_ph]; omega

theorem gSum_tensorRow (na nb : Nat) (P1 Q1 P2 Q2 : PRow) :
    gSum (na + nb) (tensorRow na nb P1 Q1) (tensorRow na nb P2 Q2) = gSum na P1 P2 + gSum nb Q1 Q2 := by
  rw [gSum_split]
  congr 1
  · apply gSum_congr <;> (intro j hj; simp [tensorRow_x, tensorRow_z, hj])
  · unfold gSum
    apply sumTo_congr; intro j _
    have : ¬ (na + j < na) := by omega
    simp [tensorRow_x, tensorRow_z, this]

theorem tensorRow_mul (na nb : Nat) (P1 Q1 P2 Q2 : PRow) :
    EqOn (na + nb) (PRow.mul (na + nb) (tensorRow na nb P1 Q1) (tensorRow na nb P2 Q2))
      (tensorRow na nb (PRow.mul na P1 P2) (PRow.mul nb Q1 Q2)) := by
  apply eqOn_of
  · intro j _
    simp only [mul_x, mul_z, tensorRow_x, tensorRow_z]
    by_cases h : j < na <;> simp [h]
  · rw [mul_ph, gSum_tensorRow, tensorRow_ph, tensorRow_ph, tensorRow_ph, mul_ph, mul_ph]
    omega

theorem tensorRow_congr (na nb : Nat) (P P' Q Q' : PRow) (hP : EqOn na P P') (hQ : EqOn nb Q Q') :
    EqOn (na + nb) (tensorRow na nb P Q) (tensorRow na nb P' Q') :=
  mul_congr _ _ _ _ _ (truncCols_congr na nb P P' hP) (shiftCols_congr na nb Q Q' hQ)

theorem tensorRow_one_right (na nb : Nat) (P : PRow) : EqOn (na + nb) (tensorRow na nb P PRow.one) (P.truncCols na) :=
  (mul_congr _ _ _ _ _ (EqOn.refl _ _) (shiftCols_one na (na + nb))).trans (mul_one _ _)

theorem tensorRow_one_left (na nb : Nat) (Q : PRow) : EqOn (na + nb) (tensorRow na nb PRow.one Q) (Q.shiftCols na) :=
  (mul_congr _ _ _ _ _ (truncCols_one na (na + nb)) (EqOn.refl _ _)).trans (one_mul _ _)

end Graphiq.TabSpec
