/-
  Proofs/LCTotalR.lean — totality of the repaired `is_lc_equivalent` (`isLcEquivalentR`): every component is non-empty, so
  every call of `_is_lc_equivalent_component` returns (`isLcEquivalent_total`), hence so does the loop over the components.
-/
import GraphiqModel.Proofs.LCRepair
namespace Graphiq.LC
open Graphiq

theorem componentLoop_total (a b : BMat) (mode : Mode) (hmode : mode ≠ .other) (comps : List (List Nat))
    (hne : ∀ c ∈ comps, 0 < c.length) (draws : List (List Bool)) (sol : List Bool) (parts : List EqOut) :
    ∃ r, componentLoop a b mode comps draws sol parts = .ok r := by
  induction comps generalizing draws sol parts with
  | nil => exact ⟨_, rfl⟩
  | cons c rest ih =>
    obtain ⟨out, ho⟩ := isLcEquivalent_total (subMat a c) (subMat b c) mode (draws.headD [])
      (hne c List.mem_cons_self) rfl hmode
    simp only [componentLoop, ho]
    split
    · exact ⟨_, rfl⟩
    · exact ih (fun c' h' => hne c' (List.mem_cons_of_mem _ h')) _ _ _

/-- **the repaired `is_lc_equivalent` is total**: on two graphs of the same size, the first of them simple, in deterministic or random mode, it
    returns — no assertion of `_is_lc_equivalent_component` can fire on any component -/
theorem isLcEquivalentR_total (a b : BMat) (mode : Mode) (draws : List (List Bool)) (hab : a.r = b.r)
    (ha : Simple a.r a.f) (hmode : mode ≠ .other) : ∃ out, isLcEquivalentR a b mode draws = .ok out := by
  unfold isLcEquivalentR
  simp only []
  rw [if_neg (by rw [hab]; simp)]
  split
  · exact ⟨_, rfl⟩
  · obtain ⟨r, hr⟩ := componentLoop_total a b mode hmode (connectedComponents a.r a.f)
      (fun c hc => (component_facts a.r a.f ha c hc).1) draws (List.replicate (4 * a.r) false) []
    rw [hr]
    exact ⟨_, rfl⟩

end Graphiq.LC
