/-
  MetricsHistWires.lean — `add`, `unwrap_nodes`, `remove_identity` and `group_one_qubit_gates` on the wire sequences as wired
  (C18/C12): every wire afterwards carries what it carried with the operation appended / the flatMap-unwrap / the non-identity
  operations / the fuse of runs of what it carried, classical threading included.  The wired sequence is the view `wiredOp P` of
  the wire (Proofs/WireOps.lean, PrepOrder.lean, FuseLoop.lean); a node that is there before and after the edit lies on the same
  classical wires, so it is wired after as before.
-/
import GraphiqModel.Proofs.MetricsHistIso
import GraphiqModel.Proofs.FuseLoop
namespace Graphiq
namespace Metrics
open Dag Relation

/-- along erasures and insertions a node that stays keeps its operation and lies on the wires it lay on -/
theorem mem_wires_of_chain {A : Prim → Prop} (hA : ∀ p, A p → p.IsErase ∨ p.IsInsert) {c c' : Dag} {P P' : Paths}
    (s : Chain A c P c' P') (g : Good c P) {i : Nat} (hi : i ≤ c.nodeId) {o : Op} (hm : (NodeId.op i, o) ∈ c'.nodes) :
    (NodeId.op i, o) ∈ c.nodes ∧ ∀ k, NodeId.op i ∈ P' k ↔ NodeId.op i ∈ P k := by
  induction s with
  | refl => exact ⟨hm, fun _ => Iff.rfl⟩
  | @step c P p c' P' a hp _ ih =>
    obtain ⟨hm1, hk1⟩ := ih (Prim.good g hp) (Nat.le_trans hi (Prim.run_nodeId_le g hp)) hm
    cases p with
    | newReg r => exact ((hA _ a).elim id id).elim
    | relabel j new => exact ((hA _ a).elim id id).elim
    | erase j =>
      refine ⟨(Prim.erase_spec g j).2.2.2 _ _ hm1, fun k => (hk1 k).trans ?_⟩
      show NodeId.op i ∈ (P k).erase (.op j) ↔ _
      by_cases hj : NodeId.op j ∈ c.nodeIds
      · obtain ⟨w, hw⟩ := mem_nodeIds.mp hj
        have hne : NodeId.op i ≠ NodeId.op j := fun e => by
          have : (NodeId.op i, o) ∈ (c.removeOp (.op j)).1.nodes := hm1
          rw [removeOp_nodes g.inv hw] at this
          simpa [e] using (List.mem_filter.mp this).2
        exact List.mem_erase_of_ne hne
      · rw [List.erase_of_not_mem (fun h => hj (g.inv.mem_nodes k _ h))]
    | insert op es =>
      have hne : NodeId.op i ≠ NodeId.op (c.nodeId + 1) := fun e => by injection e with e; omega
      refine ⟨?_, fun k => (hk1 k).trans ?_⟩
      · rw [Prim.insert_nodes g.inv] at hm1
        rcases List.mem_append.mp hm1 with h | h
        · exact h
        · simp only [List.mem_singleton, Prod.mk.injEq] at h; exact absurd h.1 hne
      · rw [Prim.mem_insert_wires g.inv hp]; simp [hne]

/-- a view of the wires of a circuit through the wiring of another is its own wired view, if every node is wired alike -/
theorem wiredWire_of_view {c : Dag} {P P0 : Paths} (g : Good c P) (r : Reg)
    (h : ∀ i o, (NodeId.op i, o) ∈ c.nodes → wiredOp P (.op i) o = wiredOp P0 (.op i) o) :
    wiredWire c P r = wireOpsF (wiredOp P0) c (P r) := by
  rw [wiredWire_eq_view]
  exact wireOpsF_congr_view fun i _ o ho => h i o ((opOf_eq_some g.inv.ids_nodup).mp ho)

/-- **`_add` on the wire sequences as wired**: the operation, threaded on all its registers, is appended to their wires -/
theorem add_wiredWire {c : Dag} {P : Paths} (g : Good c P) {op : Op} (hop : OpWF op) (hlive : ∀ r ∈ opRegs op, c.live r) (r : Reg) :
    wiredWire (c.add_ op) (splicePaths (.op (c.nodeId + 1)) ((opRegs op).map (lastEdge P)) P) r =
      wiredWire c P r ++ (if r ∈ opRegs op then [op] else []) := by
  have hmemW : ∀ k x, x ∈ splicePaths (.op (c.nodeId + 1)) ((opRegs op).map (lastEdge P)) P k ↔
      x ∈ P k ∨ (x = .op (c.nodeId + 1) ∧ k ∈ ((opRegs op).map (lastEdge P)).map (·.key)) :=
    Prim.mem_insert_wires g.inv (spliceOK_lastEdges g hop hlive)
  rw [lastEdge_keys] at hmemW
  have hnew : wiredOp (splicePaths (.op (c.nodeId + 1)) ((opRegs op).map (lastEdge P)) P) (.op (c.nodeId + 1)) op = op :=
    wiredOp_eq_self fun j hj => by
      rw [hmemW]; exact Or.inr ⟨rfl, List.mem_append.mpr (Or.inr (List.mem_map.mpr ⟨j, hj, rfl⟩))⟩
  rw [wiredWire_eq_view, add_view _ g hop hlive r, hnew]
  congr 1
  refine (wiredWire_of_view g r fun i o hm => wiredOp_congr fun j _ => ?_).symm
  have hne : NodeId.op i ≠ NodeId.op (c.nodeId + 1) := fun e => g.inv.op_fresh (e ▸ mem_nodeIds.mpr ⟨o, hm⟩)
  rw [hmemW]; simp only [hne, false_and, or_false]

theorem opRegs_unwrap {o : Op} (hwf : OpWF o) : ∀ o' ∈ o.unwrap, opRegs o' = opRegs o := by
  intro o' ho'
  by_cases hk : o.kind = .wrapper
  · obtain ⟨⟨r0, hq⟩, hc, _⟩ := hwf.wrapper_shape hk
    unfold Op.unwrap at ho'
    rw [hk] at ho'
    obtain ⟨k, _, rfl⟩ := List.mem_map.mp ho'
    unfold opRegs Op.oneQubit
    rw [hq, hc]
    rfl
  · rw [unwrap_of_not_wrapper hk] at ho'
    simp at ho'; rw [ho']

theorem filter_flatMap_unwrap (r : Reg) (l : List Op) (hwf : ∀ o ∈ l, OpWF o) :
    (l.flatMap Op.unwrap).filter (fun o => decide (r ∈ opRegs o)) =
      (l.filter (fun o => decide (r ∈ opRegs o))).flatMap Op.unwrap := by
  induction l with
  | nil => rfl
  | cons o t ih =>
    have iht := ih (fun x hx => hwf x (List.mem_cons_of_mem _ hx))
    rw [List.flatMap_cons, List.filter_append, iht]
    have hregs := opRegs_unwrap (hwf o (by simp))
    by_cases hr : r ∈ opRegs o
    · rw [List.filter_cons_of_pos (by simpa using hr), List.flatMap_cons]
      congr 1
      apply List.filter_eq_self.mpr
      intro o' ho'
      rw [hregs o' ho']; simpa using hr
    · rw [List.filter_cons_of_neg (by simpa using hr)]
      have : o.unwrap.filter (fun o => decide (r ∈ opRegs o)) = [] := by
        apply List.filter_eq_nil_iff.mpr
        intro o' ho'
        rw [hregs o' ho']; simpa using hr
      rw [this, List.nil_append]

/-- **`unwrap_nodes` on the wire sequences as wired**: flatMap-unwrap of every wire -/
theorem unwrapNodes_wiredWire {c : Dag} {P : Paths} (g : Good c P) (hpl : AllPlain c) :
    c.unwrapNodes.2 = none ∧ ∃ P', Good c.unwrapNodes.1 P' ∧ AllPlain c.unwrapNodes.1 ∧
      ∀ r, wiredWire c.unwrapNodes.1 P' r = (wiredWire c P r).flatMap Op.unwrap := by
  obtain ⟨P', s, hw⟩ := unwrapNodes_view (cregView_wiredOp P) g hpl
  have g' := s.good g
  refine ⟨(unwrapNodes_count g hpl (fun _ => true)).1, P', g', allPlain_of_unwrapChain s g hpl, fun r => ?_⟩
  rw [wiredWire_eq_view c P r, ← hw r]
  refine wiredWire_of_view g' r fun i o hm => ?_
  by_cases hi : i ≤ c.nodeId
  · exact wiredOp_congr fun j _ => (mem_wires_of_chain (fun p a => a.elim Or.inl fun ⟨_, _, _, _, _, _, e⟩ => Or.inr (e ▸ trivial)) s g hi hm).2 _
  · -- a new node holds a gate of an unwrapped wrapper: no classical register
    have hc : o.cregs = [] := by
      rcases s.ops_from g hm with h | ⟨p, a, hb, _⟩
      · exact absurd (g.inv.op_range i (mem_nodeIds.mpr ⟨o, h⟩)).2 hi
      · rcases a with a | ⟨w, o', es, hwf, hk, ho', rfl⟩
        · exact (a.brings_nothing hb).elim
        · obtain ⟨⟨r0, hq⟩, _, _⟩ := hwf.wrapper_shape hk
          rw [show o = o' from hb]
          exact (unwrap_ops_wf hwf hk hq o' ho').2.2
    rw [wiredOp_of_cregs_nil hc, wiredOp_of_cregs_nil hc]

/-- **`remove_identity` on the wire sequences as wired**: the non-identity operations of every wire, in order -/
theorem removeIdentity_wiredWire {c : Dag} {P : Paths} (g : Good c P) (hpl : AllPlain c) :
    c.removeIdentity.2 = none ∧ ∃ P', Good c.removeIdentity.1 P' ∧ AllPlain c.removeIdentity.1 ∧
      ∀ r, wiredWire c.removeIdentity.1 P' r = (wiredWire c P r).filter (fun o => !decide (o.kind = .identity)) := by
  obtain ⟨P', s, hw⟩ := removeIdentity_view (cregView_wiredOp P) g hpl
  have g' := s.good g
  have hsub : ∀ i o, (NodeId.op i, o) ∈ c.removeIdentity.1.nodes → (NodeId.op i, o) ∈ c.nodes := fun i o hm =>
    (s.ops_from g hm).elim id fun ⟨_, a, hb, _⟩ => (a.brings_nothing hb).elim
  refine ⟨(removeIdentity_count g hpl (fun _ => true)).1, P', g', fun i o hm => hpl i o (hsub i o hm), fun r => ?_⟩
  rw [wiredWire_eq_view c P r, ← hw r]
  refine wiredWire_of_view g' r fun i o hm => wiredOp_congr fun j _ => ?_
  exact (mem_wires_of_chain (fun _ a => Or.inl a) s g (g.inv.op_range i (mem_nodeIds.mpr ⟨o, hsub i o hm⟩)).2 hm).2 _

/-- **`group_one_qubit_gates` = fuse of runs on every wire, classical wiring included**: the operation sequence of every wire —
    each operation with the classical registers it is threaded on — becomes `fuseWire` of what it was -/
theorem groupOneQubitGates_wiredWire {c : Dag} {P : Paths} (g : Good c P) (hh : GroupHyp c) :
    c.groupOneQubitGates.2 = none ∧ ∃ P', Good c.groupOneQubitGates.1 P' ∧ GroupHyp c.groupOneQubitGates.1 ∧
      c.groupOneQubitGates.1.regs = c.regs ∧
      ∀ r, wiredWire c.groupOneQubitGates.1 P' r = fuseWire r (wiredWire c P r) := by
  obtain ⟨e, P', g', hh', hw, _, _, hcl⟩ := groupOneQubitGates_view (cregView_wiredOp P) g hh
  obtain ⟨_, s⟩ := groupOneQubitGates_chain g
  refine ⟨e, P', g', hh', s.regs (fun _ h => h.not_newReg) g, fun r => ?_⟩
  -- the classical wires are unchanged, so every node is wired after the call as it was before
  have hwire : wiredOp P' = wiredOp P := by
    funext n o; exact wiredOp_congr (fun j _ => by rw [hcl j])
  rw [wiredWire_eq_view, wiredWire_eq_view, hwire]
  exact hw r

end Metrics
end Graphiq
