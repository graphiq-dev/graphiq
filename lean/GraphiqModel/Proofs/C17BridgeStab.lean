/-
  Proofs/C17BridgeStab.lean — the fidelity the stabilizer backend reports is the Uhlmann fidelity of the two density
  matrices: every stabilizer state is `|ψ⟩⟨ψ|` (Proofs/InvHilbert.lean), for a pure argument the Uhlmann fidelity is
  `tr(ρσ)` (Proofs/C17BridgeUhlmann.lean), and `tr(ρ_a ρ_b)` is the exact overlap `stabOverlap` (Proofs/C17Bridge.lean).
-/
import GraphiqModel.Proofs.C17BridgeUhlmann
import GraphiqModel.Proofs.C17Bridge
namespace Graphiq
namespace C17B
open Matrix Hilbert
open scoped MatrixOrder ComplexOrder


/-- **the stabilizer fidelity is the Uhlmann fidelity of the two density matrices** -/
theorem uhlmann_stabilizer (a b : Tab) (va : a.Valid) (vb : b.Valid) (hn : a.n = b.n) :
    uhlmann (tabRho a.n a) (tabRho a.n b) = ((DM.stabOverlap a b : Rat) : ℂ) := by
  obtain ⟨ψa, ψb, na, nb, ra, rb, hov⟩ := stabOverlap_inner a b va vb hn
  have ea : tabRho a.n a = ketBra ψa := by
    ext x y; rw [ra x y]; rfl
  have pb : (tabRho a.n b).PosSemidef := hn ▸ rho_ofTab_posSemidef b vb
  rw [ea, uhlmann_pure_left ψa _ pb, ← ea]
  exact (stabOverlap_trace a b va vb hn).symm


/-! ### the model's `fidelity` on a pure first argument -/


variable {ι : Type} [Fintype ι] [DecidableEq ι]

theorem expectation_le_trace (ψ : ι → ℂ) (hψ : star ψ ⬝ᵥ ψ = 1) (σ : Matrix ι ι ℂ) (hσ : σ.PosSemidef) :
    0 ≤ (Matrix.trace (ketBra ψ * σ)).re ∧ (Matrix.trace (ketBra ψ * σ)).re ≤ (Matrix.trace σ).re := by
  constructor
  · rw [trace_ketBra_mul]
    exact (Complex.le_def.mp (hσ.dotProduct_mulVec_nonneg ψ)).1
  · -- `tr σ − tr(ρσ) = tr(PσP)` with the projector `P = 1 − ρ`
    have hPP : (1 - ketBra ψ) * (1 - ketBra ψ) = 1 - ketBra ψ := by
      rw [Matrix.sub_mul, Matrix.mul_sub, Matrix.mul_sub, ketBra_mul_self ψ hψ]
      simp
    have hPH : (1 - ketBra ψ)ᴴ = 1 - ketBra ψ := by
      rw [Matrix.conjTranspose_sub, Matrix.conjTranspose_one, (ketBra_psd ψ).1]
    have hps : ((1 - ketBra ψ) * σ * (1 - ketBra ψ)ᴴ).PosSemidef := hσ.mul_mul_conjTranspose_same _
    have htr : Matrix.trace ((1 - ketBra ψ) * σ * (1 - ketBra ψ)ᴴ) = Matrix.trace σ - Matrix.trace (ketBra ψ * σ) := by
      rw [hPH, Matrix.trace_mul_comm, ← Matrix.mul_assoc, hPP, Matrix.sub_mul, Matrix.one_mul, Matrix.trace_sub]
    have := hps.trace_nonneg
    rw [htr] at this
    have h2 := (Complex.le_def.mp this).1
    simp only [Complex.zero_re, Complex.sub_re] at h2
    linarith


/-- **the model's `fidelity` returns the Uhlmann fidelity whenever its first argument represents a pure state `|ψ⟩⟨ψ|` and
    its second a density matrix** (positive semidefinite, trace 1): the pure branch is taken and nothing is clipped -/
theorem fidelity_pure_rep {n : Nat} {m m' : Mat} (ψ : Bits n → ℂ) (M' : DMat n) (hψ : star ψ ⬝ᵥ ψ = 1)
    (hm : Rep n m (ketBra ψ)) (hm' : Rep n m' M') (hM' : M'.PosSemidef) (ht : Matrix.trace M' = 1) :
    ∃ q : Rat, DM.fidelity m m' = .ok (.val q) ∧ ((q : ℝ) : ℂ) = uhlmann (ketBra ψ) M' := by
  have d1 := isDensityMatrix_of_rep hm (ketBra_psd ψ) (trace_ketBra ψ hψ)
  have d2 := isDensityMatrix_of_rep hm' hM' ht
  have p1 := isPure_of_rep hm (ketBra_mul_self ψ hψ) (trace_ketBra ψ hψ)
  have hb := expectation_le_trace ψ hψ M' hM'
  rw [ht] at hb
  have htr := (hm.mul hm').trace_re
  have h0 : (0 : Rat) ≤ (m.mul m').trace.re := by
    have : (0 : ℝ) ≤ (((m.mul m').trace.re : Rat) : ℝ) := by rw [htr]; exact hb.1
    exact_mod_cast this
  have h1 : (m.mul m').trace.re ≤ (1 : Rat) := by
    have : (((m.mul m').trace.re : Rat) : ℝ) ≤ (1 : ℝ) := by rw [htr]; simpa using hb.2
    exact_mod_cast this
  refine ⟨(m.mul m').trace.re, ?_, ?_⟩
  · rw [DM.fidelity_pure_branch m m' d1 d2 (Or.inl p1), DM.clip01_id _ h0 h1]
  · rw [uhlmann_pure_left ψ M' hM', htr]
    apply Complex.ext
    · simp
    · simp
      rw [trace_ketBra_mul]
      exact ((Complex.le_def.mp (hM'.dotProduct_mulVec_nonneg ψ)).2)


theorem stabilizerDensity_rep_ketBra (a : Tab) (va : a.Valid) :
    ∃ ψ : Bits a.n → ℂ, star ψ ⬝ᵥ ψ = 1 ∧ Rep a.n (DM.stabilizerDensity a) (ketBra ψ) := by
  obtain ⟨ψa, _, na, _, ra, _, _⟩ := stabOverlap_inner a a va va rfl
  refine ⟨ψa, by unfold dotProduct; exact na, (rep_stabilizerDensity a).congr ?_⟩
  ext x y; rw [ra x y]; rfl

end C17B
end Graphiq
