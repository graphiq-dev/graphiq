/-
  DagBasic.lean — generic lemmas used by the circuit-DAG proofs: consecutive elements of a list (`Consec`) under
  insertion after an element and erasure (`insertAfter`, `consec_insertAfter`, `consec_erase`), duplicate-free images,
  Python-dictionary helpers.  (Imports `AcyclicRel` and `tauto` for the files above it.)
-/
import GraphiqModel.Model.Dag
import GraphiqModel.Proofs.AcyclicRel
import Mathlib.Tactic.Tauto
-- the `Dict` section states some lemmas with a `DecidableEq` instance their statements do not need; they keep it
set_option linter.unusedSectionVars false
namespace Graphiq
open Relation

/-- `x` is immediately followed by `y` in `l` -/
def Consec {α : Type} : List α → α → α → Prop
  | a :: b :: rest, x, y => (a = x ∧ b = y) ∨ Consec (b :: rest) x y
  | _, _, _ => False

section Consec
variable {α : Type}

@[simp] theorem consec_nil (x y : α) : Consec ([] : List α) x y ↔ False := by simp [Consec]
@[simp] theorem consec_single (a x y : α) : Consec [a] x y ↔ False := by simp [Consec]
theorem consec_cons_cons (a b : α) (rest : List α) (x y : α) :
    Consec (a :: b :: rest) x y ↔ (a = x ∧ b = y) ∨ Consec (b :: rest) x y := by simp [Consec]

theorem Consec.mem {l : List α} {x y : α} (h : Consec l x y) : x ∈ l ∧ y ∈ l := by
  induction l with
  | nil => simp at h
  | cons a t ih =>
    cases t with
    | nil => simp at h
    | cons b rest =>
      rw [consec_cons_cons] at h
      rcases h with ⟨rfl, rfl⟩ | h
      · simp
      · have := ih h; exact ⟨List.mem_cons_of_mem _ this.1, List.mem_cons_of_mem _ this.2⟩

theorem consec_append_cons (l1 : List α) (a : α) (l2 : List α) (x y : α) :
    Consec (l1 ++ a :: l2) x y ↔ Consec (l1 ++ [a]) x y ∨ Consec (a :: l2) x y := by
  induction l1 with
  | nil => rw [List.nil_append, List.nil_append, consec_single, false_or]
  | cons c t ih =>
    cases t with
    | nil =>
      simp only [List.cons_append, List.nil_append, consec_cons_cons, consec_single, or_false]
    | cons d t' =>
      simp only [List.cons_append, consec_cons_cons] at ih ⊢
      rw [ih, or_assoc]

theorem consec_cons_of_ne {a : α} {l : List α} {x y : α} (hx : x ≠ a) :
    Consec (a :: l) x y ↔ Consec l x y := by
  cases l with
  | nil => simp
  | cons b rest => rw [consec_cons_cons]; constructor
                   · rintro (⟨h, _⟩ | h); exact absurd h.symm hx; exact h
                   · exact Or.inr

theorem consec_head_no_pred {a : α} {l : List α} (hn : (a :: l).Nodup) {x : α} : ¬ Consec (a :: l) x a := by
  intro h
  cases l with
  | nil => simp at h
  | cons b rest =>
    rw [consec_cons_cons] at h
    rcases h with ⟨_, hb⟩ | h
    · simp [hb] at hn
    · have := h.mem.2
      exact (List.nodup_cons.mp hn).1 this

theorem consec_succ_unique {l : List α} (hn : l.Nodup) {x y y' : α} (h : Consec l x y) (h' : Consec l x y') : y = y' := by
  induction l with
  | nil => simp at h
  | cons a t ih =>
    cases t with
    | nil => simp at h
    | cons b rest =>
      rw [consec_cons_cons] at h h'
      have hn' := (List.nodup_cons.mp hn)
      rcases h with ⟨rfl, rfl⟩ | h
      · rcases h' with ⟨_, rfl⟩ | h'
        · rfl
        · exact absurd h'.mem.1 hn'.1
      · rcases h' with ⟨rfl, rfl⟩ | h'
        · exact absurd h.mem.1 hn'.1
        · exact ih hn'.2 h h'

theorem consec_pred_unique {l : List α} (hn : l.Nodup) {x x' y : α} (h : Consec l x y) (h' : Consec l x' y) : x = x' := by
  induction l with
  | nil => simp at h
  | cons a t ih =>
    cases t with
    | nil => simp at h
    | cons b rest =>
      rw [consec_cons_cons] at h h'
      have hn' := (List.nodup_cons.mp hn)
      rcases h with ⟨rfl, rfl⟩ | h
      · rcases h' with ⟨rfl, _⟩ | h'
        · rfl
        · exact absurd h' (consec_head_no_pred hn'.2)
      · rcases h' with ⟨rfl, rfl⟩ | h'
        · exact absurd h (consec_head_no_pred hn'.2)
        · exact ih hn'.2 h h'

theorem Consec.ne {l : List α} (hn : l.Nodup) {x y : α} (h : Consec l x y) : x ≠ y := by
  induction l with
  | nil => simp at h
  | cons a t ih =>
    cases t with
    | nil => simp at h
    | cons b rest =>
      rw [consec_cons_cons] at h
      have hn' := (List.nodup_cons.mp hn)
      rcases h with ⟨rfl, rfl⟩ | h
      · intro e; subst e; simp at hn
      · exact ih hn'.2 h

theorem consec_iff_append {l : List α} {x y : α} : Consec l x y ↔ ∃ l1 l2, l = l1 ++ x :: y :: l2 := by
  constructor
  · intro h
    induction l with
    | nil => simp at h
    | cons a t ih =>
      cases t with
      | nil => simp at h
      | cons b rest =>
        rw [consec_cons_cons] at h
        rcases h with ⟨rfl, rfl⟩ | h
        · exact ⟨[], rest, rfl⟩
        · obtain ⟨l1, l2, e⟩ := ih h
          exact ⟨a :: l1, l2, by rw [e]; rfl⟩
  · rintro ⟨l1, l2, rfl⟩
    rw [consec_append_cons]; right; rw [consec_cons_cons]; left; exact ⟨rfl, rfl⟩

theorem exists_succ_of_mem_append {l1 l2 : List α} {b x : α} (hx : x ∈ l1) : ∃ y, Consec (l1 ++ b :: l2) x y := by
  induction l1 with
  | nil => simp at hx
  | cons a t ih =>
    rcases List.mem_cons.mp hx with rfl | hx
    · cases t with
      | nil => exact ⟨b, by simp [consec_cons_cons]⟩
      | cons c t' => exact ⟨c, by simp [consec_cons_cons]⟩
    · obtain ⟨y, hy⟩ := ih hx
      refine ⟨y, ?_⟩
      cases t with
      | nil => simp at hx
      | cons c t' => simp only [List.cons_append, consec_cons_cons] at hy ⊢; exact Or.inr hy

theorem exists_pred_of_mem {a : α} {l : List α} {y : α} (hy : y ∈ l) : ∃ x, Consec (a :: l) x y := by
  induction l generalizing a with
  | nil => simp at hy
  | cons b t ih =>
    rcases List.mem_cons.mp hy with rfl | hy
    · exact ⟨a, by simp [consec_cons_cons]⟩
    · obtain ⟨x, hx⟩ := ih (a := b) hy
      exact ⟨x, by rw [consec_cons_cons]; exact Or.inr hx⟩

theorem consec_last_no_succ {l : List α} {b : α} (hn : (l ++ [b]).Nodup) {y : α} : ¬ Consec (l ++ [b]) b y := by
  induction l with
  | nil => simp
  | cons a t ih =>
    intro h
    have hn' : (a :: (t ++ [b])).Nodup := by simpa using hn
    have hab : a ≠ b := by
      intro e; subst e
      have := (List.nodup_cons.mp hn').1
      simp at this
    rw [List.cons_append, consec_cons_of_ne (Ne.symm hab)] at h
    exact ih (List.nodup_cons.mp hn').2 h

end Consec

theorem nodup_map_of_inj_on {α β : Type} {f : α → β} {l : List α} (h : l.Nodup)
    (hf : ∀ a ∈ l, ∀ b ∈ l, f a = f b → a = b) : (l.map f).Nodup := by
  induction l with
  | nil => simp
  | cons a t ih =>
    have hnd := List.nodup_cons.mp h
    rw [List.map_cons, List.nodup_cons]
    refine ⟨?_, ih hnd.2 (fun x hx y hy => hf x (List.mem_cons_of_mem _ hx) y (List.mem_cons_of_mem _ hy))⟩
    intro hm
    obtain ⟨b, hb, e⟩ := List.mem_map.mp hm
    have := hf b (List.mem_cons_of_mem _ hb) a (by simp) e
    subst this; exact hnd.1 hb

theorem nodup_map_of_inj {α β : Type} {f : α → β} (hf : ∀ a b, f a = f b → a = b) {l : List α} (h : l.Nodup) :
    (l.map f).Nodup :=
  nodup_map_of_inj_on h (fun a _ b _ => hf a b)

theorem inj_on_of_nodup_map {α β : Type} {f : α → β} {l : List α} (h : (l.map f).Nodup) {a b : α} (ha : a ∈ l)
    (hb : b ∈ l) (e : f a = f b) : a = b := by
  induction l with
  | nil => simp at ha
  | cons x t ih =>
    obtain ⟨hx, ht⟩ := List.nodup_cons.mp h
    rcases List.mem_cons.mp ha with rfl | ha'
    · rcases List.mem_cons.mp hb with rfl | hb'
      · rfl
      · exact absurd (e ▸ List.mem_map_of_mem hb' : f a ∈ t.map f) hx
    · rcases List.mem_cons.mp hb with rfl | hb'
      · exact absurd (e ▸ List.mem_map_of_mem ha' : f b ∈ t.map f) hx
      · exact ih ht ha' hb'

section ListEdit
variable {α : Type} [DecidableEq α]

/-- insert `n` right after the first occurrence of `u` -/
def insertAfter : List α → α → α → List α
  | [], _, _ => []
  | x :: xs, u, n => if x = u then x :: n :: xs else x :: insertAfter xs u n

theorem insertAfter_append {l1 l2 : List α} {u n : α} (h : u ∉ l1) :
    insertAfter (l1 ++ u :: l2) u n = l1 ++ u :: n :: l2 := by
  induction l1 with
  | nil => simp [insertAfter]
  | cons a t ih =>
    have ha : a ≠ u := fun e => h (by simp [e])
    have ht : u ∉ t := fun e => h (List.mem_cons_of_mem _ e)
    simp [insertAfter, ha, ih ht]

theorem erase_append_mid {l1 l2 : List α} {n : α} (h : n ∉ l1) : (l1 ++ n :: l2).erase n = l1 ++ l2 := by
  induction l1 with
  | nil => simp
  | cons a t ih =>
    have ha : a ≠ n := fun e => h (by simp [e])
    have ht : n ∉ t := fun e => h (List.mem_cons_of_mem _ e)
    simp [ha, ih ht]

theorem consec_insertAfter {l : List α} (hn : l.Nodup) {u v n : α} (huv : Consec l u v) (hnl : n ∉ l) (x y : α) :
    Consec (insertAfter l u n) x y ↔ (Consec l x y ∧ ¬ (x = u ∧ y = v)) ∨ (x = u ∧ y = n) ∨ (x = n ∧ y = v) := by
  obtain ⟨l1, l2, rfl⟩ := consec_iff_append.mp huv
  have hu1 : u ∉ l1 := by
    intro h
    have := List.nodup_append.mp hn
    exact this.2.2 u h u (by simp) rfl
  rw [insertAfter_append hu1]
  have hnu : n ≠ u := fun e => hnl (by simp [e])
  have hnv : n ≠ v := fun e => hnl (by simp [e])
  rw [consec_append_cons, consec_append_cons l1 u (v :: l2), consec_cons_cons, consec_cons_cons, consec_cons_cons]
  have hA : Consec (l1 ++ [u]) x y → ¬ (x = u ∧ y = v) := by
    rintro h ⟨rfl, rfl⟩
    have hnd : (l1 ++ [x]).Nodup := by
      have := hn
      rw [show l1 ++ x :: y :: l2 = (l1 ++ [x]) ++ (y :: l2) by simp] at this
      exact (List.nodup_append.mp this).1
    exact consec_last_no_succ hnd h
  have hB : Consec (v :: l2) x y → ¬ (x = u ∧ y = v) := by
    rintro h ⟨rfl, rfl⟩
    have hnd : (x :: y :: l2).Nodup := (List.nodup_append.mp hn).2.1
    exact (List.nodup_cons.mp hnd).1 h.mem.1
  constructor
  · rintro (h | ⟨rfl, rfl⟩ | ⟨rfl, rfl⟩ | h)
    · exact Or.inl ⟨Or.inl h, hA h⟩
    · exact Or.inr (Or.inl ⟨rfl, rfl⟩)
    · exact Or.inr (Or.inr ⟨rfl, rfl⟩)
    · exact Or.inl ⟨Or.inr (Or.inr h), hB h⟩
  · rintro (⟨h | ⟨rfl, rfl⟩ | h, hne⟩ | ⟨rfl, rfl⟩ | ⟨rfl, rfl⟩)
    · exact Or.inl h
    · exact absurd ⟨rfl, rfl⟩ hne
    · exact Or.inr (Or.inr (Or.inr h))
    · exact Or.inr (Or.inl ⟨rfl, rfl⟩)
    · exact Or.inr (Or.inr (Or.inl ⟨rfl, rfl⟩))

theorem insertAfter_perm {l : List α} {u : α} (n : α) (hu : u ∈ l) : (insertAfter l u n).Perm (n :: l) := by
  induction l with
  | nil => simp at hu
  | cons a t ih =>
    unfold insertAfter
    split
    · exact List.Perm.swap n a t
    · rename_i hne
      have hut : u ∈ t := (List.mem_cons.mp hu).resolve_left (fun e => hne e.symm)
      exact ((ih hut).cons a).trans (List.Perm.swap n a t)

theorem insertAfter_of_not_mem {l : List α} {u : α} (n : α) (hu : u ∉ l) : insertAfter l u n = l := by
  induction l with
  | nil => rfl
  | cons a t ih =>
    have ha : ¬ a = u := fun e => hu (e ▸ List.mem_cons_self)
    rw [insertAfter, if_neg ha, ih (fun h => hu (List.mem_cons_of_mem _ h))]

theorem insertAfter_nodup {l : List α} (hn : l.Nodup) {u n : α} (hnl : n ∉ l) : (insertAfter l u n).Nodup := by
  by_cases hu : u ∈ l
  · exact (insertAfter_perm n hu).nodup_iff.mpr (List.nodup_cons.mpr ⟨hnl, hn⟩)
  · rw [insertAfter_of_not_mem n hu]; exact hn

theorem mem_insertAfter {l : List α} {u n x : α} (hu : u ∈ l) : x ∈ insertAfter l u n ↔ x ∈ l ∨ x = n := by
  rw [(insertAfter_perm n hu).mem_iff, List.mem_cons, or_comm]

theorem consec_erase {l : List α} (hn : l.Nodup) {a n b : α} (han : Consec l a n) (hnb : Consec l n b) (x y : α) :
    Consec (l.erase n) x y ↔ (Consec l x y ∧ x ≠ n ∧ y ≠ n) ∨ (x = a ∧ y = b) := by
  obtain ⟨l1, l2, rfl⟩ := consec_iff_append.mp han
  -- l = l1 ++ a :: n :: l2 and n is followed by b: l2 = b :: l2'
  have hsplit : (l1 ++ a :: n :: l2) = (l1 ++ [a]) ++ n :: l2 := by simp
  have hn1 : n ∉ l1 ++ [a] := by
    intro h
    rw [hsplit] at hn
    exact (List.nodup_append.mp hn).2.2 n h n (by simp) rfl
  have hl2 : ∃ l2', l2 = b :: l2' := by
    rw [consec_append_cons, consec_cons_cons] at hnb
    rcases hnb with h | ⟨e, _⟩ | h
    · exact absurd h.mem.1 (by
        intro hm
        have : n ∈ l1 ++ [a] := hm
        exact hn1 this)
    · exact absurd e (by
        intro e'; apply hn1; simp [e'])
    · cases l2 with
      | nil => simp at h
      | cons c l2' =>
        rw [consec_cons_cons] at h
        rcases h with ⟨_, rfl⟩ | h
        · exact ⟨l2', rfl⟩
        · exfalso
          have hnd : (n :: c :: l2').Nodup := by
            rw [hsplit] at hn; exact (List.nodup_append.mp hn).2.1
          exact (List.nodup_cons.mp hnd).1 h.mem.1
  obtain ⟨l2', rfl⟩ := hl2
  rw [hsplit, erase_append_mid hn1]
  have e1 : (l1 ++ [a]) ++ b :: l2' = l1 ++ a :: b :: l2' := by simp
  rw [e1, consec_append_cons, consec_cons_cons]
  have e2 : (l1 ++ [a]) ++ n :: b :: l2' = l1 ++ a :: n :: b :: l2' := by simp
  rw [e2, consec_append_cons l1 a (n :: b :: l2'), consec_cons_cons, consec_cons_cons]
  have hnd := hn
  rw [hsplit] at hnd
  have hndR : (n :: b :: l2').Nodup := (List.nodup_append.mp hnd).2.1
  have hnR : n ∉ b :: l2' := (List.nodup_cons.mp hndR).1
  have hA : Consec (l1 ++ [a]) x y → x ≠ n ∧ y ≠ n := by
    intro h
    exact ⟨fun e => hn1 (e ▸ h.mem.1), fun e => hn1 (e ▸ h.mem.2)⟩
  have hB : Consec (b :: l2') x y → x ≠ n ∧ y ≠ n := by
    intro h
    exact ⟨fun e => hnR (e ▸ h.mem.1), fun e => hnR (e ▸ h.mem.2)⟩
  constructor
  · rintro (h | ⟨rfl, rfl⟩ | h)
    · exact Or.inl ⟨Or.inl h, hA h⟩
    · exact Or.inr ⟨rfl, rfl⟩
    · exact Or.inl ⟨Or.inr (Or.inr (Or.inr h)), hB h⟩
  · rintro (⟨h | ⟨rfl, rfl⟩ | ⟨rfl, rfl⟩ | h, hx, hy⟩ | ⟨rfl, rfl⟩)
    · exact Or.inl h
    · exact absurd rfl hy
    · exact absurd rfl hx
    · exact Or.inr (Or.inr h)
    · exact Or.inr (Or.inl ⟨rfl, rfl⟩)

end ListEdit

theorem insertAfter_append_of_mem {α : Type} [DecidableEq α] {l1 l2 : List α} {u n : α} (hu : u ∈ l1) :
    insertAfter (l1 ++ l2) u n = insertAfter l1 u n ++ l2 := by
  induction l1 with
  | nil => simp at hu
  | cons a t ih =>
    by_cases h : a = u
    · simp [insertAfter, h]
    · have : u ∈ t := by
        rcases List.mem_cons.mp hu with e | e
        · exact absurd e.symm h
        · exact e
      simp [insertAfter, h, ih this]

theorem split_unique {α : Type} [DecidableEq α] {X Y X' Y' : List α} {n : α} (hnd : (X ++ n :: Y).Nodup)
    (h : X ++ n :: Y = X' ++ n :: Y') : X = X' ∧ Y = Y' := by
  induction X generalizing X' with
  | nil =>
    cases X' with
    | nil => simp at h; exact ⟨rfl, h⟩
    | cons a t =>
      exfalso
      simp only [List.nil_append, List.cons_append, List.cons.injEq] at h
      obtain ⟨h1, h2⟩ := h
      subst h1
      have hn : n ∈ Y := by rw [h2]; simp
      have hnd' : n ∉ Y ∧ Y.Nodup := List.nodup_cons.mp hnd
      exact hnd'.1 hn
  | cons a t ih =>
    have hnd' : a ∉ t ++ n :: Y ∧ (t ++ n :: Y).Nodup := by
      rw [List.cons_append] at hnd; exact List.nodup_cons.mp hnd
    cases X' with
    | nil =>
      exfalso
      simp only [List.nil_append, List.cons_append, List.cons.injEq] at h
      obtain ⟨h1, _⟩ := h
      subst h1
      exact hnd'.1 (by simp)
    | cons b t' =>
      simp only [List.cons_append, List.cons.injEq] at h
      obtain ⟨h1, h2⟩ := h
      subst h1
      obtain ⟨e1, e2⟩ := ih hnd'.2 h2
      exact ⟨by rw [e1], e2⟩

theorem prop_splice {A B C D : Prop} (hB : B → ¬ D) (hC : C → ¬ D) :
    ((A ∨ B ∨ C) ∧ ¬ D) ↔ ((A ∧ ¬ D) ∨ B ∨ C) := by
  constructor
  · rintro ⟨hA | hB' | hC', hD⟩
    · exact Or.inl ⟨hA, hD⟩
    · exact Or.inr (Or.inl hB')
    · exact Or.inr (Or.inr hC')
  · rintro (⟨hA, hD⟩ | hB' | hC')
    · exact ⟨Or.inl hA, hD⟩
    · exact ⟨Or.inr (Or.inl hB'), hB hB'⟩
    · exact ⟨Or.inr (Or.inr hC'), hC hC'⟩

theorem prop_other {A B C D : Prop} (hB : ¬ B) (hC : ¬ C) (hD : ¬ D) : ((A ∨ B ∨ C) ∧ ¬ D) ↔ A := by
  rw [or_iff_left hC, or_iff_left hB, and_iff_left hD]

section Dict
variable {κ α : Type} [DecidableEq κ] [DecidableEq α]

theorem dictGet_dictAppend (d : List (κ × List α)) (k k' : κ) (v : α) :
    dictGet (dictAppend d k v) k' = if k' = k then dictGet d k ++ [v] else dictGet d k' := by
  induction d with
  | nil =>
    by_cases h : k' = k
    · subst h; simp [dictAppend, dictGet]
    · have h' : ¬ k = k' := fun e => h e.symm
      simp [dictAppend, dictGet, h, h']
  | cons p d ih =>
    obtain ⟨k0, l⟩ := p
    unfold dictAppend
    by_cases h0 : k0 = k
    · subst h0
      by_cases h : k' = k0
      · subst h; simp [dictGet]
      · have h' : ¬ k0 = k' := fun e => h e.symm
        simp [dictGet, h, h']
    · simp only [h0, if_false]
      by_cases h : k0 = k'
      · subst h
        have : ¬ k0 = k := h0
        simp [dictGet, this]
      · simp [dictGet, h, ih, h0]

theorem dictGet_dictRemove (d : List (κ × List α)) (k k' : κ) (v : α) :
    dictGet (dictRemove d k v) k' = if k' = k then (dictGet d k).erase v else dictGet d k' := by
  induction d with
  | nil => simp [dictRemove, dictGet]
  | cons p d ih =>
    obtain ⟨k0, l⟩ := p
    unfold dictRemove
    by_cases h0 : k0 = k
    · subst h0
      by_cases h : k' = k0
      · subst h; simp [dictGet]
      · have h' : ¬ k0 = k' := fun e => h e.symm
        simp [dictGet, h, h']
    · simp only [h0, if_false]
      by_cases h : k0 = k'
      · subst h
        have : ¬ k0 = k := h0
        simp [dictGet, this]
      · simp [dictGet, h, ih, h0]

omit [DecidableEq α] in
theorem dictHas_dictAppend (d : List (κ × List α)) (k k' : κ) (v : α) :
    dictHas (dictAppend d k v) k' = (dictHas d k' || decide (k' = k)) := by
  induction d with
  | nil =>
    by_cases h : k' = k
    · subst h; simp [dictAppend, dictHas]
    · have h' : ¬ k = k' := fun e => h e.symm
      simp [dictAppend, dictHas, h, h']
  | cons p d ih =>
    obtain ⟨k0, l⟩ := p
    unfold dictAppend
    by_cases h0 : k0 = k
    · subst h0
      by_cases h : k0 = k'
      · subst h; simp [dictHas]
      · have h' : ¬ k' = k0 := fun e => h e.symm
        simp [dictHas, h, h']
    · simp only [h0, if_false]
      by_cases h : k0 = k'
      · simp [dictHas, h]
      · simp [dictHas, h, ih]

theorem dictHas_dictRemove (d : List (κ × List α)) (k k' : κ) (v : α) :
    dictHas (dictRemove d k v) k' = dictHas d k' := by
  induction d with
  | nil => simp [dictRemove, dictHas]
  | cons p d ih =>
    obtain ⟨k0, l⟩ := p
    unfold dictRemove
    by_cases h0 : k0 = k
    · simp [h0, dictHas]
    · simp only [h0, if_false]
      by_cases h : k0 = k'
      · simp [dictHas, h]
      · simp [dictHas, h, ih]

theorem count_dictGet_dictAppend (d : List (κ × List α)) (k l : κ) (v m : α) :
    (dictGet (dictAppend d k v) l).count m = (dictGet d l).count m + (if l = k ∧ m = v then 1 else 0) := by
  rw [dictGet_dictAppend]
  by_cases h : l = k
  · subst h
    by_cases hm : m = v
    · subst hm; simp
    · have : ¬ v = m := fun e => hm e.symm
      simp [hm, this]
  · simp [h]

theorem count_dictGet_foldl_append (keys : List κ) (d : List (κ × List α)) (n m : α) (k' : κ) :
    (dictGet (keys.foldl (fun d k => dictAppend d k n) d) k').count m =
      (dictGet d k').count m + (if m = n then keys.count k' else 0) := by
  induction keys generalizing d with
  | nil => simp
  | cons k ks ih =>
    rw [List.foldl_cons, ih, dictGet_dictAppend]
    by_cases h : k' = k
    · subst h
      by_cases hm : m = n
      · subst hm; simp; omega
      · have : ¬ n = m := fun e => hm e.symm
        simp [hm, this]
    · have h' : ¬ k = k' := fun e => h e.symm
      simp [h, h']

theorem count_dictGet_foldl_remove (keys : List κ) (d : List (κ × List α)) (n m : α) (k' : κ) :
    (dictGet (keys.foldl (fun d k => dictRemove d k n) d) k').count m =
      (dictGet d k').count m - (if m = n then keys.count k' else 0) := by
  induction keys generalizing d with
  | nil => simp
  | cons k ks ih =>
    rw [List.foldl_cons, ih, dictGet_dictRemove]
    by_cases h : k' = k
    · subst h
      by_cases hm : m = n
      · subst hm; simp; omega
      · have : ¬ n = m := fun e => hm e.symm
        simp [hm]
    · have h' : ¬ k = k' := fun e => h e.symm
      simp [h, h']

theorem dictHas_foldl_append (keys : List κ) (d : List (κ × List α)) (n : α) (k' : κ) :
    dictHas (keys.foldl (fun d k => dictAppend d k n) d) k' = (dictHas d k' || decide (k' ∈ keys)) := by
  induction keys generalizing d with
  | nil => simp
  | cons k ks ih =>
    rw [List.foldl_cons, ih, dictHas_dictAppend]
    by_cases h : k' = k <;> simp [h]

theorem dictHas_foldl_remove (keys : List κ) (d : List (κ × List α)) (n : α) (k' : κ) :
    dictHas (keys.foldl (fun d k => dictRemove d k n) d) k' = dictHas d k' := by
  induction keys generalizing d with
  | nil => simp
  | cons k ks ih => rw [List.foldl_cons, ih, dictHas_dictRemove]

end Dict

end Graphiq
