/-
  WireOps.lean — the operations along a wire: as held (`wireOps`) and seen through a view that re-threads classical
  registers only (`wireOpsF f`, `CregView`; `wireOps` is the identity view).  What creating a register and `_add` do to
  every view (`withNewReg_view`, `add_view`); for a circuit built by `add`, the operations along the wire of a register
  (what `reg_gate_history` returns between Input and Output) are the operations of the list acting on it, in list order.
-/
import GraphiqModel.Proofs.Refine
import GraphiqModel.Proofs.Unwrap
namespace Graphiq
namespace Metrics
open Dag Relation

def wireOps (c : Dag) (l : List NodeId) : List Op :=
  l.filterMap fun n => match n with | .op _ => c.opOf? n | _ => none

/-- `wireOps` is the view "as held" (`f _ o = o`); the view "as wired" is `wiredOp P` (Proofs/MetricsHistIso.lean:
    `wiredWire`). -/
def wireOpsF (f : NodeId → Op → Op) (c : Dag) (l : List NodeId) : List Op :=
  l.filterMap fun n => match n with | .op _ => (c.opOf? n).map (f n) | _ => none

/-- a view that only re-threads classical registers: it leaves operations without classical registers alone and changes nothing
    else of an operation.  The operations as held and the operations as wired (`wiredOp`) are such views; the rewrites of the
    circuit (`unwrap_nodes`, `remove_identity`, `group_one_qubit_gates`) act on every such view alike. -/
structure CregView (f : NodeId → Op → Op) : Prop where
  of_cregs_nil : ∀ n o, o.cregs = [] → f n o = o
  /-- `f` changes nothing of an operation but its classical registers -/
  only_cregs : ∀ n o, f n o = { o with cregs := (f n o).cregs }

theorem cregView_id : CregView (fun _ o => o) := ⟨fun _ _ _ => rfl, fun _ _ => rfl⟩

theorem CregView.kind_eq {f : NodeId → Op → Op} (hV : CregView f) (n : NodeId) (o : Op) : (f n o).kind = o.kind := by
  rw [hV.only_cregs n o]

theorem wireOps_eq_view (c : Dag) (l : List NodeId) : wireOps c l = wireOpsF (fun _ o => o) c l := by
  unfold wireOps wireOpsF
  congr 1
  funext n
  cases n <;> simp

theorem wireOpsF_append (f : NodeId → Op → Op) (c : Dag) (l1 l2 : List NodeId) :
    wireOpsF f c (l1 ++ l2) = wireOpsF f c l1 ++ wireOpsF f c l2 := by
  simp [wireOpsF, List.filterMap_append]

theorem wireOpsF_congr {f : NodeId → Op → Op} {c c' : Dag} {l : List NodeId} (h : ∀ n ∈ l, c'.opOf? n = c.opOf? n) :
    wireOpsF f c' l = wireOpsF f c l := by
  induction l with
  | nil => rfl
  | cons a t ih =>
    have ha := h a (by simp)
    have ht := ih (fun n hn => h n (List.mem_cons_of_mem _ hn))
    unfold wireOpsF at ht ⊢
    rw [List.filterMap_cons, List.filterMap_cons, ht]
    cases a with
    | inp r => rfl
    | out r => rfl
    | op i => simp only [ha]

theorem wireOps_append (c : Dag) (l1 l2 : List NodeId) : wireOps c (l1 ++ l2) = wireOps c l1 ++ wireOps c l2 := by
  simp only [wireOps_eq_view, wireOpsF_append]

theorem wireOpsF_congr_view {f f' : NodeId → Op → Op} {c : Dag} {l : List NodeId}
    (h : ∀ i, NodeId.op i ∈ l → ∀ o, c.opOf? (.op i) = some o → f (.op i) o = f' (.op i) o) :
    wireOpsF f c l = wireOpsF f' c l := by
  induction l with
  | nil => rfl
  | cons a t ih =>
    have ht := ih (fun i hi => h i (List.mem_cons_of_mem _ hi))
    unfold wireOpsF at ht ⊢
    rw [List.filterMap_cons, List.filterMap_cons, ht]
    cases a with
    | inp r => rfl
    | out r => rfl
    | op i =>
      cases ho : c.opOf? (.op i) with
      | none => rfl
      | some o => simp only [Option.map_some, h i (by simp) o ho]

theorem wireOpsF_cut {f : NodeId → Op → Op} {c c' : Dag} {P : Paths} (h : Inv c P) {n : NodeId}
    (hold : ∀ x, x ≠ n → x ∈ c.nodeIds → c'.opOf? x = c.opOf? x) {r : Reg} {X Y : List NodeId} (hP : P r = X ++ n :: Y) :
    wireOpsF f c' X = wireOpsF f c X ∧ wireOpsF f c' Y = wireOpsF f c Y := by
  obtain ⟨_, _, hXY⟩ := h.cut hP
  exact ⟨wireOpsF_congr fun x hx => hold x (hXY x (List.mem_append_left _ hx)).1 (hXY x (List.mem_append_left _ hx)).2,
    wireOpsF_congr fun x hx => hold x (hXY x (List.mem_append_right _ hx)).1 (hXY x (List.mem_append_right _ hx)).2⟩

theorem wireOpsF_op {f : NodeId → Op → Op} {c : Dag} (hnd : c.nodeIds.Nodup) {i : Nat} {o : Op} (hm : (NodeId.op i, o) ∈ c.nodes) :
    wireOpsF f c [NodeId.op i] = [f (.op i) o] := by
  simp [wireOpsF, (opOf_eq_some hnd).mpr hm]

theorem wireOpsF_inp (f : NodeId → Op → Op) (c : Dag) (r : Reg) : wireOpsF f c [NodeId.inp r] = [] := by simp [wireOpsF]

theorem wireOpsF_out (f : NodeId → Op → Op) (c : Dag) (r : Reg) : wireOpsF f c [NodeId.out r] = [] := by simp [wireOpsF]

theorem add_view (f : NodeId → Op → Op) {c : Dag} {P : Paths} (g : Good c P) {op : Op} (hop : OpWF op)
    (hlive : ∀ r ∈ opRegs op, c.live r) (r : Reg) :
    wireOpsF f (c.add_ op) (splicePaths (.op (c.nodeId + 1)) ((opRegs op).map (lastEdge P)) P r) =
      wireOpsF f c (P r) ++ (if r ∈ opRegs op then [f (.op (c.nodeId + 1)) op] else []) := by
  obtain ⟨g2, _, _, hnodes⟩ := add_spec g hop hlive
  obtain ⟨P', hinv', hother, happ⟩ := add_refines g hop hlive
  have hold : ∀ l : List NodeId, (∀ n ∈ l, n ∈ P r) → wireOpsF f (c.add_ op) l = wireOpsF f c l := fun l hl =>
    wireOpsF_congr fun n hn => g.inv.opOf_append_fresh hnodes (g.inv.mem_nodes r n (hl n hn))
  rw [g2.inv.paths_unique hinv' r]
  by_cases hr : r ∈ opRegs op
  · obtain ⟨pre, hpre, hpre'⟩ := happ r hr
    rw [if_pos hr, hpre', hpre, show pre ++ [NodeId.op (c.nodeId + 1), NodeId.out r] = pre ++ ([NodeId.op (c.nodeId + 1)] ++ [NodeId.out r]) from rfl,
      wireOpsF_append, wireOpsF_append, wireOpsF_append, wireOpsF_out, wireOpsF_out,
      wireOpsF_op g2.inv.ids_nodup (o := op) (by rw [hnodes]; simp), hold pre (fun n hn => by rw [hpre]; exact List.mem_append_left _ hn)]
    simp
  · rw [if_neg hr, hother r hr, hold _ (fun _ h => h), List.append_nil]

/-- the invariant of the construction by `add` (`build_wireSeq`) -/
def WireSeq (c : Dag) (seq : List Op) : Prop :=
  (∀ P, Inv c P → ∀ r, c.live r → wireOps c (P r) = seq.filter (fun o => decide (r ∈ opRegs o))) ∧
  (∀ o ∈ seq, ∀ r ∈ opRegs o, c.live r)

theorem withNewReg_view (f : NodeId → Op → Op) {c : Dag} {P : Paths} (g : Good c P) {r : Reg} (hr : r.idx = c.regs r.ty) (k : Reg) :
    wireOpsF f (c.withNewReg r) (setPath P r [.inp r, .out r] k) = wireOpsF f c (P k) := by
  have hnl : ¬ c.live r := by simp [live, hr]
  by_cases hk : k = r
  · subst hk
    rw [setPath_same, g.inv.dead k hnl]
    rfl
  · rw [setPath_other _ _ hk]
    refine wireOpsF_congr fun n hn => ?_
    have hnm := g.inv.mem_nodes k n hn
    exact withNewReg_opOf c r (fun e => hnl ((g.inv.inp_iff r).mp (e ▸ hnm))) (fun e => hnl ((g.inv.out_iff r).mp (e ▸ hnm)))

theorem withNewReg_wireSeq {c : Dag} {P : Paths} (g : Good c P) {seq : List Op} (hW : WireSeq c seq) {r : Reg}
    (hr : r.idx = c.regs r.ty) : WireSeq (c.withNewReg r) seq := by
  have hnl : ¬ c.live r := by simp [live, hr]
  refine ⟨fun P1 h1 r' hl' => ?_, fun o ho r' hr' => (withNewReg_live c r r' hr).mpr (Or.inl (hW.2 o ho r' hr'))⟩
  rw [h1.paths_unique (withNewReg_good g hr).inv r', wireOps_eq_view, withNewReg_view _ g hr, ← wireOps_eq_view]
  rcases (withNewReg_live c r r' hr).mp hl' with hl | rfl
  · exact hW.1 P g.inv r' hl
  · rw [g.inv.dead r' hnl]
    exact (List.filter_eq_nil_iff.mpr fun o ho hm => hnl (hW.2 o ho r' (by simpa using hm))).symm

theorem addRegs_wireSeq {c : Dag} {P : Paths} (g : Good c P) {seq : List Op} (hW : WireSeq c seq) (rs : List Reg) :
    WireSeq (c.addRegs rs).1 seq :=
  addRegs_preserves (Q := fun c => WireSeq c seq) (fun g hr h => withNewReg_wireSeq g h hr) g hW rs

theorem ensureRegs_wireSeq {c : Dag} {P : Paths} (g : Good c P) {seq : List Op} (hW : WireSeq c seq) (op : Op) :
    WireSeq (c.ensureRegs op).1 seq :=
  ensureRegs_preserves (Q := fun c => WireSeq c seq) (fun g hr h => withNewReg_wireSeq g h hr) g hW op

theorem add_wireSeq {c : Dag} {P : Paths} (g : Good c P) {op : Op} (hop : OpWF op) (hlive : ∀ r ∈ opRegs op, c.live r)
    {seq : List Op} (hW : WireSeq c seq) : WireSeq (c.add_ op) (seq ++ [op]) := by
  obtain ⟨g2, hregs, _, _⟩ := add_spec g hop hlive
  constructor
  · intro P1 h1 r hl
    rw [h1.paths_unique g2.inv r, wireOps_eq_view, add_view _ g hop hlive r, ← wireOps_eq_view,
      hW.1 P g.inv r ((live_eq_of_regs hregs r).mp hl), List.filter_append]
    by_cases hr : r ∈ opRegs op <;> simp [hr]
  · intro o ho r hr
    rw [live_eq_of_regs hregs]
    rcases List.mem_append.mp ho with ho | ho
    · exact hW.2 o ho r hr
    · simp at ho; subst ho; exact hlive r hr

/-- the wires of a circuit built by `add` carry the operation list, filtered by register, in order -/
theorem build_wireSeq (ne np nc : Nat) (seq : List Op) (hwf : ∀ op ∈ seq, OpWF op) (hok : (build ne np nc seq).2 = none) :
    WireSeq (build ne np nc seq).1 seq := by
  have hW0 : WireSeq (Dag.init ne np nc) [] := by
    unfold Dag.init
    apply addRegs_wireSeq empty_good
    constructor
    · intro P _ r hl; cases r with | mk t i => cases t <;> simp [live, regs, Dag.empty] at hl
    · intro o ho; simp at ho
  refine (build_preserves (R := fun c done => DagInv c ∧ WireSeq c done) ⟨init_good ne np nc, hW0⟩ ?_ seq hwf hok).2
  rintro c done op ⟨⟨P, g⟩, hW⟩ hop hadd
  obtain ⟨hens, heq⟩ := add_of_ok hadd
  obtain ⟨P1, s1, hl1⟩ := ensureRegs_chain g op
  have g1 := s1.good g
  rw [heq]
  exact ⟨⟨_, (add_spec g1 hop (hl1 hens)).1⟩, add_wireSeq g1 hop (hl1 hens) (ensureRegs_wireSeq g hW op)⟩

end Metrics
end Graphiq
