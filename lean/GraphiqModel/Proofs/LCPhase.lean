/-
  Proofs/LCPhase.lean — `_phase_correction` and the validation inside `lc_check`, function by function.  `converterGateListF` /
  `lcCheckF` mirror the Python (`S2G.phaseCorrection`, validation by canonical forms); `converterGateListR` / `lcCheckR` work at
  specification level (`phaseCorrection`, `isGraphState`).  For every valid `Q` the function-level phase correction is the
  specification-level list of `Z` gates (`phaseCorrection_of_valid`), hence the two `lc_check`s agree (`lcCheckF_eq`).
-/
import GraphiqModel.Proofs.LCTableaux2
namespace Graphiq.LC
open Graphiq PRow Tab Graphiq.TabSpec

/-- **`_phase_correction` on the gates of a valid `Q` returns the `Z` gates on the qubits whose generator carries the sign `−`** —
    the list the specification-level model computes -/
theorem phaseCorrection_of_valid (n : Nat) (A B : Adj) (hA : Simple n A) (hB : Simple n B) (v : List Bool)
    (hq : ∀ j k, j < n → k < n → equation n A B (vget v) j k = false) (hv : isValidClifford n v = true) :
    ∃ t1, runGates (graphTab n A) (qGates n v) = .ok t1 ∧
      S2G.phaseCorrection (graphSTab n A) (graphSTab n B) ((qGates n v).map toGate) =
        .ok (((List.range n).filter fun q => groupSign t1 (graphGen B q) == some true).map Gate.Z) := by
  obtain ⟨t1, e1, hS⟩ := gates_signedGS n A B hA hB v hq hv
  refine ⟨t1, e1, ?_⟩
  obtain ⟨hn1, hv1, hr1, hsign⟩ := hS
  subst hn1
  have hg1 := grp_isStabGrp t1 hv1 hr1
  have hgood := qGates_good t1.n v hv
  have hwf : ∀ g, g ∈ (qGates t1.n v).map toGate → g.WF t1.n := toGates_wf t1.n _ fun g hg => (hgood g hg).2
  have et := runGates_eq_runCircuit (graphTab t1.n A) (qGates t1.n v) hgood
  rw [e1] at et
  have ht : t1 = (graphTab t1.n A).runCircuit ((qGates t1.n v).map toGate) := Except.ok.inj et
  -- the transformed stabilizer tableau generates the stabilizer group of `t1`
  have img : CircImage t1.n ((qGates t1.n v).map toGate) (STab.ofTab (graphTab t1.n A)) (STab.ofTab t1) := by
    apply circImage_of_rows t1.n _ hwf _ _ rfl rfl
    intro i hi
    have r2 := ofTab_runCircuit_row t1.n _ hwf (graphTab t1.n A) rfl i hi
    rw [← ht] at r2
    exact r2
  have sO := circImage_unique (circImage_runCircuit (graphSTab t1.n A) _ hwf)
    (img.congr (ofTab_graphTab_spanEq t1.n A) (STab.SpanEq.refl _))
  have hU : ∀ p, ((graphSTab t1.n A).runCircuit ((qGates t1.n v).map toGate)).Spn p ↔ Grp t1 p := fun p =>
    ⟨fun h => (STab.ofTab_spn_iff t1 hr1 p).mp (sO.sub p h), fun h => sO.sup p ((STab.ofTab_spn_iff t1 hr1 p).mpr h)⟩
  -- a member of the group commutes with the signed generators, so it has `z = x · B`
  have himg : GraphImage (graphSTab t1.n A) ((qGates t1.n v).map toGate) B := by
    refine ⟨hwf, graphSTab_good t1.n A hA.1, hB.1, fun p hp j hj => ?_,
      fun j hj => ⟨_, (hU _).mpr (hsign j hj), fun k _ => rfl⟩⟩
    have hcomm := hg1.comm _ _ (hsign j hj) ((hU p).mp hp)
    rw [z_of_commuting t1.n B p j hj hcomm]
    apply parityTo_congr
    intro k hk
    rw [hB.1 j k hj hk, Bool.and_comm]
  obtain ⟨tab1, ec1, _, _⟩ := canonicalForm_graphSTab t1.n A hA.1
  obtain ⟨c, hc, e⟩ := phaseCorrection_eq (graphSTab t1.n A) _ B himg tab1 ec1
  refine e.trans ?_
  unfold signFix
  congr 2
  apply List.filter_congr
  intro i hi
  have hi' : i < t1.n := List.mem_range.mp hi
  -- row `i` of the canonical form and the signed generator of qubit `i` have the same Pauli part, hence the same sign
  have hci : Grp t1 (c.row i) := (hU _).mp (hc.span.sup _ (STab.spn_gen c i (by rw [hc.n_eq]; exact hi')))
  rcases eqOn_or_negate t1.n _ _ (fun j hj => ⟨hc.x i j hi' hj, hc.z i j hi' hj⟩)
    ((hg1.real _ hci).trans (hg1.real _ (hsign i hi')).symm) with h | h
  · exact h.2.1
  · exact absurd (hg1.eqv _ _ hci h) (hg1.not_negate _ (hsign i hi'))

/-- the specification-level phase correction on the gates of a valid `Q`, with its list exposed -/
theorem phaseCorrection_spec_of_valid (n : Nat) (A B : Adj) (hA : Simple n A) (hB : Simple n B) (v : List Bool)
    (hq : ∀ j k, j < n → k < n → equation n A B (vget v) j k = false) (hv : isValidClifford n v = true)
    (t1 : Tab) (e1 : runGates (graphTab n A) (qGates n v) = .ok t1) :
    phaseCorrection t1 B =
      some (((List.range n).filter fun q => groupSign t1 (graphGen B q) == some true).map fun q => ("Z", q)) := by
  obtain ⟨t1', e1', hS⟩ := gates_signedGS n A B hA hB v hq hv
  rw [e1] at e1'
  cases e1'
  exact hS.phaseCorrection

/-- **the function-level `lc_check` on two graphs returns exactly what the specification-level one returns**, validation by
    canonical forms included (simple graphs of equal size): after a `no` both swallow the assertion of `converter_gate_list`; after a
    `yes` both return the gates of `Q` followed by the same `Z` corrections, and neither validation can fail -/
theorem lcCheckF_eq (a b : BMat) (validate : Bool) (hab : a.r = b.r) (ha : Simple a.r a.f) (hb : Simple b.r b.f) :
    lcCheckF a b validate = lcCheckR a b validate := by
  have hb' : Simple a.r b.f := by rw [hab]; exact hb
  obtain ⟨out, eo⟩ := isLcEquivalentR_total a b .det [] hab ha (by decide)
  cases hs : out.sol with
  | none =>
    rw [lcCheckR_of_no a b out eo hs validate]
    unfold lcCheckF converterGateListF
    rw [eo]
    simp only [hs]
  | some s =>
    obtain ⟨_, h2, h3⟩ := isLcEquivalentR_yes a b .det [] out s ha hb' eo hs
    obtain ⟨t1, e1, _, hR⟩ := lcCheckR_of_yes_signs a b out s hab ha hb eo hs
    obtain ⟨t1', e1', hF⟩ := phaseCorrection_of_valid a.r a.f b.f ha hb' s h2 h3
    rw [e1] at e1'
    cases e1'
    rw [hR validate]
    have hconv : converterGateListF a b = .ok (qGates a.r s ++
        ((List.range a.r).filter fun q => groupSign t1 (graphGen b.f q) == some true).map (fun q => ("Z", q))) := by
      unfold converterGateListF
      rw [eo]
      simp only [hs]
      show ((match S2G.phaseCorrection (graphSTab a.r a.f) (graphSTab b.r b.f) ((qGates a.r s).map toGate) with
        | Except.error e => Except.error e
        | Except.ok zs => Except.ok (qGates a.r s ++ zs.map fromGate)) : Except Err (List (String × Nat))) = _
      rw [← hab, hF]
      simp only [List.map_map]
      rfl
    unfold lcCheckF
    rw [hconv]
    simp only []
    cases validate
    · rfl
    · have himg := lc_gates_image a b hab ha hb false _ (hR false)
      have key := circImage_unique (circImage_runCircuit (graphSTab a.r a.f) _ himg.wf) himg
      have hgood := (tracks_runCircuit (graphSTab a.r a.f) (graphSTab_good a.r a.f ha.1) _ himg.wf).good
      have hind := indep_runCircuit (graphSTab a.r a.f) (STab.graphSTab_indep a.r a.f) _ himg.wf
      have hsame := sameStabilizerState_of_spanEq _ _ hgood (graphSTab_good a.r b.f hb'.1) hind
        (STab.graphSTab_indep a.r b.f) key
      rw [if_pos rfl, ← hab, hsame]

end Graphiq.LC
