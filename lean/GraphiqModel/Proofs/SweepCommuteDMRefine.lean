/-
  Proofs/SweepCommuteDMRefine.lean — the density-matrix semantics `Commute.appD` (Proofs/SweepCommuteDM.lean) refines the
  compile step of the stabilizer backend on unitary-gate operations (`Commute.appT`, Proofs/CommuteTableau.lean): started on
  the density matrix `ρ(t)` of a tableau it produces `ρ` of the tableau the stabilizer step produces.  With
  `Commute.stabRun_eq_runSeq` this ties `appD` to the compile loop `stabRun` on gate-only circuits: the matrix `appD`
  computes along the compile sequence is the density matrix of the compiled tableau.

  With measurements: every primitive and every operation of `appD` on `c · ρ(t)` gives `(c · w) · ρ(t')`, `t'` the tableau
  after the API calls and `w` the Born weight of the recorded outcome (`appPD_api`, `appD_api`); the stabilizer semantics
  `appRaw` is defined exactly when `w ≠ 0` (`appP_api`, `appD_refines_appRaw`), so along a compile sequence `appD` carries
  (probability of the recorded outcomes) × (density matrix of the state `appRaw` carries) (`run_refines_dm`).
-/
import GraphiqModel.Proofs.SweepCommuteDM
import GraphiqModel.Proofs.CommuteTableau
import GraphiqModel.Proofs.CommuteRefine
import GraphiqModel.Proofs.CommuteComplete
namespace Graphiq.Commute
open Graphiq Matrix Classical
open Graphiq.Wire (Reg RegType SOp Item Kind G1 runSeq)

/-- a gate primitive on `ρ(t)` gives `ρ` of the tableau with the gate's row action applied (C07: `rho_tab_gate`) -/
theorem appPD_tab (t : Tab) (p : Tab.Op) (hg : isGatePrim p = true) (hok : primOk t.n p = true) :
    appPD t.n p (some (Hilbert.tabRho t.n t)) = some (Hilbert.tabRho t.n (t.map (rowP p))) := by
  obtain ⟨g, hwf, hact, hmat, _⟩ := gatePrim_gate t.n p hg hok
  rw [appPD_ok t.n p hok, hmat, hact]
  exact congrArg some (Hilbert.rho_tab_gate t g hwf)

theorem runPD_tab : ∀ (l : List Tab.Op) (t : Tab), (∀ p ∈ l, isGatePrim p = true ∧ primOk t.n p = true) →
    runPD t.n l (some (Hilbert.tabRho t.n t)) = some (Hilbert.tabRho t.n (t.map (rowsP l))) := by
  intro l
  induction l with
  | nil => intro t _; rfl
  | cons a l ih =>
    intro t h
    rw [runPD_cons, appPD_tab t a (h a (by simp)).1 (h a (by simp)).2]
    exact ih (t.map (rowP a)) (fun p hp => h p (List.mem_cons_of_mem _ hp))

/-- every primitive of a decoded operation with pairwise different registers passes the compiler's assertions -/
theorem decode_primOk (ne np : Nat) (a : SOp) (d : Dec) (hd : decode ne np a = some d) (hnd : a.regs.Nodup) :
    ∀ o, ∀ p ∈ d.prims o, primOk (ne + np) p = true := by
  intro o p hp
  cases decodes_of_decode hd with
  | g1 g r q hq =>
    have hlt := regIx_lt hq
    cases g <;> simp only [g1Prims, List.mem_singleton, List.not_mem_nil] at hp <;> subst hp <;> simpa [primOk] using hlt
  | measZ x cr r q hq =>
    have hlt := regIx_lt hq
    simp only [List.mem_singleton] at hp
    subst hp
    simpa [primOk] using hlt
  | cnot x cr c t qc qt hc ht | cz x cr c t qc qt hc ht | ccnot x cr c t qc qt hc ht | ccz x cr c t qc qt hc ht
    | mcr x cr c t qc qt hc ht =>
    have hne : qc ≠ qt := regIx_ne_of_nodup hc ht hnd
    have hlc := regIx_lt hc
    have hlt := regIx_lt ht
    cases o <;>
      simp only [List.mem_cons, List.mem_singleton, List.not_mem_nil, or_false, if_true, if_false, Bool.false_eq_true] at hp <;>
      (rcases hp with rfl | rfl | rfl <;> simp [primOk, hlc, hlt, hne]) <;> done

/-- a unitary-gate operation of the compile sequence reads no outcome, and its primitives are gate primitives that pass
    the compiler's assertions when its registers are pairwise different -/
theorem gateDec_shape (ne np : Nat) (a : SOp) (d : Dec) (h : gateDec ne np a = some d) (hnd : a.regs.Nodup) :
    d.mreg = none ∧ ∀ o, ∀ p ∈ d.prims o, isGatePrim p = true ∧ primOk (ne + np) p = true := by
  obtain ⟨hd, hg⟩ := gateDec_some h
  have hok := decode_primOk ne np a d hd hnd
  unfold toCOp at hg
  cases decodes_of_decode hd with
  | g1 g r q hq =>
    refine ⟨rfl, fun o p hp => ⟨?_, hok o p hp⟩⟩
    cases g <;> simp only [g1Prims, List.mem_singleton, List.not_mem_nil] at hp <;> subst hp <;> rfl
  | cnot x cr c t qc qt hc ht | cz x cr c t qc qt hc ht =>
    refine ⟨rfl, fun o p hp => ⟨?_, hok o p hp⟩⟩
    simp only [List.mem_singleton] at hp
    subst hp
    rfl
  | measZ x cr r q hq => cases hg
  | ccnot x cr c t qc qt hc ht | ccz x cr c t qc qt hc ht | mcr x cr c t qc qt hc ht => cases hg

/-- **`appD` refines the stabilizer compile step on unitary-gate operations**: on `ρ(s.t)` it returns `ρ` of the tableau
    `appT` returns, and leaves the outcome streams alone -/
theorem appD_refines_appT (ne np : Nat) (a : SOp) (d : Dec) (h : gateDec ne np a = some d) (hnd : a.regs.Nodup)
    (s : RunState) (hn : s.t.n = ne + np) (sc : Script) :
    ∃ s', appT ne np a (some s) = some s' ∧ s'.t.n = ne + np ∧
      appD ne np a (some (Hilbert.tabRho (ne + np) s.t, sc)) = some (Hilbert.tabRho (ne + np) s'.t, sc) := by
  obtain ⟨hm, hp⟩ := gateDec_shape ne np a d h hnd
  refine ⟨_, appT_some ne np a d h s, by show s.t.n = ne + np; exact hn, ?_⟩
  have e := appD_map ne np a d (gateDec_some h).1 (some (Hilbert.tabRho (ne + np) s.t)) sc
  simp only [Option.map_some] at e
  rw [e]
  have hhas : d.has sc := by unfold Dec.has; rw [hm]; trivial
  have hout : d.out sc = false := by unfold Dec.out; rw [hm]
  have hpop : d.pop sc = sc := by unfold Dec.pop; rw [hm]
  rw [if_pos hhas, hout, hpop]
  have hrun := runPD_tab (d.prims false) s.t (fun p hp' => by rw [hn]; exact hp false p hp')
  rw [hn] at hrun
  rw [hrun]
  simp only [Option.map_some]
  congr 2
  show Hilbert.tabRho (ne + np) (s.t.map (rowsP (d.prims false))) = Hilbert.tabRho (ne + np) (s.t.map (rowsP (d.prims false))).norm
  have := Hilbert.tabRho_norm (s.t.map (rowsP (d.prims false)))
  have hn' : (s.t.map (rowsP (d.prims false))).n = ne + np := hn
  rw [hn'] at this
  exact this.symm

theorem runSeq_appD_refines (ne np : Nat) : ∀ (l : List SOp), (∀ a ∈ l, (gateDec ne np a).isSome = true ∧ a.regs.Nodup) →
    ∀ (s : RunState), s.t.n = ne + np → ∀ sc : Script,
    ∃ s', runSeq (appT ne np) l (some s) = some s' ∧ s'.t.n = ne + np ∧
      runSeq (appD ne np) l (some (Hilbert.tabRho (ne + np) s.t, sc)) = some (Hilbert.tabRho (ne + np) s'.t, sc) := by
  intro l
  induction l with
  | nil => intro _ s hn sc; exact ⟨s, rfl, hn, rfl⟩
  | cons a l ih =>
    intro hl s hn sc
    obtain ⟨hsome, hnd⟩ := hl a (by simp)
    obtain ⟨d, hd⟩ := Option.isSome_iff_exists.1 hsome
    obtain ⟨s1, h1, hn1, e1⟩ := appD_refines_appT ne np a d hd hnd s hn sc
    obtain ⟨s2, h2, hn2, e2⟩ := ih (fun b hb => hl b (List.mem_cons_of_mem _ hb)) s1 hn1 sc
    refine ⟨s2, ?_, hn2, ?_⟩
    · show runSeq (appT ne np) l (appT ne np a (some s)) = some s2
      rw [h1]; exact h2
    · show runSeq (appD ne np) l (appD ne np a (some (Hilbert.tabRho (ne + np) s.t, sc))) = _
      rw [e1]; exact e2

/-! ## the measurement primitive: Born weight times the post-measurement tableau -/

theorem appPD_smul (n : Nat) (p : Tab.Op) (c : ℂ) (ρ ρ' : Hilbert.DMat n) (h : appPD n p (some ρ) = some ρ') :
    appPD n p (some (c • ρ)) = some (c • ρ') := by
  unfold appPD at h ⊢
  split at h
  · next hok =>
    rw [if_pos hok]
    simp only [Option.map_some, Option.some.injEq] at h ⊢
    rw [← h, Matrix.mul_smul, Matrix.smul_mul]
  · cases h

/-- **the measurement primitive of the density-matrix semantics refines `z_measurement_gate`**: on `ρ(t)` with recorded
    outcome `o` it returns `w · ρ(t')`, where `t'` is the tableau the API call returns and `w` is the Born probability
    `tr(Π_o ρ)` of the recorded outcome if that outcome can occur (then it is the outcome the API reports), and `0` — the zero
    matrix, an impossible branch — if it cannot.  (Random outcome: `Π_o ρ Π_o = ½ ρ(t')`; definite outcome `r`: `Π_r ρ = ρ`,
    `Π_{¬r} ρ = 0`.) -/
theorem appPD_meas_tab (t : Tab) (q : Nat) (o : Bool) (hq : q < t.n) (hv : t.Valid) (hr : t.StabReal) :
    appPD t.n (.meas q o) (some (Hilbert.tabRho t.n t)) =
      some ((if (t.zMeasure q o).2.1 = o then Matrix.trace (Hilbert.proj t.n (PRow.Zq q o) * Hilbert.tabRho t.n t) else 0) •
        Hilbert.tabRho t.n (t.zMeasure q o).1) := by
  have hok : primOk t.n (.meas q o) = true := by simpa [primOk] using hq
  unfold appPD
  rw [if_pos hok]
  simp only [Option.map_some]
  congr 1
  show Hilbert.projZ t.n q o * Hilbert.tabRho t.n t * (Hilbert.projZ t.n q o)ᴴ = _
  rw [Hilbert.projZ_eq t.n q hq o, Hilbert.proj_Zq_hermitian]
  cases hp : t.pivot q with
  | some p =>
    rw [Tab.zMeasure_random_eq t q p o hp, if_pos rfl, Matrix.trace_mul_comm, Hilbert.prob_random t hv hr q p o hq hp]
    exact Hilbert.proj_tabRho_proj t hv hr q p o hq hp
  | none =>
    obtain ⟨h1, h2, h3, -⟩ := Hilbert.det_fix t hv hr q hq hp
    rw [Tab.zMeasure_det_eq t q o hp]
    by_cases hout : (t.measScratch q).r = o
    · rw [if_pos hout, ← hout, h1, h2, Hilbert.tabRho_trace t hv, one_smul]
    · rw [if_neg hout, zero_smul, show o = !(t.measScratch q).r from Bool.eq_not.2 (Ne.symm hout), h3, Matrix.zero_mul]

/-! ## every primitive, and every operation, refines the tableau API with Born weights -/

/-- the tableau after the API call of a primitive (gates: the row map; measurement: `z_measurement_gate` with the recorded
    outcome as the value used if the outcome is random) -/
def apiP (t : Tab) : Tab.Op → Tab
  | .meas q o => (t.zMeasure q o).1
  | p => t.map (rowP p)

/-- the Born weight of a primitive on the state of `t`: 1 for gates; for a recorded outcome its probability, 0 if it cannot occur -/
noncomputable def weightP (t : Tab) : Tab.Op → ℂ
  | .meas q o =>
    if (t.zMeasure q o).2.1 = o then Matrix.trace (Hilbert.proj t.n (PRow.Zq q o) * Hilbert.tabRho t.n t) else 0
  | _ => 1

/-- **every primitive of the density-matrix semantics refines its tableau API call, with the Born weight** -/
theorem appPD_api (t : Tab) (p : Tab.Op) (hok : primOk t.n p = true) (hv : t.Valid) (hr : t.StabReal) (c : ℂ) :
    appPD t.n p (some (c • Hilbert.tabRho t.n t)) = some ((c * weightP t p) • Hilbert.tabRho t.n (apiP t p)) ∧
    (apiP t p).Valid ∧ (apiP t p).StabReal ∧ (apiP t p).n = t.n := by
  rcases prim_cases_rowP t.n p hok with ⟨q, o, rfl, hq⟩ | ⟨hg, _, ha⟩
  · refine ⟨?_, Tab.zMeasure_valid t q o hq hv, TabSpec.zMeasure_stabReal t q o hq hv hr, Tab.zMeasure_n t q o⟩
    have h := appPD_smul t.n (.meas q o) c _ _ (appPD_meas_tab t q o hq hv hr)
    rw [h, smul_smul]
    rfl
  · have hapi : apiP t p = t.map (rowP p) := by cases p <;> first | rfl | cases hg
    have hw : weightP t p = 1 := by cases p <;> first | rfl | cases hg
    have hmap := TInv.map ⟨hv, hr, rfl⟩ (rowP p) ha
    rw [hapi, hw, mul_one]
    exact ⟨appPD_smul t.n p c _ _ (appPD_tab t p hg hok), hmap.valid, hmap.real, rfl⟩

def apiPs : List Tab.Op → Tab → Tab
  | [], t => t
  | p :: l, t => apiPs l (apiP t p)

noncomputable def weightPs : List Tab.Op → Tab → ℂ
  | [], _ => 1
  | p :: l, t => weightP t p * weightPs l (apiP t p)

theorem runPD_api : ∀ (l : List Tab.Op) (t : Tab), (∀ p ∈ l, primOk t.n p = true) → t.Valid → t.StabReal → ∀ c : ℂ,
    runPD t.n l (some (c • Hilbert.tabRho t.n t)) = some ((c * weightPs l t) • Hilbert.tabRho t.n (apiPs l t)) ∧
    (apiPs l t).Valid ∧ (apiPs l t).StabReal ∧ (apiPs l t).n = t.n := by
  intro l
  induction l with
  | nil => intro t _ hv hr c; exact ⟨by simp [runPD, weightPs, apiPs], hv, hr, rfl⟩
  | cons p l ih =>
    intro t hok hv hr c
    obtain ⟨h1, hv1, hr1, hn1⟩ := appPD_api t p (hok p (by simp)) hv hr c
    obtain ⟨h2, hv2, hr2, hn2⟩ := ih (apiP t p) (fun p' hp' => by rw [hn1]; exact hok p' (List.mem_cons_of_mem _ hp')) hv1 hr1
      (c * weightP t p)
    refine ⟨?_, hv2, hr2, hn2.trans hn1⟩
    rw [runPD_cons, h1]
    rw [hn1] at h2
    rw [h2]
    simp only [weightPs, apiPs, mul_assoc]

/-- **every operation of the compile sequence, in the density-matrix semantics, refines the tableau API**: on `c · ρ(t)` it
    returns `(c · w) · ρ(t')` with `t'` the tableau after the API calls of the operation (measurement with the recorded
    outcome, classically controlled corrections, reset flip) and `w` the Born weight of the recorded outcome — provided the
    compiler's assertions hold (`hok`) and an outcome is supplied -/
theorem appD_api (ne np : Nat) (a : SOp) (d : Dec) (hd : decode ne np a = some d) (t : Tab) (hn : t.n = ne + np)
    (hv : t.Valid) (hr : t.StabReal) (sc : Script) (hhas : d.has sc)
    (hok : ∀ p ∈ d.prims (d.out sc), primOk (ne + np) p = true) (c : ℂ) :
    appD ne np a (some (c • Hilbert.tabRho (ne + np) t, sc)) =
      some ((c * weightPs (d.prims (d.out sc)) t) • Hilbert.tabRho (ne + np) (apiPs (d.prims (d.out sc)) t), d.pop sc) ∧
    (apiPs (d.prims (d.out sc)) t).Valid ∧ (apiPs (d.prims (d.out sc)) t).StabReal ∧
    (apiPs (d.prims (d.out sc)) t).n = ne + np := by
  obtain ⟨h1, hv1, hr1, hn1⟩ := runPD_api (d.prims (d.out sc)) t (fun p hp => by rw [hn]; exact hok p hp) hv hr c
  refine ⟨?_, hv1, hr1, hn1.trans hn⟩
  have e := appD_map ne np a d hd (some (c • Hilbert.tabRho (ne + np) t)) sc
  simp only [Option.map_some] at e
  rw [e, if_pos hhas]
  rw [hn] at h1
  rw [h1]
  rfl

/-! ## the stabilizer semantics `appRaw` is defined exactly when the Born weight is non-zero -/

theorem weight_ne_zero_of_reported (t : Tab) (q : Nat) (o : Bool) (hq : q < t.n) (hv : t.Valid) (hr : t.StabReal)
    (h : (t.zMeasure q o).2.1 = o) : weightP t (.meas q o) ≠ 0 := by
  show (if (t.zMeasure q o).2.1 = o then Matrix.trace (Hilbert.proj t.n (PRow.Zq q o) * Hilbert.tabRho t.n t) else 0) ≠ 0
  rw [if_pos h]
  cases hp : t.pivot q with
  | some p =>
    rw [Matrix.trace_mul_comm, Hilbert.prob_random t hv hr q p o hq hp]
    norm_num
  | none =>
    rw [Tab.zMeasure_det_eq t q o hp] at h
    rw [← (show (t.measScratch q).r = o from h), (Hilbert.det_fix t hv hr q hq hp).1, Hilbert.tabRho_trace t hv]
    exact one_ne_zero

/-- **a primitive in the stabilizer (group) semantics**: undefined iff the Born weight of its recorded outcome is 0, otherwise
    the group of the tableau after the API call -/
theorem appP_api {n : Nat} {t : Tab} (ht : TInv n t) (p : Tab.Op) (hok : primOk n p = true) :
    appP n p (some (TabSpec.gstate t)) = if weightP t p = 0 then none else some (TabSpec.gstate (apiP t p)) := by
  rcases prim_cases_rowP n p hok with ⟨q, o, rfl, hq⟩ | ⟨hg, _, _⟩
  · have hq' : q < t.n := by rw [ht.n_eq]; exact hq
    by_cases hrep : (t.zMeasure q o).2.1 = o
    · rw [if_neg (weight_ne_zero_of_reported t q o hq' ht.valid ht.real hrep)]
      have := meas_refines ht q o hq
      rw [hrep] at this
      exact this
    · have hw : weightP t (.meas q o) = 0 := by
        show (if (t.zMeasure q o).2.1 = o then _ else (0 : ℂ)) = 0
        rw [if_neg hrep]
      rw [hw, if_pos rfl, appP_meas n q o hq]
      -- the recorded outcome cannot occur: the opposite `Z` eigenvalue is a stabilizer
      have hz := meas_leaves_Zq ht q o hq
      cases hp : t.pivot q with
      | some p =>
        exfalso
        have e : t.zMeasure q o = (t.measRandom q p o, o, p) := by simp [Tab.zMeasure, hp]
        rw [e] at hrep
        exact hrep rfl
      | none =>
        have e : t.zMeasure q o = (t, (t.measScratch q).r, 0) := by simp [Tab.zMeasure, hp]
        rw [e] at hz hrep
        simp only at hz hrep
        have hro : (t.measScratch q).r = !o := by
          revert hrep; cases (t.measScratch q).r <;> cases o <;> simp
        rw [hro] at hz
        simp only [measStep, Option.bind_some]
        rw [if_pos (show (TabSpec.gstate t).G (PRow.Zq q (!o)) from hz)]
  · have hapi : apiP t p = t.map (rowP p) := by cases p <;> first | rfl | cases hg
    have hw : weightP t p = 1 := by cases p <;> first | rfl | cases hg
    rw [hw, if_neg one_ne_zero, hapi]
    exact (appP_gate_rowP p hg hok ht).1

theorem runP_api {n : Nat} : ∀ (l : List Tab.Op) {t : Tab}, TInv n t → (∀ p ∈ l, primOk n p = true) →
    runP n l (some (TabSpec.gstate t)) = if weightPs l t = 0 then none else some (TabSpec.gstate (apiPs l t)) := by
  intro l
  induction l with
  | nil => intro t _ _; simp [runP, weightPs, apiPs]
  | cons p l ih =>
    intro t ht hok
    have hokp := hok p (by simp)
    rw [runP_cons, appP_api ht p hokp]
    have hapi := appPD_api t p (by rw [ht.n_eq]; exact hokp) ht.valid ht.real 1
    have ht1 : TInv n (apiP t p) := ⟨hapi.2.1, hapi.2.2.1, hapi.2.2.2.trans ht.n_eq⟩
    by_cases hw : weightP t p = 0
    · rw [if_pos hw, runP_none]
      simp [weightPs, hw]
    · rw [if_neg hw, ih ht1 (fun p' hp' => hok p' (List.mem_cons_of_mem _ hp'))]
      simp only [weightPs, apiPs, mul_eq_zero, hw, false_or]

/-- **the density-matrix semantics refines the stabilizer semantics, operation by operation**: for an operation of the
    compile sequence on a valid tableau `t` with real stabilizer rows and an outcome supplied, with `t'` the tableau after its
    API calls and `w` the Born weight of the recorded outcome: `appRaw` on the group of `t` is undefined ("cannot occur") iff
    `w = 0`, and otherwise gives the group of `t'` and pops the outcome stream; `appD` on `c · ρ(t)` gives `(c · w) · ρ(t')`
    and pops the same stream -/
theorem appD_refines_appRaw (ne np : Nat) (a : SOp) (d : Dec) (hd : decode ne np a = some d) (t : Tab)
    (ht : TInv (ne + np) t) (sc : Script) (hhas : d.has sc)
    (hok : ∀ p ∈ d.prims (d.out sc), primOk (ne + np) p = true) (c : ℂ) :
    appRaw ne np a (some (TabSpec.gstate t, sc)) =
      (if weightPs (d.prims (d.out sc)) t = 0 then none else some (TabSpec.gstate (apiPs (d.prims (d.out sc)) t), d.pop sc)) ∧
    appD ne np a (some (c • Hilbert.tabRho (ne + np) t, sc)) =
      some ((c * weightPs (d.prims (d.out sc)) t) • Hilbert.tabRho (ne + np) (apiPs (d.prims (d.out sc)) t), d.pop sc) ∧
    TInv (ne + np) (apiPs (d.prims (d.out sc)) t) := by
  obtain ⟨h1, hv1, hr1, hn1⟩ := appD_api ne np a d hd t ht.n_eq ht.valid ht.real sc hhas hok c
  refine ⟨?_, h1, ⟨hv1, hr1, hn1⟩⟩
  have e := appRaw_map ne np a d hd (some (TabSpec.gstate t)) sc
  simp only [Option.map_some] at e
  rw [e, if_pos hhas, runP_api _ ht hok]
  split <;> rfl

/-- **along any compile sequence the density-matrix semantics carries (probability of the recorded outcomes) × (density
    matrix of the state the stabilizer semantics carries)**: whenever the stabilizer semantics runs through (the recorded
    outcomes can occur) and ends in the group `g'`, there are a tableau `t'` of that group and a non-zero weight `w` such that
    the density-matrix run from `c · ρ(t)` ends in `(c · w) · ρ(t')`, with the same unread outcome streams -/
theorem run_refines_dm (ne np : Nat) : ∀ (l : List SOp), (∀ a ∈ l, (decode ne np a).isSome = true ∧ a.regs.Nodup) →
    ∀ (t : Tab) (sc : Script) (c : ℂ), TInv (ne + np) t → ∀ (g' : TabSpec.GState) (sc' : Script),
      runSeq (appRaw ne np) l (some (TabSpec.gstate t, sc)) = some (g', sc') →
      ∃ (t' : Tab) (w : ℂ), w ≠ 0 ∧ TInv (ne + np) t' ∧ g' = TabSpec.gstate t' ∧
        runSeq (appD ne np) l (some (c • Hilbert.tabRho (ne + np) t, sc)) = some ((c * w) • Hilbert.tabRho (ne + np) t', sc') := by
  intro l
  induction l with
  | nil =>
    intro _ t sc c ht g' sc' h
    have h' : some (TabSpec.gstate t, sc) = some (g', sc') := h
    injection h' with h'
    injection h' with h1 h2
    exact ⟨t, 1, one_ne_zero, ht, h1.symm, by rw [mul_one, ← h2]; rfl⟩
  | cons a l ih =>
    intro hl t sc c ht g' sc' h
    obtain ⟨hsome, hnd⟩ := hl a (by simp)
    obtain ⟨d, hd⟩ := Option.isSome_iff_exists.1 hsome
    have hrun : runSeq (appRaw ne np) (a :: l) (some (TabSpec.gstate t, sc))
        = runSeq (appRaw ne np) l (appRaw ne np a (some (TabSpec.gstate t, sc))) := rfl
    rw [hrun] at h
    by_cases hhas : d.has sc
    · obtain ⟨e1, e2, ht1⟩ := appD_refines_appRaw ne np a d hd t ht sc hhas
        (fun p hp => decode_primOk ne np a d hd hnd _ p hp) c
      rw [e1] at h
      by_cases hw : weightPs (d.prims (d.out sc)) t = 0
      · rw [if_pos hw, runSeq_appRaw_none] at h; cases h
      · rw [if_neg hw] at h
        obtain ⟨t', w', hw', ht', hg', hD⟩ := ih (fun b hb => hl b (List.mem_cons_of_mem _ hb)) _ (d.pop sc)
          (c * weightPs (d.prims (d.out sc)) t) ht1 g' sc' h
        refine ⟨t', weightPs (d.prims (d.out sc)) t * w', mul_ne_zero hw hw', ht', hg', ?_⟩
        show runSeq (appD ne np) l (appD ne np a (some (c • Hilbert.tabRho (ne + np) t, sc))) = _
        rw [e2, hD, mul_assoc]
    · exfalso
      have e := appRaw_map ne np a d hd (some (TabSpec.gstate t)) sc
      simp only [Option.map_some] at e
      rw [e, if_neg hhas, runSeq_appRaw_none] at h
      cases h

end Graphiq.Commute
