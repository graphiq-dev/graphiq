/-
  Proofs/MixtureDMMeasure.lean — Z measurements on a stabilizer mixture at the Hilbert-space level, every number of qubits.

  Used by every later file of the chain (reset, lockstep, physical, joint measurement):

  * `MixGood` : every branch is a valid `n`-qubit tableau with real stabilizer rows (`StabReal`, which the measurement theorems
    of HilbertMeasure need); tabulation and the tableau operations of the backend keep it (`good_closed`), so every lemma of
    Proofs/Noise.lean about `Mix.All` applies;
  * `projZ` and its algebra; one branch measured: random (`branch_random`: `2 · Π_o ρ Π_o`, both probabilities ½) or
    deterministic (`branch_det`: unchanged, fixed by `Π_o`); `zMeasure_fixed`.

  HISTORICAL, last section (`Mix.measureOld`: graphiq before the repair of finding F2 measured every branch on its own; C06's
  `uniform_random_measurement` / `uniform_deterministic_measurement` state these).  When all branches agree on "random?" and on
  the outcome (`uniformMeas`, the flag the model's `StabSt.nonUniform` accumulates), per-branch measurement *is* the joint
  measurement of `R = Σ_k w_k ρ(T_k)`:

  * all branches random (`measure_random`): the new mixture stands for `2 · Π_o R Π_o` (`o` the forced outcome), and
    `tr(R Π_0) = tr(R Π_1) = (Σ w_k)/2`;
  * all branches deterministic with the same outcome `o` (`measure_det`): the mixture is unchanged, `Π_o R Π_o = R`,
    `tr(R Π_o) = Σ w_k`, `tr(R Π_¬o) = 0`.
-/
import GraphiqModel.Proofs.MixtureDMPhysical
namespace Graphiq
namespace MixDM
open Matrix Hilbert Noise DM PRow

/-! ### the invariant: every branch is a valid `n`-qubit tableau with real stabilizer rows -/

/-- `Mix.All (fun t => t.n = n ∧ t.Valid ∧ t.StabReal)` written out -/
def MixGood (n : Nat) (m : Mixture) : Prop := ∀ x ∈ m, x.2.n = n ∧ x.2.Valid ∧ x.2.StabReal

theorem MixGood.ok {n : Nat} {m : Mixture} (h : MixGood n m) : MixOK n m := fun x hx => ⟨(h x hx).1, (h x hx).2.1⟩
theorem MixGood.mixN {n : Nat} {m : Mixture} (h : MixGood n m) : MixN n m := fun x hx => (h x hx).1
theorem MixGood.tail {n : Nat} {x : Rat × Tab} {m : Mixture} (h : MixGood n (x :: m)) : MixGood n m :=
  fun y hy => h y (List.mem_cons_of_mem _ hy)
theorem MixGood.head {n : Nat} {x : Rat × Tab} {m : Mixture} (h : MixGood n (x :: m)) :
    x.2.n = n ∧ x.2.Valid ∧ x.2.StabReal := h x List.mem_cons_self

theorem zMeasure_stabReal (t : Tab) (hv : t.Valid) (hr : t.StabReal) (q : Nat) (o : Bool) : (t.zMeasure q o).1.StabReal :=
  Tab.zMeasure_real t q o hv hr

theorem resetZ_stabReal (t : Tab) (hv : t.Valid) (hr : t.StabReal) (q : Nat) (o : Bool) : (t.resetZ q false o).StabReal := by
  unfold Tab.resetZ
  have hr1 := zMeasure_stabReal t hv hr q o
  generalize t.zMeasure q o = zm at hr1 ⊢
  obtain ⟨t1, outcome, p⟩ := zm
  simp only at hr1 ⊢
  have hr2 : (if p ≠ 0 then ({ t1 with row := upd t1.row p { (t1.row p) with ip := false } } : Tab) else t1).StabReal := by
    split
    · intro i h1 h2
      show (upd t1.row p { (t1.row p) with ip := false } i).ip = false
      unfold upd
      split
      · rfl
      · exact hr1 i h1 h2
    · exact hr1
  split
  · exact hr2
  · exact gate_stabReal _ (.X q) hr2

/-- **tabulation and the tableau operations of the backend keep "valid `n`-qubit tableau with real stabilizer rows"**, so
    every lemma of Proofs/Noise.lean about `Mix.All` applies to `MixGood` -/
theorem good_closed (n : Nat) : TabClosed n (fun t => t.n = n ∧ t.Valid ∧ t.StabReal) :=
  ⟨fun t h => ⟨h.1, Tab.norm_valid t h.2.1, Tab.norm_stabReal t h.2.2⟩, fun f hf t ⟨hn, hv, hr⟩ => by
    obtain ⟨e, v⟩ := (valid_closed n).2 f hf t ⟨hn, hv⟩
    refine ⟨e, v, ?_⟩
    cases hf with
    | id => exact hr
    | gate hw => exact gate_stabReal t _ hr
    | meas hq o => exact zMeasure_stabReal t hv hr _ o
    | reset hq o => exact resetZ_stabReal t hv hr _ o⟩

theorem mem_measureOld (q : Nat) (det : Bool) (m : Mixture) (x : Rat × Tab) (hx : x ∈ (Mix.measureOld q det m).1) :
    ∃ y ∈ m, x = (y.1, (y.2.zMeasure q det).1.norm) := by
  simp only [Mix.measureOld, List.map_map, List.mem_map] at hx
  obtain ⟨⟨p, t⟩, hy, rfl⟩ := hx
  exact ⟨(p, t), hy, rfl⟩

/-- HISTORICAL (`Mix.measureOld`): the per-branch measurement keeps `MixGood` (the joint one: `measure_good_new`,
    Proofs/MixtureDMJoint.lean) -/
theorem measure_good (n q : Nat) (hq : q < n) (det : Bool) (m : Mixture) (hm : MixGood n m) :
    MixGood n (Mix.measureOld q det m).1 := by
  intro x hx
  obtain ⟨y, hy, rfl⟩ := mem_measureOld q det m x hx
  exact (good_closed n).1 _ ((good_closed n).2 _ (.meas hq det) y.2 (hm y hy))

/-! ### the Z projectors -/

/-- `Π_s = (1 + (−1)^s Z_q)/2` -/
noncomputable def projZ (n q : Nat) (s : Bool) : HMat n := proj n (Zq q s)

theorem projZ_idem (n q : Nat) (s : Bool) : projZ n q s * projZ n q s = projZ n q s := proj_idem n _ rfl
theorem projZ_herm (n q : Nat) (s : Bool) : (projZ n q s)ᴴ = projZ n q s := proj_hermitian n _ rfl

theorem projZ_sandwich {n : Nat} (q : Nat) (s : Bool) (R : HMat n) :
    projZ n q s * (projZ n q s * R * projZ n q s) * projZ n q s = projZ n q s * R * projZ n q s := by
  rw [Matrix.mul_assoc, Matrix.mul_assoc, projZ_idem, ← Matrix.mul_assoc, ← Matrix.mul_assoc, projZ_idem]

theorem trace_mul_projZ {n : Nat} (q : Nat) (s : Bool) (R : HMat n) :
    (R * projZ n q s).trace = (projZ n q s * R * projZ n q s).trace := trace_mul_proj R q s

/-! ### one branch -/

/-- random branch of one tableau: the measured, tabulated tableau is `2 Π_o ρ Π_o`; both outcomes have probability ½ -/
theorem branch_random (n : Nat) (t : Tab) (hn : t.n = n) (hv : t.Valid) (hr : t.StabReal) (q : Nat) (hq : q < n) (det : Bool)
    (p : Nat) (hp : t.pivot q = some p) :
    tabRho n (t.zMeasure q det).1.norm = (2 : ℂ) • (projZ n q det * tabRho n t * projZ n q det) ∧
    (t.zMeasure q det).2.1 = det ∧
    ∀ s, (tabRho n t * projZ n q s).trace = 1 / 2 := by
  subst hn
  obtain ⟨h1, h2, h3⟩ := Tab.pivot_spec t q p hp
  have e : t.zMeasure q det = (t.measRandom q p det, det, p) := by unfold Tab.zMeasure; rw [hp]
  rw [e]
  refine ⟨?_, rfl, ?_⟩
  · show tabRho t.n (t.measRandom q p det).norm = _
    rw [tabRho_norm t.n (t.measRandom q p det) rfl]
    show rho t.n (STab.ofTab (t.measRandom q p det)) = _
    have := measRandom_state t hv hr q p det hq h1 h2 h3
    unfold projZ tabRho
    rw [this, smul_smul]
    norm_num
  · intro s
    rw [trace_mul_projZ]
    exact measRandom_prob t hv hr q p s hq h1 h2 h3

theorem branch_det (n : Nat) (t : Tab) (hn : t.n = n) (hv : t.Valid) (hr : t.StabReal) (q : Nat) (hq : q < n) (det : Bool)
    (hp : t.pivot q = none) :
    tabRho n (t.zMeasure q det).1.norm = tabRho n t ∧
    projZ n q (t.zMeasure q det).2.1 * tabRho n t * projZ n q (t.zMeasure q det).2.1 = tabRho n t ∧
    (tabRho n t * projZ n q (t.zMeasure q det).2.1).trace = 1 ∧
    (tabRho n t * projZ n q (!(t.zMeasure q det).2.1)).trace = 0 := by
  subst hn
  have e : t.zMeasure q det = (t, (t.measScratch q).r, 0) := by unfold Tab.zMeasure; rw [hp]
  rw [e]
  obtain ⟨_, h2, h3⟩ := measDet_state t hv hr q hq hp
  refine ⟨tabRho_norm t.n t rfl, h2, ?_, ?_⟩
  · rw [trace_mul_projZ]
    show (proj t.n (Zq q (t.measScratch q).r) * rho t.n (STab.ofTab t) * proj t.n (Zq q (t.measScratch q).r)).trace = 1
    rw [h2]; exact rho_ofTab_trace t hv
  · rw [Matrix.trace_mul_comm]
    show (proj t.n (Zq q (!(t.measScratch q).r)) * rho t.n (STab.ofTab t)).trace = 0
    rw [h3]; simp

/-- a measured branch is fixed by the projector of the outcome it reports -/
theorem zMeasure_fixed (n : Nat) (t : Tab) (hn : t.n = n) (hv : t.Valid) (hr : t.StabReal) (q : Nat) (hq : q < n) (det : Bool) :
    projZ n q (t.zMeasure q det).2.1 * tabRho n (t.zMeasure q det).1.norm * projZ n q (t.zMeasure q det).2.1
      = tabRho n (t.zMeasure q det).1.norm := by
  cases hp : t.pivot q with
  | some p =>
    obtain ⟨b1, b2, _⟩ := branch_random n t hn hv hr q hq det p hp
    rw [b2, b1, Matrix.mul_smul, Matrix.smul_mul, projZ_sandwich]
  | none =>
    obtain ⟨b1, b2, _, _⟩ := branch_det n t hn hv hr q hq det hp
    rw [b1, b2]

/-! ### HISTORICAL: the per-branch measurement `Mix.measureOld` on a mixture whose branches are all alike -/

/-- every branch agrees with `(r0, o0)` on "random?" and on the outcome -/
def Uniform (q : Nat) (det : Bool) (r0 o0 : Bool) (m : Mixture) : Prop :=
  ∀ x ∈ m, (x.2.pivot q).isSome = r0 ∧ (x.2.zMeasure q det).2.1 = o0

/-- the model's flag `uniformMeas` says that all branches are like the first -/
theorem uniformMeas_spec (q : Nat) (det : Bool) (w0 : Rat) (t0 : Tab) (rest : Mixture)
    (h : uniformMeas q det ((w0, t0) :: rest) = true) :
    Uniform q det (t0.pivot q).isSome (t0.zMeasure q det).2.1 ((w0, t0) :: rest) := by
  intro x hx
  rcases List.mem_cons.1 hx with e | hx
  · subst e; exact ⟨rfl, rfl⟩
  · simp only [uniformMeas, List.all_eq_true, Bool.and_eq_true, beq_iff_eq] at h
    exact h x hx

theorem measure_cons (q : Nat) (det : Bool) (w : Rat) (t : Tab) (m : Mixture) :
    (Mix.measureOld q det ((w, t) :: m)).1 = (w, (t.zMeasure q det).1.norm) :: (Mix.measureOld q det m).1 ∧
    (Mix.measureOld q det ((w, t) :: m)).2 = (t.zMeasure q det).2.1 :: (Mix.measureOld q det m).2 := by
  simp [Mix.measureOld]

/-- all branches random: per-branch measurement is the joint measurement with forced outcome -/
theorem measure_random (n q : Nat) (hq : q < n) (det : Bool) : ∀ (m : Mixture), MixGood n m → Uniform q det true det m →
    mixRho n (Mix.measureOld q det m).1 = (2 : ℂ) • (projZ n q det * mixRho n m * projZ n q det) ∧
    (∀ s, (mixRho n m * projZ n q s).trace = ((Mix.total m : ℚ) : ℂ) / 2) ∧
    (∀ o ∈ (Mix.measureOld q det m).2, o = det)
  | [], _, _ => by
    refine ⟨by simp [Mix.measureOld, mixRho_nil], fun s => by simp [mixRho_nil, Mix.total_nil], fun o ho => ?_⟩
    simp [Mix.measureOld] at ho
  | (w, t) :: rest, hg, hu => by
    obtain ⟨hn, hv, hr⟩ := hg.head
    obtain ⟨u1, _⟩ := hu (w, t) List.mem_cons_self
    obtain ⟨p, hp⟩ := Option.isSome_iff_exists.1 u1
    obtain ⟨b1, b2, b3⟩ := branch_random n t hn hv hr q hq det p hp
    obtain ⟨i1, i2, i3⟩ := measure_random n q hq det rest hg.tail (fun x hx => hu x (List.mem_cons_of_mem _ hx))
    obtain ⟨c1, c2⟩ := measure_cons q det w t rest
    refine ⟨?_, fun s => ?_, fun o ho => ?_⟩
    · rw [c1, mixRho_cons, mixRho_cons, b1, i1, Matrix.mul_add, Matrix.add_mul, Matrix.mul_smul, Matrix.smul_mul,
        smul_add, smul_comm]
    · rw [mixRho_cons, Matrix.add_mul, Matrix.trace_add, Matrix.smul_mul, Matrix.trace_smul, b3 s, i2 s, Mix.total_cons]
      simp only [smul_eq_mul]
      push_cast
      ring
    · rw [c2] at ho
      rcases List.mem_cons.1 ho with e | ho
      · rw [e, b2]
      · exact i3 o ho

/-- all branches deterministic with the same outcome `o0`: nothing changes, `Π_{o0}` fixes the state -/
theorem measure_det (n q : Nat) (hq : q < n) (det o0 : Bool) : ∀ (m : Mixture), MixGood n m → Uniform q det false o0 m →
    mixRho n (Mix.measureOld q det m).1 = mixRho n m ∧
    projZ n q o0 * mixRho n m * projZ n q o0 = mixRho n m ∧
    (mixRho n m * projZ n q o0).trace = ((Mix.total m : ℚ) : ℂ) ∧
    (mixRho n m * projZ n q (!o0)).trace = 0 ∧
    (∀ o ∈ (Mix.measureOld q det m).2, o = o0)
  | [], _, _ => by
    refine ⟨by simp [Mix.measureOld, mixRho_nil], by simp [mixRho_nil], by simp [mixRho_nil, Mix.total_nil],
      by simp [mixRho_nil], fun o ho => ?_⟩
    simp [Mix.measureOld] at ho
  | (w, t) :: rest, hg, hu => by
    obtain ⟨hn, hv, hr⟩ := hg.head
    obtain ⟨u1, u2⟩ := hu (w, t) List.mem_cons_self
    have hp : t.pivot q = none := by
      cases h : t.pivot q with
      | none => rfl
      | some p => rw [h] at u1; simp at u1
    obtain ⟨b1, b2, b3, b4⟩ := branch_det n t hn hv hr q hq det hp
    simp only at u2
    rw [u2] at b2 b3 b4
    obtain ⟨i1, i2, i3, i4, i5⟩ := measure_det n q hq det o0 rest hg.tail (fun x hx => hu x (List.mem_cons_of_mem _ hx))
    obtain ⟨c1, c2⟩ := measure_cons q det w t rest
    refine ⟨?_, ?_, ?_, ?_, fun o ho => ?_⟩
    · rw [c1, mixRho_cons, mixRho_cons, b1, i1]
    · rw [mixRho_cons, Matrix.mul_add, Matrix.add_mul, Matrix.mul_smul, Matrix.smul_mul, b2, i2]
    · rw [mixRho_cons, Matrix.add_mul, Matrix.trace_add, Matrix.smul_mul, Matrix.trace_smul, b3, i3, Mix.total_cons]
      simp only [smul_eq_mul]
      push_cast
      ring
    · rw [mixRho_cons, Matrix.add_mul, Matrix.trace_add, Matrix.smul_mul, Matrix.trace_smul, b4, i4]
      simp
    · rw [c2] at ho
      rcases List.mem_cons.1 ho with e | ho
      · rw [e]; exact u2
      · exact i5 o ho

end MixDM
end Graphiq
