/-
  Proofs/TabSpecOps.lean — what each size-preserving / size-increasing operation of the tableau API does to the stabilizer
  *group* (`Grp`), for every number of qubits: gates (image under the row automorphism), swap, tensor product,
  qubit insertion, Z measurement (both branches, with the value of the deterministic outcome); the table equations of `reset_z`
  (its group statement is `resetZ_tracks`, Proofs/TabSpecHistory.lean).
-/
import GraphiqModel.Proofs.TabSpecHom
import GraphiqModel.Proofs.InverseCircuit
namespace Graphiq.TabSpec
open Graphiq PRow Tab STab

theorem grp_mono_gens (t1 t2 : Tab) (hn : t1.n = t2.n) (h : ∀ i, i < t1.n → Grp t2 (t1.stab i)) :
    ∀ P, Grp t1 P → Grp t2 P := by
  intro P hP
  unfold Grp at h hP ⊢
  rw [← hn] at h ⊢
  exact InSpan.le h hP

theorem grp_congr_gens (t1 t2 : Tab) (hn : t1.n = t2.n) (h : ∀ i, i < t1.n → EqOn t1.n (t1.stab i) (t2.stab i)) :
    ∀ P, Grp t1 P ↔ Grp t2 P := by
  intro P
  constructor
  · apply grp_mono_gens t1 t2 hn
    intro i hi
    exact InSpan.eqv _ _ (InSpan.gen i (hn ▸ hi)) (hn ▸ (h i hi).symm)
  · apply grp_mono_gens t2 t1 hn.symm
    intro i hi
    exact InSpan.eqv _ _ (InSpan.gen i (hn ▸ hi)) (h i (hn ▸ hi))

theorem norm_grp (t : Tab) : ∀ P, Grp t.norm P ↔ Grp t P := by
  apply grp_congr_gens t.norm t rfl
  intro i hi
  have hi' : i < t.n := hi
  exact Tab.norm_row t (i + t.n) (by omega)

/-! ### gates -/

theorem isAut1_h (n q : Nat) (hq : q < n) : IsAut1 n (PRow.h q) := Gate.isAut1 n (.H q) hq
theorem isAut1_s (n q : Nat) (hq : q < n) : IsAut1 n (PRow.s q) := Gate.isAut1 n (.P q) hq
theorem isAut1_sdg (n q : Nat) (hq : q < n) : IsAut1 n (PRow.sdg q) := Gate.isAut1 n (.Pdag q) hq
theorem isAut1_zg (n q : Nat) (hq : q < n) : IsAut1 n (PRow.zg q) := Gate.isAut1 n (.Z q) hq
theorem isAut1_xg (n q : Nat) (hq : q < n) : IsAut1 n (PRow.xg q) := Gate.isAut1 n (.X q) hq
theorem isAut1_yg (n q : Nat) (hq : q < n) : IsAut1 n (PRow.yg q) := Gate.isAut1 n (.Y q) hq
theorem isAut1_cnot (n c t : Nat) (hc : c < n) (ht : t < n) (hct : c ≠ t) : IsAut1 n (PRow.cnot c t) :=
  Gate.isAut1 n (.CNOT c t) ⟨hc, ht, hct⟩
theorem isAut1_cz (n c t : Nat) (hc : c < n) (ht : t < n) (hct : c ≠ t) : IsAut1 n (PRow.cz c t) :=
  Gate.isAut1 n (.CZ c t) ⟨hc, ht, hct⟩

theorem isAut_swap (n a b : Nat) (ha : a < n) (hb : b < n) : IsAut n (PRow.swap a b) :=
  ⟨sp_swap n a b ha hb, swap_mul n a b ha hb, swap_congr n a b ha hb⟩
theorem isAut1_swap (n a b : Nat) (ha : a < n) (hb : b < n) : IsAut1 n (PRow.swap a b) :=
  ⟨isAut_swap n a b ha hb, by rw [swap_one]; exact EqOn.refl _ _, fun _ => rfl⟩

/-- image of a set of rows under a row map (up to row equality on `n` sites) -/
def imageGrp (n : Nat) (f : PRow → PRow) (H : PRow → Prop) (P : PRow) : Prop := ∃ Q, H Q ∧ EqOn n P (f Q)

theorem map_grp_of (t : Tab) (f : PRow → PRow) (hf : IsAut1 t.n f) (Q : PRow) (hQ : Grp t Q) :
    Grp (t.map f) (f Q) :=
  InSpan.map_gens hf.isHom hQ

/-- **a gate maps the stabilizer group to its image under the row automorphism** -/
theorem map_grp (t : Tab) (f : PRow → PRow) (hf : IsAut1 t.n f) :
    ∀ P, Grp (t.map f) P ↔ imageGrp t.n f (Grp t) P :=
  fun P => (InSpan.image_iff hf.isHom (fun _ _ => EqOn.refl _ _) P).trans
    ⟨fun ⟨Q, h, e⟩ => ⟨Q, h, e.symm⟩, fun ⟨Q, h, e⟩ => ⟨Q, h, e.symm⟩⟩

/-- **`swap_gate`**: the new group is the old one with sites `a`, `b` exchanged, signs unchanged -/
theorem swap_grp (t : Tab) (a b : Nat) (ha : a < t.n) (hb : b < t.n) :
    ∀ P, Grp (t.swapGate a b) P ↔ Grp t (PRow.swap a b P) := by
  intro P
  rw [show t.swapGate a b = t.map (PRow.swap a b) from rfl, map_grp t _ (isAut1_swap t.n a b ha hb)]
  constructor
  · rintro ⟨Q, hQ, e⟩
    have := swap_congr t.n a b ha hb _ _ e
    rw [swap_swap] at this
    exact InSpan.eqv _ _ hQ this.symm
  · intro h
    exact ⟨_, h, by rw [swap_swap]; exact EqOn.refl _ _⟩

/-! ### tensor product -/

theorem tensor_stab_left (a b : Tab) (i : Nat) (hi : i < a.n) :
    (tensor2 a b).stab i = (a.stab i).truncCols a.n :=
  (tensor2_row_s a b i).trans (if_pos hi)

theorem tensor_stab_right (a b : Tab) (i : Nat) (h1 : a.n ≤ i) :
    (tensor2 a b).stab i = (b.stab (i - a.n)).shiftCols a.n :=
  (tensor2_row_s a b i).trans (if_neg (Nat.not_lt.mpr h1))

theorem tensor_grp_left (a b : Tab) (P : PRow) (hP : Grp a P) : Grp (tensor2 a b) (P.truncCols a.n) :=
  InSpan.map (truncCols_isHom a.n b.n)
    (fun i hi => tensor_stab_left a b i hi ▸ InSpan.gen i (by show i < a.n + b.n; omega)) hP

theorem tensor_grp_right (a b : Tab) (Q : PRow) (hQ : Grp b Q) : Grp (tensor2 a b) (Q.shiftCols a.n) :=
  InSpan.map (shiftCols_isHom a.n b.n)
    (fun i hi => by
      have := tensor_stab_right a b (i + a.n) (by omega)
      rw [show i + a.n - a.n = i by omega] at this
      exact this ▸ InSpan.gen (i + a.n) (by show i + a.n < a.n + b.n; omega)) hQ

/-- **`tensor`**: the group of `a ⊗ b` is `{ P ⊗ Q : P ∈ group a, Q ∈ group b }` -/
theorem tensor_grp (a b : Tab) :
    ∀ R, Grp (tensor2 a b) R ↔ ∃ P Q, Grp a P ∧ Grp b Q ∧ EqOn (a.n + b.n) R (tensorRow a.n b.n P Q) := by
  intro R
  constructor
  · intro hR
    unfold Grp at hR
    induction hR with
    | one =>
      exact ⟨PRow.one, PRow.one, InSpan.one, InSpan.one,
        ((tensorRow_one_right a.n b.n PRow.one).trans (truncCols_one a.n (a.n + b.n))).symm⟩
    | gen i hi =>
      have hi' : i < a.n + b.n := hi
      by_cases h : i < a.n
      · refine ⟨a.stab i, PRow.one, InSpan.gen i h, InSpan.one, ?_⟩
        rw [tensor_stab_left a b i h]
        exact (tensorRow_one_right a.n b.n _).symm
      · refine ⟨PRow.one, b.stab (i - a.n), InSpan.one, InSpan.gen (i - a.n) (by omega), ?_⟩
        rw [tensor_stab_right a b i (by omega)]
        exact (tensorRow_one_left a.n b.n _).symm
    | mul x y _ _ ihx ihy =>
      obtain ⟨P1, Q1, hP1, hQ1, e1⟩ := ihx
      obtain ⟨P2, Q2, hP2, hQ2, e2⟩ := ihy
      exact ⟨PRow.mul a.n P1 P2, PRow.mul b.n Q1 Q2, InSpan.mul _ _ hP1 hP2, InSpan.mul _ _ hQ1 hQ2,
        (mul_congr (a.n + b.n) _ _ _ _ e1 e2).trans (tensorRow_mul a.n b.n P1 Q1 P2 Q2)⟩
    | eqv x y _ hxy ihx =>
      obtain ⟨P, Q, hP, hQ, e⟩ := ihx
      exact ⟨P, Q, hP, hQ, EqOn.trans (EqOn.symm hxy) e⟩
  · rintro ⟨P, Q, hP, hQ, e⟩
    exact InSpan.eqv _ _ (InSpan.mul _ _ (tensor_grp_left a b P hP) (tensor_grp_right a b Q hQ)) e.symm

theorem tensor_stabReal (a b : Tab) (ha : a.StabReal) (hb : b.StabReal) : (tensor2 a b).StabReal := by
  intro i h1 h2
  have h2' : i < 2 * (a.n + b.n) := h2
  obtain ⟨j, rfl⟩ := Nat.exists_eq_add_of_le' (show a.n + b.n ≤ i from h1)
  rw [tensor2_row_s]
  split
  · exact ha _ (by omega) (by omega)
  · exact hb _ (by omega) (by omega)

theorem ph_real (a : PRow) (h : a.ip = false) : a.ph = 2 * Bool.toInt' a.r := by
  unfold PRow.ph; rw [h]; simp [Bool.toInt']

/-- for Hermitian `P`, `Q`: `P ⊗ Q` is in the group of `a ⊗ b` iff `P`, `Q` are in the groups of `a`, `b` — or `-P`, `-Q` are
    (`(-P) ⊗ (-Q) = P ⊗ Q`) -/
theorem tensor_row_iff (a b : Tab) (ha : a.Valid) (hb : b.Valid) (ra : a.StabReal) (rb : b.StabReal)
    (P Q : PRow) (hP : P.ip = false) (hQ : Q.ip = false) :
    Grp (tensor2 a b) (tensorRow a.n b.n P Q) ↔ (Grp a P ∧ Grp b Q) ∨ (Grp a (negate P) ∧ Grp b (negate Q)) := by
  constructor
  · intro h
    obtain ⟨P', Q', hP', hQ', e⟩ := (tensor_grp a b _).mp h
    have sbP : SameBits a.n P' P := by
      intro j hj
      have := e.1 j (by omega)
      simp only [tensorRow_x, tensorRow_z, hj, if_true] at this
      exact ⟨this.1.symm, this.2.symm⟩
    have sbQ : SameBits b.n Q' Q := by
      intro j hj
      have := e.1 (a.n + j) (by omega)
      have hlt : ¬ (a.n + j < a.n) := by omega
      simp only [tensorRow_x, tensorRow_z, hlt, if_false, Nat.add_sub_cancel_left] at this
      exact ⟨this.1.symm, this.2.symm⟩
    have uP : UpToSign (Grp a) P :=
      UpToSign.of_sameBits (fun x y => InSpan.eqv x y) (Or.inl hP') sbP ((grp_real a ha ra P' hP').trans hP.symm)
    have uQ : UpToSign (Grp b) Q :=
      UpToSign.of_sameBits (fun x y => InSpan.eqv x y) (Or.inl hQ') sbQ ((grp_real b hb rb Q' hQ').trans hQ.symm)
    -- with mixed signs both `P ⊗ Q` and `-(P ⊗ Q)` would be in the group
    have mixed : ∀ P0 Q0, Grp a P0 → Grp b Q0 →
        EqOn (a.n + b.n) (tensorRow a.n b.n P0 Q0) (negate (tensorRow a.n b.n P Q)) → False :=
      fun P0 Q0 h1 h2 e' =>
        (grp_isStabGrp _ (tensor2_valid a b ha hb) (tensor_stabReal a b ra rb)).not_negate _ h
          (InSpan.eqv _ _ ((tensor_grp a b _).mpr ⟨P0, Q0, h1, h2, EqOn.refl _ _⟩) e')
    rcases uP with p | p <;> rcases uQ with q | q
    · exact Or.inl ⟨p, q⟩
    · exact (mixed P (negate Q) p q (mul_negate_right (a.n + b.n) (P.truncCols a.n) (Q.shiftCols a.n))).elim
    · exact (mixed (negate P) Q p q (mul_negate_left (a.n + b.n) (P.truncCols a.n) (Q.shiftCols a.n))).elim
    · exact Or.inr ⟨p, q⟩
  · rintro (⟨h1, h2⟩ | ⟨h1, h2⟩)
    · exact (tensor_grp a b _).mpr ⟨P, Q, h1, h2, EqOn.refl _ _⟩
    · refine (tensor_grp a b _).mpr ⟨negate P, negate Q, h1, h2, ?_⟩
      apply eqOn_of
      · intro j _
        exact ⟨by simp [tensorRow_x], by simp [tensorRow_z]⟩
      · rw [tensorRow_ph, tensorRow_ph, negate_ph, negate_ph]; omega

/-! ### qubit insertion -/

theorem isStabGrp_insert (n p : Nat) (hp : p ≤ n) (H : PRow → Prop) (hH : IsStabGrp n H) :
    IsStabGrp (n + 1) (fun P => P.x p = false ∧ H (P.deleteCol p)) := by
  refine ⟨⟨rfl, hH.eqv _ _ hH.one (deleteCol_one n p).symm⟩, ?_, ?_, ?_, ?_, ?_⟩
  · rintro a b ⟨ax, ha⟩ ⟨bx, hb⟩
    exact ⟨by simp [ax, bx], hH.eqv _ _ (hH.mul _ _ ha hb) (deleteCol_mul n p hp a b ax bx).symm⟩
  · rintro a b ⟨ax, ha⟩ hab
    exact ⟨by rw [← (hab.1 p (by omega)).1]; exact ax, hH.eqv _ _ ha (deleteCol_congr n p a b hab)⟩
  · rintro a ⟨_, ha⟩
    exact hH.real (a.deleteCol p) ha
  · rintro a b ⟨ax, ha⟩ ⟨bx, hb⟩
    rw [← sp_deleteCol_xfree n p hp a b ax bx]; exact hH.comm _ _ ha hb
  · rintro ⟨_, h⟩
    exact hH.noNeg (hH.eqv _ _ h (negate_congr n _ _ (deleteCol_one n p)))

theorem insertQubit_stab (t : Tab) (p i : Nat) (hp : p ≤ t.n) (hi : i < t.n + 1) :
    (i = p ∧ (t.insertQubit p).stab i = Zq p) ∨
    (i ≠ p ∧ ∃ k, k < t.n ∧ (t.insertQubit p).stab i = (t.stab k).insertCol p) := by
  have e : (t.insertQubit p).stab i = if i = p then Zq p else (t.row (skipDown p i + t.n)).insertCol p :=
    insertQubit_row_s t p i hp
  by_cases h : i = p
  · exact Or.inl ⟨h, by rw [e, if_pos h]⟩
  · refine Or.inr ⟨h, skipDown p i, ?_, by rw [e, if_neg h]; rfl⟩
    unfold skipDown
    split <;> omega

theorem deleteCol_Zq (n p : Nat) : EqOn n ((Zq p).deleteCol p) PRow.one := by
  refine ⟨fun j _ => ?_, rfl, rfl⟩
  simp only [PRow.deleteCol, Zq, PRow.one]
  by_cases h : j < p
  · have : j ≠ p := by omega
    simp [h, this]
  · have : j + 1 ≠ p := by omega
    simp [h, this]

/-- **`insert_qubit`**: the new group is `{I, Z}_p ⊗ (old group)` with sign `+`, i.e. the state is `|0⟩_p ⊗ (old state)`:
    `P` is in the new group iff it acts as `I` or `Z` on site `p` and deleting site `p` gives an element of the old group -/
theorem insert_grp (t : Tab) (p : Nat) (hp : p ≤ t.n) (hv : t.Valid) (hr : t.StabReal) :
    ∀ P, Grp (t.insertQubit p) P ↔ (P.x p = false ∧ Grp t (P.deleteCol p)) := by
  apply grp_unique (t.insertQubit p) (insertQubit_valid t p hp hv) _
    (isStabGrp_insert t.n p hp (Grp t) (grp_isStabGrp t hv hr))
  intro i hi
  rcases insertQubit_stab t p i hp hi with ⟨_, e⟩ | ⟨_, k, hk, e⟩
  · rw [e]
    exact ⟨by simp [Zq], InSpan.eqv _ _ InSpan.one (deleteCol_Zq t.n p).symm⟩
  · rw [e]
    exact ⟨insertCol_x p _, InSpan.eqv _ _ (grp_gen t k hk) (deleteCol_insertCol t.n p _).symm⟩

theorem insert_stabReal (t : Tab) (p : Nat) (hp : p ≤ t.n) (hv : t.Valid) (hr : t.StabReal) : (t.insertQubit p).StabReal := by
  apply stabReal_of_gens (t.insertQubit p) _ (isStabGrp_insert t.n p hp (Grp t) (grp_isStabGrp t hv hr))
  intro i hi
  exact (insert_grp t p hp hv hr _).mp (grp_gen _ i hi)

/-! ### Z measurement -/

/-- "some element of the group anticommutes with `Z_q`" -/
def Random (H : PRow → Prop) (q : Nat) : Prop := ∃ g, H g ∧ g.x q = true

/-- the textbook post-measurement group `⟨(-1)^o Z_q⟩ · {elements commuting with Z_q}` is a stabilizer group when
    some element anticommutes with `Z_q` -/
theorem isStabGrp_meas (n q : Nat) (hq : q < n) (o : Bool) (H : PRow → Prop) (hH : IsStabGrp n H)
    (hrand : Random H q) :
    IsStabGrp n (fun P => P.x q = false ∧ (H P ∨ H (PRow.mul n P (Zq q o)))) := by
  have spZ : ∀ a : PRow, sp n a (Zq q o) = a.x q := fun a => sp_Zq n q a o hq
  have spZ' : ∀ a : PRow, sp n (Zq q o) a = a.x q := fun a => by rw [sp_comm]; exact spZ a
  refine ⟨⟨rfl, Or.inl hH.one⟩, ?_, ?_, ?_, ?_, ?_⟩
  · rintro a b ⟨ax, ha⟩ ⟨bx, hb⟩
    refine ⟨by simp [ax, bx], ?_⟩
    have cb : sp n (Zq q o) b = false := by rw [spZ', bx]
    rcases ha with ha | ha <;> rcases hb with hb | hb
    · exact Or.inl (hH.mul _ _ ha hb)
    · exact Or.inr (hH.eqv _ _ (hH.mul _ _ ha hb) (mul_assoc n a b _).symm)
    · refine Or.inr (hH.eqv _ _ (hH.mul _ _ ha hb) ?_)
      exact ((mul_assoc n a _ b).trans (mul_congr n _ _ _ _ (EqOn.refl _ _) (mul_comm n _ _ cb))).trans
        (mul_assoc n a b _).symm
    · refine Or.inl (hH.eqv _ _ (hH.mul _ _ ha hb) ?_)
      have e1 : EqOn n (PRow.mul n (Zq q o) (PRow.mul n b (Zq q o))) b :=
        ((mul_assoc n _ b _).symm.trans (mul_congr n _ _ _ _ (mul_comm n _ _ cb) (EqOn.refl _ _))).trans
          (mul_mul_cancel n b _ rfl)
      exact (mul_assoc n a _ _).trans (mul_congr n _ _ _ _ (EqOn.refl _ _) e1)
  · rintro a b ⟨ax, ha⟩ hab
    refine ⟨by rw [← (hab.1 q hq).1]; exact ax, ?_⟩
    rcases ha with ha | ha
    · exact Or.inl (hH.eqv _ _ ha hab)
    · exact Or.inr (hH.eqv _ _ ha (mul_congr n _ _ _ _ hab (EqOn.refl _ _)))
  · rintro a ⟨ax, ha⟩
    rcases ha with ha | ha
    · exact hH.real a ha
    · exact real_of_mul_real n a (Zq q o) (hH.real _ ha) rfl (by rw [spZ, ax])
  · rintro a b ⟨ax, ha⟩ ⟨bx, hb⟩
    rcases ha with ha | ha <;> rcases hb with hb | hb
    · exact hH.comm a b ha hb
    · have := hH.comm _ _ ha hb
      rw [sp_mul_right, spZ, ax] at this
      simpa using this
    · have := hH.comm _ _ ha hb
      rw [sp_mul_left, spZ', bx] at this
      simpa using this
    · have := hH.comm _ _ ha hb
      rw [sp_mul_left, sp_mul_right, sp_mul_right, spZ, ax, spZ', bx, sp_self] at this
      simpa using this
  · rintro ⟨_, h⟩
    rcases h with h | h
    · exact hH.noNeg h
    · obtain ⟨g, hg, gx⟩ := hrand
      have := hH.comm _ _ h hg
      rw [sp_mul_left, spZ', gx] at this
      have e : sp n (negate PRow.one) g = false := STab.sp_one_left n g
      rw [e] at this
      simp at this

/-- **random-outcome measurement, group level**: the new group is `⟨(-1)^o Z_q⟩ · {old elements commuting with Z_q}` -/
theorem measRandom_grp (t : Tab) (q p : Nat) (o : Bool) (hv : t.Valid) (hr : t.StabReal) (hq : q < t.n)
    (hp : t.pivot q = some p) :
    ∀ P, Grp (t.measRandom q p o) P ↔ (P.x q = false ∧ (Grp t P ∨ Grp t (PRow.mul t.n P (Zq q o)))) := by
  obtain ⟨p1, p2, p3⟩ := pivot_spec t q p hp
  have hv' := measRandom_valid t q p o hv hq p1 p2 p3
  have hH := isStabGrp_meas t.n q hq o (Grp t) (grp_isStabGrp t hv hr) ⟨t.row p, grp_row t p p1 p2, p3⟩
  apply grp_unique (t.measRandom q p o) hv' _ hH
  intro i hi
  have hi' : i < t.n := hi
  by_cases hip : i + t.n = p
  · have e : EqOn t.n ((t.measRandom q p o).stab i) (Zq q o) := by
      show EqOn t.n ((t.measRandom q p o).row (i + t.n)) (Zq q o)
      rw [hip]
      refine ⟨mr_row_p t q p o, ?_, ?_⟩
      · simp [measRandom, Zq]
      · simp only [measRandom, Zq, if_true]
        exact hr p p1 p2
    refine ⟨by rw [(e.1 q hq).1]; rfl, Or.inr ?_⟩
    exact InSpan.eqv _ _ InSpan.one
      ((mul_congr t.n _ _ _ _ e (EqOn.refl _ _)).trans (mul_self t.n _ rfl)).symm
  · exact ⟨measRandom_commutes_Zq t q p o hv hq p1 p2 p3 i hi',
      Or.inl (measRandom_stab_inSpan t q p o p1 p2 i hi' hip)⟩

/-- deterministic branch: the scratch row is `±Z_q` (it commutes with a row iff `Z_q` does) -/
theorem measScratch_sameBits (t : Tab) (hv : t.Valid) (q : Nat) (hq : q < t.n)
    (hp : t.pivot q = none) : SameBits t.n (t.measScratch q) (Zq q) := by
  apply sameBits_of_sp t hv
  intro i hi
  rw [sp_comm t.n (Zq q) _, sp_Zq _ _ _ _ hq]
  unfold measScratch
  rw [sp_foldl_stab t hv _
    (fun d hd => ((mem_filterTo _ _ d).mp hd).1)
    (by unfold filterTo; exact List.Nodup.sublist List.filter_sublist List.nodup_range) PRow.one i hi,
    STab.sp_one_left]
  by_cases hin : i < t.n
  · simp [filterTo, hin]
  · rw [findFrom_none _ _ _ hp i (by omega) hi]
    simp [filterTo, hin]

theorem measScratch_eqOn (t : Tab) (hv : t.Valid) (hr : t.StabReal) (q : Nat) (hq : q < t.n)
    (hp : t.pivot q = none) : EqOn t.n (t.measScratch q) (Zq q (t.measScratch q).r) :=
  ⟨measScratch_sameBits t hv q hq hp, rfl, grp_real t hv hr _ (measScratch_inSpan t q)⟩

/-- **deterministic outcome is the right one**: `(-1)^outcome Z_q` is in the stabilizer group -/
theorem measDet_grp_Zq (t : Tab) (hv : t.Valid) (hr : t.StabReal) (q : Nat) (hq : q < t.n)
    (hp : t.pivot q = none) : Grp t (Zq q (t.measScratch q).r) :=
  InSpan.eqv _ _ (measScratch_inSpan t q) (measScratch_eqOn t hv hr q hq hp)

theorem grp_xfree_of_pivot_none (t : Tab) (q : Nat) (hq : q < t.n) (hp : t.pivot q = none) :
    ∀ P, Grp t P → P.x q = false := by
  intro P hP
  unfold Grp at hP
  induction hP with
  | one => rfl
  | gen i hi => exact findFrom_none _ _ _ hp (i + t.n) (by omega) (by omega)
  | mul a b _ _ iha ihb => simp [iha, ihb]
  | eqv a b _ hab iha => rw [← (hab.1 q hq).1]; exact iha

theorem random_iff_pivot (t : Tab) (q : Nat) (hq : q < t.n) : Random (Grp t) q ↔ (t.pivot q).isSome = true := by
  constructor
  · rintro ⟨g, hg, gx⟩
    cases hp : t.pivot q with
    | some p => rfl
    | none => rw [grp_xfree_of_pivot_none t q hq hp g hg] at gx; cases gx
  · intro h
    cases hp : t.pivot q with
    | some p =>
      obtain ⟨p1, p2, p3⟩ := pivot_spec t q p hp
      exact ⟨t.row p, grp_row t p p1 p2, p3⟩
    | none => rw [hp] at h; cases h

theorem pivot_none_of_Zq (t : Tab) (hv : t.Valid) (hr : t.StabReal) (q : Nat) (hq : q < t.n) (s : Bool)
    (hz : Grp t (Zq q s)) : t.pivot q = none := by
  cases hp : t.pivot q with
  | none => rfl
  | some p =>
    obtain ⟨p1, p2, p3⟩ := pivot_spec t q p hp
    have := grp_comm t hv hr _ _ (grp_row t p p1 p2) hz
    rw [sp_Zq _ _ _ _ hq, p3] at this
    cases this

theorem measScratch_r_of_Zq (t : Tab) (hv : t.Valid) (hr : t.StabReal) (q : Nat) (hq : q < t.n) (s : Bool)
    (hz : Grp t (Zq q s)) : (t.measScratch q).r = s := by
  have hp := pivot_none_of_Zq t hv hr q hq s hz
  have h1 := measDet_grp_Zq t hv hr q hq hp
  by_cases e : (t.measScratch q).r = s
  · exact e
  · exfalso
    have : Zq q (t.measScratch q).r = negate (Zq q s) := by
      have : (t.measScratch q).r = !s := by revert e; cases (t.measScratch q).r <;> cases s <;> simp
      rw [this]; rfl
    rw [this] at h1
    exact (grp_isStabGrp t hv hr).not_negate _ hz h1

/-! ### reset -/

theorem xg_eqOn (n q : Nat) (p : PRow) : EqOn n (PRow.xg q p) { p with r := xor p.r (p.z q) } :=
  ⟨fun j _ => ⟨xg_x q p j, xg_z q p j⟩, xg_r q p, rfl⟩

theorem xg_Zq (n q : Nat) (s : Bool) : EqOn n (PRow.xg q (Zq q s)) (Zq q (!s)) := by
  refine (xg_eqOn n q _).trans ⟨fun j _ => ⟨rfl, rfl⟩, ?_, rfl⟩
  simp [Zq]

theorem clearIp_eq (t : Tab) (p : Nat) (h : (t.row p).ip = false) :
    ({ t with row := upd t.row p { (t.row p) with ip := false } } : Tab) = t := by
  obtain ⟨n, row⟩ := t
  simp only at h ⊢
  congr
  funext j
  unfold upd
  by_cases e : j = p
  · subst e
    rw [if_pos rfl]
    generalize row j = r at h
    obtain ⟨x, z, r, ip⟩ := r
    simp only at h
    subst h
    rfl
  · rw [if_neg e]

/-- **`reset_z` is "measure, then flip iff the outcome is not the intended state"**, as tables (the `iphase := 0` of the
    random branch is a no-op on a tableau whose stabilizer rows are real) -/
theorem resetZ_eq (t : Tab) (q : Nat) (i o : Bool) (hr : t.StabReal) :
    t.resetZ q i o = if (t.zMeasure q o).2.1 = i then (t.zMeasure q o).1 else (t.zMeasure q o).1.xGate q := by
  cases hp : t.pivot q with
  | none =>
    unfold resetZ
    rw [zMeasure_det_eq t q o hp]
    simp
  | some p =>
    obtain ⟨p1, p2, _⟩ := pivot_spec t q p hp
    have hpz : p ≠ 0 := by omega
    have hip : ((t.measRandom q p o).row p).ip = false := by
      simp only [measRandom, if_true]
      exact hr p p1 p2
    have hc := clearIp_eq (t.measRandom q p o) p hip
    unfold resetZ
    rw [zMeasure_random_eq t q p o hp]
    simp only [hpz, ne_eq, not_false_eq_true, if_true]
    rw [hc]

theorem resetZ_random_eq (t : Tab) (q p : Nat) (i o : Bool) (hr : t.StabReal) (hp : t.pivot q = some p) :
    t.resetZ q i o = if o = i then t.measRandom q p o else (t.measRandom q p o).xGate q := by
  rw [resetZ_eq t q i o hr, zMeasure_random_eq t q p o hp]

theorem resetZ_det_eq (t : Tab) (q : Nat) (i o : Bool) (hp : t.pivot q = none) :
    t.resetZ q i o = if (t.measScratch q).r = i then t else t.xGate q := by
  unfold resetZ
  rw [zMeasure_det_eq t q o hp]
  simp

/-- two valid tableaux with Hermitian stabilizers on the same qubits have the same stabilizer group as soon as the generators
    of one lie in the group of the other (both groups are maximal) -/
theorem grp_eq_of_gens_in (T U : Tab) (hvT : T.Valid) (hrT : T.StabReal) (hvU : U.Valid) (hrU : U.StabReal)
    (hn : T.n = U.n) (h : ∀ k, k < U.n → Grp T (U.stab k)) : ∀ P, Grp T P ↔ Grp U P := by
  have hUT : ∀ P, Grp U P → Grp T P := grp_mono_gens U T hn.symm h
  have hgT := grp_isStabGrp T hvT hrT
  intro P
  refine ⟨grp_mono_gens T U hn (fun i hi => ?_) P, hUT P⟩
  have hiT : Grp T (T.stab i) := grp_gen T i hi
  have hip : (T.stab i).ip = false := hrT (i + T.n) (by omega) (by omega)
  rcases grp_maximal U hvU hrU (T.stab i) hip (fun k hk => by
    rw [← hn]
    exact hgT.comm _ _ hiT (h k hk)) with h1 | h1
  · exact h1
  · exact absurd (hUT _ h1) (hgT.not_negate _ hiT)

end Graphiq.TabSpec
